import NA.Proofs.C17Sinks
import NA.Proofs.C17Xml
import NA.Proofs.C17Ssh
/-!
# C17 — passwords and API keys never reach logs, history or terminal

Property theorems only.  The main statements are *non-interference* statements: the content of a sink
computed with one secret equals the content computed with any other secret, for every surrounding
text and every behaviour of the device that is not itself a function of the secret.

Secrets and their alphabets
* login password `p` — **any** byte string (it only ever travels through `url.QueryEscape`);
* PAN-OS API key `k` — **any** byte string in the session logs (since fixes ef52363, f6decd3; before, a key
  with `&` or a line break was partly logged: `api_key_amp_counterexample_before_fix`,
  `key_newline_counterexample_before_fix`);
* NSX session token / cookie, SSH password — any byte string.

What is **false** of the unchanged code (finding F-C17): after a successful PAN-OS login a transport
error of `http.Client.Get` is returned unmasked; its text embeds the request URL with `key=<key>` and
ends in the run log (`ERROR>>> …`), from there in the history (`RES:`) and on stdout:
`sinks_independent_counterexample`, `transport_error_reveals_key`.  Everything else is proved:
`sinks_independent_partial` (hypothesis: exactly the complement `leakPath = false`).
-/
namespace NA.C17
open NA.Mask

/-- `.login`, first entry of `getAPIKey`: the logged keygen URL is the same for all passwords. -/
theorem mask_uri_independent (addr user p1 p2 : Str) :
    doLog (maskPass (keygenUri addr user p1)) = doLog (maskPass (keygenUri addr user p2)) := by
  rw [maskPass_keygenUri addr user p1 p2]

/-- The general form: `passRE` hides what stands between `password=` and the next `&`, if there is no line break
in between (`Safe`). -/
theorem mask_pass_independent (pre post : Str) {e1 e2 : Str} (h1 : Safe e1) (h2 : Safe e2) :
    maskPass (pre ++ (litPass ++ (e1 ++ '&' :: post))) = maskPass (pre ++ (litPass ++ (e2 ++ '&' :: post))) :=
  maskLazy_independent litPass true safe_litPass h1 h2 pre post

/-- Every later request URL (`httpPrefixGetLog`): the logged URL is the same for ALL keys (it is built
from the prefix with the key already replaced, fix ef52363). -/
theorem mask_api_uri_independent (addr uri k1 k2 : Str) (r : Reply) :
    (prefixGet (logPrefix addr) (urlPrefix addr k1) uri r).1 = (prefixGet (logPrefix addr) (urlPrefix addr k2) uri r).1 :=
  prefixGet_log addr uri k1 k2 r

/-- `.login`, second entry of `getAPIKey`: the logged keygen response is the same for ALL keys (line breaks
included, fix f6decd3), whatever surrounds the `<key>` element. -/
theorem mask_body_independent (pre post k1 k2 : Str) :
    doLog (maskKey (keyBody pre k1 post)) = doLog (maskKey (keyBody pre k2 post)) := by
  unfold keyBody
  rw [maskKey_independent k1 k2 pre post]

/-- The error `getAPIKey` returns after a transport error (it ends as `WARNING>>> API key Get "…"`)
is the same for all passwords. -/
theorem mask_error_independent (addr user p1 p2 msg : Str) :
    maskPass (urlError sGet (keygenUri addr user p1) msg) = maskPass (urlError sGet (keygenUri addr user p2) msg) :=
  maskPass_urlError sGet addr user p1 p2 msg

/-- `getAPIKey` as a whole: log entries and returned error, for every reply of the device. -/
theorem keygen_independent (addr user p1 p2 : Str) (r : Reply) :
    keygen addr user p1 r = keygen addr user p2 r :=
  keygen_pass_independent addr user p1 p2 r

/-- `getAPIKey` when the keygen request fails AFTER the `<key>` element arrived (connection lost while
the rest of the body is read): log entries and returned error are the same for all keys. -/
theorem keygen_truncated_independent (addr user pass pre post m k1 k2 : Str) :
    keygen addr user pass (.trunc (keyBody pre k1 post) m) = keygen addr user pass (.trunc (keyBody pre k2 post) m) := by
  unfold keygen keyBody
  simp only [Reply.body, maskKey_independent k1 k2 pre post]

/-- … and for a status other than 200 whose body holds a `<key>` element the `.login` entries are the
same (the returned error quotes the rejected body; no key was obtained in that case). -/
theorem keygen_status_log_independent (addr user pass pre post : Str) (c : Nat) (k1 k2 : Str) :
    (keygen addr user pass (.status c (keyBody pre k1 post))).1 =
      (keygen addr user pass (.status c (keyBody pre k2 post))).1 := by
  unfold keygen keyBody
  simp only [Reply.body, maskKey_independent k1 k2 pre post]

/-- `httpPrefixGetLog`: the returned error, unless the reply is a transport error. -/
theorem prefix_get_error_independent_partial (addr uri k1 k2 : Str) (r : Reply) (hr : r.isTerr = false) :
    (prefixGet (logPrefix addr) (urlPrefix addr k1) uri r).2 = (prefixGet (logPrefix addr) (urlPrefix addr k2) uri r).2 :=
  prefixGet_err addr uri k1 k2 r hr

/-- F-C17 at the level of the function: the error returned for a transport error contains the key. -/
theorem transport_error_reveals_key (addr uri k msg : Str) (hk : ∀ c ∈ k, c ≠ '"' ∧ c ≠ '\\') :
    ∃ a b, (prefixGet (logPrefix addr) (urlPrefix addr k) uri (.terr msg)).2 = some (a ++ k ++ b) := by
  refine ⟨sGet ++ ' ' :: '"' :: goQuote (addr ++ "/api/?key=".toList), '&' :: goQuote uri ++ '"' :: ':' :: ' ' :: msg, ?_⟩
  simp only [prefixGet, urlError, urlPrefix, goQuote_append, goQuote_id hk, goQuote_cons_amp, List.append_assoc,
    List.cons_append, List.nil_append]

/-- **A device that quotes the request in its answer** (an error text echoing the URL with `password=` /
`key=`, the form body, the cookie) reveals the secret itself: the replies of all theorems above are the
same in both runs, i.e. they do not depend on the secret — and that is necessary.  Here the keygen
answer quotes the request URL; the `.login` entries differ.  (Observed on the real code with such a
simulated device, faults `quote:url:*`: the secret stands in the sinks exactly inside the quotation, where
the model run on the same replies puts it; a quotation without credentials, `quote:cmd:*`, stays clean.) -/
theorem reply_quoting_request_counterexample :
    let body (p : Str) : Str :=
      "<response status='error'><msg>Invalid request QUOTED[/api?password=".toList ++ p ++ "&type=keygen]QUOTED</msg></response>".toList
    keygen "https://h".toList "admin".toList "pw1".toList (.fail (body "pw1".toList) "No success".toList) ≠
      keygen "https://h".toList "admin".toList "pw2".toList (.fail (body "pw2".toList) "No success".toList) := by decide_lit

/-- **F-C17c (fixed, ef52363)**: with the regexp `[?]key=.*?&` the logged request URL showed what stands
behind an `&` of the key. -/
theorem api_key_amp_counterexample_before_fix :
    maskApiOld (urlPrefix "https://h".toList "A&Secret1".toList ++ "type=op".toList) ≠
      maskApiOld (urlPrefix "https://h".toList "A&Secret2".toList ++ "type=op".toList) := by decide_lit

/-- **F-C17d (fixed, f6decd3)**: without flag `s` the regexp `<key>.*</key>` left a key with a line break
unmasked in `.login`. -/
theorem key_newline_counterexample_before_fix :
    maskKeyOld (keyBody [] "A\nSecret1".toList []) ≠ maskKeyOld (keyBody [] "A\nSecret2".toList []) := by decide_lit

/-- The `.login` entries of an NSX login do not depend on the password. -/
theorem nsx_login_log_independent (pre user p1 p2 st : Str) :
    nsxLoginLog pre user p1 st = nsxLoginLog pre user p2 st := rfl

/-- A whole NSX run: password, session token and cookie reach no sink, for every device behaviour
(transport errors included: their text embeds the URL, which carries no secret). -/
theorem nsx_sinks_independent (pre user name p1 p2 t1 t2 c1 c2 : Str) (lg : NsxLogin)
    (reqs : List NsxReq) (reps : List Reply) :
    allSinks (nsxRun pre user p1 t1 c1 name lg reqs reps) = allSinks (nsxRun pre user p2 t2 c2 name lg reqs reps) := by
  cases lg <;> rfl

/-- What a `console.Conn` writes to any sink is a function of the device output (and of the abort
texts) alone: erasing everything that was sent changes nothing. -/
theorem ssh_log_is_device_output_only (ops : List Op) :
    sshRun (ops.map Op.erase) = sshRun ops :=
  sshRun_erase ops

/-- Two sessions that differ only in what was sent (login password, enable password) leave the
same sinks. -/
theorem ssh_sinks_independent (ops1 ops2 : List Op) (h : ops1.map Op.erase = ops2.map Op.erase) :
    allSinks (sshRun ops1) = allSinks (sshRun ops2) := by
  rw [← sshRun_erase ops1, ← sshRun_erase ops2, h]

/-- While logging goes to `.login` the file is the concatenation of the expected chunks
(`\r\n` → `\n`), nothing else. -/
theorem ssh_login_log_is_expected_output (ops : List Op) (h : noSetLog ops = true) :
    (sshRun ops).login = (expects ops).map crlf2lf ∧ (sshRun ops).config = [] ∧ (sshRun ops).change = [] := by
  simpa [sshRun] using sshRun_login_aux ops h {} rfl

/-- **Step model of the SSH sessions.**  For every dialogue program of the step language (the
password is a symbolic command), every device behaviour (sequence of complete or cut-off segments),
every tail: two sessions with different passwords leave the same sinks — session logs per file, run
log with the abort text of the step that failed, history, stdout. -/
theorem ssh_program_independent (prog : Prog) (p1 p2 errText : Str) (segs : List Seg) (applies : Bool)
    (tl : List (Str × Option Str)) (tailAbort : Str) :
    allSinks (sshRun (sessionOps prog p1 errText segs applies tl tailAbort)) =
      allSinks (sshRun (sessionOps prog p2 errText segs applies tl tailAbort)) :=
  ssh_sinks_independent _ _ (sessionOps_erase prog p1 p2 errText segs applies tl tailAbort)

/-- … in particular for the three modelled back ends: `cisco.LoginEnable` + `asa/ios.LoadDevice`,
`linux.loginEnable` + `linux.LoadDevice`, step by step as in the code. -/
theorem ssh_session_independent (dt : DevType) (host banner p1 p2 errText : Str) (segs : List Seg)
    (applies : Bool) (tl : List (Str × Option Str)) (tailAbort : Str) :
    allSinks (sshRun (sessionOps (loadProg dt host banner) p1 errText segs applies tl tailAbort)) =
      allSinks (sshRun (sessionOps (loadProg dt host banner) p2 errText segs applies tl tailAbort)) :=
  ssh_program_independent _ p1 p2 errText segs applies tl tailAbort

/-- **State machine of the login dialogue** (`cisco.LoginEnable` after fix d8ddbd1, `linux.loginEnable`,
and everything behind them up to the end of `LoadDevice`): for every device the password is only ever
sent immediately after an expect whose chunk ends in `password:`. -/
theorem password_sent_only_at_password_prompt (dt : DevType) (host banner : Str) :
    Guarded false (loadProg dt host banner) := by
  cases dt
  · exact guarded_asaLoad host
  · exact guarded_iosLoad host
  · exact guarded_linuxLoad host banner

/-- **Echoing devices.**  The device may echo any line it receives (as real devices do with commands).
For every program that sends the password only at password prompts and every device that does not
echo what it receives right after a password prompt (`noEchoAtPasswordPrompt`), the sinks are the
same for any two passwords. -/
theorem ssh_echo_device_independent (prog : Prog) (hg : Guarded false prog) (p1 p2 : Str) (dev : EDev)
    (hdev : noEchoAtPasswordPrompt dev = true) :
    allSinks (sshRun (runE p1 prog [] dev)) = allSinks (sshRun (runE p2 prog [] dev)) :=
  ssh_sinks_independent _ _ (runE_erase p1 p2 hg [] [] dev (Or.inl rfl) (fun h => by cases h) hdev)

/-- … in particular for the three back ends. -/
theorem ssh_echo_session_independent (dt : DevType) (host banner p1 p2 : Str) (dev : EDev)
    (hdev : noEchoAtPasswordPrompt dev = true) :
    allSinks (sshRun (runE p1 (loadProg dt host banner) [] dev)) =
      allSinks (sshRun (runE p2 (loadProg dt host banner) [] dev)) :=
  ssh_echo_device_independent _ (password_sent_only_at_password_prompt dt host banner) p1 p2 dev hdev

/-! ## the change phase of an SSH session

After login and reading the configuration the back end sends the commands of the change script
(computed from the device configuration and the Netspoc code) with `console.Conn.Send`; the device's
echo and answers go to `.change`.  `sessionProg` is the login program followed by these steps. -/

/-- **Change phase**: its steps — hence everything it writes to `.change`, to the run log, to history
and stdout — are a function of the script, of what the device writes (`dev`: per step the text, whether
it echoes the line received, leftover blanks) and of nothing else: the password is not an argument, for
any device, echoing or not.  So the password can stand in `.change` only if the script or the device
output contains it — which the harness checks per run. -/
theorem ssh_change_phase_password_free (p1 p2 : Str) (applies : Bool) (script : List Str) (last1 last2 : Str)
    (dev : EDev) :
    runE p1 (changeProg applies script) last1 dev = runE p2 (changeProg applies script) last2 dev := by
  unfold changeProg
  cases applies
  · exact runE_scriptProg p1 p2 script last1 last2 dev
  · simp only [if_true, runE]
    rw [runE_scriptProg p1 p2 script last1 last2 dev]

/-- The state-machine property (password only right after a password prompt) of the whole session, change
phase included. -/
theorem ssh_session_with_changes_guarded (dt : DevType) (host banner : Str) (applies : Bool) (script : List Str) :
    Guarded false (sessionProg dt host banner applies script) :=
  (password_sent_only_at_password_prompt dt host banner).andThen (guarded_changeProg applies script)

/-- **Whole session with changes on an echoing device** (`noEchoAtPasswordPrompt`): login, configuration and change script; for
the same script and the same device behaviour (neither depends on the password: hypothesis of the
run, checked by the harness) all sinks are the same for any two passwords. -/
theorem ssh_session_with_changes_independent (dt : DevType) (host banner p1 p2 : Str) (applies : Bool)
    (script : List Str) (dev : EDev) (hdev : noEchoAtPasswordPrompt dev = true) :
    allSinks (sshRun (runE p1 (sessionProg dt host banner applies script) [] dev)) =
      allSinks (sshRun (runE p2 (sessionProg dt host banner applies script) [] dev)) :=
  ssh_echo_device_independent _ (ssh_session_with_changes_guarded dt host banner applies script) p1 p2 dev hdev

/-- The hypothesis "the script does not contain the secret" is necessary: a script that holds the
password (because the Netspoc code or the device configuration holds it) is echoed into `.change`. -/
theorem change_script_with_secret_counterexample :
    ∃ dev : EDev, noEchoAtPasswordPrompt dev = true ∧
      (sshRun (runE [] (changeProg true ["username x password pw1".toList]) [] dev)).change ≠
        (sshRun (runE [] (changeProg true ["username x password pw2".toList]) [] dev)).change :=
  ⟨[([], "\nrouter#".toList, true)], by decide_lit, by decide_lit⟩

/-- Not vacuous: two commands on an echoing device — `.change` holds echo and prompt of each, both
commands are sent, nothing goes to `.login`. -/
example :
    let ops := runE "pw".toList (changeProg true ["no access-list 1".toList, "end".toList]) []
      [([], "\nrouter(config)#".toList, true), ([' '], "\nrouter#".toList, true)]
    (sshRun ops).change = ["no access-list 1\n\nrouter(config)#".toList, " end\n\nrouter#".toList] ∧
      sendsOf ops = ["no access-list 1".toList, "end".toList] ∧ (sshRun ops).login = [] := by decide_lit

/-- The hypothesis `noEchoAtPasswordPrompt` is necessary: a device that echoes what is typed at its password prompt puts the
password into `.login` (outside the guarantee; observed on the real code with such a simulated device). -/
theorem ssh_echo_at_password_prompt_counterexample :
    ∃ dev : EDev, noEchoAtPasswordPrompt dev = false ∧
      (sshRun (runE "pw1".toList (iosLoad "router".toList) [] dev)).login ≠
        (sshRun (runE "pw2".toList (iosLoad "router".toList) [] dev)).login :=
  ⟨[([], "Enter Password:".toList, false), ([], "\nbanner motd\nrouter>".toList, true)], by decide_lit, by decide_lit⟩

/-- **Finding F-C17b (fixed, d8ddbd1)**: with the login code as it was, a device that refuses `enable`
without asking for a password (IOS `% No password set`, prompt stays `>`) and echoes commands — but
never anything typed at a password prompt — gets the login password as a command and echoes it into
`.login`. -/
theorem enable_without_prompt_counterexample :
    ∃ dev : EDev, noEchoAtPasswordPrompt dev = true ∧
      (sshRun (runE "pw1".toList iosLoadOld [] dev)).login ≠ (sshRun (runE "pw2".toList iosLoadOld [] dev)).login ∧
      (sshRun (runE "pw1".toList (iosLoad "router".toList) [] dev)).login =
        (sshRun (runE "pw2".toList (iosLoad "router".toList) [] dev)).login :=
  ⟨[([], "Enter Password:".toList, false), ([], "\nbanner motd\nrouter>".toList, false),
     ([], "% No password set\nrouter>".toList, true), ([], "% Unknown command\nrouter>".toList, true)],
    by decide_lit, by decide_lit, by decide_lit⟩

/-- … so that code did not have the state-machine property. -/
theorem old_login_not_guarded : ¬ Guarded false iosLoadOld := by
  intro hg
  obtain ⟨dev, hdev, hne, _⟩ := enable_without_prompt_counterexample
  exact hne (congrArg (fun a => a.sessions.login)
    (ssh_echo_device_independent iosLoadOld hg "pw1".toList "pw2".toList dev hdev))

example : noEchoAtPasswordPrompt [([], "Password:".toList, false), ([' '], "\nType help\nrouter>".toList, false),
    ([], "Password:".toList, true), ([], "\nrouter#".toList, false)] = true := by decide_lit

/-- The step model is not vacuous: an IOS login with enable password sends the password twice and
logs the three prompts and the cut-off segment to `.login`, nothing else. -/
example :
    let ops := sessionOps (iosLoad "router".toList) "pw".toList [] [.full "Password:".toList, .full "\nrouter>".toList,
      .full "enable\nPassword:".toList, .part "x".toList] false [] []
    sendsOf ops = ["pw".toList, "enable".toList, "pw".toList] ∧
    (sshRun ops).login = ["Password:".toList, "\nrouter>".toList, "enable\nPassword:".toList, "x".toList] := by
  decide_lit

/-- The statement for whole PAN-OS runs is **false** (F-C17): same password, same device behaviour,
two keys — login and HA check succeed, the config request ends with a dropped connection. -/
theorem sinks_independent_counterexample :
    ∃ (addr user pass name ip k1 k2 : Str) (reqs : List Req) (reps : List Reply),
      allSinks (panosRun addr user pass name ip (.ok (keyBody [] k1 [])) k1 reqs reps) ≠
        allSinks (panosRun addr user pass name ip (.ok (keyBody [] k2 [])) k2 reqs reps) :=
  ⟨"https://h".toList, "admin".toList, "pw".toList, "fw".toList, "10.1.1.1".toList, "KEY1".toList, "KEY2".toList,
    [{ log := .config, uri := "type=config".toList, wrap := [] }], [.ok [], .terr "EOF".toList],
    -- the run logs differ already
    fun h => absurd (congrArg (fun a => a.sessions.runlog) h) (by decide_lit)⟩

/-- … and the run log line has exactly the shape `ERROR>>> Get "…/api/?key=<key>&…": EOF` that the
repository's own test data hold (F-C17). -/
theorem sinks_counterexample_line :
    (panosRun "https://h".toList "admin".toList "pw".toList "fw".toList "10.1.1.1".toList
        (.ok (keyBody [] "KEY1".toList [])) "KEY1".toList
        [{ log := .config, uri := "type=config".toList, wrap := [] }] [.ok [], .terr "EOF".toList]).runlog =
      ["ERROR>>> Get \"https://h/api/?key=KEY1&type=config\": EOF".toList] := by decide_lit

/-- **Whole PAN-OS runs, everything except the F-C17 path**: for all passwords, ALL keys (any bytes),
every keygen response around `<key>K</key>`, every request list and every sequence of
replies that does not run into a transport error after login and HA check — all sinks (session logs,
run log, history `RES:` lines, stdout) are equal. -/
theorem sinks_independent_partial (addr user p1 p2 name ip pre post k1 k2 : Str)
    (reqs : List Req) (reps : List Reply)
    (hpath : leakPath (.ok (keyBody pre k1 post)) reqs reps = false) :
    allSinks (panosRun addr user p1 name ip (.ok (keyBody pre k1 post)) k1 reqs reps) =
      allSinks (panosRun addr user p2 name ip (.ok (keyBody pre k2 post)) k2 reqs reps) := by
  refine congrArg allSinks ?_
  unfold panosRun
  rw [keygen_pass_independent addr user p1 p2, keygen_key_independent addr user p2 pre post k1 k2]
  cases hkg : keygen addr user p2 (.ok (keyBody pre k2 post)) with
  | mk lg e =>
    cases e with
    | some m => rfl
    | none =>
      cases reps with
      | nil => rfl
      | cons ha rest =>
        simp only [prefixGet_log addr sHaUri k1 k2 ha]
        cases ha with
        | ok b =>
          exact panosReqs_independent addr k1 k2 reqs rest _ (by simpa [leakPath] using hpath)
        | _ => rfl

/-- A transport error of the HA status request (the request right after a successful keygen) reveals
nothing: `checkHA` drops the error. -/
theorem ha_check_transport_error_independent (addr user p1 p2 name ip pre post m k1 k2 : Str)
    (reqs : List Req) (rest : List Reply) :
    allSinks (panosRun addr user p1 name ip (.ok (keyBody pre k1 post)) k1 reqs (.terr m :: rest)) =
      allSinks (panosRun addr user p2 name ip (.ok (keyBody pre k2 post)) k2 reqs (.terr m :: rest)) :=
  sinks_independent_partial addr user p1 p2 name ip pre post k1 k2 reqs (.terr m :: rest) rfl

/-! ## the key is what the (modelled) parser extracts — no assumption `parseAPIKey body = K` -/

/-- The modelled `parseAPIKey` (lexer, element stack, last-child-wins field assignment of
`encoding/xml`) returns exactly `k` for every PAN-OS keygen answer
`<response status = 'success'> <result> <key>k</key> </result> </response>`: any white space at the
eight places `w0`…`w7`, either quote, any key of plain bytes, anything behind the root element. -/
theorem parse_api_key_returns_key {w0 w1 w2 w3 w4 w5 w6 w7 : Str} (q : Char) {k : Str} (tail : Str)
    (h0 : PWs w0) (h1 : PWs w1) (h2 : PWs w2) (h3 : PWs w3) (h4 : PWs w4) (h5 : PWs w5) (h6 : PWs w6) (h7 : PWs w7)
    (hq : q = '"' ∨ q = '\'') (hk : Plain k) :
    parseAPIKeyM (stdKeygen w0 w1 w2 q w3 w4 w5 k w6 w7 tail) = .ok k :=
  parseAPIKeyM_stdKeygen q tail h0 h1 h2 h3 h4 h5 h6 h7 hq hk

/-- `.login`, keygen response: for every spelling of the tags that the matcher takes for an opening tag of
`key` (`OpenForm`: e.g. `<key>`, `<key ATTRIBUTES>`, `<x:key>`) and a closing tag (`CloseForm`: `</key>`,
`</key >`, `</x:key>`), whatever surrounds the element, the logged response is the same for all keys. -/
theorem mask_body_spellings_independent {o cl : Str} (ho : OpenForm o) (hc : CloseForm cl) (pre post k1 k2 : Str) :
    doLog (maskKey (pre ++ (o ++ (k1 ++ (cl ++ post))))) = doLog (maskKey (pre ++ (o ++ (k2 ++ (cl ++ post))))) := by
  rw [maskKey_forms_independent ho hc k1 k2 pre post]

/-- … in particular with any attributes (no `>` in them) and a blank in the closing tag, or a namespace
prefix (not vacuous: the forms exist). -/
theorem mask_body_attributes_independent (a : Str) (ha : '>' ∉ a) (pre post k1 k2 : Str) :
    doLog (maskKey (pre ++ ('<' :: 'k' :: 'e' :: 'y' :: ' ' :: (a ++ ['>']) ++ (k1 ++ ("</key >".toList ++ post))))) =
      doLog (maskKey (pre ++ ('<' :: 'k' :: 'e' :: 'y' :: ' ' :: (a ++ ['>']) ++ (k2 ++ ("</key >".toList ++ post))))) :=
  mask_body_spellings_independent (openForm_attrs a ha) closeForm_blank pre post k1 k2

example (pre post k1 k2 : Str) :
    doLog (maskKey (pre ++ ("<x:key>".toList ++ (k1 ++ ("</x:key>".toList ++ post))))) =
      doLog (maskKey (pre ++ ("<x:key>".toList ++ (k2 ++ ("</x:key>".toList ++ post))))) :=
  mask_body_spellings_independent openForm_ns closeForm_ns pre post k1 k2

/-- **Truncated keygen answer** (connection lost inside the key element): everything behind `<key>` is
masked, so the logged text is the same for all keys and whatever part of the answer arrived — as long as
that part holds no closing tag of `key` (decidable; plain keys never do). -/
theorem mask_body_truncated_independent_partial (pre k1 k2 : Str) (h1 : lastClose k1 = none) (h2 : lastClose k2 = none) :
    doLog (maskKey (pre ++ (litOpen ++ k1))) = doLog (maskKey (pre ++ (litOpen ++ k2))) := by
  rw [maskKey_truncated_independent k1 k2 pre h1 h2]

example : lastClose "LUFRPT1Secret12==".toList = none ∧ lastClose "LUFRPT1Sec".toList = none := by decide_lit

/-- **F-C17e (fixed, 2766620)**: with the regexp `(?s)<key>.*</key>` a keygen answer that spells the element
with an attribute was accepted by the parser — key `Secret12` — and logged to `.login` as it came; the
regexp of the fix masks it. -/
theorem key_element_spelling_counterexample_before_fix :
    let body := "<response status='success'><result><key a='1'>Secret12</key></result></response>".toList
    parseAPIKeyM body = .ok "Secret12".toList ∧ maskKeyLit body = body ∧
      maskKey body = "<response status='success'><result><key>xxx</key></result></response>".toList := by decide_lit

/-- … and a truncated answer (connection lost inside the key element: no closing tag) was logged
unmasked; the regexp of the fix masks everything behind the opening tag. -/
theorem truncated_key_counterexample_before_fix :
    maskKeyLit "<result><key>Secret12Secret".toList = "<result><key>Secret12Secret".toList ∧
      maskKey "<result><key>Secret12Secret".toList = "<result><key>xxx</key>".toList := by decide_lit

/-- Whole PAN-OS runs in which the key used for the later requests is the one the modelled parser
extracts from a keygen answer of the shape `stdKeygen` (plain keys): all sinks equal, outside the F-C17 path. -/
theorem sinks_independent_parsed_partial (addr user p1 p2 name ip : Str)
    {w0 w1 w2 w3 w4 w5 w6 w7 : Str} (q : Char) {k1 k2 : Str} (tail : Str)
    (h0 : PWs w0) (h1 : PWs w1) (h2 : PWs w2) (h3 : PWs w3) (h4 : PWs w4) (h5 : PWs w5) (h6 : PWs w6) (h7 : PWs w7)
    (hq : q = '"' ∨ q = '\'') (hk1 : Plain k1) (hk2 : Plain k2)
    (reqs : List Req) (reps : List Reply)
    (hpath : leakPath (.ok []) reqs reps = false) :
    allSinks (panosRunParsed addr user p1 name ip (stdKeygen w0 w1 w2 q w3 w4 w5 k1 w6 w7 tail) reqs reps) =
      allSinks (panosRunParsed addr user p2 name ip (stdKeygen w0 w1 w2 q w3 w4 w5 k2 w6 w7 tail) reqs reps) := by
  unfold panosRunParsed
  rw [parseAPIKeyM_stdKeygen q tail h0 h1 h2 h3 h4 h5 h6 h7 hq hk1,
    parseAPIKeyM_stdKeygen q tail h0 h1 h2 h3 h4 h5 h6 h7 hq hk2]
  obtain ⟨pre, post, hb⟩ := stdKeygen_keyBody w0 w1 w2 q w3 w4 w5 w6 w7 tail
  simp only [hb k1, hb k2]
  have hl : leakPath (.ok (keyBody pre k1 post)) reqs reps = leakPath (.ok []) reqs reps := by
    cases reps with
    | nil => rfl
    | cons r rs => cases r <;> rfl
  exact sinks_independent_partial addr user p1 p2 name ip pre post k1 k2 reqs reps (hl.trans hpath)

example : PWs [' ', '\n', '\t'] := by unfold PWs; decide
example : Plain "LUFRPT14MW5xOEo1R09KVlBZ+/=".toList := by unfold Plain; decide_lit
example : parseAPIKeyM "<response status = 'success'>\n <result><key>LUFRPT=</key></result>\n</response>\n".toList =
    .ok "LUFRPT=".toList := by decide_lit

/-- A run whose login fails (any reply that is not a parsed key): no hypothesis on the path is needed,
and the key argument is irrelevant. -/
theorem sinks_independent_login_failure (addr user p1 p2 name ip k1 k2 : Str) (kg : Reply)
    (hkg : ∀ b, kg ≠ .ok b) (reqs : List Req) (reps : List Reply) :
    allSinks (panosRun addr user p1 name ip kg k1 reqs reps) =
      allSinks (panosRun addr user p2 name ip kg k2 reqs reps) := by
  refine congrArg allSinks ?_
  unfold panosRun
  rw [keygen_pass_independent addr user p1 p2]
  cases kg with
  | ok b => exact absurd rfl (hkg b)
  | _ => rfl

/-- All sinks of all five device types: PAN-OS outside the
F-C17 path, NSX unconditionally, the SSH devices for traces that differ only in what was sent. -/
theorem sinks_independent :
    (∀ (addr user p1 p2 name ip pre post k1 k2 : Str) (reqs : List Req) (reps : List Reply),
      leakPath (.ok (keyBody pre k1 post)) reqs reps = false →
      allSinks (panosRun addr user p1 name ip (.ok (keyBody pre k1 post)) k1 reqs reps) =
        allSinks (panosRun addr user p2 name ip (.ok (keyBody pre k2 post)) k2 reqs reps)) ∧
    (∀ (pre user name p1 p2 t1 t2 c1 c2 : Str) (lg : NsxLogin) (reqs : List NsxReq) (reps : List Reply),
      allSinks (nsxRun pre user p1 t1 c1 name lg reqs reps) = allSinks (nsxRun pre user p2 t2 c2 name lg reqs reps)) ∧
    (∀ ops1 ops2 : List Op, ops1.map Op.erase = ops2.map Op.erase → allSinks (sshRun ops1) = allSinks (sshRun ops2)) :=
  ⟨sinks_independent_partial, nsx_sinks_independent, ssh_sinks_independent⟩

/-! ## the hypotheses are satisfiable -/

example : Safe "LUFRPT14MW5xOEo1R09KVlBZNnpnemh0VHRBOWl6TGM9bXcwM3JHUGVhRlNiY0dCR0srNERUQT09".toList := by
  unfold Safe; decide_lit
example : NoNl "LUFRPT=".toList := by unfold NoNl; decide_lit
example : leakPath (.ok []) [{ log := .config, uri := [], wrap := [] }] [.ok [], .status 500 []] = false := by decide
example : leakPath (.ok []) [{ log := .config, uri := [], wrap := [] }] [.ok [], .terr []] = true := by decide
example : (Reply.status 500 []).isTerr = false := rfl
example : [Op.send "pw1".toList, .expect "x".toList].map Op.erase = [Op.send "pw2".toList, .expect "x".toList].map Op.erase := by
  decide_lit
example : noSetLog [.send [], .expect [], .abort []] = true := rfl
example : ∀ b, Reply.terr "EOF".toList ≠ .ok b := by intro b h; cases h
example : ∀ c ∈ "LUFRPT=".toList, c ≠ '"' ∧ c ≠ '\\' := by decide_lit

def obligations : List Lean.Name := [
  ``mask_uri_independent, ``mask_pass_independent, ``mask_api_uri_independent, ``mask_body_independent,
  ``mask_error_independent, ``keygen_independent, ``keygen_truncated_independent,
  ``keygen_status_log_independent, ``ha_check_transport_error_independent,   ``prefix_get_error_independent_partial, ``transport_error_reveals_key,
  ``reply_quoting_request_counterexample, ``api_key_amp_counterexample_before_fix, ``key_newline_counterexample_before_fix,
  ``mask_body_spellings_independent, ``mask_body_attributes_independent, ``key_element_spelling_counterexample_before_fix,
  ``truncated_key_counterexample_before_fix, ``mask_body_truncated_independent_partial,
  ``nsx_login_log_independent, ``nsx_sinks_independent,
  ``ssh_log_is_device_output_only, ``ssh_sinks_independent, ``ssh_login_log_is_expected_output,
  ``ssh_program_independent, ``ssh_session_independent, ``password_sent_only_at_password_prompt,
  ``ssh_echo_device_independent, ``ssh_echo_session_independent, ``ssh_echo_at_password_prompt_counterexample,
  ``ssh_change_phase_password_free, ``ssh_session_with_changes_guarded, ``ssh_session_with_changes_independent,
  ``change_script_with_secret_counterexample,
  ``enable_without_prompt_counterexample, ``old_login_not_guarded,
  ``sinks_independent_counterexample, ``sinks_counterexample_line, ``sinks_independent_partial,
  ``sinks_independent_login_failure, ``sinks_independent,
  ``parse_api_key_returns_key, ``sinks_independent_parsed_partial]

end NA.C17
