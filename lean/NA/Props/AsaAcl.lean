import NA.Proofs.AsaPlan
import NA.Proofs.CellsSound
/-!
# ASA ACL planner (`diffASAACLs`): convergence and `line N` refinement, unbounded

For EVERY merged list `M` of an edit script (any length), with pairwise different `mkey`s in
the device's list `olds M` and in the target list `news M`:

* `asa_plan_converges`: the strict device (`NA.Spec.AclDev`: `line N` must be inside the
  list, no duplicate entry, a deleted line must be the very line at that number) accepts every
  command of `planASA M` and ends with exactly `news M`.
* `asa_pos_refines`: every emitted position is `cnt μ idx`, the index of the touched cell in the
  then-current list `masked M μ` (`MaskRun`, NA/Proofs/AsaMaskRun.lean); i.e. the Go map `pos`
  refines the presence-mask semantics.
* `asa_prefix_states_masked` / `asa_trace_states_masked`: every intermediate device state is
  `masked M μ` for a mask `μ ≤ old ∨ new`.
* `asa_resume_converges`: planning again from any intermediate state converges.  (The `Nodup`
  hypothesis on the intermediate state is not needed: the device guarantees it,
  `asaExec_nodup`.)

* `cellsOf_sound` (NA/Proofs/CellsSound.lean) / `asa_plan_converges_script`: the same for the
  merged list of any edit script (ranges) that `cellsOf` accepts for device list `a` and target `b`.

Nothing is assumed about the Myers script (`M` is arbitrary; `normalised` is not needed).
Object-groups are outside this model (see NA/Model/AclPlan.lean).
-/
namespace NA.Acl

/-- `ν` is a presence mask over `M` that marks only cells of the old or of the new list. -/
def OldOrNew (M : List Cell) (ν : List Bool) : Prop :=
  ν.length = M.length ∧
    ∀ x, x < M.length → ν.getD x false = true →
      (M.getD x default).old = true ∨ (M.getD x default).new = true

theorem CInv.oldOrNew {M : List Cell} {μ : List Bool} {needed js : List Nat}
    (h : CInv M μ needed js) : OldOrNew M μ := by
  refine ⟨h.lμ, fun x hx hμ => ?_⟩
  rw [h.mask x hx, expect] at hμ
  cases hn : (M.getD x default).new with
  | true => exact Or.inr rfl
  | false => rw [hn] at hμ; exact Or.inl (Bool.and_eq_true _ _ ▸ hμ).1

/-- The plan is a mask-level run from the old mask to the new mask: at every step the
position used by the emitted command is `cnt μ idx` for the current mask `μ` (constructors of
`MaskRun`), the added line is absent and clashes with no present line, the deleted line is
present. -/
theorem asa_pos_refines (M : List Cell) (hold : ((olds M).map (·.mkey)).Nodup)
    (hnew : ((news M).map (·.mkey)).Nodup) :
    MaskRun M (oldMask M) (planASA M) (newMask M) :=
  planASA_maskRun M (newInj_of_nodup M hnew) (oldInj_of_nodup M hold)

theorem asa_plan_converges (M : List Cell) (hold : ((olds M).map (·.mkey)).Nodup)
    (hnew : ((news M).map (·.mkey)).Nodup) :
    asaExec (olds M) (planASA M) = some (news M) := by
  have := (planASA_srun M (newInj_of_nodup M hnew) (oldInj_of_nodup M hold)).exec
  rwa [masked_old, masked_new] at this

/-- Trace form: the device accepts the whole plan and every state after a command is a masked
form of `M`. -/
theorem asa_trace_states_masked (M : List Cell) (hold : ((olds M).map (·.mkey)).Nodup)
    (hnew : ((news M).map (·.mkey)).Nodup) :
    ∃ tr, asaTrace (olds M) (planASA M) = some tr ∧
      ∀ s, s ∈ tr → ∃ μ, OldOrNew M μ ∧ s = masked M μ := by
  have := (planASA_srunP M (newInj_of_nodup M hnew) (oldInj_of_nodup M hold)
    (fun _ _ _ h _ => h.oldOrNew) (fun _ _ h _ => h.oldOrNew)).trace
  rwa [masked_old] at this

/-- Prefix form: after any number `k` of commands (an interrupted approve) the device list is
`masked M μ` for a mask `μ ≤ old ∨ new`. -/
theorem asa_prefix_states_masked (M : List Cell) (hold : ((olds M).map (·.mkey)).Nodup)
    (hnew : ((news M).map (·.mkey)).Nodup) (k : Nat) :
    ∃ μ, OldOrNew M μ ∧ asaExec (olds M) ((planASA M).take k) = some (masked M μ) := by
  cases k with
  | zero =>
    exact ⟨oldMask M, (CInv.init M).oldOrNew, by simp [asaExec, masked_old]⟩
  | succ k =>
    obtain ⟨tr, htr, hall⟩ := asa_trace_states_masked M hold hnew
    by_cases hk : k < tr.length
    · have hget : tr[k]? = some tr[k] := by simp [hk]
      obtain ⟨μ, hμ, e⟩ := hall tr[k] (List.getElem_mem hk)
      exact ⟨μ, hμ, e ▸ asaTrace_take _ _ tr htr k tr[k] hget⟩
    · have hl := asaTrace_length _ _ tr htr
      refine ⟨newMask M, ⟨by simp [newMask], fun x hx hν => ?_⟩, ?_⟩
      · rw [newMask_getD M x hx] at hν; exact Or.inr hν
      · rw [List.take_of_length_le (by omega), masked_new]
        exact asa_plan_converges M hold hnew

/-- The strict device keeps `mkey`s pairwise different over any command list. -/
theorem asaExec_nodup (s s' : List Line) (ops : List Op) (h : (s.map (·.mkey)).Nodup)
    (he : asaExec s ops = some s') : (s'.map (·.mkey)).Nodup := by
  induction ops generalizing s with
  | nil => exact Option.some.inj he ▸ h
  | cons op ops ih =>
    cases h1 : asaExec1 s op with
    | none => rw [asaExec, List.foldlM_cons, h1] at he; cases he
    | some s1 => exact ih s1 (asaExec1_nodup s s1 op h h1) (asaExec_cons ops h1 ▸ he)

theorem asa_plan_converges_of_eq (M : List Cell) {a b : List Line} (ho : olds M = a) (hn : news M = b)
    (hold : (a.map (·.mkey)).Nodup) (hnew : (b.map (·.mkey)).Nodup) : asaExec a (planASA M) = some b := by
  subst ho hn
  exact asa_plan_converges M hold hnew

/-- From the state `s` reached after any `k` commands of the plan, the plan of ANY script `M'`
from `s` to the same target converges.  -/
theorem asa_resume_converges (M : List Cell) (hold : ((olds M).map (·.mkey)).Nodup)
    (hnew : ((news M).map (·.mkey)).Nodup) (k : Nat) (s : List Line)
    (hs : asaExec (olds M) ((planASA M).take k) = some s)
    (M' : List Cell) (ho : olds M' = s) (hn : news M' = news M) :
    asaExec s (planASA M') = some (news M) :=
  asa_plan_converges_of_eq M' ho hn (asaExec_nodup _ s _ hold hs) hnew

/-- Same, for the states listed by the trace. -/
theorem asa_resume_converges_trace (M : List Cell) (hold : ((olds M).map (·.mkey)).Nodup)
    (hnew : ((news M).map (·.mkey)).Nodup) (tr : List (List Line))
    (htr : asaTrace (olds M) (planASA M) = some tr) (s : List Line) (hs : s ∈ tr)
    (M' : List Cell) (ho : olds M' = s) (hn : news M' = news M) :
    asaExec s (planASA M') = some (news M) :=
  asa_plan_converges_of_eq M' ho hn (asaTrace_nodup _ _ tr hold htr s hs) hnew

/-! ## Concrete instance: one move (`B` changes its `log`), one add (`D`), one delete (`E`) -/

def exA : Line := { key := 1, mkey := 1, permit := true, mask := 1 }
def exB : Line := { key := 2, mkey := 2, permit := true, mask := 2 }
def exB' : Line := { key := 22, mkey := 2, permit := true, mask := 2 }
def exC : Line := { key := 3, mkey := 3, permit := false, mask := 4 }
def exD : Line := { key := 4, mkey := 4, permit := true, mask := 8 }
def exE : Line := { key := 5, mkey := 5, permit := false, mask := 16 }

/-- device: A B C E;  target: A C B' D. -/
def exM : List Cell :=
  [⟨exA, true, true⟩, ⟨exB, true, false⟩, ⟨exC, true, true⟩,
   ⟨exB', false, true⟩, ⟨exD, false, true⟩, ⟨exE, true, false⟩]

example : olds exM = [exA, exB, exC, exE] ∧ news exM = [exA, exC, exB', exD] := by decide +kernel
example : ((olds exM).map (·.mkey)).Nodup := by decide +kernel
example : ((news exM).map (·.mkey)).Nodup := by decide +kernel
example : planASA exM = [Op.move 1 exB 2 exB', Op.add 3 exD, Op.del 4 exE] := by decide +kernel
example : asaExec (olds exM) (planASA exM) = some (news exM) :=
  asa_plan_converges exM (by decide +kernel) (by decide +kernel)
example : asaTrace (olds exM) (planASA exM)
    = some [[exA, exC, exB', exE], [exA, exC, exB', exD, exE], [exA, exC, exB', exD]] := by decide +kernel
/-- Resume after the first command with a fresh script (keep A, C, B'; insert D; delete E). -/
example : asaExec [exA, exC, exB', exE]
    (planASA [⟨exA, true, true⟩, ⟨exC, true, true⟩, ⟨exB', true, true⟩,
              ⟨exD, false, true⟩, ⟨exE, true, false⟩]) = some (news exM) :=
  asa_resume_converges exM (by decide +kernel) (by decide +kernel) 1 _ (by decide +kernel) _ (by decide +kernel) (by decide +kernel)

/-- The `Nodup` hypotheses are needed: with two device lines of the same `mkey` and a target
line of that `mkey`, the strict device rejects the plan (the add clashes with the remaining
duplicate). -/
example : asaExec (olds [⟨exB, true, false⟩, ⟨exB, true, false⟩, ⟨exB', false, true⟩])
    (planASA [⟨exB, true, false⟩, ⟨exB, true, false⟩, ⟨exB', false, true⟩]) = none := by decide +kernel

/-- For every script `rs` that `cellsOf` accepts for the device list `a` and the target `b`:
the plan computed from its merged list, executed on the strict device holding `a`, yields `b`. -/
theorem asa_plan_converges_script (a b : List Line) (rs : List Range) (M : List Cell)
    (h : cellsOf a b rs = some M) (hold : (a.map (·.mkey)).Nodup) (hnew : (b.map (·.mkey)).Nodup) :
    asaExec a (planASA M) = some b :=
  let ⟨ho, hn⟩ := cellsOf_sound a b rs M h
  asa_plan_converges_of_eq M ho hn hold hnew

/-- Non-vacuity: a Myers-shaped script (equal, delete, equal, delete, insert) is accepted. -/
def exRanges : List Range := [⟨0, 1, 0, 1⟩, ⟨1, 2, 1, 1⟩, ⟨2, 3, 1, 2⟩, ⟨3, 4, 2, 2⟩, ⟨4, 4, 2, 4⟩]

example : cellsOf [exA, exB, exC, exE] [exA, exC, exB', exD] exRanges
    = some [⟨exA, true, true⟩, ⟨exB, true, false⟩, ⟨exC, true, true⟩, ⟨exE, true, false⟩,
            ⟨exB', false, true⟩, ⟨exD, false, true⟩] := by decide +kernel
example : asaExec [exA, exB, exC, exE]
    (planASA [⟨exA, true, true⟩, ⟨exB, true, false⟩, ⟨exC, true, true⟩, ⟨exE, true, false⟩,
              ⟨exB', false, true⟩, ⟨exD, false, true⟩]) = some [exA, exC, exB', exD] :=
  asa_plan_converges_script _ _ exRanges _ (by decide +kernel) (by decide +kernel) (by decide +kernel)
/-- The special "no commonality" form of `myers.Diff`. -/
example : cellsOf [exB, exE] [exD] [⟨0, 2, 0, 0⟩, ⟨0, 0, 0, 1⟩]
    = some [⟨exB, true, false⟩, ⟨exE, true, false⟩, ⟨exD, false, true⟩] := by decide +kernel
/-- A script that is not one for `a`, `b` is rejected. -/
example : cellsOf [exA, exB] [exA, exC] [⟨0, 2, 0, 2⟩] = none := by decide +kernel

end NA.Acl

namespace NA.AsaAcl
def obligations : List Lean.Name := [
  ``NA.Acl.asa_plan_converges, ``NA.Acl.asa_pos_refines,
  ``NA.Acl.asa_trace_states_masked, ``NA.Acl.asa_prefix_states_masked,
  ``NA.Acl.asa_resume_converges, ``NA.Acl.asa_resume_converges_trace,
  ``NA.Acl.asaExec_nodup,
  ``NA.Acl.cellsFrom_sound, ``NA.Acl.cellsOf_sound, ``NA.Acl.asa_plan_converges_script]
end NA.AsaAcl
