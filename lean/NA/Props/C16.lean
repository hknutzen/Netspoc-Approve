import NA.Proofs.C16
import NA.Gen.MapRanges
import NA.Gen.MapRangesDescr
/-!
# C16 — output is a deterministic function of the inputs

Go does not specify the order in which `for k, v := range m` visits a map, and the runtime
randomises it per loop.  The output of `drc` is a function of the inputs iff **every** loop
over a map computes the same result for every visiting order.  Stated here, for all entry lists and all
their permutations: one theorem per loop (`site_…`, over the site models of `NA.Model.MapSites`) and per shape; the tie
to the site list **regenerated from the source** — a new or changed loop whose body its regenerated descriptor does not
describe and that matches no row of `expected` has no proof, and the build fails; and, for the loops that were
order-dependent on the unchanged tree, a `…_counterexample` (two visiting orders, different results; replayed on the
real binary by the harness), a `…_partial` (invariant when there is no tie) and — after the `fix:` commits that iterate
in sorted key order — `…_fixed_deterministic` for all inputs.
-/
namespace NA.C16
open NA.PermFold NA.Gen.MapRanges

/-! ## The library, restated (names without `?` for the audit) -/

/-- "find first satisfying" is invariant under reordering iff at most one candidate satisfies. -/
theorem findFirst_invariant_iff {α : Type} [DecidableEq α] (p : α → Bool) (l : List α) :
    (∀ l₁ l₂ : List α, l₁.Perm l → l₂.Perm l → l₁.find? p = l₂.find? p) ↔ AtMostOne p l :=
  find?_perm_invariant_iff p l

/-- A loop that leaves at the first entry producing a result is invariant under reordering iff
all results that entries can produce agree. -/
theorem firstResult_invariant_iff {α ρ : Type} [DecidableEq α] (f : α → Option ρ) (l : List α) :
    (∀ l₁ l₂ : List α, l₁.Perm l → l₂.Perm l → firstIn f l₁ = firstIn f l₂) ↔ Agree f l :=
  findSome?_perm_invariant_iff f l

/-! ## Loops that are order-insensitive as they stand -/

theorem site_isValidOutput {κ ν : Type} (hit : κ × ν → Bool) {es₁ es₂ : Entries κ ν}
    (p : es₁.Perm es₂) : Site.isValidOutput hit es₁ = Site.isValidOutput hit es₂ :=
  findSome?_perm (fun _ _ _ _ _ _ _ _ => rfl) p

theorem site_mergeSpocMakeMaps {κ ν μ : Type} [DecidableEq κ] (empty : μ) {es₁ es₂ : Entries κ ν}
    (hm : IsMap es₁) (p : es₁.Perm es₂) (s : κ → Option μ) :
    es₁.foldl (Site.mergeSpocMakeMaps (ν := ν) empty).step s
      = es₂.foldl (Site.mergeSpocMakeMaps (ν := ν) empty).step s :=
  ownKey_perm _ hm p s

theorem site_mergeSpocWarnings {κ : Type} (msg : κ → String) (init : List String)
    {es₁ es₂ : Entries κ Bool} (p : es₁.Perm es₂) :
    Site.mergeSpocWarnings msg init es₁ = Site.mergeSpocWarnings msg init es₂ :=
  collectSorted_perm strLe_lawful _ _ init p

/-- The anchor probe takes the flag of whichever entry comes first: invariant if all command
types found under the prefix agree on `anchor` … -/
theorem site_anchorProbe {κ ν : Type} (typAnchor : ν → Bool) {es₁ es₂ : Entries κ ν}
    (hagree : ∀ e, e ∈ es₁ → ∀ e', e' ∈ es₁ → typAnchor e.2 = typAnchor e'.2) (p : es₁.Perm es₂) :
    Site.anchorProbe typAnchor es₁ = Site.anchorProbe typAnchor es₂ := by
  apply findSome?_perm _ p
  intro a ha b hb x y hx hy
  simp only [Option.some.injEq] at hx hy
  rw [← hx, ← hy]
  exact hagree a ha b hb

/-- … which is a fact about the regenerated command table: all command types of one device
that are stored under the same prefix carry the same `anchor` flag. -/
theorem anchor_table_agrees :
    anchorTable.all (fun r => anchorTable.all (fun r' =>
      !(r.1 == r'.1 && r.2.1 == r'.2.1) || r.2.2 == r'.2.2)) = true := by decide +kernel

theorem site_onlyAnchorNames {ν : Type} (isAnchor : ν → Bool) {es₁ es₂ : Entries String ν}
    (p : es₁.Perm es₂) : Site.onlyAnchorNames isAnchor es₁ = Site.onlyAnchorNames isAnchor es₂ :=
  collectSorted_perm strLe_lawful _ _ [] p

theorem site_posAfterAdd {κ : Type} [DecidableEq κ] (i : Nat) {es₁ es₂ : Entries κ Nat}
    (hm : IsMap es₁) (p : es₁.Perm es₂) (s : κ → Nat) :
    es₁.foldl (Site.posAfterAdd i).step s = es₂.foldl (Site.posAfterAdd i).step s :=
  ownKey_perm _ hm p s

theorem site_posAfterDel {κ : Type} [DecidableEq κ] (i : Nat) {es₁ es₂ : Entries κ Nat}
    (hm : IsMap es₁) (p : es₁.Perm es₂) (s : κ → Nat) :
    es₁.foldl (Site.posAfterDel i).step s = es₂.foldl (Site.posAfterDel i).step s :=
  ownKey_perm _ hm p s

theorem site_deleteUnusedCollect {κ ν δ : Type} [DecidableEq κ] (del : κ → ν → Option δ)
    (reach : κ × ν → κ → Bool) {es₁ es₂ : Entries κ ν} (hm : IsMap es₁) (p : es₁.Perm es₂)
    (s : (κ → Option δ) × (κ → Bool)) :
    es₁.foldl (Site.deleteUnusedCollect del reach) s = es₂.foldl (Site.deleteUnusedCollect del reach) s :=
  foldl_perm _ p
    (CommOn.prod ((ownKey _).commOn (ownKey_disjoint _ hm))
      (CommOn.of_rightComm (setInsert_rightComm reach) es₁)) s

theorem site_deleteStillReferenced {κ δ : Type} [DecidableEq κ] (still : κ → Bool)
    {es₁ es₂ : Entries κ δ} (hm : IsMap es₁) (p : es₁.Perm es₂) (s : κ → Option δ) :
    es₁.foldl (Site.deleteStillReferenced still).step s
      = es₂.foldl (Site.deleteStillReferenced still).step s :=
  ownKey_perm _ hm p s

theorem site_markReferenced {κ ν β : Type} (refs : κ × ν → β → Bool) {es₁ es₂ : Entries κ ν}
    (p : es₁.Perm es₂) (s : β → Bool) :
    es₁.foldl (Site.markReferenced refs) s = es₂.foldl (Site.markReferenced refs) s :=
  foldl_perm_of_rightComm _ (setInsert_rightComm refs) p s

theorem site_generateNames {ι μ α : Type} [DecidableEq ι] (cmds : α → List ι)
    (rename : α → ι → μ → μ) {l₁ l₂ : List α} (hsep : Separate cmds l₁) (p : l₁.Perm l₂)
    (s : ι → μ) :
    l₁.foldl (Site.generateNames cmds rename).step s = l₂.foldl (Site.generateNames cmds rename).step s :=
  perObject_perm cmds rename hsep p s

theorem site_sortGroups {ι μ α : Type} [DecidableEq ι] (group : α → ι) (sortSub : μ → μ)
    {l₁ l₂ : List α} (hsep : Separate (fun a => [group a]) l₁) (p : l₁.Perm l₂) (s : ι → μ) :
    l₁.foldl (Site.sortGroups (α := α) group sortSub).step s
      = l₂.foldl (Site.sortGroups (α := α) group sortSub).step s :=
  perObject_perm _ _ hsep p s

theorem site_ignoreCryptoGDOI {κ ν δ : Type} [DecidableEq κ] {es₁ es₂ : Entries κ ν}
    (hm : IsMap es₁) (p : es₁.Perm es₂) (s : κ → Option δ) :
    es₁.foldl (Site.ignoreCryptoGDOI (ν := ν) (δ := δ)).step s
      = es₂.foldl (Site.ignoreCryptoGDOI (ν := ν) (δ := δ)).step s :=
  ownKey_perm _ hm p s

theorem site_addDefaults {κ ν μ : Type} [DecidableEq κ] (known : κ → Bool) (add : κ → ν → μ → μ)
    {es₁ es₂ : Entries κ ν} (hm : IsMap es₁) (p : es₁.Perm es₂) (s : κ → μ) :
    es₁.foldl (Site.addDefaults known add).step s = es₂.foldl (Site.addDefaults known add).step s :=
  ownKey_perm _ hm p s

theorem site_rewriteCommands {ι μ α : Type} [DecidableEq ι] (cmds : α → List ι)
    (f : α → ι → μ → μ) {l₁ l₂ : List α} (hsep : Separate cmds l₁) (p : l₁.Perm l₂) (s : ι → μ) :
    l₁.foldl (Site.rewriteCommands cmds f).step s = l₂.foldl (Site.rewriteCommands cmds f).step s :=
  perObject_perm cmds f hsep p s

theorem site_rewriteAndSetTypeRef {ι μ α γ : Type} [DecidableEq ι] (cmds : α → List ι)
    (f : α → ι → μ → μ) (touches : α → Bool) (refs : γ) {l₁ l₂ : List α}
    (hsep : Separate cmds l₁) (p : l₁.Perm l₂) (s : (ι → μ) × Option γ) :
    l₁.foldl (Site.rewriteAndSetTypeRef cmds f touches refs) s
      = l₂.foldl (Site.rewriteAndSetTypeRef cmds f touches refs) s :=
  foldl_perm _ p
    (CommOn.prod ((perObject cmds f).commOn (perObject_disjoint cmds f hsep))
      (CommOn.of_rightComm (constFlag_rightComm touches refs) l₁)) s

theorem site_normalizeIPTables {κ ν : Type} [DecidableEq κ] (norm : κ → ν → ν)
    {es₁ es₂ : Entries κ ν} (hm : IsMap es₁) (p : es₁.Perm es₂) (s : κ → ν) :
    es₁.foldl (Site.normalizeIPTables norm).step s = es₂.foldl (Site.normalizeIPTables norm).step s :=
  ownKey_perm _ hm p s

theorem site_dropUnmanagedUsers {κ ν : Type} [DecidableEq κ] (managed : ν → Bool)
    {es₁ es₂ : Entries κ ν} (hm : IsMap es₁) (p : es₁.Perm es₂) (s : κ → Option ν) :
    es₁.foldl (Site.dropUnmanagedUsers managed).step s = es₂.foldl (Site.dropUnmanagedUsers managed).step s :=
  ownKey_perm _ hm p s

theorem site_copyKeys {κ ν : Type} [DecidableEq κ] {es₁ es₂ : Entries κ ν}
    (hm : IsMap es₁) (p : es₁.Perm es₂) (s : κ → Bool) :
    es₁.foldl (Site.copyKeys (ν := ν)).step s = es₂.foldl (Site.copyKeys (ν := ν)).step s :=
  ownKey_perm _ hm p s

theorem site_loadDefaults (seen : String → Bool) {es₁ es₂ : Entries String String}
    (hm : IsMap es₁) (p : es₁.Perm es₂) (s : Option (String → Option Nat)) :
    es₁.foldl (Site.loadDefaults seen) s = es₂.foldl (Site.loadDefaults seen) s :=
  foldl_perm _ p (exitOrOwnKey_commOn _ _ hm) s

/-- The regenerated literal `defaultVals`: distinct keys, every value a numeral — `insert`
never fails on it, the early `return` of the loop is never taken. -/
theorem default_vals_parse :
    defaultVals.all (fun kv => Site.isNumeral kv.2) = true ∧ (defaultVals.map Prod.fst).Nodup := by
  decide +kernel

/-- The statement proved for every loop of a given shape. -/
def ShapeHolds : Shape → Prop
  | .anyHit => ∀ (κ ν : Type) (hit : κ × ν → Bool) (es₁ es₂ : Entries κ ν), es₁.Perm es₂ →
      Site.isValidOutput hit es₁ = Site.isValidOutput hit es₂
  | .ownKey => ∀ (κ ν μ : Type) [DecidableEq κ] (g : κ → ν → μ → μ) (es₁ es₂ : Entries κ ν),
      IsMap es₁ → es₁.Perm es₂ → ∀ s, es₁.foldl (ownKey g).step s = es₂.foldl (ownKey g).step s
  | .collectSorted => ∀ (α : Type) (p : α → Bool) (f : α → String) (init : List String)
      (es₁ es₂ : List α), es₁.Perm es₂ →
      collectSorted strLe p f init es₁ = collectSorted strLe p f init es₂
  | .agreeFirst => ∀ (α ρ : Type) (f : α → Option ρ) (es₁ es₂ : List α), Agree f es₁ →
      es₁.Perm es₂ → firstIn f es₁ = firstIn f es₂
  | .perObject => ∀ (ι μ α : Type) [DecidableEq ι] (objs : α → List ι) (upd : α → ι → μ → μ)
      (l₁ l₂ : List α), Separate objs l₁ → l₁.Perm l₂ →
      ∀ s, l₁.foldl (perObject objs upd).step s = l₂.foldl (perObject objs upd).step s
  | .perObjectConst => ∀ (ι μ α γ : Type) [DecidableEq ι] (objs : α → List ι) (upd : α → ι → μ → μ)
      (q : α → Bool) (c : γ) (l₁ l₂ : List α), Separate objs l₁ → l₁.Perm l₂ →
      ∀ s, l₁.foldl (Site.rewriteAndSetTypeRef objs upd q c) s
        = l₂.foldl (Site.rewriteAndSetTypeRef objs upd q c) s
  | .ownKeySetInsert => ∀ (κ ν δ : Type) [DecidableEq κ] (del : κ → ν → Option δ)
      (reach : κ × ν → κ → Bool) (es₁ es₂ : Entries κ ν), IsMap es₁ → es₁.Perm es₂ →
      ∀ s, es₁.foldl (Site.deleteUnusedCollect del reach) s
        = es₂.foldl (Site.deleteUnusedCollect del reach) s
  | .setInsert => ∀ (α β : Type) (items : α → β → Bool) (l₁ l₂ : List α), l₁.Perm l₂ →
      ∀ s, l₁.foldl (setInsertStep items) s = l₂.foldl (setInsertStep items) s
  | .exitOrOwnKey => ∀ (κ ν μ : Type) [DecidableEq κ] (skip : κ → Bool) (parse : κ → ν → Option μ)
      (es₁ es₂ : Entries κ ν), IsMap es₁ → es₁.Perm es₂ →
      ∀ s, es₁.foldl (exitOrOwnKeyStep skip parse) s = es₂.foldl (exitOrOwnKeyStep skip parse) s

theorem shape_holds : ∀ sh, ShapeHolds sh := by
  intro sh
  cases sh
  · intro κ ν hit es₁ es₂ p; exact site_isValidOutput hit p
  · intro κ ν μ _ g es₁ es₂ hm p s; exact ownKey_perm g hm p s
  · intro α p f init es₁ es₂ perm; exact collectSorted_perm strLe_lawful p f init perm
  · intro α ρ f es₁ es₂ h p; exact findSome?_perm h p
  · intro ι μ α _ objs upd l₁ l₂ h p s; exact perObject_perm objs upd h p s
  · intro ι μ α γ _ objs upd q c l₁ l₂ h p s; exact site_rewriteAndSetTypeRef objs upd q c h p s
  · intro κ ν δ _ del reach es₁ es₂ hm p s; exact site_deleteUnusedCollect del reach hm p s
  · intro α β items l₁ l₂ p s; exact foldl_perm_of_rightComm _ (setInsert_rightComm items) p s
  · intro κ ν μ _ skip parse es₁ es₂ hm p s; exact foldl_perm _ p (exitOrOwnKey_commOn skip parse hm) s

/-- A site is tied if its regenerated descriptor describes the body (then `runBody_perm` covers it
for every semantics, no hand-written row needed), or — for a body the translator cannot describe —
if it matches a row of `expected` by file, function, hash of the alpha-normalised loop text and class. -/
def siteTied (s : Site) (d : NA.C16.D.SiteDescr) : Bool :=
  (s.file == d.file && s.fn == d.fn && s.mapExpr == d.mapExpr && s.ord == d.ord) &&
    (d.body.described || expected.any (fun e => e.matchesSite s.file s.fn s.hash s.cls))

def uncovered : List (Site × NA.C16.D.SiteDescr) :=
  (sites.zip NA.Gen.MapRangesDescr.descrs).filter (fun p => !siteTied p.1 p.2)

def sortedCount (file fn : String) : Nat := (sortedRanges.filter (fun r => r.1 == file && r.2.1 == fn)).length

-- Diagnostic only (the theorems below are what counts).
#eval (do
  unless uncovered.isEmpty do
    throw (IO.userError ("C16: range-over-map loops whose body the translator cannot describe and that match no row of `expected`: " ++
      toString (uncovered.map fun p => s!"{p.1.file} {p.1.fn} range {p.1.mapExpr} #{p.1.ord} hash={p.1.hash} class={p.1.cls} descriptor={repr p.2.body}")))
  let lost := repaired.filter (fun r => sortedCount r.1 r.2.1 < r.2.2)
  unless lost.isEmpty do
    throw (IO.userError ("C16: functions whose repaired loops no longer iterate over sorted keys (file, function, expected number): " ++ toString lost))
  : IO Unit)

/-- The descriptor table lists the sites of the site table, in the same order: the key columns (file,
function, map expression, ordinal) agree.  The tie theorems below rest on this one sweep (`rfl`: both sides
evaluate to the same list of literals, which are compared as they stand; `decide` would decode every string). -/
theorem site_keys_eq_descr_keys :
    sites.map (fun s => (s.file, s.fn, s.mapExpr, s.ord)) =
      NA.Gen.MapRangesDescr.descrs.map (fun d => (d.file, d.fn, d.mapExpr, d.ord)) := rfl

/-- **The tie (T-gen).** Every `range` over a map found in the source is either *described* by the
descriptor regenerated from the source (same run, same site), or matches a row of `expected`. -/
theorem sites_covered :
    sites.length = NA.Gen.MapRangesDescr.descrs.length ∧
    (sites.zip NA.Gen.MapRangesDescr.descrs).all (fun p => siteTied p.1 p.2) = true := by
  obtain ⟨hlen, hkey⟩ := zip_of_map_eq site_keys_eq_descr_keys
  have hrow : (sites.zip NA.Gen.MapRangesDescr.descrs).all (fun p =>
      p.2.body.described || expected.any (fun e => e.matchesSite p.1.file p.1.fn p.1.hash p.1.cls)) = true := by
    decide +kernel
  refine ⟨hlen, List.all_eq_true.mpr fun p hp => ?_⟩
  have hk := hkey p hp
  simp only [Prod.mk.injEq] at hk
  simp only [siteTied, hk.1, hk.2.1, hk.2.2.1, hk.2.2.2, beq_self_eq_true, Bool.and_self, Bool.true_and]
  exact List.all_eq_true.mp hrow p hp

/-- Every `range` over a map in the source: its body is described by the regenerated descriptor — then
it is order-insensitive for every semantics by `runBody_perm` (Props/C16Run.lean:
`described_sites_order_insensitive`) — or it is **tied by hash** to a row of `expected` whose shape
has a generic theorem (`ShapeHolds`, true of every shape: for these loops the assignment of the shape
is by hand and checked against the source only through the hash and the table facts). -/
theorem every_site_described_or_hash_tied :
    ∀ p, p ∈ sites.zip NA.Gen.MapRangesDescr.descrs →
      p.2.body.described = true ∨
      ∃ e, e ∈ expected ∧ e.matchesSite p.1.file p.1.fn p.1.hash p.1.cls = true ∧ ShapeHolds e.shape := by
  intro p hp
  have h := List.all_eq_true.mp sites_covered.2 p hp
  simp only [siteTied, Bool.and_eq_true, Bool.or_eq_true] at h
  refine h.2.imp_right fun hr => ?_
  obtain ⟨e, he, hm⟩ := List.any_eq_true.mp hr
  exact ⟨e, he, hm, shape_holds e.shape⟩

/-- The functions whose loops were repaired still iterate over sorted keys (any spelling). -/
theorem repaired_stay_sorted : repaired.all (fun r => decide (r.2.2 ≤ sortedCount r.1 r.2.1)) = true := by decide +kernel

/-- No unordered map iterator (`maps.Keys`, `maps.Values`, `maps.All` outside `slices.Sorted…`). -/
theorem no_loose_iterators : looseIters = [] := rfl

/-- **Schedule independence of a run, given order-insensitive stages.** Conditional statement: a
`Stage` carries the order-insensitivity of its loop as the field `inv`; IF every loop the program
executes is such a stage, the final state is the same for every two schedules. The field is
discharged for the loops of the repository in Props/C16Run.lean (`stageOf`,
`drc_planning_deterministic`): proved for the described sites, an explicit hypothesis for the
hash-tied ones (at present there is none: `hash_tied_sites`). -/
theorem run_schedule_independent {σ ε : Type} (next : σ → Option (Stage σ ε))
    (sch₁ sch₂ : Schedule σ ε) (h₁ : sch₁.Valid) (h₂ : sch₂.Valid) (fuel i : Nat) (s : σ) :
    execRun next sch₁ fuel i s = execRun next sch₂ fuel i s := by
  induction fuel generalizing i s with
  | zero => rfl
  | succ n ih =>
    simp only [execRun]
    cases hn : next s with
    | none => rfl
    | some st =>
      simp only []
      rw [st.inv s _ (h₁ i s _), st.inv s _ (h₂ i s _)]
      exact ih (i + 1) _

/-! ## Loops that depended on the iteration order on the unchanged tree -/

private def gA : Group := ⟨false, 0, [1, 2]⟩

/-- `findGroupOnDevice` (cisco and nsx) on the unchanged tree: two identical unused groups on
the device, two visiting orders, two different groups taken over. -/
theorem findGroup_unfixed_counterexample :
    ∃ es₁ es₂ : Entries String Group, IsMap es₁ ∧ es₁.Perm es₂ ∧
      findGroupUnfixed 0 [1, 2] es₁ ≠ findGroupUnfixed 0 [1, 2] es₂ :=
  ⟨[("g1", gA), ("g2", gA)], [("g2", gA), ("g1", gA)], by decide +kernel, List.Perm.swap _ _ _, by decide +kernel⟩

theorem agree_of_unique {α ρ : Type} {f : α → Option ρ} {l : List α}
    (h : ∀ a, a ∈ l → ∀ b, b ∈ l → (f a).isSome → (f b).isSome → a = b) : Agree f l := by
  intro a ha b hb x y hx hy
  obtain rfl := h a ha b hb (by simp [hx]) (by simp [hy])
  exact Option.some.inj (hx.symm.trans hy)

/-- Without a tie (at most one candidate) the unchanged loop is order-insensitive. -/
theorem findGroup_unfixed_partial {κ : Type} (typ : Nat) (target : List Nat) {es₁ es₂ : Entries κ Group}
    (huniq : ∀ a, a ∈ es₁ → ∀ b, b ∈ es₁ → (groupMatches typ target a).isSome →
      (groupMatches typ target b).isSome → a = b)
    (p : es₁.Perm es₂) : findGroupUnfixed typ target es₁ = findGroupUnfixed typ target es₂ :=
  findSome?_perm (agree_of_unique huniq) p

/-- Repaired loop: the same group for every visiting order, for all inputs. -/
theorem findGroup_fixed_deterministic {κ : Type} {le : κ → κ → Bool} (h : LawfulLe le) (typ : Nat)
    (target : List Nat) {es₁ es₂ : Entries κ Group} (hm : IsMap es₁) (p : es₁.Perm es₂) :
    findGroupFixed le typ target es₁ = findGroupFixed le typ target es₂ :=
  firstInSorted_perm h _ hm p

/-- … namely the candidate with the least name. -/
theorem findGroup_fixed_least {κ : Type} {le : κ → κ → Bool} (h : LawfulLe le) (typ : Nat)
    (target : List Nat) (es : Entries κ Group) (k : κ) (hk : findGroupFixed le typ target es = some k) :
    (∃ g, (k, g) ∈ es ∧ (groupMatches typ target (k, g)).isSome) ∧
      ∀ e, e ∈ es → (groupMatches typ target e).isSome → le k e.1 = true := by
  obtain ⟨e, he, hfe, hmin⟩ := firstInSorted_least h _ es k hk
  obtain rfl : e.1 = k := by
    simp only [groupMatches] at hfe
    split at hfe
    · exact Option.some.inj hfe
    · cases hfe
  exact ⟨⟨e.2, he, by simp [hfe]⟩, hmin⟩

/-- `mapPeerToSeq` on the unchanged tree: two crypto map entries with the same peer. -/
theorem peerMap_unfixed_counterexample :
    ∃ es₁ es₂ : Entries Nat (Option Nat), IsMap es₁ ∧ es₁.Perm es₂ ∧
      peerObs (peerMapUnfixed es₁) [7] ≠ peerObs (peerMapUnfixed es₂) [7] :=
  ⟨[(1, some 7), (2, some 7)], [(2, some 7), (1, some 7)], by decide +kernel, List.Perm.swap _ _ _, by decide +kernel⟩

/-- … and two entries without peer: the abort names a different entry. -/
theorem peerMap_unfixed_abort_counterexample :
    ∃ es₁ es₂ : Entries Nat (Option Nat), IsMap es₁ ∧ es₁.Perm es₂ ∧
      peerObs (peerMapUnfixed es₁) [] ≠ peerObs (peerMapUnfixed es₂) [] :=
  ⟨[(1, none), (2, none)], [(2, none), (1, none)], by decide +kernel, List.Perm.swap _ _ _, by decide +kernel⟩

/-- Every entry has a peer and the peers are pairwise different: order-insensitive. -/
theorem peerMap_unfixed_partial {π : Type} [DecidableEq π] {es₁ es₂ : Entries Nat (Option π)}
    (hsome : ∀ e, e ∈ es₁ → e.2.isSome) (hpeers : UniqueKeys Prod.snd es₁) (p : es₁.Perm es₂) :
    peerMapUnfixed es₁ = peerMapUnfixed es₂ :=
  foldl_perm _ p (peerStepUnfixed_commOn hsome hpeers) _

theorem peerMap_fixed_deterministic {π : Type} [DecidableEq π] {es₁ es₂ : Entries Nat (Option π)}
    (hm : IsMap es₁) (p : es₁.Perm es₂) : peerMapFixed es₁ = peerMapFixed es₂ :=
  sorted_deterministic natLe_lawful Prod.fst (fun l => l.foldl peerStepFixed (.ok fun _ => none)) hm p

/-- First error of `checkReferences` (also: first abort of cisco `MergeSpoc`, of the
`aaa-server` loop of `postprocessParsed`) on the unchanged tree: two entries with an error. -/
theorem firstError_unfixed_counterexample :
    ∃ es₁ es₂ : Entries (String × String) (Option String), IsMap es₁ ∧ es₁.Perm es₂ ∧
      firstErrorUnfixed es₁ ≠ firstErrorUnfixed es₂ :=
  ⟨[(("access-list", "a1"), some "unknown object-group ga"), (("access-list", "a2"), some "unknown object-group gb")],
   [(("access-list", "a2"), some "unknown object-group gb"), (("access-list", "a1"), some "unknown object-group ga")],
   by decide +kernel, List.Perm.swap _ _ _, by decide +kernel⟩

theorem firstError_unfixed_partial {κ ρ : Type} {es₁ es₂ : Entries κ (Option ρ)}
    (huniq : ∀ a, a ∈ es₁ → ∀ b, b ∈ es₁ → a.2.isSome → b.2.isSome → a = b) (p : es₁.Perm es₂) :
    firstErrorUnfixed es₁ = firstErrorUnfixed es₂ :=
  findSome?_perm (agree_of_unique huniq) p

theorem firstError_fixed_deterministic {κ ρ : Type} {le : κ → κ → Bool} (h : LawfulLe le)
    {es₁ es₂ : Entries κ (Option ρ)} (hm : IsMap es₁) (p : es₁.Perm es₂) :
    firstErrorFixed le es₁ = firstErrorFixed le es₂ :=
  firstInSorted_perm h _ hm p

/-- The order used by the repaired nested loops of `checkReferences` and `MergeSpoc`
(ascending prefix, then ascending name) is a linear order. -/
theorem prefix_name_order_lawful : LawfulLe (lexLe strLe strLe) :=
  LawfulLe.lex strLe_lawful strLe_lawful

theorem firstAbort_fixed_deterministic {κ ρ : Type} {le : κ → κ → Bool} (h : LawfulLe le)
    {es₁ es₂ : Entries κ (Option ρ)} (hm : IsMap es₁) (p : es₁.Perm es₂) :
    firstAbortFixed le es₁ = firstAbortFixed le es₂ :=
  firstInSorted_perm h _ hm p

/-- First differing option of `diffIPTables` on the unchanged tree: a rule that differs in two options. -/
theorem firstOption_unfixed_counterexample :
    ∃ (b : String → String) (es₁ es₂ : Entries String String), IsMap es₁ ∧ es₁.Perm es₂ ∧
      firstOptionUnfixed b es₁ ≠ firstOptionUnfixed b es₂ :=
  ⟨fun k => if k = "-s" then "10.1.1.9" else "10.2.2.9",
   [("-s", "10.1.1.1"), ("-d", "10.2.2.2")], [("-d", "10.2.2.2"), ("-s", "10.1.1.1")],
   by decide +kernel, List.Perm.swap _ _ _, by decide +kernel⟩

theorem firstOption_unfixed_partial {κ ν : Type} [DecidableEq ν] (b : κ → ν) {es₁ es₂ : Entries κ ν}
    (huniq : ∀ a, a ∈ es₁ → ∀ a', a' ∈ es₁ → b a.1 ≠ a.2 → b a'.1 ≠ a'.2 → a = a') (p : es₁.Perm es₂) :
    firstOptionUnfixed b es₁ = firstOptionUnfixed b es₂ := by
  refine findSome?_perm (agree_of_unique fun a ha a' ha' h1 h2 => huniq a ha a' ha' ?_ ?_) p
  · intro h; simp [optionDiffers, h] at h1
  · intro h; simp [optionDiffers, h] at h2

theorem firstOption_fixed_deterministic {κ ν : Type} [DecidableEq ν] {le : κ → κ → Bool}
    (h : LawfulLe le) (b : κ → ν) {es₁ es₂ : Entries κ ν} (hm : IsMap es₁) (p : es₁.Perm es₂) :
    firstOptionFixed le b es₁ = firstOptionFixed le b es₂ :=
  firstInSorted_perm h _ hm p

/-- Messages of linux `MergeSpoc` on the unchanged tree: two new tables in the raw file. -/
theorem infoLog_unfixed_counterexample :
    ∃ es₁ es₂ : Entries String (Option String), IsMap es₁ ∧ es₁.Perm es₂ ∧
      infoLogUnfixed es₁ ≠ infoLogUnfixed es₂ :=
  ⟨[("mangle", some "Adding all chains of table \"mangle\""), ("nat", some "Adding all chains of table \"nat\"")],
   [("nat", some "Adding all chains of table \"nat\""), ("mangle", some "Adding all chains of table \"mangle\"")],
   by decide +kernel, List.Perm.swap _ _ _, by decide +kernel⟩

theorem infoLog_unfixed_partial {κ ρ : Type} {es₁ es₂ : Entries κ (Option ρ)}
    (huniq : ∀ a, a ∈ es₁ → ∀ b, b ∈ es₁ → a.2.isSome → b.2.isSome → a = b) (p : es₁.Perm es₂) :
    infoLogUnfixed es₁ = infoLogUnfixed es₂ :=
  filterMap_perm_of_atMostOne huniq p

theorem infoLog_fixed_deterministic {κ ρ : Type} {le : κ → κ → Bool} (h : LawfulLe le)
    {es₁ es₂ : Entries κ (Option ρ)} (hm : IsMap es₁) (p : es₁.Perm es₂) :
    infoLogFixed le es₁ = infoLogFixed le es₂ :=
  logInSorted_perm h _ hm p

/-! ## Non-vacuity -/

example : IsMap [("g1", gA), ("g2", gA), ("g3", (⟨true, 0, [1, 2]⟩ : Group))] := by decide +kernel
example : Separate (fun a : Nat × List Nat => a.2) [(1, [10, 11]), (2, [12])] := by
  intro a ha b hb hab i hi
  simp only [List.mem_cons, List.mem_nil_iff, or_false] at ha hb
  rcases ha with rfl | rfl <;> rcases hb with rfl | rfl <;> simp at hab hi <;> omega
example : peerObs ([(1, some 7), (2, some 7), (3, some 8)].foldl peerStepFixed (.ok fun _ => none)) [7, 8]
    = .inr [some 1, some 3] := by decide +kernel
example : (defaultVals.foldl (Site.loadDefaults fun _ => false) (some fun _ => none)).isSome = true := by
  decide +kernel

/-- A stage of `run_schedule_independent` built from a site theorem. -/
example : Stage (Entries String Bool × List String) (String × Bool) where
  entries s := s.1
  body s l := (s.1, Site.mergeSpocWarnings id [] l)
  inv := by intro s l p; rw [site_mergeSpocWarnings id [] p]

def obligations : List Lean.Name := [
  ``NA.PermFold.foldl_perm, ``NA.PermFold.sort_perm, ``NA.PermFold.sortBy_perm,
  ``findFirst_invariant_iff, ``firstResult_invariant_iff,
  ``NA.PermFold.strLe_lawful,
  ``run_schedule_independent, ``sites_covered, ``every_site_described_or_hash_tied, ``shape_holds, ``repaired_stay_sorted, ``no_loose_iterators,
  ``anchor_table_agrees, ``default_vals_parse,
  ``site_isValidOutput, ``site_mergeSpocMakeMaps, ``site_mergeSpocWarnings, ``site_anchorProbe,
  ``site_onlyAnchorNames, ``site_posAfterAdd, ``site_posAfterDel, ``site_deleteUnusedCollect,
  ``site_deleteStillReferenced, ``site_markReferenced, ``site_generateNames, ``site_sortGroups,
  ``site_ignoreCryptoGDOI, ``site_addDefaults, ``site_rewriteCommands, ``site_rewriteAndSetTypeRef,
  ``site_normalizeIPTables, ``site_copyKeys, ``site_dropUnmanagedUsers, ``site_loadDefaults,
  ``findGroup_unfixed_counterexample, ``findGroup_unfixed_partial, ``findGroup_fixed_deterministic,
  ``findGroup_fixed_least,
  ``peerMap_unfixed_counterexample, ``peerMap_unfixed_abort_counterexample, ``peerMap_unfixed_partial,
  ``peerMap_fixed_deterministic,
  ``firstError_unfixed_counterexample, ``firstError_unfixed_partial, ``firstError_fixed_deterministic,
  ``prefix_name_order_lawful, ``firstAbort_fixed_deterministic,
  ``firstOption_unfixed_counterexample, ``firstOption_unfixed_partial, ``firstOption_fixed_deterministic,
  ``infoLog_unfixed_counterexample, ``infoLog_unfixed_partial, ``infoLog_fixed_deterministic]

end NA.C16
