import NA.Proofs.C18Other
/-!
# C18 — linux, panos, nsx: ports of the real merge code (`NA/Model/MergeOther.lean`)

The models work on the structures the real parsers produce (hooks `linux/panos/nsx.VerifC18Dump`) and are
compared with the real `ParseConfig` + `MergeSpoc` on every run (driver ops `linux3`, `panos3`, `nsx3`).
Theorems for ALL inputs.  Unmergeable kinds enumerated from the code:
* linux: unknown / unsupported line, rule or chain outside a table, rule of a chain without policy line,
  table or chain written twice (repaired parser), user chain that Netspoc also defines;
* panos: rule name `r<NUM>` in raw, other device name, object of the same name with another definition
  (repaired code), vsys written twice in one file (NOT reported: known F-C18k);
* nsx: rule name `r<NUM>`, group name without prefix `Netspoc` or of the form `Netspoc-g<NUM>`, service name
  without prefix `Netspoc-raw`.
-/
namespace NA.C18

namespace N

/-- **Every rule exactly once.**  The rules stored under a policy id after the merge are a permutation
of the rules both parts have under that id — for all configurations, also with repeated policy ids. -/
theorem n_rules_exactly_once (n1 n2 : Conf) (id : String) :
    (rulesOf (mergeSpoc n1 n2).policies id).Perm (rulesOf n1.policies id ++ rulesOf n2.policies id) :=
  rulesOf_foldl_perm n2.policies n1.policies id

/-- **Order.**  If the policy ids of the configuration merged so far are pairwise different: first its
rules in their order, then the rules of the merged part (all its policies with that id) in their order.
For NSX this is all `raw first` can mean: no APPEND mark exists, every rule of the merged part is listed
behind the Netspoc rules, the position on the device is given by `sequence_number`. -/
theorem n_rules_order (n1 n2 : Conf) (id : String) (h : (n1.policies.map (·.id)).Nodup) :
    rulesOf (mergeSpoc n1 n2).policies id = rulesOf n1.policies id ++ rulesOf n2.policies id :=
  rulesOf_foldl n2.policies n1.policies id h

/-- No policy id is lost (policies without rules included). -/
theorem n_policy_ids_kept (n1 n2 : Conf) (i : String) (h : i ∈ n1.policies.map (·.id) ∨ i ∈ n2.policies.map (·.id)) :
    i ∈ (mergeSpoc n1 n2).policies.map (·.id) :=
  ids_foldl_subset n2.policies n1.policies i h

/-- **Unmergeable ⇒ error** (the kinds `checkRaw` knows). -/
theorem n_unmergeable_is_error (c : Conf)
    (h : (∃ p ∈ c.policies, ∃ r ∈ p.rules, P.reserved r = true) ∨
         (∃ g ∈ c.groups, hasPrefix g "Netspoc" = false ∨ reservedGroup g = true) ∨
         (∃ s ∈ c.services, hasPrefix s "Netspoc-raw" = false)) :
    (checkRaw c).isSome = true := by
  unfold checkRaw
  simp only [Option.orElse_eq_or, Option.isSome_or, Bool.or_eq_true, List.findSome?_isSome_iff]
  rcases h with ⟨p, hp, r, hr, hres⟩ | ⟨g, hg, hbad⟩ | ⟨s, hs, hbad⟩
  · exact Or.inl ⟨r, List.mem_flatMap.mpr ⟨p, hp, hr⟩, by simp [hres]⟩
  · refine Or.inr (Or.inl ⟨g, hg, ?_⟩)
    rcases hbad with hb | hb
    · simp [hb]
    · by_cases h1 : hasPrefix g "Netspoc" = true <;> simp [h1, hb]
  · exact Or.inr (Or.inr ⟨s, hs, by simp [hbad]⟩)

/-- **Outcome-type theorem for NSX**: a raw part is rejected with an error, or every rule, group and service
of it is in the merged configuration. -/
theorem n_raw_entry_merged_or_error (a raw : Conf) :
    (checkRaw raw).isSome = true ∨
    ((∀ p ∈ raw.policies, ∀ r ∈ p.rules, r ∈ rulesOf (mergeSpoc a raw).policies p.id) ∧
     (∀ g ∈ raw.groups, g ∈ (mergeSpoc a raw).groups) ∧ (∀ s ∈ raw.services, s ∈ (mergeSpoc a raw).services)) := by
  right
  refine ⟨fun p hp r hr => ?_, fun g hg => List.mem_append_right _ hg, fun s hs => List.mem_append_right _ hs⟩
  rw [(n_rules_exactly_once a raw p.id).mem_iff]
  refine List.mem_append_right _ ?_
  unfold rulesOf
  exact List.mem_flatMap.mpr ⟨p, List.mem_filter.mpr ⟨hp, by simp⟩, hr⟩

end N

namespace P

/-- **Other device name ⇒ error** (repaired code). -/
theorem p_device_name_mismatch_is_error (p1 p2 : Conf) (h1 : p1.hasEntry = true) (h2 : p2.hasEntry = true)
    (hn1 : p1.devName ≠ "") (hn2 : p2.devName ≠ "") (hne : p1.devName ≠ p2.devName) :
    mergeSpoc .new p1 p2 = .error (.devName p1.devName p2.devName) := by
  unfold mergeSpoc
  simp [h1, h2, hn1, hn2, hne]

/-- Code as found, F-C18j: the raw part with another device name is ignored, no error. -/
theorem p_old_device_name_counterexample :
    ∃ p1 p2 : Conf, (p2.vsys.flatMap (·.rules)) ≠ [] ∧ (mergeSpoc .old p1 p2).toOption = some p1 :=
  ⟨{ hasEntry := true, devName := "dev1", vsys := [{ name := "vsys1", rules := [{ name := "x1" }] }] },
   { hasEntry := true, devName := "other", vsys := [{ name := "vsys1", rules := [{ name := "raw1" }] }] }, by decide +kernel⟩

/-- **Name clash ⇒ error** (repaired code): two objects of one class with the same name and different
definitions in the two vsys that are merged. -/
theorem p_object_clash_is_error (v1 v2 : Vsys) (o1 o2 : Obj) (hn : o1.name = o2.name) (hv : o1.val ≠ o2.val)
    (h : (o1 ∈ v1.addresses ∧ o2 ∈ v2.addresses) ∨ (o1 ∈ v1.addressGroups ∧ o2 ∈ v2.addressGroups) ∨
         (o1 ∈ v1.services ∧ o2 ∈ v2.services) ∨ (o1 ∈ v1.serviceGroups ∧ o2 ∈ v2.serviceGroups)) :
    ∃ e, mergeVsys .new v1 v2 = .error e := by
  have hc : (checkNameClash v1 v2).isSome = true := by
    unfold checkNameClash
    simp only [Option.orElse_eq_or, Option.isSome_or, Bool.or_eq_true]
    rcases h with ⟨h1, h2⟩ | ⟨h1, h2⟩ | ⟨h1, h2⟩ | ⟨h1, h2⟩
    · exact Or.inl (clashIn_isSome _ _ _ _ o1 o2 h1 h2 hn hv)
    · exact Or.inr (Or.inl (clashIn_isSome _ _ _ _ o1 o2 h1 h2 hn hv))
    · exact Or.inr (Or.inr (Or.inl (clashIn_isSome _ _ _ _ o1 o2 h1 h2 hn hv)))
    · exact Or.inr (Or.inr (Or.inr (clashIn_isSome _ _ _ _ o1 o2 h1 h2 hn hv)))
  unfold mergeVsys
  simp only [beq_self_eq_true, if_true]
  cases hx : checkNameClash v1 v2 with
  | none => rw [hx] at hc; cases hc
  | some e => exact ⟨e, rfl⟩

/-- Code as found, F-C18l: the raw address `a1` with another value is appended without a message. -/
theorem p_old_object_clash_counterexample :
    ∃ v1 v2 v : Vsys, mergeVsys .old v1 v2 = .ok v ∧ v.addresses = [⟨"a1", "10.1.1.1/32"⟩, ⟨"a1", "10.9.9.9/32"⟩] :=
  ⟨{ name := "vsys1", addresses := [⟨"a1", "10.1.1.1/32"⟩] }, { name := "vsys1", addresses := [⟨"a1", "10.9.9.9/32"⟩] },
   _, rfl, rfl⟩

/-- **Reserved rule name ⇒ error.** -/
theorem p_reserved_rule_name_is_error (c : Conf) (v : Vsys) (r : Rule) (hv : v ∈ c.vsys) (hr : r ∈ v.rules)
    (hres : reserved r.name = true) : (checkRaw c).isSome = true := by
  unfold checkRaw
  exact List.findSome?_isSome_iff.mpr ⟨r, List.mem_flatMap.mpr ⟨v, hv, hr⟩, by simp [hres]⟩

/-- **Nothing of the configuration merged so far is lost**: every vsys keeps its name, its rules and its
objects (all configurations with a device entry, `h1`; the rules keep their order, see `mergeVsys_ok`). -/
theorem p_netspoc_kept (g : Gen2) (p1 p2 c : Conf) (h1 : p1.hasEntry = true) (h : mergeSpoc g p1 p2 = .ok c)
    (v1 : Vsys) (hv1 : v1 ∈ p1.vsys) :
    ∃ v ∈ c.vsys, v.name = v1.name ∧ v1.rules.Sublist v.rules ∧ (∀ o ∈ v1.addresses, o ∈ v.addresses) ∧
      (∀ o ∈ v1.addressGroups, o ∈ v.addressGroups) ∧ (∀ o ∈ v1.services, o ∈ v.services) ∧
      (∀ o ∈ v1.serviceGroups, o ∈ v.serviceGroups) := by
  unfold mergeSpoc at h
  simp only [h1, if_true] at h
  generalize (if p2.hasEntry = true then p2.devName else "") = n2 at h
  generalize (if p2.hasEntry = true then p2.vsys else []) = vs2 at h
  split at h
  · cases g <;> simp only at h
    · cases h
      exact ⟨v1, hv1, rfl, List.Sublist.refl _, fun _ h => h, fun _ h => h, fun _ h => h, fun _ h => h⟩
    · cases h
  · split at h
    · cases h
    · rename_i merged hm
      split at h
      · cases h
      · cases h
        obtain ⟨v, hv, hf⟩ := mapE_ok_mem _ _ _ hm v1 hv1
        refine ⟨v, List.mem_append_left _ hv, ?_⟩
        split at hf
        · rename_i v2 _
          obtain ⟨e1, e2, e3, e4, e5, e6⟩ := mergeVsys_ok g v1 v2 v hf
          refine ⟨e1, ?_, ?_, ?_, ?_, ?_⟩
          · rw [e2]; exact (List.sublist_append_right _ _).trans (List.sublist_append_left _ _)
          · intro o ho; rw [e3]; exact List.mem_append_left _ ho
          · intro o ho; rw [e4]; exact List.mem_append_left _ ho
          · intro o ho; rw [e5]; exact List.mem_append_left _ ho
          · intro o ho; rw [e6]; exact List.mem_append_left _ ho
        · cases hf
          exact ⟨rfl, List.Sublist.refl _, fun _ h => h, fun _ h => h, fun _ h => h, fun _ h => h⟩

/-- **Nothing of the merged part is lost**, if its vsys names are pairwise different (the hypothesis
whose failure is the known finding F-C18k): every vsys of the merged part is in the result under its name
with all its rules (by name; their placement is `mergeVsys_ok`) and objects.  Both parts have a device entry
(`h1`, `h2`) and not two different non-empty device names (`hnames`). -/
theorem p_nothing_dropped_partial (g : Gen2) (p1 p2 c : Conf) (h1 : p1.hasEntry = true) (h2 : p2.hasEntry = true)
    (hnd : (p2.vsys.map (·.name)).Nodup) (h : mergeSpoc g p1 p2 = .ok c)
    (hnames : ¬ (p1.devName ≠ "" ∧ p2.devName ≠ "" ∧ p1.devName ≠ p2.devName))
    (v2 : Vsys) (hv2 : v2 ∈ p2.vsys) :
    ∃ v ∈ c.vsys, v.name = v2.name ∧ (∀ r ∈ v2.rules, r.name ∈ v.rules.map (·.name)) ∧
      (∀ o ∈ v2.addresses, o ∈ v.addresses) ∧ (∀ o ∈ v2.addressGroups, o ∈ v.addressGroups) ∧
      (∀ o ∈ v2.services, o ∈ v.services) ∧ (∀ o ∈ v2.serviceGroups, o ∈ v.serviceGroups) := by
  have rules_in : ∀ (v1 v : Vsys), mergeVsys g v1 v2 = .ok v →
      (∀ r ∈ v2.rules, r.name ∈ v.rules.map (·.name)) ∧ (∀ o ∈ v2.addresses, o ∈ v.addresses) ∧
      (∀ o ∈ v2.addressGroups, o ∈ v.addressGroups) ∧ (∀ o ∈ v2.services, o ∈ v.services) ∧
      (∀ o ∈ v2.serviceGroups, o ∈ v.serviceGroups) := by
    intro v1 v hf
    obtain ⟨_, e2, e3, e4, e5, e6⟩ := mergeVsys_ok g v1 v2 v hf
    refine ⟨fun r hr => ?_, fun o ho => by rw [e3]; exact List.mem_append_right _ ho,
      fun o ho => by rw [e4]; exact List.mem_append_right _ ho, fun o ho => by rw [e5]; exact List.mem_append_right _ ho,
      fun o ho => by rw [e6]; exact List.mem_append_right _ ho⟩
    rw [e2]
    by_cases ha : r.app = true
    · refine List.mem_map.mpr ⟨clearApp r, ?_, rfl⟩
      exact List.mem_append_right _ (List.mem_map.mpr ⟨r, List.mem_filter.mpr ⟨hr, ha⟩, rfl⟩)
    · refine List.mem_map.mpr ⟨r, ?_, rfl⟩
      exact List.mem_append_left _ (List.mem_append_left _ (List.mem_filter.mpr ⟨hr, by simpa using ha⟩))
  unfold mergeSpoc at h
  simp only [h1, h2, if_true] at h
  split at h
  · rename_i hc
    exfalso; apply hnames
    have : (¬p1.devName = "" ∧ ¬p2.devName = "") ∧ ¬p1.devName = p2.devName := by simpa using hc
    exact ⟨this.1.1, this.1.2, this.2⟩
  · split at h
    · cases h
    · rename_i merged hm
      split at h
      · cases h
      · rename_i added ha
        cases h
        by_cases hin : p1.vsys.any (fun v1 => v1.name == v2.name) = true
        · obtain ⟨v1, hv1, hv1n⟩ := List.any_eq_true.mp hin
          have hn : v1.name = v2.name := by simpa using hv1n
          obtain ⟨v, hv, hf⟩ := mapE_ok_mem _ _ _ hm v1 hv1
          rw [hn, lookupLast_of_nodup p2.vsys v2 hv2 hnd] at hf
          simp only at hf
          obtain ⟨e1, _⟩ := mergeVsys_ok g v1 v2 v hf
          exact ⟨v, List.mem_append_left _ hv, e1.trans hn, rules_in v1 v hf⟩
        · obtain ⟨v, hv, hf⟩ := mapE_ok_mem _ _ _ ha v2 (List.mem_filter.mpr ⟨hv2, by simpa using hin⟩)
          obtain ⟨e1, _⟩ := mergeVsys_ok g _ v2 v hf
          exact ⟨v, List.mem_append_right _ hv, e1, rules_in _ v hf⟩

/-- Without that hypothesis, F-C18k (known): of two vsys entries with one name only the last is merged. -/
theorem p_duplicate_vsys_counterexample :
    ∃ (p1 p2 c : Conf) (r : Rule), (mergeSpoc .new p1 p2).toOption = some c ∧ r ∈ p2.vsys.flatMap (·.rules) ∧
      r.name ∉ (c.vsys.flatMap (·.rules)).map (·.name) :=
  ⟨{ hasEntry := true, devName := "dev1", vsys := [{ name := "vsys1", rules := [{ name := "x1" }] }] },
   { hasEntry := true, devName := "dev1", vsys := [{ name := "vsys1", rules := [{ name := "raw1" }] }, { name := "vsys1", rules := [{ name := "raw2" }] }] },
   { hasEntry := true, devName := "dev1", vsys := [{ name := "vsys1", rules := [{ name := "raw2" }, { name := "x1" }] }] },
   { name := "raw1" }, by decide +kernel⟩

end P

namespace L

/-- **Unknown / unsupported line ⇒ error.** -/
theorem l_unknown_line_is_error (g : Gen2) (lines : List Line) (h : Line.other ∈ lines) :
    ∃ e, parseLines g lines = .error e :=
  parseLines_eq g lines ▸ foldlM_error_of_mem _ _ (fun _ => ⟨.unknownCmd, rfl⟩) _ _ h

/-- **A table written twice ⇒ error** (repaired parser). -/
theorem l_duplicate_table_is_error (l1 l2 l3 : List Line) (n : String) :
    ∃ e, parseLines .new (l1 ++ .table n :: (l2 ++ .table n :: l3)) = .error e :=
  parseLines_eq .new _ ▸ dup_table_error l1 l2 l3 n {}

/-- **A chain written twice inside one table ⇒ error** (repaired parser). -/
theorem l_duplicate_chain_is_error (l1 l2 l3 : List Line) (n p p' : String) (hl2 : ∀ x ∈ l2, x.isTable = false) :
    ∃ e, parseLines .new (l1 ++ .chain n p :: (l2 ++ .chain n p' :: l3)) = .error e :=
  parseLines_eq .new _ ▸ dup_chain_error l1 l2 l3 n p p' {} hl2

/-- Code as found, F-C18m: the rule in front of the second `*filter` is gone, no error. -/
theorem l_old_duplicate_table_counterexample :
    ∃ lines st, parseLines .old lines = .ok st ∧ Line.rule "INPUT" "-A INPUT -s 10.1.0.1 -j ACCEPT" "ACCEPT" ∈ lines ∧
      ∀ c ∈ st.chains, ∀ r ∈ c.rules, r.text ≠ "-A INPUT -s 10.1.0.1 -j ACCEPT" :=
  ⟨[.table "filter", .chain "INPUT" "DROP", .rule "INPUT" "-A INPUT -s 10.1.0.1 -j ACCEPT" "ACCEPT",
    .table "filter", .chain "INPUT" "DROP", .rule "INPUT" "-A INPUT -s 10.1.0.2 -j ACCEPT" "ACCEPT"],
   _, rfl, by decide +kernel, by decide +kernel⟩

/-- **Scope of `[APPEND]`**: after any accepted prefix of a file the mark is set iff an `[APPEND]` line
stands behind the last `*TABLE` line — COMMIT lines play no role. -/
theorem l_append_mark_scope (g : Gen2) (pre : List Line) (st : PSt) (h : parseLines g pre = .ok st) :
    st.app = true ↔ ∃ u w, pre = u ++ .append :: w ∧ ∀ x ∈ w, x.isTable = false := by
  simpa using app_flag_spec g pre {} st (parseLines_eq g pre ▸ h)

/-- **Placement in a builtin chain** (the four laws): non-APPEND raw rules, Netspoc's rules up to the last
non-DROP rule, APPEND raw rules, Netspoc's trailing DROP rules. -/
theorem l_rules_placed (a b : List Rule) :
    G.PlacedL ruleKind isDropK (b.filter (fun r => !r.app)) a (b.filter (fun r => r.app)) (mergeRules a b) :=
  mergeRules_placed a b

/-- **User chain that Netspoc also defines ⇒ error.** -/
theorem l_redefine_user_chain_is_error (a0 : List String) (acc : Conf) (cb ca : Chain) (ht : a0.contains cb.table = true)
    (hf : acc.chains.find? (sameChain cb.table cb.name) = some ca) (hp : ca.policy = "-" ∨ ca.policy = "") :
    chainStep a0 acc cb = .error (.redefChain cb.table cb.name) := by
  unfold chainStep
  have hm : cb.table ∈ a0 := by simpa using ht
  rcases hp with hp | hp <;> simp [hm, hf, hp]

/-- **Outcome-type theorem for the linux merge**: `MergeSpoc` ends in an error, or every rule of every
chain of both parts is stored in the chain of that table and name. -/
theorem l_merge_nothing_dropped (a b : Conf) :
    (∃ e, mergeConf a b = .error e) ∨
    ∃ c, mergeConf a b = .ok c ∧
      (∀ ca ∈ a.chains, ∀ r ∈ ca.rules, Has c.chains ca.table ca.name r) ∧
      (∀ cb ∈ b.chains, ∀ r ∈ cb.rules, Has c.chains cb.table cb.name r) := by
  cases h : mergeConf a b with
  | error e => exact Or.inl ⟨e, rfl⟩
  | ok c =>
    right
    refine ⟨c, rfl, ?_⟩
    · unfold mergeConf at h
      rw [foldX_eq_foldlM] at h
      obtain ⟨k1, k2⟩ := fold_keeps a.tables _ _ _ h
      exact ⟨fun ca hca r hr => k1 _ _ r ⟨ca, hca, rfl, rfl, hr⟩,
        fun cb hcb r hr => k2 cb ((mem_sortChains cb b.chains).mpr hcb) r hr⟩

end L

/-! Non-vacuity -/
example : N.rulesOf (N.mergeSpoc { policies := [⟨"v1", ["r1"]⟩] } { policies := [⟨"v2", ["x"]⟩, ⟨"v1", ["raw1"]⟩, ⟨"v2", ["y"]⟩] }).policies "v2"
    = ["x", "y"] := by decide +kernel
example : (N.checkRaw { groups := ["my-group"] }).isSome = true := by decide +kernel
example : N.checkRaw { policies := [⟨"Netspoc-v1", ["raw1"]⟩], groups := ["Netspoc-raw-g"], services := ["Netspoc-raw-s"] } = none := by decide +kernel
example : (P.mergeSpoc .new { hasEntry := true, devName := "d", vsys := [{ name := "vsys1", rules := [⟨"x1", false⟩] }] }
    { hasEntry := true, devName := "", vsys := [{ name := "vsys1", rules := [⟨"a", true⟩, ⟨"b", false⟩] }] }).toOption.map
      (fun c => c.vsys.map (fun v => v.rules.map (·.name))) = some [["b", "x1", "a"]] := by decide +kernel
example : (L.parseLines .new [.table "filter", .chain "INPUT" "DROP", .append, .rule "INPUT" "x" "DROP", .table "mangle",
    .chain "INPUT" "DROP", .rule "INPUT" "y" "DROP"]).toOption.map (fun st => st.chains.map (fun c => c.rules.map (·.app)))
    = some [[true], [false]] := by decide +kernel
example : (L.mergeConf { tables := ["filter"], chains := [⟨"filter", "INPUT", "DROP", [⟨"n1", "ACCEPT", false⟩, ⟨"n2", "DROP", false⟩]⟩] }
    { tables := ["filter"], chains := [⟨"filter", "INPUT", "DROP", [⟨"p", "DROP", false⟩, ⟨"a", "DROP", true⟩]⟩] }).toOption.map
      (fun c => c.chains.map (fun ch => ch.rules.map (·.text))) = some [["p", "n1", "a", "n2"]] := by decide +kernel

end NA.C18

namespace NA.C18.Other

def obligations : List Lean.Name := [
  ``NA.C18.N.n_rules_exactly_once, ``NA.C18.N.n_rules_order, ``NA.C18.N.n_policy_ids_kept, ``NA.C18.N.n_unmergeable_is_error, ``NA.C18.N.n_raw_entry_merged_or_error,
  ``NA.C18.P.p_device_name_mismatch_is_error, ``NA.C18.P.p_old_device_name_counterexample, ``NA.C18.P.p_object_clash_is_error,
  ``NA.C18.P.p_old_object_clash_counterexample, ``NA.C18.P.p_reserved_rule_name_is_error, ``NA.C18.P.p_netspoc_kept, ``NA.C18.P.p_nothing_dropped_partial,
  ``NA.C18.P.p_duplicate_vsys_counterexample,
  ``NA.C18.L.l_unknown_line_is_error, ``NA.C18.L.l_duplicate_table_is_error, ``NA.C18.L.l_duplicate_chain_is_error, ``NA.C18.L.l_old_duplicate_table_counterexample,
  ``NA.C18.L.l_append_mark_scope, ``NA.C18.L.l_rules_placed, ``NA.C18.L.l_redefine_user_chain_is_error, ``NA.C18.L.l_merge_nothing_dropped]

end NA.C18.Other
