import NA.Proofs.C11
import NA.Proofs.C06Gate
import NA.Gen.CallGraph
import NA.Props.C06Tie
/-!
# C11 — compare never changes the device

Four layers, all re-checked against the source on every run: (1) the call graph (`NA.Gen.CallGraph`, regenerated by
`callgraph -algo=vta` over the whole programs drc and do-approve, contracted to module nodes): nothing that changes or
saves the configuration is reachable from the compare roots — a kernel-evaluated closedness certificate, lifted by
`closed_sound`; (2) the send sites reachable from those roots send harmless literals, and non-literal values are
accounted for by type in `NA/Props/C11Writers.lean`; (3) the session model: for every backend and every device behaviour
the trace of a compare run is read-only, and the front ends take that path exactly for the compare flag / word; (4) the
same over the session model of C09 with arbitrary device answers: `NA/Props/C11Sess.lean`.
-/
namespace NA.C11
open NA.Gate NA.Gate.Spec NA.Gen

theorem graph_closed : closed CallGraph.graph CallGraph.n = true := by decide +kernel

theorem roots_inside : (CallGraph.roots ++ CallGraph.runRoots).all (fun r => decide (r.1 < CallGraph.n)) = true := by
  decide +kernel

theorem targets_outside : CallGraph.targets.all (fun t => decide (CallGraph.n ≤ t.1)) = true := by decide +kernel

/-- The roots are the two compare entry points, the ApplyCommands implementations are the five
backends' — by name, so that a renamed or vanished node cannot make the theorem vacuous.  The
*run roots* — whatever else the body of `device.ApproveOrCompare` calls in a compare run, i.e.
every callee but `(*state).approve` — contain the `CloseConnection` of all five backends, and
`approve` is not among them. -/
theorem roots_and_targets_named :
    CallGraph.roots.map (·.2) = ["(*device.state).compare", "device.CompareFiles$1"] ∧
    ["(*asa.State).CloseConnection", "(*ios.State).CloseConnection", "(*linux.State).CloseConnection",
     "(*nsx.State).CloseConnection", "(*panos.State).CloseConnection"].all
       (fun c => (CallGraph.runRoots.map (·.2)).contains c) = true ∧
    CallGraph.runRoots.all (fun r => r.2 != "(*device.state).approve" && !CallGraph.targets.contains r) = true ∧
    CallGraph.applyImpls.map (·.2) =
      ["(*asa.State).ApplyCommands", "(*ios.State).ApplyCommands", "(*linux.State).ApplyCommands",
       "(*nsx.State).ApplyCommands", "(*panos.State).ApplyCommands"] ∧
    CallGraph.applyImpls.all (fun a => CallGraph.targets.contains a) = true ∧
    CallGraph.targets.any (fun t => t.2 == "(*device.state).applyCommands") = true ∧
    CallGraph.targets.any (fun t => t.2 == "(*ios.State).writeMem") = true := by
  decide +kernel

/-- **No function that changes or saves the device configuration is reachable from compare** —
nor from anything else the body of `ApproveOrCompare` calls in a compare run (`CloseConnection`
of every backend, set-up, `Abort`). -/
theorem compare_cannot_reach_apply :
    ∀ r ∈ CallGraph.roots ++ CallGraph.runRoots, ∀ t ∈ CallGraph.targets, ¬ Reach CallGraph.graph r.1 t.1 := by
  intro r hr t ht
  apply unreachable_of_closed _ _ graph_closed
  · exact of_decide_eq_true (List.all_eq_true.mp roots_inside r hr)
  · exact of_decide_eq_true (List.all_eq_true.mp targets_outside t ht)

/-- Positive control: from `(*state).approve` an ApplyCommands implementation IS reachable — the
emitted path consists of edges of the graph (`path_reach` turns it into `Reach`), starts at
approve and ends at an ApplyCommands implementation that is among the targets. -/
theorem approve_reaches_apply :
    isPath CallGraph.graph (CallGraph.approvePath.map (·.1)) = true ∧
    CallGraph.approvePath.head?.map (·.2) = some "(*device.state).approve" ∧
    CallGraph.approvePath.getLast?.map (·.2) = some "(*asa.State).ApplyCommands" ∧
    (CallGraph.approvePath.getLast?.map fun t => CallGraph.targets.contains t) = some true := by
  decide +kernel

def literalAllowed (pkg prim arg : String) : Bool :=
  match pkg with
  | "asa" => harmless .asa (.lit arg)
  | "ios" => harmless .ios (.lit arg)
  | "cisco" => harmless .asa (.lit arg) && harmless .ios (.lit arg)
  | "linux" => harmless .linux (.lit arg)
  | "panos" => harmless .panos (.lit arg)
  | "nsx" => prim == "sendRequest" && arg == "GET"
  | "console" => arg == "exit\n"
  | _ => false

/-- A literal is judged here.  A non-literal argument (a parameter handed on, the password, an
assembled request) is judged by layer 2b (`NA.C11W.writers_by_type_readonly`: what the value is made
of, found by type); here it is only required that layer 2b has rows for that function — the name of
the local variable or parameter that holds the value is no part of any fact. -/
def siteAllowed (s : Nat × String × String × String × Bool × String) : Bool :=
  let (node, _, pkg, prim, isLit, arg) := s
  if isLit then literalAllowed pkg prim arg else CallGraph.writerSites.any fun w => w.node == node

/-- **Every send site reachable from compare sends a read-only literal** (or a non-literal value,
in a function for which layer 2b has rows). -/
theorem load_sends_only_readonly :
    CallGraph.sendSites.all (fun s => !(decide (s.1 < CallGraph.n)) || siteAllowed s) = true := by
  decide +kernel

/-- The only place on the compare path where the constant `configure terminal` can reach the
console is in package `asa` (in `setTerminal`; the ASA skeleton `NA.C09.skel_asa_setTerminal` pins
the function and what stands between `configure terminal` and `end`).  Stated over the writer
sites found by type, so that it does not depend on what the wrappers of `pkg/console` are called. -/
theorem only_config_block_is_asa_setTerminal :
    ((CallGraph.writerSites.filter fun s =>
      decide (s.node < CallGraph.n) && s.kind == "lit" && s.text == "configure terminal").map (·.pkg)).eraseDups =
      ["asa"] := by
  decide +kernel

theorem safe_warnU (b : Backend) : safe b .warnU = true := rfl

/-- **A compare run never sends a configuration-changing request, a save or a commit** — every
backend, every device behaviour (any reply or fault at any point of the dialogue), every
configuration (marker present, absent, not configured; any name list), every pending plan. -/
theorem compare_trace_readonly (b : Backend) (env : Env) (h : env.cfg.isCompare = true) :
    NoChange b (runMain b env).trace := by
  rw [runMain_compare b env h]
  apply closeStep_noChange
  unfold compareP
  rw [compareWith_exec]
  obtain ⟨h1, h2⟩ := safe_load b env.cfg
  exact exec_noChange env b .warnU (safe_warnU b) _
    (exec_noChange env b _ h2 _ (exec_noChange env b _ h1 _ (noChange_nil b)))

/-- `drc -C FILE` (or `--compare`) and `do-approve compare DEVICE` are `runMain` with
`isCompare = true`; two file arguments never talk to a device at all. -/
theorem flag_selects_path (b : Backend) (cfg : Cfg) (flags : List String) (dev : Dev) (plan : List String) :
    (drcIsCompare flags = true →
      runDrc b cfg dev plan flags 1 = runMain b ⟨{ cfg with isCompare := true }, dev, plan⟩) ∧
    runDoApprove b cfg dev plan "compare" = runMain b ⟨{ cfg with isCompare := true }, dev, plan⟩ ∧
    (runDrc b cfg dev plan flags 2).trace = [] := by
  refine ⟨?_, ?_, ?_⟩
  · intro h; simp [runDrc, h]
  · simp [runDoApprove, doApproveCases, doApproveCompareWord]
  · simp [runDrc, run, compareFilesP, exec]

/-- … and therefore change nothing. -/
theorem compare_flag_readonly (b : Backend) (cfg : Cfg) (flags : List String) (dev : Dev)
    (plan : List String) :
    (drcIsCompare flags = true → NoChange b (runDrc b cfg dev plan flags 1).trace) ∧
    NoChange b (runDoApprove b cfg dev plan "compare").trace := by
  obtain ⟨h1, h2, _⟩ := flag_selects_path b cfg flags dev plan
  refine ⟨?_, ?_⟩
  · intro h; rw [h1 h]; exact compare_trace_readonly b _ rfl
  · rw [h2]; exact compare_trace_readonly b _ rfl

/-- **The action word of do-approve is matched exactly**: every word other than `compare` and
`approve` (abbreviations, other case, the empty word) ends as a usage error — nothing is sent to
any device, exit status 1. -/
theorem doapprove_dispatch_exact (b : Backend) (cfg : Cfg) (dev : Dev) (plan : List String)
    (action : String) (h1 : action ≠ "compare") (h2 : action ≠ "approve") :
    runDoApprove b cfg dev plan action = usageSt ∧ usageSt.trace = [] ∧ usageSt.exit = 1 := by
  refine ⟨?_, rfl, rfl⟩
  simp [runDoApprove, doApproveCases, List.lookup, beq_eq_false_iff_ne.mpr h1, beq_eq_false_iff_ne.mpr h2]

/-- **A do-approve run that logs as compare is a compare**: the case of the switch that names the
log file `.compare` is taken exactly for the word `isCompare` tests for, so whatever is logged as
a compare run changes nothing. -/
theorem doapprove_logged_compare_readonly (b : Backend) (cfg : Cfg) (dev : Dev) (plan : List String)
    (action : String) (h : doApproveCases.lookup action = some ".compare") :
    NoChange b (runDoApprove b cfg dev plan action).trace := by
  obtain rfl : action = "compare" := by simpa [doApproveCases] using NA.ListFacts.mem_of_lookup h
  exact (compare_flag_readonly b cfg [] dev plan).2

/-- Non-vacuity: a device with pending changes and a missing marker; compare warns, retrieves the
configuration, exits 0. -/
example :
    let env : Env := { cfg := { isCompare := true, banner := some (Rx.ofWord "NetSPoC".toList) },
                       dev := fun _ o => match o with
                         | .wait => .text "password: " | .pass => .text "\r\nrouter# "
                         | .lit "show hostname" => .text "router\n" | _ => .text "",
                       plan := ["route inside 10.0.0.0 255.0.0.0 10.1.2.3"] }
    (runMain .asa env).exit = 0 ∧ (runMain .asa env).warnings ≠ [] ∧
      .lit "write term" ∈ (runMain .asa env).trace := by
  decide +kernel

/-! The programs `compare_trace_readonly` talks about (compare ends after showing the changes;
LoadDevice of every backend; CompareFiles is a wrapper around HandleAbort) have the skeleton
regenerated from the Go source on every run, and the front ends' dispatch (`-C` / `--compare`;
`isCompare := action == "compare"`) is the regenerated one: these are C06's own theorems
`NA.C06Tie.skeleton_matches` and `NA.C06Tie.front_ends_match` over the shared model — listed in
`obligations` below by reference, not restated, so that this check follows whatever normal form
`translate/gateskel` and `NA/Model/GateProgs.lean` agree on. -/

/-- Non-vacuity for the unbounded loops: an NSX manager that lists three policies (two of them
Netspoc's) and pages its services (cursor `c1`, then the last page): compare follows the cursor
and fetches the two policies — GET requests only — and ends normally; with a manager that never
ends the paging the run is `unfinished` (bound 5, seven requests). -/
def nsxPagingDev : Dev := fun hist o =>
  match o with
  | .lit "GET /policy/api/v1/infra/domains/default/gateway-policies" =>
    .page ["Netspoc-v1", "foreign", "Netspoc-v2"] ""
  | .litArg "GET /policy/api/v1/infra/services?cursor=" "" => .page ["Netspoc-tcp_80"] "c1"
  | .litArg "GET /policy/api/v1/infra/services?cursor=" "c1" => .page ["Netspoc-tcp_81"] ""
  | .litArg "GET /policy/api/v1/infra/domains/default/groups?cursor=" _ =>
    if hist.length > 1000 then .page [] "" else .page [] ""
  | _ => .text ""

example :
    let env : Env := { cfg := { isCompare := true }, dev := nsxPagingDev, plan := ["PUT /x"] }
    (runMain .nsx env).exit = 0 ∧
    (runMain .nsx env).trace = [
      .lit "POST /api/session/create",
      .lit "GET /policy/api/v1/infra/domains/default/gateway-policies",
      .litArg "GET /policy/api/v1/infra/domains/default/gateway-policies/" "Netspoc-v1",
      .litArg "GET /policy/api/v1/infra/domains/default/gateway-policies/" "Netspoc-v2",
      .litArg "GET /policy/api/v1/infra/services?cursor=" "",
      .litArg "GET /policy/api/v1/infra/services?cursor=" "c1",
      .litArg "GET /policy/api/v1/infra/domains/default/groups?cursor=" ""] := by
  decide +kernel

example :
    let env : Env := { cfg := { isCompare := true, fuel := 5 },
                       dev := fun _ o => match o with
                         | .lit "GET /policy/api/v1/infra/domains/default/gateway-policies" => .page [] ""
                         | .litArg _ _ => .page [] "again"
                         | _ => .text "",
                       plan := [] }
    (runMain .nsx env).status = .unfinished ∧ (runMain .nsx env).trace.length = 7 := by
  decide +kernel

def obligations : List Lean.Name := [
  ``NA.C06Tie.skeleton_matches, ``NA.C06Tie.front_ends_match,
  ``graph_closed, ``roots_and_targets_named, ``compare_cannot_reach_apply, ``approve_reaches_apply,
  ``load_sends_only_readonly, ``only_config_block_is_asa_setTerminal,
  ``compare_trace_readonly, ``flag_selects_path, ``compare_flag_readonly,
  ``doapprove_dispatch_exact, ``doapprove_logged_compare_readonly, ``closed_sound]

end NA.C11
