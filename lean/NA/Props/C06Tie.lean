import NA.Model.GateProgs
import NA.Model.GateConfig
import NA.Gen.GateSkel
import NA.Proofs.C06Text
/-!
# C06 — the tie of the gate model to the Go source (regenerated on every run)

Kept apart from `NA.Props.C06` so that a change of the source re-checks exactly these facts.
The printed form of every guard of the model (`Pred.show`: strings.HasSuffix / Contains /
TrimSuffix / TrimSpace / `!=` / `len(x) == 0` / the checkbanner regexp test) is part of the
skeleton, so the *meaning* the model gives to a guard is determined by the source text it must
print to.
-/
namespace NA.C06Tie
open NA.Gate

/-- Every function of the model has exactly the skeleton that `translate/gateskel` extracts from
the Go source on every run: order of the calls in approve/compare, the gate before applyCommands, every
request with its literal argument, every guard with its condition text, every Abort. -/
theorem skeleton_matches :
    modelSkeletons.all (fun e => NA.Gen.GateSkel.functions.lookup e.1 == some e.2) = true := by
  -- the long prompt and request literals that the programs quote are quoted by rewriting (`goQuote_ofList`:
  -- evaluating `goQuote` on them is what is slow to check); everything else is evaluated
  simp -index only [modelSkeletons, ciscoLoginEnable, ciscoLoginPre, wpBody, ciscoStdPrompt, linuxLoginEnable,
    linuxPassPrompt, linuxStdPrompt, panCheckHA, panHa, outText, panLoadDevice, panLoadSuffix, panConf, nsxLoadDevice,
    nsxPoliciesPath, nsxServicesPath, nsxGroupsPath, ← String.ofList_append, goQuote_ofList]
  decide +kernel

/-- drc: `-C` is the only source of `isCompare`, which is the first argument of
ApproveOrCompare; two arguments go to CompareFiles.  do-approve: `isCompare := action == "compare"`. -/
theorem front_ends_match :
    frontEndFacts.all (fun e =>
      (NA.Gen.GateSkel.functions.lookup e.1).map (fun l => l.filter isFrontEndItem) == some e.2) = true := by
  unfold isFrontEndItem
  simp only [hasPrefix_eq_bytes]
  decide +kernel

/-- Which field each `GetErrUnmanaged` of the module returns — the model's `consults`. -/
theorem gate_impls :
    NA.Gen.GateSkel.gateImpls =
      [("cisco.(*State).GetErrUnmanaged", "recv.errUnmanaged"), ("linux.(*State).GetErrUnmanaged", "nil"),
       ("nsx.(*State).GetErrUnmanaged", "nil"), ("panos.(*State).GetErrUnmanaged", "recv.errUnmanaged")] :=
  rfl

/-- `errUnmanaged` is written at exactly the three places the model has a `record` node. -/
theorem errUnmanaged_writes :
    NA.Gen.GateSkel.errUnmanagedWrites.map (·.1) =
      ["cisco.(*State).checkBanner", "linux.(*State).checkBanner", "panos.(*State).checkUnmanaged"] :=
  rfl

/-- `program.LoadConfig`: its skeleton, with the dispatch of `insert` computed from the tables of
the model (`Config.multiKeys`: keys that may have several values — `checkbanner` is not among
them; `Config.singleKeys`: `checkbanner` is the key compiled with `regexp.Compile(val)`), the
"exactly one value" check between the two switches, `strings.Fields`, the `words[1] != "="` and
duplicate-key guards. -/
theorem loadConfig_matches :
    NA.Gen.GateSkel.functions.lookup "program.LoadConfig" = some Config.loadConfigSkel := by
  decide +kernel

def obligations : List Lean.Name := [
  ``skeleton_matches, ``front_ends_match, ``gate_impls, ``errUnmanaged_writes, ``loadConfig_matches]

end NA.C06Tie
