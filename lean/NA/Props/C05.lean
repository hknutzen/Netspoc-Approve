import NA.Spec.LinuxNeg
import NA.Proofs.C05RuleOK
import NA.Proofs.C05Restore
import NA.Proofs.C05Whole
import NA.Proofs.C05Device
import NA.Proofs.C05ResumeAll
/-!
# C05 — Linux approve converges for static routes and iptables

The property theorems, their concrete witnesses and examples, and the list `obligations` (which also names `opt_roundtrip` of
`C05Option` and `parsePairs_words`, `getA_normalize` of `C05Norm`).  Model of the code: `NA/Model/Linux.lean` (`diffRoutes`, `parsePairs`,
`normalize`, `diffIPTables`, `getIPTablesConfig`); device semantics and `iptables-save` spelling:
`NA/Spec/Linux.lean`.  All statements are over arbitrary route lists, rule sets and grammar rules.

False of the unchanged code, with witness and complement:
* `linux_routes_converge` — false of the unchanged code when the target names one route twice (F-C05d;
  `linux_routes_converge_unrepaired_counterexample` is about the loop without the repair); proved for
  every target of the repaired code.
* `iptables_replace_converges` — false when the device has a table the target lacks
  (`iptables_replace_converges_counterexample`, F-C05t); what holds for every device (the target's tables
  exactly, every other table untouched): `…_partial`.
* `kernel_roundtrip` — false when an option key repeats (`kernel_roundtrip_counterexample`, F-C05m);
  proved for the grammar under `RuleOK`: `kernel_roundtrip_partial`.  (The unchanged code also failed on an
  un-negated `--syn`, F-C05s; the repaired code is covered by `opt_roundtrip`, see the example.)
* `iptables_diff_iff` — false for a table with the empty name (`iptables_diff_iff_counterexample`);
  proved when no name is empty: `iptables_diff_iff_partial`.
* `kernel_roundtrip` is also false for a MARK with a non-default mask (`kernel_roundtrip_mask_counterexample`,
  F-C05k); such options are outside `AOpt.wf`.
* `normalize_idempotent` for arbitrary maps — false (`normalize_idempotent_counterexample`); proved on
  stable maps (`normalize_idempotent_partial`) and, hypothesis discharged from `RuleOK`, for every rule of
  the class (`normalize_stable_of_ruleOK`, `normalize_idempotent`).
* `normalize_sound` for arbitrary maps — false for a repeated option key (`normalize_sound_counterexample`); what
  equal normal forms do imply: `normalize_sound_partial`; for rules inside `RuleOK`: `normalize_sound`.
-/
namespace NA.C05
open NA.Linux NA.Linux.Spec

/-- The script of `diffRoutes`, executed line by line (a joined `del \N add` is one step) on the
strict kernel table that holds the device's routes (a set: no duplicates), succeeds and ends in
exactly the target's routes — for every target, also one that names a route several times (since
the repair of F-C05d). -/
theorem linux_routes_converge (a b : List Route) (ha : (keys a).Nodup) :
    ∃ t, execScript (keys a) ((diffRoutes a b).map cmdsOf) = some t ∧ t.Nodup ∧ ∀ k, k ∈ t ↔ k ∈ keys b :=
  diffRoutes_converge a b ha

/-- The loop without the repair (`diffRoutesCore` on the sorted target, as the unchanged code
did) fails when the target names a route twice: it adds a route that exists. -/
theorem linux_routes_converge_unrepaired_counterexample :
    ∃ a b : List Route, (keys a).Nodup ∧
      execScript (keys a) ((diffRoutesCore a (sortRoutes b)).map cmdsOf) = none :=
  ⟨[⟨s "10.1.1.0", 24, s "10.9.1.1", s "ip route add 10.1.1.0/24 via 10.9.1.1"⟩],
   [⟨s "10.1.1.0", 24, s "10.9.1.1", s "ip route add 10.1.1.0/24 via 10.9.1.1"⟩,
    ⟨s "10.1.1.0", 24, s "10.9.1.1", s "ip route add 10.1.1.0/24 via 10.9.1.1"⟩], by decide_lit [s_ofList]⟩

/-- If device and target have at most one next hop per destination, so has every state between
two script lines. -/
theorem linux_routes_one_hop_per_dst (a b : List Route) (ha : (keys a).Nodup)
    (h1 : OneHop a) (h2 : OneHop b) :
    ∃ tr, execTrace (keys a) ((diffRoutes a b).map cmdsOf) = some tr ∧ ∀ t ∈ tr, oneHopPerDst t := by
  obtain ⟨tr, h, _, _, hst⟩ := diffRoutes_ok a b ha
  refine ⟨tr, h, ?_⟩
  intro t ht
  obtain ⟨am, P, st⟩ := hst t ht
  exact st.oneHop h1 h2

/-- Every destination that has a route before and after has one after every script line (joined
lines are atomic).  Linux share of C14 (`props/C14.json`). -/
theorem routes_covered_linux (a b : List Route) (ha : (keys a).Nodup) :
    ∃ tr, execTrace (keys a) ((diffRoutes a b).map cmdsOf) = some tr ∧
      ∀ t ∈ tr, ∀ d, covered (keys a) d = true → covered (keys b) d = true → covered t d = true := by
  obtain ⟨tr, h, _, _, hst⟩ := diffRoutes_ok a b ha
  refine ⟨tr, h, ?_⟩
  intro t ht d hda hdb
  obtain ⟨am, P, st⟩ := hst t ht
  exact st.covers d hda hdb

/-- **Addresses stay routed (C14, address level).**  For ANY relation "destination `d` covers address
`x`" (prefix match in particular): an address that some route of the device covers and some route of
the target covers is covered by some route after every script line — new routes are added before old
ones are deleted, and a replaced route leaves in the same packet in which its successor arrives. -/
theorem linux_addresses_stay_routed {α : Type} (cov : Str × Int → α → Bool) (a b : List Route) (ha : (keys a).Nodup) :
    ∃ tr, execTrace (keys a) ((diffRoutes a b).map cmdsOf) = some tr ∧
      ∀ t ∈ tr, ∀ x, (∃ ka, ka ∈ keys a ∧ cov (dstOf ka) x = true) → (∃ kb, kb ∈ keys b ∧ cov (dstOf kb) x = true) →
        ∃ k, k ∈ t ∧ cov (dstOf k) x = true := by
  obtain ⟨tr, h, _, _, hst⟩ := diffRoutes_ok a b ha
  refine ⟨tr, h, ?_⟩
  intro t ht x hxa hxb
  obtain ⟨am, P, st⟩ := hst t ht
  exact st.coversAddr cov x hxa hxb

/-- … instantiated with the prefix match of the specification (`coversAddr`, `routedAddr`): what the
step-safety oracle of C14 tests. -/
theorem linux_addresses_stay_routed_prefix (a b : List Route) (ha : (keys a).Nodup) :
    ∃ tr, execTrace (keys a) ((diffRoutes a b).map cmdsOf) = some tr ∧
      ∀ t ∈ tr, ∀ x : Nat, routedAddr (keys a) x = true → routedAddr (keys b) x = true → routedAddr t x = true := by
  obtain ⟨tr, h, hall⟩ := linux_addresses_stay_routed coversAddr a b ha
  refine ⟨tr, h, ?_⟩
  intro t ht x hxa hxb
  simp only [routedAddr, List.any_eq_true] at hxa hxb ⊢
  exact hall t ht x hxa hxb

example : routedAddr [(s "10.1.0.0", 16, s "10.10.1.1")] 167839495 = true ∧
    routedAddr [(s "10.1.0.0", 24, s "10.10.1.1")] 167839495 = false := by decide_lit [s_ofList]

/-- With one next hop per destination on both sides the script also runs on the kernel that refuses
a second route to a destination (`RTNETLINK answers: File exists`), and converges. -/
theorem linux_routes_kernel_strict (a b : List Route) (ha : (keys a).Nodup)
    (h1 : OneHop a) (h2 : OneHop b) :
    ∃ t, execScriptK (keys a) ((diffRoutes a b).map cmdsOf) = some t ∧ ∀ k, k ∈ t ↔ k ∈ keys b := by
  obtain ⟨tr, h, _, h3, hst⟩ := diffRoutes_ok a b ha
  refine ⟨_, scriptK_of_trace _ _ tr h ?_, h3⟩
  intro t ht
  obtain ⟨am, P, st⟩ := hst t ht
  exact st.oneHop h1 h2

/-- **Interrupted approve (C10 for Linux routes).**  Stop the script after ANY number `k` of lines
(a line is one packet: a joined `del \N add` is never split).  The kernel table is then still a set
`t`, and planning again from any reading `a'` of that table (any order of the lines the device
prints) and executing that plan ends in exactly the target's routes. -/
theorem linux_routes_resume (a b : List Route) (ha : (keys a).Nodup) (k : Nat) :
    ∃ t, execScript (keys a) (((diffRoutes a b).take k).map cmdsOf) = some t ∧ t.Nodup ∧
      ∀ a' : List Route, (keys a').Nodup → (∀ x, x ∈ keys a' ↔ x ∈ t) →
        ∃ t', execScript (keys a') ((diffRoutes a' b).map cmdsOf) = some t' ∧ t'.Nodup ∧ ∀ x, x ∈ t' ↔ x ∈ keys b := by
  obtain ⟨t0, h0, _, _⟩ := linux_routes_converge a b ha
  obtain ⟨u, hu, hun⟩ := execScript_take _ _ _ h0 ha k
  exact ⟨u, List.map_take ▸ hu, hun, fun a' ha' _ => linux_routes_converge a' b ha'⟩

/-- The same when the session dies INSIDE a packet: after any prefix of the single commands (the
`del` of a joined line executed, its `add` not) the table is still a set, so planning again from it
converges (`linux_routes_converge` asks nothing else of the device). -/
theorem linux_routes_resume_cmds (a b : List Route) (ha : (keys a).Nodup) (k : Nat) :
    ∃ t, execLine (keys a) ((((diffRoutes a b).map cmdsOf).flatten).take k) = some t ∧ t.Nodup ∧
      ∀ a' : List Route, keys a' = t →
        ∃ t', execScript (keys a') ((diffRoutes a' b).map cmdsOf) = some t' ∧ t'.Nodup ∧ ∀ x, x ∈ t' ↔ x ∈ keys b := by
  obtain ⟨t0, h0, _, _⟩ := linux_routes_converge a b ha
  rw [execScript_flatten] at h0
  obtain ⟨u, hu, hun⟩ := execLine_take _ _ _ h0 ha k
  exact ⟨u, hu, hun, fun a' e => linux_routes_converge a' b (e ▸ hun)⟩

/-- `parseRoute` reads the line `ip route show` prints for a static route (`routeShow`: host routes
without `/32`, `default` for 0.0.0.0/0, optional `dev IF`) back to exactly that route — for all
dotted-decimal addresses and next hops, every prefix length 0…32 and every interface name. -/
theorem route_show_roundtrip (ip hop : Str) (n : Nat) (dev : Option Str) (hip : ipTok ip = true)
    (hhop : ipTok hop = true) (hn : n ≤ 32) (hdev : ∀ d, dev = some d → Tok d) :
    ∃ r : Route, parseRoute (s "ip route add " ++ routeShow (ip, Int.ofNat n, hop) dev) = .ok (some r) ∧
      r.key = (ip, Int.ofNat n, hop) :=
  parseRoute_routeShow ip hop n dev hip hhop (by omega) hdev

example : ipTok (s "10.1.11.0") = true ∧ ipTok (s "10.10.1.6") = true ∧ Tok (s "bond0.12") := by decide_lit [s_ofList]

/-- `diffIPTables` reports nothing iff both rule sets have the same tables, in each the same
chains, for each chain the same policy and, rule by rule in order, the same option map — for rule
sets in which no table, chain or option is named by the empty string. -/
theorem iptables_diff_iff_partial (a b : Tables) (ha : NETables a) (hb : NETables b) :
    diffIPTables a b = .same ↔ TablesEq a b :=
  diffIPTables_same a b ha hb

/-- Without that hypothesis it is false: the code tests the comma-joined extra names for emptiness,
so a table with the empty name (a line `*`) that only one side has goes unnoticed. -/
theorem iptables_diff_iff_counterexample :
    ∃ a b : Tables, diffIPTables a b = .same ∧ ¬ TablesEq a b :=
  ⟨[([], [])], [], by decide_lit [s_ofList], fun h => by have := h []; simp [getA] at this⟩

/-- Whatever the device holds, loading the file of `getIPTablesConfig` gives every table of the
target exactly the target's chains (sorted by name), policies and rule lines in order, and leaves
every other table as it was. -/
theorem iptables_replace_converges_partial (tb : Tables) (st : KState)
    (hc : ∀ t cm, getA t tb = some cm → (keysA cm).Nodup) :
    ∃ st', restore st ((getIPTablesConfig tb).map toRLn) = some st' ∧
      (∀ t cm, getA t tb = some cm → st'.get t = some (expTable t cm)) ∧
      (∀ t, getA t tb = none → st'.get t = st.get t) :=
  restore_target tb st hc

/-- The hypothesis holds for every target the parser accepts (Go maps have distinct keys): for any
file text, if `parseIPTables` accepts it, loading the printed file replaces the target's tables exactly. -/
theorem iptables_replace_converges_parsed (lines : List Str) (tb : Tables) (st : KState)
    (hp : parseIPTables lines = .ok tb) :
    ∃ st', restore st ((getIPTablesConfig tb).map toRLn) = some st' ∧
      (∀ t cm, getA t tb = some cm → st'.get t = some (expTable t cm)) ∧
      (∀ t, getA t tb = none → st'.get t = st.get t) :=
  restore_target tb st (parseIPTables_wft lines tb hp).2

/-- **The start-up file at boot.**  `/etc/network/packet-filter` holds the same lines behind `#!<path of iptables-restore>` and a comment line; at boot the kernel
is empty, so after `iptables-restore` of that file the kernel holds the target's tables exactly and NO other
table (what `Spec.bootIptOracle` tests on the file the real code copied to the simulated host). -/
theorem startup_iptables_file_boots_target (lines : List Str) (tb : Tables)
    (hp : parseIPTables lines = .ok tb) :
    ∃ st', restore [] ((getIPTablesConfig tb).map toRLn) = some st' ∧
      (∀ t cm, getA t tb = some cm → st'.get t = some (expTable t cm)) ∧
      (∀ t, getA t tb = none → st'.get t = none) :=
  iptables_replace_converges_parsed lines tb [] hp

/-- Hence "the device then holds exactly the target" is false as soon as the device has a table
that the target does not name: it survives. -/
theorem iptables_replace_converges_counterexample :
    ∃ (tb : Tables) (st st' : KState), restore st ((getIPTablesConfig tb).map toRLn) = some st' ∧
      getA (s "mangle") tb = none ∧ (st'.get (s "mangle")).isSome = true :=
  ⟨[(s "filter", [(s "INPUT", { policy := s "DROP" })])],
   [⟨s "mangle", [⟨s "PREROUTING", s "ACCEPT", []⟩]⟩], _, rfl, by decide_lit [s_ofList], by decide_lit [s_ofList]⟩

/-- On a stable map (every value a fixed point of the per-key rewriting, no convertible
`--set-xmark`, surviving `-m` differs from the protocol) normalisation changes nothing; in
particular `normalize (normalize p) ≈ normalize p` whenever `normalize p` is stable. -/
theorem normalize_idempotent_partial (p : Pairs) (h : Stable (normalize p)) :
    PairsEq (normalize (normalize p)) (normalize p) := normalize_of_stable _ h

/-- The hypothesis follows from `RuleOK`: for every rule of the class the normal form of what the
kernel prints is stable … -/
theorem normalize_stable_of_ruleOK (cfg : KCfg) (r : ARule) (H : RuleOK cfg r) :
    Stable (normalize (pairsOf (kernelOpts cfg r) [])) :=
  ruleOK_stable cfg r H

/-- … so `normalizeIPTables` is idempotent on what the device prints for every rule of the class.  (The general
statement, `Canon.stable` in `C05RuleOK`, is about every map that holds the canonical entries of the rule; the target's
normal form is one by `user_centries`.) -/
theorem normalize_idempotent (cfg : KCfg) (r : ARule) (H : RuleOK cfg r) :
    PairsEq (normalize (normalize (pairsOf (kernelOpts cfg r) []))) (normalize (pairsOf (kernelOpts cfg r) [])) :=
  normalize_of_stable _ (ruleOK_stable cfg r H)

/-- `strconv.ParseInt(strconv.FormatInt(i, 10), 0, 32)` gives `i` back for every 32-bit integer (the
step that makes a decimal mark a fixed point of the rewriting). -/
theorem parseInt_formatInt (i : Int) (hlo : -2147483648 ≤ i) (hhi : i < 2147483648) :
    parseInt32 (intToStr i) = some i :=
  parseInt32_intToStr i hlo hhi

/-- In general normalisation is not idempotent: `-p VRRP -m 112` keeps `-m` in the first pass
(`112` ≠ `VRRP`) and drops it in the second (`-p` is `112` by then). -/
theorem normalize_idempotent_counterexample :
    ∃ p : Pairs, normalize (normalize p) ≠ normalize p ∧ ¬ PairsEq (normalize (normalize p)) (normalize p) := by
  refine ⟨[(s "-p", s "VRRP"), (s "-m", s "112")], by decide_lit [s_ofList], ?_⟩
  intro h
  exact absurd (h (s "-m")) (by decide_lit [s_ofList])

/-- What equal normal forms imply for two option maps: on every key other than `-m`, `--set-mark`
and `--set-xmark`, the values agree up to the per-key rewriting. -/
theorem normalize_sound_partial (p q : Pairs) (h : PairsEq (normalize p) (normalize q)) (k : Str)
    (hk : k ≠ kM ∧ k ≠ kMark ∧ k ≠ kXmark) :
    (getA k p).map (normVal k) = (getA k q).map (normVal k) := by
  have := h k
  rw [getA_normalize, getA_normalize] at this
  obtain ⟨h1, h2, h3⟩ := hk
  cases hp : xConv p <;> cases hq : xConv q <;> simpa [hp, hq, h1, h2, h3] using this

/-- Equal option maps do not mean equal rules: the map keeps only the last value of a repeated key. -/
theorem normalize_sound_counterexample :
    ∃ w1 w2 : List Str, w1.length ≠ w2.length ∧ parsePairs w1 = parsePairs w2 :=
  ⟨[s "-m", s "state", s "-m", s "tcp"], [s "-m", s "tcp"], by decide_lit [s_ofList], by decide_lit [s_ofList]⟩

/-- For every rule of the grammar inside `RuleOK` (options well formed, option keys distinct in both
spellings, every explicit `-m` the state match or the rule's own protocol, the mark set in one way only),
what `iptables-save` prints for the rule and what the target says parse and normalise to the same
option map — for both ways the device may print protocols 112 and 58. -/
theorem kernel_roundtrip_partial (cfg : KCfg) (r : ARule) (H : RuleOK cfg r) :
    ∃ pk pu, parsePairs (kernelWords cfg r) = some pk ∧ parsePairs (userWords r) = some pu ∧
      PairsEq (normalize pk) (normalize pu) :=
  ⟨_, _, parsePairs_words _ (spell_kernel cfg r H).ok, parsePairs_words _ (spell_user cfg r H).ok,
    rule_roundtrip cfg r H⟩

/-- … so the second compare finds no difference in that rule. -/
theorem kernel_roundtrip_no_diff (cfg : KCfg) (r : ARule) (H : RuleOK cfg r) (t c : Str) (i : Nat) :
    ∃ pk pu, parsePairs (kernelWords cfg r) = some pk ∧ parsePairs (userWords r) = some pu ∧
      diffRule t c i (normalize pk) (normalize pu) = .same := by
  have hku := (spell_kernel cfg r H).ok
  have huu := (spell_user cfg r H).ok
  exact ⟨_, _, parsePairs_words _ hku, parsePairs_words _ huu,
    (diffRule_same t c i _ _ (normalize_pairsOf_NE _ hku) (normalize_pairsOf_NE _ huu)).mpr (rule_roundtrip cfg r H)⟩

def exStateFirst : ARule :=
  [.mExplicit (s "state"), .state [.new], .proto .no .tcp false false, .dport (.one (s "22")) 0 false, .jump (s "ACCEPT")]

/-- Without distinct keys the round trip fails: `-m state --state NEW -p tcp --dport 22 -j ACCEPT` is
printed as `-p tcp -m state --state NEW -m tcp --dport 22 -j ACCEPT`; the map of the device keeps the
last `-m` (`tcp`, dropped as protocol match), the target's map keeps `-m state`. -/
theorem kernel_roundtrip_counterexample :
    ∃ (cfg : KCfg) (r : ARule) (pk pu : Pairs), (∀ a ∈ r, a.wf = true) ∧
      parsePairs (kernelWords cfg r) = some pk ∧ parsePairs (userWords r) = some pu ∧
      getA (s "-m") (normalize pk) ≠ getA (s "-m") (normalize pu) :=
  ⟨{}, exStateFirst,
   [(s "-p", s "tcp"), (s "-m", s "tcp"), (s "--state", s "NEW"), (s "--dport", s "22"), (s "-j", s "ACCEPT")],
   [(s "-m", s "state"), (s "--state", s "NEW"), (s "-p", s "tcp"), (s "--dport", s "22"), (s "-j", s "ACCEPT")],
   by decide_lit [s_ofList], by unfold exStateFirst; decide_lit [s_ofList], by unfold exStateFirst; decide_lit [s_ofList], by decide_lit [s_ofList]⟩

/-- A mark with a mask other than the default is outside the grammar (`AOpt.wf`) for a reason: the
kernel prints `--set-mark 0x10/0xf0` as `--set-xmark 0x10/0xf0`, which the code neither renames nor
rewrites; the device's map has `--set-xmark`, the target's `--set-mark` (F-C05k). -/
theorem kernel_roundtrip_mask_counterexample :
    ∃ (cfg : KCfg) (r : ARule) (pk pu : Pairs),
      parsePairs (kernelWords cfg r) = some pk ∧ parsePairs (userWords r) = some pu ∧
      getA (s "--set-mark") (normalize pk) ≠ getA (s "--set-mark") (normalize pu) :=
  ⟨{}, [.jump (s "MARK"), .setMark (s "10") (s "f0") false (s "0x10/0xf0")],
   [(s "-j", s "MARK"), (s "--set-xmark", s "0x10/0xf0")], [(s "-j", s "MARK"), (s "--set-mark", s "0x10/0xf0")],
   by decide_lit [s_ofList], by decide_lit [s_ofList], by decide_lit [s_ofList]⟩

/-- An un-negated `--syn`, which the kernel prints as `--tcp-flags FIN,SYN,RST,ACK SYN`, is inside the
class since the repair of F-C05s (in general: `opt_roundtrip` for every `.syn n f`). -/
example : RuleOK {} [.jump (s "ACCEPT"), .proto .no .tcp false false, .syn false false] := by decide_lit [s_ofList]

/-- **Whole-table idempotence** (`table_idempotent`): for every target inside the class and every
device state — the code reads the target text; loading the file it prints succeeds; the device then
holds exactly the target's chains (name order), policies and rules for the target's tables and
leaves every other table alone; and what such a device prints (`iptables-save`: comment lines,
`[0:0]` counters, kernel spelling) is read by the code to a rule set without any difference to
the target. -/
theorem iptables_table_idempotent (cfg : KCfg) (a : AState) (h : AStateOK cfg a) (st : KState) :
    ∃ tb tb' st',
      parseIPTables (userText a) = .ok tb ∧
      restore st ((getIPTablesConfig tb).map toRLn) = some st' ∧
      (∀ tbl ∈ a, st'.get tbl.name = some (kTableOf userWords (sortT tbl))) ∧
      (∀ t, (∀ tbl ∈ a, tbl.name ≠ t) → st'.get t = st.get t) ∧
      parseIPTables (saveText cfg (sortS a)) = .ok tb' ∧
      diffIPTables tb' tb = .same :=
  table_idempotent cfg a h st

/-- The parser on the text of a rule set gives an explicitly known value (`mkTables`), in either
spelling, with or without counters and comment lines. -/
theorem iptables_parse_text (cfg : KCfg) (a : AState) (h : AStateOK cfg a) :
    parseIPTables (userText a) = .ok (mkTables userOpts a) ∧
    parseIPTables (saveText cfg a) = .ok (mkTables (kernelOpts cfg) a) :=
  ⟨parse_userText cfg a h, by simpa using parse_saveText cfg a h [] nofun⟩

def exA : List Route :=
  [⟨s "10.20.0.0", 16, s "10.1.2.3", s "ip route add 10.20.0.0/16 via 10.1.2.3"⟩,
   ⟨s "10.30.0.0", 16, s "10.1.2.3", s "ip route add 10.30.0.0/16 via 10.1.2.3"⟩,
   ⟨s "0.0.0.0", 0, s "10.1.2.5", s "ip route add default via 10.1.2.5"⟩]
def exB : List Route :=
  [⟨s "10.10.0.0", 16, s "10.1.2.3", s "ip route add 10.10.0.0/16 via 10.1.2.3"⟩,
   ⟨s "10.20.0.0", 16, s "10.1.2.3", s "ip route add 10.20.0.0/16 via 10.1.2.3"⟩,
   ⟨s "0.0.0.0", 0, s "10.1.2.6", s "ip route add 0.0.0.0/0 via 10.1.2.6"⟩]
example : (keys exA).Nodup ∧ (keys exB).Nodup := by unfold exA exB; decide_lit [s_ofList]
example : (diffRoutes exA exB).length = 3 := by unfold exA exB; decide_lit [s_ofList]

def exRule : ARule :=
  [.jump (s "MARK"), .setMark (s "f") (s "ffffffff") true (s "0X0F/0XFFFFFFFF"), .proto .before .tcp true false,
   .src .after (s "10.1.1.1") (s "32") false]
def exRule2 : ARule :=
  [.proto .no .udp true false, .sport (.range (s "0") (s "1023")) 2 true, .dport (.range (s "1024") (s "65535")) 0 true,
   .mExplicit (s "UDP"), .goto (s "c2")]
def exRule3 : ARule :=
  [.jump (s "ACCEPT"), .mExplicit (s "state"), .state [.related, .established]]

example : RuleOK {} exRule := by unfold exRule; decide_lit [s_ofList]
example : RuleOK { protoNames := false } exRule2 := by unfold exRule2; decide_lit [s_ofList]
example : RuleOK {} exRule3 := by unfold exRule3; decide_lit [s_ofList]
example : Stable (normalize [(s "-s", s "10.1.1.1/32"), (s "-p", s "TCP"), (s "-m", s "tcp"), (s "--dport", s "0:1023")]) := by
  decide_lit [s_ofList]

/-- `getDeviceRoutes` reads the whole output of `ip route show` for any table of static routes back to
exactly the table. -/
theorem device_routes_roundtrip (l : List RouteEntry) (h : ∀ e ∈ l, e.ok) :
    ∃ rs, deviceRoutes (unlines (l.map RouteEntry.show)) = .ok rs ∧ rs.map Route.key = l.map RouteEntry.key :=
  deviceRoutes_show l h

/-- `getDeviceIPTables` reads the whole output of `iptables-save` (comment lines — ignored since the
repair of F-C05c —, counters, final newline) to the explicitly known rule set. -/
theorem device_iptables_parse (cfg : KCfg) (a : AState) (h : AStateOK cfg a) :
    deviceIPTables (unlines (saveText cfg a)) = .ok (mkTables (kernelOpts cfg) a) :=
  deviceIPTables_save cfg a h

/-- The second compare on the device path finds nothing: a device that holds the target's rule set
and exactly the target's routes is read by `LoadDevice` without error and `diffConfig` yields no
route command and no iptables difference. -/
theorem device_second_compare_empty (cfg : KCfg) (a : AState) (h : AStateOK cfg a) (l : List RouteEntry)
    (hl : ∀ e ∈ l, e.ok) (b : List Route) (hb : ∀ k, k ∈ l.map RouteEntry.key ↔ k ∈ keys b) :
    ∃ dc, loadDevice (unlines (saveText cfg (sortS a))) (unlines (l.map RouteEntry.show)) = .ok dc ∧
      (diffConfig dc { routes := b, iptables := mkTables userOpts a }).routes = [] ∧
      (diffConfig dc { routes := b, iptables := mkTables userOpts a }).ipt = .same :=
  device_compare_unchanged cfg a h l hl b hb

/-- **`ParseConfig` on the whole target file**: split at newlines, trim, drop empty and comment lines,
route lines to `parseRoutes`, the rest to `parseIPTables` — for any file of clean lines … -/
theorem parseConfig_whole_file (L : List Str) (h : ∀ x ∈ L, LineOK x) :
    parseConfig (unlines L) = (do
      let routes ← parseRoutes (L.filter isRouteLine)
      let tb ← parseIPTables (L.filter fun l => !isRouteLine l)
      pure { routes := routes, iptables := tb }) :=
  parseConfig_lines L h

/-- … and for a target file made of route lines and the text of a rule set inside the class the result
is exactly `{ routes, iptables := mkTables userOpts a }`. -/
theorem parseConfig_target_file (cfg : KCfg) (a : AState) (h : AStateOK cfg a) (rl : List Str) (b : List Route)
    (hrl : ∀ x ∈ rl, LineOK x ∧ isRouteLine x = true) (hb : parseRoutes rl = .ok b) :
    parseConfig (unlines (rl ++ userText a)) = .ok { routes := b, iptables := mkTables userOpts a } :=
  parseConfig_target cfg a h rl b hrl hb

/-- The second compare on the device path from the three raw texts (target file, `iptables-save`,
`ip route show`): no route command, no iptables difference. -/
theorem device_second_compare_empty_text (cfg : KCfg) (a : AState) (h : AStateOK cfg a) (l : List RouteEntry)
    (hl : ∀ e ∈ l, e.ok) (rl : List Str) (b : List Route)
    (hrl : ∀ x ∈ rl, LineOK x ∧ isRouteLine x = true) (hb : parseRoutes rl = .ok b)
    (hk : ∀ k, k ∈ l.map RouteEntry.key ↔ k ∈ keys b) :
    ∃ ch, compareDevice (unlines (saveText cfg (sortS a))) (unlines (l.map RouteEntry.show))
        (unlines (rl ++ userText a)) = .ok ch ∧ ch.routes = [] ∧ ch.ipt = .same :=
  compareDevice_unchanged cfg a h l hl rl b hrl hb hk

example : LineOK (s "ip route add 10.1.11.0/24 via 10.10.1.6") ∧ isRouteLine (s "ip route add 10.1.11.0/24 via 10.10.1.6") = true :=
  ⟨⟨by decide_lit [s_ofList], by decide_lit [s_ofList], ⟨'i', by decide_lit [s_ofList], by decide⟩⟩, by decide_lit [s_ofList]⟩

/-- Before the repair of F-C05c the first line of every real `iptables-save` output made the device
path abort: the old parser (no case for `#`) fell into `Unknown command`.  Witness for the model
of the repaired code: the comment line is skipped. -/
theorem device_comment_line_skipped :
    parseIPTables [s "# Generated by iptables-save v1.8.7 on Tue Sep 30 00:00:00 2026", s "*filter", s ":INPUT DROP [0:0]", s "COMMIT"] =
      .ok [(s "filter", [(s "INPUT", { policy := s "DROP" })])] := by
  have ok_of : ∀ {e : Except Str Tables} {x : Tables}, e.toOption = some x → e = .ok x := by
    intro e x h; cases e <;> simp_all [Except.toOption]
  exact ok_of (by decide_lit [s_ofList])

example : (⟨s "10.1.11.0", 24, s "10.10.1.6", some (s "eth0")⟩ : RouteEntry).ok := by
  refine ⟨by decide_lit [s_ofList], by decide_lit [s_ofList], by decide_lit [s_ofList], ?_⟩
  intro d hd; cases hd; decide

/-- **normalize_sound** at rule level: two rules of the grammar whose target texts give equal option
maps after normalisation have the same meaning (`semEqRule`: the same set of option meanings — match
set and target; `-m <own protocol>` means nothing, a mark means its number). -/
theorem normalize_sound (cfg : KCfg) (r1 r2 : ARule) (H1 : RuleOK cfg r1) (H2 : RuleOK cfg r2)
    (h : PairsEq (normalize (pairsOf (userOpts r1) [])) (normalize (pairsOf (userOpts r2) []))) :
    semEqRule cfg r1 r2 = true :=
  normalize_sound_rule cfg r1 r2 H1 H2 h

/-- **normalize_complete** for the kernel's respelling: what the kernel prints for a rule normalises
to the same option map as the rule's target text. -/
theorem normalize_complete (cfg : KCfg) (r : ARule) (H : RuleOK cfg r) :
    PairsEq (normalize (pairsOf (kernelOpts cfg r) [])) (normalize (pairsOf (userOpts r) [])) :=
  rule_roundtrip cfg r H

/-- Normalisation is injective on what the kernel prints for well formed options: equal normalised
entries, equal meaning (addresses, protocols, port ranges, state sets, marks, …). -/
theorem normalize_injective_on_kernel (cfg : KCfg) (a1 a2 : AOpt) (w1 : a1.wf = true) (w2 : a2.wf = true)
    (hk : nk a1 = nk a2) (hv : nv cfg a1 = nv cfg a2) : semEntry cfg a1 = semEntry cfg a2 :=
  kentry_inj cfg a1 a2 w1 w2 hk hv

/-- **No change is reported only for an equivalent device**, at the text level: what a device inside
the class prints and a target inside the class are both read by the code, and if `diffIPTables`
finds nothing, device and target are equivalent (same tables and chains, equal policies, rule by
rule the same meaning). -/
theorem iptables_same_only_if_equivalent (cfg : KCfg) (dev tgt : AState) (hd : AStateOK cfg dev)
    (ht : AStateOK cfg tgt) :
    ∃ tb' tb, parseIPTables (saveText cfg dev) = .ok tb' ∧ parseIPTables (userText tgt) = .ok tb ∧
      (diffIPTables tb' tb = .same → semEq cfg dev tgt = true) :=
  ⟨_, _, (iptables_parse_text cfg dev hd).2, (iptables_parse_text cfg tgt ht).1,
    same_only_if_equiv (kernel_centries cfg) (user_centries cfg) dev tgt hd ht⟩

example : semEqRule {} exRule exRule = true ∧
    semEqRule {} [.jump (s "ACCEPT"), .dport (.one (s "22")) 0 false, .proto .no .tcp false false]
      [.jump (s "ACCEPT"), .dport (.one (s "23")) 0 false, .proto .no .tcp false false] = false := by decide_lit [s_ofList]

example : (execLine (keys exA) ((((diffRoutes exA exB).map cmdsOf).flatten).take 2)).isSome = true := by
  unfold exA exB; decide_lit [s_ofList]

/-- **linux_resume — interrupted approve for the whole Linux device, any cut position (C10).**
The approve is the list of its steps: every single `ip route` command, then — if the compare found a
difference — copy of the restore file, its load (atomic) and the move to the start-up file, then the
copy of the start-up routing file.  Cut it behind ANY number `k` of steps (also inside a joined
route packet, before or behind the load, between the two start-up copies).  For every target the
parser accepts (`tb`), every device state and both outcomes of the first compare:
every executed step succeeded, the kernel route table is still a set, the rule sets are untouched or
exactly loaded.  Any second approve from there (any `a'` whose keys are the table the cut left, either outcome `c2` of
its compare) runs to the end, ends in exactly the target's routes, and if it loads (`c2`), every table of
the target holds exactly the target's chains, policies and rules; otherwise the rule sets stay as
the cut left them (untouched — then the compare said "equal", see `iptables_same_only_if_equivalent`
— or already loaded). -/
theorem linux_resume (a b : List Route) (ha : (keys a).Nodup) (lines : List Str) (tb : Tables)
    (hp : parseIPTables lines = .ok tb) (d0 : LDev) (h0 : d0.routes = keys a) (c1 : Bool) (k : Nat) :
    ∃ d1, runSteps ((getIPTablesConfig tb).map toRLn) d0 ((planSteps ((diffRoutes a b).map cmdsOf) c1).take k) = some d1 ∧
      d1.routes.Nodup ∧
      (d1.ipt = d0.ipt ∨ ∀ t cm, getA t tb = some cm → d1.ipt.get t = some (expTable t cm)) ∧
      ∀ (a' : List Route) (c2 : Bool), keys a' = d1.routes →
        ∃ d2, runSteps ((getIPTablesConfig tb).map toRLn) d1 (planSteps ((diffRoutes a' b).map cmdsOf) c2) = some d2 ∧
          d2.routes.Nodup ∧ (∀ x, x ∈ d2.routes ↔ x ∈ keys b) ∧
          (c2 = true → (∀ t cm, getA t tb = some cm → d2.ipt.get t = some (expTable t cm)) ∧ d2.bootIpt = true) ∧
          (c2 = false → d2.ipt = d1.ipt) := by
  have hwf := (parseIPTables_wft lines tb hp).2
  have hfile : ∀ st, ∃ st', restore st ((getIPTablesConfig tb).map toRLn) = some st' :=
    fun st => (restore_target tb st hwf).imp fun _ => And.left
  have hexact : ∀ u st', restore u ((getIPTablesConfig tb).map toRLn) = some st' →
      ∀ t cm, getA t tb = some cm → st'.get t = some (expTable t cm) := by
    intro u st' h
    obtain ⟨st'', h', hx, _⟩ := restore_target tb u hwf
    cases h.symm.trans h'; exact hx
  obtain ⟨t0, hs0, _, _⟩ := diffRoutes_converge a b ha
  obtain ⟨d1, h1, h2, h3⟩ := approve_prefix _ hfile d0 (h0 ▸ ha) _ t0 (h0 ▸ hs0) c1 k
  refine ⟨d1, h1, h2, h3.imp id (fun ⟨u, hu⟩ => hexact u _ hu), fun a' c2 hk => ?_⟩
  obtain ⟨t', hs', hn', hm'⟩ := diffRoutes_converge a' b (hk ▸ h2)
  obtain ⟨d2, g1, g2, g3, g4⟩ := approve_full _ hfile d1 _ t' (hk ▸ hs') c2
  exact ⟨d2, g1, g2 ▸ hn', fun x => g2 ▸ hm' x, fun hc => ⟨hexact _ _ (g3 hc).1, (g3 hc).2⟩, g4⟩

/-- What the resumed approve does NOT repair (F-C10l, known): the start-up files.  Cut behind the load but
before the move: the new rule set is running, so the second compare finds no difference (`c2 = false`),
nothing is loaded or moved, and `/etc/network/packet-filter` still holds the OLD rules.  Cut behind the last
route command: the second approve has no route command, so `/etc/network/routing` is never written. -/
theorem linux_resume_startup_counterexample :
    (∃ d1 d2, runSteps [] ⟨[], [], false, false⟩ ((planSteps [] true).take 2) = some d1 ∧
      runSteps [] d1 (planSteps [] false) = some d2 ∧ d2.bootIpt = false) ∧
    (∃ d1 d2, runSteps [] ⟨[], [], false, false⟩ ((planSteps [[.add (s "10.1.1.0", 24, s "10.9.9.9")]] false).take 1) = some d1 ∧
      d1.routes = [(s "10.1.1.0", 24, s "10.9.9.9")] ∧
      runSteps [] d1 (planSteps [] false) = some d2 ∧ d2.bootRt = false) :=
  ⟨⟨_, _, rfl, rfl, rfl⟩, ⟨_, _, rfl, rfl, rfl, rfl⟩⟩

example : (planSteps ((diffRoutes exA exB).map cmdsOf) true).length = 8 := by unfold exA exB; decide_lit [s_ofList]

def exState : AState :=
  [{ name := s "filter", chains := [
      { name := s "c1", policy := s "-", rules := [exRule3] },
      { name := s "INPUT", policy := s "DROP", rules := [exRule, exRule2] }] }]

example : AStateOK { protoNames := false } exState := by
  refine ⟨?_, ?_, ?_, ?_, ?_⟩ <;> unfold exState exRule exRule2 exRule3 <;> decide_lit [s_ofList]

/-- **F-C05n.**  The per-key rewriting works on the value text INCLUDING the leading `!` of a negated option:
zeros behind the `!` are not trimmed, the protocol names are not recognised, the state list is sorted with the
`!` glued to its first element.  Each pair below means the same (`Spec.semCompare … = "eq"`, the specification
reading the meaning from the text) and has different normal forms, so the compare reports a change for ever;
without the negation the same pairs have equal normal forms. -/
theorem normalize_negated_value_counterexample :
    (normVal (s "--dport") (s "!0:1023") ≠ normVal (s "--dport") (s "!:1023") ∧
      normVal (s "--dport") (s "0:1023") = normVal (s "--dport") (s ":1023") ∧
      Spec.semCompare (s "-p tcp -m tcp ! --dport 0:1023 -j ACCEPT") (s "-p tcp ! --dport :1023 -j ACCEPT") = s "eq") ∧
    (normVal (s "-p") (s "!58") ≠ normVal (s "-p") (s "!ipv6-icmp") ∧
      normVal (s "-p") (s "58") = normVal (s "-p") (s "ipv6-icmp") ∧
      Spec.semCompare (s "! -p 58 -j c1") (s "-p ! IPv6-ICMP -j c1") = s "eq") ∧
    (normVal (s "--state") (s "!NEW,ESTABLISHED") ≠ normVal (s "--state") (s "!ESTABLISHED,NEW") ∧
      normVal (s "--state") (s "NEW,ESTABLISHED") = normVal (s "--state") (s "ESTABLISHED,NEW") ∧
      Spec.semCompare (s "-m state ! --state NEW,ESTABLISHED -j ACCEPT") (s "-m state ! --state ESTABLISHED,NEW -j ACCEPT") = s "eq") := by
  decide_lit [s_ofList]

/-- A negated range stays apart from the plain one, whatever the spelling of the upper bound. -/
example : normVal (s "--dport") (s "!1024:65535") = normVal (s "--dport") (s "!1024:") ∧
    normVal (s "--dport") (s "!1024:65535") ≠ normVal (s "--dport") (s "1024:") := by decide_lit [s_ofList]

def obligations : List Lean.Name := [
  ``linux_routes_converge, ``linux_routes_converge_unrepaired_counterexample,
  ``linux_routes_one_hop_per_dst, ``routes_covered_linux, ``linux_addresses_stay_routed, ``linux_addresses_stay_routed_prefix, ``linux_routes_kernel_strict,
  ``iptables_diff_iff_partial, ``iptables_diff_iff_counterexample,
  ``iptables_replace_converges_partial, ``iptables_replace_converges_parsed, ``startup_iptables_file_boots_target, ``iptables_replace_converges_counterexample,
  ``normalize_idempotent_partial, ``normalize_idempotent_counterexample, ``normalize_negated_value_counterexample,
  ``normalize_sound_partial, ``normalize_sound_counterexample,
  ``kernel_roundtrip_partial, ``kernel_roundtrip_no_diff,
  ``kernel_roundtrip_counterexample, ``kernel_roundtrip_mask_counterexample,
  ``opt_roundtrip, ``parsePairs_words, ``getA_normalize,
  ``linux_routes_resume, ``linux_routes_resume_cmds, ``linux_resume, ``linux_resume_startup_counterexample, ``route_show_roundtrip, ``iptables_table_idempotent, ``iptables_parse_text,
  ``device_routes_roundtrip, ``device_iptables_parse, ``device_second_compare_empty, ``device_comment_line_skipped,
  ``normalize_stable_of_ruleOK, ``normalize_idempotent, ``parseInt_formatInt,
  ``parseConfig_whole_file, ``parseConfig_target_file, ``device_second_compare_empty_text,
  ``normalize_sound, ``normalize_complete, ``normalize_injective_on_kernel, ``iptables_same_only_if_equivalent]

end NA.C05
