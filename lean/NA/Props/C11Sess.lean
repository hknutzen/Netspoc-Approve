import NA.Proofs.C11Sess
import NA.Proofs.C11Block
import NA.Proofs.C09Skel
/-!
# C11 — compare never changes the device: the session model with arbitrary device answers

Model: `NA.Apply.runProg b env` — the whole run of `device.ApproveOrCompare` (login, terminal
set-up, configuration retrieval, diff, `compare` / `approve`, `CloseConnection`, `HandleAbort`) in
the session language of C09 (`NA/Model/Sess.lean`, `NA/Model/Apply*.lean`),
executed against `env.dev : List Ev → Reply`, **an arbitrary function of the whole history**: any
answer (prompt or no prompt, silence, closed connection, garbled echo, error text, warning, HTTP
status, malformed body, any feature flags) to any request, any number of times.

Every statement is lifted from a finite check: the reflective checker `ro` accepts the five programs (kernel
evaluation of a closed term), and `ro_ext` carries that to every device; for configuration mode, the table of the
abstract interpreter (`Trun_body`) and `T_sound`.

The programs are tied to the source: the call-site skeletons of `device.ApproveOrCompare`,
`compare`, `compareDevice`, `showCompareInfo`, of the `pkg/console` primitives, of `LoadDevice` and
its helpers for all five backends, of `httpGet`, `httpPrefixGetLog`, `sendRequest` and of every
`CloseConnection` are regenerated (`translate/skeleton`) and proved equal (`NA.C09.skel_*`, listed in
`obligations` below); dynamically by `harness/c11`: the real `drc -C` / `do-approve compare` against
the stateful simulators with a fault of every kind at every step, transcripts predicted by
`runProg` through `nadrv-c11`.
-/
namespace NA.C11S
open NA.Sess NA.Apply NA.Spec.C11 NA.C11

/-- the checker accepts the whole run of every backend -/
theorem run_checked (b : Backend) : ro b (approveOrCompareBody b) = true := by
  cases b <;> decide +kernel

/-- **Every backend, every device, every change script: a compare run sends only harmless
things.** -/
theorem compare_session_readonly (b : Backend) (env : Env) (h : env.compare = true) :
    ReadOnlyTrace b (runProg b env).tr := by
  obtain ⟨l, hl, hall⟩ := ro_ext b (approveOrCompareBody b) (run_checked b) env {} h
  unfold runProg
  rw [hl]
  exact hall

/-- … spelled out per line: whatever is put on the wire is a word of the vocabulary. -/
theorem compare_session_lines (b : Backend) (env : Env) (h : env.compare = true) :
    ∀ l ∈ sentLines (runProg b env).tr, l ∈ allowedLines b :=
  linesOf_allowed b _ (compare_session_readonly b env h)

/-- **For every answer sequence**: the device that gives the answers `answers` in order (any
list, then `d` for ever), any script, any fuel for the poll loop. -/
theorem compare_session_any_answers (b : Backend) (answers : List Reply) (d : Reply)
    (plan : Bool → List (List String)) (ipt : Bool → Bool) (sim : Bool) (fuel : Nat) :
    ReadOnlyTrace b (runProg b { dev := answerDev answers d, plan := plan, planIpt := ipt,
                                 compare := true, simulated := sim, fuel := fuel }).tr :=
  compare_session_readonly b _ rfl

/-- **None of the computed change commands is sent** (unless the command happens to be a word of
the login / show vocabulary), whatever the device answered before the script was computed. -/
theorem compare_sends_nothing_of_script (b : Backend) (env : Env) (h : env.compare = true)
    (g : Bool) (c : String) (_ : c ∈ scriptLines (env.plan g)) (hc : c ∉ allowedLines b) :
    c ∉ sentLines (runProg b env).tr :=
  fun hin => hc (compare_session_lines b env h c hin)

/-- **No change command, no exit-status probe, no save / commit / job poll, no copy of a start-up
file** in the trace of a compare run. -/
theorem compare_no_change_no_save (b : Backend) (env : Env) (h : env.compare = true) :
    ∀ e ∈ (runProg b env).tr,
      (∀ ls, e ≠ .sent .change ls) ∧ (∀ ls, e ≠ .sent .save ls) ∧ (∀ ls, e ≠ .sent .probe ls) ∧
      (∀ w, e ≠ .scp w) := by
  intro e he
  have := compare_session_readonly b env h e he
  refine ⟨?_, ?_, ?_, ?_⟩ <;> intro x hx <;> subst hx <;> simp [sentAllowed, allowedRole] at this

/-- `write memory`, `commit`, `show jobs`, `reload …`, the Linux activation commands are not words
of any vocabulary; configuration mode is entered on ASA only, and the only words of the ASA
vocabulary that belong to configuration mode are the terminal-width block. -/
theorem vocabulary_has_no_save :
    (∀ b, ∀ w ∈ ["write memory", "commit", "show jobs", "reload in 2", "do reload in 2", "reload cancel",
                 "copy running-config startup-config", "echo $?", "which iptables-restore"],
        w ∉ allowedLines b) ∧
    (∀ b, "configure terminal" ∈ allowedLines b → b = .asa) ∧
    configModeLines .asa = ["configure terminal", "terminal width 511", "end"] ∧
    (∀ b, ∀ w ∈ configModeLines b, w ∈ allowedLines b) := by
  refine ⟨?_, ?_, rfl, ?_⟩
  · intro b; cases b <;> decide
  · intro b; cases b <;> decide
  · intro b; cases b <;> decide

/-- Configuration mode is entered by a compare run of ASA only. -/
theorem compare_config_mode_only_asa (b : Backend) (env : Env) (h : env.compare = true)
    (hs : "configure terminal" ∈ sentLines (runProg b env).tr) : b = .asa :=
  vocabulary_has_no_save.2.1 b (compare_session_lines b env h _ hs)

/-- The abstract interpreter finds no way into `bad` for any backend; every backend but ASA stays
outside configuration mode altogether. -/
theorem block_checked :
    (∀ b, (Trun (approveOrCompareBody b) .out).all (fun a => a.2 != .bad) = true) ∧
    (∀ b, b ≠ .asa → (Trun (approveOrCompareBody b) .out).all (fun a => a.2 == .out) = true) := by
  refine ⟨?_, ?_⟩
  · intro b; rw [Trun_body]; cases b <;> decide
  · intro b hb; rw [Trun_body]; cases b <;> first | exact absurd rfl hb | decide

/-- **Every backend, every device: the only thing a compare run ever sends in configuration mode
is `terminal width 511`, followed by `end`** — or by nothing at all, if the device stops answering
in the middle (then the run is over: no `exit`, no further line).  `blkOf` of the whole trace is
not `bad`; `bad` is absorbing, so no prefix of the dialogue was `bad` either. -/
theorem compare_config_block (b : Backend) (env : Env) (h : env.compare = true) :
    ConfigBlockOk (runProg b env).tr := by
  have hm := List.all_eq_true.mp (block_checked.1 b) _ (end_state_in_table b env h)
  intro hbad
  unfold runProg at hbad
  simp [α, hbad] at hm

/-- … and IOS, Linux, PAN-OS, NSX never enter configuration mode in a compare run. -/
theorem compare_never_in_config_mode (b : Backend) (hb : b ≠ .asa) (env : Env) (h : env.compare = true) :
    blkOf (runProg b env).tr = .out := by
  have hm := List.all_eq_true.mp (block_checked.2 b hb) _ (end_state_in_table b env h)
  unfold runProg
  simpa [α] using hm

/-- **A compare run that is not aborted ends outside configuration mode** (exit status 0 ⇒ the
`end` was sent), for every backend and device. -/
theorem compare_leaves_config_mode (b : Backend) (env : Env) (h : env.compare = true)
    (hx : exitCode (runProg b env) = 0) : blkOf (runProg b env).tr = .out := by
  have hall : (Trun (approveOrCompareBody b) .out).all (fun a => a.1 == .panic || a.2 == .out) = true := by
    rw [Trun_body]; cases b <;> decide
  have hm := List.all_eq_true.mp hall _ (end_state_in_table b env h)
  unfold exitCode runProg at hx
  unfold runProg
  by_cases hp : (exec (approveOrCompareBody b) env {}).mode = .panic
  · simp [hp] at hx
  · simpa [α, hp] using hm

/-- the absorbing state: once something else was sent in configuration mode no continuation repairs it -/
theorem bad_absorbing (ls : List String) : stepLines .bad ls = .bad := by
  induction ls with
  | nil => rfl
  | cons l t ih => simpa [stepLines, Blk.step] using ih

/-- Non-vacuity / positive control: approve against the same conforming ASA does get `bad` (change
commands are sent in configuration mode), and the aborted compare of the example below ends
inside the block (`conf`), which is allowed. -/
theorem approve_block_is_bad :
    blkOf (runProg .asa { dev := NA.Spec.C09.mkDev .asa {} none "", plan := fun _ => [["route inside 10.20.0.0 255.255.0.0 10.1.2.3"]],
                          compare := false }).tr = .bad ∧
    blkOf (runProg .asa { dev := NA.Spec.C09.mkDev .asa {} (some 7) "silence", plan := fun _ => [["x"]],
                          compare := true }).tr = .conf := by
  decide +kernel

/-- a conforming ASA with two pending changes -/
def demoEnv (cmp : Bool) : Env :=
  { dev := NA.Spec.C09.mkDev .asa {} none "", plan := fun _ => [["route inside 10.20.0.0 255.255.0.0 10.1.2.3"],
      ["no route inside 10.21.0.0 255.255.0.0 10.1.2.3", "route inside 10.21.0.0 255.255.0.0 10.1.2.4"]],
    compare := cmp }

set_option maxRecDepth 100000 in
/-- The hypotheses are satisfiable and the run is not trivial: compare logs in, sets the terminal
width in configuration mode, retrieves the configuration, finds the device changed, leaves — 13
packets, none of them of the script. -/
example :
    sentLines (runProg .asa (demoEnv true)).tr =
      ["<secret>", "enable", "", "sh pager", "terminal pager 0", "sh term", "configure terminal",
       "terminal width 511", "end", "sh ver", "show hostname", "write term", "exit"] ∧
    Ev.logChanged ∈ (runProg .asa (demoEnv true)).tr ∧ exitCode (runProg .asa (demoEnv true)) = 0 := by
  decide +kernel

/-- Positive control: the same environment without the compare flag does send the script and
saves — `ReadOnlyTrace` is false there, so the theorem is about the flag, not about the model
being unable to send. -/
theorem approve_is_not_readonly :
    ¬ ReadOnlyTrace .asa (runProg .asa (demoEnv false)).tr ∧
    "write memory" ∈ sentLines (runProg .asa (demoEnv false)).tr ∧
    "route inside 10.20.0.0 255.255.0.0 10.1.2.3" ∈ sentLines (runProg .asa (demoEnv false)).tr := by
  decide +kernel

set_option maxRecDepth 100000 in
/-- An answer sequence with a fault in the middle of the configuration-mode block: the device
does not answer `configure terminal`; the run aborts, nothing else is sent (not even `exit`). -/
example :
    let env : Env := { dev := NA.Spec.C09.mkDev .asa {} (some 7) "silence", plan := fun _ => [["x"]], compare := true }
    sentLines (runProg .asa env).tr =
      ["<secret>", "enable", "", "sh pager", "terminal pager 0", "sh term", "configure terminal"] ∧
    exitCode (runProg .asa env) = 1 := by
  decide +kernel

def obligations : List Lean.Name := [
  ``run_checked, ``compare_session_readonly, ``compare_session_lines, ``compare_session_any_answers,
  ``compare_sends_nothing_of_script, ``compare_no_change_no_save, ``vocabulary_has_no_save,
  ``compare_config_mode_only_asa, ``approve_is_not_readonly, ``NA.C11.ro_ext, ``NA.C11.recvLoop_ext,
  ``block_checked, ``compare_config_block, ``compare_never_in_config_mode, ``compare_leaves_config_mode, ``bad_absorbing,
  ``approve_block_is_bad, ``NA.C11.T_sound,
  -- the tie of the session programs on the compare path to the source (regenerated skeletons):
  -- C09's theorems for everything reachable from compare — front ends, ApproveOrCompare / compare /
  -- compareDevice / showCompareInfo, HandleAbort / Abort, the pkg/console primitives, the login
  -- dialogues, LoadDevice and its helpers of all five backends, the HTTP helpers, every CloseConnection
  ``NA.C09.skel_device_ApproveOrCompare, ``NA.C09.skel_device_compare, ``NA.C09.skel_device_compareDevice,
  ``NA.C09.skel_device_showCompareInfo, ``NA.C09.skel_errlog_HandleAbort, ``NA.C09.skel_errlog_Abort,
  ``NA.C09.skel_doapprove_Main, ``NA.C09.skel_status_SetCompare, ``NA.C09.skel_console_Send,
  ``NA.C09.skel_console_SendCmd, ``NA.C09.skel_console_IssueCmd, ``NA.C09.skel_console_GetCmdOutput,
  ``NA.C09.skel_console_GetOutput, ``NA.C09.skel_console_waitPrompt, ``NA.C09.skel_console_WaitShort,
  ``NA.C09.skel_console_WaitLogin, ``NA.C09.skel_console_expectLog, ``NA.C09.skel_console_StripEcho,
  ``NA.C09.skel_console_StripStdPrompt, ``NA.C09.skel_console_Close, ``NA.C09.skel_cisco_LoginEnable,
  ``NA.C09.skel_cisco_LoginEnable_waitPrompt, ``NA.C09.skel_httpdevice_TryReachableHTTPLogin,
  ``NA.C09.skel_asa_LoadDevice, ``NA.C09.skel_asa_setTerminal, ``NA.C09.skel_asa_logVersion,
  ``NA.C09.skel_asa_checkDeviceName, ``NA.C09.skel_asa_CloseConnection, ``NA.C09.skel_ios_LoadDevice,
  ``NA.C09.skel_ios_setTerminal, ``NA.C09.skel_ios_logVersion, ``NA.C09.skel_ios_checkDeviceName,
  ``NA.C09.skel_ios_CloseConnection, ``NA.C09.skel_linux_LoadDevice, ``NA.C09.skel_linux_loginEnable,
  ``NA.C09.skel_linux_logVersion, ``NA.C09.skel_linux_checkDeviceName, ``NA.C09.skel_linux_checkBanner,
  ``NA.C09.skel_linux_getDeviceRoutes, ``NA.C09.skel_linux_getDeviceIPTables, ``NA.C09.skel_linux_CloseConnection,
  ``NA.C09.skel_panos_LoadDevice, ``NA.C09.skel_panos_getAPIKey, ``NA.C09.skel_panos_checkHA,
  ``NA.C09.skel_panos_httpPrefixGetLog, ``NA.C09.skel_panos_httpGet, ``NA.C09.skel_panos_CloseConnection,
  ``NA.C09.skel_nsx_LoadDevice, ``NA.C09.skel_nsx_getRawJSON, ``NA.C09.skel_nsx_sendRequest,
  ``NA.C09.skel_nsx_CloseConnection]

def isC09 : Lean.Name → Bool
  | .str p _ => p == `NA.C09
  | _ => false

/-- the skeleton theorems listed above are in C09's list of everything reachable from compare
(`NA.C09.comparePathSkel`, maintained next to the theorems), and there are 51 of them -/
example : (obligations.filter isC09).all NA.C09.comparePathSkel.contains = true ∧
    (obligations.filter isC09).length = 51 := by
  -- they ARE that list, name for name and in its order
  have h : obligations.filter isC09 = NA.C09.comparePathSkel := rfl
  rw [h]
  exact ⟨by simp, rfl⟩

end NA.C11S
