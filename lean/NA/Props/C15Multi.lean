import NA.Proofs.C15Full
import NA.Proofs.C15Dec
import NA.Model.IosLogin
/-!
# C15, several banners in ONE answer; the login / enable dialogue; `sh run`

`stripReloadBanner` removes the FIRST banner of an answer only (`FindStringSubmatchIndex`, no loop).
The theorems of `NA/Props/C15.lean` speak of answers with one banner (`Behav`: one `Form`).  Here:
answers with two banners, as scripted answers (`special`) of `simDevice`.
-/
namespace NA.Ios

def m2 : Str := lit " --- SHUTDOWN in 0:02:00 ---"
def m1 : Str := lit " --- SHUTDOWN in 0:01:00 ---"
def l1 : Str := lit "ip route 10.1.0.0 255.255.0.0 10.9.1.1"

/-- two banners behind the echo, no fresh prompt (shape DD of the harness) -/
def replyDD (a b : Str) : Str := l1 ++ bannerText a ++ bannerText b ++ ['\n'] ++ prompt
/-- one banner with a fresh prompt before the echo, one behind it (shape AD) -/
def replyAD (a b : Str) : Str := bannerText a ++ ['\n'] ++ prompt ++ l1 ++ bannerText b ++ ['\n'] ++ prompt
/-- two banners with fresh prompts before the echo (shape AA) -/
def replyAA (a b : Str) : Str :=
  bannerText a ++ ['\n'] ++ prompt ++ bannerText b ++ ['\n'] ++ prompt ++ l1 ++ ['\n'] ++ prompt

def runWith (r : Str) : Res Unit × St SimSt :=
  applyCommands (simDevice [(l1, [[r]])] false) true [l1] { dev := { queue := [{}] } }

/-- **several_banners_counterexample** (F-C15g, known).  The second banner is left in the output (or, with fresh
prompts, in the expect buffer): the run ABORTS (`unexpected output` / `unexpected echo`) although the banner-free
run succeeds, and a `SHUTDOWN in 0:01:00` among the two is not re-armed.  This contradicts the last sentence of C15
("… survive its banners").  The guard theorems (they hold for EVERY device) still apply: `end`, `reload cancel`
are sent, nothing is written. -/
theorem several_banners_counterexample :
    (applyCommands (simDevice [] false) true [l1] { dev := { queue := [{}] } }).1 = .ok () ∧
    -- 2:00 then 1:00 behind the echo: the second banner is taken for output of the command,
    -- the one-minute warning is not re-armed; fail-safe: nothing written, the reload is cancelled
    ((runWith (replyDD m2 m1)).1 = .abort (.unexpectedOutput l1 ((bannerText m1).drop 1 ++ ['\n'])) ∧
     rearms (linesOf (runWith (replyDD m2 m1)).2.trace) = 0 ∧
     writeCmd ∉ linesOf (runWith (replyDD m2 m1)).2.trace ∧
     pendingAfter (linesOf (runWith (replyDD m2 m1)).2.trace) = false) ∧
    -- before the echo (fresh prompt) and behind it
    (runWith (replyAD m2 m1)).1 = .abort (.unexpectedOutput l1 ((bannerText m1).drop 1 ++ ['\n'])) ∧
    -- two banners with fresh prompts before the echo: a stale prompt is read as the answer
    (runWith (replyAA m2 m1)).1 = .abort (.unexpectedEcho l1 (bannerText m1 ++ ['\n'])) := by
  -- whatever the scripted answer `r` to the change line is, the device is the plain one up to the change loop
  have hrun : ∀ r, runWith r = _ := fun r =>
    apply_follows_loop (simDevice [(l1, [[r]])] false) false true id [l1] { dev := { queue := [{}] } } rfl rfl
      (followsPrelude_unscripted _ false _ (by
        have : ∀ s ∈ prepCmds ++ [reloadCmd, lit "n", []], ∀ l ∈ splitOnNL s, (l1 == l) = false := by
          decide_lit [c15_vocab, l1]
        intro s hs l hl; simp [List.find?, this s hs l hl]))
  refine ⟨(apply_sim_ok false [.one l1 {}] [] _ rfl rfl rfl rfl
      (by intro g hg; rw [List.mem_singleton.1 hg]; exact ⟨Chg.clean_of_B _ (by simp only [l1, Chg.cleanB, changeCmdB_route1, Bool.true_and]; decide +kernel), trivial⟩)
      (by decide +kernel)).1, ?_⟩
  simp only [hrun, simDevice_fold]
  simp -index only [c15_vocab, St.onDev, loopStart, replyDD, replyAD, replyAA, l1, m1, m2, rearms]
  decide +kernel

def shRun : Str := lit "sh run"
def cfgA : Str := lit "ip route 10.7.0.0 255.255.0.0 10.7.7.7\n"
def cfgB : Str := lit "ip route 10.2.0.0 255.255.0.0 10.8.2.1\n"

/-- **sh_run_cut_at_fresh_prompt** (F-C15h, known). While `sh run` prints the configuration no reload of THIS session is
scheduled; the banner is that of somebody else's reload.  The device prints `cfgA`, a reload banner with a fresh
prompt (logging synchronous), then `cfgB`: `GetCmdOutput("sh run")` returns `cfgA` and the banner only — no abort —
and the rest stays in the expect buffer.  Without the fresh prompt the whole text is returned (the
banner lines included). -/
theorem sh_run_cut_at_fresh_prompt :
    let cut := shRun ++ ['\n'] ++ (cfgA.dropLast ++ bannerText m2 ++ ['\n'] ++ prompt ++ cfgB ++ prompt)
    let plain := shRun ++ ['\n'] ++ (cfgA.dropLast ++ bannerText m2 ++ cfgB ++ prompt)
    let o := getCmdOutput (simDevice [(shRun, [[cut]])] false) shRun {dev := {}}
    let o' := getCmdOutput (simDevice [(shRun, [[plain]])] false) shRun {dev := {}}
    o.1 = .ok (cfgA.dropLast ++ bannerText m2 ++ ['\n']) ∧ o.2.pend = cfgB ++ prompt ∧
    o'.1 = .ok (cfgA.dropLast ++ bannerText m2 ++ cfgB) ∧ o'.2.pend = [] := by
  simp -index only [c15_vocab, shRun, cfgA, cfgB, m2]
  decide +kernel

/-- a device that answers the n-th line it receives with the n-th scripted text (no echo, nothing after the
last text: not `echoDev` of `NA/Model/IosLogin.lean`, which the driver runs) -/
def scriptDev (rs : List Str) : Device Nat where
  step n _ := (n + 1, rs.getD n [])

def pw : Str := lit "secret"

/-- `LoginEnable` on the dialogue of the scripted device of the harness (password, enable mode at once): it hands
`\nrouter` + `\S*` + `#` to `SetStdPrompt`, the prompt the rest of the model uses -/
theorem login_direct :
    let o := loginEnable (scriptDev [lit "\nbanner motd  managed by NetSPoC\nrouter#", lit "\nrouter#"]) pw
               { dev := 0, pend := lit "Enter Password:" }
    o.1 = .ok { head := lit "\nrouter", tail := lit "#",
                banner := lit "Enter Password:\nbanner motd  managed by NetSPoC\nrouter#" } ∧
    o.2.trace = [pw, []] ∧ o.2.pend = [] ∧ promptHead = lit "\nrouter" := by
  simp -index only [pw, lit_ofList]
  decide +kernel

/-- host key question, user mode, `enable` asks for a password: it is sent a second time -/
theorem login_enable_password :
    let o := loginEnable (scriptDev [lit "\nPassword: ", lit "\nrouter>", lit "enable\nPassword: ", lit "\nrouter# ", lit "\nrouter# "]) pw
               { dev := 0, pend := lit "Are you sure you want to continue connecting (yes/no/[fingerprint])?" }
    (∃ b, o.1 = .ok { head := lit "\nrouter", tail := lit "# ", banner := b }) ∧
    o.2.trace = [lit "yes", pw, lit "enable", pw, []] := by
  refine ⟨⟨lit "\nPassword: \nrouter>enable\nPassword: \nrouter# ", ?_⟩, ?_⟩ <;>
    simp -index only [pw, lit_ofList] <;> decide +kernel

/-- `enable` is refused without a password question: the password is NOT sent again; wrong password:
failure; both without any further command -/
theorem login_fails_closed :
    let o := loginEnable (scriptDev [lit "\nrouter>", lit "enable\n% Access denied\nrouter>"]) pw
               { dev := 0, pend := lit "Password:" }
    let o' := loginEnable (scriptDev [lit "\nPassword:", lit "\nPassword:"]) pw { dev := 0, pend := lit "password:" }
    o.1 = .abort (.loginFailed true) ∧ o.2.trace = [pw, lit "enable"] ∧
    o'.1 = .abort (.loginFailed false) ∧ o'.2.trace = [pw] := by
  simp -index only [pw, lit_ofList]
  decide +kernel

end NA.Ios

namespace NA.C15Multi
def obligations : List Lean.Name :=
  [``NA.Ios.several_banners_counterexample, ``NA.Ios.sh_run_cut_at_fresh_prompt,
   ``NA.Ios.login_direct, ``NA.Ios.login_enable_password, ``NA.Ios.login_fails_closed]
end NA.C15Multi
