import NA.Proofs.CellPlanSafe
import NA.Props.IosAcl
/-!
# C14 for the real IOS planner model: every command of `planIOS M` is safe

For EVERY merged list `M` (any length; `mkey`s pairwise different in `olds M` and in `news M`, at
least one kept line, no junk cells, insert runs shorter than 10000) the strict IOS device accepts
`planIOS M` on the resequenced device, and after EVERY command each packet gets the old verdict or
the verdict of the FINAL state (`ios_steps_old_or_final`) — provided

* `NoCrossIos M`: every move that `planIOS M` really emits (not the suppressed ones) and that goes
  DOWNWARD only crosses old lines commuting with the moved line (same test as `NoCross` of ASA);
* `MoveSem M`: a re-added line hits the same packets as the line it replaces.

Suppressed moves need nothing: the line simply stays.  The final state is the target except for
the positions of the suppressed lines; for ACLs without remark lines it filters like the target
(`ios_plan_block_equiv_partial`), which gives the property of C14 relative to `news M`
(`ios_steps_safe_partial`).  Without `NoCrossIos` the statement is false
(`ios_steps_safe_needs_noCross`, F-C14), and so it is for scripts that keep no line
(`ios_no_common_line_unsafe`, F-C14b; excluded by the both-cell hypothesis).
-/
namespace NA.IosSafe
open NA.Acl

attribute [-simp] List.getD_eq_getElem?_getD

/-- Every move EMITTED by `planIOS M` (joined `no <n>` / `<m> line`) that goes downward crosses
only old lines that commute with the moved line. -/
def NoCrossIos (M : List Cell) : Bool :=
  (addIdx M).all fun j =>
    match delLookup M (M.getD j default).line.mkey with
    | none => true
    | some i =>
      !(planIOS M).contains (IOp.move (numOf M i) (numOf M j) (M.getD j default).line) ||
      (List.range j).all fun c =>
        !(decide (i < c) && (M.getD c default).old) ||
          commutesAll (M.getD i default).line (M.getD c default).line

theorem crossOK_kc (M : List Cell) (g : Nat → Bool)
    (hplan : planIOS M = (addIdx M).flatMap (cellOpsG M g) ++ delsOf M)
    (hno : ((olds M).map (·.mkey)).Nodup) (hcross : NoCrossIos M = true) :
    CrossOK (keepCells M ((addIdx M).filter (supprAt M g))) := by
  intro i j hj hd c hic hcj hco p
  obtain ⟨hjM, hil, hl, hop⟩ := kc_partner M g hplan hno hj hd
  have hjl := ((mem_addIdx M j).1 hjM).1
  have hcl : c < M.length := by omega
  rw [kc_old M _ c hcl] at hco
  rw [kc_line M _ i hil, kc_line M _ c hcl]
  have h1 := List.all_eq_true.1 hcross j hjM
  simp only [hl] at h1
  have hc : (planIOS M).contains (IOp.move (numOf M i) (numOf M j) (M.getD j default).line) = true :=
    List.contains_iff_mem.mpr hop
  simp only [hc, Bool.not_true, Bool.false_or] at h1
  have h2 := List.all_eq_true.1 h1 c (List.mem_range.2 hcj)
  simp only [hic, hco, decide_true, Bool.and_self, Bool.not_true, Bool.false_or] at h2
  exact commutesAll_spec _ _ h2 p

theorem semOK_kc (M : List Cell) (g : Nat → Bool)
    (hplan : planIOS M = (addIdx M).flatMap (cellOpsG M g) ++ delsOf M)
    (hno : ((olds M).map (·.mkey)).Nodup) (hsem : MoveSem M = true) :
    SemOK (keepCells M ((addIdx M).filter (supprAt M g))) := by
  intro i j hj hd p
  obtain ⟨hjM, hil, hl, _⟩ := kc_partner M g hplan hno hj hd
  have hjl := ((mem_addIdx M j).1 hjM).1
  rw [kc_line M _ i hil, kc_line M _ j hjl]
  exact semOK_of_moveSem M hsem i j hjM hl p

/-- After every command each packet gets the old verdict or the verdict of the final state;
the final state is the target with the lines of the suppressed moves at their old positions. -/
theorem ios_steps_old_or_final (M : List Cell)
    (hboth : (M.any fun c => c.old && c.new) = true) (hjunk : noJunk M = true)
    (hruns : runsShort M)
    (hno : ((olds M).map (·.mkey)).Nodup) (hnn : ((news M).map (·.mkey)).Nodup)
    (hcross : NoCrossIos M = true) (hsem : MoveSem M = true)
    (dev : IosAcl) (hdev : iosLines dev = olds M) :
    ∃ tr fin, iosTrace (iosReseq dev 10000 10000) (planIOS M) = some tr ∧
      (iosReseq dev 10000 10000 :: tr).getLast? = some fin ∧
      (∃ S, (∀ j ∈ S, j ∈ addIdx M) ∧ iosLines fin = masked M (finalMask M S)) ∧
      ∀ s ∈ tr, ∀ p, eval (iosLines s) p = eval (olds M) p ∨
        eval (iosLines s) p = eval (iosLines fin) p := by
  obtain ⟨g, hplan, -, hrun⟩ := planIOS_run M hboth hjunk hruns hno hnn dev hdev
  have hSsub := mem_addIdx_of_suppr M g
  obtain ⟨tr, htr, hall, hlast⟩ := hrun.trace
  refine ⟨tr, _, htr, hlast, ⟨_, hSsub, numbered_lines M _⟩, ?_⟩
  intro s hs p
  obtain ⟨ν, rfl, hshape⟩ := hall s hs
  have := hshape.old_or_new (crossOK_kc M g hplan hno hcross) (semOK_kc M g hplan hno hsem) p
  rw [masked_kc, olds_kc M _, news_kc M _] at this
  rw [numbered_lines, numbered_lines]
  exact this

/-- If the final state filters like the target, every state in between gives each packet the old
or the NEW verdict. -/
theorem ios_steps_old_or_new_of_final (M : List Cell)
    (hboth : (M.any fun c => c.old && c.new) = true) (hjunk : noJunk M = true)
    (hruns : runsShort M)
    (hno : ((olds M).map (·.mkey)).Nodup) (hnn : ((news M).map (·.mkey)).Nodup)
    (hcross : NoCrossIos M = true) (hsem : MoveSem M = true)
    (dev : IosAcl) (hdev : iosLines dev = olds M)
    (hfin : ∃ tr s, iosTrace (iosReseq dev 10000 10000) (planIOS M) = some tr ∧
      (iosReseq dev 10000 10000 :: tr).getLast? = some s ∧
      ∀ p, eval (iosLines s) p = eval (news M) p) :
    ∃ tr, iosTrace (iosReseq dev 10000 10000) (planIOS M) = some tr ∧
      ∀ s ∈ tr, ∀ p, eval (iosLines s) p = eval (olds M) p ∨ eval (iosLines s) p = eval (news M) p := by
  obtain ⟨tr, fin, htr, hlast, _, hall⟩ :=
    ios_steps_old_or_final M hboth hjunk hruns hno hnn hcross hsem dev hdev
  obtain ⟨tr', s', htr', hlast', heq⟩ := hfin
  obtain rfl : tr = tr' := Option.some.inj (htr.symm.trans htr')
  obtain rfl : fin = s' := Option.some.inj (hlast.symm.trans hlast')
  exact ⟨tr, htr, fun s hs p => heq p ▸ hall s hs p⟩

/-- Step safety of C14 for the IOS planner model, ACLs without remark lines: a packet on which the
old and the new ACL agree keeps that verdict after every command.  (`_partial`: the unconditional
property is false, F-C14; with remark lines even the final state can be wrong, F-C02r.) -/
theorem ios_steps_safe_partial (M : List Cell)
    (hboth : (M.any fun c => c.old && c.new) = true) (hjunk : noJunk M = true)
    (hruns : runsShort M)
    (hno : ((olds M).map (·.mkey)).Nodup) (hnn : ((news M).map (·.mkey)).Nodup)
    (hcross : NoCrossIos M = true) (hsem : MoveSem M = true)
    (hnr : ∀ c ∈ M, c.line.remark = false)
    (hwf : ∀ i ∈ delIdx M, ∀ j ∈ addIdx M,
      (M.getD i default).line.mkey = (M.getD j default).line.mkey →
      LineEqv (M.getD i default).line (M.getD j default).line)
    (dev : IosAcl) (hdev : iosLines dev = olds M) :
    ∃ tr, iosTrace (iosReseq dev 10000 10000) (planIOS M) = some tr ∧
      ∀ s ∈ tr, ∀ p, eval (olds M) p = eval (news M) p → eval (iosLines s) p = eval (olds M) p := by
  obtain ⟨tr', s', htr', hlast', _, heq⟩ :=
    IosAclProps.ios_plan_block_equiv_partial M hboth hjunk hruns hno hnn hnr hwf dev hdev
  obtain ⟨tr, htr, hall⟩ := ios_steps_old_or_new_of_final M hboth hjunk hruns hno hnn hcross hsem
    dev hdev ⟨tr', s', htr', hlast', heq⟩
  exact ⟨tr, htr, safe_of_old_or_new iosLines hall⟩

/-- No suppressed move (the plan holds an `add` or `move` for every new-only cell): old or NEW
verdict after every command; remark lines allowed. -/
theorem ios_steps_old_or_new_no_suppression (M : List Cell)
    (hboth : (M.any fun c => c.old && c.new) = true) (hjunk : noJunk M = true)
    (hruns : runsShort M)
    (hno : ((olds M).map (·.mkey)).Nodup) (hnn : ((news M).map (·.mkey)).Nodup)
    (hcross : NoCrossIos M = true) (hsem : MoveSem M = true)
    (hcount : ((planIOS M).filter IOp.isAddMove).length = (addIdx M).length)
    (dev : IosAcl) (hdev : iosLines dev = olds M) :
    ∃ tr, iosTrace (iosReseq dev 10000 10000) (planIOS M) = some tr ∧
      ∀ s ∈ tr, ∀ p, eval (iosLines s) p = eval (olds M) p ∨ eval (iosLines s) p = eval (news M) p := by
  obtain ⟨tr', s', htr', hlast', heq⟩ :=
    IosAclProps.ios_plan_converges_no_suppression_partial M hboth hjunk hruns hno hnn hcount dev hdev
  exact ios_steps_old_or_new_of_final M hboth hjunk hruns hno hnn hcross hsem dev hdev
    ⟨tr', s', htr', hlast', fun p => by rw [heq]⟩

theorem ios_steps_safe_no_suppression_partial (M : List Cell)
    (hboth : (M.any fun c => c.old && c.new) = true) (hjunk : noJunk M = true)
    (hruns : runsShort M)
    (hno : ((olds M).map (·.mkey)).Nodup) (hnn : ((news M).map (·.mkey)).Nodup)
    (hcross : NoCrossIos M = true) (hsem : MoveSem M = true)
    (hcount : ((planIOS M).filter IOp.isAddMove).length = (addIdx M).length)
    (dev : IosAcl) (hdev : iosLines dev = olds M) :
    ∃ tr, iosTrace (iosReseq dev 10000 10000) (planIOS M) = some tr ∧
      ∀ s ∈ tr, ∀ p, eval (olds M) p = eval (news M) p → eval (iosLines s) p = eval (olds M) p := by
  obtain ⟨tr, htr, hall⟩ :=
    ios_steps_old_or_new_no_suppression M hboth hjunk hruns hno hnn hcross hsem hcount dev hdev
  exact ⟨tr, htr, safe_of_old_or_new iosLines hall⟩

/-- Without moves no side condition is needed. -/
theorem ios_steps_safe_no_moves (M : List Cell)
    (hboth : (M.any fun c => c.old && c.new) = true) (hjunk : noJunk M = true)
    (hruns : runsShort M)
    (hno : ((olds M).map (·.mkey)).Nodup) (hnn : ((news M).map (·.mkey)).Nodup)
    (hnm : NoMoves M = true) (dev : IosAcl) (hdev : iosLines dev = olds M) :
    ∃ tr, iosTrace (iosReseq dev 10000 10000) (planIOS M) = some tr ∧
      ∀ s ∈ tr, ∀ p, eval (olds M) p = eval (news M) p → eval (iosLines s) p = eval (olds M) p := by
  obtain ⟨tr', s', htr', hlast', heq⟩ :=
    IosAclProps.ios_plan_converges_no_moves_partial M hboth hjunk hruns hno hnn
      (fun i hi j hj => delLookup_noneI (noMoves_none M hnm hj) i hi) dev hdev
  obtain ⟨tr, htr, hall⟩ := ios_steps_old_or_new_of_final M hboth hjunk hruns hno hnn
    (List.all_eq_true.2 fun j hj => by rw [noMoves_none M hnm hj])
    (List.all_eq_true.2 fun j hj => by rw [noMoves_none M hnm hj]) dev hdev
    ⟨tr', s', htr', hlast', fun p => by rw [heq]⟩
  exact ⟨tr, htr, safe_of_old_or_new iosLines hall⟩

namespace W
def sfA : Line := { key := 1, mkey := 1, permit := true, mask := 3 }
def sfA' : Line := { key := 11, mkey := 1, permit := true, mask := 3 }   -- `log` changed
def sfB : Line := { key := 2, mkey := 2, permit := false, mask := 1 }    -- overlaps A, other action
def sfC : Line := { key := 3, mkey := 3, permit := true, mask := 4 }
def sfD : Line := { key := 4, mkey := 4, permit := false, mask := 8 }    -- disjoint from A
def sfE : Line := { key := 5, mkey := 5, permit := true, mask := 16 }

/-- F-C14 on IOS: device `[permit A, deny B, permit C]`, target `[permit C, permit A]`. -/
def cex : List Cell :=
  [⟨sfA, true, false⟩, ⟨sfB, true, false⟩, ⟨sfC, true, true⟩, ⟨sfA, false, true⟩]

/-- device `A D C B`, target `D C A' E`: a downward move across a disjoint deny and a permit,
an add, a delete. -/
def ok : List Cell :=
  [⟨sfA, true, false⟩, ⟨sfD, true, true⟩, ⟨sfC, true, true⟩, ⟨sfA', false, true⟩,
   ⟨sfE, false, true⟩, ⟨sfB, true, false⟩]

/-- a suppressed move: device `A C D`, target `C A D` -/
def sup : List Cell := [⟨sfA, true, false⟩, ⟨sfC, true, true⟩, ⟨sfA, false, true⟩, ⟨sfD, true, true⟩]

/-- F-C14b: no line in common.  device `[permit A, deny any log]`, target
`[permit A ∪ C, deny any]`. -/
def mgmt : Line := { key := 1, mkey := 1, permit := true, mask := 1 }
def denyLog : Line := { key := 2, mkey := 2, permit := false, mask := 7 }
def mgmt2 : Line := { key := 3, mkey := 3, permit := true, mask := 5 }
def denyNoLog : Line := { key := 4, mkey := 2, permit := false, mask := 7 }
def nocommon : List Cell :=
  [⟨mgmt, true, false⟩, ⟨denyLog, true, false⟩, ⟨mgmt2, false, true⟩, ⟨denyNoLog, false, true⟩]
end W

open W in
/-- `NoCrossIos` is necessary (F-C14 on IOS): all other hypotheses hold, `NoCrossIos` fails, and
packet 0 (same verdict before and after) is denied in between. -/
theorem ios_steps_safe_needs_noCross :
    (cex.any fun c => c.old && c.new) = true ∧ noJunk cex = true ∧ runsShort cex ∧
    ((olds cex).map (·.mkey)).Nodup ∧ ((news cex).map (·.mkey)).Nodup ∧
    MoveSem cex = true ∧ (∀ c ∈ cex, c.line.remark = false) ∧ NoCrossIos cex = false ∧
    ∃ tr, iosTrace (iosReseq ((olds cex).map fun l => (0, l)) 10000 10000) (planIOS cex) = some tr ∧
      ∃ s ∈ tr, ∃ p, eval (olds cex) p = eval (news cex) p ∧
        eval (iosLines s) p ≠ eval (olds cex) p := by
  refine ⟨by decide +kernel, by decide +kernel, (runsShortB_iff _).mp (by decide +kernel),
    by decide +kernel, by decide +kernel, by decide +kernel, by decide +kernel, by decide +kernel,
    [[(20000, sfB), (30000, sfC), (30001, sfA)], [(30000, sfC), (30001, sfA)]], by decide +kernel,
    [(20000, sfB), (30000, sfC), (30001, sfA)], by simp, 0, by decide +kernel⟩

open W in
/-- F-C14b: a script that keeps no line (`cellsOf` special form, "no parts equal" branch) deletes
all lines top-down first; after the first command the management permit is gone while the deny is
still there.  Packet 0 is permitted before and after, denied in between. -/
theorem ios_no_common_line_unsafe
    :
    cellsOf [mgmt, denyLog] [mgmt2, denyNoLog] [⟨0, 2, 0, 0⟩, ⟨0, 0, 0, 2⟩] = some nocommon ∧
    (nocommon.any fun c => c.old && c.new) = false ∧
    planIOS nocommon = [IOp.delText mgmt, IOp.delText denyLog, IOp.append mgmt2, IOp.append denyNoLog] ∧
    ∃ tr, iosTrace (iosReseq ((olds nocommon).map fun l => (0, l)) 10000 10000) (planIOS nocommon)
        = some tr ∧ tr.getLast?.map iosLines = some (news nocommon) ∧
      ∃ s ∈ tr, ∃ p, eval (olds nocommon) p = eval (news nocommon) p ∧
        eval (iosLines s) p ≠ eval (olds nocommon) p := by
  refine ⟨by decide +kernel, by decide +kernel, by decide +kernel,
    [[(20000, denyLog)], [], [(10, mgmt2)], [(10, mgmt2), (20, denyNoLog)]], by decide +kernel,
    by decide +kernel, [(20000, denyLog)], by simp, 0, by decide +kernel⟩

/-! ## Non-vacuity -/

open W in
example : NoCrossIos ok = true ∧ MoveSem ok = true ∧ NoMoves ok = false ∧
    planIOS ok = [IOp.move 10000 30001 sfA', IOp.add 30002 sfE, IOp.del 40000] := by
  decide +kernel

open W in
example : ∃ tr, iosTrace (iosReseq ((olds ok).map fun l => (0, l)) 10000 10000) (planIOS ok) = some tr ∧
    ∀ s ∈ tr, ∀ p, eval (olds ok) p = eval (news ok) p → eval (iosLines s) p = eval (olds ok) p :=
  ios_steps_safe_partial ok (by decide +kernel) (by decide +kernel)
    ((runsShortB_iff _).mp (by decide +kernel)) (by decide +kernel) (by decide +kernel)
    (by decide +kernel) (by decide +kernel) (by decide +kernel) (by decide +kernel) _
    (by decide +kernel)

open W in
/-- with a suppressed move (empty plan) the hypotheses hold as well -/
example : planIOS sup = [] ∧ NoCrossIos sup = true ∧ MoveSem sup = true ∧ olds sup ≠ news sup := by
  decide +kernel

open W in
example : NoMoves [⟨sfA, true, false⟩, ⟨sfB, true, true⟩, ⟨sfC, false, true⟩] = true := by
  decide +kernel

def obligations : List Lean.Name := [
  ``ios_steps_old_or_final, ``ios_steps_safe_partial, ``ios_steps_old_or_new_no_suppression,
  ``ios_steps_safe_no_suppression_partial, ``ios_steps_safe_no_moves,
  ``ios_steps_safe_needs_noCross, ``ios_no_common_line_unsafe,
  ``plan_irun, ``shape_of_addSt, ``shape_of_delSt, ``crossOK_kc, ``semOK_kc]

end NA.IosSafe
