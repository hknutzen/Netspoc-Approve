import NA.Proofs.C14
import NA.Proofs.C14Routes
import NA.Props.AsaSafe
import NA.Props.IosSafe
/-!
# C14 — incremental ACL and route changes are safe at every intermediate step

`M` is the merged list of an arbitrary edit script between the device ACL `olds M` and the
target `news M`; `eval` is first-match evaluation with implicit deny; packets are arbitrary
naturals (bit positions of the lines' match sets).

* `verdict_old_or_new_adding` / `_deleting`: while lines are added top-down and while lines are
  deleted bottom-up (the two phases of `diffASAACLs` / `diffIOSACLs`), every packet gets the old
  or the new verdict — stronger than the property.  `steps_safe_adding` / `_deleting`: the property.
* `move_safe_down` / `move_safe_up` / `log_change_safe`: a line moved (one joined command) across
  lines it commutes with, or replaced by a line that differs only in logging, leaves every verdict
  as it is.
* `steps_safe_counterexample`: the property as stated is **false** for the planner: a line moved
  downward across an overlapping line of the opposite action that is deleted later (F-C14).
* `asa_steps_safe_partial` (NA.Props.AsaSafe): for the model of `diffASAACLs` itself, every state of the
  executed plan keeps the verdict of every packet on which old and new agree, provided no downward move
  crosses a still-present old line it does not commute with (`NoCross`); `asa_steps_safe_needs_noCross`
  shows the hypothesis is necessary; without moves no hypothesis is needed (`asa_steps_safe_no_moves`).
* `ios_steps_safe_partial` etc. (NA.Props.IosSafe): the same for the model of `diffIOSACLs` on the strict
  numbered-entry device (`ios_steps_old_or_final` for all ACLs, relative to the target for remark-free ACLs);
  `ios_no_common_line_unsafe` is the kernel-evaluated witness of finding F-C14b.
* `routes_covered`: GENERIC lemma — for scripts of the emitted shape (adds and same-destination replacements,
  then deletes, reaching the target) every destination covered before and after is covered after every step.
  It is applied to the engines' own route plans, with its three hypotheses proved, in `NA.Props.F2`
  (`ios_routes_covered_every_step`) and `NA.Props.F1`; the driver checks the shape on the real scripts.
-/
namespace NA.Acl

theorem verdict_old_or_new_adding (M : List Cell) (j p : Nat) :
    eval (addPhase M j) p = eval (olds M) p ∨ eval (addPhase M j) p = eval (news M) p :=
  addPhase_old_or_new M j p

theorem verdict_old_or_new_deleting (M : List Cell) (i p : Nat) :
    eval (delPhase M i) p = eval (olds M) p ∨ eval (delPhase M i) p = eval (news M) p :=
  delPhase_old_or_new M i p

/-- The property for the adding phase: where old and new agree, every intermediate state agrees. -/
theorem steps_safe_adding (M : List Cell) (j p : Nat) (h : eval (olds M) p = eval (news M) p) :
    eval (addPhase M j) p = eval (olds M) p := by
  rcases addPhase_old_or_new M j p with h1 | h1
  · exact h1
  · rw [h1, h]

theorem steps_safe_deleting (M : List Cell) (i p : Nat) (h : eval (olds M) p = eval (news M) p) :
    eval (delPhase M i) p = eval (olds M) p := by
  rcases delPhase_old_or_new M i p with h1 | h1
  · exact h1
  · rw [h1, h]

/-- The phases start at the device ACL, meet in the union, and end at the target. -/
theorem phases_endpoints (M : List Cell) :
    addPhase M 0 = olds M ∧ addPhase M M.length = delPhase M M.length ∧ delPhase M 0 = news M :=
  ⟨addPhase_zero M, addPhase_all_eq_delPhase_all M, delPhase_zero M⟩

theorem move_safe_down (s1 mid s2 : List Line) (x : Line) (p : Nat)
    (h : ∀ y ∈ mid, commutes x y p = true) :
    eval (s1 ++ mid ++ x :: s2) p = eval (s1 ++ x :: mid ++ s2) p := eval_move_down s1 mid s2 x p h

theorem move_safe_up (s1 mid s2 : List Line) (x : Line) (p : Nat)
    (h : ∀ y ∈ mid, commutes x y p = true) :
    eval (s1 ++ x :: mid ++ s2) p = eval (s1 ++ mid ++ x :: s2) p :=
  (eval_move_down s1 mid s2 x p h).symm

theorem log_change_safe (s1 s2 : List Line) (x y : Line) (p : Nat)
    (hh : x.hits p = y.hits p) (hp : x.permit = y.permit) :
    eval (s1 ++ x :: s2) p = eval (s1 ++ y :: s2) p := eval_replace_same s1 s2 x y p hh hp

/-! The counterexample: device `[permit A, deny B, permit C]`, target `[permit C, permit A]`, where
`B ⊂ A` overlap on packet 0.  The planner (model of the code; tied by correspondence) moves
`permit A` below `deny B` first and deletes `deny B` last. -/
def cexA : Line := { key := 1, mkey := 1, permit := true, mask := 3 }
def cexB : Line := { key := 2, mkey := 2, permit := false, mask := 1 }
def cexC : Line := { key := 3, mkey := 3, permit := true, mask := 4 }
def cexM : List Cell :=
  [⟨cexA, true, false⟩, ⟨cexB, true, false⟩, ⟨cexC, true, true⟩, ⟨cexA, false, true⟩]

theorem steps_safe_counterexample :
    normalised cexM = true ∧
    ∃ ss, asaTrace (olds cexM) (planASA cexM) = some ss ∧ ss.getLast? = some (news cexM) ∧
      ∃ s ∈ ss, ∃ p, eval (olds cexM) p = eval (news cexM) p ∧ eval s p ≠ eval (olds cexM) p := by
  refine ⟨by decide +kernel, [[cexB, cexC, cexA], [cexC, cexA]], by decide +kernel, by decide +kernel,
    [cexB, cexC, cexA], by simp, 0, by decide +kernel, by decide +kernel⟩

/-- … and the same for the IOS planner. -/
theorem steps_safe_counterexample_ios :
    ∃ ss, iosTrace (iosReseq ((olds cexM).map fun l => (0, l)) 10000 10000) (planIOS cexM) = some ss ∧
      ∃ s ∈ ss, ∃ p, eval (olds cexM) p = eval (news cexM) p ∧ eval (iosLines s) p ≠ eval (olds cexM) p := by
  refine ⟨[[(20000, cexB), (30000, cexC), (30001, cexA)], [(30000, cexC), (30001, cexA)]], by decide +kernel,
    [(20000, cexB), (30000, cexC), (30001, cexA)], by simp, 0, by decide +kernel, by decide +kernel⟩

/-- Non-vacuity: a merged list with adds, deletes and an overlap where old and new agree. -/
example : eval (olds cexM) 0 = eval (news cexM) 0 ∧ eval (addPhase cexM 4) 0 = eval (olds cexM) 0 := by decide +kernel

end NA.Acl

namespace NA.Route

/-- Route coverage: a script of the emitted shape (adds and same-destination replacements, each
replacement sent as one line; then deletions of routes that the target does not contain), executed
on a table that afterwards contains the whole target, keeps every destination covered that is
covered before and after. -/
theorem routes_covered (old new : List Route) (opsA opsB : List ROp) (v d : Nat)
    (hA : phaseA opsA = true) (hB : phaseB new opsB = true)
    (hall : ∀ r ∈ new, r ∈ opsA.foldl rexec1 old)
    (hold : covered old v d = true) (hnew : covered new v d = true) :
    ∀ t ∈ rtrace old opsA ++ rtrace (opsA.foldl rexec1 old) opsB, covered t v d = true :=
  covered_both_phases old new opsA opsB v d hA hB hall hold hnew

example : phaseA [.repl ⟨0, 0, 1⟩ ⟨0, 0, 2⟩, .add ⟨0, 5, 2⟩] = true ∧ phaseB [⟨0, 0, 2⟩, ⟨0, 5, 2⟩] [.del ⟨0, 7, 1⟩] = true := by
  decide +kernel

end NA.Route

namespace NA.C14
def obligations : List Lean.Name := [
  ``NA.Acl.verdict_old_or_new_adding, ``NA.Acl.verdict_old_or_new_deleting,
  ``NA.Acl.steps_safe_adding, ``NA.Acl.steps_safe_deleting, ``NA.Acl.phases_endpoints,
  ``NA.Acl.move_safe_down, ``NA.Acl.move_safe_up, ``NA.Acl.log_change_safe,
  ``NA.Acl.steps_safe_counterexample, ``NA.Acl.steps_safe_counterexample_ios,
  ``NA.Route.routes_covered,
  ``NA.Acl.asa_steps_old_or_new, ``NA.Acl.asa_steps_safe_partial, ``NA.Acl.asa_steps_old_or_new_no_moves,
  ``NA.Acl.asa_steps_safe_no_moves, ``NA.Acl.asa_steps_safe_needs_noCross,
  ``NA.IosSafe.ios_steps_old_or_final, ``NA.IosSafe.ios_steps_safe_partial,
  ``NA.IosSafe.ios_steps_safe_no_suppression_partial, ``NA.IosSafe.ios_steps_safe_no_moves,
  ``NA.IosSafe.ios_steps_safe_needs_noCross, ``NA.IosSafe.ios_no_common_line_unsafe]
end NA.C14
