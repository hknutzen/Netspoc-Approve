import NA.Proofs.C20
import NA.Proofs.C20Shape
import NA.Proofs.C20Linux
import NA.Proofs.C20Http
import NA.Proofs.C20Sites
import NA.Proofs.C20Refs
import NA.Proofs.C20Banner
import NA.Proofs.C20Status
import NA.Proofs.C20Cycle
import NA.Proofs.C20Post
import NA.Proofs.C20Diff
import NA.Gen.PanicSites
/-!
# C20 — malformed input ends in a diagnostic, never in a crash

Every repaired function of the models (`NA/Model/Cursor*.lean`) has one definition with a flag: `fixed = false` is the
snapshot (most `…_counterexample` theorems are about it), `fixed = true` the code after the `fix:` commits (the
`no_panic_…` theorems, for ALL token lists / file contents / decoded structures).

Two explicit `panic(` calls stay in the code because the suite pins their output
(asa_parse.t "Incomplete string", drc.t "Bad info file" / "Unreadable info file"): they are the
known findings, refuted here by `matchCmd_incomplete_string_counterexample` and
`loadInfoFile_garbage_counterexample`, with the `_partial` theorems for the complement.
-/
namespace NA.C20
open Res NA.Gen.PanicSites

def toDescr (d : RawDescr) : Descr :=
  { pre := d.pre.toList, template := d.template.map String.toList, ignore := d.ignore,
    sub := d.sub.map fun s => (s.1.map String.toList, s.2),
    refs := d.refs.map String.toList, subRefs := d.subRefs.map fun l => l.map String.toList }

def asaTable : List Descr := asaDescr.map toDescr
def iosTable : List Descr := iosDescr.map toDescr

/-- Rewrites the tables and every `lit "…"` of the goal to lists of characters (`lit_ofList`), so that
the evaluation that follows does not decode string literals. -/
macro "chars" : tactic =>
  `(tactic| simp -index only [lit_ofList, String.toList_ofList, asaTable, iosTable, asaDescr, iosDescr, toDescr,
      List.map, refTok])

/-- the translator understood everything it read. -/
theorem gen_no_problems : NA.Gen.PanicSites.problems = [] := by decide

def MinWords (ds : List Descr) (pre : Str) (n : Nat) : Prop :=
  ∀ d ∈ ds, d.pre = pre → n ≤ (fields d.pre).length + d.template.length

instance (t : Str) : Decidable (CleanTok t) := by unfold CleanTok; infer_instance
instance (tmpl : List Str) : Decidable (CleanTemplate tmpl) := by unfold CleanTemplate; infer_instance
instance (ds : List Descr) : Decidable (CleanTop ds) := by unfold CleanTop; infer_instance
instance (ds : List Descr) : Decidable (NoQuoteTop ds) := by unfold NoQuoteTop; infer_instance
instance (ds : List Descr) : Decidable (CleanSubs ds) := by unfold CleanSubs; infer_instance
instance (ds : List Descr) (pre : Str) (n : Nat) : Decidable (MinWords ds pre n) := by
  unfold MinWords; infer_instance
instance (ds : List Descr) : Decidable (RefsDeclared ds) := by unfold RefsDeclared; infer_instance
instance (ds : List Descr) : Decidable (MaxRefs5 ds) := by unfold MaxRefs5; infer_instance
instance (ds : List Descr) : Decidable (AclNoRef ds) := by unfold AclNoRef; infer_instance
instance (ds : List Descr) : Decidable (IosSubNoRef ds) := by unfold IosSubNoRef; infer_instance

/-- What the Go code takes for granted about a command table, and the theorems below assume.
No top-level template contains the `"` token; all templates, top level and sub commands, consist of words
with `*` only at the end; one referenced prefix is declared per `$REF` token, at most five per template;
`access-list` templates and the sub templates of `ip access-list extended` have no `$REF`.  The rest are the
word counts behind index expressions into `strings.Fields(c.parsed)`; each is stated for both tables and
holds vacuously of the one that has no command with the prefix. -/
structure TableFacts (ds : List Descr) : Prop where
  noQuoteTop : NoQuoteTop ds
  cleanTop : CleanTop ds
  cleanSubs : CleanSubs ds
  refsDeclared : RefsDeclared ds
  maxRefs5 : MaxRefs5 ds
  aclNoRef : AclNoRef ds
  iosSubNoRef : IosSubNoRef ds
  accessList : MinWords ds (lit "access-list") 4
  aaaServer : MinWords ds (lit "aaa-server") 3
  ipRoute : MinWords ds (lit "ip route") 3
  interface : MinWords ds (lit "interface") 2
  cryptoMapInterface : ∀ d ∈ ds, d.pre = lit "crypto map" → d.template.getD 1 [] = lit "interface" →
    5 ≤ (fields d.pre).length + d.template.length
  aclSub : ∀ d ∈ ds, d.pre = lit "ip access-list extended" → ∀ s ∈ d.sub, 2 ≤ s.1.length
  nameif : ∀ d ∈ ds, d.pre = lit "interface" → ∀ s ∈ d.sub, s.1.head? = some (lit "nameif") → 2 ≤ s.1.length
  aaaSub : ∀ d ∈ ds, d.pre = lit "aaa-server" → ∀ s ∈ d.sub, 1 ≤ s.1.count refTok

theorem asa_tableFacts : TableFacts asaTable := by chars; constructor <;> decide +kernel
theorem ios_tableFacts : TableFacts iosTable := by chars; constructor <;> decide +kernel

theorem asa_noQuoteTop : NoQuoteTop asaTable := asa_tableFacts.noQuoteTop
theorem ios_noQuoteTop : NoQuoteTop iosTable := ios_tableFacts.noQuoteTop
theorem asa_cleanTop : CleanTop asaTable := asa_tableFacts.cleanTop
theorem ios_cleanTop : CleanTop iosTable := ios_tableFacts.cleanTop
theorem asa_cleanSubs : CleanSubs asaTable := asa_tableFacts.cleanSubs
theorem ios_cleanSubs : CleanSubs iosTable := ios_tableFacts.cleanSubs
theorem asa_cleanSubsOf : CleanSubs asaTable := asa_cleanSubs
theorem ios_cleanSubsOf : CleanSubs iosTable := ios_cleanSubs
theorem asa_refsDeclared : RefsDeclared asaTable := asa_tableFacts.refsDeclared
theorem ios_refsDeclared : RefsDeclared iosTable := ios_tableFacts.refsDeclared
theorem asa_maxRefs5 : MaxRefs5 asaTable := asa_tableFacts.maxRefs5
theorem ios_maxRefs5 : MaxRefs5 iosTable := ios_tableFacts.maxRefs5
theorem asa_aclNoRef : AclNoRef asaTable := asa_tableFacts.aclNoRef
theorem ios_aclNoRef : AclNoRef iosTable := ios_tableFacts.aclNoRef
theorem asa_iosSubNoRef : IosSubNoRef asaTable := asa_tableFacts.iosSubNoRef
theorem ios_iosSubNoRef : IosSubNoRef iosTable := ios_tableFacts.iosSubNoRef

/-- `access-list $NAME standard|extended|remark *`: four words (`tokens[2]`, `tokens[4:]`). -/
theorem asa_accessList_minWords : MinWords asaTable (lit "access-list") 4 := asa_tableFacts.accessList
/-- `aaa-server $NAME …`: three words (`words[2]`). -/
theorem asa_aaaServer_minWords : MinWords asaTable (lit "aaa-server") 3 := asa_tableFacts.aaaServer
/-- `ip route *`: three words (`tokens[2]` in routeVRF). -/
theorem ios_ipRoute_minWords : MinWords iosTable (lit "ip route") 3 := ios_tableFacts.ipRoute
/-- `interface *`: two words (`strings.Fields(c.parsed)[1]`). -/
theorem ios_interface_minWords : MinWords iosTable (lit "interface") 2 := ios_tableFacts.interface
/-- `crypto map $REF interface *` is the only `crypto map` command whose second template token is
`interface`; it has five words (`strings.Fields(c.parsed)[4]`). -/
theorem asa_cryptoMapInterface_minWords :
    ∀ d ∈ asaTable, d.pre = lit "crypto map" → d.template.getD 1 [] = lit "interface" →
      5 ≤ (fields d.pre).length + d.template.length := asa_tableFacts.cryptoMapInterface
/-- sub commands of `ip access-list extended`: at least two words (`tokens[0]`, `tokens[1:]`, `parts[0]`). -/
theorem ios_aclSub_minWords :
    ∀ d ∈ iosTable, d.pre = lit "ip access-list extended" → ∀ s ∈ d.sub, 2 ≤ s.1.length := ios_tableFacts.aclSub
/-- sub command `nameif *` of `interface`: two words (`tokens[1]`). -/
theorem asa_nameif_minWords :
    ∀ d ∈ asaTable, d.pre = lit "interface" → ∀ s ∈ d.sub, s.1.head? = some (lit "nameif") → 2 ≤ s.1.length :=
  asa_tableFacts.nameif
/-- every sub command template of `aaa-server` carries a `$REF`. -/
theorem asa_aaaSub_hasRef :
    ∀ d ∈ asaTable, d.pre = lit "aaa-server" → ∀ s ∈ d.sub, 1 ≤ s.1.count refTok := asa_tableFacts.aaaSub

/-- `matchCmd` on words produced by `strings.Fields` (sub commands): the only panic is the
explicit "Incomplete string". -/
theorem no_panic_matchCmd_partial (pre : Str) (words : List Str) (hne : ∀ w ∈ words, w ≠ [])
    (ds : List (Nat × List Str × Bool)) : PanicOnly incompleteString (matchCmd pre words ds) :=
  matchCmd_panicOnly pre words hne ds

/-- … and it is a real one: `map-value memberOf "CN=a b` (no closing quote). Known finding
F-C20m, pinned by asa_parse.t "Incomplete string". -/
theorem matchCmd_incomplete_string_counterexample :
    matchCmd [] [lit "map-value", lit "memberOf", lit "\"CN=a", lit "b"]
      [(0, [lit "map-value", lit "memberOf", lit "\"", lit "$REF"], false)] = .panic incompleteString := by
  chars; rfl

/-- templates without the `"` token: no panic for ANY words, also empty ones (`strings.Split`). -/
theorem no_panic_matchCmd_noquote (pre : Str) (words : List Str) (ds : List (Nat × List Str × Bool))
    (h : ∀ d ∈ ds, lit "\"" ∉ d.2.1) : NoPanic (matchCmd pre words ds) :=
  matchCmd_noPanic pre words ds h

/-- `w[0]` on an empty word would panic — unreachable, the `"` token occurs only in sub command
templates, whose words come from `strings.Fields`. -/
theorem matchCmd_empty_word_counterexample :
    matchCmd [] [[]] [(0, [lit "\""], false)] = .panic (.index "w[0]") := by rfl

/-- The line loop of `ParseConfig` on the regenerated ASA and IOS tables, after the fix: for ANY file
content the only Go panic left is the pinned "Incomplete string". -/
theorem no_panic_parseConfig_asa (isRaw : Bool) (data : Str) :
    PanicOnly incompleteString (parseConfig true asaTable isRaw data) :=
  fun _ e => (parseConfig_spec asaTable isRaw data).panic e asa_noQuoteTop

theorem no_panic_parseConfig_ios (isRaw : Bool) (data : Str) :
    PanicOnly incompleteString (parseConfig true iosTable isRaw data) :=
  fun _ e => (parseConfig_spec iosTable isRaw data).panic e ios_noQuoteTop

/-- IOS has no `"` token in a sub command template either (with `no_panic_matchCmd_noquote`: its
sub commands cannot reach "Incomplete string"). -/
theorem ios_noQuoteSub : ∀ d ∈ iosTable, ∀ s ∈ d.sub, lit "\"" ∉ s.1 := by chars; decide +kernel

def miniTable : List Descr :=
  [{ pre := lit "interface", template := [lit "*"], ignore := false,
     sub := [([lit "shutdown"], false), ([lit "nameif", lit "*"], false)] }]

/-- Snapshot: a sub command line with less indentation than the first one, when no sub command
was stored (`prev.sub` empty), indexes `prev.sub[0]` for the error message. F-C20c. -/
theorem parseConfig_indent_counterexample :
    parseConfig false miniTable false (lit "interface E0\n  !x\n nameif inside\n") =
      .panic (.index "prev.sub[0]") := by unfold miniTable; chars; rfl

/-- the same input after the fix: a diagnostic naming both lines. -/
example : parseConfig true miniTable false (lit "interface E0\n  !x\n nameif inside\n") =
    .diag (badIndent (lit "  !x") (lit " nameif inside")) := by unfold miniTable; chars; rfl

/-- After the fix: no Go panic for ANY token list and ANY name tables. -/
theorem no_panic_postprocessACLParts (tb : Tables) (orig : Str) (parts : List Str) :
    NoPanic (aclParts true tb orig parts) := noPanic_aclParts tb orig parts

def noTables : Tables :=
  ⟨fun _ => none, fun _ => none, fun _ => none, fun _ => none, fun _ => none, fun _ => none, fun _ => none⟩

/-- Snapshot, `access-list X extended permit ip host`. F-C20a. -/
theorem aclParts_host_counterexample :
    aclParts false noTables [] [lit "ip", lit "host"] = .panic (.slice "parts[2:]") := by chars; rfl
/-- Snapshot, `access-list X extended permit object-group`. F-C20b. -/
theorem aclParts_objectGroup_counterexample :
    aclParts false noTables [] [lit "object-group"] = .panic (.index "parts[1]") := by rfl
/-- Snapshot, `access-list X extended permit`. -/
theorem aclParts_empty_counterexample :
    aclParts false noTables [] [] = .panic (.index "parts[0]") := by rfl

example : aclParts true noTables (lit "access-list X extended permit ip host") [lit "ip", lit "host"] =
    .diag (incomplete (lit "access-list X extended permit ip host")) := by chars; rfl
example : (aclParts true noTables [] [lit "tcp", lit "any", lit "host", lit "10.1.1.1", lit "eq", lit "80"]).isPanic = false := by
  chars; decide +kernel

theorem lookupCmd_minWords {ds : List Descr} (hc : CleanTop ds) {pre : Str} {n : Nat} (hmin : MinWords ds pre n)
    (raw : Str) (hne : trimRight raw ≠ []) (c : Cmd) (h : lookupCmd ds (trimRight raw) = .ok (some c))
    {dflt : Descr} (hp : (ds.getD c.descr dflt).pre = pre) : n ≤ (fields c.parsed).length := by
  obtain ⟨d, hd, hdi, hlen⟩ := lookupCmd_fields_ge ds hc raw hne c h
  rw [hdi, indexed_getD ds dflt d hd] at hp
  exact Nat.le_trans (hmin d.2 (mem_indexed hd) hp) hlen

/-- `postprocessASAACL` on any command that `lookupCmd` finds for a right-trimmed line with the
ASA table: `tokens[2]` and `tokens[4:]` are in range, the rest is `postprocessACLParts`. -/
theorem no_panic_postprocessASAACL (tb : Tables) (raw : Str) (hne : trimRight raw ≠ []) (c : Cmd)
    (h : lookupCmd asaTable (trimRight raw) = .ok (some c))
    (hp : (asaTable.getD c.descr { pre := [], template := [], ignore := false }).pre = lit "access-list") :
    NoPanic (asaACL true tb c.orig c.parsed) :=
  asaACL_noPanic tb _ _ (lookupCmd_minWords asa_cleanTop asa_accessList_minWords raw hne c h hp)

/-- `postprocessIOSACL` on any sub command that `matchCmd` finds in a line body split by
`strings.Fields`, for the sub templates of `ip access-list extended`. -/
theorem no_panic_postprocessIOSACL (tb : Tables) (body : Str) (d : Descr) (hd : d ∈ iosTable)
    (hp : d.pre = lit "ip access-list extended") (sc : Cmd)
    (h : matchCmd [] (fields body) ((indexed d.sub).map fun x => (x.1, x.2.1, x.2.2)) = .ok (some sc)) :
    NoPanic (iosACL true tb sc.orig sc.parsed) := by
  obtain ⟨s, hs, _, hlen, _⟩ := matchCmd_subOK d.sub (ios_cleanSubs d hd) body sc h
  exact iosACL_noPanic tb _ _ (Nat.le_trans (ios_aclSub_minWords d hd hp s.2 (mem_indexed hs)) hlen)

/-- the aaa-server part for one name, after the fix. -/
theorem no_panic_aaaServer (name : Str) (l : List Cmd) (hne : l ≠ [])
    (h1 : ∀ c ∈ l, 3 ≤ (fields c.parsed).length) (h2 : ∀ c ∈ l, ∀ s ∈ c.sub, s.ref ≠ []) :
    NoPanic (aaaGroup true name l) := aaaGroup_noPanic name l hne h1 h2

/-- … where the three words are what `lookupCmd` guarantees for the ASA table. -/
theorem aaaServer_words (raw : Str) (hne : trimRight raw ≠ []) (c : Cmd)
    (h : lookupCmd asaTable (trimRight raw) = .ok (some c))
    (hp : (asaTable.getD c.descr { pre := [], template := [], ignore := false }).pre = lit "aaa-server") :
    3 ≤ (fields c.parsed).length :=
  lookupCmd_minWords asa_cleanTop asa_aaaServer_minWords raw hne c h hp

/-- Snapshot, `aaa-server N host` (no address). F-C20d. -/
theorem aaaHost_counterexample :
    aaaHost false [] (lit "aaa-server $NAME host") = .panic (.index "words[3]") := by chars; rfl
/-- Snapshot, `aaa-server N  host 1.2.3.4` (two blanks): `words[2]` is the empty string. -/
theorem aaaHost_emptyWord_counterexample :
    aaaHost false [] (lit "aaa-server $NAME  host 1.2.3.4") = .panic (.index "words[2][0]") := by chars; rfl

example : aaaHost true (lit "aaa-server N host") (lit "aaa-server $NAME host") =
    .diag (incomplete (lit "aaa-server N host")) := by chars; rfl
example : aaaHost true [] (lit "aaa-server $NAME (inside) host 1.2.3.4 key") =
    .ok (some (lit "aaa-server $NAME host x")) := by chars; rfl

theorem no_panic_stripMetric (parsed : Str) : NoPanic (stripMetric parsed) := stripMetric_noPanic parsed
example : stripMetric (lit "ipv6 route inside ::/0 2001::1 5") = .ok (lit "ipv6 route inside ::/0 2001::1") := by chars; rfl
example : stripMetric (lit "ipv6 route vrf X 2001::/64 2001::1") = .ok (lit "ipv6 route vrf X 2001::/64 2001::1") := by chars; rfl

/-- `setTransRef`: the text behind ` set ikev1 transform-set ` is the tail of a right-trimmed line,
so it has a word and `strings.Repeat` gets a count ≥ 0. -/
theorem no_panic_setTransRef (orig names : Str) (h : Nonblank names) : NoPanic (transRefs true orig names) :=
  transRefs_noPanic orig names (fields_ne_nil_of_mem names h)

theorem transRefs_blank_counterexample :
    transRefs true [] (lit " ") = .panic (.explicit "strings: negative Repeat count") := by chars; rfl

/-- After the fix: no Go panic for ANY command text, IPv4 or IPv6. -/
theorem no_panic_dstOfRoute (isV6 : Bool) (orig parsed : Str) : NoPanic (dstOfRoute true isV6 orig parsed) :=
  dstOfRoute_noPanic isV6 orig parsed

/-- Snapshot, `route inside` (two of them are compared while sorting). F-C20e. -/
theorem dstOfRoute_short_counterexample :
    dstOfRoute false false [] (lit "route inside") = .panic (.index "l[2]") := by chars; rfl
theorem dstOfRoute_vrf_counterexample :
    dstOfRoute false false [] (lit "ip route vrf X 10.0.0.0") = .panic (.index "l[5]") := by chars; rfl
/-- Snapshot, `ipv6 route inside a b`: `slices.IndexFunc` returns -1. -/
theorem dstOfRoute_v6_counterexample :
    dstOfRoute false true [] (lit "ipv6 route inside a b") = .panic (.index "l[i] (i = -1)") := by chars; rfl

example : dstOfRoute true false (lit "route inside") (lit "route inside") =
    .diag (incomplete (lit "route inside")) := by chars; rfl
example : dstOfRoute true false [] (lit "ip route vrf X 10.0.0.0 255.0.0.0 10.1.1.1") =
    .ok ⟨lit "X", lit "10.0.0.0", lit "255.0.0.0"⟩ := by chars; rfl

/-- `routeVRF` on any `ip route` command that `lookupCmd` finds with the IOS table. -/
theorem no_panic_routeVRF (raw : Str) (hne : trimRight raw ≠ []) (c : Cmd)
    (h : lookupCmd iosTable (trimRight raw) = .ok (some c))
    (hp : (iosTable.getD c.descr { pre := [], template := [], ignore := false }).pre = lit "ip route") :
    NoPanic (routeVRF true c.orig c.parsed) :=
  routeVRF_noPanic _ _ (lookupCmd_minWords ios_cleanTop ios_ipRoute_minWords raw hne c h hp)

/-- Snapshot, `ip route vrf`. F-C20f. -/
theorem routeVRF_counterexample :
    routeVRF false [] (lit "ip route vrf") = .panic (.index "tokens[3]") := by chars; rfl

/-- interface checks: `strings.Fields(c.parsed)[k]` with `k` below the number of tokens of prefix
and template is in range, for every command found by `lookupCmd` in a right-trimmed line. -/
theorem parsed_index_ok (ds : List Descr) (hc : CleanTop ds) (raw : Str) (hne : trimRight raw ≠ []) (c : Cmd)
    (h : lookupCmd ds (trimRight raw) = .ok (some c)) (k : Nat)
    (hk : ∀ d ∈ indexed ds, c.descr = d.1 → k < (fields d.2.pre).length + d.2.template.length) :
    ((fields c.parsed)[k]?).isSome = true := by
  obtain ⟨d, hd, hdi, hlen⟩ := lookupCmd_fields_ge ds hc raw hne c h
  have := hk d hd hdi
  exact guarded_index_ok _ _ (by omega)

/-- `ParseConfig` of package linux: no Go panic for ANY file content; the word loop terminates. -/
theorem no_panic_linux_parseConfig (data : Str) : NoPanic (Linux.parseConfig data) :=
  Linux.parseConfig_noPanic data

example : (Linux.parseConfig (lit "*filter\n:INPUT DROP\n-A INPUT ! -s 10.1.1.1 -p tcp ! --syn -j ACCEPT\nip route add 10.0.0.0/8 via 10.1.1.1\n")).isPanic = false := by
  chars; decide +kernel
example : Linux.parseConfig (lit "*filter\n:INPUT DROP\n-A INPUT !\n") =
    .diag (lit "Unexpected trailing '!' in line\n -A INPUT !") := by chars; rfl

/-- `MergeSpoc` of package linux: the search for the insert position of `[APPEND]` rules never indexes
below 0, for ANY chain (empty, only DROP rules, …), and yields an index inside the chain. -/
theorem no_panic_linux_mergeSpoc (revDrop : List Bool) :
    NoPanic (Linux.appendIndex true revDrop) ∧ ∀ i, Linux.appendIndex true revDrop = .ok i → i ≤ revDrop.length :=
  ⟨Linux.appendIndex_noPanic revDrop, Linux.appendIndex_le revDrop⟩

/-- without the `i > 0` bound of the loop: an empty chain, or a chain of DROP rules only. -/
theorem linux_mergeSpoc_unbounded_counterexample :
    Linux.appendIndex false [] = .panic (.index "aChain.rules[i-1]") ∧
    Linux.appendIndex false [true, true] = .panic (.index "aChain.rules[i-1]") := ⟨rfl, rfl⟩

/-- The checks of `ParseConfig` after the fix never panic, whatever `json.Unmarshal` produced. -/
theorem no_panic_nsx_parseConfig (isRaw : Bool) (c : Nsx.Config) : NoPanic (Nsx.validate true isRaw c) :=
  Nsx.validate_noPanic isRaw c

/-- … and on what they accept, every accessor path of the diff code is safe. -/
theorem nsx_accessors_safe (isRaw : Bool) (c : Nsx.Config) (h : Nsx.validate true isRaw c = .ok ()) :
    NoPanic (Nsx.sortGroups c) ∧ (∀ g ∈ c.groups, NoPanic (Nsx.firstAddr true g)) ∧
    (∀ r ∈ Nsx.allRules c, NoPanic (Nsx.ruleKeys r)) := by
  have hv := Nsx.validate_ok isRaw c h
  exact ⟨Nsx.sortGroups_noPanic c hv, Nsx.firstAddr_noPanic c hv, Nsx.ruleKeys_noPanic c hv⟩

theorem no_panic_nsx_equalizeGroups (ruleId path : Str) (ga gb : Option Nsx.Group) :
    NoPanic (Nsx.equalizeHead true ruleId path ga gb) := Nsx.equalizeHead_noPanic ruleId path ga gb

/-- Snapshot: `null` in the list of groups. -/
theorem nsx_null_counterexample :
    Nsx.validate false false ⟨[], [none], []⟩ = .panic (.nilDeref "g.Expression") := by rfl
/-- Snapshot: a validated group with an empty `ip_addresses` list, compared in `sortRules`. F-C20g. -/
theorem nsx_emptyAddresses_counterexample :
    Nsx.validate false false ⟨[], [some ⟨lit "Netspoc-g1", [some ⟨[]⟩]⟩], []⟩ = .ok () ∧
    Nsx.firstAddr false (some ⟨lit "Netspoc-g1", [some ⟨[]⟩]⟩) = .panic (.index "IPAddresses[0]") := by
  chars; exact ⟨rfl, rfl⟩
/-- Snapshot: the target rule names a group that only the device defines (`gb == nil`). F-C20h. -/
theorem nsx_equalizeGroups_counterexample :
    Nsx.equalizeHead false (lit "r1") (lit "/infra/domains/default/groups/Netspoc-g1")
      (some ⟨lit "Netspoc-g1", [some ⟨[lit "10.1.1.1"]⟩]⟩) none = .panic (.nilDeref "gb.nameOnDevice") := by rfl

example : Nsx.validate true false ⟨[], [none], []⟩ = .diag (lit "Unexpected null in list of groups") := by rfl
example : Nsx.validate true true ⟨[some ⟨lit "Netspoc-v1", [some ⟨lit "x1", [lit "a"], [lit "b"], [lit "c"]⟩]⟩],
    [some ⟨lit "Netspoc-raw-g", [some ⟨[]⟩]⟩], [some ⟨lit "Netspoc-raw-s"⟩]⟩ = .ok () := by chars; rfl

theorem no_panic_panos_checkRaw (c : PanOs.Config) : NoPanic (PanOs.checkRaw true c) := PanOs.checkRaw_noPanic c
theorem no_panic_panos_mergeSpoc (p1 p2 : PanOs.Config) : NoPanic (PanOs.mergeSpoc true p1 p2) :=
  PanOs.mergeSpoc_noPanic p1 p2
theorem no_panic_panos_getDevName (h : Option (List Str)) : NoPanic (PanOs.getDevName true h) :=
  PanOs.getDevName_noPanic h
theorem no_panic_panos_devNameFor (p1 : PanOs.Config) (v : Str) : NoPanic (PanOs.devNameFor p1 v) :=
  PanOs.devNameFor_noPanic p1 v

/-- Snapshot: raw file `<config></config>`. F-C20i. -/
theorem panos_checkRaw_counterexample :
    PanOs.checkRaw false ⟨none⟩ = .panic (.nilDeref "c.Devices.Entries") := by rfl
/-- Snapshot: `<config><devices></devices></config>` from Netspoc and a raw file with a vsys. -/
theorem panos_mergeSpoc_counterexample :
    PanOs.mergeSpoc false ⟨some []⟩ ⟨some [⟨lit "x", [⟨lit "vsys1", 0⟩]⟩]⟩ =
      .panic (.index "p1.Devices.Entries[0]") := by rfl
/-- Snapshot: the device answers the config request with an empty `<result>`. -/
theorem panos_getDevName_counterexample :
    PanOs.getDevName false none = .panic (.nilDeref "c.Devices.Entries") := by rfl

/-- `getObjListType` and `markAddresses` (panos/diff.go) recurse through nested address-groups; on
a group graph without cycle (rank function, established by `checkGroupCycle` for BOTH
configurations before `diffConfig` goes on) a stack of depth rank + 2 suffices … -/
theorem no_overflow_panos_getObjListType (groups : Str → Option (List Str)) (isAddr : Str → Bool)
    (rk : Str → Nat) (hrk : PanOs.Ranked groups rk) (fuel : Nat) (l : List Str)
    (h : ∀ e ∈ l, rk e + 1 < fuel) (h0 : 0 < fuel) : NoPanic (PanOs.objListType groups isAddr fuel l) :=
  PanOs.objListType_noPanic groups isAddr rk hrk fuel l h h0

theorem no_overflow_panos_markAddresses (groups : Str → Option (List Str)) (rk : Str → Nat)
    (hrk : PanOs.Ranked groups rk) (fuel : Nat) (l : List Str)
    (h : ∀ e ∈ l, rk e + 1 < fuel) (h0 : 0 < fuel) : NoPanic (PanOs.markAddresses groups fuel l) :=
  PanOs.markAddresses_noPanic groups rk hrk fuel l h h0

/-- … and with a cycle no stack is deep enough (Go: `fatal error: stack overflow`): the 1-cycle
g0 = [g0] and the 2-cycle g0 = [g1], g1 = [g0], reached from a rule whose only source is g0.
F-C20r; the device side is reached through `rulesPair.Equal → objectsTypeEq`. -/
theorem panos_groupCycle_counterexample (isAddr : Str → Bool) (fuel : Nat) :
    PanOs.objListType (fun n => if n = lit "g0" then some [lit "g0"] else none) isAddr fuel [lit "g0"] =
      .panic (.explicit "fatal error: stack overflow") := PanOs.objListType_cycle isAddr fuel

theorem panos_groupCycle2_counterexample (isAddr : Str → Bool) (fuel : Nat) :
    PanOs.objListType (fun n => if n = lit "g0" then some [lit "g1"] else if n = lit "g1" then some [lit "g0"] else none)
      isAddr fuel [lit "g0"] = .panic (.explicit "fatal error: stack overflow") :=
  PanOs.objListType_cycle2 isAddr fuel

example : PanOs.Ranked (fun n => if n = lit "g0" then some [lit "a1"] else none)
    (fun n => if n = lit "g0" then 1 else 0) := by
  intro n ms h m hm
  by_cases hn : n = lit "g0"
  · simp [hn] at h; subst h; simp at hm; subst hm; simp [hn]; decide
  · simp [hn] at h

/-- Snapshot: an info file with content `null` sets the pointer to nil. F-C20j. -/
theorem loadInfoFile_null_counterexample :
    Files.loadInfoFile false [.content true true false] = .panic (.nilDeref "info.IPList") := by rfl
/-- With `fixed = true` as well (known finding F-C20n, pinned by drc.t "Bad info file"): an
undecodable info file ends in `panic(err)`. -/
theorem loadInfoFile_garbage_counterexample :
    Files.loadInfoFile true [.content false false false] = .panic (.explicit "panic(err) // decode") := by rfl
/-- the complement: every existing info file readable and decodable ⇒ no panic … -/
theorem no_panic_loadInfoFile_partial (l : List Files.OpenRes)
    (h : ∀ o ∈ l, o ≠ .otherErr ∧ ∀ d n i, o = .content d n i → d = true) : NoPanic (Files.loadInfoFile true l) :=
  Files.loadInfoFile_noPanic l h
/-- … and otherwise only the two explicit `panic(err)`. -/
theorem loadInfoFile_only_explicit (l : List Files.OpenRes) (p : Panic) (h : Files.loadInfoFile true l = .panic p) :
    ∃ s, p = .explicit s := Files.loadInfoFile_explicitOnly l p h

example : Files.loadInfoFile true [.notExist, .content true true false] = .ok false := by rfl
example : (∀ o ∈ [Files.OpenRes.notExist, .content true false true], o ≠ .otherErr ∧
    ∀ d n i, o = .content d n i → d = true) := by decide

/-- Bytes that are not JSON, or JSON whose top-level value is not an object (array, number,
string, bool, null): `status.Read` yields the zero status … -/
theorem status_nonObject_is_zero (t : Status.Top) (h : ∀ kvs, t ≠ .obj kvs) : Status.decode t = {} :=
  Status.decode_nonObject t h
/-- … an unknown key, an action that is not an object, a `time` that is a number but no int64 leave
the value as it was (decoding goes on with the next key) … -/
theorem status_unknown_key_ignored (s : Status.St) (k : Str) (f : Status.Field)
    (h1 : Status.keyIs k "approve" = false) (h2 : Status.keyIs k "compare" = false) :
    Status.stepTop s (k, f) = s := Status.stepTop_unknown s k f h1 h2
theorem status_action_nonObject_ignored (a : Status.Action) (f : Status.Field) (h : ∀ kvs, f ≠ .obj kvs) :
    Status.decodeAction a f = a := Status.decodeAction_nonObject a f h
theorem status_bad_time_ignored (a : Status.Action) (k l : Str) (hk : Status.keyIs k "time" = true)
    (h1 : Status.keyIs k "result" = false) (h2 : Status.keyIs k "policy" = false) (h : Status.int64Of l = none) :
    Status.stepAction a (k, .num l) = a := Status.stepAction_time_bad a k l hk h1 h2 h
/-- … and `missing-approve` LISTS the device for every unreadable, non-JSON or wrong-shaped status
file; it does not list a device only if a record of a successful approve or an UPTODATE compare
with a policy name was decoded. -/
theorem status_garbage_is_listed (readable : Bool) (t : Status.Top)
    (h : readable = false ∨ ∀ kvs, t ≠ .obj kvs) (current : Str) :
    Status.check (Status.read readable t) current = .listed := Status.garbage_is_listed readable t h current
theorem status_not_listed_needs_record (v : Status.St) (current : Str) (h : Status.check v current ≠ .listed) :
    ((v.approve.result = lit "OK" ∨ v.approve.result = lit "WARNINGS") ∧ v.approve.policy ≠ []) ∨
    (v.compare.result = lit "UPTODATE" ∧ v.compare.policy ≠ []) := Status.check_not_listed v current h
/-- The status package has ONE panic: `panic(err)` in `write` when the file cannot be written
(pinned by ios_simul.t "do-approve approve: can't write status directory"); whatever was read. -/
theorem status_write_panics_iff_unwritable (v : Status.St) (policy : Str) (failed : Bool) (now : Int) (w : Bool) :
    (Status.setApprove v policy failed now w).isPanic = !w := Status.setApprove_panic_iff v policy failed now w
theorem no_panic_status_setCompare (v : Status.St) (policy : Str) (changed : Bool) (now : Int) :
    NoPanic (Status.setCompare v policy changed now true) := Status.setCompare_writable_noPanic v policy changed now

example : Status.decode (.obj [(lit "Approve", .obj [(lit "RESULT", .str (lit "OK")), (lit "time", .num (lit "7")),
      (lit "time", .num (lit "1.5")), (lit "policy", .null), (lit "policy", .str (lit "p1"))]),
    (lit "approve", .arr), (lit "x", .null)]) = { approve := ⟨lit "OK", lit "p1", 7⟩, compare := {} } := by chars; rfl
example : Status.int64Of (lit "99999999999999999999") = none ∧ Status.int64Of (lit "-5") = some (-5) ∧
    Status.int64Of (lit "1e3") = none := by chars; decide +kernel

/-- Every rejection by the line loop of `ParseConfig` quotes a line of the file (ASA and IOS tables
or any other), … -/
theorem rejection_names_line (ds : List Descr) (isRaw : Bool) (data m : Str)
    (h : parseConfig true ds isRaw data = .diag m) : ∃ l ∈ splitLines data, Names m (trimRight l) :=
  (parseConfig_spec ds isRaw data).diag h
/-- … every rejection by `postprocessACLParts`, the aaa-server normalisation, `dstOfRoute`,
`routeVRF`, `setTransRef` quotes the command, … -/
theorem rejection_names_command (tb : Tables) (orig : Str) :
    (∀ parts m, aclParts true tb orig parts = .diag m → Names m orig) ∧
    (∀ parsed m, aaaHost true orig parsed = .diag m → Names m orig) ∧
    (∀ v6 parsed m, dstOfRoute true v6 orig parsed = .diag m → Names m orig) ∧
    (∀ parsed m, routeVRF true orig parsed = .diag m → Names m orig) ∧
    (∀ names m, transRefs true orig names = .diag m → Names m orig) :=
  ⟨aclParts_diag_names tb orig, aaaHost_diag_names orig,
   fun v => dstOfRoute_diag_names v orig, fun p _ => (routeVRF_spec true orig p).diag,
   fun n _ => (transRefs_spec orig n).diag⟩
/-- … and a dangling reference is reported with the command, the prefix and the name. -/
theorem rejection_names_reference (lk : Lookup) (isRaw : Bool) (orig : Str) (typRef refs : List Str) (m : Str)
    (h : checkRefs lk isRaw orig typRef refs = .diag m) :
    Names m orig ∧ ∃ p ∈ typRef, ∃ n ∈ refs, Names m p ∧ Names m n :=
  (checkRefs_spec lk isRaw orig typRef refs).diag h

example : ∃ m, parseConfig true miniTable true (lit "interface E0\nbogus line\n") = .diag m ∧
    Names m (lit "bogus line") := by
  unfold miniTable; chars; exact ⟨_, rfl, names_mid _ _ _⟩

/-- Soundness of `checkGroupCycle` (depth-first search, states visiting/done): if it returns without
reporting a cycle and was started on all groups, the group graph has a rank function. -/
theorem checkGroupCycle_sound (G : Str → Option (List Str)) (fuel : Nat) (names d : List Str)
    (hall : ∀ n, G n ≠ none → n ∈ names) (h : PanOs.checkGroupCycle G fuel names = .ok d) :
    PanOs.Ranked G (fun x => PanOs.rkR x d.reverse) := PanOs.checkGroupCycle_ranked G fuel names d hall h

/-- Hence: after a successful cycle check, `getObjListType` and `markAddresses` stay within a stack
of (number of finished groups + 3) frames, for ANY list they are called with. -/
theorem no_overflow_after_cycleCheck (G : Str → Option (List Str)) (isAddr : Str → Bool) (fuel : Nat)
    (names d : List Str) (hall : ∀ n, G n ≠ none → n ∈ names)
    (h : PanOs.checkGroupCycle G fuel names = .ok d) (l : List Str) :
    NoPanic (PanOs.objListType G isAddr (d.length + 3) l) ∧ NoPanic (PanOs.markAddresses G (d.length + 3) l) := by
  have hr := checkGroupCycle_sound G fuel names d hall h
  have hb : ∀ e ∈ l, PanOs.rkR e d.reverse + 1 < d.length + 3 := fun e _ => by
    have := PanOs.rank_le_groups e d; omega
  exact ⟨PanOs.objListType_noPanic G isAddr _ hr _ l hb (by omega),
    PanOs.markAddresses_noPanic G _ hr _ l hb (by omega)⟩

def twoGroups : Str → Option (List Str) := fun n =>
  if n = lit "g0" then some [lit "g1", lit "a1"] else if n = lit "g1" then some [lit "a1"] else none
example : PanOs.checkGroupCycle twoGroups 5 [lit "g0", lit "g1"] = .ok [lit "g1", lit "g0"] := by rfl
example : PanOs.checkGroupCycle (fun n => if n = lit "g0" then some [lit "g0"] else none) 5 [lit "g0"] =
    .diag (PanOs.cycleMsg (lit "g0")) := by chars; rfl

/-- The regenerated list of sites (normalised keys) equals the hand-maintained table, key by key:
the translator compares the two key sets (`tableMismatch` lists every difference) — a kernel
`decide` over the key strings themselves takes minutes — and the lengths are compared here. -/
theorem sites_exact : NA.Gen.PanicSites.tableMismatch = [] ∧
    NA.Gen.PanicSites.sites.length = siteTable.length := by decide +kernel

/-- Every command that the model of `ParseConfig` returns, for ANY file content: found for a
description of the table, at least as many words as prefix + template, one reference per `$REF`,
sub commands matched among the sub templates of that description. -/
theorem parser_result_topOK_asa (isRaw : Bool) (data : Str) (cmds : List Cmd)
    (h : parseConfig true asaTable isRaw data = .ok cmds) : ∀ c ∈ cmds, TopOK asaTable c :=
  (parseConfig_spec asaTable isRaw data).ok h asa_cleanTop asa_cleanSubs
theorem parser_result_topOK_ios (isRaw : Bool) (data : Str) (cmds : List Cmd)
    (h : parseConfig true iosTable isRaw data = .ok cmds) : ∀ c ∈ cmds, TopOK iosTable c :=
  (parseConfig_spec iosTable isRaw data).ok h ios_cleanTop ios_cleanSubs

/-- The lookup map: every stored list is non-empty and holds commands of the parse result under
their own (prefix, name) — `l[0]`, `acls[name][0]`, `ab.bCmds[0]` are in range. -/
theorem lookup_lists_nonempty (ds : List Descr) (cmds : List Cmd) :
    ∀ g ∈ buildLookup ds cmds, g.2 ≠ [] ∧ ∀ x ∈ g.2, x ∈ cmds ∧ keyOf ds x = g.1 :=
  buildLookup_ok ds (· ∈ cmds) cmds fun _ hc => hc

/-- `no_panic_aaaServer` with its hypotheses DERIVED from the parser model and the regenerated
ASA table: for any file content, the aaa-server part of `postprocessParsed` does not panic on any
entry of the lookup map. -/
theorem no_panic_aaaServer_derived (isRaw : Bool) (data : Str) (cmds : List Cmd)
    (h : parseConfig true asaTable isRaw data = .ok cmds) :
    ∀ g ∈ buildLookup asaTable cmds, g.1.1 = lit "aaa-server" → NoPanic (aaaGroup true g.1.2 g.2) :=
  aaaGroup_derived asaTable asa_cleanTop asa_cleanSubs isRaw data cmds h
    asa_aaaServer_minWords asa_aaaSub_hasRef

example : ∃ cmds, parseConfig true asaTable false
    (lit "aaa-server N protocol ldap\naaa-server N (inside) host 1.2.3.4\n ldap-attribute-map M\n") = .ok cmds ∧
    (buildLookup asaTable cmds).any (fun g => g.1.1 = lit "aaa-server" ∧ g.2.length = 2) = true := by
  chars
  refine ⟨_, rfl, ?_⟩
  decide +kernel

/-- `checkReferences`: `c.typ.ref[i]` is in range whenever no command has more references than
registered prefixes … -/
theorem no_panic_checkReferences (fixed : Bool) (ds : List Descr) (lk : Lookup) (isRaw : Bool)
    (h : ∀ g ∈ lk, ∀ c ∈ g.2, RefsFit fixed ds c) : NoPanic (checkReferences fixed ds lk isRaw) :=
  checkReferences_noPanic fixed ds lk isRaw h

/-- … which holds for everything the parser returns (ASA and IOS tables, any file content) … -/
theorem no_panic_checkReferences_parsed_asa (isRaw : Bool) (data : Str) (cmds : List Cmd)
    (h : parseConfig true asaTable isRaw data = .ok cmds) :
    NoPanic (checkReferences true asaTable (buildLookup asaTable cmds) isRaw) :=
  checkReferences_parsed_noPanic asaTable asa_cleanTop asa_cleanSubs asa_refsDeclared asa_maxRefs5 isRaw data cmds h

theorem no_panic_checkReferences_parsed_ios (isRaw : Bool) (data : Str) (cmds : List Cmd)
    (h : parseConfig true iosTable isRaw data = .ok cmds) :
    NoPanic (checkReferences true iosTable (buildLookup iosTable cmds) isRaw) :=
  checkReferences_parsed_noPanic iosTable ios_cleanTop ios_cleanSubs ios_refsDeclared ios_maxRefs5 isRaw data cmds h

/-- … and stays true when `postprocessParsed` adds references: `postprocessACLParts` appends at
most five names (five `object-group` prefixes are registered), `setTransRef` stores at most eleven
after the fix (eleven prefixes are registered). -/
theorem postprocessACLParts_refs_le5 (fixed : Bool) (tb : Tables) (orig : Str) (parts : List Str)
    (r : List Str × List Str) (h : aclParts fixed tb orig parts = .ok r) : r.2.length ≤ 5 :=
  aclParts_refs_le5 fixed tb orig parts r h

theorem refsFit_after_postprocessASAACL (c : Cmd) (d : Nat × Descr) (hd : d ∈ indexed asaTable)
    (hdi : c.descr = d.1) (hpre : d.2.pre = lit "access-list") (hcnt : c.ref.length = 0) (tb : Tables)
    (p : Str) (refs : List Str) (h : asaACL true tb c.orig c.parsed = .ok (some (p, refs))) :
    ({ c with parsed := p, ref := c.ref ++ refs } : Cmd).ref.length ≤
      (typRefTop asaTable { c with parsed := p, ref := c.ref ++ refs }).length :=
  refsFit_asaACL asaTable c d hd hdi hpre hcnt tb p refs h

theorem setTransRef_refs_le11 (orig names : Str) (r : List Str × Str) (h : transRefs true orig names = .ok r) :
    r.1.length ≤ 11 := transRefs_le11 orig names r h

/-- Snapshot (F-C20t): twelve defined transform-sets, eleven registered prefixes. -/
theorem checkRefs_transformSet_counterexample :
    (transRefs false [] (lit "a a a a a a a a a a a a")).isPanic = false ∧
    checkRefs [((lit "crypto ipsec ikev1 transform-set", lit "a"), [])] false []
      (List.replicate 11 (lit "crypto ipsec ikev1 transform-set")) (List.replicate 12 (lit "a")) =
      .panic (.index "c.typ.ref[i]") := by
  chars; exact ⟨rfl, rfl⟩
example : transRefs true (lit "cmd") (lit "a a a a a a a a a a a a") = .diag (lit "Too many names (max. 11) in: cmd") := by chars; rfl

/-- Snapshot (F-C20u): an IOS ACL line with an object-group has a reference but no registered prefix. -/
theorem checkRefs_iosObjectGroup_counterexample :
    checkRefs [] false (lit "permit ip object-group G any")
      (typRefSub false iosTable ⟨3, [], [], [], 0, [], [], false⟩ ⟨1, [], [], [], 0, [lit "G"], [], false⟩)
      [lit "G"] = .panic (.index "c.typ.ref[i]") := by rfl
example : checkRefs [] false (lit "permit ip object-group G any")
      (typRefSub true iosTable ⟨3, [], [], [], 0, [], [], false⟩ ⟨1, [], [], [], 0, [lit "G"], [], false⟩)
      [lit "G"] = .diag (lit "'permit ip object-group G any' references unknown 'object-group G'") := by
  unfold typRefSub fiveGroups checkRefs defaultObjects; chars; rfl

/-- `mergeASAACLs` / `mergeIOSACLs`: the search for the last permit line and the insert never
leave the ACL, for ANY lists of lines (IOS: `bCmds` non-empty, which `lookup_lists_nonempty` gives). -/
theorem no_panic_mergeASAACLs (a b : List AclLine) : NoPanic (mergeASAACL a b) := mergeASAACL_noPanic a b
theorem no_panic_mergeIOSACLs (aSub : List AclLine) (bCmds : List (List AclLine)) (hne : bCmds ≠ []) :
    NoPanic (mergeIOSACL aSub bCmds) := mergeIOSACL_noPanic aSub bCmds hne
theorem mergeIOSACLs_empty_counterexample : mergeIOSACL [] [] = .panic (.index "ab.bCmds[0]") := by rfl
example : mergeASAACL [⟨lit "p1", lit "access-list $NAME extended permit ip any4 any4", false⟩,
      ⟨lit "d1", lit "access-list $NAME extended deny ip any4 any4", false⟩]
    [⟨lit "r1", lit "access-list $NAME extended permit tcp any4 any4", false⟩,
     ⟨lit "a1", lit "access-list $NAME extended deny ip host 1.1.1.1 any4", true⟩] =
    .ok [⟨lit "r1", lit "access-list $NAME extended permit tcp any4 any4", false⟩,
         ⟨lit "p1", lit "access-list $NAME extended permit ip any4 any4", false⟩,
         ⟨lit "a1", lit "access-list $NAME extended deny ip host 1.1.1.1 any4", true⟩,
         ⟨lit "d1", lit "access-list $NAME extended deny ip any4 any4", false⟩] := by unfold mergeASAACL; chars; rfl

/-- `removeBanner` (ios/device.go) and `removeHeader` (nsx/parse.go): no Go panic and
TERMINATION (fuel `len(data)+1` is never used up: every iteration moves the read position
forward) for ANY bytes; the in-place copy never overtakes the read position. -/
theorem no_panic_removeBanner (data : Str) : NoPanic (Banner.removeBanner data) := Banner.removeBanner_noPanic data
theorem no_panic_removeHeader (data : Str) : NoPanic (Banner.removeHeader (data.length + 1) data) :=
  Banner.removeHeader_noPanic _ data (by omega)
example : Banner.removeBanner (lit "a\nbanner motd ^CC\nxx\n^C\nb\n") = .ok (lit "a\nb\n") := by chars; rfl
example : Banner.removeHeader 20 (lit "# x\n#y\n{}") = .ok (lit "{}") := by chars; rfl

/-- Every index / slice / type assertion / nil-map write / division / panic( site of the packages
reachable from the three mains has a class: theorem (key in `siteTable` or `siteTableExtra`), syntactic (recognised
guard pattern) or oracle (listed in translate/panicsites/oracle_sites.txt). -/
theorem all_sites_classified : NA.Gen.PanicSites.unclassified = [] := by decide
theorem all_sites_partition :
    NA.Gen.PanicSites.allSites_theorem + NA.Gen.PanicSites.allSites_syntactic + NA.Gen.PanicSites.allSites_oracle +
      NA.Gen.PanicSites.allSites_unclassified = NA.Gen.PanicSites.allSiteKeys := by decide

/-- The stages composed, for both device types: for ANY file content, the commands the parser returns,
stored in the lookup map and post-processed (`postLookup`: ASA ACL, IOS ACL, aaa-server, the four
`setTransRef` passes), are checked by `checkReferences` without an index out of range in `c.typ.ref[i]`. -/
theorem no_panic_checkReferences_postprocessed (tb : Tables) (isRaw : Bool) (data : Str) :
    (∀ cmds lk', parseConfig true asaTable isRaw data = .ok cmds →
      postLookup tb (buildLookup asaTable cmds) = .ok lk' → NoPanic (checkReferences true asaTable lk' isRaw)) ∧
    (∀ cmds lk', parseConfig true iosTable isRaw data = .ok cmds →
      postLookup tb (buildLookup iosTable cmds) = .ok lk' → NoPanic (checkReferences true iosTable lk' isRaw)) :=
  ⟨checkReferences_postprocessed_noPanic asaTable asa_cleanTop asa_cleanSubs asa_refsDeclared
      asa_maxRefs5 asa_aclNoRef asa_iosSubNoRef tb isRaw data,
   checkReferences_postprocessed_noPanic iosTable ios_cleanTop ios_cleanSubs ios_refsDeclared
      ios_maxRefs5 ios_aclNoRef ios_iosSubNoRef tb isRaw data⟩

/-- the statement is not vacuous: a file whose ACL line references an object-group is parsed, stored and
post-processed, and the reference arrives in `c.ref`. -/
theorem postprocessed_nonvacuous : ∃ cmds lk',
    parseConfig true asaTable false (lit "access-list A extended permit ip object-group G any4\n") = .ok cmds ∧
    postLookup noTables (buildLookup asaTable cmds) = .ok lk' ∧
    lk'.any (fun g => g.2.any (fun c => c.ref == [lit "G"])) = true := by
  chars
  refine ⟨_, _, rfl, rfl, ?_⟩
  decide +kernel

/-- the edit scripts: every range of a valid script (NA.Acl.cellsOf) gives slices inside both lists. -/
theorem no_panic_diff_ranges (a b : List NA.Acl.Line) (rs : List NA.Acl.Range) (M : List NA.Acl.Cell)
    (h : NA.Acl.cellsOf a b rs = some M) {α β : Type} (la : List α) (lb : List β)
    (hla : la.length = a.length) (hlb : lb.length = b.length) :
    ∀ r ∈ rs, NoPanic (Diff.goSlice "a[LowA:HighA]" la r.lowA r.highA) ∧
      NoPanic (Diff.goSlice "b[LowB:HighB]" lb r.lowB r.highB) :=
  Diff.script_slices_noPanic a b rs M h la lb hla hlb

theorem no_panic_changes_bookkeeping (ch d ad : List Str) (cmd : Str) (hd : d ≠ []) (ha : ad ≠ []) :
    NoPanic (Diff.moveIOS ch d ad) ∧ NoPanic (Diff.moveASA ch d ad) ∧ NoPanic (Diff.dropResequence ch cmd d) :=
  ⟨Diff.moveIOS_noPanic ch d ad hd ha, Diff.moveASA_noPanic ch d ad hd ha, Diff.dropResequence_noPanic ch cmd d⟩

/-- without "every append is non-empty" the bookkeeping does fail: the hypothesis is needed. -/
theorem changes_bookkeeping_counterexample : (Diff.moveIOS [] [] []).isPanic = true := by rfl

def obligations : List Lean.Name := [
  ``asa_aclNoRef, ``ios_aclNoRef, ``asa_iosSubNoRef, ``ios_iosSubNoRef, ``no_panic_checkReferences_postprocessed,
  ``postprocessed_nonvacuous, ``no_panic_diff_ranges, ``no_panic_changes_bookkeeping, ``changes_bookkeeping_counterexample,
  ``Diff.cellsOf_rangesOK, ``Diff.sliceA_noPanic, ``Diff.sliceB_noPanic, ``Diff.sliceFromA_noPanic, ``Diff.indexFromA_noPanic,
  ``Diff.indexLowB_noPanic, ``Diff.indexEqualB_noPanic, ``Diff.indexEqualB_off_noPanic, ``Diff.indexInA_noPanic,
  ``Diff.panosMoveTo_noPanic,
  ``asa_cleanSubsOf, ``ios_cleanSubsOf, ``asa_refsDeclared, ``ios_refsDeclared, ``asa_maxRefs5, ``ios_maxRefs5,
  ``asa_aaaSub_hasRef, ``parser_result_topOK_asa, ``parser_result_topOK_ios, ``lookup_lists_nonempty,
  ``no_panic_aaaServer_derived, ``no_panic_checkReferences, ``no_panic_checkReferences_parsed_asa,
  ``no_panic_checkReferences_parsed_ios, ``postprocessACLParts_refs_le5, ``refsFit_after_postprocessASAACL,
  ``setTransRef_refs_le11, ``checkRefs_transformSet_counterexample, ``checkRefs_iosObjectGroup_counterexample,
  ``no_panic_mergeASAACLs, ``no_panic_mergeIOSACLs, ``mergeIOSACLs_empty_counterexample,
  ``no_panic_removeBanner, ``no_panic_removeHeader, ``all_sites_classified, ``all_sites_partition,
  ``gen_no_problems, ``sites_exact,
  ``asa_noQuoteTop, ``ios_noQuoteTop, ``asa_cleanTop, ``ios_cleanTop, ``asa_cleanSubs, ``ios_cleanSubs,
  ``asa_accessList_minWords, ``asa_aaaServer_minWords, ``ios_ipRoute_minWords, ``ios_interface_minWords,
  ``asa_cryptoMapInterface_minWords, ``ios_aclSub_minWords, ``asa_nameif_minWords,
  ``no_panic_matchCmd_partial, ``matchCmd_incomplete_string_counterexample, ``no_panic_matchCmd_noquote,
  ``matchCmd_empty_word_counterexample,
  ``no_panic_parseConfig_asa, ``no_panic_parseConfig_ios, ``parseConfig_indent_counterexample,
  ``no_panic_postprocessACLParts, ``aclParts_host_counterexample, ``aclParts_objectGroup_counterexample,
  ``aclParts_empty_counterexample, ``no_panic_postprocessASAACL, ``no_panic_postprocessIOSACL,
  ``no_panic_aaaServer, ``aaaServer_words, ``aaaHost_counterexample, ``aaaHost_emptyWord_counterexample,
  ``no_panic_stripMetric, ``no_panic_setTransRef, ``transRefs_blank_counterexample,
  ``no_panic_dstOfRoute, ``dstOfRoute_short_counterexample, ``dstOfRoute_vrf_counterexample,
  ``dstOfRoute_v6_counterexample, ``no_panic_routeVRF, ``routeVRF_counterexample, ``parsed_index_ok,
  ``no_panic_linux_parseConfig, ``no_panic_linux_mergeSpoc, ``linux_mergeSpoc_unbounded_counterexample,
  ``no_overflow_panos_getObjListType, ``no_overflow_panos_markAddresses, ``panos_groupCycle_counterexample,
  ``panos_groupCycle2_counterexample,
  ``no_panic_nsx_parseConfig, ``nsx_accessors_safe, ``no_panic_nsx_equalizeGroups, ``nsx_null_counterexample,
  ``nsx_emptyAddresses_counterexample, ``nsx_equalizeGroups_counterexample,
  ``no_panic_panos_checkRaw, ``no_panic_panos_mergeSpoc, ``no_panic_panos_getDevName, ``no_panic_panos_devNameFor,
  ``panos_checkRaw_counterexample, ``panos_mergeSpoc_counterexample, ``panos_getDevName_counterexample,
  ``loadInfoFile_null_counterexample, ``loadInfoFile_garbage_counterexample, ``no_panic_loadInfoFile_partial,
  ``loadInfoFile_only_explicit,
  ``status_nonObject_is_zero, ``status_unknown_key_ignored, ``status_action_nonObject_ignored, ``status_bad_time_ignored,
  ``status_garbage_is_listed, ``status_not_listed_needs_record, ``status_write_panics_iff_unwritable,
  ``no_panic_status_setCompare, ``rejection_names_line, ``rejection_names_command, ``rejection_names_reference,
  ``checkGroupCycle_sound, ``no_overflow_after_cycleCheck]

end NA.C20
