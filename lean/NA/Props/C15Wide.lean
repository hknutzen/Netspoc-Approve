import NA.Proofs.C15Wide
import NA.Props.C15
/-!
# C15: banners on the echo of ANY command the session sends while the reload is scheduled

`wideDevice na fb` (`NA/Spec/IosDev.lean`): in addition to the banners on the change lines (`gs`), a
banner of any form may ride on the second `configure terminal`, on the deferred `end`
and on `reload cancel` (`fb : line ↦ behaviour`).  Placements and what is proved / refuted:

| line | forms | status |
|---|---|---|
| change lines | all, every offset | `banner_invariant_partial/run`, `rejected_run` (except F-C15b) |
| second `configure terminal` | inside echo, after output (one prompt) | `banner_invariant_run_wide` |
| second `configure terminal` | before echo / after output WITH fresh prompt (two prompts) | **false**: `fixed_two_prompt_counterexample` (F-C15e) |
| deferred `end` | all | `banner_invariant_run_wide` |
| `reload cancel` | all | `banner_invariant_run_wide` |
| confirmation of `reload in 2` / `do reload in 2` | two prompts | **false**: `confirm_two_prompt_counterexample` (F-C15e) |
| confirmation, one prompt; `do reload in 2`, `n` lines | — | dialogues only (tie with the real code), no theorem |
| any fixed line, message `0:01:00` | — | run unchanged but NOT re-armed: `rearms_run_wide`; witness on the second `configure terminal`: `one_minute_on_fixed_line_counterexample` |
| preparation commands, `reload in 2`, `write memory`, the empty command after the cancel | — | no reload is scheduled at that moment: the device cannot print a reload banner |
-/
namespace NA.Ios

/-- **banner_invariant_run_wide** (accepted and rejected scripts in one statement). For every script `gs` (banners
of any form on its change lines, outside F-C15b), both dialogue variants, and banners `fb` of any
form on `end` and `reload cancel` and of the one-prompt forms on the second `configure terminal`:
the run against the widened device has the same transcript and warnings as the run against the
device without banners on the fixed lines, and the same result: ok, or the same command rejected with
the same non-empty output lines (no other abort); `write memory` is sent iff every output is
accepted; no reload is pending afterwards; the guard discipline holds. -/
theorem banner_invariant_run_wide (na : Bool) (fb : Str → Option Behav) (gs : List Chg) (q : List Behav)
    (st0 : St SimSt) (hfb : FbOK fb)
    (hp : st0.pend = []) (ht : st0.trace = []) (hparts : st0.dev.parts = []) (hocc : st0.dev.occ = [])
    (hq : st0.dev.queue = gs.flatMap Chg.behavs ++ q) (hc : ∀ g ∈ gs, g.Clean ∧ g.NoProbeFirst) :
    let o := applyCommands (wideDevice na fb) true (gs.map Chg.cmd) st0
    let o' := applyCommands (simDevice [] na) true (gs.map Chg.cmd) st0
    (o.1 = .ok () ↔ o'.1 = .ok ()) ∧
    (∀ ci R, o.1 = .abort (.unexpectedOutput ci R) → ∃ R', o'.1 = .abort (.unexpectedOutput ci R') ∧ neLines R = neLines R') ∧
    (o.1 = .ok () ∨ ∃ ci R, o.1 = .abort (.unexpectedOutput ci R)) ∧
    o.2.trace = o'.2.trace ∧ o.2.warns = o'.2.warns ∧
    (writeCmd ∈ linesOf o.2.trace ↔ specOk gs = true) ∧
    pendingAfter (linesOf o.2.trace) = false ∧ guardOK (linesOf o.2.trace) = true := by
  intro o o'
  have hw := apply_wide na fb gs q st0 hfb hp ht hparts hocc hq hc
  have hcs := cleanCs_of_clean gs (fun g hg => (hc g hg).1)
  have hguard := guard_brackets_changes (wideDevice na fb) true _ hcs st0 ht
  cases hs : specOk gs with
  | true =>
    have h' := apply_sim_ok na gs q st0 hp ht hparts hq hc hs
    obtain ⟨hok, htr⟩ := hw.1 hs
    refine ⟨⟨fun _ => h'.1, fun _ => hok⟩, ?_, .inl hok, by rw [htr, h'.2.1], by rw [hw.2.2.1, h'.2.2.1], ?_, ?_, hguard⟩
    · intro ci R h; rw [hok] at h; cases h
    · refine iff_of_true ?_ rfl
      rw [htr]
      have : writeCmd ∈ linesOf [writeCmd] := by decide_lit [c15_vocab, linesOf]
      simp only [fullTrace, linesOf_append]
      exact List.mem_append_right _ this
    · exact no_reload_pending_after_success (wideDevice na fb) true _ hcs st0 ht hok
  | false =>
    have h' := apply_sim_rejected na gs q st0 hp ht hparts hq hc hs
    obtain ⟨⟨ci, R, out, hab, hfbad, hne⟩, htr⟩ := hw.2.1 hs
    obtain ⟨ci', R', out', hab', hfbad', hne'⟩ := h'.1
    cases hfbad.symm.trans hfbad'
    refine ⟨?_, ?_, .inr ⟨ci, R, hab⟩, by rw [htr, h'.2.1], by rw [hw.2.2.1, h'.2.2.1], ?_, ?_, hguard⟩
    · exact iff_of_false (fun h => by rw [hab] at h; cases h) (fun h => by rw [hab'] at h; cases h)
    · intro c2 R2 h
      rw [hab] at h; cases h
      exact ⟨R', hab', hne.trans hne'.symm⟩
    · exact iff_of_false (fun hm => noWrite_failTrace na gs hcs (htr ▸ hm)) Bool.false_ne_true
    · -- scheduleReload returned: the deferred cancel was sent after the last (re-)arming
      exact cancel_on_failure_partial (wideDevice na fb) true _ hcs st0 ht
        (schedule_ok _ st0 _ _ (prepare_wide na fb st0 hp hparts hocc) (schedule_wide na fb _ rfl hparts))

/-- non-vacuity: banners of three different forms on the three fixed lines, a 1:00 banner on a change -/
example :
    let fb : Str → Option Behav := fun l =>
      if l == confCmd then some { form := .inside 4, msg := lit " --- SHUTDOWN in 0:02:00 ---" }
      else if l == endCmd then some { form := .before 2, msg := lit " --- SHUTDOWN in 0:01:00 ---" }
      else if l == cancelCmd then some { form := .afterPrompt 1, msg := lit " --- SHUTDOWN ABORTED ---" }
      else none
    let gs := [Chg.one (lit "ip route 10.1.0.0 255.255.0.0 10.9.1.1") { form := .after, msg := lit " --- SHUTDOWN in 0:01:00 ---" }]
    (singlePrompt (Form.inside 4) = true) ∧ gs.all Chg.cleanB = true ∧
    (applyCommands (wideDevice false fb) true (gs.map Chg.cmd) { dev := { queue := gs.flatMap Chg.behavs } }).1 = .ok () := by
  intro fb gs
  have hcl : gs.all Chg.cleanB = true := by
    simp only [gs, List.all_cons, List.all_nil, Chg.cleanB, changeCmdB_route1, Bool.true_and, Bool.and_true]; decide +kernel
  have hfb : FbOK fb :=
    ⟨by intro b hb; simp [fb] at hb; subst hb; exact ⟨rfl, fun _ => cleanMsg_of_B _ (by decide +kernel)⟩,
     by intro b hb; simp [fb, show endCmd ≠ confCmd by decide_lit [c15_vocab]] at hb; subst hb
        exact fun _ => cleanMsg_of_B _ (by decide +kernel)⟩
  have hc : ∀ g ∈ gs, g.Clean ∧ g.NoProbeFirst := by
    intro g hg; exact ⟨Chg.clean_of_B g (List.all_eq_true.1 hcl g hg), by rw [List.mem_singleton.1 hg]; trivial⟩
  -- by the theorem: the run succeeds iff the run without the banners on the fixed lines does
  exact ⟨rfl, hcl, (banner_invariant_run_wide false fb gs [] _ hfb rfl rfl rfl rfl (by simp) hc).1.2
    (apply_sim_ok false gs [] _ rfl rfl rfl (by simp) hc (by decide +kernel)).1⟩

/-- the script of the counterexamples: one command, no banner on it -/
def oneRoute : List Chg := [.one (lit "ip route 10.1.0.0 255.255.0.0 10.9.1.1") {}]

theorem oneRoute_ok : oneRoute.all Chg.cleanB = true ∧ specOk oneRoute = true := by
  simp only [oneRoute, List.all_cons, List.all_nil, Chg.cleanB, changeCmdB_route1, Bool.true_and, Bool.and_true]; decide +kernel

theorem oneRoute_clean : ∀ g ∈ oneRoute, g.Clean ∧ g.NoProbeFirst := fun g hg =>
  ⟨Chg.clean_of_B g (List.all_eq_true.1 oneRoute_ok.1 g hg), by rw [List.mem_singleton.1 hg]; trivial⟩

theorem oneRoute_run :
    (applyCommands (simDevice [] false) true (oneRoute.map Chg.cmd) { dev := { queue := oneRoute.flatMap Chg.behavs } }).1 =
      .ok () :=
  (apply_sim_ok false oneRoute [] _ rfl rfl rfl (by simp) oneRoute_clean oneRoute_ok.2).1

/-- a two-minute banner of form `f` on the second `configure terminal` -/
def confBanner (f : Form) : Str → Option Behav :=
  fun l => if l == confCmd then some { form := f, msg := lit " --- SHUTDOWN in 0:02:00 ---" } else none

/-- **fixed_two_prompt_counterexample** (F-C15e). A banner with a fresh prompt before the echo — or
after the output — of the second `configure terminal` (sent with plain `SendCmd`, which reads up to
the FIRST prompt and never looks at the output): a stale prompt stays in the buffer, the first
change command reads it as its own answer and the run aborts with `unexpected echo`; without the
banner the run succeeds.  The guard theorems still hold (end, cancel are sent, nothing is written). -/
theorem fixed_two_prompt_counterexample :
    ∃ (fb : Str → Option Behav) (fb' : Str → Option Behav) (gs : List Chg),
      gs.all Chg.cleanB = true ∧ specOk gs = true ∧
      (applyCommands (simDevice [] false) true (gs.map Chg.cmd) { dev := { queue := gs.flatMap Chg.behavs } }).1 = .ok () ∧
      (∃ s, (applyCommands (wideDevice false fb) true (gs.map Chg.cmd) { dev := { queue := gs.flatMap Chg.behavs } }).1 =
        .abort (.unexpectedEcho (lit "ip route 10.1.0.0 255.255.0.0 10.9.1.1") s)) ∧
      (∃ s, (applyCommands (wideDevice false fb') true (gs.map Chg.cmd) { dev := { queue := gs.flatMap Chg.behavs } }).1 =
        .abort (.unexpectedEcho (lit "ip route 10.1.0.0 255.255.0.0 10.9.1.1") s)) ∧
      writeCmd ∉ linesOf (applyCommands (wideDevice false fb) true (gs.map Chg.cmd) { dev := { queue := gs.flatMap Chg.behavs } }).2.trace ∧
      pendingAfter (linesOf (applyCommands (wideDevice false fb) true (gs.map Chg.cmd) { dev := { queue := gs.flatMap Chg.behavs } }).2.trace) = false := by
  refine ⟨confBanner (.before 2), confBanner (.afterPrompt 2), oneRoute, oneRoute_ok.1, oneRoute_ok.2, oneRoute_run, ?_⟩
  -- preparation and schedule exchange go through whatever the banners; the rest of the two runs is
  -- evaluated: the texts read in place of the echo are the output of `configure terminal` and a lone line feed
  rw [applyCommands_scheduled (wideDevice false (confBanner (.before 2))) _ _ _ _ _
        (prepare_wide false _ _ rfl rfl rfl) (schedule_wide false _ _ rfl rfl),
      applyCommands_scheduled (wideDevice false (confBanner (.afterPrompt 2))) _ _ _ _ _
        (prepare_wide false _ _ rfl rfl rfl) (schedule_wide false _ _ rfl rfl)]
  simp -index only [c15_vocab, oneRoute, confBanner, wideDevice, stdOutOf, confOut, cancelOut, isKey, armedMark, simDevice_fold]
  decide +kernel

/-- **confirm_two_prompt_counterexample** (F-C15e, same mechanism): the banner with a fresh prompt
rides on the confirmation of `reload in 2` (the empty command, `SendCmd("")`). -/
theorem confirm_two_prompt_counterexample :
    ∃ (sp : List (Str × List (List Str))) (gs : List Chg), gs.all Chg.cleanB = true ∧ specOk gs = true ∧
      (applyCommands (simDevice [] false) true (gs.map Chg.cmd) { dev := { queue := gs.flatMap Chg.behavs } }).1 = .ok () ∧
      (∃ s, (applyCommands (simDevice sp false) true (gs.map Chg.cmd) { dev := { queue := gs.flatMap Chg.behavs } }).1 =
        .abort (.unexpectedEcho (lit "ip route 10.1.0.0 255.255.0.0 10.9.1.1") s)) := by
  let sp : List (Str × List (List Str)) :=
    [(reloadCmd, [[lit "reload in 2\n\nSystem configuration has been modified. Save? [yes/no]: ",
       lit "Reload reason: Reload Command\nProceed with reload? [confirm]" ++ bannerText (lit " --- SHUTDOWN in 0:02:00 ---") ++ ['\n'] ++ prompt,
       prompt]])]
  refine ⟨sp, oneRoute, oneRoute_ok.1, oneRoute_ok.2, oneRoute_run, ?_⟩
  -- the preparation is that of the plain device; from the scripted schedule exchange on the run is evaluated
  have e1 := prepare_follows (simDevice sp false) false id { dev := { queue := oneRoute.flatMap Chg.behavs } } rfl rfl
    (fun l hl => follows_unscripted _ false _ l (by
      have : ∀ s ∈ prepCmds, ∀ l ∈ splitOnNL s, (reloadCmd == l) = false := by
        decide_lit [c15_vocab]
      intro x hx; simp [sp, List.find?, this l hl x hx]))
  rw [show ({ dev := { queue := oneRoute.flatMap Chg.behavs } } : St SimSt) =
      St.onDev id { dev := { queue := oneRoute.flatMap Chg.behavs } } from rfl,
    applyCommands_prepared _ _ _ _ _ e1]
  simp -index only [c15_vocab, sp, St.onDev, oneRoute, simDevice_fold]
  decide +kernel

/-- Banners on the fixed lines are never re-armed, whatever their message: the device receives one
`do reload in 2` per script element with a one-minute warning, as without them. -/
theorem rearms_run_wide (na : Bool) (fb : Str → Option Behav) (gs : List Chg) (q : List Behav)
    (st0 : St SimSt) (hfb : FbOK fb)
    (hp : st0.pend = []) (ht : st0.trace = []) (hparts : st0.dev.parts = []) (hocc : st0.dev.occ = [])
    (hq : st0.dev.queue = gs.flatMap Chg.behavs ++ q) (hc : ∀ g ∈ gs, g.Clean ∧ g.NoProbeFirst)
    (hok : specOk gs = true) :
    rearms (linesOf (applyCommands (wideDevice na fb) true (gs.map Chg.cmd) st0).2.trace) = needCount gs := by
  rw [(banner_invariant_run_wide na fb gs q st0 hfb hp ht hparts hocc hq hc).2.2.2.1]
  exact rearms_run na gs q st0 hp ht hparts hq hc hok

/-- **one_minute_on_fixed_line_counterexample.** `rearm_on_one_minute` is about the commands sent
through `cmd`.  A `SHUTDOWN in 0:01:00` banner riding on the second `configure terminal` (inside the
echo; plain `SendCmd` never inspects the output) does not change the run, but it is NOT re-armed:
no `do reload in 2` is sent. -/
theorem one_minute_on_fixed_line_counterexample :
    ∃ (fb : Str → Option Behav) (gs : List Chg), FbOK fb ∧ gs.all Chg.cleanB = true ∧
      (∃ b, fb confCmd = some b ∧ oneMinute b.msg = true) ∧
      (applyCommands (wideDevice false fb) true (gs.map Chg.cmd) { dev := { queue := gs.flatMap Chg.behavs } }).1 = .ok () ∧
      rearms (linesOf (applyCommands (wideDevice false fb) true (gs.map Chg.cmd) { dev := { queue := gs.flatMap Chg.behavs } }).2.trace) = 0 := by
  have hfb : FbOK fun l => if l == confCmd then some { form := .inside 4, msg := lit " --- SHUTDOWN in 0:01:00 ---" }
      else none :=
    ⟨by intro b hb; simp at hb; subst hb; exact ⟨rfl, fun _ => cleanMsg_of_B _ (by decide +kernel)⟩,
     by intro b hb; simp [show (endCmd == confCmd) = false by decide_lit [c15_vocab]] at hb⟩
  -- by `banner_invariant_run_wide` the run succeeds iff the run without the banner does; the script
  -- has no one-minute warning on a change line
  have hw := banner_invariant_run_wide false _ _ [] { dev := { queue := oneRoute.flatMap Chg.behavs } } hfb
    rfl rfl rfl rfl (by simp) oneRoute_clean
  exact ⟨_, _, hfb, oneRoute_ok.1,
    ⟨{ form := .inside 4, msg := lit " --- SHUTDOWN in 0:01:00 ---" }, by simp, by decide_lit [oneMinute, lit_ofList]⟩, hw.1.2 oneRoute_run,
    (rearms_run_wide false _ _ [] _ hfb rfl rfl rfl rfl (by simp) oneRoute_clean oneRoute_ok.2).trans (by decide +kernel)⟩

end NA.Ios

namespace NA.C15Wide
def obligations : List Lean.Name :=
  [``NA.Ios.banner_invariant_run_wide, ``NA.Ios.fixed_two_prompt_counterexample,
   ``NA.Ios.confirm_two_prompt_counterexample, ``NA.Ios.one_minute_on_fixed_line_counterexample]
end NA.C15Wide
