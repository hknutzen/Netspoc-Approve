import NA.Proofs.C09Term
import NA.Proofs.C09Saved
import NA.Proofs.C09Compose
import NA.Proofs.C09Exact
import NA.Proofs.C09Skel
import NA.Spec.SessDevice
/-!
# C09 — any device-side failure stops the run and is reported truthfully

Property theorems only.  `runProg b env` is the whole run of `drc` / of the
`device.ApproveOrCompare` call inside `do-approve` for backend `b` against the device
`env.dev : List Ev → Reply` — an **arbitrary function of the whole history** (adversarial: error
text, unexpected output, silence, close, HTTP status, malformed body, failed job, at any position,
any number of times) — with an arbitrary change script `env.plan` of any length.

`badFull` is a device-side failure as the property states it; `badChecked` is the part of it the
code inspects (everything except: error text / unexpected output / garbled echo in the reply to a
command whose output the code does not look at, a connection close that net/http hides by
replaying the request, and an NSX list document without `results`).

* The statements with `badFull` are **false** of the unchanged code: four counterexamples below
  (findings F-C09a, F-C09b, F-C09c, F-C09d; replayed on the real code by the harness).
* With `badChecked` they are proved for all devices, scripts, positions and kinds
  (`…_partial`); `badChecked → badFull` (`badChecked_imp_badFull`), and the findings are replies
  with `badFull ∧ ¬badChecked` (so is a close of the kind `replayed` that net/http does not replay — PAN-OS,
  on a fresh connection or twice in a row: the code stops there, the theorems do not say so).
-/
namespace NA.C09
open NA.Sess NA.Apply NA.Spec.C09

/-- **no_change_after_fault** (for every backend, device, script length, fault position and kind):
nothing after a bad reply is a change command, a save step or a start-up file copy.

Full statement (false, see the counterexamples): the same with `badFull b`. -/
theorem no_change_after_fault_partial (b : Backend) (env : Env) :
    NoChangeAfterFault (badChecked b) (runProg b env).tr :=
  (safe_iff_noChangeAfterFault _ _).mp (run_inv b env).safe

/-- **no_save_after_fault**: in particular no `write memory`, commit, job poll or scp. -/
theorem no_save_after_fault_partial (b : Backend) (env : Env) (pre post : List Ev) (ρ : Role) (r : Reply)
    (hsplit : (runProg b env).tr = pre ++ Ev.got ρ r :: post) (hbad : badChecked b ρ r = true) :
    (∀ ls, Ev.sent .save ls ∉ post) ∧ (∀ w, Ev.scp w ∉ post) ∧ (∀ ls, Ev.sent .change ls ∉ post) := by
  have h := no_change_after_fault_partial b env pre post ρ r hsplit hbad
  refine ⟨fun ls hm => ?_, fun w hm => ?_, fun ls hm => ?_⟩ <;> simpa [isChangeOrSave] using h _ hm

/-- **exit_nonzero**: after a bad reply the run ends by abort (exit status 1) — or, for the
PAN-OS job poll only, does not end at all (see `panos_commit_poll_total`). -/
theorem exit_nonzero_partial (b : Backend) (env : Env)
    (hf : faulted (badChecked b) (runProg b env).tr = true) (hd : (runProg b env).mode ≠ .diverge) :
    exitCode (runProg b env) = 1 := by
  rcases exit_of_faulted b env hf with h | h
  · simp [exitCode, h]
  · exact absurd h hd

/-- **status_failed_or_diff**: `do-approve` then records FAILED (approve) or DIFF (compare),
whatever the status file said before. -/
theorem status_failed_or_diff_partial (b : Backend) (env : Env) (prev : Status) (policy : String) (now : Nat)
    (hf : faulted (badChecked b) (runProg b env).tr = true) (hd : (runProg b env).mode ≠ .diverge) :
    (doApprove false prev policy now (runProg b env).tr (exitCode (runProg b env))).status.approve.result = "FAILED"
    ∧ (doApprove true prev policy now (runProg b env).tr (exitCode (runProg b env))).status.compare.result = "DIFF" := by
  rw [exit_nonzero_partial b env hf hd]
  exact ⟨doApprove_failed_approve _ _ _ _, doApprove_failed_compare _ _ _ _⟩

/-- **history_end_failed** and the exit status of `do-approve` itself. -/
theorem history_end_failed_partial (b : Backend) (env : Env) (isCompare : Bool) (prev : Status) (policy : String)
    (now : Nat) (hf : faulted (badChecked b) (runProg b env).tr = true) (hd : (runProg b env).mode ≠ .diverge) :
    (doApprove isCompare prev policy now (runProg b env).tr (exitCode (runProg b env))).endMsg = "FAILED"
    ∧ (doApprove isCompare prev policy now (runProg b env).tr (exitCode (runProg b env))).exit = 1 := by
  rw [exit_nonzero_partial b env hf hd]
  exact (doApprove_failed_exit _ _ _ _ _).symm

/-- **ok_only_if_all_accepted**: a run that ends, and after which `do-approve` exits 0 / records OK,
has seen only good replies wherever the code inspects them: every change command accepted
(echo right, no output besides notices), every exit status 0, every save step confirmed, every
HTTP reply 200 and well-formed. -/
theorem ok_only_if_all_accepted_partial (b : Backend) (env : Env) (isCompare : Bool) (prev : Status)
    (policy : String) (now : Nat) (hd : (runProg b env).mode ≠ .diverge)
    (hok : (doApprove isCompare prev policy now (runProg b env).tr (exitCode (runProg b env))).exit = 0) :
    faulted (badChecked b) (runProg b env).tr = false := by
  have h0 : exitCode (runProg b env) = 0 := (doApprove_ok_iff _ _ _ _ _ _).mp hok
  cases hf : faulted (badChecked b) (runProg b env).tr with
  | false => rfl
  | true => rw [exit_nonzero_partial b env hf hd] at h0; cases h0

/-- ASA, Linux, NSX: the programs contain no loop whose end depends on the device. -/
theorem run_terminates_loopfree (b : Backend) (hb : b = .asa ∨ b = .linux ∨ b = .nsx) (env : Env) :
    (runProg b env).mode ≠ .diverge := by
  rcases hb with rfl | rfl | rfl <;> exact run_mode_ne _ env _ (.inr (.inr ⟨rfl, by decide, by decide⟩))

/-- IOS: `retries := 2; for { write memory … }` needs at most three rounds. -/
theorem run_terminates_ios' (env : Env) : (runProg .ios env).mode ≠ .diverge := by
  unfold runProg
  refine noLoopB_mode [iosWriteMem] ?_ _ (by decide +kernel) env _ (by simp)
  intro q hq env s hs
  simp only [List.mem_cons, List.mem_nil_iff, or_false] at hq
  subst hq
  exact iosWriteMem_terminates env s hs

/-- Every backend but PAN-OS: the run always ends, so a bad reply always gives exit status 1. -/
theorem exit_nonzero_partial_nonpanos (b : Backend) (hb : b ≠ .panos) (env : Env)
    (hf : faulted (badChecked b) (runProg b env).tr = true) : exitCode (runProg b env) = 1 := by
  refine exit_nonzero_partial b env hf ?_
  cases b with
  | asa | linux | nsx => exact run_terminates_loopfree _ (by simp) env
  | ios => exact run_terminates_ios' env
  | panos => exact absurd rfl hb

/-- the poll loop says `continue` only when the device answered PEND -/
theorem panos_poll_continue_only_on_pend (env : Env) (s : St) (hs : s.mode = .run)
    (hc : (exec panosPollRound env s).mode = .cont) : Flag.pend ∈ (exec panosPollRound env s).last.flags := by
  -- at `continue` the reply of the round is still the latest one, and the test for PEND came out true
  simpa [Atom.eval] using svEnds_cont panosPollRound .save (.flag .pend) true (by decide +kernel) env s hs hc

/-- **The PAN-OS commit poll loop is total only under an explicit hypothesis**: if within the
fuel some round is answered by something other than PEND (`hstop`: that round does not say
`continue`), the loop ends.  A device that answers PEND for ever makes the real program loop for
ever (no overall timeout in `commit`); this is outside the listed fault kinds. -/
theorem panos_commit_poll_total (env : Env) (s : St) (hs : s.mode = .run) (k : Nat) (hk : k < env.fuel)
    (hstop : (exec panosPollRound env (rounds (exec panosPollRound env) k s)).mode ≠ .cont) :
    (exec (.loopFuel panosPollRound) env s).mode ≠ .diverge := by
  simp only [exec]
  refine iter_total _ (fun st hst => ⟨leaves_mode _ (by decide +kernel) env st hst, noLoop_mode _ (by decide +kernel) env st ?_⟩) _ s hs k hk hstop
  rw [hst]; decide

/-- the loop of the model is the loop of the program -/
theorem panosPollRound_is_commit_loop : panosCommitBody =
    (panosCommitHead ;; xmlUnmarshal ;; .ite .err "err != nil" (.ret .keep ["err"]) .skip ;; .loopFuel panosPollRound) :=
  panosCommitBody_eq

/-- If the loop over the change script ends in normal mode, every packet of the script is on the
wire, in order, exactly once (ASA / IOS / Linux `cmd`, NSX `sendRequest`). -/
theorem ok_only_if_all_sent (env : Env) (s : St) (hm : s.mode = .run) :
    ((exec (.forEach (asaCmd .change .cur ["_"])) env s).mode = .run →
      changeSends (exec (.forEach (asaCmd .change .cur ["_"])) env s).tr = changeSends s.tr ++ s.plan)
    ∧ ((exec (.forEach (iosCmd .change .cur ["_"])) env s).mode = .run →
      changeSends (exec (.forEach (iosCmd .change .cur ["_"])) env s).tr = changeSends s.tr ++ s.plan)
    ∧ ((exec (.forEach (linuxCmd .change .cur ["_"])) env s).mode = .run →
      changeSends (exec (.forEach (linuxCmd .change .cur ["_"])) env s).tr = changeSends s.tr ++ s.plan)
    ∧ ((exec (.forEach (nsxSendRequest .change .cur ;; .ite .err "err != nil" (.ret .keep ["err"]) .skip)) env s).mode = .run →
      changeSends (exec (.forEach (nsxSendRequest .change .cur ;; .ite .err "err != nil" (.ret .keep ["err"]) .skip)) env s).tr
        = changeSends s.tr ++ s.plan) :=
  ⟨foreach_sends_all_asa env s hm, foreach_sends_all_ios env s hm, foreach_sends_all_linux env s hm,
   foreach_sends_all_nsx env s hm⟩

/-- PAN-OS: the script is a sublist of what the loop puts on the wire: net/http may send a command twice (F-C09c). -/
theorem ok_only_if_all_sent_panos (env : Env) (s : St) (hm : s.mode = .run)
    (hend : (exec (.forEach (panosDoCmd .change .cur ;; .ite .err "err != nil" (.ret .err ["_"]) .skip)) env s).mode = .run) :
    ∃ new, changeSends (exec (.forEach (panosDoCmd .change .cur ;; .ite .err "err != nil" (.ret .err ["_"]) .skip)) env s).tr
        = changeSends s.tr ++ new ∧ List.Sublist s.plan new :=
  foreach_sends_all_panos env s hm hend

/-- IOS `writeMem` comes back without abort, and PAN-OS `commit` returns nil, only after the device
confirmed: `[OK]`, resp. "no changes to commit" or job result OK.  The ASA `write memory` block is
`asa_saved_if_completes`. -/
theorem ok_only_if_saved (env : Env) (s : St) (hm : s.mode = .run) :
    ((exec iosWriteMem env s).mode = .run → saveConfirmed (exec iosWriteMem env s).tr = true)
    ∧ ((exec panosCommit env s).mode = .run → (exec panosCommit env s).errv = false →
        saveConfirmed (exec panosCommit env s).tr = true) :=
  ⟨ios_saved_if_completes env s hm, panos_saved_if_commit_returns_nil env s hm⟩

/-- **ok_only_if_all_sent_accepted_and_saved** — one theorem for all five backends, every device
behaviour and fault schedule (`env.dev` arbitrary), every change script.  If an approve run ends and
`do-approve` exits 0 / records OK, then

* no reply the code inspects was bad,
* every command of the script the planner produced is on the wire, in order
  (the script is a sublist of the change commands sent; what exactly is sent: see
  `change_commands_normal_form`),
* ASA / IOS / PAN-OS: if there was anything to change, the device confirmed the save
  (`[OK]`, "no changes to commit", job result OK),
* Linux (not simulated): the start-up files were copied successfully — routing if routes changed,
  packet-filter if iptables changed. -/
theorem ok_only_if_all_sent_accepted_and_saved (b : Backend) (env : Env) (prev : Status) (policy : String) (now : Nat)
    (hc : env.compare = false) (hsim : b = .linux → env.simulated = false)
    (hd : (runProg b env).mode ≠ .diverge)
    (hok : (doApprove false prev policy now (runProg b env).tr (exitCode (runProg b env))).exit = 0) :
    faulted (badChecked b) (runProg b env).tr = false
    ∧ (runProg b env).plan.Sublist (changeSends (runProg b env).tr)
    ∧ ((b = .asa ∨ b = .ios ∨ b = .panos) → (!(runProg b env).plan.isEmpty || (runProg b env).ipt) = true →
        saveConfirmed (runProg b env).tr = true)
    ∧ (b = .linux → ((runProg b env).plan.isEmpty = false → scpConfirmed "routing" (runProg b env).tr)
        ∧ ((runProg b env).ipt = true → scpConfirmed "iptables" (runProg b env).tr)) := by
  have h0 : exitCode (runProg b env) = 0 := (doApprove_ok_iff _ _ _ _ _ _).mp hok
  have hret : (runProg b env).mode = .ret := by
    rcases run_mode_cases b env with h | h | h
    · exact h
    · simp [exitCode, h] at h0
    · exact absurd h hd
  obtain ⟨hf, hh⟩ := run_ok_facts b env hc hsim hret
  refine ⟨hf, ?_, ?_, ?_⟩
  · exact hh.hS (by cases b <;> rfl)
  · intro hb
    exact hh.hV (by rcases hb with rfl | rfl | rfl <;> rfl)
  · intro hb
    subst hb
    exact ⟨hh.hR rfl, hh.hT rfl⟩

/-- **fault_stops_and_reports** — the converse as one theorem over an arbitrary fault position: for
every backend, device and script, if the reply at ANY position of the trace (`pre.length`) is a
failure the code inspects, then nothing after it is a change command, a save step or a start-up
file copy, the run exits 1 (if it ends: always, except for the PAN-OS poll loop), `do-approve`
records FAILED for approve resp. DIFF for compare, writes `END: FAILED` and exits 1. -/
theorem fault_stops_and_reports (b : Backend) (env : Env) (prev : Status) (policy : String) (now : Nat)
    (pre post : List Ev) (ρ : Role) (r : Reply)
    (hsplit : (runProg b env).tr = pre ++ Ev.got ρ r :: post) (hbad : badChecked b ρ r = true)
    (hd : (runProg b env).mode ≠ .diverge) :
    (∀ e ∈ post, isChangeOrSave e = false)
    ∧ exitCode (runProg b env) = 1
    ∧ (doApprove false prev policy now (runProg b env).tr (exitCode (runProg b env))).status.approve.result = "FAILED"
    ∧ (doApprove true prev policy now (runProg b env).tr (exitCode (runProg b env))).status.compare.result = "DIFF"
    ∧ (∀ isCompare, (doApprove isCompare prev policy now (runProg b env).tr (exitCode (runProg b env))).endMsg = "FAILED"
        ∧ (doApprove isCompare prev policy now (runProg b env).tr (exitCode (runProg b env))).exit = 1) := by
  have hf : faulted (badChecked b) (runProg b env).tr = true := by
    rw [hsplit]
    simp [faulted, isBadGot, hbad]
  have hst := status_failed_or_diff_partial b env prev policy now hf hd
  exact ⟨no_change_after_fault_partial b env pre post ρ r hsplit hbad, exit_nonzero_partial b env hf hd,
    hst.1, hst.2, fun ic => history_end_failed_partial b env ic prev policy now hf hd⟩

/-- **compare_diff_recorded_iff** — the compare counterpart, one theorem for all five backends and
every device behaviour.  For a compare run that ends:

* `do-approve` records UPTODATE **iff** the run ended by `return` with neither an `ERROR>>>` line nor
  `comp: *** device changed ***` in the log;
* UPTODATE is recorded only if every reply the code inspects was good (login, every read step) and
  **no difference was computed** (the script is empty and iptables did not change);
* any bad reply ⇒ DIFF is recorded (whatever the status file said before), `END: FAILED`, exit 1. -/
theorem compare_diff_recorded_iff (b : Backend) (env : Env) (prev : Status) (policy : String) (now : Nat)
    (hc : env.compare = true) (hd : (runProg b env).mode ≠ .diverge) :
    ((doApprove true prev policy now (runProg b env).tr (exitCode (runProg b env))).status.compare.result = "UPTODATE"
      ↔ ((runProg b env).mode = .ret ∧ (runProg b env).tr.contains .logChanged = false
          ∧ (runProg b env).tr.contains .logErr = false))
    ∧ ((doApprove true prev policy now (runProg b env).tr (exitCode (runProg b env))).status.compare.result = "UPTODATE"
        → faulted (badChecked b) (runProg b env).tr = false
          ∧ (!(runProg b env).plan.isEmpty || (runProg b env).ipt) = false)
    ∧ (faulted (badChecked b) (runProg b env).tr = true
        → (doApprove true prev policy now (runProg b env).tr (exitCode (runProg b env))).status.compare.result = "DIFF"
          ∧ (doApprove true prev policy now (runProg b env).tr (exitCode (runProg b env))).endMsg = "FAILED"
          ∧ (doApprove true prev policy now (runProg b env).tr (exitCode (runProg b env))).exit = 1) := by
  have hiff : (doApprove true prev policy now (runProg b env).tr (exitCode (runProg b env))).status.compare.result = "UPTODATE"
      ↔ ((runProg b env).mode = .ret ∧ (runProg b env).tr.contains .logChanged = false
          ∧ (runProg b env).tr.contains .logErr = false) := by
    rw [doApprove_uptodate_iff]
    rcases run_mode_cases b env with hm | hm | hm
    · simp [exitCode, hm]
    · simp [exitCode, hm]
    · exact absurd hm hd
  refine ⟨hiff, fun hup => ?_, fun hf => ?_⟩
  · obtain ⟨hret, hchg, _⟩ := hiff.mp hup
    obtain ⟨hgood, hlog⟩ := compare_ok_facts b env hc hret
    refine ⟨hgood, ?_⟩
    cases hh : (!(runProg b env).plan.isEmpty || (runProg b env).ipt) with
    | false => rfl
    | true => have := hlog hh; rw [hchg] at this; cases this
  · exact ⟨(status_failed_or_diff_partial b env prev policy now hf hd).2,
      history_end_failed_partial b env true prev policy now hf hd⟩

/-- **Every run** (OK or not, approve or compare, whatever the device does): the change commands on
the wire are a prefix of the planner's script (ASA, IOS, NSX); for Linux a prefix of the script
followed — only after the whole script, only if iptables changed — by a prefix of the three fixed
activation commands; for PAN-OS a prefix of the script in which a command may stand twice in a row
(replayed by net/http).  Never a foreign change command, never out of order. -/
theorem change_commands_always_prefix (env : Env) :
    (∀ b, (b = .asa ∨ b = .ios ∨ b = .nsx) → ∃ k, changeSends (runProg b env).tr = (runProg b env).plan.take k)
    ∧ (∃ k j, changeSends (runProg .linux env).tr = (runProg .linux env).plan.take k ++ linuxExtras.take j
        ∧ (j ≠ 0 → (runProg .linux env).plan.take k = (runProg .linux env).plan ∧ (runProg .linux env).ipt = true))
    ∧ (∃ k, Rep ((runProg .panos env).plan.take k) (changeSends (runProg .panos env).tr)) :=
  ⟨fun b hb => change_commands_prefix_of_script b hb env, change_commands_shape_linux env,
   change_commands_rep_prefix_panos env⟩

/-- **Normal form for a run that ends OK** (approve).  ASA / IOS / NSX: the change commands on the wire
are exactly the script.  Linux (real scp; the script does not itself contain the three activation
commands — decidable hypothesis `hdis`): the script followed, iff iptables changed, by
`chmod a+x …new`, `…new`, `mv -f …new …`.  PAN-OS: the script with exact replays (`Rep`-prefix that
contains the script as a sublist); equality is false, see `panos_equality_counterexample`. -/
theorem change_commands_normal_form (b : Backend) (env : Env) (hc : env.compare = false)
    (hsim : b = .linux → env.simulated = false) (hok : (runProg b env).mode = .ret)
    (hdis : b = .linux → ∀ x ∈ linuxExtras, x ∉ (runProg b env).plan) :
    ((b = .asa ∨ b = .ios ∨ b = .nsx) → changeSends (runProg b env).tr = (runProg b env).plan)
    ∧ (b = .linux → changeSends (runProg b env).tr
        = (runProg b env).plan ++ (if (runProg b env).ipt = true then linuxExtras else []))
    ∧ (b = .panos → (∃ k, Rep ((runProg b env).plan.take k) (changeSends (runProg b env).tr))
        ∧ (runProg b env).plan.Sublist (changeSends (runProg b env).tr)) := by
  refine ⟨fun hb => change_commands_exact b hb env hc hok, fun hb => ?_, fun hb => ?_⟩
  · subst hb
    exact change_commands_exact_linux env hc (hsim rfl) hok (hdis rfl)
  · subst hb
    exact ⟨change_commands_rep_prefix_panos env, (run_ok_facts .panos env hc (fun h => by cases h) hok).2.hS rfl⟩

/-- PAN-OS: equality with the script is false even for a run that ends OK — the device closes the
connection instead of answering the first `set` request (request 4), net/http sends it again. -/
def envPanosSetReplayed : Env :=
  { dev := mkDev .panos {} (some 4) "close", plan := fun _ => [["set a"], ["set b"]], fuel := 5 }

theorem panos_equality_counterexample :
    (runProg .panos envPanosSetReplayed).mode = .ret
    ∧ changeSends (runProg .panos envPanosSetReplayed).tr = [["set a"], ["set a"], ["set b"]]
    ∧ (runProg .panos envPanosSetReplayed).plan = [["set a"], ["set b"]] := by decide +kernel

/-- F-C09a.  IOS, one change command.  The device answers `configure terminal` (sent by
`ApplyCommands` with `SendCmd`, reply number 18) with error text.  The code does not look at it:
the change command is sent, the configuration is saved, the run exits 0. -/
def envIosConfTRejected : Env :=
  { dev := mkDev .ios {} (some 18) "errtext", plan := fun _ => [["ip route 10.20.0.0 255.255.0.0 10.1.2.3"]] }

theorem no_change_after_fault_counterexample_ios :
    safe (badFull .ios) (runProg .ios envIosConfTRejected).tr = false
    ∧ exitCode (runProg .ios envIosConfTRejected) = 0
    ∧ saveConfirmed (runProg .ios envIosConfTRejected).tr = true
    ∧ faulted (badChecked .ios) (runProg .ios envIosConfTRejected).tr = false := by decide +kernel

/-- F-C09b.  ASA.  The device answers `write term` (reply number 12) with error text; the text is
parsed as a configuration without any known command, i.e. as an empty device, and the complete
target configuration (`plan false`) is pushed and saved; exit 0. -/
def envAsaRetrievalRejected : Env :=
  { dev := mkDev .asa {} (some 12) "errtext",
    plan := fun genuine => if genuine then [["no route inside 10.1.0.0 255.255.0.0 10.1.2.3"], ["route inside 10.3.0.0 255.255.0.0 10.1.2.3"]]
                           else [["route inside 10.2.0.0 255.255.0.0 10.1.2.3"], ["route inside 10.3.0.0 255.255.0.0 10.1.2.3"]] }

theorem config_retrieval_counterexample_asa :
    safe (badFull .asa) (runProg .asa envAsaRetrievalRejected).tr = false
    ∧ exitCode (runProg .asa envAsaRetrievalRejected) = 0
    ∧ changeSends (runProg .asa envAsaRetrievalRejected).tr
        = [["route inside 10.2.0.0 255.255.0.0 10.1.2.3"], ["route inside 10.3.0.0 255.255.0.0 10.1.2.3"]]
    ∧ faulted (badChecked .asa) (runProg .asa envAsaRetrievalRejected).tr = false := by decide +kernel

/-- F-C09d.  NSX.  The device answers the request for its services (request number 3) with
status 200 and a well-formed JSON object that has no `results`; the program reads it as an empty
list, plans against an empty device (`plan false`: everything is created again, nothing deleted),
sends these requests and exits 0. -/
def envNsxListWithoutResults : Env :=
  { dev := mkDev .nsx {} (some 3) "no_results",
    plan := fun genuine => if genuine then [["PUT s2"], ["DELETE gone"]] else [["PUT s1"], ["PUT s2"]] }

theorem list_without_results_counterexample_nsx :
    safe (badFull .nsx) (runProg .nsx envNsxListWithoutResults).tr = false
    ∧ exitCode (runProg .nsx envNsxListWithoutResults) = 0
    ∧ changeSends (runProg .nsx envNsxListWithoutResults).tr = [["PUT s1"], ["PUT s2"]]
    ∧ faulted (badChecked .nsx) (runProg .nsx envNsxListWithoutResults).tr = false := by decide +kernel

/-- F-C09c.  PAN-OS, two set commands.  The device closes the (reused) connection instead of
answering the commit request (request number 6).  net/http replays the GET: `commit` is sent a
second time, the run ends OK. -/
def envPanosCommitClosed : Env :=
  { dev := mkDev .panos {} (some 6) "close", plan := fun _ => [["set a"], ["set b"]], fuel := 5 }

theorem closed_connection_counterexample_panos :
    safe (badFull .panos) (runProg .panos envPanosCommitClosed).tr = false
    ∧ exitCode (runProg .panos envPanosCommitClosed) = 0
    ∧ ((runProg .panos envPanosCommitClosed).tr.filter (· == Ev.sent .save ["commit"])).length = 2
    ∧ faulted (badChecked .panos) (runProg .panos envPanosCommitClosed).tr = false := by decide +kernel

/-! ## the hypotheses are satisfiable: failures the code inspects do occur and are caught -/

/-- error text in the reply to the second half of a joined two-command line (ASA, reply 15) -/
def envAsaSecondHalfRejected : Env :=
  { dev := mkDev .asa {} (some 15) "errtext",
    plan := fun _ => [["no route inside 10.1.0.0 255.255.0.0 10.1.2.3", "route inside 10.1.0.0 255.255.0.0 10.1.2.4"],
                      ["route inside 10.3.0.0 255.255.0.0 10.1.2.3"]] }

set_option maxRecDepth 100000 in
example : faulted (badChecked .asa) (runProg .asa envAsaSecondHalfRejected).tr = true
    ∧ exitCode (runProg .asa envAsaSecondHalfRejected) = 1
    ∧ changeSends (runProg .asa envAsaSecondHalfRejected).tr
        = [["no route inside 10.1.0.0 255.255.0.0 10.1.2.3", "route inside 10.1.0.0 255.255.0.0 10.1.2.4"]]
    ∧ saveConfirmed (runProg .asa envAsaSecondHalfRejected).tr = false := by decide +kernel

/-- IOS: silence in the middle of the script; only the deferred clean-up is sent afterwards -/
def envIosSilence : Env :=
  { dev := mkDev .ios {} (some 19) "silence", plan := fun _ => [["ip route a"], ["ip route b"]] }

set_option maxRecDepth 100000 in
example : faulted (badChecked .ios) (runProg .ios envIosSilence).tr = true
    ∧ exitCode (runProg .ios envIosSilence) = 1
    ∧ changeSends (runProg .ios envIosSilence).tr = [["ip route a"]]
    ∧ (doApprove false {} "p1" 0 (runProg .ios envIosSilence).tr (exitCode (runProg .ios envIosSilence))).status.approve.result = "FAILED" := by
  decide +kernel

/-- PAN-OS: the commit job fails (third poll) -/
def envPanosJobFails : Env :=
  { dev := mkDev .panos { pend := 2 } (some 9) "jobfail", plan := fun _ => [["set a"], ["set b"]], fuel := 10 }

set_option maxRecDepth 100000 in
example : faulted (badChecked .panos) (runProg .panos envPanosJobFails).tr = true
    ∧ exitCode (runProg .panos envPanosJobFails) = 1 ∧ (runProg .panos envPanosJobFails).mode ≠ .diverge := by decide +kernel

/-- without a fault the run is OK, everything is sent and the save is confirmed -/
def envAsaOk : Env := { dev := mkDev .asa {} none "-", plan := fun _ => [["route inside 10.3.0.0 255.255.0.0 10.1.2.3"]] }

set_option maxRecDepth 100000 in
example : exitCode (runProg .asa envAsaOk) = 0 ∧ saveConfirmed (runProg .asa envAsaOk).tr = true
    ∧ changeSends (runProg .asa envAsaOk).tr = [["route inside 10.3.0.0 255.255.0.0 10.1.2.3"]] := by decide +kernel

-- a device that answers PEND for ever: the model of the poll loop runs out of any fuel
set_option maxRecDepth 100000 in
example : (runProg .panos { dev := mkDev .panos { pend := 1000 } none "-", plan := fun _ => [["set a"]], fuel := 7 }).mode
    = .diverge := by decide +kernel

/-- Linux with a real (not simulated) scp: routes and iptables change, everything is confirmed -/
def envLinuxOk : Env :=
  { dev := mkDev .linux {} none "-", plan := fun _ => [["ip route add 10.3.0.0/16 via 10.1.2.3"]],
    planIpt := fun _ => true, simulated := false }

set_option maxRecDepth 100000 in
example : (runProg .linux envLinuxOk).mode = .ret ∧ exitCode (runProg .linux envLinuxOk) = 0
    ∧ (runProg .linux envLinuxOk).plan = [["ip route add 10.3.0.0/16 via 10.1.2.3"]]
    ∧ (runProg .linux envLinuxOk).tr.contains (Ev.sent .save ["scp routing"]) = true := by decide +kernel

set_option maxRecDepth 100000 in
example : (∀ x ∈ linuxExtras, x ∉ (runProg .linux envLinuxOk).plan)
    ∧ changeSends (runProg .linux envLinuxOk).tr = [["ip route add 10.3.0.0/16 via 10.1.2.3"]] ++ linuxExtras := by decide +kernel

/-- Linux: the copy of the packet-filter file fails: nothing is activated -/
def envLinuxScpFails : Env :=
  { dev := mkDev .linux {} none "scpfail_iptables", plan := fun _ => [["ip route add 10.3.0.0/16 via 10.1.2.3"]],
    planIpt := fun _ => true, simulated := false }

set_option maxRecDepth 100000 in
example : faulted (badChecked .linux) (runProg .linux envLinuxScpFails).tr = true
    ∧ exitCode (runProg .linux envLinuxScpFails) = 1
    ∧ (runProg .linux envLinuxScpFails).tr.contains (Ev.sent .change ["chmod a+x /etc/network/packet-filter.new"]) = false := by
  decide +kernel

/-- compare: device equal to the target: UPTODATE; a difference: DIFF with exit 0; a fault: DIFF with exit 1 -/
def envAsaCompareSame : Env := { dev := mkDev .asa {} none "-", plan := fun _ => [], compare := true }
def envAsaCompareDiff : Env := { dev := mkDev .asa {} none "-", plan := fun _ => [["route inside 10.3.0.0 255.255.0.0 10.1.2.3"]], compare := true }
def envAsaCompareFault : Env := { dev := mkDev .asa {} (some 11) "silence", plan := fun _ => [], compare := true }

set_option maxRecDepth 100000 in
example : (doApprove true {} "p1" 0 (runProg .asa envAsaCompareSame).tr (exitCode (runProg .asa envAsaCompareSame))).status.compare.result = "UPTODATE"
    ∧ (doApprove true {} "p1" 0 (runProg .asa envAsaCompareDiff).tr (exitCode (runProg .asa envAsaCompareDiff))).status.compare.result = "DIFF"
    ∧ (doApprove true {} "p1" 0 (runProg .asa envAsaCompareDiff).tr (exitCode (runProg .asa envAsaCompareDiff))).exit = 0
    ∧ faulted (badChecked .asa) (runProg .asa envAsaCompareFault).tr = true
    ∧ (doApprove true {} "p1" 0 (runProg .asa envAsaCompareFault).tr (exitCode (runProg .asa envAsaCompareFault))).exit = 1 := by
  decide +kernel

def obligations : List Lean.Name := [
  ``ok_only_if_all_sent_accepted_and_saved, ``fault_stops_and_reports, ``compare_diff_recorded_iff,
  ``change_commands_always_prefix, ``change_commands_normal_form, ``panos_equality_counterexample,
  ``no_change_after_fault_partial, ``no_save_after_fault_partial, ``exit_nonzero_partial,
  ``status_failed_or_diff_partial, ``history_end_failed_partial, ``ok_only_if_all_accepted_partial,
  ``ok_only_if_all_sent, ``ok_only_if_all_sent_panos, ``ok_only_if_saved, ``asa_saved_if_completes,
  ``run_terminates_loopfree, ``run_terminates_ios', ``exit_nonzero_partial_nonpanos, ``panos_poll_continue_only_on_pend, ``panos_commit_poll_total,
  ``no_change_after_fault_counterexample_ios, ``config_retrieval_counterexample_asa,
  ``closed_connection_counterexample_panos, ``list_without_results_counterexample_nsx,
  ``NA.Spec.C09.badChecked_imp_badFull,
  ``skel_console_Send, ``skel_console_SendCmd, ``skel_console_IssueCmd, ``skel_console_GetCmdOutput,
  ``skel_console_GetOutput, ``skel_console_waitPrompt, ``skel_console_WaitShort, ``skel_console_WaitLogin,
  ``skel_console_expectLog, ``skel_console_StripEcho, ``skel_console_StripStdPrompt, ``skel_console_Close,
  ``skel_errlog_HandleAbort, ``skel_errlog_Abort,
  ``skel_asa_ApplyCommands, ``skel_asa_cmd, ``skel_asa_CloseConnection,
  ``skel_ios_ApplyCommands, ``skel_ios_cmd, ``skel_ios_writeMem, ``skel_ios_prepareDevice,
  ``skel_ios_sendReloadCmd, ``skel_ios_cancelReload,
  ``skel_ios_CloseConnection,
  ``skel_linux_ApplyCommands, ``skel_linux_cmd, ``skel_linux_writeStartupRouting,
  ``skel_linux_writeStartupIPTables, ``skel_linux_findIPTablesRestoreCmd, ``skel_linux_writeStartup,
  ``skel_linux_putScp, ``skel_linux_CloseConnection,
  ``skel_panos_ApplyCommands, ``skel_panos_doCmd, ``skel_panos_commit, ``skel_panos_httpPrefixGetLog,
  ``skel_panos_httpGet, ``skel_panos_CloseConnection,
  ``skel_nsx_ApplyCommands, ``skel_nsx_sendRequest, ``skel_nsx_CloseConnection,
  ``skel_device_ApproveOrCompare, ``skel_device_approve, ``skel_device_compare, ``skel_device_compareDevice,
  ``skel_device_applyCommands, ``skel_device_showCompareInfo, ``skel_doapprove_Main,
  ``skel_status_SetApprove, ``skel_status_SetCompare,
  ``skel_cisco_LoginEnable, ``skel_cisco_LoginEnable_waitPrompt, ``skel_httpdevice_TryReachableHTTPLogin,
  ``skel_asa_LoadDevice, ``skel_asa_setTerminal, ``skel_asa_logVersion, ``skel_asa_checkDeviceName,
  ``skel_ios_LoadDevice, ``skel_ios_setTerminal, ``skel_ios_logVersion, ``skel_ios_checkDeviceName,
  ``skel_linux_LoadDevice, ``skel_linux_loginEnable, ``skel_linux_logVersion, ``skel_linux_checkDeviceName,
  ``skel_linux_checkBanner, ``skel_linux_getDeviceRoutes, ``skel_linux_getDeviceIPTables,
  ``skel_panos_LoadDevice, ``skel_panos_getAPIKey, ``skel_panos_checkHA, ``skel_nsx_LoadDevice, ``skel_nsx_getRawJSON,
  ``skel_all_covered ]

end NA.C09
