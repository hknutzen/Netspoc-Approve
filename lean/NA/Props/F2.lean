import NA.Proofs.F2Mode
import NA.Proofs.F2Exec
import NA.Proofs.F2Acl
import NA.Proofs.DiffUnordered
import NA.Proofs.F1Names
import NA.Proofs.F2Final
import NA.Proofs.F2Equiv
import NA.Proofs.F2Plan
import NA.Proofs.F2Quiet
import NA.Proofs.F2Again
import NA.Proofs.F2Resume
import NA.Proofs.F2RouteScript
/-!
# F2 — the IOS diff engine on fragment F2 (C02, C07, C08, C10, C14)

Model: `NA.F2.engine` (NA/Model/IosEngine.lean) = decisions (`List MA`) → events (`expand`) → printed
lines (`render`, the `subCmdOf` bookkeeping).  Strict device: `NA.IosDev2` (NA/Spec/IosCfgDev.lean).
All theorems are for ALL inputs (configurations, scripts) unless a decidable hypothesis is named.
-/
namespace NA.F2
open NA.IosDev2
open NA.Acl (Range BlockEqG LineEqv)
open NA.F1 (genName isTagged diffUnordered lookupD)

/-! ## 1. Generated names -/

/-- `ios_names_fresh`: the name given to a transferred ACL is not a name on the device, carries the
`-DRC-` tag, every smaller index is taken; different target names get different generated names. -/
theorem ios_names_fresh (base : Name) (dev : List Name) :
    genName base dev ∉ dev ∧ isTagged (genName base dev) = true ∧
    (∀ k, k < NA.F1.firstFree base (dev.length + 1) dev 0 → NA.F1.drcName base k ∈ dev) ∧
    (∀ base' dev', genName base dev = genName base' dev' → base = base') :=
  ⟨NA.F1.genName_fresh base dev, NA.F1.genName_tagged base dev, NA.F1.genName_least base dev,
   fun _ _ h => NA.F1.genName_injective h⟩

example : genName "e0_in" ["e0_in-DRC-0", "x", "e0_in-DRC-1"] = "e0_in-DRC-2" := by decide +kernel

/-! ## 2. Configuration mode (C08) -/

/-- `ios_confmode_tracks`: in the script of the engine (any input) every sub-command arrives while
the device — whose mode is the last mode line, reset by `exit` and by every other top-level command
— is in the mode of the parent the sub-command was emitted for, and `exit` is sent only inside a
sub-mode.  `renderP` is the printed script annotated with those parents. -/
theorem ios_confmode_tracks (a b : Config) (sc : Scripts) :
    (renderP none ((engine a b sc).acts.flatMap expand)).map (·.2) = scriptOf (engine a b sc).acts ∧
    inModes none (renderP none ((engine a b sc).acts.flatMap expand)) = true :=
  ⟨renderP_map _ _, inModes_render _ none none (fun _ h => by cases h) (acts_wf _)⟩

/-- … for every list of well-formed events and every agreeing start (`m`: `subCmdOf`, `dm`: device). -/
theorem ios_confmode_tracks_events (evs : List Ev) (m dm : Option Mode)
    (hm : ∀ p, m = some p → dm = some p) (hwf : ∀ e ∈ evs, wfEv e = true) :
    inModes dm (renderP m evs) = true := inModes_render evs m dm hm hwf

/-- `ios_confmode_exec`: executing the printed script command by command on the strict device is the
mode-free semantics of the decisions' events: no command is refused (or accepted) because of the
configuration mode. -/
theorem ios_confmode_exec (acts : List MA) (d : Dev) (hmode : d.mode = none) :
    (exec d (scriptOf acts)).map strip = (evsRun d (acts.flatMap expand)).map strip :=
  exec_script acts d hmode

example : inModes none (renderP none (expand (.bind "e0" "x" "in") ++ expand (.transfer "y" []) ++
    expand (.bind "e0" "y" "out"))) = true := by decide +kernel

/-! ## 3. One ACL object (C02) -/

/-- `ios_acl_object_converges_partial` (incremental branch `diffIOSACLs`): for a pair that satisfies the
decidable hypotheses `incrOK` (valid script keeping a line, runs < 10000, lines pairwise different
modulo `log` per side, NO REMARK LINES), on every device that holds the ACL `aN` with the lines
`al`: resequence, mode line, numbered adds / moves / deletes and the final resequence are all
accepted; the ACL ends block-equivalent modulo `log` to the target (`BlockEqG LineEqv` on the
encoded lines: swaps of neighbours with equal action, replacement by a line equal modulo `log`;
table-free: `BlockEquivA` — same sequence of actions and block by block the same lines modulo `log`
up to order, remark lines ignored);
every other ACL, the interfaces and the routes are unchanged (`putAcl`). -/
theorem ios_acl_object_converges_partial (aN : Name) (al bl : List ALine) (rs : List Range)
    (hok : incrOK al bl rs = true) (d : Dev) (hhas : hasAcl d aN = true) (hmode : d.mode = none)
    (hnd : (aclNames d).Nodup) (hlines : (entriesOf d aN).map (·.2) = al) :
    ∃ esF, evsRun d (expand (.edit aN al bl rs)) = some (putAcl d aN esF) ∧
      BlockEqG LineEqv ((esF.map (·.2)).map (encP al bl)) (bl.map (encP al bl)) ∧
      BlockEquivA (esF.map (·.2)) bl := by
  obtain ⟨esF, h1, h2, _⟩ := edit_incremental aN al bl rs hok d hhas hmode hnd hlines
  exact ⟨esF, h1, h2, (show AclEqv (esF.map (·.2)) bl from ⟨al, h2⟩).blockEquivA⟩

/-- `ios_acl_object_replaced` (branch "no parts equal" of `diffCmds`, and a device ACL without
entries): all entries are deleted top-down by text, the target's are appended; accepted whenever
the target's lines can be appended one after the other (`replaceOK`); the ACL ends with exactly the
target's lines. -/
theorem ios_acl_object_replaced (aN : Name) (al bl : List ALine) (rs : List Range)
    (hok : replaceOK al bl rs = true) (d : Dev) (hhas : hasAcl d aN = true) (hmode : d.mode = none)
    (hnd : (aclNames d).Nodup) (hlines : (entriesOf d aN).map (·.2) = al) :
    ∃ esF, evsRun d (expand (.edit aN al bl rs)) = some (putAcl d aN esF) ∧ esF.map (·.2) = bl.map typed :=
  edit_replace aN al bl rs hok d hhas hmode hnd hlines

/-! ## 4. `diffUnordered` -/

/-- `ios_unordered_ranges`: for a duplicate-free device-side key list the ranges of `diffUnordered`
are: first delete / equal ranges whose flattened indices are exactly the device keys without / with
partner (paired with the last index of the key on the target side), in device order, then insert
ranges whose flattened indices are the target keys without partner, in target order; every range
lies inside the bounds and passes exactly one of the tests `IsDelete`/`IsInsert`/`IsEqual`. -/
theorem ios_unordered_ranges (as bs : List String) (hnd : as.Nodup) :
    ∃ rsA rsB, diffUnordered as bs = rsA ++ rsB ∧
      (∀ r ∈ rsA, kindOf as.length bs.length r = some .del ∨ kindOf as.length bs.length r = some .eq) ∧
      (∀ r ∈ rsB, kindOf as.length bs.length r = some .ins) ∧
      fDel rsA = sDel bs 0 as ∧ fEq rsA = sEq bs 0 as ∧ fIns rsB = sIns as 0 bs :=
  diffUnordered_spec as bs hnd

/-! ## 5. End to end -/

/-- **`ios_F2_converges_partial`** (END TO END, all of fragment F2; the unrestricted statement
`ios_F2_converges` is false: `ios_F2_converges_counterexample`).  For every pair of configurations and
Myers scripts that passes the decidable check `wfB` (names pairwise different, at most one `in`/`out`
binding per interface and every binding refers to a defined ACL, every ACL pair passes `pairOK` —
valid script, lines pairwise different modulo `log`, NO REMARK LINES in incrementally edited pairs —,
route lines pairwise different) and that `checkIOSInterfaces` accepts:

* the whole printed script (mode lines and `exit` included) is accepted command by command by the
  strict device started on the device configuration;
* every binding of a target interface is in place and points to an ACL that exists and is
  block-equivalent modulo `log` to the target's ACL (`BlockEquivA`); a direction the target does not
  bind is unbound;
* the route set is the device's minus the deleted routes of VRFs for which the target specifies
  routes plus the target's new routes;
* an interface the target does not name keeps its bindings, and the ACLs it binds exist with
  exactly their original entries (interfaces of unmanaged VRFs and interfaces unknown to Netspoc). -/
theorem ios_F2_converges_partial (a0 b : Config) (sc : Scripts) (hw : wfB a0 b sc = true) (hok : (engine a0 b sc).ok = true) :
    ∃ d', (exec (ofConfig a0) (engine a0 b sc).script).map strip = some d' ∧
      (∀ bi ∈ b.intfs, ∀ bd ∈ bi.binds, ∃ n, slotOf d' bi.name bd.dir = some n ∧ hasAcl d' n = true ∧
          BlockEquivA (linesOf d' n) (b.lines bd.acl)) ∧
      (∀ bi ∈ b.intfs, ∀ dir, isDir dir = true → dir ∉ bi.binds.map (·.dir) → slotOf d' bi.name dir = none) ∧
      (∀ t, t ∈ d'.routes ↔ (t ∈ a0.routes.map (·.text) ∧ ¬ DelT (alignVRFs a0 b {}).2.routes b.routes t) ∨
          InsT (alignVRFs a0 b {}).2.routes b.routes t) ∧
      (∀ x, x ∉ b.intfs.map (·.name) → ∀ dir, isDir dir = true → slotOf d' x dir = slotOf (ofConfig a0) x dir) ∧
      (∀ i ∈ a0.intfs, i.name ∉ b.intfs.map (·.name) → ∀ bd ∈ i.binds,
          hasAcl d' bd.acl = true ∧ entriesOf d' bd.acl = entriesOf (ofConfig a0) bd.acl) := by
  obtain ⟨d', h, ⟨h1, h2, h3, h4, h5⟩⟩ := F2_end_to_end a0 b sc (WF_of_wfB hw) hok
  refine ⟨d', h, ?_, h2, h3, h4, h5⟩
  intro bi hbi bd hbd
  obtain ⟨n, k1, k2, k3⟩ := h1 bi hbi bd hbd
  exact ⟨n, k1, k2, k3.blockEquivA⟩

/-- `ios_script_accepted` (C08 for F2: `ios_objects_before_use`, `ios_no_referenced_acl_deleted`): under
`wfB` the strict device — which refuses `ip access-group` of an ACL that does not exist at that
moment, `no ip access-list extended` of a missing or still bound ACL, a used sequence number, a
duplicate entry, a sub-command outside its mode — accepts every command of the script. -/
theorem ios_script_accepted (a0 b : Config) (sc : Scripts) (hw : wfB a0 b sc = true) (hok : (engine a0 b sc).ok = true) :
    (exec (ofConfig a0) (engine a0 b sc).script).isSome = true := by
  obtain ⟨d', h, _⟩ := ios_F2_converges_partial a0 b sc hw hok
  obtain ⟨x, hx, _⟩ := Option.map_eq_some_iff.mp h
  rw [hx]; rfl

/-- The rules of the strict device that C08 is about. -/
theorem device_rules (d d' : Dev) :
    (∀ a dir, exec1 d (.bind a dir) = .ok d' → hasAcl d a = true) ∧
    (∀ n, exec1 d (.noAcl n) = .ok d' → hasAcl d n = true ∧ aclBound d n = false) := by
  constructor
  · intro a dir h
    simp only [exec1, isEntryCmd, isBindCmd] at h
    cases hm : d.mode with
    | none => rw [hm] at h; simp at h
    | some m =>
      rw [hm] at h
      cases m with
      | acl n => simp at h
      | intf i =>
        simp only [Bool.false_eq_true, ↓reduceIte] at h
        by_cases hh : hasAcl d a = true
        · exact hh
        · simp [hh] at h
  · intro n h
    simp only [exec1, isEntryCmd, isBindCmd, Bool.false_eq_true, ↓reduceIte, execTop] at h
    by_cases h1 : hasAcl d n = true
    · by_cases h2 : aclBound d n = true
      · simp [h1, h2] at h
      · exact ⟨h1, by simpa using h2⟩
    · simp [h1] at h

/-- Under `wfB` every command of the script is accepted by the device the commands before it lead to. -/
theorem script_step_accepted (a0 b : Config) (sc : Scripts) (hw : wfB a0 b sc = true) (hok : (engine a0 b sc).ok = true)
    (cs1 : List Chg) (c : Chg) (cs2 : List Chg) (hs : (engine a0 b sc).script = cs1 ++ c :: cs2) :
    ∃ d1 d2, exec (ofConfig a0) cs1 = some d1 ∧ exec1 d1 c = .ok d2 := by
  obtain ⟨dfin, hfin⟩ := Option.isSome_iff_exists.mp (ios_script_accepted a0 b sc hw hok)
  rw [hs, exec_append] at hfin
  obtain ⟨d1, h1, h2⟩ := Option.bind_eq_some_iff.mp hfin
  obtain ⟨d2, h3, _⟩ := exec_cons_some h2
  exact ⟨d1, d2, h1, h3⟩

/-- `ios_objects_before_use` (C08): under `wfB`, at the moment an `ip access-group ACL in|out` of the
script is executed (after any prefix of the script), `ACL` exists on the device. -/
theorem ios_objects_before_use (a0 b : Config) (sc : Scripts) (hw : wfB a0 b sc = true) (hok : (engine a0 b sc).ok = true)
    (cs1 cs2 : List Chg) (acl : Name) (dir : String) (hs : (engine a0 b sc).script = cs1 ++ .bind acl dir :: cs2) :
    ∃ d1, exec (ofConfig a0) cs1 = some d1 ∧ hasAcl d1 acl = true := by
  obtain ⟨d1, d2, h1, h2⟩ := script_step_accepted a0 b sc hw hok cs1 _ cs2 hs
  exact ⟨d1, h1, (device_rules d1 d2).1 acl dir h2⟩

/-- `ios_no_referenced_acl_deleted` (C08): under `wfB`, at the moment a `no ip access-list extended N`
of the script is executed, `N` exists and no interface binds it (the last binding is gone). -/
theorem ios_no_referenced_acl_deleted (a0 b : Config) (sc : Scripts) (hw : wfB a0 b sc = true)
    (hok : (engine a0 b sc).ok = true)
    (cs1 cs2 : List Chg) (n : Name) (hs : (engine a0 b sc).script = cs1 ++ .noAcl n :: cs2) :
    ∃ d1, exec (ofConfig a0) cs1 = some d1 ∧ hasAcl d1 n = true ∧ aclBound d1 n = false := by
  obtain ⟨d1, d2, h1, h2⟩ := script_step_accepted a0 b sc hw hok cs1 _ cs2 hs
  exact ⟨d1, h1, (device_rules d1 d2).2 n h2⟩

/-- `ios_bindings_converge`: after the script every target interface has exactly the target's in/out
bindings, pointing to ACLs equivalent to the target's. -/
theorem ios_bindings_converge (a0 b : Config) (sc : Scripts) (hw : wfB a0 b sc = true) (hok : (engine a0 b sc).ok = true) :
    ∃ d', (exec (ofConfig a0) (engine a0 b sc).script).map strip = some d' ∧
      ∀ bi ∈ b.intfs, ∀ dir, isDir dir = true →
        match bi.binds.find? (·.dir == dir) with
        | some bd => ∃ n, slotOf d' bi.name dir = some n ∧ hasAcl d' n = true ∧ BlockEquivA (linesOf d' n) (b.lines bd.acl)
        | none => slotOf d' bi.name dir = none := by
  obtain ⟨d', h, h1, h2, _⟩ := ios_F2_converges_partial a0 b sc hw hok
  refine ⟨d', h, ?_⟩
  intro bi hbi dir hdir
  cases hf : bi.binds.find? (·.dir == dir) with
  | some bd =>
    have hmem := List.mem_of_find?_eq_some hf
    have hd : bd.dir = dir := by simpa using List.find?_some hf
    obtain ⟨n, k1, k2, k3⟩ := h1 bi hbi bd hmem
    exact ⟨n, by rw [← hd]; exact k1, k2, k3⟩
  | none =>
    apply h2 bi hbi dir hdir
    intro hc
    obtain ⟨bd, hbd, hbdd⟩ := List.mem_map.mp hc
    have := List.find?_eq_none.mp hf bd hbd
    simp [hbdd] at this

/-- `ios_routes_converge` (per VRF): for a VRF in which the target specifies routes, a route line of
either side is on the device after the script iff it is a route of the target. -/
theorem ios_routes_converge (a0 b : Config) (sc : Scripts) (hw : wfB a0 b sc = true) (hok : (engine a0 b sc).ok = true) :
    ∃ d', (exec (ofConfig a0) (engine a0 b sc).script).map strip = some d' ∧
      (∀ r ∈ a0.routes ++ b.routes, r.vrf ∈ b.routes.map (·.vrf) →
        (r.text ∈ d'.routes ↔ r.text ∈ b.routes.map (·.text))) ∧
      (∀ t ∈ d'.routes, t ∈ a0.routes.map (·.text) ∨ t ∈ b.routes.map (·.text)) := by
  obtain ⟨d', h, _, _, hr, _⟩ := ios_F2_converges_partial a0 b sc hw hok
  obtain ⟨h1, h2, _⟩ := routes_char (WF_of_wfB hw) hr
  exact ⟨d', h, h1, h2⟩

/-- `ios_routes_untouched_if_unspecified`: a device route of a VRF for which the target specifies no
route is still there after the script (and no route is added to such a VRF: every added route is a
target route, `ios_routes_converge`). -/
theorem ios_routes_untouched_if_unspecified (a0 b : Config) (sc : Scripts) (hw : wfB a0 b sc = true)
    (hok : (engine a0 b sc).ok = true) :
    ∃ d', (exec (ofConfig a0) (engine a0 b sc).script).map strip = some d' ∧
      ∀ r ∈ a0.routes, r.vrf ∉ b.routes.map (·.vrf) → r.text ∈ d'.routes := by
  obtain ⟨d', h, _, _, hr, _⟩ := ios_F2_converges_partial a0 b sc hw hok
  exact ⟨d', h, (routes_char (WF_of_wfB hw) hr).2.2⟩

/-- `ios_unmanaged_vrf_untouched` (C07 for F2; what `alignVRFs` alone does is `alignVRFs_frame`
below): an interface the target does not name — in particular every interface of a VRF the target does not mention, and an interface unknown
to Netspoc in a managed VRF — keeps its bindings; the ACLs it binds still exist with exactly their
original entries (never edited, never deleted). -/
theorem ios_unmanaged_vrf_untouched (a0 b : Config) (sc : Scripts) (hw : wfB a0 b sc = true)
    (hok : (engine a0 b sc).ok = true) :
    ∃ d', (exec (ofConfig a0) (engine a0 b sc).script).map strip = some d' ∧
      (∀ x, x ∉ b.intfs.map (·.name) → ∀ dir, isDir dir = true → slotOf d' x dir = slotOf (ofConfig a0) x dir) ∧
      (∀ i ∈ a0.intfs, i.name ∉ b.intfs.map (·.name) → ∀ bd ∈ i.binds,
          hasAcl d' bd.acl = true ∧ entriesOf d' bd.acl = entriesOf (ofConfig a0) bd.acl) := by
  obtain ⟨d', h, _, _, _, h4, h5⟩ := ios_F2_converges_partial a0 b sc hw hok
  exact ⟨d', h, h4, h5⟩

/-- `alignVRFs` itself: it only removes interfaces and routes from the compared device configuration
(each list is a filter of the device's; WHICH are removed — those of VRFs the target does not mention — is
not part of the statement), never touches the access lists, and marks the ACLs of every removed
interface `needed`. -/
theorem alignVRFs_frame (a b : Config) :
    (alignVRFs a b {}).2.acls = a.acls ∧
    (∀ i ∈ a.intfs, i ∈ (alignVRFs a b {}).2.intfs ∨ Marked a (alignVRFs a b {}).1 i) ∧
    (∃ p : Intf → Bool, (alignVRFs a b {}).2.intfs = a.intfs.filter p) ∧
    (∃ p : Route → Bool, (alignVRFs a b {}).2.routes = a.routes.filter p) := by
  obtain ⟨l, hm, hl⟩ := alignVRFs_marks a b {}
  obtain ⟨h1, h2, h3, _⟩ := alignVRFs_config a b {}
  refine ⟨h1, fun i hi => ?_, h2, h3⟩
  by_cases hin : i ∈ (alignVRFs a b {}).2.intfs
  · exact Or.inl hin
  · exact Or.inr (hm.marked ((hl i).mpr ⟨hi, hin⟩))

/-! ## 5b. Unchanged ⇒ equivalent, settled ⇒ unchanged; second compare -/

/-- **`ios_F2_unchanged_only_if_equivalent`**: under `wfB`, if the engine prints nothing ("device
unchanged"), then the device already is as the target says: every target binding is in place and
points to an existing ACL that is block-equivalent modulo `log` to the target's, directions the target
does not bind are unbound, and in every VRF for which the target specifies routes the device's routes
are exactly the target's. -/
theorem ios_F2_unchanged_only_if_equivalent (a0 b : Config) (sc : Scripts) (hw : wfB a0 b sc = true)
    (hok : (engine a0 b sc).ok = true) (hempty : (engine a0 b sc).script = []) :
    (∀ bi ∈ b.intfs, ∀ bd ∈ bi.binds, ∃ n, slotOf (ofConfig a0) bi.name bd.dir = some n ∧ hasAcl (ofConfig a0) n = true ∧
        BlockEquivA (linesOf (ofConfig a0) n) (b.lines bd.acl)) ∧
    (∀ bi ∈ b.intfs, ∀ dir, isDir dir = true → dir ∉ bi.binds.map (·.dir) → slotOf (ofConfig a0) bi.name dir = none) ∧
    (∀ r ∈ a0.routes ++ b.routes, r.vrf ∈ b.routes.map (·.vrf) →
        (r.text ∈ a0.routes.map (·.text) ↔ r.text ∈ b.routes.map (·.text))) := by
  obtain ⟨d', h, h1, h2, _⟩ := ios_F2_converges_partial a0 b sc hw hok
  obtain ⟨d'', h', h3, _⟩ := ios_routes_converge a0 b sc hw hok
  rw [hempty, exec_nil] at h h'
  simp only [Option.map_some, Option.some.injEq] at h h'
  subst h; subst h'
  exact ⟨h1, h2, h3⟩

/-- The ACL half of it, for one pair: a quiet line planner on a pair of the class `incrOK` means block
equivalence modulo `log`. -/
theorem ios_acl_quiet_only_if_equivalent (al bl : List ALine) (rs : List Range) (hok : incrOK al bl rs = true)
    (hq : quietLines al bl rs = true) : BlockEquivA al bl := quietLines_blockEquivA al bl rs hok hq

/-- **`ios_F2_quiet`** (the converse direction): a pair of configurations that is statically settled
(`settledB`: same directions bound on interfaces of the same name, device and target ACLs paired
one-to-one by these bindings, no compared device ACL bound by an interface without partner, the line
planner quiet on every compared pair, target routes present and no further route in a VRF with target
routes, every `-DRC-` ACL compared or bound without partner) gives the EMPTY script — "device
unchanged".  No hypothesis on remark lines. -/
theorem ios_F2_quiet (a b : Config) (sc : Scripts) (hS : settledB a b sc = true) : (engine a b sc).script = [] :=
  F2_quiet a b sc hS

/-- **`ios_F2_idempotent_partial`** (the second compare).  Under `wfB` the script is accepted and leads
to a device `d'`; let `a2` be the configuration a further compare reads from `d'` (`reconf`).  Then

* every pair of ACLs the second compare looks at (`cmpPairs`) is block-equivalent modulo `log`;
* for EVERY Myers result `sc2` of the second compare for which the line planner is quiet on these
  pairs (`quietLines`: valid script that keeps a line, empty plan — or both lists empty), `a2` is
  statically settled and the second compare prints NOTHING.

All other conjuncts of `settledB a2 b` are PROVED from the first run: `checkIOSInterfaces` succeeds
again, the same directions are bound, device and target ACLs are paired one-to-one (the name function
of the run is injective), no compared ACL is bound by an interface without partner, the routes of
the managed VRFs are the target's, every `-DRC-` ACL on the device is compared or bound by an
interface without partner (`F2Again.lean`).  The remaining hypothesis cannot be dropped in this
formulation: `plan_second_script_counterexample` — for block-equivalent ACLs the plan depends on which
valid script Myers returns, and Myers is a parameter (validated per call).  The driver evaluates
`settledB` on every second compare: 1012 of 1012 second compares after a `wfB` run are settled (quick).
The unrestricted `ios_F2_idempotent` is false: `ios_F2_converges_counterexample` (remark lines). -/
theorem ios_F2_idempotent_partial (a0 b : Config) (sc : Scripts) (hw : wfB a0 b sc = true) (hok : (engine a0 b sc).ok = true) :
    ∃ d', (exec (ofConfig a0) (engine a0 b sc).script).map strip = some d' ∧
      (∀ p ∈ cmpPairs (alignVRFs (reconf a0 (a0.routes ++ b.routes) d') b {}).2 b,
        BlockEquivA ((reconf a0 (a0.routes ++ b.routes) d').lines p.1) (b.lines p.2)) ∧
      ∀ sc2, (∀ p ∈ cmpPairs (alignVRFs (reconf a0 (a0.routes ++ b.routes) d') b {}).2 b,
          quietLines ((reconf a0 (a0.routes ++ b.routes) d').lines p.1) (b.lines p.2) (lookupD sc2.acl p) = true) →
        settledB (reconf a0 (a0.routes ++ b.routes) d') b sc2 = true ∧
        (engine (reconf a0 (a0.routes ++ b.routes) d') b sc2).script = [] := by
  have hwf := WF_of_wfB hw
  obtain ⟨d', nm, R, h, hA, hS⟩ := F2_settled_after a0 b sc hwf hok (ofConfig a0) (reads_ofConfig a0)
  refine ⟨d', h, ?_, fun sc2 hq => ⟨hS sc2 hq, F2_quiet _ b sc2 (hS sc2 hq)⟩⟩
  intro p hp
  obtain ⟨_, h2, bi, hbi, bd, hbd, h3⟩ := cmpPairs_after hwf hA (a0.routes ++ b.routes) p.1 p.2 hp
  rw [lines_reconf, h2, ← h3]
  exact (hA.eqv bi hbi bd hbd).blockEquivA

/-- **`ios_F2_idempotent_identity`** — no hypothesis on the planner's answer.  Under `wfB` the script is
accepted and leads to `d'`; for EVERY Myers result `sc2` of the second compare that is the identity script
on every compared pair (`identityOn`, decidable: all cells kept on both sides — what a correct differ
returns on equal lists, `IdentityDiffer`; it can only be returned when device ACL and target ACL are equal
line by line, `identityOn_equal`) the device is statically settled and the second compare prints NOTHING.
This is the class in which the first run converges exactly (no suppressed move:
`ios_plan_converges_no_suppression_partial`); for ACLs that are only block-equivalent after the first run
`ios_F2_idempotent_partial` with `plan_second_script_counterexample` stays. -/
theorem ios_F2_idempotent_identity (a0 b : Config) (sc : Scripts) (hw : wfB a0 b sc = true) (hok : (engine a0 b sc).ok = true) :
    ∃ d', (exec (ofConfig a0) (engine a0 b sc).script).map strip = some d' ∧
      ∀ sc2, (∀ p ∈ cmpPairs (alignVRFs (reconf a0 (a0.routes ++ b.routes) d') b {}).2 b,
          identityOn ((reconf a0 (a0.routes ++ b.routes) d').lines p.1) (b.lines p.2) (lookupD sc2.acl p) = true) →
        settledB (reconf a0 (a0.routes ++ b.routes) d') b sc2 = true ∧
        (engine (reconf a0 (a0.routes ++ b.routes) d') b sc2).script = [] := by
  obtain ⟨d', h, _, hS⟩ := ios_F2_idempotent_partial a0 b sc hw hok
  exact ⟨d', h, fun sc2 hid => hS sc2 (fun p hp => identityOn_quiet _ _ _ (hid p hp))⟩

/-- **`ios_F2_idempotent_exact`**.  Class: `wfB`, `checkIOSInterfaces` ok, and NO SUPPRESSED MOVE in the
plan of any pair the first run may compare (`noSupprB`, decidable, printed by the driver).  Then

* the script is accepted and leads to `d'`; every ACL pair the second compare looks at is EQUAL line by
  line (text, text without `log`, action): the first run converges exactly, not only up to block
  equivalence;
* for every differ that answers the identity script on lists that are equal line by line
  (`IdentityDiffer`: decidable per answer — `identityOn`: all cells kept on both sides —, checked on the
  real library on every run, driver field `iddiffer`): the device is statically settled and the second
  compare prints NOTHING.

No hypothesis on the planner's answer.  For the block-equivalent-but-not-equal class (a move was
suppressed) `ios_F2_idempotent_partial` with `plan_second_script_counterexample` stays. -/
theorem ios_F2_idempotent_exact (a0 b : Config) (sc : Scripts) (hw : wfB a0 b sc = true) (hok : (engine a0 b sc).ok = true)
    (hns : noSupprB a0 b sc = true) :
    ∃ d', (exec (ofConfig a0) (engine a0 b sc).script).map strip = some d' ∧
      (∀ p ∈ cmpPairs (alignVRFs (reconf a0 (a0.routes ++ b.routes) d') b {}).2 b,
        linesEqB ((reconf a0 (a0.routes ++ b.routes) d').lines p.1) (b.lines p.2) = true) ∧
      ∀ sc2, (∀ p ∈ cmpPairs (alignVRFs (reconf a0 (a0.routes ++ b.routes) d') b {}).2 b,
          linesEqB ((reconf a0 (a0.routes ++ b.routes) d').lines p.1) (b.lines p.2) = true →
          identityOn ((reconf a0 (a0.routes ++ b.routes) d').lines p.1) (b.lines p.2) (lookupD sc2.acl p) = true) →
        settledB (reconf a0 (a0.routes ++ b.routes) d') b sc2 = true ∧
        (engine (reconf a0 (a0.routes ++ b.routes) d') b sc2).script = [] := by
  apply F2_idempotent_exact a0 b sc (WF_of_wfB hw) hok (ofConfig a0) (reads_ofConfig a0)
  exact fun aN bN hcmp => List.all_eq_true.mp hns (aN, bN) (cmp_iff_mem_cmpPairs.mp hcmp)

/-- The identity script is quiet, and exists only for lists that are equal line by line. -/
theorem ios_identity_script_quiet (al bl : List ALine) (rs : List Range) (h : identityOn al bl rs = true) :
    quietLines al bl rs = true ∧
    al.map (encLine ((al ++ bl).map (·.text)) ((al ++ bl).map (·.nolog))) =
      bl.map (encLine ((al ++ bl).map (·.text)) ((al ++ bl).map (·.nolog))) :=
  ⟨identityOn_quiet al bl rs h, identityOn_equal al bl rs h⟩

/-- `ios_no_generated_leftover` (C02: no left-over `-DRC-` object): after the script every generated
(`-DRC-`) ACL on the device is bound — by a target interface, under the name the run gave to the
target's ACL, or by an interface the target does not name (whose ACLs are never touched). -/
theorem ios_no_generated_leftover (a0 b : Config) (sc : Scripts) (hw : wfB a0 b sc = true) (hok : (engine a0 b sc).ok = true) :
    ∃ d', (exec (ofConfig a0) (engine a0 b sc).script).map strip = some d' ∧
      ∀ n, hasAcl d' n = true → isTagged n = true →
        (∃ bi ∈ b.intfs, ∃ bd ∈ bi.binds, slotOf d' bi.name bd.dir = some n) ∨
        (∃ i ∈ a0.intfs, i.name ∉ b.intfs.map (·.name) ∧ n ∈ i.binds.map (·.acl)) := by
  have hwf := WF_of_wfB hw
  obtain ⟨d', nm, R, h, hA, _⟩ := F2_settled_after a0 b sc hwf hok (ofConfig a0) (reads_ofConfig a0)
  refine ⟨d', h, ?_⟩
  intro n hn ht
  rcases hA.tagged n hn ht with ⟨bN, hbN, rfl⟩ | k
  · obtain ⟨bi, hbi, bd, hbd, rfl⟩ := hA.boundR bN hbN
    exact Or.inl ⟨bi, hbi, bd, hbd, (hA.slotB bi hbi bd hbd).2.1⟩
  · exact Or.inr k

/-! ## 5c. Resume after an interrupted approve (C10) -/

/-- **`ios_F2_resume_partial`**.  Under `wfB` the script is sent line by line (`splitScript`: the two
halves of a joined line `no N\N M TEXT` / `no ip route A\N ip route B` are two lines) and the
connection is lost after ANY number `k` of lines: inside an ACL or interface sub-mode, between
the resequence lines, between the halves of a joined line.  Then

* the `k` lines are accepted and lead to a device `dk`;
* in a new session (top-level mode, `strip`) a compare reads `dk` as the configuration
  `ak = reconf dk` (`Reads`: same interfaces, bindings, route lines, access lists and lines — the entry
  numbers left behind by the interrupted run play no role);
* for EVERY Myers result `sc2` for which the cut state is in the class again (`wfB ak b sc2`, decidable,
  evaluated by the driver on every cut): `checkIOSInterfaces` succeeds, the second script is accepted
  command by command from `dk`, and the device ends as `ios_F2_converges_partial` says: every target
  binding in place with an ACL block-equivalent modulo `log` to the target's, other directions
  unbound, routes of the VRFs with target routes exactly the target's, other routes untouched,
  interfaces the target does not name and their ACLs as they were at the cut.

`wfB` is NOT closed under prefixes (`ios_wfB_not_prefix_closed`): a target ACL with a remark line that
is transferred as a whole needs no hypothesis in the first run, but is compared line by line with
itself in the second.  So the full statement `ios_F2_resume` (no hypothesis on the cut state) is not
available from `ios_F2_converges_partial`; with remark lines it is false (F-C02r, signature
`resume_not_converged`). -/
theorem ios_F2_resume_partial (a0 b : Config) (sc : Scripts) (hw : wfB a0 b sc = true) (hok : (engine a0 b sc).ok = true)
    (k : Nat) :
    ∃ dk, exec (ofConfig a0) ((splitScript (engine a0 b sc).script).take k) = some dk ∧
      Reads (strip dk) (reconf a0 (a0.routes ++ b.routes) dk) ∧
      ∀ sc2, wfB (reconf a0 (a0.routes ++ b.routes) dk) b sc2 = true →
        (engine (reconf a0 (a0.routes ++ b.routes) dk) b sc2).ok = true ∧
        ∃ d', (exec (strip dk) (engine (reconf a0 (a0.routes ++ b.routes) dk) b sc2).script).map strip = some d' ∧
          (∀ bi ∈ b.intfs, ∀ bd ∈ bi.binds, ∃ n, slotOf d' bi.name bd.dir = some n ∧ hasAcl d' n = true ∧
              BlockEquivA (linesOf d' n) (b.lines bd.acl)) ∧
          (∀ bi ∈ b.intfs, ∀ dir, isDir dir = true → dir ∉ bi.binds.map (·.dir) → slotOf d' bi.name dir = none) ∧
          (∀ r ∈ (reconf a0 (a0.routes ++ b.routes) dk).routes ++ b.routes, r.vrf ∈ b.routes.map (·.vrf) →
              (r.text ∈ d'.routes ↔ r.text ∈ b.routes.map (·.text))) ∧
          (∀ t ∈ d'.routes, t ∈ dk.routes ∨ t ∈ b.routes.map (·.text)) ∧
          (∀ r ∈ (reconf a0 (a0.routes ++ b.routes) dk).routes, r.vrf ∉ b.routes.map (·.vrf) → r.text ∈ d'.routes) ∧
          (∀ x, x ∉ b.intfs.map (·.name) → ∀ dir, isDir dir = true → slotOf d' x dir = slotOf dk x dir) ∧
          (∀ i ∈ (reconf a0 (a0.routes ++ b.routes) dk).intfs, i.name ∉ b.intfs.map (·.name) → ∀ bd ∈ i.binds,
              hasAcl d' bd.acl = true ∧ entriesOf d' bd.acl = entriesOf dk bd.acl) := by
  obtain ⟨dk, h1, h2, h3⟩ := F2_resume a0 b sc (WF_of_wfB hw) hok (ofConfig a0) (reads_ofConfig a0) k
  refine ⟨dk, h1, h2, ?_⟩
  intro sc2 hw2
  obtain ⟨hok2, d', j0, ⟨j1, j2, j3, j4, j5⟩⟩ := h3 sc2 (WF_of_wfB hw2)
  obtain ⟨rc1, rc2, rc3⟩ := routes_char (WF_of_wfB hw2) j3
  refine ⟨hok2, d', j0, ?_, j2, rc1, ?_, rc3, j4, j5⟩
  · intro bi hbi bd hbd
    obtain ⟨n, k1, k2, k3⟩ := j1 bi hbi bd hbd
    exact ⟨n, k1, k2, k3.blockEquivA⟩
  · intro t ht
    exact (rc2 t ht).imp (fun k1 => routes_reconf a0 (a0.routes ++ b.routes) dk ▸ k1) id

/-- Sending the joined lines as two lines is the same as sending them as one (`exec` on `Chg.move` /
`Chg.replRoute`): the cut-free run of `ios_F2_resume_partial` is the run of `ios_F2_converges_partial`. -/
theorem ios_split_script_same (d : Dev) (cs : List Chg) : exec d (splitScript cs) = exec d cs := exec_splitScript d cs

/-! ## 5d. Routes: every destination stays covered at every step (C14) -/

/-- **`ios_route_plan_phases`**: `NA.Route.routes_covered` (Props/C14) closed for the model of
`diffRoutes`.  For every compared device route list `al`, target route list `bl` and device route
table `R` of the class `RoutesWF` (lines pairwise different per side, compared routes on the device,
no stray copy of a target route) and every reader `keyOf` of (VRF, destination) that agrees with the
parsed attributes: the plan is `pa ++ pb`, it is accepted, and under the numeric encoding
`encRoute`/`encOp` the three hypotheses of `routes_covered` hold — `phaseA pa` (additions and
replacements of a route by a route to the SAME destination in the same VRF, one joined command),
`phaseB pb` (removals of lines that are not target routes), after `pa` every target route is on the
device — and therefore after EVERY command of the plan every destination that has a route before and
after the plan has a route. -/
theorem ios_route_plan_phases (al bl : List Route) (R : List String) (keyOf : String → String × String)
    (h : RoutesWF al bl R) (hkey : ∀ r ∈ al ++ bl, keyOf r.text = r.key) :
    ∃ R' pa pb, (routePlan al bl).1 = pa ++ pb ∧ rRun R (routePlan al bl).1 = some R' ∧
      NA.Route.phaseA (pa.map (encOp keyOf (R ++ bl.map (·.text)))) = true ∧
      NA.Route.phaseB ((bl.map (·.text)).map (encRoute keyOf (R ++ bl.map (·.text))))
        (pb.map (encOp keyOf (R ++ bl.map (·.text)))) = true ∧
      (∀ r ∈ (bl.map (·.text)).map (encRoute keyOf (R ++ bl.map (·.text))),
        r ∈ (pa.map (encOp keyOf (R ++ bl.map (·.text)))).foldl NA.Route.rexec1 (R.map (encRoute keyOf (R ++ bl.map (·.text))))) ∧
      ∀ k, ∃ Rk, rRun R ((routePlan al bl).1.take k) = some Rk ∧
        ∀ t0 ∈ R, (∃ t ∈ R', keyOf t = keyOf t0) → ∃ t ∈ Rk, keyOf t = keyOf t0 :=
  routes_covered_every_step al bl R keyOf h hkey

/-- The route commands of the printed script of the engine, in order, are exactly the route plan
(no other decision prints a route command). -/
theorem ios_route_commands_are_plan (a0 b : Config) (sc : Scripts) (hw : wfB a0 b sc = true) (hok : (engine a0 b sc).ok = true) :
    (engine a0 b sc).script.flatMap chgRouteOp =
      (routePlan (sortRoutes (alignVRFs a0 b {}).2.routes) (sortRoutes b.routes)).1 :=
  engine_routeOps a0 b sc (WF_of_wfB hw) hok

/-- **`ios_routes_covered_every_step`** (whole script, class `wfB`): the script is accepted, and after
EVERY printed command (`take k`; a replacement `no ip route A\N ip route B` is one command line)
every destination — (VRF, destination) as read by `keyOf` — that has a route on the device before the
script and after the script has a route.  With `ios_routes_converge`: in a VRF with target routes
"after" is the target's route table. -/
theorem ios_routes_covered_every_step (a0 b : Config) (sc : Scripts) (hw : wfB a0 b sc = true)
    (hok : (engine a0 b sc).ok = true) (keyOf : String → String × String)
    (hkey : ∀ r ∈ a0.routes ++ b.routes, keyOf r.text = r.key) :
    ∃ dfin, exec (ofConfig a0) (engine a0 b sc).script = some dfin ∧
      ∀ k, ∃ dk, exec (ofConfig a0) ((engine a0 b sc).script.take k) = some dk ∧
        ∀ t0 ∈ a0.routes.map (·.text), (∃ t ∈ dfin.routes, keyOf t = keyOf t0) → ∃ t ∈ dk.routes, keyOf t = keyOf t0 :=
  script_routes_covered a0 b sc (WF_of_wfB hw) hok (ofConfig a0) (reads_ofConfig a0) keyOf hkey

/-- `ios_plan_all_both_quiet` (on the cells of `NA.Acl.planIOS`): a script that keeps every line is
planned as "nothing to do".  The other direction, an empty plan of a valid script that keeps a line
means block equivalence, is `planIOS_empty_blockEquiv` (F2Plan) and, on configuration lines,
`ios_acl_quiet_only_if_equivalent`. -/
theorem ios_plan_all_both_quiet (M : List NA.Acl.Cell) (h : ∀ c ∈ M, c.old = true ∧ c.new = true) :
    NA.Acl.planIOS M = [] := planIOS_all_both M h

/-! ## 6. What is false: remark lines (F-C02r at configuration level) -/

open NA.Acl (Act) in
def W.mkL (t : String) (a : Act) : ALine := ⟨t, t, t, a⟩
def W.dA := W.mkL "deny ip 10.1.0.0 0.0.255.255 any" .deny
def W.rN := W.mkL "remark n1" .remark
def W.pA := W.mkL "permit ip 10.1.0.0 0.0.255.255 any" .permit
def W.pT := W.mkL "permit tcp 10.1.0.0 0.0.255.255 any" .permit
def W.dAny := W.mkL "deny ip any any" .deny
def W.e0 (acl : String) : Intf := { name := "Ethernet0", addr := "x", binds := [⟨acl, "in"⟩] }
def W.devR : Config := { intfs := [W.e0 "e0_in"], acls := [("e0_in", [W.dA, W.rN, W.pA, W.pT, W.dAny])] }
def W.tgtR : Config := { intfs := [W.e0 "e0_in"], acls := [("e0_in", [W.pT, W.rN, W.dA, W.pA])] }
/-- the ranges `myers.Diff` returns for these lists (validated by the driver on the corpus case) -/
def W.scR : Scripts := { acl := [(("e0_in", "e0_in"), [⟨0,1,0,0⟩, ⟨1,1,0,1⟩, ⟨1,2,1,2⟩, ⟨2,2,2,3⟩, ⟨2,3,3,4⟩, ⟨3,5,4,4⟩])] }
def W.scR2 : Scripts := { acl := [(("e0_in", "e0_in"), [⟨0,1,0,0⟩, ⟨1,3,0,2⟩, ⟨3,3,2,3⟩, ⟨3,4,3,4⟩])] }
/-- without the remark line the same pair satisfies `wfB` -/
def W.devN : Config := { intfs := [W.e0 "e0_in"], acls := [("e0_in", [W.dA, W.pA, W.pT, W.dAny])] }
def W.tgtN : Config := { intfs := [W.e0 "e0_in"], acls := [("e0_in", [W.pT, W.dA, W.pA])] }
def W.scN : Scripts := { acl := [(("e0_in", "e0_in"), [⟨0,0,0,1⟩, ⟨0,2,1,3⟩, ⟨2,4,3,3⟩])] }

open W in
/-- `ios_F2_converges` is false with remark lines (F-C02r): the script is accepted, but the ACL bound to
`Ethernet0` ends as `[deny ip A, permit tcp A, remark, permit ip A]`, which is not block-equivalent
to the target; and a second compare of that device is not empty (`ios_F2_idempotent` is false too) —
only the second run reaches the target. -/
theorem ios_F2_converges_counterexample :
    showChanges (engine devR tgtR scR).script =
      ["ip access-list resequence e0_in 10000 10000", "ip access-list extended e0_in",
       "no 40000\\N 10001 permit tcp 10.1.0.0 0.0.255.255 any", "no 50000",
       "ip access-list resequence e0_in 10 10"] ∧
    wfB devR tgtR scR = false ∧
    (exec (ofConfig devR) (engine devR tgtR scR).script).map (fun d =>
      ((linesOf d "e0_in").map (·.text), blockEquivL (linesOf d "e0_in") (tgtR.lines "e0_in"),
       showChanges (engine (toConfig d) tgtR scR2).script)) =
      some (["deny ip 10.1.0.0 0.0.255.255 any", "permit tcp 10.1.0.0 0.0.255.255 any", "remark n1",
             "permit ip 10.1.0.0 0.0.255.255 any"], false,
            ["ip access-list resequence e0_in 10000 10000", "ip access-list extended e0_in",
             "no 10000\\N 30001 deny ip 10.1.0.0 0.0.255.255 any", "ip access-list resequence e0_in 10 10"]) := by
  refine ⟨by decide +kernel, by decide +kernel, by decide +kernel⟩

/-! ### What is not claimed: "equivalent ⇒ unchanged" -/

def W.q1 := W.mkL "permit tcp any any eq 80" .permit
def W.q2 := W.mkL "permit tcp any any eq 81" .permit
def W.q3 := W.mkL "deny tcp any any eq 90" .deny
def W.q4 := W.mkL "deny tcp any any eq 91" .deny
def W.devQ : Config := { intfs := [W.e0 "e0_in"], acls := [("e0_in", [W.q1, W.q2, W.q3, W.q4])] }
def W.tgtQ : Config := { intfs := [W.e0 "e0_in"], acls := [("e0_in", [W.q2, W.q1, W.q4, W.q3])] }
/-- the ranges `myers.Diff` returns for these lists (corpus case of vh-f2; validated by the driver) -/
def W.scQ : Scripts := { acl := [(("e0_in", "e0_in"), [⟨0,1,0,0⟩, ⟨1,2,0,1⟩, ⟨2,3,1,1⟩, ⟨3,3,1,2⟩, ⟨3,4,2,3⟩, ⟨4,4,3,4⟩])] }

open W in
/-- The converse of `ios_F2_unchanged_only_if_equivalent` does not hold (and is not a requirement): a
device ACL that differs from the target's only in the order inside runs of equal action is
block-equivalent, the pair is in the class `wfB`, yet with the script Myers returns the engine moves
two lines (as the real `drc` does: corpus case of vh-f2).  Cosmetic; the script converges and the next
compare is empty. -/
theorem ios_unchanged_if_equivalent_counterexample :
    blockEquivL (devQ.lines "e0_in") (tgtQ.lines "e0_in") = true ∧ wfB devQ tgtQ scQ = true ∧
    showChanges (engine devQ tgtQ scQ).script =
      ["ip access-list resequence e0_in 10000 10000", "ip access-list extended e0_in",
       "no 10000\\N 30001 permit tcp any any eq 80", "no 30000\\N 40001 deny tcp any any eq 90",
       "ip access-list resequence e0_in 10 10"] ∧
    ((exec (ofConfig devQ) (engine devQ tgtQ scQ).script).map fun d =>
      showChanges (engine (toConfig d) tgtQ { acl := [(("e0_in", "e0_in"), [⟨0,4,0,4⟩])] }).script) = some [] := by
  decide +kernel

/-! ### Non-vacuity -/

open W in
example : wfB devN tgtN scN = true ∧ (engine devN tgtN scN).ok = true := by decide +kernel

open W in
example : incrOK (devN.lines "e0_in") (tgtN.lines "e0_in") [⟨0,0,0,1⟩, ⟨0,2,1,3⟩, ⟨2,4,3,3⟩] = true := by decide +kernel

example : replaceOK [W.pA] [W.pT, W.dAny] [⟨0,1,0,0⟩, ⟨0,0,0,2⟩] = true := by decide +kernel

/-! ### Non-vacuity of the composed class: several interfaces, two VRFs, routes, an unknown interface -/

def W.e1 (acl : String) : Intf := { name := "Ethernet1", vrf := "V1", addr := "y", binds := [⟨acl, "in"⟩, ⟨"e1_out", "out"⟩] }
def W.lo7 : Intf := { name := "Loopback7", addr := "z", binds := [⟨"lo_in", "in"⟩] }
def W.r (t v d : String) (k : Nat) : Route := ⟨t, v, d, k⟩
/-- device: two managed interfaces (global table and VRF V1), an interface unknown to Netspoc with its own
ACL, a generated left-over ACL, routes in both VRFs -/
def W.devM : Config :=
  { intfs := [W.e0 "e0_in-DRC-0", W.e1 "e1_in", W.lo7],
    acls := [("e0_in-DRC-0", [W.pT, W.dAny]), ("e1_in", [W.dA, W.pA]), ("e1_out", [W.pA]), ("lo_in", [W.pA]),
             ("old-DRC-1", [W.dAny])],
    routes := [W.r "10.8.0.0 255.255.0.0 10.1.1.253" "" "10.8.0.0/16" 112,
               W.r "vrf V1 10.9.0.0 255.255.0.0 10.2.2.254" "V1" "10.9.0.0/16" 112] }
/-- target: another line in the first ACL, one line less in the second, the outbound binding of
Ethernet1 gone, another gateway for the global route, no routes for V1 -/
def W.tgtM : Config :=
  { intfs := [W.e0 "e0_in", { W.e1 "e1_in" with binds := [⟨"e1_in", "in"⟩] }],
    acls := [("e0_in", [W.pA, W.pT, W.dAny]), ("e1_in", [W.pA])],
    routes := [W.r "10.8.0.0 255.255.0.0 10.1.1.254" "" "10.8.0.0/16" 112] }
def W.scM : Scripts :=
  { acl := [(("e0_in-DRC-0", "e0_in"), [⟨0,0,0,1⟩, ⟨0,2,1,3⟩]), (("e1_in", "e1_in"), [⟨0,1,0,0⟩, ⟨1,2,0,1⟩])] }

/-- The script of the composed example (evaluated once; the witnesses below start from it). -/
theorem W.scriptM : (engine W.devM W.tgtM W.scM).script =
    [.reseq "e0_in-DRC-0" 10000 10000, .aclMode "e0_in-DRC-0", .numEntry 1 W.pA, .reseq "e0_in-DRC-0" 10 10,
     .intfMode "Ethernet1", .noBind "e1_out" "out",
     .reseq "e1_in" 10000 10000, .aclMode "e1_in", .noNum 10000, .reseq "e1_in" 10 10,
     .replRoute "10.8.0.0 255.255.0.0 10.1.1.253" "10.8.0.0 255.255.0.0 10.1.1.254",
     .noAcl "e1_out", .noAcl "old-DRC-1"] := by decide +kernel

open W in
example : wfB devM tgtM scM = true ∧ (engine devM tgtM scM).ok = true ∧
    showChanges (engine devM tgtM scM).script =
      ["ip access-list resequence e0_in-DRC-0 10000 10000", "ip access-list extended e0_in-DRC-0",
       "1 permit ip 10.1.0.0 0.0.255.255 any", "ip access-list resequence e0_in-DRC-0 10 10",
       "interface Ethernet1", "no ip access-group e1_out out",
       "ip access-list resequence e1_in 10000 10000", "ip access-list extended e1_in", "no 10000",
       "ip access-list resequence e1_in 10 10",
       "no ip route 10.8.0.0 255.255.0.0 10.1.1.253\\N ip route 10.8.0.0 255.255.0.0 10.1.1.254",
       "no ip access-list extended e1_out", "no ip access-list extended old-DRC-1"] := by
  rw [scriptM]; decide +kernel

/-- the executed result of that example, read back, is statically settled (identity scripts): the
hypothesis of `ios_F2_idempotent_partial` / `ios_F2_quiet` is satisfiable on a reachable state -/
def W.scM2 : Scripts :=
  { acl := [(("e0_in-DRC-0", "e0_in"), [⟨0,3,0,3⟩]), (("e1_in", "e1_in"), [⟨0,1,0,1⟩])] }

open W in
example : ((exec (ofConfig devM) (engine devM tgtM scM).script).map fun d =>
    (settledB (reconf devM (devM.routes ++ tgtM.routes) d) tgtM scM2,
     showChanges (engine (reconf devM (devM.routes ++ tgtM.routes) d) tgtM scM2).script)) = some (true, []) := by
  rw [scriptM]; decide +kernel

/-! the hypothesis of `ios_F2_idempotent_partial` on that reachable state: the pairs of the second
compare and the line planner on them -/
open W in
example : ((exec (ofConfig devM) (engine devM tgtM scM).script).map fun d =>
    (cmpPairs (alignVRFs (reconf devM (devM.routes ++ tgtM.routes) d) tgtM {}).2 tgtM,
     (cmpPairs (alignVRFs (reconf devM (devM.routes ++ tgtM.routes) d) tgtM {}).2 tgtM).all fun p =>
       quietLines ((reconf devM (devM.routes ++ tgtM.routes) d).lines p.1) (tgtM.lines p.2) (lookupD scM2.acl p))) =
    some ([("e0_in-DRC-0", "e0_in"), ("e1_in", "e1_in")], true) := by
  rw [scriptM]; decide +kernel

open W in
example : settledB tgtN tgtN { acl := [(("e0_in", "e0_in"), [⟨0,3,0,3⟩])] } = true ∧
    wfB tgtN tgtN { acl := [(("e0_in", "e0_in"), [⟨0,3,0,3⟩])] } = true ∧
    (engine tgtN tgtN { acl := [(("e0_in", "e0_in"), [⟨0,3,0,3⟩])] }).script = [] := by decide +kernel

open W in
example : quietLines (tgtN.lines "e0_in") (tgtN.lines "e0_in") [⟨0,3,0,3⟩] = true ∧
    incrOK (tgtN.lines "e0_in") (tgtN.lines "e0_in") [⟨0,3,0,3⟩] = true := by decide +kernel

open W in
example : ((exec (ofConfig devM) (engine devM tgtM scM).script).map fun d =>
    (cmpPairs (alignVRFs (reconf devM (devM.routes ++ tgtM.routes) d) tgtM {}).2 tgtM).all fun p =>
      identityOn ((reconf devM (devM.routes ++ tgtM.routes) d).lines p.1) (tgtM.lines p.2) (lookupD scM2.acl p)) = some true ∧
    noSupprRun (engine devM tgtM scM) = true ∧ noSupprB devM tgtM scM = true ∧ wfB devM tgtM scM = true := by decide +kernel

/-! ### Outside `wfB`: a device binding of an access list that does not exist on the device -/

def W.devG : Config :=
  { intfs := [{ name := "Ethernet0", addr := "x", binds := [⟨"e0_in", "in"⟩, ⟨"ghost", "out"⟩] }],
    acls := [("e0_in", [W.pA, W.dAny])] }
def W.tgtG1 : Config := { intfs := [W.e0 "e0_in"], acls := [("e0_in", [W.pA, W.dAny])] }
def W.tgtG2 : Config :=
  { intfs := [{ name := "Ethernet0", addr := "x", binds := [⟨"e0_in", "in"⟩, ⟨"e0_out", "out"⟩] }],
    acls := [("e0_in", [W.pA, W.dAny]), ("e0_out", [W.pT])] }
def W.scG : Scripts := { acl := [(("e0_in", "e0_in"), [⟨0,2,0,2⟩])] }

open W in
/-- A dangling device binding (`ip access-group ghost out`, no access list `ghost`) is outside `wfB`
(first failing conjunct: "device-binding-of-undefined-acl"; 51 of 2900 quick cases).  What the engine does
there — the tie compares it with the real drc on every such case —: the sub-command has no partner
(its key is the NAME, not `$REF`), it is removed, and a target binding of that direction is added after
the transfer of its ACL; the script is accepted and the device converges.  Kernel-evaluated on two
targets (binding removed / replaced); the general theorem for this class is NOT proved (the
specification of `diffUnordered` on the sub-commands, `diffBinds_canon`, assumes keys `$REF dir`). -/
theorem ios_dangling_binding_witness :
    wfB devG tgtG1 scG = false ∧ wfWhy devG tgtG1 scG = "device-binding-of-undefined-acl" ∧
    showChanges (engine devG tgtG1 scG).script = ["interface Ethernet0", "no ip access-group ghost out"] ∧
    ((exec (ofConfig devG) (engine devG tgtG1 scG).script).map fun d =>
      (slotOf d "Ethernet0" "in", slotOf d "Ethernet0" "out", d.acls.map (·.1))) = some (some "e0_in", none, ["e0_in"]) ∧
    showChanges (engine devG tgtG2 scG).script =
      ["interface Ethernet0", "no ip access-group ghost out", "ip access-list extended e0_out-DRC-0",
       "permit tcp 10.1.0.0 0.0.255.255 any", "exit", "interface Ethernet0", "ip access-group e0_out-DRC-0 out"] ∧
    ((exec (ofConfig devG) (engine devG tgtG2 scG).script).map fun d =>
      (slotOf d "Ethernet0" "in", slotOf d "Ethernet0" "out", d.acls.map (·.1), (linesOf d "e0_out-DRC-0").map (·.text))) =
      some (some "e0_in", some "e0_out-DRC-0", ["e0_in", "e0_out-DRC-0"], ["permit tcp 10.1.0.0 0.0.255.255 any"]) := by
  decide +kernel

/-! ### Resume: witnesses -/

/-! Witnesses: the composed example above, cut inside the ACL sub-mode of the second ACL (8 lines) and
between the two halves of the joined route line (11 lines). -/
def W.sc8 : Scripts :=
  { acl := [(("e0_in-DRC-0", "e0_in"), [⟨0,3,0,3⟩]), (("e1_in", "e1_in"), [⟨0,1,0,0⟩, ⟨1,2,0,1⟩])] }

open W in
example : ((exec (ofConfig devM) ((splitScript (engine devM tgtM scM).script).take 8)).map fun d =>
    (d.mode, (entriesOf d "e1_in").map (·.1), wfB (reconf devM (devM.routes ++ tgtM.routes) d) tgtM sc8,
     showChanges (engine (reconf devM (devM.routes ++ tgtM.routes) d) tgtM sc8).script)) =
    some (some (.acl "e1_in"), [10000, 20000], true,
      ["ip access-list resequence e1_in 10000 10000", "ip access-list extended e1_in", "no 10000",
       "ip access-list resequence e1_in 10 10",
       "no ip route 10.8.0.0 255.255.0.0 10.1.1.253\\N ip route 10.8.0.0 255.255.0.0 10.1.1.254",
       "no ip access-list extended old-DRC-1"]) := by
  rw [scriptM]; decide +kernel

open W in
example : ((exec (ofConfig devM) ((splitScript (engine devM tgtM scM).script).take 11)).map fun d =>
    (d.routes, wfB (reconf devM (devM.routes ++ tgtM.routes) d) tgtM scM2,
     showChanges (engine (reconf devM (devM.routes ++ tgtM.routes) d) tgtM scM2).script)) =
    some (["vrf V1 10.9.0.0 255.255.0.0 10.2.2.254"], true,
      ["ip route 10.8.0.0 255.255.0.0 10.1.1.254", "no ip access-list extended old-DRC-1"]) := by
  rw [scriptM]; decide +kernel

def W.r1 := W.mkL "remark r" .remark
def W.devC : Config := { intfs := [{ name := "Ethernet0", addr := "x", binds := [] }], acls := [] }
def W.tgtC : Config := { intfs := [W.e0 "e0_in"], acls := [("e0_in", [W.pA, W.r1, W.pT])] }

open W in
/-- `wfB` is not closed under prefixes: the pair is in the class (nothing is compared line by line:
the target ACL is transferred), the state after the whole script is not (the transferred ACL with its
remark line is compared with the target's). -/
theorem ios_wfB_not_prefix_closed :
    wfB devC tgtC {} = true ∧ (engine devC tgtC {}).ok = true ∧
    ((exec (ofConfig devC) (engine devC tgtC {}).script).map fun d =>
      wfB (reconf devC (devC.routes ++ tgtC.routes) d) tgtC { acl := [(("e0_in-DRC-0", "e0_in"), [⟨0,3,0,3⟩])] }) = some false := by
  decide +kernel

/-! ### Routes: witnesses -/

/-- the reader of (VRF, destination) for the composed example -/
def W.keyM (t : String) : String × String :=
  (((W.devM.routes ++ W.tgtM.routes).find? fun r => r.text == t).map Route.key).getD ("", "")

open W in
example : (∀ r ∈ devM.routes ++ tgtM.routes, keyM r.text = r.key) ∧
    (routePlan (sortRoutes (alignVRFs devM tgtM {}).2.routes) (sortRoutes tgtM.routes)).1 =
      [.replRoute "10.8.0.0 255.255.0.0 10.1.1.253" "10.8.0.0 255.255.0.0 10.1.1.254"] := by decide +kernel

open W in
/-- Why the replacement is ONE command line: if its halves arrive separately (`splitScript`) and the
connection is lost in between, destination 10.8.0.0/16 has no route although it has one before and
after. -/
theorem ios_routes_uncovered_between_halves :
    ((exec (ofConfig devM) ((splitScript (engine devM tgtM scM).script).take 11)).map fun d =>
      d.routes.any fun t => keyM t == ("", "10.8.0.0/16")) = some false ∧
    (devM.routes.map (·.text)).any (fun t => keyM t == ("", "10.8.0.0/16")) = true ∧
    ((exec (ofConfig devM) (engine devM tgtM scM).script).map fun d =>
      d.routes.any fun t => keyM t == ("", "10.8.0.0/16")) = some true := by
  rw [scriptM]; decide +kernel

def obligations : List Lean.Name := [
  ``ios_names_fresh, ``ios_confmode_tracks, ``ios_confmode_tracks_events, ``ios_confmode_exec,
  ``ios_acl_object_converges_partial, ``ios_acl_object_replaced, ``ios_unordered_ranges,
  ``ios_F2_converges_partial, ``ios_script_accepted, ``ios_objects_before_use, ``ios_no_referenced_acl_deleted,
  ``ios_bindings_converge, ``ios_routes_converge,
  ``ios_routes_untouched_if_unspecified, ``ios_unmanaged_vrf_untouched, ``alignVRFs_frame,
  ``ios_F2_converges_counterexample, ``ios_unchanged_if_equivalent_counterexample, ``ios_F2_unchanged_only_if_equivalent, ``ios_acl_quiet_only_if_equivalent,
  ``ios_F2_quiet, ``ios_F2_idempotent_partial, ``ios_F2_idempotent_exact, ``ios_F2_idempotent_identity, ``ios_identity_script_quiet, ``ios_no_generated_leftover, ``ios_F2_resume_partial, ``ios_split_script_same,
  ``ios_wfB_not_prefix_closed, ``ios_dangling_binding_witness, ``ios_route_plan_phases, ``ios_route_commands_are_plan,
  ``ios_routes_covered_every_step, ``ios_routes_uncovered_between_halves, ``ios_plan_all_both_quiet, ``planIOS_empty_blockEquiv,
  ``plan_second_script_counterexample]

end NA.F2
