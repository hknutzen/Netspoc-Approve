import NA.Proofs.VpnGraphFinal
import NA.Proofs.VpnGraphRefs
import NA.Proofs.VpnGraphFuel
import NA.Proofs.VpnGraphStable
import NA.Proofs.VpnCert
import NA.Proofs.VpnGraphViewChars
/-!
# Named object graphs of the ASA backend (fragment G): usernames, address-named tunnel-groups, group-policies,
access-lists kept or replaced as a whole, ip local pools, aaa-servers

Model: `NA.Vpn.G.engine` (NA/Model/VpnGraph.lean), strict device `NA.Vpn.G.execAll` (NA/Model/VpnGraphDev.lean); both are
compared with the real code / with harness/asavpn/dev.go on every run (driver op `G`).
The theorems hold for ALL object graphs (any number of objects, any sharing, any names); their hypotheses have decidable
forms (`closedB`, `anchorsB`, `kindByKeyB`, `wfB`, `wf2B`, with `closed_of_closedB`, `anchors_of_anchorsB`, `kindByKey_of_B`,
`wf_of_wfB`, `wf2_of_wf2B`), which the driver evaluates on every generated case.
-/
namespace NA.Vpn.G

/-! ## C08: the clean-up deletes nothing that is still referenced -/

/-- **`deleteUnused` is accepted by the strict device and removes what it set out to remove.**
`objs`: the pending deletions — pairwise different objects that exist on the device in the shape their command names (`hs`),
referenced on the device by nothing but pending deletions (`hr`), without reference cycles among them (`hrk`: references go
to strictly lower `rank`; in fragment G the rank `rk` of the kind).  With at least as many rounds as pending objects (`hf`;
`deleteUnused` runs `objs.length + 1`, the Go loop runs until the list is empty)
  * every `clear configure …` / `no ip local pool …` finds its object unreferenced (referenced-last rounds): the whole list is accepted,
  * objects that are not pending keep their definition,
  * **every pending object is gone afterwards**.
(The statement is not trivial for `f = 0`: then `objs` is empty.  Without `hrk` two pending objects that reference each other
would never be deleted: every round would be empty.) -/
theorem graph_cleanup_accepted (rank : Ref → Nat) (f : Nat) (objs : List DelObj) (d : Dev)
    (hn : objs.Pairwise (fun p q => p.id ≠ q.id)) (hs : ∀ p ∈ objs, Shape d p)
    (hr : ∀ p ∈ objs, ∀ x ∈ d.objs, x.refs.contains p.id = true → ∃ q ∈ objs, q.id = x.id ∧ q.refs = x.refs)
    (hrk : ∀ p ∈ objs, ∀ q ∈ objs, p.refs.contains q.id = true → rank q.id < rank p.id)
    (hf : objs.length ≤ f) :
    ∃ d', execAll d (delRounds f objs) = some d' ∧ (∀ r, (∀ p ∈ objs, p.id ≠ r) → d'.obj r = d.obj r) ∧
      ∀ p ∈ objs, d'.obj p.id = none :=
  delRounds_removes rank f objs d hn hs hr hrk hf

/-- `deleteUnused` runs one round more than there are pending objects, so `hf` of `graph_cleanup_accepted` holds for it -/
theorem deleteUnused_rounds (st : St) :
    (deleteUnused st).out = (if !(pendingDel st).isEmpty && st.mode.isSome then st.out ++ [.exit] else st.out) ++
      delRounds ((pendingDel st).length + 1) (pendingDel st) := by
  rw [deleteUnused_out]
  split <;> simp

/-- **The recursion bound of the model is no restriction.**  `addAny`, `diffAny`, `markDel`, `stillReferenced` and the
content view recurse along references; the Go code does so without a bound, the model with `fuel` = 4.  For configurations
whose references go to kinds of strictly lower rank (`Ranked`: what the command templates enforce — username /
tunnel-group → group-policy / aaa-server → access-list / pool; part of `WF`, checked by `wfB` on every generated case) a chain
of references has at most three objects and EVERY bound from 3 on gives the same state, change list and views. -/
theorem graph_fuel_suffices (a b : List Obj) (hra : Ranked a) (hrb : Ranked b) (f : Nat) (hf : 3 ≤ f) :
    runF f a b = run a b ∧ engineF f a b = engine a b ∧ viewF f a = view a ∧ viewF f b = view b := by
  have h := runF_eq a b hra hrb f fuel hf (by decide)
  refine ⟨h, ?_, viewF_eq a hra f fuel hf (by decide), viewF_eq b hrb f fuel hf (by decide)⟩
  unfold engineF
  rw [h]
  rfl

/-- **Create-before-reference**: for well-formed graphs (decidable: `wfB`, `kindByKeyB`) every added sub-command of the
part before `deleteUnused` that carries a reference names an object that exists at that point (on the device from the start
or created by an earlier command), and that part deletes no object: `refsOK` scans the list with the set of existing objects. -/
theorem graph_refs_created_first (a b : List Obj) (hw : WF (a.map (·.id)) a b)
    (hkk : ∀ x ∈ a, ∀ y ∈ b, ∀ sx ∈ x.secs, ∀ sy ∈ y.secs, KindByKey sx.subs sy.subs) (st : St)
    (he : ((diffAnchors (initSt a b) .tg).bind fun st => diffAnchors st .user) = some st) :
    refsOK (a.map (·.id)) st.out = true ∧ ∀ c ∈ st.out, isDel c = false :=
  body_refs_exist a b hw hkk st he

/-! ## C07: what lies outside Netspoc's scope is untouched -/

/-- **An accepted change list changes only its targets** (`targets`: per command the object it defines, edits or
removes; for a sub-command the object whose mode the preceding top-level command opened). -/
theorem graph_exec_frame (l : List Chg) (d d' : Dev) (h : execAll d l = some d') :
    d'.mode = modeAfter d.mode l ∧ ∀ r, r ∉ targets d.mode l → d'.obj r = d.obj r :=
  execAll_frame l d d' h

/-- **Targets of the comparison**: every command emitted before `deleteUnused` targets an object of `R` (any
reference-closed set of device objects containing the device's anchors) or an object under a name the target's
objects are created under; `toDelete` marks stay inside `R`; the engine's idea of the open mode is the real one. -/
theorem graph_body_targets {R : Ref → Prop} (a b : List Obj) (hc : Closed R a) (hanch : ∀ o ∈ a, o.anchor = true → R o.id)
    (hkk : ∀ x ∈ a, ∀ y ∈ b, ∀ sx ∈ x.secs, ∀ sy ∈ y.secs, KindByKey sx.subs sy.subs) (st : St)
    (he : ((diffAnchors (initSt a b) .tg).bind fun st => diffAnchors st .user) = some st) :
    (∀ r ∈ targets none st.out, Allowed R (initSt a b).gen r) ∧ (∀ r ∈ st.toDel, R r) ∧
      modeAfter none st.out = st.mode ∧ st.a = a :=
  body_targets a b hc hanch hkk st he

/-- **Objects outside Netspoc's scope keep their definition** on every strict device that accepts the script:
`r` outside `R`, not a name the run creates objects under, not a pending deletion. -/
theorem graph_unmanaged_untouched {R : Ref → Prop} (a b : List Obj) (hc : Closed R a) (hanch : ∀ o ∈ a, o.anchor = true → R o.id)
    (hkk : ∀ x ∈ a, ∀ y ∈ b, ∀ sx ∈ x.secs, ∀ sy ∈ y.secs, KindByKey sx.subs sy.subs)
    (body : St) (hbody : ((diffAnchors (initSt a b) .tg).bind fun st => diffAnchors st .user) = some body)
    (d' : Dev) (hex : execAll { objs := a } (deleteUnused body).out = some d')
    (r : Ref) (hR : ¬ R r) (hnew : ∀ rb : Ref, r ≠ (rb.1, genOf (initSt a b).gen rb))
    (hpend : ∀ p ∈ pendingDel body, p.id ≠ r) :
    d'.obj r = ({ objs := a } : Dev).obj r :=
  unmanaged_untouched a b hc hanch hkk body hbody d' hex r hR hnew hpend

/-- the last hypothesis holds for every UNTAGGED object outside `R` … -/
theorem graph_untagged_not_pending {R : Ref → Prop} (a b : List Obj) (hc : Closed R a) (hanch : ∀ o ∈ a, o.anchor = true → R o.id)
    (hkk : ∀ x ∈ a, ∀ y ∈ b, ∀ sx ∈ x.secs, ∀ sy ∈ y.secs, KindByKey sx.subs sy.subs)
    (body : St) (hbody : ((diffAnchors (initSt a b) .tg).bind fun st => diffAnchors st .user) = some body)
    (r : Ref) (hR : ¬ R r) (hdrc : ∀ o ∈ a, o.id = r → o.drc = false) :
    ∀ p ∈ pendingDel body, p.id ≠ r :=
  untagged_not_pending a b hc hanch hkk body hbody r hR hdrc

/-- … and for every object (tagged or not) that an unneeded object which stays references over at most `fuel` = 4 hops
through unneeded objects (`stillReferenced`): the manually created tunnel-group → generated group-policy → generated
access-list / pool of the generator. -/
theorem graph_chain_protected (st : St) (k : Obj) (hk : k ∈ st.a) (hkeep : (!st.isNeeded k.id && !eligible st k) = true)
    (n : Nat) (r : Ref) (hch : Chain st (n + 1) k.id r) (hn : n + 1 ≤ fuel) :
    ∀ p ∈ pendingDel st, p.id ≠ r :=
  protected_not_pending st r (chain_protected st k hk hkeep n r hch hn)

/-! ## C01: "unchanged" only for an equivalent device; convergence reduced to the second compare -/

/-- **"Unchanged" is reported only for an equivalent device.**  For ALL well-formed pairs of configurations of fragment G
(`wfB`: references resolve and go to kinds of lower rank, new objects are not empty; `wf2B`: keys fix the kind and the presence
of a reference, no duplicate top-level command / sub-command key inside one object, a pool has one content line, anchors are
usernames / tunnel-groups and are anchors on both sides — all decidable, evaluated by the driver on every generated case):
if the model emits NO command, then
  * every anchor of the device is an anchor of the target and vice versa, and
  * every anchor has the same content on both sides (`eqv`: the same top-level commands, the same sub-commands, and whatever
    they reference has — recursively — the same content; names of referenced objects do not count).
The empty change list cannot hide a difference. -/
theorem graph_unchanged_only_if_equivalent (a b : List Obj) (hw : wfB a b = true) (h2 : wf2B a b = true)
    (h : engine a b = some []) :
    (∀ o ∈ a, o.anchor = true → ∃ o' ∈ b, o'.anchor = true ∧ o'.id = o.id) ∧
    (∀ o' ∈ b, o'.anchor = true → ∃ o ∈ a, o.anchor = true ∧ o.id = o'.id) ∧
    (∀ o ∈ a, o.anchor = true → eqv fuel a b o.id o.id = true) :=
  unchanged_equiv a b (wf_of_wfB a b hw) (wf2_of_wf2B a b h2) h

/-- **Convergence, for the (decidable) class of runs whose second compare is empty**: if the strict device accepts the
script, the resulting configuration is well-formed with the target and a second compare of it emits nothing (`stable` —
checked by the driver on every case of the tie, and against the real second `drc` run), then the resulting device has
exactly the target's anchors, each with the target's content.  This is `graph_unchanged_only_if_equivalent` at the
resulting device; `_hex` only says which device is meant and is not used.  (Not proved: that the second compare IS empty for every
well-formed pair — `graph_idempotent`; see docs/VPN.md.) -/
theorem graph_converges_partial (a b : List Obj) (d' : Dev) (_hex : (engine a b).bind (execAll { objs := a }) = some d')
    (hw : wfB d'.objs b = true) (h2 : wf2B d'.objs b = true) (hstable : engine d'.objs b = some []) :
    (∀ o ∈ d'.objs, o.anchor = true → ∃ o' ∈ b, o'.anchor = true ∧ o'.id = o.id) ∧
    (∀ o' ∈ b, o'.anchor = true → ∃ o ∈ d'.objs, o.anchor = true ∧ o.id = o'.id) ∧
    (∀ o ∈ d'.objs, o.anchor = true → eqv fuel d'.objs b o.id o.id = true) :=
  graph_unchanged_only_if_equivalent d'.objs b hw h2 hstable

/-! ## non-vacuity: a device with a managed user and a manually created tunnel-group chain -/

def sRef (key : String) (k : Kind) (n : String) : Sub :=
  { key := key ++ " $REF", body := [key ++ " ", ""], ref := some (k, n), orig := key ++ " " ++ n }
def sPlain (t : String) : Sub := { key := t, body := [t], orig := t }

def exA : List Obj := [
  { kind := .acl, name := "f-DRC-0", drc := true, lines := ["extended permit ip host 10.3.4.1 any4"] },
  { kind := .gp, name := "G-DRC-0", drc := true, secs := [{ head := "internal" },
      { head := "attributes", mode := true, subs := [sRef "vpn-filter value" .acl "f-DRC-0", sPlain "vpn-idle-timeout 60"] }] },
  { kind := .user, name := "u1", anchor := true, secs := [{ head := "nopassword" },
      { head := "attributes", mode := true, subs := [sRef "vpn-group-policy" .gp "G-DRC-0"] }] },
  { kind := .acl, name := "vpnf-DRC-7", drc := true, lines := ["extended permit ip any4 host 10.7.7.7"] },
  { kind := .gp, name := "MGP-DRC-7", drc := true, secs := [{ head := "internal" },
      { head := "attributes", mode := true, subs := [sRef "vpn-filter value" .acl "vpnf-DRC-7"] }] },
  { kind := .tg, name := "MANUALTG", secs := [{ head := "type remote-access" },
      { head := "general-attributes", mode := true, subs := [sRef "default-group-policy" .gp "MGP-DRC-7"] }] }]

def exB : List Obj := [
  { kind := .acl, name := "f", lines := ["extended permit ip host 10.3.4.2 any4"] },
  { kind := .gp, name := "G", secs := [{ head := "internal" },
      { head := "attributes", mode := true, subs := [sRef "vpn-filter value" .acl "f", sPlain "vpn-idle-timeout 30"] }] },
  { kind := .user, name := "u1", anchor := true, secs := [{ head := "nopassword" },
      { head := "attributes", mode := true, subs := [sRef "vpn-group-policy" .gp "G", sPlain "service-type remote-access"] }] }]

example : script exA exB = some [
    "group-policy G-DRC-0 attributes", "no vpn-idle-timeout 60",
    "access-list f-DRC-1 extended permit ip host 10.3.4.2 any4",
    "group-policy G-DRC-0 attributes", "vpn-filter value f-DRC-1", "vpn-idle-timeout 30", "exit",
    "username u1 attributes", "service-type remote-access", "exit",
    "clear configure access-list f-DRC-0"] := by decide +kernel

/-- the hypotheses of the C07 theorems hold for the example with `R` = what the anchors reach -/
example : closedB (managedSet exA) exA = true ∧ anchorsB (managedSet exA) exA = true ∧ kindByKeyB exA exB = true := by decide +kernel

/-- the example is well-formed, and the order matters: the same sub-command before its access-list exists is refused by `refsOK` -/
example : wfB exA exB = true := by decide +kernel
example : refsOK [] [.line "f" "permit", .sec false .gp "g" "attributes" true, .sub false "vpn-filter value f" (some (.acl, "f")) "k" []] = true ∧
    refsOK [] [.sec false .gp "g" "attributes" true, .sub false "vpn-filter value f" (some (.acl, "f")) "k" [], .line "f" "permit"] = false := by
  decide +kernel

set_option maxRecDepth 8000 in
/-- the script is accepted, converges, and the manual chain (two of its three objects carry the generated-name tag) is untouched -/
example : ((engine exA exB).bind (execAll { objs := exA })).map (fun d => (view d.objs == view exB, frame exA d.objs == frame exA exA)) =
    some (true, true) := by
  simp only [view_beq]
  decide +kernel

example : (unmanagedSet exA).length = 3 := by decide +kernel

set_option maxRecDepth 8000 in
/-- the second run of the example is empty -/
example : (((engine exA exB).bind (execAll { objs := exA })).bind fun d => engine d.objs exB) = some [] := by decide +kernel

/-- the clean-up of a user with its own group-policy and access-list: referenced-last -/
example : delRounds 4 [
    { id := (.acl, "a"), lines := [.clear .acl "a"], refs := [] },
    { id := (.gp, "g"), lines := [.clear .gp "g"], refs := [(.acl, "a")] },
    { id := (.user, "u"), lines := [.clear .user "u"], refs := [(.gp, "g")] }] =
  [.clear .user "u", .clear .gp "g", .clear .acl "a"] := by decide +kernel

/-- the same three objects on a device: the clean-up is accepted and they are gone (instance of `graph_cleanup_accepted`) -/
example : (execAll { objs := [
      { kind := .acl, name := "a", lines := ["permit"] },
      { kind := .gp, name := "g", secs := [{ head := "internal" }, { head := "attributes", mode := true, subs := [sRef "vpn-filter value" .acl "a"] }] },
      { kind := .user, name := "u", anchor := true, secs := [{ head := "nopassword" }, { head := "attributes", mode := true, subs := [sRef "vpn-group-policy" .gp "g"] }] }] }
    (delRounds 3 [
      { id := (.acl, "a"), lines := [.clear .acl "a"], refs := [] },
      { id := (.gp, "g"), lines := [.clear .gp "g"], refs := [(.acl, "a")] },
      { id := (.user, "u"), lines := [.clear .user "u"], refs := [(.gp, "g")] }])).map (·.objs.length) = some 0 := by decide +kernel

/-- two pending objects that reference each other are never deleted: `hrk` of `graph_cleanup_accepted` is needed -/
example : delRounds 5 [
    { id := (.gp, "g"), lines := [.clear .gp "g"], refs := [(.gp, "h")] },
    { id := (.gp, "h"), lines := [.clear .gp "h"], refs := [(.gp, "g")] }] = [] := by decide +kernel

/-- the examples are ranked … -/
example : Ranked exA ∧ Ranked exB := ranked_of_WF (wf_of_wfB exA exB (by decide))

/-- … and for a configuration that is NOT ranked (group-policies nested five deep: no ASA configuration) the bound matters -/
def gpChain : List Obj :=
  ({ kind := .user, name := "u", anchor := true, secs := [{ head := "nopassword" },
      { head := "attributes", mode := true, subs := [sRef "vpn-group-policy" .gp "g1"] }] } : Obj) ::
  (([1, 2, 3, 4] : List Nat).map fun i =>
    ({ kind := .gp, name := "g" ++ toString i, secs := [{ head := "internal" },
      { head := "attributes", mode := true, subs := [sRef "nested" .gp ("g" ++ toString (i + 1))] }] } : Obj)) ++
  [{ kind := .gp, name := "g5", secs := [{ head := "internal" }] }]

example : ((engineF 4 [] gpChain).map (·.length), (engineF 9 [] gpChain).map (·.length)) = (some 12, some 16) := by decide +kernel

/-- a device that is equivalent to `exB` under other names and in another order: nothing is emitted, the hypotheses of
`graph_unchanged_only_if_equivalent` hold and so does its conclusion -/
def exC : List Obj := [
  { kind := .acl, name := "f-DRC-0", drc := true, lines := ["extended permit ip host 10.3.4.2 any4"] },
  { kind := .gp, name := "G-DRC-0", drc := true, secs := [{ head := "internal" },
      { head := "attributes", mode := true, subs := [sPlain "vpn-idle-timeout 30", sRef "vpn-filter value" .acl "f-DRC-0"] }] },
  { kind := .user, name := "u1", anchor := true, secs := [
      { head := "attributes", mode := true, subs := [sPlain "service-type remote-access", sRef "vpn-group-policy" .gp "G-DRC-0"] },
      { head := "nopassword" }] }]

set_option maxRecDepth 8000 in
example : engine exC exB = some [] ∧ wfB exC exB = true ∧ wf2B exC exB = true ∧
    eqv fuel exC exB (.user, "u1") (.user, "u1") = true ∧ view exC = view exB := by
  rw [view_eq_iff]
  decide +kernel

set_option maxRecDepth 8000 in
/-- the hypotheses of `graph_converges_partial` hold for the run on `exA` / `exB` -/
example : ((engine exA exB).bind (execAll { objs := exA })).map
    (fun d => (wfB d.objs exB, wf2B d.objs exB, engine d.objs exB == some [])) = some (true, true, true) := by decide +kernel

/-- `wf2B` is needed: a target with two sub-commands of the same key (no ASA configuration: `vpn-filter` holds one value) is
compared through the last of them only — nothing is emitted although the device lacks the other one -/
def dupB : List Obj := [
  { kind := .acl, name := "f", lines := ["extended permit ip host 10.3.4.2 any4"] },
  { kind := .acl, name := "g", lines := ["extended deny ip any4 any4"] },
  { kind := .user, name := "u1", anchor := true, secs := [{ head := "nopassword" },
      { head := "attributes", mode := true, subs := [sRef "vpn-filter value" .acl "g", sRef "vpn-filter value" .acl "f"] }] }]
def dupA : List Obj := [
  { kind := .acl, name := "f-DRC-0", drc := true, lines := ["extended permit ip host 10.3.4.2 any4"] },
  { kind := .user, name := "u1", anchor := true, secs := [{ head := "nopassword" },
      { head := "attributes", mode := true, subs := [sRef "vpn-filter value" .acl "f-DRC-0"] }] }]

set_option maxRecDepth 8000 in
example : engine dupA dupB = some [] ∧ wfB dupA dupB = true ∧ wf2B dupA dupB = false ∧
    eqv fuel dupA dupB (.user, "u1") (.user, "u1") = false := by decide +kernel

/-- The converse of `graph_unchanged_only_if_equivalent` does NOT hold for equivalence of content: a device on which two users
share ONE group-policy has the same view as a target with two identical group-policies, yet the second user gets a
group-policy of its own (the device object is `needed` by the first comparison already); the result converges and the next
compare is empty.  So a theorem "second compare empty" needs the finer relation "isomorphic up to names" — not proved. -/
def shA : List Obj := [
  { kind := .gp, name := "G-DRC-0", drc := true, secs := [{ head := "internal" }, { head := "attributes", mode := true, subs := [sPlain "vpn-idle-timeout 30"] }] },
  { kind := .user, name := "u1", anchor := true, secs := [{ head := "nopassword" }, { head := "attributes", mode := true, subs := [sRef "vpn-group-policy" .gp "G-DRC-0"] }] },
  { kind := .user, name := "u2", anchor := true, secs := [{ head := "nopassword" }, { head := "attributes", mode := true, subs := [sRef "vpn-group-policy" .gp "G-DRC-0"] }] }]
def shB : List Obj := [
  { kind := .gp, name := "G1", secs := [{ head := "internal" }, { head := "attributes", mode := true, subs := [sPlain "vpn-idle-timeout 30"] }] },
  { kind := .gp, name := "G2", secs := [{ head := "internal" }, { head := "attributes", mode := true, subs := [sPlain "vpn-idle-timeout 30"] }] },
  { kind := .user, name := "u1", anchor := true, secs := [{ head := "nopassword" }, { head := "attributes", mode := true, subs := [sRef "vpn-group-policy" .gp "G1"] }] },
  { kind := .user, name := "u2", anchor := true, secs := [{ head := "nopassword" }, { head := "attributes", mode := true, subs := [sRef "vpn-group-policy" .gp "G2"] }] }]

set_option maxRecDepth 8000 in
example : view shA = view shB ∧ script shA shB = some ["group-policy G2-DRC-0 internal", "group-policy G2-DRC-0 attributes",
      "vpn-idle-timeout 30", "exit", "username u2 attributes", "vpn-group-policy G2-DRC-0"] ∧
    ((engine shA shB).bind (execAll { objs := shA })).map (fun d => (view d.objs == view shB, script d.objs shB)) = some (true, some []) := by
  simp only [view_eq_iff, view_beq]
  decide +kernel

/-! ## Fragment H: certificate maps, `tunnel-group-map`, toplevel `webvpn` / `certificate-group-map`

Model `NA.Vpn.G.runH` (NA/Model/VpnGraphCert.lean: `diffTunnelGroupMap` / `diffWebVPN` = `diffCmds` with the key `byCertMapKey`),
strict device `execAllH` (NA/Model/VpnGraphCertDev.lean); compared with the real code and harness/asavpn/dev.go by driver op `H`. -/

/-- **Create-before-reference for the whole change list of fragment H** (C08).  For well-formed pairs (`wfhB`, decidable:
`wfB` and `kindByKeyB` for the objects, every rule references a certificate map and a tunnel-group that exist, rules with the
same key have the same shape) every added sub-command that carries a reference, every `tunnel-group-map` rule and every
`certificate-group-map` rule of the part before the clean-up names objects that exist at that point (on the device from the start
or created by an earlier command), and that part deletes no object.  `refsOKH` scans the list with the set of existing objects. -/
theorem cert_refs_created_first (a b : Cfg) (hw : wfhB a b = true) (hb : HSt) (he : bodyH a b = some hb) :
    refsOKH (a.objs.map (·.id)) hb.all = true ∧ ∀ c ∈ hb.all, isDelH c = false :=
  body_refs_existH a b (wfh_of_wfhB a b hw) hb he

/-- **`exit` before toplevel `webvpn`** (C08; the mechanism of the former finding F-VPN-webvpn, fixed in /repo 22978d1).
(1) `setCmdConfMode("webvpn")` appends nothing if that mode is open, else `exit` (if any mode is open) and `webvpn`.
(2) A new toplevel `webvpn` (device has none): after the transfer of what its rules reference the engine appends `exit` — exactly
if the mode it has open is a group-policy's or a username's — then `webvpn`, then the rules.
(3) The strict device takes toplevel `webvpn` exactly when no group-policy / username mode is open, and (4) after `exit` no
mode of fragment G is open.  (That the engine's idea of the open mode is the device's: `graph_body_targets` for fragment G.) -/
theorem cert_webvpn_exit_first :
    (∀ (h : HSt), h.out = [] →
      h.setWeb.all = h.all ++ (if h.mode == some webMode then [] else
        (if h.mode.isSome then [Cmd2.g .exit] else []) ++ [Cmd2.h .webvpn]) ∧ h.setWeb.mode = some webMode) ∧
    (∀ (h h' : HSt) (bl : List Rule), diffWeb h none (some bl) = some h' →
      ∃ h1 t, bl.foldl (fun (acc : Option HSt) r => acc.bind fun h => followRule h r) (some h) = some h1 ∧ (h1.out = [] →
        h'.all = h1.all ++ (if inGpUser h1.mode then [Cmd2.g .exit] else []) ++ [Cmd2.h .webvpn] ++ t)) ∧
    (∀ x : HDev, (execH1 x (.h .webvpn)).isSome = !inGpUser x.d.mode) ∧
    (∀ x x' : HDev, execH1 x (.g .exit) = some x' → x.wmode = false → x'.d.mode = none) :=
  ⟨setWeb_all, diffWeb_new_all, exec_webvpn, exec_exit_mode⟩

/-- the scenario of the former finding F-VPN-repoint: the `certificate-group-map` rule of the device is matched by subject-name
with the target's rule whose certificate map has just been transferred under a new name for the `tunnel-group-map` rule -/
def rpA : Cfg := {
  objs := [
    { kind := .certmap, name := "ca-map-1-DRC-0", drc := true, secs := [{ head := "10", mode := true, subs := [sPlain "subject-name attr ea co @sub1.example.com"] }] },
    { kind := .tg, name := "VPN-tunnel-1-DRC-0", drc := true, secs := [{ head := "type remote-access" }] }],
  web := some [{ cm := some "ca-map-1-DRC-0", seq := "10", tg := "VPN-tunnel-1-DRC-0" }] }
def rpB : Cfg := {
  objs := [
    { kind := .certmap, name := "ca-map-1", secs := [{ head := "10", mode := true, subs := [sPlain "subject-name attr ea co @sub1.example.com"] }] },
    { kind := .tg, name := "VPN-tunnel-1", secs := [{ head := "type remote-access" }] }],
  tgmap := [{ cm := some "ca-map-1", seq := "10", tg := "VPN-tunnel-1" }],
  web := some [{ cm := some "ca-map-1", seq := "10", tg := "VPN-tunnel-1" }] }

set_option maxRecDepth 8000 in
/-- with the fix (/repo 7dca37c, mirrored by `equalRule` / `cmChanged`): the old rule is removed first; accepted, converged, stable -/
example : scriptH rpA rpB = some [
    "crypto ca certificate map ca-map-1-DRC-1 10", "subject-name attr ea co @sub1.example.com",
    "tunnel-group VPN-tunnel-1-DRC-1 type remote-access", "tunnel-group-map ca-map-1-DRC-1 10 VPN-tunnel-1-DRC-1",
    "webvpn", "no certificate-group-map ca-map-1-DRC-0 10 VPN-tunnel-1-DRC-0",
    "certificate-group-map ca-map-1-DRC-1 10 VPN-tunnel-1-DRC-1", "exit",
    "clear configure crypto ca certificate map ca-map-1-DRC-0", "clear configure tunnel-group VPN-tunnel-1-DRC-0"] ∧
    wfhB rpA rpB = true ∧
    ((engineH rpA rpB).bind (execAllH (HDev.ofCfg rpA))).map (fun x => (viewH x.cfg == viewH rpB, scriptH x.cfg rpB)) =
      some (true, some []) := by decide +kernel

/-- **F-VPN-repoint inside the model**: the same change list WITHOUT the `no certificate-group-map …` line (what the code emitted
before the fix) is refused by the strict device — the old rule still names the certificate map when it is cleared. -/
theorem cert_repoint_counterexample :
    ((engineH rpA rpB).map fun l => l.filter fun c => c != Cmd2.h (.cgm true { cm := some "ca-map-1-DRC-0", seq := "10", tg := "VPN-tunnel-1-DRC-0" })).bind
      (execAllH (HDev.ofCfg rpA)) = none ∧
    ((engineH rpA rpB).bind (execAllH (HDev.ofCfg rpA))).isSome = true := by decide +kernel

def obligations : List Lean.Name := [
  ``cert_refs_created_first, ``cert_webvpn_exit_first, ``cert_repoint_counterexample,
  ``graph_unchanged_only_if_equivalent, ``graph_converges_partial, ``graph_fuel_suffices, ``graph_cleanup_accepted, ``graph_refs_created_first, ``graph_exec_frame, ``graph_body_targets, ``graph_unmanaged_untouched,
  ``graph_untagged_not_pending, ``graph_chain_protected]

end NA.Vpn.G
