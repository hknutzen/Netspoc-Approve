import NA.Proofs.AsaPlan
/-!
# C14 for the real ASA planner model: every command of `planASA M` is safe

For EVERY merged list `M` (any length; `mkey`s pairwise different in `olds M` and in `news M`),
the strict device accepts `planASA M` and after EVERY command each packet gets the old or the
new verdict — hence packets on which old and new ACL agree keep their verdict throughout —
provided

* `NoCross M`: every move emitted by `planASA M` that goes DOWNWARD (device line of old-only
  cell `i` re-added as new-only cell `j > i`, matched by `delLookup` on `mkey`) crosses only old
  lines (cells `c`, `i < c < j`, `c.old`) that commute with the moved line for every packet
  (decidable test `commutesAll`: one is a remark, or equal action, or disjoint match sets);
* `MoveSem M`: for every emitted move the re-added line hits the same packets as the deleted one
  (same `remark`, same `mask`; they have the same `mkey`).  `MkeySem M` (all cells of `M` with
  equal `mkey` hit the same packets) implies it.

Upward moves, adds, and the final deletes need no condition.  Without `NoCross` the statement is
false: `asa_steps_safe_needs_noCross` (the C14 counterexample F-C14 has `NoCross = false`).
The name `asa_steps_safe_partial` records that the unconditional property is false (F-C14).
-/
namespace NA.Acl

/-- All cells with equal `mkey` hit the same packets. -/
def MkeySem (M : List Cell) : Bool :=
  M.all fun c => M.all fun d => c.line.mkey != d.line.mkey || sameHits c.line d.line

theorem moveSem_of_mkeySem (M : List Cell) (h : MkeySem M = true) : MoveSem M = true := by
  apply List.all_eq_true.2
  intro j hj
  cases hd : delLookup M (M.getD j default).line.mkey with
  | none => rfl
  | some i =>
    obtain ⟨hi, _, _, hk⟩ := delLookup_some M _ i hd
    have hjl := ((mem_addIdx M j).1 hj).1
    have h1 := List.all_eq_true.1 h _ (NA.ListFacts.getD_mem (d := default) hi)
    have h2 := List.all_eq_true.1 h1 _ (NA.ListFacts.getD_mem (d := default) hjl)
    simp only [Bool.or_eq_true, bne_iff_ne, ne_eq] at h2
    rcases h2 with h2 | h2
    · exact absurd hk h2
    · simpa [hd] using h2

/-- After every command of the plan each packet gets the old or the new verdict. -/
theorem asa_steps_old_or_new (M : List Cell) (hold : ((olds M).map (·.mkey)).Nodup)
    (hnew : ((news M).map (·.mkey)).Nodup) (hcross : NoCross M = true) (hsem : MoveSem M = true) :
    ∃ tr, asaTrace (olds M) (planASA M) = some tr ∧
      ∀ s, s ∈ tr → ∀ p, eval s p = eval (olds M) p ∨ eval s p = eval (news M) p :=
  planASA_old_or_new M hold hnew (crossOK_of_noCross M hcross) (semOK_of_moveSem M hsem)

/-- Step safety of C14 for the planner model: a packet on which the old and the new ACL agree
keeps that verdict after every command. -/
theorem asa_steps_safe_partial (M : List Cell) (hold : ((olds M).map (·.mkey)).Nodup)
    (hnew : ((news M).map (·.mkey)).Nodup) (hcross : NoCross M = true) (hsem : MoveSem M = true) :
    ∃ tr, asaTrace (olds M) (planASA M) = some tr ∧
      ∀ s, s ∈ tr → ∀ p, eval (olds M) p = eval (news M) p → eval s p = eval (olds M) p :=
  let ⟨tr, htr, hall⟩ := asa_steps_old_or_new M hold hnew hcross hsem
  ⟨tr, htr, safe_of_old_or_new id hall⟩

/-- Without moves no side condition is needed. -/
theorem asa_steps_old_or_new_no_moves (M : List Cell) (hold : ((olds M).map (·.mkey)).Nodup)
    (hnew : ((news M).map (·.mkey)).Nodup) (hnm : NoMoves M = true) :
    ∃ tr, asaTrace (olds M) (planASA M) = some tr ∧
      ∀ s, s ∈ tr → ∀ p, eval s p = eval (olds M) p ∨ eval s p = eval (news M) p :=
  planASA_old_or_new M hold hnew (crossOK_of_noMoves M hnm) (semOK_of_noMoves M hnm)

theorem asa_steps_safe_no_moves (M : List Cell) (hold : ((olds M).map (·.mkey)).Nodup)
    (hnew : ((news M).map (·.mkey)).Nodup) (hnm : NoMoves M = true) :
    ∃ tr, asaTrace (olds M) (planASA M) = some tr ∧
      ∀ s, s ∈ tr → ∀ p, eval (olds M) p = eval (news M) p → eval s p = eval (olds M) p :=
  let ⟨tr, htr, hall⟩ := asa_steps_old_or_new_no_moves M hold hnew hnm
  ⟨tr, htr, safe_of_old_or_new id hall⟩

def sfA : Line := { key := 1, mkey := 1, permit := true, mask := 3 }
def sfA' : Line := { key := 11, mkey := 1, permit := true, mask := 3 }   -- `log` changed
def sfB : Line := { key := 2, mkey := 2, permit := false, mask := 1 }    -- overlaps A, other action
def sfC : Line := { key := 3, mkey := 3, permit := true, mask := 4 }
def sfD : Line := { key := 4, mkey := 4, permit := false, mask := 8 }    -- disjoint from A

/-- The C14 counterexample (F-C14): `permit A` is moved below `deny B`, which is deleted last. -/
def sfCex : List Cell :=
  [⟨sfA, true, false⟩, ⟨sfB, true, false⟩, ⟨sfC, true, true⟩, ⟨sfA, false, true⟩]

/-- `NoCross` is necessary: all other hypotheses hold for `sfCex`, `NoCross` fails, and packet 0
(same verdict before and after) is denied in between. -/
theorem asa_steps_safe_needs_noCross :
    ((olds sfCex).map (·.mkey)).Nodup ∧ ((news sfCex).map (·.mkey)).Nodup ∧
    MoveSem sfCex = true ∧ NoCross sfCex = false ∧
    ∃ tr, asaTrace (olds sfCex) (planASA sfCex) = some tr ∧
      ∃ s, s ∈ tr ∧ ∃ p, eval (olds sfCex) p = eval (news sfCex) p ∧ eval s p ≠ eval (olds sfCex) p := by
  refine ⟨by decide +kernel, by decide +kernel, by decide +kernel, by decide +kernel, [[sfB, sfC, sfA], [sfC, sfA]], by decide,
    [sfB, sfC, sfA], by simp, 0, by decide +kernel, by decide +kernel⟩

/-- A downward move across a disjoint line of the other action and a line of the same action,
an add and a delete: the hypotheses hold.  device: A D C B;  target: D C A' E. -/
def sfOK : List Cell :=
  [⟨sfA, true, false⟩, ⟨sfD, true, true⟩, ⟨sfC, true, true⟩, ⟨sfA', false, true⟩,
   ⟨{ key := 5, mkey := 5, permit := true, mask := 16 }, false, true⟩, ⟨sfB, true, false⟩]

example : NoCross sfOK = true ∧ MoveSem sfOK = true ∧ MkeySem sfOK = true ∧ NoMoves sfOK = false := by
  decide +kernel
example : planASA sfOK =
    [Op.move 0 sfA 2 sfA', Op.add 3 { key := 5, mkey := 5, permit := true, mask := 16 },
     Op.del 4 sfB] := by decide +kernel
example : ∃ tr, asaTrace (olds sfOK) (planASA sfOK) = some tr ∧
    ∀ s, s ∈ tr → ∀ p, eval (olds sfOK) p = eval (news sfOK) p → eval s p = eval (olds sfOK) p :=
  asa_steps_safe_partial sfOK (by decide +kernel) (by decide +kernel) (by decide +kernel) (by decide +kernel)

/-- An UPWARD move across an overlapping line of the other action satisfies `NoCross`. -/
example : NoCross [⟨sfB, true, true⟩, ⟨sfA', false, true⟩, ⟨sfC, true, true⟩, ⟨sfA, true, false⟩] = true
    ∧ planASA [⟨sfB, true, true⟩, ⟨sfA', false, true⟩, ⟨sfC, true, true⟩, ⟨sfA, true, false⟩]
      = [Op.move 2 sfA 1 sfA'] := by decide +kernel

/-- A plan without moves. -/
example : NoMoves [⟨sfA, true, false⟩, ⟨sfB, true, true⟩, ⟨sfC, false, true⟩] = true := by decide +kernel

end NA.Acl

namespace NA.AsaSafe
def obligations : List Lean.Name := [
  ``NA.Acl.asa_steps_old_or_new, ``NA.Acl.asa_steps_safe_partial,
  ``NA.Acl.asa_steps_old_or_new_no_moves, ``NA.Acl.asa_steps_safe_no_moves,
  ``NA.Acl.asa_steps_safe_needs_noCross, ``NA.Acl.moveSem_of_mkeySem,
  ``NA.Acl.planASA_srun, ``NA.Acl.Shape.old_or_new]
end NA.AsaSafe
