import NA.Props.C16
import NA.Model.MapSitesDeep
import NA.Gen.MapRangesDeep
import NA.Gen.MapRangesDescr
/-!
# C16 — the transitive tie, sorted loops, third-party code, other sources

The table facts below are about tables **regenerated from the source on every run** (deep pass of
translate/mapranges; reachability by `callgraph -algo=vta` from the planning roots
`device.CompareFiles$1`, `(*device.state).getCompare`, `program.LoadConfig` and the methods
called by reflection). They are closed by evaluation
(`decide +kernel`, `rfl`) where the quantifier really is that finite table.
-/
namespace NA.C16
open NA.PermFold NA.Gen.MapRanges NA.Gen.MapRangesDeep

/-- What every sorting routine guarantees, stable or not, randomised or not. -/
structure Sorts {α : Type} (le : α → α → Bool) (srt : List α → List α) : Prop where
  perm : ∀ l, (srt l).Perm l
  sorted : ∀ l, (srt l).Pairwise (fun a b => le a b = true)

/-- **Unstable sorts are harmless when ties are between equal elements.** Two sorting routines
(e.g. two runs of a randomised pdqsort) applied to two permutations of the same elements (e.g. the
keys of a map collected in two iteration orders) return the same list, provided the order is
antisymmetric on the elements. -/
theorem any_sort_deterministic {α : Type} {le : α → α → Bool} {srt₁ srt₂ : List α → List α}
    (h₁ : Sorts le srt₁) (h₂ : Sorts le srt₂) {l₁ l₂ : List α} (p : l₁.Perm l₂)
    (anti : ∀ a, a ∈ l₁ → ∀ b, b ∈ l₁ → le a b = true → le b a = true → a = b) :
    srt₁ l₁ = srt₂ l₂ :=
  List.Perm.eq_of_pairwise
    (fun a b ha hb => anti a ((h₁.perm l₁).mem_iff.mp ha) b (p.mem_iff.mpr ((h₂.perm l₂).mem_iff.mp hb)))
    (h₁.sorted l₁) (h₂.sorted l₂) (((h₁.perm l₁).trans p).trans (h₂.perm l₂).symm)

/-- The library's merge sort is such a routine (non-vacuity of `Sorts`). -/
theorem mergeSort_sorts {α : Type} {le : α → α → Bool} (h : LawfulLe le) :
    Sorts le (fun l => l.mergeSort le) where
  perm l := List.mergeSort_perm l le
  sorted l := List.pairwise_mergeSort h.trans h.total l

/-- … and with keys of a map (pairwise different) any linear order on the keys will do:
`slices.SortedFunc(maps.Keys(toDelete), cmp)` of deleteUnused. -/
theorem any_sort_of_map_keys {κ : Type} {le : κ → κ → Bool} (h : LawfulLe le)
    {srt₁ srt₂ : List κ → List κ} (h₁ : Sorts le srt₁) (h₂ : Sorts le srt₂) {l₁ l₂ : List κ}
    (p : l₁.Perm l₂) : srt₁ l₁ = srt₂ l₂ :=
  any_sort_deterministic h₁ h₂ p (fun a _ b _ => h.antisymm a b)

example : Sorts strLe (fun l => l.mergeSort strLe) := mergeSort_sorts strLe_lawful

def intLe (a b : Int) : Bool := decide (a ≤ b)

/-- `int` keys (sequence numbers) in their natural order. -/
theorem intLe_lawful : LawfulLe intLe where
  total := by intro a b; simp only [intLe, Bool.or_eq_true, decide_eq_true_eq]; omega
  trans := by intro a b c; simp only [intLe, decide_eq_true_eq]; omega
  antisymm := by intro a b; simp only [intLe, decide_eq_true_eq]; omega

/-! ## Generated names: per kind, from the device's names only -/

theorem firstFreeFrom_ge (used : List Nat) (fuel i : Nat) : i ≤ firstFreeFrom used fuel i := by
  induction fuel generalizing i with
  | zero => simp [firstFreeFrom]
  | succ n ih =>
    simp only [firstFreeFrom]
    split
    · exact Nat.le_trans (Nat.le_succ i) (ih (i + 1))
    · exact Nat.le_refl i

theorem firstFreeFrom_below (used : List Nat) (fuel i j : Nat) (hij : i ≤ j)
    (hj : j < firstFreeFrom used fuel i) : j ∈ used := by
  induction fuel generalizing i with
  | zero => simp [firstFreeFrom] at hj; omega
  | succ n ih =>
    simp only [firstFreeFrom] at hj
    split at hj
    · rename_i hc
      by_cases h : j = i
      · subst h; simpa using hc
      · exact ih (i + 1) (by omega) hj
    · omega

/-- Every index smaller than the one taken is occupied on the device.
It is a function of the command's own name and kind and of the device's names only — what makes
`site_generateNames` (per-object shape) applicable, and what a cache keyed by the Netspoc name
alone would break. -/
theorem firstFree_least (used : List Nat) (j : Nat) (hj : j < firstFree used) : j ∈ used :=
  firstFreeFrom_below used _ 0 j (Nat.zero_le j) hj

example : firstFree [0, 1, 3] = 2 := by decide +kernel
example : firstFree [] = 0 := by decide +kernel

def DeepExpect.matchesSite (e : DeepExpect) (d : DeepSite) : Bool :=
  e.file == d.file && e.fn == d.fn && e.chash == d.chash

/-- A described loop needs no closure hash (the descriptor pass reads the whole callee closure and makes
the loop opaque as soon as the closure has an order-relevant kind); an opaque loop must match a row by
file, function and hash of its alpha-normalised closure, with kinds within the admitted ones. -/
def deepTied (d : DeepSite) (ds : NA.C16.D.SiteDescr) : Bool :=
  (d.file == ds.file && d.fn == ds.fn && d.mapExpr == ds.mapExpr && d.ord == ds.ord) &&
    (ds.body.described || deepExpected.any (fun e => e.matchesSite d && d.kinds.all (e.allow.contains ·)))

def deepUncovered : List (DeepSite × NA.C16.D.SiteDescr) :=
  (deepSites.zip NA.Gen.MapRangesDescr.descrs).filter (fun p => !deepTied p.1 p.2)

-- Diagnostic only: name the undescribed loops whose transitive closure changed or does something order relevant.
#eval (do
  unless deepUncovered.isEmpty do
    throw (IO.userError ("C16: range-over-map loops that the translator cannot describe and whose loop text or callees changed, or whose closure can abort / print / append changes / call unknown code: " ++
      toString (deepUncovered.map fun p => s!"{p.1.file} {p.1.fn} range {p.1.mapExpr} #{p.1.ord} chash={p.1.chash} kinds={p.1.kinds} fx=[{p.1.fx}] callees={p.1.callees} descriptor={repr p.2.body}")))
  : IO Unit)

/-- The deep table talks about exactly the sites of the base table, in the same order. -/
theorem deep_sites_are_the_sites :
    deepSites.map (fun d => (d.file, d.fn, d.mapExpr, d.ord)) = sites.map (fun s => (s.file, s.fn, s.mapExpr, s.ord)) :=
  rfl

/-- **Transitive tie for the loops without descriptor.** Every unsorted `range` over a map is described,
or the hash of its alpha-normalised loop text together with the normalised text of everything the body
transitively calls inside the module is the expected one, and its closure has only admitted effect kinds. -/
theorem deep_sites_covered :
    deepSites.length = NA.Gen.MapRangesDescr.descrs.length ∧
    (deepSites.zip NA.Gen.MapRangesDescr.descrs).all (fun p => deepTied p.1 p.2) = true := by
  obtain ⟨hlen, hkey⟩ := zip_of_map_eq (deep_sites_are_the_sites.trans site_keys_eq_descr_keys)
  have hrow : (deepSites.zip NA.Gen.MapRangesDescr.descrs).all (fun p => p.2.body.described ||
      deepExpected.any (fun e => e.matchesSite p.1 && p.1.kinds.all (e.allow.contains ·))) = true := by decide +kernel
  refine ⟨hlen, List.all_eq_true.mpr fun p hp => ?_⟩
  have hk := hkey p hp
  simp only [Prod.mk.injEq] at hk
  simp only [deepTied, hk.1, hk.2.1, hk.2.2.1, hk.2.2.2, beq_self_eq_true, Bool.and_self, Bool.true_and]
  exact List.all_eq_true.mp hrow p hp

/-- A loop whose closure can abort, print, append to the change script, call code the translator
cannot resolve, read another source of nondeterminism or write a package variable is never
"described" — with one exception: a `guarded` body may print, because the translator has checked that
every call of a printing function sits in a `default:` clause of the switch over the key, and may
panic (a complaint decided by the entry alone); complaints are excluded by the hypothesis `NoComplaint`
(LoadConfig: `default_keys_known`, `default_vals_parse`; addDefaults: `quote_token_only_in_subcommands`). Otherwise such kinds
occur only at the loops with a row, within what the row admits. -/
theorem deep_kinds_admissible :
    (deepSites.zip NA.Gen.MapRangesDescr.descrs).all (fun p =>
      p.1.kinds.isEmpty ||
      ((match p.2.body with | .guarded _ => true | _ => false) && p.1.kinds.all (fun k => k == "out" || k == "abort")) ||
      (!p.2.body.described &&
        deepExpected.any (fun e => e.matchesSite p.1 && p.1.kinds.all (e.allow.contains ·)))) = true := by
  decide +kernel

theorem deep_exceptions_are_two :
    deepExpected.filter (fun e => !e.allow.isEmpty) = [] ∧
    ((deepSites.zip NA.Gen.MapRangesDescr.descrs).filter (fun p => !p.1.kinds.isEmpty && p.2.body.described)).map
      (fun p => (p.1.fn, p.1.kinds)) = [("parser.addDefaults", ["abort"]), ("LoadConfig", ["out"])] := ⟨rfl, rfl⟩

/-- Exception 1: `matchCmd` can panic only under the template token `"`; no toplevel command type
of asa/ios cmd-info.go has it, and `addDefaultObject` parses toplevel commands only. -/
theorem quote_token_only_in_subcommands : quoteTemplatePrefixes = [] := rfl

/-- Exception 2: every key of the literal `defaultVals` is a case of `switch key` in `insert`, so
the `warn` of the default case is never reached from the loop over `defaultVals`. -/
theorem default_keys_known : defaultVals.all (fun kv => configKeys.contains kv.1) = true := by decide +kernel

/-- Every site is described, or tied by the hash of its transitive callee closure with admitted effect
kinds (beside the hash of its loop text alone: `every_site_described_or_hash_tied`). -/
theorem every_site_closure_tied :
    ∀ p, p ∈ deepSites.zip NA.Gen.MapRangesDescr.descrs →
      p.2.body.described = true ∨
      ∃ de, de ∈ deepExpected ∧ de.matchesSite p.1 = true ∧ p.1.kinds.all (de.allow.contains ·) = true := by
  intro p hp
  have h := List.all_eq_true.mp deep_sites_covered.2 p hp
  simp only [deepTied, Bool.and_eq_true, Bool.or_eq_true] at h
  refine h.2.imp_right fun hr => ?_
  obtain ⟨e, he, hm⟩ := List.any_eq_true.mp hr
  simp only [Bool.and_eq_true] at hm
  exact ⟨e, he, hm.1, hm.2⟩

/-! ## Sorted loops: shape instead of hash -/

/-- A loop over sorted keys is a function of its sorted entry list (`sorted_deterministic`) as long
as everything it executes is: every unsorted map range executed inside the body of a sorted loop
(also inside the functions it calls) is one of the classified sites … -/
theorem sorted_inner_covered :
    sortedSites.all (fun s => s.inner.all (fun i =>
      sites.any (fun t => (t.file, t.fn, t.mapExpr, t.ord) == i))) = true := by decide +kernel

/-- … and no loop over a map, sorted or not, reaches time, environment, random numbers, goroutines,
channels, directory listings or `%p`. -/
theorem no_source_inside_map_loops :
    sortedSites.all (fun s => !s.kinds.contains "src") = true ∧
    deepSites.all (fun d => !d.kinds.contains "src") = true := by decide +kernel

/-- No `range` over a map in any third-party package linked into drc / do-approve is reachable from
the planning roots (github.com/pkg/diff, the only one planning uses, has none; pflag,
goterm, x/crypto/ssh have some, all in option parsing and the session layer). -/
theorem ext_sites_unreachable : extSites.all (fun s => !s.reach) = true := by decide +kernel

def unclassifiedSources : List Source :=
  sources.filter (fun s => s.reach && !planningSources.any (fun e => e.file == s.file && e.fn == s.fn && e.kind == s.kind && e.hash == s.hash))

#eval (do
  unless unclassifiedSources.isEmpty do
    throw (IO.userError ("C16: new source of nondeterminism reachable from planning: " ++
      toString (unclassifiedSources.map fun s => s!"{s.file} {s.fn} {s.kind} hash={s.hash}: {s.text}")))
  : IO Unit)

/-- Every goroutine, select, channel operation, use of time, environment, random numbers, directory
listing, temporary name, `%p`, reflection over maps and every comparator sort in a function that is
reachable from the planning roots is one of the classified ones. -/
theorem planning_sources_classified : unclassifiedSources = [] := by decide +kernel

/-- No concurrency, randomness, directory listing, temporary name or pointer formatting is
reachable from the planning roots. -/
theorem no_concurrency_in_planning :
    sources.all (fun s => !(s.reach && forbiddenKinds.contains s.kind)) = true := by decide +kernel

/-- Every sort by natural order sorts strings or integers (linear orders: `strLe_lawful`,
`intLe_lawful`), so by `any_sort_deterministic` its result does not depend on the order of its input. -/
theorem natural_sorts_total :
    naturalSorts.all (fun s => s.2.2.2 == "string" || s.2.2.2 == "int") = true := by decide +kernel

/-- The only comparator sort fed from a map (`slices.SortedFunc(maps.Keys(toDelete), …)`) compares
(prefix, name) pairs lexicographically: a linear order on the distinct keys
(`prefix_name_order_lawful`), hence `any_sort_of_map_keys` applies. -/
theorem comparator_sorts_from_maps :
    (sources.filter (fun s => s.kind == "sort-unstable-cmp-frommap" || s.kind == "sort-stable-cmp-frommap")).map
      (fun s => (s.file, s.fn)) = [("cisco/diff.go", "(*cisco.State).deleteUnused")] := by decide +kernel

example : ∀ {srt₁ srt₂ : List (String × String) → List (String × String)},
    Sorts (lexLe strLe strLe) srt₁ → Sorts (lexLe strLe strLe) srt₂ →
    ∀ {l₁ l₂ : List (String × String)}, l₁.Perm l₂ → srt₁ l₁ = srt₂ l₂ :=
  any_sort_of_map_keys prefix_name_order_lawful

end NA.C16

namespace NA.C16.Deep

def obligations : List Lean.Name := [
  ``NA.C16.any_sort_deterministic, ``NA.C16.any_sort_of_map_keys, ``NA.C16.mergeSort_sorts, ``NA.C16.intLe_lawful, ``NA.C16.firstFree_least,
  ``NA.C16.deep_sites_are_the_sites, ``NA.C16.deep_sites_covered, ``NA.C16.deep_kinds_admissible, ``NA.C16.deep_exceptions_are_two,
  ``NA.C16.quote_token_only_in_subcommands, ``NA.C16.default_keys_known, ``NA.C16.every_site_closure_tied,
  ``NA.C16.sorted_inner_covered, ``NA.C16.no_source_inside_map_loops, ``NA.C16.ext_sites_unreachable,
  ``NA.C16.planning_sources_classified, ``NA.C16.no_concurrency_in_planning, ``NA.C16.natural_sorts_total,
  ``NA.C16.comparator_sorts_from_maps]

end NA.C16.Deep
