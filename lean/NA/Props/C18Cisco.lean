import NA.Proofs.C18Cisco
import NA.Proofs.C18Via
import NA.Proofs.C18Match
/-!
# C18 — the general model of cisco `MergeSpoc` (`NA/Model/MergeCisco.lean`)

`mergeSpocSt a b raw` runs the whole recursion (`mergeCmds`, crypto maps, dynamic maps, ACLs, generic
commands such as routes, `mergeSubCmds`, `mergeRefs` with simple and non-simple objects) on command tables
as the real parser produces them; `.error e` is the abort with a diagnostic, `warningsOf` the
"Ignoring unused …" warnings.  All theorems hold for ALL tables `a`, `b`.
-/
namespace NA.C18.G

/-- **Doubly bound object.**  In every successful merge each non-simple object of `b` was handed to
`mergeCmds` at most once (`log` has no duplicates) and all of them are marked as referenced: a second
reference to the same raw object ends the merge with an error. -/
theorem g_no_object_merged_twice (a b : Tbl) (raw : Bool) (st : St) (h : mergeSpocSt a b raw = .ok st) :
    st.log.Nodup ∧ ∀ k ∈ st.log, st.isRefd k = true := by
  unfold mergeSpocSt at h
  exact (foldTop_ext b raw _ _ _ h).inv ⟨by simp, by simp⟩

/-- The step behind it: a reference to a non-simple raw object that is already marked as referenced
is an error, whatever command it comes from. -/
theorem g_second_reference_is_error (rec : Rec) (b : Tbl) (st : St) (aref : Option (List String))
    (bref : List String) (i : Nat) (bName pfx : String) (c : Cmd) (rest : List Cmd)
    (hb : b.get pfx bName = c :: rest) (hs : c.simple = false) (hr : st.isRefd (pfx, bName) = true) :
    ∃ e, refStep rec b true (st, aref, bref) i bName pfx = .error e := by
  unfold refStep
  simp only [hb, hs, Bool.false_eq_true, if_false]
  cases aref with
  | some ar => exact ⟨.onlyOnce pfx bName, by simp [hr]⟩
  | none =>
    cases hh : st.a.has pfx bName with
    | true => exact ⟨.nameClash pfx bName, rfl⟩
    | false => exact ⟨.onlyOnce pfx bName, by simp [hr]⟩

/-- **Name clash.**  A new command of a raw file that references a non-simple object whose name the
configuration already uses is an error. -/
theorem g_name_clash_is_error (rec : Rec) (b : Tbl) (st : St) (bref : List String) (i : Nat)
    (bName pfx : String) (c : Cmd) (rest : List Cmd)
    (hb : b.get pfx bName = c :: rest) (hs : c.simple = false) (hc : st.a.has pfx bName = true) :
    refStep rec b true (st, none, bref) i bName pfx = .error (.nameClash pfx bName) := by
  unfold refStep
  simp [hb, hs, hc]

/-- … and so is a raw simple object (pool, transform set) whose name is in use while `findSimple` finds no equal
object under its prefix. -/
theorem g_simple_name_clash_is_error (rec : Rec) (b : Tbl) (st : St) (aref : Option (List String))
    (bref : List String) (i : Nat) (bName pfx : String) (c : Cmd) (rest : List Cmd)
    (hb : b.get pfx bName = c :: rest) (hs : c.simple = true)
    (hne : findSimple (c :: rest) st.a = none) (hc : st.a.has pfx bName = true) :
    refStep rec b true (st, aref, bref) i bName pfx = .error (.nameClash pfx bName) := by
  unfold refStep
  have : (st.markRef (pfx, bName)).a = st.a := rfl
  simp [hb, hs, this, hne, hc]

/-- **Unsupported command.** `tunnel-group-map` / `webvpn` in the merged part is an error. -/
theorem g_unsupported_prefix_reported (a b : Tbl) (raw : Bool) (k : Key) (hk : k ∈ b.keys)
    (hp : k.1 = "tunnel-group-map" ∨ k.1 = "webvpn") : ∃ e, mergeSpocSt a b raw = .error e := by
  unfold mergeSpocSt
  rw [foldE_eq_foldlM]
  refine foldlM_error_of_mem _ k (fun s => ?_) _ _ hk
  obtain ⟨p, n⟩ := k
  unfold topStep
  have hp' : (p == "tunnel-group-map" || p == "webvpn") = true := by simpa using hp
  exact ⟨.notSupported p, by simp only [hp', if_true]⟩

/-- **Unbound object.**  After a successful merge of a raw file every object of the raw file that is
not an anchor is marked as referenced (so it was handed to `mergeRefs`), or its warning is printed. -/
theorem g_unused_object_warned (a b : Tbl) (st : St) (h : mergeSpocSt a b true = .ok st)
    (k : Key) (hk : k ∈ b.keys) (c : Cmd) (rest : List Cmd) (hb : b.get k.1 k.2 = c :: rest)
    (hna : c.anchor = false) :
    st.isRefd k = true ∨ s!"Ignoring unused '{c.typPrefix} {c.name}' in raw" ∈ warningsOf b st := by
  unfold mergeSpocSt at h
  obtain ⟨l1, l2, hl⟩ := List.append_of_mem hk
  rw [foldE_eq_foldlM, hl] at h
  obtain ⟨s1, _, h⟩ := (foldlM_append_ok _).mp h
  obtain ⟨s2, hk1, h⟩ := (foldlM_cons_ok _).mp h
  have hext := foldTop_ext b true l2 s2 st (foldE_eq_foldlM _ _ _ ▸ h)
  by_cases hr : st.isRefd k = true
  · exact Or.inl hr
  · right
    have hr' : st.isRefd k = false := by simpa using hr
    -- the step marked k as seen
    have hseen : k ∈ s2.seen := by
      obtain ⟨p, n⟩ := k
      unfold topStep at hk1
      simp only at hk1 hb
      split at hk1
      · cases hk1
      · rw [hb] at hk1
        simp only [hna, Bool.false_eq_true, if_false] at hk1
        split at hk1
        · cases hk1; simp [St.markSeen]
        · rename_i hc
          cases hk1
          -- then it was referenced already; it stays referenced
          have := hext.tru (p, n) (by simpa using hc)
          rw [hr'] at this; cases this
    unfold warningsOf
    rw [mem_sortStrings]
    refine List.mem_filterMap.mpr ⟨k, List.mem_filter.mpr ⟨hext.seen k hseen, by simp [hr']⟩, ?_⟩
    rw [hb]

/-- No object (prefix and name) of the configuration merged so far disappears in a merge.  (That a mark
"referenced" stays is the field `tru` of `Ext`, kept by every step; it is not part of this statement.) -/
theorem g_no_object_name_lost (a b : Tbl) (raw : Bool) (st : St) (h : mergeSpocSt a b raw = .ok st) :
    ∀ p n, a.has p n = true → st.a.has p n = true := by
  unfold mergeSpocSt at h
  intro p n hp
  refine (foldTop_ext b raw _ _ _ h).keys p n
    (ListFacts.foldl_inv (P := fun t => Tbl.has t p n = true) (fun q _ t ht => ?_) hp)
  split
  · exact ht
  · exact has_append_of_has t _ p n ht

/-! ## Persistence: what the final table holds

Every change of the table goes through `St.store`, which also appends the event to the ghost log `writes`. -/

/-- **The final table holds, for every key written during the merge, the list written last.**  No step
changes a stored list except by storing a list under the same prefix and name again. -/
theorem g_final_table_holds_last_write (a b : Tbl) (raw : Bool) (st : St) (h : mergeSpocSt a b raw = .ok st) :
    ∀ p n l, lastWrite st.writes p n = some l → st.a.get p n = l := by
  unfold mergeSpocSt at h
  exact (foldTop_ext b raw _ _ _ h).tbl (fun p n l hl => by simp [lastWrite] at hl)

/-- **A list that is stored once is final**: if the log of a successful merge has exactly one event for
prefix `p` and name `n`, the list stored by that event is what the final table holds — so the per-kind laws
below (`g_asa_acl_law`, `g_ios_acl_law`, `g_generic_commands`, `g_dynmap_commands`, which speak about the
list at the moment it is stored, see `g_store_event_*`) speak about the final result. -/
theorem g_written_once_is_final (a b : Tbl) (raw : Bool) (st : St) (h : mergeSpocSt a b raw = .ok st)
    (p n : String) (l : List Cmd) (hx : ((p, n), l) ∈ st.writes)
    (honce : (st.writes.filter (fun y => y.1.1 == p && y.1.2 == n)).length = 1) : st.a.get p n = l := by
  apply g_final_table_holds_last_write a b raw st h
  unfold lastWrite
  have hm : ((p, n), l) ∈ st.writes.filter (fun y => y.1.1 == p && y.1.2 == n) :=
    List.mem_filter.mpr ⟨hx, by simp⟩
  obtain ⟨y, hy⟩ := List.length_eq_one_iff.mp honce
  rw [hy] at hm ⊢
  cases List.mem_singleton.mp hm
  rfl

/-- No store event is lost from the write log: every event logged before a call of `mergeCmds` is still in the
log after it (membership; the log only grows by appending, see `St.store`).  What a later event for the same
key holds is said per kind, by `g_store_event_*` and the laws they point to, not here. -/
theorem g_store_events_kept (b : Tbl) (raw : Bool) (fuel : Nat) (st st' : St) (al bl : List Cmd) (n p : String)
    (h : mergeCmds b raw fuel st al bl n p = .ok st') : ∀ x ∈ st.writes, x ∈ st'.writes :=
  (mergeCmds_ext b raw fuel st al bl n p st' h).wsub

/-- The store events of the per-kind theorems: the last event of the step is the list the law speaks about. -/
theorem g_store_event_asa_acl (rec : Rec) (b : Tbl) (raw : Bool) (st st' : St) (al bl : List Cmd) (name pfx : String)
    (h : mergeAsaAcl rec b raw st al bl name pfx = .ok st') :
    st'.writes.getLast? = some ((pfx, name), st'.a.get pfx name) := by
  obtain ⟨_, _, _, rfl⟩ := mergeAsaAcl_ok h
  exact store_event _ _ _ _

theorem g_store_event_ios_acl (st st' : St) (al bl : List Cmd) (name pfx : String)
    (h : mergeIosAcl st al bl name pfx = .ok st') :
    st'.writes.getLast? = some ((pfx, name), st'.a.get pfx name) := by
  obtain ⟨_, _, _, rfl⟩ := mergeIosAcl_ok h
  exact store_event _ _ _ _

theorem g_store_event_generic (rec : Rec) (b : Tbl) (raw : Bool) (st st' : St) (al bl : List Cmd) (name pfx : String)
    (h : mergeGeneric rec b raw st al bl name pfx = .ok st') :
    st'.writes.getLast? = some ((pfx, name), st'.a.get pfx name) := by
  obtain ⟨_, _, _, rfl⟩ := mergeGeneric_ok h
  exact store_event _ _ _ _

theorem g_store_event_crypto (rec : Rec) (b : Tbl) (raw : Bool) (st st' : St) (al bl : List Cmd) (name pfx : String)
    (h : mergeDynMap rec b raw st al bl name pfx = .ok st' ∨ mergeCryptoMap rec b raw st al bl name pfx = .ok st') :
    st'.writes.getLast? = some ((pfx, name), st'.a.get pfx name) := by
  rcases h with h | h
  · obtain ⟨_, _, _, _, rfl⟩ := mergeDynMap_ok h
    exact store_event _ _ _ _
  · obtain ⟨_, _, _, _, _, rfl⟩ := mergeCryptoMap_ok h
    exact store_event _ _ _ _

section
variable (rec : Rec) (b : Tbl) (raw : Bool)

/-- **Generic commands** — routes (`route`, `ipv6 route`, `ip route`), interfaces, access-groups,
tunnel-groups, group-policies, usernames, object-groups …: the stored list has Netspoc's commands in their
order followed by the commands of the merged part whose text is new, in their order; a command with a text
Netspoc already has is merged into that command (no duplicate). -/
theorem g_generic_commands (st st' : St) (al bl : List Cmd) (name pfx : String)
    (h : mergeGeneric rec b raw st al bl name pfx = .ok st') :
    (st'.a.get pfx name).map (·.parsed) =
      al.map (·.parsed) ++ (bl.filter (fun c => !(al.map (·.parsed)).contains c.parsed)).map (·.parsed) := by
  obtain ⟨_, _, hf, rfl⟩ := mergeGeneric_ok h
  rw [store_get]
  exact generic_keys hf

/-- … hence every command of the merged part is there by its text (none dropped silently). -/
theorem g_generic_nothing_dropped (st st' : St) (al bl : List Cmd) (name pfx : String)
    (h : mergeGeneric rec b raw st al bl name pfx = .ok st') :
    (∀ c ∈ al, c.parsed ∈ (st'.a.get pfx name).map (·.parsed)) ∧
    (∀ c ∈ bl, c.parsed ∈ (st'.a.get pfx name).map (·.parsed)) := by
  rw [g_generic_commands rec b raw st st' al bl name pfx h]
  refine ⟨fun c hc => List.mem_append_left _ (List.mem_map.mpr ⟨c, hc, rfl⟩), fun c hc => ?_⟩
  by_cases hm : c.parsed ∈ al.map (·.parsed)
  · exact List.mem_append_left _ hm
  · exact List.mem_append_right _ (List.mem_map.mpr ⟨c, List.mem_filter.mpr ⟨hc, by simpa using hm⟩, rfl⟩)

/-- **`mergeSubCmds`**: subcommands of Netspoc's command in their order, then the new subcommands
of the merged command in their order. -/
theorem g_subcommands (st : St) (a bc : Cmd) (r : St × Cmd) (h : mergeSubCmds rec b raw st a bc = .ok r) :
    r.2.sub.map (·.parsed) = a.sub.map (·.parsed) ++
      (bc.sub.filter (fun s => !(a.sub.map (·.parsed)).contains s.parsed)).map (·.parsed) :=
  subcmds_keys h

/-- **`mergeCryptoCommon`** (crypto dynamic-map, and every sequence number of a crypto map):
Netspoc's commands keep their position and 5th/6th word, each holds Netspoc's text or the text of a
command of the merged part (the documented replacement); commands of the merged part with a new
5th/6th word are added in their order. -/
theorem g_crypto_common (st : St) (al bl : List Cmd) (r : St × List Cmd × List Cmd)
    (h : cryptoCommon rec b raw st al bl = .ok r) :
    r.2.1.map (fun c => cryptoKey c.parsed) = al.map (fun c => cryptoKey c.parsed) ∧
    r.2.2.map (·.parsed) =
      (bl.filter (fun c => !(al.map (fun c => cryptoKey c.parsed)).contains (cryptoKey c.parsed))).map (·.parsed) ∧
    (∀ c ∈ r.2.1, c.parsed ∈ bl.map (·.parsed) ∨ c.parsed ∈ al.map (·.parsed)) :=
  (crypto_keys _ al bl (st, al, []) r rfl h).2

theorem g_dynmap_commands (st st' : St) (al bl : List Cmd) (name pfx : String)
    (h : mergeDynMap rec b raw st al bl name pfx = .ok st') :
    ∃ al' add, st'.a.get pfx name = al' ++ add ∧
      al'.map (fun c => cryptoKey c.parsed) = al.map (fun c => cryptoKey c.parsed) ∧
      add.map (·.parsed) =
        (bl.filter (fun c => !(al.map (fun c => cryptoKey c.parsed)).contains (cryptoKey c.parsed))).map (·.parsed) := by
  obtain ⟨_, al', add, hc, rfl⟩ := mergeDynMap_ok h
  obtain ⟨h1, h2, _⟩ := g_crypto_common rec b raw st al bl _ hc
  exact ⟨al', add, store_get _ _ _ _, h1, h2⟩

/-- **ASA ACLs of the general model** (interface ACLs, crypto filter ACLs, vpn-filter ACLs — every
`access-list` reached through a reference): the stored lines are the list merge `Merge.mergeASA` of
Netspoc's lines with the new lines, so the four laws hold: with `P`/`A` the new lines before/behind
`[APPEND]`, the result is `top ++ pre ++ A ++ post`, `pre ++ post` = Netspoc's lines (plus a moved
terminating `deny ip any6 any6`), `post` without permit line, `pre` empty or ending in a permit line. -/
theorem g_asa_acl_law (st st' : St) (al bl : List Cmd) (name pfx : String)
    (h : mergeAsaAcl rec b raw st al bl name pfx = .ok st') :
    ∃ (bl' topL netL : List Cmd), bl'.map (·.parsed) = bl.map (·.parsed) ∧ bl'.map (·.app) = bl.map (·.app) ∧
      PlacedL (fun c : Cmd => asaKind c.parsed) notPermitK topL netL (bl'.filter (·.app)) (st'.a.get pfx name) ∧
      ((topL = bl'.filter (fun c => !c.app) ∧ netL = al) ∨
        ∃ x, asaKind x.parsed = .any6 ∧ bl'.filter (fun c => !c.app) = topL ++ [x] ∧ netL = al ++ [x]) := by
  obtain ⟨_, bl', hf, rfl⟩ := mergeAsaAcl_ok h
  obtain ⟨h1, h2⟩ := aclRef_fold bl _ _ hf
  obtain ⟨topL, netL, hp, hcase⟩ := mergeVia_asa_placed (fun c : Cmd => asaKind c.parsed) (·.app) al bl'
  refine ⟨bl', topL, netL, by simpa using h1, by simpa using h2, ?_, hcase⟩
  rw [store_get]
  exact hp

end

/-- **IOS ACLs of the general model**: the lines of all raw blocks are merged into Netspoc's lines by
`Merge.mergeIOS`; the law as above without exception. -/
theorem g_ios_acl_law (st st' : St) (al bl : List Cmd) (name pfx : String)
    (h : mergeIosAcl st al bl name pfx = .ok st') :
    ∃ hd, st'.a.get pfx name = [hd] ∧
      PlacedL (fun s : Sub => iosKind s.parsed) notPermitK ((bl.flatMap (·.sub)).filter (fun s => !s.app))
        ((al.head?.map (·.sub)).getD []) ((bl.flatMap (·.sub)).filter (·.app)) hd.sub := by
  obtain ⟨_, _, _, rfl⟩ := mergeIosAcl_ok h
  exact ⟨_, store_get _ _ _ _, mergeVia_ios_placed (fun s : Sub => iosKind s.parsed) (·.app) _ _⟩

/-- Consequences of the placement law, for any element type: permutation and order of the parts. -/
theorem g_placed_consequences {α : Type} (kind : α → Kind) (top net ap r : List α)
    (h : PlacedL kind notPermitK top net ap r) :
    r.Perm (top ++ net ++ ap) ∧ top.Sublist r ∧ net.Sublist r ∧ ap.Sublist r ∧ (top ++ ap).Sublist r ∧
    ∃ rest, r = top ++ rest ∧ net.Sublist rest := by
  have h' := (placedL_iff ..).mp h
  refine ⟨h'.perm, h'.sub_top, h'.sub_net, h'.sub_app, h'.sub_top_app, ?_⟩
  obtain ⟨pre, post, hn, hr, _, _⟩ := h
  refine ⟨pre ++ ap ++ post, by rw [hr]; simp, ?_⟩
  rw [hn]
  simp only [List.append_assoc]
  exact List.Sublist.append (List.Sublist.refl pre) (List.sublist_append_right ap post)

/-- **IOS crypto map entries** (peer and ACLs are subcommands): a raw entry identical to Netspoc's entry
hands its subcommands to `mergeSubCmds`: Netspoc's subcommands in order, then the new raw ones. -/
theorem g_crypto_entry_subcommands (rec : Rec) (b : Tbl) (raw : Bool) (keys : List (String × String)) (al0 : List Cmd)
    (st : St) (al add : List Cmd) (acc' : St × List Cmd × List Cmd) (bc a : Cmd) (j : Nat)
    (hj : lastIdxOf keys (cryptoKey bc.parsed) = some j) (ha : al[j]? = some a) (heq : a.parsed = bc.parsed)
    (h : cryptoStep rec b raw keys al0 (st, al, add) bc = .ok acc') :
    ∃ a', acc'.2.1[j]? = some a' ∧ a'.sub.map (·.parsed) = a.sub.map (·.parsed) ++
      (bc.sub.filter (fun s => !(a.sub.map (·.parsed)).contains s.parsed)).map (·.parsed) := by
  unfold cryptoStep cryptoStepG at h
  simp only [hj, ha, heq, beq_self_eq_true, if_true] at h
  split at h
  · cases h
  · rename_i st1 a1 hs
    split at h
    · rename_i st2 ar2 br2 hm2
      cases h
      obtain ⟨hlt, _⟩ := List.getElem?_eq_some_iff.mp ha
      exact ⟨{ a1 with ref := ar2.getD a1.ref }, by simp [listSet, hlt], subcmds_keys hs⟩
    · cases h

/-- Code as found, F-C18i: the subcommand `set ip access-group $REF out` of a raw IOS crypto map entry
that equals Netspoc's entry is dropped, no message. -/
theorem g_old_crypto_subcommand_dropped_counterexample :
    ∃ (a bc : Cmd) (s : Sub), s ∈ bc.sub ∧ a.parsed = bc.parsed ∧
      (cryptoStepOld (mergeCmds [] true 2) [] true [cryptoKey a.parsed] [a] ({ a := [] }, [a], []) bc).toOption.map
        (fun r => (r.2.1 ++ r.2.2).map (fun c => c.sub.map (·.parsed))) = some [["set peer 1.2.3.4"]] ∧
      s.parsed = "set ip access-group $REF out" :=
  ⟨{ parsed := "crypto map $NAME $SEQ ipsec-isakmp", name := "M", seq := 10, sub := [{ parsed := "set peer 1.2.3.4" }] },
   { parsed := "crypto map $NAME $SEQ ipsec-isakmp", name := "M", seq := 20,
     sub := [{ parsed := "set peer 1.2.3.4" }, { parsed := "set ip access-group $REF out" }] },
   { parsed := "set ip access-group $REF out" }, by decide +kernel⟩

/-! Non-vacuity: small tables on which the hypotheses hold. -/
def exA : Tbl := [("access-list", [("A1", [{ parsed := "access-list $NAME extended permit ip any4 any4", name := "A1" }])]),
  ("access-group", [("", [{ parsed := "access-group $REF in interface if0", ref := ["A1"], refPrefix := ["access-list"], anchor := true }])])]
def exB : Tbl := [("access-list", [("X", [{ parsed := "access-list $NAME extended deny ip any4 any4", name := "X" }]),
                                    ("U", [{ typPrefix := "access-list", parsed := "access-list $NAME extended deny ip any4 any4", name := "U" }])]),
  ("access-group", [("", [{ parsed := "access-group $REF in interface if0", ref := ["X"], refPrefix := ["access-list"], anchor := true }])])]
example : (mergeSpoc exA exB true).toOption.map (·.2) = some ["Ignoring unused 'access-list U' in raw"] := by decide +kernel
example : ((mergeSpocSt exA exB true).toOption.map (·.log)) = some [("access-list", "X")] := by decide +kernel
example : ("access-list", "U") ∈ exB.keys ∧ exB.get "access-list" "U" = [{ typPrefix := "access-list", parsed := "access-list $NAME extended deny ip any4 any4", name := "U" }] := by
  decide +kernel

-- persistence: a raw ACL merged into Netspoc's ACL is stored once; the final table holds exactly that list
example : (mergeSpocSt exA exB true).toOption.map (fun st => (st.writes.filter (fun y => y.1.1 == "access-list" && y.1.2 == "A1")).length)
    = some 1 := by decide +kernel
-- … while two raw ACLs bound at two places that Netspoc binds to ONE ACL store that ACL twice (the second list
-- is the merge of the first with the second raw ACL): "stored once" is a hypothesis, not a law
def exA2 : Tbl := [("access-list", [("A1", [{ parsed := "access-list $NAME extended permit ip any4 any4", name := "A1" }])]),
  ("access-group", [("", [{ parsed := "access-group $REF in interface if0", ref := ["A1"], refPrefix := ["access-list"], anchor := true },
                          { parsed := "access-group $REF out interface if1", ref := ["A1"], refPrefix := ["access-list"], anchor := true }])])]
def exB2 : Tbl := [("access-list", [("X", [{ parsed := "access-list $NAME extended deny ip host 1.1.1.1 any4", name := "X" }]),
                                     ("Y", [{ parsed := "access-list $NAME extended deny ip host 2.2.2.2 any4", name := "Y" }])]),
  ("access-group", [("", [{ parsed := "access-group $REF in interface if0", ref := ["X"], refPrefix := ["access-list"], anchor := true },
                          { parsed := "access-group $REF out interface if1", ref := ["Y"], refPrefix := ["access-list"], anchor := true }])])]
example : (mergeSpocSt exA2 exB2 true).toOption.map (fun st =>
    ((st.writes.filter (fun y => y.1.1 == "access-list" && y.1.2 == "A1")).length, (st.a.get "access-list" "A1").length)) = some (2, 3) := by decide +kernel
-- routes: a duplicate route of the raw file is merged, a new one is added behind Netspoc's routes
def exR1 : Cmd := { parsed := "route inside 10.20.0.0 255.255.0.0 10.1.2.3", anchor := true }
def exR2 : Cmd := { parsed := "route inside 10.22.0.0 255.255.0.0 10.1.2.4", anchor := true }
example : (mergeSpoc [("route", [("", [exR1])])] [("route", [("", [exR2, exR1])])] true).toOption.map
    (fun r => (r.1.get "route" "").map (·.parsed)) = some [exR1.parsed, exR2.parsed] := by decide +kernel
-- crypto dynamic-map: `set pfs group21` of the raw file replaces Netspoc's `set pfs group19`, `set reverse-route` is added
def exD (t : String) : Cmd := { typPrefix := "crypto dynamic-map", parsed := "crypto dynamic-map $NAME $SEQ " ++ t, name := "D", seq := 10 }
example : (mergeCmds [] true 3 { a := [] } [exD "set pfs group19"] [exD "set pfs group21", exD "set reverse-route"] "D"
      "crypto dynamic-map").toOption.map (fun st => (st.a.get "crypto dynamic-map" "D").map (·.parsed)) =
    some ["crypto dynamic-map $NAME $SEQ set pfs group21", "crypto dynamic-map $NAME $SEQ set reverse-route"] := by decide +kernel
-- subcommands: a new subcommand of the raw tunnel-group is appended
def exTG (subs : List String) : Cmd :=
  { parsed := "tunnel-group $NAME general-attributes", name := "1.1.1.1", anchor := true, sub := subs.map (fun p => { parsed := p }) }
example : (mergeSubCmds (mergeCmds [] true 2) [] true { a := [] } (exTG ["default-group-policy $REF"]) (exTG ["annotation x"])).toOption.map
    (fun r => r.2.sub.map (·.parsed)) = some ["default-group-policy $REF", "annotation x"] := by decide +kernel
-- an IOS crypto map entry of the raw file that equals Netspoc's entry: its new subcommand is kept
example : (cryptoStep (mergeCmds [] true 2) [] true [("ipsec-isakmp", "")]
    [{ parsed := "crypto map $NAME $SEQ ipsec-isakmp", sub := [{ parsed := "set peer 1.2.3.4" }] }]
    ({ a := [] }, [{ parsed := "crypto map $NAME $SEQ ipsec-isakmp", sub := [{ parsed := "set peer 1.2.3.4" }] }], [])
    { parsed := "crypto map $NAME $SEQ ipsec-isakmp", sub := [{ parsed := "set peer 1.2.3.4" }, { parsed := "set reverse-route" }] }).toOption.map
      (fun r => r.2.1.map (fun c => c.sub.map (·.parsed))) = some [["set peer 1.2.3.4", "set reverse-route"]] := by decide +kernel
-- unsupported prefix
example : ("webvpn", "") ∈ Tbl.keys [("webvpn", [("", [{ parsed := "webvpn", anchor := true }])])] := by decide +kernel

/-! ## `matchCryptoMap`

`matchCalls al bl` is the list of callback calls `f(aSeqL, bSeqL)` of `matchCryptoMap(a, b, f)`, in order:
first one call per entry of the device-side map `al` (`matchLoop`), then one call per entry of `bl` that
found no partner.  `Call.aIdx` = positions of the entry's commands in `al`, `Call.bl` = the commands of
`b`'s entry, `Call.bSeq` (ghost) = the sequence number that entry had in its file.  The same function is
the one `mergeCryptoMap` runs (`matchCryptoMap`; one `cryptoCommon`, hence `cryptoStepG` per command, for each call) and
`cisco3` ties to the real `MergeSpoc`.  The statements agree with
`NA.Vpn.crypto_*` (diff side): ascending order of sequence numbers, a partner is found by equal peer and is
consumed once, and a fresh number is the first FREE number counting up from 1 (static peer) or down from
65535 (dynamic) — NOT "above the maximum". -/

/-- **Device entries: each once, order kept.**  The first calls are the entries of `al` in ascending order
of their sequence numbers, each number once; a position of `al` is in the call of its own number and only
there, and inside a call the positions ascend (the order of the entry's commands is kept); all later calls
carry no device command. -/
theorem g_crypto_device_entries_once (al bl : List Cmd) :
    (∃ fresh, matchCalls al bl = (matchLoop al bl).1 ++ fresh ∧
       fresh.map (·.bSeq) = (matchLoop al bl).2.map some ∧ ∀ c ∈ fresh, FreshCall al bl c) ∧
    (matchLoop al bl).1.map (·.aIdx) = (seqsOf al).map (fun s => idxFrom s 0 al) ∧
    (seqsOf al).Pairwise (· < ·) ∧ (∀ s, s ∈ seqsOf al ↔ ∃ c ∈ al, c.seq = s) ∧
    (∀ s i, i ∈ idxFrom s 0 al ↔ ∃ c, al[i]? = some c ∧ c.seq = s) ∧
    ∀ s, (idxFrom s 0 al).Pairwise (· < ·) :=
  let ⟨cs, h1, h2, h3, _⟩ := freshFold_spec al bl (matchLoop al bl).2 ((matchLoop al bl).1, 1, 65535)
  ⟨⟨cs, h1, h2, h3⟩, (matchLoop_minv al bl).shape, seqsOf_sorted al, mem_seqsOf al,
    fun s i => by simpa using mem_idxFrom s al 0 i, fun s => idxFrom_sorted s al 0⟩

/-- **Entries of `b`: each handed over exactly once.**  The sequence numbers of the entries of `b` that
occur in the calls are, up to order, the sequence numbers of `b`, each once; a call of the first loop with
a partner carries that whole entry of `b`, one without partner carries nothing. -/
theorem g_crypto_target_entries_once (al bl : List Cmd) :
    ((matchCalls al bl).filterMap (·.bSeq)).Perm (seqsOf bl) ∧
    ∀ c ∈ (matchLoop al bl).1, (c.bSeq = none ∧ c.bl = []) ∨ ∃ q, c.bSeq = some q ∧ c.bl = grp bl q := by
  have inv := matchLoop_minv al bl
  refine ⟨?_, inv.grpOk⟩
  obtain ⟨cs, h1, h2, _⟩ := freshFold_spec al bl (matchLoop al bl).2 ((matchLoop al bl).1, 1, 65535)
  have hfm : cs.filterMap (·.bSeq) = (matchLoop al bl).2 := by
    have : cs.filterMap (·.bSeq) = (cs.map (·.bSeq)).filterMap id := by
      rw [List.filterMap_map]; rfl
    rw [this, h2, List.filterMap_map]; simp
  unfold matchCalls
  rw [h1, List.filterMap_append, hfm]
  refine (List.perm_ext_iff_of_nodup ?_ (seqsOf_nodup bl)).mpr (fun q => ?_)
  · rw [List.nodup_append]
    exact ⟨inv.nodup, inv.sub.nodup (seqsOf_nodup bl), fun a ha b hb hab => ((inv.used a).mp ha).2 (hab ▸ hb)⟩
  · rw [List.mem_append, inv.used]
    constructor
    · rintro (h | h)
      · exact h.1
      · exact inv.sub.subset h
    · intro h
      by_cases hq : q ∈ (matchLoop al bl).2
      · exact Or.inr hq
      · exact Or.inl ⟨h, hq⟩

/-- **Matched by peer.**  Every call of the first loop belongs to one entry `s` of the device map; if it has
a partner `q`, that is an entry of `b` whose peer is the peer of `s`, and the lowest such entry of `b`. -/
theorem g_crypto_match_by_peer (al bl : List Cmd) (c : Call) (hc : c ∈ (matchLoop al bl).1) :
    ∃ s ∈ seqsOf al, c.aIdx = idxFrom s 0 al ∧
      ∀ q, c.bSeq = some q → q ∈ seqsOf bl ∧ peerD (grp bl q) = peerD (grp al s) ∧
        ∀ t ∈ seqsOf bl, peerD (grp bl t) = peerD (grp al s) → q ≤ t :=
  (matchLoop_minv al bl).peer c hc

/-- **A partner is found when there is one.**  A device entry `s` whose peer occurs in `b` and in no earlier
(lower) device entry is handed over together with an entry of `b` (by `g_crypto_match_by_peer`: the lowest
with that peer); its call is the one at the position of `s` in the ascending device order. -/
theorem g_crypto_partner_found (al bl : List Cmd) (pre post : List Nat) (s : Nat)
    (hk : seqsOf al = pre ++ s :: post)
    (ht : ∃ t ∈ seqsOf bl, peerD (grp bl t) = peerD (grp al s))
    (hfirst : ∀ s' ∈ pre, peerD (grp al s') ≠ peerD (grp al s)) :
    ∃ c q, (matchLoop al bl).1[pre.length]? = some c ∧ c.aIdx = idxFrom s 0 al ∧ c.bSeq = some q ∧
      c.bl = grp bl q := by
  unfold matchLoop
  rw [hk, List.foldl_append, List.foldl_cons]
  have hinv : MInv al bl pre (pre.foldl (matchStep al bl (firstSeqs bl)) ([], seqsOf bl)) :=
    matchFold_minv al bl pre [] _ (MInv.init al bl)
  generalize pre.foldl (matchStep al bl (firstSeqs bl)) ([], seqsOf bl) = acc1 at hinv
  have hlen : acc1.1.length = pre.length := by simpa using congrArg List.length hinv.shape
  obtain ⟨cs, hcs⟩ := matchFold_appends al bl (firstSeqs bl) post (matchStep al bl (firstSeqs bl) acc1 s)
  rw [hcs]
  obtain ⟨t, htm, htp⟩ := ht
  obtain ⟨x, hx, hxe⟩ := (firstSeqs_inv bl).full t htm
  -- the step for `s` finds the partner: the peer is listed, and its entry of `b` is not consumed yet
  rcases matchStep_cases al bl (firstSeqs bl) acc1 s with ⟨hno, _⟩ | ⟨q, _, _, e⟩
  · exfalso
    cases hfind : (firstSeqs bl).find? (fun q => q.1 == peerD (grp al s)) with
    | none => simpa [hxe, htp] using List.find?_eq_none.mp hfind x hx
    | some q =>
      have hq := (firstSeqs_inv bl).mem q (List.mem_of_find?_eq_some hfind)
      have hqp : q.1 = peerD (grp al s) := by simpa using List.find?_some hfind
      obtain ⟨c, hcm, hcb⟩ := List.mem_filterMap.mp ((hinv.used q.2).mpr ⟨hq.1, hno q hfind⟩)
      obtain ⟨s', hs', _, hall⟩ := hinv.peer c hcm
      exact hfirst s' hs' (by rw [← (hall q.2 hcb).2.1, hq.2, hqp])
  · refine ⟨{ aIdx := idxFrom s 0 al, bl := grp bl q.2, bSeq := some q.2 }, q.2, ?_, rfl, rfl, rfl⟩
    rw [e, List.append_assoc, List.getElem?_append_right (by omega)]
    simp [hlen]

/-- **Fresh numbers.**  An entry of `b` without partner is handed over with no device command, with as many
commands as it has, under the name of the device's map and under ONE number `freeSeq (seqsOf al) st 70000 start`
— free unless all 70000 candidates are used.  Direction `st` and `start` are existential in this statement: that
they are the kind of the peer and the running counter (up from 1, down from 65535) is the definition `freshStep`;
for static peers see `g_crypto_fresh_static_ascending`. -/
theorem g_crypto_fresh_numbers (al bl : List Cmd) (c : Call) (hc : FreshCall al bl c) :
    c.aIdx = [] ∧ (∃ s, c.bSeq = some s ∧ c.bl.length = (grp bl s).length) ∧
    (∀ a0, al.head? = some a0 → ∀ d ∈ c.bl, d.name = a0.name) ∧
    ∃ st start, (∀ d ∈ c.bl, d.seq = freeSeq (seqsOf al) st 70000 start) ∧
      (freeSeq (seqsOf al) st 70000 start ∉ seqsOf al ∨
        ∀ k, k < 70000 → (if st then start + k else start - k) ∈ seqsOf al) := by
  obtain ⟨h1, s, h2, h3, ⟨st, start, h4⟩, h5⟩ := hc
  exact ⟨h1, ⟨s, h2, h3⟩, h5, st, start, h4, freeSeq_free (seqsOf al) st 70000 start⟩

def exCM (seq : Nat) (t : String) : Cmd :=
  { typPrefix := "crypto map", parsed := "crypto map $NAME $SEQ " ++ t, name := "M", seq := seq }
def exCR (seq : Nat) (t : String) : Cmd := { exCM seq t with name := "R" }
/-- device: entries 20 (peer B) and 10 (peer A), given in descending order; raw: 1 (peer A), 2 (peer C), 3 (peer A) -/
def exAl : List Cmd := [exCM 20 "set peer 2.2.2.2", exCM 20 "match address X", exCM 10 "set peer 1.1.1.1"]
def exBl : List Cmd := [exCR 1 "set peer 1.1.1.1", exCR 2 "set peer 3.3.3.3", exCR 3 "set peer 1.1.1.1", exCR 3 "set pfs group2"]
/-- non-vacuity: ascending device order, entry 10 gets raw entry 1, raw 2 and 3 get the fresh numbers 1 and 2 -/
example : (matchCalls exAl exBl).map (fun c => (c.aIdx, c.bSeq, c.bl.map (fun d => (d.name, d.seq)))) =
    [([2], some 1, [("R", 1)]), ([0, 1], none, []),
     ([], some 2, [("M", 1)]), ([], some 3, [("M", 2), ("M", 2)])] := by decide +kernel
example : (firstPeerErr exAl exBl).isNone = true := by decide +kernel
/-- non-vacuity of `g_crypto_partner_found`: device entry 10 (peer A) is the first with its peer, raw entries 1 and 3 have it -/
example : seqsOf exAl = [] ++ 10 :: [20] ∧ peerD (grp exBl 1) = peerD (grp exAl 10) ∧
    ((matchLoop exAl exBl).1[0]?.map (·.bSeq)) = some (some 1) := by decide +kernel
/-- a device that uses 1 and 2: the fresh number is 3 (first free, not "max + 1" = 11 would also be free) -/
example : (matchCalls [exCM 1 "set peer 1.1.1.1", exCM 2 "set peer 2.2.2.2", exCM 10 "set peer 4.4.4.4"]
    [exCR 5 "set peer 3.3.3.3"]).map (fun c => (c.aIdx, c.bl.map (·.seq))) =
    [([0], []), ([1], []), ([2], []), ([], [3])] := by decide +kernel

/-- `matchCryptoMap` either aborts with the first entry that has no peer (`b`'s entries first, ascending),
or makes exactly the calls `matchCalls`. -/
theorem g_crypto_calls (al bl : List Cmd) :
    (∀ cs, matchCryptoMap al bl = .ok cs → cs = matchCalls al bl ∧ firstPeerErr al bl = none) ∧
    (∀ e, matchCryptoMap al bl = .error e → firstPeerErr al bl = some e) := by
  unfold matchCryptoMap
  cases h : firstPeerErr al bl with
  | none =>
    refine ⟨fun cs hcs => ?_, fun e he => ?_⟩
    · simp only [Except.ok.injEq] at hcs; exact ⟨hcs.symm, rfl⟩
    · simp at he
  | some e0 =>
    refine ⟨fun cs hcs => ?_, fun e he => ?_⟩
    · simp at hcs
    · simp only [Except.error.injEq] at he; rw [he]

/-- non-vacuity: an entry of `b` without peer stops the merge -/
example : (firstPeerErr exAl [exCR 1 "match address Y"]).isSome = true := by decide +kernel

/-- **Fresh numbers of static entries are distinct.**  Among the calls of the second loop those whose entry
of `b` has a static peer get numbers ≥ 1 that strictly increase from call to call (the counter moves past
every number handed out), so two such entries never end up under one number. -/
theorem g_crypto_fresh_static_ascending (al bl : List Cmd) :
    ∃ fresh, matchCalls al bl = (matchLoop al bl).1 ++ fresh ∧
      fresh.map (·.bSeq) = (matchLoop al bl).2.map some ∧
      (∀ c ∈ fresh, StaticCall bl c → ∀ d ∈ c.bl, 1 ≤ d.seq) ∧
      fresh.Pairwise (fun c1 c2 => StaticCall bl c1 → StaticCall bl c2 →
        ∀ d1 ∈ c1.bl, ∀ d2 ∈ c2.bl, d1.seq < d2.seq) :=
  let ⟨cs, h1, h2, _, _, h4, h5⟩ := freshFold_spec al bl (matchLoop al bl).2 ((matchLoop al bl).1, 1, 65535)
  ⟨cs, h1, h2, h4, h5⟩

/-- non-vacuity: raw entries 2 and 3 of the example are static and without partner (numbers 1 and 2 above) -/
example : StaticCall exBl { aIdx := [], bl := [], bSeq := some 2 } ∧ (matchLoop exAl exBl).2 = [2, 3] :=
  ⟨⟨2, rfl, by decide +kernel⟩, by decide +kernel⟩

def obligations : List Lean.Name := [
  ``g_no_object_merged_twice, ``g_second_reference_is_error, ``g_name_clash_is_error,
  ``g_simple_name_clash_is_error, ``g_unsupported_prefix_reported, ``g_unused_object_warned,
  ``mergeCmds_ext, ``g_final_table_holds_last_write, ``g_written_once_is_final, ``g_store_events_kept,
  ``g_store_event_asa_acl, ``g_store_event_ios_acl, ``g_store_event_generic, ``g_store_event_crypto, ``g_no_object_name_lost, ``g_generic_commands, ``g_generic_nothing_dropped, ``g_subcommands, ``g_crypto_common,
  ``g_dynmap_commands, ``g_crypto_entry_subcommands, ``g_old_crypto_subcommand_dropped_counterexample, ``g_asa_acl_law, ``g_ios_acl_law, ``g_placed_consequences,
  ``g_crypto_device_entries_once, ``g_crypto_target_entries_once, ``g_crypto_match_by_peer, ``g_crypto_partner_found, ``g_crypto_fresh_numbers, ``g_crypto_calls, ``g_crypto_fresh_static_ascending]

end NA.C18.G
