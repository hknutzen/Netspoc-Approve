import NA.Proofs.C15Guard
import NA.Proofs.C15Dec
import NA.Proofs.C15Full
import NA.Proofs.C15Rearm
/-!
# C15 — IOS changes always run under a reload guard and survive its banners

`applyCommands D fixed cs st` is the model of `ios.ApplyCommands`
(`NA/Model/IosSession.lean`) run against a device `D` with ARBITRARY state and behaviour (any
bytes in answer to any packet, silence = time-out), for an arbitrary list of change commands.
`linesOf trace` is the ordered transcript of lines the device receives; `guardOK`,
`pendingAfter` are the monitor of `NA/Spec/IosDev.lean`.
-/
namespace NA.Ios

variable {σ : Type}

/-- change commands never spell `reload cancel` or `write memory` (one or two lines each) -/
def CleanCs (cs : List Str) : Prop := ∀ c ∈ cs, OKsend c

/-- the state in which `scheduleReload` is called -/
def afterPrep (D : Device σ) (st : St σ) : St σ := (prepareDevice D st).2

theorem idle_afterPrep (D : Device σ) (st : St σ) (h0 : st.trace = []) : Idle (G (afterPrep D st).trace) := by
  obtain ⟨l, ht, hs⟩ := sends_prepareDevice D st
  unfold afterPrep; rw [ht]
  exact idle_prep _ _ (by rw [h0]; exact ⟨rfl, rfl, rfl⟩) hs

theorem applyCommands_cases (D : Device σ) (fixed : Bool) (cs : List Str) (st : St σ) :
    (∃ e, applyCommands D fixed cs st = (.abort e, afterPrep D st)) ∨
    (∃ e, (guarded D fixed cs (afterPrep D st)).1 = .abort e ∧
      applyCommands D fixed cs st = (.abort e, (guarded D fixed cs (afterPrep D st)).2)) ∨
    ((guarded D fixed cs (afterPrep D st)).1 = .ok () ∧
      applyCommands D fixed cs st = writeMem D 2 (guarded D fixed cs (afterPrep D st)).2) := by
  unfold afterPrep applyCommands
  rcases res_cases (prepareDevice D st).1 with ⟨a, hok⟩ | ⟨e, hab⟩
  · rw [bindM_snd_of_ok _ _ _ _ hok]
    rcases res_cases (guarded D fixed cs (prepareDevice D st).2).1 with ⟨⟨⟩, hok2⟩ | ⟨e2, hab2⟩
    · exact .inr (.inr ⟨hok2, bindM_snd_of_ok _ _ _ _ hok2⟩)
    · exact .inr (.inl ⟨e2, hab2, bindM_of_abort _ _ _ _ hab2⟩)
  · exact .inl ⟨e, bindM_of_abort _ _ _ _ hab⟩

theorem apply_monitor (D : Device σ) (fixed : Bool) (cs : List Str) (hcs : CleanCs cs) (st : St σ)
    (h0 : st.trace = []) :
    let o := applyCommands D fixed cs st
    (G o.2.trace).violated = false ∧
    ((G o.2.trace).pending = true → ∃ e, (scheduleReload D (afterPrep D st)).1 = .abort e ∧ o.1 = .abort e) := by
  intro o
  have hI1 := idle_afterPrep D st h0
  have hm := guarded_monitor D fixed cs hcs (afterPrep D st) hI1
  rcases applyCommands_cases D fixed cs st with ⟨e, ho⟩ | ⟨e2, hab2, ho⟩ | ⟨hok2, ho⟩ <;> simp only [o, ho]
  · exact ⟨hI1.2.1, fun hp => by rw [hI1.1] at hp; cases hp⟩
  · refine ⟨hm.1, fun hp => ?_⟩
    rcases res_cases (scheduleReload D (afterPrep D st)).1 with ⟨⟨⟩, h⟩ | ⟨e, h⟩
    · rw [(hm.2.1 h).1] at hp; cases hp
    · have := hm.2.2 e h; rw [hab2] at this; cases this
      exact ⟨_, h, rfl⟩
  · -- `guarded` returned: `scheduleReload` succeeded, the monitor is idle, `write memory` keeps it idle
    obtain ⟨⟨⟩, hsok, _⟩ := (bindM_ok_iff (scheduleReload D) _ _ ()).1 hok2
    obtain ⟨l, ht, hs⟩ := sends_writeMem D 2 (guarded D fixed cs (afterPrep D st)).2
    have hfin : Idle (G (writeMem D 2 (guarded D fixed cs (afterPrep D st)).2).2.trace) := by
      rw [ht]; exact idle_write _ _ (hm.2.1 hsok) hs
    exact ⟨hfin.2.1, fun hp => by rw [hfin.1] at hp; cases hp⟩

/-- **guard_brackets_changes.** For every device, every list of change commands (one- or
two-line, not spelling `reload cancel`/`write memory`) and whether the run succeeds or aborts
anywhere: in the transcript no change line is received while no reload is scheduled and
confirmed, and `write memory` is never received while one is scheduled (i.e. `reload in 2` +
confirmation < every change < `reload cancel` < `write memory`). -/
theorem guard_brackets_changes (D : Device σ) (fixed : Bool) (cs : List Str) (hcs : CleanCs cs)
    (st : St σ) (h0 : st.trace = []) :
    guardOK (linesOf (applyCommands D fixed cs st).2.trace) = true :=
  congrArg not (apply_monitor D fixed cs hcs st h0).1

/-- **no_reload_pending_after_success.** A run that returns normally leaves no reload scheduled. -/
theorem no_reload_pending_after_success (D : Device σ) (fixed : Bool) (cs : List Str) (hcs : CleanCs cs)
    (st : St σ) (h0 : st.trace = []) (hok : (applyCommands D fixed cs st).1 = .ok ()) :
    pendingAfter (linesOf (applyCommands D fixed cs st).2.trace) = false := by
  refine Bool.eq_false_iff.2 fun hp => ?_
  obtain ⟨e, _, he⟩ := (apply_monitor D fixed cs hcs st h0).2 hp
  rw [hok] at he; cases he

/-- **cancel_on_failure** (what is true of it, `_partial`: hypothesis = `scheduleReload` returned).
Whatever aborts after `scheduleReload` has returned — a rejected change, a damaged echo, a
time-out, a failed re-arm, a failed `end` — the deferred `reload cancel` is sent after the last
(re-)arming: no reload is left scheduled.  Equivalently: a reload left scheduled means the abort
happened inside `scheduleReload` itself. -/
theorem cancel_on_failure_partial (D : Device σ) (fixed : Bool) (cs : List Str) (hcs : CleanCs cs)
    (st : St σ) (h0 : st.trace = [])
    (hs : (scheduleReload D (afterPrep D st)).1 = .ok ()) :
    pendingAfter (linesOf (applyCommands D fixed cs st).2.trace) = false := by
  refine Bool.eq_false_iff.2 fun hp => ?_
  obtain ⟨e, he, _⟩ := (apply_monitor D fixed cs hcs st h0).2 hp
  rw [hs] at he; cases he

/-- the hypothesis of `cancel_on_failure_partial` for a device on which the preparation and the
schedule exchange go through -/
theorem schedule_ok (D : Device σ) (st0 s1 s2 : St σ) (e1 : prepareDevice D st0 = (.ok (), s1))
    (e2 : scheduleReload D s1 = (.ok (), s2)) : (scheduleReload D (afterPrep D st0)).1 = .ok () := by
  unfold afterPrep; rw [e1]; simp only; rw [e2]

theorem schedule_ok_follows (D : Device σ) (na : Bool) (e : SimSt → σ) (st0 : St SimSt) (hp : st0.pend = [])
    (hparts : st0.dev.parts = []) (hF : FollowsPrelude D na e st0.dev) :
    (scheduleReload D (afterPrep D (st0.onDev e))).1 = .ok () :=
  schedule_ok D _ _ _ (prepare_follows D na e st0 hp hparts hF.prep)
    (sendReloadCmd_follows D na false e { st0 with pend := [], trace := st0.trace ++ prepCmds } rfl hparts
      hF.reload hF.parts)

theorem schedule_ok_sim (na : Bool) (st0 : St SimSt) (hp : st0.pend = []) (hparts : st0.dev.parts = []) :
    (scheduleReload (simDevice [] na) (afterPrep (simDevice [] na) st0)).1 = .ok () :=
  schedule_ok _ st0 _ _ (prepare_sim na st0 hp hparts) (schedule_sim na _ rfl hparts)

theorem loopStart_sim (na : Bool) (st0 : St SimSt) (hp : st0.pend = []) (hparts : st0.dev.parts = []) :
    (sendCmd (simDevice [] na) confCmd (scheduleReload (simDevice [] na) (afterPrep (simDevice [] na) st0)).2).2 =
      loopStart na st0 := by
  unfold afterPrep
  rw [prepare_sim na _ hp hparts, schedule_sim na _ rfl (by exact hparts), conf_sim na _ rfl (by exact hparts)]
  rfl

/-- **write_only_if_all_accepted.** If `write memory` is ever received, then the change loop had
returned normally — every `check` of every command accepted the device's answer (echo intact,
output empty/INFO/WARNING) — and every change command had been sent. -/
theorem write_only_if_all_accepted (D : Device σ) (fixed : Bool) (cs : List Str) (hcs : CleanCs cs)
    (st : St σ) (h0 : st.trace = [])
    (hw : writeCmd ∈ linesOf (applyCommands D fixed cs st).2.trace) :
    (changeLoop D fixed cs (sendCmd D confCmd (scheduleReload D (afterPrep D st)).2).2).1 = .ok () ∧
    ∀ c ∈ cs, c ∈ (applyCommands D fixed cs st).2.trace := by
  have hprepNoW : ∀ s ∈ prepCmds, NoW s := (by decide_lit [c15_vocab] : ∀ s ∈ prepCmds, writeCmd ∉ splitOnNL s)
  obtain ⟨lp, htp, hsp⟩ := sends_prepareDevice D st
  obtain ⟨lg, htg, hsg, hcg⟩ := ext_guarded_sent D fixed cs hcs (afterPrep D st)
  have hnp : writeCmd ∉ linesOf (afterPrep D st).trace := by
    unfold afterPrep; rw [htp, h0]
    exact noW_lines lp (fun s hs => hprepNoW s (hsp s hs))
  -- `guarded` returned ok, otherwise the trace has no `write memory`
  rcases applyCommands_cases D fixed cs st with ⟨e, ho⟩ | ⟨e2, _, ho⟩ | ⟨hok2, ho⟩
  · rw [ho] at hw; exact absurd hw hnp
  · rw [ho] at hw; simp only at hw
    rw [htg, linesOf_append] at hw
    rcases List.mem_append.1 hw with h | h
    · exact absurd h hnp
    · exact absurd h (noW_lines lg hsg)
  · obtain ⟨lw, htw, _⟩ := sends_writeMem D 2 (guarded D fixed cs (afterPrep D st)).2
    refine ⟨guarded_ok_loop D fixed cs _ hok2, fun c hc => ?_⟩
    rw [ho, htw, htg]
    exact List.mem_append_left _ (List.mem_append_right _ (hcg hok2 c hc))

/-- a device that answers the seven preparation commands with a prompt, `reload in 2` with the
confirmation question, and then falls silent -/
def gapDevice : Device Nat where
  step n s := (n + 1, if s == reloadCmd then lit "Proceed with reload? [confirm]"
                      else if n < 7 then lit "\nrouter#" else [])

/-- **cancel_on_failure is false without its hypothesis** (F-C15c): `scheduleReload()` runs before
`defer cancelReload()`; if the device falls silent after the confirmation, the run aborts with a
reload scheduled and no `reload cancel` is ever sent. -/
theorem cancel_gap_counterexample :
    ∃ (D : Device Nat) (cs : List Str) (st : St Nat), CleanCs cs ∧ st.trace = [] ∧
      (∃ e, (applyCommands D true cs st).1 = .abort e) ∧
      pendingAfter (linesOf (applyCommands D true cs st).2.trace) = true ∧
      cancelCmd ∉ linesOf (applyCommands D true cs st).2.trace :=
  ⟨gapDevice, [], { dev := 0 }, (by intro c hc; cases hc), rfl, by
    decide_lit [c15_vocab, gapDevice, applyCommands, prepareDevice, guarded, scheduleReload, sendReloadCmd]⟩

/-! ## banners: the change loop against the scripted device

`gs : List Chg` is a change script of any length (single commands and joined two-command lines)
together with what the device does on each line: the output it prints and, optionally, a reload
banner in one of the five forms (`Form.before pad`, `.inside off`, `.afterPrompt pad`, `.after`,
`.afterLine pre post`) with any message.  `na` selects the dialogue variant of the device (`true`:
`reload in 2` is answered directly with `Proceed with reload? [confirm]`, no `Save? [yes/no]`
question); every theorem holds for both.  `st` is any client state between two commands (`Ready`:
nothing pending, reload active).  `Chg.Clean`: command lines are change lines (`isChange`), contain no line feed/BEL/`#`/device name and do not end in a
blank; outputs are whole lines, no line starting with the device name; banner messages are
non-empty lines.  `Chg.NoProbeFirst` is the exact complement of finding F-C15b. -/

/-- **banner_invariant** (`_partial`: every script, every command index, every form, every offset —
except a probing placement in the FIRST half of a joined line).  Running the script with banners
and running it without them give the same result (ok / the same command rejected with the same
non-blank output lines), the same warnings, and the same transcript once the re-arm exchanges
are removed; no other kind of abort (time-out, echo mismatch, missing prompt) can occur. -/
theorem banner_invariant_partial (na : Bool) (gs : List Chg) (st : St SimSt) (q : List Behav) (hr : Ready st)
    (hq : st.dev.queue = gs.flatMap Chg.behavs ++ q) (hc : ∀ g ∈ gs, g.Clean ∧ g.NoProbeFirst) :
    let o := changeLoop (simDevice [] na) true (gs.map Chg.cmd) st
    let o0 := changeLoop (simDevice [] na) true ((gs.map Chg.plain).map Chg.cmd)
      { st with dev := { st.dev with queue := (gs.map Chg.plain).flatMap Chg.behavs ++ q } }
    (∃ T, o.2.trace = st.trace ++ T ∧ o0.2.trace = st.trace ++ T.filter notRearm) ∧
    o.2.warns = o0.2.warns ∧
    (o.1 = .ok () ↔ o0.1 = .ok ()) ∧
    (o.1 = .ok () → Ready o.2 ∧ o.2.dev.queue = q) ∧
    (o.1 ≠ .ok () → ∃ ci R R0, o.1 = .abort (.unexpectedOutput ci R) ∧
        o0.1 = .abort (.unexpectedOutput ci R0) ∧ neLines R = neLines R0) := by
  intro o o0
  have h := loop_spec na gs st q hr hq hc
  have h0 := loop_spec na (gs.map Chg.plain)
    { st with dev := { st.dev with queue := (gs.map Chg.plain).flatMap Chg.behavs ++ q } } q
    ⟨hr.pend, hr.active, hr.parts⟩ rfl (plain_script_clean gs hc)
  rw [specOk_plain, specWarns_plain, firstBad_plain, specTrace_plain na gs (fun g hg => (hc g hg).1)] at h0
  refine ⟨⟨specTrace na gs, h.1, h0.1⟩, by rw [h.2.1, h0.2.1], ?_⟩
  cases hs : specOk gs with
  | true =>
    obtain ⟨hok, hend⟩ := h.2.2.1 hs
    exact ⟨⟨fun _ => (h0.2.2.1 hs).1, fun _ => hok⟩, fun _ => hend, fun hne => absurd hok hne⟩
  | false =>
    -- both runs are aborted by the same command
    obtain ⟨ci, R, out, e1, e2, e3⟩ := h.2.2.2.1 hs
    obtain ⟨ci0, R0, out0, f1, f2, f3⟩ := h0.2.2.2.1 hs
    rw [e2] at f2
    cases f2
    rw [e1, f1]
    exact ⟨⟨nofun, nofun⟩, nofun,
      fun _ => ⟨ci, R, R0, rfl, rfl, by rw [e3, f3]⟩⟩

theorem cleanCs_of_clean (gs : List Chg) (hc : ∀ g ∈ gs, g.Clean) : CleanCs (gs.map Chg.cmd) := by
  intro c hcm x hx
  obtain ⟨g, hg, rfl⟩ := List.mem_map.1 hcm
  have hcc := (g.lines_cmd (hc g hg) x hx).change
  exact ⟨beq_eq_false_iff_ne.1 (change_ne_fixed x cancelCmd hcc (by simp [fixedLines])),
    beq_eq_false_iff_ne.1 (change_ne_fixed x writeCmd hcc (by simp [fixedLines]))⟩

/-- **banner_invariant for the whole run** (scripts whose outputs are all accepted): the complete
`ApplyCommands` dialogue against the scripted device — preparation, `reload in 2` + confirmation,
the changes, deferred `end`, `reload cancel`, `write memory` — succeeds with and without banners,
with the same warnings, no reload pending, and transcripts that differ exactly by the re-arm
exchanges inside the change phase. -/
theorem banner_invariant_run (na : Bool) (gs : List Chg) (q : List Behav) (st0 : St SimSt)
    (hp : st0.pend = []) (ht : st0.trace = []) (hparts : st0.dev.parts = [])
    (hq : st0.dev.queue = gs.flatMap Chg.behavs ++ q) (hc : ∀ g ∈ gs, g.Clean ∧ g.NoProbeFirst)
    (hok : specOk gs = true) :
    let pre := prepCmds ++ schedLines na ++ [confCmd]
    let suf := [endCmd] ++ [cancelCmd, []] ++ [writeCmd]
    let o := applyCommands (simDevice [] na) true (gs.map Chg.cmd) st0
    let o0 := applyCommands (simDevice [] na) true ((gs.map Chg.plain).map Chg.cmd)
      { st0 with dev := { st0.dev with queue := (gs.map Chg.plain).flatMap Chg.behavs ++ q } }
    o.1 = .ok () ∧ o0.1 = .ok () ∧
    o.2.trace = pre ++ specTrace na gs ++ suf ∧
    o0.2.trace = pre ++ (specTrace na gs).filter notRearm ++ suf ∧
    o.2.warns = o0.2.warns ∧
    pendingAfter (linesOf o.2.trace) = false := by
  intro pre suf o o0
  have h := apply_sim_ok na gs q st0 hp ht hparts hq hc hok
  have h0 := apply_sim_ok na (gs.map Chg.plain) q
    { st0 with dev := { st0.dev with queue := (gs.map Chg.plain).flatMap Chg.behavs ++ q } }
    hp ht hparts rfl (plain_script_clean gs hc)
    (by rw [specOk_plain]; exact hok)
  rw [specWarns_plain] at h0
  refine ⟨h.1, h0.1, ?_, ?_, by rw [h.2.2.1, h0.2.2.1], ?_⟩
  · rw [h.2.1]; simp [fullTrace, pre, suf]
  · rw [h0.2.1, fullTrace, specTrace_plain na gs (fun g hg => (hc g hg).1)]; simp [pre, suf]
  · exact no_reload_pending_after_success (simDevice [] na) true _
      (cleanCs_of_clean gs (fun g hg => (hc g hg).1)) st0 ht h.1

/-- **rearm_on_one_minute** (model of the repaired code).  In a script whose outputs are all
accepted, for every element `g` (single command or joined line, at any position): its `Send` is
followed by exactly one `do reload in 2` (/ `n`) / confirmation exchange (`rearmLines na`, in both
dialogue variants of the device: with and without the `Save? [yes/no]` question) if the answer to ANY of its
lines carried a `SHUTDOWN in 0:01:00` / `00:01:00` banner (any form, any offset), by none
otherwise, and then by the next command. -/
theorem rearm_on_one_minute (na : Bool) (pre post : List Chg) (g : Chg) (st : St SimSt) (q : List Behav) (hr : Ready st)
    (hq : st.dev.queue = (pre ++ g :: post).flatMap Chg.behavs ++ q)
    (hc : ∀ x ∈ pre ++ g :: post, x.Clean ∧ x.NoProbeFirst) (hok : specOk (pre ++ g :: post) = true) :
    let o := changeLoop (simDevice [] na) true ((pre ++ g :: post).map Chg.cmd) st
    o.1 = .ok () ∧
    o.2.trace = st.trace ++ (pre.flatMap fun x => x.cmd :: (if x.need then rearmLines na else [])) ++
      (g.cmd :: (if g.need then rearmLines na else [])) ++ specTrace na post ∧
    (specTrace na post).head? = post.head?.map Chg.cmd := by
  intro o
  have h := loop_spec na (pre ++ g :: post) st q hr hq hc
  have hpre : specOk pre = true := by
    simp only [specOk, List.all_append, Bool.and_eq_true] at hok; exact hok.1
  have hg : g.valid = true := by
    simp only [specOk, List.all_append, List.all_cons, Bool.and_eq_true] at hok; exact hok.2.1
  refine ⟨(h.2.2.1 hok).1, ?_, ?_⟩
  · rw [h.1, specTrace_append_ok na pre (g :: post) hpre]
    simp [specTrace, hg]
  · cases post with
    | nil => rfl
    | cons x xs => simp [specTrace]

/-- the joined line of the counterexamples, a route replacement; `b` is what the device does on its
first half -/
def routeMove (b : Behav) : Chg :=
  .two (lit "no ip route 10.2.0.0 255.255.0.0 10.8.2.1") (lit "ip route 10.2.0.0 255.255.0.0 10.9.2.2") b {}

theorem routeMove_clean (b : Behav) (hb : cleanBehavB b = true) : (routeMove b).Clean :=
  Chg.clean_of_B _ (by simp only [routeMove, Chg.cleanB, changeCmdB_routeMove, hb, Bool.true_and]; decide +kernel)

/-- **rearm_on_one_minute is false of the unchanged code** (F-C15, `fixed := false`): a joined
two-command line whose FIRST half is answered with a `SHUTDOWN in 0:01:00` banner inside the
echo: no `do reload in 2` is ever sent, although the run succeeds. -/
theorem rearm_unfixed_counterexample :
    ∃ g : Chg, g.Clean ∧ g.NoProbeFirst ∧ g.need = true ∧
      (applyCommands (simDevice [] false) false [g.cmd] { dev := { queue := g.behavs } }).1 = .ok () ∧
      doReloadCmd ∉ linesOf (applyCommands (simDevice [] false) false [g.cmd] { dev := { queue := g.behavs } }).2.trace ∧
      -- the repaired code re-arms exactly once on the same input
      rearms (linesOf (applyCommands (simDevice [] false) true [g.cmd] { dev := { queue := g.behavs } }).2.trace) = 1 := by
  have hc : ∀ x ∈ [routeMove { form := .inside 5, msg := lit " --- SHUTDOWN in 0:01:00 ---" }],
      x.Clean ∧ x.NoProbeFirst := by
    intro x hx; rw [List.mem_singleton.1 hx]
    exact ⟨routeMove_clean _ (by decide_lit [lit_ofList]),
      Chg.noProbe_of_B _ (by decide_lit [routeMove, lit_ofList])⟩
  -- the repaired code: by the theorem about clean scripts; the unchanged code: its loop is evaluated
  refine ⟨_, (hc _ (.head _)).1, (hc _ (.head _)).2, by decide_lit [routeMove, Chg.need, needOf, oneMinute, lit_ofList],
    and_assoc.1 ⟨?_, ?_⟩⟩
  · exact apply_sim_run (fun r t => r = .ok () ∧ doReloadCmd ∉ linesOf t) false false _ _ rfl rfl
      (by
        rw [simDevice_fold]
        decide_lit [c15_vocab, routeMove, loopStart])
  · have h := rearms_run false _ []
      { dev := { queue := (routeMove { form := .inside 5, msg := lit " --- SHUTDOWN in 0:01:00 ---" }).behavs } }
      rfl rfl rfl rfl hc (by decide +kernel)
    rw [List.map_cons, List.map_nil] at h
    exact h.trans (by decide_lit [routeMove, needCount, Chg.need, needOf, oneMinute, lit_ofList])

theorem plain_run_ok (g : Chg) (hcl : g.Clean) (hv : g.valid = true) :
    (applyCommands (simDevice [] false) true [g.plain.cmd] { dev := { queue := g.plain.behavs } }).1 = .ok () := by
  have h := (apply_sim_ok false [g.plain] [] { dev := { queue := g.plain.behavs } } rfl rfl rfl (by simp)
    (by intro x hx; rw [List.mem_singleton.1 hx]; exact ⟨Chg.plain_clean g hcl, Chg.plain_noProbe g⟩)
    (by simp [specOk, hv])).1
  rwa [List.map_cons, List.map_nil] at h

/-- **banner_invariant is false without `NoProbeFirst`** (F-C15b): a `SHUTDOWN in 0:02:00` banner
with a fresh prompt before the echo of the FIRST half of a joined line: `WaitShort("[#] ?$")`
consumes the answers to both halves, `check` of the second half waits for a prompt that is gone
and the run aborts with a time-out, although the banner-free run succeeds. Likewise for the banner
after the output without a fresh prompt (`TryPrompt` consumes the second answer). -/
theorem banner_invariant_counterexample :
    ∃ g : Chg, g.Clean ∧ ¬ g.NoProbeFirst ∧
      (applyCommands (simDevice [] false) true [g.cmd] { dev := { queue := g.behavs } }).1 =
        .abort (.timeout promptName) ∧
      (applyCommands (simDevice [] false) true [g.plain.cmd] { dev := { queue := g.plain.behavs } }).1 = .ok () ∧
    ∃ g' : Chg, g'.Clean ∧ ¬ g'.NoProbeFirst ∧
      (applyCommands (simDevice [] false) true [g'.cmd] { dev := { queue := g'.behavs } }).1 =
        .abort (.timeout promptName) := by
  have hcl : (routeMove { form := .before 2, msg := lit " --- SHUTDOWN in 0:02:00 ---" }).Clean :=
    routeMove_clean _ (by decide_lit [lit_ofList])
  refine ⟨_, hcl, by unfold routeMove Chg.NoProbeFirst; decide +kernel, ?_, ?_,
    routeMove { form := .after, msg := lit " --- SHUTDOWN in 0:02:00 ---" },
    routeMove_clean _ (by decide_lit [lit_ofList]),
    by unfold routeMove Chg.NoProbeFirst; decide +kernel, ?_⟩
  · exact apply_sim_run (fun r _ => r = .abort (.timeout promptName)) false true _ _ rfl rfl
      (by
        rw [simDevice_fold]
        decide_lit [c15_vocab, routeMove])
  · -- the same line without the banner: a clean script
    exact plain_run_ok _ hcl (by decide +kernel)
  · exact apply_sim_run (fun r _ => r = .abort (.timeout promptName)) false true _ _ rfl rfl
      (by
        rw [simDevice_fold]
        decide_lit [c15_vocab, routeMove])

/-- the hypotheses are satisfiable: a script with a joined line, the scripted device -/
example : CleanCs [lit "ip route 10.1.0.0 255.255.0.0 10.9.1.1",
    lit "no ip route 10.2.0.0 255.255.0.0 10.8.2.1\nip route 10.2.0.0 255.255.0.0 10.9.2.2"] := by
  decide_lit [c15_vocab, CleanCs, OKsend]

example : (scheduleReload (simDevice [] false) (afterPrep (simDevice [] false) { dev := {} })).1 = .ok () :=
  schedule_ok_sim false _ rfl rfl

theorem one_command_run :
    let o := applyCommands (simDevice [] false) true [lit "ip route 10.1.0.0 255.255.0.0 10.9.1.1"] { dev := {} }
    o.1 = .ok () ∧ writeCmd ∈ linesOf o.2.trace := by
  exact apply_sim_run (fun r t => r = .ok () ∧ writeCmd ∈ linesOf t) false true _ _ rfl rfl (by
    rw [simDevice_fold]
    decide_lit [c15_vocab, loopStart])

example : writeCmd ∈ linesOf (applyCommands (simDevice [] false) true
    [lit "ip route 10.1.0.0 255.255.0.0 10.9.1.1"] { dev := {} }).2.trace := one_command_run.2

example : (applyCommands (simDevice [] false) true
    [lit "ip route 10.1.0.0 255.255.0.0 10.9.1.1"] { dev := {} }).1 = .ok () := one_command_run.1

/-- the hypotheses of the banner theorems are satisfiable: the state in which `ApplyCommands` enters
its change loop against the scripted device is `Ready`, for a clean script with banners -/
example :
    let g1 := Chg.one (lit "ip route 10.1.0.0 255.255.0.0 10.9.1.1")
      { form := .before 2, msg := lit " --- SHUTDOWN in 0:01:00 ---", out := lit "INFO: x\n" }
    let g2 := Chg.two (lit "no ip route 10.2.0.0 255.255.0.0 10.8.2.1") (lit "ip route 10.2.0.0 255.255.0.0 10.9.2.2")
      { form := .afterPrompt 2, msg := lit " --- SHUTDOWN in 0:02:00 ---" } { form := .after, msg := lit "x" }
    let D := simDevice [] true
    let st := (sendCmd D confCmd (scheduleReload D (afterPrep D { dev := { queue := g1.behavs ++ g2.behavs } })).2).2
    (st.pend = [] ∧ st.reloadActive = true ∧ st.dev.parts = [] ∧ st.dev.queue = g1.behavs ++ g2.behavs) ∧
    g1.cleanB = true ∧ g2.cleanB = true ∧ g2.noProbeFirstB = true ∧ specOk [g1, g2] = true := by
  intro g1 g2 D st
  -- `loopStart_sim` is stated for a variable state: on this closed one the kernel would run the dialogue to compare two spellings
  rw [show st = _ from loopStart_sim true _ rfl rfl]
  simp only [g1, g2, Chg.cleanB, changeCmdB_route1, changeCmdB_routeMove, Bool.true_and]
  decide_lit [lit_ofList]

def obligations : List Lean.Name :=
  [``guard_brackets_changes, ``write_only_if_all_accepted, ``no_reload_pending_after_success,
   ``cancel_on_failure_partial, ``cancel_gap_counterexample,
   ``banner_invariant_partial, ``banner_invariant_run, ``banner_invariant_counterexample,
   ``rearm_on_one_minute, ``rearm_unfixed_counterexample]

end NA.Ios
