import NA.Proofs.C06Config
import NA.Proofs.C06Gate
/-!
# C06 — the configured banner text is what must be found; the expected name is compared exactly

Configuration-file side of the gate: `program.LoadConfig`, model `NA.Gate.Config`.
-/
namespace NA.C06Config
open NA.Gate NA.Gate.Config NA.Gate.Spec

deriving instance DecidableEq for Except

/-- **The configured banner text is taken whole**: if LoadConfig yields a banner regexp with
source `src`, the file has a line whose fields are exactly `checkbanner`, `=`, `src`, and `src`
compiles — for every file and every notion of "compiles". -/
theorem banner_taken_whole (valid : String → Bool) (lines : List String) (src : String)
    (h : loadLines valid lines = .ok (some src)) :
    ∃ l ∈ lines, fieldsS l = ["checkbanner", "=", src] ∧ valid src = true := by
  unfold loadLines at h
  split at h
  · cases h
  · rename_i acc hgo
    split at h
    · cases h
    · exact (go_banner valid lines {} acc hgo src (by simpa using h)).resolve_left nofun


/-- **Several words are rejected, never truncated**: if the first line of the file is a
`checkbanner` line with two or more values, LoadConfig fails (whatever follows). -/
theorem multiword_banner_rejected (valid : String → Bool) (line : String) (v1 v2 : String)
    (rest : List String) (more : List String)
    (hf : fieldsS line = "checkbanner" :: "=" :: v1 :: v2 :: rest) :
    loadLines valid (line :: more) = .error "one-value" := by
  simp only [loadLines, go, step_multiword valid {} line v1 v2 rest hf rfl]

/-- kernel-evaluated instances: two words, quoted words, trailing blanks, tabs, a comment, a
missing `=`, a duplicate, an invalid regexp (here: "valid" = no parenthesis). -/
theorem config_examples :
    let valid : String → Bool := fun s => !s.toList.contains '('
    let base := "basedir = /home/netspoc"
    loadLines valid [base, "checkbanner = managed by NetSPoC"] = .error "one-value" ∧
    loadLines valid [base, "checkbanner = \"managed by NetSPoC\""] = .error "one-value" ∧
    loadLines valid [base, "checkbanner = NetSPoC   "] = .ok (some "NetSPoC") ∧
    loadLines valid [base, "\tcheckbanner\t=\tNetSPoC"] = .ok (some "NetSPoC") ∧
    loadLines valid [base, "# checkbanner = NetSPoC"] = .ok none ∧
    loadLines valid [base, "checkbanner=NetSPoC"] = .ok none ∧
    loadLines valid [base, "checkbanner = "] = .ok none ∧
    loadLines valid [base, "checkbanner = NetSPoC", "checkbanner = other words"] = .ok (some "NetSPoC") ∧
    loadLines valid [base, "checkbanner = Net(SPoC"] = .error "regexp" ∧
    loadLines valid ["checkbanner = NetSPoC"] = .error "basedir" ∧
    loadLines valid [base, "timeout = soon"] = .error "int" ∧
    loadLines valid [base, "systemuser = a b"] = .error "one-value" ∧
    loadLines valid [base, "server_ip_list = 10.1.1.1 10.1.1.2", "checkbanner = NetSPoC"] = .ok (some "NetSPoC") := by
  decide +kernel

/-- A rejected configuration file ends the run at once: nothing is sent, exit status 1, a
diagnostic. -/
theorem config_error_no_contact (b : Backend) (valid : String → Bool) (compile : String → Option Rx)
    (cfg : Cfg) (dev : Dev) (plan : List String) (text e : String)
    (h : loadConfig valid text = .error e) :
    (runWithConfig b valid compile cfg dev plan text).trace = [] ∧
    (runWithConfig b valid compile cfg dev plan text).exit = 1 ∧
    (runWithConfig b valid compile cfg dev plan text).diagnostic.isSome = true := by
  simp [runWithConfig, h, configErrorSt, St.exit, St.diagnostic]

/-- An accepted file runs the gate with the regexp compiled from the WHOLE configured value
(`banner_taken_whole`); the theorems of `NA.Props.C06` then say what that regexp must find. -/
theorem config_ok_is_gate (b : Backend) (valid : String → Bool) (compile : String → Option Rx)
    (cfg : Cfg) (dev : Dev) (plan : List String) (text src : String)
    (h : loadConfig valid text = .ok (some src)) :
    runWithConfig b valid compile cfg dev plan text =
      runMain b ⟨{ cfg with banner := compile src, bannerSrc := src }, dev, plan⟩ ∧
    ∃ l ∈ text.splitOn "\n", fieldsS l = ["checkbanner", "=", src] := by
  refine ⟨by simp [runWithConfig, h], ?_⟩
  obtain ⟨l, hl, hf, _⟩ := banner_taken_whole valid _ src h
  exact ⟨l, hl, hf⟩

/-- What each backend compares (after removing the line end / prompt character) is the complete
expected name. -/
theorem name_compare_exact (r : Reply) (n : String) :
    (hostIs .asa r n = true ↔ trimSuffixL (replyText r) ['\n'] = n.toList) ∧
    (hostIs .linux r n = true ↔ trimSuffixL (replyText r) ['\n'] = n.toList) ∧
    (hostIs .ios r n = true ↔ trimSuffixL (trimSpaceL (replyText r)) ['#'] = n.toList) := by
  simp [hostIs]

/-- names with dots, other letter case, prefixes and extensions of the reported name: all
different (kernel-evaluated, every CLI backend and PAN-OS). -/
theorem name_examples :
    hostIs .linux (.text "fw\n") "fw.dmz2" = false ∧ hostIs .linux (.text "fw.dmz2\n") "fw.dmz2" = true ∧
    hostIs .linux (.text "fw.dmz1\n") "fw.dmz2" = false ∧ hostIs .linux (.text "fw1\n") "fw" = false ∧
    hostIs .linux (.text "fw\n") "fw1" = false ∧ hostIs .linux (.text "FW\n") "fw" = false ∧
    hostIs .asa (.text "fw\n") "fw.dmz2" = false ∧ hostIs .asa (.text "Fw\n") "fw" = false ∧
    hostIs .ios (.text "\nfw#") "fw.dmz2" = false ∧ hostIs .ios (.text "\nfw.dmz2# ") "fw.dmz2" = true ∧
    hostIs .ios (.text "\nfw1#") "fw" = false ∧
    hostIs .panos (.conf "fw" []) "fw.dmz2" = false ∧ hostIs .panos (.conf "FW" []) "fw" = false := by
  decide +kernel

/-- A Linux device called `fw.dmz2` in Netspoc, a host that answers `fw`: refused, nothing but
read-only requests (instance of `wrong_hostname_no_change`, evaluated). -/
example :
    let env : Env := { cfg := { name := "fw.dmz2" },
                       dev := fun _ o => match o with
                         | .wait => .text "\r\nroot@fw:~# "
                         | .lit "hostname -s" => .text "fw\n"
                         | _ => .text "",
                       plan := ["ip route add 10.0.0.0/8 via 10.1.1.99"] }
    (runMain .linux env).exit = 1 ∧ NoChange .linux (runMain .linux env).trace ∧
      .lit "hostname -s" ∈ (runMain .linux env).trace := by
  decide +kernel

def obligations : List Lean.Name := [
  ``banner_taken_whole, ``multiword_banner_rejected, ``config_examples, ``config_error_no_contact,
  ``config_ok_is_gate, ``name_compare_exact, ``name_examples]

end NA.C06Config
