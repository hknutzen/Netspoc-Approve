import NA.Proofs.C03Plan
import NA.Proofs.C03Spec
import NA.Proofs.C03Members
import NA.Proofs.C03Groups
import NA.Proofs.C03Marks
import NA.Model.PanOsOld
import NA.Proofs.C03Device
import NA.Proofs.C03Idem
import NA.Proofs.C03GrpConv
/-!
# C03 — PAN-OS approve converges to the Netspoc-equivalent rulebase
(with the PAN-OS theorems of C07, C08, C10; names prefixed `pan_`, whole-vsys theorems `panos_`)

Property theorems only.  `planVsys diff a b` is the model of `diffConfig(a, b)` (tied to the real
planner on every run), `planDevice` the model of `GetChanges`; `exec` / `execAll` / `execDev` is
the strict candidate tree of the device; `diff` is ANY function that returns valid normalised
edit scripts (`GoodDiffer`; `myers.Diff` is validated on every call the harness observes).
Numbers of rules, members, groups, vsys are unbounded everywhere.
-/
namespace NA.PanOs

/-- Delete everything, insert everything: a (bad but) valid and normalised script for every pair. -/
def trivialDiff : Differ := fun n m _ =>
  if n = 0 then [⟨0, 0, 0, m⟩] else if m = 0 then [⟨0, n, 0, 0⟩] else [⟨0, n, 0, 0⟩, ⟨n, n, 0, m⟩]

/-- Non-vacuity of `GoodDiffer`. -/
theorem trivialDiff_good : GoodDiffer trivialDiff := by
  intro n m eq
  unfold trivialDiff
  by_cases hn : n = 0
  · subst hn
    simp [validScript, validFrom, normalised, Range.isInsert]
  · by_cases hm : m = 0
    · subst hm
      simp [hn, validScript, validFrom, normalised, Range.isDelete]
    · have hm' : (0 == m) = false := beq_false_of_ne (Ne.symm hm)
      have h0n : (0 == n) = false := beq_false_of_ne (Ne.symm hn)
      simp [hn, hm, validScript, validFrom, normalised, Range.isInsert, Range.isDelete, Range.op, h0n, hm']

/-- **Rules converge.**  For every device vsys `a` with distinct rule names, every target `b`
with distinct rule names, and every valid normalised edit script: the order-relevant requests of
the plan (deletes in range order, `set` of every inserted rule deferred to the end and followed
by `move … where=before <next surviving rule>`) are all applicable in sequence, and they turn
the device's rule sequence into the target's (`targetOrder`: device name at kept positions, new
name at inserted positions, one entry per target rule). -/
theorem pan_rules_converge (diff : Differ) (hd : GoodDiffer diff) (a b : Vsys)
    (ha : (ruleNames a.rules).Nodup) (hb : (ruleNames b.rules).Nodup) :
    runOrd (ruleNames a.rules) ((planVsys diff a b).filterMap ordOf) =
        some (targetOrder (ruleNames a.rules) (newRuleNames a b) (ruleScript diff a b)) ∧
      (targetOrder (ruleNames a.rules) (newRuleNames a b) (ruleScript diff a b)).length =
        b.rules.length := by
  obtain ⟨eq, hv, hn⟩ := ruleScript_good diff hd a b
  have hlenB := newRuleNames_length a b
  have hnd : (ruleNames a.rules ++ newRuleNames a b).Nodup :=
    uniqNames_nodup_append suffixInj _ _ ha hb
  constructor
  · rw [planVsys_ord]
    exact order_converges _ _ _ hv hn hnd
  · rw [targetOrder_length_of_validScript _ _ hv, hlenB]

/-- … on the strict device: executing the plan, the rule names after the accepted part are
those the order operations give; if the whole plan is accepted the device carries the target's
rule sequence; and whatever stops the run, it is never a missing rule, a taken rule name or a
missing move destination (the C08 share of the rule order). -/
theorem pan_rules_converge_on_device (diff : Differ) (hd : GoodDiffer diff)
    (sh : Shared) (a b : Vsys) (ha : (ruleNames a.rules).Nodup) (hb : (ruleNames b.rules).Nodup) :
    ((execAll sh a (planVsys diff a b)).2.2 = none →
        ruleNames (execAll sh a (planVsys diff a b)).1.rules =
          targetOrder (ruleNames a.rules) (newRuleNames a b) (ruleScript diff a b)) ∧
      (∀ e, (execAll sh a (planVsys diff a b)).2.2 = some e → orderError e = false) := by
  obtain ⟨hrun, _⟩ := pan_rules_converge diff hd a b ha hb
  constructor
  · intro hnone
    have hk := ((execAll_count sh (planVsys diff a b) a).2).mp hnone
    have := execAll_ord sh (planVsys diff a b) a
    rw [hk, List.take_length, hrun] at this
    exact (Option.some.inj this).symm
  · intro e he
    exact execAll_no_order_error sh _ a _ hrun e he

/-- **Member lists converge, both branches of the heuristic.**  `la` is the member list on the
device (source or destination of rule `n`; for the members of a group see
`pan_group_members_converge`), `lb` the target's; no
element is an address-group of either side (Netspoc's lists: addresses only; lists holding
groups: see F-C03e), no element twice.  Then for any valid script:
* if the heuristic `2·d > u + 1` says "replace", `equalizeList` sends exactly one `edit` with
  the target list, and the device list becomes `lb`;
* otherwise it sends one `delete` per member of the delete ranges and one `set` with all members
  of the insert ranges; the device accepts every `delete` (the member is there) and the list
  becomes kept ++ inserted, a permutation of `lb`.
In both cases nothing else of the planner state changes. -/
theorem pan_members_converge (diff : Differ) (hd : GoodDiffer diff) (fuel : Nat) (st : St)
    (la lb : List String) (n : String) (f : Fld)
    (hA : ∀ x ∈ la, st.aGrpIdx x = none) (hB : ∀ y ∈ lb, st.bGrpIdx y = none)
    (hla : la.Nodup) (hlb : lb.Nodup) :
    ∃ cs l', equalizeList diff (fuel + 1) st la lb n f = st.emitAll cs ∧
      runMem la (cs.filterMap memOf) = some l' ∧ l'.Perm lb ∧
      (replaceInstead la.length (deletedCount (diff la.length lb.length
          (fun i j => memberEq st (la.getD i "") (lb.getD j "")))) = true →
        cs = [.editList n f lb] ∧ l' = lb) := by
  obtain ⟨hv, _⟩ := hd la.length lb.length (fun i j => memberEq st (la.getD i "") (lb.getD j ""))
  have hbound := validScript_bounds hv
  unfold equalizeList
  rw [hasEqLists_plain diff fuel st la lb (.rule n f) hA hB hbound]
  cases hrep : replaceInstead la.length (deletedCount (diff la.length lb.length
      (fun i j => memberEq st (la.getD i "") (lb.getD j ""))))
  · -- incremental
    simp only [Bool.false_eq_true, if_false]
    have hvf := validScript_incremental hv hrep
    obtain ⟨hrun, hperm⟩ := members_incremental la lb _ (memberEq_plain st la lb hA hB) _ hvf hla hlb
    refine ⟨_, _, rfl, ?_, hperm, by intro h; cases h⟩
    rw [listCmds_memOf]
    exact hrun
  · -- replace
    simp only [if_true, Bool.false_eq_true, if_false, adaptGroups_plain st lb hB]
    refine ⟨[.editList n f lb], lb, ?_, rfl, List.Perm.refl _, fun _ => ⟨rfl, rfl⟩⟩
    simp [St.emit, St.emitAll]

/-- The same for the member list of an address-group `g` that is equalised in place
(`hasEqualizedLists` on the path of the group): if `true` is answered, it is the incremental
branch, with the same requests (`delete …/static/member`, `set …/static`). -/
theorem pan_group_members_converge (diff : Differ) (hd : GoodDiffer diff) (fuel : Nat) (st : St)
    (la lb : List String) (g : String)
    (hA : ∀ x ∈ la, st.aGrpIdx x = none) (hB : ∀ y ∈ lb, st.bGrpIdx y = none)
    (hla : la.Nodup) (hlb : lb.Nodup)
    (hok : (hasEqLists diff (fuel + 1) st la lb (.group g)).1 = true) :
    ∃ cs l', (hasEqLists diff (fuel + 1) st la lb (.group g)).2 = st.emitAll cs ∧
      runMem la (cs.filterMap memOf) = some l' ∧ l'.Perm lb := by
  obtain ⟨hv, _⟩ := hd la.length lb.length (fun i j => memberEq st (la.getD i "") (lb.getD j ""))
  have hbound := validScript_bounds hv
  rw [hasEqLists_plain diff fuel st la lb (.group g) hA hB hbound] at hok ⊢
  revert hok
  cases hrep : replaceInstead la.length (deletedCount (diff la.length lb.length
      (fun i j => memberEq st (la.getD i "") (lb.getD j ""))))
  · intro _
    simp only [Bool.false_eq_true, if_false]
    have hvf := validScript_incremental hv hrep
    obtain ⟨hrun, hperm⟩ := members_incremental la lb _ (memberEq_plain st la lb hA hB) _ hvf hla hlb
    refine ⟨_, _, rfl, ?_, hperm⟩
    rw [listCmds_memOf]
    exact hrun
  · intro hok
    simp at hok

/-- **Group reuse is sound.**  `findGroupOnDevice` names a device group for a target group only
if that device group is not yet `needed` — neither claimed for another target group nor changed
by this plan — and its member list is identical to the target group's; it is the first such
group; the only effect is that the device group becomes `needed` (it is never removed and never
offered again) and the target group is not transferred but known under the device name.
Otherwise no such device group exists and nothing changes.  And a device group that is
`needed` is never changed by `hasEqualizedGroups`, which answers `true` for it only on behalf of
the target group it was claimed for. -/
theorem pan_group_reuse_sound (st : St) (gbi : Nat) :
    (let ms := (st.bGrp[gbi]?.map (·.g.members)).getD []
     (∃ i ga, st.aGrp[i]? = some ga ∧ ga.needed = false ∧ ga.g.members = ms ∧
        (∀ j, j < i → ∀ g, st.aGrp[j]? = some g → ¬ (g.needed = false ∧ g.g.members = ms)) ∧
        findGroupOnDevice st gbi = (ga.g.name, { st with
          aGrp := modAt st.aGrp i (fun g => { g with needed := true }),
          bGrp := modAt st.bGrp gbi (fun g => { g with needed := false, onDev := ga.g.name }) })) ∨
     ((∀ g ∈ st.aGrp, ¬ (g.needed = false ∧ g.g.members = ms)) ∧ findGroupOnDevice st gbi = ("", st))) ∧
    (∀ (recur : St → List String → List String → MPath → Bool × St) (gai : Nat),
      (st.aGrp[gai]?.getD default).needed = true →
        (eqGroups recur st gai gbi).2 = st ∧
        ((eqGroups recur st gai gbi).1 = true →
          (st.bGrp[gbi]?.getD default).onDev = (st.aGrp[gai]?.getD default).g.name)) :=
  ⟨findGroupOnDevice_sound st gbi, fun recur gai h =>
    ⟨eqGroups_needed_unchanged recur st gai gbi h, fun ht => (eqGroups_needed_true recur st gai gbi h ht).1⟩⟩

/-- **Generated names are fresh and pairwise distinct** (after the repair 86e0d84): the new
names of the target's rules (resp. groups) avoid every name of the device, and no two target
entries get the same name — provided the target's own names are distinct. -/
theorem pan_uniq_names (taken names : List String) (hnd : names.Nodup) :
    (∀ n ∈ uniqNames taken names, n ∉ taken) ∧ (uniqNames taken names).Nodup ∧
      (uniqNames taken names).length = names.length :=
  uniqNames_spec suffixInj taken names hnd

/-- The statement is false of the loop as it was before the repair (new names were checked
against the device's names only): device rule `x`, target rules `x` and `x-1` — both end up as
`x-1` (replayed on the real planner: corpus:F-C03c). -/
theorem pan_uniq_names_counterexample :
    ∃ taken names : List String, names.Nodup ∧ ¬ (uniqNamesOld taken names).Nodup :=
  ⟨["x"], ["x", "x-1"], by decide +kernel, by decide +kernel⟩

/-- What held before the repair: every new name avoids the device's names. -/
theorem pan_uniq_names_partial (taken names : List String) :
    ∀ n ∈ uniqNamesOld taken names, n ∉ taken := by
  intro n hn
  simp only [uniqNamesOld, List.mem_map] at hn
  obtain ⟨x, _, rfl⟩ := hn
  split
  · exact freshName_not_mem suffixInj taken x
  · rename_i h; simpa using h

/-- **Objects first, removals last.**  The plan is: definitions of objects (only `set` / `edit`
of addresses, address-groups, services, service-groups), then the requests on rules and member
lists (none of which defines or removes an address, service or service-group or removes a
group), then removals of objects (only those). -/
theorem pan_objects_before_rules (diff : Differ) (a b : Vsys) :
    ∃ t m r, planVsys diff a b = t ++ m ++ r ∧
      (∀ c ∈ t, c.isTransfer = true) ∧ (∀ c ∈ m, c.isRuleCmd = true) ∧ (∀ c ∈ r, c.isRemoval = true) := by
  refine ⟨_, _, _, rfl, transferCmds_kind _, ?_, removeCmds_kind _⟩
  exact planState_out_kind diff a b

/-- **Removals come last and spare what the target still names.**  Every removal is one of the
last requests (`pan_objects_before_rules`), and no device address is removed that a rule of the
target names in its source or destination as an address (not as a group) — for every device with distinct
address names, whatever the script.  (That the objects removed are unreferenced ON THE DEVICE at that
moment follows from the convergence of all lists; that part is checked by the oracle: the strict
device refuses the removal of a referenced object.) -/
theorem pan_removals_last_unreferenced (diff : Differ) (a b : Vsys)
    (ha : (a.addrs.map (·.name)).Nodup) (r : Rule) (x : String) (hr : r ∈ b.rules)
    (hx : x ∈ r.src ∨ x ∈ r.dst) (hg : ∀ g ∈ b.groups, g.name ≠ x) (hb : ∃ o ∈ b.addrs, o.name = x) :
    Cmd.delAddr x ∉ planVsys diff a b ∧
      (∃ t m rm, planVsys diff a b = t ++ m ++ rm ∧ (∀ c ∈ rm, c.isRemoval = true) ∧
        (∀ c ∈ t ++ m, c.isRemoval = false)) := by
  refine ⟨planVsys_spares_address diff a b ha r x hr hx hg hb, ?_⟩
  obtain ⟨t, m, rm, h, ht, hm, hrm⟩ := pan_objects_before_rules diff a b
  refine ⟨t, m, rm, h, hrm, ?_⟩
  intro c hc
  rcases List.mem_append.mp hc with hc | hc
  · exact Cmd.isRemoval_of_isTransfer (ht c hc)
  · exact Cmd.isRemoval_of_isRuleCmd (hm c hc)

/-- **Scope.**  `GetChanges` emits requests only for vsys names that the device has and the
target names (that a request for one vsys changes no other vsys of the device: `pan_frame`). -/
theorem pan_scope (diff : Differ) (devA devB : String) (dev tgt : List Vsys)
    (l : List (String × List Cmd)) (h : planDevice diff devA devB dev tgt = .ok l) :
    ∀ p ∈ l, (∃ v ∈ dev, v.name = p.1) ∧ (∃ v ∈ tgt, v.name = p.1) := by
  rw [planDevice_entries h]
  intro p hp
  obtain ⟨v1, hv1, hp⟩ := List.mem_filterMap.mp hp
  unfold devEntry at hp
  split at hp
  · cases hp
  · rename_i v2 hv2
    dsimp only at hp
    split at hp
    · cases hp
    · simp only [Option.some.injEq] at hp
      subst hp
      have hmem := vsysMap_mem hv2
      exact ⟨⟨v1, hv1, hmem.2.symm⟩, ⟨v2, hmem.1, rfl⟩⟩

/-- Frame: a request for vsys `vs` leaves every other vsys as it was. -/
theorem pan_frame {sh : Shared} {d d' : Device} {vs : String} {c : Cmd}
    (h : execDev sh d vs c = .ok d') :
    d'.length = d.length ∧ ∀ (i : Nat) (v : Vsys), d[i]? = some v → v.name ≠ vs → d'[i]? = some v :=
  execDev_frame h

/-- **Every prefix of an accepted script is accepted**, completely and without refusal, so
every cut position of C10 is a state the device really reaches. -/
theorem pan_prefix_wf (sh : Shared) (cs : List Cmd) (v : Vsys) (j : Nat)
    (hj : j ≤ (execAll sh v cs).2.1) :
    (execAll sh v (cs.take j)).2.1 = j ∧ (execAll sh v (cs.take j)).2.2 = none :=
  execAll_prefix sh cs v j hj

/-- **Resume.**  Cut the rule-order requests of a plan after any number `k` of them: the device
has accepted them, its rule names `l` are still pairwise distinct (so it is a legitimate device
state), and a second run — with whatever target rule names `bNames` (distinct) and whatever
valid normalised script the new comparison yields — again generates fresh names and converges
to the order its own script describes.  (The full C10 statement needs the convergence of the
content as well; that part is checked end to end by the oracle from every cut.) -/
theorem pan_resume_converges (diff : Differ) (hd : GoodDiffer diff) (a b : Vsys)
    (ha : (ruleNames a.rules).Nodup) (hb : (ruleNames b.rules).Nodup) (k : Nat) :
    ∃ l, runOrd (ruleNames a.rules) (((planVsys diff a b).filterMap ordOf).take k) = some l ∧ l.Nodup ∧
      ∀ (bNames : List String) (eq : Nat → Nat → Bool) (rs : List Range), bNames.Nodup →
        validScript eq l.length (uniqNames l bNames).length rs = true → normalised rs = true →
        runOrd l (orderOps l (uniqNames l bNames) rs) = some (targetOrder l (uniqNames l bNames) rs) := by
  obtain ⟨hrun, _⟩ := pan_rules_converge diff hd a b ha hb
  obtain ⟨l, hl⟩ := runOrd_take _ _ _ k hrun
  have hnd := runOrd_nodup _ _ _ hl ha
  refine ⟨l, hl, hnd, ?_⟩
  intro bNames eq rs hbn hv hn
  exact order_converges l _ rs hv hn (uniqNames_nodup_append suffixInj l bNames hnd hbn)

/-- **No rule request for an identity script.**  If the comparison of the rule lists pairs
every device rule with a target rule (all ranges are equal ranges — what Myers returns for a
device whose rules already match the target's one by one), the plan contains no `delete`,
`set` or `move` of a rule. -/
theorem pan_idempotent_rules (diff : Differ) (a b : Vsys)
    (h : ∀ r ∈ ruleScript diff a b, r.kind = .eq) :
    (planVsys diff a b).filterMap ordOf = [] := by
  rw [planVsys_ord, orderOps_identity _ _ _ h]

/-- **No member request for an equal list.**  A source / destination list that already equals
the target's (no groups involved) yields no request and leaves the planner state unchanged. -/
theorem pan_idempotent_lists (diff : Differ) (hid : IdentityDiffer diff) (fuel : Nat) (st : St)
    (la : List String) (n : String) (f : Fld)
    (hA : ∀ x ∈ la, st.aGrpIdx x = none) (hB : ∀ y ∈ la, st.bGrpIdx y = none) :
    equalizeList diff (fuel + 1) st la la n f = st :=
  equalizeList_same diff hid fuel st la n f hA hB

def idDiff : Differ := fun n m _ => [⟨0, n, 0, m⟩]

def sgDev : Vsys :=
  { name := "v",
    rules := [{ name := "r1", hdr := "h", src := ["any"], dst := ["any"], srv := ["test"] }],
    svcs := [{ name := "tcp 80", val := "80" }, { name := "tcp 443", val := "443" }],
    sgroups := [{ name := "test", members := ["tcp 80", "tcp 443"] }] }

def sgTgt : Vsys :=
  { name := "v",
    rules := [{ name := "r1", hdr := "h", src := ["any"], dst := ["any"], srv := ["test"] }],
    svcs := [{ name := "tcp 81", val := "81" }, { name := "tcp 443", val := "443" }],
    sgroups := [{ name := "test", members := ["tcp 81", "tcp 443"] }] }

/-- **F-C03a (known).**  "Executing the plan yields an equivalent vsys and every request is
executable" is false when a service-group keeps its name and changes its members: the members
are sent with `set`, which merges; `delete service tcp 80` is then refused because the group
still holds `tcp 80`, and even a device that let it pass would not be equivalent.  (The edit
script here is the identity, which is what Myers returns for these rule lists; replayed on the
real planner: corpus:F-C03a; pinned by the repository's test 'Change members of service-group'.) -/
theorem pan_sgroup_set_merges_counterexample :
    wellFormed [] sgDev = true ∧ wellFormed [] sgTgt = true ∧
      planVsys idDiff sgDev sgTgt =
        [.setSvc "tcp 81" "81", .setSGrp "test" ["tcp 81", "tcp 443"], .delSvc "tcp 80"] ∧
      (execAll [] sgDev (planVsys idDiff sgDev sgTgt)).2 = (2, some "delete-referenced-service") ∧
      equiv (execAll [] sgDev (planVsys idDiff sgDev sgTgt)).1 sgTgt = false := by
  decide +kernel

/-- The script Myers returns for the lists `[IP_1, g0]` / `[G0, IP_1]` (equality matrix
`0110`: only `IP_1 = IP_1` and `g0 ~ G0`), the identity otherwise. -/
def mixDiff : Differ := fun n m eq =>
  if n == 2 && m == 2 && !eq 0 0 then [⟨0, 1, 0, 0⟩, ⟨1, 2, 0, 1⟩, ⟨2, 2, 1, 2⟩] else [⟨0, n, 0, m⟩]

def mixDev : Vsys :=
  { name := "v",
    rules := [{ name := "r1", hdr := "h", src := ["IP_1", "g0"], dst := ["any"], srv := ["any"] }],
    addrs := [{ name := "IP_1", val := "1" }, { name := "IP_2", val := "2" }],
    groups := [{ name := "g0", members := ["IP_2"] }] }

def mixTgt : Vsys :=
  { name := "v",
    rules := [{ name := "r1", hdr := "h", src := ["G0", "IP_1"], dst := ["any"], srv := ["any"] }],
    addrs := [{ name := "IP_1", val := "1" }, { name := "IP_2", val := "2" }],
    groups := [{ name := "G0", members := ["IP_2"] }] }

/-- **F-C03e (known).**  "A second compare reports no change" is false for a list that mixes an
address-group with other members: the device below is equivalent to the target from the start,
yet the plan deletes member `IP_1` and adds it again (the sorted lists `[IP_1, g0]` and
`[G0, IP_1]` cannot be aligned on both the address and the group); the device accepts, stays
equivalent, and the next plan is the same again.  (The script for the 2×2 list is the one the
real `myers.Diff` returns — valid and normalised; replayed on the real planner: corpus:F-C03e.) -/
theorem pan_mixed_list_not_idempotent_counterexample :
    wellFormed [] mixDev = true ∧ wellFormed [] mixTgt = true ∧ equiv mixDev mixTgt = true ∧
      validScript (fun i j => [[false, true], [true, false]].getD i [] |>.getD j false) 2 2
        [⟨0, 1, 0, 0⟩, ⟨1, 2, 0, 1⟩, ⟨2, 2, 1, 2⟩] = true ∧
      normalised [⟨0, 1, 0, 0⟩, ⟨1, 2, 0, 1⟩, ⟨2, 2, 1, 2⟩] = true ∧
      planVsys mixDiff mixDev mixTgt = [.delMem "r1" .src "IP_1", .addMem "r1" .src ["IP_1"]] ∧
      (execAll [] mixDev (planVsys mixDiff mixDev mixTgt)).2 = (2, none) ∧
      equiv (execAll [] mixDev (planVsys mixDiff mixDev mixTgt)).1 mixTgt = true ∧
      planVsys mixDiff (execAll [] mixDev (planVsys mixDiff mixDev mixTgt)).1 mixTgt =
        [.delMem "r1" .src "IP_1", .addMem "r1" .src ["IP_1"]] := by
  decide +kernel

def leading (eq : Nat → Nat → Bool) : Nat → Nat → Nat
  | 0, _ => 0
  | fuel + 1, i => if eq i i then leading eq fuel (i + 1) + 1 else 0

/-- Common prefix, then delete the rest of the device side, then insert the rest of the target
side.  On the witnesses below this is the script `myers.Diff` returns (the witnesses were
replayed on the real planner). -/
def prefixDiff : Differ := fun n m eq =>
  let k := leading eq (min n m) 0
  (if k > 0 then [⟨0, k, 0, k⟩] else []) ++ (if k < n then [⟨k, n, k, k⟩] else []) ++
    (if k < m then [⟨n, n, k, m⟩] else [])

def mkRule (n : String) (src : List String) (srv : String) : Rule :=
  { name := n, hdr := "h", src := src, dst := ["any"], srv := [srv] }
def mkGrp (n : String) (ms : List String) : Grp := { name := n, members := ms }
def mkObjs (l : List String) : List Obj := l.map (fun n => ⟨n, n⟩)
def mkVsys (rules : List Rule) (addrs : List String) (groups : List Grp) (svcs : List String) : Vsys :=
  { name := "v", rules := rules, addrs := mkObjs addrs, groups := groups, svcs := mkObjs svcs }

def fDev := mkVsys [mkRule "r1" ["g1"] "s1", mkRule "r2" ["g3"] "s2"] ["a1", "a2", "a3", "a5"]
  [mkGrp "g1" ["a1", "a2", "a5"], mkGrp "g3" ["a3"]] ["s1", "s2"]
def fTgt := mkVsys [mkRule "r1" ["g3"] "s1", mkRule "r2" ["g3"] "s2"] ["a3", "a4"]
  [mkGrp "g3" ["a3", "a4"]] ["s1", "s2"]

/-- **F-C03f (repaired, cfbdae7).**  On the unchanged tree "every request is executable" was
false for plain Netspoc shapes: rule `r1` changes from the large group `g1` to `g3`; the list is
replaced and names `g3-1`, the name under which the target's `g3` is going to be transferred;
then rule `r2` claims the device's `g3` for the same target group (one member to add), which
cancels the transfer: `g3-1` never exists and the `edit` of `r1` is refused. -/
theorem pan_group_transfer_cancelled_counterexample :
    wellFormed [] fDev = true ∧ wellFormed [] fTgt = true ∧
      planVsysOld prefixDiff fDev fTgt =
        [.setAddr "a4" "a4", .editList "r1" .src ["g3-1"], .setGrp "g3" ["a4"], .delGrp "g1",
         .delAddr "a1", .delAddr "a2", .delAddr "a5"] ∧
      (execAll [] fDev (planVsysOld prefixDiff fDev fTgt)).2 = (1, some "dangling-reference") := by
  decide +kernel

/-- … and with the repair the same pair converges: all nine requests are accepted, the result
is equivalent to the target, the next plan is empty. -/
theorem pan_group_transfer_repaired :
    (execAll [] fDev (planVsys prefixDiff fDev fTgt)).2 = (9, none) ∧
      equiv (execAll [] fDev (planVsys prefixDiff fDev fTgt)).1 fTgt = true ∧
      planVsys prefixDiff (execAll [] fDev (planVsys prefixDiff fDev fTgt)).1 fTgt = [] := by
  decide +kernel

def dDev := mkVsys [mkRule "r1" ["g1", "a5"] "s1", mkRule "r2" ["g2"] "s2"] ["a1", "a4", "a5"]
  [mkGrp "g1" ["a1"], mkGrp "g2" ["a4"]] ["s1", "s2"]
def dTgt := mkVsys [mkRule "r1" ["g1", "g2", "a5"] "s1"] ["a1", "a2", "a5"]
  [mkGrp "g1" ["a1"], mkGrp "g2" ["a2"]] ["s1"]

/-- **F-C03d (repaired, 7da130b).**  On the unchanged tree a group inserted incrementally into
an existing list was sent under its Netspoc name `g2` although it is transferred as `g2-1`:
the rule then names the device's other group `g2`, whose removal is refused. -/
theorem pan_inserted_group_name_counterexample :
    wellFormed [] dDev = true ∧ wellFormed [] dTgt = true ∧
      planVsysOld prefixDiff dDev dTgt =
        [.setAddr "a2" "a2", .setGrp "g2-1" ["a2"], .addMem "r1" .src ["g2"], .delRule "r2",
         .delGrp "g2", .delAddr "a4", .delSvc "s2"] ∧
      (execAll [] dDev (planVsysOld prefixDiff dDev dTgt)).2 = (4, some "delete-referenced-group") := by
  decide +kernel

theorem pan_inserted_group_name_repaired :
    (execAll [] dDev (planVsys prefixDiff dDev dTgt)).2 = (7, none) ∧
      equiv (execAll [] dDev (planVsys prefixDiff dDev dTgt)).1 dTgt = true := by
  decide +kernel

def cDev := mkVsys [mkRule "x" ["a1"] "s1"] ["a1"] [] ["s1"]
def cTgt := mkVsys [{ mkRule "x" ["a1"] "s1" with hdr := "h2" }, mkRule "x-1" ["any"] "s1"] ["a1"] [] ["s1"]

/-- **F-C03c (repaired, 86e0d84)** on a whole vsys: the target's changed rule `x` is renamed to
`x-1`, the name of another target rule; the second `set` would merge into the first rule — the
strict device refuses it. -/
theorem pan_generated_rule_name_counterexample :
    (execAll [] cDev (planVsysOld prefixDiff cDev cTgt)).2 = (2, some "set-existing-rule") ∧
      (execAll [] cDev (planVsys prefixDiff cDev cTgt)).2 = (3, none) ∧
      equiv (execAll [] cDev (planVsys prefixDiff cDev cTgt)).1 cTgt = true := by
  decide +kernel

example : GoodDiffer trivialDiff := trivialDiff_good
example : (ruleNames mixDev.rules).Nodup ∧ (ruleNames mixTgt.rules).Nodup := by decide +kernel
/-- a two-rule device and a three-rule target: the order theorem applies and gives three names -/
example : (targetOrder ["r1", "r2"] (uniqNames ["r1", "r2"] ["r1", "r2", "r3"])
    [⟨0, 1, 0, 0⟩, ⟨1, 2, 0, 1⟩, ⟨2, 2, 1, 3⟩]) = ["r2", "r2-1", "r3"] := by decide +kernel
example : runOrd ["r1", "r2"] (orderOps ["r1", "r2"] (uniqNames ["r1", "r2"] ["r1", "r2", "r3"])
    [⟨0, 1, 0, 0⟩, ⟨1, 2, 0, 1⟩, ⟨2, 2, 1, 3⟩]) = some ["r2", "r2-1", "r3"] := by decide +kernel
/-- a plain list in a state without groups: hypotheses of `pan_members_converge` -/
example : (∀ x ∈ ["a", "b"], (initSt sgDev sgTgt []).aGrpIdx x = none) ∧ ["a", "b"].Nodup := by decide +kernel
example : (execAll [] sgDev (planVsys idDiff sgDev sgTgt)).2.1 = 2 := by decide +kernel
/-- hypotheses of `pan_removals_last_unreferenced`: rule r1 of `mixTgt` names address IP_1 -/
example : (mixDev.addrs.map (·.name)).Nodup ∧ (∀ g ∈ mixTgt.groups, g.name ≠ "IP_1") ∧
    (∃ o ∈ mixTgt.addrs, o.name = "IP_1") := by decide +kernel
example : (match planDevice idDiff "d" "d" [sgDev] [sgTgt] with
    | .ok l => l.map (·.1) == ["v"] | .error _ => false) = true := by decide +kernel


/-! ## Whole-vsys and whole-device theorems

The per-part results above are composed here into statements about a whole vsys and a whole
device, for every device vsys `a`, every target `b` and every valid normalised differ — on the
fragment `PlainPair sh a b` (decidable): no address-groups and no service-groups on either side,
names are keys, no member twice in a source / destination list, every name a target rule uses is
`any` / `application-default`, shared, or defined by the target, and the device vsys defines no
object under a reserved or shared name.  Numbers of rules, members, objects, vsys are unbounded;
the rule script is any valid normalised script (including the nothing-in-common script).

The FULL statements (for every `wellFormed` pair, groups included) are false of the unchanged
planner — `pan_sgroup_set_merges_counterexample` (F-C03a) refutes convergence and executability,
`pan_mixed_list_not_idempotent_counterexample` (F-C03e) refutes idempotence — so the theorems
carry the suffix `_partial`; pairs with address-groups outside those two findings are the subject of
the fragment `GrpPair` further down. -/

/-- Identity when the two sides are equal position by position, else delete all / insert all:
a differ that is both `GoodDiffer` and `IdentityDiffer`. -/
def stdDiff : Differ := fun n m eq =>
  if n = m ∧ pairsEq eq 0 0 n = true then [⟨0, n, 0, n⟩] else trivialDiff n m eq

theorem pairsEq_of_diag (eq : Nat → Nat → Bool) : ∀ (k a : Nat), (∀ i, a ≤ i → i < a + k → eq i i = true) →
    pairsEq eq a a k = true := by
  intro k
  induction k with
  | zero => intro a _; rfl
  | succ k ih =>
    intro a h
    simp only [pairsEq, Bool.and_eq_true]
    exact ⟨h a (Nat.le_refl _) (by omega), ih (a + 1) (fun i h1 h2 => h i (by omega) (by omega))⟩

theorem stdDiff_good : GoodDiffer stdDiff := by
  intro n m eq
  unfold stdDiff
  split
  · rename_i h
    obtain ⟨rfl, hp⟩ := h
    simp [validScript, validFrom, normalised, hp]
  · exact trivialDiff_good n m eq

theorem stdDiff_identity : IdentityDiffer stdDiff := by
  intro n eq h
  unfold stdDiff
  rw [if_pos ⟨rfl, pairsEq_of_diag eq n 0 (fun i _ hi => h i (by omega))⟩]

/-- **`panos_vsys_converges`** on the group-free fragment.  The strict device accepts every
request of the plan, and the vsys it reaches has the target's rules in the target's order —
header equal, source / destination / service the same sets, objects compared by content
(`equiv`).  (Full statement, false because of F-C03a:
`wellFormed sh a → wellFormed sh b → ∃ w, Runs sh a (planVsys diff a b) w ∧ equiv w b`.) -/
theorem panos_vsys_converges_partial (sh : Shared) (diff : Differ) (hd : GoodDiffer diff) (a b : Vsys)
    (hP : PlainPair sh a b) :
    ∃ w, execAll sh a (planVsys diff a b) = (w, (planVsys diff a b).length, none) ∧ equiv w b = true ∧
      w.name = a.name ∧ w.rules.length = b.rules.length ∧ (ruleNames w.rules).Nodup ∧
      (∀ (t : Nat) (r : Rule), w.rules[t]? = some r → RuleLike r (b.rules.getD t default)) := by
  obtain ⟨w, h1, h2, _, _, h5, h6, h7, h8⟩ := plain_converges sh diff hd a b hP
  exact ⟨w, h1, h2, h5, h6, h7, h8⟩

/-- **`panos_executable`** (C08) on the group-free fragment.  Every request of the plan is
accepted by the strict device in the state the preceding requests produce — that device refuses
`set` / `edit` of a rule or member list naming an object that does not exist at that moment,
`delete` of an object something still refers to, `move` before a rule that is not there, `set`
of a rule whose name is taken.  Said for every cut: the first `k` requests are accepted without
refusal, whatever `k`.  (Full statement false because of F-C03a.) -/
theorem panos_executable_partial (sh : Shared) (diff : Differ) (hd : GoodDiffer diff) (a b : Vsys)
    (hP : PlainPair sh a b) (k : Nat) :
    (execAll sh a ((planVsys diff a b).take k)).2 = (min k (planVsys diff a b).length, none) := by
  obtain ⟨w, h1, _⟩ := plain_converges sh diff hd a b hP
  exact h1.take k

/-- **`panos_unchanged_only_if_equivalent`** on the group-free fragment: an empty plan ("device
unchanged") is only reported for a device that is equivalent to the target. -/
theorem panos_unchanged_only_if_equivalent_partial (sh : Shared) (diff : Differ) (hd : GoodDiffer diff)
    (a b : Vsys) (hP : PlainPair sh a b) (h : planVsys diff a b = []) : equiv a b = true := by
  obtain ⟨w, h1, h2, _⟩ := plain_converges sh diff hd a b hP
  rw [h] at h1
  rw [runs_nil_eq h1] at h2
  exact h2

/-- **`panos_idempotent`** on the group-free fragment: for the device reached by executing the
plan, the next plan is empty (second compare: no change).  Needs a differ that returns the
identity script for two sides equal position by position (`IdentityDiffer`; checked for the real
`myers.Diff` on every such call the harness observes), a target that defines no object under a
reserved or shared name, and service lists without repetition.  (Full statement false because
of F-C03e.) -/
theorem panos_idempotent_partial (sh : Shared) (diff : Differ) (hd : GoodDiffer diff)
    (hid : IdentityDiffer diff) (a b : Vsys) (hP : PlainPair sh a b) (hN : TgtNames sh b)
    (hsa : SrvNodup a) (hsb : SrvNodup b) :
    ∃ w, execAll sh a (planVsys diff a b) = (w, (planVsys diff a b).length, none) ∧
      planVsys diff w b = [] :=
  let ⟨w, h1, _, h3⟩ := plain_idempotent sh diff hd hid a b hP hN hsa hsb
  ⟨w, h1, h3⟩

/-- **A device that already says what the target says gets an empty plan** (same rules at the
same positions, every object a target rule uses present with the target's value, no other
object): the fixpoint statement `panos_idempotent_partial` rests on. -/
theorem panos_settled_plan_empty_partial (sh : Shared) (diff : Differ) (hd : GoodDiffer diff)
    (hid : IdentityDiffer diff) (w b : Vsys) (hP : PlainPair sh w b) (hS : Settled w b) :
    planVsys diff w b = [] :=
  plain_fixpoint sh diff hd hid w b hP hS

/-- **`panos_resume`** (C10) on the group-free fragment.  Execute any prefix of the plan (the
device accepts it), plan again from the state reached, execute that plan: every request is
accepted and the result is equivalent to the target.  (Needs `TgtNames`: the target defines no
object under a reserved or shared name.  Full statement false because of F-C03a.) -/
theorem panos_resume_partial (sh : Shared) (diff : Differ) (hd : GoodDiffer diff) (a b : Vsys)
    (hP : PlainPair sh a b) (hN : TgtNames sh b) (k : Nat) :
    ∃ ak w, execAll sh a ((planVsys diff a b).take k) = (ak, ((planVsys diff a b).take k).length, none) ∧
      execAll sh ak (planVsys diff ak b) = (w, (planVsys diff ak b).length, none) ∧
      equiv w b = true :=
  plain_resume sh diff hd a b hP hN k

/-- **`panos_outside_vsys_untouched`** (C07), for every device, every target, every differ, no
side condition.  Execute the plan of `GetChanges` — or any part of it, any cut, in any order
(`l'` only has to address vsys the plan addresses) — on the device: no vsys is added or removed,
and every vsys the target does not name is exactly what it was. -/
theorem panos_outside_vsys_untouched (sh : Shared) (diff : Differ) (devA devB : String) (dev tgt : List Vsys)
    (l l' : List (String × List Cmd)) (hplan : planDevice diff devA devB dev tgt = .ok l)
    (hsub : ∀ p ∈ l', ∃ q ∈ l, q.1 = p.1) (d' : Device) (hx : execDevAll sh dev l' = .ok d') :
    d'.length = dev.length ∧
      ∀ (i : Nat) (v : Vsys), dev[i]? = some v → (∀ t ∈ tgt, t.name ≠ v.name) → d'[i]? = some v := by
  obtain ⟨h1, h2⟩ := execDevAll_frame l' dev d' hx
  refine ⟨h1, fun i v hi hne => h2 i v hi ?_⟩
  intro p hp e
  obtain ⟨q, hq, hqe⟩ := hsub p hp
  obtain ⟨_, ⟨t, ht, htn⟩⟩ := pan_scope diff devA devB dev tgt l hplan q hq
  exact hne t ht (htn.trans (hqe.trans e))

/-- **Several vsys.**  On a device whose vsys names are distinct, if every (device vsys, target
vsys) pair is in the group-free fragment, the strict device accepts the whole plan of
`GetChanges`; afterwards every vsys the target names is equivalent to its target and every
other vsys is what it was. -/
theorem panos_device_converges_partial (sh : Shared) (diff : Differ) (hd : GoodDiffer diff)
    (devA devB : String) (dev tgt : List Vsys) (l : List (String × List Cmd))
    (hplan : planDevice diff devA devB dev tgt = .ok l) (hnd : (dev.map (·.name)).Nodup)
    (hP : ∀ v1 ∈ dev, ∀ v2, vsysMap tgt v1.name = some v2 → PlainPair sh v1 v2) :
    ∃ d', execDevAll sh dev l = .ok d' ∧ d'.length = dev.length ∧
      ∀ (i : Nat) (v1 : Vsys), dev[i]? = some v1 →
        (vsysMap tgt v1.name = none → d'[i]? = some v1) ∧
        (∀ v2, vsysMap tgt v1.name = some v2 → ∃ w, d'[i]? = some w ∧ equiv w v2 = true) :=
  device_converges sh diff devA devB dev tgt l hplan hnd fun v1 hv1 v2 hv2 =>
    let ⟨w, hw, heq, _⟩ := plain_converges sh diff hd v1 v2 (hP v1 hv1 v2 hv2)
    ⟨w, hw, heq⟩

/-- device: two rules, an address and a service the target no longer uses -/
def plainDev : Vsys :=
  mkVsys [mkRule "r1" ["a1", "a2"] "s1", mkRule "r2" ["a2"] "s1"] ["a1", "a2"] [] ["s1"]
/-- target: r1 with another source list and service, a new rule in front, new objects -/
def plainTgt : Vsys :=
  mkVsys [mkRule "r0" ["a3"] "s2", mkRule "r1" ["a1", "a3"] "s2"] ["a1", "a3"] [] ["s2"]

example : GoodDiffer stdDiff ∧ IdentityDiffer stdDiff := ⟨stdDiff_good, stdDiff_identity⟩
example : PlainPair ["shared-1"] plainDev plainTgt := by decide +kernel
example : TgtNames ["shared-1"] plainTgt := by decide +kernel
example : SrvNodup plainDev ∧ SrvNodup plainTgt := by decide +kernel
/-- nothing in common (the services differ): transfers, deletes, new rules under fresh names, removals -/
example : planVsys stdDiff plainDev plainTgt =
    [.setAddr "a3" "a3", .setSvc "s2" "s2", .delRule "r1", .delRule "r2",
     .setRule (mkRule "r0" ["a3"] "s2"), .setRule (mkRule "r1-1" ["a1", "a3"] "s2"),
     .delAddr "a2", .delSvc "s1"] := by decide +kernel
example : (execAll ["shared-1"] plainDev (planVsys stdDiff plainDev plainTgt)).2 = (8, none) ∧
    planVsys stdDiff (execAll ["shared-1"] plainDev (planVsys stdDiff plainDev plainTgt)).1 plainTgt = [] := by
  decide +kernel
/-- rules paired one by one: a member list replaced inside an equal range -/
def plainTgt2 : Vsys :=
  mkVsys [mkRule "r1" ["a1", "a3"] "s1", mkRule "r2" ["a2"] "s1"] ["a1", "a2", "a3"] [] ["s1"]
example : PlainPair [] plainDev plainTgt2 ∧ TgtNames [] plainTgt2 := by decide +kernel
example : planVsys stdDiff plainDev plainTgt2 =
    [.setAddr "a3" "a3", .editList "r1" .src ["a1", "a3"]] ∧
    planVsys stdDiff (execAll [] plainDev (planVsys stdDiff plainDev plainTgt2)).1 plainTgt2 = [] := by decide +kernel
/-- a settled device -/
example : Settled plainTgt plainTgt :=
  ⟨rfl, fun _ _ => ⟨rfl, fun _ => Iff.rfl, fun _ => Iff.rfl, fun _ => Iff.rfl⟩, by decide +kernel, by decide +kernel,
    fun _ _ _ => rfl, (by unfold RefAddr; decide +kernel), fun _ _ _ => rfl, (by unfold RefSvc; decide +kernel)⟩
/-- a device with two vsys of which the target names one -/
example : (match planDevice stdDiff "d" "d" [plainDev, { plainDev with name := "w" }] [plainTgt] with
    | .ok l => l.map (·.1) == ["v"] | .error _ => false) = true ∧
    ([plainDev, { plainDev with name := "w" }].map (·.name)).Nodup := by decide +kernel

/-- hypothesis `hok` of `pan_group_members_converge` together with its other hypotheses, for a
differ with `GoodDiffer`: an empty device group gets two members (one merging `set`), and an
equal member list is answered `true` without a request -/
example : (hasEqLists stdDiff 1 (initSt sgDev sgTgt []) [] ["a", "b"] (.group "g")).1 = true ∧
    (hasEqLists stdDiff 1 (initSt sgDev sgTgt []) [] ["a", "b"] (.group "g")).2.out = [.setGrp "g" ["a", "b"]] ∧
    (hasEqLists stdDiff 1 (initSt sgDev sgTgt []) ["a", "b"] ["a", "b"] (.group "g")).1 = true ∧
    (∀ y ∈ ["a", "b"], (initSt sgDev sgTgt []).bGrpIdx y = none) := by decide +kernel

/-- **The theorems' `equiv` (header text equal) implies the oracle's `equivSem`** (header
elements with PAN-OS's default content count as absent: no `<rule-type>` = `universal`, …); for
any normalisation `f` of header texts: `equivBy_of_equiv`. -/
theorem panos_equiv_implies_equivSem (dev tgt : Vsys) (h : equiv dev tgt = true) :
    equivSem dev tgt = true := equivBy_of_equiv hdrSem dev tgt h

example : equiv plainTgt plainTgt = true := by decide +kernel

/-! ### Whole-vsys theorems WITH address-groups (fragment `GrpPair`)

`GrpPair sh a b` (decidable, `NA/Model/PanOsGrpPair.lean`) is the shape Netspoc generates: a source /
destination list holds addresses only or exactly one address-group; groups hold addresses of their
vsys (no nesting); no service-groups; group names — the device's, the target's, the generated ones —
are no address names, not reserved, not shared; everything the rules of BOTH sides name resolves.  A
`PlainPair` is a `GrpPair` if its lists are not empty and the names its device rules use resolve
(`PlainPair` asks that of the target's rules only).  Groups may be shared between rules, renamed,
renumbered, changed in place, claimed for another target group, or transferred under a fresh name.
Excluded: lists mixing a group with other members (F-C03e), service-groups (F-C03a), nested groups
(F-C03n).  The differ must also return the identity script for two sides that are equal position by
position (`IdentityDiffer`, checked for the real `myers.Diff` on every such call). -/

/-- **`panos_vsys_converges` with address-groups.**  The strict device accepts every request of
the plan — transfers (groups under fresh names included), group-member requests interleaved with
rule requests, removals — and the vsys it reaches has the target's rules in the target's order,
each equivalent by expanded content. -/
theorem panos_vsys_converges_groups_partial (sh : Shared) (diff : Differ) (hd : GoodDiffer diff)
    (hid : IdentityDiffer diff) (a b : Vsys) (hP : GrpPair sh a b) :
    ∃ w, execAll sh a (planVsys diff a b) = (w, (planVsys diff a b).length, none) ∧ equiv w b = true ∧
      w.name = a.name ∧ w.rules.length = b.rules.length :=
  grp_converges sh diff hd hid a b hP

/-- **`panos_executable` (C08) with address-groups**: every prefix of the plan is accepted — no
request names a group or address that does not exist at that moment, no group or address is
deleted while a rule or a group still names it. -/
theorem panos_executable_groups_partial (sh : Shared) (diff : Differ) (hd : GoodDiffer diff)
    (hid : IdentityDiffer diff) (a b : Vsys) (hP : GrpPair sh a b) (k : Nat) :
    (execAll sh a ((planVsys diff a b).take k)).2 = (min k (planVsys diff a b).length, none) := by
  obtain ⟨w, h1, _⟩ := grp_converges sh diff hd hid a b hP
  exact h1.take k

/-- **`panos_unchanged_only_if_equivalent` with address-groups.** -/
theorem panos_unchanged_only_if_equivalent_groups_partial (sh : Shared) (diff : Differ) (hd : GoodDiffer diff)
    (hid : IdentityDiffer diff) (a b : Vsys) (hP : GrpPair sh a b) (h : planVsys diff a b = []) :
    equiv a b = true := by
  obtain ⟨w, h1, h2, _⟩ := grp_converges sh diff hd hid a b hP
  rw [h] at h1
  rw [runs_nil_eq h1] at h2
  exact h2

/-- **Several vsys, with address-groups.** -/
theorem panos_device_converges_groups_partial (sh : Shared) (diff : Differ) (hd : GoodDiffer diff)
    (hid : IdentityDiffer diff) (devA devB : String) (dev tgt : List Vsys) (l : List (String × List Cmd))
    (hplan : planDevice diff devA devB dev tgt = .ok l) (hnd : (dev.map (·.name)).Nodup)
    (hP : ∀ v1 ∈ dev, ∀ v2, vsysMap tgt v1.name = some v2 → GrpPair sh v1 v2) :
    ∃ d', execDevAll sh dev l = .ok d' ∧ d'.length = dev.length ∧
      ∀ (i : Nat) (v1 : Vsys), dev[i]? = some v1 →
        (vsysMap tgt v1.name = none → d'[i]? = some v1) ∧
        (∀ v2, vsysMap tgt v1.name = some v2 → ∃ w, d'[i]? = some w ∧ equiv w v2 = true) :=
  device_converges sh diff devA devB dev tgt l hplan hnd fun v1 hv1 v2 hv2 =>
    let ⟨w, hw, heq, _⟩ := grp_converges sh diff hd hid v1 v2 (hP v1 hv1 v2 hv2)
    ⟨w, hw, heq⟩

/-- device: r1 uses group g1 (three addresses), r2 and r3 share g3; the target renumbers: r1 and r2
now use g3 with another content, r3 uses a new group g2 with the old content of g3 -/
def grpDev : Vsys :=
  mkVsys [mkRule "r1" ["g1"] "s1", mkRule "r2" ["g3"] "s1", mkRule "r3" ["g3"] "s1"]
    ["a1", "a2", "a3", "a4", "a5"] [mkGrp "g1" ["a1", "a2", "a5"], mkGrp "g3" ["a3"]] ["s1"]
def grpTgt : Vsys :=
  mkVsys [mkRule "r1" ["g3"] "s1", mkRule "r2" ["g3"] "s1", mkRule "r3" ["g2"] "s1"]
    ["a3", "a4"] [mkGrp "g3" ["a3", "a4"], mkGrp "g2" ["a3"]] ["s1"]

example : GrpPair ["shared-1"] grpDev grpTgt := by decide +kernel
/-- the plan of that pair: a group transferred under a fresh name (r1, r2 pointed to it), a device
group claimed for a target group of another name without a request (r3), a device group and its
addresses removed; accepted by the strict device; equivalent -/
example : planVsys stdDiff grpDev grpTgt =
    [.setGrp "g3-1" ["a3", "a4"], .editList "r1" .src ["g3-1"], .editList "r2" .src ["g3-1"],
     .delGrp "g1", .delAddr "a1", .delAddr "a2", .delAddr "a5"] := by
  decide +kernel
example : (execAll ["shared-1"] grpDev (planVsys stdDiff grpDev grpTgt)).2 = (7, none) ∧
    equiv (execAll ["shared-1"] grpDev (planVsys stdDiff grpDev grpTgt)).1 grpTgt = true := by
  decide +kernel

/-- the per-pair hypothesis of `panos_device_converges_partial` on that device -/
example : ∀ v1 ∈ [plainDev, { plainDev with name := "w" }], ∀ v2,
    vsysMap [plainTgt] v1.name = some v2 → PlainPair [] v1 v2 := by
  intro v1 hv1 v2 h
  simp only [List.mem_cons, List.not_mem_nil, or_false] at hv1
  rcases hv1 with rfl | rfl
  · have : vsysMap [plainTgt] plainDev.name = some plainTgt := by decide +kernel
    rw [this] at h
    cases h
    decide +kernel
  · have : vsysMap [plainTgt] ({ plainDev with name := "w" } : Vsys).name = none := by decide +kernel
    rw [this] at h
    cases h

/-- device: group g0 (four addresses) used by r1; an address named g0-1 used by r2 -/
def gDev : Vsys :=
  { name := "v",
    rules := [mkRule "r1" ["g0"] "s1", { mkRule "r2" ["any"] "s1" with dst := ["g0-1"] }],
    addrs := mkObjs ["a1", "a2", "a3", "a4", "a5", "g0-1"],
    groups := [mkGrp "g0" ["a1", "a2", "a3", "a4"]], svcs := mkObjs ["s1"] }
/-- target: the same, but g0 holds a5 only -/
def gTgt : Vsys := { gDev with groups := [mkGrp "g0" ["a5"]] }

/-- **F-C03g (repaired).**  Address and address-group share a name space on the device.
`genUniqGroupNames` avoided the names of the groups of both sides only: the target's `g0`
(other content, so it is transferred under a new name) became `g0-1` although the device has an
ADDRESS of that name (shown here: the old name generator yields `g0-1`, and `g0-1` is an address of
the device; on the real planner the device then holds two objects of one name / refuses the `set`:
corpus case below).  After the repair the generated name also avoids the address names of both
sides: `g0-2`, and the state reached is well-formed and equivalent.  (Replayed on the real
planner: corpus:generated-group-name-is-an-address-name.) -/
theorem pan_group_name_address_clash_counterexample :
    wellFormed [] gDev = true ∧ wellFormed [] gTgt = true ∧
    uniqNames (gDev.groups.map (·.name)) (gTgt.groups.map (·.name)) = ["g0-1"] ∧
    "g0-1" ∈ gDev.addrs.map (·.name) := by
  decide +kernel

theorem pan_group_name_address_clash_repaired :
    groupNamesFor gDev gTgt = ["g0-2"] ∧
    (execAll [] gDev (planVsys stdDiff gDev gTgt)).2.2 = none ∧
    wellFormed [] (execAll [] gDev (planVsys stdDiff gDev gTgt)).1 = true ∧
    equiv (execAll [] gDev (planVsys stdDiff gDev gTgt)).1 gTgt = true := by
  decide +kernel

/-- After the repair a GENERATED name is never the name of an address of either side (for all
configurations). -/
theorem pan_group_names_avoid_addresses (a b : Vsys) (hnd : (b.groups.map (·.name)).Nodup) :
    (∀ n ∈ groupNamesFor a b, n ∉ a.groups.map (·.name)) ∧ (groupNamesFor a b).Nodup ∧
    (∀ n ∈ groupNamesFor a b, n ∈ b.groups.map (·.name) ∨
      (n ∉ a.addrs.map (·.name) ∧ n ∉ b.addrs.map (·.name))) :=
  groupNamesFor_spec suffixInj a b hnd

example : (gTgt.groups.map (·.name)).Nodup := by decide +kernel

/-- **`panos_nothing_left_behind`** on the group-free fragment.  After the whole plan the vsys
holds no address and no service that no rule mentions (`unreferenced`, the predicate the oracle
applies to every completed approve and to every completed resume).  Equivalence does not see such
objects; a planner that skips its final block of removals is equivalent and still wrong.  (Full
statement, false because of F-C03h / F-C03a:
`wellFormed sh a → wellFormed sh b → ∃ w, Runs sh a (planVsys diff a b) w ∧ unreferenced w = []`.) -/
theorem panos_nothing_left_behind_partial (sh : Shared) (diff : Differ) (hd : GoodDiffer diff) (a b : Vsys)
    (hP : PlainPair sh a b) :
    ∃ w, execAll sh a (planVsys diff a b) = (w, (planVsys diff a b).length, none) ∧ unreferenced w = [] := by
  obtain ⟨w, h1, _, hg, hsg, _, hlen, _, hlike, _, _, hA, hS⟩ := plain_converges_full sh diff hd a b hP
  refine ⟨w, h1, ?_⟩
  -- a rule of the target at index t is matched by the rule of w at index t, with the same members
  have hrule : ∀ rb ∈ b.rules, ∃ r ∈ w.rules, RuleLike r rb := by
    intro rb hrb
    obtain ⟨t, ht, he⟩ := List.getElem_of_mem hrb
    have htw : t < w.rules.length := by omega
    refine ⟨w.rules[t], List.getElem_mem htw, ?_⟩
    have := hlike t w.rules[t] (by simp [htw])
    rw [show b.rules.getD t default = rb by simp [List.getD, ht, he]] at this
    exact this
  have hAu : ∀ x ∈ w.addrs.map (·.name), addrUsed w x = true := by
    intro x hx
    obtain ⟨rb, hrb, hm⟩ := hA x hx
    obtain ⟨r, hr, _, hs, hd', _⟩ := hrule rb hrb
    simp only [addrUsed, Bool.or_eq_true, List.any_eq_true, List.contains_iff_mem]
    refine Or.inl ⟨r, hr, ?_⟩
    rcases hm with hm | hm
    · exact Or.inl ((hs x).2 hm)
    · exact Or.inr ((hd' x).2 hm)
  have hSu : ∀ x ∈ w.svcs.map (·.name), srvUsed w x = true := by
    intro x hx
    obtain ⟨rb, hrb, hm⟩ := hS x hx
    obtain ⟨r, hr, _, _, _, hv⟩ := hrule rb hrb
    simp only [srvUsed, Bool.or_eq_true, List.any_eq_true, List.contains_iff_mem]
    exact Or.inl ⟨r, hr, (hv x).2 hm⟩
  simp only [unreferenced, hg, hsg, List.map_nil, List.append_nil, List.append_eq_nil_iff,
    List.filter_eq_nil_iff, Bool.not_eq_true']
  exact ⟨fun x hx => by simp [hAu x hx], fun x hx => by simp [hSu x hx]⟩

/-- the fragment is inhabited, and the predicate is not constantly `[]`: the device of the example
holds `a2`, `s1`, which the target no longer needs, until the last block of the plan -/
example : unreferenced (execAll ["shared-1"] plainDev ((planVsys stdDiff plainDev plainTgt).take 6)).1 ≠ [] ∧
    unreferenced (execAll ["shared-1"] plainDev (planVsys stdDiff plainDev plainTgt)).1 = [] := by
  decide +kernel

/-- device after an approve that was cut right after `set service 'TCP 443 X'`: the service-group
still lists `tcp 443`, which rule r2 uses too -/
def hDev : Vsys :=
  { name := "v", rules := [mkRule "r1" ["any"] "SG", mkRule "r2" ["any"] "tcp 443"],
    svcs := [⟨"tcp 80", "tcp/80"⟩, ⟨"tcp 443", "tcp/443"⟩, ⟨"TCP 443 X", "tcp/443"⟩],
    sgroups := [mkGrp "SG" ["tcp 80", "tcp 443"]] }
/-- target: the group's member `tcp 443` is now called `TCP 443 X` (rule r2 still uses `tcp 443`) -/
def hTgt : Vsys :=
  { name := "v", rules := [mkRule "r1" ["any"] "SG", mkRule "r2" ["any"] "tcp 443"],
    svcs := [⟨"tcp 80", "tcp/80"⟩, ⟨"tcp 443", "tcp/443"⟩, ⟨"TCP 443 X", "tcp/443"⟩],
    sgroups := [mkGrp "SG" ["tcp 80", "TCP 443 X"]] }

/-- **F-C03h (known).**  Same-named service-groups are compared by CONTENT: the device's `SG`
(`tcp 80`, `tcp 443`) passes for the target's (`tcp 80`, `TCP 443 X`) and is not sent; the service
`TCP 443 X` is kept because the target's group names it and the device has it with that value.
No request is planned, and `TCP 443 X` stays on the device although nothing mentions it.  The
state arises when an approve is cut between `set service 'TCP 443 X'` and the `set` of the
group's members.  (Replayed on the real planner: known C10 / C03 F-C03h.) -/
theorem pan_sgroup_member_kept_unreferenced_counterexample :
    wellFormed [] hDev = true ∧ wellFormed [] hTgt = true ∧
    planVsys stdDiff hDev hTgt = [] ∧ equiv hDev hTgt = true ∧ unreferenced hDev = ["TCP 443 X"] := by
  decide +kernel

def obligations : List Lean.Name := [
  ``pan_rules_converge, ``pan_rules_converge_on_device, ``pan_members_converge, ``pan_group_members_converge,
  ``pan_group_reuse_sound, ``pan_uniq_names, ``pan_uniq_names_counterexample,
  ``pan_uniq_names_partial, ``pan_objects_before_rules, ``pan_removals_last_unreferenced, ``pan_scope, ``pan_frame, ``pan_prefix_wf,
  ``pan_resume_converges, ``pan_idempotent_rules, ``pan_idempotent_lists,
  ``pan_sgroup_set_merges_counterexample, ``pan_mixed_list_not_idempotent_counterexample,
  ``pan_group_transfer_cancelled_counterexample, ``pan_group_transfer_repaired,
  ``pan_inserted_group_name_counterexample, ``pan_inserted_group_name_repaired,
  ``pan_generated_rule_name_counterexample,
  ``trivialDiff_good, ``suffixInj,
  ``panos_vsys_converges_partial, ``panos_executable_partial, ``panos_unchanged_only_if_equivalent_partial,
  ``panos_idempotent_partial, ``panos_settled_plan_empty_partial, ``panos_resume_partial,
  ``panos_outside_vsys_untouched, ``panos_device_converges_partial, ``stdDiff_good, ``stdDiff_identity,
  ``sortStrings_canonical, ``panos_equiv_implies_equivSem,
  ``panos_vsys_converges_groups_partial, ``panos_executable_groups_partial,
  ``panos_unchanged_only_if_equivalent_groups_partial, ``panos_device_converges_groups_partial,
  ``pan_group_name_address_clash_counterexample, ``pan_group_name_address_clash_repaired,
  ``pan_group_names_avoid_addresses,
  ``panos_nothing_left_behind_partial, ``pan_sgroup_member_kept_unreferenced_counterexample]

end NA.PanOs
