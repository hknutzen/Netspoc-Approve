import NA.Proofs.VpnSeq
import NA.Proofs.VpnMatch
import NA.Proofs.VpnEngine
import NA.Proofs.VpnConverge
import NA.Proofs.VpnUnordered
import NA.Model.CryptoMapDev
import NA.Props.VpnGraph
/-!
# Crypto maps of the ASA backend: what `matchCryptoMap`, `makeEqual` and the reuse of simple objects guarantee

Models: `NA.Vpn.matchCryptoMap` (NA/Model/CryptoMap.lean), `NA.Vpn.engine` (NA/Model/CryptoMapEngine.lean);
both are compared with the real code on every run (harness/asavpn, driver nadrv-c10).
All theorems hold for command lists of any length and any sequence numbers.
-/
namespace NA.Vpn

/-- **Fresh sequence numbers** handed out by the second loop of `matchCryptoMap` (`used` = the sequence
numbers of the device's map, `ks` = for every target entry without partner, in ascending order, whether its
peer is static; counters start at `st` = 1 and `dy` = 65535):
* none of them is used on the device,
* the static ones are what a counter yields that starts at `st`, skips used numbers and steps by one
  (`ChainUp`: each is the LEAST free number not below its predecessor + 1), hence strictly ascending,
* the dynamic ones the same downward from `dy` (`ChainDown`), hence strictly descending,
* all of them are pairwise distinct as long as `st + 2·|used| + |ks| < dy`
  (for the real start values: `2·|device entries| + |added entries| < 65534`). -/
theorem crypto_seq_fresh (used : List Int) (ks : List Bool) (st dy : Int) :
    (∀ x ∈ freshSeqs used ks st dy, x ∉ used) ∧
    ChainUp used st (part true (freshSeqs used ks st dy) ks) ∧
    ChainDown used dy (part false (freshSeqs used ks st dy) ks) ∧
    (part true (freshSeqs used ks st dy) ks).Pairwise (· < ·) ∧
    (part false (freshSeqs used ks st dy) ks).Pairwise (· > ·) ∧
    (st + 2 * (used.length : Int) + ks.length < dy → (freshSeqs used ks st dy).Nodup) := by
  have hu := freshSeqs_chainUp used ks st dy
  have hd := freshSeqs_chainDown used ks st dy
  have hl := freshSeqs_length used ks st dy
  refine ⟨?_, hu, hd, chainUp_sorted hu, chainDown_sorted hd, ?_⟩
  · intro x hx
    rcases mem_parts _ ks hl x hx with h | h
    · exact chainUp_free hu x h
    · exact chainDown_free hd x h
  · intro hsz
    refine nodup_of_parts _ ks hl ((chainUp_sorted hu).imp Int.ne_of_lt) ((chainDown_sorted hd).imp Int.ne_of_gt) ?_
    intro x hx y hy
    have h1 := chainUp_ub hu x hx
    have h2 := chainDown_lb hd y hy
    have h3 := parts_length _ ks hl
    omega

/-- The calls of `f` that `matchCryptoMap` makes are: one per device entry (ascending), then one per target
entry that found no partner, carrying exactly the numbers of `crypto_seq_fresh` (and the device map's name). -/
theorem crypto_seq_fresh_applies (al bl : List Cmd) (calls : List Call) (h : matchCryptoMap al bl = some calls) :
    ∃ rest : List Int,
      rest = (seqKeys bl).filter (fun t => !((matchLoop al bl (seqKeys bl) (seqKeys al) []).2.contains t)) ∧
      calls = (matchLoop al bl (seqKeys bl) (seqKeys al) []).1 ++
        List.zipWith (fun t s => (⟨[], (entry bl t).map (renumber al s)⟩ : Call)) rest
          (freshSeqs (seqKeys al) (kindsOf bl rest) 1 65535) := by
  unfold matchCryptoMap at h
  by_cases hp : (allHavePeer al && allHavePeer bl) = true
  · rw [if_pos hp] at h
    cases h
    exact ⟨_, rfl, by rw [freshLoop_eq]; rfl⟩
  · rw [if_neg hp] at h; cases h

example : freshSeqs [1, 2, 4, 65535] [true, false, true, true] 1 65535 = [3, 65534, 5, 6] := by decide +kernel
/-- several new dynamic entries: the counter goes DOWN after each number handed out (never 65536, never a number twice) -/
example : freshSeqs [1, 65535] [false, false, false] 1 65535 = [65534, 65533, 65532] := by decide +kernel
example : freshSeqs [1] [false, false] 1 65535 = [65535, 65534] := by decide +kernel
/-- later entries skip numbers the device uses as well (the search is per entry, not once) -/
example : freshSeqs [1, 3, 4] [true, true, true] 1 65535 = [2, 5, 6] := by decide +kernel
example : matchCryptoMap
    [{ name := "M", seq := 5, key := "set peer P1", peer := some (.static "P1") }]
    [{ name := "M", seq := 1, key := "set peer P2", peer := some (.static "P2") },
     { name := "M", seq := 2, key := "set peer P1", peer := some (.static "P1") }] =
  some [⟨[{ name := "M", seq := 5, key := "set peer P1", peer := some (.static "P1") }],
         [{ name := "M", seq := 2, key := "set peer P1", peer := some (.static "P1") }]⟩,
        ⟨[], [{ name := "M", seq := 1, key := "set peer P2", peer := some (.static "P2") }]⟩] := by decide +kernel

def cmdP (seq : Int) (p : String) : Cmd := { name := "M", seq := seq, key := "set peer " ++ p, peer := some (.static p) }


/-- **An existing entry is matched iff a target entry has the same peer**, deterministically:
the device entry with sequence number `s` (position `|pre|` of the ascending key list) and peer `p`
* is handed to `f` together with the target entry of the LOWEST sequence number among those with peer `p`,
  if such a target entry exists and no device entry with a lower sequence number has peer `p`;
* is handed to `f` alone (to be deleted) otherwise. -/
theorem crypto_match_by_peer (al bl : List Cmd) (pre post : List Int) (s : Int) (p : Peer)
    (hk : seqKeys al = pre ++ s :: post) (hp : getPeer (entry al s) = some p) :
    ((∃ t ∈ seqKeys bl, getPeer (entry bl t) = some p) ∧ (∀ s' ∈ pre, getPeer (entry al s') ≠ some p) →
      ∃ t, (matchLoop al bl (seqKeys bl) (seqKeys al) []).1[pre.length]? = some ⟨entry al s, entry bl t⟩ ∧
        t ∈ seqKeys bl ∧ getPeer (entry bl t) = some p ∧
        ∀ t' ∈ seqKeys bl, getPeer (entry bl t') = some p → t ≤ t') ∧
    (((∀ t ∈ seqKeys bl, getPeer (entry bl t) ≠ some p) ∨ ∃ s' ∈ pre, getPeer (entry al s') = some p) →
      (matchLoop al bl (seqKeys bl) (seqKeys al) []).1[pre.length]? = some ⟨entry al s, []⟩) := by
  rw [hk]
  exact ⟨fun h => matched_of_peer al bl pre post s p hp h.1 h.2, fun h => unmatched_of_peer al bl pre post s p hp h⟩

example : seqKeys [cmdP 7 "A", cmdP 4 "B"] = [] ++ 4 :: [7] ∧ getPeer (entry [cmdP 7 "A", cmdP 4 "B"] 4) = some (.static "B") := by decide +kernel
example : (matchLoop [cmdP 7 "A", cmdP 4 "B"] [cmdP 1 "B", cmdP 2 "A", cmdP 3 "B"] [1, 2, 3] [4, 7] []).1 =
    [⟨[cmdP 4 "B"], [cmdP 1 "B"]⟩, ⟨[cmdP 7 "A"], [cmdP 2 "A"]⟩] := by decide +kernel

/-- **Every device entry is handed to `f` exactly once, in ascending order**: the device sides of the calls of the
matching loop are exactly the entries `entry al s` for `s` running through the device's sequence numbers, and that list of
numbers is strictly ascending (hence without repetition) and holds exactly the numbers that occur on the device. -/
theorem crypto_device_entries_once (al bl : List Cmd) :
    (matchLoop al bl (seqKeys bl) (seqKeys al) []).1.map (·.a) = (seqKeys al).map (entry al) ∧
    (seqKeys al).Pairwise (· < ·) ∧ (∀ s, s ∈ seqKeys al ↔ ∃ c ∈ al, c.seq = s) ∧
    ∀ s ∈ seqKeys al, entry al s ≠ [] :=
  ⟨matchLoop_a al bl _ _ _, seqKeys_sorted al, mem_seqKeys al, entry_ne_nil al⟩

/-- non-vacuity: two device entries given in descending order are visited in ascending order, once each -/
example : (matchLoop [cmdP 7 "A", cmdP 4 "B"] [] [] (seqKeys [cmdP 7 "A", cmdP 4 "B"]) []).1.map (·.a) =
    [[cmdP 4 "B"], [cmdP 7 "A"]] := by decide +kernel

/-- **Every target entry is handed to `f` exactly once**: in the matching loop iff it was consumed there
(then it is not in the list of the fresh-number loop), otherwise not at all in the matching loop (and it is
in that list).  Together with `crypto_match_by_peer` and `crypto_seq_fresh`: after the run the map holds
one entry per target entry — under the device's number where the peer existed, under a fresh number otherwise. -/
theorem crypto_target_entries_once (al bl : List Cmd) (t : Int) (ht : t ∈ seqKeys bl) :
    (t ∈ (matchLoop al bl (seqKeys bl) (seqKeys al) []).2 →
        hits bl t (matchLoop al bl (seqKeys bl) (seqKeys al) []).1 = 1 ∧
        t ∉ (seqKeys bl).filter (fun t => !((matchLoop al bl (seqKeys bl) (seqKeys al) []).2.contains t))) ∧
    (t ∉ (matchLoop al bl (seqKeys bl) (seqKeys al) []).2 →
        hits bl t (matchLoop al bl (seqKeys bl) (seqKeys al) []).1 = 0 ∧
        t ∈ (seqKeys bl).filter (fun t => !((matchLoop al bl (seqKeys bl) (seqKeys al) []).2.contains t))) := by
  have hh := matchLoop_hits al bl (seqKeys bl) t (entry_ne_nil bl t ht) (seqKeys al) []
  rw [if_neg List.not_mem_nil] at hh
  exact ⟨fun h => ⟨by rw [hh, if_pos h], by simp [h]⟩, fun h => ⟨by rw [hh, if_neg h], by simp [h, ht]⟩⟩

/-- **Stability of a second run** (entry level): if the target's peers are pairwise distinct and each of them
occurs on the device, no entry is added. -/
theorem crypto_nothing_added_partial (al bl : List Cmd)
    (hdist : ∀ t ∈ seqKeys bl, ∀ t' ∈ seqKeys bl, getPeer (entry bl t) = getPeer (entry bl t') → t = t')
    (hpeer : ∀ t ∈ seqKeys bl, (getPeer (entry bl t)).isSome)
    (hcover : ∀ t ∈ seqKeys bl, ∃ s ∈ seqKeys al, getPeer (entry al s) = getPeer (entry bl t)) :
    (seqKeys bl).filter (fun t => !((matchLoop al bl (seqKeys bl) (seqKeys al) []).2.contains t)) = [] := by
  apply List.filter_eq_nil_iff.2
  intro t ht
  obtain ⟨s, hs, hps⟩ := hcover t ht
  cases hp : getPeer (entry bl t) with
  | none => have := hpeer t ht; rw [hp] at this; cases this
  | some p =>
    rw [hp] at hps
    obtain ⟨t0, ht0⟩ := peerSeq_isSome bl p (seqKeys bl) t ht hp
    have hlow := peerSeq_lowest bl p (seqKeys bl) (seqKeys_sorted bl) t0 ht0
    have : t0 = t := hdist t0 hlow.1 t ht (by rw [hlow.2.1, hp])
    subst this
    have hd : t0 ∈ (matchLoop al bl (seqKeys bl) (seqKeys al) []).2 :=
      (matchLoop_done al bl (seqKeys bl) (seqKeys al) [] t0).2 (Or.inr ⟨s, hs, (tgtOf_of_peer hps bl _).trans ht0⟩)
    simp [hd]

/-- **Every `crypto map NAME SEQ …` line emitted for a matched entry carries the DEVICE's name and sequence
number** (`diffCmds` for the pair handed over by `matchCryptoMap`: name and number adoption for inserted
commands, `makeEqual` with `b.name = a.name; b.seq = a.seq`, `delCmds`).  `a0 :: rest` = the commands of
the device entry as found in the state, all with the device entry's name and number; the first is not
`needed`; the unordered diff finds an equal line.  `AddrOK n s c`: `c` is `crypto map n s …`,
`no crypto map n s …`, or not a crypto map entry line at all (a transform-set definition). -/
theorem crypto_commands_address_device_seq (st : St) (ma mb : String) (aIds bIds : List Nat) (a0 : ACmd) (rest : List ACmd)
    (hA : aIds.filterMap (st.aCmd ma) = a0 :: rest)
    (hsame : ∀ a ∈ a0 :: rest, a.c.name = a0.c.name ∧ a.c.seq = a0.c.seq)
    (hn : a0.needed = false)
    (hEq : (unorderedA ((bIds.filterMap (st.bCmd mb)).map (·.c.key)) ((a0 :: rest).map (·.c.key)) 0 []).1.isEmpty = false) :
    ∃ e, (diffEntry st ma mb aIds bIds).out = st.out ++ e ∧ ∀ c ∈ e, AddrOK a0.c.name a0.c.seq c :=
  diffEntry_addresses_device st ma mb aIds bIds a0 rest hA hsame hn hEq

/-- device entry `M 5` (peer P, pfs group2), target entry `M 1` (peer P, pfs group5, lifetime): everything is sent to `M 5` -/
def exA : List (Cmd × String) :=
  [({ id := 0, name := "M", seq := 5, key := "set peer P", body := ["set peer P"], peer := some (.static "P") }, "set peer P"),
   ({ id := 1, name := "M", seq := 5, key := "set pfs group2", body := ["set pfs group2"] }, "set pfs group2")]
def exB : List (Cmd × String) :=
  [({ id := 0, name := "M", seq := 1, key := "set peer P", body := ["set peer P"], peer := some (.static "P") }, ""),
   ({ id := 1, name := "M", seq := 1, key := "set pfs group5", body := ["set pfs group5"] }, ""),
   ({ id := 2, name := "M", seq := 1, key := "set security-association lifetime seconds 3600",
      body := ["set security-association lifetime seconds 3600"] }, "")]
def exSt : St := initSt { maps := [("M", false, exA)] } { maps := [("M", false, exB)] }

example : ∃ e, (diffEntry exSt "M" "M" [0, 1] [0, 1, 2]).out = exSt.out ++ e ∧ ∀ c ∈ e, AddrOK "M" 5 c :=
  crypto_commands_address_device_seq exSt "M" "M" [0, 1] [0, 1, 2]
    { c := exA[0].1, orig := "set peer P" } [{ c := exA[1].1, orig := "set pfs group2" }]
    (by decide +kernel) (by decide +kernel) (by decide +kernel) (by decide +kernel)

example : ((diffEntry exSt "M" "M" [0, 1] [0, 1, 2]).out.map Chg.render) =
    ["no crypto map M 5 set pfs group2", "crypto map M 5 set pfs group5",
     "crypto map M 5 set security-association lifetime seconds 3600"] := by decide +kernel

/-- the hypothesis `hEq` holds whenever the two entries share a key, e.g. the `set peer` line they were matched by -/
theorem crypto_equal_line_exists (aKeys bKeys : List String) (k : String) (ha : k ∈ aKeys) (hb : k ∈ bKeys) :
    (unorderedA bKeys aKeys 0 []).1.isEmpty = false :=
  unorderedA_hasEq bKeys aKeys 0 [] ⟨k, ha, hb, rfl⟩

/-- **`diffUnordered` is a set difference** when the device's keys are pairwise distinct (the attribute lines of one
crypto map entry, the bindings per interface, sub-commands): position `p` of the device list is deleted iff its key does
not occur in the target; it is paired with target position `j` iff `j` is the last target position with the same key
(so paired lines have EQUAL keys); target position `q` is inserted iff its key does not occur on the device.  Hence
(device keys − deleted) ∪ inserted = target keys. -/
theorem diffUnordered_is_set_diff (aKeys bKeys : List String) (hnd : aKeys.Nodup) :
    (∀ p, p ∈ (unorderedA bKeys aKeys 0 []).2.1 ↔ ∃ k, aKeys[p]? = some k ∧ k ∉ bKeys) ∧
    (∀ p j, (p, j) ∈ (unorderedA bKeys aKeys 0 []).1 ↔ ∃ k, aKeys[p]? = some k ∧ lastIdx bKeys k = some j) ∧
    (∀ p j, (p, j) ∈ (unorderedA bKeys aKeys 0 []).1 → ∃ k, aKeys[p]? = some k ∧ bKeys[j]? = some k) ∧
    (∀ q, q ∈ (insertRuns (unorderedA bKeys aKeys 0 []).2.2 bKeys 0 []).flatten ↔ ∃ k, bKeys[q]? = some k ∧ k ∉ aKeys) := by
  have h := unordered_set_diff aKeys bKeys hnd
  refine ⟨h.1, h.2.1, fun p j hm => ?_, h.2.2⟩
  obtain ⟨k, h1, h2⟩ := (h.2.1 p j).1 hm
  exact ⟨k, h1, lastIdx_spec bKeys k j h2⟩

example : unorderedA ["set peer P", "set pfs group5", "set nat-t-disable"] ["set pfs group2", "set peer P"] 0 [] =
    ([(1, 0)], [0], ["set peer P"]) := by decide +kernel
example : insertRuns ["set peer P"] ["set peer P", "set pfs group5", "set nat-t-disable"] 0 [] = [[1, 2]] := by decide +kernel

/-- **A transform-set found on the device has equal content** (`findSimpleObject`). -/
theorem simple_object_reuse_sound (ats : List DevTS) (content n : String) (h : findSimple ats content = some n) :
    ∃ t ∈ ats, t.name = n ∧ t.content = content :=
  findSimple_sound ats content n h

example : findSimple [{ name := "Zzz", content := "esp-aes" }, { name := "Aaa-DRC-1", content := "esp-aes" },
    { name := "B", content := "esp-3des" }] "esp-aes" = some "Aaa-DRC-1" := by decide +kernel

def cP (seq : Int) : Cmd := { name := "M", seq := seq, key := "set peer 10.0.0.6", body := ["set peer 10.0.0.6"], peer := some (.static "10.0.0.6") }
def cX (id : Nat) (seq : Int) (k : String) : Cmd := { id := id, name := "M", seq := seq, key := k, body := [k] }

/-- device: one entry for peer 10.0.0.6; target: two entries for that peer -/
def exDev : Config :=
  { intfs := ["outside"], maps := [("M", false, [(cP 1, "set peer 10.0.0.6")])], binds := [("M", "outside")] }
def exTgt : Config :=
  { maps := [("M", false, [(cP 1, ""), ({ cP 2 with id := 1 }, ""), (cX 2 2 "set pfs", "")])], binds := [("M", "outside")] }

/-- **Idempotence is false when the target has two entries for one peer** (F-VPN-duppeer): the first run adds the
second entry under a fresh number, the strict device accepts the script, the device then shows both entries —
and the second run deletes the added entry and adds it again.  Kernel-evaluated on the engine model and
the specification-side device. -/
theorem crypto_idempotent_counterexample :
    (engine exDev exTgt).isSome = true ∧
    (((engine exDev exTgt).bind (applyAll exDev)).bind fun a1 => engine a1 exTgt) ≠ some [] ∧
    (((engine exDev exTgt).bind (applyAll exDev)).map view) = some (view exTgt) := by
  decide +kernel

/-- The same at the level of `matchCryptoMap`: with two device entries and two target entries of one peer
the second device entry is handed over alone (deleted) and the second target entry is added under number 3. -/
theorem crypto_duplicate_peer_counterexample :
    matchCryptoMap [cP 1, cP 2] [cP 1, cP 2] =
      some [⟨[cP 1], [cP 1]⟩, ⟨[cP 2], []⟩, ⟨[], [cP 3]⟩] := by
  decide +kernel

/-- With pairwise distinct peers the second run of the example hands every entry over with its partner
and adds nothing (instance of `crypto_nothing_added_partial`). -/
example : matchCryptoMap [cP 4, { cP 7 with peer := some (.static "B") }] [{ cP 1 with peer := some (.static "B") }, cP 2] =
    some [⟨[cP 4], [cP 2]⟩, ⟨[{ cP 7 with peer := some (.static "B") }], [{ cP 1 with peer := some (.static "B") }]⟩] := by
  decide +kernel

def obligations : List Lean.Name := [
  ``crypto_seq_fresh, ``crypto_seq_fresh_applies, ``crypto_match_by_peer, ``crypto_device_entries_once,
  ``crypto_target_entries_once, ``crypto_nothing_added_partial, ``crypto_commands_address_device_seq,
  ``crypto_equal_line_exists, ``diffUnordered_is_set_diff, ``simple_object_reuse_sound, ``crypto_idempotent_counterexample,
  ``crypto_duplicate_peer_counterexample,
  -- named object graphs (NA/Props/VpnGraph.lean)
  ``NA.Vpn.G.cert_refs_created_first, ``NA.Vpn.G.cert_webvpn_exit_first, ``NA.Vpn.G.cert_repoint_counterexample,
  ``NA.Vpn.G.graph_unchanged_only_if_equivalent, ``NA.Vpn.G.graph_converges_partial, ``NA.Vpn.G.graph_fuel_suffices,
  ``NA.Vpn.G.graph_cleanup_accepted, ``NA.Vpn.G.graph_refs_created_first, ``NA.Vpn.G.graph_exec_frame, ``NA.Vpn.G.graph_body_targets,
  ``NA.Vpn.G.graph_unmanaged_untouched, ``NA.Vpn.G.graph_untagged_not_pending, ``NA.Vpn.G.graph_chain_protected]

end NA.Vpn
