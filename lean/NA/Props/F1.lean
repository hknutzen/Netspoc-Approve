import NA.Proofs.F1Names
import NA.Proofs.F1Lines
import NA.Proofs.F1Equalize
import NA.Proofs.F1Converge
import NA.Proofs.F1EndToEnd
import NA.Proofs.F1K2
import NA.Proofs.F1Idem
import NA.Proofs.F1RouteSafe
import NA.Proofs.F1Mode
import NA.Proofs.F1GroupSafe
/-!
# F1 — the ASA diff engine on the fragment {access-group, access-list + object-group network, route}

Model: `NA/Model/AsaEngine.lean` (`NA.F1.engine`), tied to `cisco/diff.go` by comparing its printed
script with the real `drc` line by line on every generated pair (harness/f1).  Specification side:
`NA/Spec/AsaDev.lean` (strict device).  All theorems are for ALL inputs (no bounds, no samples).

* `names_fresh` — `generateNamesForTransfer`: the generated name is not on the device; different target
  names get different generated names (unconditionally); the index is the first free one.
* `findGroup_sound` — a group adopted by `findGroupOnDevice` is a device group, was not `needed`, and has
  the same members as the target group.
* `group_equalize_converges` — the member commands of the in-place edit of `equalizedGroups`, executed
  strictly, leave exactly the target's member set; `group_edit_only_if_small` / `group_needed_never_edited`:
  the edit happens only if `ins+del ≤ |lb|` and never on a group that is already `needed`;
  `group_edit_emits_memOps`: what the model emits there is that member script.
* `asa_lines_with_groups_converge` — `diffASAACLs` with group references reduces to `planASA` on the merged
  list in which a kept pair with a changed reference is (new-only, old-only); `merged_list_projects`: that
  list contains every device line and every target line exactly once, in order.
* `objects_before_use` — in the script of the whole engine every object-group is created before the first
  line that uses it, nothing is removed before `deleteUnused`, `deleteUnused` adds no line;
  `tail_acl_before_group`: an access list is cleared before a group it references is removed.
* From section 6 on: the script on the strict device (classes K1, K2, ISO), routes, configuration modes, and the findings
  evaluated by the kernel; each theorem says there what it claims.
-/
namespace NA.F1
open NA.AsaDev
open NA.Acl (Range)

/-! ## 1. Generated names -/

theorem names_fresh (base : Name) (dev : List Name) :
    genName base dev ∉ dev ∧ isTagged (genName base dev) = true ∧
    (∀ k, k < firstFree base (dev.length + 1) dev 0 → drcName base k ∈ dev) :=
  ⟨genName_fresh base dev, genName_tagged base dev, genName_least base dev⟩

theorem names_injective {b₁ b₂ : Name} {d₁ d₂ : List Name} (h : genName b₁ d₁ = genName b₂ d₂) : b₁ = b₂ :=
  genName_injective h

example : genName "g0" ["g0-DRC-0", "x", "g0-DRC-1"] = "g0-DRC-2" := by decide +kernel
example : genName "g0-DRC-0" ["g0-DRC-0"] = "g0-DRC-0-DRC-0" := by decide +kernel

/-! ## 2. `findGroupOnDevice` -/

theorem findGroup_sound (e : Env) (st : St) (bN : Name) : FindResult e st (findGroup e st bN) bN :=
  findGroup_result e st bN

/-- What `findGroupIn` answers is one of the candidates, not `needed`, with the target's members.  That it is the
FIRST such candidate in ascending name order is its definition (`List.find?` over the sorted device names) and
is not part of this statement. -/
theorem findGroup_first {names needed : List Name} {mA : Name → List String} {mb : List String} {aN : Name}
    (h : findGroupIn names needed mA mb = some aN) :
    aN ∈ names ∧ aN ∉ needed ∧ mA aN = mb := findGroupIn_sound h

/-! ## 3. In-place edit of a group -/

theorem group_equalize_converges (la lb cur : List String) (rs : List Range) (hv : scriptOK la lb rs 0 0 = true)
    (hna : la.Nodup) (hnb : lb.Nodup) (hcur : cur.Perm la) (hdisj : ∀ m ∈ inssOf lb rs, m ∉ delsOf la rs) :
    ∃ l', applyMem cur (memOps la lb rs) = some l' ∧ l'.Perm lb :=
  memOps_converge la lb cur rs hv hna hnb hcur hdisj

theorem group_edit_emits_memOps (aN : Name) (la lb : List String) (rs : List Range) (st : St) :
    (editMembers st aN la lb rs).out.filterMap chgMem = st.out.filterMap chgMem ++ memOps la lb rs :=
  editMembers_mem aN la lb rs st

theorem group_needed_never_edited (e : Env) (st : St) (aN bN : Name) (h : st.gNeeded.contains aN = true) :
    (equalizedGroups e st aN bN).1.out = st.out := equalize_needed_never_edited e st aN bN h

theorem group_edit_only_if_small (e : Env) (st : St) (aN bN : Name)
    (h : (equalizedGroups e st aN bN).1.out ≠ st.out) :
    st.gNeeded.contains aN = false ∧
    (scriptStat (lookupD e.sc.grp (aN, bN))).1 + (scriptStat (lookupD e.sc.grp (aN, bN))).2 ≤ (e.bMembers bN).length ∧
    aN ∈ (equalizedGroups e st aN bN).1.gNeeded ∧ bN ∈ (equalizedGroups e st aN bN).1.gReady ∧
    (equalizedGroups e st aN bN).1.gNameOf bN = aN ∧ (equalizedGroups e st aN bN).2 = true :=
  equalize_edit_only_if_small e st aN bN h

/-- Non-vacuity: device group {1,2,4}, target {1,3,4}: delete 2, insert 3. -/
example : scriptOK ["h1", "h2", "h4"] ["h1", "h3", "h4"] [⟨0, 1, 0, 1⟩, ⟨1, 2, 1, 1⟩, ⟨2, 2, 1, 2⟩, ⟨2, 3, 2, 3⟩] 0 0 = true := by decide +kernel
example : applyMem ["h4", "h1", "h2"] (memOps ["h1", "h2", "h4"] ["h1", "h3", "h4"]
    [⟨0, 1, 0, 1⟩, ⟨1, 2, 1, 1⟩, ⟨2, 2, 1, 2⟩, ⟨2, 3, 2, 3⟩]) = some ["h4", "h1", "h3"] := by decide +kernel
/-- The hypothesis "no member is both deleted and inserted" is needed: a (non-optimal) script that inserts
`h1` before deleting it is refused by the strict device. -/
example : applyMem ["h1"] (memOps ["h1"] ["h1"] [⟨0, 0, 0, 1⟩, ⟨0, 1, 1, 1⟩]) = none := by decide +kernel

/-! ## 4. Lines with groups -/

theorem asa_lines_with_groups_converge (cells : List MCell) (mkeys : List String)
    (hlen : mkeys.length = cells.length)
    (hold : DistinctOn cells mkeys cellOld) (hnew : DistinctOn cells mkeys cellNew) :
    NA.Acl.asaExec (NA.Acl.olds (encodeCells cells mkeys)) (NA.Acl.planASA (encodeCells cells mkeys))
      = some (NA.Acl.news (encodeCells cells mkeys)) :=
  lines_with_groups_converge cells mkeys hlen hold hnew

theorem merged_list_projects (e : Env) (al bl : List Line) (rs : List Range) (st : St)
    (h : scriptOK (al.map (·.body)) (bl.map (·.body)) rs 0 0 = true) :
    (cellsPhase e al bl rs st []).2.filterMap cellA = List.range' 0 al.length ∧
    (cellsPhase e al bl rs st []).2.filterMap cellB = List.range' 0 bl.length := by
  obtain ⟨ia, ib, hs, pa, pb, _⟩ := cellsPhase_cellsAt e al bl rs st h
  simp only [scriptOK, Bool.and_eq_true, beq_iff_eq, List.length_map] at hs
  rw [hs.1] at pa; rw [hs.2] at pb
  exact ⟨pa, pb⟩

/-- Non-vacuity: a kept pair whose group changed (cell 0/1) and an unchanged pair. -/
example : NA.Acl.planASA (encodeCells [.ins 0, .del 0, .keep 1 1] ["x gNew", "x gOld", "y"]) =
    [.add 0 ⟨0, 0, true, false, 0⟩, .del 1 ⟨1, 1, true, false, 0⟩] := by decide +kernel

/-! ## 5. Order of creation, use and removal in the whole script (C08) -/

theorem objects_before_use (a b : Config) (sc : Scripts) (r : Result) (hA : RefsClosedA ⟨a, b, sc⟩)
    (h : engine a b sc = some r) :
    ∃ body tail, r.script = body ++ tail ∧ createdBeforeUse (a.groups.map (·.1)) r.script = true ∧
      (∀ c ∈ body, removesObject c = false) ∧ (∀ c ∈ tail, TailCmd c) :=
  engine_order a b sc r hA h

theorem tail_acl_before_group (e : Env) (st : St) (managed : List Nat) :
    ∃ cs, (deleteUnused e st managed).out = st.out ++ cs ∧ cs.Pairwise (TailRel e) :=
  deleteUnused_order e st managed

/-! ## 6. Convergence on the strict device (`NA.AsaDev`), as far as it is proved

`Sem e st d` (NA/Proofs/F1Sem.lean) relates the engine's marks to the device: original groups still exist,
a group that is not `needed` has its original members, a `ready` target group carries the name of an
existing device group with the target's members that nothing edits any more (`Frozen`), a target group
that is not `ready` carries its generated name, which does not exist yet.
`GStep`/`LStep`: the appended commands are accepted by the strict device (`exec d cs = some d'`), `Sem`
holds afterwards, frozen groups keep their members, other access lists, bindings, routes are unchanged. -/

/-- `Sem` holds when `diffConfig` starts. -/
theorem sem_initial (a b : Config) (sc : Scripts) (st : St) (managed : List Nat)
    (h : checkInterfaces ⟨a, b, sc⟩ {} = some (st, managed)) :
    Sem ⟨a, b, sc⟩ (generateNames ⟨a, b, sc⟩ st) (ofConfig a) := sem_init a b sc st managed h

/-- `group_equalize_converges` on the strict device: the commands of the in-place edit (with the `exit` /
`object-group` lines around them) are accepted; afterwards the device group holds exactly the target's
members; all other groups, access lists, bindings and routes are unchanged. -/
theorem group_equalize_converges_dev (st : St) (d : Dev) (aN : Name) (la lb : List String) (rs : List Range)
    (hn : aN ≠ "") (hm : ModeRel st d) (hg : hasGroup d aN = true)
    (hv : scriptOK la lb rs 0 0 = true) (hna : la.Nodup) (hnb : lb.Nodup) (hcur : (membersOf d aN).Perm la)
    (hdisj : ∀ m ∈ inssOf lb rs, m ∉ delsOf la rs) :
    ∃ cs d', (editMembers st aN la lb rs).out = st.out ++ cs ∧ exec d cs = some d' ∧
      ModeRel (editMembers st aN la lb rs) d' ∧ (membersOf d' aN).Perm lb ∧ OnlyGroup d d' aN :=
  editMembers_converges st d aN la lb rs hn hm hg hv hna hnb hcur hdisj

/-- `equalizedGroups` (all branches) preserves `Sem`; if it answers `true`, the target group is `ready`
under the device group's name (hence that group has the target's members and is frozen). -/
theorem equalizedGroups_sound (e : Env) (hw : WF e) (st : St) (d : Dev) (h : Sem e st d) (aN bN : Name)
    (ha : aN ∈ D0 e) (hb : bN ∈ BNames e) :
    ∃ d', GStep e st d (equalizedGroups e st aN bN).1 d' ∧
      ((equalizedGroups e st aN bN).2 = true →
        bN ∈ (equalizedGroups e st aN bN).1.gReady ∧ (equalizedGroups e st aN bN).1.gNameOf bN = aN) :=
  (equalizedGroups_gstep e hw st d h aN bN ha hb).imp fun _ g => ⟨g, equalizedGroups_true e st aN bN⟩

/-- Transfer of a whole group (`addCmds`): accepted, `Sem` preserved, the group is `ready` afterwards. -/
theorem transferGroup_sound (e : Env) (hw : WF e) (st : St) (d : Dev) (h : Sem e st d) (bN : Name) (hb : bN ∈ BNames e) :
    ∃ d', GStep e st d (transferGroup e st bN) d' ∧ bN ∈ (transferGroup e st bN).gReady ∧
      (transferGroup e st bN).gName = st.gName :=
  (transferGroup_gstep e hw st d h bN hb).imp fun _ g => ⟨g, transferGroup_ready e st bN, transferGroup_gName e st bN⟩

/-- **`asa_acl_pair_converges_partial`** — `diffASAACLs` for one pair (device ACL `aN`, target ACL `bN`), from ANY engine
state satisfying `Sem` (arbitrary sharing of groups with lines and access lists handled before): every
emitted command is accepted by the strict device (referenced groups exist, no duplicate entry, every
`line N` hits the intended line, member commands inside their sub-mode); afterwards the device ACL has the
target's length and position by position the target's text up to group names, every referenced group
existing with exactly the target group's members and frozen.  `_partial`: the decidable hypothesis
`planCheck … = "hyp:ok"` (some kept line keeps its references — complement of F-C08a; printed texts
modulo log pairwise different per side) is evaluated and counted by the driver on every generated run. -/
theorem asa_acl_pair_converges_partial (e : Env) (hw : WF e) (hA : RefsClosedA e) (hB : RefsClosedB e) (st : St) (d : Dev)
    (h : Sem e st d) (aN bN : Name) (rs : List Range)
    (hal : linesOf d aN = (e.aLines aN).map resolveA)
    (hscript : scriptOK ((e.aLines aN).map (·.body)) ((e.bLines bN).map (·.body)) rs 0 0 = true)
    (hcheck : planCheck e st aN bN rs = "hyp:ok")
    (hlenA : RefsMatchBody (e.aLines aN)) (hlenB : RefsMatchBody (e.bLines bN)) :
    ∃ d', LStep e st d (diffASAACLs e st aN bN rs) d' aN ∧
      (linesOf d' aN).length = (e.bLines bN).length ∧
      ∀ p ∈ (linesOf d' aN).zip (e.bLines bN), LineOK e (diffASAACLs e st aN bN rs) d' p.1 p.2 :=
  acl_pair_converges_checked e hw hA hB st d h aN bN rs hal hscript hcheck hlenA hlenB

/-- **`asa_F1_converges_partial`** — END TO END for the class K1: device and target bind one access list at the
same (direction, interface); no routes on either side; the passed script of the pair keeps a line
(incremental update); all static well-formedness conditions and the counted run hypothesis hold — one
decidable predicate `k1Check a b sc`, evaluated by the driver on every generated case.
Then the WHOLE script printed by the engine — group edits and transfers, line operations with moves,
and the clean-up of `deleteUnused` (`exit`, `clear configure access-list`, `no object-group`) — is
accepted by the strict device started on the device configuration; bindings and routes are unchanged;
the bound access list has the target's length and, position by position, the target's text up to group
names, every referenced group existing with exactly the target group's members. -/
theorem asa_F1_converges_partial (a b : Config) (sc : Scripts) (hc : k1Check a b sc = true) :
    ∃ aAcl bAcl script d', a.binds.map (·.acl) = [aAcl] ∧ b.binds.map (·.acl) = [bAcl] ∧
      (engine a b sc).map (·.script) = some script ∧ exec (ofConfig a) script = some d' ∧
      d'.binds = (ofConfig a).binds ∧ d'.routes = (ofConfig a).routes ∧
      (linesOf d' aAcl).length = ((⟨a, b, sc⟩ : Env).bLines bAcl).length ∧
      ∀ p ∈ (linesOf d' aAcl).zip ((⟨a, b, sc⟩ : Env).bLines bAcl), LineEquiv ⟨a, b, sc⟩ d' p.1 p.2 :=
  k1_converges_checked a b sc hc

/-- `deleteUnused` on the strict device when no access-group command is pending: the pending access lists
(existing, unbound) are cleared, then the pending groups (existing, referenced by no access list that
stays) are removed; nothing else changes. -/
theorem deleteUnused_accepted (e : Env) (st : St) (managed : List Nat) (d : Dev) (hm : ModeRel st d)
    (hb : (duPending e st managed).1.binds = [])
    (hA : (duPending e st managed).1.acls.Nodup) (hG : (duPending e st managed).1.grps.Nodup)
    (hAok : ∀ m ∈ (duPending e st managed).1.acls, hasAcl d m = true ∧ aclBound d m = false)
    (hGok : ∀ g ∈ (duPending e st managed).1.grps, hasGroup d g = true ∧
      ∀ p ∈ d.acls, p.1 ∉ (duPending e st managed).1.acls → ∀ l ∈ p.2, g ∉ l.names) :
    ∃ tail d', (deleteUnused e st managed).out = st.out ++ tail ∧ exec d tail = some d' ∧
      d'.acls = d.acls.filter (fun p => !(duPending e st managed).1.acls.contains p.1) ∧
      (∀ g, g ∉ (duPending e st managed).1.grps → d'.groups.lookup g = d.groups.lookup g ∧
        d'.groups.any (·.1 == g) = d.groups.any (·.1 == g)) ∧
      d'.binds = d.binds ∧ d'.routes = d.routes ∧ d'.intfs = d.intfs := by
  -- the case "no access-group command pending" of `deleteUnused_exec`
  obtain ⟨tail, d', h1, h2, ⟨h3, h4, h5, h6, h7⟩⟩ := deleteUnused_exec e st managed d hm ⟨by rw [hb]; exact List.nodup_nil,
    (by rw [hb]; exact fun _ h => nomatch h), hA, hG,
    fun m hm' => ⟨(hAok m hm').1, fun p hp _ e1 =>
      Bool.eq_false_iff.mp (hAok m hm').2 (List.any_eq_true.mpr ⟨p, hp, (beq_iff_eq.mpr e1 : (p.2 == m) = true)⟩)⟩,
    (by rw [hb]; exact fun _ _ _ h => nomatch h), hGok⟩
  refine ⟨tail, d', h1, h2, h3, h4, ?_, h6, h7⟩
  rw [h5, hb]
  exact List.filter_eq_self.mpr (fun _ _ => rfl)

/-! ## 7. F-C01b: idempotence in one run is false (kernel-evaluated on model + strict device) -/

def exLine (proto port g : String) : Line :=
  ⟨["permit " ++ proto ++ " object-group ", " any4 eq " ++ port], ["permit " ++ proto ++ " object-group ", " any4 eq " ++ port], [g]⟩

/-- Device: two identical groups, `oldg0` referenced, `g0-DRC-7` left over. -/
def exDev : Config :=
  { intfs := ["inside"], groups := [("oldg0", ["host 10.1.1.1"]), ("g0-DRC-7", ["host 10.1.1.1"])], acls := [("inside_in", [exLine "tcp" "22" "oldg0"])], binds := [⟨"inside_in", "in", "inside"⟩] }

/-- Target: one more line, using the same group. -/
def exTgt : Config :=
  { groups := [("g0", ["host 10.1.1.1"])], acls := [("inside_in", [exLine "udp" "53" "g0", exLine "tcp" "22" "g0"])], binds := [⟨"inside_in", "in", "inside"⟩] }

def exScripts : Scripts :=
  { acl := [(("inside_in", "inside_in"), [⟨0, 0, 0, 1⟩, ⟨0, 1, 1, 2⟩])], grp := [(("oldg0", "g0"), [⟨0, 1, 0, 1⟩]), (("g0-DRC-7", "g0"), [⟨0, 1, 0, 1⟩])] }

/-- Scripts of the second compare (the ACLs are equal now). -/
def exScripts2 : Scripts :=
  { acl := [(("inside_in", "inside_in"), [⟨0, 2, 0, 2⟩])], grp := [(("oldg0", "g0"), [⟨0, 1, 0, 1⟩]), (("g0-DRC-7", "g0"), [⟨0, 1, 0, 1⟩])] }

example : RefsClosedA ⟨exDev, exTgt, exScripts⟩ := RefsClosedA.of_check (by decide +kernel)

/-- The device after executing the first script on the strict device. -/
def exAfter : Option Dev := (engine exDev exTgt exScripts).bind fun r => exec (ofConfig exDev) r.script

/-- The first run adopts the left-over group for the new line early, then renames the target group to
`oldg0`; its script is one line, accepted by the strict device; the result is equivalent to the target
(same expanded view) — but the left-over generated group `g0-DRC-7` is still there, and a second
compare of that device is not empty. -/
theorem idempotent_counterexample :
    (engine exDev exTgt exScripts).map (fun r => showChanges r.script) =
      some ["access-list inside_in line 1 extended permit udp object-group oldg0 any4 eq 53"] ∧
    exAfter.map (fun d' =>
      (view d' [("in", "inside")] false == view (ofConfig { exTgt with intfs := ["inside"] }) [("in", "inside")] false,
       leftovers d',
       (engine (toConfig d') exTgt exScripts2).map (fun r => showChanges r.script))) =
      some (true, ["object-group g0-DRC-7"], some ["no object-group network g0-DRC-7"]) := by
  decide +kernel

/-! ### Non-vacuity of `asa_acl_pair_converges_partial`: the F-C01b configuration satisfies every hypothesis -/

def exEnv : Env := ⟨exDev, exTgt, exScripts⟩
def exInit : St × List Nat := (checkInterfaces exEnv {}).getD default

theorem exInit_ok : checkInterfaces exEnv {} = some (exInit.1, exInit.2) := by
  have h : (checkInterfaces exEnv {}).isSome = true := by decide +kernel
  unfold exInit
  cases hc : checkInterfaces exEnv {} with
  | none => rw [hc] at h; exact absurd h (by decide +kernel)
  | some p => rfl

example : ∃ d', LStep exEnv (generateNames exEnv exInit.1) (ofConfig exDev)
      (diffASAACLs exEnv (generateNames exEnv exInit.1) "inside_in" "inside_in" [⟨0, 0, 0, 1⟩, ⟨0, 1, 1, 2⟩]) d' "inside_in" ∧
    (linesOf d' "inside_in").length = (exEnv.bLines "inside_in").length ∧
    ∀ p ∈ (linesOf d' "inside_in").zip (exEnv.bLines "inside_in"),
      LineOK exEnv (diffASAACLs exEnv (generateNames exEnv exInit.1) "inside_in" "inside_in" [⟨0, 0, 0, 1⟩, ⟨0, 1, 1, 2⟩]) d' p.1 p.2 :=
  asa_acl_pair_converges_partial exEnv (WF.of_check (by decide +kernel)) (RefsClosedA.of_check (by decide +kernel))
    (RefsClosedB.of_check (by decide +kernel)) _ _ (sem_initial exDev exTgt exScripts _ _ exInit_ok)
    "inside_in" "inside_in" _ (by decide +kernel) (by decide +kernel) (by decide +kernel)
    (RefsMatchBody.of_check (by decide +kernel)) (RefsMatchBody.of_check (by decide +kernel))

/-- Non-vacuity of `asa_F1_converges_partial`: the F-C01b configuration is in class K1 and passes the check
(its script is accepted and the result is equivalent — the left-over group of F-C01b is not excluded by
this theorem, it only is not removed). -/
example : k1Check exDev exTgt exScripts = true := by decide +kernel

/-! ## 8. The whole engine on the strict device, class K2

Class K2 (`k2Check`, one decidable predicate over the two configurations and the Myers scripts, evaluated by the
driver on every generated case): several access-group commands (in/out, several interfaces); commands of
interfaces unknown to the target stay (`markNeeded`); the compared commands go through `diffCmds` of the
anchors in either branch — "some parts equal": slices of device commands removed (`no access-group`,
`markDeleted`), target commands added at new places (`addCmds`), kept pairs equalised (`makeEqual`); "no parts
equal": every device command marked and removed by `deleteUnused` (`du:no-access-group`), every target command
added; every pair of bound access lists goes through ANY of the four branches of `diffCmds` for access lists
(device ACL already `needed` → transfer; target ACL already `ready`; no parts equal → `markDeleted` + transfer
of a new ACL and re-binding; incremental `diffASAACLs` with the counted hypothesis `hyp:ok`), object-groups
shared between lines and access lists in any way; routes with pairwise different destinations per side (add,
remove, replace); `deleteUnused` with removed access-group commands, cleared access lists and removed groups.
Outside: runs with `hyp:no-kept-line` / `hyp:duplicate-text` (F-C08a); two device routes to one prefix
(`two_routes_one_prefix_outside_spec`). -/

/-- **`asa_F1_converges`** — END TO END for class K2: the WHOLE script printed by the engine is accepted by the
strict device started on the device configuration, and the resulting device carries the target: interfaces as
before; an access-group command only at a place named by the target or at a place of an interface unknown to
the target; at every place named by the target an access list is bound
that has the target's length and, position by position, the target's text up to group names, every referenced
group existing with exactly the target group's members; the routes are the target's routes as a set (if the
target has none, the old ones stay). -/
theorem asa_F1_converges (a b : Config) (sc : Scripts) (hc : k2Check a b sc = true) :
    ∃ script d', (engine a b sc).map (·.script) = some script ∧ exec (ofConfig a) script = some d' ∧
      Converged ⟨a, b, sc⟩ d' := k2_converges a b sc hc

/-- **`asa_F1_unchanged_only_if_equivalent`** (C01, class K2): if the engine prints NO change, the device
already carries the target. -/
theorem asa_F1_unchanged_only_if_equivalent (a b : Config) (sc : Scripts) (hc : k2Check a b sc = true)
    (h : (engine a b sc).map (·.script) = some []) : Converged ⟨a, b, sc⟩ (ofConfig a) := by
  obtain ⟨script, d', h1, h2, h3⟩ := k2_converges a b sc hc
  rw [h] at h1
  have : script = [] := by simpa using h1.symm
  subst this
  have : d' = ofConfig a := by simpa [exec] using h2.symm
  rw [← this]; exact h3

/-- **`asa_F1_resume_partial`** (C10, class K2): EVERY prefix of the printed script is accepted by the strict
device; and whatever configuration `a'` the device shows after that prefix (`ofConfig a' = dm`; `ofConfig` is a
device at top level, so this half is silent about a `dm` left inside an object-group sub-mode), with whatever
Myers scripts `sc'` of the new comparison: if the pair (`a'`, target) is again in class K2, planning again and
executing on the interrupted device is accepted and ends in a device that carries the target.
FULL statement (not closed): the same without the hypothesis `k2Check a' b sc'`, for `a'` read back from `dm`
and `sc'` valid scripts.  MISSING PIECE: class K2 is not shown to be closed under executing a prefix of the
script — the counted run hypothesis `hyp:ok` of the NEW plan (F-C08a is reachable from an interrupted run) and
the binding shape after a cut between `access-list … -DRC-0` and its `access-group`.  The harness evaluates
`k2Check` on every cut state and runs the real code there (C10 oracle on all cut states, in or out of K2). -/
theorem asa_F1_resume_partial (a b : Config) (sc : Scripts) (hc : k2Check a b sc = true) :
    ∃ script, (engine a b sc).map (·.script) = some script ∧
      ∀ pre suf, script = pre ++ suf → ∃ dm, exec (ofConfig a) pre = some dm ∧
        ∀ a' sc', ofConfig a' = dm → k2Check a' b sc' = true →
          ∃ script' d'', (engine a' b sc').map (·.script) = some script' ∧ exec dm script' = some d'' ∧
            Converged ⟨a', b, sc'⟩ d'' := by
  obtain ⟨script, d', h1, h2, _⟩ := k2_converges a b sc hc
  refine ⟨script, h1, ?_⟩
  intro pre suf hs
  rw [hs, exec_append] at h2
  obtain ⟨dm, hp, -⟩ := Option.bind_eq_some_iff.mp h2
  refine ⟨dm, hp, ?_⟩
  intro a' sc' ha' hc'
  obtain ⟨script', d'', g1, g2, g3⟩ := k2_converges a' b sc' hc'
  exact ⟨script', d'', g1, by rw [← ha']; exact g2, g3⟩

/-! ### Non-vacuity: a device with three compared access-group commands (in and out, two interfaces), one command
of an interface unknown to the target, a group shared by two access lists, an unshared new group, an access
list replaced as a whole (re-binding) and route add + replace is in class K2. -/

def xLine (proto port g : String) : Line :=
  ⟨["permit " ++ proto ++ " object-group ", " any4 eq " ++ port], ["permit " ++ proto ++ " object-group ", " any4 eq " ++ port], [g]⟩

def ex2Dev : Config :=
  { intfs := ["inside", "outside", "dmz"],
    groups := [("g_web", ["host 10.1.1.1", "host 10.1.1.2"]), ("g_db", ["host 10.2.2.2"]), ("g_dmz", ["host 10.3.3.3"])],
    acls := [("inside_in", [xLine "tcp" "22" "g_web", xLine "tcp" "80" "g_web"]), ("inside_out", [xLine "udp" "53" "g_db"]),
             ("outside_in", [xLine "tcp" "443" "g_web"]), ("dmz_in", [xLine "tcp" "25" "g_dmz"])],
    binds := [⟨"inside_in", "in", "inside"⟩, ⟨"inside_out", "out", "inside"⟩, ⟨"outside_in", "in", "outside"⟩, ⟨"dmz_in", "in", "dmz"⟩],
    routes := [⟨"inside 10.9.0.0 255.255.0.0 10.1.1.254", "10.9.0.0/16", 112⟩, ⟨"outside 0.0.0.0 0.0.0.0 1.1.1.1", "0.0.0.0/0", 128⟩] }

def ex2Tgt : Config :=
  { groups := [("g_web", ["host 10.1.1.1", "host 10.1.1.3"]), ("g_db", ["host 10.2.2.2"]), ("g_new", ["host 10.4.4.4"])],
    acls := [("inside_in", [xLine "tcp" "22" "g_web", xLine "tcp" "8080" "g_new", xLine "tcp" "80" "g_web"]),
             ("inside_out", [xLine "udp" "53" "g_db"]), ("outside_in2", [xLine "udp" "500" "g_web"])],
    binds := [⟨"inside_in", "in", "inside"⟩, ⟨"inside_out", "out", "inside"⟩, ⟨"outside_in2", "in", "outside"⟩],
    routes := [⟨"inside 10.9.0.0 255.255.0.0 10.1.1.253", "10.9.0.0/16", 112⟩, ⟨"outside 0.0.0.0 0.0.0.0 1.1.1.1", "0.0.0.0/0", 128⟩,
               ⟨"inside 10.8.0.0 255.255.0.0 10.1.1.253", "10.8.0.0/16", 112⟩] }

def ex2Scripts : Scripts :=
  { acl := [(("inside_in", "inside_in"), [⟨0, 1, 0, 1⟩, ⟨1, 1, 1, 2⟩, ⟨1, 2, 2, 3⟩]), (("inside_out", "inside_out"), [⟨0, 1, 0, 1⟩]),
            (("outside_in", "outside_in2"), [⟨0, 1, 0, 0⟩, ⟨1, 1, 0, 1⟩])],
    grp := [(("g_web", "g_web"), [⟨0, 1, 0, 1⟩, ⟨1, 2, 1, 1⟩, ⟨2, 2, 1, 2⟩]), (("g_web", "g_db"), [⟨0, 2, 0, 0⟩, ⟨2, 2, 0, 1⟩]),
            (("g_web", "g_new"), [⟨0, 2, 0, 0⟩, ⟨2, 2, 0, 1⟩]), (("g_db", "g_web"), [⟨0, 1, 0, 0⟩, ⟨1, 1, 0, 2⟩]),
            (("g_db", "g_db"), [⟨0, 1, 0, 1⟩]), (("g_db", "g_new"), [⟨0, 1, 0, 0⟩, ⟨1, 1, 0, 1⟩]),
            (("g_dmz", "g_web"), [⟨0, 1, 0, 0⟩, ⟨1, 1, 0, 2⟩]), (("g_dmz", "g_db"), [⟨0, 1, 0, 0⟩, ⟨1, 1, 0, 1⟩]),
            (("g_dmz", "g_new"), [⟨0, 1, 0, 0⟩, ⟨1, 1, 0, 1⟩])] }

/-- Non-vacuity of `asa_F1_converges` / `asa_F1_resume_partial`. -/
example : k2Check ex2Dev ex2Tgt ex2Scripts = true := by decide +kernel

/-- ... and what the engine prints there (11 commands: group edit in place, new group, line insert, new access
list + re-binding, route add, route replace, clean-up). -/
example : (engine ex2Dev ex2Tgt ex2Scripts).map (fun r => showChanges r.script) = some [
    "object-group network g_web", "no network-object host 10.1.1.2", "network-object host 10.1.1.3",
    "object-group network g_new-DRC-0", "network-object host 10.4.4.4",
    "access-list inside_in line 2 extended permit tcp object-group g_new-DRC-0 any4 eq 8080",
    "access-list outside_in2-DRC-0 extended permit udp object-group g_web any4 eq 500",
    "access-group outside_in2-DRC-0 in interface outside", "route inside 10.8.0.0 255.255.0.0 10.1.1.253",
    "no route inside 10.9.0.0 255.255.0.0 10.1.1.254\\N route inside 10.9.0.0 255.255.0.0 10.1.1.253",
    "clear configure access-list outside_in"] := by decide +kernel

/-- Non-vacuity for the other branches of the anchors: an access-group command removed and one added at a new
place (`bind:del`, `bind:add`); and "no parts equal" (both commands replaced, `du:no-access-group`). -/
def ex5Dev : Config :=
  { intfs := ["inside", "dmz"], groups := [("g1", ["host 10.1.1.1"])],
    acls := [("inside_in", [xLine "tcp" "22" "g1"]), ("dmz_in", [xLine "tcp" "25" "g1"])],
    binds := [⟨"inside_in", "in", "inside"⟩, ⟨"dmz_in", "in", "dmz"⟩] }
def ex5Tgt : Config :=
  { groups := [("g1", ["host 10.1.1.1"])],
    acls := [("inside_in", [xLine "tcp" "22" "g1"]), ("dmz_out", [xLine "udp" "53" "g1"])],
    binds := [⟨"inside_in", "in", "inside"⟩, ⟨"dmz_out", "out", "dmz"⟩] }
def ex5Scripts : Scripts := { acl := [(("inside_in", "inside_in"), [⟨0, 1, 0, 1⟩])], grp := [(("g1", "g1"), [⟨0, 1, 0, 1⟩])] }
def ex6Tgt : Config :=
  { groups := [("g1", ["host 10.1.1.1"])],
    acls := [("inside_out", [xLine "tcp" "22" "g1"]), ("dmz_out", [xLine "udp" "53" "g1"])],
    binds := [⟨"inside_out", "out", "inside"⟩, ⟨"dmz_out", "out", "dmz"⟩] }

example : k2Check ex5Dev ex5Tgt ex5Scripts = true ∧
    (engine ex5Dev ex5Tgt ex5Scripts).map (fun r => showChanges r.script) = some [
      "no access-group dmz_in in interface dmz",
      "access-list dmz_out-DRC-0 extended permit udp object-group g1 any4 eq 53",
      "access-group dmz_out-DRC-0 out interface dmz", "clear configure access-list dmz_in"] := by
  decide +kernel

example : k2Check ex5Dev ex6Tgt ex5Scripts = true ∧
    (engine ex5Dev ex6Tgt ex5Scripts).map (fun r => showChanges r.script) = some [
      "object-group network g1-DRC-0", "network-object host 10.1.1.1",
      "access-list inside_out-DRC-0 extended permit tcp object-group g1-DRC-0 any4 eq 22",
      "access-group inside_out-DRC-0 out interface inside",
      "access-list dmz_out-DRC-0 extended permit udp object-group g1-DRC-0 any4 eq 53",
      "access-group dmz_out-DRC-0 out interface dmz", "no access-group inside_in in interface inside",
      "no access-group dmz_in in interface dmz", "clear configure access-list dmz_in",
      "clear configure access-list inside_in", "no object-group network g1"] := by
  decide +kernel

/-- Non-vacuity of `asa_F1_unchanged_only_if_equivalent`: target = device (own names, identity scripts) is in
class K2 and the engine prints nothing. -/
def ex3Tgt : Config := { ex2Dev with intfs := [], binds := ex2Dev.binds.take 3, acls := ex2Dev.acls.take 3, groups := ex2Dev.groups.take 2 }
def ex3Scripts : Scripts :=
  { acl := [(("inside_in", "inside_in"), [⟨0, 2, 0, 2⟩]), (("inside_out", "inside_out"), [⟨0, 1, 0, 1⟩]), (("outside_in", "outside_in"), [⟨0, 1, 0, 1⟩])],
    grp := [(("g_web", "g_web"), [⟨0, 2, 0, 2⟩]), (("g_web", "g_db"), [⟨0, 2, 0, 0⟩, ⟨2, 2, 0, 1⟩]),
            (("g_db", "g_web"), [⟨0, 1, 0, 0⟩, ⟨1, 1, 0, 2⟩]), (("g_db", "g_db"), [⟨0, 1, 0, 1⟩]),
            (("g_dmz", "g_web"), [⟨0, 1, 0, 0⟩, ⟨1, 1, 0, 2⟩]), (("g_dmz", "g_db"), [⟨0, 1, 0, 0⟩, ⟨1, 1, 0, 1⟩])] }
example : k2Check ex2Dev ex3Tgt ex3Scripts = true ∧ (engine ex2Dev ex3Tgt ex3Scripts).map (·.script) = some [] := by
  decide +kernel

/-! ### Idempotence

Class ISO (`isoCheck`, decidable and STATIC — it does not evaluate the engine): the compared access-group
commands sit at the same places; the bound access lists are paired one to one and their passed scripts are one
"equal" range over all lines; the object-groups referenced at the same positions of paired lines are paired one
to one, their passed scripts keep every member; none of these objects is used by a command of an unknown
interface; same routes; every generated (`-DRC-`) object is one of the paired ones (or needed by an unknown
interface). -/

/-- **`asa_F1_iso_quiet`** — a comparison in class ISO prints NOTHING (all of `diffConfig`: the anchors, the
incremental access-list comparison with `equalizedGroups` of every referenced pair, the routes, `deleteUnused`). -/
theorem asa_F1_iso_quiet (a b : Config) (sc : Scripts) (hc : isoCheck a b sc = true) :
    (engine a b sc).map (·.script) = some [] := iso_quiet a b sc hc

/-- **`asa_F1_idempotent_partial`** (class K2 for the first run, class ISO for the second): the script of the
first run is accepted and ends in a device that carries the target; whatever configuration `a'` that device
shows (`ofConfig a' = d'`: at top level — silent if the script ends inside an object-group sub-mode) and whatever
scripts `sc'` the second comparison passes: if (`a'`, target, `sc'`) is in class ISO, the
second plan is EMPTY.
FULL statement (false in general — F-C01b, `idempotent_counterexample`): the same without `isoCheck`.
MISSING PIECE: the bridge from the semantic result `Converged` to the syntactic class ISO — (1) no left-over
generated object (fails exactly in F-C01b: a group adopted early by `findGroupOnDevice` and then abandoned),
(2) one-to-one pairing of the groups (the first run never merges two target groups into one device group, not
proved), (3) the Myers scripts of two equal lists are identity scripts (a property of `myers.Diff`, outside
the model).  The harness evaluates `isoCheck` on every second comparison and counts how often it holds. -/
theorem asa_F1_idempotent_partial (a b : Config) (sc : Scripts) (hc : k2Check a b sc = true) :
    ∃ script d', (engine a b sc).map (·.script) = some script ∧ exec (ofConfig a) script = some d' ∧
      Converged ⟨a, b, sc⟩ d' ∧
      ∀ a' sc', ofConfig a' = d' → isoCheck a' b sc' = true → (engine a' b sc').map (·.script) = some [] := by
  obtain ⟨script, d', h1, h2, h3⟩ := k2_converges a b sc hc
  exact ⟨script, d', h1, h2, h3, fun a' sc' _ hc' => iso_quiet a' b sc' hc'⟩

/-- The device after the run of the K2 example, as a configuration to compare again ... -/
def ex4Dev : Config :=
  { intfs := ["inside", "outside", "dmz"],
    groups := [("g_web", ["host 10.1.1.1", "host 10.1.1.3"]), ("g_db", ["host 10.2.2.2"]), ("g_dmz", ["host 10.3.3.3"]),
               ("g_new-DRC-0", ["host 10.4.4.4"])],
    acls := [("inside_in", [xLine "tcp" "22" "g_web", xLine "tcp" "8080" "g_new-DRC-0", xLine "tcp" "80" "g_web"]),
             ("inside_out", [xLine "udp" "53" "g_db"]), ("dmz_in", [xLine "tcp" "25" "g_dmz"]),
             ("outside_in2-DRC-0", [xLine "udp" "500" "g_web"])],
    binds := [⟨"inside_in", "in", "inside"⟩, ⟨"inside_out", "out", "inside"⟩, ⟨"outside_in2-DRC-0", "in", "outside"⟩, ⟨"dmz_in", "in", "dmz"⟩],
    routes := [⟨"outside 0.0.0.0 0.0.0.0 1.1.1.1", "0.0.0.0/0", 128⟩, ⟨"inside 10.8.0.0 255.255.0.0 10.1.1.253", "10.8.0.0/16", 112⟩,
               ⟨"inside 10.9.0.0 255.255.0.0 10.1.1.253", "10.9.0.0/16", 112⟩] }

/-- ... with the identity scripts of the second comparison. -/
def ex4Scripts : Scripts :=
  { acl := [(("inside_in", "inside_in"), [⟨0, 3, 0, 3⟩]), (("inside_out", "inside_out"), [⟨0, 1, 0, 1⟩]),
            (("outside_in2-DRC-0", "outside_in2"), [⟨0, 1, 0, 1⟩])],
    grp := [(("g_web", "g_web"), [⟨0, 2, 0, 2⟩]), (("g_db", "g_db"), [⟨0, 1, 0, 1⟩]), (("g_new-DRC-0", "g_new"), [⟨0, 1, 0, 1⟩])] }

/-- Non-vacuity of `asa_F1_idempotent_partial` / `asa_F1_iso_quiet`: the strict device after the first run of the
K2 example IS `ofConfig ex4Dev`, and (`ex4Dev`, target) is in class ISO (renamed group and access list). -/
example : (engine ex2Dev ex2Tgt ex2Scripts).bind (fun r => exec (ofConfig ex2Dev) r.script) = some (ofConfig ex4Dev) ∧
    isoCheck ex4Dev ex2Tgt ex4Scripts = true := by decide +kernel

/-- F-C01b is outside class ISO (the left-over group). -/
example : (exAfter.map fun d' => isoCheck (toConfig d') exTgt exScripts2) = some false := by decide +kernel

/-! ## 9. Routes: every destination stays covered after each command (C14, closes the hypotheses of
`NA.Route.routes_covered`)

`NA.Route.routes_covered` (NA/Props/C14.lean) assumes the shape of the script (`phaseA`, `phaseB`) and that the
script reaches the target (`hall`).  Here these are PROVED for the route commands of the `diffRoutes` model:
`routeOpsOf al bl` are the route-level operations whose rendering is exactly what `diffRoutes` appends to the
script (`asa_routes_script_is_model`); `diffUnordered` is characterised for duplicate-free keys
(`diffUnordered_computes`).  Input hypotheses: the device does not list a route twice, and a route is
determined by its text (destination and sort key are parsed from it). -/

/-- What `diffUnordered` computes for duplicate-free `as` (positions): deleted = keys of `as` not in `bs`, inserted
= keys of `bs` not in `as`, every other position of `as` paired with the last position of its key in `bs`. -/
theorem diffUnordered_computes (as bs : List String) (has : as.Nodup) :
    delIdxOf (diffUnordered as bs) = (List.range as.length).filter (fun i => !bs.contains (as.getD i "")) ∧
    insIdxOf (diffUnordered as bs) = (List.range bs.length).filter (fun t => !as.contains (bs.getD t "")) ∧
    eqIdxOf (diffUnordered as bs) =
      (List.range as.length).filterMap (fun i => (lastIdx (as.getD i "") bs).map fun j => (i, j)) :=
  diffUnordered_spec as bs has

/-- The route commands printed by `diffRoutes` are the rendering of `routeOpsOf`, in that order. -/
theorem asa_routes_script_is_model (st : St) (al bl : List Route) :
    (diffRoutes st al bl).out = st.out ++ (routeOpsOf al bl).map RO.toChg := diffRoutes_out st al bl

/-- The hypotheses `phaseA`, `phaseB`, `hall` of `NA.Route.routes_covered` hold for the emitted route commands
(numbered injectively by `encR`): first additions and same-destination replacements sent as one line, then
deletions of routes the target does not contain; after the first phase the whole target is on the device. -/
theorem asa_routes_phases (al bl : List Route) (hnd : (al.map (·.text)).Nodup) (hwf : RouteWF (al ++ bl)) :
    ∃ opsA opsB, routeOpsOf al bl = opsA ++ opsB ∧
      NA.Route.phaseA (opsA.map (encOp (al ++ bl))) = true ∧
      NA.Route.phaseB (bl.map (encR (al ++ bl))) (opsB.map (encOp (al ++ bl))) = true ∧
      (∀ r ∈ bl.map (encR (al ++ bl)), r ∈ (opsA.map (encOp (al ++ bl))).foldl NA.Route.rexec1 (al.map (encR (al ++ bl)))) :=
  let ⟨a, b, h1, h2, h3, h4, _⟩ := routeOps_phases al bl hnd hwf
  ⟨a, b, h1, h2, h3, h4⟩

/-- **`asa_routes_covered_every_step`** — for every device route list `al` and target route list `bl` (the one
managed family of F1: IPv4, no VRF): every destination that has a route before and after has one after EACH
emitted command, in the real order (new routes and joined gateway replacements first, removals last).  The tables `roTrace` are those of
`roExec`, the execution of `NA.Route.rexec1` (an addition always appends); the strict device of §8, which may also refuse, is not meant. -/
theorem asa_routes_covered_every_step (al bl : List Route) (hnd : (al.map (·.text)).Nodup) (hwf : RouteWF (al ++ bl))
    (d : String) (hold : ∃ r ∈ al, r.dst = d) (hnew : ∃ r ∈ bl, r.dst = d) :
    ∀ t ∈ roTrace al (routeOpsOf al bl), ∃ r ∈ t, r.dst = d :=
  routes_covered_every_step al bl hnd hwf d hold hnew

/-- Non-vacuity: gateway of 10.9.0.0/16 replaced (one joined line), 10.8.0.0/16 added, 10.7.0.0/16 removed; the
three intermediate tables all cover 10.9.0.0/16 and the default route. -/
def exRA : List Route := [⟨"inside 10.9.0.0 255.255.0.0 10.1.1.254", "10.9.0.0/16", 112⟩, ⟨"inside 10.7.0.0 255.255.0.0 10.1.1.254", "10.7.0.0/16", 112⟩,
  ⟨"outside 0.0.0.0 0.0.0.0 1.1.1.1", "0.0.0.0/0", 128⟩]
def exRB : List Route := [⟨"inside 10.8.0.0 255.255.0.0 10.1.1.253", "10.8.0.0/16", 112⟩, ⟨"inside 10.9.0.0 255.255.0.0 10.1.1.253", "10.9.0.0/16", 112⟩,
  ⟨"outside 0.0.0.0 0.0.0.0 1.1.1.1", "0.0.0.0/0", 128⟩]
example : (routeOpsOf exRA exRB).map (fun o => (showChanges [o.toChg])) =
    [["route inside 10.8.0.0 255.255.0.0 10.1.1.253"],
     ["no route inside 10.9.0.0 255.255.0.0 10.1.1.254\\N route inside 10.9.0.0 255.255.0.0 10.1.1.253"],
     ["no route inside 10.7.0.0 255.255.0.0 10.1.1.254"]] ∧
    (roTrace exRA (routeOpsOf exRA exRB)).length = 3 ∧
    ((roTrace exRA (routeOpsOf exRA exRB)).all fun t => t.any (·.dst == "10.9.0.0/16") && t.any (·.dst == "0.0.0.0/0")) = true ∧
    (exRA.map (·.text)).Nodup ∧ RouteWF (exRA ++ exRB) := by
  refine ⟨by decide, by decide, by decide, by decide, by unfold RouteWF; decide⟩

/-! ## 10. C08 at engine level: configuration modes and removal of referenced objects -/

/-- **`asa_F1_subcommands_in_own_mode`** (ALL inputs; static hypotheses: device ACL lines reference device groups, no
group is named ""): replayed on the mode of the command line (`object-group network X` opens the sub-mode of `X`;
`network-object`, `no network-object` and `exit` are legal only inside a sub-mode; every other command leaves
it), the whole printed script is legal.  Invariant `T`: whenever the engine believes to be in the sub-mode of `X`
(`State.subCmdOf = X`), the command line IS in the sub-mode of `X`; member commands for `X` are emitted only right behind
`setCmdConfMode(X)` or `object-group network X`, so they reach their own parent. -/
theorem asa_F1_subcommands_in_own_mode (a b : Config) (sc : Scripts) (r : Result) (hA : RefsClosedA ⟨a, b, sc⟩)
    (hne : "" ∉ a.groups.map (·.1)) (h : engine a b sc = some r) : ∃ m, modeRun none r.script = some m :=
  engine_modes a b sc r hA hne h

/-- The invariant itself for the in-place edit of a group: behind `setMode st X` the command line is in the
sub-mode of `X`, and the member command stays there. -/
theorem asa_F1_member_command_in_parent_mode {st : St} (h : T st) (n : Name) (hn : n ≠ "") (m : String) :
    T ((setMode st n).emit (.mem m)) ∧ T ((setMode st n).emit (.noMem m)) ∧ (setMode st n).mode = n :=
  ⟨memberCmd_T h n hn _ (fun _ => rfl), memberCmd_T h n hn _ (fun _ => rfl), (setMode_T h n).2⟩

/-- Non-vacuity: a script with a member command at top level is illegal; the K2 example's script is legal. -/
example : modeRun none [.mem "host 10.1.1.1"] = none ∧
    ((engine ex2Dev ex2Tgt ex2Scripts).map fun r => (modeRun none r.script).isSome) = some true := by
  decide +kernel

/-- What the strict device demands of a removing command. -/
def removalGuard (d : Dev) : Chg → Prop
  | .noGrp n => hasGroup d n = true ∧ groupReferenced d n = false
  | .clearAcl n => hasAcl d n = true ∧ aclBound d n = false
  | .noBind b => d.binds.lookup (b.dir, b.intf) = some b.acl
  | .noRoute r => r ∈ d.routes
  | _ => True

theorem removalGuard_of_ok (d d' : Dev) (c : Chg) (h : exec1 d c = .ok d') : removalGuard d c := by
  cases c with
  | noGrp n =>
    simp only [exec1] at h
    split at h
    · exact absurd h (by simp)
    · split at h
      · exact absurd h (by simp)
      · rename_i h1 h2
        exact ⟨by simpa using h1, by simpa using h2⟩
  | clearAcl n =>
    simp only [exec1] at h
    split at h
    · exact absurd h (by simp)
    · split at h
      · exact absurd h (by simp)
      · rename_i h1 h2
        exact ⟨by simpa using h1, by simpa using h2⟩
  | noBind b =>
    simp only [exec1] at h
    split at h
    · exact absurd h (by simp)
    · rename_i h1
      show d.binds.lookup (b.dir, b.intf) = some b.acl
      simpa using h1
  | noRoute r =>
    simp only [exec1] at h
    split at h
    · exact absurd h (by simp)
    · rename_i h1
      show r ∈ d.routes
      simpa using h1
  | _ => trivial

/-- **`asa_F1_no_referenced_object_deleted`** (class K2): at EVERY removing command of the printed script the
strict device is in a state where the object-group is referenced by no access-list line, the access list is
bound nowhere, the access-group / route to remove is there (`deleteUnused` removes access-group commands, then
access lists, then the groups they referenced; `diffRoutes` removes only existing routes). -/
theorem asa_F1_no_referenced_object_deleted (a b : Config) (sc : Scripts) (hc : k2Check a b sc = true) :
    ∃ script, (engine a b sc).map (·.script) = some script ∧
      ∀ pre c suf, script = pre ++ c :: suf → ∃ dm, exec (ofConfig a) pre = some dm ∧ removalGuard dm c := by
  obtain ⟨script, d', h1, h2, _⟩ := k2_converges a b sc hc
  refine ⟨script, h1, ?_⟩
  intro pre c suf hs
  rw [hs, exec_append] at h2
  obtain ⟨dm, hp, h2⟩ := Option.bind_eq_some_iff.mp h2
  refine ⟨dm, hp, ?_⟩
  rw [exec_cons] at h2
  unfold step at h2
  cases hx : exec1 dm c with
  | error e => rw [hx] at h2; simp at h2
  | ok d1 => exact removalGuard_of_ok dm d1 c hx

/-! ### Two device routes to one prefix: outside the class for a reason

`diffRoutes` pairs an added route with the deleted device route to the same PREFIX (`dstOfRoute`: vrf and
prefix, not the interface) — on a real ASA two routes to one prefix over different interfaces conflict.  The
written device specification (harness/asacfg/dev.go, NA.AsaDev) treats `INTF IP MASK` as the destination; on a
device that holds two routes to one prefix over two interfaces the joined replacement may remove the route of
the other interface, and the strict device refuses the added route.  Such a device cannot exist on a real ASA;
the class condition `(al.map dst).Nodup` of `routesCheck` therefore stays. -/
def exR2Dev : Config := { intfs := ["inside", "outside"], routes := [⟨"inside 10.0.0.0 255.0.0.0 10.1.1.1", "10.0.0.0/8", 120⟩, ⟨"outside 10.0.0.0 255.0.0.0 1.1.1.2", "10.0.0.0/8", 120⟩] }
def exR2Tgt : Config := { routes := [⟨"inside 10.0.0.0 255.0.0.0 10.1.1.3", "10.0.0.0/8", 120⟩] }

theorem two_routes_one_prefix_outside_spec :
    (engine exR2Dev exR2Tgt {}).map (fun r => (showChanges r.script, (run (ofConfig exR2Dev) r.script).2)) =
      some (["no route outside 10.0.0.0 255.0.0.0 1.1.1.2\\N route inside 10.0.0.0 255.0.0.0 10.1.1.3",
             "no route inside 10.0.0.0 255.0.0.0 10.1.1.1"], some (0, "route to identical destination exists")) ∧
    k2Check exR2Dev exR2Tgt {} = false := by
  decide +kernel

/-! ### Class K2 is not closed under executing a prefix of its own script

`asa_F1_resume` without a hypothesis on the interrupted state cannot be obtained from closure of the class:
(1) the Myers scripts of the NEW comparison are parameters of the model, and the run hypothesis `hyp:ok` (a kept
line keeps its references) is a property of those scripts; (2) the class itself is not closed — here the
target asks for a second route to a prefix over another interface; after the first command the device holds
two routes to one prefix, which `routesCheck` excludes (see `two_routes_one_prefix_outside_spec`).  The resumed
run from that state is nevertheless accepted (oracle, and below).  Measured by the harness on every cut state of
every K2 run (`resume-cut-of-a-K2-run:k2=…`): quick 694 of 704 cut states are in K2 again, the other 10 for this
reason only. -/
def ex7Dev : Config := { intfs := ["inside", "outside"], routes := [⟨"inside 10.0.0.0 255.0.0.0 10.1.1.1", "10.0.0.0/8", 120⟩, ⟨"outside 0.0.0.0 0.0.0.0 1.1.1.1", "0.0.0.0/0", 128⟩] }
def ex7Tgt : Config := { routes := [⟨"inside 10.0.0.0 255.0.0.0 10.1.1.1", "10.0.0.0/8", 120⟩, ⟨"outside 10.0.0.0 255.0.0.0 1.1.1.2", "10.0.0.0/8", 120⟩, ⟨"outside 0.0.0.0 0.0.0.0 1.1.1.9", "0.0.0.0/0", 128⟩] }
def ex7Cut : Config := { intfs := ["inside", "outside"], routes := [⟨"inside 10.0.0.0 255.0.0.0 10.1.1.1", "10.0.0.0/8", 120⟩, ⟨"outside 0.0.0.0 0.0.0.0 1.1.1.1", "0.0.0.0/0", 128⟩, ⟨"outside 10.0.0.0 255.0.0.0 1.1.1.2", "10.0.0.0/8", 120⟩] }

theorem k2_not_closed_under_prefix :
    k2Check ex7Dev ex7Tgt {} = true ∧
    (engine ex7Dev ex7Tgt {}).map (fun r => exec (ofConfig ex7Dev) (r.script.take 1) == some (ofConfig ex7Cut)) = some true ∧
    k2Check ex7Cut ex7Tgt {} = false ∧
    (engine ex7Cut ex7Tgt {}).map (fun r => (run (ofConfig ex7Cut) r.script).2) = some none := by
  decide +kernel

/-! ## 11. F-C14g: members of an unshared group are changed before the lines (C14)

The oracle of harness asacfg found it on the real code; the engine model (whose script equals drc's on this input)
reproduces it: `equalizedGroups` edits the group while the lines are compared, the line commands are printed
afterwards.  Packet semantics here: first match over the bound access list, implicit deny; a packet is given by its
protocol, the member (network) that contains its source, and its destination host; the two line shapes of the example
are interpreted (`permit udp object-group G any4`, `deny ip any4 host 10.1.1.2`). -/

structure XPkt where
  proto : String
  srcNet : String     -- the member text of the network that contains the source address
  dstHost : String
  deriving DecidableEq, Repr

/-- `some true` = permit, `some false` = deny, `none` = the line does not match. -/
def xLineVerdict (d : Dev) (l : RLine) (p : XPkt) : Option Bool :=
  if l.body = ["permit udp object-group ", " any4"] then
    (if p.proto = "udp" ∧ (membersOf d (l.names.headD "")).contains p.srcNet then some true else none)
  else if l.body = ["deny ip any4 host 10.1.1.2"] then
    (if p.dstHost = "10.1.1.2" then some false else none)
  else none

def xVerdict (d : Dev) (acl : Name) (p : XPkt) : Bool :=
  ((linesOf d acl).findSome? fun l => xLineVerdict d l p).getD false

/-- The device after each command. -/
def execTrace : Dev → List Chg → List Dev
  | _, [] => []
  | d, c :: cs => match exec1 d c with
    | .ok d' => d' :: execTrace d' cs
    | .error _ => []

def exGDev : Config :=
  { intfs := ["dmz"], groups := [("g2", ["10.3.3.0 255.255.255.0", "host 10.5.5.5"])],
    acls := [("dmz_in", [⟨["permit udp object-group ", " any4"], ["permit udp object-group ", " any4"], ["g2"]⟩])],
    binds := [⟨"dmz_in", "in", "dmz"⟩] }
def exGTgt : Config :=
  { groups := [("g2", ["10.3.3.0 255.255.255.0", "host 10.5.5.5", "10.6.0.0 255.255.0.0"])],
    acls := [("dmz_in", [⟨["deny ip any4 host 10.1.1.2"], ["deny ip any4 host 10.1.1.2"], []⟩,
                         ⟨["permit udp object-group ", " any4"], ["permit udp object-group ", " any4"], ["g2"]⟩])],
    binds := [⟨"dmz_in", "in", "dmz"⟩] }
def exGScripts : Scripts :=
  { acl := [(("dmz_in", "dmz_in"), [⟨0, 0, 0, 1⟩, ⟨0, 1, 1, 2⟩])], grp := [(("g2", "g2"), [⟨0, 1, 0, 1⟩, ⟨1, 1, 1, 2⟩, ⟨1, 2, 2, 3⟩])] }

/-- udp 10.6.1.1 → 10.1.1.2 -/
def exGPkt : XPkt := ⟨"udp", "10.6.0.0 255.255.0.0", "10.1.1.2"⟩

/-- **`asa_group_edit_before_lines_counterexample`** (F-C14g): the input is in class K2, the model prints the member
command before the line insert, the strict device accepts all three commands, the packet is denied on the device
before the run and on the final device — and permitted in the state after the member command. -/
theorem asa_group_edit_before_lines_counterexample :
    k2Check exGDev exGTgt exGScripts = true ∧
    (engine exGDev exGTgt exGScripts).map (fun r => showChanges r.script) = some [
      "object-group network g2", "network-object 10.6.0.0 255.255.0.0",
      "access-list dmz_in line 1 extended deny ip any4 host 10.1.1.2"] ∧
    xVerdict (ofConfig exGDev) "dmz_in" exGPkt = false ∧
    (engine exGDev exGTgt exGScripts).map (fun r =>
      (execTrace (ofConfig exGDev) r.script).map fun d => xVerdict d "dmz_in" exGPkt) = some [false, true, false] := by
  decide +kernel

/-! ## 12. F-C01c: a group equalised for a line that is then replaced stays `needed` (kernel-evaluated)

Device: `g0` and the generated twin `g0-DRC-9` (same members); line 1 of `inside_in` uses `g0-DRC-9` and `g2`, line 2
uses `g0`; `g2` is also used by the access list of `dmz`, an interface unknown to the target.  `equalizeACLs`
equalises ALL references of a kept pair: (`g0-DRC-9`, `g0`) succeeds — the device group becomes `needed` —, (`g2`,
`g2`) fails because `g2` is `needed` by the unknown interface; the line is re-added and deleted.  The kept pair of
line 2 then re-maps the target's `g0` to the device's `g0` (the not-`needed` branch of `equalizedGroups` with an
identity script does not look at `ready`), so the new line is printed with `g0`: `g0-DRC-9` loses its last
reference in this very script, stays `needed`, and `deleteUnused` keeps it.  The next comparison removes it. -/

def x2Line (act proto g1 g2 port : String) : Line :=
  ⟨[act ++ " " ++ proto ++ " object-group ", " object-group ", " eq " ++ port],
   [act ++ " " ++ proto ++ " object-group ", " object-group ", " eq " ++ port], [g1, g2]⟩

def exCDev : Config :=
  { intfs := ["inside", "dmz"],
    groups := [("g0", ["host 10.1.1.1"]), ("g0-DRC-9", ["host 10.1.1.1"]), ("g2", ["host 10.4.4.4"])],
    acls := [("inside_in", [x2Line "deny" "udp" "g0-DRC-9" "g2" "53", xLine "udp" "25" "g0"]), ("dmz_acl", [xLine "tcp" "22" "g2"])],
    binds := [⟨"inside_in", "in", "inside"⟩, ⟨"dmz_acl", "in", "dmz"⟩] }
def exCTgt : Config :=
  { groups := [("g0", ["host 10.1.1.1"]), ("g2", ["host 10.4.4.4"])],
    acls := [("inside_in", [x2Line "deny" "udp" "g0" "g2" "53", xLine "udp" "25" "g0"])],
    binds := [⟨"inside_in", "in", "inside"⟩] }
def exCScripts : Scripts :=
  { acl := [(("inside_in", "inside_in"), [⟨0, 2, 0, 2⟩])],
    grp := [(("g0-DRC-9", "g0"), [⟨0, 1, 0, 1⟩]), (("g0", "g0"), [⟨0, 1, 0, 1⟩]), (("g2", "g2"), [⟨0, 1, 0, 1⟩])] }
def exCScripts2 : Scripts :=
  { acl := [(("inside_in", "inside_in"), [⟨0, 2, 0, 2⟩])],
    grp := [(("g0", "g0"), [⟨0, 1, 0, 1⟩]), (("g2-DRC-0", "g2"), [⟨0, 1, 0, 1⟩]), (("g0-DRC-9", "g0"), [⟨0, 1, 0, 1⟩])] }

/-- **`needed_group_of_replaced_line_counterexample`** (F-C01c): the first script (accepted by the strict device,
result equivalent to the target) leaves the generated group `g0-DRC-9` unreferenced; the second comparison is
not empty and only removes it; the pair of the second comparison is outside class ISO. -/
theorem needed_group_of_replaced_line_counterexample :
    (engine exCDev exCTgt exCScripts).map (fun r => showChanges r.script) = some [
      "object-group network g2-DRC-0", "network-object host 10.4.4.4",
      "access-list inside_in line 1 extended deny udp object-group g0 object-group g2-DRC-0 eq 53",
      "no access-list inside_in line 2 extended deny udp object-group g0-DRC-9 object-group g2 eq 53"] ∧
    ((engine exCDev exCTgt exCScripts).bind fun r => (exec (ofConfig exCDev) r.script).map fun d =>
      (leftovers d, (engine (toConfig d) exCTgt exCScripts2).map (fun r => showChanges r.script),
       isoCheck (toConfig d) exCTgt exCScripts2)) =
      some (["object-group g0-DRC-9"], some ["no object-group network g0-DRC-9"], false) := by
  decide +kernel

/-! ## 13. What C14 guarantees for the in-place edit of an UNSHARED object-group (complement of F-C14g)

Hypothesis of the positive statement (decidable on the script and the two configurations): the place keeps its
access list (no re-binding in the run), the group is used by ONE access-list line, no line of that access list is inserted, deleted or moved in the run (otherwise F-C14g), no other
group that a line of that access list uses is edited (`pre`, `post` below are untouched in the run), and the member texts of old and new group do not overlap (a packet address is
covered by at most one of them — true for the hosts and disjoint networks Netspoc generates for one group). -/

/-- Every state between two member commands of `equalizedGroups`' in-place edit holds a member set between
`old ∩ new` and `old ∪ new` (for every valid script that does not delete and insert one member). -/
theorem asa_unshared_group_edit_states_bounded (la lb cur : List String) (rs : List Range)
    (hv : scriptOK la lb rs 0 0 = true) (hna : la.Nodup) (hnb : lb.Nodup) (hcur : cur.Perm la)
    (hdisj : ∀ m ∈ inssOf lb rs, m ∉ delsOf la rs) (pre suf : List (Bool × String)) (hs : memOps la lb rs = pre ++ suf) :
    ∃ M, applyMem cur pre = some M ∧ (∀ x, x ∈ la → x ∈ lb → x ∈ M) ∧ (∀ x ∈ M, x ∈ la ∨ x ∈ lb) :=
  memOps_prefix_sandwich la lb cur rs hv hna hnb hcur hdisj pre suf hs

/-- **`asa_unshared_group_edit_keeps_agreed_verdicts`** — the access list is `pre ++ [line with the group] ++ post`
(first match, implicit deny; `pre`, `post` as the packet sees them and untouched in the run; `cov` = the one member
text covering the packet's address, if any): in EVERY state of the member edit the packet gets the old or the new
verdict; in particular a packet on which old and new agree keeps its verdict. -/
theorem asa_unshared_group_edit_keeps_agreed_verdicts (la lb cur : List String) (rs : List Range)
    (hv : scriptOK la lb rs 0 0 = true) (hna : la.Nodup) (hnb : lb.Nodup) (hcur : cur.Perm la)
    (hdisj : ∀ m ∈ inssOf lb rs, m ∉ delsOf la rs) (pre suf : List (Bool × String)) (hs : memOps la lb rs = pre ++ suf)
    (lpre lpost : List PLine) (act : Bool) (cov : Option String) :
    ∃ M, applyMem cur pre = some M ∧
      (evalG lpre act cov lpost M = evalG lpre act cov lpost la ∨ evalG lpre act cov lpost M = evalG lpre act cov lpost lb) ∧
      (evalG lpre act cov lpost la = evalG lpre act cov lpost lb → evalG lpre act cov lpost M = evalG lpre act cov lpost la) := by
  obtain ⟨M, h1, h2, h3⟩ := memOps_prefix_sandwich la lb cur rs hv hna hnb hcur hdisj pre suf hs
  have h4 := evalG_old_or_new lpre lpost act cov la lb M h2 h3
  refine ⟨M, h1, h4, ?_⟩
  intro he
  rcases h4 with h | h
  · exact h
  · rw [h, he]

/-- Non-vacuity: members {h1,h2,h4} → {h1,h3,h4}; packet from `h1` behind a non-matching line: permitted in all states. -/
example : (applyMem ["h4", "h1", "h2"] ((memOps ["h1", "h2", "h4"] ["h1", "h3", "h4"]
      [⟨0, 1, 0, 1⟩, ⟨1, 2, 1, 1⟩, ⟨2, 2, 1, 2⟩, ⟨2, 3, 2, 3⟩]).take 1)).map
    (fun M => evalG [(false, false)] true (some "h1") [] M) = some true := by decide +kernel

/-- Both extra hypotheses are needed (kernel-evaluated on the abstract semantics).
(1) Overlapping members: old `{10.1.0.0/16}`, new `{10.1.1.0/24}`, the packet address is covered by BOTH texts; the state
after the delete and before the insert covers it by neither: permitted before and after, denied in between.
(2) Two groups of one line edited one after the other (`A × B`): old `A={a1,a2}, B={b3,b4}`, new `A={a1,a5}, B={b3}`;
packet (a5 → b4) matches neither old nor new line, but matches after `A` gained `a5` while `B` still has `b4`. -/
theorem unshared_group_edit_needs_hypotheses :
    -- (1) hit = some covering text is a member
    (let hit := fun (M : List String) => M.contains "10.1.0.0/16" || M.contains "10.1.1.0/24"
     (hit ["10.1.0.0/16"], hit [], hit ["10.1.1.0/24"]) = (true, false, true)) ∧
    (applyMem ["10.1.0.0/16"] ((memOps ["10.1.0.0/16"] ["10.1.1.0/24"] [⟨0, 1, 0, 0⟩, ⟨1, 1, 0, 1⟩]).take 1) = some []) ∧
    -- (2) hit = source in A and destination in B
    (let hit2 := fun (A B : List String) => A.contains "a5" && B.contains "b4"
     (hit2 ["a1", "a2"] ["b3", "b4"], hit2 ["a1", "a2", "a5"] ["b3", "b4"], hit2 ["a1", "a5"] ["b3"]) = (false, true, false)) := by
  decide +kernel

/-! ## 14. F-C01d and F-C01e: two further paths with twin groups

F-C01d: the adopted group WAS referenced.  `findGroupOnDevice` (early loop) adopts `g0-DRC-0` for the inserted copy of
a moved line; the kept line with the twin `g0-DRC-8` re-maps the target's `g0`; the inserted line is printed with
`g0-DRC-8`, so it is no move of the old line (other group name), the old line is deleted, and `g0-DRC-0` — still
`needed` — stays without a reference until the next run.
F-C01e: twins used alternately by kept lines (`g0`, `g0-DRC-8`, `g0`): the second pair re-maps the target's `g0` to
`g0-DRC-8`, the third pair finds `g0` `needed` and the target group `ready` under another name → the line is
replaced.  A device that IS equivalent to the target gets a non-empty script (the next comparison is empty). -/

def y1Line (g : String) : Line := ⟨["permit ip object-group ", " 10.3.3.0 255.255.255.0"], ["permit ip object-group ", " 10.3.3.0 255.255.255.0"], [g]⟩
def y2Line (g : String) : Line := ⟨["permit ip object-group ", " any4"], ["permit ip object-group ", " any4"], [g]⟩
def y3Line : Line := ⟨["permit tcp any4 any4 eq 80"], ["permit tcp any4 any4 eq 80"], []⟩
def exDDev : Config :=
  { intfs := ["outside"], groups := [("g0-DRC-8", ["host 10.1.1.2"]), ("g0-DRC-0", ["host 10.1.1.2"])],
    acls := [("outside_in", [y1Line "g0-DRC-8", y3Line, y2Line "g0-DRC-0"])], binds := [⟨"outside_in", "in", "outside"⟩] }
def exDTgt : Config :=
  { groups := [("g0", ["host 10.1.1.2"])], acls := [("outside_in", [y2Line "g0", y1Line "g0", y3Line])], binds := [⟨"outside_in", "in", "outside"⟩] }
def exDScripts : Scripts :=
  { acl := [(("outside_in", "outside_in"), [⟨0, 0, 0, 1⟩, ⟨0, 2, 1, 3⟩, ⟨2, 3, 3, 3⟩])],
    grp := [(("g0-DRC-8", "g0"), [⟨0, 1, 0, 1⟩]), (("g0-DRC-0", "g0"), [⟨0, 1, 0, 1⟩])] }
def exDScripts2 : Scripts := { acl := [(("outside_in", "outside_in"), [⟨0, 3, 0, 3⟩])], grp := exDScripts.grp }

/-- **`adopted_referenced_group_counterexample`** (F-C01d). -/
theorem adopted_referenced_group_counterexample :
    (engine exDDev exDTgt exDScripts).map (fun r => showChanges r.script) = some [
      "access-list outside_in line 1 extended permit ip object-group g0-DRC-8 any4",
      "no access-list outside_in line 4 extended permit ip object-group g0-DRC-0 any4"] ∧
    ((engine exDDev exDTgt exDScripts).bind fun r => (exec (ofConfig exDDev) r.script).map fun d =>
      (leftovers d, (engine (toConfig d) exDTgt exDScripts2).map (fun r => showChanges r.script))) =
      some (["object-group g0-DRC-0"], some ["no object-group network g0-DRC-0"]) := by
  decide +kernel

def zLine (p g : String) : Line := ⟨["deny tcp host 10.1.1.1 object-group ", " eq " ++ p], ["deny tcp host 10.1.1.1 object-group ", " eq " ++ p], [g]⟩
def exEDev : Config :=
  { intfs := ["dmz"], groups := [("g0", ["host 10.4.4.4"]), ("g0-DRC-8", ["host 10.4.4.4"])],
    acls := [("dmz_in", [zLine "22" "g0", zLine "443" "g0-DRC-8", zLine "25" "g0"])], binds := [⟨"dmz_in", "in", "dmz"⟩] }
def exETgt : Config :=
  { groups := [("g0", ["host 10.4.4.4"])], acls := [("dmz_in", [zLine "22" "g0", zLine "443" "g0", zLine "25" "g0"])], binds := [⟨"dmz_in", "in", "dmz"⟩] }
def exEScripts : Scripts :=
  { acl := [(("dmz_in", "dmz_in"), [⟨0, 3, 0, 3⟩])], grp := [(("g0", "g0"), [⟨0, 1, 0, 1⟩]), (("g0-DRC-8", "g0"), [⟨0, 1, 0, 1⟩])] }

/-- **`alternating_twin_groups_counterexample`** (F-C01e): device and target are equivalent (identity scripts), the pair is
outside class ISO (the groups are not paired one to one), the engine re-points the third line to the twin; the
comparison after that is empty. -/
theorem alternating_twin_groups_counterexample :
    isoCheck exEDev exETgt exEScripts = false ∧
    (engine exEDev exETgt exEScripts).map (fun r => showChanges r.script) = some [
      "access-list dmz_in line 3 extended deny tcp host 10.1.1.1 object-group g0-DRC-8 eq 25",
      "no access-list dmz_in line 4 extended deny tcp host 10.1.1.1 object-group g0 eq 25"] ∧
    ((engine exEDev exETgt exEScripts).bind fun r => (exec (ofConfig exEDev) r.script).map fun d =>
      (engine (toConfig d) exETgt exEScripts).map (fun r => showChanges r.script)) = some (some []) := by
  decide +kernel

def obligations : List Lean.Name := [
  ``names_fresh, ``names_injective, ``findGroup_sound, ``findGroup_first,
  ``group_equalize_converges, ``group_edit_emits_memOps, ``group_needed_never_edited, ``group_edit_only_if_small,
  ``asa_lines_with_groups_converge, ``merged_list_projects,
  ``objects_before_use, ``tail_acl_before_group,
  ``sem_initial, ``group_equalize_converges_dev, ``equalizedGroups_sound, ``transferGroup_sound,
  ``asa_acl_pair_converges_partial, ``asa_F1_converges_partial, ``deleteUnused_accepted, ``idempotent_counterexample,
  ``asa_F1_converges, ``asa_F1_unchanged_only_if_equivalent, ``asa_F1_resume_partial,
  ``asa_F1_iso_quiet, ``asa_F1_idempotent_partial,
  ``diffUnordered_computes, ``asa_routes_script_is_model, ``asa_routes_phases, ``asa_routes_covered_every_step,
  ``asa_F1_subcommands_in_own_mode, ``asa_F1_member_command_in_parent_mode, ``asa_F1_no_referenced_object_deleted,
  ``two_routes_one_prefix_outside_spec, ``k2_not_closed_under_prefix,
  ``asa_group_edit_before_lines_counterexample, ``needed_group_of_replaced_line_counterexample,
  ``asa_unshared_group_edit_states_bounded, ``asa_unshared_group_edit_keeps_agreed_verdicts, ``unshared_group_edit_needs_hypotheses,
  ``adopted_referenced_group_counterexample, ``alternating_twin_groups_counterexample]

end NA.F1
