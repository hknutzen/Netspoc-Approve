import NA.Props.C15
import NA.Proofs.C15RemoveBanner
import NA.Proofs.C15Timing
/-!
# C15: aftermath of a rejected command, re-arm over arbitrarily many warnings, `removeBanner`, slow devices

Same setting as the banner theorems of `NA/Props/C15.lean`: `gs : List Chg` any script with any
banner placements, `na` the dialogue variant of the device, `st0` the state in which `ApplyCommands`
is entered (nothing pending, empty trace).
-/
namespace NA.Ios

/-- **aftermath, any left-over bytes.** Against the scripted device (either dialogue variant), from
ANY client state whose device is between two exchanges — whatever bytes an aborted `check` left in
the expect buffer — the deferred `SendCmd("end")` returns normally and the deferred `cancelReload`
completes its whole exchange (`reload cancel`, banner, empty command), empties the buffer and
clears `reloadActive`. -/
theorem aftermath_any_leftover (na : Bool) (st : St SimSt) (hparts : st.dev.parts = []) :
    (∃ L', sendCmd (simDevice [] na) endCmd st = (.ok (), { st with pend := L', trace := st.trace ++ [endCmd] })) ∧
    cancelReload (simDevice [] na) st =
      (.ok (), { st with pend := [], reloadActive := false, trace := st.trace ++ [cancelCmd, []] }) :=
  ⟨end_sim_leftover na st hparts, cancel_sim_leftover na st hparts⟩

example : ∃ st : St SimSt, st.dev.parts = [] ∧ st.pend = lit "ip route x\nrouter#garbage --- SHUTDOWN ABORTED --- \nrouter#" :=
  ⟨{ dev := {}, pend := lit "ip route x\nrouter#garbage --- SHUTDOWN ABORTED --- \nrouter#" }, rfl, rfl⟩

/-- **rejected_run.** A command is rejected (its output has a line that is not empty/INFO/WARNING)
at ANY position of the script — first or second half of a joined line included — with banners of
any form at any offset on any line (except F-C15b placements): the run returns FAILED with the
abort raised for exactly that command (`firstBad`), the transcript is the fixed preamble, the
changes up to and including the rejected one (with their re-arm exchanges), then the deferred `end`
and the complete `reload cancel` exchange; `write memory` is never sent, no reload is left
scheduled, and the guard discipline holds. -/
theorem rejected_run (na : Bool) (gs : List Chg) (q : List Behav) (st0 : St SimSt)
    (hp : st0.pend = []) (ht : st0.trace = []) (hparts : st0.dev.parts = [])
    (hq : st0.dev.queue = gs.flatMap Chg.behavs ++ q) (hc : ∀ g ∈ gs, g.Clean ∧ g.NoProbeFirst)
    (hbad : specOk gs = false) :
    let o := applyCommands (simDevice [] na) true (gs.map Chg.cmd) st0
    (∃ ci R out, o.1 = .abort (.unexpectedOutput ci R) ∧ firstBad gs = some (ci, out) ∧
        neLines R = neLines out) ∧
    o.2.trace = prepCmds ++ schedLines na ++ [confCmd] ++ specTrace na gs ++ [endCmd] ++ [cancelCmd, []] ∧
    o.2.warns = st0.warns ++ specWarns gs ∧
    writeCmd ∉ linesOf o.2.trace ∧
    pendingAfter (linesOf o.2.trace) = false ∧
    guardOK (linesOf o.2.trace) = true ∧
    o.2.reloadActive = false := by
  intro o
  have h := apply_sim_rejected na gs q st0 hp ht hparts hq hc hbad
  have hcs := cleanCs_of_clean gs (fun g hg => (hc g hg).1)
  refine ⟨h.1, h.2.1, h.2.2.1, ?_, ?_, ?_, h.2.2.2.1⟩
  · rw [h.2.1]; exact noWrite_failTrace na gs hcs
  · exact cancel_on_failure_partial (simDevice [] na) true _ hcs st0 ht (schedule_ok_sim na st0 hp hparts)
  · exact guard_brackets_changes (simDevice [] na) true _ hcs st0 ht

/-- non-vacuity: the second half of a joined line is rejected behind a command with a one-minute
banner; a 2:00 banner sits inside the echo of the rejected line -/
example :
    let g1 := Chg.one (lit "ip route 10.1.0.0 255.255.0.0 10.9.1.1")
      { form := .afterPrompt 2, msg := lit " --- SHUTDOWN in 0:01:00 ---" }
    let g2 := Chg.two (lit "no ip route 10.2.0.0 255.255.0.0 10.8.2.1") (lit "ip route 10.2.0.0 255.255.0.0 10.9.2.2")
      { out := lit "INFO: x\n" } { form := .inside 7, msg := lit " --- SHUTDOWN in 0:02:00 ---", out := lit "% Invalid input\n" }
    g1.cleanB = true ∧ g2.cleanB = true ∧ g2.noProbeFirstB = true ∧ specOk [g1, g2] = false ∧
    firstBad [g1, g2] = some (lit "ip route 10.2.0.0 255.255.0.0 10.9.2.2", lit "% Invalid input\n") := by
  simp only [Chg.cleanB, changeCmdB_route1, changeCmdB_routeMove, Bool.true_and]
  decide_lit [lit_ofList]

/-- **rearm_count_run** — the one-minute warning over arbitrarily many warnings: in a run whose
outputs are all accepted, the number of `do reload in 2` lines the device receives equals the
number of script elements (single commands or joined lines) at least one of whose answers carried
a `SHUTDOWN in 0?0:01:00` banner — for scripts of any length with any number of such banners, in
both dialogue variants. -/
theorem rearm_count_run (na : Bool) (gs : List Chg) (q : List Behav) (st0 : St SimSt)
    (hp : st0.pend = []) (ht : st0.trace = []) (hparts : st0.dev.parts = [])
    (hq : st0.dev.queue = gs.flatMap Chg.behavs ++ q) (hc : ∀ g ∈ gs, g.Clean ∧ g.NoProbeFirst)
    (hok : specOk gs = true) :
    let o := applyCommands (simDevice [] na) true (gs.map Chg.cmd) st0
    o.1 = .ok () ∧ rearms (linesOf o.2.trace) = needCount gs :=
  ⟨(apply_sim_ok na gs q st0 hp ht hparts hq hc hok).1, rearms_run na gs q st0 hp ht hparts hq hc hok⟩

/-- non-vacuity: three warnings on three elements (one of them on both halves of a joined line) -/
example :
    let b1 : Behav := { form := .inside 3, msg := lit " --- SHUTDOWN in 0:01:00 ---" }
    let b0 : Behav := { form := .afterPrompt 0, msg := lit " --- SHUTDOWN in 00:01:00 ---" }
    let gs := [Chg.one (lit "ip route 10.1.0.0 255.255.0.0 10.9.1.1") b1,
               Chg.two (lit "no ip route 10.2.0.0 255.255.0.0 10.8.2.1") (lit "ip route 10.2.0.0 255.255.0.0 10.9.2.2") b1 b0,
               Chg.one (lit "ip route 10.3.0.0 255.255.0.0 10.9.3.1") {},
               Chg.one (lit "ip route 10.4.0.0 255.255.0.0 10.9.4.1") b0]
    gs.all Chg.cleanB = true ∧ gs.all Chg.noProbeFirstB = true ∧ specOk gs = true ∧ needCount gs = 3 ∧
    rearms (linesOf (applyCommands (simDevice [] true) true (gs.map Chg.cmd)
      { dev := { queue := gs.flatMap Chg.behavs } }).2.trace) = 3 := by
  intro b1 b0 gs
  have h : gs.all Chg.cleanB = true ∧ gs.all Chg.noProbeFirstB = true ∧ specOk gs = true ∧ needCount gs = 3 := by
    simp only [gs, List.all_cons, Chg.cleanB, changeCmdB_route1, changeCmdB_routeMove, Bool.true_and]
    simp -index only [c15_vocab, b1, b0, changeCmdB, cleanCmdB, routerName]
    decide +kernel
  refine ⟨h.1, h.2.1, h.2.2.1, h.2.2.2, ?_⟩
  rw [rearms_run true gs [] _ rfl rfl rfl (by simp) ?_ h.2.2.1]
  · exact h.2.2.2
  · intro g hg
    exact ⟨Chg.clean_of_B g (List.all_eq_true.1 h.1 g hg), Chg.noProbe_of_B g (List.all_eq_true.1 h.2.1 g hg)⟩

/-- **removeBanner_removes_all** (`removeBanner` strips banner DEFINITIONS from a configuration
text; model in `NA/Model/IosRemoveBanner.lean`; `Seg` and the proof, `removeBanner_clean`, in
`NA/Proofs/C15RemoveBanner.lean`): for every text made of ordinary
lines and ANY number of banner definitions at ANY line positions — any delimiter character, any
number of body lines not starting with the delimiter, end line starting with it — followed by an
unterminated rest, `removeBanner` returns exactly the ordinary lines and the rest. -/
theorem removeBanner_removes_all (segs : List Seg) (t : Str) (hv : ∀ s ∈ segs, s.Valid) (ht : '\n' ∉ t) :
    removeBanner ((segs.flatMap Seg.lines).flatten ++ t) = (segs.flatMap Seg.kept).flatten ++ t :=
  removeBanner_clean segs t hv ht

example : removeBanner (lit "hostname r\nbanner motd ^CC\nhello # world\n^C\nip route 10.0.0.0 255.0.0.0 10.1.1.1\nend") =
    lit "hostname r\nip route 10.0.0.0 255.0.0.0 10.1.1.1\nend" := by decide_lit [lit_ofList]

example : (Seg.banner (lit "banner motd ^CC\n") [lit "hello\n", lit "\n"] (lit "^C\n")).Valid :=
  ⟨⟨lit "banner motd ^CC", by decide +kernel, by decide +kernel⟩, ⟨lit "^C", by decide +kernel, by decide +kernel⟩,
   by intro l hl; simp at hl; rcases hl with rfl | rfl
      · exact ⟨lit "hello", by decide +kernel, by decide +kernel⟩
      · exact ⟨[], by decide +kernel, by decide +kernel⟩,
   '^', by decide +kernel, by decide +kernel, by decide +kernel⟩

/-- the quirk of Go's backtracking that the model mirrors: two blanks before the delimiter make the
BLANK the delimiter, and the banner then ends at the first line starting with a blank -/
example : bannerStart (lit "banner motd  x\n") = some ' ' := by decide_lit [lit_ofList]

/-- **first_read_any_chunking.** For every answer of the scripted device (any command, any output,
any banner form/offset/message) followed by further bytes that start with a `#`-free word (`runNoHash rest`:
what the next answer does; behind `router#` a word with a `#` would lengthen the prompt match once it has
arrived), and EVERY way the bytes arrive — in any number of pieces cut at any byte positions (slow echo,
banner in pieces, prompt in pieces) — the read "up to the prompt" consumes exactly what the fast-device read consumes and leaves the
same rest of the stream. -/
theorem first_read_any_chunking (ci : Str) (b : Behav) (rest buf : Str) (chunks : List Str)
    (hc : CleanCmd ci) (hb : CleanBehav b) (hr : runNoHash rest = true)
    (hsplit : buf ++ chunks.flatten = replyFor ci b ++ rest) :
    ∃ A rest' cs, expectChunks promptEnd buf chunks = some (A, rest', cs) ∧
      promptEnd (replyFor ci b ++ rest) = some A.length ∧
      A ++ (rest' ++ cs.flatten) = replyFor ci b ++ rest := by
  obtain ⟨u, he, hu⟩ := reply_split ci b rest hc hb
  have hv := runNoHash_replyTail ci b rest hc hr
  obtain ⟨rest', cs, h1, h2⟩ := expectChunks_stable promptEnd (u ++ promptFull) _
    runNoHash_append_left (prompt_stable u hu) _ buf chunks hv (by rw [hsplit, he])
  refine ⟨u ++ promptFull, rest', cs, h1, ?_, by rw [h2, he]⟩
  rw [he]
  exact (prompt_stable u hu).hit _ hv

/-- **hash_read_any_chunking.** `WaitShort("[#] ?$")` on a `#`-free text that ends the stream with
`#` (the echo, output and prompt of a single command after a banner with fresh prompt): whatever
the pieces, it fires exactly when everything has arrived and consumes everything. -/
theorem hash_read_any_chunking (w buf : Str) (chunks : List Str) (hw : '#' ∉ w)
    (hsplit : buf ++ chunks.flatten = w ++ ['#']) :
    ∃ cs, expectChunks hashEnd buf chunks = some (w ++ ['#'], [], cs) ∧ cs.flatten = [] := by
  obtain ⟨rest, cs, h1, h2⟩ := expectChunks_stable hashEnd (w ++ ['#']) (fun v => v = [])
    (fun a b h => by simp at h; exact h.1) (hashEnd_stable w hw) [] buf chunks rfl (by simpa using hsplit)
  obtain ⟨rfl, hcs⟩ := List.append_eq_nil_iff.1 h2
  exact ⟨cs, h1, hcs⟩

example : expectChunks promptEnd [] [lit "ip ro", lit "ute 1\n\nro", lit "uter", lit "#ne", lit "xt"] =
    some (lit "ip route 1\n\nrouter#", lit "ne", [lit "xt"]) := by decide_lit [lit_ofList]

/-- **late_prompt_counterexample** (F-C15d): `TryPrompt` has time-out 0. If the fresh prompt that
follows a banner behind the output (form C) arrives LATE (`lateDevice`), `TryPrompt` misses it, the
stale prompt is taken for the answer to the NEXT command and the run aborts with `unexpected echo`,
although the same script succeeds under the fast-device timing. The guard theorems still hold
(they are proved for every device). -/
theorem late_prompt_counterexample :
    ∃ gs : List Chg, (∀ g ∈ gs, g.cleanB = true ∧ g.noProbeFirstB = true) ∧ specOk gs = true ∧
      (applyCommands (simDevice [] false) true (gs.map Chg.cmd) { dev := { queue := gs.flatMap Chg.behavs } }).1 = .ok () ∧
      (applyCommands (lateDevice (simDevice [] false)) true (gs.map Chg.cmd)
          { dev := ({ queue := gs.flatMap Chg.behavs }, []) }).1 =
        .abort (.unexpectedEcho (lit "ip route 10.2.0.0 255.255.0.0 10.9.2.1") ['\n']) ∧
      guardOK (linesOf (applyCommands (lateDevice (simDevice [] false)) true (gs.map Chg.cmd)
          { dev := ({ queue := gs.flatMap Chg.behavs }, []) }).2.trace) = true ∧
      pendingAfter (linesOf (applyCommands (lateDevice (simDevice [] false)) true (gs.map Chg.cmd)
          { dev := ({ queue := gs.flatMap Chg.behavs }, []) }).2.trace) = false := by
  let gs : List Chg :=
    [.one (lit "ip route 10.1.0.0 255.255.0.0 10.9.1.1") { form := .afterPrompt 0, msg := lit " --- SHUTDOWN in 0:02:00 ---" },
     .one (lit "ip route 10.2.0.0 255.255.0.0 10.9.2.1") {}]
  have hB : (∀ g ∈ gs, g.cleanB = true ∧ g.noProbeFirstB = true) ∧ specOk gs = true := by
    simp only [gs, List.forall_mem_cons, Chg.cleanB, changeCmdB_route1, Bool.true_and]
    decide_lit [lit_ofList]
  have hc : ∀ g ∈ gs, g.Clean ∧ g.NoProbeFirst := fun g hg =>
    ⟨Chg.clean_of_B g (hB.1 g hg).1, Chg.noProbe_of_B g (hB.1 g hg).2⟩
  have hcs := cleanCs_of_clean gs (fun g hg => (hc g hg).1)
  have hF := followsPrelude_late false { queue := gs.flatMap Chg.behavs } rfl
  -- the run on the fast device, the guard discipline and the cancelled reload by the general theorems; the
  -- late device follows the scripted one up to the change loop: only the rest of its run is evaluated
  refine ⟨gs, hB.1, hB.2, (apply_sim_ok false gs [] _ rfl rfl rfl (by simp) hc hB.2).1, ?_,
    guard_brackets_changes _ true _ hcs _ rfl,
    cancel_on_failure_partial _ true _ hcs _ rfl
      (schedule_ok_follows _ false (fun d => (d, [])) { dev := { queue := gs.flatMap Chg.behavs } } rfl rfl hF)⟩
  rw [show ({ dev := ({ queue := gs.flatMap Chg.behavs }, []) } : St (SimSt × Str)) =
      St.onDev (fun d => (d, [])) { dev := { queue := gs.flatMap Chg.behavs } } from rfl,
    apply_follows_loop _ false true _ _ _ rfl rfl hF]
  rw [simDevice_fold]
  simp -index only [c15_vocab, gs, St.onDev, loopStart, lateDevice, splitLate]
  decide +kernel

end NA.Ios

namespace NA.C15Deep
def obligations : List Lean.Name :=
  [``NA.Ios.aftermath_any_leftover, ``NA.Ios.rejected_run, ``NA.Ios.rearm_count_run,
   ``NA.Ios.removeBanner_removes_all, ``NA.Ios.removeBanner_id,
   ``NA.Ios.first_read_any_chunking, ``NA.Ios.hash_read_any_chunking, ``NA.Ios.late_prompt_counterexample]
end NA.C15Deep
