import NA.Proofs.C07
import NA.Gen.CiscoFacts
/-!
# C07 — configuration outside Netspoc's scope is never deleted or altered (Cisco share)

`deleteUnused w` is the model of the final clean-up of `cisco/diff.go` on a table of device commands with
the marks the engine has set (`needed`, `toDelete`) — EXECUTED against the real `(*State).deleteUnused`
on every run (hook `cisco.VerifDeleteUnused`, stream "deleteUnused on a synthetic command table" of
harness/asacfg).  That the engine sets the marks right is the business of the engine models
(`NA.Props.F1`, `NA.Props.F2`, `NA.Props.VpnGraph`: `graph_unmanaged_untouched`, …).

All theorems: for every table and every terminating run.  PAN-OS (`panos_outside_vsys_untouched`) and NSX (`nsx_scope`) are
in `NA.Props.C03` / `NA.Props.C04`.
-/
namespace NA.DelUnused

/-- Every command a terminating run removes is a candidate, and its entry is not protected. -/
theorem deleted_only_candidates (w : World) (rs : List (List Item)) (h : deleteRounds w = some rs) :
    ∀ r ∈ rs, ∀ it ∈ r, ∃ o ∈ w, it.id = o.id ∧ o.id ∉ still w ∧
      ∀ p ∈ it.del, o.cmds[p.2]? = some p.1 ∧ p.1.needed = false ∧ (p.1.toDelete = true ∨ o.tagged = true) := by
  intro r hr it hit
  obtain ⟨o, ho, hid, _, _, hdel, _, hst⟩ := mem_items0 w it ((rounds_sound h).1 r hr it hit)
  refine ⟨o, ho, hid, hst, ?_⟩
  intro p hp
  rw [hdel, List.mem_filter] at hp
  have hd := hp.2
  simp only [isDel, Bool.and_eq_true, Bool.not_eq_true', Bool.or_eq_true] at hd
  exact ⟨List.mem_zipIdx_iff_getElem?.mp hp.1, hd.1, hd.2⟩

/-- The closure is complete: whatever a reference walk of any length reaches from a command "not created
by Netspoc" through not-needed commands is in `still w`. -/
theorem still_complete (w : World) (o : Obj) (c : Cmd) (r x : Nat) (l : List Nat) (ho : o ∈ w)
    (hc : c ∈ o.cmds) (hu : isUntouched o c = true) (hr : r ∈ c.followRefs) (hw : Walk w r x l) :
    x ∈ still w :=
  still_of_walk (mem_roots w o c r ho hc hu hr) hw

/-- … and therefore in no deletion round. -/
theorem protected_never_deleted (w : World) (rs : List (List Item)) (h : deleteRounds w = some rs)
    (o : Obj) (c : Cmd) (r x : Nat) (l : List Nat) (ho : o ∈ w) (hc : c ∈ o.cmds)
    (hu : isUntouched o c = true) (hr : r ∈ c.followRefs) (hw : Walk w r x l) :
    ∀ rd ∈ rs, ∀ it ∈ rd, it.id ≠ x := by
  intro rd hrd it hit heq
  obtain ⟨o', _, hid, hst, _⟩ := deleted_only_candidates w rs h rd hrd it hit
  exact hst (hid ▸ heq ▸ still_complete w o c r x l ho hc hu hr hw)

/-- A command that is needed, or neither marked nor generated, is never among the commands removed by a
`no …` deletion (`huniq`: the entry's id is not used twice in the table). -/
theorem untouched_command_never_deleted (w : World) (rs : List (List Item)) (h : deleteRounds w = some rs)
    (o : Obj) (j : Nat) (c : Cmd) (huniq : ∀ o' ∈ w, o'.id = o.id → o' = o) (hc : o.cmds[j]? = some c)
    (hk : c.needed = true ∨ isUntouched o c = true) :
    ∀ rd ∈ rs, ∀ it ∈ rd, it.id = o.id → (c, j) ∉ it.del := by
  intro rd hrd it hit hid hmem
  obtain ⟨o', ho', hid', _, hall⟩ := deleted_only_candidates w rs h rd hrd it hit
  obtain rfl : o' = o := huniq o' ho' (hid' ▸ hid)
  obtain ⟨_, hn, hd⟩ := hall (c, j) hmem
  rcases hk with hk | hk
  · exact Bool.false_ne_true (hn.symm.trans hk)
  · simp only [isUntouched, Bool.and_eq_true, Bool.not_eq_true', Bool.or_eq_false_iff] at hk
    rcases hd with hd | hd
    · exact Bool.false_ne_true (hk.2.1.symm.trans hd)
    · exact Bool.false_ne_true (hk.2.2.symm.trans hd)

/-- C08: when an entry is removed, nothing that is removed in the same or a later round references it. -/
theorem deleted_after_referrers (w : World) (rs pre post : List (List Item)) (r : List Item)
    (h : deleteRounds w = some rs) (hsplit : rs = pre ++ r :: post) :
    ∀ x ∈ r, ∀ y ∈ (r :: post).flatten, x.id ∉ y.refs :=
  (rounds_sound h).2.2 pre r post hsplit

/-- No candidate outside `still w` is left behind. -/
theorem all_candidates_deleted (w : World) (rs : List (List Item)) (h : deleteRounds w = some rs) :
    ∀ it ∈ items0 w, ∃ r ∈ rs, it ∈ r :=
  (rounds_sound h).2.1

/-! Non-vacuity: a needed ACL with its group, a marked ACL with its group, a left-over generated object,
a manual object protecting (over two hops) generated objects, an entry with a marked and an untouched line. -/
def exW : World := [
  ⟨1, 1, false, true, [⟨true, false, [2], []⟩]⟩,                 -- ACL in use, references group 2
  ⟨2, 2, false, false, [⟨true, true, [], []⟩]⟩,                  -- group shared with a deleted ACL: marked, but needed
  ⟨3, 1, false, true, [⟨false, true, [4], []⟩, ⟨false, true, [], []⟩]⟩,  -- old ACL (two lines), marked; references group 4
  ⟨4, 2, false, false, [⟨false, true, [], []⟩]⟩,                 -- its group
  ⟨5, 2, true, false, [⟨false, false, [], []⟩]⟩,                 -- left-over generated object
  ⟨6, 3, false, false, [⟨false, false, [], [⟨false, [7]⟩]⟩]⟩,    -- manual object, a sub-command references 7
  ⟨7, 3, true, false, [⟨false, false, [8], []⟩]⟩,                -- generated, but protected by 6
  ⟨8, 2, true, false, [⟨false, false, [], []⟩]⟩,                 -- generated, protected over two hops
  ⟨9, 4, false, false, [⟨false, true, [], []⟩, ⟨false, false, [], []⟩]⟩] -- one marked, one untouched command
example : deleteUnused exW = some ["clear configure kind1 n003", "no kind2 n005-DRC-0 line0",
    "no kind4 n009 line0", "no kind2 n004 line0"] := by decide +kernel
example : still exW = [7, 8] := by decide +kernel
example : Walk exW 7 8 [7, 8] :=
  Walk.cons ⟨⟨7, 3, true, false, [⟨false, false, [8], []⟩]⟩, by decide +kernel, by decide +kernel⟩
    ⟨⟨7, 3, true, false, [⟨false, false, [8], []⟩]⟩, ⟨false, false, [8], []⟩, by decide +kernel, by decide +kernel, by decide +kernel⟩
    (Walk.single ⟨⟨8, 2, true, false, [⟨false, false, [], []⟩]⟩, by decide +kernel, by decide +kernel⟩)

/-- `clear configure` removes an entry as a whole: the model (and the code) rely on the engine marking the
commands of such an entry alike. -/
theorem clear_wipes_whole_entry :
    deleteUnused [⟨1, 1, false, true, [⟨false, true, [], []⟩, ⟨false, false, [], []⟩]⟩] =
      some ["clear configure kind1 n001"] := by decide +kernel

/-! ### Facts regenerated from the current source -/
open NA.Gen.CiscoFacts

/-- `aaa-server`, `ldap attribute-map` and `interface` definitions are never added, deleted or marked. -/
theorem fixed_types_guarded :
    earlyReturnCases = [("addCmd", ["aaa-server", "interface", "ldap attribute-map"]),
                        ("delCmds", ["interface"]),
                        ("markDeleted", ["aaa-server", "interface", "ldap attribute-map"])] := rfl

/-- Routes of a VRF / address family for which the target specifies none are only reported, not deleted. -/
theorem routes_untouched_guard :
    "vrf := dstOfRoute(c).vrf; chgVRF[vrf]" ∈ diffRoutesConds ∧ "!seenVRF[ipv+vrf]" ∈ diffRoutesConds := by
  unfold diffRoutesConds
  exact ⟨by simp only [List.mem_cons, true_or, or_true], by simp only [List.mem_cons, true_or, or_true]⟩

/-- An interface unknown to Netspoc is protected (`markNeeded`, removal from the compared lists)
whether or not it is shut down: the `!shut` test guards only the warning (it is a separate, nested
`if`, not part of the `!found` condition). -/
theorem unknown_interface_protected_regardless_of_shutdown :
    checkASAInterfacesConds =
      ["len(tokens) == 5", "name != \"\"", "_, found := bIntf2cmd[name]; !found", "!shut",
       "m := s.a.lookup[prefix]; m != nil", "len(l) != 0", "_, found := aIntf2cmd[name]; !found"] := rfl

end NA.DelUnused

namespace NA.C07
def obligations : List Lean.Name := [
  ``NA.DelUnused.deleted_only_candidates, ``NA.DelUnused.still_complete,
  ``NA.DelUnused.protected_never_deleted, ``NA.DelUnused.untouched_command_never_deleted,
  ``NA.DelUnused.deleted_after_referrers, ``NA.DelUnused.all_candidates_deleted,
  ``NA.DelUnused.clear_wipes_whole_entry,
  ``NA.DelUnused.fixed_types_guarded, ``NA.DelUnused.routes_untouched_guard,
  ``NA.DelUnused.unknown_interface_protected_regardless_of_shutdown]
end NA.C07
