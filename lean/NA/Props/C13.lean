import NA.Proofs.C13
/-!
# C13 — missing-approve never forgets a device that needs approve

`run es` replays an arbitrary history (any length, any clock advances)
on the model of `pkg/status` + `missing-approve`; `needsApprove` is the specification
(latest conclusive observation), `listed` is what `missing-approve` prints.

The model mirrors the REPAIRED `status.SetApprove` (/repo commit 3b5699b): a failed approve
first saves a successful approve that is newer than the compare record into the compare slot.
Former findings F-C13 (a failed approve made the file forget a successful approve: device listed
although nothing is missing) and F-C13s (… and fall back to a stale UPTODATE compare: device NOT
listed although it needs approve) are repaired; regression theorems
`failed_approve_keeps_ok_record`, `failed_approve_after_revert_listed`.
-/
namespace NA.C13

/-- Listing half, for EVERY history: a device whose latest conclusive observation does not establish the
current code is printed.  (No side condition: since repair b82d07c a removed policy of the
device means "printed", the former finding F-C13r.) -/
theorem missing_sound (es : List (Event × Nat)) :
    (run es).needsApprove = true → (run es).listed = true := by
  have hinv := inv_run es {} inv_init
  unfold run at *
  generalize es.foldl step {} = w at *
  intro hneeds
  refine Bool.of_not_eq_false fun hl => ?_
  unfold World.listed NA.C13.listed at hl
  by_cases hd : devicePolicy w.st = 0
  · simp [hd] at hl
  · have hobs := hinv.sound hd
    have hle := hinv.dp_le
    simp only [hd, if_false] at hl
    have hcode : w.codeOf (devicePolicy w.st) = w.curCode := by
      by_cases hc : devicePolicy w.st = w.cur
      · simp [World.curCode, hc]
      · simp only [hc, if_false] at hl
        by_cases hr : devicePolicy w.st ∈ w.removed
        · simp [World.disk, hd, hr] at hl
        · have hlt : ¬ w.cur < devicePolicy w.st := by omega
          have hsome : w.disk (devicePolicy w.st) = some (w.codeOf (devicePolicy w.st)) := by
            simp [World.disk, hd, hr, hlt]
          simp only [hsome, Option.isNone_some, Bool.false_eq_true, if_false, readPolicy, Option.getD_some] at hl
          simpa using hl
    simp [World.needsApprove, hobs, hcode] at hneeds

/-- Regression witness of former finding F-C13r: the observed policy was deleted and the current code is
empty in all six files (`readFile` of a missing file equals an empty file); the device is printed. -/
theorem missing_sound_removed_regression :
    let es : List (Event × Nat) :=
      [(.newPolicy [1,0,0,0,0,0], 0), (.approveOk, 0), (.newPolicy zeros, 0), (.remove 1, 0)]
    (run es).curCode = zeros ∧ (run es).needsApprove = true ∧ (run es).listed = true := by decide

/-- Omission half, for histories in which, since the latest conclusive observation, no compare
ended with errors and the status file was not damaged (ghost flag of `runC`): if that
observation establishes the current code and the observed policy is still on disk, the device
is not printed. -/
theorem missing_omits_partial (es : List (Event × Nat)) (c : Code) (p : Nat)
    (hclean : (runC es ({}, true)).2 = true)
    (hobs : (run es).obs = .carries c p) (heq : c = (run es).curCode)
    (hdisk : p ∉ (run es).removed) :
    (run es).listed = false := by
  have hj := j_run es {} true inv_init.times (by simp [CmpOK]) (by simp [J])
  have hrun : (runC es ({}, true)).1 = run es := by simp [runC_fst, run]
  rw [hrun] at hj
  obtain ⟨h1, h2, h3, h4⟩ := hj hclean c p hobs
  unfold World.listed NA.C13.listed
  rw [h1]
  simp only [h2, if_false]
  by_cases hc : p = (run es).cur
  · simp [hc]
  · have : ¬ (run es).cur < p := by omega
    simp [hc, readPolicy, World.disk, h2, hdisk, this, ← h4, heq]

/-- The hypothesis `hclean` is needed: after a damaged status file (approve OK, then the file is
emptied) the device IS printed although the latest observation establishes the current code. -/
theorem missing_omits_needs_clean :
    ∃ es c p, (run es).obs = .carries c p ∧ c = (run es).curCode ∧ p ∉ (run es).removed ∧
      (runC es ({}, true)).2 = false ∧ (run es).listed = true :=
  ⟨[(.newPolicy [1,0,0,0,0,0], 0), (.approveOk, 0), (.damage, 0)], [1,0,0,0,0,0], 1, by decide⟩

/-- … and likewise after a compare that ended with errors. -/
example : ∃ es c p, (run es).obs = .carries c p ∧ c = (run es).curCode ∧ p ∉ (run es).removed ∧
      (runC es ({}, true)).2 = false ∧ (run es).listed = true :=
  ⟨[(.newPolicy [1,0,0,0,0,0], 0), (.approveOk, 0), (.compareErr, 0)], [1,0,0,0,0,0], 1, by decide⟩

/-- Former F-C13: approve OK, then approve FAILED for the same policy.  The successful approve is
kept (in the compare slot) and the device is not printed. -/
theorem failed_approve_keeps_ok_record :
    (run [(.newPolicy [1,0,0,0,0,0], 0), (.approveOk, 0), (.approveFailed, 0)]).listed = false := by
  decide

/-- Former F-C13s: policy 1 = code X, compare UPTODATE; policy 2 = code Y, approve OK;
policy 3 = code X again, approve FAILED.  The device carries Y, current is X: it is printed
(the unrepaired code fell back to the stale compare of policy 1 and did not print it). -/
theorem failed_approve_after_revert_listed :
    (run [(.newPolicy [1,0,0,0,0,0], 0), (.approveOk, 0), (.compare, 0),
      (.newPolicy [2,0,0,0,0,0], 0), (.approveOk, 0),
      (.newPolicy [1,0,0,0,0,0], 0), (.approveFailed, 0)]).listed = true := by
  decide

/-! Non-vacuity: a history with failed approves, sticky DIFF, drift and removal whose current code is not empty; a
history with failed approves that meets `hclean` of `missing_omits_partial`. -/
example : (run [(.newPolicy [1,0,0,0,0,0], 0), (.compare, 3), (.approveFailed, 0), (.approveOk, 1),
    (.drift [7,0,0,0,0,0], 0), (.compare, 0), (.compare, 0), (.newPolicy [2,0,0,0,0,0], 0),
    (.approveFailed, 0), (.remove 1, 0)]).curCode ≠ zeros := by decide
example : (runC [(.newPolicy [1,0,0,0,0,0], 0), (.approveOk, 3), (.approveFailed, 0),
    (.newPolicy [1,0,0,0,0,0], 2), (.approveFailed, 0), (.bzip 1, 0)] ({}, true)).2 = true := by decide

/-- A successful approve takes the device off the list, after EVERY history (so approve-all, which
approves each printed device once, ends with an empty list if every approve succeeds). -/
theorem approve_ok_unlists (es : List (Event × Nat)) (dt : Nat) (hcur : (run es).cur ≠ 0) :
    (run (es ++ [(.approveOk, dt)])).listed = false := by
  have ht : (run es).st.compare.time ≤ (run es).clock := (inv_run es {} inv_init).times.ct_le
  rw [run_snoc]
  simp only [step, World.cur] at hcur ⊢
  simp only [hcur, if_false]
  exact listed_of_current (dp_setApprove_ok _ _ _ (by omega)) hcur

/-- A compare that finds the device equal to the current code takes the device off the list, after EVERY
history (second way out of the list besides `approve_ok_unlists`; no cleanliness hypothesis: an UPTODATE
compare overwrites whatever a damaged file or an error-compare left behind). -/
theorem compare_uptodate_unlists (es : List (Event × Nat)) (dt : Nat) (hcur : (run es).cur ≠ 0)
    (heq : (run es).dev = (run es).curCode) :
    (run (es ++ [(.compare, dt)])).listed = false := by
  have ht : (run es).st.approve.time ≤ (run es).clock := (inv_run es {} inv_init).times.at_le
  rw [run_snoc]
  simp only [step, World.cur, World.curCode, World.codeOf] at hcur heq ⊢
  simp only [hcur, if_false, heq, bne_self_eq_false, Bool.false_eq_true]
  exact listed_of_current (dp_setCompare_same _ _ _ (by omega)) hcur

/-- A compare that finds a difference puts the device on the list, after EVERY history (corollary of
`missing_sound`: the observation `differs` is conclusive). -/
theorem compare_diff_lists (es : List (Event × Nat)) (dt : Nat) (hcur : (run es).cur ≠ 0)
    (hne : (run es).dev ≠ (run es).curCode) :
    (run (es ++ [(.compare, dt)])).listed = true := by
  apply missing_sound
  rw [run_snoc]
  have hb : ((run es).dev != (run es).curCode) = true := by simpa using hne
  have hb' : ((run es).dev != World.curCode { (run es) with clock := (run es).clock + dt + 1 }) = true := by
    simpa [World.curCode, World.codeOf, World.cur] using hb
  simp only [step, World.cur] at hcur ⊢
  simp [hcur, hb', World.needsApprove]

/-- Non-vacuity of both: after an approve followed by a damaged file and an error-compare, and after an approve followed
by a drift, the two compares apply. -/
example :
    let es : List (Event × Nat) := [(.newPolicy [1,0,0,0,0,0], 0), (.approveOk, 0), (.damage, 1),
      (.compareErr, 0)]
    (run es).cur ≠ 0 ∧ (run es).dev = (run es).curCode ∧ (run es).listed = true ∧
      (run (es ++ [(.compare, 2)])).listed = false := by decide
example :
    let es : List (Event × Nat) := [(.newPolicy [1,0,0,0,0,0], 0), (.approveOk, 0), (.drift [9,0,0,0,0,0], 1)]
    (run es).cur ≠ 0 ∧ (run es).dev ≠ (run es).curCode ∧ (run es).listed = false ∧
      (run (es ++ [(.compare, 2)])).listed = true := by decide

/-- Non-vacuity of `missing_omits_partial` with all four hypotheses, on a history with two policies, an approve, a
compare and a compression: the device stays off the list. -/
example :
    let es : List (Event × Nat) := [(.newPolicy [1,0,0,0,0,0], 0), (.approveOk, 2), (.compare, 0),
      (.newPolicy [1,0,0,0,0,0], 1), (.bzip 1, 0)]
    (runC es ({}, true)).2 = true ∧ (run es).obs = .carries [1,0,0,0,0,0] 1 ∧
      [1,0,0,0,0,0] = (run es).curCode ∧ 1 ∉ (run es).removed ∧ (run es).listed = false := by decide

def obligations : List Lean.Name := [
  ``missing_sound, ``missing_sound_removed_regression,
  ``missing_omits_partial, ``missing_omits_needs_clean,
  ``failed_approve_keeps_ok_record, ``failed_approve_after_revert_listed,
  ``inv_step, ``j_step, ``approve_ok_unlists,
  ``compare_uptodate_unlists, ``compare_diff_lists]

end NA.C13
