import NA.Proofs.IosConv
import NA.Proofs.IosConvBlock
import NA.Proofs.IosConvPlan
import NA.Proofs.IosConvExec
import NA.Proofs.IosConvRun
import NA.Proofs.IosConvMove
import NA.Proofs.IosConvSuppr
/-!
# IOS ACL planner (`diffIOSACLs`, model `planIOS`): numbering, block equivalence, convergence

`M` is the merged list of an arbitrary edit script (any length) between the device ACL `olds M`
and the target `news M`.  The device is the strict IOS device of `NA.Spec.AclDev`
(`iosReseq`, `iosExec1`, `iosTrace`).  "Every script" below means: at least one kept line (`hboth`;
the other branch of the code is F-C14b), no junk cells, insert runs shorter than 10000 (the code aborts
otherwise), `mkey`s pairwise different per side.

The numbers the planner uses order all cells like the merged list, so every intermediate device list
is `masked M μ`.  For every script the strict device accepts the plan and ends in the target with the
lines of the suppressed moves left at their old positions; without remark lines that state is
block-equivalent to the target modulo `log`.  With remark lines the statement is false (F-C02r).  When a
suppressed move also changes the `log` attribute the device keeps the OLD attribute (the lists then
agree only modulo `log`).
-/
namespace NA.Acl.IosAclProps
open NA.Acl

/-- If every cell is old or new (`noJunk`) and every maximal run of new-only cells is shorter than
10000, the numbers are strictly increasing along the merged list. -/
theorem ios_numbers_strictly_increasing (M : List Cell) (hj : noJunk M = true) (hs : runsShort M)
    {i j : Nat} (hij : i < j) (hjl : j < M.length) : numOf M i < numOf M j :=
  numOf_strictMono M hj hs hij hjl

/-- The numbers the model of the code sends (`before*10000 + i + 1` over `insertRuns`) are `numOf`
of the new-only cells, in order. -/
theorem ios_runs_numbering_consistent (M : List Cell) :
    (insertRuns M 0 0).flatMap runItems =
      (addIdx M).map fun j => (numOf M j, (M.getD j default).line) :=
  insertRuns_numOf M

/-- … and run by run: cell index, `before = countOld`, offset = `runOff`. -/
theorem ios_runs_cells_consistent (M : List Cell) :
    flat4 (insertRuns M 0 0) =
      (addIdx M).map fun j => (j, countOld M j, runOff M j, (M.getD j default).line) :=
  insertRuns_items M

/-- Inserting an absent cell by its number into the number-sorted device list puts the line at
its position in merged-list order. -/
theorem ios_insert_by_number (M : List Cell) (hjunk : noJunk M = true) (hs : runsShort M)
    (μ : List Bool) (hl : μ.length = M.length) (j : Nat) (hj : j < M.length)
    (hf : μ.getD j false = false) :
    iosLines (iosInsert (numbered M μ) (numOf M j) (M.getD j default).line) =
      masked M (μ.set j true) := by
  have hj' : j < (allNum M).length := by rw [allNum_length]; exact hj
  have := pick_insert (allNum M) (allNum_sorted M hjunk hs) μ j hj'
    (by rw [allNum_length]; exact hl) hf
  rw [allNum_getElem M j hj'] at this
  unfold numbered
  rw [this]
  exact numbered_lines M _

/-- Deleting by number removes exactly that cell. -/
theorem ios_delete_by_number (M : List Cell) (hjunk : noJunk M = true) (hs : runsShort M)
    (μ : List Bool) (hl : μ.length = M.length) (j : Nat) (hj : j < M.length) :
    iosLines ((numbered M μ).filter fun e => e.1 != numOf M j) = masked M (μ.set j false) := by
  have hj' : j < (allNum M).length := by rw [allNum_length]; exact hj
  have := pick_delete (allNum M) (allNum_sorted M hjunk hs) μ j hj'
    (by rw [allNum_length]; exact hl)
  rw [allNum_getElem M j hj'] at this
  unfold numbered
  rw [this]
  exact numbered_lines M _

/-- The resequenced device is the numbered list of the old cells. -/
theorem ios_reseq_is_numbered (M : List Cell) (dev : IosAcl) (hdev : iosLines dev = olds M) :
    iosReseq dev 10000 10000 = numbered M (oldMask M) := reseq_numbered M dev hdev

theorem block_swap_same_semantics (s1 s2 : List Line) (a b : Line)
    (h : a.remark = true ∨ b.remark = true ∨ a.permit = b.permit) (p : Nat) :
    eval (s1 ++ a :: b :: s2) p = eval (s1 ++ b :: a :: s2) p := eval_swap s1 s2 a b h p

theorem blockEq_same_semantics {x y : List Line} (h : BlockEq x y) : ∀ p, eval x p = eval y p :=
  fun p => h.eval_eq p

/-- `blockEquiv x y` implies equal verdicts, provided lines with the same `mkey` match the same
packets (across both lists). -/
theorem blockEquiv_same_semantics (x y : List Line) (p : Nat)
    (hcons : ∀ a ∈ x ++ y, ∀ b ∈ x ++ y, a.remark = false → b.remark = false → a.mkey = b.mkey →
      a.hits p = b.hits p)
    (h : blockEquiv x y = true) : eval x p = eval y p := by
  let H : Nat → Bool := fun k => (x ++ y).any fun l => !l.remark && l.mkey == k && l.hits p
  have hH : ∀ l ∈ x ++ y, l.remark = false → H l.mkey = l.hits p := by
    intro l hl hr
    cases hh : l.hits p with
    | true =>
      simp only [H, List.any_eq_true]
      exact ⟨l, hl, by simp [hr, hh]⟩
    | false =>
      simp only [H, List.any_eq_false]
      intro l' hl'
      cases hr' : l'.remark with
      | true => simp
      | false =>
        by_cases hk : l'.mkey = l.mkey
        · have := hcons l' hl' l hl hr' hr hk
          simp [this, hh]
        · simp [hk]
  have hx := eval_eq_evalBlocks H p x fun l hl => hH l (List.mem_append_left _ hl)
  have hy := eval_eq_evalBlocks H p y fun l hl => hH l (List.mem_append_right _ hl)
  simp only [blockEquiv, Bool.and_eq_true, beq_iff_eq] at h
  rw [hx, hy, h.1]

/-- For every script in the sense of the file header that keeps a line (`hboth`) and whose target
`mkey`s are pairwise different (suppressed moves or not) the plan has this shape; `flags` are the
suppression decisions. -/
theorem ios_plan_shape (M : List Cell) (hboth : (M.any fun c => c.old && c.new) = true)
    (hnn : ((news M).map (·.mkey)).Nodup) :
    ∃ flags : List Bool, flags.length = (addIdx M).length ∧
      planIOS M = (((addIdx M).map (newItem M)).zip flags).flatMap (itemOps M) ++ delsOf M :=
  let ⟨g, hg, _⟩ := plan_general M hboth hnn
  ⟨(addIdx M).map g, by simp, by rw [hg, List.zip_map', List.flatMap_map]; rfl⟩

/-- For EVERY script (suppressed moves or not): the strict device accepts the plan command by
command, and the final list is the target except that the line of every suppressed move
(`S`) still sits at its old position (`finalMask`).  `g` are the planner's suppression decisions. -/
theorem ios_plan_final_state (M : List Cell)
    (hboth : (M.any fun c => c.old && c.new) = true) (hjunk : noJunk M = true)
    (hruns : runsShort M)
    (hno : ((olds M).map (·.mkey)).Nodup) (hnn : ((news M).map (·.mkey)).Nodup)
    (dev : IosAcl) (hdev : iosLines dev = olds M) :
    ∃ (g : Nat → Bool) (tr : List IosAcl) (s : IosAcl),
      planIOS M = (addIdx M).flatMap (cellOpsG M g) ++ delsOf M ∧
      iosTrace (iosReseq dev 10000 10000) (planIOS M) = some tr ∧
      (iosReseq dev 10000 10000 :: tr).getLast? = some s ∧
      iosLines s = masked M (finalMask M ((addIdx M).filter (supprAt M g))) := by
  obtain ⟨g, hg, -, hrun⟩ := IosSafe.planIOS_run M hboth hjunk hruns hno hnn dev hdev
  obtain ⟨tr, ht, -, hl⟩ := hrun.trace
  exact ⟨g, tr, _, hg, ht, hl, numbered_lines M _⟩

/-- No deleted line has the `mkey` of an inserted line (so there is no move at all, and none can be
suppressed): the device ends in exactly the target. -/
theorem ios_plan_converges_no_moves_partial (M : List Cell)
    (hboth : (M.any fun c => c.old && c.new) = true) (hjunk : noJunk M = true)
    (hruns : runsShort M)
    (hno : ((olds M).map (·.mkey)).Nodup) (hnn : ((news M).map (·.mkey)).Nodup)
    (hnm : ∀ i ∈ delIdx M, ∀ j ∈ addIdx M,
      (M.getD i default).line.mkey ≠ (M.getD j default).line.mkey)
    (dev : IosAcl) (hdev : iosLines dev = olds M) :
    ∃ tr s, iosTrace (iosReseq dev 10000 10000) (planIOS M) = some tr ∧
      (iosReseq dev 10000 10000 :: tr).getLast? = some s ∧ iosLines s = news M := by
  obtain ⟨g, tr, s, -, ht, hl, hs⟩ := ios_plan_final_state M hboth hjunk hruns hno hnn dev hdev
  rw [suppr_nil_of_no_moves M g hnm, finalMask_nil, masked_new] at hs
  exact ⟨tr, s, ht, hl, hs⟩

/-- Moves allowed, none suppressed: the plan holds an `add` or a `move` for every new-only cell. -/
theorem ios_plan_converges_no_suppression_partial (M : List Cell)
    (hboth : (M.any fun c => c.old && c.new) = true) (hjunk : noJunk M = true)
    (hruns : runsShort M)
    (hno : ((olds M).map (·.mkey)).Nodup) (hnn : ((news M).map (·.mkey)).Nodup)
    (hcount : ((planIOS M).filter IOp.isAddMove).length = (addIdx M).length)
    (dev : IosAcl) (hdev : iosLines dev = olds M) :
    ∃ tr s, iosTrace (iosReseq dev 10000 10000) (planIOS M) = some tr ∧
      (iosReseq dev 10000 10000 :: tr).getLast? = some s ∧ iosLines s = news M := by
  obtain ⟨g, tr, s, hg, ht, hl, hs⟩ := ios_plan_final_state M hboth hjunk hruns hno hnn dev hdev
  rw [suppr_nil_of_count M g hg hcount, finalMask_nil, masked_new] at hs
  exact ⟨tr, s, ht, hl, hs⟩

/-- Suppressed moves allowed: if every suppressed move is harmless (`SupprOK`: the line kept at the
old position differs at most in `log`, and all cells between old and new position that stay on the
device have the same action or are remarks), the device ends block-equivalent (modulo `log`) to
the target — hence with the same verdict for every packet. -/
theorem ios_plan_block_equiv_of_supprOK (M : List Cell)
    (hboth : (M.any fun c => c.old && c.new) = true) (hjunk : noJunk M = true)
    (hruns : runsShort M)
    (hno : ((olds M).map (·.mkey)).Nodup) (hnn : ((news M).map (·.mkey)).Nodup)
    (dev : IosAcl) (hdev : iosLines dev = olds M)
    (hok : ∀ g : Nat → Bool, planIOS M = (addIdx M).flatMap (cellOpsG M g) ++ delsOf M →
      SupprOK LineEqv M ((addIdx M).filter (supprAt M g))) :
    ∃ tr s, iosTrace (iosReseq dev 10000 10000) (planIOS M) = some tr ∧
      (iosReseq dev 10000 10000 :: tr).getLast? = some s ∧
      BlockEqG LineEqv (iosLines s) (news M) ∧ ∀ p, eval (iosLines s) p = eval (news M) p := by
  obtain ⟨g, tr, s, hg, ht, hl, hs⟩ := ios_plan_final_state M hboth hjunk hruns hno hnn dev hdev
  have hbe : BlockEqG LineEqv (iosLines s) (news M) := by
    rw [hs]
    exact finalMask_blockEq LineEqv (fun _ _ _ h => h.swappable) M hno hnn _
      (mem_addIdx_of_suppr M g) (suppr_nodup M g) (hok g hg)
  exact ⟨tr, s, ht, hl, hbe, fun p => hbe.eval_eq (fun _ _ h => h.sem) p⟩

/-- The obligation `ios_plan_block_equiv` of DESIGN.md (C02), for ACLs WITHOUT remark lines (the
complement of F-C02r): whatever moves the planner suppresses, the strict device accepts the plan and ends block-equivalent to the target
modulo `log` (`BlockEqG LineEqv`: same-action swaps, and lines replaced by lines with the same
`mkey`, action and match), with the same verdict for every packet.  `hwf`: `mkey` determines
action and match (it is the line text without `log`). -/
theorem ios_plan_block_equiv_partial (M : List Cell)
    (hboth : (M.any fun c => c.old && c.new) = true) (hjunk : noJunk M = true)
    (hruns : runsShort M)
    (hno : ((olds M).map (·.mkey)).Nodup) (hnn : ((news M).map (·.mkey)).Nodup)
    (hnr : ∀ c ∈ M, c.line.remark = false)
    (hwf : ∀ i ∈ delIdx M, ∀ j ∈ addIdx M,
      (M.getD i default).line.mkey = (M.getD j default).line.mkey →
      LineEqv (M.getD i default).line (M.getD j default).line)
    (dev : IosAcl) (hdev : iosLines dev = olds M) :
    ∃ tr s, iosTrace (iosReseq dev 10000 10000) (planIOS M) = some tr ∧
      (iosReseq dev 10000 10000 :: tr).getLast? = some s ∧
      BlockEqG LineEqv (iosLines s) (news M) ∧ ∀ p, eval (iosLines s) p = eval (news M) p := by
  obtain ⟨tr, s, ht, hl, hbe⟩ := ios_plan_block_equiv_mod LineEqv (fun _ _ _ h => h.swappable)
    (fun _ _ h => h.act) M hboth hjunk hruns hno hnn hnr hwf dev hdev
  exact ⟨tr, s, ht, hl, hbe, fun p => hbe.eval_eq (fun _ _ h => h.sem) p⟩

/-- The same with pure swaps (`BlockEq`), if no moved line changes its `log` attribute. -/
theorem ios_plan_block_equiv_exact_partial (M : List Cell)
    (hboth : (M.any fun c => c.old && c.new) = true) (hjunk : noJunk M = true)
    (hruns : runsShort M)
    (hno : ((olds M).map (·.mkey)).Nodup) (hnn : ((news M).map (·.mkey)).Nodup)
    (hnr : ∀ c ∈ M, c.line.remark = false)
    (hsame : ∀ i ∈ delIdx M, ∀ j ∈ addIdx M,
      (M.getD i default).line.mkey = (M.getD j default).line.mkey →
      (M.getD i default).line = (M.getD j default).line)
    (dev : IosAcl) (hdev : iosLines dev = olds M) :
    ∃ tr s, iosTrace (iosReseq dev 10000 10000) (planIOS M) = some tr ∧
      (iosReseq dev 10000 10000 :: tr).getLast? = some s ∧
      BlockEq (iosLines s) (news M) ∧ ∀ p, eval (iosLines s) p = eval (news M) p := by
  obtain ⟨tr, s, ht, hl, hbe⟩ := ios_plan_block_equiv_mod Eq (fun _ _ _ h hs => h ▸ hs)
    (fun _ _ h => h ▸ rfl) M hboth hjunk hruns hno hnn hnr hsame dev hdev
  exact ⟨tr, s, ht, hl, hbe.toBlockEq, fun p => hbe.toBlockEq.eval_eq p⟩

namespace W
def dA : Line := { key := 1, mkey := 1, permit := false, mask := 3 }
def rN : Line := { key := 2, mkey := 2, permit := false, remark := true }
def pA : Line := { key := 3, mkey := 3, permit := true, mask := 3 }
def pT : Line := { key := 4, mkey := 4, permit := true, mask := 1 }
def dAny : Line := { key := 5, mkey := 5, permit := false, mask := 15 }
/-- device `[deny ip A, remark n1, permit ip A, permit tcp A, deny ip any]` -/
def devR : List Line := [dA, rN, pA, pT, dAny]
/-- target `[permit tcp A, remark n1, deny ip A, permit ip A]` -/
def tgtR : List Line := [pT, rN, dA, pA]
/-- the ranges `myers.Diff` returns for these two lists -/
def rangesR : List Range := [⟨0,1,0,0⟩, ⟨1,1,0,1⟩, ⟨1,2,1,2⟩, ⟨2,2,2,3⟩, ⟨2,3,3,4⟩, ⟨3,5,4,4⟩]
def MR : List Cell :=
  [⟨dA, true, false⟩, ⟨pT, false, true⟩, ⟨rN, true, true⟩, ⟨dA, false, true⟩, ⟨pA, true, true⟩,
   ⟨pT, true, false⟩, ⟨dAny, true, false⟩]

def p1 : Line := { key := 1, mkey := 1, permit := true, mask := 1 }
def p2 : Line := { key := 2, mkey := 2, permit := true, mask := 2 }
def p3 : Line := { key := 3, mkey := 3, permit := true, mask := 4 }
def pM : Line := { key := 4, mkey := 4, permit := true, mask := 24 }
def denyN : Line := { key := 5, mkey := 5, permit := false, mask := 16 }
def devS : List Line := [p1, p2, p3, pM]
def tgtS : List Line := [p1, pM, denyN, p2, p3]
def rangesS : List Range := [⟨0,1,0,1⟩, ⟨1,1,1,3⟩, ⟨1,3,3,5⟩, ⟨3,4,5,5⟩]
def MS : List Cell :=
  [⟨p1, true, true⟩, ⟨pM, false, true⟩, ⟨denyN, false, true⟩, ⟨p2, true, true⟩, ⟨p3, true, true⟩,
   ⟨pM, true, false⟩]
end W

open W in
/-- F-C02r: remark lines.  The move of `deny ip A` is suppressed (the remark behind the insert
position carries the block id of the first block), the device ends as
`[deny ip A, permit tcp A, remark, permit ip A]`: not block-equivalent to the target, and a
different verdict for packet 0 (tcp from A). -/
theorem ios_remark_suppression_counterexample :
    cellsOf devR tgtR rangesR = some MR ∧ normalised MR = true ∧ noJunk MR = true ∧
    ((olds MR).map (·.mkey)).Nodup ∧ ((news MR).map (·.mkey)).Nodup ∧
    ∃ tr s, iosTrace (iosReseq (devR.map fun l => (0, l)) 10000 10000) (planIOS MR) = some tr ∧
      tr.getLast? = some s ∧ iosLines s = [dA, pT, rN, pA] ∧
      blockEquiv (iosLines s) tgtR = false ∧ eval (iosLines s) 0 ≠ eval tgtR 0 ∧
      (planIOS' MR).2 = true := by
  refine ⟨by decide +kernel, by decide +kernel, by decide +kernel, by decide +kernel,
    by decide +kernel,
    [[(10000, dA), (10001, pT), (20000, rN), (30000, pA), (50000, dAny)],
     [(10000, dA), (10001, pT), (20000, rN), (30000, pA)]],
    [(10000, dA), (10001, pT), (20000, rN), (30000, pA)], by decide +kernel⟩

open W in
/-- Regression for the repaired F-C02: `denyN` splits the block behind the insert position, so the
move of `pM` is no longer suppressed; the plan contains it and the device reaches the target. -/
theorem ios_split_block_move_not_suppressed :
    cellsOf devS tgtS rangesS = some MS ∧
    IOp.move 40000 10001 pM ∈ planIOS MS ∧
    ∃ tr s, iosTrace (iosReseq (devS.map fun l => (0, l)) 10000 10000) (planIOS MS) = some tr ∧
      tr.getLast? = some s ∧ iosLines s = tgtS := by
  refine ⟨by decide +kernel, by decide +kernel,
    [[(10000, p1), (10001, pM), (20000, p2), (30000, p3)],
     [(10000, p1), (10001, pM), (10002, denyN), (20000, p2), (30000, p3)]],
    [(10000, p1), (10001, pM), (10002, denyN), (20000, p2), (30000, p3)], by decide +kernel⟩

namespace W
/-- `p1` with the `log` attribute: other text (`key`), same identity modulo `log` (`mkey`). -/
def p1log : Line := { key := 11, mkey := 1, permit := true, mask := 1 }
def rangesL : List Range := [⟨0,1,0,0⟩, ⟨1,1,0,1⟩, ⟨1,2,1,2⟩]
def ML : List Cell := [⟨p1, true, false⟩, ⟨p1log, false, true⟩, ⟨p2, true, true⟩]
end W

open W in
/-- Finding (log attribute, confirmed with the real `drc`: device `permit tcp A any eq 22`, target
`permit tcp A any eq 22 log`, a second line unchanged ⇒ empty script): a line whose only change is
the `log` attribute is a "move" inside its block, the move is suppressed, nothing is sent; the
device keeps the old attribute.  Exact convergence fails; only `BlockEqG LineEqv` holds. -/
theorem ios_log_change_lost_counterexample :
    cellsOf [p1, p2] [p1log, p2] rangesL = some ML ∧ planIOS ML = [] ∧
    news ML ≠ olds ML ∧ LineEqv p1 p1log := by
  decide +kernel

/-! ## Non-vacuity of the hypotheses -/

open W in
example : (MS.any fun c => c.old && c.new) = true ∧ noJunk MS = true ∧ runsShort MS ∧
    ((olds MS).map (·.mkey)).Nodup ∧ ((news MS).map (·.mkey)).Nodup ∧
    ((planIOS MS).filter IOp.isAddMove).length = (addIdx MS).length ∧
    iosLines (devS.map fun l => (0, l)) = olds MS :=
  ⟨by decide +kernel, by decide +kernel, (runsShortB_iff _).mp (by decide +kernel),
   by decide +kernel⟩

/-- a script with adds and deletes but no move -/
def MN : List Cell :=
  [⟨W.p1, true, true⟩, ⟨W.denyN, false, true⟩, ⟨W.p2, true, false⟩, ⟨W.p3, true, true⟩]

example : (MN.any fun c => c.old && c.new) = true ∧ noJunk MN = true ∧ runsShort MN ∧
    ((olds MN).map (·.mkey)).Nodup ∧ ((news MN).map (·.mkey)).Nodup ∧
    (∀ i ∈ delIdx MN, ∀ j ∈ addIdx MN,
      (MN.getD i default).line.mkey ≠ (MN.getD j default).line.mkey) :=
  ⟨by decide +kernel, by decide +kernel, (runsShortB_iff _).mp (by decide +kernel),
   by decide +kernel⟩

/-- a script whose only move is suppressed (the plan is empty): device `[p1,p2,p3]`, target
`[p2,p3,p1]` -/
def MX : List Cell :=
  [⟨W.p1, true, false⟩, ⟨W.p2, true, true⟩, ⟨W.p3, true, true⟩, ⟨W.p1, false, true⟩]

example : planIOS MX = [] ∧ olds MX ≠ news MX ∧
    (MX.any fun c => c.old && c.new) = true ∧ noJunk MX = true ∧ runsShort MX ∧
    ((olds MX).map (·.mkey)).Nodup ∧ ((news MX).map (·.mkey)).Nodup ∧
    (∀ c ∈ MX, c.line.remark = false) ∧
    (∀ i ∈ delIdx MX, ∀ j ∈ addIdx MX,
      (MX.getD i default).line.mkey = (MX.getD j default).line.mkey →
      (MX.getD i default).line = (MX.getD j default).line) ∧
    (∀ i ∈ delIdx MX, ∀ j ∈ addIdx MX,
      (MX.getD i default).line.mkey = (MX.getD j default).line.mkey →
      LineEqv (MX.getD i default).line (MX.getD j default).line) :=
  ⟨by decide +kernel, by decide +kernel, by decide +kernel, by decide +kernel,
   (runsShortB_iff _).mp (by decide +kernel), by decide +kernel⟩

example : BlockEq [W.p1, W.p2, W.denyN] [W.p2, W.p1, W.denyN] :=
  BlockEq.swap [] [W.denyN] W.p1 W.p2 (Or.inr (Or.inr rfl))

example : blockEquiv [W.p1, W.rN, W.p2, W.denyN] [W.p2, W.p1, W.rN, W.denyN] = true := by
  decide +kernel

def obligations : List Lean.Name := [
  ``ios_numbers_strictly_increasing, ``ios_runs_numbering_consistent, ``ios_runs_cells_consistent,
  ``ios_insert_by_number, ``ios_delete_by_number, ``ios_reseq_is_numbered,
  ``block_swap_same_semantics, ``blockEq_same_semantics, ``blockEquiv_same_semantics,
  ``ios_plan_converges_no_moves_partial,
  ``ios_plan_converges_no_suppression_partial, ``ios_plan_shape, ``ios_plan_final_state,
  ``ios_plan_block_equiv_partial,
  ``ios_plan_block_equiv_exact_partial,
  ``ios_remark_suppression_counterexample, ``ios_split_block_move_not_suppressed,
  ``ios_log_change_lost_counterexample]

end NA.Acl.IosAclProps
