import NA.Gen.IosSkel
import NA.Model.IosSessionProg
import NA.Model.IosLogin
import NA.Proofs.C15SetCheck
/-!
# C15, generated fact (T-gen): the interaction skeleton of `go/pkg/ios/device.go` is the skeleton OF THE MODEL

`NA.Gen.IosSkel.paths` is rewritten from the source on every check, in a normal form that does not
depend on how the code is spelled (`translate/iosskel`, `NA/Model/IosSessionProg.lean`): sets of
acyclic paths of interaction steps, constant-folded string arguments, `_` for everything else,
no pure statements, no polarity, no guard-clause/nesting difference.

The programs of `NA/Model/IosSessionProg.lean` are single terms with two readings:

* `denote_*` — their semantics IS the executable model used by every C15 theorem
  (`applyCommands … true`, `cmd … true`, `check`, `sendReloadCmd`, `cancelReload`, `prepareDevice`,
  `stripReloadBanner`, `writeMem … 2`, `loginEnable`);
* `paths_applyCommands`, `paths_loginEnable` — the path set of the ENTRY POINT, every helper of the package
  inlined on both sides (the programs contain their sub-programs as sub-terms; the translator inlines by
  object identity), IS the regenerated one.  No theorem names a helper of the source: wrapping, inlining,
  extracting or moving a helper does not change the fact.

Dropping or moving a `defer`, moving `writeMem()` into the closure, removing the re-arm or the
accumulation of `needReload`, forgetting `s.reloadActive = true` on a branch, changing a prompt
pattern or the order of the exchanges changes the generated set; restructuring the model breaks
the `denote` equations.
-/
namespace NA.C15Skel
open NA.Ios NA.Ios.Prog

variable {σ : Type}

theorem bindM_pure_left {α β : Type} (a : α) (f : α → M σ β) : bindM (pureM a) f = f a := rfl

theorem bindM_pure_right (m : M σ Unit) : bindM m (fun _ => pureM ()) = m := by
  funext st
  unfold bindM pureM
  cases h : m st with
  | mk r st' => cases r <;> rfl

theorem denote_prepareDevice (D : Device σ) : denote (prepareDeviceP D) = prepareDevice D := by
  have : prepareDevice D =
      bindM (sendCmd D confCmd) fun _ => bindM (sendCmd D (lit "no logging console")) fun _ =>
      bindM (sendCmd D (lit "line vty 0 15")) fun _ => bindM (sendCmd D (lit "logging synchronous level all")) fun _ =>
      bindM (sendCmd D (lit "ip subnet-zero")) fun _ => bindM (sendCmd D (lit "ip classless")) fun _ =>
      bindM (sendCmd D endCmd) fun _ => pureM () := rfl
  rw [this, bindM_pure_right]
  rfl

theorem denote_sendReloadCmd (D : Device σ) (b : Bool) : denote (sendReloadCmdP D b) = sendReloadCmd D b := by
  cases b <;> rfl

theorem denote_cancelReload (D : Device σ) : denote (cancelReloadP D) = cancelReload D := rfl

theorem denote_stripProbe (pre post : Str) : denote (stripProbeP (σ := σ) pre post) = stripProbe pre post := by
  unfold stripProbe stripProbeP
  simp only [denote]

theorem denote_stripReloadBanner (out : Str) :
    denote (stripReloadBannerP (σ := σ) out) = stripReloadBanner out := by
  unfold stripReloadBanner stripReloadBannerP
  simp only [denote, denote_stripProbe]
  congr 1; funext act
  cases act
  · rfl
  · simp only [if_true]
    cases bannerFind out <;> rfl

theorem denote_check (ci : Str) : denote (checkP (σ := σ) ci) = check ci := by
  unfold check checkP
  simp only [denote, bindM_pure_left, denote_stripReloadBanner]
  congr 1; funext out; congr 1; funext p; congr 1; funext o; congr 1
  unfold checkOutput
  cases o.isEmpty
  · simp only [Bool.not_false, if_true, Bool.false_eq_true, if_false]
    congr 1; funext _
    cases (validOutput (splitOnNL o)).2 <;> rfl
  · rfl

theorem denote_cmd (D : Device σ) (c : Str) : denote (cmdP D c) = cmd D true c := by
  unfold cmd cmdP
  simp only [denote, bindM_pure_left, denote_check, denote_sendReloadCmd]
  congr 1; funext _; congr 1; funext n1; congr 1
  cases (cutNL c).2.isEmpty <;> rfl

theorem bindM_assoc {α β γ : Type} (m : M σ α) (f : α → M σ β) (g : β → M σ γ) :
    bindM (bindM m f) g = bindM m (fun a => bindM (f a) g) := by
  funext st
  unfold bindM
  cases h : m st with
  | mk r st' => cases r <;> rfl

/-- what a round of the loop does with the verdict of the model's `writeMemRound`, the counter being `k` -/
def roundPost (k : Nat) : WmStep → M σ WmStep
  | .done => pureM .done
  | .retry => if isPos k then pureM .retry else abortM .writeMemGiveUp

theorem denote_writeMemRound (D : Device σ) (k : Nat) :
    denote (writeMemRoundP D k) = bindM (writeMemRound D) (roundPost k) := by
  unfold writeMemRound writeMemRoundP
  simp only [denote]
  rw [bindM_assoc]; congr 1; funext out
  rw [bindM_assoc]; congr 1; funext out2
  cases h1 : containsLit (lit "[OK]") out2
  · cases h2 : containsLit (lit "startup-config file open failed") out2
    · simp only [Bool.false_eq_true, if_false]; rfl
    · simp only [Bool.false_eq_true, if_false, if_true]
      show _ = roundPost k WmStep.retry
      cases h3 : isPos k <;> simp [roundPost, h3]
  · simp only [if_true]; rfl

theorem loopM_writeMem (D : Device σ) : ∀ n, loopM n (fun k => denote (writeMemRoundP D k)) = writeMem D n
  | 0 => by
    unfold loopM writeMem
    simp only [denote_writeMemRound]
    rw [bindM_assoc]; congr 1; funext r
    cases r <;> rfl
  | n + 1 => by
    unfold loopM writeMem
    simp only [denote_writeMemRound]
    rw [bindM_assoc]; congr 1; funext r
    cases r
    · rfl
    · show bindM (roundPost (n + 1) WmStep.retry) _ = _
      simp only [roundPost, isPos, if_true, bindM_pure_left]
      simpa only [denote_writeMemRound] using loopM_writeMem D n

theorem denote_writeMem (D : Device σ) : denote (writeMemP D) = writeMem D 2 := by
  unfold writeMemP
  simp only [denote]
  exact loopM_writeMem D 2

/-- the program of `ApplyCommands` — all helpers inlined — denotes the model every C15 theorem is about -/
theorem denote_applyCommands (D : Device σ) (cs : List Str) :
    denote (applyCommandsP D cs) = applyCommands D true cs := by
  unfold applyCommands applyCommandsP guarded guardedBody changeLoop scheduleReload
  simp only [denote, bindM_pure_left, denote_prepareDevice, denote_sendReloadCmd, denote_cancelReload,
    denote_cmd, denote_writeMem]

theorem denote_loginWaitPrompt (D : Device σ) (enter : Str) (c : Char) :
    denote (loginWaitPromptP D enter c) = loginWaitPrompt D enter c := rfl

theorem denote_loginEnable (D : Device σ) (pass : Str) : denote (loginEnableP D pass) = loginEnable D pass := by
  unfold loginEnable loginEnableP
  simp only [denote, bindM_pure_left, denote_loginWaitPrompt]

/-- a device without behaviour: the path set of a program does not depend on the device -/
def noDev : Device Unit := { step := fun _ _ => ((), []) }

/-- the regenerated path set of a Go function -/
def gen (f : String) : List CPath := (NA.Gen.IosSkel.paths.lookup f).getD [([.atom 0], true)]

abbrev tbl : List Atom := NA.Gen.IosSkel.atomTable

theorem tbl_ok : tableOK tbl = true := by decide +kernel

/-- **the tie.** The path set of `ApplyCommands` regenerated from the source — helpers of the package
inlined by the translator, wherever they live and however they are wrapped — is the path set of the
program whose semantics is the model. -/
theorem paths_applyCommands (D : Device σ) (cs : List Str) :
    sameSet tbl (gen "ApplyCommands") (paths (applyCommandsP D cs)) = true := by
  have h : shape (applyCommandsP D cs) = shape (applyCommandsP noDev []) := rfl
  -- the loop body has some hundred paths: compared on sorted lists (`NA/Proofs/C15SetCheck.lean`)
  unfold paths; rw [h]; exact sameSet_of_S _ _ _ (by simp only [sameSetS, tbl_ok, Bool.true_and]; decide +kernel)

/-- the same for the login / enable dialogue (`LoginEnable`, closure `waitPrompt` inlined) -/
theorem paths_loginEnable (D : Device σ) (pass : Str) :
    sameSet tbl (gen "LoginEnable") (paths (loginEnableP D pass)) = true := by
  have h : shape (loginEnableP D pass) = shape (loginEnableP noDev []) := rfl
  unfold paths; rw [h]; simp only [sameSet, tbl_ok, Bool.true_and]; decide +kernel

/-- the comparison is not vacuous: the sets are non-empty and a different set is rejected -/
example : gen "ApplyCommands" ≠ [] ∧ sameSet tbl (gen "ApplyCommands") (paths (loginEnableP noDev [])) = false := by
  simp only [sameSet, tbl_ok, Bool.true_and]; decide +kernel

def obligations : List Lean.Name :=
  [``denote_applyCommands, ``denote_cmd, ``denote_check, ``denote_sendReloadCmd, ``denote_cancelReload,
   ``denote_prepareDevice, ``denote_stripReloadBanner, ``denote_writeMem, ``denote_loginEnable, ``denote_loginWaitPrompt,
   ``paths_applyCommands, ``paths_loginEnable]

end NA.C15Skel
