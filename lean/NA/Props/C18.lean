import NA.Proofs.C18
import NA.Proofs.C18Conf
/-!
# C18 — raw and IPv6 parts are merged completely and in the documented order

Property theorems only.  `a` is the configuration merged so far (Netspoc IPv4, or IPv4 merged with
IPv6), `b` the part merged into it (IPv6 or the raw file); all statements hold for ALL lists.

Per backend (`asa_`, `ios_`, `linux_`, `pan_`, `nsx_`; NSX has no APPEND mark: there is no `nsx_raw_first` and
no `nsx_raw_whole_order`, `nsx_merge_sublist` has `b` as one part):
* `…_merge_perm`     the result is a permutation of `a ++ b` (every entry exactly once),
* `…_merge_sublist`  every part (`a`, the non-APPEND part of `b`, the APPEND part of `b`) is a sublist
                     of the result (relative order kept),
* `…_raw_first`      the non-APPEND entries of `b` are a prefix of the result, all entries of `a` follow
                     (ASA: except the documented trailing `deny ip any6 any6`),
* `…_append_after_last_permit_before_trailing_deny` (ASA, IOS, Linux) resp.
  `…_append_after_all_netspoc_entries` (PAN-OS, NSX),
* `…_raw_whole_order` the raw file as a whole (non-APPEND part then APPEND part) keeps its order
                     (ASA: if the any6 exception moves no line).

The code as found is refuted by `…_old_…_counterexample`; the full theorems are about the repaired
code (`fix:` commits ab4fc9f, deffa57, deeb069, 838052d in /repo).  `…_old_partial` states where old and new agree.
-/
namespace NA.C18

/-- The placement law of the ASA merge; everything else follows from it. -/
theorem asa_append_after_last_permit_before_trailing_deny (a b : List Entry) :
    Placed Entry.notPermit (asaSplit a b).1 (asaSplit a b).2 (appPart b) (mergeASA a b) :=
  placed_insert _ _ _ _

theorem asa_merge_perm (a b : List Entry) : (mergeASA a b).Perm (a ++ b) := mergeASA_perm a b

theorem any6_notPermit (x : Entry) (h : x.isAny6 = true) : x.notPermit = true := by
  have hk : x.kind = .any6 := by simpa [Entry.isAny6] using h
  unfold Entry.notPermit Entry.isPermit
  rw [hk]
  rfl

theorem trailing_snoc (q : Entry → Bool) (l : List Entry) (x : Entry) (h : q x = true) :
    trailing q (l ++ [x]) = trailing q l ++ [x] ∧ upto q (l ++ [x]) = upto q l := by
  unfold trailing upto
  simp [h]

theorem sublist_asaSplit_snd (a b : List Entry) : a.Sublist (asaSplit a b).2 := by
  rcases asaSplit_snd a b with h | ⟨x, _, h⟩ <;> rw [h]
  · exact List.Sublist.refl a
  · exact List.sublist_append_left a [x]

theorem asa_merge_sublist (a b : List Entry) :
    a.Sublist (mergeASA a b) ∧ (nonApp b).Sublist (mergeASA a b) ∧ (appPart b).Sublist (mergeASA a b) := by
  have hp := asa_append_after_last_permit_before_trailing_deny a b
  refine ⟨(sublist_asaSplit_snd a b).trans hp.sub_net, ?_, hp.sub_app⟩
  rcases asaSplit_fst a b with h | ⟨x, hx, hP, hN⟩
  · exact h ▸ hp.sub_top
  · -- the moved any6 line is the last line of the result
    have hm : mergeASA a b = (asaSplit a b).1 ++
        (upto Entry.notPermit (asaSplit a b).2 ++ appPart b ++ trailing Entry.notPermit (asaSplit a b).2) := rfl
    rw [hP, hm, hN]
    have ht := trailing_snoc Entry.notPermit a x (any6_notPermit x hx)
    rw [ht.1, ht.2]
    refine List.Sublist.append (List.Sublist.refl _) ?_
    exact (List.sublist_append_right (trailing Entry.notPermit a) [x]).trans
      (List.sublist_append_right (upto Entry.notPermit a ++ appPart b) _)

/-- Raw first: the non-APPEND lines of `b` (without a moved trailing `deny ip any6 any6`) are a prefix of
the result and every line of `a` comes behind them. -/
theorem asa_raw_first (a b : List Entry) :
    ∃ rest, mergeASA a b = (asaSplit a b).1 ++ rest ∧ a.Sublist rest ∧
      ((asaSplit a b).1 = nonApp b ∨ ∃ x, x.isAny6 = true ∧ nonApp b = (asaSplit a b).1 ++ [x]) :=
  ⟨insertBeforeTrailing Entry.notPermit (asaSplit a b).2 (appPart b), rfl,
    (sublist_asaSplit_snd a b).trans (sublist_insertBeforeTrailing Entry.notPermit _ (appPart b)),
    (asaSplit_fst a b).imp_right (Exists.imp fun _ h => ⟨h.1, h.2.1⟩)⟩

/-- The raw file as a whole keeps its order, unless the any6 exception moves a line. -/
theorem asa_raw_whole_order (a b : List Entry) (h : (asaSplit a b).1 = nonApp b) :
    (nonApp b ++ appPart b).Sublist (mergeASA a b) :=
  h ▸ (asa_append_after_last_permit_before_trailing_deny a b).sub_top_app

/-- Code as found, F-C18a: `[APPEND]` lines and no permit line ⇒ `acl[:-1]` panics. -/
theorem asa_old_panic_counterexample :
    ∃ a b, mergeASAOld a b = none :=
  ⟨[⟨10, .deny, false⟩], [⟨1, .deny, false⟩, ⟨2, .deny, true⟩], by decide +kernel⟩

/-- Code as found, F-C18d: the last permit line is a prepended raw line ⇒ the `[APPEND]` lines land
in front of later non-APPEND raw lines; the raw file does not keep its order. -/
theorem asa_old_raw_order_counterexample :
    ∃ a b r, (asaSplit a b).1 = nonApp b ∧ mergeASAOld a b = some r ∧ ¬ (nonApp b ++ appPart b).Sublist r :=
  ⟨[⟨10, .deny, false⟩], [⟨1, .permit, false⟩, ⟨2, .deny, false⟩, ⟨3, .deny, true⟩],
   [⟨1, .permit, false⟩, ⟨3, .deny, true⟩, ⟨2, .deny, false⟩, ⟨10, .deny, false⟩], by decide +kernel⟩

/-- Where the code as found agrees with the repaired code: no `[APPEND]` line, or a permit line
among the Netspoc entries (the complement of F-C18a / F-C18d). -/
theorem asa_old_partial (a b : List Entry)
    (h : appPart b = [] ∨ ∃ e ∈ (asaSplit a b).2, e.isPermit = true) :
    mergeASAOld a b = some (mergeASA a b) := by
  unfold mergeASAOld mergeASA
  by_cases hA : appPart b = []
  · simp [hA, insertBeforeTrailing_nil]
  · obtain ⟨e, he, hpe⟩ := h.resolve_left hA
    have hany : ((asaSplit a b).1 ++ (asaSplit a b).2).any Entry.isPermit = true :=
      List.any_eq_true.mpr ⟨e, List.mem_append_right _ he, hpe⟩
    simp only [hA, if_false, hany, if_true, insertBeforeTrailing_append _ _ _ ⟨e, he, hpe⟩]

theorem ios_append_after_last_permit_before_trailing_deny (a b : List Entry) :
    Placed Entry.notPermit (nonApp b) a (appPart b) (mergeIOS a b) :=
  placed_insert _ _ _ _

theorem ios_merge_perm (a b : List Entry) : (mergeIOS a b).Perm (a ++ b) := mergeIOS_perm a b

theorem ios_merge_sublist (a b : List Entry) :
    a.Sublist (mergeIOS a b) ∧ (nonApp b).Sublist (mergeIOS a b) ∧ (appPart b).Sublist (mergeIOS a b) :=
  let h := ios_append_after_last_permit_before_trailing_deny a b
  ⟨h.sub_net, h.sub_top, h.sub_app⟩

theorem ios_raw_first (a b : List Entry) :
    ∃ rest, mergeIOS a b = nonApp b ++ rest ∧ a.Sublist rest :=
  ⟨_, rfl, sublist_insertBeforeTrailing Entry.notPermit a (appPart b)⟩

theorem ios_raw_whole_order (a b : List Entry) : (nonApp b ++ appPart b).Sublist (mergeIOS a b) :=
  (ios_append_after_last_permit_before_trailing_deny a b).sub_top_app

theorem ios_old_panic_counterexample : ∃ a b, mergeIOSOld a b = none :=
  ⟨[], [⟨1, .deny, true⟩], by decide +kernel⟩

theorem ios_old_raw_order_counterexample :
    ∃ a b r, mergeIOSOld a b = some r ∧ ¬ (nonApp b ++ appPart b).Sublist r :=
  ⟨[⟨10, .deny, false⟩], [⟨1, .permit, false⟩, ⟨2, .deny, false⟩, ⟨3, .deny, true⟩],
   [⟨1, .permit, false⟩, ⟨3, .deny, true⟩, ⟨2, .deny, false⟩, ⟨10, .deny, false⟩], by decide +kernel⟩

theorem ios_old_partial (a b : List Entry) (h : appPart b = [] ∨ ∃ e ∈ a, e.isPermit = true) :
    mergeIOSOld a b = some (mergeIOS a b) := by
  unfold mergeIOSOld mergeIOS
  by_cases hA : appPart b = []
  · simp [hA, insertBeforeTrailing_nil]
  · obtain ⟨e, he, hpe⟩ := h.resolve_left hA
    have hany : (nonApp b ++ a).any Entry.isPermit = true := List.any_eq_true.mpr ⟨e, List.mem_append_right _ he, hpe⟩
    simp only [hA, if_false, hany, if_true, insertBeforeTrailing_append _ _ _ ⟨e, he, hpe⟩]

theorem linux_append_after_last_permit_before_trailing_deny (a b : List Entry) :
    Placed Entry.isDrop (nonApp b) a (appPart b) (mergeLinux a b) :=
  placed_insert _ _ _ _

/-- In Linux terms: every ACCEPT rule of the Netspoc chain precedes the APPEND rules. -/
theorem linux_append_after_every_accept (a b : List Entry) :
    ∃ pre post, a = pre ++ post ∧ mergeLinux a b = nonApp b ++ pre ++ appPart b ++ post ∧
      ∀ e ∈ post, e.isPermit = false := by
  obtain ⟨pre, post, h1, h2, h3, _⟩ := linux_append_after_last_permit_before_trailing_deny a b
  refine ⟨pre, post, h1, h2, fun e he => ?_⟩
  have hk : e.kind = .deny := by simpa [Entry.isDrop] using h3 e he
  unfold Entry.isPermit
  rw [hk]
  rfl

theorem linux_merge_perm (a b : List Entry) : (mergeLinux a b).Perm (a ++ b) := mergeLinux_perm a b

theorem linux_merge_sublist (a b : List Entry) :
    a.Sublist (mergeLinux a b) ∧ (nonApp b).Sublist (mergeLinux a b) ∧ (appPart b).Sublist (mergeLinux a b) :=
  let h := linux_append_after_last_permit_before_trailing_deny a b
  ⟨h.sub_net, h.sub_top, h.sub_app⟩

theorem linux_raw_first (a b : List Entry) :
    ∃ rest, mergeLinux a b = nonApp b ++ rest ∧ a.Sublist rest :=
  ⟨_, rfl, sublist_insertBeforeTrailing Entry.isDrop a (appPart b)⟩

theorem linux_raw_whole_order (a b : List Entry) : (nonApp b ++ appPart b).Sublist (mergeLinux a b) :=
  (linux_append_after_last_permit_before_trailing_deny a b).sub_top_app

/-- Code as found, F-C18b: two non-APPEND raw rules come out in reverse order. -/
theorem linux_old_prepend_reversed_counterexample :
    ∃ a b, ¬ (nonApp b).Sublist (mergeLinuxOld a b) :=
  ⟨[⟨10, .permit, false⟩], [⟨1, .permit, false⟩, ⟨2, .other, false⟩], by decide +kernel⟩

/-- Code as found, F-C18c: an APPEND part beginning with a DROP rule is reordered. -/
theorem linux_old_append_reordered_counterexample :
    ∃ a b, ¬ (appPart b).Sublist (mergeLinuxOld a b) :=
  ⟨[⟨10, .permit, false⟩, ⟨11, .deny, false⟩],
   [⟨1, .deny, true⟩, ⟨2, .permit, true⟩, ⟨3, .other, true⟩], by decide +kernel⟩

/-- Where the Linux code as found agrees with the repaired code: at most one non-APPEND rule
(complement of F-C18b), no DROP rule in the APPEND part except as its last rule (complement of F-C18c),
and the APPEND rules cannot slip in front of a prepended raw DROP rule (complement of the Linux case of F-C18d). -/
theorem linux_old_partial (a b : List Entry)
    (h1 : (nonApp b).length ≤ 1)
    (h2 : ∀ x ∈ (appPart b).dropLast, x.isDrop = false)
    (h3 : appPart b = [] ∨ (∃ x ∈ a, x.isDrop = false) ∨ ∀ p ∈ nonApp b, p.isDrop = false) :
    mergeLinuxOld a b = mergeLinux a b :=
  mergeLinuxOld_eq a b ⟨h1, h2, h3⟩

theorem pan_merge_perm (a b : List Entry) : (mergePan a b).Perm (a ++ b) := mergePan_perm a b

theorem pan_merge_sublist (a b : List Entry) :
    a.Sublist (mergePan a b) ∧ (nonApp b).Sublist (mergePan a b) ∧ (appPart b).Sublist (mergePan a b) := by
  unfold mergePan
  refine ⟨?_, ?_, List.sublist_append_right _ _⟩
  · exact (List.sublist_append_right (nonApp b) a).trans (List.sublist_append_left _ _)
  · simp only [List.append_assoc]; exact List.sublist_append_left _ _

theorem pan_raw_first (a b : List Entry) :
    ∃ rest, mergePan a b = nonApp b ++ rest ∧ a.Sublist rest :=
  ⟨a ++ appPart b, by simp [mergePan], List.sublist_append_left _ _⟩

/-- PAN-OS: APPEND rules go to the end of the rulebase, behind all Netspoc rules. -/
theorem pan_append_after_all_netspoc_entries (a b : List Entry) :
    ∃ front, mergePan a b = front ++ appPart b ∧ a.Sublist front ∧ (nonApp b).Sublist front :=
  ⟨nonApp b ++ a, rfl, List.sublist_append_right _ _, List.sublist_append_left _ _⟩

theorem pan_raw_whole_order (a b : List Entry) : (nonApp b ++ appPart b).Sublist (mergePan a b) := by
  unfold mergePan
  simp only [List.append_assoc]
  exact List.Sublist.append (List.Sublist.refl _) (List.sublist_append_right _ _)

theorem nsx_merge_perm (a b : List Entry) : (mergeNsx a b).Perm (a ++ b) := List.Perm.refl _

theorem nsx_merge_sublist (a b : List Entry) : a.Sublist (mergeNsx a b) ∧ b.Sublist (mergeNsx a b) :=
  ⟨List.sublist_append_left _ _, List.sublist_append_right _ _⟩

/-- NSX: all rules of the merged part follow all rules merged so far. -/
theorem nsx_append_after_all_netspoc_entries (a b : List Entry) : mergeNsx a b = a ++ b := rfl

/-- PAN-OS objects: every object of both parts is in the merged vsys, each class in order. -/
theorem pan_objects_merged (a b : PanObjs) :
    (mergePanObjs a b).addresses = a.addresses ++ b.addresses ∧
    (mergePanObjs a b).addressGroups = a.addressGroups ++ b.addressGroups ∧
    (mergePanObjs a b).services = a.services ++ b.services ∧
    (mergePanObjs a b).serviceGroups = a.serviceGroups ++ b.serviceGroups := ⟨rfl, rfl, rfl, rfl⟩

/-- Code as found, F-C18h: a service-group of the raw (or IPv6) part is dropped. -/
theorem pan_old_service_group_dropped_counterexample :
    ∃ a b g, g ∈ b.serviceGroups ∧ g ∉ (mergePanObjsOld a b).serviceGroups :=
  ⟨{}, { services := [81], serviceGroups := [1] }, 1, by decide +kernel⟩

/-! ## The pipeline `loadSpoc`: IPv4, then IPv6, then raw (one ACL) -/

theorem asa_pipeline_perm (v4 v6 raw : List Entry) :
    (mergeASA (mergeASA v4 v6) raw).Perm (v4 ++ v6 ++ raw) :=
  (asa_merge_perm _ raw).trans ((asa_merge_perm v4 v6).append_right raw)

theorem asa_pipeline_sublist (v4 v6 raw : List Entry) :
    v4.Sublist (mergeASA (mergeASA v4 v6) raw) ∧ (nonApp v6).Sublist (mergeASA (mergeASA v4 v6) raw) ∧
    (nonApp raw).Sublist (mergeASA (mergeASA v4 v6) raw) ∧ (appPart raw).Sublist (mergeASA (mergeASA v4 v6) raw) := by
  have h1 := asa_merge_sublist v4 v6
  have h2 := asa_merge_sublist (mergeASA v4 v6) raw
  exact ⟨h1.1.trans h2.1, h1.2.1.trans h2.1, h2.2.1, h2.2.2⟩

/-! ## unmergeable_reported — the ACL-binding fragment of `mergeCmds` / `mergeRefs` (ASA and IOS)

`mergeCisco dev .new a f` is the repaired merge of file `f` (raw or IPv6) into configuration `a`;
`.error e` stands for the abort with a diagnostic, the second component of `.ok` for the
"Ignoring unused …" warnings. -/

/-- An unknown top-level command in a raw file is an error of the parser. -/
theorem raw_unknown_command_reported (dev : Dev) (f : File) (hr : f.isRaw = true) (hu : f.unknownTop = true) :
    f.parseErr dev = some .unknownCmd := by
  simp [File.parseErr, hr, hu]

/-- A binding that names an ACL the file does not define is an error of the parser. -/
theorem unknown_reference_reported (f : File) (k : Anchor) (hk : k ∈ f.anchors) (hn : f.table.has k.acl = false) :
    ∃ e, f.parseErr .asa = some e ∧ f.parseErr .ios = some e := by
  unfold File.parseErr
  by_cases h : (f.isRaw && f.unknownTop) = true
  · exact ⟨.unknownCmd, by simp [h], by simp [h]⟩
  · simp only [h]
    cases hf : f.anchors.find? (fun k => !(f.table.has k.acl)) with
    | some k' => exact ⟨_, rfl, rfl⟩
    | none =>
      have := List.find?_eq_none.mp hf k hk
      simp [hn] at this

/-- A parse error ends `loadSpoc` with that error. -/
theorem loadSpoc_reports_raw_parse_error (dev : Dev) (g : Gen) (v4 v6 raw : File) (e : Err)
    (h4 : v4.parseErr dev = none) (h6 : v6.parseErr dev = none) (hr : raw.parseErr dev = some e)
    (c : Conf) (w : List Nat) (hm : mergeSpoc dev g (v4.toConf dev) v6 = .ok (c, w)) :
    loadSpoc dev g v4 v6 raw = .error e := by
  simp [loadSpoc, h4, h6, hr, hm, bind, Except.bind, throw, throwThe, MonadExceptOf.throw]

/-- Doubly bound object: two bindings of a raw file name the same ACL ⇒ the merge ends in an error
(name clash or "Must reference … only once in raw"). -/
theorem cisco_bound_twice_reported (dev : Dev) (a : Conf) (f : File) (l1 l2 l3 : List Anchor) (k1 k2 : Anchor)
    (hraw : f.isRaw = true) (hl : f.anchors = l1 ++ k1 :: (l2 ++ k2 :: l3)) (hk : k1.acl = k2.acl) :
    ∃ e, mergeCisco dev .new a f = .error e := by
  unfold mergeCisco
  rw [foldExcept_eq_foldlM, hraw, hl]
  obtain ⟨e, he⟩ := fold_err_of_dup dev a.anchors f.table l1 l2 l3 k1 k2 hk { conts := a.conts, anchors := a.anchors }
  exact ⟨e, by rw [he]⟩

/-- Code as found, F-C18e: a raw ACL bound at a place Netspoc also binds and then at a new place is
merged twice without any message. -/
theorem cisco_old_bound_twice_counterexample :
    ∃ a f k1 k2, f.isRaw = true ∧ f.anchors = [k1, k2] ∧ k1.acl = k2.acl ∧
      (mergeCisco .asa .old a f).toBool = true :=
  ⟨{ conts := [(1, false, [⟨10, .permit, false⟩, ⟨11, .deny, false⟩])], anchors := [⟨0, 1⟩] },
   { isRaw := true, conts := [{ name := 2, lines := [{ e := ⟨1, .permit, false⟩ }] }], anchors := [⟨0, 2⟩, ⟨3, 2⟩] },
   ⟨0, 2⟩, ⟨3, 2⟩, by decide +kernel⟩

/-- Name clash: a raw binding at a place unknown to Netspoc whose ACL name Netspoc already uses ⇒ error. -/
theorem cisco_name_clash_reported (dev : Dev) (g : Gen) (a : Conf) (f : File) (k : Anchor) (rest : List Anchor)
    (hraw : f.isRaw = true) (hl : f.anchors = k :: rest)
    (hnew : a.anchors.find? (fun ka => ka.key == k.key) = none) (hclash : a.conts.has k.acl = true) :
    mergeCisco dev g a f = .error (.nameClash k.acl) := by
  unfold mergeCisco
  rw [hraw, hl]
  simp [foldExcept, ciscoStep, hnew, hclash]

/-- Unbound object: a raw ACL that no binding of the raw file names is listed in the warnings. -/
theorem cisco_unbound_raw_object_warned (dev : Dev) (g : Gen) (a : Conf) (f : File) (c : Conf) (w : List Nat)
    (h : mergeCisco dev g a f = .ok (c, w)) (hraw : f.isRaw = true) (ct : Cont) (hct : ct ∈ f.conts)
    (hun : ∀ k ∈ f.anchors, k.acl ≠ ct.name) : ct.name ∈ w := by
  obtain ⟨st, hst, _, rfl⟩ := mergeCisco_ok dev g a f c w h
  unfold unusedWarnings
  simp only [hraw, if_true, List.mem_filter, List.mem_map]
  refine ⟨?_, ?_⟩
  · have hh := table_has f ct hct
    unfold Table.has at hh
    obtain ⟨x, hx, hx2⟩ := List.any_eq_true.mp hh
    exact ⟨x, hx, by simpa using hx2⟩
  · have : ct.name ∉ st.refd := by
      intro hin
      rcases fold_refd_subset dev g f.isRaw a.anchors f.table _ st f.anchors hst ct.name hin with h0 | ⟨k, hk, hk2⟩
      · cases h0
      · exact hun k hk hk2
    simpa using this

/-- **unmergeable_reported** (for the lines the parser knows): merging a raw file either ends in an
error, or every ACL of the raw file is named in a warning, or it is bound and all its known lines are
in the ACL that the result binds at the same place. -/
theorem cisco_raw_lines_merged_or_reported (dev : Dev) (a : Conf) (f : File) (hraw : f.isRaw = true) :
    (∃ e, mergeCisco dev .new a f = .error e) ∨
    ∃ c w, mergeCisco dev .new a f = .ok (c, w) ∧ ∀ ct ∈ f.conts,
      ct.name ∈ w ∨
      ∃ k ∈ f.anchors, k.acl = ct.name ∧ ∃ k' ∈ c.anchors, k'.key = k.key ∧
        ∀ l ∈ ct.lines, l.known = true → l.e ∈ linesOf c.conts k'.acl := by
  cases h : mergeCisco dev .new a f with
  | error e => exact Or.inl ⟨e, rfl⟩
  | ok cw =>
    obtain ⟨c, w⟩ := cw
    right
    refine ⟨c, w, rfl, fun ct hct => ?_⟩
    by_cases hb : ∃ k ∈ f.anchors, k.acl = ct.name
    · right
      obtain ⟨k, hk, hka⟩ := hb
      obtain ⟨st, hst, rfl, _⟩ := mergeCisco_ok dev .new a f c w h
      rw [hraw] at hst
      obtain ⟨k', hk', hkey, hl⟩ :=
        (fold_grow_landed dev true a.anchors f.table f.anchors _ st (fun _ hka => hka) hst
          (safeRun_of_raw dev .new a.anchors f.table _ st f.anchors hst)).2 k hk
      refine ⟨k, hk, hka, k', hk', hkey, fun l hl' hkn => hl _ ?_⟩
      rw [hka]
      exact table_lines f ct hct l hl' hkn
    · left
      exact cisco_unbound_raw_object_warned dev .new a f c w h hraw ct hct (fun k hk hka => hb ⟨k, hk, hka⟩)

/-- F-C18f: an unknown sub-command inside a raw IOS ACL is dropped without error or warning. -/
theorem cisco_unknown_subcommand_counterexample :
    ∃ (a : Conf) (f : File) (ct : Cont) (l : SrcLine) (c : Conf),
      f.isRaw = true ∧ ct ∈ f.conts ∧ l ∈ ct.lines ∧ l.known = false ∧ f.parseErr .ios = none ∧
      mergeCisco .ios .new a f = .ok (c, []) ∧ ∀ x ∈ c.conts, l.e ∉ x.2.2 :=
  ⟨{ conts := [(1, false, [⟨10, .permit, false⟩])], anchors := [⟨0, 1⟩] },
   { isRaw := true, conts := [{ name := 2, lines := [{ e := ⟨1, .permit, false⟩ }, { e := ⟨2, .permit, false⟩, known := false }] }],
     anchors := [⟨0, 2⟩] },
   { name := 2, lines := [{ e := ⟨1, .permit, false⟩ }, { e := ⟨2, .permit, false⟩, known := false }] },
   { e := ⟨2, .permit, false⟩, known := false },
   { conts := [(1, false, [⟨1, .permit, false⟩, ⟨10, .permit, false⟩])], anchors := [⟨0, 1⟩] },
   by decide +kernel⟩

/-- A raw merge never loses a line or a binding of the configuration merged so far. -/
theorem cisco_netspoc_lines_kept (dev : Dev) (a : Conf) (f : File) (c : Conf) (w : List Nat) (hraw : f.isRaw = true)
    (h : mergeCisco dev .new a f = .ok (c, w)) :
    (∀ n e, e ∈ linesOf a.conts n → e ∈ linesOf c.conts n) ∧ (∀ k ∈ a.anchors, k ∈ c.anchors) := by
  obtain ⟨st, hst, rfl, _⟩ := mergeCisco_ok dev .new a f c w h
  rw [hraw] at hst
  exact (fold_grow_landed dev true a.anchors f.table f.anchors _ st (fun _ hka => hka) hst
    (safeRun_of_raw dev .new a.anchors f.table _ st f.anchors hst)).1

/-- The same for an IPv6 file, if no new binding of it reuses the name of an existing ACL
(`safeMerge`, decidable; its failure is F-C18g); then also all lines of the IPv6 file are merged. -/
theorem cisco_netspoc_lines_kept_partial (dev : Dev) (a : Conf) (f : File) (c : Conf) (w : List Nat)
    (hsafe : safeMerge dev .new a f = true)
    (h : mergeCisco dev .new a f = .ok (c, w)) :
    (∀ n e, e ∈ linesOf a.conts n → e ∈ linesOf c.conts n) ∧ (∀ k ∈ a.anchors, k ∈ c.anchors) ∧
    ∀ k ∈ f.anchors, ∃ k' ∈ c.anchors, k'.key = k.key ∧ ∀ e ∈ linesOf f.table k.acl, e ∈ linesOf c.conts k'.acl := by
  obtain ⟨st, hst, rfl, _⟩ := mergeCisco_ok dev .new a f c w h
  have ⟨hg, hl⟩ := fold_grow_landed dev f.isRaw a.anchors f.table f.anchors _ st (fun _ hka => hka) hst hsafe
  exact ⟨hg.1, hg.2, hl⟩

/-- F-C18g: an IPv6 file that binds, at a place the IPv4 file does not bind, an ACL whose name the
IPv4 file uses: the IPv4 lines are gone, no message. -/
theorem cisco_v6_shared_name_counterexample :
    ∃ (a : Conf) (f : File) (c : Conf) (e : Entry),
      f.isRaw = false ∧ mergeCisco .asa .new a f = .ok (c, []) ∧ e ∈ linesOf a.conts 1 ∧ e ∉ linesOf c.conts 1 :=
  ⟨{ conts := [(1, false, [⟨1, .permit, false⟩, ⟨2, .deny, false⟩])], anchors := [⟨0, 1⟩] },
   { conts := [{ name := 1, lines := [{ e := ⟨3, .permit, false⟩ }, { e := ⟨4, .any6, false⟩ }] }], anchors := [⟨3, 1⟩] },
   { conts := [(1, false, [⟨3, .permit, false⟩, ⟨4, .any6, false⟩])], anchors := [⟨0, 1⟩, ⟨3, 1⟩] },
   ⟨1, .permit, false⟩, by decide +kernel⟩

/-- Link between the binding level and the list laws: a raw file with one binding at a place Netspoc
also binds yields, for that ACL, exactly the list merge of Netspoc's lines with the raw lines — so
`asa_…`/`ios_…` placement, permutation and order theorems apply to the ACL of the result. -/
theorem cisco_single_binding_merge (dev : Dev) (a : Conf) (f : File) (k ka : Anchor) (r : List Entry)
    (hl : f.anchors = [k]) (hm : a.anchors.find? (fun x => x.key == k.key) = some ka)
    (hr : mergeLines dev .new (linesOf a.conts ka.acl) (linesOf f.table k.acl) = .ok r) :
    ∃ c w, mergeCisco dev .new a f = .ok (c, w) ∧ linesOf c.conts ka.acl = r ∧ c.anchors = a.anchors := by
  unfold mergeCisco
  rw [hl]
  simp only [foldExcept, ciscoStep, hm, List.contains_nil, Bool.false_eq_true, if_false, hr]
  exact ⟨_, _, rfl, linesOf_set_same _ _ _ _, rfl⟩

/-- `cisco_raw_lines_merged_or_reported` under the name of the property list. -/
theorem unmergeable_reported (dev : Dev) (a : Conf) (f : File) (hraw : f.isRaw = true) :
    (∃ e, mergeCisco dev .new a f = .error e) ∨
    ∃ c w, mergeCisco dev .new a f = .ok (c, w) ∧ ∀ ct ∈ f.conts,
      ct.name ∈ w ∨
      ∃ k ∈ f.anchors, k.acl = ct.name ∧ ∃ k' ∈ c.anchors, k'.key = k.key ∧
        ∀ l ∈ ct.lines, l.known = true → l.e ∈ linesOf c.conts k'.acl :=
  cisco_raw_lines_merged_or_reported dev a f hraw

/-! Non-vacuity: the hypotheses of the conditional theorems are satisfiable. -/
def exConf : Conf := { conts := [(1, false, [⟨10, .permit, false⟩, ⟨11, .deny, false⟩])], anchors := [⟨0, 1⟩] }
def exRaw : File :=
  { isRaw := true, conts := [{ name := 2, lines := [{ e := ⟨1, .permit, false⟩ }, { e := ⟨2, .deny, true⟩ }] }], anchors := [⟨0, 2⟩] }
def exRaw2 : File := { exRaw with anchors := [⟨0, 2⟩, ⟨3, 2⟩] }
def exV6 : File := { conts := [{ name := 1, lines := [{ e := ⟨3, .permit, false⟩ }, { e := ⟨4, .any6, false⟩ }] }], anchors := [⟨0, 1⟩] }
-- a raw merge that succeeds and one that binds an ACL twice
example : mergeCisco .asa .new exConf exRaw =
    .ok ({ conts := [(1, false, [⟨1, .permit, false⟩, ⟨10, .permit, false⟩, ⟨2, .deny, true⟩, ⟨11, .deny, false⟩])],
           anchors := [⟨0, 1⟩] }, []) := by decide +kernel
example : exRaw2.isRaw = true ∧ exRaw2.anchors = [] ++ ⟨0, 2⟩ :: ([] ++ ⟨3, 2⟩ :: []) := by decide +kernel
example : mergeCisco .asa .new exConf exRaw2 = .error (.onlyOnce 2) := by decide +kernel
-- an IPv6 merge that satisfies `safeMerge`
example : safeMerge .asa .new exConf exV6 = true := by decide +kernel
example : (mergeCisco .asa .new exConf exV6).toBool = true := by decide +kernel
-- name clash and parse errors
example : mergeCisco .ios .new exConf { exRaw with conts := [{ name := 1, lines := [] }], anchors := [⟨3, 1⟩] } = .error (.nameClash 1) := by
  decide +kernel
example : File.parseErr .asa { exRaw with anchors := [⟨0, 7⟩] } = some (.unknownRef 7) := by decide +kernel

example : (asaSplit [⟨10, .permit, false⟩] [⟨1, .deny, false⟩, ⟨2, .deny, true⟩]).1
    = nonApp [⟨1, .deny, false⟩, ⟨2, .deny, true⟩] := by decide +kernel
example : appPart [⟨1, .deny, false⟩] = [] ∨ ∃ e ∈ (asaSplit [] [⟨1, .deny, false⟩]).2, e.isPermit = true :=
  Or.inl (by decide +kernel)
example : ∃ e ∈ [(⟨10, .permit, false⟩ : Entry)], e.isPermit = true := ⟨_, List.mem_singleton.mpr rfl, by decide +kernel⟩
-- the test of linux_raw.t ("Merge Linux chains") meets the hypotheses of linux_old_partial
example : (nonApp [⟨1, .other, false⟩, ⟨2, .deny, true⟩]).length ≤ 1 ∧
    (∀ x ∈ (appPart [⟨1, .other, false⟩, ⟨2, .deny, true⟩]).dropLast, x.isDrop = false) ∧
    (∃ x ∈ [(⟨10, .permit, false⟩ : Entry), ⟨11, .deny, false⟩], x.isDrop = false) := by decide +kernel

/-- Spec consistency only — NOT counted as obligations.  For these the small list model (`NA/Model/Merge.lean`, `MergeConf.lean`) IS the
specification form (`mergePan := nonApp b ++ a ++ appPart b`, `mergeNsx := a ++ b`, `unknownTop` is a field of the
model's `File`), so the statements hold by unfolding; they only show that the spec is self-consistent.  What the real
PAN-OS / NSX / Linux code does is covered by the ports in `NA/Model/MergeOther.lean` and `NA/Props/C18Other.lean`. -/
def specConsistency : List Lean.Name := [
  ``nsx_merge_perm, ``nsx_merge_sublist, ``nsx_append_after_all_netspoc_entries, ``pan_merge_perm,
  ``pan_merge_sublist, ``pan_raw_first, ``pan_append_after_all_netspoc_entries, ``pan_raw_whole_order,
  ``pan_objects_merged, ``raw_unknown_command_reported, ``unknown_reference_reported,
  ``loadSpoc_reports_raw_parse_error, ``cisco_name_clash_reported]

def obligations : List Lean.Name := [
  ``asa_merge_perm, ``asa_merge_sublist, ``asa_raw_first,
  ``asa_append_after_last_permit_before_trailing_deny, ``asa_raw_whole_order, ``asa_old_panic_counterexample,
  ``asa_old_raw_order_counterexample, ``asa_old_partial, ``ios_merge_perm, ``ios_merge_sublist,
  ``ios_raw_first, ``ios_append_after_last_permit_before_trailing_deny, ``ios_raw_whole_order,
  ``ios_old_panic_counterexample, ``ios_old_raw_order_counterexample, ``ios_old_partial, ``linux_merge_perm,
  ``linux_merge_sublist, ``linux_raw_first, ``linux_append_after_last_permit_before_trailing_deny,
  ``linux_append_after_every_accept, ``linux_raw_whole_order, ``linux_old_prepend_reversed_counterexample,
  ``linux_old_append_reordered_counterexample, ``linux_old_partial,
  ``pan_old_service_group_dropped_counterexample, ``asa_pipeline_perm, ``asa_pipeline_sublist,
  ``cisco_bound_twice_reported, ``cisco_old_bound_twice_counterexample, ``cisco_unbound_raw_object_warned,
  ``cisco_raw_lines_merged_or_reported, ``unmergeable_reported, ``cisco_single_binding_merge,
  ``cisco_unknown_subcommand_counterexample, ``cisco_netspoc_lines_kept, ``cisco_netspoc_lines_kept_partial,
  ``cisco_v6_shared_name_counterexample]

end NA.C18
