import NA.Props.AsaAcl
import NA.Props.C14
/-!
# C01 — ASA approve converges (the access-list line planner; routes)

The theorems proved for the ASA backend live in `NA.Props.AsaAcl` (convergence of `diffASAACLs`'
`line N` arithmetic for every merged list, position refinement, well-formed prefix states, resume).
This file only collects them for the C01 check.  The engine-level theorems (object-group
equalisation, name generation, bindings, routes, `deleteUnused`: `asa_F1_converges`, …) are in
`NA.Props.F1`, the VPN objects in `NA.Props.Vpn` (its list carries that of `NA.Props.VpnGraph`); both are
modules of the C01 check (props/C01.json).  The clean-up by itself is in `NA.Props.C07` (C07 and C08 checks).
The generic lemma `NA.Route.routes_covered`
(NA.Props.C14) is applied to the engine's own route plan in `NA.Props.F1` / `NA.Props.F2`.
-/
namespace NA.C01
def obligations : List Lean.Name := [
  ``NA.Acl.asa_plan_converges, ``NA.Acl.asa_pos_refines,
  ``NA.Acl.asa_trace_states_masked, ``NA.Acl.asa_prefix_states_masked,
  ``NA.Acl.asa_resume_converges, ``NA.Acl.asaExec_nodup, ``NA.Acl.cellsOf_sound,
  ``NA.Acl.asa_plan_converges_script]
end NA.C01
