import NA.Props.C17
import NA.Proofs.C17Cover
/-!
# C17, T-gen part: every sink call into which a secret flows is covered by a lemma

Separate module because it is re-checked whenever `/repo` changes (`NA.Gen.Sinks` is regenerated on
every run).
-/
namespace NA.C17Sites
open NA.C17

/-- Every sink call site that `translate/sinks` found in `/repo` (every sink call of the module;
interprocedural taint of parameters and returned errors) passes `NA.C17.siteOk`: a site into which a secret
flows, raw or through a redaction step, has an entry of a compatible class in the table `NA.C17.cover` — by
site id, which hashes package, sink kind, taint class and the ordinal among the sites with the same three (no
function name, no argument text) —, a site without entry receives no secret, and no site that receives a raw
secret is classified as anything but the known finding F-C17. -/
theorem all_sink_sites_covered : NA.C17.uncovered = [] := by decide +kernel

/-- The sites through which F-C17 flows are exactly the ones the table lists under `fc17`. -/
theorem fc17_sites_exact : NA.C17.taintedSites = NA.C17.fc17Sites := by decide +kernel

/-- Every sink kind the property names occurs among the regenerated sites: session logs
(`.login/.config/.change/.cmp`), run log, history file, status file, stdout, stderr. -/
theorem every_sink_kind_listed : NA.C17.kindsPresent = [1, 2, 3, 4, 5, 6] := by decide +kernel

/-- Every failure kind of the source (an API whose error text embeds the request URL:
`client.Get/Do/PostForm`, `http.NewRequest`, `url.Parse`) either has a URL without secrets — then it
is harmless wherever the call stands — or is the PAN-OS `client.Get`. -/
theorem all_error_sources_classified : NA.C17.unclassifiedSources = [] := by decide +kernel

/-- **Flow model**: for every failure kind and every sink its error text reaches, the secrets of
the URL are redacted there (`passRE` and `keyRE`, recognised by their patterns, are the only sanitisers the translator knows) — or the
sink is the F-C17 site. -/
theorem error_flows_redacted :
    (NA.Gen.Sinks.errFlows.all fun f => !f.raw || NA.C17.fc17Sites.contains f.site) = true := by decide +kernel

/-- … and the raw flows are exactly one: the transport error of a PAN-OS request
(`panos.httpGet: s.client.Get(uri)`) reaching `device.ApproveOrCompare: errlog.Abort("%v", err)`. -/
theorem raw_flows_exact : NA.C17.rawFlows = [(197749963, 3659553034)] := by decide +kernel

/-- Every place where the program reads from outside — files, environment variables, terminal,
command line flags, `os.Args` — is classified by the hand-written table `inputKinds`; a new one (say a
flag `-p` or `os.Getenv("PASSWORD")`) has an unknown id and fails here. -/
theorem all_inputs_classified : NA.C17.unclassifiedInputs = [] := by decide +kernel

/-- Every place classified as a password source is a taint seed of `translate/sinks` … -/
theorem password_inputs_are_seeds : NA.C17.unseededPasswordInputs = [] := by decide +kernel

/-- … and the password sources are exactly two: the terminal (`askPassword`: `term.ReadPassword`, taken
with `drc -u USER`) and the credentials file (`getSystemPassword`: `os.ReadFile`). -/
theorem password_inputs_exact :
    NA.C17.seededInputs = [3900004185, 1574504650] ∧
    (NA.C17.inputKinds.filter fun p => p.2.isPassword).map (·.1) = [3900004185, 1574504650] := by decide +kernel

/-- There is no `-p` flag and no password environment variable: these are all flags and all
environment variables of the module, by name. -/
theorem no_password_flag_or_environment :
    NA.C17.inputNames "flag.StringP" = ["logdir", "LOGFILE", "user"] ∧
    NA.C17.inputNames "flag.BoolP" = ["brief", "compare", "quiet", "version"] ∧
    NA.C17.inputNames "os.Getenv" = ["TEST_TIME", "SIMULATE_ROUTER", "SIMULATE_ROUTER", "SIMULATE_ROUTER", "SIMULATE_ROUTER"] := by
  decide +kernel

end NA.C17Sites

namespace NA.Mask

theorem restrictEnv_eq (deps : List Nat) (env1 env2 : LEnv) (h0 : env1 0 = env2 0)
    (hd : deps.all (· == 0) = true) : restrictEnv deps env1 = restrictEnv deps env2 := by
  funext l
  unfold restrictEnv
  cases hl : deps.contains l with
  | true =>
    simp only [if_true]
    have : l = 0 := by simpa using List.all_eq_true.mp hd l (by simpa using hl)
    rw [this, h0]
  | false => simp

/-- **Generic non-interference of a derived run**: whatever the code computes at its sinks (`F`), if no
sink step depends on a secret label, two runs whose non-secret values agree write the same. -/
theorem runSteps_independent (F : Nat → LEnv → Str) (env1 env2 : LEnv) (h0 : env1 0 = env2 0) :
    ∀ steps : List Step, secretFree steps = true → runSteps F env1 steps = runSteps F env2 steps := by
  intro steps
  induction steps with
  | nil => intro _; rfl
  | cons s r ih =>
    intro h
    simp only [secretFree, List.all_cons, Bool.and_eq_true] at h
    have hr : secretFree r = true := h.2
    simp only [runSteps]
    cases hs : s.isSink with
    | false => simp only [Bool.false_eq_true, if_false]; exact ih hr
    | true =>
      simp only [if_true]
      rw [restrictEnv_eq s.deps env1 env2 h0 (by simpa [hs] using h.1), ih hr]

end NA.Mask

namespace NA.C17Sites
open NA.C17

/-! ## Runs derived from the regenerated steps (NSX, SSH back ends, PAN-OS, the rest of the module)

Nothing below is written by hand about where a secret goes: the steps (sink writes and transmissions,
in source order, with the labelled values they depend on) come from `translate/sinks`; what a sink
receives is an arbitrary function `F` of those values (`runSteps_independent` above is the generic statement). -/

/-- **NSX**: for everything the code of package `nsx` may compute at its sinks, two runs that differ
in password, session token and cookie (labels 1, 3, 4 — and 2) write the same to every sink. -/
theorem nsx_steps_independent (F : Nat → NA.Mask.LEnv → NA.Mask.Str) (env1 env2 : NA.Mask.LEnv)
    (h0 : env1 0 = env2 0) :
    NA.Mask.runSteps F env1 (stepsOf 1) = NA.Mask.runSteps F env2 (stepsOf 1) :=
  NA.Mask.runSteps_independent F env1 env2 h0 _ (by decide +kernel)

/-- **SSH back ends and `console.Conn`**: likewise (the password is transmitted, never written);
label 0 includes the device output — that it does not depend on the password is the hypothesis
`noEchoAtPasswordPrompt` of `ssh_echo_device_independent`. -/
theorem ssh_steps_independent (F : Nat → NA.Mask.LEnv → NA.Mask.Str) (env1 env2 : NA.Mask.LEnv)
    (h0 : env1 0 = env2 0) :
    NA.Mask.runSteps F env1 (stepsOf 2) = NA.Mask.runSteps F env2 (stepsOf 2) :=
  NA.Mask.runSteps_independent F env1 env2 h0 _ (by decide +kernel)

/-- **PAN-OS package**: every sink step sees its secrets only through a redaction step. -/
theorem panos_steps_independent (F : Nat → NA.Mask.LEnv → NA.Mask.Str) (env1 env2 : NA.Mask.LEnv)
    (h0 : env1 0 = env2 0) :
    NA.Mask.runSteps F env1 (stepsOf 3) = NA.Mask.runSteps F env2 (stepsOf 3) :=
  NA.Mask.runSteps_independent F env1 env2 h0 _ (by decide +kernel)

/-- The rest of the module (device, httpdevice, doapprove, drc, errlog, program, status …): the only
sink step that depends on a secret is the F-C17 site. -/
theorem common_steps_secret_only_at_fc17 : NA.Mask.secretSinks (stepsOf 4) = NA.C17.fc17Sites := by decide +kernel

/-- The derived NSX runs are not vacuous: the analysis does see the password (login form) and the
session token (request header) being transmitted to the device. -/
theorem nsx_secrets_are_transmitted : transmits 1 [1] = true ∧ transmits 1 [3] = true := by decide +kernel

/-- … and the SSH back ends transmit the password (`console.Conn.Send`). -/
theorem ssh_password_is_transmitted : transmits 2 [1] = true := by decide +kernel

/-- The lemma behind every class of the table (checked names). -/
def coverLemma : Cover → Lean.Name
  | .clean => ``all_sink_sites_covered
  | .maskUri => ``mask_uri_independent
  | .maskBody => ``mask_body_independent
  | .maskError => ``mask_error_independent
  | .nsxLogin => ``nsx_login_log_independent
  | .deviceOutput => ``ssh_session_independent
  | .copyOfRunLog => ``sinks_independent
  | .wrapper => ``all_sink_sites_covered
  | .fc17 => ``sinks_independent_counterexample

/-- The theorem of the run model behind every failure kind. -/
def failureLemma : FailureKind → Lean.Name
  | .panosGet => ``keygen_independent           -- keygen: masked; later requests: ``sinks_independent_partial / F-C17
  | .panosAddrParse => ``keygen_independent
  | .nsxLoginPost => ``nsx_steps_independent
  | .nsxRequest => ``nsx_steps_independent

def obligations : List Lean.Name := [``all_sink_sites_covered, ``fc17_sites_exact, ``every_sink_kind_listed,
  ``all_error_sources_classified, ``error_flows_redacted, ``raw_flows_exact,
  ``nsx_steps_independent, ``ssh_steps_independent, ``panos_steps_independent, ``common_steps_secret_only_at_fc17,
  ``nsx_secrets_are_transmitted, ``ssh_password_is_transmitted,
  ``all_inputs_classified, ``password_inputs_are_seeds, ``password_inputs_exact, ``no_password_flag_or_environment]

end NA.C17Sites
