import NA.Proofs.C04Idem
import NA.Model.NsxSvc
/-!
# C04 — NSX approve converges to the Netspoc-equivalent gateway policies
(and the NSX theorems of C07 / C08 / C10, names prefixed `nsx_`)

`plan diff A B` is the model of `diffConfig` (tied to /repo by the harness on every run), `exec` / `run` the strict
object store of `NA/Spec/NsxStore.lean`.
Every theorem quantifies over ALL edit-script functions `diff` that return valid scripts
(`validScript`, checked dynamically for the Myers port and, through the correspondence, for the
library the code uses).
-/
namespace NA.Nsx

/-- Group equalisation, all three branches (PATCH of the whole expression when `n < d`,
POST remove / POST add of single addresses, no call; since the repair ef10b0b the whole list is
PATCHed also when all old addresses would be removed, so the expression is never empty in
between — the strict manager refuses an empty expression): for every valid edit script between the
two address lists the emitted calls are accepted by the strict manager and leave the device
group with exactly the target's address set; policies, services and all other groups are
untouched. -/
theorem nsx_group_equalize_converges (diff : Diff)
    (hdiff : ∀ n m eq, validScript n m eq (diff n m eq) = true)
    (S : Store) (ga gb : Group) (hfind : findGroup S.groups ga.id = some ga)
    (hna : ga.addrs.Nodup) (hnb : gb.addrs.Nodup) (hbne : gb.addrs ≠ []) :
    ∃ S' f, run S (groupCalls diff ga gb) = some S' ∧
      S'.policies = S.policies ∧ S'.services = S.services ∧
      S'.groups = setGroupAddrs S.groups ga.id f ∧
      (∀ g, (f g).id = g.id ∧ (f g).exprId = g.exprId) ∧
      ∀ x, x ∈ (f ga).addrs ↔ x ∈ gb.addrs :=
  groupCalls_converges diff hdiff S ga gb ga hfind rfl (.refl _) hna hnb hbne

/-! Non-vacuity: a valid `diff` exists, and the three branches are reached. -/
example : ∃ diff : Diff, ∀ n m eq, validScript n m eq (diff n m eq) = true := ⟨prefixDiff, prefixDiff_valid⟩
example : groupCalls trivialDiff ⟨"g", "id", "t", ["1", "2", "3"]⟩ ⟨"h", "id", "t", ["1", "2"]⟩ =
    [.patchExpr "g" "id" "t" ["1", "2"]] := by decide +kernel
example : groupCalls prefixDiff ⟨"g", "id", "t", ["1", "2"]⟩ ⟨"h", "id", "t", ["1", "3"]⟩ =
    [.postAddrs "g" "id" false ["2"], .postAddrs "g" "id" true ["3"]] := by decide +kernel
/-- all old addresses replaced: one PATCH, no transiently empty expression (repair ef10b0b) -/
example : groupCalls prefixDiff ⟨"g", "id", "t", ["1"]⟩ ⟨"h", "id", "t", ["3"]⟩ =
    [.patchExpr "g" "id" "t" ["3"]] := by decide +kernel
example : groupCalls trivialDiff ⟨"g", "id", "t", []⟩ ⟨"h", "id", "t", []⟩ = [] := by decide +kernel

/-- Rules of one policy present on both sides (`diffRules`: unique names, `sortRules`, the
group-insensitive `Equal`, any valid edit script, `adaptGroup` / `findGroupOnDevice` /
`equalizeGroups`): from every state that satisfies the group invariant `GInv`, every emitted call
(DELETE / PUT / PATCH of rules, PUT of groups, POST / PATCH of address expressions) is accepted
by the strict manager, the invariant is kept, only this policy and the groups change, and
afterwards the policy holds — up to the order of listing — exactly one rule per target rule,
with the same attributes and service and with every group entry naming a group that carries the
target group's address set. -/
theorem nsx_rules_converge {ctx : Ctx} {G0 : List Group} (hc : CtxOK ctx G0)
    (hdiff : ∀ n m eq, validScript n m eq (ctx.diff n m eq) = true)
    (S : Store) (st : PSt) (pa pb p0 : Policy) (hinv : GInv ctx G0 S.groups st)
    (hpol : findPolicy S.policies pa.id = some p0) (hp0 : p0.rules = pa.rules)
    (haids : (rids pa.rules).Nodup) (hbids : (rids pb.rules).Nodup)
    (haRefs : ∀ ra ∈ pa.rules, refsOk S ra = true ∧ AExt ctx ra)
    (hbRefs : ∀ rb ∈ pb.rules, BRefs ctx S rb)
    (habort : (diffRules ctx st pa pb).1.abort = none) :
    ∃ S' L B bR, run S (diffRules ctx st pa pb).2 = some S' ∧
      GInv ctx G0 S'.groups (diffRules ctx st pa pb).1 ∧ Mono st (diffRules ctx st pa pb).1 ∧
      StepFrame pa.id S S' ∧
      (∃ p', findPolicy S'.policies pa.id = some p' ∧ p'.rules.Perm L) ∧
      Forall2 (RuleReal ctx (diffRules ctx st pa pb).1.nod) L B ∧ B.Perm bR ∧ Forall2 SameButId bR pb.rules :=
  let ⟨S', L, B, bR, r, h⟩ := diffRules_spec (U := fun _ => True) hc hdiff S st pa pb hinv ⟨p0, hpol, hp0, haids, haRefs⟩
    ⟨hbids, hbRefs, fun _ _ _ _ => trivial⟩ habort
  ⟨S', L, B, bR, r.run, r.ginv, r.mono, h⟩

/-- A target policy the manager does not have (`createPolicy`). -/
theorem nsx_create_policy_converges {ctx : Ctx} {G0 : List Group} (hc : CtxOK ctx G0) (S : Store) (st : PSt)
    (pb : Policy) (hinv : GInv ctx G0 S.groups st) (hnew : hasPolicy S pb.id = false)
    (hbids : (rids pb.rules).Nodup) (hbRefs : ∀ rb ∈ pb.rules, BRefs ctx S rb) :
    ∃ S' L, run S (createPolicy ctx st pb).2 = some S' ∧
      GInv ctx G0 S'.groups (createPolicy ctx st pb).1 ∧ Mono st (createPolicy ctx st pb).1 ∧
      S'.services = S.services ∧ S'.policies = S.policies ++ [⟨pb.id, L⟩] ∧ GroupsLE S S' ∧
      Forall2 (RuleReal ctx (createPolicy ctx st pb).1.nod) L pb.rules :=
  let ⟨S', L, r, hp, hr⟩ := createPolicy_spec (U := fun _ => True) hc S st pb hinv hnew
    ⟨hbids, hbRefs, fun _ _ _ _ => trivial⟩
  ⟨S', L, r.run, r.ginv, r.mono, r.services, hp, r.groups, hr⟩

/-- Unique names (`genUniqRuleNames` / `genUniqGroupNames` after the repair f4446e1): the new
ids are pairwise distinct, differ from every device id, and each is an id of the target or was
unused. -/
theorem nsx_ids_unique (aIds ids out : List String) (h : renameIds aIds ids (aIds ++ ids) = some out)
    (hn : ids.Nodup) :
    out.length = ids.length ∧ out.Nodup ∧ (∀ x ∈ out, x ∉ aIds) ∧ (∀ x ∈ out, x ∈ ids ∨ x ∉ aIds ++ ids) :=
  ⟨renameIds_length aIds ids _ out h,
    renameIds_spec aIds ids (aIds ++ ids) out h (fun _ hx => List.mem_append.mpr (Or.inl hx))
      (fun _ hx => List.mem_append.mpr (Or.inr hx)) hn⟩

/-- The unrepaired `genUniq*Names` (new name checked against the device names only) is refuted by
device rule `x`, target rules `x` and `x-1`: both would be sent as `x-1`. -/
def renameIdsOld (aIds : List String) (ids : List String) : List String :=
  ids.map fun id => if aIds.contains id then (freshId aIds id).getD id else id

theorem nsx_ids_unique_counterexample : ¬ (renameIdsOld ["x"] ["x", "x-1"]).Nodup := by decide +kernel

example : renameIds ["x"] ["x", "x-1"] (["x"] ++ ["x", "x-1"]) = some ["x-2", "x-1"] := by decide +kernel

/-- **End to end** (`diffConfig` on what `LoadDevice` sees, executed on the strict manager).
For every manager state `S` (objects outside Netspoc's scope included) and every target `T` that
satisfy the decidable side conditions `accepted S T` — well-formed store, address lists without
duplicates, target as the compiler and `checkRaw` guarantee it, objects outside Netspoc's scope
that the target names exist, no rule outside Netspoc's scope refers to a managed object — for
every `diff` that returns valid edit scripts, and whenever the planner does not abort:

* every emitted REST call is accepted when it is sent (C08 for NSX: `run … = some S'`),
* `Converged`: every target policy is on the manager with, up to listing order, one equivalent
  rule per target rule (groups compared by address set), and every managed policy left is a
  target policy,
* `ServicesConverged`: every target service carries the target's definition and no managed
  service is left that the target does not define,
* `NoLeftoverGroup`: every managed group left is used by a rule of a target policy. -/
theorem nsx_converges (diff : Diff) (hdiff : ∀ n m eq, validScript n m eq (diff n m eq) = true)
    (S : Store) (T : Config) (hacc : accepted S T = true) (hab : (plan diff (load S) T).abort = none) :
    ∃ S', run S (plan diff (load S) T).calls = some S' ∧ Converged S' T ∧ ServicesConverged S' T ∧
      NoLeftoverGroup S' T := by
  obtain ⟨hS, hT, h5, h6⟩ := accepted_facts hacc
  obtain ⟨S', a, b, c, d, _⟩ := plan_converges hdiff hS hT h5 h6 hab
  exact ⟨S', a, b, c, d⟩

/-- C08 for NSX: every call of the script is accepted by a manager that enforces referential
integrity and create-only PUT. -/
theorem nsx_calls_executable (diff : Diff) (hdiff : ∀ n m eq, validScript n m eq (diff n m eq) = true)
    (S : Store) (T : Config) (hacc : accepted S T = true) (hab : (plan diff (load S) T).abort = none) :
    (run S (plan diff (load S) T).calls).isSome = true := by
  obtain ⟨S', h, _⟩ := nsx_converges diff hdiff S T hacc hab
  simp [h]

theorem nsx_no_leftover_service (diff : Diff) (hdiff : ∀ n m eq, validScript n m eq (diff n m eq) = true)
    (S : Store) (T : Config) (hacc : accepted S T = true) (hab : (plan diff (load S) T).abort = none) :
    ∃ S', run S (plan diff (load S) T).calls = some S' ∧ ServicesConverged S' T := by
  obtain ⟨S', h, _, h2, _⟩ := nsx_converges diff hdiff S T hacc hab
  exact ⟨S', h, h2⟩

theorem nsx_no_leftover_unused_group (diff : Diff) (hdiff : ∀ n m eq, validScript n m eq (diff n m eq) = true)
    (S : Store) (T : Config) (hacc : accepted S T = true) (hab : (plan diff (load S) T).abort = none) :
    ∃ S', run S (plan diff (load S) T).calls = some S' ∧ NoLeftoverGroup S' T := by
  obtain ⟨S', h, _, _, h3⟩ := nsx_converges diff hdiff S T hacc hab
  exact ⟨S', h, h3⟩

/-! Non-vacuity of `nsx_converges`: an accepted pair with a group to edit, a rule to re-create,
a service to patch and left-overs to delete; the plan does not abort. -/
def exStore : Store :=
  { policies := [⟨"Netspoc-v1", [{ id := "r1", src := groupPath "Netspoc-g0", service := servicePath "Netspoc-tcp_80" },
                               { id := "r2", dst := "10.1.1.1" }]⟩,
                 ⟨"admin", [{ id := "m1", src := groupPath "ext" }]⟩]
    groups := [⟨"Netspoc-g0", "id", "IPAddressExpression", ["10.1.1.10", "10.1.1.20"]⟩,
               ⟨"Netspoc-g5", "id", "IPAddressExpression", ["10.9.9.9"]⟩, ⟨"ext", "x", "IPAddressExpression", ["1.1.1.1"]⟩]
    services := [⟨"Netspoc-tcp_80", "a"⟩, ⟨"Netspoc-udp_1", "u"⟩] }
def exTarget : Config :=
  { policies := [⟨"Netspoc-v1", [{ id := "r1", src := groupPath "Netspoc-g0", service := servicePath "Netspoc-tcp_80" },
                               { id := "r2", dst := "10.1.1.2" }]⟩]
    groups := [⟨"Netspoc-g0", "id", "IPAddressExpression", ["10.1.1.10", "10.1.1.30"]⟩]
    services := [⟨"Netspoc-tcp_80", "b"⟩] }
example : accepted exStore exTarget = true := by decide +kernel

/-- The script for the example pair, evaluated once for the examples below. -/
theorem exPlan : (plan prefixDiff (load exStore) exTarget).abort = none ∧
    (plan prefixDiff (load exStore) exTarget).calls =
      [.patchService "Netspoc-tcp_80" "b", .postAddrs "Netspoc-g0" "id" false ["10.1.1.20"],
       .postAddrs "Netspoc-g0" "id" true ["10.1.1.30"], .deleteRule "Netspoc-v1" "r2",
       .putRule "Netspoc-v1" "r2-1" { id := "", dst := "10.1.1.2" }, .deleteService "Netspoc-udp_1",
       .deleteGroup "Netspoc-g5"] := by decide +kernel

example : (plan prefixDiff (load exStore) exTarget).abort = none := exPlan.1
example : (plan prefixDiff (load exStore) exTarget).calls.length = 7 := by rw [exPlan.2]; rfl

/-- C07 for NSX, the script: every REST call addresses an object whose id carries
the Netspoc prefix (rules live inside their policy) — by the load filter on the device side and
`checkRaw` / the compiler on the target side. -/
theorem nsx_scope (diff : Diff) (S : Store) (T : Config) (h1 : storeWF S = true) (h2 : addrsNodup S = true)
    (h3 : targetWF T = true) (h4 : policyIdsManaged T = true) :
    ∀ c ∈ (plan diff (load S) T).calls, managed c.target = true :=
  plan_scope (targetFacts_of h3 h4)

/-- C07 for NSX, the manager (about the specification alone): a call that addresses a managed id
leaves every object outside Netspoc's scope exactly as it was. -/
theorem nsx_store_frame {S S' : Store} {c : Call} (hm : managed c.target = true) (h : exec S c = .ok S') :
    unmanagedPart S' = unmanagedPart S := exec_frame hm h

/-- C07 for NSX, combined: whatever prefix of the script is executed, policies, groups and
services whose id lacks the prefix are untouched. -/
theorem nsx_frame (diff : Diff) (S : Store) (T : Config) (h1 : storeWF S = true) (h2 : addrsNodup S = true)
    (h3 : targetWF T = true) (h4 : policyIdsManaged T = true) (k : Nat) (S' : Store)
    (hrun : run S ((plan diff (load S) T).calls.take k) = some S') :
    unmanagedPart S' = unmanagedPart S :=
  run_frame _ S S' (fun c hc => nsx_scope diff S T h1 h2 h3 h4 c (List.mem_of_mem_take hc)) hrun

/-- The raw-file gap (before the repair a3659de): a target policy whose id lacks the prefix is
outside the hypothesis of `nsx_scope`, and indeed the plan then addresses an unmanaged id. -/
theorem nsx_scope_counterexample :
    ¬ ∀ c ∈ (plan trivialDiff (load {}) { policies := [⟨"my-policy", []⟩] }).calls, managed c.target = true := by
  decide +kernel

/-- The excluded point of `accepted` (`policyIdsManaged`), as it was accepted from a raw file before
the repair a3659de: the policy is never loaded again, so the plan computed on the state the first
run leaves behind is the same PUT once more — never "unchanged", and rejected by a manager that
wants `_revision` for an update. -/
theorem nsx_idempotent_rawpolicy_counterexample :
    let T : Config := { policies := [⟨"my-policy", [{ id := "raw9", dst := "10.9.9.9" }]⟩] }
    let p1 := plan prefixDiff (load {}) T
    (run {} p1.calls).map (fun S1 => ((plan prefixDiff (load S1) T).calls == p1.calls,
      (run S1 (plan prefixDiff (load S1) T).calls).isSome)) = some (true, false) := by
  decide +kernel

/-- C08 for NSX, about the specification alone: a call the strict manager
accepts keeps the object store well-formed — unique ids per kind, unique rule ids per policy, no
dangling reference. -/
theorem nsx_store_wf_preserved {S S' : Store} {c : Call} (h : storeWF S = true) (hex : exec S c = .ok S') :
    storeWF S' = true :=
  storeWF_iff.mpr (exec_wf (storeWF_iff.mp h) hex)

/-- After any prefix of the script the pair (manager, target) satisfies the side
conditions of the end-to-end theorem again: the store is well-formed, address lists are still
duplicate-free, and what `accepted` asks of the part outside Netspoc's scope still holds (that part is as
before: `nsx_frame`). -/
theorem nsx_prefix_wf (diff : Diff) (hdiff : ∀ n m eq, validScript n m eq (diff n m eq) = true)
    (S : Store) (T : Config) (hacc : accepted S T = true) (k : Nat) (Sk : Store)
    (hk : run S ((plan diff (load S) T).calls.take k) = some Sk) : accepted Sk T = true :=
  prefix_accepted hdiff hacc k hk

/-- C10 for NSX: cut the script after any number `k` of calls that took
effect; a new run against the partially changed manager and the same target is accepted call by
call and reaches a state equivalent to the target with no left-overs (provided the planner does
not abort on the intermediate state). -/
theorem nsx_resume_converges (diff : Diff) (hdiff : ∀ n m eq, validScript n m eq (diff n m eq) = true)
    (S : Store) (T : Config) (hacc : accepted S T = true) (k : Nat) (Sk : Store)
    (hk : run S ((plan diff (load S) T).calls.take k) = some Sk)
    (habk : (plan diff (load Sk) T).abort = none) :
    ∃ S', run Sk (plan diff (load Sk) T).calls = some S' ∧ Converged S' T ∧ ServicesConverged S' T ∧
      NoLeftoverGroup S' T :=
  nsx_converges diff hdiff Sk T (prefix_accepted hdiff hacc k hk) habk

/-! Non-vacuity of the resume theorem: a cut after three of the seven calls of the example, the
planner does not abort on the state reached, and its new script has four calls. -/
example : ((run exStore ((plan prefixDiff (load exStore) exTarget).calls.take 3)).map fun Sk =>
    ((plan prefixDiff (load Sk) exTarget).abort, (plan prefixDiff (load Sk) exTarget).calls.length)) =
    some (none, 4) := by rw [exPlan.2]; decide +kernel

/-- "No change is reported only when the manager is already equivalent": an empty plan means the
manager is equivalent to the target and carries no left-overs. -/
theorem nsx_no_change_only_if_equivalent (diff : Diff)
    (hdiff : ∀ n m eq, validScript n m eq (diff n m eq) = true) (S : Store) (T : Config)
    (hacc : accepted S T = true) (hab : (plan diff (load S) T).abort = none)
    (hnone : (plan diff (load S) T).calls = []) :
    Converged S T ∧ ServicesConverged S T ∧ NoLeftoverGroup S T := by
  obtain ⟨S', hrun, h⟩ := nsx_converges diff hdiff S T hacc hab
  rw [hnone] at hrun
  cases hrun
  exact h

/-- The converse is false for arbitrary equivalent states (not for the ones an approve leaves
behind, which the oracle checks on every case): a manager where two rules share one group while
the target uses two groups with the same addresses is equivalent, yet the planner separates the
groups (PUT of a group, PATCH of a rule). -/
theorem nsx_equivalent_but_changed_example :
    let S : Store :=
      { policies := [⟨"Netspoc-v1", [{ id := "r1", src := groupPath "Netspoc-g0", dst := "10.1.1.1" },
                                    { id := "r2", src := groupPath "Netspoc-g0", dst := "10.1.1.2" }]⟩]
        groups := [⟨"Netspoc-g0", "id", "t", ["10.9.9.9"]⟩] }
    let T : Config :=
      { policies := [⟨"Netspoc-v1", [{ id := "r1", src := groupPath "Netspoc-g0", dst := "10.1.1.1" },
                                    { id := "r2", src := groupPath "Netspoc-g1", dst := "10.1.1.2" }]⟩]
        groups := [⟨"Netspoc-g0", "id", "t", ["10.9.9.9"]⟩, ⟨"Netspoc-g1", "id", "t", ["10.9.9.9"]⟩] }
    accepted S T = true ∧ convergedB S T = true ∧
      (plan prefixDiff (load S) T).calls.map (·.target) = ["Netspoc-g1", "Netspoc-v1"] := by
  decide +kernel

/-- `nsx_no_change_only_if_equivalent` and, below, `nsx_resume_converges` under the names of the property list. -/
theorem nsx_unchanged_only_if_equivalent (diff : Diff)
    (hdiff : ∀ n m eq, validScript n m eq (diff n m eq) = true) (S : Store) (T : Config)
    (hacc : accepted S T = true) (hab : (plan diff (load S) T).abort = none)
    (hnone : (plan diff (load S) T).calls = []) :
    Converged S T ∧ ServicesConverged S T ∧ NoLeftoverGroup S T :=
  nsx_no_change_only_if_equivalent diff hdiff S T hacc hab hnone

theorem nsx_resume (diff : Diff) (hdiff : ∀ n m eq, validScript n m eq (diff n m eq) = true)
    (S : Store) (T : Config) (hacc : accepted S T = true) (k : Nat) (Sk : Store)
    (hk : run S ((plan diff (load S) T).calls.take k) = some Sk)
    (habk : (plan diff (load Sk) T).abort = none) :
    ∃ S', run Sk (plan diff (load Sk) T).calls = some S' ∧ Converged S' T ∧ ServicesConverged S' T ∧
      NoLeftoverGroup S' T :=
  nsx_resume_converges diff hdiff S T hacc k Sk hk habk

/-- **Equivalent ⇒ unchanged** (the converse of `nsx_unchanged_only_if_equivalent`).  For every
accepted pair whose manager is already equivalent to the target and carries no left-overs, the plan
is empty — provided inline service entries are compact JSON on both sides (`rulesCompact`), no two
target groups and no two managed groups have the same content (`distinctContent`; see
`nsx_equivalent_but_changed_example` for what happens otherwise) and `diff` is the identity on
pairwise-equal lists (`IdOnEqual`, as Myers is). -/
theorem nsx_equivalent_unchanged_partial (diff : Diff) (hid : IdOnEqual diff) (S : Store) (T : Config)
    (hacc : accepted S T = true) (hconv : Converged S T) (hsvc : ServicesConverged S T)
    (hgrp : NoLeftoverGroup S T) (hc : rulesCompact (load S) = true ∧ rulesCompact T = true)
    (hd : distinctContent T.groups = true ∧ distinctContent (load S).groups = true)
    (hab : (plan diff (load S) T).abort = none) : (plan diff (load S) T).calls = [] := by
  obtain ⟨hS, hT, _⟩ := accepted_facts hacc
  exact plan_unchanged hid hS hT hconv hsvc hgrp
    ((rulesCompact_iff _).mp hc.1) ((rulesCompact_iff _).mp hc.2) (DistinctContent.of_decide _ hd.1)
    (DistinctContent.of_decide _ hd.2) hab

/-- **Idempotence.**  Full statement: for every accepted pair, executing
the plan on the strict manager and planning again gives the empty list of REST calls.  That is
false when a rule of the target carries inline `service_entries` that are not compact JSON
(`nsx_idempotent_counterexample`, finding F-C04-se); it is proved here under the decidable side
condition `idemOK S T`: inline service entries compact on the manager and in the target, and no
two target groups with the same address set (necessary once the manager lists its rules in another order:
`nsx_idempotent_relisting_counterexample`; whether it is necessary when the listing order is the store's own is
open: the oracle has found no failing input).  The edit-script function must return valid scripts
and be the identity on pairwise-equal lists. -/
theorem nsx_idempotent_partial (diff : Diff) (hdiff : ∀ n m eq, validScript n m eq (diff n m eq) = true)
    (hid : IdOnEqual diff) (S : Store) (T : Config) (hacc : accepted S T = true) (hidem : idemOK S T = true)
    (hab : (plan diff (load S) T).abort = none) :
    ∃ S', run S (plan diff (load S) T).calls = some S' ∧
      ((plan diff (load S') T).abort = none → (plan diff (load S') T).calls = []) :=
  plan_idempotent hdiff hid hacc hidem hab

/-- Inline service entries written with white space: the rule is re-created on every run. -/
theorem nsx_idempotent_counterexample :
    let T : Config := { policies := [⟨"Netspoc-v1", [{ id := "r1", attrs := { svcEntries := "[ 1 ]" } }]⟩] }
    accepted {} T = true ∧
    (run {} (plan prefixDiff (load {}) T).calls).map (fun S1 => (plan prefixDiff (load S1) T).calls.length) = some 2 := by
  decide +kernel

/-- The side condition `distinctContent T.groups` cannot be dropped when the manager is free to
list its rules in another order: with two target groups of equal content and two rules that
differ only in these groups, the state an approve leaves behind is equivalent and unchanged as
listed, but listed in reverse order it yields four calls (finding F-C04-dupgrp, replayed on the
real code by the harness: check `idem-relisted`, "lists its objects in another order"). -/
theorem nsx_idempotent_relisting_counterexample :
    let T : Config :=
      { policies := [⟨"Netspoc-v1", [{ id := "r1", src := groupPath "Netspoc-g0", dst := "10.1.1.1" },
                                    { id := "r2", src := groupPath "Netspoc-g1", dst := "10.1.1.1" },
                                    { id := "r3", src := groupPath "Netspoc-g0", dst := "10.1.1.0" }]⟩]
        groups := [⟨"Netspoc-g0", "id", "t", ["10.9.9.9"]⟩, ⟨"Netspoc-g1", "id", "t", ["10.9.9.9"]⟩] }
    let relist : Store → Store := fun S => { S with policies := S.policies.map fun p => { p with rules := p.rules.reverse } }
    accepted {} T = true ∧ distinctContent T.groups = false ∧
    (run {} (plan prefixDiff (load {}) T).calls).map (fun S1 =>
      ((plan prefixDiff (load S1) T).calls.length, convergedB (relist S1) T,
       (plan prefixDiff (load (relist S1)) T).calls.length)) = some (0, true, 4) := by
  decide +kernel

/-! Non-vacuity of the idempotence theorems: `prefixDiff` is valid and the identity on equal
lists; the example pair satisfies `idemOK`; its second plan is empty. -/
example : IdOnEqual prefixDiff := prefixDiff_idOnEqual
example : idemOK exStore exTarget = true := by decide +kernel
example : (run exStore (plan prefixDiff (load exStore) exTarget).calls).map
    (fun S1 => ((plan prefixDiff (load S1) exTarget).abort, (plan prefixDiff (load S1) exTarget).calls)) =
    some (none, []) := by rw [exPlan.2]; decide +kernel

/-! ### services are compared by definition

`addNewServices` compares marshalled service entries byte by byte and sends the marshalled target.  The
marshalling (`SvcEntry.marshal`, model of `nsxServiceEntry.MarshalJSON`; its byte form `render` is compared
with the bodies the real code sends on every run) loses nothing on entries built from the fields of their
resource type, so the opaque `Service.defn` of the planner model stands for the definition itself. -/

theorem nsx_service_marshal_injective (l1 l2 : List SvcEntry) (h1 : ∀ e ∈ l1, e.WF) (h2 : ∀ e ∈ l2, e.WF)
    (h : marshalAll l1 = marshalAll l2) : l1 = l2 := marshalAll_injective l1 l2 h1 h2 h

-- non-vacuity: the hypotheses hold for entries of all three kinds, and near misses marshal differently
example : marshalAll [{ id := "id", kind := .icmp, icmpProto := "ICMPv4", icmpCode := some 3 }]
    ≠ marshalAll [{ id := "id", kind := .icmp, icmpProto := "ICMPv4" }] := by decide +kernel
example : marshalAll [{ id := "id", kind := .l4, l4Proto := "TCP", dst := some ["80"] }]
    ≠ marshalAll [{ id := "id", kind := .l4, l4Proto := "TCP", dst := some ["80"], src := some [] }] := by decide +kernel
example : (∀ e ∈ [({ id := "a", kind := .l4, l4Proto := "TCP", dst := some ["80"] } : SvcEntry),
    { id := "b", kind := .ipproto, protoNum := 47 }, { id := "c", kind := .icmp, icmpProto := "ICMPv6", icmpType := some 128 }], e.WF) := by decide +kernel

/-- A marshalling that writes `icmp_code` only together with `icmp_type` identifies two different services. -/
theorem nsx_service_marshal_variant_counterexample :
    ∃ e1 e2 : SvcEntry, e1.WF ∧ e2.WF ∧ e1 ≠ e2 ∧ marshalCodeInsideType e1 = marshalCodeInsideType e2 :=
  marshalCodeInsideType_not_injective

def obligations : List Lean.Name := [``nsx_service_marshal_injective, ``nsx_service_marshal_variant_counterexample,
  ``marshal_injective,``nsx_converges, ``nsx_calls_executable, ``nsx_no_leftover_service,
  ``nsx_no_leftover_unused_group, ``nsx_group_equalize_converges, ``nsx_rules_converge,
  ``nsx_create_policy_converges, ``nsx_ids_unique, ``nsx_ids_unique_counterexample,
  ``addrDiff_perm, ``stepItems_spec, ``walk_of_valid, ``adaptGroup_spec, ``equalize_spec,
  ``overA_spec, ``overB_spec, ``planSvc_spec, ``plan_converges, ``nsx_scope, ``nsx_store_frame, ``nsx_frame,
  ``nsx_scope_counterexample, ``nsx_store_wf_preserved, ``nsx_prefix_wf, ``nsx_resume_converges,
  ``nsx_no_change_only_if_equivalent, ``nsx_equivalent_but_changed_example,
  ``nsx_idempotent_rawpolicy_counterexample, ``nsx_unchanged_only_if_equivalent, ``nsx_resume,
  ``nsx_equivalent_unchanged_partial, ``nsx_idempotent_partial, ``nsx_idempotent_counterexample, ``nsx_idempotent_relisting_counterexample, ``loadPaged_eq,
  ``plan_unchanged, ``sortRules_keys, ``diffRules_noop]

end NA.Nsx
