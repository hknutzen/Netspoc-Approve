import NA.Proofs.C06Gate
import NA.Proofs.C06Text
/-!
# C06 — approve never changes a wrong, unmanaged or passive device

`runMain b env` is one whole run of `device.ApproveOrCompare` (drc FILE / do-approve approve)
of backend `b` against an **arbitrary** device `env.dev : history → request → reply` (any reply
may be a fault), any configuration `env.cfg`, any list `env.plan` of pending change commands.
`NoChange b tr`: the trace contains no configuration-changing request and no save/commit
(specification side: `NA.Gate.Spec.kind`).
-/
namespace NA.C06
open NA.Gate NA.Gate.Spec

/-- The names the device may report: base name of the code file, or the `name_list`. -/
def expectedNames (b : Backend) (cfg : Cfg) : List String :=
  match b with
  | .panos | .nsx => cfg.names
  | _ => [cfg.name]

/-- "lacks the managed-by marker", per platform. -/
def MarkerAbsent (b : Backend) (cfg : Cfg) (dev : Dev) : Prop :=
  match b with
  | .asa | .ios => ∃ m, cfg.banner = some m ∧ MarkerNever dev m
  | .linux => cfg.banner.isSome = true ∧ LinuxNoMarker cfg dev
  | .panos => PanNoMarker cfg dev
  | .nsx => False

/-- What "no change, diagnostic, non-zero status" means for a finished run. -/
def Refused (b : Backend) (f : St) : Prop :=
  NoChange b f.trace ∧ f.exit = 1 ∧ f.diagnostic.isSome = true

instance (b : Backend) (f : St) : Decidable (Refused b f) := by
  unfold Refused; exact inferInstance

theorem refused_of_shut (b : Backend) (hb : b ≠ .nsx) (env : Env) (hc : env.cfg.isCompare = false)
    (hshut : (exec env (backendGetChanges b) (exec env (backendLoad b env.cfg) {})).status.isRunning = true →
      consults b = true ∧ (exec env (backendGetChanges b) (exec env (backendLoad b env.cfg) {})).errU ≠ []) :
    Refused b (runMain b env) := by
  rw [runMain_approve b env hc]
  exact approveWith_blocked env b _ _ _ _ (safe_load b env.cfg) (noCrash_load b hb env.cfg) hshut

/-- **Wrong hostname.**  A device that never reports (one of) the expected name(s) is not changed:
no configuration-changing request, no save/commit, exit status 1, an ERROR line — for every
backend that asks for the name, every device behaviour, every configuration, every plan. -/
theorem wrong_hostname_no_change (b : Backend) (hb : b ≠ .nsx) (env : Env)
    (hc : env.cfg.isCompare = false) (h : WrongHost b (expectedNames b env.cfg) env.dev) :
    Refused b (runMain b env) := by
  apply refused_of_shut b hb env hc
  intro hr
  have : Blocks env (backendLoad b env.cfg) := by
    cases b with
    | asa => exact asa_host_blocks env h
    | ios => exact ios_host_blocks env h
    | linux => exact linux_host_blocks env h _
    | panos => exact panos_host_blocks env h
    | nsx => exact absurd rfl hb
  cases (exec_nr_status env _ _ (this {})).symm.trans hr

/-- **Missing marker** (ASA, IOS: banner regexp never matches anything the device sends;
PAN-OS: a managed vsys without `netspoc` in its display-name): not changed, exit 1, ERROR line.
Hypothesis `b ≠ .linux` is the exact complement of finding F-C06a. -/
theorem missing_marker_no_change_partial (b : Backend) (hb : b ≠ .linux) (env : Env)
    (hc : env.cfg.isCompare = false) (h : MarkerAbsent b env.cfg env.dev) :
    Refused b (runMain b env) := by
  have hnsx : b ≠ .nsx := by rintro rfl; exact h
  apply refused_of_shut b hnsx env hc
  cases b with
  | asa =>
    obtain ⟨m, hm, hn⟩ := h
    intro hr
    exact ⟨rfl, cisco_marker_shut env m hm hn asaPostLogin ciscoGetChanges noRecord_asaPost
      noRecord_ciscoGetChanges hr⟩
  | ios =>
    obtain ⟨m, hm, hn⟩ := h
    intro hr
    exact ⟨rfl, cisco_marker_shut env m hm hn iosPostLogin ciscoGetChanges noRecord_iosPost
      noRecord_ciscoGetChanges hr⟩
  | linux => exact absurd rfl hb
  | panos => intro hr; exact ⟨rfl, panos_marker_shut env h hr⟩
  | nsx => exact absurd rfl hnsx

/-- A Linux host whose `/etc/issue` lacks the marker (grep prints nothing), everything else in
order, one pending route change. -/
def linuxUnmarkedDev : Dev := fun _ o =>
  match o with
  | .wait => .text "\r\nroot@host:~# "
  | .lit "hostname -s" => .text "router\n"
  | .lit "echo $?" => .text "0\n"
  | .litArg _ _ => .text ""
  | _ => .text ""

def linuxUnmarkedEnv : Env :=
  { cfg := { banner := some (Rx.ofWord "NetSPoC".toList), bannerSrc := "NetSPoC" }
    dev := linuxUnmarkedDev
    plan := ["ip route add 10.0.0.0/8 via 10.1.1.99"] }

/-- `missing_marker_no_change` for all backends is false: on Linux the marker is checked, the
error is recorded, but `GetErrUnmanaged` returns nil — the route is changed, exit status 0. -/
theorem missing_marker_no_change_counterexample :
    ∃ env : Env, env.cfg.isCompare = false ∧ MarkerAbsent .linux env.cfg env.dev ∧
      (runMain .linux env).errU ≠ [] ∧
      .plan "ip route add 10.0.0.0/8 via 10.1.1.99" ∈ (runMain .linux env).trace ∧
      (runMain .linux env).exit = 0 := by
  refine ⟨linuxUnmarkedEnv, rfl, ⟨rfl, ?_⟩, ?_⟩
  · intro hist s h
    simpa [linuxMarkerQuery, linuxUnmarkedEnv, linuxUnmarkedDev] using h
  · decide +kernel

/-- Had `GetErrUnmanaged` returned the recorded list (what the other backends do), the same run
would have been refused: the defect is exactly the `return nil`. -/
theorem linux_gate_would_hold :
    let f := closeStep (closeOut .linux) (exec linuxUnmarkedEnv
      (approveWith (linuxLoadDevice linuxUnmarkedEnv.cfg) linuxGetChanges true linuxApply) {})
    Refused .linux f := by
  intro f
  decide +kernel

/-- **Passive HA member** (PAN-OS): never changed. -/
theorem ha_passive_no_change (env : Env) (hc : env.cfg.isCompare = false) (h : HaPassive env.dev) :
    Refused .panos (runMain .panos env) := by
  apply refused_of_shut .panos (by decide) env hc
  intro hr
  cases (exec_nr_status env _ _ (panos_ha_blocks env h {})).symm.trans hr

/-- **Marker not configured**: with no `checkbanner` the banner check is skipped and approve goes
on into `applyCommands` exactly as if there were no gate — for every device behaviour
(PAN-OS has no configurable marker and is not part of this statement). -/
theorem marker_unconfigured_proceeds (b : Backend) (hb : b ≠ .panos) (env : Env)
    (h : env.cfg.banner = none) :
    exec env (approveP b env.cfg) {} =
      exec env (applyCommandsP (backendApply b env.cfg))
        (exec env (backendGetChanges b) (exec env (backendLoad b env.cfg) {})) := by
  unfold approveP
  rw [approveWith_exec]
  congr 1
  cases b with
  | asa => exact exec_gate_open env _ _ (cisco_errU_nil env h _ _ noRecord_asaPost noRecord_ciscoGetChanges)
  | ios => exact exec_gate_open env _ _ (cisco_errU_nil env h _ _ noRecord_iosPost noRecord_ciscoGetChanges)
  | linux | nsx => simp [consults, gate_run]
  | panos => exact absurd rfl hb

/-- … and on Linux the recorded list stays empty, so this does not depend on the missing gate. -/
theorem marker_unconfigured_linux_clean (env : Env) (h : env.cfg.banner = none) :
    (exec env linuxGetChanges (exec env (linuxLoadDevice env.cfg) {})).errU = [] := by
  simp only [linuxLoadDevice, linuxLoadDeviceWith, exec_seq, exec_call]
  rw [exec_errU env _ noRecord_linuxGetChanges, exec_errU env _ noRecord_linuxPost,
    linuxCheckBanner_skip env h, exec_errU env _ noRecord_linuxPre]

/-- A co-operative ASA with one pending change, no `checkbanner`: the change and the save are sent,
exit status 0 (non-vacuity of `marker_unconfigured_proceeds`). -/
def asaFriendlyDev : Dev := fun _ o =>
  match o with
  | .wait => .text "password: "
  | .pass => .text "\r\nrouter# "
  | .lit "show hostname" => .text "router\n"
  | .lit "sh pager" => .text "no pager\n"
  | .lit "sh term" => .text "Width = 511\n"
  | .lit "write memory" => .text "[OK]\n"
  | _ => .text ""

example :
    let f := runMain .asa { cfg := {}, dev := asaFriendlyDev, plan := ["route inside 10.0.0.0 255.0.0.0 10.1.2.3"] }
    f.exit = 0 ∧ .plan "route inside 10.0.0.0 255.0.0.0 10.1.2.3" ∈ f.trace ∧ .lit "write memory" ∈ f.trace := by
  decide +kernel

/-- Non-vacuity of `missing_marker_no_change_partial`: a `checkbanner` regexp that matches no
character can never be found, whatever the device sends. -/
example : MarkerAbsent .asa { banner := some Rx.never } asaFriendlyDev :=
  ⟨_, rfl, fun _ _ => search_never _⟩

/-- The unchanged tree (before the `fix:` commit): `cfg.CheckBanner.String()` with
`checkbanner` unset is a nil dereference — exit status 2, no ERROR line, instead of a normal
approve (F-C06b). -/
theorem marker_unconfigured_unfixed_counterexample :
    ∃ env : Env, env.cfg.banner = none ∧
      (closeStep (closeOut .linux) (exec env
        (approveWith (linuxLoadDeviceWith (linuxCheckBannerUnfixed env.cfg)) linuxGetChanges
          (consults .linux) linuxApply) {})).exit = 2 :=
  ⟨{ linuxUnmarkedEnv with cfg := {} }, rfl, by decide +kernel⟩

/-- **No configuration-changing request, no save and no commit before the gate is passed**: if the
trace of an approve run contains one, then LoadDevice and GetChanges ended normally and (where
`GetErrUnmanaged` returns the recorded list) nothing was recorded — every backend with an
interlock, every device, every configuration, every plan, every bound of the polling loops. -/
theorem change_only_after_gate (b : Backend) (hb : b ≠ .nsx) (env : Env)
    (hc : env.cfg.isCompare = false) (h : ¬ NoChange b (runMain b env).trace) :
    (exec env (backendGetChanges b) (exec env (backendLoad b env.cfg) {})).status.isRunning = true ∧
    (consults b = true →
      (exec env (backendGetChanges b) (exec env (backendLoad b env.cfg) {})).errU = []) := by
  -- the contrapositive of `refused_of_shut`
  simpa using mt (fun hs => (refused_of_shut b hb env hc hs).1) h

/-- … in particular the PAN-OS commit and the polling of its job (however long the device answers
PEND) happen only after the gate. -/
theorem commit_only_after_gate (env : Env) (hc : env.cfg.isCompare = false) (u : String)
    (h : .litArg "type=commit&action=partial&cmd=" u ∈ (runMain .panos env).trace) :
    (exec env panGetChanges (exec env (panLoadDevice env.cfg) {})).status.isRunning = true ∧
    (exec env panGetChanges (exec env (panLoadDevice env.cfg) {})).errU = [] :=
  (change_only_after_gate .panos (by decide) env hc (not_noChange_of_mem .panos _ _ h rfl)).imp_right (· rfl)

/-- If anything was changed, the device did report (one of) the expected name(s) … -/
theorem change_implies_host_reported (b : Backend) (hb : b ≠ .nsx) (env : Env)
    (hc : env.cfg.isCompare = false) (h : ¬ NoChange b (runMain b env).trace) :
    ∃ q hist n, hostQuery b = some q ∧ n ∈ expectedNames b env.cfg ∧ hostIs b (env.dev hist q) n = true := by
  simpa only [WrongHost, Classical.not_forall, not_imp, Bool.not_eq_false, exists_and_left, exists_prop]
    using mt (fun hw => (wrong_hostname_no_change b hb env hc hw).1) h

/-- … a PAN-OS device did claim to be the active member … -/
theorem change_implies_ha_active (env : Env) (hc : env.cfg.isCompare = false)
    (h : ¬ NoChange .panos (runMain .panos env).trace) :
    ∃ hist, haActive (env.dev hist panHaQuery) = true := by
  simpa [HaPassive] using mt (fun hp => (ha_passive_no_change env hc hp).1) h

/-- … and the marker was seen: on ASA / IOS the configured regexp matches a concatenation of texts
the device sent; on PAN-OS the device showed a configuration in which every managed vsys carries
`netspoc` in its display-name.  (Linux is missing: F-C06a.) -/
theorem change_implies_marker_seen (b : Backend) (hb : b ≠ .linux) (hn : b ≠ .nsx) (env : Env)
    (hc : env.cfg.isCompare = false) (h : ¬ NoChange b (runMain b env).trace) :
    match b with
    | .asa | .ios => ∀ r, env.cfg.banner = some r →
        ∃ l : List String, (∀ s ∈ l, ∃ hist o, env.dev hist o = .text s) ∧ r.search (String.join l).toList = true
    | .panos => ∃ hist hname vs, env.dev hist panConfQuery = .conf hname vs ∧
        ∀ v ∈ vs, v.1 ∈ env.cfg.targetVsys → vsysMarked v.2 = true
    | _ => True := by
  have key := mt (fun hm => (missing_marker_no_change_partial b hb env hc hm).1) h
  cases b with
  | asa | ios =>
    simpa only [MarkerAbsent, MarkerNever, not_exists, not_and, Classical.not_forall, not_imp, Bool.not_eq_false,
      exists_prop] using key
  | panos =>
    simpa only [MarkerAbsent, PanNoMarker, Classical.not_forall, not_imp, not_exists, not_and, Bool.not_eq_false,
      exists_prop] using key
  | linux | nsx => trivial

/-- Non-vacuity for the polling loop: a PAN-OS device (HA off, marked vsys, right name) that
answers PEND three times before OK — approve sends the change, the commit and four polls, exit 0;
with a bound of two rounds the run is still polling (`unfinished`), and a device without the
marker gets nothing but the read-only requests. -/
def panFriendlyDev (displayName : String) : Dev := fun hist o =>
  match o with
  | .lit "type=keygen" => .text "KEY"
  | .lit "type=op&cmd=<show><high-availability><state/></high-availability></show>" => .ha "no" "" ""
  | .lit "type=config&action=get&xpath=/config/devices" => .conf "router" [("vsys1", displayName)]
  | .litArg "type=commit&action=partial&cmd=" _ => .text "6"
  | .litArg "type=op&cmd=<show><jobs><id>" _ =>
    if (hist.filter fun h => h == .litArg "type=op&cmd=<show><jobs><id>" "job").length < 3 then .text "PEND"
    else .text "OK"
  | _ => .text ""

example :
    let env (fuel : Nat) (dn : String) : Env :=
      { cfg := { targetVsys := ["vsys1"], fuel := fuel }, dev := panFriendlyDev dn, plan := ["action=set&x"] }
    (runMain .panos (env 8 "managed-by-NetSPoC")).exit = 0 ∧
    ((runMain .panos (env 8 "managed-by-NetSPoC")).trace.filter
        fun o => o == .litArg "type=op&cmd=<show><jobs><id>" "job").length = 4 ∧
    (runMain .panos (env 2 "managed-by-NetSPoC")).status = .unfinished ∧
    (runMain .panos (env 8 "FW7")).exit = 1 ∧
    (runMain .panos (env 8 "FW7")).trace.length = 3 := by
  decide +kernel

/-- ASA / IOS, `checkbanner` a plain word `w`: `checkBanner` leaves `errUnmanaged` empty iff `w`
occurs, as a contiguous block, in the concatenation of what was collected during login. -/
theorem banner_word_check_iff (env : Env) (w : List Char) (hb : env.cfg.banner = some (Rx.ofWord w))
    (st : St) (hr : st.status.isRunning = true) (he : st.errU = []) :
    (exec env ciscoCheckBanner st).errU = [] ↔ ∃ x y, (String.join st.banner).toList = x ++ w ++ y := by
  rw [← infixL_iff, ← search_ofWord]
  simp only [ciscoCheckBanner, exec_seq]
  generalize ht : (String.join st.banner).toList = t
  have hx : exec env (Prog.assign .lines true true .bannerLines) st = { st with lines := t } := by
    simp only [exec, hr, if_true, TExp.eval, penv, ht]
  rw [hx]
  cases hs : (Rx.ofWord w).search t with
  | true => simp [gate_run, hr, hb, hs, he]
  | false => simp [gate_run, hr, hb, hs, missingBanner]

/-- The word split over two outputs of the login dialogue counts as present (the code searches
the concatenation) … -/
theorem marker_split_across_outputs (u v x y : List Char) (a b : String)
    (ha : a.toList = x ++ u) (hb : b.toList = v ++ y) :
    Rx.search (Rx.ofWord (u ++ v)) (String.join [a, b]).toList = true := by
  rw [search_ofWord, infixL_iff]
  refine ⟨x, y, ?_⟩
  simp [String.join, ha, hb]

/-- … and so does the word inside a longer word, or repeated. -/
theorem marker_inside_longer_text (w pre post : List Char) :
    Rx.search (Rx.ofWord w) (pre ++ w ++ post) = true := by
  rw [search_ofWord, infixL_iff]; exact ⟨pre, post, rfl⟩

/-- Concrete texts (evaluated by the kernel): inside a word and repeated count; a blank or a line
break inside the word, or other letter case, do not (for ASA / IOS the regexp is case-sensitive
unless the administrator writes `(?i)`). -/
theorem marker_text_examples :
    Rx.search (Rx.ofWord "NetSPoC".toList) "xxNetSPoCyy".toList = true ∧
    Rx.search (Rx.ofWord "NetSPoC".toList) "NetSPoC NetSPoC".toList = true ∧
    Rx.search (Rx.ofWord "NetSPoC".toList) "managed by Net SPoC".toList = false ∧
    Rx.search (Rx.ofWord "NetSPoC".toList) "Net\nSPoC".toList = false ∧
    Rx.search (Rx.ofWord "NetSPoC".toList) "managed by netspoc".toList = false := by
  -- the characters of the literals first: evaluating `String.toList` decodes UTF-8, which is slow to check
  simp -index only [String.toList_ofList]
  decide +kernel

/-- PAN-OS: the marker is the word `netspoc` in any letter case anywhere in the display-name. -/
theorem panMarked_iff (dn : String) :
    panMarked dn = true ↔ ∃ x y, lowerL dn.toList = x ++ "netspoc".toList ++ y :=
  infixL_iff _ _

theorem panMarked_examples :
    panMarked "FW7-managed-by-NetSPoC" = true ∧ panMarked "NETSPOC" = true ∧
    panMarked "xnetspocx" = true ∧ panMarked "net spoc" = false ∧ panMarked "FW7" = false := by
  simp -index only [panMarked, String.toList_ofList]
  decide +kernel

/-- Linux: on a host whose /etc/issue is `issue`, `checkBanner` records the error iff no
non-empty line of the file matches the regexp (so a marker broken over two lines does not count,
unlike on ASA / IOS). -/
theorem linux_issue_check_iff (env : Env) (r : Rx) (issue : String)
    (hd : LinuxIssue env.cfg r env.dev issue) (st : St) (hr : st.status.isRunning = true)
    (he : st.errU = []) :
    (exec env (linuxGrep env.cfg) st).errU = [missingBanner] ↔
      ∀ l ∈ splitLines issue.toList, l = [] ∨ r.search l = false := by
  rw [← grepOut_nil_iff]
  have hs : st.status = .running := Status.isRunning_iff.mp hr
  obtain ⟨s, hrep, hsl⟩ := hd st.trace
  simp only [linuxMarkerQuery] at hrep
  simp only [linuxGrep, exec_seq, exec_send]
  rw [sendStep_running env _ _ st hs, hrep]
  cases hg : grepOut r issue.toList with
  | nil => simp [gate_run, hs, hsl, hg]
  | cons c cs => simp [gate_run, hs, hsl, hg, he, missingBanner]

theorem linux_issue_examples :
    grepOut (Rx.ofWord "NetSPoC".toList) "Debian\n--- managed by NetSPoC ---\n".toList =
      "--- managed by NetSPoC ---\n".toList ∧
    grepOut (Rx.ofWord "NetSPoC".toList) "managed by Net\nSPoC\n".toList = [] := by
  simp -index only [String.toList_ofList]
  decide +kernel

/-- Both front ends reach the run the theorems above talk about: `drc FILE` without `-C` and
`do-approve approve DEVICE` are `runMain` with `isCompare = false` (the dispatch tables these
functions use are tied to the source by `front_ends_match`). -/
theorem front_ends_run_approve (b : Backend) (cfg : Cfg) (flags : List String) (dev : Dev) (plan : List String) :
    (drcIsCompare flags = false →
      runDrc b cfg dev plan flags 1 = runMain b ⟨{ cfg with isCompare := false }, dev, plan⟩) ∧
    runDoApprove b cfg dev plan "approve" = runMain b ⟨{ cfg with isCompare := false }, dev, plan⟩ :=
  ⟨fun h => by simp [runDrc, h], by simp [runDoApprove, doApproveCases, List.lookup, doApproveCompareWord]⟩

def obligations : List Lean.Name := [
  ``change_only_after_gate, ``commit_only_after_gate, ``change_implies_host_reported,
  ``change_implies_ha_active, ``change_implies_marker_seen,
  ``banner_word_check_iff, ``marker_split_across_outputs, ``marker_inside_longer_text,
  ``marker_text_examples, ``panMarked_iff, ``panMarked_examples, ``linux_issue_check_iff,
  ``linux_issue_examples, ``NA.Gate.search_ofWord, ``NA.Gate.infixL_iff, ``NA.Gate.grepOut_nil_iff,
  ``front_ends_run_approve,
  ``wrong_hostname_no_change, ``missing_marker_no_change_partial,
  ``missing_marker_no_change_counterexample, ``linux_gate_would_hold, ``ha_passive_no_change,
  ``marker_unconfigured_proceeds, ``marker_unconfigured_linux_clean,
  ``marker_unconfigured_unfixed_counterexample]

end NA.C06
