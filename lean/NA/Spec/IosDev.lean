/-!
# Specification side of C15: the IOS device as seen on the wire, and the guard monitor

Core Lean only; independent of the model of `ios/device.go`.

* `Device` — an arbitrary device under the fast-device timing (one `Send` ↦ bytes appended to the
  pending stream).
* `simDevice` — the scripted device the harness runs against the real code (same reply texts as
  `go/testdata/ios_simul.t`), with a reload banner injected per change line in one of the five
  placements of `Form` (`replyFor`).
* `Guard` — a monitor over the ordered transcript of lines the device receives: which lines arm
  and disarm the reload guard, and the two violations C15 forbids (a change line while no reload
  is pending, `write memory` while one is pending).  It is used as the oracle on transcripts of
  the real code and as the specification the model's traces are proved against.
-/
namespace NA.Ios

abbrev Str := List Char

def lit (s : String) : Str := s.toList

/-- `strings.Split(s, "\n")`. -/
def splitOnNL : Str → List Str
  | [] => [[]]
  | c :: s =>
    match splitOnNL s with
    | [] => [[c]]      -- unreachable
    | l :: ls => if c == '\n' then [] :: l :: ls else (c :: l) :: ls

/-- A device under the fast-device timing: one `Send` (a data packet; a joined line contains a
line feed) is answered by bytes that are appended to the pending stream. Arbitrary state. -/
structure Device (σ : Type) where
  step : σ → Str → σ × Str

/-- Lines the device receives: every `Send` split at line feeds. -/
def linesOf (t : List Str) : List Str := t.flatMap splitOnNL

/-! ## vocabulary -/

def reloadCmd : Str := lit "reload in 2"
def doReloadCmd : Str := lit "do reload in 2"
def cancelCmd : Str := lit "reload cancel"
def writeCmd : Str := lit "write memory"
def confCmd : Str := lit "configure terminal"
def endCmd : Str := lit "end"

def prepCmds : List Str :=
  [confCmd, lit "no logging console", lit "line vty 0 15",
   lit "logging synchronous level all", lit "ip subnet-zero", lit "ip classless", endCmd]

def isReloadIn (l : Str) : Bool := l == reloadCmd || l == doReloadCmd

/-- Lines with a meaning of their own for the guard. -/
def reserved (l : Str) : Bool := isReloadIn l || l == cancelCmd || l == writeCmd

/-- Lines of the fixed dialogue that are neither reserved nor a change. -/
def plainVocab (l : Str) : Bool := l.isEmpty || l == lit "n" || prepCmds.contains l

/-- A change line: anything outside the fixed dialogue. -/
def isChange (l : Str) : Bool := !reserved l && !plainVocab l

/-! ## the guard monitor -/

structure Guard where
  /-- a reload is scheduled on the device (confirmed, not cancelled) -/
  pending : Bool := false
  /-- `reload in` was requested and waits for its confirmation -/
  asked : Bool := false
  /-- a change line was received while no reload was pending, or `write memory` while one was -/
  violated : Bool := false
  /-- number of change lines seen -/
  changes : Nat := 0
  deriving DecidableEq, Repr

def Guard.step (g : Guard) (l : Str) : Guard :=
  if isReloadIn l then { g with asked := true }
  else if l == cancelCmd then { g with pending := false, asked := false }
  else if l == writeCmd then { g with violated := g.violated || g.pending, asked := false }
  else if l.isEmpty then (if g.asked then { g with pending := true, asked := false } else g)
  else if l == lit "n" then g
  else if plainVocab l then { g with asked := false }
  else { g with violated := g.violated || !g.pending, asked := false, changes := g.changes + 1 }

def Guard.run (ls : List Str) : Guard := ls.foldl Guard.step {}

/-- No change outside the guard, no `write memory` inside it. -/
def guardOK (ls : List Str) : Bool := !(Guard.run ls).violated
/-- A reload is left scheduled at the end of the transcript. -/
def pendingAfter (ls : List Str) : Bool := (Guard.run ls).pending
/-- Number of `do reload in 2` lines. -/
def rearms (ls : List Str) : Nat := (ls.filter (· == doReloadCmd)).length

/-! ## the scripted device -/

inductive Form where
  | none
  /-- before the echo, followed by a fresh prompt; `pad` extra empty lines in front -/
  | before (pad : Nat)
  /-- inside the echo at an offset -/
  | inside (off : Nat)
  /-- after the output, followed by a fresh prompt -/
  | afterPrompt (pad : Nat)
  /-- after the output, no fresh prompt -/
  | after
  /-- after the COMPLETE last line of echo/output (its line feed included), `pre` extra empty lines
  before the banner (3 + `pre` line feeds in front of BEL), `post` empty lines between the banner and
  the prompt (`post = 0`: the prompt follows the banner directly), no fresh prompt -/
  | afterLine (pre post : Nat)
  deriving DecidableEq, Repr

structure Behav where
  out : Str := []
  form : Form := .none
  msg : Str := []
  deriving DecidableEq, Repr

def prompt : Str := lit "router#"

/-- The banner as the device prints it (exact bytes of `ios_simul.t`, `\r` removed). -/
def bannerText (msg : Str) : Str := lit "\n\n\n\x07***\n***" ++ msg ++ lit "\n***\n"

def nls (n : Nat) : Str := List.replicate n '\n'

/-- `strings.TrimSuffix(s, "\n")`. -/
def dropLastNL (s : Str) : Str :=
  match s.reverse with
  | '\n' :: r => r.reverse
  | _ => s

/-- What the device sends in answer to one change line. -/
def replyFor (cmd : Str) (b : Behav) : Str :=
  match b.form with
  | .none => cmd ++ ['\n'] ++ b.out ++ prompt
  | .before pad => nls pad ++ bannerText b.msg ++ ['\n'] ++ prompt ++ cmd ++ ['\n'] ++ b.out ++ prompt
  | .inside off => cmd.take off ++ bannerText b.msg ++ cmd.drop off ++ ['\n'] ++ b.out ++ prompt
  | .afterPrompt pad =>
      dropLastNL (cmd ++ ['\n'] ++ b.out) ++ nls pad ++ bannerText b.msg ++ ['\n'] ++ prompt ++ ['\n'] ++ prompt
  | .after => dropLastNL (cmd ++ ['\n'] ++ b.out) ++ bannerText b.msg ++ ['\n'] ++ prompt
  | .afterLine pre post => cmd ++ ['\n'] ++ b.out ++ nls pre ++ bannerText b.msg ++ nls post ++ prompt

def reloadParts (withDo : Bool) : List Str :=
  [(if withDo then lit "do " else []) ++
     lit "reload in 2\n\nSystem configuration has been modified. Save? [yes/no]: ",
   lit "Reload reason: Reload Command\nProceed with reload? [confirm]",
   prompt]

/-- Standard replies (split at the places where the device reads one more line). -/
def stdReply (l : Str) : Option (List Str) :=
  if l == confCmd then
    some [lit "configure terminal\nEnter configuration commands, one per line.  End with CNTL/Z.\n" ++ prompt]
  else if l == reloadCmd then some (reloadParts false)
  else if l == doReloadCmd then some (reloadParts true)
  else if l == cancelCmd then some [lit "reload cancel\n\n\n***\n*** --- SHUTDOWN ABORTED ---\n***\n" ++ prompt]
  else if l == writeCmd then
    some [lit "write memory\nBuilding configuration...\n  Compressed configuration from 106098 bytes to 30504 bytes[OK]\n" ++ prompt]
  else none

/-- the same exchange on a device that does not ask `Save? [yes/no]` (configuration unmodified) -/
def reloadPartsNA (withDo : Bool) : List Str :=
  [(if withDo then lit "do " else []) ++ lit "reload in 2\nProceed with reload? [confirm]", prompt]

/-- Standard replies of the two dialogue variants: `noAsk = true` — `reload in 2` is answered
directly with `Proceed with reload? [confirm]`. -/
def stdReplyV (noAsk : Bool) (l : Str) : Option (List Str) :=
  if noAsk && l == reloadCmd then some (reloadPartsNA false)
  else if noAsk && l == doReloadCmd then some (reloadPartsNA true)
  else stdReply l

structure SimSt where
  /-- rest of the reply in progress: the device reads one line per part -/
  parts : List Str := []
  /-- behaviours of the change lines still to come -/
  queue : List Behav := []
  /-- occurrences of lines with a scripted (fault) reply -/
  occ : List (Str × Nat) := []
  deriving Repr

def occOf (occ : List (Str × Nat)) (l : Str) : Nat :=
  match occ.find? (·.1 == l) with
  | some (_, n) => n
  | none => 0

def occInc (occ : List (Str × Nat)) (l : Str) : List (Str × Nat) :=
  (l, occOf occ l + 1) :: occ.filter (·.1 != l)

/-- One line. `special`: scripted replies (fault injection), per line text and occurrence, the
last one repeats. -/
def simLine (special : List (Str × List (List Str))) (noAsk : Bool) (st : SimSt) (l : Str) : SimSt × Str :=
  match st.parts with
  | p :: ps => ({ st with parts := ps }, l ++ ['\n'] ++ p)
  | [] =>
    let start (st : SimSt) (r : List Str) : SimSt × Str :=
      match r with
      | [] => (st, [])
      | h :: t => ({ st with parts := t }, h)
    match special.find? (·.1 == l) with
    | some (_, rs) =>
      let k := occOf st.occ l
      start { st with occ := occInc st.occ l } (rs.getD (min k (rs.length - 1)) [])
    | none =>
      match stdReplyV noAsk l with
      | some r => start st r
      | none =>
        if isChange l then
          match st.queue with
          | b :: q => ({ st with queue := q }, replyFor l b)
          | [] => (st, replyFor l {})
        else (st, l ++ ['\n'] ++ prompt)

def simLines (special : List (Str × List (List Str))) (noAsk : Bool) (st : SimSt) : List Str → SimSt × Str
  | [] => (st, [])
  | l :: ls =>
    let (st1, o1) := simLine special noAsk st l
    let (st2, o2) := simLines special noAsk st1 ls
    (st2, o1 ++ o2)

/-- The scripted device: all lines of one `Send` are answered at once. `noAsk` selects the dialogue
variant of the reload exchange (with / without the `Save? [yes/no]` question). -/
def simDevice (special : List (Str × List (List Str))) (noAsk : Bool) : Device SimSt where
  step st s := simLines special noAsk st (splitOnNL s)

/-! ## banners on the fixed dialogue

The property speaks of the echo of ANY command.  While a reload is scheduled the session also
sends the second `configure terminal`, the deferred `end` and `reload cancel`; `wideDevice` lets a
banner ride on each of them (same five placements, applied to the line's standard answer).  The device
is "armed" from the moment it has received `reload in 2` (the marker is kept in the otherwise
unused `occ` field); before that — the seven preparation commands — and on the lines it passes
through unchanged (changes, the re-arm dialogue, empty commands, `write memory`) it is
`simDevice [] na`.  Banners on the confirmation lines of the reload dialogue are expressed with the
scripted answers (`special`) of `simDevice`. -/

def confOut : Str := lit "Enter configuration commands, one per line.  End with CNTL/Z.\n"
def cancelOut : Str := lit "\n\n***\n*** --- SHUTDOWN ABORTED ---\n***\n"

/-- the output part of the standard answer to a fixed line -/
def stdOutOf (l : Str) : Str :=
  if l == confCmd then confOut else if l == cancelCmd then cancelOut else []

/-- the fixed lines a banner may ride on -/
def isKey (l : Str) : Bool := l == confCmd || l == endCmd || l == cancelCmd

def armedMark : List (Str × Nat) := [(reloadCmd, 1)]

def wideDevice (na : Bool) (fb : Str → Option Behav) : Device SimSt where
  step st s :=
    let r := (simDevice [] na).step st s
    if s == reloadCmd then ({ r.1 with occ := armedMark }, r.2)
    else if st.occ == armedMark && isKey s then
      match fb s with
      | some b => (r.1, replyFor s { b with out := stdOutOf s })
      | none => r
    else r

end NA.Ios
