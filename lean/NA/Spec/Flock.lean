/-!
# Specification side of C12: advisory locks (`flock(2)`) and Go's `path.Base`

Core Lean only.  This file is independent of the model of the code (`NA/Model/Lock.lean`).

* `Table` — the kernel's flock table restricted to exclusive locks: per lock file (inode; here its
  name inside the one lock directory) at most one holder.  `LOCK_EX|LOCK_NB` succeeds iff the file
  has no holder; a lock disappears when its holder's open file description is closed, which the
  kernel does when the process exits or is killed (`release`).
  TRUSTED (not verified): that Linux implements exactly this.
* `base` — `path.Base` of the Go standard library, transcribed from its source; tied to the real
  function by differential execution in `harness/c12`.  Its complete characterisation for ordinary names
  (`base s = name` iff `s` spells `name`) is in `NA/Spec/FlockPath.lean`; here only the step it starts from.
-/
namespace NA.Flock

abbrev Pid := Nat

/-- Holder of the exclusive lock of every lock file. -/
abbrev Table := String → Option Pid

def Table.empty : Table := fun _ => none

/-- `flock(fd, LOCK_EX|LOCK_NB)` can succeed iff nobody holds the file. -/
def Table.free (t : Table) (f : String) : Bool := (t f).isNone

def Table.acquire (t : Table) (f : String) (i : Pid) : Table :=
  fun g => if g = f then some i else t g

/-- All open file descriptions of process `i` are closed (exit, kill, or explicit close). -/
def Table.release (t : Table) (i : Pid) : Table :=
  fun g => if t g = some i then none else t g

@[simp] theorem Table.empty_apply (f : String) : Table.empty f = none := rfl

theorem Table.free_iff (t : Table) (f : String) : t.free f = true ↔ t f = none := by
  unfold Table.free; cases t f <;> simp

@[simp] theorem Table.acquire_same (t : Table) (f : String) (i : Pid) : t.acquire f i f = some i := by
  simp [Table.acquire]

theorem Table.acquire_other (t : Table) (f g : String) (i : Pid) (h : g ≠ f) :
    t.acquire f i g = t g := by
  simp [Table.acquire, h]

theorem Table.release_eq_some (t : Table) (i j : Pid) (g : String) :
    t.release i g = some j ↔ t g = some j ∧ j ≠ i := by
  unfold Table.release
  by_cases h : t g = some i
  · simp [h]; intro hj; exact hj.symm
  · simp [h]; intro hj hji; exact h (hji ▸ hj)

theorem Table.release_of_holder (t : Table) (i : Pid) (g : String) (h : t g = some i) :
    t.release i g = none := by
  simp [Table.release, h]

theorem Table.release_none (t : Table) (i : Pid) (g : String) (h : t g = none) :
    t.release i g = none := by
  simp [Table.release, h]

/-- Process `i` closes its descriptors while `c` says whether another descriptor of the same open
file description stays open (then the lock stays). -/
theorem Table.release_unless_eq_some (t : Table) (c : Bool) (i j : Pid) (g : String) :
    (if c = true then t else t.release i) g = some j ↔ t g = some j ∧ (c = true ∨ j ≠ i) := by
  cases c
  · simp [Table.release_eq_some]
  · simp

theorem Table.release_unless_none (t : Table) (c : Bool) (i : Pid) (g : String) (h : t g = none) :
    (if c = true then t else t.release i) g = none := by
  split
  · exact h
  · exact Table.release_none t i g h

/-! ## `path.Base` (Go 1.23 `path/path.go`)

```go
func Base(path string) string {
	if path == "" { return "." }
	for len(path) > 0 && path[len(path)-1] == '/' { path = path[0 : len(path)-1] }   // strip trailing slashes
	if i := lastSlash(path); i >= 0 { path = path[i+1:] }                             // last element
	if path == "" { return "/" }                                                       // only slashes
	return path
}
``` -/

def stripTrailing (l : List Char) : List Char := (l.reverse.dropWhile (· == '/')).reverse
def lastElem (l : List Char) : List Char := (l.reverse.takeWhile (· != '/')).reverse

def baseL (l : List Char) : List Char :=
  if l = [] then ['.'] else
    let e := lastElem (stripTrailing l)
    if e = [] then ['/'] else e

def base (s : String) : String := String.ofList (baseL s.toList)

/-- After a prefix that is empty or ends in `/`, a non-empty name without a slash is the last
element; nothing is stripped. -/
theorem lastElem_stripTrailing (pre name : List Char) (hne : name ≠ []) (hs : '/' ∉ name)
    (hpre : pre = [] ∨ ∃ p, pre = p ++ ['/']) : lastElem (stripTrailing (pre ++ name)) = name := by
  have hall : ∀ a ∈ name.reverse, (a != '/') = true := by
    intro a ha
    have : a ∈ name := by simpa using ha
    simp; intro h; exact hs (h ▸ this)
  obtain ⟨x, xs, hx⟩ : ∃ x xs, name.reverse = x :: xs := by
    cases h : name.reverse with
    | nil => simp at h; exact absurd h hne
    | cons x xs => exact ⟨x, xs, rfl⟩
  have hx' : (x == '/') = false := by
    have := hall x (by simp [hx]); simpa using this
  have hstrip : stripTrailing (pre ++ name) = pre ++ name := by
    unfold stripTrailing
    rw [List.reverse_append, hx, List.cons_append, List.dropWhile_cons, hx']
    simp only [Bool.false_eq_true, if_false]
    rw [← List.cons_append, ← hx, ← List.reverse_append, List.reverse_reverse]
  rw [hstrip]
  unfold lastElem
  rw [List.reverse_append, List.takeWhile_append_of_pos hall]
  rcases hpre with rfl | ⟨p, rfl⟩ <;> simp

/-- `path.Base(pre + name) = name` for a non-empty name without a slash after such a prefix. -/
theorem baseL_append (pre name : List Char) (hne : name ≠ []) (hs : '/' ∉ name)
    (hpre : pre = [] ∨ ∃ p, pre = p ++ ['/']) : baseL (pre ++ name) = name := by
  unfold baseL
  have h1 : pre ++ name ≠ [] := by simp [hne]
  simp only [h1, if_false, lastElem_stripTrailing pre name hne hs hpre, hne]

theorem toList_ne_nil (s : String) (h : s ≠ "") : s.toList ≠ [] := by
  intro hl; apply h; rw [← String.toList_inj]; simpa using hl

end NA.Flock
