import NA.Spec.PanOs
/-
C03 round 3: the decidable fragment the whole-vsys theorems are proved on, and the execution of
a whole plan of `GetChanges` on a device with several vsys.  Used by the theorems
(`NA/Proofs/C03GrpConv.lean`, `C03Resume.lean` ff.) and by the driver, which reports for every generated pair
whether it lies in the fragment and executes the real requests with `execDevAll`.
Core Lean only.
-/
namespace NA.PanOs

/-- The decidable hypothesis of the whole-vsys theorems: no address-groups, no service-groups,
names are keys, no member twice in a source / destination list, every name the target uses is
`any` / `application-default`, a shared object or defined by the target, and the device vsys does
not define an object under a reserved or shared name. -/
def PlainPair (sh : Shared) (a b : Vsys) : Prop :=
  a.groups = [] ∧ b.groups = [] ∧ a.sgroups = [] ∧ b.sgroups = [] ∧
  (ruleNames a.rules).Nodup ∧ (ruleNames b.rules).Nodup ∧
  (a.addrs.map (·.name)).Nodup ∧ (b.addrs.map (·.name)).Nodup ∧
  (a.svcs.map (·.name)).Nodup ∧ (b.svcs.map (·.name)).Nodup ∧
  (∀ r ∈ a.rules, r.src.Nodup ∧ r.dst.Nodup) ∧ (∀ r ∈ b.rules, r.src.Nodup ∧ r.dst.Nodup) ∧
  (∀ r ∈ b.rules, (∀ x ∈ r.src ++ r.dst, x = "any" ∨ x ∈ sh ∨ x ∈ b.addrs.map (·.name)) ∧
    (∀ x ∈ r.srv, x = "any" ∨ x = "application-default" ∨ x ∈ sh ∨ x ∈ b.svcs.map (·.name))) ∧
  (∀ x ∈ a.addrs.map (·.name), x ≠ "any" ∧ x ∉ sh) ∧
  (∀ x ∈ a.svcs.map (·.name), x ≠ "any" ∧ x ≠ "application-default" ∧ x ∉ sh)

set_option synthInstance.maxSize 2048 in
instance (sh : Shared) (a b : Vsys) : Decidable (PlainPair sh a b) := by
  unfold PlainPair; infer_instance

/-- The target does not define an object under a reserved or shared name (needed only for
resuming and for idempotence: such an object would be transferred and would then shadow the
shared one). -/
def TgtNames (sh : Shared) (b : Vsys) : Prop :=
  (∀ x ∈ b.addrs.map (·.name), x ≠ "any" ∧ x ∉ sh) ∧
  (∀ x ∈ b.svcs.map (·.name), x ≠ "any" ∧ x ≠ "application-default" ∧ x ∉ sh)

instance (sh : Shared) (b : Vsys) : Decidable (TgtNames sh b) := by unfold TgtNames; infer_instance

/-- No service twice in a service list. -/
def SrvNodup (v : Vsys) : Prop := ∀ r ∈ v.rules, r.srv.Nodup

instance (v : Vsys) : Decidable (SrvNodup v) := by unfold SrvNodup; infer_instance

/-- Execute the requests of one vsys on the device, stopping at the first refusal. -/
def execDevCmds (sh : Shared) (d : Device) (vs : String) : List Cmd → Except String Device
  | [] => .ok d
  | c :: cs =>
    match execDev sh d vs c with
    | .error e => .error e
    | .ok d' => execDevCmds sh d' vs cs

/-- Execute a plan of `GetChanges` (`planDevice`: per vsys name its requests) on the device. -/
def execDevAll (sh : Shared) (d : Device) : List (String × List Cmd) → Except String Device
  | [] => .ok d
  | p :: ps =>
    match execDevCmds sh d p.1 p.2 with
    | .error e => .error e
    | .ok d' => execDevAll sh d' ps

/-! ### Equivalence modulo what a header element means (the oracle's equivalence)

`hdr` is the canonical XML of everything `rulesPair.Equal` compares besides the three lists; the
planner compares it as text.  What the rulebase MEANS is coarser: an element that is absent
means the same as the element with PAN-OS's default content.  `equiv` (text) implies `equivSem`
(`equivBy_of_equiv`), so the theorems, which give `equiv`, also give `equivSem`; the oracle judges
the real requests with `equivSem`, so a planner that pairs an absent `<rule-type>` with
`interzone` is caught, one that re-creates a rule to spell out a default is not blamed. -/

/-- Elements that mean the same as their absence. -/
def hdrDefaults : List String :=
  ["<rule-type>universal</rule-type>", "<disabled>no</disabled>", "<log-start>no</log-start>",
   "<log-end>yes</log-end>", "<negate-source>no</negate-source>",
   "<negate-destination>no</negate-destination>"]

def hdrSem (h : String) : String := hdrDefaults.foldl (fun s d => s.replace d "") h

def ruleEquivBy (f : String → String) (dv : Vsys) (dr : Rule) (tv : Vsys) (tr : Rule) : Bool :=
  f dr.hdr == f tr.hdr &&
    sameSet (addrContent dv dr.src) (addrContent tv tr.src) &&
    sameSet (addrContent dv dr.dst) (addrContent tv tr.dst) &&
    sameSet (srvContent dv dr.srv) (srvContent tv tr.srv)

def rulesEquivBy (f : String → String) (dv tv : Vsys) : List Rule → List Rule → Bool
  | [], [] => true
  | d :: ds, t :: ts => ruleEquivBy f dv d tv t && rulesEquivBy f dv tv ds ts
  | _, _ => false

def equivBy (f : String → String) (dev tgt : Vsys) : Bool := rulesEquivBy f dev tgt dev.rules tgt.rules

/-- The device vsys means what the target vsys means. -/
def equivSem (dev tgt : Vsys) : Bool := equivBy hdrSem dev tgt

theorem rulesEquivBy_of (f : String → String) (dv tv : Vsys) : ∀ (ds ts : List Rule),
    rulesEquiv dv tv ds ts = true → rulesEquivBy f dv tv ds ts = true := by
  intro ds
  induction ds with
  | nil => intro ts h; cases ts <;> simp_all [rulesEquiv, rulesEquivBy]
  | cons d ds ih =>
    intro ts h
    cases ts with
    | nil => simp [rulesEquiv] at h
    | cons t ts =>
      simp only [rulesEquiv, Bool.and_eq_true] at h
      simp only [rulesEquivBy, Bool.and_eq_true]
      refine ⟨?_, ih ts h.2⟩
      have h1 := h.1
      simp only [ruleEquiv, Bool.and_eq_true, beq_iff_eq] at h1
      simp only [ruleEquivBy, Bool.and_eq_true, beq_iff_eq]
      exact ⟨⟨⟨by rw [h1.1.1.1], h1.1.1.2⟩, h1.1.2⟩, h1.2⟩

/-- Equal header text is equal meaning. -/
theorem equivBy_of_equiv (f : String → String) (dev tgt : Vsys) (h : equiv dev tgt = true) :
    equivBy f dev tgt = true := rulesEquivBy_of f dev tgt _ _ h

/-! ### Nothing is left behind

A completed approve leaves no object in the vsys that nothing mentions: the planner removes, as its
last block of requests, every address, address-group, service and service-group of the device that
the target's rules do not need.  (Equivalence alone does not see such objects.) -/

/-- Names of the objects of `v` that no rule and no group of `v` mentions. -/
def unreferenced (v : Vsys) : List String :=
  ((v.addrs.map (·.name)) ++ (v.groups.map (·.name))).filter (fun n => !addrUsed v n) ++
    ((v.svcs.map (·.name)) ++ (v.sgroups.map (·.name))).filter (fun n => !srvUsed v n)

end NA.PanOs
