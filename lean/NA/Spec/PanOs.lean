/-
Specification side for the PAN-OS properties (C03, and the PAN-OS share of C07, C08, C10).

* decoded configuration of one vsys (`Vsys`): rules, addresses, address-groups, services,
  service-groups.  Everything the planner compares besides names and member lists is an
  opaque canonical string (`hdr` of a rule, `val` of an address or service).
* the command language (`Cmd`): the XML-API requests `set`, `edit`, `delete`, `move` the
  tool sends, one constructor per xpath shape below a vsys.
* the device: a candidate configuration per vsys; `exec` is deliberately strict
  (DESIGN.md section 4): a referenced object must exist, a referenced object cannot be
  deleted, `move … where=before dst` needs both rules, `set` on a member list merges
  (appends what is not yet there), `edit` replaces, `set` of an address or service that exists with other
  content, and of a rule that exists, is refused as not modelled.
* `equiv`: same rule sequence, addresses / groups / services compared by expanded content.

Independent of the model of the planner.  Core Lean only.
-/
namespace NA.PanOs

structure Rule where
  name : String
  hdr  : String := ""
  src  : List String := []
  dst  : List String := []
  srv  : List String := []
  deriving DecidableEq, Repr, Inhabited

/-- Address or service: name and canonical value. -/
structure Obj where
  name : String
  val  : String
  deriving DecidableEq, Repr, Inhabited

/-- Address-group or service-group. -/
structure Grp where
  name    : String
  members : List String
  deriving DecidableEq, Repr, Inhabited

structure Vsys where
  name    : String := ""
  rules   : List Rule := []
  addrs   : List Obj := []
  groups  : List Grp := []
  svcs    : List Obj := []
  sgroups : List Grp := []
  deriving DecidableEq, Repr, Inhabited

inductive Fld | src | dst | srv
  deriving DecidableEq, Repr, Inhabited

def Rule.get (r : Rule) : Fld → List String
  | .src => r.src | .dst => r.dst | .srv => r.srv

def Rule.set (r : Rule) (f : Fld) (l : List String) : Rule :=
  match f with
  | .src => { r with src := l } | .dst => { r with dst := l } | .srv => { r with srv := l }

/-- One request below `/config/devices/entry[..]/vsys/entry[..]`. -/
inductive Cmd
  | setAddr  (n v : String)                 -- set  address/entry[n]            element = value
  | editAddr (n v : String)                 -- edit address/entry[n]            element = whole entry
  | setGrp   (n : String) (ms : List String)   -- set  address-group/entry[n]/static
  | setSvc   (n v : String)
  | editSvc  (n v : String)
  | setSGrp  (n : String) (ms : List String)   -- set  service-group/entry[n]/members
  | delRule  (n : String)
  | setRule  (r : Rule)                     -- set  rules/entry[r.name]         element = value
  | move     (n dst : String)               -- move rules/entry[n] where=before dst
  | delMem   (n : String) (f : Fld) (m : String)        -- delete rules/entry[n]/f/member[text()=m]
  | addMem   (n : String) (f : Fld) (ms : List String)  -- set    rules/entry[n]/f
  | editList (n : String) (f : Fld) (ms : List String)  -- edit   rules/entry[n]/f
  | delGMem  (g m : String)                 -- delete address-group/entry[g]/static/member[text()=m]
  | delGrp   (n : String)
  | delAddr  (n : String)
  | delSGrp  (n : String)
  | delSvc   (n : String)
  | bad      (why : String)                 -- a request that has none of these shapes
  deriving DecidableEq, Repr, Inhabited

/-! ### List helpers -/

def hasName (names : List String) (n : String) : Bool := names.contains n

/-- `set` on a member list: append every member that is not yet present. -/
def mergeMembers (old new : List String) : List String :=
  new.foldl (fun acc m => if acc.contains m then acc else acc ++ [m]) old

def ruleNames (rs : List Rule) : List String := rs.map (·.name)

def findRule (rs : List Rule) (n : String) : Option Rule := rs.find? (·.name == n)

def insertBefore (dst : String) (r : Rule) : List Rule → List Rule
  | [] => [r]
  | x :: xs => if x.name == dst then r :: x :: xs else x :: insertBefore dst r xs

def modifyRule (rs : List Rule) (n : String) (f : Rule → Rule) : List Rule :=
  rs.map (fun r => if r.name == n then f r else r)

def modifyGrp (gs : List Grp) (n : String) (f : List String → List String) : List Grp :=
  gs.map (fun g => if g.name == n then { g with members := f g.members } else g)

def setVal (os : List Obj) (n v : String) : List Obj :=
  os.map (fun o => if o.name == n then { o with val := v } else o)

/-! ### References -/

/-- Names that resolve outside the vsys (`<shared>`, predefined). -/
abbrev Shared := List String

def addrRefOk (sh : Shared) (v : Vsys) (m : String) : Bool :=
  m == "any" || v.addrs.any (·.name == m) || v.groups.any (·.name == m) || sh.contains m

def srvRefOk (sh : Shared) (v : Vsys) (m : String) : Bool :=
  m == "any" || m == "application-default" || v.svcs.any (·.name == m) ||
    v.sgroups.any (·.name == m) || sh.contains m

def refOk (sh : Shared) (v : Vsys) : Fld → String → Bool
  | .srv => srvRefOk sh v
  | _ => addrRefOk sh v

/-- Is the address / address-group name mentioned by a rule or a group? -/
def addrUsed (v : Vsys) (n : String) : Bool :=
  v.rules.any (fun r => r.src.contains n || r.dst.contains n) ||
    v.groups.any (fun g => g.members.contains n)

def srvUsed (v : Vsys) (n : String) : Bool :=
  v.rules.any (fun r => r.srv.contains n) || v.sgroups.any (fun g => g.members.contains n)

/-! ### Strict execution of one request -/

def exec (sh : Shared) (v : Vsys) : Cmd → Except String Vsys
  | .setAddr n val =>
    match v.addrs.find? (·.name == n) with
    | some o => if o.val == val then .ok v else .error "set-existing-address"
    | none => .ok { v with addrs := v.addrs ++ [⟨n, val⟩] }
  | .editAddr n val =>
    if v.addrs.any (·.name == n) then .ok { v with addrs := setVal v.addrs n val }
    else .error "edit-missing-address"
  | .setSvc n val =>
    match v.svcs.find? (·.name == n) with
    | some o => if o.val == val then .ok v else .error "set-existing-service"
    | none => .ok { v with svcs := v.svcs ++ [⟨n, val⟩] }
  | .editSvc n val =>
    if v.svcs.any (·.name == n) then .ok { v with svcs := setVal v.svcs n val }
    else .error "edit-missing-service"
  | .setGrp n ms =>
    if !ms.all (addrRefOk sh v) then .error "dangling-address-reference"
    else if v.groups.any (·.name == n) then
      .ok { v with groups := modifyGrp v.groups n (fun old => mergeMembers old ms) }
    else .ok { v with groups := v.groups ++ [⟨n, mergeMembers [] ms⟩] }
  | .setSGrp n ms =>
    if !ms.all (srvRefOk sh v) then .error "dangling-service-reference"
    else if v.sgroups.any (·.name == n) then
      .ok { v with sgroups := modifyGrp v.sgroups n (fun old => mergeMembers old ms) }
    else .ok { v with sgroups := v.sgroups ++ [⟨n, mergeMembers [] ms⟩] }
  | .delRule n =>
    if (ruleNames v.rules).contains n then .ok { v with rules := v.rules.filter (·.name != n) }
    else .error "delete-missing-rule"
  | .setRule r =>
    if (ruleNames v.rules).contains r.name then .error "set-existing-rule"
    else if !(r.src.all (addrRefOk sh v) && r.dst.all (addrRefOk sh v)) then
      .error "dangling-address-reference"
    else if !r.srv.all (srvRefOk sh v) then .error "dangling-service-reference"
    else .ok { v with rules := v.rules ++ [r] }
  | .move n dst =>
    match findRule v.rules n with
    | none => .error "move-missing-rule"
    | some r =>
      if n == dst then .error "move-before-itself"
      else if !(ruleNames v.rules).contains dst then .error "move-missing-destination"
      else .ok { v with rules := insertBefore dst r (v.rules.filter (·.name != n)) }
  | .delMem n f m =>
    match findRule v.rules n with
    | none => .error "member-of-missing-rule"
    | some r =>
      if (r.get f).contains m then
        .ok { v with rules := modifyRule v.rules n (fun r => r.set f ((r.get f).filter (· != m))) }
      else .error "delete-missing-member"
  | .addMem n f ms =>
    if !(ruleNames v.rules).contains n then .error "member-of-missing-rule"
    else if !ms.all (refOk sh v f) then .error "dangling-reference"
    else .ok { v with rules := modifyRule v.rules n (fun r => r.set f (mergeMembers (r.get f) ms)) }
  | .editList n f ms =>
    if !(ruleNames v.rules).contains n then .error "member-of-missing-rule"
    else if !ms.all (refOk sh v f) then .error "dangling-reference"
    else .ok { v with rules := modifyRule v.rules n (fun r => r.set f ms) }
  | .delGMem g m =>
    match v.groups.find? (·.name == g) with
    | none => .error "member-of-missing-group"
    | some gr =>
      if gr.members.contains m then
        .ok { v with groups := modifyGrp v.groups g (fun old => old.filter (· != m)) }
      else .error "delete-missing-member"
  | .delGrp n =>
    if !v.groups.any (·.name == n) then .error "delete-missing-group"
    else if addrUsed { v with groups := v.groups.filter (·.name != n) } n then
      .error "delete-referenced-group"
    else .ok { v with groups := v.groups.filter (·.name != n) }
  | .delAddr n =>
    if !v.addrs.any (·.name == n) then .error "delete-missing-address"
    else if addrUsed v n then .error "delete-referenced-address"
    else .ok { v with addrs := v.addrs.filter (·.name != n) }
  | .delSGrp n =>
    if !v.sgroups.any (·.name == n) then .error "delete-missing-service-group"
    else if srvUsed { v with sgroups := v.sgroups.filter (·.name != n) } n then
      .error "delete-referenced-service-group"
    else .ok { v with sgroups := v.sgroups.filter (·.name != n) }
  | .delSvc n =>
    if !v.svcs.any (·.name == n) then .error "delete-missing-service"
    else if srvUsed v n then .error "delete-referenced-service"
    else .ok { v with svcs := v.svcs.filter (·.name != n) }
  | .bad why => .error ("malformed-request " ++ why)

/-- Run a script; stops at the first refused request: `(state reached, number of accepted
requests, reason of the refusal)`. -/
def execAll (sh : Shared) : Vsys → List Cmd → Vsys × Nat × Option String
  | v, [] => (v, 0, none)
  | v, c :: cs =>
    match exec sh v c with
    | .error e => (v, 0, some e)
    | .ok v' => let (w, k, e) := execAll sh v' cs; (w, k + 1, e)

/-! ### Equivalence by expanded content -/

inductive Leaf
  | val (v : String)      -- an address / service defined in the vsys, by value
  | ext (n : String)      -- `any`, `application-default`, shared object: by name
  deriving DecidableEq, Repr

/-- Content of one member of a source / destination list. -/
def expandAddr (v : Vsys) : Nat → String → List Leaf
  | 0, m => [.ext m]
  | fuel + 1, m =>
    match v.groups.find? (·.name == m) with
    | some g => g.members.flatMap (expandAddr v fuel)
    | none =>
      match v.addrs.find? (·.name == m) with
      | some o => [.val o.val]
      | none => [.ext m]

def expandSrv (v : Vsys) : Nat → String → List Leaf
  | 0, m => [.ext m]
  | fuel + 1, m =>
    match v.sgroups.find? (·.name == m) with
    | some g => g.members.flatMap (expandSrv v fuel)
    | none =>
      match v.svcs.find? (·.name == m) with
      | some o => [.val o.val]
      | none => [.ext m]

def addrContent (v : Vsys) (l : List String) : List Leaf :=
  l.flatMap (expandAddr v (v.groups.length + 1))

def srvContent (v : Vsys) (l : List String) : List Leaf :=
  l.flatMap (expandSrv v (v.sgroups.length + 1))

def sameSet (x y : List Leaf) : Bool := x.all (y.contains ·) && y.all (x.contains ·)

/-- One device rule against one target rule (names are irrelevant). -/
def ruleEquiv (dv : Vsys) (dr : Rule) (tv : Vsys) (tr : Rule) : Bool :=
  dr.hdr == tr.hdr &&
    sameSet (addrContent dv dr.src) (addrContent tv tr.src) &&
    sameSet (addrContent dv dr.dst) (addrContent tv tr.dst) &&
    sameSet (srvContent dv dr.srv) (srvContent tv tr.srv)

def rulesEquiv (dv tv : Vsys) : List Rule → List Rule → Bool
  | [], [] => true
  | d :: ds, t :: ts => ruleEquiv dv d tv t && rulesEquiv dv tv ds ts
  | _, _ => false

/-- The device vsys carries the rulebase of the target vsys. -/
def equiv (dev tgt : Vsys) : Bool := rulesEquiv dev tgt dev.rules tgt.rules

/-! ### Well-formedness of a configuration (what the device itself guarantees) -/

def allRefsOk (sh : Shared) (v : Vsys) : Bool :=
  v.rules.all (fun r => r.src.all (addrRefOk sh v) && r.dst.all (addrRefOk sh v) &&
    r.srv.all (srvRefOk sh v)) &&
  v.groups.all (fun g => g.members.all (addrRefOk sh v)) &&
  v.sgroups.all (fun g => g.members.all (srvRefOk sh v))

def nodupB (l : List String) : Bool :=
  match l with
  | [] => true
  | x :: xs => !xs.contains x && nodupB xs

/-- Names are keys: unique per kind; address and address-group share a name space, so do
service and service-group. -/
def namesOk (v : Vsys) : Bool :=
  nodupB (ruleNames v.rules) &&
  nodupB (v.addrs.map (·.name) ++ v.groups.map (·.name)) &&
  nodupB (v.svcs.map (·.name) ++ v.sgroups.map (·.name))

def listsNodup (v : Vsys) : Bool :=
  v.rules.all (fun r => nodupB r.src && nodupB r.dst && nodupB r.srv) &&
  v.groups.all (fun g => nodupB g.members) && v.sgroups.all (fun g => nodupB g.members)

/-- No group is a member of a group (Netspoc generates none; the planner says
"nested groups are not supported"). -/
def noNested (v : Vsys) : Bool :=
  v.groups.all (fun g => g.members.all (fun m => !v.groups.any (·.name == m))) &&
  v.sgroups.all (fun g => g.members.all (fun m => !v.sgroups.any (·.name == m)))

def wellFormed (sh : Shared) (v : Vsys) : Bool :=
  allRefsOk sh v && namesOk v && listsNodup v

/-! ### The whole device: several vsys; a request carries the name of its vsys -/

abbrev Device := List Vsys

def execDev (sh : Shared) (d : Device) (vs : String) (c : Cmd) : Except String Device :=
  match d.find? (·.name == vs) with
  | none => .error "unknown-vsys"
  | some _ =>
    d.mapM (fun v => if v.name == vs then exec sh v c else .ok v)

end NA.PanOs
