import NA.Spec.Flock
/-!
# C12 — every spelling of a device gives the same lock file

`device.SetLock(fname, cfg)` locks `path.Join(path.Join(cfg.BaseDir, "lock"), path.Base(fname))`.
This file characterises `path.Base` (`NA.Flock.baseL`, transcribed in `NA/Spec/Flock.lean`) completely
for ordinary names and models the whole derivation (`lockPath`).

* `SpellsL name s` — `s` is a spelling of the device `name`: anything (empty, or ending in `/`:
  a relative or absolute directory, with `ipv6/`, `./`, `../`, doubled slashes … inside), then the
  name, then any number of trailing slashes.
* `baseL_eq_iff` — for a non-empty name without `/` other than `.`:
  `path.Base s = name` **iff** `s` is a spelling of `name`.  So all spellings of one device share a
  lock file and spellings of different devices never do.
* `lockPath` — the full path, including the three degenerate results of `path.Base` (`.`, `/`, `..`),
  for a clean absolute `basedir`; tied to the real `device.SetLock` by `harness/c12`
  (`fh.Name()` of the file it returns, random and bounded-exhaustive arguments).
Core Lean only.
-/
namespace NA.Flock

def AllSlash (l : List Char) : Prop := ∀ c ∈ l, c = '/'

instance (l : List Char) : Decidable (AllSlash l) := by unfold AllSlash; infer_instance

/-- `s = pre ++ name ++ slashes`, `pre` empty or ending in `/`. -/
def SpellsL (name s : List Char) : Prop :=
  ∃ pre sl, s = pre ++ name ++ sl ∧ AllSlash sl ∧ (pre = [] ∨ ∃ p, pre = p ++ ['/'])

/-- trailing slashes are invisible to `stripTrailing` -/
theorem stripTrailing_append (l sl : List Char) (h : AllSlash sl) :
    stripTrailing (l ++ sl) = stripTrailing l := by
  unfold stripTrailing
  rw [List.reverse_append, List.dropWhile_append_of_pos]
  intro a ha; simp [h a (by simpa using ha)]

theorem baseL_append_slashes (l sl : List Char) (hl : l ≠ []) (h : AllSlash sl) :
    baseL (l ++ sl) = baseL l := by
  unfold baseL
  have : l ++ sl ≠ [] := by simp [hl]
  simp only [this, hl, if_false, stripTrailing_append l sl h]

/-- **Every spelling gives the name.** -/
theorem baseL_of_spells (name s : List Char) (hne : name ≠ []) (hs : '/' ∉ name) (h : SpellsL name s) :
    baseL s = name := by
  obtain ⟨pre, sl, rfl, hsl, hpre⟩ := h
  have hne' : pre ++ name ≠ [] := by simp [hne]
  rw [baseL_append_slashes _ _ hne' hsl]
  exact baseL_append pre name hne hs hpre

theorem mem_takeWhile_sat (p : Char → Bool) (l : List Char) (c : Char) (h : c ∈ l.takeWhile p) :
    p c = true := by
  induction l with
  | nil => simp at h
  | cons a l ih =>
    simp only [List.takeWhile_cons] at h
    split at h
    · rcases List.mem_cons.1 h with rfl | h'
      · assumption
      · exact ih h'
    · simp at h

/-- what `takeWhile`/`dropWhile` on the reversed list say about the list itself -/
theorem split_trailing (p : Char → Bool) (l : List Char) :
    ∃ front back, l = front ++ back ∧ back.reverse = l.reverse.takeWhile p ∧
      front.reverse = l.reverse.dropWhile p := by
  refine ⟨(l.reverse.dropWhile p).reverse, (l.reverse.takeWhile p).reverse, ?_, by simp, by simp⟩
  have := List.takeWhile_append_dropWhile (p := p) (l := l.reverse)
  have h2 := congrArg List.reverse this
  simp only [List.reverse_append, List.reverse_reverse] at h2
  exact h2.symm

/-- **Only spellings give the name.** -/
theorem spells_of_baseL (name s : List Char) (hs : '/' ∉ name) (hdot : name ≠ ['.'])
    (h : baseL s = name) : SpellsL name s := by
  unfold baseL at h
  by_cases hnil : s = []
  · simp [hnil] at h; exact absurd h.symm hdot
  · simp only [hnil, if_false] at h
    -- trailing slashes
    obtain ⟨t, sl, hts, hslr, htr⟩ := split_trailing (· == '/') s
    have hstrip : stripTrailing s = t := by
      unfold stripTrailing; rw [← htr]; simp
    have hsl : AllSlash sl := by
      intro c hc
      have : c ∈ s.reverse.takeWhile (· == '/') := by rw [← hslr]; simpa using hc
      have := mem_takeWhile_sat _ _ _ this
      simpa using this
    rw [hstrip] at h
    -- last element
    obtain ⟨pre, e, hpe, her, hprer⟩ := split_trailing (· != '/') t
    have hlast : lastElem t = e := by
      unfold lastElem; rw [← her]; simp
    rw [hlast] at h
    have he : e = name := by
      by_cases hem : e = []
      · simp [hem] at h; exact absurd (h ▸ List.mem_singleton.2 rfl) hs
      · simpa [hem] using h
    subst he
    refine ⟨pre, sl, by rw [hts, hpe], hsl, ?_⟩
    cases hx : t.reverse.dropWhile (· != '/') with
    | nil =>
      left
      have : pre.reverse = [] := by rw [hprer, hx]
      simpa using this
    | cons x xs =>
      right
      have hx' : x = '/' := by
        have := List.head_dropWhile_not (· != '/') (l := t.reverse) (by rw [hx]; simp)
        simpa [hx] using this
      refine ⟨xs.reverse, ?_⟩
      have : pre.reverse = x :: xs := by rw [hprer, hx]
      have := congrArg List.reverse this
      simpa [hx'] using this

/-- **The lock name is the last path element, and nothing else**: for an ordinary device name,
`path.Base s = name` iff `s` is a spelling of `name`. -/
theorem baseL_eq_iff (name s : List Char) (hne : name ≠ []) (hs : '/' ∉ name) (hdot : name ≠ ['.']) :
    baseL s = name ↔ SpellsL name s :=
  ⟨spells_of_baseL name s hs hdot, baseL_of_spells name s hne hs⟩

/-! ## Strings, and the whole derivation of `SetLock` -/

/-- `s` is a spelling of the device called `name` -/
def Spells (name s : String) : Prop := SpellsL name.toList s.toList

/-- An ordinary device name: non-empty, no slash, not `.` or `..`. -/
def DeviceName (name : String) : Prop :=
  name ≠ "" ∧ '/' ∉ name.toList ∧ name ≠ "." ∧ name ≠ ".."

instance (name : String) : Decidable (DeviceName name) := by unfold DeviceName; infer_instance

/-- Every spelling of a non-empty name without `/` has that name as its `path.Base`. -/
theorem base_of_spells (name s : String) (hne : name ≠ "") (hs : '/' ∉ name.toList) (h : Spells name s) :
    base s = name := by
  unfold base
  rw [baseL_of_spells _ _ (toList_ne_nil name hne) hs h, String.ofList_toList]

theorem base_eq_iff (name s : String) (hn : DeviceName name) : base s = name ↔ Spells name s := by
  obtain ⟨hne, hs, hdot, _⟩ := hn
  have hdot' : name.toList ≠ ['.'] := by
    intro h; apply hdot; rw [← String.toList_inj]; simpa using h
  refine ⟨fun h => spells_of_baseL _ _ hs hdot' ?_, base_of_spells name s hne hs⟩
  have := congrArg String.toList h
  simpa [base] using this

/-- `path.Join(path.Join(basedir, "lock"), path.Base(arg))` for a clean absolute `basedir` other than
`/`.  `path.Base` returns either one path element or `/`; `path.Join` cleans `.` `..` `/` away. -/
def lockPath (basedir arg : String) : String :=
  let b := base arg
  if b = "." || b = "/" then basedir ++ "/lock"
  else if b = ".." then basedir
  else basedir ++ "/lock/" ++ b

/-- **Same device, same lock** — whatever the spelling: bare name, relative or absolute path of the
code file, the `ipv6/` sub-directory, `./` or `../` components, doubled or trailing slashes. -/
theorem lockPath_of_spelling (basedir name s : String) (hn : DeviceName name) (h : Spells name s) :
    lockPath basedir s = basedir ++ "/lock/" ++ name := by
  have hb := (base_eq_iff name s hn).2 h
  obtain ⟨_, hs, hdot, hdd⟩ := hn
  have hslash : name ≠ "/" := by
    intro h; rw [h] at hs; exact hs (by decide)
  unfold lockPath
  simp [hb, hdot, hdd, hslash]

/-- **Same device, same lock; different devices, different locks**: two spellings exclude each
other iff they spell the same device. -/
theorem same_lock_iff_same_device (basedir n1 n2 s1 s2 : String) (h1 : DeviceName n1) (h2 : DeviceName n2)
    (hs1 : Spells n1 s1) (hs2 : Spells n2 s2) : lockPath basedir s1 = lockPath basedir s2 ↔ n1 = n2 := by
  rw [lockPath_of_spelling basedir n1 s1 h1 hs1, lockPath_of_spelling basedir n2 s2 h2 hs2]
  exact String.append_right_inj _

/-- concrete spellings are spellings: helper to build `Spells` from string pieces -/
theorem spells_intro (name pre sl : String) (hsl : AllSlash sl.toList)
    (hpre : pre = "" ∨ ∃ p : String, pre = p ++ "/") : Spells name (pre ++ name ++ sl) := by
  refine ⟨pre.toList, sl.toList, by simp [String.toList_append], hsl, ?_⟩
  rcases hpre with rfl | ⟨p, rfl⟩
  · left; rfl
  · right; exact ⟨p.toList, by simp [String.toList_append]⟩

end NA.Flock
