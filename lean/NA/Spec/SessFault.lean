import NA.Model.ApplyTop
/-!
# Specification side of C09: what a device-side failure is, and the trace predicates

Independent of the session programs: only the event alphabet (`Ev`, `Reply`, `Role`) is shared.

`Reply.out` is relative to what a conforming device prints for the command: `.text` means
"error text or unexpected output".
-/
namespace NA.Spec.C09
open NA.Sess NA.Apply

def specialPrompt (f : Flag) : Bool :=
  f == .password || f == .yesNo || f == .confirm || f == .saveAsk || f == .aborted || f == .hash || f == .gt

/-- the reply reaches the point the client may legitimately wait for -/
def promptArrives (r : Reply) : Bool :=
  r.arr == .full || (r.arr == .noPrompt && r.flags.any specialPrompt)

def Backend.isConsole : Backend → Bool
  | .asa | .ios | .linux => true
  | _ => false

/-- a save step is answered by a confirmation, an intermediate question, or "still pending" -/
def saveContent (r : Reply) : Bool :=
  r.flags.any fun f => f == .okMark || f == .overwrite || f == .openFailed || f == .pend || f == .jobOk
    || f == .noChanges || f == .msgEmpty

/-- The body of an HTTP reply is part of the contract except for NSX's 200 replies to its
session-creation and change requests (the API defines success there by the status code). -/
def bodyMatters (b : Backend) (ρ : Role) : Bool := !(b == .nsx && (ρ == .change || ρ == .login))

/-- net/http replays a GET (and nothing else) when a reused connection is closed before any
byte of the reply: such a close is not seen by the code. -/
def replayed (b : Backend) (ρ : Role) (r : Reply) : Bool :=
  r.arr == .closed && (b == .panos || (b == .nsx && ρ == .read))

/-- **Device-side failure as the property states it**: the device stops answering, closes,
garbles the echo, prints error text or unexpected output, answers with an HTTP error status or
a malformed body, reports a non-zero exit status, or does not confirm the save. -/
def badFull (b : Backend) (ρ : Role) (r : Reply) : Bool :=
  !promptArrives r || (!Backend.isConsole b && (!r.status200 || (!r.parses && bodyMatters b ρ)))
  -- NSX: a list request answered by a well-formed document that is not the list of the device
  -- (no `results`): in place of the configuration, like error text on a console
  || (b == .nsx && ρ == .read && !r.flags.contains .cfgGenuine)
  || (Backend.isConsole b && (!r.echoOk || r.out == .text))
  || (ρ == .probe && promptArrives r && !r.flags.contains .status0)
  || (ρ == .save && b != .linux && promptArrives r && !saveContent r)

/-- The part of `badFull` for which the property is proved: everything except error text,
unexpected output or a garbled echo in the reply to a command whose output the code does not
inspect (login, set-up and show commands, configuration retrieval, save output besides the
confirmation), except a connection close that net/http hides by replaying the request, and except
an NSX list document without `results`.
The complement is the class of findings F-C09a / F-C09b / F-C09c / F-C09d. -/
def badChecked (b : Backend) (ρ : Role) (r : Reply) : Bool :=
  (!promptArrives r && !replayed b ρ r)
  || (!Backend.isConsole b && promptArrives r && (!r.status200 || (!r.parses && bodyMatters b ρ)))
  || (Backend.isConsole b && (ρ == .change) && (!r.echoOk || r.out == .text))
  || (ρ == .probe && promptArrives r && ((Backend.isConsole b && !r.echoOk) || !r.flags.contains .status0))
  || (ρ == .save && b != .linux && promptArrives r && !saveContent r)

theorem badChecked_imp_badFull (b : Backend) (ρ : Role) (r : Reply) :
    badChecked b ρ r = true → badFull b ρ r = true := by
  intro h
  simp only [badChecked, Bool.or_eq_true, Bool.and_eq_true] at h
  simp only [badFull, Bool.or_eq_true, Bool.and_eq_true]
  -- disjunct by disjunct; only the exit-status case has to choose between two disjuncts of `badFull`
  rcases h with (((h | h) | h) | h) | h
  · exact .inl (.inl (.inl (.inl (.inl h.1))))
  · exact .inl (.inl (.inl (.inl (.inr ⟨h.1.1, h.2⟩))))
  · exact .inl (.inl (.inr ⟨h.1.1, h.2⟩))
  · rcases h.2 with he | h0
    · exact .inl (.inl (.inr ⟨he.1, .inl he.2⟩))
    · exact .inl (.inr ⟨h.1, h0⟩)
  · exact .inr h

def isBadGot (bad : Role → Reply → Bool) : Ev → Bool
  | .got ρ r => bad ρ r
  | _ => false

/-- a change command or a save step is put on the wire / a start-up file is copied -/
def isChangeOrSave : Ev → Bool
  | .sent .change _ => true
  | .sent .save _ => true
  | .sent .probe _ => false
  | .scp _ => true
  | _ => false

def faulted (bad : Role → Reply → Bool) (tr : List Ev) : Bool := tr.any (isBadGot bad)

/-- `safeFrom bad f tr`: scanning `tr` with "a failure has been seen" = `f`, no change command
or save follows a failure. -/
def safeFrom (bad : Role → Reply → Bool) : Bool → List Ev → Bool
  | _, [] => true
  | f, e :: t => !(f && isChangeOrSave e) && safeFrom bad (f || isBadGot bad e) t

/-- **no_change_after_fault ∧ no_save_after_fault** as a trace predicate. -/
def safe (bad : Role → Reply → Bool) (tr : List Ev) : Bool := safeFrom bad false tr

/-- the same, spelled out: whenever the trace splits around a bad reply, nothing after it
is a change command or a save -/
def NoChangeAfterFault (bad : Role → Reply → Bool) (tr : List Ev) : Prop :=
  ∀ pre post ρ r, tr = pre ++ .got ρ r :: post → bad ρ r = true → ∀ e ∈ post, isChangeOrSave e = false

def changeSends : List Ev → List (List String)
  | [] => []
  | .sent .change ls :: t => ls :: changeSends t
  | _ :: t => changeSends t

/-- the device confirmed the save / commit -/
def saveConfirmed (tr : List Ev) : Bool :=
  tr.any fun e => match e with
    | .got .save r => r.flags.contains .okMark || r.flags.contains .jobOk || r.flags.contains .noChanges
    | _ => false

end NA.Spec.C09
