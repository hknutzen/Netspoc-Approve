import NA.Model.LinuxStr
/-
Specification side of C05 (device semantics and kernel spelling).  Core only; independent of the
model of the code (`NA/Model/Linux.lean`); it shares only the string helpers.

* routes: the kernel table is a set of (destination, prefix length, next hop); `ip route add`
  fails if the entry exists, `ip route del` fails if it does not; the commands of one packet
  (`del … \N add …`) are one step.
* iptables: `iptables-restore FILE` replaces, atomically per `COMMIT`, every table NAMED IN THE FILE by
  the file's chains, policies and rules; tables not named stay as they are (man iptables-restore:
  without `--noflush` the previous contents "of the respective table" are flushed).  A rule must
  belong to a declared chain.
* `iptables-save` spelling of a rule (`kernelWords`) over a grammar of rules built from the options
  in the repository's test data; `userWords` is the same rule as a Netspoc or raw file may spell it.
-/
namespace NA.Linux.Spec
open NA.Linux

/-! ## routes -/

abbrev RKey := Str × Int × Str
abbrev RTable := List RKey

inductive RCmd
  | add (k : RKey)
  | del (k : RKey)
  deriving DecidableEq, Repr

def stepCmd (t : RTable) : RCmd → Option RTable
  | .add k => if k ∈ t then none else some (t ++ [k])
  | .del k => if k ∈ t then some (t.filter (· ≠ k)) else none

/-- The commands of one packet. -/
def execLine : RTable → List RCmd → Option RTable
  | t, [] => some t
  | t, c :: cs => match stepCmd t c with
    | some t' => execLine t' cs
    | none => none

/-- All states after each line (the last one is the final table); none if a command fails. -/
def execTrace : RTable → List (List RCmd) → Option (List RTable)
  | _, [] => some []
  | t, l :: ls => match execLine t l with
    | some t' => (execTrace t' ls).map (t' :: ·)
    | none => none

def execScript : RTable → List (List RCmd) → Option RTable
  | t, [] => some t
  | t, l :: ls => match execLine t l with
    | some t' => execScript t' ls
    | none => none

def dstOf (k : RKey) : Str × Int := (k.1, k.2.1)

/-- Destination `d` has a route in `t`. -/
def covered (t : RTable) (d : Str × Int) : Bool := t.any (fun k => dstOf k == d)

/-! ### which addresses a destination covers (for the step-safety oracle of C14) -/

/-- dotted quad → number -/
def ipNum (x : Str) : Option Nat :=
  match (splitChar x '.').mapM (fun w => if w.all isDigit && !w.isEmpty then some (w.foldl (fun n c => n * 10 + (c.toNat - 48)) 0) else none) with
  | some [a, b, c, d] => if a < 256 && b < 256 && c < 256 && d < 256 then some (((a * 256 + b) * 256 + c) * 256 + d) else none
  | _ => none

/-- Destination `d` (network address, prefix length) covers address `x`. -/
def coversAddr (d : Str × Int) (x : Nat) : Bool :=
  match ipNum d.1 with
  | some n => let sh := 32 - d.2.toNat; (n >>> sh) == (x >>> sh)
  | none => false

/-- Some route of the table covers `x` (the kernel then forwards by the longest such prefix). -/
def routedAddr (t : RTable) (x : Nat) : Bool := t.any fun k => coversAddr (dstOf k) x

/-- A small universe of addresses around the destinations of a table: first, last, the one before and behind, the middle. -/
def addrUniverse (t : RTable) : List Nat :=
  (t.flatMap fun k => match ipNum k.1 with
    | some n => let sz := 2 ^ (32 - k.2.1.toNat); [n, n + sz - 1, n + sz, n - 1, n + sz / 2]
    | none => []).eraseDups

/-- At most one next hop per destination. -/
def oneHopPerDst (t : RTable) : Prop := ∀ k1 ∈ t, ∀ k2 ∈ t, dstOf k1 = dstOf k2 → k1 = k2

/-- The stricter kernel: `ip route add` also fails if ANY route to the destination exists
(same table, metric and tos — which is all that Netspoc-Approve accepts). -/
def stepCmdK (t : RTable) : RCmd → Option RTable
  | .add k => if covered t (dstOf k) then none else some (t ++ [k])
  | .del k => if k ∈ t then some (t.filter (· ≠ k)) else none

/-- Under `stepCmdK` a packet `del; add` is executed command by command as well. -/
def execLineK : RTable → List RCmd → Option RTable
  | t, [] => some t
  | t, c :: cs => match stepCmdK t c with
    | some t' => execLineK t' cs
    | none => none

def execScriptK : RTable → List (List RCmd) → Option RTable
  | t, [] => some t
  | t, l :: ls => match execLineK t l with
    | some t' => execScriptK t' ls
    | none => none

/-- Reading a destination as `ip` does: `default`, `a.b.c.d` (a host), `a.b.c.d/len`. -/
def readDst (w : Str) : Option (Str × Int) :=
  if w = s "default" then some (s "0.0.0.0", 0)
  else match cutChar w '/' with
    | (a, b, true) => if b.all isDigit && !b.isEmpty then some (a, Int.ofNat (b.foldl (fun n c => n * 10 + (c.toNat - 48)) 0)) else none
    | _ => some (w, 32)

/-- One command `ip route add|del DST via HOP [dev IF]`. -/
def readRouteCmd (x : Str) : Option RCmd :=
  match fields x with
  | i :: r :: op :: d :: v :: h :: rest =>
    if i = s "ip" ∧ r = s "route" ∧ v = s "via" ∧ (rest = [] ∨ (rest.length = 2 ∧ rest.head? = some (s "dev"))) then
      match readDst d with
      | some (ip, l) =>
        if op = s "add" then some (.add (ip, l, h)) else if op = s "del" then some (.del (ip, l, h)) else none
      | none => none
    else none
  | _ => none

/-- One line of the change script as `ShowChanges` prints it (`first\N second`). -/
def readRouteLine (x : Str) : Option (List RCmd) :=
  let rec split : Str → Str → List Str
    | [], cur => [cur.reverse]
    | '\\' :: 'N' :: ' ' :: r, cur => cur.reverse :: split r []
    | c :: r, cur => split r (c :: cur)
  (split x []).mapM readRouteCmd

/-- How `ip route show` prints an entry (the harness prefixes `ip route add `). -/
def routeShow (k : RKey) (dev : Option Str) : Str :=
  let d : Str := if k.2.1 = 32 then k.1 else if k.1 = s "0.0.0.0" ∧ k.2.1 = 0 then s "default"
    else k.1 ++ ['/'] ++ (toString k.2.1).toList
  d ++ s " via " ++ k.2.2 ++ (match dev with | some i => s " dev " ++ i | none => [])

/-! ## iptables-restore -/

/-- A line of a restore file. -/
inductive RLn
  | table (name : Str)
  | chain (name policy : Str)
  | rule (chain : Str) (text : Str)
  | commit
  deriving DecidableEq, Repr

structure KChain where
  name : Str
  policy : Str
  rules : List Str          -- rule texts in order
  deriving DecidableEq, Repr

structure KTable where
  name : Str
  chains : List KChain
  deriving DecidableEq, Repr

/-- The kernel's rule sets: at most one entry per table name. -/
abbrev KState := List KTable

def addRule (cs : List KChain) (c : Str) (text : Str) : Option (List KChain) :=
  match cs with
  | [] => none
  | k :: ks => if k.name = c then some ({ k with rules := k.rules ++ [text] } :: ks)
               else (addRule ks c text).map (k :: ·)

/-- Lines of one table up to COMMIT: (chains so far) → result and remaining lines. -/
def loadTable : List RLn → List KChain → Option (List KChain × List RLn)
  | [], _ => none                                   -- missing COMMIT
  | .commit :: rest, cs => some (cs, rest)
  | .chain n p :: rest, cs =>
    if cs.any (·.name = n) then none else loadTable rest (cs ++ [{ name := n, policy := p, rules := [] }])
  | .rule c t :: rest, cs => match addRule cs c t with
    | some cs' => loadTable rest cs'
    | none => none                                  -- rule for an undeclared chain
  | .table _ :: _, _ => none                        -- new table before COMMIT

def replaceTable (st : KState) (t : KTable) : KState :=
  if st.any (·.name = t.name) then st.map (fun x => if x.name = t.name then t else x) else st ++ [t]

/-- `iptables-restore`: fuel = number of lines. -/
def restoreAux : Nat → KState → List RLn → Option KState
  | _, st, [] => some st
  | 0, _, _ :: _ => none
  | fuel + 1, st, .table n :: rest =>
    match loadTable rest [] with
    | some (cs, rest') => restoreAux fuel (replaceTable st { name := n, chains := cs }) rest'
    | none => none
  | _, _, _ :: _ => none                             -- chain, rule or COMMIT outside a table

def restore (st : KState) (f : List RLn) : Option KState := restoreAux f.length st f

def KState.get (st : KState) (t : Str) : Option KTable := st.find? (·.name = t)
def KTable.get (t : KTable) (c : Str) : Option KChain := t.chains.find? (·.name = c)

/-! ## the grammar of rules and its two spellings -/

inductive Proto
  | tcp | udp | icmp | vrrp | ipv6icmp
  | num (n : Str)            -- any other protocol, by number; printed as a number by the kernel
  deriving DecidableEq, Repr

inductive St | invalid | new | related | established | untracked
  deriving DecidableEq, Repr

def St.name : St → Str
  | .invalid => s "INVALID" | .new => s "NEW" | .related => s "RELATED"
  | .established => s "ESTABLISHED" | .untracked => s "UNTRACKED"

/-- The order in which the state match prints its set. -/
def kernelStateOrder : List St := [.invalid, .new, .related, .established, .untracked]

inductive Ports
  | one (p : Str)
  | range (lo hi : Str)
  deriving DecidableEq, Repr

/-- Where the user puts a negation: `! -s X` or `-s ! X` (the kernel prints the first form). -/
inductive Neg | no | before | after
  deriving DecidableEq, Repr

def Neg.isNeg : Neg → Bool
  | .no => false | _ => true

/-- One option of a rule: semantic content plus spelling hints (fields named `h…`). -/
inductive AOpt
  | src (neg : Neg) (ip len : Str) (hSlash32 : Bool)
  | dst (neg : Neg) (ip len : Str) (hSlash32 : Bool)
  | inIf (neg : Neg) (name : Str)
  | proto (neg : Neg) (p : Proto) (hUpper hNum : Bool)
  | sport (ps : Ports) (hZeros : Nat) (hOpen : Bool)
  | dport (ps : Ports) (hZeros : Nat) (hOpen : Bool)
  | syn (neg : Bool) (hFlags : Bool)
  | icmpType (t : Str)
  | mExplicit (name : Str)
  | state (l : List St)
  | jump (t : Str)
  | goto (t : Str)
  | logLevel (lvl : Str) (hDebug : Bool)
  /-- `MARK`: value and mask as the kernel holds them (lower case hex digits); the user's text `hVal`
  behind `--set-mark` (`hXmark = false`) or `--set-xmark` -/
  | setMark (hex mask : Str) (hXmark : Bool) (hVal : Str)
  | toSource (ip : Str)
  deriving DecidableEq, Repr

abbrev ARule := List AOpt

/-- One option as words: negation placement, key, arguments. -/
structure OptW where
  neg : Neg
  key : Str
  args : List Str
  deriving DecidableEq, Repr

def OptW.words (o : OptW) : List Str :=
  match o.neg with
  | .no => o.key :: o.args
  | .before => ['!'] :: o.key :: o.args
  | .after => o.key :: ['!'] :: o.args

/-- The value the option denotes: negation mark followed by the arguments. -/
def OptW.value (o : OptW) : Str := (if o.neg.isNeg then ['!'] else []) ++ joinWith [' '] o.args

def upperC (c : Char) : Char := if 'a' ≤ c ∧ c ≤ 'z' then Char.ofNat (c.toNat - 32) else c

def Proto.kname (names : Bool) : Proto → Str
  | .tcp => s "tcp" | .udp => s "udp" | .icmp => s "icmp"
  | .vrrp => if names then s "vrrp" else s "112"
  | .ipv6icmp => if names then s "ipv6-icmp" else s "58"
  | .num n => n

def Proto.uname (p : Proto) (upper num : Bool) : Str :=
  let n := p.kname (!num)
  if upper then n.map upperC else n

def zeros (n : Nat) : Str := List.replicate n '0'

def Ports.user : Ports → Nat → Bool → Str
  | .one p, z, _ => zeros z ++ p
  | .range lo hi, z, opn =>
    (if opn && lo = ['0'] then [] else zeros z ++ lo) ++ [':'] ++ (if opn && hi = s "65535" then [] else hi)

def Ports.kernel : Ports → Str
  | .one p => p
  | .range lo hi => lo ++ [':'] ++ hi

def synFlags : List Str := [s "FIN,SYN,RST,ACK", s "SYN"]

def b2neg (b : Bool) : Neg := if b then .before else .no

/-- The user's spelling of an option. -/
def AOpt.user : AOpt → OptW
  | .src n ip len h => ⟨n, s "-s", [if len = s "32" ∧ !h then ip else ip ++ ['/'] ++ len]⟩
  | .dst n ip len h => ⟨n, s "-d", [if len = s "32" ∧ !h then ip else ip ++ ['/'] ++ len]⟩
  | .inIf n name => ⟨n, s "-i", [name]⟩
  | .proto n p u num => ⟨n, s "-p", [p.uname u num]⟩
  | .sport ps z o => ⟨.no, s "--sport", [ps.user z o]⟩
  | .dport ps z o => ⟨.no, s "--dport", [ps.user z o]⟩
  | .syn n f => if f then ⟨b2neg n, s "--tcp-flags", synFlags⟩ else ⟨b2neg n, s "--syn", []⟩
  | .icmpType t => ⟨.no, s "--icmp-type", [t]⟩
  | .mExplicit name => ⟨.no, s "-m", [name]⟩
  | .state l => ⟨.no, s "--state", [joinWith [','] (l.map St.name)]⟩
  | .jump t => ⟨.no, s "-j", [t]⟩
  | .goto t => ⟨.no, s "-g", [t]⟩
  | .logLevel lvl d => ⟨.no, s "--log-level", [if d ∧ lvl = s "7" then s "debug" else lvl]⟩
  | .setMark _ _ x v => ⟨.no, if x then s "--set-xmark" else s "--set-mark", [v]⟩
  | .toSource ip => ⟨.no, s "--to-source", [ip]⟩

/-- Parameters of the device's iptables: does it print names for protocols 112 and 58
(`getprotobynumber` finds them in /etc/protocols) or numbers. -/
structure KCfg where
  protoNames : Bool := true
  deriving DecidableEq, Repr

/-- The kernel's spelling of an option (negation always in front of the key). -/
def AOpt.kernel (cfg : KCfg) : AOpt → OptW
  | .src n ip len _ => ⟨b2neg n.isNeg, s "-s", [ip ++ ['/'] ++ len]⟩
  | .dst n ip len _ => ⟨b2neg n.isNeg, s "-d", [ip ++ ['/'] ++ len]⟩
  | .inIf n name => ⟨b2neg n.isNeg, s "-i", [name]⟩
  | .proto n p _ _ => ⟨b2neg n.isNeg, s "-p", [p.kname cfg.protoNames]⟩
  | .sport ps _ _ => ⟨.no, s "--sport", [ps.kernel]⟩
  | .dport ps _ _ => ⟨.no, s "--dport", [ps.kernel]⟩
  | .syn n _ => ⟨b2neg n, s "--tcp-flags", synFlags⟩
  | .icmpType t => ⟨.no, s "--icmp-type", [t]⟩
  | .mExplicit name => ⟨.no, s "-m", [lower name]⟩
  | .state l => ⟨.no, s "--state", [joinWith [','] ((kernelStateOrder.filter (· ∈ l)).map St.name)]⟩
  | .jump t => ⟨.no, s "-j", [t]⟩
  | .goto t => ⟨.no, s "-g", [t]⟩
  | .logLevel lvl _ => ⟨.no, s "--log-level", [lvl]⟩
  | .setMark hex mask _ _ => ⟨.no, s "--set-xmark", [s "0x" ++ hex ++ s "/0x" ++ mask]⟩
  | .toSource ip => ⟨.no, s "--to-source", [ip]⟩

/-- Position of an option in the kernel's printing order. -/
def AOpt.rank : AOpt → Nat
  | .src .. => 0 | .dst .. => 1 | .inIf .. => 2 | .proto .. => 3
  | .mExplicit .. => 5 | .sport .. => 6 | .dport .. => 7 | .syn .. => 8 | .icmpType .. => 9
  | .state .. => 10 | .jump .. => 20 | .goto .. => 20 | .logLevel .. => 21 | .setMark .. => 21 | .toSource .. => 21

/-- Is this a protocol match option (the kernel loads and prints `-m <proto>` for it)? -/
def AOpt.isProtoMatch : AOpt → Bool
  | .sport .. | .dport .. | .syn .. | .icmpType .. => true
  | _ => false

/-- The (un-negated) protocol of the rule, in kernel spelling. -/
def protoOf (cfg : KCfg) : ARule → Option Str
  | [] => none
  | .proto .no p _ _ :: _ => some (p.kname cfg.protoNames)
  | _ :: r => protoOf cfg r

/-- Head options (`-s -d -i -p`) are printed first, in that order. -/
def AOpt.isHead : AOpt → Bool
  | .src .. | .dst .. | .inIf .. | .proto .. => true
  | _ => false

/-- Target and target options are printed last. -/
def AOpt.isTarget : AOpt → Bool
  | .jump .. | .goto .. | .logLevel .. | .setMark .. | .toSource .. => true
  | _ => false

/-- `-m <name>` naming the rule's own protocol. -/
def isPM (pn : Option Str) : AOpt → Bool
  | .mExplicit n => some (lower n) == pn
  | _ => false

/-- Options that belong to the protocol match. -/
def inPG (pn : Option Str) (o : AOpt) : Bool := o.isProtoMatch || isPM pn o

/-- Options of the other matches (`-m state --state …`). -/
def inOG (pn : Option Str) (o : AOpt) : Bool := !o.isHead && !o.isTarget && !inPG pn o

def byRank (l : List AOpt) : List AOpt := isort (fun a b => decide (a.rank ≤ b.rank)) l

/-- The protocol match and its options: `-m <proto>` is printed once if anything loaded the match. -/
def protoGroup (pn : Option Str) (loaded : Bool) (pOpts : List OptW) : List OptW :=
  match pn with
  | some p => if loaded then ⟨.no, s "-m", [p]⟩ :: pOpts else pOpts
  | none => pOpts

/-- The kernel's option list.  Head options in fixed order; then the matches in the order in which
the user's line loaded them, each followed by its own options: the protocol match (loaded by an
explicit `-m <proto>` or implicitly by the first port, flag or icmp-type option; printed once as
`-m <proto>`) and the other matches (`-m state --state …`); then target and target options. -/
def kernelOpts (cfg : KCfg) (r : ARule) : List OptW :=
  let pn := protoOf cfg r
  let head := (byRank (r.filter AOpt.isHead)).map (AOpt.kernel cfg)
  let pOpts := (byRank (r.filter AOpt.isProtoMatch)).map (AOpt.kernel cfg)
  let pGroup := protoGroup pn (r.any (inPG pn)) pOpts
  let oGroup := (r.filter (inOG pn)).map (AOpt.kernel cfg)
  let tgt := (byRank (r.filter AOpt.isTarget)).map (AOpt.kernel cfg)
  let pFirst := r.findIdx (inPG pn) ≤ r.findIdx (inOG pn)
  head ++ (if pFirst then pGroup ++ oGroup else oGroup ++ pGroup) ++ tgt

def userOpts (r : ARule) : List OptW := r.map AOpt.user

/-- The words of the rule behind `-A chain`. -/
def userWords (r : ARule) : List Str := (userOpts r).flatMap OptW.words
def kernelWords (cfg : KCfg) (r : ARule) : List Str := (kernelOpts cfg r).flatMap OptW.words

def ruleText (chain : Str) (ws : List Str) : Str := joinWith [' '] (s "-A" :: chain :: ws)

/-! ### well-formedness of grammar elements (decidable; checked on every generated rule) -/

def canonNum (d : Str) : Bool := !d.isEmpty && d.all isDigit && (d == ['0'] || d.head? != some '0')

/-- A plain argument token: non-empty, no white space, does not look like a key or a negation. -/
def plainTok (w : Str) : Bool :=
  !w.isEmpty && !w.any isSpace && w.head? != some '-' && w != ['!'] && w.head? != some '!'

def ipTok (w : Str) : Bool := plainTok w && w.all (fun c => isDigit c || c == '.')

def Ports.wf : Ports → Bool
  | .one p => canonNum p
  | .range lo hi => canonNum lo && canonNum hi && lo != hi && !(lo == ['0'] && hi == s "65535")

def markNorm (v : Str) : Option Int :=
  let v := lower v
  parseInt32 ((cutSuffix v (s "/0xffffffff")).getD v)

def AOpt.wf : AOpt → Bool
  | .src _ ip len _ | .dst _ ip len _ => ipTok ip && canonNum len
  | .inIf _ name => plainTok name
  | .proto n p _ hNum =>
    (match p with
     | .num d => canonNum d && !hNum && !([s "1", s "6", s "17", s "58", s "112"].contains d)   -- those have names
     | .vrrp | .ipv6icmp => !n.isNeg | _ => !hNum)
  | .sport ps _ _ | .dport ps _ _ => ps.wf
  | .syn _ _ => true
  | .icmpType t => plainTok t && t.all (fun c => isDigit c || c == '/')
  | .mExplicit name => name = s "state" || lower name = s "tcp" || lower name = s "udp" || lower name = s "icmp"
  | .state l => !l.isEmpty && decide l.Nodup
  | .jump t | .goto t => plainTok t
  | .logLevel lvl _ => canonNum lvl
  | .setMark hex mask x v =>
    -- only the default mask is inside the grammar: with another mask the kernel prints
    -- `--set-xmark v/m`, which the code neither renames nor rewrites (F-C05k)
    plainTok v && hex.all (fun c => isDigit c || ('a' ≤ c && c ≤ 'f')) &&
    (markNorm v).isSome && markNorm v == markNorm (s "0x" ++ hex ++ s "/0xffffffff") &&
    (!x || (let (_, m, f) := cutChar v '/'; !f || lower m == s "0xffffffff")) &&
    mask == s "ffffffff"
  | .toSource ip => ipTok ip

def nodupKeys (l : List OptW) : Bool := decide (l.map (·.key)).Nodup

/-- A rule of the grammar: every option well formed and no option key repeated in either
spelling (the pair map of the code keeps only the last value of a key). -/
def ARule.wf (cfg : KCfg) (r : ARule) : Bool :=
  r.all AOpt.wf && nodupKeys (userOpts r) && nodupKeys (kernelOpts cfg r)

/-- The meaning of one option: what the kernel holds for it — its key and value in the kernel's
(canonical) spelling; for `MARK` the value as a NUMBER (`0xf` and `0x0f` are the same mark) and the mask. -/
def semEntry (cfg : KCfg) : AOpt → Str × Str
  | .setMark hex mask _ _ =>
    let t := s "0x" ++ hex ++ s "/0x" ++ mask
    (s "--set-xmark", match markNorm t with | some n => intToStr n | none => t)
  | a => ((a.kernel cfg).key, (a.kernel cfg).value)

/-- The meaning of a rule: the set of its options' meanings — its match set and its target.
A `-m <proto>` that only names the rule's own protocol matches nothing by itself and is left out. -/
def semEntries (cfg : KCfg) (r : ARule) : List (Str × Str) :=
  (r.filter fun a => !isPM (protoOf cfg r) a).map (semEntry cfg)

/-- Two rules are equivalent: the same set of option meanings. -/
def semEqRule (cfg : KCfg) (r1 r2 : ARule) : Bool :=
  (semEntries cfg r1).all (· ∈ semEntries cfg r2) && (semEntries cfg r2).all (· ∈ semEntries cfg r1)

end NA.Linux.Spec
