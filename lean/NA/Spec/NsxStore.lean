/-
Specification side for the NSX backend (C04, NSX share of C07/C08/C10): the data an NSX-T
manager holds for the fragment Netspoc manages, a STRICT executor of the policy REST verbs on
an object store keyed by id, and the decidable predicates of the direct oracle
(equivalence, left-overs, frame, scope).  Core Lean only; independent of the model of the
planner (`NA/Model/NsxDiff.lean`), which shares the data types declared here, the look-ups by id
(`findGroupLast`, `findService`, `findPolicy`), `compactAttrs` and the insertion sort `isort`.

Strictness (deliberate, see DESIGN.md section 4):
* PUT creates; a PUT on an existing object is rejected (the manager demands the current
  `_revision` for an update and the planner never sends one for objects it believes new);
* PATCH / POST / DELETE need the object; a group or service that a rule still refers to
  cannot be deleted; a rule may only refer to groups and services that exist;
* `?action=remove` needs every address to be present, `?action=add` every address to be absent;
* an IP address expression never becomes empty (ASSUMPTION about the manager: `ip_addresses` of an
  `IPAddressExpression` has `minItems: 1` in the NSX-T policy API; a PUT / PATCH with an empty list
  and a `?action=remove` that would remove the last address are refused).
-/
namespace NA.Nsx

/-! ### Strings -/

def hasPrefix (p s : String) : Bool := p.toList.isPrefixOf s.toList

/-- `strings.CutPrefix`. -/
def cutPrefix (p s : String) : Option String :=
  if hasPrefix p s then some (String.ofList (s.toList.drop p.toList.length)) else none

def netspoc : String := "Netspoc"
def gpp : String := "/infra/domains/default/groups/"
def spp : String := "/infra/services/"
def groupPath (id : String) : String := gpp ++ id
def servicePath (id : String) : String := spp ++ id
def groupRef (p : String) : Option String := cutPrefix gpp p
def serviceRef (p : String) : Option String := cutPrefix spp p
def managed (id : String) : Bool := hasPrefix netspoc id

/-- JSON text without insignificant white space (what `json.Compact` / marshalling of an embedded
`json.RawMessage` produces): two inline `service_entries` values are the same definition iff
their compact forms agree. -/
def compactJSON (s : String) : String :=
  let rec go : List Char → Bool → Bool → List Char → List Char
    | [], _, _, acc => acc.reverse
    | c :: rest, inStr, esc, acc =>
      if inStr then
        if esc then go rest true false (c :: acc)
        else if c == '\\' then go rest true true (c :: acc)
        else if c == '"' then go rest false false (c :: acc)
        else go rest true false (c :: acc)
      else if c == ' ' || c == '\t' || c == '\n' || c == '\r' then go rest false false acc
      else if c == '"' then go rest true false (c :: acc)
      else go rest false false (c :: acc)
  String.ofList (go s.toList false false [])

/-- Stable insertion sort (kernel-reducible, so that examples can be decided). -/
def insertBy {α : Type} (le : α → α → Bool) (x : α) : List α → List α
  | [] => [x]
  | y :: ys => if le x y then x :: y :: ys else y :: insertBy le x ys

def isort {α : Type} (le : α → α → Bool) : List α → List α
  | [] => []
  | x :: xs => insertBy le x (isort le xs)

theorem insertBy_perm {α : Type} (le : α → α → Bool) (x : α) (l : List α) : (insertBy le x l).Perm (x :: l) := by
  induction l with
  | nil => exact List.Perm.refl _
  | cons y ys ih =>
    simp only [insertBy]
    by_cases h : le x y = true
    · simp [h]
    · simp only [h, Bool.false_eq_true, if_false]
      exact (List.Perm.cons y ih).trans (List.Perm.swap x y ys)

theorem isort_perm {α : Type} (le : α → α → Bool) (l : List α) : (isort le l).Perm l := by
  induction l with
  | nil => exact List.Perm.refl _
  | cons x xs ih => exact (insertBy_perm le x _).trans (List.Perm.cons x ih)

/-! ### Objects -/

/-- Everything `Equal`/`sortRules` look at besides service and the two group lists,
in the order `sortRules` compares. -/
structure Attrs where
  direction : String := "OUT"
  seq : Int := 0
  action : String := "ALLOW"
  logged : Bool := false
  tag : String := ""
  disabled : Bool := false
  dstExcl : Bool := false
  srcExcl : Bool := false
  svcEntries : String := ""
  ipProto : String := ""
  profiles : List String := []
  scope : List String := []
  deriving DecidableEq, Repr, Inhabited

structure Rule where
  id : String
  attrs : Attrs := {}
  service : String := "ANY"
  src : String := "ANY"
  dst : String := "ANY"
  rev : Nat := 0
  deriving DecidableEq, Repr, Inhabited

structure Group where
  id : String
  exprId : String := "id"
  rtype : String := "IPAddressExpression"
  addrs : List String := []
  deriving DecidableEq, Repr, Inhabited

structure Service where
  id : String
  defn : String := ""
  deriving DecidableEq, Repr, Inhabited

structure Policy where
  id : String
  rules : List Rule := []
  deriving DecidableEq, Repr, Inhabited

/-- A configuration: what a Netspoc file describes, what `LoadDevice` returns, and (with the
unmanaged objects included) the object store of the manager. -/
structure Config where
  policies : List Policy := []
  groups : List Group := []
  services : List Service := []
  deriving DecidableEq, Repr, Inhabited

abbrev Store := Config

/-- The REST calls of the fragment.  Bodies are kept structured; the harness parses the JSON
the real code emits into this form. -/
inductive Call
  | putService (id defn : String)
  | patchService (id defn : String)
  | deleteService (id : String)
  | putGroup (id exprId rtype : String) (addrs : List String)
  | postAddrs (gid exprId : String) (add : Bool) (addrs : List String)
  | patchExpr (gid exprId rtype : String) (addrs : List String)
  | deleteGroup (id : String)
  | putPolicy (id : String) (rules : List Rule)
  | deletePolicy (id : String)
  | putRule (pid rid : String) (r : Rule)
  | patchRule (pid rid : String) (r : Rule)
  | deleteRule (pid rid : String)
  deriving DecidableEq, Repr, Inhabited

/-- The object id a call addresses (the id in its URL; rules live inside their policy). -/
def Call.target : Call → String
  | .putService id _ | .patchService id _ | .deleteService id => id
  | .putGroup id _ _ _ | .postAddrs id _ _ _ | .patchExpr id _ _ _ | .deleteGroup id => id
  | .putPolicy id _ | .deletePolicy id => id
  | .putRule pid _ _ | .patchRule pid _ _ | .deleteRule pid _ => pid

/-! ### Store access -/

def findGroup (gs : List Group) (id : String) : Option Group := gs.find? (·.id == id)
def findService (ss : List Service) (id : String) : Option Service := ss.find? (·.id == id)
def findPolicy (ps : List Policy) (id : String) : Option Policy := ps.find? (·.id == id)
def findRule (rs : List Rule) (id : String) : Option Rule := rs.find? (·.id == id)

def hasGroup (S : Store) (id : String) : Bool := S.groups.any (·.id == id)
def hasService (S : Store) (id : String) : Bool := S.services.any (·.id == id)
def hasPolicy (S : Store) (id : String) : Bool := S.policies.any (·.id == id)

def epOk (S : Store) (p : String) : Bool :=
  match groupRef p with
  | some x => hasGroup S x
  | none => true

def svcOk (S : Store) (p : String) : Bool :=
  match serviceRef p with
  | some x => hasService S x
  | none => true

/-- Every group and service a rule refers to exists. -/
def refsOk (S : Store) (r : Rule) : Bool := epOk S r.src && epOk S r.dst && svcOk S r.service

def ruleUsesGroup (id : String) (r : Rule) : Bool := r.src == groupPath id || r.dst == groupPath id
def groupUsed (S : Store) (id : String) : Bool := S.policies.any (·.rules.any (ruleUsesGroup id))
def serviceUsed (S : Store) (id : String) : Bool :=
  S.policies.any (·.rules.any (·.service == servicePath id))

def idsNodup (ids : List String) : Bool :=
  match ids with
  | [] => true
  | x :: rest => !rest.contains x && idsNodup rest

/-! ### The strict executor -/

def setRules (ps : List Policy) (pid : String) (f : List Rule → List Rule) : List Policy :=
  ps.map fun p => if p.id == pid then { p with rules := f p.rules } else p

def setGroupAddrs (gs : List Group) (gid : String) (f : Group → Group) : List Group :=
  gs.map fun g => if g.id == gid then f g else g

def exec (S : Store) : Call → Except String Store
  | .putService id d =>
    if hasService S id then .error s!"PUT of existing service {id}"
    else .ok { S with services := S.services ++ [⟨id, d⟩] }
  | .patchService id d =>
    if !hasService S id then .error s!"PATCH of missing service {id}"
    else .ok { S with services := S.services.map fun s => if s.id == id then ⟨id, d⟩ else s }
  | .deleteService id =>
    if !hasService S id then .error s!"DELETE of missing service {id}"
    else if serviceUsed S id then .error s!"DELETE of referenced service {id}"
    else .ok { S with services := S.services.filter (·.id != id) }
  | .putGroup id e t addrs =>
    if hasGroup S id then .error s!"PUT of existing group {id}"
    else if addrs.isEmpty then .error s!"PUT of group {id} with an empty expression"
    else .ok { S with groups := S.groups ++ [⟨id, e, t, addrs⟩] }
  | .postAddrs gid e add addrs =>
    match findGroup S.groups gid with
    | none => .error s!"POST to missing group {gid}"
    | some g =>
      if g.exprId != e then .error s!"POST to missing expression {gid}/{e}"
      else if add then
        if addrs.any (g.addrs.contains ·) then .error s!"POST add of present address to {gid}"
        else .ok { S with groups := setGroupAddrs S.groups gid fun g => { g with addrs := g.addrs ++ addrs } }
      else
        if !addrs.all (g.addrs.contains ·) then .error s!"POST remove of absent address from {gid}"
        else if (g.addrs.filter (!addrs.contains ·)).isEmpty then
          .error s!"POST remove would leave the expression of {gid} empty"
        else .ok { S with groups := setGroupAddrs S.groups gid fun g =>
                    { g with addrs := g.addrs.filter (!addrs.contains ·) } }
  | .patchExpr gid e t addrs =>
    match findGroup S.groups gid with
    | none => .error s!"PATCH of missing group {gid}"
    | some g =>
      if g.exprId != e then .error s!"PATCH of missing expression {gid}/{e}"
      else if addrs.isEmpty then .error s!"PATCH of {gid} with an empty expression"
      else .ok { S with groups := setGroupAddrs S.groups gid fun g => { g with rtype := t, addrs := addrs } }
  | .deleteGroup id =>
    if !hasGroup S id then .error s!"DELETE of missing group {id}"
    else if groupUsed S id then .error s!"DELETE of referenced group {id}"
    else .ok { S with groups := S.groups.filter (·.id != id) }
  | .putPolicy id rules =>
    if hasPolicy S id then .error s!"PUT of existing policy {id}"
    else if !idsNodup (rules.map (·.id)) then .error s!"PUT of policy {id} with duplicate rule ids"
    else match rules.find? (!refsOk S ·) with
      | some r => .error s!"PUT of policy {id}: rule {r.id} refers to a missing object"
      | none => .ok { S with policies := S.policies ++ [⟨id, rules⟩] }
  | .deletePolicy id =>
    if !hasPolicy S id then .error s!"DELETE of missing policy {id}"
    else .ok { S with policies := S.policies.filter (·.id != id) }
  | .putRule pid rid r =>
    match findPolicy S.policies pid with
    | none => .error s!"PUT of rule in missing policy {pid}"
    | some p =>
      if p.rules.any (·.id == rid) then .error s!"PUT of existing rule {pid}/{rid}"
      else if !refsOk S r then .error s!"PUT of rule {pid}/{rid} referring to a missing object"
      else .ok { S with policies := setRules S.policies pid fun rs => rs ++ [{ r with id := rid, rev := 0 }] }
  | .patchRule pid rid r =>
    match findPolicy S.policies pid with
    | none => .error s!"PATCH of rule in missing policy {pid}"
    | some p =>
      if !p.rules.any (·.id == rid) then .error s!"PATCH of missing rule {pid}/{rid}"
      else if !refsOk S r then .error s!"PATCH of rule {pid}/{rid} referring to a missing object"
      else .ok { S with policies := setRules S.policies pid fun rs =>
                  rs.map fun x => if x.id == rid then { r with id := rid, rev := x.rev + 1 } else x }
  | .deleteRule pid rid =>
    match findPolicy S.policies pid with
    | none => .error s!"DELETE of rule in missing policy {pid}"
    | some p =>
      if !p.rules.any (·.id == rid) then .error s!"DELETE of missing rule {pid}/{rid}"
      else .ok { S with policies := setRules S.policies pid fun rs => rs.filter (·.id != rid) }

/-- Execute a script; on the first rejected call report its index, the reason and the state
reached before it. -/
def execAll (S : Store) : List Call → Nat → Except (Nat × String × Store) Store
  | [], _ => .ok S
  | c :: cs, i =>
    match exec S c with
    | .ok S' => execAll S' cs (i + 1)
    | .error e => .error (i, e, S)

/-- Plain fold used by the theorems: `none` as soon as a call is rejected. -/
def run (S : Store) : List Call → Option Store
  | [] => some S
  | c :: cs =>
    match exec S c with
    | .ok S' => run S' cs
    | .error _ => none

/-! ### Well-formed stores -/

def policyWF (S : Store) (p : Policy) : Bool :=
  idsNodup (p.rules.map (·.id)) && p.rules.all (refsOk S)

/-- Unique ids per kind, unique rule ids per policy, no dangling reference. -/
def storeWF (S : Store) : Bool :=
  idsNodup (S.policies.map (·.id)) && idsNodup (S.groups.map (·.id)) &&
  idsNodup (S.services.map (·.id)) && S.policies.all (policyWF S)

/-! ### What `LoadDevice` sees: only objects whose id carries the prefix -/

def load (S : Store) : Config :=
  { policies := S.policies.filter (managed ·.id)
    groups := S.groups.filter (managed ·.id)
    services := S.services.filter (managed ·.id) }

/-- The manager answers a listing in pages (`cursor`); `n = 0` means one page. -/
def pages {α : Type} (n : Nat) (l : List α) : List (List α) :=
  if n = 0 then [l] else
    let rec go : Nat → List α → List (List α)
      | 0, _ => []
      | fuel + 1, l => if l.length ≤ n then [l] else l.take n :: go fuel (l.drop n)
    go (l.length + 1) l

/-- `LoadDevice` with paged listings (`getRawJSON`): every page is filtered on the prefix, the
results are concatenated; the policies are listed once and fetched one by one. -/
def loadPaged (n : Nat) (S : Store) : Config :=
  { policies := S.policies.filter (managed ·.id)
    groups := (pages n S.groups).flatMap (·.filter (managed ·.id))
    services := (pages n S.services).flatMap (·.filter (managed ·.id)) }

def unmanagedPart (S : Store) : Config :=
  { policies := S.policies.filter (!managed ·.id)
    groups := S.groups.filter (!managed ·.id)
    services := S.services.filter (!managed ·.id) }

/-- C07 for NSX: the unmanaged part is untouched. -/
def frameB (S S' : Store) : Bool := unmanagedPart S == unmanagedPart S'

/-- C07 for NSX, on the script: every call addresses an object whose id carries the prefix. -/
def scopeB (cs : List Call) : Bool := cs.all (managed ·.target)

/-! ### Equivalence with the target (decidable oracle) -/

/-- Last definition wins (the planner's `groupMap`). -/
def findGroupLast (gs : List Group) (id : String) : Option Group := findGroup gs.reverse id

def canonAddrs (l : List String) : List String :=
  (isort (fun a b => decide (a ≤ b)) l).eraseDups

/-- What a source/destination entry denotes: a managed group is its address set,
anything else (address, `ANY`, group outside Netspoc's scope) its text. -/
inductive EP
  | name (s : String)
  | set (l : List String)
  deriving DecidableEq, Repr, Inhabited

def resolveEP (gs : List Group) (p : String) : EP :=
  match groupRef p with
  | some x =>
    if managed x then
      match findGroupLast gs x with
      | some g => .set (canonAddrs g.addrs)
      | none => .name p
    else .name p
  | none => .name p

/-- A managed service is compared by name and definition (first definition wins, as in
`addNewServices`), anything else by name. -/
def resolveSvc (ss : List Service) (p : String) : String × Option String :=
  match serviceRef p with
  | some x => if managed x then (p, (findService ss x).map (·.defn)) else (p, none)
  | none => (p, none)

structure RRule where
  attrs : Attrs
  service : String × Option String
  src : EP
  dst : EP
  deriving DecidableEq, Repr, Inhabited

/-- Attributes with the inline service entries in compact form. -/
def compactAttrs (a : Attrs) : Attrs := { a with svcEntries := compactJSON a.svcEntries }

def resolveRule (C : Config) (r : Rule) : RRule :=
  ⟨compactAttrs r.attrs, resolveSvc C.services r.service, resolveEP C.groups r.src, resolveEP C.groups r.dst⟩

def rulesOf (C : Config) (pid : String) : List Rule :=
  match findPolicy C.policies pid with
  | some p => p.rules
  | none => []

/-- The rules of policy `pid` agree as multisets of resolved rules. -/
def policyEquivB (S : Store) (T : Config) (pid : String) : Bool :=
  hasPolicy S pid && ((rulesOf S pid).map (resolveRule S)).isPerm ((rulesOf T pid).map (resolveRule T))

/-- The manager carries exactly the target's policies (among the managed ones) with
equivalent rules. -/
def convergedB (S : Store) (T : Config) : Bool :=
  T.policies.all (fun p => policyEquivB S T p.id) &&
  S.policies.all (fun p => !managed p.id || T.policies.any (·.id == p.id))

/-- Every target service is on the manager with the target's definition and no managed
service is left that the target does not define. -/
def servicesB (S : Store) (T : Config) : Bool :=
  T.services.all (fun t => (findService S.services t.id).map (·.defn) ==
      (findService T.services t.id).map (·.defn)) &&
  S.services.all (fun s => !managed s.id || T.services.any (·.id == s.id))

/-- No managed group is left that no rule of a target policy uses. -/
def noLeftoverGroupB (S : Store) (T : Config) : Bool :=
  S.groups.all fun g => !managed g.id ||
    S.policies.any (fun p => T.policies.any (·.id == p.id) && p.rules.any (ruleUsesGroup g.id))


/-! ### The same notions as propositions (what the theorems state)

`convergedB`, `servicesB`, `noLeftoverGroupB` above are the decision procedures the oracle runs;
the theorems are stated with the propositions below (address lists compared by membership, rule
lists up to permutation). -/

inductive Forall2 {α β : Type} (R : α → β → Prop) : List α → List β → Prop
  | nil : Forall2 R [] []
  | cons {a b l m} : R a b → Forall2 R l m → Forall2 R (a :: l) (b :: m)

/-- The managed group of the target an entry of a target rule refers to, if any. -/
def targetGroup (GT : List Group) (p : String) : Option Group :=
  match groupRef p with
  | some x => if managed x then findGroupLast GT x else none
  | none => none

/-- An entry of a rule on the manager is equivalent to an entry of a target rule: a managed
target group is matched by a managed group on the manager with the same address set, anything else by
the same text. -/
def EPEquiv (GS GT : List Group) (pS pT : String) : Prop :=
  match targetGroup GT pT with
  | some gt => ∃ n g, pS = groupPath n ∧ managed n = true ∧ findGroup GS n = some g ∧ ∀ x, x ∈ g.addrs ↔ x ∈ gt.addrs
  | none => pS = pT

def RuleEquiv (S : Store) (T : Config) (rS rT : Rule) : Prop :=
  compactAttrs rS.attrs = compactAttrs rT.attrs ∧ rS.service = rT.service ∧
  EPEquiv S.groups T.groups rS.src rT.src ∧ EPEquiv S.groups T.groups rS.dst rT.dst

/-- The manager's policy `pid` carries, in some order, one equivalent rule per target rule. -/
def PolicyEquiv (S : Store) (T : Config) (pid : String) (tr : List Rule) : Prop :=
  ∃ p L, findPolicy S.policies pid = some p ∧ p.rules.Perm L ∧ Forall2 (RuleEquiv S T) L tr

def Converged (S : Store) (T : Config) : Prop :=
  (∀ pb ∈ T.policies, PolicyEquiv S T pb.id pb.rules) ∧
  (∀ p ∈ S.policies, managed p.id = true → ∃ pb ∈ T.policies, pb.id = p.id)

def ServicesConverged (S : Store) (T : Config) : Prop :=
  (∀ t ∈ T.services, (findService S.services t.id).map (·.defn) = (findService T.services t.id).map (·.defn)) ∧
  (∀ s ∈ S.services, managed s.id = true → ∃ t ∈ T.services, t.id = s.id)

def NoLeftoverGroup (S : Store) (T : Config) : Prop :=
  ∀ g ∈ S.groups, managed g.id = true →
    ∃ p ∈ S.policies, (∃ pb ∈ T.policies, pb.id = p.id) ∧ ∃ r ∈ p.rules, ruleUsesGroup g.id r = true

end NA.Nsx
