import Lean.Meta.Tactic.Simp.RegisterCommand
/-! The simp sets of the development.  A simp attribute cannot be used in the module that registers it, so they are
registered here and filled where the tagged definitions and lemmas stand (`sess_run`: `NA/Proofs/C09Inv.lean`;
`gate_run`: `NA/Proofs/C06.lean`; `c15_vocab`: `NA/Proofs/C15.lean`). -/

/-- Running a fragment of a session program symbolically: the equations of `NA.Sess.exec` (every construct does its
step in normal mode and nothing otherwise) and of `NA.Sess.evalCond`, and what the functions of the programs that
only decode the last reply do to the state. -/
register_simp_attr sess_run

/-- Running a gate program symbolically: the equations of the interpreter `NA.Gate.exec`, of the evaluators of
guards and text expressions, and of the skeleton-only pieces of the programs. -/
register_simp_attr gate_run

/-- The definitions of the IOS session model and of the scripted device that hold string literals (the vocabulary of the
fixed dialogue, the standard answers, `simLine` and what it calls), with `NA.Ios.lit_ofList`.  Unfolding them in a closed
goal lets `lit_ofList` rewrite the literals to their characters, so that the kernel, which evaluates the goal afterwards,
decodes none (`decide_lit [c15_vocab]`). -/
register_simp_attr c15_vocab
