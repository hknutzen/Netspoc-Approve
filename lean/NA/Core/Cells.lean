/-
Merged lists ("cells") of an edit script over ACL lines, presence masks, first-match
evaluation.  DESIGN.md 5.1 / 5.2.  Core Lean only.

An edit script between the device's line list `a` and the target's list `b` is represented
by its merged list: one cell per deleted a-line (old only), inserted b-line (new only) or
kept pair (both), in script order.  `olds M = a`, `news M = b`; every intermediate device
state during an incremental change is `M` restricted to a presence mask.
-/
namespace NA.Acl

/-- An ACL line as the planners see it. `key`: identity of the normalised text (what the
Myers diff compares); `mkey`: identity modulo the `log` attribute (what move detection and the
device's duplicate-entry rule compare); `mask`: the set of packets (bits over a finite packet
universe chosen by the caller) the line matches; remarks match nothing. -/
structure Line where
  key    : Nat
  mkey   : Nat
  permit : Bool
  remark : Bool := false
  mask   : Nat := 0
  deriving DecidableEq, Repr, Inhabited

def Line.hits (l : Line) (p : Nat) : Bool := !l.remark && l.mask.testBit p

/-- First-match evaluation with implicit deny: `true` = permitted. -/
def eval : List Line → Nat → Bool
  | [], _ => false
  | l :: ls, p => if l.hits p then l.permit else eval ls p

structure Cell where
  line : Line
  old  : Bool
  new  : Bool
  deriving DecidableEq, Repr, Inhabited

def olds (M : List Cell) : List Line := (M.filter (·.old)).map (·.line)
def news (M : List Cell) : List Line := (M.filter (·.new)).map (·.line)

/-- Lines of the cells that are present under mask `μ` (parallel list of booleans). -/
def masked : List Cell → List Bool → List Line
  | c :: M, true :: μ => c.line :: masked M μ
  | _ :: M, _ :: μ => masked M μ
  | _, _ => []

/-- Number of present cells among the first `i`. This is the position (0-based line index)
of cell `i` in the device's current list. -/
def cnt : List Bool → Nat → Nat
  | _, 0 => 0
  | [], _ => 0
  | b :: μ, i + 1 => (if b then 1 else 0) + cnt μ i

def oldMask (M : List Cell) : List Bool := M.map (·.old)
def newMask (M : List Cell) : List Bool := M.map (·.new)

theorem masked_map (p : Cell → Bool) (M : List Cell) : masked M (M.map p) = (M.filter p).map (·.line) := by
  induction M with
  | nil => rfl
  | cons c M ih =>
    cases h : p c
    · rw [List.map_cons, h, List.filter_cons_of_neg (by simp [h])]; exact ih
    · rw [List.map_cons, h, List.filter_cons_of_pos h, List.map_cons]; exact congrArg _ ih

theorem masked_old (M : List Cell) : masked M (oldMask M) = olds M := masked_map (·.old) M

theorem masked_new (M : List Cell) : masked M (newMask M) = news M := masked_map (·.new) M

theorem olds_cons (c : Cell) (M : List Cell) :
    olds (c :: M) = if c.old then c.line :: olds M else olds M := by
  cases h : c.old <;> simp [olds, List.filter, h]

theorem news_cons (c : Cell) (M : List Cell) :
    news (c :: M) = if c.new then c.line :: news M else news M := by
  cases h : c.new <;> simp [news, List.filter, h]

theorem olds_append (X Y : List Cell) : olds (X ++ Y) = olds X ++ olds Y := by
  simp [olds, List.filter_append]

theorem news_append (X Y : List Cell) : news (X ++ Y) = news X ++ news Y := by
  simp [news, List.filter_append]

/-! ### Edit scripts as produced by `github.com/pkg/diff` (ranges) -/

structure Range where
  lowA : Nat
  highA : Nat
  lowB : Nat
  highB : Nat
  deriving DecidableEq, Repr, Inhabited

def Range.isInsert (r : Range) : Bool := r.lowA == r.highA
def Range.isDelete (r : Range) : Bool := r.lowB == r.highB
def Range.isEqual (r : Range) : Bool := r.highB - r.lowB == r.highA - r.lowA

/-- Walk a script from position `(ia, ib)`; `none` if it is not a valid script for `a`,`b`
(ranges not contiguous, out of bounds, or an "equal" range whose elements differ).
The order of the kind tests (insert, delete, equal) is the order the Go code uses. -/
def cellsFrom (a b : List Line) : List Range → Nat → Nat → Option (List Cell)
  | [], ia, ib => if ia == a.length && ib == b.length then some [] else none
  | r :: rs, ia, ib =>
    if r.lowA != ia || r.lowB != ib || r.highA < ia || r.highB < ib
        || a.length < r.highA || b.length < r.highB then none
    else if r.isInsert then
      (cellsFrom a b rs r.highA r.highB).map
        (((b.drop ib).take (r.highB - ib)).map (fun l => ⟨l, false, true⟩) ++ ·)
    else if r.isDelete then
      (cellsFrom a b rs r.highA r.highB).map
        (((a.drop ia).take (r.highA - ia)).map (fun l => ⟨l, true, false⟩) ++ ·)
    else if r.isEqual && (a.drop ia).take (r.highA - ia) == (b.drop ib).take (r.highB - ib) then
      (cellsFrom a b rs r.highA r.highB).map
        (((a.drop ia).take (r.highA - ia)).map (fun l => ⟨l, true, true⟩) ++ ·)
    else none

/-- `myers.Diff` reports "no commonality at all" as the two ranges `{HighA: aLen}`, `{HighB: bLen}`
(the insert range does not continue at `aLen`); that special form is accepted here. -/
def cellsOf (a b : List Line) (rs : List Range) : Option (List Cell) :=
  match rs with
  | [d, i] =>
    if d == ⟨0, a.length, 0, 0⟩ && i == ⟨0, 0, 0, b.length⟩ && a.length != 0 && b.length != 0 then
      some (a.map (fun l => ⟨l, true, false⟩) ++ b.map (fun l => ⟨l, false, true⟩))
    else cellsFrom a b rs 0 0
  | _ => cellsFrom a b rs 0 0

/-- What the sanity check of the Myers implementation guarantees, on cells: an inserted run is
never directly followed by a deleted line (changes come as "delete then insert"). -/
def normalised : List Cell → Bool
  | c :: d :: M => !(c.new && !c.old && d.old && !d.new) && normalised (d :: M)
  | _ => true

end NA.Acl
