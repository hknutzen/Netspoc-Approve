/-!
# Closed facts about string literals

The models read texts as lists of characters (`String.toList`, which some of them rename). A `String`
is an array of bytes, and `String.toList` applied to a literal decodes its UTF-8 bytes one by one, in the
elaborator and again in the kernel, at every occurrence. A literal is by definition `String.ofList` of its
characters, so `String.toList_ofList` yields them at once.
-/

/-- `decide_lit` decides a closed goal by kernel evaluation after writing the string literals under
`String.toList` as lists of characters; `decide_lit [r₁, …]` also rewrites with `r₁, …` (the equation of a
model's own name for `String.toList` on `String.ofList l`). Definitions in the list are unfolded, so that the
literals inside them are reached: a goal about a model's vocabulary names the (non-recursive) definitions that hold it, and
the kernel decodes nothing. `simp -index`: a literal is not indexed as `String.ofList _`. Where nothing is left to decide
after the rewriting, nothing is decided. -/
syntax "decide_lit" (" [" Lean.Parser.Tactic.simpLemma,* "]")? : tactic

macro_rules
  | `(tactic| decide_lit) => `(tactic| ((try simp -index only [String.toList_ofList]) <;> decide +kernel))
  | `(tactic| decide_lit [$rs,*]) =>
    `(tactic| ((try simp -index only [String.toList_ofList, $rs,*]) <;> decide +kernel))
