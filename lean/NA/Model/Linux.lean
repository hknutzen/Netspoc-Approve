import NA.Model.LinuxStr
/-
Model of `go/pkg/linux` (parse.go, diff.go, the printing part of device.go) for property C05.
Core Lean only; executable; mirrors what the code DOES.

* Go maps are association lists with unique keys (`setA` replaces in place or appends); every place
  where the Go code iterates a map in sorted key order does so here too; where `diffIPTables` compares the
  values of two rules it yields ALL keys whose values differ, of which the code reports the first.
* `errlog.Abort` is `Except.error` carrying the message text (without the `ERROR>>> ` marker).
-/
namespace NA.Linux

/-! ## association lists -/

def getA (k : Str) : List (Str × β) → Option β
  | [] => none
  | (k', v) :: r => if k' = k then some v else getA k r

def setA (k : Str) (v : β) : List (Str × β) → List (Str × β)
  | [] => [(k, v)]
  | (k', v') :: r => if k' = k then (k, v) :: r else (k', v') :: setA k v r

def eraseA (k : Str) : List (Str × β) → List (Str × β)
  | [] => []
  | (k', v') :: r => if k' = k then eraseA k r else (k', v') :: eraseA k r

def keysA (m : List (Str × β)) : List Str := m.map (·.1)

def hasA (k : Str) (m : List (Str × β)) : Bool := (getA k m).isSome

/-! ## routes (parse.go parseRoutes, diff.go diffRoutes) -/

structure Route where
  ip : Str
  plen : Int
  hop : Str
  orig : Str
  deriving DecidableEq, Repr, Inhabited

/-- `spec` of the Go code: (ip, prefix, hop). -/
abbrev RKey := Str × Int × Str
/-- `dst` of the Go code. -/
abbrev RDst := Str × Int

def Route.key (r : Route) : RKey := (r.ip, r.plen, r.hop)
def Route.dst (r : Route) : RDst := (r.ip, r.plen)
def RKey.dst (k : RKey) : RDst := (k.1, k.2.1)

/-- regexp ` proto (?:kernel|boot|[0-9]+)` (unanchored). -/
def matchProtoIgnored : Str → Bool
  | [] => false
  | x@(_ :: xs) =>
    (match cutPrefix x (s " proto ") with
     | some r => hasPrefix r (s "kernel") || hasPrefix r (s "boot") ||
                 (match r with | c :: _ => isDigit c | [] => false)
     | none => false) || matchProtoIgnored xs

def parseRoute (line : Str) : Except Str (Option Route) :=
  let bad : Except Str (Option Route) := .error (s "Unexpected route: " ++ line)
  match cutPrefix line (s "ip route add ") with
  | none => bad
  | some rest =>
    if contains rest (s " scope link") then .ok none
    else if matchProtoIgnored rest then .ok none
    else
      let words := fields rest
      match words with
      | w0 :: w1 :: w2 :: more =>
        if w1 ≠ s "via" then bad
        else if more.length > 0 && !(more.length == 2 && more.head? == some (s "dev")) then bad
        else
          let (ip, plen) : Str × Int :=
            match cutChar w0 '/' with
            | (a, b, true) => (a, atoiOrZero b)
            | _ => if w0 = s "default" then (s "0.0.0.0", 0) else (w0, 32)
          .ok (some { ip := ip, plen := plen, hop := w2, orig := line })
      | _ => bad

def parseRoutes : List Str → Except Str (List Route)
  | [] => .ok []
  | l :: ls => do
    let r ← parseRoute l
    let rs ← parseRoutes ls
    pure (match r with | some r => r :: rs | none => rs)

/-- One line of the route change script. -/
inductive RLine
  | add (r : Route)
  | repl (old new : Route)      -- `ip route del old` and `ip route add new` sent in one packet
  | del (r : Route)
  deriving DecidableEq, Repr

/-- The stable sort by descending prefix length (`slices.SortFunc` is insertion sort up to 12
elements; above that pdqsort may order equal prefixes differently — the theorems hold for every
order, the harness compares larger cases up to the order inside one prefix length). -/
def sortRoutes (b : List Route) : List Route := isort (fun r1 r2 => decide (r1.plen ≥ r2.plen)) b

/-- `aDstMap[d]`: the LAST route of `a` with destination `d`. -/
def lastWithDst (a : List Route) (d : RDst) : Option Route :=
  a.reverse.find? (fun r => r.dst = d)

/-- The loop over `b`; `am` is `aMap` (keys of `a` not yet matched or deleted). -/
def diffRoutesLoop (a : List Route) : List Route → List RKey → List RLine × List RKey
  | [], am => ([], am)
  | r :: rest, am =>
    if r.key ∈ am then diffRoutesLoop a rest (am.filter (· ≠ r.key))
    else
      let (line, am') : RLine × List RKey :=
        match lastWithDst a r.dst with
        | some r2 => if r2.key ∈ am then (.repl r2 r, am.filter (· ≠ r2.key)) else (.add r, am)
        | none => (.add r, am)
      let (ls, am'') := diffRoutesLoop a rest am'
      (line :: ls, am'')

def diffRoutesCore (a b : List Route) : List RLine :=
  let (ls, am) := diffRoutesLoop a b (a.map Route.key)
  ls ++ (a.filter (fun r => r.key ∈ am)).map RLine.del

/-- `if seen[r.spec] { continue }`: only the first occurrence of a (dst, hop) in the sorted target counts. -/
def dedupRoutes : List Route → List RKey → List Route
  | [], _ => []
  | r :: rs, seen => if r.key ∈ seen then dedupRoutes rs seen else r :: dedupRoutes rs (r.key :: seen)

def diffRoutes (a b : List Route) : List RLine := diffRoutesCore a (dedupRoutes (sortRoutes b) [])

def printDel (r : Route) : Str := replaceFirst r.orig (s "ip route add ") (s "ip route del ")

/-- A script line as `ShowChanges` prints it. -/
def RLine.show : RLine → Str
  | .add r => r.orig
  | .del r => printDel r
  | .repl o n => printDel o ++ s "\\N " ++ n.orig

/-! ## iptables (parse.go parseIPTables, normalizeIPTables) -/

abbrev Pairs := List (Str × Str)

structure Rule where
  orig : Str
  pairs : Pairs
  app : Bool
  deriving DecidableEq, Repr, Inhabited

structure Chain where
  policy : Str
  rules : List Rule := []
  deriving DecidableEq, Repr, Inhabited

abbrev Chains := List (Str × Chain)
abbrev Tables := List (Str × Chains)

def startsWithDash (w : Str) : Bool := w.head? == some '-'

/-- The negation test behind the key: `!` followed by a word that is not a key. -/
def negAfter (ws : List Str) : Bool × List Str :=
  match ws with
  | x :: y :: rest => if x = ['!'] && !startsWithDash y then (true, y :: rest) else (false, ws)
  | _ => (false, ws)

/-- Words up to the next key or negation are arguments. -/
def isArg (x : Str) : Bool := !startsWithDash x && x ≠ ['!']

/-- Hard coded special case: `[!] --tcp-flags FIN,SYN,RST,ACK SYN` ==> `[!] --syn`
(`neg` is the negation mark, `joined` the arguments). -/
def fixSyn (key neg joined : Str) : Str × Str :=
  if key = s "--tcp-flags" ∧ joined = s "FIN,SYN,RST,ACK SYN" then (s "--syn", neg) else (key, neg ++ joined)

/-- One option behind its (possibly negated) key: the entry and the remaining words. -/
def readOpt (neg1 : Bool) (key : Str) (ws1 : List Str) : (Str × Str) × List Str :=
  let na := negAfter ws1
  let args := na.2.takeWhile isArg
  (fixSyn key (if neg1 || na.1 then ['!'] else []) (joinWith [' '] args), na.2.dropWhile isArg)

/-- The option loop of `parseIPTables` over the words behind `-A chain`.
Error: the trailing `!`.  `fuel` ≥ number of words. -/
def parsePairsAux : Nat → List Str → Pairs → Option Pairs
  | 0, _, acc => some acc
  | _ + 1, [], acc => some acc
  | fuel + 1, w :: ws, acc =>
    if w = ['!'] then
      -- key preceded by negation
      match ws with
      | [] => none
      | k :: ws' =>
        let r := readOpt true k ws'
        parsePairsAux fuel r.2 (setA r.1.1 r.1.2 acc)
    else
      let r := readOpt false w ws
      parsePairsAux fuel r.2 (setA r.1.1 r.1.2 acc)

def parsePairs (ws : List Str) : Option Pairs := parsePairsAux (ws.length + 1) ws []

def normAddr (v : Str) : Str := (cutSuffix v (s "/32")).getD v

/-- Lowercase protocol names; numbers for some protocol names. -/
def normProto (v : Str) : Str :=
  let v := lower v
  if v = s "vrrp" then s "112" else if v = s "ipv6-icmp" then s "58" else v

def normPort (v : Str) : Str :=
  let v := trimLeft0 v
  match cutSuffix v (s ":65535") with
  | some b => b ++ [':']
  | none => v

/-- RELATED,ESTABLISHED -> ESTABLISHED,RELATED -/
def normState (v : Str) : Str := joinWith [','] (sortStrs (splitChar v ','))

/-- Lower case, default mask ignored, hex to decimal. -/
def normMark (v : Str) : Str :=
  let v := lower v
  let v := (cutSuffix v (s "/0xffffffff")).getD v
  match parseInt32 v with
  | some i => intToStr i
  | none => v

def normLog (v : Str) : Str := if v = s "debug" then s "7" else v

/-- The per-key rewriting in the `for k, v := range pairs` loop. -/
def normVal (k v : Str) : Str :=
  if k = s "-s" ∨ k = s "-d" then normAddr v
  else if k = s "-p" then normProto v
  else if k = s "--sport" ∨ k = s "--dport" then normPort v
  else if k = s "--state" then normState v
  else if k = s "--set-mark" then normMark v
  else if k = s "--log-level" then normLog v
  else v

/-- `normalizeIPTables`. -/
def normalize (p : Pairs) : Pairs :=
  let p := match getA (s "-m") p with
    | some v => if equalFold v ((getA (s "-p") p).getD []) then eraseA (s "-m") p else p
    | none => p
  let p := match getA (s "--set-xmark") p with
    | some v =>
      let (_, mask, found) := cutChar v '/'
      if !found || lower mask = s "0xffffffff" then setA (s "--set-mark") v (eraseA (s "--set-xmark") p) else p
    | none => p
  p.map fun (k, v) => (k, normVal k v)

structure PState where
  tb : Tables := []
  cur : Option Str := none
  app : Bool := false
  deriving Repr

/-- One (already non-empty, trimmed) line of `parseIPTables`. -/
def parseIptLine (st : PState) (line : Str) : Except Str PState :=
  match line with
  | [] => .ok st
  | '#' :: _ => .ok st      -- comment line of iptables-save
  | '*' :: name =>
    if hasA name st.tb then .error (s "Duplicate definition of table " ++ goQuote name)
    else .ok { tb := setA name [] st.tb, cur := some name, app := false }
  | ':' :: rest =>
    match st.cur with
    | none => .error (s "Found chain policy outside of table: " ++ goQuote line)
    | some t =>
      match fields rest with
      | name :: policy :: _ =>
        let cm := (getA t st.tb).getD []
        if hasA name cm then .error (s "Duplicate definition of chain " ++ goQuote name)
        else .ok { st with tb := setA t (setA name { policy := policy } cm) st.tb }
      | _ => .ok st
  | '-' :: _ =>
    match st.cur with
    | none => .error (s "Found rule outside of table: " ++ goQuote line)
    | some t =>
      let words := fields line
      match words with
      | [] => .ok st   -- unreachable: the line starts with '-'
      | w0 :: more =>
        if w0 ≠ s "-A" then .error (s "Unsupported command " ++ goQuote w0)
        else match more with
          | [] => .error (s "Incomplete command " ++ goQuote line)
          | name :: ws =>
            let cm := (getA t st.tb).getD []
            match getA name cm with
            | none => .error (s "Must define policy before adding rules of chain " ++ goQuote name)
            | some ch =>
              match parsePairs ws with
              | none => .error (s "Unexpected trailing '!' in line\n " ++ line)
              | some pairs =>
                let ru : Rule := { orig := line, pairs := normalize pairs, app := st.app }
                .ok { st with tb := setA t (setA name { ch with rules := ch.rules ++ [ru] } cm) st.tb }
  | _ =>
    if line = s "[APPEND]" then .ok { st with app := true }
    else if line = s "COMMIT" then .ok st
    else .error (s "Unknown command: " ++ goQuote line)

def parseIPTablesAux : List Str → PState → Except Str PState
  | [], st => .ok st
  | l :: ls, st => do
    let st' ← parseIptLine st (trimSpace l)
    parseIPTablesAux ls st'

def parseIPTables (lines : List Str) : Except Str Tables := do
  let st ← parseIPTablesAux lines {}
  pure st.tb

structure Config where
  routes : List Route
  iptables : Tables
  deriving Repr

/-- `ParseConfig`: split into route lines and the rest, parse both. -/
def parseConfig (data : Str) : Except Str Config := do
  let lines := (splitChar data '\n').map trimSpace
  let lines := lines.filter (fun l => !(l.isEmpty || l.head? == some '#'))
  let rLines := lines.filter (fun l => hasPrefix l (s "ip route"))
  let tLines := lines.filter (fun l => !hasPrefix l (s "ip route"))
  let routes ← parseRoutes rLines
  let tb ← parseIPTables tLines
  pure { routes := routes, iptables := tb }

/-! ## diff.go diffIPTables -/

inductive IptDiff
  | same
  | tables (aExtra bExtra : List Str)
  | chains (t : Str) (aExtra bExtra : List Str)
  | policy (t c pa pb : Str)
  | size (t c : Str) (na nb : Nat)
  | options (t c : Str) (i : Nat) (aExtra bExtra : List Str)
  /-- every key whose values differ, in sorted key order; the code reports the first
  (`slices.Sorted(maps.Keys(aPairs))`) -/
  | values (t c : Str) (i : Nat) (cands : List (Str × Str × Str))
  deriving DecidableEq, Repr

/-- `getExtra(a, b)`: sorted keys of `a` missing in `b`. -/
def getExtra (a : List (Str × α)) (b : List (Str × β)) : List Str :=
  (sortStrs (keysA a)).filter (fun k => !hasA k b)

def commaJoin (l : List Str) : Str := joinWith [','] l

/-- `checkExtra`: none if the key sets agree.  As in the Go code the test is made on the JOINED
names (`aExtra != "" || bExtra != ""`), so a single extra key that is the empty string (a line `*`
declares a table with the empty name) goes unnoticed. -/
def checkExtra (a : List (Str × α)) (b : List (Str × β)) : Option (List Str × List Str) :=
  let ae := getExtra a b
  let be := getExtra b a
  if (commaJoin ae).isEmpty && (commaJoin be).isEmpty then none else some (ae, be)

def diffRule (t c : Str) (i : Nat) (a b : Pairs) : IptDiff :=
  match checkExtra a b with
  | some (ae, be) => .options t c i ae be
  | none =>
    let cands := (sortStrs (keysA a)).filterMap fun k =>
      let v := (getA k a).getD []
      let v2 := (getA k b).getD []
      if v2 ≠ v then some (k, v, v2) else none
    if cands.isEmpty then .same else .values t c i cands

def diffRules (t c : Str) : Nat → List Rule → List Rule → IptDiff
  | i, ra :: as, rb :: bs =>
    match diffRule t c i ra.pairs rb.pairs with
    | .same => diffRules t c (i + 1) as bs
    | d => d
  | _, _, _ => .same

def diffChain (t c : Str) (a b : Chain) : IptDiff :=
  if a.policy ≠ b.policy then .policy t c a.policy b.policy
  else if a.rules.length ≠ b.rules.length then .size t c a.rules.length b.rules.length
  else diffRules t c 0 a.rules b.rules

/-- A loop that returns at the first difference. -/
def firstDiff (f : α → IptDiff) : List α → IptDiff
  | [] => .same
  | x :: xs => match f x with
    | .same => firstDiff f xs
    | d => d

def diffTable (t : Str) (a b : Chains) : IptDiff :=
  match checkExtra a b with
  | some (ae, be) => .chains t ae be
  | none => firstDiff (fun c => diffChain t c ((getA c a).getD default) ((getA c b).getD default)) (sortStrs (keysA a))

def diffIPTables (a b : Tables) : IptDiff :=
  match checkExtra a b with
  | some (ae, be) => .tables ae be
  | none => firstDiff (fun t => diffTable t ((getA t a).getD []) ((getA t b).getD [])) (sortStrs (keysA a))

/-! ## device.go getIPTablesConfig, ShowChanges -/

/-- A line of the iptables-restore file, structured. -/
inductive FLine
  | table (name : Str)
  | chain (name policy : Str)
  | rule (chain : Str) (orig : Str)
  | commit
  deriving DecidableEq, Repr

def FLine.show : FLine → Str
  | .table n => '*' :: n
  | .chain n p => ':' :: n ++ [' '] ++ p
  | .rule _ o => o
  | .commit => s "COMMIT"

def tableLines (t : Str) (cm : Chains) : List FLine :=
  let cNames := sortStrs (keysA cm)
  [FLine.table t] ++
  cNames.map (fun c => FLine.chain c ((getA c cm).getD default).policy) ++
  cNames.flatMap (fun c => ((getA c cm).getD default).rules.map (fun r => FLine.rule c r.orig)) ++
  [FLine.commit]

/-- `getIPTablesConfig`. -/
def getIPTablesConfig (tb : Tables) : List FLine :=
  (sortStrs (keysA tb)).flatMap fun t => tableLines t ((getA t tb).getD [])

/-- The candidate first lines of the iptables part of the change script (one candidate except for
the map-order dependent case). -/
def IptDiff.show : IptDiff → List Str
  | .same => []
  | .tables ae be => [s "iptables differs at [tables: " ++ commaJoin ae ++ s "<->" ++ commaJoin be ++ s "]"]
  | .chains t ae be =>
    [s "iptables differs at " ++ t ++ s ": [chains: " ++ commaJoin ae ++ s "<->" ++ commaJoin be ++ s "]"]
  | .policy t c pa pb =>
    [s "iptables differs at " ++ t ++ [':'] ++ c ++ s ":POLICY:[" ++ pa ++ s "<->" ++ pb ++ s "]"]
  | .size t c na nb =>
    [s "iptables differs at " ++ t ++ [':'] ++ c ++ s ":RULES:[size: " ++ natToStr na ++ s "<->" ++ natToStr nb ++ s "]"]
  | .options t c i ae be =>
    [s "iptables differs at " ++ t ++ [':'] ++ c ++ s ":RULES:" ++ natToStr i ++ s ":[options: " ++
      commaJoin ae ++ s "<->" ++ commaJoin be ++ s "]"]
  | .values t c i cands => cands.map fun (k, v, v2) =>
    s "iptables differs at " ++ t ++ [':'] ++ c ++ s ":RULES:" ++ natToStr i ++ [':'] ++ k ++ s ":[" ++ v ++ s "<->" ++ v2 ++ s "]"

structure Change where
  routes : List RLine
  ipt : IptDiff
  newTables : Tables

/-- `diffConfig`. -/
def diffConfig (a b : Config) : Change :=
  { routes := diffRoutes a.routes b.routes, ipt := diffIPTables a.iptables b.iptables, newTables := b.iptables }

/-- `ShowChanges`: the route lines, then (candidates for) the iptables line, then the rest. -/
def Change.show (ch : Change) : List Str × List Str × List Str :=
  (ch.routes.map RLine.show,
   ch.ipt.show,
   if ch.ipt = .same then [] else
     [s "#!/sbin/iptables-restore", s "# Generated by NetSPoC"] ++ (getIPTablesConfig ch.newTables).map FLine.show)

/-- `getDeviceRoutes`: the output of `ip route show`, split into lines, a trailing empty line dropped,
`ip route add ` put in front of every line. -/
def deviceRoutes (out : Str) : Except Str (List Route) :=
  let lines := splitChar out '\n'
  let lines := if lines.getLast? = some [] then lines.dropLast else lines
  parseRoutes (lines.map (s "ip route add " ++ ·))

/-- `getDeviceIPTables`: the output of `iptables-save`, line by line (comment lines and all). -/
def deviceIPTables (out : Str) : Except Str Tables := parseIPTables (splitChar out '\n')

/-- `LoadDevice` (the part after the login): iptables first, then routes. -/
def loadDevice (iptOut routeOut : Str) : Except Str Config := do
  let tb ← deviceIPTables iptOut
  let routes ← deviceRoutes routeOut
  pure { routes := routes, iptables := tb }

/-- `drc -C FILE` / `drc FILE` against a device: what `GetChanges` computes. -/
def compareDevice (iptOut routeOut spoc : Str) : Except Str Change := do
  let a ← loadDevice iptOut routeOut
  let b ← parseConfig spoc
  pure (diffConfig a b)

/-- `drc FILE_DEVICE FILE_NETSPOC` without raw and ipv6 files (`MergeSpoc` with an empty
configuration is the identity). -/
def compareFiles (dev spoc : Str) : Except Str Change := do
  let a ← parseConfig dev
  let b ← parseConfig spoc
  pure (diffConfig a b)

end NA.Linux
