import NA.Model.Sess
/-!
# Session programs of the console backends (C09)

One Lean term per Go function, written so that `skel` of the term is the call-site skeleton
that `translate/skeleton` extracts from the source (theorems `skel_*` in `NA/Proofs/C09Skel.lean`, listed in `NA/Props/C09.lean`).
`pkg/console/console.go`, `pkg/asa/device.go`, `pkg/ios/device.go`, `pkg/linux/device.go`.

Assumptions built in (documented in docs/C09.md): no IOS reload banner arrives
(`needReload` stays false; C15 owns that), the banner check of the gate succeeds (C06 owns
that), the retrieved text parses (unknown lines are ignored by the Cisco parser).
-/
namespace NA.Apply
open NA.Sess

/-- a call whose callee has no behaviour the model observes -/
def op (name : String) (lits : List String := []) : Sess := .call name lits .skip

/-! ## pkg/console -/

def sendBody (ρ : Role) (t : Txt) : Sess := .send ρ t
def Send (ρ : Role) (t : Txt) (lits : List String := ["_"]) : Sess := .call "Send" lits (sendBody ρ t)

/-- `more = true`: the wait continues to read the reply the previous wait began. -/
def expectLogBody (ρ : Role) (p : Pat) (more : Bool := false) : Sess :=
  (if more then .recvMore p else .recv ρ p) ;; .ret .keep ["_", "err"]
def expectLog (ρ : Role) (p : Pat) (more : Bool := false) : Sess :=
  .call "expectLog" ["_", "_"] (expectLogBody ρ p more)

def waitPromptBody (ρ : Role) (p : Pat) : Sess :=
  expectLog ρ p ;;
  .ite .err "err != nil" (.abort ["while waiting for prompt '%s': %v", "_", "err"]) .skip ;;
  .ret .none ["_"]
def waitPrompt (ρ : Role) (p : Pat) : Sess := .call "waitPrompt" ["_"] (waitPromptBody ρ p)

def waitShortBody (ρ : Role) (p : Pat) (more : Bool := false) : Sess :=
  expectLog ρ p more ;;
  .ite .err "err != nil" (.abort ["while waiting for prompt '%s': %v", "_", "err"]) .skip ;;
  .ret .none ["_"]
def WaitShort (ρ : Role) (p : Pat) (lits : List String) (more : Bool := false) : Sess :=
  .call "WaitShort" lits (waitShortBody ρ p more)

def waitLoginBody (ρ : Role) (p : Pat) : Sess :=
  expectLog ρ p ;;
  .ite .err "err != nil" (.abort ["while waiting for login prompt '%s': %v", "_", "err"]) .skip ;;
  .ret .none ["_"]
def WaitLogin (ρ : Role) (p : Pat) (lits : List String) : Sess := .call "WaitLogin" lits (waitLoginBody ρ p)

def stripStdPromptBody : Sess :=
  -- the prompt has just been matched by waitPrompt, so it is found again
  .ite .never "¬$v != nil" (.abort ["Missing prompt '%s' in response:\n'%v'", "_", "_"]) .skip ;;
  .ret .none ["_"]
def StripStdPrompt : Sess := .call "StripStdPrompt" ["_"] stripStdPromptBody

def stripEchoBody : Sess :=
  .ite .echoBad "len($p2) < len($p1) || $p2[:len($p1)] != $p1"
    (.abort ["Got unexpected echo in response to '%s':\n%v", "_", "_"]) .skip ;;
  .ret .none ["_"]
def StripEcho : Sess := .call "StripEcho" ["_", "_"] stripEchoBody

def getOutputBody (ρ : Role) : Sess :=
  waitPrompt ρ .std ;; StripStdPrompt ;; .ret .none ["_"]
def GetOutput (ρ : Role) : Sess := .call "GetOutput" [] (getOutputBody ρ)

def sendCmdBody (ρ : Role) (t : Txt) : Sess := Send ρ t ;; waitPrompt ρ .std
def SendCmd (ρ : Role) (t : Txt) (lits : List String) : Sess := .call "SendCmd" lits (sendCmdBody ρ t)

def issueCmdBody (ρ : Role) (t : Txt) (p : Pat) : Sess := Send ρ t ;; waitPrompt ρ p ;; .ret .none ["_"]
def IssueCmd (ρ : Role) (t : Txt) (p : Pat) (lits : List String) : Sess :=
  .call "IssueCmd" lits (issueCmdBody ρ t p)

def getCmdOutputBody (ρ : Role) (t : Txt) : Sess :=
  Send ρ t ;; GetOutput ρ ;; StripEcho ;; .ret .none ["_"]
def GetCmdOutput (ρ : Role) (t : Txt) (lits : List String) : Sess :=
  .call "GetCmdOutput" lits (getCmdOutputBody ρ t)

def closeBody : Sess :=
  .ite (.not .never) "$r.con != nil" (.send .cleanup (.litNl "exit")) .skip
def Close : Sess := .call "Close" [] closeBody

def ciscoCloseConnectionBody : Sess := .ite (.not .never) "$r.Conn != nil" Close .skip

/-! ## pkg/asa -/

def asaCheckBody (ρ : Role) : Sess :=
  GetOutput ρ ;; StripEcho ;;
  .ite .outNonEmpty "$GetOutput != \"\""
    (.ite .outInvalid "¬isValidOutput($c1, $GetOutput)"
      (.abort ["Got unexpected output from '%s':\n%s", "_", "_"])
      (.ite .outWarn "" (.mark .logWarn) .skip))
    .skip
def asaCheck (ρ : Role) : Sess := .call "check" ["_"] (asaCheckBody ρ)

def asaCmdBody (ρ : Role) (t : Txt) : Sess :=
  Send ρ t ;; asaCheck ρ ;; .ite .joined "$v.2 != \"\"" (asaCheck ρ) .skip
def asaCmd (ρ : Role) (t : Txt) (lits : List String) : Sess := .call "cmd" lits (asaCmdBody ρ t)

def asaApplyBody : Sess :=
  asaCmd .setup (.lit "configure terminal") ["configure terminal"] ;;
  .forEach (asaCmd .change .cur ["_"]) ;;
  asaCmd .setup (.lit "end") ["end"] ;;
  (GetCmdOutput .save (.lit "write memory") ["write memory"] ;;
   .ite (.not (.flag .okMark)) "¬strings.Contains($GetCmdOutput, \"[OK]\")"
     (.abort ["Command 'write memory' failed, missing [OK] in output:\n%s", "_"]) .skip) ;;
  .ret .nil ["nil"]

/-- the closure `waitPrompt` of cisco.LoginEnable -/
def ciscoWaitPromptBody (t : Txt) : Sess :=
  IssueCmd .login t (.stdOr [.gt, .password]) ["_", "_"] ;; .ret .none ["_"]
def ciscoWaitPrompt (t : Txt) (lits : List String) : Sess := .call "waitPrompt" lits (ciscoWaitPromptBody t)

/-- cisco.LoginEnable (shared by ASA and IOS). -/
def ciscoLoginEnableBody : Sess :=
  WaitLogin .login (.special [.password, .yesNo]) ["(?i)password:|\\(yes/no.*\\)\\?"] ;;
  .ite (.flag .yesNo) "strings.HasSuffix($WaitLogin, \"?\")"
    (IssueCmd .login (.lit "yes") (.special [.password]) ["yes", "(?i)password:"]) .skip ;;
  ciscoWaitPrompt .secret ["_", ">"] ;;
  .ite (.flag .gt) "waitPrompt($p1, \">\")"
    (ciscoWaitPrompt (.lit "enable") ["enable", "#"] ;;
     .ite (.not (.flag .hash)) "¬waitPrompt(\"enable\", \"#\")"
       -- the password is sent only if the device asks for it; without `#` afterwards: abort
       (.when (.flag .password) (ciscoWaitPrompt .secret ["_", "#"]) ;;
        .ite (.not (.flag .hash))
          "!strings.HasSuffix(strings.ToLower($WaitLogin), \"password:\") || !waitPrompt($p1, \"#\")"
          (.abort ["Authentication for enable mode failed"]) .skip)
       .skip)
    (.ite (.not (.flag .hash)) "¬strings.HasSuffix($WaitLogin, \"#\")" (.abort ["Authentication failed"]) .skip) ;;
  IssueCmd .login (.lit "") .std ["", "#[ ]?"] ;;
  op "checkBanner" ["_", "_"]
def ciscoLoginEnable : Sess := .call "LoginEnable" ["_", "_"] ciscoLoginEnableBody

def asaSetTerminal : Sess :=
  GetCmdOutput .read (.lit "sh pager") ["sh pager"] ;;
  .ite (.not (.flag .noPager)) "¬strings.Contains($GetCmdOutput, \"no pager\")"
    (SendCmd .setup (.lit "terminal pager 0") ["terminal pager 0"]) .skip ;;
  GetCmdOutput .read (.lit "sh term") ["sh term"] ;;
  .ite (.not (.flag .w511)) "¬strings.Contains($GetCmdOutput, \"511\")"
    (SendCmd .setup (.lit "configure terminal") ["configure terminal"] ;;
     SendCmd .setup (.lit "terminal width 511") ["terminal width 511"] ;;
     SendCmd .setup (.lit "end") ["end"]) .skip

def checkNameAbort : Sess :=
  .ite (.not (.flag .nameOk)) "$p1 != $GetCmdOutput" (.abort ["Wrong device name: %q, expected: %q", "_", "_"]) .skip

/-- the prologue of the console backends' LoadDevice: credentials and the ssh process -/
def consolePrologue : Sess :=
  op "GetUserPass" ["_"] ;;
  .ite .never "err != nil" (.ret .keep ["nil", "err"]) .skip ;;
  op "GetSSHConn" ["_", "_", "_", "_"] ;;
  .ite .never "err != nil" (.ret .keep ["nil", "err"]) .skip

def asaLogVersionBody : Sess := GetCmdOutput .read (.lit "sh ver") ["sh ver"]
def asaCheckDeviceNameBody : Sess := GetCmdOutput .read (.lit "show hostname") ["show hostname"] ;; checkNameAbort

def asaLoadDevice : Sess :=
  consolePrologue ;;
  ciscoLoginEnable ;;
  .call "setTerminal" [] asaSetTerminal ;;
  .call "logVersion" [] asaLogVersionBody ;;
  .call "checkDeviceName" ["_"] asaCheckDeviceNameBody ;;
  GetCmdOutput .read (.lit "write term") ["write term"] ;;
  op "ParseConfig" ["_", "<device>"] ;;
  .setPlan ;;
  .ret .nil ["_", "err"]

/-! ## pkg/ios -/

def iosSendReloadCmdBody (withDo : Bool) : Sess :=
  IssueCmd .setup (.lit (if withDo then "do reload in 2" else "reload in 2")) (.special [.saveAsk, .confirm])
    ["_", "\\[yes\\/no\\]:\\ |\\[confirm\\]"] ;;
  .ite (.flag .saveAsk) "strings.Contains($r.Conn.IssueCmd($v, \"\\\\[yes\\\\/no\\\\]:\\\\ |\\\\[confirm\\\\]\"), \"[yes/no]\")"
    (IssueCmd .setup (.lit "n") (.special [.confirm]) ["n", "\\[confirm\\]"]) .skip ;;
  SendCmd .setup (.lit "") [""]
def iosSendReloadCmd (withDo : Bool) : Sess :=
  .call "sendReloadCmd" [if withDo then "true" else "false"] (iosSendReloadCmdBody withDo)
def iosScheduleReload : Sess := .call "scheduleReload" [] (iosSendReloadCmd false)
def iosExtendReload : Sess := .call "extendReload" [] (iosSendReloadCmd true)

def iosCancelReloadBody : Sess :=
  IssueCmd .setup (.lit "reload cancel") (.special [.aborted]) ["reload cancel", "--- SHUTDOWN ABORTED ---"] ;;
  WaitShort .setup .std ["[#] ?$"] true ;;
  SendCmd .setup (.lit "") [""]
def iosCancelReload : Sess := .call "cancelReload" [] iosCancelReloadBody

def iosPrepareDeviceBody : Sess :=
  SendCmd .setup (.lit "configure terminal") ["configure terminal"] ;;
  SendCmd .setup (.lit "no logging console") ["no logging console"] ;;
  SendCmd .setup (.lit "line vty 0 15") ["line vty 0 15"] ;;
  SendCmd .setup (.lit "logging synchronous level all") ["logging synchronous level all"] ;;
  SendCmd .setup (.lit "ip subnet-zero") ["ip subnet-zero"] ;;
  SendCmd .setup (.lit "ip classless") ["ip classless"] ;;
  SendCmd .setup (.lit "end") ["end"]
def iosPrepareDevice : Sess := .call "prepareDevice" [] iosPrepareDeviceBody

def iosCheckBody (ρ : Role) : Sess :=
  GetOutput ρ ;; op "stripReloadBanner" ["_"] ;; StripEcho ;;
  .ite .outNonEmpty "$GetOutput != \"\""
    (.ite .outInvalid "¬isValidOutput($c1, $GetOutput)"
      (.abort ["Got unexpected output from '%s':\n%s", "_", "_"])
      (.ite .outWarn "" (.mark .logWarn) .skip))
    .skip
def iosCheck (ρ : Role) : Sess := .call "check" ["_"] (iosCheckBody ρ)

def iosCmdBody (ρ : Role) (t : Txt) : Sess :=
  Send ρ t ;; iosCheck ρ ;; .ite .joined "$v.2 != \"\"" (iosCheck ρ) .skip ;;
  .ite .never "$v" iosExtendReload .skip
def iosCmd (ρ : Role) (t : Txt) (lits : List String) : Sess := .call "cmd" lits (iosCmdBody ρ t)

def iosWriteMemBody : Sess :=
  .setCtr 2 ;;
  .loopN 3 (
    IssueCmd .save (.lit "write memory") (.stdOr [.confirm]) ["write memory", "#[ ]?|\\[confirm\\]"] ;;
    .ite (.flag .overwrite) "strings.Contains($IssueCmd, \"Overwrite the previous NVRAM configuration\")"
      (GetCmdOutput .save (.lit "") [""]) .skip ;;
    .ite (.flag .okMark) "strings.Contains($IssueCmd, \"[OK]\")" (.ret .none []) .skip ;;
    .ite (.flag .openFailed) "strings.Contains($IssueCmd, \"startup-config file open failed\")"
      (.ite .ctrPos "$v > 0" (.decCtr ;; .cont) .skip ;;
       .abort ["write mem: startup-config open failed - giving up"]) .skip ;;
    .abort ["write mem: unexpected result: %s", "_"])
def iosWriteMem : Sess := .call "writeMem" [] iosWriteMemBody

def iosApplyBody : Sess :=
  iosPrepareDevice ;;
  (iosScheduleReload ;;
   .defer iosCancelReload
     (SendCmd .setup (.lit "configure terminal") ["configure terminal"] ;;
      .defer (SendCmd .setup (.lit "end") ["end"])
        (.forEach (iosCmd .change .cur ["_"])))) ;;
  iosWriteMem ;;
  .ret .nil ["nil"]

def iosSetTerminalBody : Sess :=
  SendCmd .setup (.lit "term len 0") ["term len 0"] ;; SendCmd .setup (.lit "term width 512") ["term width 512"]
def iosLogVersionBody : Sess := GetCmdOutput .read (.lit "sh ver") ["sh ver"]
/-- the name is taken from everything in front of the prompt: a garbled echo spoils it too -/
def iosCheckDeviceNameBody : Sess :=
  IssueCmd .read (.lit "") .std ["", "#[ ]?"] ;;
  .ite (.or (.not (.flag .nameOk)) .echoBad) "$p1 != $v" (.abort ["Wrong device name: %q, expected: %q", "_", "_"]) .skip

def iosLoadDevice : Sess :=
  consolePrologue ;;
  ciscoLoginEnable ;;
  .call "setTerminal" [] iosSetTerminalBody ;;
  .call "logVersion" [] iosLogVersionBody ;;
  .call "checkDeviceName" ["_"] iosCheckDeviceNameBody ;;
  GetCmdOutput .read (.lit "sh run") ["sh run"] ;;
  op "ParseConfig" ["_", "<device>"] ;;
  .setPlan ;;
  .ret .nil ["_", "err"]

/-! ## pkg/linux -/

def linuxCheckBody (ρ : Role) : Sess :=
  GetOutput ρ ;; StripEcho ;;
  .ite .outNonEmpty "$GetOutput != \"\"" (.abort ["Got unexpected output from '%s':\n%s", "_", "_"]) .skip
def linuxCheck (ρ : Role) : Sess := .call "check" ["_"] (linuxCheckBody ρ)

def linuxCmdBody (ρ : Role) (t : Txt) : Sess :=
  Send ρ t ;; linuxCheck ρ ;; .ite .joined "$v.2 != \"\"" (linuxCheck ρ) .skip ;;
  GetCmdOutput .probe (.lit "echo $?") ["echo $?"] ;;
  .ite (.not (.flag .status0)) "$r.conn.GetCmdOutput(\"echo $?\") != \"0\\n\""
    (.abort ["%s failed (exit status)", "_"]) .skip
def linuxCmd (ρ : Role) (t : Txt) (lits : List String) : Sess := .call "cmd" lits (linuxCmdBody ρ t)

def linuxPutScpBody (what : String) : Sess :=
  .mark (.scp what) ;;
  .ite .simulated "os.Getenv(\"SIMULATE_ROUTER\") != \"\"" (.ret .none []) .skip ;;
  .call "Run" [] (.send .save (.lit ("scp " ++ what)) ;; .recv .save .http) ;;
  .ite .err "err != nil" (.abort ["%s failed: %v", "_", "err"]) .skip
def linuxPutScp (what : String) : Sess := .call "putScp" ["_", "_"] (linuxPutScpBody what)

def linuxWriteStartupBody (what : String) : Sess := op "Close" ;; linuxPutScp what
def linuxWriteStartup (what : String) : Sess := .call "writeStartup" ["_", "_", "_"] (linuxWriteStartupBody what)

def linuxFindRestoreBody : Sess :=
  GetCmdOutput .read (.lit "which iptables-restore") ["which iptables-restore"] ;;
  .ite (.not (.flag .restorePath)) "¬strings.HasSuffix($v, \"iptables-restore\")"
    (.abort ["Can't find path of 'iptables-restore'"]) .skip ;;
  .ret .none ["_"]
def linuxFindRestore : Sess := .call "findIPTablesRestoreCmd" [] linuxFindRestoreBody

def linuxWriteStartupIPTablesBody : Sess := linuxFindRestore ;; linuxWriteStartup "iptables"
def linuxWriteStartupRoutingBody : Sess := linuxWriteStartup "routing"

def linuxApplyBody : Sess :=
  .forEach (linuxCmd .change .cur ["_"]) ;;
  .ite .ipt "$v.iptables != \"\""
    (.call "writeStartupIPTables" ["_", "_"] linuxWriteStartupIPTablesBody ;;
     linuxCmd .change (.lit "chmod a+x /etc/network/packet-filter.new") ["_"] ;;
     linuxCmd .change (.lit "/etc/network/packet-filter.new") ["_"] ;;
     linuxCmd .change (.lit "mv -f /etc/network/packet-filter.new /etc/network/packet-filter") ["_"]) .skip ;;
  .ite .planNonEmpty "len($v.routes) != 0"
    (.call "writeStartupRouting" ["_", "/etc/network/routing"] linuxWriteStartupRoutingBody) .skip ;;
  .ret .nil ["nil"]

def linuxLoginEnableBody : Sess :=
  WaitLogin .login (.special [.hash, .password, .yesNo]) ["_"] ;;
  .ite (.flag .yesNo) "strings.HasSuffix($WaitLogin, \"?\")" (IssueCmd .login (.lit "yes") (.special [.hash, .password]) ["yes", "_"]) .skip ;;
  .ite (.flag .password) "strings.HasSuffix($WaitLogin, \"word:\")" (IssueCmd .login .secret (.special [.hash, .password]) ["_", "_"]) .skip ;;
  .ite (.flag .password) "strings.HasSuffix($WaitLogin, \"word:\")" (.abort ["Authentication failed"]) .skip ;;
  IssueCmd .setup (.lit "PS1=router#") .std ["PS1=router#", "_"]

def linuxLogVersionBody : Sess :=
  GetCmdOutput .read (.lit "uname -r") ["uname -r"] ;; GetCmdOutput .read (.lit "uname -m") ["uname -m"]
def linuxCheckDeviceNameBody : Sess := GetCmdOutput .read (.lit "hostname -s") ["hostname -s"] ;; checkNameAbort
def linuxCheckBannerBody : Sess :=
  .ite .never "¬$p1.CheckBanner != nil" (.ret .none []) .skip ;;
  GetCmdOutput .read (.lit "grep 'NetSPoC' /etc/issue") ["_"] ;; .assumeBanner
def linuxGetDeviceIPTablesBody : Sess :=
  GetCmdOutput .read (.lit "iptables-save") ["iptables-save"] ;;
  .call "parseIPTables" ["_"] (.ite (.not (.flag .cfgParses)) "" (.abort ["Unknown command: %q", "_"]) .skip) ;;
  .ret .none ["_"]
def linuxGetDeviceRoutesBody : Sess :=
  GetCmdOutput .read (.lit "ip route show") ["ip route show"] ;;
  .call "parseRoutes" ["_"] (.ite (.not (.flag .cfgParses)) "" (.abort ["Unexpected route: %s", "_"]) .skip) ;;
  .ret .none ["_"]

def linuxLoadDevice : Sess :=
  consolePrologue ;;
  .call "loginEnable" ["_", "_"] linuxLoginEnableBody ;;
  .call "logVersion" [] linuxLogVersionBody ;;
  .call "checkDeviceName" ["_"] linuxCheckDeviceNameBody ;;
  .call "checkBanner" ["_"] linuxCheckBannerBody ;;
  .call "getDeviceIPTables" [] linuxGetDeviceIPTablesBody ;;
  .call "getDeviceRoutes" [] linuxGetDeviceRoutesBody ;;
  .setPlan ;;
  .ret .nil ["_", "err"]

end NA.Apply
