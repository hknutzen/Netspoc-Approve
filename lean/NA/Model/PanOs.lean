import NA.Spec.PanOs
import NA.Model.PanOsScript
/-
Executable model of the PAN-OS planner `panos/diff.go` (`diffConfig` and everything below it)
and of `processVsysPairs` / `GetChanges`, on the decoded structs.  It mirrors what the code
DOES: pointer flags (`needed`, `edit`, `nameOnDevice`) become fields of list entries that are
addressed by index, Go maps keyed by name become "last entry with that name", commands that
were already appended stay when a helper returns `false`, slices that are rewritten in place
are rewritten here as well.  The Myers edit script is a parameter (`Differ`).

Recursion through nested groups is cut by a fuel parameter (the Go code aborts on cyclic groups before it
plans, `checkGroupCycle`: not modelled here, see `NA/Model/CursorCycle.lean`; the fuel is larger than any
acyclic nesting depth).  Core Lean only.
-/
namespace NA.PanOs

/-- `myers.Diff` on a pair given by its two lengths and its `Equal` method. -/
abbrev Differ := Nat → Nat → (Nat → Nat → Bool) → List Range

/-! ### `sort.Strings` -/

def insertSorted (x : String) : List String → List String
  | [] => [x]
  | y :: ys => if y < x then y :: insertSorted x ys else x :: y :: ys

def sortStrings (l : List String) : List String := l.foldr insertSorted []

/-- `sortMembers`. -/
def sortVsys (v : Vsys) : Vsys :=
  { v with
    rules := v.rules.map (fun r =>
      { r with src := sortStrings r.src, dst := sortStrings r.dst, srv := sortStrings r.srv }),
    groups := v.groups.map (fun g => { g with members := sortStrings g.members }) }

/-! ### Planner state -/

structure AObj where
  o : Obj
  needed : Bool := false
  deriving Repr, Inhabited

structure BObj where
  o : Obj
  needed : Bool := false
  edit : Bool := false
  deriving Repr, Inhabited

structure AGrp where
  g : Grp
  needed : Bool := false
  deriving Repr, Inhabited

structure BGrp where
  g : Grp                 -- name under which rules and the map `ab.b.groups` know the group
  newName : String        -- `g.Name` after `genUniqGroupNames`
  needed : Bool := false
  onDev : String := ""    -- `nameOnDevice`
  deriving Repr, Inhabited

structure St where
  aAddr : List AObj := []
  bAddr : List BObj := []
  aGrp  : List AGrp := []
  bGrp  : List BGrp := []
  aSvc  : List AObj := []
  bSvc  : List BObj := []
  aSG   : List AGrp := []
  bSG   : List AGrp := []
  out   : List Cmd := []
  deriving Repr, Inhabited

def St.emit (st : St) (c : Cmd) : St := { st with out := st.out ++ [c] }
def St.emitAll (st : St) (cs : List Cmd) : St := { st with out := st.out ++ cs }

/-- Go map built by `m[o.Name] = o` in list order: the last entry with the name. -/
def lastIdxFrom (n : String) : List String → Nat → Option Nat → Option Nat
  | [], _, acc => acc
  | x :: xs, i, acc => lastIdxFrom n xs (i + 1) (if x == n then some i else acc)

def lastIdx (names : List String) (n : String) : Option Nat := lastIdxFrom n names 0 none

def modAt {α} (l : List α) (i : Nat) (f : α → α) : List α :=
  match l, i with
  | [], _ => []
  | x :: xs, 0 => f x :: xs
  | x :: xs, i + 1 => x :: modAt xs i f

def St.aAddrIdx (st : St) (n : String) := lastIdx (st.aAddr.map (·.o.name)) n
def St.bAddrIdx (st : St) (n : String) := lastIdx (st.bAddr.map (·.o.name)) n
def St.aGrpIdx (st : St) (n : String) := lastIdx (st.aGrp.map (·.g.name)) n
def St.bGrpIdx (st : St) (n : String) := lastIdx (st.bGrp.map (·.g.name)) n
def St.aSvcIdx (st : St) (n : String) := lastIdx (st.aSvc.map (·.o.name)) n
def St.bSvcIdx (st : St) (n : String) := lastIdx (st.bSvc.map (·.o.name)) n
def St.aSGIdx (st : St) (n : String) := lastIdx (st.aSG.map (·.g.name)) n
def St.bSGIdx (st : St) (n : String) := lastIdx (st.bSG.map (·.g.name)) n

def initSt (a b : Vsys) (newGroupNames : List String) : St :=
  { aAddr := a.addrs.map (fun o => { o := o }),
    bAddr := b.addrs.map (fun o => { o := o }),
    aGrp := a.groups.map (fun g => { g := g }),
    bGrp := (b.groups.zip newGroupNames).map (fun (g, n) => { g := g, newName := n }),
    aSvc := a.svcs.map (fun o => { o := o }),
    bSvc := b.svcs.map (fun o => { o := o }),
    aSG := a.sgroups.map (fun g => { g := g }),
    bSG := b.sgroups.map (fun g => { g := g }) }

/-! ### Rule equality (`rulesPair.Equal`) -/

inductive ListType | unknownT | listT | groupT | anyT
  deriving DecidableEq, Repr

/-- `getObjListType` for one side: `grp` is the group map, `isAddr` the address map. -/
def objListType (grp : String → Option (List String)) (isAddr : String → Bool) :
    Nat → List String → ListType
  | fuel, l =>
    let rest := if l.all isAddr then ListType.listT else ListType.unknownT
    match l with
    | [e] =>
      if e == "any" then .anyT
      else match grp e with
        | some ms =>
          match fuel with
          | 0 => .unknownT
          | f + 1 => if objListType grp isAddr f ms == .listT then .groupT else .unknownT
        | none => rest
    | _ => rest

def grpMap (gs : List Grp) (n : String) : Option (List String) :=
  (lastIdx (gs.map (·.name)) n).bind (fun i => gs[i]?.map (·.members))

def objMap (os : List Obj) (n : String) : Option Obj :=
  (lastIdx (os.map (·.name)) n).bind (fun i => os[i]?)

def vsysListType (v : Vsys) (l : List String) : ListType :=
  objListType (grpMap v.groups) (fun n => (objMap v.addrs n).isSome) (v.groups.length + 1) l

/-- `servicesEq(x, y)`: looks `x`-names up in the services of `a` and `y`-names in those of `b`,
whatever the caller passes. -/
def servicesEq (aSvcs bSvcs : List Obj) : List String → List String → Bool
  | [], [] => true
  | x :: xs, y :: ys =>
    (x == y ||
      (match objMap aSvcs x, objMap bSvcs y with
       | some sa, some sb => sa.val == sb.val
       | _, _ => false)) && servicesEq aSvcs bSvcs xs ys
  | _, _ => false

/-- `rulesPair.Equal` on the (sorted) rules. -/
def ruleEqual (a b : Vsys) (ra rb : Rule) : Bool :=
  ra.hdr == rb.hdr &&
    vsysListType a ra.src == vsysListType b rb.src &&
    vsysListType a ra.dst == vsysListType b rb.dst &&
    servicesEq a.svcs b.svcs ra.srv rb.srv

/-! ### `markObjects` -/

def markAddrs : Nat → St → List String → St
  | 0, st, _ => st
  | fuel + 1, st, l =>
    l.foldl (fun st name =>
      match st.bGrpIdx name with
      | some gi =>
        let st := { st with bGrp := modAt st.bGrp gi (fun g => { g with needed := true }) }
        markAddrs fuel st ((st.bGrp[gi]?.map (·.g.members)).getD [])
      | none =>
        match st.bAddrIdx name with
        | none => st
        | some bi =>
          match st.aAddrIdx name with
          | some ai =>
            let st := { st with aAddr := modAt st.aAddr ai (fun o => { o with needed := true }) }
            let va := (st.aAddr[ai]?.map (·.o.val)).getD ""
            let vb := (st.bAddr[bi]?.map (·.o.val)).getD ""
            if va != vb then { st with bAddr := modAt st.bAddr bi (fun o => { o with edit := true }) }
            else st
          | none => { st with bAddr := modAt st.bAddr bi (fun o => { o with needed := true }) }) st

def markSrvs : Nat → St → List String → St
  | 0, st, _ => st
  | fuel + 1, st, l =>
    l.foldl (fun st name =>
      match st.bSGIdx name with
      | some gi =>
        let st := { st with bSG := modAt st.bSG gi (fun g => { g with needed := true }) }
        let ms := (st.bSG[gi]?.map (·.g.members)).getD []
        let st := markSrvs fuel st ms
        match st.aSGIdx name with
        | some ai =>
          let st := { st with aSG := modAt st.aSG ai (fun g => { g with needed := true }) }
          let msA := (st.aSG[ai]?.map (·.g.members)).getD []
          -- `ab.servicesEq(g.Members, sA.Members)`: arguments in this order
          if servicesEq (st.aSvc.map (·.o)) (st.bSvc.map (·.o)) ms msA then
            { st with bSG := modAt st.bSG gi (fun g => { g with needed := false }) }
          else st
        | none => st
      | none =>
        match st.bSvcIdx name with
        | none => st
        | some bi =>
          match st.aSvcIdx name with
          | some ai =>
            let st := { st with aSvc := modAt st.aSvc ai (fun o => { o with needed := true }) }
            let va := (st.aSvc[ai]?.map (·.o.val)).getD ""
            let vb := (st.bSvc[bi]?.map (·.o.val)).getD ""
            if va != vb then { st with bSvc := modAt st.bSvc bi (fun o => { o with edit := true }) }
            else st
          | none => { st with bSvc := modAt st.bSvc bi (fun o => { o with needed := true }) }) st

def markObjects (fuel : Nat) (st : St) (rules : List Rule) : St :=
  rules.foldl (fun st r => markSrvs fuel (markAddrs fuel (markAddrs fuel st r.src) r.dst) r.srv) st

/-! ### `genUniqRuleNames`, `genUniqGroupNames` -/

/-- First `name-i` (i = 1, 2, …) that is not taken. -/
def freshName (taken : List String) (name : String) : String :=
  match (List.range (taken.length + 1)).find? (fun i => !taken.contains s!"{name}-{i + 1}") with
  | some i => s!"{name}-{i + 1}"
  | none => name

/-- `genUniq*Names` before the repair (commit 86e0d84): an entry whose name exists on the
device is renamed, each independently of the others and of the other target names. -/
def uniqNamesOld (taken : List String) (names : List String) : List String :=
  names.map (fun n => if taken.contains n then freshName taken n else n)

/-- The renaming loop: `used` holds the names of the device, of the target, and the names
generated so far. -/
def uniqNamesFrom (taken : List String) : List String → List String → List String
  | _, [] => []
  | used, n :: ns =>
    if taken.contains n then
      let n' := freshName used n
      n' :: uniqNamesFrom taken (n' :: used) ns
    else n :: uniqNamesFrom taken used ns

/-- New names of the target's entries (`genUniqRuleNames`, `genUniqGroupNames`): an entry
whose name exists on the device gets the first `name-i` that neither the device nor the target
nor an earlier renaming uses. -/
def uniqNames (taken : List String) (names : List String) : List String :=
  uniqNamesFrom taken (taken ++ names) names

/-! ### `findGroupOnDevice`, `adaptGroups` -/

def findGroupOnDeviceFrom (ms : List String) : List AGrp → Nat → Option (Nat × String)
  | [], _ => none
  | ga :: rest, i =>
    if !ga.needed && ga.g.members == ms then some (i, ga.g.name)
    else findGroupOnDeviceFrom ms rest (i + 1)

/-- Returns the name (`""` if none) and the state with the flags moved. -/
def findGroupOnDevice (st : St) (gbi : Nat) : String × St :=
  let ms := (st.bGrp[gbi]?.map (·.g.members)).getD []
  match findGroupOnDeviceFrom ms st.aGrp 0 with
  | none => ("", st)
  | some (i, name) =>
    (name, { st with
      aGrp := modAt st.aGrp i (fun g => { g with needed := true }),
      bGrp := modAt st.bGrp gbi (fun g => { g with needed := false, onDev := name }) })

/-- One element of `adaptGroups`. -/
def adaptStep (acc : List String × St) (adr : String) : List String × St :=
  let (res, st) := acc
  match st.bGrpIdx adr with
  | none => (res ++ [adr], st)
  | some gbi =>
    let gb := st.bGrp[gbi]?.getD default
    if gb.onDev != "" then (res ++ [gb.onDev], st)
    else
      let (name, st) := findGroupOnDevice st gbi
      if name != "" then (res ++ [name], st)
      else
        -- the group will be transferred under this name; it must not be mapped to a device
        -- group later (repair cfbdae7, F-C03f)
        (res ++ [gb.newName],
          { st with bGrp := modAt st.bGrp gbi (fun g => { g with onDev := gb.newName }) })

def adaptGroups (st : St) (lb : List String) : List String × St := lb.foldl adaptStep ([], st)

/-! ### `equalize` -/

/-- Where a member list lives. -/
inductive MPath
  | rule (n : String) (f : Fld)
  | group (g : String)
  deriving Repr

def MPath.delCmd : MPath → String → Cmd
  | .rule n f, m => .delMem n f m
  | .group g, m => .delGMem g m

def MPath.addCmd : MPath → List String → Cmd
  | .rule n f, ms => .addMem n f ms
  | .group g, ms => .setGrp g ms

/-- `addrListPair.Equal` on names. -/
def memberEq (st : St) (a b : String) : Bool :=
  if (st.aGrpIdx a).isSome then (st.bGrpIdx b).isSome
  else if (st.bGrpIdx b).isSome then false
  else a == b

def deletedCount (rs : List Range) : Nat :=
  rs.foldl (fun d r => if r.isDelete then d + (r.highA - r.lowA) else d) 0

/-- The heuristic of `hasEqualizedLists`: replace instead of changing incrementally. -/
def replaceInstead (oldLen d : Nat) : Bool := 2 * d > (oldLen - d) + 1

/-- `hasEqualizedGroups(ga, gb)` for the groups with indices `gai`, `gbi`; `recur` is
`hasEqualizedLists` (one level deeper). -/
def eqGroups (recur : St → List String → List String → MPath → Bool × St) (st : St) (gai gbi : Nat) :
    Bool × St :=
  let ga := st.aGrp[gai]?.getD default
  let gb := st.bGrp[gbi]?.getD default
  if gb.onDev != "" then (gb.onDev == ga.g.name, st)
  else if ga.needed then (false, st)
  else
    let (b, st) := recur st ga.g.members gb.g.members (.group ga.g.name)
    if b then
      (true, { st with
        aGrp := modAt st.aGrp gai (fun g => { g with needed := true }),
        bGrp := modAt st.bGrp gbi (fun g => { g with needed := false, onDev := ga.g.name }) })
    else (false, st)

/-- One pair of an equal range (`ok = false`: an earlier step has returned `false`). -/
def pairStep (recur : St → List String → List String → MPath → Bool × St) (la lb : List String)
    (r : Range) (acc : Bool × St × List String) (k : Nat) : Bool × St × List String :=
  let (ok, st, ins) := acc
  if !ok then acc
  else
    match st.aGrpIdx (la.getD (r.lowA + k) "") with
    | none => acc
    | some gai =>
      match st.bGrpIdx (lb.getD (r.lowB + k) "") with
      | none => (false, st, ins)
      | some gbi =>
        let (b, st) := eqGroups recur st gai gbi
        (b, st, ins)

/-- One range of the second loop of `hasEqualizedLists`. -/
def rangeStep (recur : St → List String → List String → MPath → Bool × St) (la lb : List String)
    (path : MPath) (acc : Bool × St × List String) (r : Range) : Bool × St × List String :=
  let (ok, st, ins) := acc
  if !ok then acc
  else match r.kind with
    | .del => (true, st.emitAll ((la.extract r.lowA r.highA).map path.delCmd), ins)
    | .ins =>
      -- names of groups as known or created on the device (repair 7da130b)
      let (l, st) := adaptGroups st (lb.extract r.lowB r.highB)
      (true, st, ins ++ l)
    | .eq => (List.range (r.highA - r.lowA)).foldl (pairStep recur la lb r) (true, st, ins)

/-- `hasEqualizedLists` (with `hasEqualizedGroups` as `eqGroups`). -/
def hasEqLists (diff : Differ) : Nat → St → List String → List String → MPath → Bool × St
  | 0, st, _, _, _ => (false, st)
  | fuel + 1, st, la, lb, path =>
    let rs := diff la.length lb.length
      (fun i j => memberEq st (la.getD i "") (lb.getD j ""))
    if replaceInstead la.length (deletedCount rs) then (false, st)
    else
      let (ok, st, ins) := rs.foldl (rangeStep (hasEqLists diff fuel) la lb path) (true, st, [])
      if !ok then (false, st)
      else if ins.isEmpty then (true, st)
      else (true, st.emit (path.addCmd ins))

def equalizeList (diff : Differ) (fuel : Nat) (st : St) (la lb : List String) (n : String) (f : Fld) : St :=
  let (ok, st) := hasEqLists diff fuel st la lb (.rule n f)
  if ok then st
  else
    let (lb', st) := adaptGroups st lb
    st.emit (.editList n f lb')

def equalize (diff : Differ) (fuel : Nat) (st : St) (ra rb : Rule) : St :=
  let st := equalizeList diff fuel st ra.src rb.src ra.name .src
  let st := equalizeList diff fuel st ra.dst rb.dst ra.name .dst
  if ra.srv != rb.srv then st.emit (.editList ra.name .srv rb.srv) else st

/-! ### `diffRules` -/

/-- The rule-order skeleton of `diffRules`, one insert range: which target rules (by index range) are inserted
before which device rule (`anchor`; `none`: at the end). -/
structure InsGroup where
  anchor : Option String
  lowB : Nat
  highB : Nat
  deriving Repr

/-- One range of the first loop of `diffRules` (`delIdx` is the index after the rules deleted
last). -/
def phase1Step (diff : Differ) (fuel : Nat) (aRules bRules : List Rule)
    (acc : St × Nat × List InsGroup) (r : Range) : St × Nat × List InsGroup :=
  let (st, delIdx, inserts) := acc
  match r.kind with
  | .del =>
    (st.emitAll ((aRules.extract r.lowA r.highA).map (fun ru => Cmd.delRule ru.name)), r.highA, inserts)
  | .ins =>
    let aPos := max r.lowA delIdx
    let anchor := (aRules[aPos]?).map (·.name)
    (st, delIdx, inserts ++ [⟨anchor, r.lowB, r.highB⟩])
  | .eq =>
    let st := (List.range (r.highA - r.lowA)).foldl (fun st k =>
      equalize diff fuel st (aRules.getD (r.lowA + k) default) (bRules.getD (r.lowB + k) default)) st
    (st, delIdx, inserts)

/-- First loop of `diffRules`: deletes and equalisations in range order; inserts are only
collected. -/
def rulePhase1 (diff : Differ) (fuel : Nat) (_a _b : Vsys) (aRules bRules : List Rule)
    (rs : List Range) (st : St) : St × Nat × List InsGroup :=
  rs.foldl (phase1Step diff fuel aRules bRules) (st, 0, [])

/-- One inserted rule: `set`, then `move` unless it belongs at the end. -/
def insertRule (anchor : Option String) (st : St) (ru : Rule) : St :=
  let (src, st) := adaptGroups st ru.src
  let (dst, st) := adaptGroups st ru.dst
  let st := st.emit (.setRule { ru with src := src, dst := dst })
  match anchor with
  | some dst => st.emit (.move ru.name dst)
  | none => st

def insertGroup (bRules : List Rule) (st : St) (ins : InsGroup) : St :=
  (bRules.extract ins.lowB ins.highB).foldl (insertRule ins.anchor) st

/-- Second loop of `diffRules`: every collected rule is appended (`set`) and, unless it belongs
at the end, moved before its anchor. -/
def rulePhase2 (st : St) (bRules : List Rule) (inserts : List InsGroup) : St :=
  inserts.foldl (insertGroup bRules) st

def diffRules (diff : Differ) (fuel : Nat) (st : St) (a b : Vsys) (aRules bRules : List Rule) : St :=
  let rs := diff aRules.length bRules.length
    (fun i j => ruleEqual a b (aRules.getD i default) (bRules.getD j default))
  let (st, _, inserts) := rulePhase1 diff fuel a b aRules bRules rs st
  rulePhase2 st bRules inserts

/-! #### The rule-order skeleton of `diffRules` as pure functions of the script -/

/-- Names of the device rules deleted, in the order of the delete requests. -/
def delNamesOf (a : List String) : List Range → List String
  | [] => []
  | r :: rs =>
    match r.kind with
    | .del => a.extract r.lowA r.highA ++ delNamesOf a rs
    | _ => delNamesOf a rs

/-- The insert groups with their anchors (`d` = `delIdx`). -/
def insGroupsFrom (a : List String) : Nat → List Range → List InsGroup
  | _, [] => []
  | d, r :: rs =>
    match r.kind with
    | .del => insGroupsFrom a r.highA rs
    | .ins => ⟨a[max r.lowA d]?, r.lowB, r.highB⟩ :: insGroupsFrom a d rs
    | .eq => insGroupsFrom a d rs

/-- What remains of the device's rule list after the deletes. -/
def survivors (a : List String) : List Range → List String
  | [] => []
  | r :: rs =>
    match r.kind with
    | .eq => a.extract r.lowA r.highA ++ survivors a rs
    | _ => survivors a rs

/-- The rule sequence the target asks for, in device names for kept rules and new names for
inserted ones. -/
def targetOrder (a b : List String) : List Range → List String
  | [] => []
  | r :: rs =>
    match r.kind with
    | .del => targetOrder a b rs
    | .ins => b.extract r.lowB r.highB ++ targetOrder a b rs
    | .eq => a.extract r.lowA r.highA ++ targetOrder a b rs

/-! ### `transferNeededObjects`, `removeUnneededObjects` -/

def transferCmds (st : St) : List Cmd :=
  st.bAddr.filterMap (fun o =>
    if o.edit then some (.editAddr o.o.name o.o.val)
    else if o.needed then some (.setAddr o.o.name o.o.val) else none) ++
  st.bGrp.filterMap (fun g => if g.needed then some (.setGrp g.newName g.g.members) else none) ++
  st.bSvc.filterMap (fun o =>
    if o.edit then some (.editSvc o.o.name o.o.val)
    else if o.needed then some (.setSvc o.o.name o.o.val) else none) ++
  st.bSG.filterMap (fun g => if g.needed then some (.setSGrp g.g.name g.g.members) else none)

def removeCmds (st : St) : List Cmd :=
  st.aGrp.filterMap (fun g => if !g.needed then some (.delGrp g.g.name) else none) ++
  st.aAddr.filterMap (fun o => if !o.needed then some (.delAddr o.o.name) else none) ++
  st.aSG.filterMap (fun g => if !g.needed then some (.delSGrp g.g.name) else none) ++
  st.aSvc.filterMap (fun o => if !o.needed then some (.delSvc o.o.name) else none)

/-! ### `diffConfig` -/

/-- `genUniqGroupNames`: new names of the target's address-groups.  A group whose name exists on
the device gets the first `name-i` that is not the name of an address-group or of an address
(address and address-group share a name space on the device) of either side, and not generated
before (repair of F-C03g). -/
def groupNamesFor (a b : Vsys) : List String :=
  uniqNamesFrom (a.groups.map (·.name))
    (a.groups.map (·.name) ++ b.groups.map (·.name) ++ (a.addrs.map (·.name) ++ b.addrs.map (·.name)))
    (b.groups.map (·.name))

def planFuel (a b : Vsys) : Nat := a.groups.length + b.groups.length + b.sgroups.length + 2

/-- Final planner state of `diffConfig(a, b)`; `out` holds the rule commands. -/
def planState (diff : Differ) (a0 b0 : Vsys) : St :=
  let a := sortVsys a0
  let b := sortVsys b0
  let fuel := planFuel a b
  let newGroupNames := groupNamesFor a b
  let st := initSt a b newGroupNames
  let st := markObjects fuel st b.rules
  let newRuleNames := uniqNames (ruleNames a.rules) (ruleNames b.rules)
  let bRules := (b.rules.zip newRuleNames).map (fun (r, n) => { r with name := n })
  diffRules diff fuel st a b a.rules bRules

/-- `diffConfig(a, b, vsysPath)` as requests below `vsysPath`. -/
def planVsys (diff : Differ) (a b : Vsys) : List Cmd :=
  let st := planState diff a b
  transferCmds st ++ st.out ++ removeCmds st

/-! ### `GetChanges` / `processVsysPairs` -/

def vsysMap (vs : List Vsys) (n : String) : Option Vsys :=
  (lastIdx (vs.map (·.name)) n).bind (fun i => vs[i]?)

/-- Per device vsys that the target names: the requests for it (omitted when there are none).
Different names of the two `<devices><entry>` elements, or a target vsys the device does not
have, is an error and nothing is emitted. -/
def planDevice (diff : Differ) (devA devB : String) (dev tgt : List Vsys) :
    Except String (List (String × List Cmd)) :=
  if devA != "" && devB != "" && devA != devB then .error "Different names in <device> of XML"
  else
  match tgt.find? (fun v2 => (vsysMap dev v2.name).isNone) with
  | some v2 => .error s!"Unknown name '{v2.name}' in VSYS of device configuration"
  | none =>
    .ok (dev.filterMap (fun v1 =>
      match vsysMap tgt v1.name with
      | none => none
      | some v2 =>
        let l := planVsys diff v1 v2
        if l.isEmpty then none else some (v2.name, l)))

end NA.PanOs
