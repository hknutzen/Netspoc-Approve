/-!
# C12 — vocabulary shared by the regenerated skeleton (`NA/Gen/LockSkel.lean`) and the model

* `Site` — one call site / assignment / return as written by `translate/lockskel` (raw, unfiltered).
* `Step` — the abstract steps of a front-end process (`NA/Model/Lock.lean` gives them semantics).
* `classify` / `stepsOf` — the abstraction from raw sites to steps.  It is deliberately closed:
  a call from which the call graph reaches a writer and that is no known effect becomes `Step.unknown`,
  which counts as a protected step and stands in neither model program, so that an added call shows up as a broken
  obligation (`drc_prog_matches_source`, `doapprove_prog_matches_source`, `every_writing_call_is_protected`).
Core Lean only; only string *equality* is used so that `decide` can evaluate everything.
-/
namespace NA.LockSkel

structure Site where
  fn : String
  args : List String
  lhs : List String
  ctx : List String
  /-- writer functions (and the sink API itself, if this call is one) reachable from the callees of
  this call in the VTA call graph; `[]` = nothing below this call writes a file, starts a process
  or talks to the device -/
  writers : List String
  deriving DecidableEq, Repr

/-- One call of a sink API (file creation / write / rename / removal, process start, pty or HTTP
dialogue, flock) in a module function reachable from `main`. -/
structure SinkSite where
  fn : String      -- enclosing module function
  owner : String   -- package or receiver type of the sink
  name : String
  arg0 : String    -- source text of the first argument
  /-- category: what the API does + where its target comes from, with no function, variable or
  constant NAME in it (`mkdir:basedir/status`, `write:param`, `pty-send`, …; translate/lockskel/graph.go) -/
  cat : String
  deriving DecidableEq, Repr

/-- A sink site that only prints to the terminal or into a local variable (`strings.Builder`). -/
def SinkSite.quiet (s : SinkSite) : Bool :=
  s.cat = "write:os.Stderr" || s.cat = "write:os.Stdout" || s.cat = "write:localvar"

inductive Step
  | readConfig            -- program.LoadConfig (reads ~/.netspoc-approve …)
  | errReturn             -- `if err != nil { return … }` guarding the fallible call before it
  | setLock               -- device.SetLock (un-expanded)
  | mkdirLock             -- os.Mkdir(basedir/lock)
  | openLock              -- os.OpenFile(basedir/lock/<base>, O_CREATE|O_RDONLY)
  | flock                 -- syscall.Flock(fd, LOCK_EX|LOCK_NB)
  | deferClose            -- `defer lockFH.Close()`: keeps the *os.File reachable until Main returns
  | closeLock             -- a non-deferred lockFH.Close(): releases the lock
  | histOpen              -- openHistoryLog: MkdirAll(history) + open O_APPEND|O_CREATE
  | hist (tag : String)   -- logHistory(hLog, tag, …)
  | session               -- device.ApproveOrCompare (un-expanded)
  | logOpen               -- errlog.SetStderrLog(logFile): rotate + create the log file
  | devBegin | devTalk | devEnd   -- the device session (login … commands … exit); session logs
  | status                -- status.SetCompare / status.SetApprove
  | printErr              -- abort(...): "Error: Approve in progress for …" on stderr
  | exit (code : Nat)
  | mayExit (code : Nat)  -- a conditional early `return` (usage error, -h, -v, unknown device, final status)
  | unknown (fn : String) -- anything the abstraction does not know
  deriving DecidableEq, Repr

/-- Steps that write history, status, log files or talk to the device. -/
def Step.protected : Step → Bool
  | .histOpen | .hist _ | .logOpen | .devBegin | .devTalk | .devEnd | .status => true
  | .session | .unknown _ => true
  | _ => false

/-- Steps whose only effect on the process record is to advance the program. -/
def Step.plain : Step → Bool
  | .flock | .closeLock | .deferClose | .exit _ | .mayExit _ => false
  | _ => true

/-- exit code of a `return`: a literal, or `abort(…)` which returns 1 (`abort_returns_1`); any other
computed one (the session's result) counts as 0 -/
def returnCode (args : List String) : Nat :=
  if args = ["1"] then 1
  else match args with
    | [a] => if a.toList.take 6 = ['a', 'b', 'o', 'r', 't', '('] then 1 else 0
    | _ => 0

/-- Abstraction of one site of a `Main` function.  `none` = dropped, which is allowed ONLY for a site
from which the call graph reaches no writer function (`writers = []`), for `return`s inside closures
and for the pseudo sites (assignments, `fallthrough`; they have no callee, hence no writers).
Names are used only to tell WHICH effect a call is; a call that reaches a writer and has no name
here becomes `unknown`, a protected step that neither model program contains. -/
def classify (s : Site) : Option Step :=
  if s.fn = "return" then
    if s.ctx.contains "funclit" then none
    else if s.ctx.getLast? = some "if err != nil" then some .errReturn
    else if s.ctx = [] then some (.exit (returnCode s.args))
    else some (.mayExit (returnCode s.args))   -- conditional early return: a path of its own
  else if s.ctx.contains "funclit" || s.ctx.contains "go" then
    -- body of a closure / a goroutine: may run at another time, so it must reach no writer
    (if s.writers = [] then none else some (.unknown s.fn))
  else if s.fn = "lockFH.Close" then
    (if s.ctx.getLast? = some "defer" then some .deferClose else some .closeLock)
  else if s.ctx.contains "defer" then
    -- runs when Main returns; deferred calls run in reverse order, i.e. possibly after the Close
    (if s.writers = [] then none else some (.unknown s.fn))
  else if s.fn = "device.SetLock" then
    (if s.writers = ["device.SetLock"] then some .setLock else some (.unknown s.fn))
  else if s.fn = "program.LoadConfig" then
    (if s.writers = [] then some .readConfig else some (.unknown s.fn))
  else if s.fn = "openHistoryLog" then some .histOpen
  else if s.fn = "logHistory" then some (.hist (s.args.getD 1 "?"))
  else if s.fn = "device.ApproveOrCompare" then some .session
  else if s.fn = "status.SetCompare" || s.fn = "status.SetApprove" then some .status
  else if s.writers = [] then none
  else some (.unknown s.fn)

/-- Drop the sites of one `case` of one `switch` (a different mode of the program, outside the
property) and forget the switch and the label `keep` in the context of the others; the remaining
cases stay as conditional paths. -/
def dropMode (sw drop keep : String) (sites : List Site) : List Site :=
  sites.filterMap fun s =>
    if s.ctx.contains sw && s.ctx.contains drop then none
    else some { s with ctx := s.ctx.filter (fun c => c != sw && c != keep) }

def stepsOf (sites : List Site) : List Step := sites.filterMap classify

/-- In-lining of the two composite calls.  Justified by the pinned skeletons of `device.SetLock`
(`setlock_skeleton`) and `device.ApproveOrCompare` (`approveOrCompare_skeleton`) in Props/C12. -/
def expand : List Step → List Step
  | [] => []
  | .setLock :: rest => .mkdirLock :: .openLock :: .flock :: expand rest
  | .session :: rest => .logOpen :: .devBegin :: .devTalk :: .devEnd :: expand rest
  | s :: rest => s :: expand rest

/-! ## The boundary of the module (round 3) -/

/-- packages and receiver types all of whose functions neither write nor talk -/
def harmlessOwners : List String := [
  "strings", "slices", "bytes", "strconv", "maps", "cmp", "sort", "regexp", "path", "path/filepath", "net/netip",
  "time", "net/url", "errors", "math/bits", "encoding/json", "encoding/xml", "github.com/pkg/diff/myers",
  "net/http/cookiejar", "*regexp.Regexp", "*strings.Builder", "net/netip.Addr", "net/netip.Prefix", "time.Time",
  "net/url.Values", "*net/url.URL", "net.IPMask", "net/http.Header", "*encoding/json.Decoder",
  "*github.com/spf13/pflag.FlagSet", "*slices.xorshift", "*github.com/pkg/diff/edit.Range",
  "*github.com/pkg/diff/edit.Script"]

/-- single harmless functions: formatting, terminal output, reads, constructors, process exit -/
def harmlessFns : List (String × String) := [
  ("fmt", "Errorf"), ("fmt", "Sprintf"), ("fmt", "Sprint"), ("fmt", "Print"), ("fmt", "Printf"), ("fmt", "Println"),
  ("os", "Getenv"), ("os", "ReadFile"), ("os", "Open"), ("os", "Stat"), ("os", "UserHomeDir"), ("os", "Exit"),
  ("os/exec", "Command"), ("net/http", "NewRequest"), ("github.com/spf13/pflag", "NewFlagSet"),
  ("github.com/tailscale/goexpect", "PartialMatch"), ("golang.org/x/term", "ReadPassword"),
  ("*os.File", "Fd"), ("*os.File", "Name"), ("*os.File", "Close"), ("io", "ReadAll")]

/-- `Error()` of any error type and `Close()` of any reader are harmless (closing the LOCK file is
seen at the level of `Main`: `lockFH.Close`). -/
def harmlessExt (c : String × String) : Bool :=
  c.2 = "Error" || c.2 = "Close" || harmlessOwners.contains c.1 || harmlessFns.contains c

/-- Every category of loud sink site of the program, with what it is.  Keyed by category, not by the
name of the function that contains the site (robustness round 2): a helper may be renamed, inlined or
extracted; a NEW kind of write (another directory below the base directory, a file written whole at a
path the caller gives, a new kind of process or connection) is a new category. -/
def writeCategories : List (String × String) := [
  ("mkdir:basedir/lock", "lock directory"), ("open:basedir/lock", "lock file"), ("flock", "the lock"),
  ("mkdir:basedir/history", "history directory"), ("open:basedir/history", "history file"),
  ("mkdir:basedir/status", "status directory"), ("writefile:basedir/status", "status file"),
  ("write:param", "lines into a file handed in: history (logHistory), session log .change (DoLog), scp temp file"),
  ("write:global", "run log (errlog: stderr or the log file)"),
  ("mkdir:param", "directory of a log file"), ("open:param", "log file creation"), ("rename:param", "log rotation"),
  ("write:param.field", "session log .login/.config/.change (Conn.logString)"),
  ("write:call", "session log .cmp (file from getLogFH)"),
  ("pty-spawn", "device: ssh"), ("pty-send", "device: ssh"), ("pty-expect", "device: ssh"),
  ("network", "device: https"), ("exec", "device: scp"),
  ("tempfile", "temp file for scp"), ("remove:call", "temp file for scp")]

end NA.LockSkel
