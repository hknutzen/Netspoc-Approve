import NA.Model.Gate
/-
The programs: one `Prog` per Go function on the approve / compare path, written so that
`skel 0 prog` is exactly the skeleton that `translate/gateskel` extracts from the Go source
(theorem `skeleton_matches` in NA/Props/C06Tie.lean).  Anchors: go/pkg/device/main.go,
cisco/device.go, asa/device.go, ios/device.go, linux/device.go, panos/device.go,
panos/config.go, nsx/device.go, httpdevice/device.go.

Not modelled (notes only): credentials lookup, log files, parsing of Netspoc files, deferred
clean-up of IOS ApplyCommands (C09 / C15 own those).
-/
namespace NA.Gate

def errRet (t : String) : Prog := .note "guard" "err != nil" ;; .block (.note "ret" t)

/-- A pure helper of the Go code (parsing, decoding, comparison of configurations): the model gives
it a meaning (`body`), the normal form of the skeleton does not show the call. -/
abbrev pureCall (body : Prog) : Prog := .call "" body

/-! Regular expressions of the login dialogues (Go raw strings; constants are folded by the
translator, so the requests show the whole expression). -/
def ciscoStdPrompt : String := "\\n\\r?[^#> ]+[>#] ?$"
def linuxStdPrompt : String := "\\r\\n\\S*\\s?[%>$#]\\s?(?:\\x27\\S*)?"
def linuxPassPrompt : String := linuxStdPrompt ++ "|(?i)password:"

def isText : Reply → Bool
  | .text _ => true
  | _ => false

def missingBanner : String := "Missing banner at NetSPoC managed device"
def wrongName : String := "Wrong device name"

/-- `out := <reply>` / `out = <reply>` -/
def outDecl : Prog := .assign .out true false .reply
def outSet : Prog := .assign .out false false .reply
/-- `out := <reply>` in LoadDevice, where the connection handle of the inlined GetSSHConn is the first
reply variable: the variable prints as `r2` -/
def cfgDecl : Prog := .assign .out true true .reply ;; .note "assign" "r2 := <reply>"

/-! ## cisco (ASA, IOS) -/

/-- `strings.HasSuffix(out, suffix)` after `out = strings.TrimSuffix(out, " ")` -/
def sufOut (suf : String) : Pred := .hasSuffix (.v .out) suf

/-- body of the closure `waitPrompt(enter, suffix)` -/
def wpBody (o : Out) : Prog :=
  .send "IssueCmd" ("c1p1 " ++ goQuote ("(?i)password:|" ++ ciscoStdPrompt)) o .abort ;; outSet ;;
  .collect "v1 = v1 + r1" ;;
  .assign .out false false (.trimSuffix (.v .out) " ") ;;
  .note "ret" "strings.HasSuffix(r1, c1p2)"

/-- `checkBanner(lines, cfg)`: the parameter `lines` is bound to `bannerLines` -/
def ciscoCheckBanner : Prog :=
  .assign .lines true true .bannerLines ;;
  .record (.and .bannerSet (.bannerNoMatch (.v .lines)))
    "recv.errUnmanaged = []error{errors.New(\"Missing banner at NetSPoC managed device\")}" .set
    (fun _ _ => [missingBanner])

/-- `strings.HasSuffix(strings.ToLower(out), "password:")` -/
def askedForPassword : Pred := .hasSuffix (.toLower (.v .out)) "password:"

/-- `LoginEnable` up to (not including) the call of `checkBanner`. -/
def ciscoLoginPre : Prog :=
  .send "WaitLogin" (goQuote "(?i)password:|\\(yes/no.*\\)\\?") .wait .abort ;; outDecl ;;
  .ite (.hasSuffix (.v .out) "?")
    (.send "IssueCmd" "\"yes\" \"(?i)password:\"" (.lit "yes") .abort ;; outSet) .nop ;;
  .collect "v1 = v1 + r1" ;;
  .defn "f1" (wpBody (.lit "<enter>")) ;;
  .call "f1" (wpBody .pass) ;;
  .ite (.val "f1(p1, \">\")" (sufOut ">"))
    (.call "f1" (wpBody (.lit "enable")) ;;
     .ite (.not (.val "f1(\"enable\", \"#\")" (sufOut "#")))
       -- `if !strings.HasSuffix(strings.ToLower(out), "password:") || !waitPrompt(pass, "#") { Abort }`:
       -- `||` short-circuits, the password is sent only if the device asks for one.  The steps are
       -- inside the call node; the guard is shown in the form printed from the same predicates.
       (.call "f1"
          (.ite askedForPassword
             (wpBody .pass ;;
              .check (.not (.val "f1(p1, \"#\")" (sufOut "#"))) "abort"
                "Authentication for enable mode failed" (.abort "Authentication for enable mode failed"))
             (.check (.not askedForPassword) "abort" "Authentication for enable mode failed"
                (.abort "Authentication for enable mode failed"))) ;;
        .note "guard" (Pred.or (.not askedForPassword) (.not (.val "f1(p1, \"#\")" (sufOut "#")))).show ;;
        .block (.note "abort" "Authentication for enable mode failed"))
       .nop)
    (.check (.not (.hasSuffix (.v .out) "#")) "abort" "Authentication failed"
      (.abort "Authentication failed")) ;;
  .send "IssueCmd" "\"\" \"#[ ]?\"" (.lit "") .abort ;; outSet

def ciscoLoginEnable : Prog := ciscoLoginPre ;; .call "checkBanner" ciscoCheckBanner

def ciscoGetChanges : Prog :=
  pureCall
    (.check (.opaque "" fun c r _ => (c.changesErr r).isSome) "ret" "err" (.fail "GetChanges: interface check")) ;;
  errRet "err" ;;
  .note "ret" "nil"

def parseConfig : Prog :=
  .check (.opaque "" fun c r _ => match r with | .text s => !c.parses s | _ => true) "ret" "err"
    (.fail "While reading device: parse error")

/-- `console.GetSSHConn` (inlined by the translator: it is the only thing between the credentials
and the login dialogue that touches the wire) -/
def sshConn : Prog :=
  errRet "nil, err" ;;
  .send "SpawnWithArgs" "" .connect .fail ;; .note "assign" "r1, _, err := <reply>"

def asaSetTerminal : Prog :=
  .send "GetCmdOutput" "\"sh pager\"" (.lit "sh pager") .abort ;; outDecl ;;
  .ite (.not (.contains (.v .out) "no pager"))
    (.send "SendCmd" "\"terminal pager 0\"" (.lit "terminal pager 0") .abort) .nop ;;
  .send "GetCmdOutput" "\"sh term\"" (.lit "sh term") .abort ;; outSet ;;
  .ite (.not (.contains (.v .out) "511"))
    (.send "SendCmd" "\"configure terminal\"" (.lit "configure terminal") .abort ;;
     .send "SendCmd" "\"terminal width 511\"" (.lit "terminal width 511") .abort ;;
     .send "SendCmd" "\"end\"" (.lit "end") .abort) .nop

def asaLogVersion : Prog := .send "GetCmdOutput" "\"sh ver\"" (.lit "sh ver") .abort

/-- `if name != out { errlog.Abort("Wrong device name …") }` -/
def nameCheck : Prog :=
  .check (.ne .name (.v .out)) "abort" "Wrong device name: %q, expected: %q" (.abort wrongName)

def asaCheckDeviceName : Prog :=
  .send "GetCmdOutput" "\"show hostname\"" (.lit "show hostname") .abort ;; outDecl ;;
  .assign .out false false (.trimSuffix (.v .out) "\n") ;;
  nameCheck

def ciscoPreLogin : Prog :=
  errRet "nil, err" ;;
  sshConn ;; errRet "nil, err"

def asaPostLogin : Prog :=
  .call "setTerminal" asaSetTerminal ;;
  .call "logVersion" asaLogVersion ;;
  .call "checkDeviceName" asaCheckDeviceName ;;
  .send "GetCmdOutput" "\"write term\"" (.lit "write term") .abort ;; cfgDecl ;;
  pureCall parseConfig ;; .note "assign" "v1, err ⇐ r2" ;;
  .note "ret" "v1, err"

def asaLoadDevice : Prog := ciscoPreLogin ;; .call "LoginEnable" ciscoLoginEnable ;; asaPostLogin

def iosSetTerminal : Prog :=
  .send "SendCmd" "\"term len 0\"" (.lit "term len 0") .abort ;;
  .send "SendCmd" "\"term width 512\"" (.lit "term width 512") .abort

def iosLogVersion : Prog := .send "GetCmdOutput" "\"sh ver\"" (.lit "sh ver") .abort

def iosCheckDeviceName : Prog :=
  .send "IssueCmd" "\"\" \"#[ ]?\"" (.lit "") .abort ;;
  .assign .out true false (.trimSpace .reply) ;;
  .assign .out false false (.trimSuffix (.v .out) "#") ;;
  nameCheck

def iosPostLogin : Prog :=
  .call "setTerminal" iosSetTerminal ;;
  .call "logVersion" iosLogVersion ;;
  .call "checkDeviceName" iosCheckDeviceName ;;
  .send "GetCmdOutput" "\"sh run\"" (.lit "sh run") .abort ;; cfgDecl ;;
  pureCall parseConfig ;; .note "assign" "v1, err ⇐ r2" ;;
  .note "ret" "v1, err"

def iosLoadDevice : Prog := ciscoPreLogin ;; .call "LoginEnable" ciscoLoginEnable ;; iosPostLogin

/-! ## Linux -/

def linuxLoginEnable : Prog :=
  .send "WaitLogin" (goQuote (linuxPassPrompt ++ "|\\(yes/no.*\\)\\?")) .wait .abort ;; outDecl ;;
  .ite (.hasSuffix (.v .out) "?")
    (.send "IssueCmd" ("\"yes\" " ++ goQuote linuxPassPrompt) (.lit "yes") .abort ;; outSet) .nop ;;
  .ite (.hasSuffix (.v .out) "word:")
    (.send "IssueCmd" ("p1 " ++ goQuote linuxPassPrompt) .pass .abort ;; outSet) .nop ;;
  .check (.hasSuffix (.v .out) "word:") "abort" "Authentication failed" (.abort "Authentication failed") ;;
  .send "IssueCmd" ("\"PS1=router#\" " ++ goQuote linuxStdPrompt) (.lit "PS1=router#") .abort

def linuxLogVersion : Prog :=
  .send "GetCmdOutput" "\"uname -r\"" (.lit "uname -r") .abort ;;
  .send "GetCmdOutput" "\"uname -m\"" (.lit "uname -m") .abort

def linuxCheckDeviceName : Prog :=
  .send "GetCmdOutput" "\"hostname -s\"" (.lit "hostname -s") .abort ;; outDecl ;;
  .assign .out false false (.trimSuffix (.v .out) "\n") ;;
  nameCheck

def linuxGrep (cfg : Cfg) : Prog :=
  .send "GetCmdOutput" ("\"grep '\" + " ++ TExp.re.show ++ " + \"' /etc/issue\"") (.litArg "grep '" cfg.bannerSrc) .abort ;;
  .assign .out true false .reply ;;
  .record (.isEmpty (.v .out))
    "recv.errUnmanaged = []error{errors.New(\"Missing banner at NetSPoC managed device\")}" .set
    (fun _ _ => [missingBanner])

/-- `checkBanner` as it is now (with the nil guard of the `fix:` commit). -/
def linuxCheckBanner (cfg : Cfg) : Prog :=
  .early .bannerUnset "" (linuxGrep cfg)

/-- `checkBanner` of the unchanged tree: `cfg.CheckBanner.String()` on a nil regexp. -/
def linuxCheckBannerUnfixed (cfg : Cfg) : Prog :=
  .crash "cfg.CheckBanner.String(): nil pointer dereference" (fun c => c.banner.isNone) ;;
  linuxGrep cfg

def linuxGetIPTables : Prog :=
  .send "GetCmdOutput" "\"iptables-save\"" (.lit "iptables-save") .abort ;; outDecl ;;
  .note "ret" "parseIPTables(…)"

def linuxGetRoutes : Prog :=
  .send "GetCmdOutput" "\"ip route show\"" (.lit "ip route show") .abort ;; outDecl ;;
  .note "ret" "parseRoutes(…)"

def linuxPreBanner : Prog :=
  errRet "nil, err" ;;
  sshConn ;; errRet "nil, err" ;;
  .call "loginEnable" linuxLoginEnable ;;
  .call "logVersion" linuxLogVersion ;;
  .call "checkDeviceName" linuxCheckDeviceName

def linuxPostBanner : Prog :=
  .call "getDeviceIPTables" linuxGetIPTables ;;
  .call "getDeviceRoutes" linuxGetRoutes ;;
  .note "ret" "&config{iptables: recv.getDeviceIPTables(), routes: recv.getDeviceRoutes()}, err"

def linuxLoadDeviceWith (checkBanner : Prog) : Prog :=
  linuxPreBanner ;; .call "checkBanner" checkBanner ;; linuxPostBanner

def linuxLoadDevice (cfg : Cfg) : Prog := linuxLoadDeviceWith (linuxCheckBanner cfg)

def linuxGetChanges : Prog := .note "ret" "nil"

/-! ## PAN-OS -/

def panKeygen : Out := .lit "type=keygen"
def panHa : Out := .lit "type=op&cmd=<show><high-availability><state/></high-availability></show>"
def panConf : Out := .lit "type=config&action=get&xpath=/config/devices"

def panGetAPIKey : Prog :=
  errRet "\"\", err" ;;
  .send "httpGet" "v1" panKeygen .fail ;; .note "assign" "r1, err := <reply>" ;;
  errRet "\"\", Errorf(…)" ;;
  pureCall
    (.check (.opaque "" fun _ r _ => !isText r) "ret" "err" (.fail "API key: no key")) ;;
  .note "ret" "parseAPIKey(…)"

/-- `checkHA` returns false on any error; true iff HA is off or this is the active member. -/
def haOK : Reply → Bool
  | .ha e m s =>
    if e != "yes" then true
    else if m == "Active-Passive" then s == "active"
    else if m == "Active-Active" then s == "active-primary"
    else false
  | _ => false

def outText : Out → String
  | .lit s => s
  | _ => ""

def panCheckHA : Prog :=
  .send "httpPrefixGetLog" (goQuote (outText panHa)) panHa .ignore ;; .note "assign" "r1, err := <reply>" ;;
  errRet "false" ;;
  .note "assign" "_, v1, err ⇐ r1" ;;
  errRet "false" ;;
  .note "assign" "err, v2 ⇐ v1" ;;
  errRet "false" ;;
  .note "guard" "v2.Enabled != \"yes\"" ;; .block (.note "ret" "true") ;;
  -- `switch ha.Mode` = dispatch on constants: one guard per branch, sorted by the test
  .note "guard" "v2.Mode == \"Active-Active\"" ;; .block (.note "ret" "v2.State == \"active-primary\"") ;;
  .note "guard" "v2.Mode == \"Active-Passive\"" ;; .block (.note "ret" "v2.State == \"active\"") ;;
  .note "ret" "false"

/-- the closure passed to TryReachableHTTPLogin, for name `n` of the name list -/
def panLoginBody (n : String) : Prog :=
  .call "getAPIKey" panGetAPIKey ;; errRet "err" ;;
  .call "checkHA" panCheckHA ;;
  .check (.opaque "!recv.checkHA(p3)" fun _ r _ => !haOK r) "ret" "Errorf(…)"
    (.fail "not in active state") ;;
  .setName n ;;
  .note "ret" "nil"

/-- `httpdevice.TryReachableHTTPLogin`: the names of the name list in turn; an error of the
login closure is a warning and the next name is tried. -/
def tryNames (body : String → Prog) : List String → Prog
  | [] => .check (.opaque "" fun _ _ _ => true) "ret" "Errorf(…)" (.fail "Devices unreachable")
  | n :: ns => .attempt (body n) (tryNames body ns)

def panCheckDeviceName : Prog :=
  .check (.opaque "v1 != p1" fun _ r dn =>
      match r with
      | .conf h _ => h != dn
      | _ => true) "ret" "Errorf(…)" (.fail wrongName) ;;
  .note "ret" "nil"

/-- `LoadDevice` from the request of the candidate configuration on. -/
def panLoadSuffix : Prog :=
  .send "httpPrefixGetLog" (goQuote (outText panConf)) panConf .fail ;; .note "assign" "r1, err := <reply>" ;;
  errRet "nil, err" ;;
  pureCall
    (.check (.opaque "" fun _ r _ => match r with | .conf _ _ => false | _ => true) "ret" "err"
      (.fail "While reading device: bad config")) ;;
  .note "assign" "v2, err ⇐ r1" ;;
  errRet "v2, Errorf(…)" ;;
  .call "checkDeviceName" panCheckDeviceName ;;
  .note "ret" "v2, err"

def panLoadDevice (cfg : Cfg) : Prog :=
  .note "assign" "v1 := \"\"" ;;
  .call "TryReachableHTTPLogin" (tryNames panLoginBody cfg.names) ;;
  .defn "" (panLoginBody "<name>") ;;
  errRet "nil, err" ;;
  panLoadSuffix

/-- `strings.Contains(strings.ToLower(v.DisplayName), "netspoc")` -/
def panMarked (displayName : String) : Bool := infixL (lowerL displayName.toList) "netspoc".toList

def panUnmarked (cfg : Cfg) (vs : List (String × String)) : List String :=
  (vs.filter fun v => cfg.targetVsys.contains v.1 && !panMarked v.2).map
    fun v => "Missing NetSPoC in name of " ++ v.1

def panUnmarkedOf (cfg : Cfg) : Reply → List String
  | .conf _ vs => panUnmarked cfg vs
  | _ => []

/-- `checkUnmanaged(v)` for every vsys pair, in one step -/
def panCheckUnmanaged : Prog :=
  .record (.opaque "!strings.Contains(strings.ToLower(p1.DisplayName), \"netspoc\")" fun cfg r _ => !(panUnmarkedOf cfg r).isEmpty)
    "recv.errUnmanaged = append(recv.errUnmanaged, fmt.Errorf(\"Missing NetSPoC in name of %s\", p1.Name))"
    .append panUnmarkedOf

/-- `GetChanges`: for every vsys pair `checkUnmanaged`; a vsys only Netspoc knows is an error. -/
def panProcessVsysPairs : Prog :=
  .call "checkUnmanaged" panCheckUnmanaged ;;
  .check (.opaque "v1 == nil" fun cfg r _ =>
      match r with
      | .conf _ vs => !(cfg.targetVsys.all fun t => vs.any fun v => v.1 == t)
      | _ => false) "ret" "Errorf(…)" (.fail "Unknown name in VSYS of device configuration")

def panGetChanges : Prog :=
  pureCall panProcessVsysPairs ;;
  .defn ""
    (.note "guard" "c1p1 == nil" ;; .block (.note "ret" "Errorf(…)") ;;
     .note "guard" "c1p2 == nil" ;; .block (.note "ret" "nil") ;;
     .call "checkUnmanaged" panCheckUnmanaged ;;
     .note "ret" "nil") ;;
  .note "ret" "processVsysPairs(…)"

/-! ## NSX -/

def nsxLoginBody (_n : String) : Prog :=
  errRet "err" ;;
  .send "PostForm" "v1" (.lit "POST /api/session/create") .fail ;; .note "assign" "r1, err := <reply>" ;;
  errRet "err" ;;
  .note "guard" "r1.StatusCode != http.StatusOK" ;; .block (.note "ret" "Errorf(…)") ;;
  .note "ret" "nil"

/-- the three values of the variable `path` of `nsx.LoadDevice` (shown in its skeleton) -/
def nsxPoliciesPath : String := "/policy/api/v1/infra/domains/default/gateway-policies"
def nsxServicesPath : String := "/policy/api/v1/infra/services"
def nsxGroupsPath : String := "/policy/api/v1/infra/domains/default/groups"

def nsxPolicies : Out := .lit ("GET " ++ nsxPoliciesPath)
def nsxPolicyPre : String := "GET " ++ nsxPoliciesPath ++ "/"
def nsxServicesPre : String := "GET " ++ nsxServicesPath ++ "?cursor="
def nsxGroupsPre : String := "GET " ++ nsxGroupsPath ++ "?cursor="

def cursorOf : Reply → String
  | .page _ c => c
  | _ => ""

/-- `getRawJSON(path)`: `for { GET path?cursor=<cursor>; …; cursor = results.Cursor; if cursor == "" { break } }`
(the `guard v1 == "" / break` is printed by `skel` from the loop condition) -/
def nsxGetRawJSON (pre : String) : Prog :=
  .setCur (fun _ => "") ;;
  .loop ""
    (.sendCur "sendRequest" "\"GET\" p1 + \"?cursor=\" + v1" pre .fail ;;
     .note "assign" "r1, err := <reply>" ;;
     errRet "nil, err" ;;
     .note "assign" "err, v2 ⇐ r1" ;;
     .check (.opaque "err != nil" fun _ r _ => match r with | .page _ _ => false | _ => true)
       "ret" "nil, Errorf(…)" (.fail "while parsing") ;;
     .note "for" "range v2.Results" ;;
     .block (.note "assign" "err, v3 ⇐ v4" ;; errRet "nil, err" ;;
             .note "if" "strings.HasPrefix(v3.Id, \"Netspoc\")" ;; .block (.note "assign" "v5 ⇐ v5, v4")) ;;
     .setCur cursorOf ;; .note "assign" "v1 = v2.Cursor")
    .cursorSet ;;
  .note "ret" "v5, nil"

def isNetspocId (id : String) : Bool := "Netspoc".toList.isPrefixOf id.toList

def nsxLoadDevice (cfg : Cfg) : Prog :=
  .call "TryReachableHTTPLogin" (tryNames nsxLoginBody cfg.names) ;;
  .defn "" (nsxLoginBody "<name>") ;;
  errRet "nil, err" ;;
  .note "assign" ("v2 := " ++ goQuote nsxPoliciesPath) ;;
  .send "sendRequest" "\"GET\" v2" nsxPolicies .fail ;; .note "assign" "r2, err := <reply>" ;;
  errRet "nil, err" ;;
  .note "assign" "err, v3 ⇐ r2" ;;
  .check (.opaque "err != nil" fun _ r _ => match r with | .page _ _ => false | _ => true)
    "ret" "nil, Errorf(…)" (.fail "while parsing") ;;
  .forIds "range v3.Results" (fun _ => true)
    (.ite (.idHasPrefix "Netspoc")
      (.sendCur "sendRequest" "\"GET\" v2 + \"/\" + v4.Id" nsxPolicyPre .fail ;;
       .note "assign" "r3, err := <reply>" ;; errRet "nil, err" ;;
       .note "assign" "v5.Policies ⇐ v5, r3") .nop) ;;
  .note "assign" ("v2 = " ++ goQuote nsxServicesPath) ;;
  .call "getRawJSON" (nsxGetRawJSON nsxServicesPre) ;; errRet "nil, err" ;;
  .note "assign" ("v2 = " ++ goQuote nsxGroupsPath) ;;
  .call "getRawJSON" (nsxGetRawJSON nsxGroupsPre) ;; errRet "nil, err" ;;
  .note "assign" "v6, err ⇐ v5" ;; errRet "nil, err" ;;
  .note "assign" "v7, err ⇐ v6" ;; errRet "nil, Errorf(…)" ;;
  .note "ret" "v7, nil"

def nsxGetChanges : Prog := .note "ret" "nil"

/-! ## ApplyCommands (skeleton not compared here: C09 / C15) -/

def okOut : Pred := .not (.contains (.v .out) "[OK]")

def asaApply : Prog :=
  .send "cmd" "" (.lit "configure terminal") .abort ;;
  .forPlan .abort .nop ;;
  .send "cmd" "" (.lit "end") .abort ;;
  .send "GetCmdOutput" "" (.lit "write memory") .abort ;; outDecl ;;
  .check okOut "abort" "write memory failed" (.abort "Command 'write memory' failed")

def iosApply : Prog :=
  .send "SendCmd" "" (.lit "configure terminal") .abort ;;
  .send "SendCmd" "" (.lit "no logging console") .abort ;;
  .send "SendCmd" "" (.lit "line vty 0 15") .abort ;;
  .send "SendCmd" "" (.lit "logging synchronous level all") .abort ;;
  .send "SendCmd" "" (.lit "ip subnet-zero") .abort ;;
  .send "SendCmd" "" (.lit "ip classless") .abort ;;
  .send "SendCmd" "" (.lit "end") .abort ;;
  .send "IssueCmd" "" (.lit "reload in 2") .abort ;; outDecl ;;
  .ite (.contains (.v .out) "[yes/no]")
    (.send "IssueCmd" "" (.lit "n") .abort) .nop ;;
  .send "SendCmd" "" (.lit "") .abort ;;
  .send "SendCmd" "" (.lit "configure terminal") .abort ;;
  .forPlan .abort .nop ;;
  .send "SendCmd" "" (.lit "end") .abort ;;
  .send "IssueCmd" "" (.lit "reload cancel") .abort ;;
  .send "SendCmd" "" (.lit "") .abort ;;
  .send "IssueCmd" "" (.lit "write memory") .abort ;; outDecl ;;
  .check okOut "abort" "write mem: unexpected result" (.abort "write mem: unexpected result")

def linuxApply : Prog :=
  .forPlan .abort
    (.send "GetCmdOutput" "" (.lit "echo $?") .abort ;; outDecl ;;
     .check (.ne (.v .out) (.lit "0\n")) "abort" "failed (exit status)" (.abort "failed (exit status)"))

def isTextEq (r : Reply) (t : String) : Bool :=
  match r with
  | .text s => s == t
  | _ => false

/-- `commit()`: enqueue the partial commit; if a job was enqueued poll it
(`for { show jobs; switch result { case "PEND": continue; case "OK": return nil; default: error } }`). -/
def panApply (cfg : Cfg) : Prog :=
  .forPlan .fail .nop ;;
  .send "doCmd" "" (.litArg "type=commit&action=partial&cmd=" cfg.user) .fail ;;
  .ite (.opaque "job enqueued" fun _ r _ => match r with | .text s => s != "" | _ => false)
    (.loop "poll"
       (.send "doCmd" "" (.litArg "type=op&cmd=<show><jobs><id>" "job") .fail ;;
        .check (.opaque "unexpected job result" fun _ r _ => !(isTextEq r "PEND" || isTextEq r "OK"))
          "ret" "Errorf(…)" (.fail "Commit failed: Unexpected job result"))
       (.opaque "PEND" fun _ r _ => isTextEq r "PEND"))
    .nop

def nsxApply : Prog := .forPlan .fail .nop

/-! ## per backend -/

def backendLoad (b : Backend) (cfg : Cfg) : Prog :=
  match b with
  | .asa => asaLoadDevice
  | .ios => iosLoadDevice
  | .linux => linuxLoadDevice cfg
  | .panos => panLoadDevice cfg
  | .nsx => nsxLoadDevice cfg

def backendGetChanges : Backend → Prog
  | .asa | .ios => ciscoGetChanges
  | .linux => linuxGetChanges
  | .panos => panGetChanges
  | .nsx => nsxGetChanges

def backendApply (b : Backend) (cfg : Cfg) : Prog :=
  match b with
  | .asa => asaApply
  | .ios => iosApply
  | .linux => linuxApply
  | .panos => panApply cfg
  | .nsx => nsxApply

/-- What `GetErrUnmanaged` returns: the recorded list (`true`) or always nil (`false`). -/
def consults : Backend → Bool
  | .asa | .ios | .panos => true
  | .linux | .nsx => false

def getErrUnmanagedSkel (b : Backend) : List Item :=
  [(0, "ret", if consults b then "recv.errUnmanaged" else "nil")]

/-- `CloseConnection`: ASA / IOS send `exit`; the others do nothing. -/
def closeOut : Backend → Option Out
  | .asa | .ios => some (.lit "exit")
  | _ => none

/-! ## orchestration: go/pkg/device/main.go -/

def loadDeviceP (load : Prog) : Prog :=
  errRet "nil, err" ;;
  errRet "nil, err" ;;
  .call "LoadDevice" load ;; .note "ret" "LoadDevice(…)"

def getCompareP (getChanges : Prog) : Prog :=
  errRet "err" ;;
  .call "GetChanges" getChanges ;; .note "ret" "GetChanges(…)"

def compareDeviceP (load getChanges : Prog) : Prog :=
  .call "loadDevice" (loadDeviceP load) ;; errRet "err" ;;
  .call "getCompare" (getCompareP getChanges) ;; .note "ret" "getCompare(…)"

def applyCommandsP (apply : Prog) : Prog :=
  errRet "err" ;;
  .ifChanges (.call "ApplyCommands" apply ;; .note "ret" "ApplyCommands(…)")

/-- `(*state).approve`, parameterised by the pieces so that variants (the unchanged Linux
`checkBanner`) can be plugged in. -/
def approveWith (load getChanges : Prog) (consult : Bool) (apply : Prog) : Prog :=
  .call "compareDevice" (compareDeviceP load getChanges) ;; errRet "err" ;;
  .gate consult ;;
  .call "applyCommands" (applyCommandsP apply) ;; .note "ret" "applyCommands(…)"

def approveP (b : Backend) (cfg : Cfg) : Prog :=
  approveWith (backendLoad b cfg) (backendGetChanges b) (consults b) (backendApply b cfg)

def compareWith (load getChanges : Prog) : Prog :=
  .call "compareDevice" (compareDeviceP load getChanges) ;; errRet "err" ;;
  .warnU ;;
  .note "if" "recv.logFname != \"\" && recv.HasChanges()" ;;
  .block (errRet "err") ;;
  .note "ret" "nil"

def compareP (b : Backend) (cfg : Cfg) : Prog := compareWith (backendLoad b cfg) (backendGetChanges b)

/-- `device.ApproveOrCompare` (the closure run under `errlog.HandleAbort`). -/
def approveOrCompareP (b : Backend) (cfg : Cfg) : Prog :=
  .note "closure" "" ;;
  .block
    (.ite (.opaque "p1" fun c _ _ => c.isCompare)
       (.call "compare" (compareP b cfg)) (.call "approve" (approveP b cfg)) ;;
     .note "call" "CloseConnection" ;;
     .note "guard" "err != nil" ;; .block (.note "abort" "%v") ;;
     .note "ret" "0") ;;
  .note "ret" "HandleAbort(…)"

/-- One whole run of `device.ApproveOrCompare` against `env.dev`. -/
def runMain (b : Backend) (env : Env) : St :=
  closeStep (closeOut b) (run env (approveOrCompareP b env.cfg))

/-- `device.CompareFiles`: two files, no device. -/
def compareFilesP : Prog :=
  .note "closure" "" ;;
  .block
    (.note "guard" "err != nil" ;; .block (.note "abort" "%v") ;;
     .note "call" "getCompare" ;; .note "guard" "err != nil" ;; .block (.note "abort" "%v") ;;
     .note "ret" "0") ;;
  .note "ret" "HandleAbort(…)"

/-! ## front ends

The dispatch of both front ends is DATA (flag names, action words, log-file suffixes) from which
both the model functions and the expected skeleton items (`frontEndFacts`) are computed; the
skeleton items are compared with the facts regenerated from the Go source. -/

/-- drc: (long, short) name of the flag that selects compare, and of the log directory flag -/
def drcCompareFlag : String × String := ("compare", "C")
def drcLogDirFlag : String × String := ("logdir", "L")

/-- `isCompare := fs.BoolP("compare", "C", …)` -/
def drcIsCompare (flags : List String) : Bool :=
  flags.contains ("-" ++ drcCompareFlag.2) || flags.contains ("--" ++ drcCompareFlag.1)

/-- The result of a usage error: nothing is sent, exit status 1. -/
def usageSt : St := { status := .failed "usage" }

/-- `drc [flags] ARG…`: one argument talks to the device (compare iff the flag is given), two
arguments compare files, anything else is a usage error. -/
def runDrc (b : Backend) (cfg : Cfg) (dev : Dev) (plan : List String) (flags : List String)
    (nargs : Nat) : St :=
  if nargs = 1 then runMain b ⟨{ cfg with isCompare := drcIsCompare flags }, dev, plan⟩
  else if nargs = 2 then run ⟨cfg, dev, plan⟩ compareFilesP
  else usageSt

/-- do-approve: the word `isCompare` is compared with … -/
def doApproveCompareWord : String := "compare"

/-- … and the `switch action`: case literal ↦ suffix of the log file; `default` is a usage error. -/
def doApproveCases : List (String × String) := [("compare", ".compare"), ("approve", ".drc")]

/-- `do-approve ACTION DEVICE`, as the code does it: the switch decides whether the word is
accepted (and how the log file is called), `isCompare := action == "compare"` decides what runs. -/
def runDoApprove (b : Backend) (cfg : Cfg) (dev : Dev) (plan : List String) (action : String) : St :=
  match doApproveCases.lookup action with
  | none => usageSt
  | some _ => runMain b ⟨{ cfg with isCompare := action == doApproveCompareWord }, dev, plan⟩

/-! ## the table compared with `Gen.GateSkel.functions` -/

def tryReachableSkel : List Item := [
  (0, "guard", "err != nil"), (1, "ret", "err"),
  (0, "for", "range v1"),
  (1, "guard", "err != nil"), (2, "ret", "err"),
  (1, "call", "p3"), (1, "guard", "err == nil"), (2, "ret", "nil"),
  (1, "warn", ""),
  (0, "ret", "Errorf(…)")]

def nsxSendRequestSkel : List Item := [
  (0, "guard", "err != nil"), (1, "ret", "nil, err"),
  (0, "send", "Do v1"), (0, "assign", "r1, err := <reply>"), (0, "guard", "err != nil"), (1, "ret", "nil, err"),
  (0, "guard", "r1.StatusCode != http.StatusOK"), (1, "ret", "nil, New(…)"),
  (0, "ret", "ReadAll(…)")]

def panHttpPrefixGetLogSkel : List Item := [
  (0, "send", "httpGet recv.urlPrefix + p1"), (0, "assign", "r1, err := <reply>"), (0, "ret", "r1, err")]

def panHttpGetSkel : List Item := [
  (0, "send", "Get p1"), (0, "assign", "r1, err := <reply>"), (0, "guard", "err != nil"), (1, "ret", "nil, err"),
  (0, "assign", "v1, err ⇐ r1"),
  (0, "guard", "r1.StatusCode != http.StatusOK"), (1, "ret", "v1, New(…)"),
  (0, "ret", "v1, err")]

/-- Function name ↦ skeleton of the program that models it (at the default configuration; the
configuration only changes run-time strings, never the shape). -/
def modelSkeletons : List (String × List Item) :=
  let cfg : Cfg := {}
  [ ("device.ApproveOrCompare", skel 0 (approveOrCompareP .asa cfg)),
    ("device.CompareFiles", skel 0 compareFilesP),
    ("device.(*state).approve", skel 0 (approveP .asa cfg)),
    ("device.(*state).compare", skel 0 (compareP .asa cfg)),
    ("device.(*state).compareDevice", skel 0 (compareDeviceP .nop .nop)),
    ("device.(*state).loadDevice", skel 0 (loadDeviceP .nop)),
    ("device.(*state).applyCommands", skel 0 (applyCommandsP .nop)),
    ("device.(*state).getCompare", skel 0 (getCompareP .nop)),
    ("cisco.(*State).LoginEnable", skel 0 ciscoLoginEnable),
    ("cisco.(*State).checkBanner", skel 0 ciscoCheckBanner),
    ("cisco.(*State).GetErrUnmanaged", getErrUnmanagedSkel .asa),
    ("asa.(*State).LoadDevice", skel 0 asaLoadDevice),
    ("asa.(*State).setTerminal", skel 0 asaSetTerminal),
    ("asa.(*State).logVersion", skel 0 asaLogVersion),
    ("asa.(*State).checkDeviceName", skel 0 asaCheckDeviceName),
    ("ios.(*State).LoadDevice", skel 0 iosLoadDevice),
    ("ios.(*State).setTerminal", skel 0 iosSetTerminal),
    ("ios.(*State).logVersion", skel 0 iosLogVersion),
    ("ios.(*State).checkDeviceName", skel 0 iosCheckDeviceName),
    ("linux.(*State).LoadDevice", skel 0 (linuxLoadDevice cfg)),
    ("linux.(*State).loginEnable", skel 0 linuxLoginEnable),
    ("linux.(*State).logVersion", skel 0 linuxLogVersion),
    ("linux.(*State).checkDeviceName", skel 0 linuxCheckDeviceName),
    ("linux.(*State).checkBanner", skel 0 (linuxCheckBanner cfg)),
    ("linux.(*State).getDeviceRoutes", skel 0 linuxGetRoutes),
    ("linux.(*State).getDeviceIPTables", skel 0 linuxGetIPTables),
    ("linux.(*State).GetErrUnmanaged", getErrUnmanagedSkel .linux),
    ("linux.(*State).GetChanges", skel 0 linuxGetChanges),
    ("panos.(*State).LoadDevice", skel 0 (panLoadDevice cfg)),
    ("panos.(*State).getAPIKey", skel 0 panGetAPIKey),
    ("panos.(*State).checkHA", skel 0 panCheckHA),
    ("panos.(*State).GetChanges", skel 0 panGetChanges),
    ("panos.(*State).checkUnmanaged", skel 0 panCheckUnmanaged),
    ("panos.(*State).GetErrUnmanaged", getErrUnmanagedSkel .panos),
    ("panos.(*State).httpPrefixGetLog", panHttpPrefixGetLogSkel),
    ("panos.(*State).httpGet", panHttpGetSkel),
    ("panos.(*PanConfig).checkDeviceName", skel 0 panCheckDeviceName),
    ("nsx.(*State).LoadDevice", skel 0 (nsxLoadDevice cfg)),
    ("nsx.(*State).getRawJSON", skel 0 (nsxGetRawJSON "")),
    ("nsx.(*State).sendRequest", nsxSendRequestSkel),
    ("nsx.(*State).GetErrUnmanaged", getErrUnmanagedSkel .nsx),
    ("nsx.(*State).GetChanges", skel 0 nsxGetChanges),
    ("httpdevice.TryReachableHTTPLogin", tryReachableSkel),
    ("cisco.(*State).GetChanges", skel 0 ciscoGetChanges) ]

def q (s : String) : String := "\"" ++ s ++ "\""

/-- What the front ends must look like: projection of their regenerated skeleton on flag
definitions and other watched assignments, every `switch` with all its clauses and the returns
inside, and the calls into pkg/device.  The items that carry the dispatch are computed from the
tables the model functions use. -/
def boolFlag (f : String × String) (help : String) : String :=
  "*v1.BoolP(" ++ q f.1 ++ ", " ++ q f.2 ++ ", false, " ++ q help ++ ")"
def strFlag (f : String × String) (help : String) : String :=
  "*v1.StringP(" ++ q f.1 ++ ", " ++ q f.2 ++ ", \"\", " ++ q help ++ ")"
def quietFlag : String := boolFlag ("quiet", "q") "No info messages"

def frontEndFacts : List (String × List Item) := [
  ("drc.Main", [
    (0, "guard", "err != nil"),
    -- `switch len(args)`: dispatch on constants = one guard per terminating branch, default last
    (0, "guard", "len(v2) == 1"),
    (1, "guard", "err != nil"), (2, "ret", "abort(…)"),
    (1, "guard", "err != nil"), (2, "ret", "abort(…)"),
    (1, "call", "device.ApproveOrCompare(" ++ boolFlag drcCompareFlag "Compare only" ++ ", v2[0], v3, " ++
      strFlag drcLogDirFlag "Path for saving session logs" ++ ", " ++
      strFlag ("LOGFILE", "") "Path to redirect STDERR" ++ ", " ++ quietFlag ++ ")"),
    (1, "ret", "ApproveOrCompare(…)"),
    (0, "guard", "len(v2) != 2"), (1, "ret", "1"),
    (0, "guard", "v4 && v5 > 1 || !v4 && v5 > 0"), (1, "ret", "1"),
    (0, "call", "device.CompareFiles(v2[0], v2[1], " ++ quietFlag ++ ")"),
    (0, "ret", "CompareFiles(…)")]),
  ("doapprove.Main",
    -- `switch action`: the branches sorted by their test (approve < compare); the last one shares its
    -- else with `default` (usage error), which as the terminating branch becomes the guard
    [ (0, "guard", "err != nil"),
      (0, "guard", "len(v2) != 2"),
      (0, "assign", "v3 := path.Join(path.Join(v4, \"log\"), v2[1])") ] ++
    (match doApproveCases with
     | [c1, c2] =>
       [ (0, "if", "v2[0] == " ++ q c2.1), (1, "assign", "v3 = v3 + " ++ q c2.2),
         (0, "else", ""),
         (1, "guard", "v2[0] != " ++ q c1.1), (2, "ret", "1"),
         (1, "assign", "v3 = v3 + " ++ q c1.2) ]
     | _ => []) ++
    [ (0, "call", "device.ApproveOrCompare(v2[0] == " ++ q doApproveCompareWord ++
        ", path.Join(v4, \"code\", v2[1]), v5, path.Join(v4, \"log\"), v3, false)") ])]

def isFrontEndItem (it : Item) : Bool :=
  it.2.1 == "assign" || it.2.1 == "guard" || it.2.1 == "if" || it.2.1 == "elif" || it.2.1 == "else" ||
    it.2.1 == "ret" || (it.2.1 == "call" && hasPrefix it.2.2 "device.")

end NA.Gate
