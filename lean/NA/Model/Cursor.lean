/-
C20 — models of the token-cursor functions of `pkg/cisco` as total functions into `Res`
(`ok` / `diag` = errlog.Abort or returned error, exit status 1 with a message / `panic` = Go
runtime panic).  Every place where the Go code indexes, slices or dereferences has an explicit
bounds check here, and the check fails exactly where Go would panic.

Each function that was repaired in /repo has ONE definition with a flag `fixed`:
`fixed = false` is the code of the snapshot (guard absent: the failing check is a `panic`),
`fixed = true` is the code after the `fix:` commit (the failing check is a diagnostic).

Strings are `List Char` (`Str`); literals are written `lit "…"`.  Core Lean only; executable.
-/
namespace NA.C20

abbrev Str := List Char

/-- A string literal as a character list. -/
def lit (s : String) : Str := s.toList

/-- Kinds of Go run-time failures; `site` is the Go expression that fails. -/
inductive Panic
  | index (site : String)      -- index out of range
  | slice (site : String)      -- slice bounds out of range
  | nilDeref (site : String)   -- nil pointer dereference
  | explicit (site : String)   -- panic(…) that is not errlog's bailout
  deriving DecidableEq, Repr

/-- Outcome of a function of the implementation. -/
inductive Res (α : Type)
  | ok (a : α)
  | diag (msg : Str)
  | panic (p : Panic)
  deriving Repr

namespace Res
def bind {α β : Type} (x : Res α) (f : α → Res β) : Res β :=
  match x with
  | .ok a => f a
  | .diag m => .diag m
  | .panic p => .panic p

def map {α β : Type} (f : α → β) (x : Res α) : Res β := x.bind (fun a => .ok (f a))

instance : Monad Res where
  pure := .ok
  bind := Res.bind

/-- The property of C20 for one call: whatever happens, it is not a Go panic. -/
def NoPanic {α : Type} (r : Res α) : Prop := ∀ p, r ≠ .panic p

/-- Weaker form for functions with a defect that is listed as known: the only panic allowed
is the listed one. -/
def PanicOnly {α : Type} (q : Panic) (r : Res α) : Prop := ∀ p, r = .panic p → p = q

def isPanic {α : Type} : Res α → Bool
  | .panic _ => true
  | _ => false
end Res

open Res

/-- What a failing bounds check yields: the guard of the fixed code reports the input
(`errlog.Abort("Incomplete command: %s", c.orig)`), the snapshot panics. -/
def failAt {α : Type} (fixed : Bool) (p : Panic) (msg : Str) : Res α :=
  if fixed then .diag msg else .panic p

/-! ### Strings: the functions of package `strings` that the code uses -/

/-- ASCII white space (`unicode.IsSpace` restricted to ASCII; inputs are assumed ASCII). -/
def isSpace (c : Char) : Bool :=
  c = ' ' || c = '\t' || c = '\n' || c = '\r' || c = '\x0b' || c = '\x0c'

/-- `strings.Fields`. -/
def fields : Str → List Str
  | [] => []
  | c :: cs =>
    if isSpace c then fields cs
    else match cs with
      | [] => [[c]]
      | d :: _ =>
        if isSpace d then [c] :: fields cs
        else match fields cs with
          | w :: ws => (c :: w) :: ws
          | [] => [[c]]

/-- `strings.Split(s, " ")` (never empty; `Split("", " ") = [""]`). -/
def splitSp : Str → List Str
  | [] => [[]]
  | c :: cs =>
    if c = ' ' then [] :: splitSp cs
    else match splitSp cs with
      | w :: ws => (c :: w) :: ws
      | [] => [[c]]

/-- `strings.Join(l, " ")`. -/
def join : List Str → Str
  | [] => []
  | [w] => w
  | w :: ws => w ++ ' ' :: join ws

/-- `strings.TrimRightFunc(s, unicode.IsSpace)`. -/
def trimRight (s : Str) : Str := (s.reverse.dropWhile isSpace).reverse

/-- `strings.Cut(s, string(sep))`. -/
def cut (sep : Char) : Str → Option (Str × Str)
  | [] => none
  | c :: cs =>
    if c = sep then some ([], cs)
    else match cut sep cs with
      | some (a, b) => some (c :: a, b)
      | none => none

/-- lines of a file: `bytes.Cut(data, "\n")` until the data is used up. -/
def splitLines : Str → List Str
  | [] => []
  | c :: cs =>
    if c = '\n' then [] :: splitLines cs
    else match splitLines cs with
      | l :: ls => (c :: l) :: ls
      | [] => [[c]]

def isDigit (c : Char) : Bool := '0' ≤ c && c ≤ '9'

def digitsVal (s : Str) : Nat := s.foldl (fun n c => 10 * n + (c.toNat - '0'.toNat)) 0

/-- `strconv.ParseUint(s, 10, bits)` succeeds (digits only, not empty, in range). -/
def parseUint (bits : Nat) (s : Str) : Option Nat :=
  if s ≠ [] ∧ s.all isDigit ∧ digitsVal s < 2 ^ bits then some (digitsVal s) else none

def hasSuffix (s suf : Str) : Bool := suf.reverse.isPrefixOf s.reverse
def hasPrefix (s pre : Str) : Bool := pre.isPrefixOf s

/-! ### postprocessACLParts (cisco/parse.go) -/

/-- The name tables used by `postprocessACLParts` (regenerated from the Go map literals for the
driver; the theorems hold for arbitrary tables). -/
structure Tables where
  protoNonNumeric : Str → Option Str
  protoNames : Str → Option Str
  tcpNames : Str → Option Str
  udpNames : Str → Option Str
  icmpTypeCodes : Str → Option Str
  icmp6Types : Str → Option Str
  logNames : Str → Option Str

/-- Cursor state: `done` = tokens already passed (reversed, possibly rewritten),
`parts` = the Go slice `parts`, `proto`, `refs` = names appended to `c.ref` (reversed). -/
structure AclSt where
  done : List Str
  parts : List Str
  proto : Str
  refs : List Str
  deriving Repr

def incomplete (orig : Str) : Str := lit "Incomplete command: " ++ orig

/-- `convNamed(m)`: replace a named value by its number and step over it (if any). -/
def convNamed (m : Str → Option Str) (done parts : List Str) : List Str × List Str :=
  match parts with
  | [] => (done, [])
  | p :: rest => ((m p).getD p :: done, rest)

def convNamedPort (tb : Tables) (proto : Str) (done parts : List Str) : List Str × List Str :=
  if proto = lit "tcp" then convNamed tb.tcpNames done parts
  else if proto = lit "udp" then convNamed tb.udpNames done parts
  else (done, parts)

/-- `convObjectGroup`: `name := parts[1]; parts[1] = "$REF"; parts = parts[2:]`. -/
def convObjectGroup (fixed : Bool) (orig : Str) (s : AclSt) : Res AclSt :=
  match s.parts with
  | kw :: name :: rest =>
    .ok { done := lit "$REF" :: kw :: s.done, parts := rest, proto := s.proto, refs := name :: s.refs }
  | _ => failAt fixed (.index "parts[1]") (incomplete orig)

/-- `convProto`. -/
def convProto (fixed : Bool) (tb : Tables) (orig : Str) (s : AclSt) : Res AclSt :=
  match s.parts with
  | [] => failAt fixed (.index "parts[0]") (incomplete orig)
  | p :: rest =>
    if p = lit "object-group" then convObjectGroup fixed orig s
    else if p = lit "object" then
      match rest with
      | a :: rest' => .ok { done := a :: p :: s.done, parts := rest', proto := s.proto, refs := s.refs }
      | [] => failAt fixed (.slice "parts[2:]") (incomplete orig)
    else
      let p' := (tb.protoNonNumeric p).getD p
      let (d, r) := convNamed tb.protoNames s.done (p' :: rest)
      .ok { done := d, parts := r, proto := p', refs := s.refs }

def twoWordKeywords : List Str :=
  [lit "host", lit "object", lit "object-group-security", lit "object-group-user",
   lit "security-group", lit "user", lit "user-group"]

def oneWordKeywords : List Str := [lit "any", lit "any4", lit "any6", lit "interface"]

/-- `convObject`. -/
def convObject (fixed : Bool) (tb : Tables) (orig : Str) (s : AclSt) : Res AclSt :=
  match s.parts with
  | [] => .ok s
  | p :: rest =>
    if p = lit "object-group" then convObjectGroup fixed orig s
    else if p = lit "log" ∨ p = lit "log-input" then
      match rest with
      | [] => .ok { done := p :: s.done, parts := [], proto := s.proto, refs := s.refs }
      | q :: rest' =>
        let q1 := (tb.logNames q).getD q
        let q2 := if q1 = lit "6" then [] else q1
        let (d, r) := convNamed tb.logNames (q2 :: p :: s.done) rest'
        .ok { done := d, parts := r, proto := s.proto, refs := s.refs }
    else if p ∈ twoWordKeywords then
      match rest with
      | a :: rest' => .ok { done := a :: p :: s.done, parts := rest', proto := s.proto, refs := s.refs }
      | [] => failAt fixed (.slice "parts[2:]") (incomplete orig)
    else if p ∈ oneWordKeywords then
      .ok { done := p :: s.done, parts := rest, proto := s.proto, refs := s.refs }
    else
      match cut '/' p with
      | some (ip, bits) =>
        let p' := if bits = lit "0" then lit "any6"
                  else if bits = lit "128" then lit "host " ++ ip else p
        .ok { done := p' :: s.done, parts := rest, proto := s.proto, refs := s.refs }
      | none =>
        match rest with
        | [] => .ok s
        | m :: rest' =>
          let (p', m') :=
            if m = lit "0.0.0.0" then (lit "any4", [])
            else if m = lit "255.255.255.255" then (lit "host", p)
            else (p, m)
          .ok { done := m' :: p' :: s.done, parts := rest', proto := s.proto, refs := s.refs }

def opKeywords : List Str := [lit "eq", lit "gt", lit "lt", lit "neq"]

/-- `convPortOrObject`. -/
def convPortOrObject (fixed : Bool) (tb : Tables) (orig : Str) (s : AclSt) : Res AclSt :=
  match s.parts with
  | [] => .ok s
  | p :: rest =>
    if p ∈ opKeywords then
      let (d, r) := convNamedPort tb s.proto (p :: s.done) rest
      .ok { done := d, parts := r, proto := s.proto, refs := s.refs }
    else if p = lit "range" then
      let (d, r) := convNamedPort tb s.proto (p :: s.done) rest
      let (d', r') := convNamedPort tb s.proto d r
      .ok { done := d', parts := r', proto := s.proto, refs := s.refs }
    else convObject fixed tb orig s

/-- `convICMP`. -/
def convICMP (tb : Tables) (s : AclSt) : AclSt :=
  match s.parts with
  | [] => s
  | p :: rest =>
    if s.proto = lit "icmp" then
      match tb.icmpTypeCodes p with
      | some r => { done := r :: s.done, parts := rest, proto := s.proto, refs := s.refs }
      | none => s
    else if s.proto = lit "icmp6" then
      let (d, r) := convNamed tb.icmp6Types s.done s.parts
      { done := d, parts := r, proto := s.proto, refs := s.refs }
    else s

/-- `skipNumber`. -/
def skipNumber (s : AclSt) : AclSt :=
  match s.parts with
  | [] => s
  | p :: rest =>
    match parseUint 8 p with
    | some _ => { done := p :: s.done, parts := rest, proto := s.proto, refs := s.refs }
    | none => s

/-- `postprocessACLParts(c, parts)`; the result is the rewritten token list and the names
appended to `c.ref`. -/
def aclParts (fixed : Bool) (tb : Tables) (orig : Str) (parts : List Str) : Res (List Str × List Str) :=
  (convProto fixed tb orig { done := [], parts := parts, proto := [], refs := [] }).bind fun s1 =>
  (convObject fixed tb orig s1).bind fun s2 =>
  (if s2.proto = lit "tcp" ∨ s2.proto = lit "udp" then
      (convPortOrObject fixed tb orig s2).bind fun a =>
      (convPortOrObject fixed tb orig a).bind fun b =>
      convPortOrObject fixed tb orig b
    else if s2.proto = lit "icmp" ∨ s2.proto = lit "icmp6" then
      (convObject fixed tb orig s2).bind fun a => .ok (skipNumber (convICMP tb a))
    else convObject fixed tb orig s2).bind fun s3 =>
  (convObject fixed tb orig s3).bind fun s4 =>
  .ok (s4.done.reverse ++ s4.parts, s4.refs.reverse)

/-- `slices.DeleteFunc(tokens, w == "")` followed by `strings.Join`. -/
def joinNonEmpty (tokens : List Str) : Str := join (tokens.filter (· ≠ []))

/-- `postprocessASAACL`: returns the new `c.parsed` and the appended references
(`none` = line left alone: not an `extended` ACL line). -/
def asaACL (fixed : Bool) (tb : Tables) (orig parsed : Str) : Res (Option (Str × List Str)) :=
  let tokens := fields parsed
  match tokens with
  | t0 :: t1 :: t2 :: rest =>
    if t2 ≠ lit "extended" then .ok none
    else match rest with
      | t3 :: parts =>
        (aclParts fixed tb orig parts).bind fun (ps, refs) =>
          .ok (some (joinNonEmpty (t0 :: t1 :: t2 :: t3 :: ps), refs))
      | [] => .panic (.slice "tokens[4:]")
  | _ => .panic (.index "tokens[2]")

/-- `postprocessIOSACL`: returns new `parsed`, new `orig`, appended references. -/
def iosACL (fixed : Bool) (tb : Tables) (orig parsed : Str) : Res (Str × Str × List Str) :=
  match fields parsed with
  | [] => .panic (.index "tokens[0]")
  | t0 :: rest0 =>
    let stripped := t0 = lit "$SEQ"
    let tokens := if stripped then rest0 else t0 :: rest0
    let parsed1 := if stripped then join tokens else parsed
    let orig1 := if stripped then ((cut ' ' orig).map (·.2)).getD [] else orig
    match tokens with
    | [] => .panic (.index "tokens[0]")
    | a :: parts =>
      if a = lit "remark" then .ok (parsed1, orig1, [])
      else (aclParts fixed tb orig1 parts).bind fun (ps, refs) =>
        .ok (joinNonEmpty (a :: ps), orig1, refs)

/-! ### matchCmd (cisco/parse.go) -/

structure Descr where
  pre : Str              -- prefix, "" for sub commands
  template : List Str
  ignore : Bool
  sub : List (List Str × Bool) := []   -- sub command templates with their ignore flag
  refs : List Str := []                -- referenced prefixes, one per `$REF` of the template
  subRefs : List (List Str) := []      -- the same for every sub command template
  deriving Repr

structure Cmd where
  descr : Nat            -- index of the matching description
  orig : Str
  parsed : Str
  name : Str
  seq : Nat
  ref : List Str
  sub : List Cmd
  app : Bool             -- found after [APPEND]
  deriving Repr

structure MatchAcc where
  parsed : List Str      -- reversed
  name : Str
  seq : Nat
  ref : List Str         -- reversed
  deriving Repr

/-- index of the first word that closes the string: ends with `"` but not with `\"`. -/
def findClose : List Str → Nat → Option Nat
  | [], _ => none
  | w :: ws, j =>
    if hasSuffix w (lit "\"") && !hasSuffix w (lit "\\\"") then some j else findClose ws (j + 1)

/-- The `TEMPLATE` loop of `matchCmd` for one description.
`ok none` = `continue DESCR` (no match); `ok (some (acc, rest))` = loop left with `rest` args. -/
def matchTemplate : List Str → List Str → MatchAcc → Res (Option (MatchAcc × List Str))
  | [], args, acc => .ok (some (acc, args))
  | tok :: ts, args, acc =>
    match args with
    | [] => .ok none
    | w :: rest =>
      if tok = lit "$NAME" then
        matchTemplate ts rest { acc with name := w, parsed := tok :: acc.parsed }
      else if tok = lit "$SEQ" then
        match parseUint 64 w with
        | none => .ok none
        | some n => matchTemplate ts rest { acc with seq := n, parsed := tok :: acc.parsed }
      else if tok = lit "$REF" then
        matchTemplate ts rest { acc with ref := w :: acc.ref, parsed := tok :: acc.parsed }
      else if tok = lit "\"" then
        match w with
        | [] => .panic (.index "w[0]")
        | c :: _ =>
          if c = '"' then
            match findClose args 0 with
            | none => .panic (.explicit "Incomplete string")
            | some j =>
              matchTemplate ts (args.drop (j + 1)) { acc with parsed := join (args.take (j + 1)) :: acc.parsed }
          else
            matchTemplate ts rest { acc with parsed := ('"' :: w ++ ['"']) :: acc.parsed }
      else if tok = lit "*" then
        .ok (some ({ acc with parsed := join args :: acc.parsed }, []))
      else if tok ≠ w then .ok none
      else matchTemplate ts rest { acc with parsed := w :: acc.parsed }

/-- `matchCmd(prefix, words, l)`; descriptions are (index, template, ignore), all for the one prefix `pre`. -/
def matchCmd (pre : Str) (words : List Str) : List (Nat × List Str × Bool) → Res (Option Cmd)
  | [] => .ok none
  | (i, tmpl, ign) :: ds =>
    match matchTemplate tmpl words { parsed := [], name := [], seq := 0, ref := [] } with
    | .panic p => .panic p
    | .diag m => .diag m
    | .ok none => matchCmd pre words ds
    | .ok (some (acc, rest)) =>
      if rest ≠ [] then matchCmd pre words ds
      else if ign then .ok none
      else
        let ws := if pre ≠ [] then pre :: words else words
        let ps := if pre ≠ [] then pre :: acc.parsed.reverse else acc.parsed.reverse
        .ok (some { descr := i, orig := join ws, parsed := join ps, name := acc.name, seq := acc.seq,
                    ref := acc.ref.reverse, sub := [], app := false })

/-! ### lookupCmd and the line loop of ParseConfig -/

def indexed {α : Type} (l : List α) : List (Nat × α) := (List.range l.length).zip l

/-- `lookupCmd`: walk the words along the prefix tree; `pre` are the prefix words seen. -/
def lookupAux (ds : List (Nat × Descr)) : List Str → List Str → Res (Option Cmd)
  | _, [] => .ok none
  | pre, w :: rest =>
    let pre' := pre ++ [w]
    if ¬ ds.any (fun d => pre'.isPrefixOf (splitSp d.2.pre)) then .ok none
    else
      let l := ds.filter (fun d => splitSp d.2.pre = pre')
      if l ≠ [] then matchCmd (join pre') rest (l.map fun d => (d.1, d.2.template, d.2.ignore))
      else lookupAux ds pre' rest

def lookupCmd (ds : List Descr) (line : Str) : Res (Option Cmd) :=
  lookupAux (indexed ds) [] (splitSp line)

/-- `strings.IndexFunc(line, c != ' ')` (`none` = -1). -/
def getIndent : Str → Option Nat
  | [] => none
  | c :: cs => if c ≠ ' ' then some 0 else (getIndent cs).map (· + 1)

/-- State of the line loop. `cmds` = top-level commands so far, most recent first; `prev` says
whether the most recent one collects sub commands (`prev != nil`). -/
structure LoopSt where
  cmds : List Cmd
  prev : Bool
  isFirstSub : Bool
  indent : Nat
  firstSub : Str
  isAppend : Bool
  deriving Repr

def badIndent (first line : Str) : Str :=
  lit "Bad indentation in subcommands:\n>>" ++ first ++ lit "<<\n>>" ++ line ++ lit "<<"

def addSub (c : Cmd) (s : Cmd) : Cmd := { c with sub := c.sub ++ [s] }

/-- Indentation bookkeeping of a sub command line: the indentation to strip and the remembered
first sub command line.  The snapshot prints `prev.sub[0].parsed` in the error message. -/
def subIndent (fixed : Bool) (st : LoopSt) (pc : Cmd) (line : Str) : Res (Nat × Str) :=
  if st.isFirstSub then
    match getIndent line with
    | some k => .ok (k, line)
    | none => .panic (.slice "line[indent:]")      -- indent = -1
  else
    let bad := match getIndent line with
      | some k => decide (k < st.indent)
      | none => true
    if bad then
      if fixed then .diag (badIndent st.firstSub line)
      else match pc.sub with
        | s0 :: _ => .diag (badIndent (List.replicate st.indent ' ' ++ s0.parsed) line)
        | [] => .panic (.index "prev.sub[0]")
    else .ok (st.indent, st.firstSub)

/-- `line = line[indent:]`, `line[0] == ' '`, `strings.Fields`, `matchCmd` on the sub templates. -/
def subBody (ds : List Descr) (st : LoopSt) (pc : Cmd) (others : List Cmd) (line : Str)
    (indent : Nat) (firstSub : Str) : Res LoopSt :=
  if indent ≤ line.length then
    match line.drop indent with
    | [] => .panic (.index "line[0]")
    | d :: body =>
      let st' := { st with isFirstSub := false, indent := indent, firstSub := firstSub }
      if d = ' ' then .ok st'
      else
        let descr := (ds.getD pc.descr { pre := [], template := [], ignore := false }).sub
        (matchCmd [] (fields (d :: body))
            ((indexed descr).map fun x => (x.1, x.2.1, x.2.2))).bind fun oc =>
          match oc with
          | none => .ok st'
          | some sc => .ok { st' with cmds := addSub pc { sc with app := st.isAppend } :: others }
  else .panic (.slice "line[indent:]")

/-- One iteration of the `for len(data) > 0` loop of `ParseConfig`, after `bytes.Cut`. -/
def parseLine (fixed : Bool) (ds : List Descr) (isRaw : Bool) (st : LoopSt) (raw : Str) : Res LoopSt :=
  let line := trimRight raw
  match line with
  | [] => .ok st
  | c0 :: _ =>
    if c0 = '!' then .ok st
    else if line = lit "[APPEND]" then .ok { st with isAppend := true }
    else if c0 ≠ ' ' then
      (lookupCmd ds line).bind fun oc =>
        match oc with
        | none =>
          if isRaw then .diag (lit "Unexpected command:\n>>" ++ line ++ lit "<<")
          else .ok { st with prev := false, isFirstSub := true }
        | some c => .ok { st with cmds := { c with app := st.isAppend } :: st.cmds, prev := true, isFirstSub := true }
    else if ¬ st.prev then .ok st
    else
      match st.cmds with
      | [] => .ok st      -- unreachable: prev = true only after a push
      | pc :: others =>
        (subIndent fixed st pc line).bind fun (indent, firstSub) =>
          subBody ds st pc others line indent firstSub

/-- The whole loop. -/
def parseLines (fixed : Bool) (ds : List Descr) (isRaw : Bool) : LoopSt → List Str → Res LoopSt
  | st, [] => .ok st
  | st, l :: ls => (parseLine fixed ds isRaw st l).bind fun st' => parseLines fixed ds isRaw st' ls

def initSt : LoopSt :=
  { cmds := [], prev := false, isFirstSub := false, indent := 1, firstSub := [], isAppend := false }

/-- `ParseConfig` up to `postprocessParsed`: the top-level commands in file order. -/
def parseConfig (fixed : Bool) (ds : List Descr) (isRaw : Bool) (data : Str) : Res (List Cmd) :=
  (parseLines fixed ds isRaw initSt (splitLines data)).bind fun st => .ok st.cmds.reverse

/-! ### postprocessParsed: aaa-server, transform-set, metric -/

/-- The body of the `for _, c := range l[1:]` loop of the aaa-server part: returns the new
`parsed` (`none`: line unchanged, it is not a `host` line).  The snapshot splits at single
spaces, the fixed code at white space. -/
def aaaHost (fixed : Bool) (orig parsed : Str) : Res (Option Str) :=
  let words := if fixed then fields parsed else splitSp parsed
  match words with
  | w0 :: w1 :: w2 :: rest =>
    match w2 with
    | [] => .panic (.index "words[2][0]")
    | c :: _ =>
      -- copy(words[2:], words[3:]) : shift left, the last word stays twice
      let ws : List Str :=
        if c = '(' then
          match rest with
          | [] => [w2]
          | _ => rest ++ [rest.getLast?.getD []]
        else w2 :: rest
      match ws with
      | h :: tl =>
        if h = lit "host" then
          match tl with
          | [] => failAt fixed (.index "words[3]") (incomplete orig)
          | _ :: _ => .ok (some (join [w0, w1, lit "host", lit "x"]))
        else .ok none
      | [] => .panic (.index "words[2]")
  | _ => .panic (.index "words[2]")

/-- `c.sub[0].ref[0]` under `if len(c.sub) != 0`. -/
def subRef (c : Cmd) : Res Str :=
  match c.sub with
  | [] => .ok []
  | s0 :: _ =>
    match s0.ref with
    | r :: _ => .ok r
    | [] => .panic (.index "c.sub[0].ref[0]")

/-- the loop `for _, c := range l[1:]` of the aaa-server part; `ldapMap` starts as " ". -/
def aaaRest (fixed : Bool) (name : Str) : Str → List Cmd → Res (List Cmd)
  | _, [] => .ok []
  | ldapMap, c :: cs =>
    (aaaHost fixed c.orig c.parsed).bind fun o =>
      match o with
      | none => (aaaRest fixed name ldapMap cs).bind fun r => .ok (c :: r)
      | some p =>
        (subRef c).bind fun ref =>
          if ldapMap ≠ lit " " ∧ ldapMap ≠ ref then
            .diag (lit "aaa-server " ++ name ++ lit " must not use different values in 'ldap-attribute-map'")
          else (aaaRest fixed name ref cs).bind fun r => .ok ({ c with parsed := p } :: r)

/-- the body of `for name, l := range lookup["aaa-server"]`: `l[0]`, `l[1:]`, `l[0:2]`. -/
def aaaGroup (fixed : Bool) (name : Str) (l : List Cmd) : Res (List Cmd) :=
  match l with
  | [] => .panic (.index "l[0]")
  | c0 :: rest =>
    if ¬ hasSuffix c0.parsed (lit "protocol ldap") then .ok l
    else if rest = [] then .ok l
    else (aaaRest fixed name (lit " ") rest).bind fun r => .ok (c0 :: r.take 1)

/-- `setTransRef` for one command whose `parsed` contains `cmdPart`: `names` is what follows
`cmdPart`.  `strings.Repeat("$REF ", len(nl)-1)` panics for a negative count. -/
def transRefs (fixed : Bool) (orig names : Str) : Res (List Str × Str) :=
  match fields names with
  | [] => .panic (.explicit "strings: negative Repeat count")
  | n :: ns =>
    -- guard added by the fix: only 11 referenced prefixes are registered in `c.typ.ref`
    if fixed ∧ 11 < (n :: ns).length then .diag (lit "Too many names (max. 11) in: " ++ orig)
    else .ok (n :: ns, join ((n :: ns).map fun _ => lit "$REF"))

/-- `stripMetric`: `if len(tokens) == 6 && tokens[2] != "vrf" { tokens[:5] }` (upstream 3341f0d: the IOS form
`ipv6 route vrf NAME destination next_hop` has six words without a metric). -/
def stripMetric (parsed : Str) : Res Str :=
  let tokens := splitSp parsed
  if tokens.length = 6 then
    match tokens[2]? with
    | none => .panic (.index "tokens[2]")
    | some t2 =>
      if t2 ≠ lit "vrf" then
        (if 5 ≤ tokens.length then .ok (join (tokens.take 5)) else .panic (.slice "tokens[:5]"))
      else .ok parsed
  else .ok parsed

/-! ### dstOfRoute, routeVRF (cisco/diff.go) -/

/-- What `dstOfRoute` reads: the words holding vrf, and either the prefix word (IPv6) or the
address and mask words (IPv4). -/
structure RouteWords where
  vrf : Str
  a : Str
  b : Str
  deriving Repr, DecidableEq

def containsChar (c : Char) (s : Str) : Bool := s.any (· = c)

def dstOfRoute (fixed : Bool) (isV6 : Bool) (orig parsed : Str) : Res RouteWords :=
  let l := splitSp parsed
  if isV6 then
    match l.find? (containsChar '/') with
    | none => failAt fixed (.index "l[i] (i = -1)") (lit "Missing IPv6 prefix in: " ++ orig)
    | some w =>
      let vrf := if 6 ≤ l.length ∧ l.getD 2 [] = lit "vrf" then l.getD 3 [] else []
      .ok { vrf := vrf, a := w, b := [] }
  else
    match l with
    | l0 :: _ :: l2 :: rest =>
      if l0 = lit "ip" ∧ l2 = lit "vrf" then
        match rest with
        | v :: x :: y :: _ => .ok { vrf := v, a := x, b := y }
        | [] => failAt fixed (.index "l[3]") (incomplete orig)
        | [_] => failAt fixed (.index "l[4]") (incomplete orig)
        | [_, _] => failAt fixed (.index "l[5]") (incomplete orig)
      else
        match rest with
        | y :: _ => .ok { vrf := [], a := l2, b := y }
        | [] => failAt fixed (.index "l[3]") (incomplete orig)
    | _ => failAt fixed (.index "l[2]") (incomplete orig)

/-- `routeVRF` of `alignVRFs`. -/
def routeVRF (fixed : Bool) (orig parsed : Str) : Res Str :=
  match fields parsed with
  | _ :: _ :: t2 :: rest =>
    if t2 = lit "vrf" then
      match rest with
      | v :: _ => .ok v
      | [] => failAt fixed (.index "tokens[3]") (incomplete orig)
    else .ok []
  | _ => .panic (.index "tokens[2]")

end NA.C20
