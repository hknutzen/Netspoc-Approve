import NA.Model.ApplyConsole
/-!
# Session programs of the HTTP backends (C09): `pkg/panos/device.go`, `pkg/nsx/device.go`.

One HTTP round trip is `roundTrip` (the request, the reply, and net/http's single replay of a replayable
request).  A transport failure (connection closed, client
timeout, body cut short) is `arr ≠ full`; the HTTP status and the well-formedness of the body
are the fields `status200` and `parses` of the reply.
-/
namespace NA.Apply
open NA.Sess

/-! ## pkg/panos -/

def panosHttpGetBody (ρ : Role) (t : Txt) : Sess :=
  .roundTrip ρ t true ;;
  .ite .err "err != nil" (.ret .keep ["nil", "err"]) .skip ;;
  op "ReadAll" ["_"] ;; op "Close" ;;
  .ite .not200 "$Get.1.StatusCode != http.StatusOK" (.ret .err ["_", "_"]) .skip ;;
  .ret .keep ["_", "err"]
def panosHttpGet (ρ : Role) (t : Txt) : Sess := .call "httpGet" ["_"] (panosHttpGetBody ρ t)

def panosHttpPrefixGetLogBody (ρ : Role) (t : Txt) : Sess := panosHttpGet ρ t ;; .ret .keep ["_", "err"]
def panosHttpPrefixGetLog (ρ : Role) (t : Txt) (lits : List String := ["_", "_"]) : Sess :=
  .call "httpPrefixGetLog" lits (panosHttpPrefixGetLogBody ρ t)
/-- the constant request texts of LoadDevice / checkHA as the source passes them -/
def panosHaLits : List String := ["type=op&cmd=<show><high-availability><state/></high-availability></show>", "_"]
def panosConfigLits : List String := ["type=config&action=get&xpath=/config/devices", "_"]

/-- `parseResponse`: error iff the body is not well-formed XML saying `status="success"`. -/
def panosParseResponse : Sess :=
  .call "parseResponse" ["_"] (.ite .parseFails "" (.ret .err []) (.ret .nil []))

def panosDoCmdBody (ρ : Role) (t : Txt) : Sess :=
  panosHttpPrefixGetLog ρ t ;;
  .ite .err "err != nil" (.ret .keep ["", "nil", "err"]) .skip ;;
  panosParseResponse ;;
  .ret .keep ["_"]
def panosDoCmd (ρ : Role) (t : Txt) : Sess := .call "doCmd" ["_"] (panosDoCmdBody ρ t)

/-- `xml.Unmarshal(data, v)` of the result element: fails iff there is no well-formed result. -/
def xmlUnmarshal : Sess :=
  .call "Unmarshal" ["_", "_"] (.ite (.not (.flag .wellFormed)) "" (.ret .err []) (.ret .nil []))

def panosCommitBody : Sess :=
  (panosDoCmd .save (.lit "commit") ;;
   .ite .err "err != nil" (.ret .keep ["err"]) .skip ;;
   .ite (.flag .noChanges)
     "strings.Contains($doCmd.1, \"There are no changes to commit\") || strings.Contains($doCmd.1, \"The result of this commit would be the same\")"
     (.ret .nil ["nil"]) .skip ;;
   .ite (.not (.flag .msgEmpty)) "$doCmd.1 != \"\"" (.ret .err ["_"]) .skip) ;;
  xmlUnmarshal ;;
  .ite .err "err != nil" (.ret .keep ["err"]) .skip ;;
  .loopFuel (
    panosDoCmd .save (.lit "show jobs") ;;
    .ite .err "err != nil" (.ret .keep ["err"]) .skip ;;
    xmlUnmarshal ;;
    .ite .err "err != nil" (.ret .keep ["err"]) .skip ;;
    .ite (.flag .pend) "¬$v.Result != \"PEND\"" .cont
      (.ite (.flag .jobOk) "¬$v.Result != \"OK\"" (.ret .nil ["nil"]) (.ret .err ["_"])))
def panosCommit : Sess := .call "commit" [] panosCommitBody

def panosApplyBody : Sess :=
  .scope "loop" (.forEach (
    panosDoCmd .change .cur ;;
    .ite .err "err != nil" (.ret .err ["_"]) .skip)) ;;
  panosCommit ;;
  .ite .err "err != nil" (.ret .err ["_"]) .skip ;;
  .ret .nil ["nil"]

/-- `httpdevice.TryReachableHTTPLogin` with a single entry in `name_list` (fail-over to a second
device is outside the model): one round of the loop; a failed login is a warning and the loop is over. -/
def tryReachableBody (login : Sess) : Sess :=
  .ite .never "err != nil" (.ret .keep ["err"]) .skip ;;
  .scope "loop" (
    op "GetUserPass" ["_"] ;;
    .ite .never "err != nil" (.ret .keep ["err"]) .skip ;;
    .call "login" ["_", "_", "_", "_"] login ;;
    .ite .err "err != nil" (.warn ["%v", "err"] ;; .when .never .cont) .skip ;;
    .when (.not .err) (.ret .nil ["nil"])) ;;
  .ret .err ["_"]
def TryReachableHTTPLogin (login : Sess) : Sess := .call "TryReachableHTTPLogin" ["_", "_"] (tryReachableBody login)

def panosGetAPIKeyBody : Sess :=
  .ite .never "err != nil" (.ret .keep ["", "err"]) .skip ;;
  panosHttpGet .login (.lit "keygen") ;;
  .ite .err "err != nil" (.ret .err ["", "_"]) .skip ;;
  .call "parseAPIKey" ["_"] (
    panosParseResponse ;;
    .ite .err "" (.ret .keep []) .skip ;;
    .ite (.not (.flag .keyOk)) "" (.ret .err []) (.ret .nil [])) ;;
  .ret .keep ["_"]

/-- `checkHA`: true (no error value) iff HA is off or this device is the active one -/
def panosCheckHABody : Sess :=
  panosHttpPrefixGetLog .login (.lit "show ha") panosHaLits ;;
  .ite .err "err != nil" (.ret .err ["false"]) .skip ;;
  panosParseResponse ;;
  .ite .err "err != nil" (.ret .err ["false"]) .skip ;;
  op "Unmarshal" ["_", "_"] ;;
  .ite .never "err != nil" (.ret .err ["false"]) .skip ;;
  .ite (.flag .haActive) "$v.Enabled != \"yes\"" (.ret .nil ["true"]) .skip ;;
  .ite .never "¬$v.Mode != \"Active-Passive\"" (.ret .none ["_"])
    (.ite .never "¬$v.Mode != \"Active-Active\"" (.ret .none ["_"]) .skip) ;;
  .ret .err ["false"]

/-- the function literal handed to TryReachableHTTPLogin -/
def panosLoginFunc : Sess :=
  .call "getAPIKey" ["_", "_", "_", "_"] panosGetAPIKeyBody ;;
  .ite .err "err != nil" (.ret .keep ["err"]) .skip ;;
  .call "checkHA" ["_"] panosCheckHABody ;;
  .ite .err "¬$r.checkHA($p3)" (.ret .err ["_"]) .skip ;;
  .ret .nil ["nil"]

def panosLoadDevice : Sess :=
  TryReachableHTTPLogin panosLoginFunc ;;
  .when .never (.scope "func" panosLoginFunc) ;;   -- where the function literal stands in the source
  .ite .err "err != nil" (.ret .keep ["nil", "err"]) .skip ;;
  (panosHttpPrefixGetLog .read (.lit "get config") panosConfigLits ;;
   .ite .err "err != nil" (.ret .keep ["nil", "err"]) .skip ;;
   .call "parseResponseConfig" ["_"] (
     panosParseResponse ;;
     .ite .err "err != nil" (.ret .keep ["nil", "err"]) .skip ;;
     .ite (.not (.flag .cfgParses)) "err != nil" (.ret .err ["nil", "err"]) (.ret .nil ["_", "nil"])) ;;
   .ite .err "err != nil" (.ret .err ["_", "_"]) .skip) ;;
  .call "checkDeviceName" ["_"] (.ite (.not (.flag .nameOk)) "" (.ret .err ["_"]) (.ret .nil ["nil"])) ;;
  .assumeBanner ;; .setPlan ;;
  .ret .keep ["_", "err"]

/-! ## pkg/nsx -/

def nsxSendRequestBody (ρ : Role) (t : Txt) : Sess :=
  op "NewRequest" ["_", "_", "_"] ;;
  .ite .never "err != nil" (.ret .keep ["nil", "err"]) .skip ;;
  .roundTrip ρ t (ρ != .change) ;;
  .ite .err "err != nil" (.ret .keep ["nil", "err"]) .skip ;;
  .defer (op "Close")
    (.ite .not200 "$Do.1.StatusCode != http.StatusOK"
       (op "ReadAll" ["_"] ;; .ret .err ["nil", "_"]) .skip ;;
     op "ReadAll" ["_"] ;;
     .ret .keep ["_"])
def nsxSendRequest (ρ : Role) (t : Txt) (lits : List String := ["_", "_", "_"]) : Sess :=
  .call "sendRequest" lits (nsxSendRequestBody ρ t)

def nsxApplyBody : Sess :=
  .forEach (
    nsxSendRequest .change .cur ;;
    .ite .err "err != nil" (.ret .keep ["err"]) .skip) ;;
  .ret .nil ["nil"]

def jsonUnmarshal : Sess :=
  .call "Unmarshal" ["_", "_"] (.ite .parseFails "" (.ret .err []) (.ret .nil []))

/-- the function literal handed to TryReachableHTTPLogin: create a session -/
def nsxLoginFunc : Sess :=
  .ite .never "err != nil" (.ret .keep ["err"]) .skip ;;
  (.roundTrip .login (.lit "session create") false ;;
   .ite .err "err != nil" (.ret .keep ["err"]) .skip ;;
   .ite .not200 "$PostForm.1.StatusCode != http.StatusOK" (.ret .err ["_"]) .skip) ;;
  op "Get" ["x-xsrf-token"] ;;
  .ret .nil ["nil"]

/-- `getRawJSON` for one page (`cursor == ""` after the first request) -/
def nsxGetRawJSONBody (t : Txt) : Sess :=
  .scope "loop" (
    (nsxSendRequest .read t ["GET", "_", "nil"] ;;
     .ite .err "err != nil" (.ret .keep ["nil", "err"]) .skip ;;
     jsonUnmarshal ;;
     .ite .err "err != nil" (.ret .err ["nil", "_"]) .skip) ;;
    .scope "loop" (.when .never (op "Unmarshal" ["_", "_"] ;; .ite .never "err != nil" (.ret .keep ["nil", "err"]) .skip)) ;;
    .ite (.not .never) "¬$v != \"\"" (op "break") .skip) ;;
  .ret .nil ["_", "nil"]
def nsxGetRawJSON (t : Txt) : Sess := .call "getRawJSON" ["_"] (nsxGetRawJSONBody t)

/-- LoadDevice for a device without Netspoc gateway policies and with one page of services and
groups (what the scenarios use). -/
def nsxLoadDevice : Sess :=
  TryReachableHTTPLogin nsxLoginFunc ;;
  .when .never (.scope "func" nsxLoginFunc) ;;
  .ite .err "err != nil" (.ret .keep ["nil", "err"]) .skip ;;
  (nsxSendRequest .read (.lit "gateway-policies") ["GET", "_", "nil"] ;;
   .ite .err "err != nil" (.ret .keep ["nil", "err"]) .skip ;;
   jsonUnmarshal ;;
   .ite .err "err != nil" (.ret .err ["nil", "_"]) .skip) ;;
  .scope "loop" (.when .never (
    .ite .never "¬strings.HasPrefix($range.2.Id, \"Netspoc\")" .cont .skip ;;
    nsxSendRequest .read (.lit "policy") ["GET", "_", "nil"] ;;
    .ite .err "err != nil" (.ret .keep ["nil", "err"]) .skip)) ;;
  nsxGetRawJSON (.lit "services") ;;
  .ite .err "err != nil" (.ret .keep ["nil", "err"]) .skip ;;
  nsxGetRawJSON (.lit "groups") ;;
  .ite .err "err != nil" (.ret .keep ["nil", "err"]) .skip ;;
  .ite .never "err != nil" (.ret .keep ["nil", "err"]) .skip ;;
  op "ParseConfig" ["_", "<device>"] ;;
  .ite .never "err != nil" (.ret .err ["nil", "_"]) .skip ;;
  .assumeBanner ;; .setPlan ;;
  .ret .nil ["_", "nil"]

end NA.Apply
