import NA.Model.IosSession
/-!
# Model of `removeBanner` (`go/pkg/ios/device.go`)

`removeBanner` deletes banner *definitions* from a configuration text before it is parsed
(`banner motd ^C` … lines … `^C`).  The code walks the text line by line (a line includes its
line feed), recognises a start line with the regular expression `^banner\s\S+\s+(.)\S`, then skips
lines up to and including the first line that starts with the captured delimiter.  A last line
without line feed is always copied — even inside a banner, even if it is a start line (mirrored).

`bannerStart` is the explicit matcher of the regular expression with Go's leftmost-first
backtracking: `\S+` and `\s+` are greedy; the only way to back off is one character of `\s+`,
which makes the LAST white-space character the delimiter (`banner motd  x` ⇒ delimiter = blank).
-/
namespace NA.Ios

/-- `^banner\s\S+\s+(.)\S` on one line: the captured delimiter. -/
def bannerStart (line : Str) : Option Char :=
  if !(lit "banner").isPrefixOf line then none else
  match line.drop 6 with
  | [] => none
  | c :: r =>
    if !isReSpace c then none else
    let w := r.takeWhile (fun x => !isReSpace x)
    let r1 := r.dropWhile (fun x => !isReSpace x)
    if w.isEmpty then none else
    let s := r1.takeWhile isReSpace
    let r2 := r1.dropWhile isReSpace
    if s.isEmpty then none else
    let back : Option Char :=
      if s.length ≥ 2 then
        match s.getLast?, r2 with
        | some x, _ :: _ => if x != '\n' then some x else none
        | _, _ => none
      else none
    match r2 with
    | d :: e :: _ => if !isReSpace e then some d else back
    | _ => back

/-- complete lines (each with its line feed) and the unterminated rest -/
def splitKeepNL : Str → List Str × Str
  | [] => ([], [])
  | c :: s =>
    if c == '\n' then (['\n'] :: (splitKeepNL s).1, (splitKeepNL s).2)
    else
      match (splitKeepNL s).1 with
      | [] => ([], c :: (splitKeepNL s).2)
      | l :: ls => ((c :: l) :: ls, (splitKeepNL s).2)

/-- the loop over complete lines; the first argument is `endBanner` (`none`: outside a banner) -/
def rbLines : Option Char → List Str → Str
  | _, [] => []
  | some d, l :: ls => if l.head? == some d then rbLines none ls else rbLines (some d) ls
  | none, l :: ls =>
    match bannerStart l with
    | some d => rbLines (some d) ls
    | none => l ++ rbLines none ls

/-- `removeBanner` -/
def removeBanner (data : Str) : Str :=
  rbLines none (splitKeepNL data).1 ++ (splitKeepNL data).2

end NA.Ios
