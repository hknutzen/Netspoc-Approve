/-
Model of `bin/newpolicy.sh` (C19).  Core Lean only; executable; generic in the program.

The PROGRAM is not written here: `translate/shgen` regenerates it from the shell source into
`NA/Gen/NewPolicy.lean` as a flat list of instructions.  Every instruction is one simple command
of the script as bash's DEBUG trap sees it in the main shell (function call, function entry,
assignment, test, external command), classified into an abstract command `Cmd`, together with its
two continuations (`ok`: exit status 0, `fail`: non-zero) computed from the control structure
(`&&`, `||`, `if`, `while`, `break`, `continue`, `return`, inlined functions).

This file gives the commands their meaning on an abstract state:

* the remote repository: an append-only store of commits (tree good/bad = no `BAD` file / a `BAD`
  file, number in the `POLICY` file, author with/without e-mail, first parent) and the id of
  `refs/heads/master`;
* `policies/`: directories `pN` (src HEAD, "compiled from" marker), `next`, the link `current`,
  the marker `failed`, the file `LOCK` and who holds the flock on it;
* processes: program counter into the regenerated list and the shell variables the script uses.

What the model does NOT contain: git internals (only: clone = copy of the remote head, commit,
merge pull, fast-forward-only push, reset, revert of the head commit), the compiler (succeeds iff
the tree is good), mail, sudo.
-/
namespace NA.C19

inductive Kind | user | policy | revert | merge
  deriving DecidableEq, Repr, Inhabited

structure Commit where
  good   : Bool            -- the tree compiles (no file `BAD`)
  pol    : Option Nat      -- number in the file POLICY (none = no such file)
  email  : Bool            -- the author has an e-mail address
  parent : Nat             -- id of the first parent (0 = none)
  kind   : Kind
  tree   : Nat := 0        -- content id of the tree without the POLICY file (what the compiler reads)
  deriving DecidableEq, Repr, Inhabited

structure Dir where
  head   : Option Nat := none    -- HEAD of `src` (none = not cloned)
  built  : Bool := false         -- `code` holds the result of a successful compile
  nested : Bool := false         -- a later `mv next pN` landed inside this directory
  code   : Nat := 0              -- content id of the tree last compiled into `code`, to the end or not (0 = none)
  dirty  : Bool := false         -- `code` holds output of some compile, finished or cut short (`spoilDir`)
  mixed  : Bool := false         -- `code` holds output of compiles of different trees (leftover files of an earlier one)
  deriving DecidableEq, Repr, Inhabited

inductive Reg | fcount | lcount | count
  deriving DecidableEq, Repr, Inhabited

/-- Abstract commands.  `shgen` maps every simple command of the script to exactly one of them
(or fails).  The comment gives the shell text it stands for. -/
inductive Cmd
  | nop (what : String)     -- assignment of a path variable, `cd`, `echo`, `true`, `break`, call/entry markers …
  | openLock                -- exec 9<>$POLICYDB/LOCK
  | flockNB                 -- flock -n 9
  | exit (n : Nat)          -- exit n
  | ret (n : Nat)           -- return n
  | uptodateCheck           -- the subshell body of uptodate()
  | rmrfNext                -- rm -rf $NEXT
  | mkdirNext               -- mkdir $NEXT
  | rmrfNextSrc             -- rm -rf $NEXT/src        (not in the script today; understood so that such an edit is followed)
  | mkdirNextP              -- mkdir -p $NEXT          (dito)
  | logToFile               -- exec >$PLOG 2>&1
  | gitClone                -- git clone --quiet --depth 2 $GIT_URL src        (in $NEXT)
  | testPolicyFile          -- [ -e $POLICY_FILE ]
  | readPolicyFile          -- FCOUNT=$(cat $POLICY_FILE | grep -Po '\d+' | head -n 1)
  | testReg (r : Reg)       -- [ "$FCOUNT" ] / [ "$LCOUNT" ]
  | setReg (r : Reg) (n : Nat)   -- FCOUNT=0 / LCOUNT=0
  | readLink                -- PREV_POLICY=$(readlink $CURRENT)
  | testPrev                -- [ "$PREV_POLICY" ]
  | linkCount               -- LCOUNT=$(echo $PREV_POLICY | grep -Po '\d+' | head -n 1)
  | mkdirCode               -- mkdir $PCODE
  | mkPrevLink              -- ln -s ../../$PREV_POLICY/code $PCODE/.prev
  | countPick (max : Bool)  -- COUNT=$( [ $FCOUNT -gt $LCOUNT ] && echo $FCOUNT || echo $LCOUNT)   (max = true for -gt/-ge)
  | countAdd (n : Nat)      -- COUNT=$(expr $COUNT + n)
  | policyFromCount         -- POLICY=p$COUNT
  | compile                 -- netspoc $PSRC $PCODE
  | touchFailed             -- touch $POLICYDB/failed
  | writePolicyFile         -- echo "# $POLICY # …" > POLICY                  (in $PSRC)
  | gitAdd                  -- git add POLICY
  | gitCommitPolicy         -- git commit -m $POLICY
  | saveHash                -- HASH=$(git log -n 1 --format='format:%H')
  | gitPullMerge            -- git pull --no-rebase --quiet
  | gitPush                 -- git push --quiet
  | gitResetHash            -- git reset --hard $HASH
  | mvNextTo                -- mv next $POLICY                                  (in $POLICYDB)
  | rmCurrent               -- rm -f $CURRENT
  | lnCurrent               -- ln -s $POLICY $CURRENT
  | rmFailed                -- rm -f failed                                      (in $POLICYDB)
  | cleanupFind             -- find $PREV_CODE \( -name '*.config' -o -name '*.rules' \)
  | cleanupRm               -- … | xargs rm
  | readEmail               -- EMAIL=$(git log -n 1 --format='format:%ae')
  | mail (what : String)    -- … | mail -s …
  | testEmail               -- [ -n "$EMAIL" ]
  | testSysEmailEmpty       -- [ -z $(git config user.email) ]
  | gitRevert               -- git revert --no-edit $HASH
  | gitPullPlain            -- git pull --quiet
  | touchLock               -- touch $POLICYDB/LOCK
  deriving DecidableEq, Repr, Inhabited

def Cmd.name : Cmd → String
  | .nop w => "nop:" ++ w | .openLock => "openLock" | .flockNB => "flockNB" | .exit n => s!"exit{n}"
  | .ret n => s!"ret{n}" | .uptodateCheck => "uptodateCheck" | .rmrfNext => "rmrfNext"
  | .mkdirNext => "mkdirNext" | .rmrfNextSrc => "rmrfNextSrc" | .mkdirNextP => "mkdirNextP" | .logToFile => "logToFile" | .gitClone => "gitClone"
  | .testPolicyFile => "testPolicyFile" | .readPolicyFile => "readPolicyFile"
  | .testReg .fcount => "testFcount" | .testReg .lcount => "testLcount" | .testReg .count => "testCount"
  | .setReg .fcount n => s!"setFcount{n}" | .setReg .lcount n => s!"setLcount{n}" | .setReg .count n => s!"setCount{n}"
  | .readLink => "readLink" | .testPrev => "testPrev" | .linkCount => "linkCount" | .mkdirCode => "mkdirCode"
  | .mkPrevLink => "mkPrevLink" | .countPick m => if m then "countMax" else "countMin"
  | .countAdd n => s!"countAdd{n}" | .policyFromCount => "policyFromCount" | .compile => "compile"
  | .touchFailed => "touchFailed" | .writePolicyFile => "writePolicyFile" | .gitAdd => "gitAdd"
  | .gitCommitPolicy => "gitCommitPolicy" | .saveHash => "saveHash" | .gitPullMerge => "gitPullMerge"
  | .gitPush => "gitPush" | .gitResetHash => "gitResetHash" | .mvNextTo => "mvNextTo"
  | .rmCurrent => "rmCurrent" | .lnCurrent => "lnCurrent" | .rmFailed => "rmFailed"
  | .cleanupFind => "cleanupFind" | .cleanupRm => "cleanupRm" | .readEmail => "readEmail"
  | .mail w => "mail:" ++ w | .testEmail => "testEmail" | .testSysEmailEmpty => "testSysEmailEmpty"
  | .gitRevert => "gitRevert" | .gitPullPlain => "gitPullPlain" | .touchLock => "touchLock"

/-- Commands that write below `policies/` (other than opening the lock file) or to the remote. -/
def Cmd.mutating : Cmd → Bool
  | .rmrfNext | .mkdirNext | .rmrfNextSrc | .mkdirNextP | .logToFile | .gitClone | .mkdirCode | .mkPrevLink | .compile | .touchFailed
  | .writePolicyFile | .gitAdd | .gitCommitPolicy | .gitPullMerge | .gitPush | .gitResetHash | .mvNextTo
  | .rmCurrent | .lnCurrent | .rmFailed | .cleanupFind | .cleanupRm | .gitRevert | .gitPullPlain
  | .touchLock => true
  | _ => false

/-- Commands whose work is done by a child process of the shell (the child inherits fd 9). -/
def Cmd.external : Cmd → Bool
  | .flockNB | .rmrfNext | .mkdirNext | .rmrfNextSrc | .mkdirNextP | .gitClone | .mkdirCode | .mkPrevLink | .compile | .touchFailed | .gitAdd
  | .gitCommitPolicy | .gitPullMerge | .gitPush | .gitResetHash | .mvNextTo | .rmCurrent | .lnCurrent | .rmFailed
  | .gitRevert | .gitPullPlain | .touchLock => true
  | _ => false

/-- One instruction: source line, abstract command, continuation on status 0 / on failure,
`vis` = bash fires a DEBUG trap in the main shell for it (a kill point of the sandbox runs). -/
structure Instr where
  line : Nat
  cmd  : Cmd
  ok   : Nat
  fail : Nat
  vis  : Bool := true
  inh  : Bool := true     -- the child process of this command inherits fd 9 (false: the command carries `9>&-`)
  deriving DecidableEq, Repr, Inhabited

abbrev Prog := List Instr

/-- A running or finished `newpolicy.sh`. -/
structure Proc where
  pid     : Nat
  pc      : Nat := 0
  alive   : Bool := true
  exit    : Option Nat := none
  fcount  : Option Nat := none
  lcount  : Option Nat := none
  count   : Option Nat := none
  policy  : Nat := 0            -- POLICY=p<policy>
  prev    : Option Nat := none  -- PREV_POLICY
  hash    : Nat := 0            -- HASH
  email   : Bool := false       -- EMAIL is not empty
  base    : Nat := 0            -- what next/src knows as origin/master
  wpol    : Option Nat := none  -- POLICY file written in the work tree, not committed
  spol    : Option Nat := none  -- … and staged
  touched : Bool := false       -- ghost: has executed a mutating command
  fetched : Bool := false       -- ghost: `git pull --no-rebase` done, the following `git push` not yet
  deriving DecidableEq, Repr, Inhabited

/-- Everything but the processes. -/
structure G where
  store    : List Commit := []
  remote   : Nat := 0
  dirs     : List (Nat × Dir) := []
  next     : Option Dir := none
  current  : Option Nat := none
  failed   : Bool := false
  lockFile : Bool := false
  lock     : Option Nat := none
  sysEmail : Bool := false       -- `git config user.email` of the account running the script is not empty
  hist     : List Nat := []      -- ghost: the numbers N of every `mv next pN` (with an existing `next`), newest first
  trouble  : Bool := false       -- ghost: a `git clone`, `git commit`, `git pull --no-rebase` or `git push` of the script has failed
  edited   : Bool := false       -- ghost: somebody rewrote the POLICY file by hand (or such a commit was reverted)
  raced    : Bool := false       -- ghost: a user commit landed between `git pull --no-rebase` and `git push` of a live invocation
  deriving DecidableEq, Repr, Inhabited

structure State where
  g     : G := {}
  procs : List Proc := []
  npid  : Nat := 1
  dying : List Nat := []         -- invocations whose shell was killed while a child process runs (see `Event.killDuring`)
  deriving DecidableEq, Repr, Inhabited

/-! ### Lookups -/

def rootCommit : Commit := ⟨true, none, false, 0, .user, 0⟩

/-- Commit with id `c` (ids start at 1); the empty tree for anything else. -/
def commitAt (store : List Commit) (c : Nat) : Commit :=
  if c = 0 then rootCommit else store.getD (c - 1) rootCommit

def lookupDir : List (Nat × Dir) → Nat → Option Dir
  | [], _ => none
  | (m, d) :: rest, n => if m = n then some d else lookupDir rest n

def setNested : List (Nat × Dir) → Nat → List (Nat × Dir)
  | [], _ => []
  | (m, d) :: rest, n => if m = n then (m, { d with nested := true }) :: rest else (m, d) :: setNested rest n

def Proc.reg (p : Proc) : Reg → Option Nat
  | .fcount => p.fcount | .lcount => p.lcount | .count => p.count

def Proc.setReg (p : Proc) (r : Reg) (v : Option Nat) : Proc :=
  match r with
  | .fcount => { p with fcount := v } | .lcount => { p with lcount := v } | .count => { p with count := v }

/-- HEAD of `policies/next/src`. -/
def G.nextHead (g : G) : Option Nat := g.next.bind (·.head)

/-- The tree checked out in `next/src` (HEAD's tree). -/
def G.nextTree (g : G) : Option Commit := g.nextHead.map (commitAt g.store)

def G.setNextHead (g : G) (h : Nat) : G :=
  match g.next with
  | some d => { g with next := some { d with head := some h } }
  | none => g

/-- The directory `uptodate()` looks at: `next` if it exists, else what `current` points to. -/
def G.uptodateDir (g : G) : Option Dir :=
  match g.next with
  | some d => some d
  | none => g.current.bind (lookupDir g.dirs)

def pickCount (max : Bool) (f l : Option Nat) : Option Nat :=
  match f, l with
  | some a, some b => if max then (if a > b then some a else some b) else (if a < b then some a else some b)
  | _, _ => l

/-! ### Meaning of one command: new global state, new process state, exit status 0? -/

def exec (c : Cmd) (g : G) (p : Proc) : G × Proc × Bool :=
  match c with
  | .nop _ | .mail _ | .touchLock | .cleanupFind | .cleanupRm | .mkdirCode | .mkPrevLink | .logToFile
  | .exit _ => (g, p, true)
  | .ret n => (g, p, n == 0)
  | .openLock => ({ g with lockFile := true }, p, true)
  | .flockNB =>
    match g.lock with
    | none => ({ g with lock := some p.pid }, p, true)
    | some q => (g, p, q == p.pid)
  | .uptodateCheck =>
    match g.uptodateDir with
    | some d => (g, p, d.head.isSome && d.head == some g.remote)
    | none => (g, p, false)
  | .rmrfNext => ({ g with next := none }, p, true)
  | .mkdirNext =>
    match g.next with
    | none => ({ g with next := some {} }, p, true)
    | some _ => (g, p, false)
  | .rmrfNextSrc =>
    match g.next with
    | some d => ({ g with next := some { d with head := none } }, p, true)
    | none => (g, p, true)
  | .mkdirNextP =>
    match g.next with
    | none => ({ g with next := some {} }, p, true)
    | some _ => (g, p, true)
  | .gitClone =>
    match g.next with
    | some d =>
      if d.head.isNone then
        ({ g with next := some { d with head := some g.remote } },
         { p with base := g.remote, wpol := none, spol := none, fetched := false }, true)
      else ({ g with trouble := true }, p, false)
    | none => ({ g with trouble := true }, p, false)
  | .testPolicyFile =>
    match g.nextTree with
    | some t => (g, p, t.pol.isSome)
    | none => (g, p, false)
  | .readPolicyFile => (g, { p with fcount := (g.nextTree.bind (·.pol)) }, true)
  | .testReg r => (g, p, (p.reg r).isSome)
  | .setReg r n => (g, p.setReg r (some n), true)
  | .readLink => (g, { p with prev := g.current }, g.current.isSome)
  | .testPrev => (g, p, p.prev.isSome)
  | .linkCount => (g, { p with lcount := p.prev }, true)
  | .countPick m => (g, { p with count := pickCount m p.fcount p.lcount }, true)
  | .countAdd n => (g, { p with count := p.count.map (· + n) }, p.count.isSome)
  | .policyFromCount => (g, { p with policy := p.count.getD 0 }, true)
  | .compile =>
    match g.next with
    | some d =>
      match d.head with
      | some c =>
        if (commitAt g.store c).good then
          ({ g with next := some { d with built := true, code := (commitAt g.store c).tree, dirty := true,
                                          mixed := d.mixed || (d.dirty && d.code != (commitAt g.store c).tree) } }, p, true)
        else ({ g with next := some { d with built := false } }, p, false)
      | none => (g, p, false)
    | none => (g, p, false)
  | .touchFailed => ({ g with failed := true }, p, true)
  | .writePolicyFile => (g, { p with wpol := some p.policy }, true)
  | .gitAdd => (g, { p with spol := p.wpol }, p.wpol.isSome)
  | .gitCommitPolicy =>
    match g.nextHead, p.spol with
    | some h, some n =>
      let t := commitAt g.store h
      if t.pol == some n then ({ g with trouble := true }, p, false)            -- nothing to commit
      else
        let c : Commit := ⟨t.good, some n, g.sysEmail, h, .policy, t.tree⟩
        (({ g with store := g.store ++ [c] }).setNextHead (g.store.length + 1), { p with spol := none, wpol := none }, true)
    | _, _ => ({ g with trouble := true }, p, false)
  | .saveHash => (g, { p with hash := g.nextHead.getD 0 }, g.nextHead.isSome)
  | .gitPullMerge =>
    match g.nextHead with
    | some h =>
      if g.remote = p.base then (g, { p with fetched := true }, true)            -- already up to date
      else if h = p.base then (g.setNextHead g.remote, { p with base := g.remote, fetched := true }, true)   -- fast forward
      else
        let ours := commitAt g.store h
        let theirs := commitAt g.store g.remote
        let basePol := (commitAt g.store p.base).pol
        if theirs.pol != basePol && ours.pol != basePol && theirs.pol != ours.pol then
          ({ g with trouble := true }, p, false)   -- conflict in POLICY
        else
          let m : Commit :=
            ⟨theirs.good, if ours.pol != basePol then ours.pol else theirs.pol, g.sysEmail, h, .merge, theirs.tree⟩
          (({ g with store := g.store ++ [m] }).setNextHead (g.store.length + 1),
           { p with base := g.remote, fetched := true }, true)
    | none => ({ g with trouble := true }, p, false)
  | .gitPush =>
    match g.nextHead with
    | some h =>
      if g.remote = p.base then ({ g with remote := h }, { p with base := h, fetched := false }, true)
      else
        -- rejected: the remote has moved.  Git trouble only if a new POLICY number stays unpublished.
        ({ g with trouble := g.trouble || (commitAt g.store h).pol != (commitAt g.store g.remote).pol },
         { p with fetched := false }, false)
    | none => ({ g with trouble := true }, { p with fetched := false }, false)
  | .gitResetHash => if p.hash = 0 then (g, p, false) else (g.setNextHead p.hash, { p with wpol := none, spol := none }, g.next.isSome)
  | .mvNextTo =>
    match g.next with
    | none => (g, p, false)
    | some d =>
      match lookupDir g.dirs p.policy with
      | none => ({ g with dirs := (p.policy, d) :: g.dirs, next := none, hist := p.policy :: g.hist }, p, true)
      | some e =>
        if e.nested then ({ g with hist := p.policy :: g.hist }, p, false)   -- pN/next exists and is not empty
        else ({ g with dirs := setNested g.dirs p.policy, next := none, hist := p.policy :: g.hist }, p, true)
  | .rmCurrent => ({ g with current := none }, p, true)
  | .lnCurrent =>
    match g.current with
    | none => ({ g with current := some p.policy }, p, true)
    | some _ => (g, p, true)                             -- link lands inside the directory `current` points to
  | .rmFailed => ({ g with failed := false }, p, true)
  | .readEmail => (g, { p with email := (g.nextTree.map (·.email)).getD false }, true)
  | .testEmail => (g, p, p.email)
  | .testSysEmailEmpty => (g, p, !g.sysEmail)
  | .gitRevert =>
    match g.nextHead with
    | some h =>
      let t := commitAt g.store p.hash
      if p.hash = 0 || h != p.hash || t.kind == .merge then (g, p, false)
      else
        let pt := commitAt g.store t.parent
        let r : Commit := ⟨pt.good, pt.pol, g.sysEmail, h, .revert, pt.tree⟩
        (({ g with store := g.store ++ [r], edited := g.edited || pt.pol != t.pol }).setNextHead (g.store.length + 1), p, true)
    | none => (g, p, false)
  | .gitPullPlain =>
    match g.nextHead with
    | some h =>
      if g.remote = p.base then (g, p, true)
      else if h = p.base then (g.setNextHead g.remote, { p with base := g.remote }, true)
      else (g, p, false)                                 -- divergent branches, no strategy configured
    | none => (g, p, false)

/-! ### Processes and events -/

def instrAt (prog : Prog) (pc : Nat) : Option Instr := prog[pc]?

def release (g : G) (pid : Nat) : G := if g.lock = some pid then { g with lock := none } else g

/-- One simple command of process `p` (which must be alive). -/
def stepProc (prog : Prog) (g : G) (p : Proc) : G × Proc :=
  match instrAt prog p.pc with
  | none => (release g p.pid, { p with alive := false, exit := some 0 })       -- end of script
  | some i =>
    match i.cmd with
    | .exit n => (release g p.pid, { p with alive := false, exit := some n })
    | c =>
      let (g', p', ok) := exec c g p
      (g', { p' with pc := if ok then i.ok else i.fail, touched := p'.touched || c.mutating })

inductive Event
  | commit (good : Bool) (pol : Option Nat) (email : Bool)   -- a user pushes one commit (pol = some n: rewrites POLICY)
  | spawn                                                    -- somebody starts newpolicy.sh
  | step (pid : Nat)                                         -- the scheduler lets process pid run one command
  | kill (pid : Nat)                                         -- SIGKILL before its next command
  | killDuring (pid : Nat)                                   -- SIGKILL of the shell while the child process of its next
                                                             -- command runs: the child (it inherited fd 9 and with it the
                                                             -- flock) finishes the command, then the invocation is gone
  deriving DecidableEq, Repr

def replaceProc (ps : List Proc) (p : Proc) : List Proc :=
  ps.map fun q => if q.pid = p.pid then p else q

def findProc (ps : List Proc) (pid : Nat) : Option Proc := ps.find? (·.pid == pid)

def applyCommit (g : G) (good : Bool) (pol : Option Nat) (email : Bool) : G :=
  let t := commitAt g.store g.remote
  let c : Commit := ⟨good, if pol.isSome then pol else t.pol, email, g.remote, .user, g.store.length + 1⟩
  { g with store := g.store ++ [c], remote := g.store.length + 1, edited := g.edited || pol.isSome }

/-- Some live invocation has pulled and not yet pushed. -/
def pushPending (ps : List Proc) : Bool := ps.any fun p => p.alive && p.fetched

/-- Events without the orphan mechanism (`killDuring` is handled in `step`). -/
def stepCore (prog : Prog) (s : State) : Event → State
  | .commit good pol email =>
    { s with g := { applyCommit s.g good pol email with raced := s.g.raced || pushPending s.procs } }
  | .spawn => { s with procs := s.procs ++ [{ pid := s.npid }], npid := s.npid + 1 }
  | .step pid =>
    match findProc s.procs pid with
    | some p =>
      if p.alive then
        let (g', p') := stepProc prog s.g p
        { s with g := g', procs := replaceProc s.procs p' }
      else s
    | none => s
  | .kill pid =>
    match findProc s.procs pid with
    | some p =>
      if p.alive then
        { s with g := release s.g pid, procs := replaceProc s.procs { p with alive := false, exit := none } }
      else s
    | none => s
  | .killDuring _ => s

/-- All events.  A shell killed while its child runs (`killDuring`) is remembered in `dying`; the
next step of that invocation is the child finishing its command, after which the invocation is
dead and the lock is free.  Only commands that run as a child process (`Cmd.external`) can be
interrupted this way; for the others `killDuring` is `kill`. -/
def step (prog : Prog) (s : State) : Event → State
  | .killDuring pid =>
    match findProc s.procs pid with
    | some p =>
      match instrAt prog p.pc with
      | some i =>
        if p.alive && i.cmd.external then
          if i.inh then { s with dying := pid :: s.dying }                       -- the child keeps fd 9: lock stays
          else { s with g := release s.g pid, dying := pid :: s.dying }           -- `9>&-`: lock is free, child goes on
        else stepCore prog s (.kill pid)
      | none => stepCore prog s (.kill pid)
    | none => s
  | .step pid =>
    if s.dying.contains pid then
      let s1 := stepCore prog s (.step pid)
      stepCore prog { s1 with dying := s1.dying.filter (· != pid) } (.kill pid)
    else stepCore prog s (.step pid)
  | e => stepCore prog s e

/-- The world before anything happened: a repository with one good commit without POLICY file. -/
def init (sysEmail : Bool) : State :=
  { g := { store := [⟨true, none, true, 0, .user, 1⟩], remote := 1, sysEmail := sysEmail } }

def run (prog : Prog) (sysEmail : Bool) (es : List Event) : State := es.foldl (step prog) (init sysEmail)

/-! ### Process-group kill: the compiler is stopped half way

`killDuring` kills the shell only.  `EventG.killGroup` kills the whole process group while the
compiler runs: `next/code` keeps PART of the output for the tree of HEAD (no stamp; files of an earlier
compile of another tree that were still there make it `mixed`), the invocation is dead and the
flock is free at once.  For any other command the group kill is `kill` (the command had no effect
yet; its completed variant is `killDuring` + the orphan's step). -/

/-- Half a compile of the tree of HEAD into `next/code`. -/
def spoilDir (g : G) (d : Dir) : Dir :=
  match d.head with
  | some h =>
    let t := (commitAt g.store h).tree
    { d with built := false, dirty := true, code := t, mixed := d.mixed || (d.dirty && d.code != t) }
  | none => { d with built := false, dirty := true }

def spoilG (g : G) : G := { g with next := g.next.map (spoilDir g) }

inductive EventG
  | base (e : Event)
  | killGroup (pid : Nat)
  deriving DecidableEq, Repr

/-- does the group kill hit a running compiler that holds the lock? -/
def groupHits (prog : Prog) (s : State) (pid : Nat) : Option Proc :=
  match findProc s.procs pid with
  | some p =>
    match instrAt prog p.pc with
    | some i => if p.alive && i.cmd == .compile && s.g.lock == some pid && !s.dying.contains pid then some p else none
    | none => none
  | none => none

def stepG (prog : Prog) (s : State) : EventG → State
  | .base e => step prog s e
  | .killGroup pid =>
    match groupHits prog s pid with
    | some p => { s with g := { spoilG s.g with lock := none }, procs := replaceProc s.procs { p with alive := false, exit := none } }
    | none => step prog s (.kill pid)

def runG (prog : Prog) (sysEmail : Bool) (es : List EventG) : State := es.foldl (stepG prog) (init sysEmail)

/-! ### Undisturbed run of one new invocation -/

def quiescent (s : State) : Bool := s.procs.all (!·.alive)

/-- Let process `pid` run alone for at most `fuel` commands. -/
def runAlone (prog : Prog) : Nat → State → Nat → State
  | 0, s, _ => s
  | fuel + 1, s, pid =>
    match findProc s.procs pid with
    | some p => if p.alive then runAlone prog fuel (step prog s (.step pid)) pid else s
    | none => s

/-- Start one invocation and let it run alone. -/
def runNew (prog : Prog) (fuel : Nat) (s : State) : State :=
  runAlone prog fuel (step prog s .spawn) s.npid

/-! ### Specification-side predicates (what the property talks about) -/

/-- `current` is absent or names a directory produced by a successful compile
(the compiler model succeeds exactly on good trees, see `exec .compile`). -/
def G.currentOK (g : G) : Bool :=
  match g.current with
  | none => true
  | some n =>
    match lookupDir g.dirs n with
    | some d => d.built
    | none => false

/-- `current` names a compiled directory whose source is the newest revision of the repository
and whose code was compiled from the tree of that revision. -/
def G.newest (g : G) : Bool :=
  match g.current with
  | none => false
  | some n =>
    match lookupDir g.dirs n with
    | some d => d.built && d.head == some g.remote && d.code == (commitAt g.store g.remote).tree && !d.mixed
    | none => false

/-- The compiled code of a directory belongs to the tree of its HEAD. -/
def dirCodeOK (store : List Commit) (d : Dir) : Bool :=
  !d.built ||
  match d.head with
  | some h => !d.mixed && d.code == (commitAt store h).tree
  | none => false

/-- Every command that runs as a child process hands fd 9 (the lock) down to it. -/
def inhOK (prog : Prog) : Bool := prog.all fun i => !i.cmd.external || i.inh

/-- No policy directory carries a number above max(POLICY file of the newest revision, link). -/
def G.numbersCovered (g : G) : Bool :=
  g.dirs.all fun x => x.1 ≤ max ((commitAt g.store g.remote).pol.getD 0) (g.current.getD 0)

/-- A leftover `next` whose HEAD equals the remote head: `uptodate()` will answer "yes". -/
def G.staleNext (g : G) : Bool :=
  match g.next with
  | some d => d.head == some g.remote
  | none => false

def strictlyDecreasing : List Nat → Bool
  | [] => true
  | [_] => true
  | a :: b :: rest => decide (b < a) && strictlyDecreasing (b :: rest)

end NA.C19
