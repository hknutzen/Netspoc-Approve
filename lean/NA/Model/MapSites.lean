import NA.Core.PermFold
/-!
# C16 — models of the `range`-over-map loops of go/pkg/...

Every loop `for k, v := range m { body }` is modelled as a left fold of a *step* over the list
of map entries **in iteration order** (which differs from run to run).  This file contains

* the loop **shapes** (generic step functions) that occur in the repository,
* for every site of the generated list `NA.Gen.MapRanges.sites` a **site model**: the shape
  instantiated with what the body does (parameters that the loop does not change are arbitrary
  functions, so the statement covers every value they can take),
* the models of the loops that are **not** order-insensitive on the unchanged tree — before the
  repair (`…Unfixed`, fold over the iteration order) and after it (`…Fixed`, fold over the
  entries sorted by key),
* the table `expected` that would tie site models to generated sites by file, function, map
  expression, ordinal and **hash of the loop text**.  It is EMPTY: every loop of the repository is
  tied by its regenerated descriptor (`NA.Gen.MapRangesDescr.descrs`, `runBody_perm`), so no generated
  site is matched against a site model below; the site models and their theorems stand as
  hand-written instances of the shapes, connected to the source by their comments only.

Core Lean only; everything executable (the driver `nadrv-c16` runs the `…Fixed` models).
-/
namespace NA.C16
open NA.PermFold

/-- Entries of a Go map in iteration order: a list of key/value pairs with distinct keys. -/
abbrev Entries (κ ν : Type) := List (κ × ν)

def IsMap {κ ν : Type} (es : Entries κ ν) : Prop := UniqueKeys Prod.fst es

instance {κ ν : Type} [DecidableEq κ] (es : Entries κ ν) : Decidable (IsMap es) := by
  unfold IsMap UniqueKeys; infer_instance

/-! ## Shapes -/

/-! ### Shape `collectSorted`: append selected entries to a slice, sort the slice afterwards -/

def collectStep {α β : Type} (p : α → Bool) (f : α → β) (acc : List β) (e : α) : List β :=
  if p e then acc ++ [f e] else acc

/-- `for k, v := range m { if p { out = append(out, f) } }; sort(out)` -/
def collectSorted {α β : Type} (le : β → β → Bool) (p : α → Bool) (f : α → β) (init : List β)
    (es : List α) : List β :=
  (es.foldl (collectStep p f) init).mergeSort le

/-! ### Shape `footprint`: every entry reads and writes only cells it owns -/

/-- A heap of cells `ι → μ`.  Entry `a` owns the cells `owns a`; the new content of an owned
cell is `write a heap cell`, and `local` says that it depends only on owned cells (everything
else the body reads is not changed by the loop and is a parameter of `write`). -/
structure Footprint (ι μ α : Type) where
  owns : α → ι → Bool
  write : α → (ι → μ) → ι → μ
  «local» : ∀ a s s', (∀ i, owns a i = true → s i = s' i) → ∀ i, owns a i = true → write a s i = write a s' i

def Footprint.step {ι μ α : Type} (F : Footprint ι μ α) (s : ι → μ) (a : α) : ι → μ :=
  fun i => if F.owns a i then F.write a s i else s i

/-- Different entries own different cells. -/
def Footprint.Disjoint {ι μ α : Type} (F : Footprint ι μ α) (l : List α) : Prop :=
  ∀ a, a ∈ l → ∀ b, b ∈ l → a ≠ b → ∀ i, ¬ (F.owns a i = true ∧ F.owns b i = true)

/-- `X[k] = g k v (X[k])`: the only cell written is the one named by the loop's own key
(also `delete(X, k)` with `μ = Option _` and `g … = none`). -/
def ownKey {κ ν μ : Type} [DecidableEq κ] (g : κ → ν → μ → μ) : Footprint κ μ (κ × ν) where
  owns e i := decide (i = e.1)
  write e s i := g e.1 e.2 (s i)
  «local» := by
    intro a s s' h i hi
    rw [h i hi]

/-- Every entry owns a set of objects (the commands reachable from its value); the body
replaces the content of each owned object by a function of the entry, the object and its old
content (`c.parsed = f(c.parsed)`, `sort(c.sub)`, `c.name = newName(c.name, deviceNames)`). -/
def perObject {ι μ α : Type} [DecidableEq ι] (objs : α → List ι) (upd : α → ι → μ → μ) :
    Footprint ι μ α where
  owns a i := decide (i ∈ objs a)
  write a s i := upd a i (s i)
  «local» := by
    intro a s s' h i hi
    rw [h i hi]

/-! ### Shape `setInsert`: the body only adds members to a set (`seen[x] = true`) -/

def setInsertStep {α β : Type} (items : α → β → Bool) (s : β → Bool) (a : α) : β → Bool :=
  fun b => s b || items a b

/-! ### Shape `constFlag`: the body stores one loop-invariant constant in a shared cell -/

def constFlagStep {α γ : Type} (q : α → Bool) (c : γ) (s : Option γ) (a : α) : Option γ :=
  if q a then some c else s

/-! ### Shape `exitOrOwnKey`: leave with an error, or write the own cell -/

/-- `for k, v := range m { if skip(k) { continue }; x, err := parse(k, v); if err != nil { return err };
X[k] = x }`; `none` = the function returned early. -/
def exitOrOwnKeyStep {κ ν μ : Type} [DecidableEq κ] (skip : κ → Bool) (parse : κ → ν → Option μ)
    (s : Option (κ → Option μ)) (e : κ × ν) : Option (κ → Option μ) :=
  match s with
  | none => none
  | some m =>
    if skip e.1 then some m else
    match parse e.1 e.2 with
    | none => none
    | some x => some (fun i => if i = e.1 then some x else m i)

/-! ### Shape `firstIn`: leave the loop at the first entry that produces a result -/

/-- `for k, v := range m { if r, ok := f(k, v); ok { result = r; break } }` -/
def firstIn {α ρ : Type} (f : α → Option ρ) (es : List α) : Option ρ := es.findSome? f

/-- The same loop over the entries sorted by key (the repaired form). -/
def firstInSorted {κ ν ρ : Type} (le : κ → κ → Bool) (f : κ × ν → Option ρ) (es : Entries κ ν) :
    Option ρ :=
  firstIn f (sortBy le Prod.fst es)

/-- Messages emitted in iteration order. -/
def logIn {α ρ : Type} (f : α → Option ρ) (es : List α) : List ρ := es.filterMap f

def logInSorted {κ ν ρ : Type} (le : κ → κ → Bool) (f : κ × ν → Option ρ) (es : Entries κ ν) :
    List ρ :=
  logIn f (sortBy le Prod.fst es)

/-! ## Site models: loops that are order-insensitive as they stand -/

namespace Site

/-- asa/device.go `isValidOutput`: `for prefix, re := range validOutput { if HasPrefix(cmd, prefix)
&& re.MatchString(line) { continue LINE } }` — the only result is "some entry matched". -/
def isValidOutput {κ ν : Type} (hit : κ × ν → Bool) (es : Entries κ ν) : Option Unit :=
  firstIn (fun e => if hit e then some () else none) es

/-- cisco/config.go `MergeSpoc` #0: `for prefix := range b.lookup { if lookup[prefix] == nil
{ lookup[prefix] = make(…) } }`; cell content `none` = nil map, `some μ` = a map. -/
def mergeSpocMakeMaps {κ ν μ : Type} [DecidableEq κ] (empty : μ) : Footprint κ (Option μ) (κ × ν) :=
  ownKey (fun _ _ old => match old with | none => some empty | some m => some m)

/-- cisco/config.go `MergeSpoc`: `for c, used := range isReferenced { if !used { warnings =
append(warnings, Sprintf(…c…)) } }; sort.Strings(warnings)`. -/
def mergeSpocWarnings {κ : Type} (msg : κ → String) (init : List String) (es : Entries κ Bool) :
    List String :=
  collectSorted strLe (fun e => !e.2) (fun e => msg e.1) init es

/-- cisco/diff.go `diffConfig`: `for _, l := range comb[prefix] { anchor = l[0].typ.anchor; break }`:
the result is the `anchor` flag of the command type of whichever entry comes first. -/
def anchorProbe {κ ν : Type} (typAnchor : ν → Bool) (es : Entries κ ν) : Option Bool :=
  firstIn (fun e => some (typAnchor e.2)) es

/-- cisco/diff.go `diffSomeAnchors/onlyAnchorNames`: `for name, l := range m { if l[0].anchor
{ result = append(result, name) } }; sort.Strings(result)`. -/
def onlyAnchorNames {ν : Type} (isAnchor : ν → Bool) (es : Entries String ν) : List String :=
  collectSorted strLe (fun e => isAnchor e.2) (fun e => e.1) [] es

/-- cisco/diff.go `diffASAACLs/addACL`: `for cmd, p := range pos { if p >= i { pos[cmd] = p + 1 } }`. -/
def posAfterAdd {κ : Type} [DecidableEq κ] (i : Nat) : Footprint κ Nat (κ × Nat) :=
  ownKey (fun _ p old => if p ≥ i then p + 1 else old)

/-- cisco/diff.go `diffASAACLs/delACL`: `for cmd, p := range pos { if p > i { pos[cmd] = p - 1 } }`. -/
def posAfterDel {κ : Type} [DecidableEq κ] (i : Nat) : Footprint κ Nat (κ × Nat) :=
  ownKey (fun _ p old => if p > i then p - 1 else old)

/-- cisco/diff.go `deleteUnused`, first loop (both levels flattened: key = (prefix, name)):
`toDelete[pair{prefix,name}] = del(l)` if `del(l) != nil` — own cell — and
`stillReferenced[…] = true` for everything reachable from unneeded, non-DRC commands of `l`
— set insertion.  `del` and `reach` read `needed`, `toDelete`, names and references, none of
which the loop changes. -/
def deleteUnusedCollect {κ ν δ : Type} [DecidableEq κ] (del : κ → ν → Option δ)
    (reach : κ × ν → κ → Bool) :
    (κ → Option δ) × (κ → Bool) → κ × ν → (κ → Option δ) × (κ → Bool) :=
  prodStep (ownKey (fun k v old => match del k v with | some d => some d | none => old)).step
    (setInsertStep reach)

/-- cisco/diff.go `deleteUnused`: `for p := range toDelete { if stillReferenced[p] { delete(toDelete, p) } }`. -/
def deleteStillReferenced {κ δ : Type} [DecidableEq κ] (still : κ → Bool) :
    Footprint κ (Option δ) (κ × δ) :=
  ownKey (fun k _ old => if still k then none else old)

/-- cisco/diff.go `deleteUnused`: `for _, l := range toDelete { for _, c := range l { follow(c); … } }`
with `follow` = `isReferenced[pair{prefix,name}] = true` for every reference of `c`. -/
def markReferenced {κ ν β : Type} (refs : κ × ν → β → Bool) : (β → Bool) → κ × ν → β → Bool :=
  setInsertStep refs

/-- cisco/diff.go `generateNamesForTransfer` (both levels flattened; an entry is a list of
commands): every command without fixed name gets `c.name = firstFree(c.name, deviceNames[prefix])`;
the device's names are not changed by the loop. -/
def generateNames {ι μ α : Type} [DecidableEq ι] (cmds : α → List ι) (rename : α → ι → μ → μ) :
    Footprint ι μ α :=
  perObject cmds rename

/-- cisco/diff.go `sortGroups`: `for _, gl := range lookup["object-group"] { sort(gl[0].sub) }`. -/
def sortGroups {ι μ α : Type} [DecidableEq ι] (group : α → ι) (sortSub : μ → μ) : Footprint ι μ α :=
  perObject (fun a => [group a]) (fun _ _ c => sortSub c)

/-- cisco/diff.go `ignoreCryptoGDOI`: `for name := range rm { delete(lookup["crypto map"], name) }`. -/
def ignoreCryptoGDOI {κ ν δ : Type} [DecidableEq κ] : Footprint κ (Option δ) (κ × ν) :=
  ownKey (fun _ _ _ => none)

/-- cisco/parse.go `addDefaults`: `for k, vl := range defaultObjects { if known(prefix)
{ addDefaultObject(lookup, prefix, name, vl) } }`: only `lookup[prefix][name]` is changed. -/
def addDefaults {κ ν μ : Type} [DecidableEq κ] (known : κ → Bool) (add : κ → ν → μ → μ) :
    Footprint κ μ (κ × ν) :=
  ownKey (fun k v old => if known k then add k v old else old)

/-- cisco/parse.go `postprocessParsed`, the loops that rewrite each command of each entry in place
(`postprocessIOSACL`, `stripPFSDefault`, `stripMetric`, lower-casing `subject-name`, marking
tunnel-groups named by an IP address). -/
def rewriteCommands {ι μ α : Type} [DecidableEq ι] (cmds : α → List ι) (f : α → ι → μ → μ) :
    Footprint ι μ α :=
  perObject cmds f

/-- cisco/parse.go `postprocessParsed`, `access-list` loop and `setTransRef`: each command is
rewritten in place **and** the shared command type gets a loop-invariant constant
(`c.typ.ref = […]`). -/
def rewriteAndSetTypeRef {ι μ α γ : Type} [DecidableEq ι] (cmds : α → List ι) (f : α → ι → μ → μ)
    (touches : α → Bool) (refs : γ) : (ι → μ) × Option γ → α → (ι → μ) × Option γ :=
  prodStep (perObject cmds f).step (constFlagStep touches refs)

/-- linux/parse.go `normalizeIPTables`: `for k, v := range pairs { …; pairs[k] = norm(k, v) }`. -/
def normalizeIPTables {κ ν : Type} [DecidableEq κ] (norm : κ → ν → ν) : Footprint κ ν (κ × ν) :=
  ownKey (fun k v _ => norm k v)

/-- cisco/parse.go `postprocessParsed` (fix 135107b): `for name, l := range lookup["username"] { if
!ContainsFunc(l, nopassword) { delete(lookup["username"], name) } }` — deletes the own entry of the
ranged map, decided by the entry's own value. -/
def dropUnmanagedUsers {κ ν : Type} [DecidableEq κ] (managed : ν → Bool) : Footprint κ (Option ν) (κ × ν) :=
  ownKey (fun _ v old => if managed v then old else none)

/-- nsx/diff.go `genUniqGroupNames`: `for id := range a { used[id] = true }`. -/
def copyKeys {κ ν : Type} [DecidableEq κ] : Footprint κ Bool (κ × ν) :=
  ownKey (fun _ _ _ => true)

/-- A non-empty string of at most nine decimal digits: `strconv.Atoi` succeeds, result ≥ 0. -/
def isNumeral (s : String) : Bool :=
  !s.toList.isEmpty && s.toList.all Char.isDigit && decide (s.toList.length ≤ 9)

def parseNat (s : String) : Option Nat :=
  if isNumeral s then some (s.toList.foldl (fun n c => 10 * n + (c.toNat - 48)) 0) else none

/-- program/config.go `LoadConfig`: `for key, val := range defaultVals { if !seen[key] { if err :=
insert(key, val); err != nil { return nil, err } } }`; `insert` stores the parsed number in the
field named by `key` (all keys of `defaultVals` are integer fields). -/
def loadDefaults (seen : String → Bool) :
    Option (String → Option Nat) → String × String → Option (String → Option Nat) :=
  exitOrOwnKeyStep seen (fun _ v => parseNat v)

end Site

/-! ## Loops that depend on the iteration order on the unchanged tree, and their repairs -/

/-- An object-group / NSX group on the device. -/
structure Group where
  needed : Bool          -- already used for another group of Netspoc
  typ : Nat              -- `object-group network`, `… service`, … (NSX: always 0)
  elems : List Nat       -- sorted element list
  deriving DecidableEq, Repr

/-- Body of `findGroupOnDevice` (cisco/diff.go and nsx/diff.go): the group is a candidate iff
it has the same type, is not needed yet and has the same elements. -/
def groupMatches {κ : Type} (typ : Nat) (target : List Nat) (e : κ × Group) : Option κ :=
  if e.2.typ = typ && !e.2.needed && e.2.elems = target then some e.1 else none

/-- Unchanged code: the first candidate in map iteration order is taken. -/
def findGroupUnfixed {κ : Type} (typ : Nat) (target : List Nat) (es : Entries κ Group) : Option κ :=
  firstIn (groupMatches typ target) es

/-- Repaired code: the candidates are visited in ascending order of the group name. -/
def findGroupFixed {κ : Type} (le : κ → κ → Bool) (typ : Nat) (target : List Nat)
    (es : Entries κ Group) : Option κ :=
  firstInSorted le (groupMatches typ target) es

/-- `mapPeerToSeq` of cisco/diff.go matchCryptoMap.  Entries: sequence number ↦ peer of that
crypto map entry (`none` = neither peer nor dynamic: `getPeer` aborts naming the entry).
Result: `Except.error seq` = abort, `Except.ok m` = peer ↦ sequence number. -/
def peerStepUnfixed {π : Type} [DecidableEq π] (s : Except Nat (π → Option Nat)) (e : Nat × Option π) :
    Except Nat (π → Option Nat) :=
  match s with
  | .error n => .error n
  | .ok m =>
    match e.2 with
    | none => .error e.1
    | some p => .ok (fun q => if q = p then some e.1 else m q)   -- m[peer] = seq: the last one wins

def peerMapUnfixed {π : Type} [DecidableEq π] (es : Entries Nat (Option π)) :
    Except Nat (π → Option Nat) :=
  es.foldl peerStepUnfixed (.ok fun _ => none)

/-- Repaired code: ascending sequence numbers, the first (lowest) entry of a peer is kept. -/
def peerStepFixed {π : Type} [DecidableEq π] (s : Except Nat (π → Option Nat)) (e : Nat × Option π) :
    Except Nat (π → Option Nat) :=
  match s with
  | .error n => .error n
  | .ok m =>
    match e.2 with
    | none => .error e.1
    | some p => .ok (fun q => if q = p ∧ m q = none then some e.1 else m q)

def peerMapFixed {π : Type} [DecidableEq π] (es : Entries Nat (Option π)) :
    Except Nat (π → Option Nat) :=
  (sortBy natLe Prod.fst es).foldl peerStepFixed (.ok fun _ => none)

/-- What can be observed of the result: abort, or the sequence numbers of given peers. -/
def peerObs {π : Type} (r : Except Nat (π → Option Nat)) (ps : List π) : Nat ⊕ List (Option Nat) :=
  match r with
  | .error n => .inl n
  | .ok m => .inr (ps.map m)

/-- `checkReferences` of cisco/parse.go (both levels flattened; key = (prefix, name)): the value
is the message of the first dangling reference among the commands of the entry, if any. -/
def firstErrorUnfixed {κ ρ : Type} (es : Entries κ (Option ρ)) : Option ρ := firstIn Prod.snd es

def firstErrorFixed {κ ρ : Type} (le : κ → κ → Bool) (es : Entries κ (Option ρ)) : Option ρ :=
  firstInSorted le Prod.snd es

/-- `diffIPTables` of linux/diff.go, option loop: `for k, v := range aPairs { if v2 := bPairs[k];
v2 != v { return "…k:[v<->v2]" } }`. -/
def optionDiffers {κ ν : Type} [DecidableEq ν] (b : κ → ν) (e : κ × ν) : Option (κ × ν × ν) :=
  if b e.1 = e.2 then none else some (e.1, e.2, b e.1)

def firstOptionUnfixed {κ ν : Type} [DecidableEq ν] (b : κ → ν) (es : Entries κ ν) : Option (κ × ν × ν) :=
  firstIn (optionDiffers b) es

def firstOptionFixed {κ ν : Type} [DecidableEq ν] (le : κ → κ → Bool) (b : κ → ν) (es : Entries κ ν) :
    Option (κ × ν × ν) :=
  firstInSorted le (optionDiffers b) es

/-- cisco `MergeSpoc`, main loop, as far as the *first abort* goes: the value says whether
merging this entry aborts (unsupported prefix in raw, name clash, second reference) and how. -/
def firstAbortUnfixed {κ ρ : Type} (es : Entries κ (Option ρ)) : Option ρ := firstIn Prod.snd es

def firstAbortFixed {κ ρ : Type} (le : κ → κ → Bool) (es : Entries κ (Option ρ)) : Option ρ :=
  firstInSorted le Prod.snd es

/-- linux `MergeSpoc`: messages (`Adding all chains of table …`, `Adding chain …`) are written
to stderr in iteration order; the value is the message of the entry, if it emits one. -/
def infoLogUnfixed {κ ρ : Type} (es : Entries κ (Option ρ)) : List ρ := logIn Prod.snd es

def infoLogFixed {κ ρ : Type} (le : κ → κ → Bool) (es : Entries κ (Option ρ)) : List ρ :=
  logInSorted le Prod.snd es

/-! ## Whole runs: a sequence of loops under an arbitrary schedule -/

/-- One `range` over a map executed in state `s`: `entries s` are the map's entries (in some
canonical order), `body s l` runs the loop visiting them in the order `l`; `inv` is what the
site theorems establish: the result does not depend on the order. -/
structure Stage (σ ε : Type) where
  entries : σ → List ε
  body : σ → List ε → σ
  inv : ∀ s l, l.Perm (entries s) → body s l = body s (entries s)

/-- A schedule (the Go runtime's choice): for the `i`-th loop executed, in state `s`, the order in
which the entries are visited. -/
abbrev Schedule (σ ε : Type) := Nat → σ → List ε → List ε

def Schedule.Valid {σ ε : Type} (sch : Schedule σ ε) : Prop := ∀ i s l, (sch i s l).Perm l

/-- A run: `next s` is the loop the program executes next in state `s` (everything between two
loops is deterministic and folded into the bodies), `none` = finished; at most `fuel` loops. -/
def execRun {σ ε : Type} (next : σ → Option (Stage σ ε)) (sch : Schedule σ ε) :
    Nat → Nat → σ → σ
  | 0, _, s => s
  | fuel + 1, i, s =>
    match next s with
    | none => s
    | some st => execRun next sch fuel (i + 1) (st.body s (sch i s (st.entries s)))

/-! ## The table of expectations -/

/-- Which theorem of `NA.Props.C16` covers a site. -/
inductive Shape
  | anyHit | ownKey | collectSorted | agreeFirst | perObject | perObjectConst
  | ownKeySetInsert | setInsert | exitOrOwnKey
  deriving DecidableEq, Repr

structure Expect where
  file : String
  fn : String
  mapExpr : String
  ord : Nat
  hash : String
  cls : String      -- syntactic class computed by the translator
  shape : Shape
  thm : String      -- name of the site theorem in NA.Props.C16
  deriving DecidableEq, Repr

/-- Rows for the loops whose body the translator CANNOT describe (`opaque` in
`NA.Gen.MapRangesDescr.descrs`): these stay tied by the hash of their alpha-normalised loop text
(locals, parameters and labels positional; see translate/mapranges/norm.go). Every other loop needs
no row: its regenerated descriptor together with `runBody_perm` is the tie. -/
def expected : List Expect := [
]

/-- The loops repaired by `fix:` commits iterate over sorted keys: per (file, function) the least
number of sorted iterations (`range slices.Sorted(maps.Keys(X))`, `slices.SortedFunc(maps.Keys(X), …)`,
or "collect the keys, sort, range") that `NA.Gen.MapRanges.sortedRanges` must list. Names of
variables do not matter. -/
def repaired : List (String × String × Nat) := [
  ("cisco/diff.go", "State.findGroupOnDevice", 1),
  ("cisco/diff.go", "matchCryptoMap/mapPeerToSeq", 1),
  ("cisco/parse.go", "parser.checkReferences", 2),
  ("cisco/parse.go", "postprocessParsed", 3),
  ("cisco/parse.go", "postprocessParsed/setTransRef", 1),
  ("cisco/config.go", "Config.MergeSpoc", 2),
  ("linux/config.go", "config.MergeSpoc", 2),
  ("linux/diff.go", "diffIPTables", 3),
  ("nsx/diff.go", "findGroupOnDevice", 1)
]

/-- A row matches a site by file, function, normalised hash and class (the text of the map expression
and the ordinal are for the reader only). -/
def Expect.matchesSite (e : Expect) (file fn : String) (hash cls : String) : Bool :=
  e.file == file && e.fn == fn && e.hash == hash && e.cls == cls

end NA.C16
