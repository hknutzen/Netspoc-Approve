import NA.Model.NsxDiff
/-
Decidable side conditions on a pair (manager state, Netspoc target).  They are the hypotheses
of the end-to-end theorems of C04 (and of the NSX theorems of C07/C08/C10) and, negated, the
signature predicates of the known findings: the driver evaluates exactly these functions on
every case, so the input space splits into "covered by a theorem" and "listed".
-/
namespace NA.Nsx

/-- A managed group / service a rule refers to is defined by the target itself. -/
def refsDefined (T : Config) (r : Rule) : Bool :=
  let ep (p : String) : Bool :=
    match groupRef p with
    | some x => !managed x || T.groups.any (·.id == x)
    | none => true
  ep r.src && ep r.dst &&
    match serviceRef r.service with
    | some x => !managed x || T.services.any (·.id == x)
    | none => true

/-- Same id ⇒ same definition (IPv4 and IPv6 files repeat services). -/
def servicesConsistent (ss : List Service) : Bool :=
  ss.all fun s => (findService ss s.id).map (·.defn) == some s.defn

/-- What the Netspoc compiler and `checkRaw` are expected to guarantee about a merged target. -/
def targetWF (T : Config) : Bool :=
  idsNodup (T.policies.map (·.id)) &&
  T.groups.all (fun g => managed g.id && idsNodup g.addrs && !g.addrs.isEmpty) && idsNodup (T.groups.map (·.id)) &&
  T.services.all (managed ·.id) && servicesConsistent T.services &&
  T.policies.all fun p => idsNodup (p.rules.map (·.id)) && p.rules.all (refsDefined T)

/-- `LoadDevice` drops policies whose id lacks the prefix; `checkRaw` rejects such an id in a raw file
(/repo a3659de), so this holds of every target that passed it. -/
def policyIdsManaged (T : Config) : Bool := T.policies.all (managed ·.id)

/-- Objects outside Netspoc's scope that the target refers to exist on the manager. -/
def extRefsOK (S : Store) (T : Config) : Bool :=
  T.policies.all fun p => p.rules.all fun r =>
    let ep (p : String) : Bool :=
      match groupRef p with
      | some x => managed x || hasGroup S x
      | none => true
    ep r.src && ep r.dst &&
      match serviceRef r.service with
      | some x => managed x || hasService S x
      | none => true

/-- No rule of a policy outside Netspoc's scope refers to a managed group or service. -/
def unmanagedIndep (S : Store) : Bool :=
  S.policies.all fun p => managed p.id || p.rules.all fun r =>
    let ep (p : String) : Bool :=
      match groupRef p with
      | some x => !managed x
      | none => true
    ep r.src && ep r.dst &&
      match serviceRef r.service with
      | some x => !managed x
      | none => true

/-- Address lists on the manager are sets. -/
def addrsNodup (S : Store) : Bool := S.groups.all (idsNodup ·.addrs)

/-- After `genUniqGroupNames` / `genUniqRuleNames` the target's group ids are pairwise distinct and so are
the rule ids of every policy present on both sides (a flag the driver prints; no theorem assumes it). -/
def idsOK (A T : Config) : Bool :=
  (match genUniqGroups (A.groups.map (·.id)) T.groups with
   | some bG => idsNodup (bG.map (·.id))
   | none => false) &&
  A.policies.all fun pa =>
    match findPolicyLast T.policies pa.id with
    | none => true
    | some pb =>
      match genUniqRules (pa.rules.map (·.id)) pb.rules with
      | some rs => idsNodup (rs.map (·.id))
      | none => false

/-- Two rules of one target policy that `sortRules` cannot tell apart although they differ
(same attributes and service, entries either textually equal or groups with the same first
address). -/
def sortTies (T : Config) : Bool :=
  let gm (p : String) : Option Group :=
    match groupRef p with
    | some x => findGroupLast (sortGroups T.groups) x
    | none => none
  T.policies.any fun p =>
    let rec go : List Rule → Bool
      | [] => false
      | r :: rest => rest.any (fun r' => cmpRules gm r r' == .eq &&
          resolveRule T r != resolveRule T r') || go rest
    go p.rules

/-- No two groups with different ids carry the same address set. -/
def distinctContent (gs : List Group) : Bool :=
  gs.all fun g1 => gs.all fun g2 =>
    g1.id == g2.id || !(g1.addrs.all (g2.addrs.contains ·) && g2.addrs.all (g1.addrs.contains ·))

/-- Inline service entries of every rule are compact JSON (what `LoadDevice` hands to the planner
and what a manager stores; a Netspoc / raw file may be written with white space). -/
def rulesCompact (C : Config) : Bool :=
  C.policies.all fun p => p.rules.all fun r => compactJSON r.attrs.svcEntries == r.attrs.svcEntries

/-- Extra side conditions of the idempotence theorem (their failure = finding F-C04-se, resp. the
artificial target with two groups of equal content). -/
def idemOK (S : Store) (T : Config) : Bool :=
  rulesCompact (load S) && rulesCompact T && distinctContent T.groups

/-- Everything the convergence theorems assume about one pair.  (`idsOK` is not among them: with the repair
f4446e1 it follows from `targetWF`, see `genUniqRules_spec`, `genUniqGroups_spec`.) -/
def accepted (S : Store) (T : Config) : Bool :=
  storeWF S && addrsNodup S && targetWF T && policyIdsManaged T && extRefsOK S T &&
  unmanagedIndep S

end NA.Nsx
