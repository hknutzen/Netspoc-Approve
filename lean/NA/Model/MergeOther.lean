import NA.Model.MergeCisco
/-
Ports of the merge code of the three other backends (round 3 follow-up of C18), on the structures
their parsers produce (what the hooks `linux/panos/nsx.VerifC18Dump` show):

* `L`  linux: `parseIPTables` (table / chain / rule assembly with the `[APPEND]` mark) and `MergeSpoc`,
* `P`  panos: `checkRaw`, `MergeSpoc` with `processVsysPairs` (matching of vsys by name through a map,
       device names, objects, rules with `<APPEND/>`),
* `N`  nsx:   `checkRaw`, `MergeSpoc`.

`Gen2.old` is the code as found, `Gen2.new` the code after the `fix:` commits.  Core Lean only; executable.
-/
namespace NA.C18

inductive Gen2 | old | new
  deriving DecidableEq, Repr, Inhabited

/-! ## Linux -/
namespace L

structure Rule where
  text   : String
  target : String := ""      -- `pairs["-j"]`
  app    : Bool := false
  deriving DecidableEq, Repr, Inhabited

structure Chain where
  table  : String
  name   : String
  policy : String
  rules  : List Rule := []
  deriving DecidableEq, Repr, Inhabited

structure Conf where
  routes : List String := []
  tables : List String := []
  chains : List Chain := []
  deriving DecidableEq, Repr, Inhabited

inductive Err
  | redefChain (table chain : String)   -- "Must not redefine chain … from rawdata"
  | dupTable (table : String)           -- "Duplicate definition of table" (repaired code)
  | dupChain (chain : String)           -- "Duplicate definition of chain" (repaired code)
  | noPolicy (chain : String)           -- "Must define policy before adding rules of chain"
  | outside                             -- "Found rule / chain policy outside of table"
  | unknownCmd                          -- "Unknown command" / "Unsupported command"
  deriving DecidableEq, Repr, Inhabited

/-- A line of an iptables-save file as `parseIPTables` classifies it by its first character. -/
inductive Line
  | table (name : String)
  | chain (name policy : String)
  | chainShort                 -- ":NAME" without policy: ignored
  | rule (chain text target : String)
  | append
  | commit
  | other
  deriving DecidableEq, Repr, Inhabited

structure PSt where
  tables : List String := []
  chains : List Chain := []
  cur    : Option String := none
  app    : Bool := false
  deriving DecidableEq, Repr, Inhabited

def sameChain (t n : String) (c : Chain) : Bool := c.table == t && c.name == n

/-- One line.  Code as found: a repeated `*TABLE` replaces the table (`tb[name] = cMap`), a repeated
`:CHAIN` replaces the chain. -/
def parseStep (g : Gen2) (st : PSt) : Line → Except Err PSt
  | .table n =>
    if st.tables.contains n then
      match g with
      | .new => .error (.dupTable n)
      | .old => .ok { st with chains := st.chains.filter (fun c => c.table != n), cur := some n, app := false }
    else .ok { st with tables := st.tables ++ [n], cur := some n, app := false }
  | .chain n p =>
    match st.cur with
    | none => .error .outside
    | some t =>
      if st.chains.any (sameChain t n) then
        match g with
        | .new => .error (.dupChain n)
        | .old => .ok { st with chains := st.chains.filter (fun c => !sameChain t n c) ++ [{ table := t, name := n, policy := p }] }
      else .ok { st with chains := st.chains ++ [{ table := t, name := n, policy := p }] }
  | .chainShort =>
    match st.cur with
    | none => .error .outside
    | some _ => .ok st
  | .rule c text target =>
    match st.cur with
    | none => .error .outside
    | some t =>
      if st.chains.any (sameChain t c) then
        .ok { st with chains := st.chains.map (fun ch =>
          if sameChain t c ch then { ch with rules := ch.rules ++ [{ text, target, app := st.app }] } else ch) }
      else .error (.noPolicy c)
  | .append => .ok { st with app := true }
  | .commit => .ok st
  | .other => .error .unknownCmd

def foldX {σ β ε : Type} (f : σ → β → Except ε σ) : σ → List β → Except ε σ
  | s, [] => .ok s
  | s, x :: xs => match f s x with
    | .ok s' => foldX f s' xs
    | .error e => .error e

/-- `parseIPTables`. -/
def parseLines (g : Gen2) (lines : List Line) : Except Err PSt := foldX (parseStep g) {} lines

def ruleKind (r : Rule) : Kind := if r.target == "DROP" then .deny else .other

/-- Rules of a builtin chain: `Merge.mergeLinux` on position tags. -/
def mergeRules (a b : List Rule) : List Rule := G.mergeVia mergeLinux ruleKind (·.app) a b

def chainStep (a0tables : List String) (acc : Conf) (cb : Chain) : Except Err Conf :=
  if !a0tables.contains cb.table then
    -- "Adding all chains of table": the table is new, its chains are taken as they are
    .ok { acc with tables := if acc.tables.contains cb.table then acc.tables else acc.tables ++ [cb.table],
                   chains := acc.chains ++ [cb] }
  else match acc.chains.find? (sameChain cb.table cb.name) with
    | none => .ok { acc with chains := acc.chains ++ [cb] }     -- "Adding chain"
    | some ca =>
      if ca.policy == "-" || ca.policy == "" then .error (.redefChain cb.table cb.name)
      else .ok { acc with chains := acc.chains.map (fun c =>
        if sameChain cb.table cb.name c then { c with rules := mergeRules c.rules cb.rules } else c) }

def chainLe (x y : Chain) : Bool := x.table < y.table || (x.table == y.table && x.name ≤ y.name)

def insertChain (c : Chain) : List Chain → List Chain
  | [] => [c]
  | x :: xs => if chainLe c x then c :: x :: xs else x :: insertChain c xs

/-- Tables sorted, chains of a table sorted (`slices.Sorted(maps.Keys(…))`). -/
def sortChains (l : List Chain) : List Chain := l.foldr insertChain []

/-- `linux.MergeSpoc`: the chains of `b` are visited table by table and chain by chain in sorted order. -/
def mergeConf (a b : Conf) : Except Err Conf :=
  let newTables := b.tables.filter (fun t => !a.tables.contains t)
  foldX (chainStep a.tables) { a with routes := a.routes ++ b.routes, tables := a.tables ++ newTables }
    (sortChains b.chains)

def toConf (routes : List String) (st : PSt) : Conf := { routes, tables := st.tables, chains := st.chains }

end L

/-! ## PAN-OS -/
namespace P

structure Rule where
  name : String
  app  : Bool := false
  deriving DecidableEq, Repr, Inhabited

structure Obj where
  name : String
  val  : String := ""
  deriving DecidableEq, Repr, Inhabited

structure Vsys where
  name          : String
  rules         : List Rule := []
  addresses     : List Obj := []
  addressGroups : List Obj := []
  services      : List Obj := []
  serviceGroups : List Obj := []
  deriving DecidableEq, Repr, Inhabited

structure Conf where
  hasEntry : Bool := false     -- `Devices != nil && len(Devices.Entries) > 0`
  devName  : String := ""
  vsys     : List Vsys := []
  deriving DecidableEq, Repr, Inhabited

inductive Err
  | reservedName (rule : String)             -- "Must not use rule name starting with 'r<NUM>'"
  | devName (n1 n2 : String)                 -- "Different names in <device> of XML"
  | clash (typ name vsys : String)           -- "Name clash for … in vsys …" (repaired code)
  deriving DecidableEq, Repr, Inhabited

def isDigit (c : Char) : Bool := '0' ≤ c && c ≤ '9'

/-- `^r\d`. -/
def reserved (name : String) : Bool :=
  match name.toList with
  | 'r' :: d :: _ => isDigit d
  | _ => false

/-- `checkRaw` (all device entries are checked; the model sees the first). -/
def checkRaw (c : Conf) : Option Err :=
  (c.vsys.flatMap (·.rules)).findSome? (fun r => if reserved r.name then some (.reservedName r.name) else none)

/-- `m2[name]`: the last vsys with this name. -/
def lookupLast (l : List Vsys) (n : String) : Option Vsys := (l.filter (fun v => v.name == n)).getLast?

def clashIn (typ vn : String) (l1 l2 : List Obj) : Option Err :=
  l2.findSome? (fun o2 => if l1.any (fun o1 => o1.name == o2.name && o1.val != o2.val) then some (.clash typ o2.name vn) else none)

/-- `checkNameClash` (repaired code). -/
def checkNameClash (v1 v2 : Vsys) : Option Err :=
  (clashIn "address" v2.name v1.addresses v2.addresses).orElse fun _ =>
  (clashIn "address-group" v2.name v1.addressGroups v2.addressGroups).orElse fun _ =>
  (clashIn "service" v2.name v1.services v2.services).orElse fun _ =>
  clashIn "service-group" v2.name v1.serviceGroups v2.serviceGroups

def clearApp (r : Rule) : Rule := { r with app := false }

/-- The callback of `MergeSpoc` for a pair of vsys (`v2 != nil`). -/
def mergeVsys (g : Gen2) (v1 v2 : Vsys) : Except Err Vsys :=
  match (if g == .new then checkNameClash v1 v2 else none) with
  | some e => .error e
  | none => .ok { v1 with
      addresses := v1.addresses ++ v2.addresses
      addressGroups := v1.addressGroups ++ v2.addressGroups
      services := v1.services ++ v2.services
      serviceGroups := v1.serviceGroups ++ v2.serviceGroups
      rules := (v2.rules.filter (fun r => !r.app)) ++ v1.rules ++ (v2.rules.filter (·.app)).map clearApp }

def mapE {α β ε : Type} (f : α → Except ε β) : List α → Except ε (List β)
  | [] => .ok []
  | x :: xs => match f x with
    | .error e => .error e
    | .ok y => match mapE f xs with
      | .error e => .error e
      | .ok ys => .ok (y :: ys)

/-- `MergeSpoc` with `processVsysPairs`. -/
def mergeSpoc (g : Gen2) (p1 p2 : Conf) : Except Err Conf :=
  let n1 := if p1.hasEntry then p1.devName else ""
  let n2 := if p2.hasEntry then p2.devName else ""
  let vs1 := if p1.hasEntry then p1.vsys else []
  let vs2 := if p2.hasEntry then p2.vsys else []
  if n1 != "" && n2 != "" && n1 != n2 then
    match g with
    | .new => .error (.devName n1 n2)
    | .old => .ok p1            -- the error of processVsysPairs was ignored: nothing is merged
  else
    -- vsys of p1, each with the LAST vsys of p2 that has its name
    match mapE (fun v1 => match lookupLast vs2 v1.name with
        | some v2 => mergeVsys g v1 v2
        | none => .ok v1) vs1 with
    | .error e => .error e
    | .ok merged =>
      -- vsys of p2 whose name p1 does not have: merged into an empty vsys
      match mapE (fun v2 => mergeVsys g { name := v2.name } v2) (vs2.filter (fun v2 => !vs1.any (fun v1 => v1.name == v2.name))) with
      | .error e => .error e
      | .ok added =>
        if p1.hasEntry then .ok { p1 with vsys := merged ++ added }
        else if added.isEmpty then .ok p1
        else .ok { hasEntry := true, devName := "", vsys := added }

end P

/-! ## NSX -/
namespace N

structure Policy where
  id    : String
  rules : List String := []
  deriving DecidableEq, Repr, Inhabited

structure Conf where
  policies : List Policy := []
  groups   : List String := []
  services : List String := []
  deriving DecidableEq, Repr, Inhabited

inductive Err
  | reservedRule (id : String)        -- "Must not use rule name starting with 'r<NUM>'"
  | groupPrefix (id : String)         -- "Must only define group where name has prefix 'Netspoc'"
  | reservedGroup (id : String)       -- "Must not use group name starting with 'Netspoc-g<NUM>'"
  | servicePrefix (id : String)       -- "Must only define service where name has prefix 'Netspoc-raw'"
  deriving DecidableEq, Repr, Inhabited

def hasPrefix (s p : String) : Bool := G.isPrefixL p.toList s.toList

/-- `^Netspoc-g\d`. -/
def reservedGroup (id : String) : Bool :=
  hasPrefix id "Netspoc-g" && ((id.toList.drop 9).head?.map P.isDigit).getD false

/-- `checkRaw`. -/
def checkRaw (c : Conf) : Option Err :=
  ((c.policies.flatMap (·.rules)).findSome? (fun r => if P.reserved r then some (.reservedRule r) else none)).orElse fun _ =>
  (c.groups.findSome? (fun g =>
    if !hasPrefix g "Netspoc" then some (.groupPrefix g)
    else if reservedGroup g then some (.reservedGroup g) else none)).orElse fun _ =>
  c.services.findSome? (fun s => if !hasPrefix s "Netspoc-raw" then some (.servicePrefix s) else none)

/-- Append the rules to the first policy with this id, or add the policy. -/
def addPolicy : List Policy → Policy → List Policy
  | [], p2 => [p2]
  | p1 :: ps, p2 => if p2.id == p1.id then { p1 with rules := p1.rules ++ p2.rules } :: ps else p1 :: addPolicy ps p2

/-- `nsx.MergeSpoc`. -/
def mergeSpoc (n1 n2 : Conf) : Conf :=
  { policies := n2.policies.foldl addPolicy n1.policies
    groups := n1.groups ++ n2.groups
    services := n1.services ++ n2.services }

end N

end NA.C18
