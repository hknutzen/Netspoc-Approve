/-!
# Model of the masking functions of Netspoc-Approve (property C17)

Strings are `List Char`; every `Char` stands for one *byte* of the Go string (the driver maps
byte `b` to `Char.ofNat b`), which is exact for the three regular expressions below because Go's
`.` matches every byte sequence element except `\n` and all delimiters are ASCII.

Mirrored code (`/repo/go/pkg`):

* `panos/device.go getAPIKey`   : `passRE = (password=).*?(&|$)` → `${1}xxx$2`  (`maskPass`)
                                   `keyRE  = (?s)<[ns:]key[ attrs]>(.*</[ns:]key>|.*$)` → `<key>xxx</key>` (`maskKey`)
* `panos/device.go`             : request URLs are logged with the prefix `…/api/?key=xxx&` (`setAPIKey`; the
                                   regexp `[?]key=.*?&` was given up with fix ef52363)
* `errlog/msg.go DoLog`         : `url.QueryUnescape` iff the string starts with `http` or `action=`,
                                   the error of `QueryUnescape` is dropped (result `""`)  (`doLog`)
* `net/url`                     : `QueryEscape`, `QueryUnescape`, `Values.Encode` (sorted keys)

The regular expressions are written as explicit matchers that follow Go's leftmost-first
semantics literally: try to match at the current position; on failure emit one byte and retry at
the next position; after a match continue behind it (`replaceAllF`, which carries fuel — an upper
bound of the remaining length — so that it is structurally recursive and evaluates in the kernel).
-/
namespace NA.Mask

abbrev Str := List Char

/-! ## small string helpers -/

/-- `stripPrefix? p l = some r` iff `l = p ++ r`. -/
def stripPrefix? : Str → Str → Option Str
  | [], l => some l
  | _ :: _, [] => none
  | p :: ps, c :: cs => if p = c then stripPrefix? ps cs else none

def xxx : Str := ['x', 'x', 'x']
def litPass : Str := ['p', 'a', 's', 's', 'w', 'o', 'r', 'd', '=']
def litOpen : Str := ['<', 'k', 'e', 'y', '>']
def litClose : Str := ['<', '/', 'k', 'e', 'y', '>']
def litHttp : Str := ['h', 't', 't', 'p']
def litAction : Str := ['a', 'c', 't', 'i', 'o', 'n', '=']

/-! ## `Regexp.ReplaceAllString` for patterns that never match the empty string

`step l` tries to match the pattern at the beginning of `l`: `some (out, rest)` — it matched, the
replacement text is `out` and `rest` is what follows the match; `none` — no match starting here.
Leftmost-first semantics: on `none` one byte is copied and the next position is tried. -/
def replaceAllF (step : Str → Option (Str × Str)) : Nat → Str → Str
  | 0, l => l
  | _ + 1, [] => []
  | n + 1, c :: cs =>
    match step (c :: cs) with
    | some (out, rest) => out ++ replaceAllF step n rest
    | none => c :: replaceAllF step n cs

def replaceAll (step : Str → Option (Str × Str)) (l : Str) : Str := replaceAllF step l.length l

/-! ## lazy matcher  `LIT .*? (&|$)`  and  `LIT .*? &` -/

/-- The lazy part `.*?` followed by `&` (or, if `allowEnd`, by the end of the text):
`some (true, rest)` — stopped at the first `&`, `rest` is what follows it;
`some (false, [])` — reached the end of the text (only with `allowEnd`);
`none` — a newline (which `.` does not match) or the end came first: no match at this start. -/
def scanLazy (allowEnd : Bool) : Str → Option (Bool × Str)
  | [] => if allowEnd then some (false, []) else none
  | c :: r =>
    if c = '&' then some (true, r)
    else if c = '\n' then none
    else scanLazy allowEnd r

/-- One match of `(LIT).*?(&|$)` (`allowEnd`) resp. `LIT.*?&`, replaced by `LIT xxx <terminator>`. -/
def lazyStep (lit : Str) (allowEnd : Bool) (l : Str) : Option (Str × Str) :=
  match stripPrefix? lit l with
  | some body =>
    match scanLazy allowEnd body with
    | some (amp, rest) => some (lit ++ xxx ++ (if amp then ['&'] else []), rest)
    | none => none
  | none => none

def maskLazy (lit : Str) (allowEnd : Bool) (l : Str) : Str := replaceAll (lazyStep lit allowEnd) l

/-- `passRE.ReplaceAllString(s, "${1}xxx$2")`. -/
def maskPass (l : Str) : Str := maskLazy litPass true l
/-! ## greedy matcher for the key element

`keyRE = (?s)<(?:[^\s<>/:]+:)?key(?:\s[^>]*)?>(?:.*</(?:[^\s<>/:]+:)?key\s*>|.*$)` (fix for F-C17e):
an opening tag of element `key` in every spelling `encoding/xml` accepts — namespace prefix,
white space, attributes —, then everything up to the LAST closing tag of `key`, or, if there is none
(truncated answer), up to the end of the text.  No byte of a tag before its `>` is a `>`, so a tag is
the text up to the first `>` (`splitAtGt`) if that text has the right shape (`validOpen/validClose`). -/

def notNl (c : Char) : Bool := c != '\n'

def isWsRe (c : Char) : Bool := c == ' ' || c == '\t' || c == '\n' || c == '\r' || c == '\x0c'
def nameCh (c : Char) : Bool := !(isWsRe c || c == '<' || c == '>' || c == '/' || c == ':')

def splitAtGt : Str → Option (Str × Str)
  | [] => none
  | c :: r =>
    if c = '>' then some ([], r)
    else match splitAtGt r with
      | some (t, x) => some (c :: t, x)
      | none => none

def afterNs (r : Str) : Option Str :=
  match r.dropWhile nameCh with
  | ':' :: r'' => if (r.takeWhile nameCh).isEmpty then none else some r''
  | _ => none

def keyOpenTail : Str → Bool
  | 'k' :: 'e' :: 'y' :: r => match r with | [] => true | c :: _ => isWsRe c
  | _ => false

def keyCloseTail : Str → Bool
  | 'k' :: 'e' :: 'y' :: r => r.all isWsRe
  | _ => false

def validOpen : Str → Bool
  | '<' :: r => (match afterNs r with | some x => keyOpenTail x | none => false) || keyOpenTail r
  | _ => false

def validClose : Str → Bool
  | '<' :: '/' :: r => (match afterNs r with | some x => keyCloseTail x | none => false) || keyCloseTail r
  | _ => false

def tag? (valid : Str → Bool) (l : Str) : Option Str :=
  match splitAtGt l with
  | some (t, r) => if valid t then some r else none
  | none => none

/-- What follows the LAST closing tag of `key` (`none`: no occurrence). -/
def lastClose : Str → Option Str
  | [] => none
  | c :: cs =>
    match lastClose cs with
    | some r => some r
    | none => tag? validClose (c :: cs)

/-- One match of `keyRE`: `.` matches every byte (flag `s`), the greedy `.*` runs to the end of the text and
backtracks to the last closing tag; without one the second alternative `.*$` takes the rest. -/
def keyStep (l : Str) : Option (Str × Str) :=
  match tag? validOpen l with
  | some body => some (litOpen ++ xxx ++ litClose, (lastClose body).getD [])
  | none => none

/-- `keyRE.ReplaceAllString(s, "<key>xxx</key>")`. -/
def maskKey (l : Str) : Str := replaceAll keyStep l

/-! ## the two matchers as they were before fixes ef52363 and f6decd3 (historic, for the counterexamples) -/

/-- `(?s)<key>.*</key>` as it was before the fix for F-C17e: only the literal tags. -/
def lastCloseLit : Str → Option Str
  | [] => none
  | c :: cs =>
    match lastCloseLit cs with
    | some r => some r
    | none => stripPrefix? litClose (c :: cs)

def keyStepLit (l : Str) : Option (Str × Str) :=
  match stripPrefix? litOpen l with
  | some body =>
    match lastCloseLit body with
    | some after => some (litOpen ++ xxx ++ litClose, after)
    | none => none
  | none => none

def maskKeyLit (l : Str) : Str := replaceAll keyStepLit l

/-- `apiRE = [?]key=.*?&` → `?key=xxx&`, applied to the whole request URL (given up with ef52363). -/
def maskApiOld (l : Str) : Str := maskLazy ['?', 'k', 'e', 'y', '='] false l

/-- `<key>.*</key>` without flag `s`: `.` stops at a line break (before f6decd3). -/
def keyStepOld (l : Str) : Option (Str × Str) :=
  match stripPrefix? litOpen l with
  | some body =>
    match lastCloseLit (body.takeWhile notNl) with
    | some after => some (litOpen ++ xxx ++ litClose, after ++ body.dropWhile notNl)
    | none => none
  | none => none

def maskKeyOld (l : Str) : Str := replaceAll keyStepOld l

/-! ## `net/url` escaping -/

def hexDigit (n : Nat) : Char :=
  match n % 16 with
  | 0 => '0' | 1 => '1' | 2 => '2' | 3 => '3' | 4 => '4' | 5 => '5' | 6 => '6' | 7 => '7'
  | 8 => '8' | 9 => '9' | 10 => 'A' | 11 => 'B' | 12 => 'C' | 13 => 'D' | 14 => 'E' | _ => 'F'

/-- Bytes that `url.QueryEscape` leaves alone. -/
def unreserved (c : Char) : Bool :=
  c.isAlphanum || c == '-' || c == '_' || c == '.' || c == '~'

def escByte (c : Char) : Str :=
  if unreserved c then [c]
  else if c = ' ' then ['+']
  else ['%', hexDigit (c.toNat / 16), hexDigit c.toNat]

/-- `url.QueryEscape`. -/
def queryEscape : Str → Str
  | [] => []
  | c :: cs => escByte c ++ queryEscape cs

def hexVal? (c : Char) : Option Nat :=
  if '0' ≤ c ∧ c ≤ '9' then some (c.toNat - 48)
  else if 'a' ≤ c ∧ c ≤ 'f' then some (c.toNat - 87)
  else if 'A' ≤ c ∧ c ≤ 'F' then some (c.toNat - 55)
  else none

/-- `url.QueryUnescape`; `none` = `EscapeError`. -/
def queryUnescape : Str → Option Str
  | [] => some []
  | '%' :: h :: l :: rest =>
    match hexVal? h, hexVal? l, queryUnescape rest with
    | some a, some b, some r => some (Char.ofNat (16 * a + b) :: r)
    | _, _, _ => none
  | '%' :: _ => none
  | '+' :: rest => (queryUnescape rest).map (' ' :: ·)
  | c :: rest => (queryUnescape rest).map (c :: ·)

/-- The line `errlog.DoLog` writes (without the trailing newline). -/
def doLog (s : Str) : Str :=
  if (stripPrefix? litHttp s).isSome || (stripPrefix? litAction s).isSome then
    (queryUnescape s).getD []
  else s

/-! ## `url.Values.Encode` for single-valued keys: sorted by key, `k=v` joined by `&` -/

def strLt : Str → Str → Bool
  | [], [] => false
  | [], _ :: _ => true
  | _ :: _, [] => false
  | a :: as, b :: bs => if a.toNat < b.toNat then true else if b.toNat < a.toNat then false else strLt as bs

def insertKV (kv : Str × Str) : List (Str × Str) → List (Str × Str)
  | [] => [kv]
  | x :: xs => if strLt kv.1 x.1 then kv :: x :: xs else x :: insertKV kv xs

def sortKV : List (Str × Str) → List (Str × Str)
  | [] => []
  | x :: xs => insertKV x (sortKV xs)

def joinKV : List (Str × Str) → Str
  | [] => []
  | [kv] => queryEscape kv.1 ++ '=' :: queryEscape kv.2
  | kv :: rest => queryEscape kv.1 ++ '=' :: queryEscape kv.2 ++ '&' :: joinKV rest

def valuesEncode (kvs : List (Str × Str)) : Str := joinKV (sortKV kvs)

/-! ## Go's `%q` / `url.Error` as far as it is needed

`(*url.Error).Error()` is `Op + " " + strconv.Quote(URL) + ": " + Err`.  For URLs made of
printable ASCII `strconv.Quote` only escapes `"` and `\`. -/
def goQuote : Str → Str
  | [] => []
  | c :: cs =>
    if c = '"' then '\\' :: '"' :: goQuote cs
    else if c = '\\' then '\\' :: '\\' :: goQuote cs
    else c :: goQuote cs

def urlError (op url msg : Str) : Str :=
  op ++ ' ' :: '"' :: goQuote url ++ '"' :: ':' :: ' ' :: msg

end NA.Mask
