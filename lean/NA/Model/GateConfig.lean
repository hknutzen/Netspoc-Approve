import NA.Model.GateProgs
/-
C06, the configuration-file side of the gate: `program.LoadConfig` (go/pkg/program/config.go) as
far as it decides what `checkbanner` is.

  for each line:  words := strings.Fields(line)
                  empty or words[0] starts with '#'   → skipped
                  len(words) < 3 || words[1] != "="   → warning, ignored
                  key already seen                    → warning, ignored
                  insert(key, words[2:]...)
  insert:         server_ip_list                      → any number of values
                  len(values) != 1                    → error "Expected exactly one value"
                  checkbanner                         → regexp.Compile(val), error if invalid
                  timeout, login_timeout, keep_history, compress_at → non-negative integer or error
                  basedir, netspoc_git, admin_emails, systemuser → taken as is; other keys: warning
  afterwards:     defaults for unset integer keys; basedir unset → error

The dispatch (which keys may have several values, which key is compiled as a regexp) is DATA
(`multiKeys`, `singleKeys`) from which both the model and the expected skeleton items of
`LoadConfig` are computed (`NA.Props.C06Tie`).  Whether a regexp source compiles is a parameter
(`valid`); the driver uses `Rx.parse`.
-/
namespace NA.Gate.Config
open NA.Gate

inductive KeyKind | str | regexp | int
  deriving DecidableEq, Repr

/-- keys that may have several values (first `switch key` of `insert`) -/
def multiKeys : List String := ["server_ip_list"]

/-- keys with exactly one value (second `switch key` of `insert`), sorted by key as the normal form of
`translate/gateskel` sorts a dispatch on constants -/
def singleKeys : List (String × KeyKind) := [
  ("admin_emails", .str), ("basedir", .str), ("checkbanner", .regexp), ("compress_at", .int),
  ("keep_history", .int), ("login_timeout", .int), ("netspoc_git", .str), ("systemuser", .str),
  ("timeout", .int)]

def isSpaceF (c : Char) : Bool :=
  c == ' ' || c == '\t' || c == '\n' || c == '\r' || c == '\x0b' || c == '\x0c'

/-- `strings.Fields` on a list of characters (ASCII white space) -/
def fieldsL : List Char → List Char → List (List Char)
  | cur, [] => if cur.isEmpty then [] else [cur.reverse]
  | cur, c :: cs =>
    if isSpaceF c then (if cur.isEmpty then fieldsL [] cs else cur.reverse :: fieldsL [] cs)
    else fieldsL (c :: cur) cs

def fieldsS (line : String) : List String := (fieldsL [] line.toList).map String.ofList

def isNat (s : String) : Bool := !s.isEmpty && s.toList.all Char.isDigit

structure Acc where
  seen : List String := []
  banner : Option String := none
  baseDir : String := ""
  deriving Repr

/-- `insert(key, values...)` -/
def insert (valid : String → Bool) (acc : Acc) (key : String) (values : List String) : Except String Acc :=
  if multiKeys.contains key then .ok acc
  else match values with
    | [val] =>
      match singleKeys.lookup key with
      | some .regexp => if valid val then .ok { acc with banner := some val } else .error "regexp"
      | some .int => if isNat val then .ok acc else .error "int"
      | some .str => if key == "basedir" then .ok { acc with baseDir := val } else .ok acc
      | none => .ok acc
    | _ => .error "one-value"

/-- one line of the file -/
def step (valid : String → Bool) (acc : Acc) (line : String) : Except String Acc :=
  match fieldsS line with
  | [] => .ok acc
  | w0 :: rest =>
    if (w0.toList.head? == some '#') then .ok acc
    else match rest with
      | eq :: v :: vs =>
        if eq != "=" then .ok acc
        else if acc.seen.contains w0 then .ok acc
        else insert valid { acc with seen := w0 :: acc.seen } w0 (v :: vs)
      | _ => .ok acc

def go (valid : String → Bool) : Acc → List String → Except String Acc
  | acc, [] => .ok acc
  | acc, l :: ls =>
    match step valid acc l with
    | .ok acc' => go valid acc' ls
    | .error e => .error e

/-- Outcome of LoadConfig as far as the gate is concerned: an error kind, or the source of the
`checkbanner` regexp (`none`: no banner check). -/
def loadLines (valid : String → Bool) (lines : List String) : Except String (Option String) :=
  match go valid {} lines with
  | .error e => .error e
  | .ok acc => if acc.baseDir == "" then .error "basedir" else .ok acc.banner

def loadConfig (valid : String → Bool) (text : String) : Except String (Option String) :=
  loadLines valid (text.splitOn "\n")

/-- The state of a run that ended in LoadConfig: `Error: …`, exit status 1, no device contacted. -/
def configErrorSt (e : String) : St := { status := .failed ("config: " ++ e) }

/-- `drc` / `do-approve` with configuration file `text`: LoadConfig first; the gate then works
with the regexp compiled from the configured source. -/
def runWithConfig (b : Backend) (valid : String → Bool) (compile : String → Option Rx) (cfg : Cfg)
    (dev : Dev) (plan : List String) (text : String) : St :=
  match loadConfig valid text with
  | .error e => configErrorSt e
  | .ok none => runMain b ⟨{ cfg with banner := none, bannerSrc := "" }, dev, plan⟩
  | .ok (some src) => runMain b ⟨{ cfg with banner := compile src, bannerSrc := src }, dev, plan⟩

/-! ## expected skeleton items of `insert` (computed from the tables) -/

def kindItems : KeyKind → List Item
  | .str => []
  | .regexp => [(2, "assign", "v7.CheckBanner, err = regexp.Compile(c1p2[0])")]
  | .int => [(2, "call", "f2")]

/-- the branches of a dispatch on constants, in the normal form of the translator: sorted by the
test (`singleKeys` is kept in that order), branches that show nothing left out (the `default`
shows nothing), `if` for the first and `elif` for the others -/
def dispatchItems : Bool → List (String × KeyKind) → List Item
  | _, [] => []
  | first, k :: ks =>
    match kindItems k.2 with
    | [] => dispatchItems first ks
    | its => (1, if first then "if" else "elif", "c1p1 == " ++ q k.1) :: its ++ dispatchItems false ks

/-- `insert` = f1 (parameters c1p1 = key, c1p2 = values), `getInt` = f2, `getIPList` = f3 -/
def insertDispatchItems : List Item :=
  multiKeys.flatMap (fun k => [(1, "guard", "c1p1 == " ++ q k), (2, "call", "f3"), (2, "ret", "err")]) ++
  [(1, "guard", "len(c1p2) != 1"), (2, "ret", "Errorf(…)")] ++
  dispatchItems true singleKeys ++
  [(1, "ret", "err")]

/-- `words := strings.Fields(line)` is a single-assignment local: the normal form shows its
definition wherever it is used. -/
def words : String := "strings.Fields(v9)"

def loadConfigSkel : List Item :=
  [ (0, "for", "range v1"),
    (1, "assign", "v2, err ⇐ v3"),
    (1, "guard", "err == nil"), (2, "break", ""),
    (1, "guard", "!errors.Is(err, fs.ErrNotExist)"), (2, "ret", "nil, Errorf(…)"),
    (0, "guard", "v2 == nil"), (1, "ret", "nil, Errorf(…)"),
    (0, "closure", "f1"),
    (1, "closure", "f2"),
    (2, "guard", "err != nil"), (3, "ret", "v4, Errorf(…)"),
    (2, "guard", "v4 < 0"), (3, "ret", "0, Errorf(…)"),
    (2, "ret", "v4, nil"),
    (1, "closure", "f3"),
    (2, "for", "range c1p2"), (3, "guard", "err != nil"), (4, "ret", "nil, Errorf(…)"),
    (3, "assign", "v5 ⇐ v5, v6"),
    (2, "ret", "v5, nil") ] ++
  insertDispatchItems ++
  [ (0, "for", "range v8"),
    (1, "if", "!(len(" ++ words ++ ") == 0 || " ++ words ++ "[0][0] == '#')"),
    (2, "if", "!(len(" ++ words ++ ") < 3 || " ++ words ++ "[1] != \"=\")"),
    (3, "guard", "v10[" ++ words ++ "[0]]"), (4, "continue", ""),
    (3, "call", "f1"),
    (3, "guard", "err != nil"), (4, "ret", "nil, err"),
    (0, "for", "range defaultVals"),
    (1, "if", "!v10[v11]"),
    (2, "call", "f1"), (2, "guard", "err != nil"), (3, "ret", "nil, err"),
    (0, "guard", "v7.BaseDir == \"\""), (1, "ret", "nil, Errorf(…)"),
    (0, "ret", "&v7, nil") ]

end NA.Gate.Config
