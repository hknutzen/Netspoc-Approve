import NA.Model.IosSessionProg
/-!
# The login / enable dialogue (`go/pkg/cisco/device.go` `LoginEnable`) and `GetCmdOutput`

Same session monad, same timing (fast device), same `\r`-free stream as `NA/Model/IosSession.lean`.
The regular expressions of the dialogue are re-implemented explicitly:

* `(?i)password:|\(yes/no.*\)\?` (`WaitLogin`) — `(?i)` covers BOTH alternatives; `.*` is greedy and
  stays on its line: the match ends behind the LAST `)?` of the line;
* `(?i)password:|\n\r?[^#> ]+[>#] ?$` (`waitPrompt` closure) — `$` is the end of the pending bytes,
  `[^#> ]+` may span line ends; leftmost match: the alternatives start with different characters, so
  at most one of them matches at a position;
* RE2 case folding for the letters of the two literals: ASCII upper case, and U+017F (long s) for `s`
  (`strings.ToLower`, used for the later suffix test, does NOT map U+017F: modelled separately).

`loginEnable` returns what the Go code hands to `SetStdPrompt` (the two quoted parts of the prompt
`p[:i]`, `p[i:]`) and the collected `bannerLines`; the rest of the model uses the prompt of the
scripted device (`promptHead`); `login_direct` and `login_enable_password` (`NA/Props/C15Multi.lean`) show that this is
what the dialogue computes there.
-/
namespace NA.Ios

def foldCI (c : Char) : Char :=
  if 'A'.toNat ≤ c.toNat ∧ c.toNat ≤ 'Z'.toNat then Char.ofNat (c.toNat + 32)
  else if c.toNat == 0x17F then 's' else c

/-- case-insensitive prefix; the pattern is in lower case -/
def ciPrefix : Str → Str → Bool
  | [], _ => true
  | _ :: _, [] => false
  | p :: ps, c :: cs => foldCI c == p && ciPrefix ps cs

/-- end (counted from `i`) of the LAST `)?` before the end of the line -/
def lastParenQ : Str → Nat → Option Nat → Option Nat
  | [], _, acc => acc
  | [_], _, acc => acc
  | a :: b :: r, i, acc =>
    if a == '\n' then acc else lastParenQ (b :: r) (i + 1) (if a == ')' && b == '?' then some (i + 2) else acc)

def pwAt (s : Str) : Option Nat := if ciPrefix (lit "password:") s then some 9 else none

def yesNoAt (s : Str) : Option Nat :=
  if ciPrefix (lit "(yes/no") s then lastParenQ (s.drop 7) 7 none else none

def loginAt (s : Str) : Option Nat :=
  match pwAt s with
  | some e => some e
  | none => yesNoAt s

/-- `[^#> ]+[>#] ?$` on the rest of the pending bytes -/
def promptRest (r : Str) : Bool :=
  let r' := match r.reverse with
    | ' ' :: t => t
    | t => t
  match r' with
  | t :: body => (t == '>' || t == '#') && !body.isEmpty && body.all (fun c => c != '#' && c != '>' && c != ' ')
  | [] => false

def pwOrPromptAt (s : Str) : Option Nat :=
  match pwAt s with
  | some e => some e
  | none =>
    match s with
    | '\n' :: r => if promptRest r then some (1 + r.length) else none
    | _ => none

/-- leftmost match of a pattern given by its anchored matcher: end of the match -/
def scanFind (at_ : Str → Option Nat) : Str → Option Nat
  | [] => none
  | c :: s =>
    match at_ (c :: s) with
    | some e => some e
    | none => (scanFind at_ s).map (· + 1)

/-- `strings.TrimSuffix(out, " ")`: ONE blank -/
def trimBlank (s : Str) : Str :=
  match s.reverse with
  | ' ' :: t => t.reverse
  | _ => s

def hasSuffixC (s : Str) (c : Char) : Bool := s.getLast? == some c

def lowerA (c : Char) : Char :=
  if 'A'.toNat ≤ c.toNat ∧ c.toNat ≤ 'Z'.toNat then Char.ofNat (c.toNat + 32) else c

/-- `strings.HasSuffix(strings.ToLower(out), "password:")` -/
def lowerSuffixPw (s : Str) : Bool := (lit "password:").reverse.isPrefixOf (s.map lowerA).reverse

/-- `strings.LastIndex(s, c)` -/
def lastIdx (c : Char) : Str → Nat → Option Nat → Option Nat
  | [], _, acc => acc
  | x :: r, i, acc => lastIdx c r (i + 1) (if x == c then some i else acc)

structure LoginRes where
  /-- `p[:i]`: line feed and host name -/
  head : Str
  /-- `p[i:]`: `#` and what follows -/
  tail : Str
  banner : Str
  deriving DecidableEq, Repr, Inhabited

def loginPat : String := "(?i)password:|\\n\\r?[^#> ]+[>#] ?$"

/-- the device side of a login dialogue (harness/c15/sim.go, the preamble with its `<!>` markers):
the n-th line received is echoed with its line end and followed by the n-th part; after the parts,
the standard answer echo + prompt -/
def echoDev (parts : List Str) : Device Nat where
  step n s := (n + 1, s ++ ['\n'] ++ (if n < parts.length then parts.getD n [] else prompt))

section login
variable {σ : Type} (D : Device σ)

def waitLogin : M σ Str := expectEnd "(?i)password:|\\(yes/no.*\\)\\?" (scanFind loginAt)

def issueYes : M σ Str := bindM (send D (lit "yes")) fun _ => expectEnd "(?i)password:" (scanFind pwAt)

def issueLogin (enter : Str) : M σ Str := bindM (send D enter) fun _ => expectEnd loginPat (scanFind pwOrPromptAt)

/-- the closure `waitPrompt(enter, suffix)`: (its result, the captured `out` after it, what it adds to
`bannerLines`) -/
def loginWaitPrompt (enter : Str) (suffix : Char) : M σ (Bool × Str × Str) :=
  bindM (issueLogin D enter) fun o => pureM (hasSuffixC (trimBlank o) suffix, trimBlank o, o)

/-- `i := LastIndex(out, "\n"); p := out[i:]; i = LastIndex(p, "#"); p[:i], p[i:]` — a missing
character makes the slice expression panic -/
def loginPrompt (o : Str) : M σ (Str × Str) :=
  match lastIdx '\n' o 0 none with
  | none => abortM .indexPanic
  | some i =>
    match lastIdx '#' (o.drop i) 0 none with
    | none => abortM .indexPanic
    | some j => pureM ((o.drop i).take j, (o.drop i).drop j)

/-- `LoginEnable` -/
def loginEnable (pass : Str) : M σ LoginRes :=
  bindM (waitLogin (σ := σ)) fun o0 =>
  bindM (if hasSuffixC o0 '?' then issueYes D else pureM o0) fun o1 =>
  bindM (loginWaitPrompt D pass '>') fun r1 =>
  bindM (if r1.1 then
          bindM (loginWaitPrompt D (lit "enable") '#') fun r2 =>
            if r2.1 then pureM (r1.2.2 ++ r2.2.2)
            else if !lowerSuffixPw r2.2.1 then abortM (.loginFailed true)
            else bindM (loginWaitPrompt D pass '#') fun r3 =>
              if r3.1 then pureM (r1.2.2 ++ r2.2.2 ++ r3.2.2) else abortM (.loginFailed true)
         else if !hasSuffixC r1.2.1 '#' then abortM (.loginFailed false)
         else pureM r1.2.2) fun bl =>
  bindM (issueCmd D [] "#[ ]?" [(lit "#", true)]) fun o =>
  bindM (loginPrompt (σ := σ) o) fun p =>
  pureM { head := p.1, tail := p.2, banner := o1 ++ bl }

/-- `GetCmdOutput(cmd)`: `Send`, `GetOutput`, `StripEcho` -/
def getCmdOutput (cmd : Str) : M σ Str :=
  bindM (send D cmd) fun _ => bindM (getOutput (σ := σ)) fun o => stripEcho cmd o

/-! ### the same as annotated programs -/

/-- the closure `waitPrompt` -/
def loginWaitPromptP (enter : Str) (suffix : Char) : Prog σ (Bool × Str × Str) :=
  .bind (.stmt "IssueCmd(_,\"(?i)password:|\\\\n\\\\r?[^#> ]+[>#] ?$\")" (issueLogin D enter)) fun o =>
  .quiet (pureM (hasSuffixC (trimBlank o) suffix, trimBlank o, o))

/-- `LoginEnable` -/
def loginEnableP (pass : Str) : Prog σ LoginRes :=
  .bind (.stmt "WaitLogin(\"(?i)password:|\\\\(yes/no.*\\\\)\\\\?\")" (waitLogin (σ := σ))) fun o0 =>
  .bind (.ite none (hasSuffixC o0 '?')
          (.stmt "IssueCmd(\"yes\",\"(?i)password:\")" (issueYes D))
          (.quiet (pureM o0))) fun o1 =>
  .bind (.stmt "args(_,\">\")" (pureM (σ := σ) ())) fun _ =>
  .bind (loginWaitPromptP D pass '>') fun r1 =>
  .bind (.ite none r1.1
          (.bind (.stmt "args(\"enable\",\"#\")" (pureM (σ := σ) ())) fun _ =>
           .bind (loginWaitPromptP D (lit "enable") '#') fun r2 =>
            .ite none r2.1 (.quiet (pureM (r1.2.2 ++ r2.2.2)))
              (.ite none (!lowerSuffixPw r2.2.1) (.abort "Abort()" (abortM (.loginFailed true)))
                (.bind (.stmt "args(_,\"#\")" (pureM (σ := σ) ())) fun _ =>
                 .bind (loginWaitPromptP D pass '#') fun r3 =>
                  .ite none r3.1 (.quiet (pureM (r1.2.2 ++ r2.2.2 ++ r3.2.2)))
                    (.abort "Abort()" (abortM (.loginFailed true))))))
          (.ite none (!hasSuffixC r1.2.1 '#') (.abort "Abort()" (abortM (.loginFailed false)))
            (.quiet (pureM r1.2.2)))) fun bl =>
  .bind (.stmt "IssueCmd(\"\",\"#[ ]?\")" (issueCmd D [] "#[ ]?" [(lit "#", true)])) fun o =>
  .bind (.stmt "SetStdPrompt(_)" (loginPrompt (σ := σ) o)) fun p =>
  .quiet (pureM { head := p.1, tail := p.2, banner := o1 ++ bl })

end login

end NA.Ios
