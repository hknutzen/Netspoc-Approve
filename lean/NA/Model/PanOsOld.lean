import NA.Model.PanOs
/-
The planner model AS IT WAS on the unchanged tree, before the three repairs of this property
(7da130b: names of groups inserted into an existing list are adapted; 86e0d84: generated names
also avoid the other target names; cfbdae7: a group referenced by its new name stays to be
transferred).  Differs from `NA/Model/PanOs.lean` in exactly these three changes (without 86e0d84 the later
repair ca75903 of F-C03g, addresses among the names a group name avoids, is absent as well); used
only by the `…_counterexample` theorems that document the repaired findings (the witnesses were
replayed on the real planner before the repairs).  Core Lean only.
-/
namespace NA.PanOs

/-- One element of `adaptGroupsOld`. -/
def adaptStepOld (acc : List String × St) (adr : String) : List String × St :=
  let (res, st) := acc
  match st.bGrpIdx adr with
  | none => (res ++ [adr], st)
  | some gbi =>
    let gb := st.bGrp[gbi]?.getD default
    if gb.onDev != "" then (res ++ [gb.onDev], st)
    else
      let (name, st) := findGroupOnDevice st gbi
      if name != "" then (res ++ [name], st) else (res ++ [gb.newName], st)

def adaptGroupsOld (st : St) (lb : List String) : List String × St := lb.foldl adaptStepOld ([], st)

/-! ### `equalizeOld` -/

/-- `hasEqualizedGroups(ga, gb)` for the groups with indices `gai`, `gbi`; `recur` is
`hasEqualizedLists` (one level deeper). -/
def eqGroupsOld (recur : St → List String → List String → MPath → Bool × St) (st : St) (gai gbi : Nat) :
    Bool × St :=
  let ga := st.aGrp[gai]?.getD default
  let gb := st.bGrp[gbi]?.getD default
  if gb.onDev != "" then (gb.onDev == ga.g.name, st)
  else if ga.needed then (false, st)
  else
    let (b, st) := recur st ga.g.members gb.g.members (.group ga.g.name)
    if b then
      (true, { st with
        aGrp := modAt st.aGrp gai (fun g => { g with needed := true }),
        bGrp := modAt st.bGrp gbi (fun g => { g with needed := false, onDev := ga.g.name }) })
    else (false, st)

/-- One pair of an equal range (`ok = false`: an earlier step has returned `false`). -/
def pairStepOld (recur : St → List String → List String → MPath → Bool × St) (la lb : List String)
    (r : Range) (acc : Bool × St × List String) (k : Nat) : Bool × St × List String :=
  let (ok, st, ins) := acc
  if !ok then acc
  else
    match st.aGrpIdx (la.getD (r.lowA + k) "") with
    | none => acc
    | some gai =>
      match st.bGrpIdx (lb.getD (r.lowB + k) "") with
      | none => (false, st, ins)
      | some gbi =>
        let (b, st) := eqGroupsOld recur st gai gbi
        (b, st, ins)

/-- One range of the second loop of `hasEqualizedLists`. -/
def rangeStepOld (recur : St → List String → List String → MPath → Bool × St) (la lb : List String)
    (path : MPath) (acc : Bool × St × List String) (r : Range) : Bool × St × List String :=
  let (ok, st, ins) := acc
  if !ok then acc
  else match r.kind with
    | .del => (true, st.emitAll ((la.extract r.lowA r.highA).map path.delCmd), ins)
    | .ins =>
      (true, st, ins ++ lb.extract r.lowB r.highB)
    | .eq => (List.range (r.highA - r.lowA)).foldl (pairStepOld recur la lb r) (true, st, ins)

/-- `hasEqualizedLists` (with `hasEqualizedGroups` as `eqGroupsOld`). -/
def hasEqListsOld (diff : Differ) : Nat → St → List String → List String → MPath → Bool × St
  | 0, st, _, _, _ => (false, st)
  | fuel + 1, st, la, lb, path =>
    let rs := diff la.length lb.length
      (fun i j => memberEq st (la.getD i "") (lb.getD j ""))
    if replaceInstead la.length (deletedCount rs) then (false, st)
    else
      let (ok, st, ins) := rs.foldl (rangeStepOld (hasEqListsOld diff fuel) la lb path) (true, st, [])
      if !ok then (false, st)
      else if ins.isEmpty then (true, st)
      else (true, st.emit (path.addCmd ins))

def equalizeListOld (diff : Differ) (fuel : Nat) (st : St) (la lb : List String) (n : String) (f : Fld) : St :=
  let (ok, st) := hasEqListsOld diff fuel st la lb (.rule n f)
  if ok then st
  else
    let (lb', st) := adaptGroupsOld st lb
    st.emit (.editList n f lb')

def equalizeOld (diff : Differ) (fuel : Nat) (st : St) (ra rb : Rule) : St :=
  let st := equalizeListOld diff fuel st ra.src rb.src ra.name .src
  let st := equalizeListOld diff fuel st ra.dst rb.dst ra.name .dst
  if ra.srv != rb.srv then st.emit (.editList ra.name .srv rb.srv) else st

/-! ### `diffRulesOld` -/

/-- The rule-order skeleton of `diffRulesOld`, one insert range: which target rules (by index range) are inserted
before which device rule (`anchor`; `none`: at the end). -/
structure InsGroupOld where
  anchor : Option String
  lowB : Nat
  highB : Nat
  deriving Repr

/-- First loop of `diffRulesOld`: deletes and equalisations in range order; inserts are only
collected (`delIdx` is the index after the rules deleted last). -/
def rulePhase1Old (diff : Differ) (fuel : Nat) (_a _b : Vsys) (aRules bRules : List Rule)
    (rs : List Range) (st : St) : St × Nat × List InsGroupOld :=
  rs.foldl (fun (acc : St × Nat × List InsGroupOld) r =>
    let (st, delIdx, inserts) := acc
    match r.kind with
    | .del =>
      (st.emitAll ((aRules.extract r.lowA r.highA).map (fun ru => Cmd.delRule ru.name)), r.highA, inserts)
    | .ins =>
      let aPos := max r.lowA delIdx
      let anchor := (aRules[aPos]?).map (·.name)
      (st, delIdx, inserts ++ [⟨anchor, r.lowB, r.highB⟩])
    | .eq =>
      let st := (List.range (r.highA - r.lowA)).foldl (fun st k =>
        equalizeOld diff fuel st (aRules.getD (r.lowA + k) default) (bRules.getD (r.lowB + k) default)) st
      (st, delIdx, inserts)) (st, 0, [])

/-- Second loop of `diffRulesOld`: every collected rule is appended (`set`) and, unless it belongs
at the end, moved before its anchor. -/
def rulePhase2Old (st : St) (bRules : List Rule) (inserts : List InsGroupOld) : St :=
  inserts.foldl (fun st ins =>
    (bRules.extract ins.lowB ins.highB).foldl (fun st ru =>
      let (src, st) := adaptGroupsOld st ru.src
      let (dst, st) := adaptGroupsOld st ru.dst
      let st := st.emit (.setRule { ru with src := src, dst := dst })
      match ins.anchor with
      | some dst => st.emit (.move ru.name dst)
      | none => st) st) st

def diffRulesOld (diff : Differ) (fuel : Nat) (st : St) (a b : Vsys) (aRules bRules : List Rule) : St :=
  let rs := diff aRules.length bRules.length
    (fun i j => ruleEqual a b (aRules.getD i default) (bRules.getD j default))
  let (st, _, inserts) := rulePhase1Old diff fuel a b aRules bRules rs st
  rulePhase2Old st bRules inserts

/-- Final planner state of `diffConfig(a, b)`; `out` holds the rule commands. -/
def planStateOld (diff : Differ) (a0 b0 : Vsys) : St :=
  let a := sortVsys a0
  let b := sortVsys b0
  let fuel := planFuel a b
  let newGroupNames := uniqNamesOld (a.groups.map (·.name)) (b.groups.map (·.name))
  let st := initSt a b newGroupNames
  let st := markObjects fuel st b.rules
  let newRuleNames := uniqNamesOld (ruleNames a.rules) (ruleNames b.rules)
  let bRules := (b.rules.zip newRuleNames).map (fun (r, n) => { r with name := n })
  diffRulesOld diff fuel st a b a.rules bRules

/-- `diffConfig(a, b, vsysPath)` as requests below `vsysPath`. -/
def planVsysOld (diff : Differ) (a b : Vsys) : List Cmd :=
  let st := planStateOld diff a b
  transferCmds st ++ st.out ++ removeCmds st


end NA.PanOs
