import NA.Spec.NsxStore
/-!
Service entries as a structure and the model of `nsxServiceEntry.MarshalJSON` (nsx/parse.go).

`addNewServices` compares the marshalled forms of two services with `bytes.Equal` and sends the
marshalled form of the target service; the planner model treats a definition as an opaque text
(`Service.defn`).  That is sound only if marshalling loses nothing: two entries that are different
BY DEFINITION must have different marshalled forms.  This file states what an entry is (the fields the
NSX-T policy API defines for its resource type; an optional field is absent or present), models the
marshalling, and proves it injective on well-formed entries (`marshal_injective`,
`marshalAll_injective`); `render` is the byte form, compared by the harness with the body the real code sends.
-/
namespace NA.Nsx

inductive JVal where
  | str (s : String)
  | num (n : Int)
  | strs (l : List String)
  | null
  deriving DecidableEq, Repr

inductive SvcKind where
  | l4 | icmp | ipproto
  deriving DecidableEq, Repr

/-- One service entry.  Fields that the kind does not have are ignored by `marshal` and required to
carry their default by `WF` (so that equality of structures is equality by definition). -/
structure SvcEntry where
  id : String
  kind : SvcKind
  l4Proto : String := ""
  src : Option (List String) := none   -- `none`: field absent (Go: nil slice)
  dst : Option (List String) := none
  icmpProto : String := ""
  icmpType : Option Int := none
  icmpCode : Option Int := none
  protoNum : Int := 0
  deriving DecidableEq, Repr

def SvcKind.resourceType : SvcKind → String
  | .l4 => "L4PortSetServiceEntry"
  | .icmp => "ICMPTypeServiceEntry"
  | .ipproto => "IPProtocolServiceEntry"

def SvcEntry.WF (e : SvcEntry) : Prop :=
  match e.kind with
  | .l4 => e.icmpProto = "" ∧ e.icmpType = none ∧ e.icmpCode = none ∧ e.protoNum = 0
  | .icmp => e.l4Proto = "" ∧ e.src = none ∧ e.dst = none ∧ e.protoNum = 0
  | .ipproto => e.l4Proto = "" ∧ e.src = none ∧ e.dst = none ∧ e.icmpProto = "" ∧ e.icmpType = none ∧ e.icmpCode = none

instance (e : SvcEntry) : Decidable e.WF := by
  unfold SvcEntry.WF; cases e.kind <;> exact inferInstance

def optStrs : Option (List String) → JVal
  | none => .null
  | some l => .strs l

/-- `MarshalJSON`: the map it builds, as an association list with the keys in the order
`json.Marshal` writes them (sorted).  A nil slice is written as `null`; `icmp_type` / `icmp_code`
are written only when present. -/
def SvcEntry.marshal (e : SvcEntry) : List (String × JVal) :=
  match e.kind with
  | .ipproto => [("id", .str e.id), ("protocol_number", .num e.protoNum), ("resource_type", .str e.kind.resourceType)]
  | .l4 => [("destination_ports", optStrs e.dst), ("id", .str e.id), ("l4_protocol", .str e.l4Proto),
            ("resource_type", .str e.kind.resourceType), ("source_ports", optStrs e.src)]
  | .icmp =>
    (match e.icmpCode with | some c => [("icmp_code", JVal.num c)] | none => []) ++
    (match e.icmpType with | some t => [("icmp_type", JVal.num t)] | none => []) ++
    [("id", .str e.id), ("protocol", .str e.icmpProto), ("resource_type", .str e.kind.resourceType)]

theorem optStrs_inj {a b : Option (List String)} (h : optStrs a = optStrs b) : a = b := by
  cases a <;> cases b <;> simp_all [optStrs]

/-- Every marshalled form names its resource type (which names the kind: `resourceType_injective`). -/
theorem marshal_resourceType (e : SvcEntry) :
    e.marshal.lookup "resource_type" = some (.str e.kind.resourceType) := by
  obtain ⟨i, k, l, s, d, p, t, c, n⟩ := e
  cases k
  · simp [SvcEntry.marshal, List.lookup]
  · cases c <;> cases t <;> simp [SvcEntry.marshal, List.lookup]
  · simp [SvcEntry.marshal, List.lookup]

theorem resourceType_injective {k1 k2 : SvcKind} (h : k1.resourceType = k2.resourceType) : k1 = k2 := by
  cases k1 <;> cases k2 <;> simp [SvcKind.resourceType] at h ⊢

/-- Marshalling loses nothing: entries that differ by definition have different marshalled forms.
(The byte comparison of `addNewServices` is therefore a comparison by definition.) -/
theorem marshal_injective (e1 e2 : SvcEntry) (h1 : e1.WF) (h2 : e2.WF)
    (h : e1.marshal = e2.marshal) : e1 = e2 := by
  have hk : e1.kind = e2.kind := by
    have := marshal_resourceType e1
    rw [h, marshal_resourceType e2] at this
    exact (resourceType_injective (JVal.str.inj (Option.some.inj this))).symm
  obtain ⟨i1, k1, l1, s1, d1, p1, t1, c1, n1⟩ := e1
  obtain ⟨i2, k2, l2, s2, d2, p2, t2, c2, n2⟩ := e2
  cases hk
  -- same kind: the fields of that kind are read off the two lists, the others are fixed by `WF`
  cases k1 <;> simp only [SvcEntry.WF] at h1 h2 <;> simp only [SvcEntry.marshal, SvcKind.resourceType] at h
  · obtain ⟨rfl, rfl, rfl, rfl⟩ := h1
    obtain ⟨rfl, rfl, rfl, rfl⟩ := h2
    simp at h
    obtain ⟨hd, hi, hl, hs⟩ := h
    simp [hi, hl, optStrs_inj hd, optStrs_inj hs]
  · obtain ⟨rfl, rfl, rfl, rfl⟩ := h1
    obtain ⟨rfl, rfl, rfl, rfl⟩ := h2
    cases c1 <;> cases c2 <;> cases t1 <;> cases t2 <;> simp at h <;> simp_all
  · obtain ⟨rfl, rfl, rfl, rfl, rfl, rfl⟩ := h1
    obtain ⟨rfl, rfl, rfl, rfl, rfl, rfl⟩ := h2
    simp at h
    simp [h.1, h.2]

def marshalAll (l : List SvcEntry) : List (List (String × JVal)) := l.map (·.marshal)

theorem marshalAll_injective : ∀ (l1 l2 : List SvcEntry), (∀ e ∈ l1, e.WF) → (∀ e ∈ l2, e.WF) →
    marshalAll l1 = marshalAll l2 → l1 = l2
  | [], [], _, _, _ => rfl
  | [], _ :: _, _, _, h => by simp [marshalAll] at h
  | _ :: _, [], _, _, h => by simp [marshalAll] at h
  | a :: l1, b :: l2, h1, h2, h => by
    simp only [marshalAll, List.map_cons, List.cons.injEq] at h
    have hab := marshal_injective a b (h1 a (by simp)) (h2 b (by simp)) h.1
    have := marshalAll_injective l1 l2 (fun e he => h1 e (by simp [he])) (fun e he => h2 e (by simp [he])) h.2
    simp [hab, this]

/-- The variant "the code is a refinement of the type" (`icmp_code` written only inside the test for
`icmp_type`) is NOT injective: an entry with a code and no type marshals like the entry without a code. -/
def marshalCodeInsideType (e : SvcEntry) : List (String × JVal) :=
  match e.kind with
  | .icmp =>
    (match e.icmpType with
     | some t => (match e.icmpCode with | some c => [("icmp_code", JVal.num c)] | none => []) ++ [("icmp_type", JVal.num t)]
     | none => []) ++
    [("id", .str e.id), ("protocol", .str e.icmpProto), ("resource_type", .str e.kind.resourceType)]
  | _ => e.marshal

theorem marshalCodeInsideType_not_injective :
    ∃ e1 e2 : SvcEntry, e1.WF ∧ e2.WF ∧ e1 ≠ e2 ∧ marshalCodeInsideType e1 = marshalCodeInsideType e2 :=
  ⟨{ id := "id", kind := .icmp, icmpProto := "ICMPv4", icmpCode := some 3 },
   { id := "id", kind := .icmp, icmpProto := "ICMPv4" }, by decide, by decide, by decide, by decide⟩

/-! ### byte form -/

def jstr (s : String) : String :=
  "\"" ++ String.join (s.toList.map fun c =>
    if c == '"' then "\\\"" else if c == '\\' then "\\\\" else c.toString) ++ "\""

def JVal.render : JVal → String
  | .str s => jstr s
  | .num n => toString n
  | .strs l => "[" ++ ",".intercalate (l.map jstr) ++ "]"
  | .null => "null"

def renderObj (kv : List (String × JVal)) : String :=
  "{" ++ ",".intercalate (kv.map fun (k, v) => jstr k ++ ":" ++ v.render) ++ "}"

/-- What `json.Marshal` writes for a list of entries. -/
def render (l : List SvcEntry) : String := "[" ++ ",".intercalate (l.map fun e => renderObj e.marshal) ++ "]"

/-- `jstr` on a literal without decoding it: a literal is `String.ofList` of its characters, and evaluating
`toList` of it would make the kernel decode UTF-8 byte by byte. -/
theorem jstr_ofList (l : List Char) : jstr (String.ofList l) =
    "\"" ++ String.join (l.map fun c => if c == '"' then "\\\"" else if c == '\\' then "\\\\" else c.toString) ++ "\"" := by
  rw [jstr, String.toList_ofList]

example : render [{ id := "id", kind := .icmp, icmpProto := "ICMPv4", icmpCode := some 3 }] =
    "[{\"icmp_code\":3,\"id\":\"id\",\"protocol\":\"ICMPv4\",\"resource_type\":\"ICMPTypeServiceEntry\"}]" := by
  simp -index only [render, renderObj, SvcEntry.marshal, SvcKind.resourceType, JVal.render, List.map, List.cons_append,
    List.nil_append]
  simp -index only [jstr_ofList]
  decide +kernel
example : render [{ id := "a", kind := .l4, l4Proto := "TCP", dst := some ["80"] }] =
    "[{\"destination_ports\":[\"80\"],\"id\":\"a\",\"l4_protocol\":\"TCP\",\"resource_type\":\"L4PortSetServiceEntry\",\"source_ports\":null}]" := by
  simp -index only [render, renderObj, SvcEntry.marshal, SvcKind.resourceType, JVal.render, optStrs, List.map]
  simp -index only [jstr_ofList]
  decide +kernel

end NA.Nsx
