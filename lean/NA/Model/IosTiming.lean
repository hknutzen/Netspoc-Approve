import NA.Model.IosSession
/-!
# Timings other than the fast device: data arriving in pieces

`goexpect` keeps a buffer; every time new bytes arrive the pattern is tried on the whole buffer
(leftmost match); the first buffer that matches wins, what follows the match goes back to the
buffer.  `expectChunks m buf chunks`: `buf` = what has arrived, `chunks` = the pieces that will
arrive (slow echo, prompt in pieces, any split at any byte); `none` = time-out (nothing more comes).

`tryArrived` is `TryPrompt` (time-out 0): only what HAS arrived is looked at, and it is discarded
if it contains no prompt; the pieces still to come stay in the stream.
-/
namespace NA.Ios

/-- consumed text, rest of the buffer, pieces still to come -/
def expectChunks (m : Str → Option Nat) (buf : Str) : List Str → Option (Str × Str × List Str)
  | [] => (m buf).map fun e => (buf.take e, buf.drop e, [])
  | c :: cs =>
    match m buf with
    | some e => some (buf.take e, buf.drop e, c :: cs)
    | none => expectChunks m (buf ++ c) cs

def promptEnd (s : Str) : Option Nat := (promptFind s).map (·.2)
def hashEnd (s : Str) : Option Nat := if endsWithHash s then some s.length else none

/-- `TryPrompt` on what has arrived: found?, rest of the buffer -/
def tryArrived (buf : Str) : Bool × Str :=
  match promptFind buf with
  | some r => (true, buf.drop r.2)
  | none => (false, [])

/-- strip a trailing `\nrouter#\nrouter#` (the fresh prompt + the regular prompt at the end of a
form-C answer): what is sent now, what is held back -/
def splitLate (out : Str) : Str × Str :=
  let tail := lit "\nrouter#\nrouter#"
  if tail.isPrefixOf (out.drop (out.length - tail.length)) && tail.length ≤ out.length
  then (out.take (out.length - 8), lit "\nrouter#") else (out, [])

/-- A timing other than the fast device, expressed as a device: the second prompt of an answer
that ends in two prompts arrives LATE — only together with the answer to the next packet. -/
def lateDevice {σ : Type} (D : Device σ) : Device (σ × Str) where
  step st s :=
    let r := D.step st.1 s
    let sp := splitLate r.2
    ((r.1, sp.2), st.2 ++ sp.1)

end NA.Ios
