import NA.Proofs.C09Compose
/-!
# C09: exactly which change commands are on the wire

`conf q p`: in program `p` no construct sends a change command except the sub-program `q`, which is run at most once
and after which the script is not recomputed — a domain of the interpreter.  Then whatever `p` does, the change
commands it puts on the wire are those of (at most) one execution of `q` (`conf_sound`); with `q` = the loop over the
change script: for EVERY run, OK or not, a prefix of the script.
-/
namespace NA.C09
open NA.Sess NA.Apply NA.Spec.C09

/-- how often the sub-program `q` may have run: not reached / not yet / at most once -/
inductive Occ | bot | zero | one
  deriving DecidableEq, Repr

def Occ.le : Occ → Occ → Bool
  | .bot, _ | .zero, .zero | .zero, .one | .one, .one => true
  | _, _ => false
def Occ.join (a b : Occ) : Occ := if a.le b then b else a

/-- before `q`: no change command; after it: no change command and the script stays -/
def confLeaf (p : Sess) : Occ → Option (Ends Occ)
  | .bot => some ⟨.bot, .bot, .bot, .bot, .bot⟩
  | .zero => if noChange p then some ⟨.zero, .zero, .zero, .zero, .zero⟩ else none
  | .one => if noChange p && noSetPlan p then some ⟨.one, .one, .one, .one, .one⟩ else none

def confBlk (q p : Sess) : Occ → Option (Ends Occ)
  | .zero => if p == q then some ⟨.one, .one, .one, .one, .one⟩ else none
  | _ => none

def confD (q : Sess) : Dom Occ := ⟨.bot, (· == .bot), Occ.join, Occ.le, fun _ a => (a, a), confLeaf, confBlk q, id⟩

/-- The change commands added since `s0`: none (`zero`); none, or exactly those of one execution of `q` from a running
state `sq` with the script of `s` (`one`) — with some current script element: inside a loop over the script the
environment differs in that. -/
def Occ.γ (q : Sess) : Occ → Env → St → St → Prop
  | .bot, _, _, _ => False
  | .zero, _, s0, s => changeSends s.tr = changeSends s0.tr
  | .one, env, s0, s => ∃ Δ, changeSends s.tr = changeSends s0.tr ++ Δ ∧
      (Δ = [] ∨ ∃ (sq : St) (pk : List String), sq.mode = .run ∧ s.plan = sq.plan ∧ s.ipt = sq.ipt ∧
        changeSends (exec q { env with cur := pk } sq).tr = changeSends sq.tr ++ Δ)

theorem Occ.γ_le {q : Sess} {a b : Occ} {env s0 s} (hle : a.le b = true) (h : Occ.γ q a env s0 s) : Occ.γ q b env s0 s := by
  cases a
  · cases h
  · cases b
    · cases hle
    · exact h
    · exact ⟨[], by rw [show changeSends s.tr = changeSends s0.tr from h, List.append_nil], .inl rfl⟩
  · cases b
    · cases hle
    · cases hle
    · exact h

theorem Occ.γ_congr {q : Sess} {a : Occ} {env s0 s s'} (ht : changeSends s'.tr = changeSends s.tr) (hp : s'.plan = s.plan)
    (hi : s'.ipt = s.ipt) (h : Occ.γ q a env s0 s) : Occ.γ q a env s0 s' := by
  cases a <;> simp only [Occ.γ, ht, hp, hi] at h ⊢ <;> exact h

theorem confD_ok (q : Sess) (hq : noSetPlan q = true) : (confD q).OK (Occ.γ q) where
  mode {a env s0 s} _ h := Occ.γ_congr (s := s) rfl rfl rfl h
  cur {a env s0 s} pk := by cases a <;> exact Iff.rfl
  dead {a _ _ _} hd h := by cases a <;> first | exact h | cases hd
  joinL {a b _ _ _} h := by
    show Occ.γ q (Occ.join a b) _ _ _
    unfold Occ.join; split
    · rename_i hle; exact Occ.γ_le hle h
    · exact h
  joinR {a b _ _ _} h := by
    show Occ.γ q (Occ.join a b) _ _ _
    unfold Occ.join; split
    · exact h
    · rename_i hle; exact Occ.γ_le (by cases a <;> cases b <;> first | rfl | exact absurd rfl hle) h
  le hle h := Occ.γ_le hle h
  split _ _ h := ⟨fun _ => h, fun _ => h⟩
  leaf {p x o} _ h env s0 s hm hx := by
    cases x <;> simp only [confD, confLeaf] at h
    · cases hx
    · split at h
      · rename_i hn; cases h
        have := noChange_changeSends p hn env s
        cases (exec p env s).mode <;> exact this.trans hx
      · cases h
    · split at h
      · rename_i hn; cases h
        simp only [Bool.and_eq_true] at hn
        -- `p` sends no change command and leaves the script alone
        obtain ⟨hp, hi, _⟩ := exec_stable p hn.2 env s
        have := Occ.γ_congr (q := q) (a := .one) (noChange_changeSends p hn.1 env s) hp hi hx
        cases (exec p env s).mode <;> exact this
      · cases h
  blk {p x o} h env s0 s hm hx := by
    cases x <;> simp only [confD, confBlk] at h <;> try cases h
    split at h
    · rename_i he; cases h
      -- the node is `q` itself, started in the running state `s`
      obtain rfl : p = q := beq_iff_eq.mp he
      obtain ⟨hp, hi, l, ht⟩ := exec_stable p hq env s
      have : Occ.γ p .one env s0 (exec p env s) :=
        ⟨changeSends l, by rw [ht, changeSends_append, show changeSends s.tr = changeSends s0.tr from hx],
          .inr ⟨s, env.cur, hm, hp, hi, by rw [ht, changeSends_append]⟩⟩
      cases (exec p env s).mode <;> exact this
    · cases h
  inv h := h

def conf (q p : Sess) : Bool := (ai (confD q) p .zero).isSome

theorem conf_sound (q : Sess) (hq : noSetPlan q = true) (p : Sess) (h : conf q p = true) (env : Env) (s : St)
    (hm : s.mode = .run) : Occ.γ q .one env s (exec p env s) := by
  obtain ⟨o, ho⟩ := Option.isSome_iff_exists.mp h
  exact Occ.γ_le (by cases o.at (exec p env s).mode <;> rfl) (ai_sound (confD_ok q hq) p .zero o ho env s s hm rfl)

theorem run_incr (b : Backend) (q : Sess) (hq : noSetPlan q = true) (hconf : conf q (approveOrCompareBody b) = true)
    (env : Env) :
    changeSends (runProg b env).tr = [] ∨
    ∃ (sq : St) (pk : List String), sq.mode = .run ∧ (runProg b env).plan = sq.plan ∧ (runProg b env).ipt = sq.ipt ∧
      changeSends (exec q { env with cur := pk } sq).tr = changeSends sq.tr ++ changeSends (runProg b env).tr := by
  obtain ⟨Δ, hcs, hΔ⟩ := conf_sound q hq _ hconf env {} rfl
  have hrun : changeSends (runProg b env).tr = Δ := by rw [runProg, hcs]; simp [changeSends]
  rw [hrun]
  exact hΔ

theorem foreach_prefix (body : Sess)
    (hsend : ∀ (env' : Env) (st : St), st.mode = .run → changeSends (exec body env' st).tr = changeSends st.tr ++ [env'.cur])
    (env : Env) (s : St) (hm : s.mode = .run) :
    ∃ k, changeSends (exec (.forEach body) env s).tr = changeSends s.tr ++ s.plan.take k := by
  rw [exec_forEach _ _ _ hm]
  obtain ⟨k, new, hc, _, _, hx⟩ := each_sends false _ (fun pk st h => exec_nonrun _ _ _ h)
    (fun pk st h => .inl (hsend { env with cur := pk } st h)) s.plan s
  exact ⟨k, by rw [hc, hx rfl]⟩

theorem change_commands_prefix_of_script (b : Backend) (hb : b = .asa ∨ b = .ios ∨ b = .nsx) (env : Env) :
    ∃ k, changeSends (runProg b env).tr = (runProg b env).plan.take k := by
  have key : ∀ (q : Sess) (body : Sess), q = .forEach body → noSetPlan q = true →
      (∀ (env' : Env) (st : St), st.mode = .run → changeSends (exec body env' st).tr = changeSends st.tr ++ [env'.cur]) →
      conf q (approveOrCompareBody b) = true →
      ∃ k, changeSends (runProg b env).tr = (runProg b env).plan.take k := by
    intro q body hq hnsp hsend hconf
    rcases run_incr b q hnsp hconf env with h0 | ⟨sq, pk, hsq, hpl, _, hq'⟩
    · exact ⟨0, h0⟩
    · subst hq
      obtain ⟨k, hk⟩ := foreach_prefix body hsend { env with cur := pk } sq hsq
      rw [hk] at hq'
      exact ⟨k, by rw [hpl, List.append_cancel_left hq']⟩
  rcases hb with rfl | rfl | rfl
  · exact key (.forEach (asaCmd .change .cur ["_"])) (asaCmd .change .cur ["_"]) rfl (by decide)
      (cs_console_cmd _ _ _ (by decide)) (by decide +kernel)
  · exact key (.forEach (iosCmd .change .cur ["_"])) (iosCmd .change .cur ["_"]) rfl (by decide)
      (cs_console_cmd _ _ _ (by decide)) (by decide +kernel)
  · exact key _ _ rfl (by decide) cs_nsx_request (by decide +kernel)

theorem sublist_take_eq {α : Type} (l : List α) (k : Nat) (h : l.Sublist (l.take k)) : l.take k = l :=
  (List.take_sublist k l).eq_of_length_le h.length_le

theorem change_commands_rep_prefix_panos (env : Env) :
    ∃ k, Rep ((runProg .panos env).plan.take k) (changeSends (runProg .panos env).tr) := by
  rcases run_incr .panos (.forEach panosChangeStep) (by decide) (by decide +kernel) env with h0 | ⟨sq, pk, hsq, hpl, _, hq'⟩
  · exact ⟨0, by rw [h0]; exact Rep.nil⟩
  · rw [exec_forEach _ _ _ hsq] at hq'
    obtain ⟨k, new, hk, hr, _, _⟩ := each_sends true _ (fun pk st h => exec_nonrun _ _ _ h)
      (fun pk' st h => (cs_panos_request { env with cur := pk' } st h).imp id fun h2 => ⟨rfl, h2⟩) sq.plan sq
    rw [hk] at hq'
    exact ⟨k, by rw [hpl, ← List.append_cancel_left hq']; exact hr⟩


def linuxExtras : List (List String) :=
  [["chmod a+x /etc/network/packet-filter.new"], ["/etc/network/packet-filter.new"],
   ["mv -f /etc/network/packet-filter.new /etc/network/packet-filter"]]

/-- one execution of Linux `ApplyCommands`: a prefix of the script, then — only after the whole
script and only if iptables changed — a prefix of the three activation commands -/
theorem linux_apply_incr (env : Env) (s : St) (hm : s.mode = .run) :
    ∃ k j, changeSends (exec (.call "ApplyCommands" ["_"] linuxApplyBody) env s).tr
        = changeSends s.tr ++ s.plan.take k ++ linuxExtras.take j
      ∧ (j ≠ 0 → s.plan.take k = s.plan ∧ s.ipt = true) := by
  rw [cs_call]
  unfold linuxApplyBody
  rw [exec_seq]
  obtain ⟨k, hk⟩ := foreach_prefix (linuxCmd .change .cur ["_"])
    (cs_console_cmd "cmd" ["_"] linuxCmdRest (by decide)) env s hm
  obtain ⟨hp1, hi1, _⟩ := exec_stable (.forEach (linuxCmd .change .cur ["_"])) (by decide) env s
  have hall := foreach_sends_all_linux env s hm
  generalize exec (.forEach (linuxCmd .change .cur ["_"])) env s = s1 at hk hp1 hi1 hall
  by_cases hm1 : s1.mode = .run
  · have hall := hall hm1
    -- the test after the activation block and the return do not send change commands
    rw [cs_seq_right _ _ (by decide)]
    by_cases hipt : s1.ipt = true
    · simp only [exec_ite _ _ _ _ _ _ hm1, evalCond, hipt, if_true]
      rw [exec_seq, exec_seq, exec_seq]
      have hW := noChange_changeSends (.call "writeStartupIPTables" ["_", "_"] linuxWriteStartupIPTablesBody) (by decide) env s1
      generalize exec (.call "writeStartupIPTables" ["_", "_"] linuxWriteStartupIPTablesBody) env s1 = s2 at hW
      have hfull : s.plan.take s.plan.length = s.plan := List.take_length
      have hi : s.ipt = true := by rw [← hi1]; exact hipt
      by_cases hm2 : s2.mode = .run
      · have h1 := cs_linux_lit "chmod a+x /etc/network/packet-filter.new" env s2
        generalize exec (linuxCmd .change (.lit "chmod a+x /etc/network/packet-filter.new") ["_"]) env s2 = s3 at h1
        by_cases hm3 : s3.mode = .run
        · have h2 := cs_linux_lit "/etc/network/packet-filter.new" env s3
          generalize exec (linuxCmd .change (.lit "/etc/network/packet-filter.new") ["_"]) env s3 = s4 at h2
          by_cases hm4 : s4.mode = .run
          · have h3 := cs_linux_lit "mv -f /etc/network/packet-filter.new /etc/network/packet-filter" env s4
            refine ⟨s.plan.length, 3, ?_, fun _ => ⟨hfull, hi⟩⟩
            rw [h3, h2, h1, hW, hall, hfull]
            simp [hm2, hm3, hm4, linuxExtras]
          · refine ⟨s.plan.length, 2, ?_, fun _ => ⟨hfull, hi⟩⟩
            rw [exec_nonrun _ _ _ hm4, h2, h1, hW, hall, hfull]
            simp [hm2, hm3, linuxExtras]
        · refine ⟨s.plan.length, 1, ?_, fun _ => ⟨hfull, hi⟩⟩
          rw [exec_nonrun _ _ _ hm3, exec_nonrun _ _ _ hm3, h1, hW, hall, hfull]
          simp [hm2, linuxExtras]
      · refine ⟨s.plan.length, 0, ?_, fun h => absurd rfl h⟩
        rw [exec_nonrun _ _ _ hm2, exec_nonrun _ _ _ hm2, exec_nonrun _ _ _ hm2, hW, hall, hfull]
        simp
    · refine ⟨s.plan.length, 0, ?_, fun h => absurd rfl h⟩
      simp [sess_run, hm1, hipt, hall]
  · refine ⟨k, 0, ?_, fun h => absurd rfl h⟩
    rw [exec_nonrun _ _ _ hm1, hk]; simp


theorem change_commands_shape_linux (env : Env) :
    ∃ k j, changeSends (runProg .linux env).tr = (runProg .linux env).plan.take k ++ linuxExtras.take j
      ∧ (j ≠ 0 → (runProg .linux env).plan.take k = (runProg .linux env).plan ∧ (runProg .linux env).ipt = true) := by
  rcases run_incr .linux (.call "ApplyCommands" ["_"] linuxApplyBody) (by decide) (by decide +kernel) env with
    h0 | ⟨sq, pk, hsq, hpl, hip, hq'⟩
  · exact ⟨0, 0, h0, fun h => absurd rfl h⟩
  · obtain ⟨k, j, hkj, hj⟩ := linux_apply_incr { env with cur := pk } sq hsq
    rw [hkj, List.append_assoc] at hq'
    refine ⟨k, j, by rw [hpl, List.append_cancel_left hq'], fun h => ?_⟩
    rw [hpl, hip]; exact hj h

theorem change_commands_exact (b : Backend) (hb : b = .asa ∨ b = .ios ∨ b = .nsx) (env : Env)
    (hc : env.compare = false) (hok : (runProg b env).mode = .ret) :
    changeSends (runProg b env).tr = (runProg b env).plan := by
  obtain ⟨k, hk⟩ := change_commands_prefix_of_script b hb env
  have hS := (run_ok_facts b env hc (by rcases hb with rfl | rfl | rfl <;> intro h <;> cases h) hok).2.hS
    (by rcases hb with rfl | rfl | rfl <;> rfl)
  unfold SentAll at hS
  rw [hk] at hS ⊢
  exact sublist_take_eq _ k hS

/-- Linux (real scp; `hdis`: the script does not itself contain the three activation commands): the
script followed, iff iptables changed, by the three activation commands. -/
theorem change_commands_exact_linux (env : Env) (hc : env.compare = false) (hs : env.simulated = false)
    (hok : (runProg .linux env).mode = .ret) (hdis : ∀ x ∈ linuxExtras, x ∉ (runProg .linux env).plan) :
    changeSends (runProg .linux env).tr
      = (runProg .linux env).plan ++ (if (runProg .linux env).ipt = true then linuxExtras else []) := by
  obtain ⟨k, j, hkj, hj⟩ := change_commands_shape_linux env
  have hfacts := (run_ok_facts .linux env hc (fun _ => hs) hok).2
  have hS := hfacts.hS rfl
  have hM := hfacts.hM rfl
  unfold SentAll at hS
  unfold MvSent at hM
  -- the whole script is there
  have hfull : (runProg .linux env).plan.take k = (runProg .linux env).plan := by
    by_cases hj0 : j = 0
    · subst hj0
      rw [hkj] at hS
      simp only [List.take_zero, List.append_nil] at hS
      exact sublist_take_eq _ k hS
    · exact (hj hj0).1
  rw [hkj, hfull]
  by_cases hipt : (runProg .linux env).ipt = true
  · simp only [hipt, if_true]
    have hmv := hM hipt
    rw [hkj, hfull, List.mem_append] at hmv
    rcases hmv with h | h
    · exact absurd h (hdis _ (by simp [linuxExtras]))
    · -- `mv` is the third command: all three were sent
      have : 3 ≤ j := by
        rcases j with _ | _ | _ | j
        · simp [linuxExtras] at h
        · simp [linuxExtras] at h
        · simp [linuxExtras] at h
        · omega
      rw [List.take_of_length_le (by simpa [linuxExtras] using this)]
  · have hj0 : j = 0 := by
      cases hjc : j with
      | zero => rfl
      | succ n => exact absurd (hj (by omega)).2 hipt
    simp [hj0, hipt]

end NA.C09
