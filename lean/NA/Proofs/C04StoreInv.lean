import NA.Proofs.C04Store
/-!
C07 / C08 / C10 for NSX, about the specification alone: what every call that the strict manager accepts preserves.
-/
namespace NA.Nsx

theorem filter_append_managed {α : Type} (id : α → String) (l : List α) (x : α) (h : managed (id x) = true) :
    (l ++ [x]).filter (fun y => !managed (id y)) = l.filter (fun y => !managed (id y)) := by
  simp [List.filter_append, h]

theorem filter_remove_managed {α : Type} (id : α → String) (l : List α) (t : String) (h : managed t = true) :
    (l.filter (fun y => id y != t)).filter (fun y => !managed (id y)) = l.filter (fun y => !managed (id y)) := by
  rw [List.filter_filter]
  apply List.filter_congr
  intro y _
  by_cases e : id y = t
  · simp [e, h]
  · simp [e]

theorem filter_map_managed {α : Type} (id : α → String) (l : List α) (t : String) (f : α → α)
    (h : managed t = true) (hf : ∀ y, id y = t → id (f y) = t) :
    (l.map (fun y => if id y == t then f y else y)).filter (fun y => !managed (id y)) =
      l.filter (fun y => !managed (id y)) := by
  induction l with
  | nil => rfl
  | cons y rest ih =>
    simp only [List.map_cons, List.filter_cons]
    by_cases e : id y = t
    · simp only [e, beq_self_eq_true, if_true, hf y e, h, Bool.not_true, Bool.false_eq_true, if_false]
      exact ih
    · have : (id y == t) = false := by simpa using e
      simp only [this, Bool.false_eq_true, if_false]
      rw [ih]

theorem unmanagedPart_eq {S S' : Store}
    (hp : S'.policies.filter (fun p => !managed p.id) = S.policies.filter (fun p => !managed p.id))
    (hg : S'.groups.filter (fun g => !managed g.id) = S.groups.filter (fun g => !managed g.id))
    (hs : S'.services.filter (fun s => !managed s.id) = S.services.filter (fun s => !managed s.id)) :
    unmanagedPart S' = unmanagedPart S := by
  unfold unmanagedPart
  rw [hp, hg, hs]

theorem exec_frame {S S' : Store} {c : Call} (hm : managed c.target = true) (h : exec S c = .ok S') :
    unmanagedPart S' = unmanagedPart S := by
  cases step_of_exec h with
  | putService _ => exact unmanagedPart_eq rfl rfl (filter_append_managed Service.id _ _ hm)
  | patchService _ => exact unmanagedPart_eq rfl rfl (filter_map_managed Service.id _ _ _ hm fun _ _ => rfl)
  | deleteService _ _ => exact unmanagedPart_eq rfl rfl (filter_remove_managed Service.id _ _ hm)
  | putGroup _ _ => exact unmanagedPart_eq rfl (filter_append_managed Group.id _ _ hm) rfl
  | addAddrs _ _ => exact unmanagedPart_eq rfl (filter_map_managed Group.id _ _ _ hm fun _ e => e) rfl
  | removeAddrs _ _ _ => exact unmanagedPart_eq rfl (filter_map_managed Group.id _ _ _ hm fun _ e => e) rfl
  | patchExpr _ _ => exact unmanagedPart_eq rfl (filter_map_managed Group.id _ _ _ hm fun _ e => e) rfl
  | deleteGroup _ _ => exact unmanagedPart_eq rfl (filter_remove_managed Group.id _ _ hm) rfl
  | putPolicy _ _ _ => exact unmanagedPart_eq (filter_append_managed Policy.id _ _ hm) rfl rfl
  | deletePolicy _ => exact unmanagedPart_eq (filter_remove_managed Policy.id _ _ hm) rfl rfl
  | putRule _ _ _ => exact unmanagedPart_eq (filter_map_managed Policy.id _ _ _ hm fun _ e => e) rfl rfl
  | patchRule _ _ _ => exact unmanagedPart_eq (filter_map_managed Policy.id _ _ _ hm fun _ e => e) rfl rfl
  | deleteRule _ _ => exact unmanagedPart_eq (filter_map_managed Policy.id _ _ _ hm fun _ e => e) rfl rfl

def Scoped (cs : List Call) : Prop := ∀ c ∈ cs, managed c.target = true

theorem run_frame : ∀ (cs : List Call) (S S' : Store), Scoped cs → run S cs = some S' →
    unmanagedPart S' = unmanagedPart S :=
  fun cs S S' hs hr => run_inv (P := fun X => unmanagedPart X = unmanagedPart S) (Q := fun c => managed c.target = true)
    (fun h hq he => (exec_frame hq he).trans h) cs S S' rfl hs hr

theorem Scoped.append {a b : List Call} (h1 : Scoped a) (h2 : Scoped b) : Scoped (a ++ b) :=
  List.forall_mem_append.mpr ⟨h1, h2⟩

theorem Scoped.nil : Scoped [] := fun _ h => by cases h

theorem Scoped.single {c : Call} (h : managed c.target = true) : Scoped [c] := List.forall_mem_singleton.mpr h

theorem any_key_unmanaged {α : Type} (key : α → String) (l : List α) {x : String} (hm : managed x = false) :
    (l.filter fun y => !managed (key y)).any (key · == x) = l.any (key · == x) := by
  rw [List.any_filter]
  exact List.any_congr rfl fun y => by by_cases e : key y = x <;> simp [e, hm]

theorem hasGroup_unmanagedPart (S : Store) (x : String) :
    (managed x || hasGroup (unmanagedPart S) x) = (managed x || hasGroup S x) := by
  cases hm : managed x
  · exact any_key_unmanaged Group.id S.groups hm
  · rfl

theorem hasService_unmanagedPart (S : Store) (x : String) :
    (managed x || hasService (unmanagedPart S) x) = (managed x || hasService S x) := by
  cases hm : managed x
  · exact any_key_unmanaged Service.id S.services hm
  · rfl

theorem hasGroup_congr {S S' : Store} (h : gids S'.groups = gids S.groups) (id : String) :
    hasGroup S' id = hasGroup S id := by
  rw [Bool.eq_iff_iff, hasGroup_iff, hasGroup_iff, h]

theorem hasService_congr {S S' : Store} (h : sids S'.services = sids S.services) (id : String) :
    hasService S' id = hasService S id := by
  rw [Bool.eq_iff_iff, hasService_iff, hasService_iff, h]

theorem wf_rules_of {S S' : Store} (h : WF S) (hp : S'.policies = S.policies)
    (hr : ∀ p ∈ S.policies, ∀ r ∈ p.rules, refsOk S r = true → refsOk S' r = true) :
    ∀ p ∈ S'.policies, (rids p.rules).Nodup ∧ ∀ r ∈ p.rules, refsOk S' r = true := by
  intro p hpm
  rw [hp] at hpm
  obtain ⟨h1, h2⟩ := h.rules p hpm
  exact ⟨h1, fun r hrm => hr p hpm r hrm (h2 r hrm)⟩

theorem wf_setRules {S : Store} (h : WF S) {pid : String} {p0 : Policy} (hfind : findPolicy S.policies pid = some p0)
    (F : List Rule → List Rule) (hF : (rids (F p0.rules)).Nodup ∧ ∀ r ∈ F p0.rules, refsOk S r = true) :
    WF { S with policies := setRules S.policies pid F } := by
  have hcongr : ∀ r, refsOk { S with policies := setRules S.policies pid F } r = refsOk S r := refsOk_congr rfl rfl
  refine ⟨by show (pids (setRules S.policies pid F)).Nodup; rw [pids_setRules]; exact h.pol, h.grp, h.svc,
    fun p' hp' => ?_⟩
  obtain ⟨p, hpm, hcase⟩ := mem_setRules hp'
  rcases hcase with ⟨hid, e⟩ | ⟨_, e⟩
  · have hp0 : p = p0 := Option.some.inj ((findPolicy_mem_nodup h.pol hpm).symm.trans (hid ▸ hfind))
    subst hp0
    rw [e]
    exact ⟨hF.1, fun r hr => by rw [hcongr]; exact hF.2 r hr⟩
  · rw [e]
    obtain ⟨h1, h2⟩ := h.rules p hpm
    exact ⟨h1, fun r hr => by rw [hcongr]; exact h2 r hr⟩

theorem exec_wf {S S' : Store} {c : Call} (h : WF S) (hex : exec S c = .ok S') : WF S' := by
  have same : ∀ S' : Store, S'.policies = S.policies → (gids S'.groups).Nodup → (sids S'.services).Nodup →
      GroupsLE S S' → (∀ id, hasService S id = true → hasService S' id = true) → WF S' :=
    fun S' hp hg hs hle hsv => ⟨hp ▸ h.pol, hg, hs, wf_rules_of h hp fun _ _ _ _ hr => refsOk_grow hsv hle hr⟩
  have regroup : ∀ (gid : String) (f : Group → Group), (∀ g, (f g).id = g.id) →
      WF { S with groups := setGroupAddrs S.groups gid f } := by
    intro gid f hf
    have hg : gids (setGroupAddrs S.groups gid f) = gids S.groups := gids_setGroupAddrs S.groups gid f hf
    exact same _ rfl (hg ▸ h.grp) h.svc (fun x hx => hg ▸ hx) fun _ hh => hh
  have repol : ∀ S' : Store, S'.groups = S.groups → S'.services = S.services → ∀ p : Policy,
      ((rids p.rules).Nodup ∧ ∀ r ∈ p.rules, refsOk S r = true) →
      (rids p.rules).Nodup ∧ ∀ r ∈ p.rules, refsOk S' r = true :=
    fun S' hg hs p hp => ⟨hp.1, fun r hr => (refsOk_congr hg hs r).trans (hp.2 r hr)⟩
  cases step_of_exec hex with
  | @putService id d hnot =>
    have hfresh : id ∉ sids S.services := fun hm => by rw [hasService_iff.mpr hm] at hnot; cases hnot
    refine same _ rfl h.grp ?_ (GroupsLE.refl _) fun x hx => ?_
    · simp only [sids, List.map_append]; exact ListFacts.nodup_snoc h.svc hfresh
    · rw [hasService_iff] at hx ⊢
      simp only [sids, List.map_append, List.mem_append]
      exact Or.inl hx
  | @patchService id d _ =>
    have hs := sids_patch S.services id d
    refine same _ rfl h.grp (hs ▸ h.svc) (GroupsLE.refl _) fun x hx => ?_
    rw [hasService_iff] at hx ⊢
    exact hs ▸ hx
  | @deleteService id _ hunused =>
    -- no rule names the service
    let S1 : Store := { S with services := S.services.filter (·.id != id) }
    have he : ∀ p, epOk S1 p = epOk S p := epOk_congr rfl
    have hs : S1.services = S.services.filter (·.id != id) := rfl
    refine ⟨h.pol, h.grp, (List.Sublist.map _ List.filter_sublist).nodup h.svc,
      wf_rules_of (S' := S1) h rfl fun p hp r hr hrefs => ?_⟩
    obtain ⟨e1, e2, e3⟩ := refsOk_iff.mp hrefs
    exact refsOk_iff.mpr ⟨(he _).trans e1, (he _).trans e2, svcOk_filter_ne hs e3 fun hx => by
      rw [serviceUsed_iff.mpr ⟨p, hp, r, hr, serviceRef_some hx⟩] at hunused; cases hunused⟩
  | @putGroup id e t addrs hnot _ =>
    have hfresh : id ∉ gids S.groups := fun hm => by rw [hasGroup_iff.mpr hm] at hnot; cases hnot
    refine same _ rfl ?_ h.svc (fun x hx => ?_) fun _ hh => hh
    · simp only [gids, List.map_append]; exact ListFacts.nodup_snoc h.grp hfresh
    · simp only [gids, List.map_append, List.mem_append]
      exact Or.inl hx
  | addAddrs _ _ => exact regroup _ _ fun _ => rfl
  | removeAddrs _ _ _ => exact regroup _ _ fun _ => rfl
  | patchExpr _ _ => exact regroup _ _ fun _ => rfl
  | @deleteGroup id _ hunused =>
    -- no rule names the group
    let S1 : Store := { S with groups := S.groups.filter (·.id != id) }
    have hs : ∀ p, svcOk S1 p = svcOk S p := svcOk_of_services rfl
    have hg : S1.groups = S.groups.filter (·.id != id) := rfl
    refine ⟨h.pol, (List.Sublist.map _ List.filter_sublist).nodup h.grp, h.svc,
      wf_rules_of (S' := S1) h rfl fun p hp r hr hrefs => ?_⟩
    obtain ⟨e1, e2, e3⟩ := refsOk_iff.mp hrefs
    have hnot : ∀ q, q = r.src ∨ q = r.dst → groupRef q ≠ some id := fun q hq hx => by
      rw [groupUsed_iff.mpr ⟨p, hp, r, hr,
        hq.imp (fun e : q = r.src => e ▸ groupRef_some hx) fun e : q = r.dst => e ▸ groupRef_some hx⟩] at hunused
      cases hunused
    exact refsOk_iff.mpr ⟨epOk_filter_ne hg e1 (hnot _ (Or.inl rfl)), epOk_filter_ne hg e2 (hnot _ (Or.inr rfl)),
      (hs _).trans e3⟩
  | @putPolicy id rules hnot hnd hfind =>
    have hfresh : id ∉ pids S.policies := fun hm => by rw [hasPolicy_iff.mpr hm] at hnot; cases hnot
    refine ⟨?_, h.grp, h.svc, ?_⟩
    · simp only [pids, List.map_append]; exact ListFacts.nodup_snoc h.pol hfresh
    · intro p hp
      rcases List.mem_append.mp hp with hp | hp
      · exact repol { S with policies := S.policies ++ [⟨id, rules⟩] } rfl rfl p (h.rules p hp)
      · rw [List.mem_singleton.mp hp]
        exact repol { S with policies := S.policies ++ [⟨id, rules⟩] } rfl rfl _ ⟨hnd, hfind⟩
  | @deletePolicy id _ =>
    exact ⟨(List.Sublist.map _ List.filter_sublist).nodup h.pol, h.grp, h.svc,
      fun p hp => repol { S with policies := S.policies.filter (·.id != id) } rfl rfl p
        (h.rules p (List.mem_filter.mp hp).1)⟩
  | @putRule pid rid r p0 hfind hnew hrefs =>
    obtain ⟨hr1, hr2⟩ := h.rules p0 (findPolicy_some hfind).1
    refine wf_setRules h hfind _ ⟨?_, ?_⟩
    · simp only [rids, List.map_append]
      exact ListFacts.nodup_snoc hr1 hnew
    · intro x hx
      rcases List.mem_append.mp hx with hx | hx
      · exact hr2 x hx
      · rw [List.mem_singleton.mp hx]; exact hrefs
  | @patchRule pid rid r p0 hfind _ hrefs =>
    obtain ⟨hr1, hr2⟩ := h.rules p0 (findPolicy_some hfind).1
    refine wf_setRules h hfind _ ⟨?_, ?_⟩
    · have : rids (p0.rules.map fun x => if x.id == rid then { r with id := rid, rev := x.rev + 1 } else x) =
          rids p0.rules := map_key_map _ fun x => by split <;> simp_all
      rw [this]; exact hr1
    · intro x hx
      obtain ⟨y, hy, e⟩ := List.mem_map.mp hx
      rw [← e]
      split
      · exact hrefs
      · exact hr2 y hy
  | @deleteRule pid rid p0 hfind _ =>
    obtain ⟨hr1, hr2⟩ := h.rules p0 (findPolicy_some hfind).1
    exact wf_setRules h hfind _ ⟨(List.Sublist.map _ List.filter_sublist).nodup hr1,
      fun x hx => hr2 x (List.mem_filter.mp hx).1⟩

theorem run_wf : ∀ (cs : List Call) (S S' : Store), WF S → run S cs = some S' → WF S' :=
  fun cs S S' h hr => run_inv (Q := fun _ => True) (fun h _ he => exec_wf h he) cs S S' h (fun _ _ => trivial) hr

/-- Policy ids stay distinct under every accepted call, whatever else the store holds. -/
theorem exec_pids_nodup {S S' : Store} {c : Call} (h : (pids S.policies).Nodup) (hex : exec S c = .ok S') :
    (pids S'.policies).Nodup := by
  cases step_of_exec hex with
  | @putPolicy id rules hnot _ _ =>
    show (pids (S.policies ++ [⟨id, rules⟩])).Nodup
    simp only [pids, List.map_append]
    exact ListFacts.nodup_snoc h fun hm => by rw [hasPolicy_iff.mpr hm] at hnot; cases hnot
  | deletePolicy _ => exact (List.Sublist.map _ List.filter_sublist).nodup h
  | putRule _ _ _ | patchRule _ _ _ | deleteRule _ _ =>
    simpa only [pids_setRules] using h
  | _ => exact h

theorem run_pids_nodup (cs : List Call) (S S' : Store) (h : (pids S.policies).Nodup) (hr : run S cs = some S') :
    (pids S'.policies).Nodup :=
  run_inv (Q := fun _ => True) (fun h _ he => exec_pids_nodup h he) cs S S' h (fun _ _ => trivial) hr

def Rule.compact (r : Rule) : Prop := compactJSON r.attrs.svcEntries = r.attrs.svcEntries

/-- The body of a call is in normal form: address lists without duplicates AND rules with compact inline service
entries (both, despite the name).  A `?action=remove` needs no condition: removing cannot create a duplicate. -/
def Call.addrsOk : Call → Prop
  | .putGroup _ _ _ a => a.Nodup
  | .patchExpr _ _ _ a => a.Nodup
  | .postAddrs _ _ true a => a.Nodup
  | .putRule _ _ r => r.compact
  | .patchRule _ _ r => r.compact
  | .putPolicy _ rs => ∀ r ∈ rs, r.compact
  | _ => True

def AddrsNodup (S : Store) : Prop := ∀ g ∈ S.groups, g.addrs.Nodup

/-- The strict manager keeps address lists duplicate-free (it refuses to add what is there). -/
theorem exec_addrs {S S' : Store} {c : Call} (hw : WF S) (h : AddrsNodup S) (hc : c.addrsOk)
    (hex : exec S c = .ok S') : AddrsNodup S' := by
  have regroup : ∀ (gid : String) (f : Group → Group), (∀ g ∈ S.groups, g.id = gid → (f g).addrs.Nodup) →
      AddrsNodup { S with groups := setGroupAddrs S.groups gid f } := by
    intro gid f hf g' hg'
    obtain ⟨g, hg, ⟨hid, e⟩ | ⟨_, e⟩⟩ := mem_setGroupAddrs hg'
    · rw [e]; exact hf g hg hid
    · rw [e]; exact h g hg
  cases step_of_exec hex with
  | putGroup _ _ =>
    intro g hg
    rcases List.mem_append.mp hg with hg | hg
    · exact h g hg
    · rw [List.mem_singleton.mp hg]; exact hc
  | @addAddrs gid addrs g0 hfind hnone =>
    refine regroup _ _ fun g hg hid => ?_
    have : g = g0 := Option.some.inj ((findGroup_mem_nodup hw.grp hg).symm.trans (hid ▸ hfind))
    subst this
    exact List.nodup_append.mpr ⟨h g hg, hc, fun a ha b hb e => hnone b hb (e ▸ ha)⟩
  | removeAddrs _ _ _ => exact regroup _ _ fun g hg _ => List.filter_sublist.nodup (h g hg)
  | patchExpr _ _ => exact regroup _ _ fun _ _ _ => hc
  | deleteGroup _ _ => exact fun g hg => h g (List.mem_filter.mp hg).1
  | _ => exact h

def AllCompact (S : Store) : Prop := ∀ p ∈ S.policies, managed p.id = true → ∀ r ∈ p.rules, r.compact

/-- The manager stores rules as they are sent: compact inline service entries stay compact. -/
theorem exec_compact {S S' : Store} {c : Call} (h : AllCompact S) (hc : c.addrsOk) (hex : exec S c = .ok S') :
    AllCompact S' := by
  have hset : ∀ (pid : String) (F : List Rule → List Rule), (∀ rs, (∀ r ∈ rs, r.compact) → ∀ r ∈ F rs, r.compact) →
      AllCompact { S with policies := setRules S.policies pid F } := by
    intro pid F hF p' hp' hm r hr
    obtain ⟨p, hp, ⟨_, e⟩ | ⟨_, e⟩⟩ := mem_setRules hp'
    · rw [e] at hr hm; exact hF p.rules (h p hp hm) r hr
    · rw [e] at hr hm; exact h p hp hm r hr
  cases step_of_exec hex with
  | putPolicy _ _ _ =>
    intro p hp hm r hr
    rcases List.mem_append.mp hp with hp | hp
    · exact h p hp hm r hr
    · rw [List.mem_singleton.mp hp] at hr; exact hc r hr
  | deletePolicy _ => exact fun p hp hm r hr => h p (List.mem_filter.mp hp).1 hm r hr
  | putRule _ _ _ =>
    refine hset _ _ fun rs hrs x hx => ?_
    rcases List.mem_append.mp hx with hx | hx
    · exact hrs x hx
    · rw [List.mem_singleton.mp hx]; exact hc
  | patchRule _ _ _ =>
    refine hset _ _ fun rs hrs x hx => ?_
    obtain ⟨y, hy, e⟩ := List.mem_map.mp hx
    rw [← e]
    split
    · exact hc
    · exact hrs y hy
  | deleteRule _ _ => exact hset _ _ fun rs hrs x hx => hrs x (List.mem_filter.mp hx).1
  | _ => exact h

def AOk (cs : List Call) : Prop := ∀ c ∈ cs, c.addrsOk

theorem AOk.append {a b : List Call} (h1 : AOk a) (h2 : AOk b) : AOk (a ++ b) := List.forall_mem_append.mpr ⟨h1, h2⟩

theorem AOk.nil : AOk [] := fun _ h => by cases h

theorem AOk.single {c : Call} (h : c.addrsOk) : AOk [c] := List.forall_mem_singleton.mpr h

theorem run_compact : ∀ (cs : List Call) (S S' : Store), AllCompact S → AOk cs → run S cs = some S' → AllCompact S' :=
  run_inv fun h hq he => exec_compact h hq he

theorem run_wf_addrs : ∀ (cs : List Call) (S S' : Store), WF S → AddrsNodup S → AOk cs → run S cs = some S' →
    WF S' ∧ AddrsNodup S' :=
  fun cs S S' h1 h2 => run_inv (P := fun X => WF X ∧ AddrsNodup X)
    (fun h hq he => ⟨exec_wf h.1 he, exec_addrs h.1 h.2 hq he⟩) cs S S' ⟨h1, h2⟩

theorem pages_go_flatten {α : Type} (n : Nat) (hn : n ≠ 0) : ∀ (fuel : Nat) (l : List α), l.length < fuel →
    (pages.go n fuel l).flatten = l := by
  intro fuel
  induction fuel with
  | zero => intro l h; omega
  | succ f ih =>
    intro l h
    unfold pages.go
    by_cases hl : l.length ≤ n
    · simp [hl]
    · simp only [hl, if_false, List.flatten_cons]
      rw [ih (l.drop n) (by simp [List.length_drop]; omega), List.take_append_drop]

theorem pages_flatten {α : Type} (n : Nat) (l : List α) : (pages n l).flatten = l := by
  unfold pages
  by_cases hn : n = 0
  · simp [hn]
  · simp only [hn, if_false]
    exact pages_go_flatten n hn _ l (by omega)

theorem flatMap_filter_pages {α : Type} (n : Nat) (l : List α) (q : α → Bool) :
    (pages n l).flatMap (·.filter q) = l.filter q := by
  rw [List.flatMap_def, ← List.filter_flatten, pages_flatten]

/-- Whatever the page size, `LoadDevice` sees the managed objects in the manager's order. -/
theorem loadPaged_eq (n : Nat) (S : Store) : loadPaged n S = load S := by
  unfold loadPaged load
  rw [flatMap_filter_pages, flatMap_filter_pages]

end NA.Nsx
