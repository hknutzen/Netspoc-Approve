import NA.Proofs.F1DevGroups
import NA.Proofs.F1Names
/-!
# F1: semantic invariant between the engine's marks and the strict device (object-groups)

`Sem e st d`: the device groups of the original configuration still exist; a group that is not `needed`
still has its original members; every `ready` target group carries a name whose device group exists, has
the target's members and is frozen (it is `needed` or was created by this run, so nothing edits it any
more); a target group that is not `ready` still carries its generated name, which does not exist yet.
The class K1 (`K1`, `k1Pre`, `k1Check`; used by NA/Proofs/F1EndToEnd.lean and the driver only) stands here because its decidable form is
built from those of this file.
-/
namespace NA.F1
open NA.AsaDev
open NA.Acl (Range)

def Frozen (e : Env) (st : St) (x : Name) : Prop := x ∈ st.gNeeded ∨ x ∉ D0 e

def BNames (e : Env) : List Name := e.b.groups.map (·.1)

structure WF (e : Env) : Prop where
  aNodup : ∀ g, (lookupD e.a.groups g).Nodup
  bNodup : ∀ g, (lookupD e.b.groups g).Nodup
  noEmptyName : "" ∉ D0 e
  /-- whenever the in-place edit can be taken, the passed script is a script for the two sorted member
  lists and does not delete and insert one member -/
  grpScripts : ∀ aN bN, aN ∈ D0 e → bN ∈ BNames e →
    (scriptStat (lookupD e.sc.grp (aN, bN))).1 + (scriptStat (lookupD e.sc.grp (aN, bN))).2 ≤ (e.bMembers bN).length →
    scriptOK (e.aMembers aN) (e.bMembers bN) (lookupD e.sc.grp (aN, bN)) 0 0 = true ∧
    ∀ m ∈ inssOf (e.bMembers bN) (lookupD e.sc.grp (aN, bN)), m ∉ delsOf (e.aMembers aN) (lookupD e.sc.grp (aN, bN))

/-- Decidable form of `WF` (evaluated by the driver on every case). -/
def wfB (e : Env) : Bool :=
  e.a.groups.all (fun p => decide p.2.Nodup) && e.b.groups.all (fun p => decide p.2.Nodup) &&
  !(D0 e).contains "" &&
  (D0 e).all fun aN => (BNames e).all fun bN =>
    !(decide ((scriptStat (lookupD e.sc.grp (aN, bN))).1 + (scriptStat (lookupD e.sc.grp (aN, bN))).2 ≤ (e.bMembers bN).length)) ||
    (scriptOK (e.aMembers aN) (e.bMembers bN) (lookupD e.sc.grp (aN, bN)) 0 0 &&
      (inssOf (e.bMembers bN) (lookupD e.sc.grp (aN, bN))).all fun m =>
        !(delsOf (e.aMembers aN) (lookupD e.sc.grp (aN, bN))).contains m)


def refsClosedB (e : Env) : Bool :=
  e.b.acls.all fun a => a.2.all fun l => l.refs.all (BNames e).contains


def RefsClosedB (e : Env) : Prop := ∀ n, ∀ l ∈ e.bLines n, ∀ g ∈ l.refs, g ∈ BNames e

/-- The bodies were split at their `$REF` placeholders: one more part than references. -/
def RefsMatchBody (ls : List Line) : Prop := ∀ l ∈ ls, l.refs.length + 1 = l.body.length


def refsMatchBodyB (ls : List Line) : Bool := ls.all fun l => l.refs.length + 1 == l.body.length

theorem RefsMatchBody.of_check {ls : List Line} (h : refsMatchBodyB ls = true) : RefsMatchBody ls := by
  intro l hl
  have := List.all_eq_true.mp h l hl
  simpa using this

/-- The class K1: device and target bind exactly one access list, at the same place; no routes; the passed
script of the pair keeps at least one line. -/
structure K1 (a b : Config) (sc : Scripts) (aAcl bAcl dir intf : Name) : Prop where
  abind : a.binds = [⟨aAcl, dir, intf⟩]
  bbind : b.binds = [⟨bAcl, dir, intf⟩]
  aroutes : a.routes = []
  broutes : b.routes = []
  hasEq : (lookupD sc.acl (aAcl, bAcl)).any (·.isEqual) = true


/-- The state in which `diffASAACLs` is called in class K1. -/
def k1Pre (e : Env) (st0 : St) (aAcl bAcl : Name) : St :=
  ({ st0 with bNeeded := [0], aName := (bAcl, aAcl) :: st0.aName }.hit "acl:incremental").hit
    (planCheck e { st0 with bNeeded := [0] } aAcl bAcl (lookupD e.sc.acl (aAcl, bAcl)))


/-- Decidable form of all hypotheses of the end-to-end theorem of class K1 (counted by the driver). -/
def k1Check (a b : Config) (sc : Scripts) : Bool :=
  match a.binds, b.binds with
  | [x], [y] =>
    x.dir == y.dir && x.intf == y.intf && a.routes.isEmpty && b.routes.isEmpty &&
    (lookupD sc.acl (x.acl, y.acl)).any (·.isEqual) &&
    wfB ⟨a, b, sc⟩ && refsClosedA ⟨a, b, sc⟩ && refsClosedB ⟨a, b, sc⟩ &&
    decide (a.acls.map (·.1)).Nodup && decide (a.groups.map (·.1)).Nodup &&
    refsMatchBodyB ((⟨a, b, sc⟩ : Env).aLines x.acl) && refsMatchBodyB ((⟨a, b, sc⟩ : Env).bLines y.acl) &&
    (a.acls.map (·.1)).contains x.acl &&
    scriptOK (((⟨a, b, sc⟩ : Env).aLines x.acl).map (·.body)) (((⟨a, b, sc⟩ : Env).bLines y.acl).map (·.body))
      (lookupD sc.acl (x.acl, y.acl)) 0 0 &&
    planCheck ⟨a, b, sc⟩ (k1Pre ⟨a, b, sc⟩ (generateNames ⟨a, b, sc⟩ {}) x.acl y.acl) x.acl y.acl
      (lookupD sc.acl (x.acl, y.acl)) == "hyp:ok"
  | _, _ => false

structure Sem (e : Env) (st : St) (d : Dev) : Prop where
  mode : ModeRel st d
  dev : ∀ g ∈ D0 e, hasGroup d g = true
  untouched : ∀ g ∈ D0 e, g ∉ st.gNeeded → membersOf d g = lookupD e.a.groups g
  ready : ∀ bN ∈ st.gReady, hasGroup d (st.gNameOf bN) = true ∧
    (membersOf d (st.gNameOf bN)).Perm (lookupD e.b.groups bN) ∧ Frozen e st (st.gNameOf bN)
  unready : ∀ bN ∈ BNames e, bN ∉ st.gReady →
    st.gNameOf bN = genName bN (D0 e) ∧ hasGroup d (genName bN (D0 e)) = false

structure GStep (e : Env) (st : St) (d : Dev) (st' : St) (d' : Dev) : Prop where
  sem : Sem e st' d'
  out : ∃ cs, st'.out = st.out ++ cs ∧ exec d cs = some d'
  stable : ∀ x, hasGroup d x = true → Frozen e st x → membersOf d' x = membersOf d x
  hasMono : ∀ x, hasGroup d x = true → hasGroup d' x = true
  grow : ∀ x ∈ st.gNeeded, x ∈ st'.gNeeded
  readyMono : ∀ g ∈ st.gReady, g ∈ st'.gReady
  acls : d'.acls = d.acls
  binds : d'.binds = d.binds
  routes : d'.routes = d.routes
  intfs : d'.intfs = d.intfs

theorem name_beq_self (x : Name) : (x == x) = true := beq_iff_eq.mpr rfl

theorem Frozen.mono {e : Env} {st st' : St} {x : Name} (h : Frozen e st x) (hg : ∀ y ∈ st.gNeeded, y ∈ st'.gNeeded) :
    Frozen e st' x :=
  Or.imp_left (hg x) h

theorem GStep.refl {e : Env} {st : St} {d : Dev} (h : Sem e st d) : GStep e st d st d :=
  ⟨h, out_refl d rfl, fun _ _ _ => rfl, fun _ h => h, fun _ h => h, fun _ h => h, rfl, rfl, rfl, rfl⟩

theorem GStep.trans {e : Env} {s1 s2 s3 : St} {d1 d2 d3 : Dev} (h1 : GStep e s1 d1 s2 d2) (h2 : GStep e s2 d2 s3 d3) :
    GStep e s1 d1 s3 d3 := by
  refine ⟨h2.sem, out_trans h1.out h2.out, ?_, ?_, ?_, ?_,
    h2.acls.trans h1.acls, h2.binds.trans h1.binds, h2.routes.trans h1.routes, h2.intfs.trans h1.intfs⟩
  · intro x hx hf
    rw [h2.stable x (h1.hasMono x hx) (hf.mono h1.grow), h1.stable x hx hf]
  · exact fun x hx => h2.hasMono x (h1.hasMono x hx)
  · exact fun x hx => h2.grow x (h1.grow x hx)
  · exact fun x hx => h2.readyMono x (h1.readyMono x hx)

theorem gNameOf_head {s : St} {bN aN : Name} {gn : List (Name × Name)} (hs : s.gName = (bN, aN) :: gn) :
    s.gNameOf bN = aN := by
  simp only [St.gNameOf, hs, List.lookup, name_beq_self, Option.getD_some]

theorem gNameOf_tail {s st : St} {bN aN g : Name} (hs : s.gName = (bN, aN) :: st.gName) (h : g ≠ bN) :
    s.gNameOf g = st.gNameOf g := by
  simp only [St.gNameOf, hs, List.lookup, beq_eq_false_iff_ne.mpr h]

/-! ## A target group becomes ready under a device name

All three ways in which a target group gets its device group — an equal device group is adopted (`findGroup`), a new
group is created (`transferGroup`), a device group is edited in place (`equalizedGroups`) — are the same step: the
bookkeeping claims a device name `X` for the target group `bN` (`Claim`), the device changes at most in group `X`
(`GrpUpd`), and `X` then holds the target's members.  `GStep.claim` is that step. -/

structure GrpUpd (d d' : Dev) (X : Name) : Prop where
  has : ∀ g, hasGroup d' g = (X == g || hasGroup d g)
  others : ∀ g, g ≠ X → membersOf d' g = membersOf d g
  acls : d'.acls = d.acls
  binds : d'.binds = d.binds
  routes : d'.routes = d.routes
  intfs : d'.intfs = d.intfs

theorem GrpUpd.refl {d : Dev} {X : Name} (hX : hasGroup d X = true) : GrpUpd d d X :=
  ⟨or_has hX, fun _ _ => rfl, rfl, rfl, rfl, rfl⟩

theorem OnlyGroup.grpUpd {d d' : Dev} {X : Name} (h : OnlyGroup d d' X) (hX : hasGroup d X = true) : GrpUpd d d' X :=
  ⟨fun g => (h.has g).trans (or_has hX g), h.others, h.acls, h.binds, h.routes, h.intfs⟩

structure Claim (e : Env) (st st' : St) (bN X : Name) : Prop where
  grow : ∀ x ∈ st.gNeeded, x ∈ st'.gNeeded
  frozen : Frozen e st' X
  ready : ∀ g, g ∈ st'.gReady ↔ g = bN ∨ g ∈ st.gReady
  name : st'.gNameOf bN = X
  names : ∀ g, g ≠ bN → st'.gNameOf g = st.gNameOf g

theorem Claim.adopt {e : Env} {st st' : St} {bN aN : Name} (h1 : st'.gNeeded = addSet aN st.gNeeded)
    (h2 : st'.gName = (bN, aN) :: st.gName) (h3 : ∀ g, g ∈ st'.gReady ↔ g = bN ∨ g ∈ st.gReady) : Claim e st st' bN aN :=
  ⟨fun _ hx => h1 ▸ mem_addSet.mpr (Or.inr hx), Or.inl (h1 ▸ mem_addSet.mpr (Or.inl rfl)), h3, gNameOf_head h2,
   fun _ hg => gNameOf_tail h2 hg⟩

/-- The step: `X` was not a frozen group of the device before (so no `ready` target group sits on it), it is a group of
the original configuration or the name generated for `bN`, and it holds the target's members afterwards. -/
theorem GStep.claim {e : Env} {st st' : St} {d d' : Dev} {bN X : Name} (h : Sem e st d) (c : Claim e st st' bN X)
    (u : GrpUpd d d' X) (hout : ∃ cs, st'.out = st.out ++ cs ∧ exec d cs = some d') (hm : ModeRel st' d')
    (hX : (membersOf d' X).Perm (lookupD e.b.groups bN)) (hfresh : ¬ (hasGroup d X = true ∧ Frozen e st X))
    (hkind : X ∈ D0 e ∨ X = genName bN (D0 e)) : GStep e st d st' d' := by
  have mono : ∀ g, hasGroup d g = true → hasGroup d' g = true := fun g hg => by rw [u.has, hg, Bool.or_true]
  refine ⟨⟨hm, fun g hg => mono g (h.dev g hg), ?_, ?_, ?_⟩, hout, fun x hx hf => u.others x fun e1 => hfresh ⟨e1 ▸ hx, e1 ▸ hf⟩,
    mono, c.grow, fun g hg => (c.ready g).mpr (Or.inr hg), u.acls, u.binds, u.routes, u.intfs⟩
  · intro g hg hn
    have e1 : g ≠ X := fun e1 => c.frozen.elim (fun h1 => hn (e1 ▸ h1)) (fun h1 => h1 (e1 ▸ hg))
    rw [u.others g e1]; exact h.untouched g hg (fun hx => hn (c.grow g hx))
  · intro g hg
    by_cases e1 : g = bN
    · rw [e1, c.name]; exact ⟨by rw [u.has, name_beq_self, Bool.true_or], hX, c.frozen⟩
    · obtain ⟨r1, r2, r3⟩ := h.ready g (((c.ready g).mp hg).resolve_left e1)
      rw [c.names g e1]
      have hx : st.gNameOf g ≠ X := fun e2 => hfresh ⟨e2 ▸ r1, e2 ▸ r3⟩
      exact ⟨mono _ r1, by rw [u.others _ hx]; exact r2, r3.mono c.grow⟩
  · intro g hgB hg
    have e1 : g ≠ bN := fun e1 => hg ((c.ready g).mpr (Or.inl e1))
    obtain ⟨u1, u2⟩ := h.unready g hgB (fun hx => hg ((c.ready g).mpr (Or.inr hx)))
    rw [c.names g e1]
    refine ⟨u1, ?_⟩
    have hx : X ≠ genName g (D0 e) := fun e2 =>
      hkind.elim (fun h1 => genName_fresh g (D0 e) (e2 ▸ h1)) (fun h1 => e1 (genName_injective (h1.symm.trans e2)).symm)
    rw [u.has, u2, Bool.or_false, beq_eq_false_iff_ne]; exact hx

theorem findGroup_gstep (e : Env) (st : St) (d : Dev) (h : Sem e st d) (bN : Name) :
    GStep e st d (findGroup e st bN) d := by
  cases findGroup_result e st bN with
  | unchanged he => rw [he]; exact GStep.refl h
  | adopted aN hdev hfree hnr hsame hst =>
    rw [hst]
    exact GStep.claim h (Claim.adopt rfl rfl fun _ => List.mem_cons) (GrpUpd.refl (h.dev aN hdev)) (out_refl d rfl) h.mode
      (by rw [h.untouched aN hdev hfree]; exact hsame) (fun hx => hx.2.elim hfree fun h1 => h1 hdev) (Or.inl hdev)

theorem genName_ne_empty (base : Name) (dev : List Name) : genName base dev ≠ "" := by
  intro h
  have := congrArg String.toList h
  unfold genName at this
  rw [drcName_toList] at this
  simp at this

theorem mems_exec (n : Name) : ∀ (ms : List String) (d : Dev), d.mode = some n → hasGroup d n = true →
    (membersOf d n ++ ms).Nodup →
    ∃ d', exec d (ms.map Chg.mem) = some d' ∧ d'.mode = some n ∧ membersOf d' n = membersOf d n ++ ms ∧ OnlyGroup d d' n := by
  intro ms
  induction ms with
  | nil => intro d hm _ _; exact ⟨d, exec_nil d, hm, (List.append_nil _).symm, OnlyGroup.refl d n⟩
  | cons m ms ih =>
    intro d hm hg hnd
    have hnot : (membersOf d n).contains m = false := by
      simpa using fun hmem => (List.nodup_append.mp hnd).2.2 m hmem m List.mem_cons_self rfl
    have e1 := exec1_memChg (op := (true, m)) hm (by simp only [applyMem, hnot]; rfl)
    obtain ⟨d', he, hm', hmem, hog⟩ := ih { d with groups := setAssoc d.groups n (membersOf d n ++ [m]) } hm
      (by rw [hasGroup_setGroup, name_beq_self, Bool.true_or])
      (by rw [membersOf_setGroup_self, List.append_assoc]; exact hnd)
    refine ⟨d', ?_, hm', ?_, (OnlyGroup.of_setGroup d n _ _ hg).trans hog⟩
    · rw [List.map_cons, exec_cons]; simp only [step, memChg] at e1 ⊢; rw [e1]; exact he
    · rw [hmem, membersOf_setGroup_self, List.append_assoc]; rfl

theorem newGroup_exec (d : Dev) (n : Name) (ms : List String) (hno : hasGroup d n = false) (hnd : ms.Nodup) :
    ∃ d', exec d (Chg.grp n :: ms.map Chg.mem) = some d' ∧ d'.mode = some n ∧ membersOf d' n = ms ∧ GrpUpd d d' n := by
  have e0 : exec1 d (.grp n) = .ok { d with groups := setAssoc d.groups n [], mode := some n } := by
    simp only [exec1, hno, Bool.false_eq_true, if_false]
    rw [setAssoc_eq]
    have : d.groups.any (·.1 == n) = false := hno
    simp [this]
  obtain ⟨d', he, hm', hmem, hog⟩ := mems_exec n ms { d with groups := setAssoc d.groups n [], mode := some n } rfl
    (by rw [hasGroup_setGroup, name_beq_self, Bool.true_or]) (by rw [membersOf_setGroup_self]; exact hnd)
  rw [membersOf_setGroup_self] at hmem
  refine ⟨d', ?_, hm', hmem, fun g => by rw [hog.has g, hasGroup_setGroup],
    fun g hg => (hog.others g hg).trans (membersOf_setGroup_ne d n g _ _ hg), hog.acls, hog.binds, hog.routes, hog.intfs⟩
  rw [exec_cons]
  simp only [step, e0, Option.bind_some]
  exact he

theorem transferGroup_gstep (e : Env) (hw : WF e) (st : St) (d : Dev) (h : Sem e st d) (bN : Name) (hb : bN ∈ BNames e) :
    ∃ d', GStep e st d (transferGroup e st bN) d' := by
  unfold transferGroup
  by_cases hr : st.gReady.contains bN = true
  · rw [if_pos hr]; exact ⟨d, GStep.refl h⟩
  · rw [if_neg hr]
    obtain ⟨hname, hno⟩ := h.unready bN hb (by simpa using hr)
    rw [hname]
    obtain ⟨d', he, hm', hmem, hu⟩ := newGroup_exec d _ (e.bMembers bN) hno (sortS_nodup (hw.bNodup bN))
    exact ⟨d', GStep.claim h ⟨fun _ hx => hx, Or.inr (genName_fresh bN (D0 e)), fun _ => List.mem_cons, hname, fun _ _ => rfl⟩ hu
      ⟨_, rfl, he⟩ (modeRel_of_mode rfl hm' (genName_ne_empty bN (D0 e))) (hmem ▸ sortS_perm _)
      (fun hx => by rw [hno] at hx; exact absurd hx.1 (by simp)) (Or.inr rfl)⟩

theorem gstep_hit {e : Env} {st st' : St} {d d' : Dev} (h : GStep e st d st' d') (x : String) : GStep e st d (st'.hit x) d' :=
  ⟨⟨h.sem.mode, h.sem.dev, h.sem.untouched, h.sem.ready, h.sem.unready⟩, h.out, h.stable, h.hasMono, h.grow,
   h.readyMono, h.acls, h.binds, h.routes, h.intfs⟩

theorem equalizedGroups_gstep (e : Env) (hw : WF e) (st : St) (d : Dev) (h : Sem e st d) (aN bN : Name)
    (ha : aN ∈ D0 e) (hb : bN ∈ BNames e) : ∃ d', GStep e st d (equalizedGroups e st aN bN).1 d' := by
  refine equalizedGroups_cases e st aN bN (fun r => ∃ d', GStep e st d r.1 d') (fun _ _ => ⟨d, gstep_hit (GStep.refl h) _⟩)
    (fun _ _ => ⟨d, gstep_hit (findGroup_gstep e st d h bN) _⟩) (fun _ _ _ => ⟨d, gstep_hit (findGroup_gstep e st d h bN) _⟩)
    (fun _ _ => ⟨d, gstep_hit (GStep.refl h) _⟩) fun hnot hbig st2 hst2 hmarks => ?_
  -- the in-place edit: the device group still has its original members, the script is one for them
  have hnot' : aN ∉ st.gNeeded := by simpa using hnot
  obtain ⟨hv, hdisj⟩ := hw.grpScripts aN bN ha hb (Nat.le_of_not_lt hbig)
  obtain ⟨cs, d', ho, he, hm', hmem, hog⟩ := editMembers_converges
    { st with gNeeded := addSet aN st.gNeeded, gName := (bN, aN) :: st.gName } d aN
    (e.aMembers aN) (e.bMembers bN) (lookupD e.sc.grp (aN, bN)) (fun e1 => hw.noEmptyName (e1 ▸ ha)) h.mode (h.dev aN ha) hv
    (sortS_nodup (hw.aNodup aN)) (sortS_nodup (hw.bNodup bN))
    (by rw [h.untouched aN ha hnot']; exact (sortS_perm _).symm) hdisj
  rw [← hst2] at ho hm'
  exact ⟨d', gstep_hit (GStep.claim (st' := { st2 with gReady := addSet bN st2.gReady }) h
    (Claim.adopt hmarks.gNeeded hmarks.gName fun g => by show g ∈ addSet bN st2.gReady ↔ _; rw [hmarks.gReady]; exact mem_addSet)
    (hog.grpUpd (h.dev aN ha)) ⟨cs, ho, he⟩ hm' (hmem.trans (sortS_perm _))
    (fun hx => hx.2.elim hnot' fun h1 => h1 ha) (Or.inl ha)) _⟩

theorem lookupD_nodup (m : List (Name × List String)) (h : m.all (fun p => decide p.2.Nodup) = true) (g : Name) :
    (lookupD m g).Nodup := by
  unfold lookupD
  cases hl : m.lookup g with
  | none => simp [default]
  | some v =>
    have hm := mem_of_lookup hl
    rw [List.all_eq_true] at h
    simpa using h _ hm

theorem WF.of_check {e : Env} (h : wfB e = true) : WF e := by
  unfold wfB at h
  simp only [Bool.and_eq_true] at h
  obtain ⟨⟨⟨h1, h2⟩, h3⟩, h4⟩ := h
  refine ⟨lookupD_nodup _ h1, lookupD_nodup _ h2,
    fun hm => by rw [List.contains_iff_mem.mpr hm] at h3; exact Bool.false_ne_true h3, ?_⟩
  intro aN bN ha hb hsmall
  have h6 := List.all_eq_true.mp (List.all_eq_true.mp h4 aN ha) bN hb
  simp only [Bool.or_eq_true, Bool.not_eq_true', decide_eq_false_iff_not, Bool.and_eq_true] at h6
  rcases h6 with h6 | h6
  · exact absurd hsmall h6
  · refine ⟨h6.1, ?_⟩
    intro m hm
    have := List.all_eq_true.mp h6.2 m hm
    simpa using this

theorem RefsClosedB.of_check {e : Env} (h : refsClosedB e = true) : RefsClosedB e := refsClosed_of_check h

theorem bLines_getD_refs (e : Env) (hB : RefsClosedB e) (bN : Name) (bi : Nat) :
    ∀ g ∈ ((e.bLines bN).getD bi default).refs, g ∈ BNames e :=
  getD_refs (hB bN) bi

theorem hasGroup_ofConfig (a : Config) (g : Name) : hasGroup (ofConfig a) g = true ↔ g ∈ a.groups.map (·.1) := by
  simp only [hasGroup, ofConfig, List.any_eq_true, List.mem_map, beq_iff_eq]

theorem sem_init (a b : Config) (sc : Scripts) (st : St) (managed : List Nat)
    (h : checkInterfaces ⟨a, b, sc⟩ {} = some (st, managed)) :
    Sem ⟨a, b, sc⟩ (generateNames ⟨a, b, sc⟩ st) (ofConfig a) := by
  obtain ⟨_, o2, _, hmode, _⟩ := checkInterfaces_init _ st managed h
  refine ⟨?_, ?_, ?_, ?_, ?_⟩
  · unfold ModeRel
    show (ofConfig a).mode = if st.mode = "" then none else some st.mode
    rw [hmode]; rfl
  · intro g hg; exact (hasGroup_ofConfig a g).mpr hg
  · intro g _ _; rfl
  · intro g hg
    have : (generateNames ⟨a, b, sc⟩ st).gReady = st.gReady := rfl
    rw [this, o2] at hg; simp at hg
  · intro bN hbN _
    have hn : (generateNames ⟨a, b, sc⟩ st).gNameOf bN = genName bN (a.groups.map (·.1)) := by
      unfold St.gNameOf generateNames
      rw [lookup_map_gen (fun n => genName n (a.groups.map (·.1))) bN b.groups hbN]
      rfl
    refine ⟨hn, ?_⟩
    cases hh : hasGroup (ofConfig a) (genName bN (D0 ⟨a, b, sc⟩))
    · rfl
    · exact absurd ((hasGroup_ofConfig a _).mp hh) (genName_fresh bN _)

end NA.F1
