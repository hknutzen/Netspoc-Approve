import NA.Proofs.C03GrpInv
/-
C03, vsys pairs with address-groups: once every group of a target list has a name on the device (`GSettled`), later
steps (`GMono`) no longer change what the list is called there (`adaptL`).  Core Lean only.
-/
namespace NA.PanOs

/-- The name under which the device knows (or will know) a member of a target list. -/
def adapt1 (st : St) (x : String) : String :=
  match st.bGrpIdx x with
  | some gbi => (st.bGrp[gbi]?.map (·.onDev)).getD x
  | none => x

theorem adapt1_of_idx {st : St} {x : String} {gbi : Nat} {gb : BGrp} (h : st.bGrpIdx x = some gbi)
    (hgb : st.bGrp[gbi]? = some gb) : adapt1 st x = gb.onDev := by
  unfold adapt1; rw [h]; dsimp only; rw [hgb]; rfl

def adaptL (st : St) (l : List String) : List String := l.map (adapt1 st)

def GSettled (st : St) (l : List String) : Prop :=
  ∀ x ∈ l, ∀ gbi, st.bGrpIdx x = some gbi → ∃ gb, st.bGrp[gbi]? = some gb ∧ gb.onDev ≠ ""

theorem GSettled.of_plain {st : St} {l : List String} (h : ∀ y ∈ l, st.bGrpIdx y = none) : GSettled st l := by
  intro y hy gbi hgbi
  rw [h y hy] at hgbi
  cases hgbi

theorem adapt1_mono {st st' : St} (h : GMono st st') {x : String}
    (hs : ∀ gbi, st.bGrpIdx x = some gbi → ∃ gb, st.bGrp[gbi]? = some gb ∧ gb.onDev ≠ "") :
    adapt1 st' x = adapt1 st x := by
  unfold adapt1
  rw [h.bIdx]
  cases hx : st.bGrpIdx x with
  | none => rfl
  | some gbi =>
    obtain ⟨gb, hgb, hne⟩ := hs gbi hx
    obtain ⟨gb', hgb', _⟩ := h.bget hgb
    simp only [hgb, hgb', Option.map_some, Option.getD_some]
    exact (h.bo gbi gb gb' hgb hgb' hne).1

theorem adaptL_mono {st st' : St} (h : GMono st st') {l : List String} (hs : GSettled st l) :
    adaptL st' l = adaptL st l := by
  unfold adaptL
  apply List.map_congr_left
  intro x hx
  exact adapt1_mono h (hs x hx)

theorem GSettled.mono {st st' : St} (h : GMono st st') {l : List String} (hs : GSettled st l) : GSettled st' l := by
  intro x hx gbi hgbi
  rw [h.bIdx] at hgbi
  obtain ⟨gb, hgb, hne⟩ := hs x hx gbi hgbi
  obtain ⟨gb', hgb', _⟩ := h.bget hgb
  exact ⟨gb', hgb', by rw [(h.bo gbi gb gb' hgb hgb' hne).1]; exact hne⟩

theorem bGrp_of_idx {st : St} {x : String} {gbi : Nat} (h : st.bGrpIdx x = some gbi) :
    ∃ gb, st.bGrp[gbi]? = some gb ∧ gb.g.name = x :=
  lastIdx_map_get (l := st.bGrp) (f := (·.g.name)) h

theorem aGrp_of_idx {st : St} {x : String} {gai : Nat} (h : st.aGrpIdx x = some gai) :
    ∃ ga, st.aGrp[gai]? = some ga ∧ ga.g.name = x :=
  lastIdx_map_get (l := st.aGrp) (f := (·.g.name)) h

end NA.PanOs
