import NA.Proofs.VpnGraphTargets
import NA.Proofs.VpnGraphCleanup
/-!
Frame (C07), whole run: the targets of the clean-up are the pending deletions; an object outside the
reference-closed set `R`, not a new name and not a pending deletion keeps its definition on every strict
device that accepts the script.  Untagged objects outside `R` are never pending deletions.
-/
namespace NA.Vpn.G

theorem insertD_eq : insertD = ListFacts.insertBy delLe := by
  funext x l
  induction l with
  | nil => rfl
  | cons y ys ih => simp only [insertD, ListFacts.insertBy, ih]

theorem mem_foldr_insertD (p : DelObj) (l : List DelObj) : p ∈ l.foldr insertD [] ↔ p ∈ l := by
  rw [insertD_eq]; exact ListFacts.mem_isort

theorem mem_targets : ∀ (l : List Chg) (m : Mode) (r : Ref), r ∈ targets m l → ∃ c ∈ l, ∃ m', targetOf m' c = some r
  | [], _, _, h => nomatch h
  | c :: cs, m, r, h => by
    rcases List.mem_append.1 h with h | h
    · exact ⟨c, List.mem_cons_self, m, Option.mem_toList.1 h⟩
    · obtain ⟨c', hc', m', hm'⟩ := mem_targets cs _ r h
      exact ⟨c', List.mem_cons_of_mem _ hc', m', hm'⟩

theorem delLines_target (o : Obj) (m : Mode) : ∀ c ∈ delLines o, targetOf m c = some o.id := by
  unfold delLines Obj.id
  cases o.kind <;> exact fun c hc => List.mem_singleton.1 hc ▸ rfl

theorem delLines_ne (o : Obj) : delLines o ≠ [] := by
  unfold delLines
  cases o.kind <;> simp

theorem mem_pendingDel (st : St) (p : DelObj) (h : p ∈ pendingDel st) :
    ∃ o ∈ st.a, p.id = o.id ∧ p.lines = delLines o ∧ p.refs = o.refs ∧ eligible st o = true ∧ (stillSet st).contains o.id = false := by
  unfold pendingDel at h
  rw [mem_foldr_insertD] at h
  obtain ⟨o, ho, rfl⟩ := List.mem_map.1 h
  obtain ⟨hoa, hel⟩ := List.mem_filter.1 ho
  rw [Bool.and_eq_true, Bool.not_eq_true'] at hel
  exact ⟨o, hoa, rfl, rfl, rfl, hel⟩

theorem tail_targets (st : St) (m : Mode) (r : Ref)
    (h : r ∈ targets m ((if !(pendingDel st).isEmpty && st.mode.isSome then [Chg.exit] else []) ++
      delRounds ((pendingDel st).length + 1) (pendingDel st))) : ∃ p ∈ pendingDel st, p.id = r := by
  obtain ⟨c, hc, m', hm'⟩ := mem_targets _ _ r h
  rcases List.mem_append.1 hc with h1 | h1
  · split at h1
    · cases List.mem_singleton.1 h1
      cases hm'
    · cases h1
  · obtain ⟨p, hp, hcp⟩ := mem_delRounds _ _ c h1
    obtain ⟨o, _, hid, hl, _⟩ := mem_pendingDel st p hp
    rw [hl] at hcp
    rw [delLines_target o m' c hcp, Option.some.injEq] at hm'
    exact ⟨p, hp, hid.trans hm'⟩

theorem deleteUnused_out (st : St) :
    (deleteUnused st).out = st.out ++ ((if !(pendingDel st).isEmpty && st.mode.isSome then [Chg.exit] else []) ++
      delRounds ((pendingDel st).length + 1) (pendingDel st)) := by
  unfold deleteUnused
  dsimp only
  split
  · exact List.append_assoc st.out [Chg.exit] _
  · rfl

variable {R : Ref → Prop}

theorem unmanaged_untouched (a b : List Obj) (hc : Closed R a) (hanch : ∀ o ∈ a, o.anchor = true → R o.id)
    (hkk : ∀ x ∈ a, ∀ y ∈ b, ∀ sx ∈ x.secs, ∀ sy ∈ y.secs, KindByKey sx.subs sy.subs)
    (body : St) (hbody : ((diffAnchors (initSt a b) .tg).bind fun st => diffAnchors st .user) = some body)
    (d' : Dev) (hex : execAll { objs := a } (deleteUnused body).out = some d')
    (r : Ref) (hR : ¬ R r) (hnew : ∀ rb : Ref, r ≠ (rb.1, genOf (initSt a b).gen rb))
    (hpend : ∀ p ∈ pendingDel body, p.id ≠ r) :
    d'.obj r = ({ objs := a } : Dev).obj r := by
  have hb := body_targets a b hc hanch hkk body hbody
  have hf := execAll_frame _ _ _ hex
  apply hf.2 r
  rw [deleteUnused_out, targets_append]
  intro hm
  rcases List.mem_append.1 hm with h1 | h1
  · rcases hb.1 r h1 with h2 | ⟨rb, h2⟩
    · exact hR h2
    · exact hnew rb h2
  · obtain ⟨p, hp, hid⟩ := tail_targets body _ r h1
    exact hpend p hp hid

theorem untagged_not_pending (a b : List Obj) (hc : Closed R a) (hanch : ∀ o ∈ a, o.anchor = true → R o.id)
    (hkk : ∀ x ∈ a, ∀ y ∈ b, ∀ sx ∈ x.secs, ∀ sy ∈ y.secs, KindByKey sx.subs sy.subs)
    (body : St) (hbody : ((diffAnchors (initSt a b) .tg).bind fun st => diffAnchors st .user) = some body)
    (r : Ref) (hR : ¬ R r) (hdrc : ∀ o ∈ a, o.id = r → o.drc = false) :
    ∀ p ∈ pendingDel body, p.id ≠ r := by
  intro p hp hid
  have hb := body_targets a b hc hanch hkk body hbody
  obtain ⟨o, ho, hpo, _, _, hel, _⟩ := mem_pendingDel body p hp
  rw [hb.2.2.2] at ho
  have hor : o.id = r := hpo.symm.trans hid
  -- eligible and not tagged: marked `toDelete`, and those marks are in `R`
  simp only [eligible, hdrc o ho hor, Bool.or_false, Bool.and_eq_true, List.contains_iff_mem] at hel
  exact hR (hor ▸ hb.2.1 _ hel.1.2)

theorem chain_protected (st : St) (k : Obj) (hk : k ∈ st.a) (hkeep : (!st.isNeeded k.id && !eligible st k) = true)
    (n : Nat) (r : Ref) (hch : Chain st (n + 1) k.id r) (hn : n + 1 ≤ fuel) : r ∈ stillSet st :=
  (mem_foldl_iff (fun acc (o : Obj) => mem_stillFrom st r fuel acc o.id) _ []).2
    (Or.inr ⟨k, List.mem_filter.2 ⟨hk, hkeep⟩, n, hn, hch⟩)

theorem protected_not_pending (st : St) (r : Ref) (h : r ∈ stillSet st) : ∀ p ∈ pendingDel st, p.id ≠ r := by
  intro p hp hid
  obtain ⟨o, _, hpo, _, _, _, hns⟩ := mem_pendingDel st p hp
  rw [← hpo, hid, List.contains_iff_mem.2 h] at hns
  cases hns

/-- `S` contains, with every object of the device it lists, everything that object references -/
def closedB (S : List Ref) (a : List Obj) : Bool :=
  S.all fun r => match a.find? (fun o => o.id == r) with
    | some o => o.refs.all fun x => S.contains x
    | none => true

theorem closed_of_closedB (S : List Ref) (a : List Obj) (h : closedB S a = true) : Closed (fun r => r ∈ S) a := by
  intro r o hr ho x hx
  unfold closedB at h
  have h1 := (List.all_eq_true.1 h) r hr
  rw [ho] at h1
  exact List.contains_iff_mem.1 ((List.all_eq_true.1 h1) x hx)

def anchorsB (S : List Ref) (a : List Obj) : Bool := a.all fun o => !o.anchor || S.contains o.id

theorem anchors_of_anchorsB (S : List Ref) (a : List Obj) (h : anchorsB S a = true) :
    ∀ o ∈ a, o.anchor = true → (fun r => r ∈ S) o.id := by
  intro o ho han
  have := (List.all_eq_true.1 h) o ho
  rw [han] at this
  exact List.contains_iff_mem.1 this

end NA.Vpn.G
