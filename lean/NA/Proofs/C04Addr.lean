import NA.Model.NsxDiff
import NA.Proofs.C04Store
/-!
What an arbitrary VALID edit script says about two address lists (`addrDiff`), and the three branches of `groupCalls`
executed on the strict store.
-/
namespace NA.Nsx

theorem validFrom_nil {eq : Nat → Nat → Bool} {aLen bLen x y : Nat} :
    validFrom eq aLen bLen [] x y = true ↔ x = aLen ∧ y = bLen := by
  rw [validFrom, Bool.and_eq_true, beq_iff_eq, beq_iff_eq]

theorem validFrom_cons {eq : Nat → Nat → Bool} {aLen bLen : Nat} {r : Range} {rest : List Range} {x y : Nat}
    (h : validFrom eq aLen bLen (r :: rest) x y = true) :
    (r.isDelete = true ∧ r.lowA = x ∧ r.lowA ≤ r.highA ∧ validFrom eq aLen bLen rest r.highA y = true) ∨
    (r.isDelete = false ∧ r.isInsert = true ∧ r.lowB = y ∧ r.lowB ≤ r.highB ∧
      validFrom eq aLen bLen rest x r.highB = true) ∨
    (r.isDelete = false ∧ r.isInsert = false ∧ r.lowA = x ∧ r.lowB = y ∧ r.lowA ≤ r.highA ∧
      r.highB = r.lowB + (r.highA - r.lowA) ∧ (∀ i < r.highA - r.lowA, eq (r.lowA + i) (r.lowB + i) = true) ∧
      validFrom eq aLen bLen rest r.highA r.highB = true) := by
  rw [validFrom] at h
  cases hd : r.isDelete with
  | true => simp only [hd, if_true, Bool.and_eq_true, beq_iff_eq, decide_eq_true_eq] at h; exact Or.inl ⟨rfl, h.1.1, h.1.2, h.2⟩
  | false =>
    cases hi : r.isInsert with
    | true =>
      simp only [hd, hi, if_true, Bool.false_eq_true, if_false, Bool.and_eq_true, beq_iff_eq, decide_eq_true_eq] at h
      exact Or.inr (Or.inl ⟨rfl, rfl, h.1.1, h.1.2, h.2⟩)
    | false =>
      simp only [hd, hi, Bool.false_eq_true, if_false, Bool.and_eq_true, beq_iff_eq, decide_eq_true_eq,
        List.all_eq_true, List.mem_range] at h
      obtain ⟨⟨⟨⟨⟨h1, h2⟩, h3⟩, h4⟩, h5⟩, h6⟩ := h
      exact Or.inr (Or.inr ⟨rfl, rfl, h1, h2, h3, h4, h5, h6⟩)

theorem validFrom_le {eq : Nat → Nat → Bool} {aLen bLen : Nat} :
    ∀ (rs : List Range) (x y : Nat), validFrom eq aLen bLen rs x y = true → x ≤ aLen ∧ y ≤ bLen := by
  intro rs
  induction rs with
  | nil =>
    intro x y h
    obtain ⟨rfl, rfl⟩ := validFrom_nil.mp h
    exact ⟨Nat.le_refl _, Nat.le_refl _⟩
  | cons r rest ih =>
    intro x y h
    rcases validFrom_cons h with ⟨_, h1, h2, h3⟩ | ⟨_, _, h1, h2, h3⟩ | ⟨_, _, h1, h2, h3, h4, _, h6⟩
    · have := ih _ _ h3; omega
    · have := ih _ _ h3; omega
    · have := ih _ _ h6; omega

theorem length_take_drop {α : Type} (l : List α) {lo hi : Nat} (h : hi ≤ l.length) :
    ((l.drop lo).take (hi - lo)).length = hi - lo := by
  simp only [List.length_take, List.length_drop]; omega

theorem add_lt_of_lt_sub {lo hi n i : Nat} (h : i < hi - lo) (hn : hi ≤ n) : lo + i < n := by omega

theorem take_drop_eq_of_pointwise (a b : List String) (x y n : Nat) (ha : x + n ≤ a.length)
    (hb : y + n ≤ b.length) (h : ∀ i, (hi : i < n) → a[x + i]'(by omega) = b[y + i]'(by omega)) :
    (a.drop x).take n = (b.drop y).take n := by
  apply List.ext_getElem
  · simp [List.length_take, List.length_drop]; omega
  · intro i h1 h2
    simp [List.length_take, List.length_drop] at h1 h2
    have hi := h i (by omega)
    simp [List.getElem_take, List.getElem_drop]
    exact hi

theorem addrDiff_del (r : Range) (rest : List Range) (a b : List String) (h : r.isDelete = true) :
    addrDiff (r :: rest) a b =
      ((a.drop r.lowA).take (r.highA - r.lowA) ++ (addrDiff rest a b).1, (addrDiff rest a b).2) := by
  simp [addrDiff, h]

theorem addrDiff_ins (r : Range) (rest : List Range) (a b : List String) (h : r.isDelete = false)
    (h2 : r.isInsert = true) :
    addrDiff (r :: rest) a b =
      ((addrDiff rest a b).1, (b.drop r.lowB).take (r.highB - r.lowB) ++ (addrDiff rest a b).2) := by
  simp [addrDiff, h, h2]

theorem addrDiff_eq (r : Range) (rest : List Range) (a b : List String) (h : r.isDelete = false)
    (h2 : r.isInsert = false) : addrDiff (r :: rest) a b = addrDiff rest a b := by
  simp [addrDiff, h, h2]

theorem addrDiff_perm (a b : List String) (eq : Nat → Nat → Bool)
    (heq : ∀ i j (hi : i < a.length) (hj : j < b.length), eq i j = true → a[i] = b[j]) :
    ∀ (rs : List Range) (x y : Nat),
      validFrom eq a.length b.length rs x y = true →
      ∃ kept, (a.drop x).Perm (kept ++ (addrDiff rs a b).1) ∧ (b.drop y).Perm (kept ++ (addrDiff rs a b).2) := by
  intro rs
  induction rs with
  | nil =>
    intro x y h
    obtain ⟨rfl, rfl⟩ := validFrom_nil.mp h
    refine ⟨[], ?_, ?_⟩ <;> simp [addrDiff]
  | cons r rest ih =>
    intro x y h
    rcases validFrom_cons h with ⟨hd, h1, h2, h3⟩ | ⟨hd, hi, h1, h2, h3⟩ | ⟨hd, hi, h1, h2, h3, h4, h5, h6⟩
    · obtain ⟨kept, p1, p2⟩ := ih _ _ h3
      rw [addrDiff_del r rest a b hd]
      refine ⟨kept, ?_, p2⟩
      subst h1
      refine List.Perm.trans (List.Perm.of_eq (ListFacts.drop_split a h2)) ?_
      refine (List.Perm.append_left _ p1).trans ?_
      simp only [← List.append_assoc]
      exact List.Perm.append_right _ List.perm_append_comm
    · obtain ⟨kept, p1, p2⟩ := ih _ _ h3
      rw [addrDiff_ins r rest a b hd hi]
      refine ⟨kept, p1, ?_⟩
      subst h1
      refine List.Perm.trans (List.Perm.of_eq (ListFacts.drop_split b h2)) ?_
      refine (List.Perm.append_left _ p2).trans ?_
      simp only [← List.append_assoc]
      exact List.Perm.append_right _ List.perm_append_comm
    · obtain ⟨kept, p1, p2⟩ := ih _ _ h6
      have hle' := validFrom_le _ _ _ h6
      subst h1; subst h2
      have hka : (a.drop r.lowA).take (r.highA - r.lowA) = (b.drop r.lowB).take (r.highA - r.lowA) :=
        take_drop_eq_of_pointwise a b r.lowA r.lowB (r.highA - r.lowA) (by omega) (by omega) (by
          intro i hi'
          exact heq _ _ (by omega) (by omega) (h5 i hi'))
      rw [addrDiff_eq r rest a b hd hi]
      refine ⟨(a.drop r.lowA).take (r.highA - r.lowA) ++ kept, ?_, ?_⟩
      · refine List.Perm.trans (List.Perm.of_eq (ListFacts.drop_split a h3)) ?_
        rw [List.append_assoc]
        exact List.Perm.append_left _ p1
      · have hb : r.highB - r.lowB = r.highA - r.lowA := by omega
        refine List.Perm.trans (List.Perm.of_eq (ListFacts.drop_split (hi := r.highB) b (show r.lowB ≤ r.highB by omega))) ?_
        rw [List.append_assoc, hka, hb]
        exact List.Perm.append_left _ p2

theorem addrDiff_of_valid (diff : Diff) (hdiff : ∀ n m eq, validScript n m eq (diff n m eq) = true)
    (a b : List String) :
    ∃ kept, a.Perm (kept ++ (addrDiff (diff a.length b.length fun i j => a[i]! == b[j]!) a b).1) ∧
      b.Perm (kept ++ (addrDiff (diff a.length b.length fun i j => a[i]! == b[j]!) a b).2) := by
  have h := addrDiff_perm a b (fun i j => a[i]! == b[j]!) (fun i j hi hj h => by
    rw [getElem!_pos a i hi, getElem!_pos b j hj] at h
    simpa using h) _ 0 0 (hdiff a.length b.length _)
  simpa only [List.drop_zero] using h

theorem run_removeAddrs {S : Store} {gid : String} {g : Group} {rm : List String}
    (hfind : findGroup S.groups gid = some g) (hall : ∀ x ∈ rm, x ∈ g.addrs)
    (hne : rm ≠ [] → ∃ x ∈ g.addrs, x ∉ rm) :
    run S (if rm.isEmpty then [] else [.postAddrs gid g.exprId false rm]) =
      some { S with groups := setGroupAddrs S.groups gid fun g => { g with addrs := g.addrs.filter (!rm.contains ·) } } := by
  cases rm with
  | nil =>
    rw [setGroupAddrs_eq_self fun g => by
      rw [List.filter_eq_self (p := (!([] : List String).contains ·)) |>.mpr fun _ _ => rfl]]
    rfl
  | cons x rest => exact run_single (exec_of_step (.removeAddrs hfind hall (hne (by simp))))

theorem run_addAddrs {S : Store} {gid : String} {g : Group} {ad : List String}
    (hfind : findGroup S.groups gid = some g) (hnew : ∀ x ∈ ad, x ∉ g.addrs) :
    run S (if ad.isEmpty then [] else [.postAddrs gid g.exprId true ad]) =
      some { S with groups := setGroupAddrs S.groups gid fun g => { g with addrs := g.addrs ++ ad } } := by
  cases ad with
  | nil =>
    rw [setGroupAddrs_eq_self fun g => by rw [List.append_nil]]
    rfl
  | cons x rest => exact run_single (exec_of_step (.addAddrs hfind hnew))

/-- `ga` is the group as the planner sees it (addresses sorted), `g0` the group on the manager. -/
theorem groupCalls_converges (diff : Diff)
    (hdiff : ∀ n m eq, validScript n m eq (diff n m eq) = true)
    (S : Store) (ga gb g0 : Group) (hfind : findGroup S.groups ga.id = some g0)
    (he : g0.exprId = ga.exprId) (hp : g0.addrs.Perm ga.addrs)
    (hna : ga.addrs.Nodup) (hnb : gb.addrs.Nodup) (hbne : gb.addrs ≠ []) :
    ∃ S' f, run S (groupCalls diff ga gb) = some S' ∧
      S'.policies = S.policies ∧ S'.services = S.services ∧
      S'.groups = setGroupAddrs S.groups ga.id f ∧
      (∀ g, (f g).id = g.id ∧ (f g).exprId = g.exprId) ∧
      ∀ x, x ∈ (f g0).addrs ↔ x ∈ gb.addrs := by
  obtain ⟨kept, pa, pb⟩ := addrDiff_of_valid diff hdiff ga.addrs gb.addrs
  unfold groupCalls
  dsimp only
  generalize addrDiff _ ga.addrs gb.addrs = X at pa pb ⊢
  obtain ⟨rm, ad⟩ := X
  rw [← he]
  split
  · -- PATCH of the whole expression
    exact ⟨_, fun g => { g with rtype := gb.rtype, addrs := gb.addrs },
      run_single (exec_of_step (.patchExpr hfind hbne)), rfl, rfl, rfl, fun _ => ⟨rfl, rfl⟩, fun _ => Iff.rfl⟩
  · -- remove `rm`, then add `ad`; some address is kept
    rename_i hpatch
    have hkr : (kept ++ rm).Nodup := pa.nodup_iff.mp hna
    have hka : (kept ++ ad).Nodup := pb.nodup_iff.mp hnb
    have hmemA : ∀ x, x ∈ g0.addrs ↔ x ∈ kept ∨ x ∈ rm := fun x => by rw [hp.mem_iff, pa.mem_iff, List.mem_append]
    have hmemB : ∀ x, x ∈ gb.addrs ↔ x ∈ kept ∨ x ∈ ad := fun x => by rw [pb.mem_iff, List.mem_append]
    have hdisjR : ∀ x, x ∈ kept → x ∉ rm := fun x h1 h2 => (List.nodup_append.mp hkr).2.2 x h1 x h2 rfl
    have hdisjA : ∀ x, x ∈ kept → x ∉ ad := fun x h1 h2 => (List.nodup_append.mp hka).2.2 x h1 x h2 rfl
    have hmem1 : ∀ x, x ∈ g0.addrs.filter (!rm.contains ·) ↔ x ∈ kept := by
      intro x
      simp only [List.mem_filter, hmemA, List.contains_eq_mem, Bool.not_eq_eq_eq_not, Bool.not_true,
        decide_eq_false_iff_not]
      exact ⟨fun ⟨h, hn⟩ => h.resolve_right hn, fun h => ⟨Or.inl h, hdisjR x h⟩⟩
    have hkept : rm ≠ [] → ∃ x ∈ g0.addrs, x ∉ rm := by
      intro hrm
      have hlen : ga.addrs.length = kept.length + rm.length := by rw [pa.length_eq, List.length_append]
      have : kept ≠ [] := by
        rintro rfl
        apply hpatch
        have : 0 < rm.length := List.length_pos_iff.mpr hrm
        simp [hlen, this]
      obtain ⟨x, hx⟩ := List.exists_mem_of_ne_nil kept this
      exact ⟨x, (hmemA x).mpr (Or.inl hx), hdisjR x hx⟩
    let fr : Group → Group := fun g => { g with addrs := g.addrs.filter (!rm.contains ·) }
    let fa : Group → Group := fun g => { g with addrs := g.addrs ++ ad }
    have hfr : ∀ g, (fr g).id = g.id := fun _ => rfl
    have h1 := run_removeAddrs hfind (fun x hx => (hmemA x).mpr (Or.inr hx)) hkept
    have h2 := run_addAddrs (S := { S with groups := setGroupAddrs S.groups ga.id fr }) (gid := ga.id) (g := fr g0)
      (ad := ad) (by show findGroup (setGroupAddrs S.groups ga.id fr) ga.id = _
                     rw [findGroup_setGroupAddrs _ _ _ hfr, hfind]; rfl)
      (fun x hx hx' => hdisjA x ((hmem1 x).mp hx') hx)
    refine ⟨_, fa ∘ fr, (run_append h1).trans h2, rfl, rfl, setGroupAddrs_comp _ _ _ _ hfr, fun _ => ⟨rfl, rfl⟩, fun x => ?_⟩
    show x ∈ g0.addrs.filter (!rm.contains ·) ++ ad ↔ _
    rw [List.mem_append, hmem1, hmemB]

/-- The simplest valid script (delete everything, insert everything) — shows that the
hypothesis "`diff` returns valid scripts" of the theorems is satisfiable. -/
def trivialDiff : Diff := fun n m _ =>
  if n = 0 then [⟨0, 0, 0, m⟩] else if m = 0 then [⟨0, n, 0, 0⟩] else [⟨0, n, 0, 0⟩, ⟨0, 0, 0, m⟩]

theorem trivialDiff_valid : ∀ n m eq, validScript n m eq (trivialDiff n m eq) = true := by
  intro n m eq
  unfold trivialDiff validScript
  by_cases hn : n = 0
  · subst hn
    by_cases hm : m = 0
    · subst hm; simp [validFrom, Range.isDelete]
    · have : (0 == m) = false := by simp; omega
      simp [validFrom, Range.isDelete, Range.isInsert, this]
  · by_cases hm : m = 0
    · subst hm; simp [hn, validFrom, Range.isDelete]
    · have : (0 == m) = false := by simp; omega
      simp [hn, hm, validFrom, Range.isDelete, Range.isInsert, this]

def commonPrefix (eq : Nat → Nat → Bool) (n m : Nat) : Nat → Nat → Nat
  | 0, i => i
  | f + 1, i => if i < n ∧ i < m ∧ eq i i = true then commonPrefix eq n m f (i + 1) else i

theorem commonPrefix_spec (eq : Nat → Nat → Bool) (n m : Nat) : ∀ (f i : Nat), i ≤ n → i ≤ m →
    (∀ j, j < i → eq j j = true) →
    i ≤ commonPrefix eq n m f i ∧ commonPrefix eq n m f i ≤ n ∧ commonPrefix eq n m f i ≤ m ∧
    ∀ j, j < commonPrefix eq n m f i → eq j j = true := by
  intro f
  induction f with
  | zero => intro i h1 h2 h3; exact ⟨Nat.le_refl _, h1, h2, h3⟩
  | succ f ih =>
    intro i h1 h2 h3
    unfold commonPrefix
    by_cases hc : i < n ∧ i < m ∧ eq i i = true
    · simp only [hc, and_self, if_true]
      obtain ⟨a, b, c, d⟩ := ih (i + 1) (by omega) (by omega) (by
        intro j hj
        by_cases e : j = i
        · subst e; exact hc.2.2
        · exact h3 j (by omega))
      exact ⟨by omega, b, c, d⟩
    · simp only [hc, if_false]
      exact ⟨Nat.le_refl _, h1, h2, h3⟩

/-- A simple valid script that keeps the common prefix: used for the examples (the theorems hold
for every valid script, the driver runs the Myers port). -/
def prefixDiff : Diff := fun n m eq =>
  let k := commonPrefix eq n m (min n m) 0
  (if k = 0 then [] else [⟨0, k, 0, k⟩]) ++ (if k < n then [⟨k, n, k, k⟩] else []) ++
    (if k < m then [⟨n, n, k, m⟩] else [])

theorem prefixDiff_valid : ∀ n m eq, validScript n m eq (prefixDiff n m eq) = true := by
  intro n m eq
  unfold prefixDiff validScript
  obtain ⟨_, hkn, hkm, hall⟩ := commonPrefix_spec eq n m (min n m) 0 (by omega) (by omega) (by intro j hj; omega)
  generalize commonPrefix eq n m (min n m) 0 = k at *
  have tail : validFrom eq n m ((if k < n then [⟨k, n, k, k⟩] else []) ++
      (if k < m then [⟨n, n, k, m⟩] else [])) k k = true := by
    by_cases h1 : k < n
    · by_cases h2 : k < m
      · have e1 : (k == m) = false := by simp; omega
        simp [h1, h2, validFrom, Range.isDelete, Range.isInsert, e1]; omega
      · have hm : k = m := by omega
        subst hm
        simp [h1, validFrom, Range.isDelete]; omega
    · have hn : k = n := by omega
      subst hn
      by_cases h2 : k < m
      · have e1 : (k == m) = false := by simp; omega
        simp [h2, validFrom, Range.isDelete, Range.isInsert, e1]; omega
      · have hm : k = m := by omega
        subst hm
        simp [validFrom]
  by_cases hk : k = 0
  · subst hk
    simpa using tail
  · have e0 : (0 == k) = false := by simp; omega
    simp only [hk, if_false, List.cons_append, List.nil_append]
    unfold validFrom
    simp only [Range.isDelete, Range.isInsert, e0, Bool.false_eq_true, if_false, beq_self_eq_true, Bool.true_and,
      Nat.zero_le, decide_true, Nat.sub_zero, Nat.zero_add, Bool.and_eq_true, List.all_eq_true, List.mem_range]
    exact ⟨fun i hi => hall i hi, tail⟩

end NA.Nsx
