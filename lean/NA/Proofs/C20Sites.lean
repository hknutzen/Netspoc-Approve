import NA.Proofs.C20
import NA.Proofs.C20Shape
import NA.Proofs.C20Linux
import NA.Proofs.C20Http
import NA.Proofs.C20Refs
import NA.Proofs.C20Banner
import NA.Proofs.C20Status
import NA.Proofs.C20Diff
/-!
C20 — the hand-maintained table: every panic site (index, slice, explicit panic,
`strings.Repeat`) and every guard (`need(n)`, `len(…)`/`nil`/`== -1` condition) of the modelled
functions, keyed as the translator `translate/panicsites` prints it
(`pkg.func|kind|normalised expression`: locals are printed as <type>, single-assignment locals are expanded — see translate/panicsites/norm.go; repeated occurrences share the key), with a lemma about the function it stands in.  The translator compares the keys
with the regenerated `NA.Gen.PanicSites.sites` and writes the differences to `tableMismatch`; `NA.C20.sites_exact`
(Props/C20.lean) says that there are none and that the lengths agree: a new,
changed or removed site or guard in one of these functions breaks that obligation until this
table — and the model — have been looked at again.
-/
namespace NA.C20

def siteTable : List (String × Lean.Name) := [
  ("cisco.State.alignVRFs|guard|<[]*cmd> != nil", ``NA.C20.compact_index_ok),
  ("cisco.State.alignVRFs|guard|len(<[]*cmd>) != 0", ``NA.C20.compact_index_ok),
  ("cisco.State.alignVRFs|guard|len(make(map[string]bool)) == 0", ``NA.C20.routeVRF_noPanic),
  ("cisco.State.alignVRFs|guard|len(strings.Fields(<*cmd>.parsed)) < 4", ``NA.C20.routeVRF_noPanic),
  ("cisco.State.alignVRFs|index|<[]*cmd>[<int>]", ``NA.C20.compact_index_ok),
  ("cisco.State.alignVRFs|index|strings.Fields(<*cmd>.parsed)[2]", ``NA.C20.routeVRF_noPanic),
  ("cisco.State.alignVRFs|index|strings.Fields(<*cmd>.parsed)[3]", ``NA.C20.routeVRF_noPanic),
  ("cisco.State.alignVRFs|slice|<[]*cmd>[:<int>]", ``NA.C20.compact_index_ok),
  ("cisco.State.checkASAInterfaces|guard|<*State>.a.lookup[<string>] != nil", ``NA.C20.lookupCmd_fields_ge),
  ("cisco.State.checkASAInterfaces|guard|len(slices.DeleteFunc(<*State>.a.lookup[<string>][\"\"], func{…})) != 0", ``NA.C20.lookupCmd_fields_ge),
  ("cisco.State.checkASAInterfaces|guard|len(strings.Fields(<*cmd>.parsed)) == 5", ``NA.C20.lookupCmd_fields_ge),
  ("cisco.State.checkASAInterfaces|index|strings.Fields(<*cmd>.parsed)[0]", ``NA.C20.lookupCmd_fields_ge),
  ("cisco.State.checkASAInterfaces|index|strings.Fields(<*cmd>.parsed)[1]", ``NA.C20.lookupCmd_fields_ge),
  ("cisco.State.checkASAInterfaces|index|strings.Fields(<*cmd>.parsed)[4]", ``NA.C20.guarded_index_ok),
  ("cisco.State.checkIOSInterfaces|guard|!<func(*cmd)(*intfInfo)>(<*cmd>).shut && <func(*cmd)(*intfInfo)>(<*cmd>).addr != \"\" && len(make(map[string]*intfInfo)) != 0", ``NA.C20.lookupCmd_fields_ge),
  ("cisco.State.checkIOSInterfaces|guard|make(map[string]*intfInfo)[strings.Fields(<*cmd>.parsed)[1]] != nil", ``NA.C20.lookupCmd_fields_ge),
  ("cisco.State.checkIOSInterfaces|index|<*cmd>.sub[<int>]", ``NA.C20.compact_index_ok),
  ("cisco.State.checkIOSInterfaces|index|strings.Fields(<*cmd>.parsed)[1]", ``NA.C20.lookupCmd_fields_ge),
  ("cisco.State.checkIOSInterfaces|slice|<*cmd>.sub[:<int>]", ``NA.C20.compact_index_ok),
  ("cisco.dstOfRoute|guard|<?> == nil && <?> == nil", ``NA.C20.dstOfRoute_noPanic),
  ("cisco.dstOfRoute|guard|<func(int)>(3)", ``NA.C20.dstOfRoute_noPanic),
  ("cisco.dstOfRoute|guard|<func(int)>(4)", ``NA.C20.dstOfRoute_noPanic),
  ("cisco.dstOfRoute|guard|<func(int)>(<int> + 2)", ``NA.C20.dstOfRoute_noPanic),
  ("cisco.dstOfRoute|guard|len(strings.Split(<*cmd>.parsed, \" \")) < <int>", ``NA.C20.dstOfRoute_noPanic),
  ("cisco.dstOfRoute|guard|len(strings.Split(<*cmd>.parsed, \" \")) >= 6 && strings.Split(<*cmd>.parsed, \" \")[2] == \"vrf\"", ``NA.C20.dstOfRoute_noPanic),
  ("cisco.dstOfRoute|guard|slices.IndexFunc(strings.Split(<*cmd>.parsed, \" \"), func{…}) == -1", ``NA.C20.dstOfRoute_noPanic),
  ("cisco.dstOfRoute|index|strings.Split(<*cmd>.parsed, \" \")[0]", ``NA.C20.dstOfRoute_noPanic),
  ("cisco.dstOfRoute|index|strings.Split(<*cmd>.parsed, \" \")[2]", ``NA.C20.dstOfRoute_noPanic),
  ("cisco.dstOfRoute|index|strings.Split(<*cmd>.parsed, \" \")[3]", ``NA.C20.dstOfRoute_noPanic),
  ("cisco.dstOfRoute|index|strings.Split(<*cmd>.parsed, \" \")[<int> + 1]", ``NA.C20.dstOfRoute_noPanic),
  ("cisco.dstOfRoute|index|strings.Split(<*cmd>.parsed, \" \")[<int>]", ``NA.C20.dstOfRoute_noPanic),
  ("cisco.dstOfRoute|index|strings.Split(<*cmd>.parsed, \" \")[slices.IndexFunc(strings.Split(<*cmd>.parsed, \" \"), func{…})]", ``NA.C20.dstOfRoute_noPanic),
  ("cisco.matchCmd|guard|<?> != nil", ``NA.C20.matchCmd_panicOnly),
  ("cisco.matchCmd|guard|len(<[]string>) == 0", ``NA.C20.matchCmd_panicOnly),
  ("cisco.matchCmd|guard|len(<[]string>) > 0", ``NA.C20.matchCmd_panicOnly),
  ("cisco.matchCmd|index|<[]string>[0]", ``NA.C20.matchCmd_panicOnly),
  ("cisco.matchCmd|index|<[]string>[0][0]", ``NA.C20.matchCmd_panicOnly),
  ("cisco.matchCmd|panic|panic(fmt.Errorf(\"Incomplete string in: %v\", append([]string{<string>}, <[]string>...)))", ``NA.C20.matchCmd_panicOnly),
  ("cisco.matchCmd|slice|<[]string>[1:]", ``NA.C20.matchCmd_panicOnly),
  ("cisco.matchCmd|slice|<[]string>[:<int> + 1]", ``NA.C20.matchCmd_panicOnly),
  ("cisco.matchCmd|slice|<[]string>[<int>:]", ``NA.C20.matchCmd_panicOnly),
  ("cisco.mergeASAACLs|guard|<int> > len(<[]*cmd>)", ``NA.C20.appendPos_spec),
  ("cisco.mergeASAACLs|guard|len(<[]*cmd>) > 0", ``NA.C20.mergeASAACL_noPanic),
  ("cisco.mergeASAACLs|index|<[]*cmd>[(len(<[]*cmd>) - 1)]", ``NA.C20.mergeASAACL_noPanic),
  ("cisco.mergeASAACLs|index|<[]*cmd>[<int> - 1]", ``NA.C20.appendPos_spec),
  ("cisco.mergeASAACLs|slice|<[]*cmd>[:(len(<[]*cmd>) - 1)]", ``NA.C20.mergeASAACL_noPanic),
  ("cisco.mergeIOSACLs|guard|<int> > len(<[]*cmd>)", ``NA.C20.appendPos_spec),
  ("cisco.mergeIOSACLs|guard|len(<*cmdsPair>.aCmds) > 0", ``NA.C20.mergeIOSACL_noPanic),
  ("cisco.mergeIOSACLs|guard|len(<[]*cmd>) > 0", ``NA.C20.mergeIOSACL_noPanic),
  ("cisco.mergeIOSACLs|index|<*cmdsPair>.aCmds[0]", ``NA.C20.mergeIOSACL_noPanic),
  ("cisco.mergeIOSACLs|index|<*cmdsPair>.bCmds[0]", ``NA.C20.buildLookup_ok),
  ("cisco.mergeIOSACLs|index|<[]*cmd>[<int> - 1]", ``NA.C20.appendPos_spec),
  ("cisco.parser.ParseConfig|guard|<*cmd> != nil", ``NA.C20.parseLine_panicOnly),
  ("cisco.parser.ParseConfig|guard|<*parser>.checkReferences(make(objLookup), (path.Ext(<string>) == \".raw\"))", ``NA.C20.parseLine_panicOnly),
  ("cisco.parser.ParseConfig|guard|<*parser>.lookupCmd(<?>) == nil", ``NA.C20.parseLine_panicOnly),
  ("cisco.parser.ParseConfig|guard|<map[string][]*cmd> == nil", ``NA.C20.parseLine_panicOnly),
  ("cisco.parser.ParseConfig|guard|len(<?>) > 0", ``NA.C20.parseLine_panicOnly),
  ("cisco.parser.ParseConfig|guard|matchCmd(\"\", strings.Fields(<?>), <*cmd>.typ.sub) != nil", ``NA.C20.parseLine_panicOnly),
  ("cisco.parser.ParseConfig|index|<?>[0]", ``NA.C20.parseLine_panicOnly),
  ("cisco.parser.ParseConfig|slice|<?>[<int>:]", ``NA.C20.parseLine_panicOnly),
  ("cisco.parser.checkReferences|guard|<func(*cmd)(error)>(<*cmd>) != nil", ``NA.C20.checkReferences_noPanic),
  ("cisco.parser.checkReferences|guard|defaultObjects[[2]string{<*cmd>.typ.ref[<int>], <string>}] != nil", ``NA.C20.checkReferences_noPanic),
  ("cisco.parser.checkReferences|index|<*cmd>.typ.ref[<int>]", ``NA.C20.checkRefs_noPanic),
  ("cisco.parser.lookupCmd|guard|<map[string]*cmdLookup>[<?>] == nil", ``NA.C20.lookupCmd_noPanic),
  ("cisco.parser.lookupCmd|guard|<map[string]*cmdLookup>[<?>].descrList != nil", ``NA.C20.lookupCmd_noPanic),
  ("cisco.parser.lookupCmd|slice|strings.Split(<string>, \" \")[:<?> + 1]", ``NA.C20.lookupCmd_noPanic),
  ("cisco.parser.lookupCmd|slice|strings.Split(<string>, \" \")[<?> + 1:]", ``NA.C20.lookupCmd_noPanic),
  ("cisco.postprocessACLParts|guard|<?> == nil", ``NA.C20.noPanic_aclParts),
  ("cisco.postprocessACLParts|guard|<func(int)>(1)", ``NA.C20.noPanic_aclParts),
  ("cisco.postprocessACLParts|guard|<func(int)>(2)", ``NA.C20.noPanic_aclParts),
  ("cisco.postprocessACLParts|guard|len(<[]string>) < <int>", ``NA.C20.noPanic_aclParts),
  ("cisco.postprocessACLParts|guard|len(<[]string>) > 0", ``NA.C20.noPanic_aclParts),
  ("cisco.postprocessACLParts|guard|len(<[]string>) >= 2", ``NA.C20.noPanic_aclParts),
  ("cisco.postprocessACLParts|index|<[]string>[0]", ``NA.C20.noPanic_aclParts),
  ("cisco.postprocessACLParts|index|<[]string>[1]", ``NA.C20.noPanic_aclParts),
  ("cisco.postprocessACLParts|slice|<[]string>[1:]", ``NA.C20.noPanic_aclParts),
  ("cisco.postprocessACLParts|slice|<[]string>[2:]", ``NA.C20.noPanic_aclParts),
  ("cisco.postprocessASAACL|index|<?>[2]", ``NA.C20.asaACL_noPanic),
  ("cisco.postprocessASAACL|slice|<?>[4:]", ``NA.C20.asaACL_noPanic),
  ("cisco.postprocessIOSACL|index|<?>[0]", ``NA.C20.iosACL_noPanic),
  ("cisco.postprocessIOSACL|slice|<?>[1:]", ``NA.C20.iosACL_noPanic),
  ("cisco.postprocessParsed|guard|<?> == nil", ``NA.C20.aaaGroup_noPanic),
  ("cisco.postprocessParsed|guard|<objLookup>[\"crypto map\"][\"\"] != nil", ``NA.C20.aaaGroup_noPanic),
  ("cisco.postprocessParsed|guard|len(<*cmd>.sub) != 0", ``NA.C20.aaaGroup_noPanic),
  ("cisco.postprocessParsed|guard|len(<?>) < 4", ``NA.C20.aaaHost_noPanic),
  ("cisco.postprocessParsed|guard|len(<objLookup>[\"aaa-server\"][<?>]) > 1", ``NA.C20.aaaGroup_noPanic),
  ("cisco.postprocessParsed|guard|len(strings.Fields(<?>)) > 11", ``NA.C20.transRefs_le11),
  -- upstream 3341f0d: one more conjunct in the stripMetric guard, and its operand `tokens[2]` behind `len(tokens) == 6 &&`
  ("cisco.postprocessParsed|guard|len(strings.Split(<*cmd>.parsed, \" \")) == 6 && strings.Split(<*cmd>.parsed, \" \")[2] != \"vrf\"", ``NA.C20.stripMetric_noPanic),
  ("cisco.postprocessParsed|index|strings.Split(<*cmd>.parsed, \" \")[2]", ``NA.C20.stripMetric_noPanic),
  ("cisco.postprocessParsed|index|<*cmd>.sub[0]", ``NA.C20.aaaGroup_noPanic),
  ("cisco.postprocessParsed|index|<*cmd>.sub[0].ref[0]", ``NA.C20.aaaGroup_noPanic),
  ("cisco.postprocessParsed|index|<?>[2]", ``NA.C20.aaaHost_noPanic),
  ("cisco.postprocessParsed|index|<?>[2][0]", ``NA.C20.aaaHost_noPanic),
  ("cisco.postprocessParsed|index|<?>[3]", ``NA.C20.aaaHost_noPanic),
  ("cisco.postprocessParsed|index|<map[string][]*cmd>[<?>][0]", ``NA.C20.buildLookup_ok),
  ("cisco.postprocessParsed|index|<objLookup>[\"aaa-server\"][<?>][0]", ``NA.C20.aaaGroup_derived),
  ("cisco.postprocessParsed|repeat|strings.Repeat(\"$REF \", len(strings.Fields(<?>)) - 1)", ``NA.C20.transRefs_noPanic),
  ("cisco.postprocessParsed|slice|<?>[2:]", ``NA.C20.aaaHost_noPanic),
  ("cisco.postprocessParsed|slice|<?>[3:]", ``NA.C20.aaaHost_noPanic),
  ("cisco.postprocessParsed|slice|<?>[:4]", ``NA.C20.aaaHost_noPanic),
  ("cisco.postprocessParsed|slice|<objLookup>[\"aaa-server\"][<?>][0:2]", ``NA.C20.aaaGroup_derived),
  ("cisco.postprocessParsed|slice|<objLookup>[\"aaa-server\"][<?>][1:]", ``NA.C20.aaaGroup_derived),
  ("cisco.postprocessParsed|slice|strings.Split(<*cmd>.parsed, \" \")[:5]", ``NA.C20.stripMetric_noPanic),
  ("codefiles.GetIPPDP|guard|len(<*codeInfo>.IPList) == 0", ``NA.C20.guarded_index_ok),
  ("codefiles.GetIPPDP|index|<*codeInfo>.IPList[0]", ``NA.C20.guarded_index_ok),
  ("codefiles.LoadInfoFile|guard|<?> != nil", ``NA.C20.Files.loadInfoFile_explicitOnly),
  ("codefiles.LoadInfoFile|guard|json.NewDecoder(<?>).Decode(&codeInfo{}) != nil", ``NA.C20.Files.loadInfoFile_explicitOnly),
  ("codefiles.LoadInfoFile|guard|len(&codeInfo{}.IPList) > 0", ``NA.C20.Files.loadInfoFile_explicitOnly),
  ("codefiles.LoadInfoFile|panic|panic(<?>)", ``NA.C20.Files.loadInfoFile_explicitOnly),
  ("codefiles.LoadInfoFile|panic|panic(json.NewDecoder(<?>).Decode(&codeInfo{}))", ``NA.C20.Files.loadInfoFile_explicitOnly),
  ("ios.removeBanner|guard|<?> == -1", ``NA.C20.Banner.loop_noPanic),
  ("ios.removeBanner|guard|<[]byte> != nil", ``NA.C20.Banner.loop_noPanic),
  ("ios.removeBanner|guard|regexp.MustCompile(`^banner\\s\\S+\\s+(.)\\S`).FindSubmatch(<[]byte>[<int>:<?>]) != nil", ``NA.C20.Banner.loop_noPanic),
  ("ios.removeBanner|index|regexp.MustCompile(`^banner\\s\\S+\\s+(.)\\S`).FindSubmatch(<[]byte>[<int>:<?>])[1]", ``NA.C20.Banner.loop_noPanic),
  ("ios.removeBanner|slice|<[]byte>[:<int>]", ``NA.C20.Banner.removeBanner_noPanic),
  ("ios.removeBanner|slice|<[]byte>[<int>:<?>]", ``NA.C20.Banner.loop_noPanic),
  ("ios.removeBanner|slice|<[]byte>[<int>:]", ``NA.C20.Banner.loop_noPanic),
  ("linux.State.ParseConfig|index|<?>[0]", ``NA.C20.Linux.parseConfig_noPanic),
  ("linux.State.parseIPTables|guard|<chains> == nil", ``NA.C20.Linux.iptLine_noPanic),
  ("linux.State.parseIPTables|guard|<chains>[<?>[1]] == nil", ``NA.C20.Linux.iptLine_noPanic),
  ("linux.State.parseIPTables|guard|len(<?>) < 2", ``NA.C20.Linux.parsePairs_noPanic),
  ("linux.State.parseIPTables|guard|len(<?>) == 0", ``NA.C20.Linux.parsePairs_noPanic),
  ("linux.State.parseIPTables|guard|len(<?>) > 0", ``NA.C20.Linux.parsePairs_noPanic),
  ("linux.State.parseIPTables|guard|len(<?>) > 0 && <?>[0][0] != '-' && <?>[0] != \"!\"", ``NA.C20.Linux.parsePairs_noPanic),
  ("linux.State.parseIPTables|guard|len(<?>) >= 2 && <?>[0] == \"!\" && <?>[1][0] != '-'", ``NA.C20.Linux.parsePairs_noPanic),
  ("linux.State.parseIPTables|guard|len(strings.Fields(<string>[1:])) >= 2", ``NA.C20.Linux.parsePairs_noPanic),
  ("linux.State.parseIPTables|index|<?>[0]", ``NA.C20.Linux.parsePairs_noPanic),
  ("linux.State.parseIPTables|index|<?>[0][0]", ``NA.C20.Linux.parsePairs_noPanic),
  ("linux.State.parseIPTables|index|<?>[1]", ``NA.C20.Linux.parsePairs_noPanic),
  ("linux.State.parseIPTables|index|<?>[1][0]", ``NA.C20.Linux.parsePairs_noPanic),
  ("linux.State.parseIPTables|index|<string>[0]", ``NA.C20.Linux.iptLine_noPanic),
  ("linux.State.parseIPTables|index|strings.Fields(<string>[1:])[0]", ``NA.C20.Linux.parsePairs_noPanic),
  ("linux.State.parseIPTables|index|strings.Fields(<string>[1:])[1]", ``NA.C20.Linux.parsePairs_noPanic),
  ("linux.State.parseIPTables|slice|<?>[1:]", ``NA.C20.Linux.parsePairs_noPanic),
  ("linux.State.parseIPTables|slice|<?>[2:]", ``NA.C20.Linux.parsePairs_noPanic),
  ("linux.State.parseIPTables|slice|<string>[1:]", ``NA.C20.Linux.iptLine_noPanic),
  ("linux.config.MergeSpoc|guard|<*config>.iptables[<?>] == nil", ``NA.C20.Linux.appendIndex_noPanic),
  ("linux.config.MergeSpoc|guard|<*config>.iptables[<?>][<?>] == nil", ``NA.C20.Linux.appendIndex_noPanic),
  ("linux.config.MergeSpoc|guard|<int> > 0 && <*config>.iptables[<?>][<?>].rules[<int> - 1].pairs[\"-j\"] == \"DROP\"", ``NA.C20.Linux.appendIndex_noPanic),
  ("linux.config.MergeSpoc|index|<*config>.iptables[<?>][<?>].rules[<int> - 1]", ``NA.C20.Linux.appendIndex_noPanic),
  ("linux.config.MergeSpoc|index|<?>.(*config).iptables[<?>]", ``NA.C20.Linux.appendIndex_le),
  ("linux.config.MergeSpoc|index|<?>.(*config).iptables[<?>][<?>]", ``NA.C20.Linux.appendIndex_le),
  ("linux.parseRoutes|guard|!(len(strings.Fields(<?>)) >= 3 && strings.Fields(<?>)[1] == \"via\")", ``NA.C20.Linux.parseRoute_noPanic),
  ("linux.parseRoutes|guard|len(strings.Fields(<?>)) > 3 && !(len(strings.Fields(<?>)) == 5 && strings.Fields(<?>)[3] == \"dev\")", ``NA.C20.Linux.parseRoute_noPanic),
  ("linux.parseRoutes|index|strings.Fields(<?>)[0]", ``NA.C20.Linux.parseRoute_noPanic),
  ("linux.parseRoutes|index|strings.Fields(<?>)[1]", ``NA.C20.Linux.parseRoute_noPanic),
  ("linux.parseRoutes|index|strings.Fields(<?>)[2]", ``NA.C20.Linux.parseRoute_noPanic),
  ("linux.parseRoutes|index|strings.Fields(<?>)[3]", ``NA.C20.Linux.parseRoute_noPanic),
  ("nsx.State.ParseConfig|guard|<?> != nil", ``NA.C20.Nsx.validate_noPanic),
  ("nsx.State.ParseConfig|guard|checkConfigValidity(&NsxConfig{})", ``NA.C20.Nsx.validate_ok),
  ("nsx.State.ParseConfig|guard|checkNoNull(&NsxConfig{})", ``NA.C20.Nsx.checkNoNull_ok),
  ("nsx.State.ParseConfig|guard|checkNoNull(&NsxConfig{}) != nil", ``NA.C20.Nsx.validate_noPanic),
  ("nsx.State.ParseConfig|guard|checkRaw(&NsxConfig{})", ``NA.C20.Nsx.checkRaw_noPanic),
  ("nsx.State.ParseConfig|guard|checkRaw(&NsxConfig{}) != nil", ``NA.C20.Nsx.validate_noPanic),
  ("nsx.State.ParseConfig|guard|len(<[]byte>) == 0", ``NA.C20.Nsx.validate_noPanic),
  ("nsx.checkConfigValidity|guard|len(<*nsxGroup>.Expression) != 1", ``NA.C20.Nsx.checkConfigValidity_noPanic),
  ("nsx.checkConfigValidity|guard|len(<*nsxRule>.SourceGroups) != 1 || len(<*nsxRule>.DestinationGroups) != 1 || len(<*nsxRule>.Services) != 1", ``NA.C20.Nsx.checkConfigValidity_noPanic),
  ("nsx.checkNoNull|guard|<*nsxGroup> == nil", ``NA.C20.Nsx.checkNoNull_noPanic),
  ("nsx.checkNoNull|guard|<*nsxGroupExpression> == nil", ``NA.C20.Nsx.checkNoNull_noPanic),
  ("nsx.checkNoNull|guard|<*nsxPolicy> == nil", ``NA.C20.Nsx.checkNoNull_noPanic),
  ("nsx.checkNoNull|guard|<*nsxRule> == nil", ``NA.C20.Nsx.checkNoNull_noPanic),
  ("nsx.checkNoNull|guard|<*nsxService> == nil", ``NA.C20.Nsx.checkNoNull_noPanic),
  ("nsx.findGroupOnDevice|guard|len(<map[string]*nsxGroup>[<?>].Expression[0].IPAddresses) != len(<*nsxGroup>.Expression[0].IPAddresses)", ``NA.C20.Nsx.groupAddrs_noPanic),
  ("nsx.findGroupOnDevice|index|<*nsxGroup>.Expression[0]", ``NA.C20.Nsx.groupAddrs_noPanic),
  ("nsx.findGroupOnDevice|index|<map[string]*nsxGroup>[<?>].Expression[0]", ``NA.C20.Nsx.groupAddrs_noPanic),
  ("nsx.findGroupOnDevice|index|<map[string]*nsxGroup>[<?>].Expression[0].IPAddresses[<int>]", ``NA.C20.eqlen_index_ok),
  ("nsx.groupPair.Equal|index|<groupPair>.a.Expression[0]", ``NA.C20.Nsx.groupAddrs_noPanic),
  ("nsx.groupPair.Equal|index|<groupPair>.a.Expression[0].IPAddresses[<int>]", ``NA.C20.myers_range_ok),
  ("nsx.groupPair.Equal|index|<groupPair>.b.Expression[0]", ``NA.C20.Nsx.groupAddrs_noPanic),
  ("nsx.groupPair.Equal|index|<groupPair>.b.Expression[0].IPAddresses[<int>]", ``NA.C20.myers_range_ok),
  ("nsx.groupPair.LenA|index|<groupPair>.a.Expression[0]", ``NA.C20.Nsx.groupAddrs_noPanic),
  ("nsx.groupPair.LenB|index|<groupPair>.b.Expression[0]", ``NA.C20.Nsx.groupAddrs_noPanic),
  -- the loop condition of removeHeader (normal form: `for { if c {…} else {return} }` is `for c {…}`)
  ("nsx.removeHeader|guard|bytes.HasPrefix(<[]byte>[bytes.IndexByte(<[]byte>, byte('\\n')) + 1:], []byte(\"#\"))", ``NA.C20.slice_from_index_ok),
  ("nsx.removeHeader|guard|bytes.IndexByte(<[]byte>[<?> + 1:], byte('\\n')) == -1", ``NA.C20.slice_from_index_ok),
  ("nsx.removeHeader|slice|<[]byte>[bytes.IndexByte(<[]byte>, byte('\\n')) + 1:][bytes.IndexByte(<[]byte>[<?> + 1:], byte('\\n')) + 1:]", ``NA.C20.slice_from_index_ok),
  ("nsx.removeHeader|slice|<[]byte>[bytes.IndexByte(<[]byte>, byte('\\n')) + 1:][len(<[]byte>[bytes.IndexByte(<[]byte>, byte('\\n')) + 1:]):]", ``NA.C20.slice_from_index_ok),
  ("nsx.rulesPair.Equal|guard|getGroup(<string>, <*rulesPair>.a.groups) == nil || getGroup(<string>, <*rulesPair>.b.groups) == nil", ``NA.C20.Nsx.ruleKeys_noPanic),
  ("nsx.rulesPair.Equal|index|<*rulesPair>.a.rules[<int>]", ``NA.C20.myers_range_ok),
  ("nsx.rulesPair.Equal|index|<*rulesPair>.a.rules[<int>].DestinationGroups[0]", ``NA.C20.Nsx.ruleKeys_noPanic),
  ("nsx.rulesPair.Equal|index|<*rulesPair>.a.rules[<int>].Services[0]", ``NA.C20.Nsx.ruleKeys_noPanic),
  ("nsx.rulesPair.Equal|index|<*rulesPair>.a.rules[<int>].SourceGroups[0]", ``NA.C20.Nsx.ruleKeys_noPanic),
  ("nsx.rulesPair.Equal|index|<*rulesPair>.b.rules[<int>]", ``NA.C20.myers_range_ok),
  ("nsx.rulesPair.Equal|index|<*rulesPair>.b.rules[<int>].DestinationGroups[0]", ``NA.C20.Nsx.ruleKeys_noPanic),
  ("nsx.rulesPair.Equal|index|<*rulesPair>.b.rules[<int>].Services[0]", ``NA.C20.Nsx.ruleKeys_noPanic),
  ("nsx.rulesPair.Equal|index|<*rulesPair>.b.rules[<int>].SourceGroups[0]", ``NA.C20.Nsx.ruleKeys_noPanic),
  ("nsx.rulesPair.adaptGroup|guard|findGroupOnDevice(getGroup(<[]string>[0], <*rulesPair>.b.groups), <*rulesPair>.a.groups) != nil", ``NA.C20.Nsx.ruleKeys_noPanic),
  ("nsx.rulesPair.adaptGroup|guard|getGroup(<[]string>[0], <*rulesPair>.b.groups) != nil", ``NA.C20.Nsx.ruleKeys_noPanic),
  ("nsx.rulesPair.adaptGroup|index|<[]string>[0]", ``NA.C20.Nsx.ruleKeys_noPanic),
  -- upstream ef10b0b: `n < d || d == o && d > 0` selects "send the complete list" versus add/remove requests;
  -- neither branch has a site of its own (all sites of the function are the keys below)
  ("nsx.rulesPair.equalizeGroups|guard|(len(getGroup(<[]string>[0], <*rulesPair>.a.groups).Expression[0].IPAddresses) - len(<[]string>) + len(<[]string>)) < len(<[]string>) || len(<[]string>) == len(getGroup(<[]string>[0], <*rulesPair>.a.groups).Expression[0].IPAddresses) && len(<[]string>) > 0", ``NA.C20.Nsx.equalizeHead_noPanic),
  ("nsx.rulesPair.equalizeGroups|guard|<[]string> != nil", ``NA.C20.Nsx.ruleKeys_noPanic),
  ("nsx.rulesPair.equalizeGroups|guard|getGroup(<[]string>[0], <*rulesPair>.a.groups) == nil", ``NA.C20.Nsx.equalizeHead_noPanic),
  ("nsx.rulesPair.equalizeGroups|guard|getGroup(<[]string>[0], <*rulesPair>.b.groups) == nil", ``NA.C20.Nsx.equalizeHead_noPanic),
  ("nsx.rulesPair.equalizeGroups|index|<[]string>[0]", ``NA.C20.Nsx.ruleKeys_noPanic),
  ("nsx.rulesPair.equalizeGroups|index|getGroup(<[]string>[0], <*rulesPair>.a.groups).Expression[0]", ``NA.C20.Nsx.groupAddrs_noPanic),
  ("nsx.rulesPair.equalizeGroups|index|getGroup(<[]string>[0], <*rulesPair>.b.groups).Expression[0]", ``NA.C20.Nsx.groupAddrs_noPanic),
  ("nsx.rulesPair.equalizeGroups|slice|getGroup(<[]string>[0], <*rulesPair>.a.groups).Expression[0].IPAddresses[<?>.LowA:<?>.HighA]", ``NA.C20.myers_range_ok),
  ("nsx.rulesPair.equalizeGroups|slice|getGroup(<[]string>[0], <*rulesPair>.b.groups).Expression[0].IPAddresses[<?>.LowB:<?>.HighB]", ``NA.C20.myers_range_ok),
  ("nsx.sortGroups|index|<*nsxGroup>.Expression[0]", ``NA.C20.Nsx.sortGroups_noPanic),
  ("nsx.sortRules|guard|getGroup(<string>, <map[string]*nsxGroup>) != nil", ``NA.C20.Nsx.ruleKeys_noPanic),
  ("nsx.sortRules|guard|getGroup(<string>, <map[string]*nsxGroup>) != nil && getGroup(<string>, <map[string]*nsxGroup>) != nil", ``NA.C20.Nsx.ruleKeys_noPanic),
  ("nsx.sortRules|guard|len(<*nsxGroup>.Expression[0].IPAddresses) > 0", ``NA.C20.Nsx.firstAddr_noPanic),
  ("nsx.sortRules|index|<*nsxGroup>.Expression[0]", ``NA.C20.Nsx.firstAddr_noPanic),
  ("nsx.sortRules|index|<*nsxGroup>.Expression[0].IPAddresses[0]", ``NA.C20.Nsx.firstAddr_noPanic),
  ("nsx.sortRules|index|<*nsxRule>.DestinationGroups[0]", ``NA.C20.Nsx.ruleKeys_noPanic),
  ("nsx.sortRules|index|<*nsxRule>.Services[0]", ``NA.C20.Nsx.ruleKeys_noPanic),
  ("nsx.sortRules|index|<*nsxRule>.SourceGroups[0]", ``NA.C20.Nsx.ruleKeys_noPanic),
  ("nsx.sortRules|index|getGroup(<string>, <map[string]*nsxGroup>).Expression[0]", ``NA.C20.Nsx.firstAddr_noPanic),
  ("panos.PanConfig.MergeSpoc|guard|&PanConfig{Devices: &panDevices{Entries: []*panDevice{&panDevice{}}}} == nil || &PanConfig{Devices: &panDevices{Entries: []*panDevice{&panDevice{}}}}.Devices == nil || len(&PanConfig{Devices: &panDevices{Entries: []*panDevice{&panDevice{}}}}.Devices.Entries) == 0", ``NA.C20.PanOs.mergeSpoc_noPanic),
  ("panos.PanConfig.MergeSpoc|guard|&panVsys{Name: <*panVsys>.Name} == nil", ``NA.C20.PanOs.mergeSpoc_noPanic),
  ("panos.PanConfig.MergeSpoc|guard|<*panRule>.Append == nil", ``NA.C20.PanOs.mergeSpoc_noPanic),
  ("panos.PanConfig.MergeSpoc|guard|<*panVsys> != nil", ``NA.C20.PanOs.mergeSpoc_noPanic),
  ("panos.PanConfig.MergeSpoc|guard|checkNameClash(&panVsys{Name: <*panVsys>.Name}, <*panVsys>)", ``NA.C20.PanOs.mergeSpoc_noPanic),
  ("panos.PanConfig.MergeSpoc|guard|processVsysPairs(&PanConfig{Devices: &panDevices{Entries: []*panDevice{&panDevice{}}}}, <?>.(*PanConfig), func{…}) != nil", ``NA.C20.PanOs.mergeSpoc_noPanic),
  ("panos.PanConfig.MergeSpoc|index|&PanConfig{Devices: &panDevices{Entries: []*panDevice{&panDevice{}}}}.Devices.Entries[0]", ``NA.C20.PanOs.mergeSpoc_noPanic),
  ("panos.PanConfig.getDevName|guard|<*PanConfig>.Devices == nil || len(<*PanConfig>.Devices.Entries) == 0", ``NA.C20.PanOs.getDevName_noPanic),
  ("panos.PanConfig.getDevName|index|<*PanConfig>.Devices.Entries[0]", ``NA.C20.PanOs.getDevName_noPanic),
  ("panos.State.GetChanges|guard|<*State>.checkUnmanaged(<*panVsys>)", ``NA.C20.PanOs.devNameFor_noPanic),
  ("panos.State.GetChanges|guard|<*panVsys> == nil", ``NA.C20.PanOs.devNameFor_noPanic),
  ("panos.State.GetChanges|guard|len(diffConfig(<*panVsys>, <*panVsys>, ((\"/config/devices/entry\" + nameAttr(<?>.Devices.Entries[0].Name)) + \"/vsys/entry\" + nameAttr(<*panVsys>.Name)))) != 0", ``NA.C20.PanOs.devNameFor_noPanic),
  ("panos.State.GetChanges|index|<?>.(*PanConfig).Devices.Entries[0]", ``NA.C20.PanOs.devNameFor_noPanic),
  ("panos.State.ParseConfig|guard|<?> == nil && path.Ext(<string>) == \".raw\"", ``NA.C20.slice_from_index_ok),
  ("panos.State.ParseConfig|guard|checkRaw(&PanConfig{})", ``NA.C20.PanOs.checkRaw_noPanic),
  ("panos.State.ParseConfig|guard|len(<[]byte>) == 0", ``NA.C20.slice_from_index_ok),
  ("panos.State.ParseConfig|slice|<[]byte>[bytes.IndexByte(<[]byte>, byte('\\n')) + 1:]", ``NA.C20.slice_from_index_ok),
  ("panos.checkRaw|guard|<*PanConfig>.Devices == nil", ``NA.C20.PanOs.checkRaw_noPanic),
  ("panos.diffConfig|guard|rulesPairFrom(<*panVsys>, <*panVsys>).a.checkGroupCycle()", ``NA.C20.PanOs.objListType_noPanic),
  ("panos.diffConfig|guard|rulesPairFrom(<*panVsys>, <*panVsys>).b.checkGroupCycle()", ``NA.C20.PanOs.markAddresses_noPanic),
  ("panos.getObjListType|guard|<vsysInfo>.addresses[<string>] == nil", ``NA.C20.PanOs.objListType_noPanic),
  ("panos.getObjListType|guard|<vsysInfo>.groups[<[]string>[0]] != nil", ``NA.C20.PanOs.objListType_noPanic),
  ("panos.getObjListType|guard|len(<[]string>) == 1", ``NA.C20.PanOs.objListType_noPanic),
  ("panos.getObjListType|index|<[]string>[0]", ``NA.C20.PanOs.objListType_noPanic),
  ("panos.parseResponseConfig|guard|<error> != nil", ``NA.C20.PanOs.getDevName_noPanic),
  ("panos.processVsysPairs|guard|<*PanConfig> == nil || <*PanConfig>.Devices == nil || len(<*PanConfig>.Devices.Entries) == 0", ``NA.C20.PanOs.devNameFor_noPanic),
  ("panos.processVsysPairs|guard|<func(*panVsys,*panVsys)(error)>(<*panVsys>, <map[string]*panVsys>[<*panVsys>.Name]) != nil", ``NA.C20.PanOs.devNameFor_noPanic),
  ("panos.processVsysPairs|guard|<func(*panVsys,*panVsys)(error)>(nil, <*panVsys>) != nil", ``NA.C20.PanOs.devNameFor_noPanic),
  ("panos.processVsysPairs|guard|<map[string]*panVsys>[<*panVsys>.Name] == nil", ``NA.C20.PanOs.devNameFor_noPanic),
  ("panos.processVsysPairs|index|<*PanConfig>.Devices.Entries[0]", ``NA.C20.PanOs.devNameFor_noPanic),
  ("panos.rulesPair.markAddresses|guard|<*rulesPair>.a.addresses[<string>] != nil", ``NA.C20.PanOs.markAddresses_noPanic),
  ("panos.rulesPair.markAddresses|guard|<*rulesPair>.b.addresses[<string>] == nil", ``NA.C20.PanOs.markAddresses_noPanic),
  ("panos.rulesPair.markAddresses|guard|<*rulesPair>.b.groups[<string>] != nil", ``NA.C20.PanOs.markAddresses_noPanic),
  ("panos.vsysInfo.checkGroupCycle|guard|<vsysInfo>.groups[<string>] == nil || make(map[string]int)[<string>] == 2", ``NA.C20.PanOs.objListType_cycle)
]

/-- Sites OUTSIDE the modelled functions that rest on an invariant proved about the parser model:
`c.typ.ref[i]` for `i` over `c.ref` (fits by `RefsFit`: `refsFit_of_topOK`, `aclParts_refs_le5`,
`transRefs_le11`; the functions run after `checkReferences` succeeded and never change the length of
`c.ref`): addCmds, deleteUnused, makeEqual, markDeleted, markNeeded, getPrintableCmd, mergeRefs;
and `l[0]` of a list obtained by RANGING over a lookup map (non-empty by `buildLookup_ok`):
MergeSpoc, diffConfig, diffSomeAnchors, sortGroups.
These entries carry an invariant, not a model of the function, so they are keyed like the oracle-only
list: package | kind | normalised expression, with the NUMBER of occurrences covered (the function
names above are a hint only: a renamed or split function re-binds its entries).  Read by the
whole-program pass of the translator (class `theorem`); not part of `sites_exact`. -/
def siteTableExtra : List (String × Nat × Lean.Name) := [
  ("cisco|index|<*cmd>.typ.ref[<int>]", 8, ``NA.C20.refsFit_of_topOK),
  ("cisco|index|<[]*cmd>[0]", 3, ``NA.C20.buildLookup_ok),
  ("cisco|index|<?>.(*Config).lookup[<?>][<?>][0]", 1, ``NA.C20.buildLookup_ok),
  -- diff engines: bounds of an edit script (valid in the sense of NA.Acl.cellsOf) and the s.Changes bookkeeping
  ("cisco|index|<*State>.Changes[(len(<*State>.Changes) - 1) - 1]", 2, ``NA.C20.Diff.moveIOS_noPanic),
  ("cisco|index|<*State>.Changes[(len(<*State>.Changes) - 1)]", 4, ``NA.C20.Diff.moveASA_noPanic),
  ("cisco|index|<[]*cmd>[<?>.LowB]", 1, ``NA.C20.Diff.indexLowB_noPanic),
  ("cisco|index|<[]int>[<?>.LowA + <int>]", 1, ``NA.C20.Diff.indexFromA_noPanic),
  ("cisco|slice|<*State>.Changes[(len(<*State>.Changes) - 1) + 1:]", 1, ``NA.C20.Diff.moveASA_noPanic),
  ("cisco|slice|<*State>.Changes[(len(<*State>.Changes) - 1):]", 1, ``NA.C20.Diff.moveASA_noPanic),
  ("cisco|slice|<*State>.Changes[:(len(<*State>.Changes) - 1)]", 2, ``NA.C20.Diff.moveIOS_noPanic),
  ("cisco|slice|<*State>.Changes[:len(<*State>.Changes) - 1]", 1, ``NA.C20.Diff.dropResequence_noPanic),
  ("cisco|slice|<*State>.a.lookup[\"object-group\"][<string>][0].sub[<?>.LowA:<?>.HighA]", 1, ``NA.C20.Diff.sliceA_noPanic),
  ("cisco|slice|<*State>.b.lookup[\"object-group\"][<string>][0].sub[<?>.LowB:<?>.HighB]", 1, ``NA.C20.Diff.sliceB_noPanic),
  ("cisco|slice|<[]*cmd>[<?>.LowA:<?>.HighA]", 8, ``NA.C20.Diff.sliceA_noPanic),
  ("cisco|slice|<[]*cmd>[<?>.LowB:<?>.HighB]", 11, ``NA.C20.Diff.sliceB_noPanic),
  ("cisco|slice|<[]int>[<?>.LowA:]", 1, ``NA.C20.Diff.sliceFromA_noPanic),
  ("nsx|index|<*rulesPair>.b.rules[<?>.LowB + <int>]", 1, ``NA.C20.Diff.indexEqualB_off_noPanic),
  ("nsx|slice|<*rulesPair>.a.rules[<?>.LowA:<?>.HighA]", 2, ``NA.C20.Diff.sliceA_noPanic),
  ("nsx|slice|<*rulesPair>.b.rules[<?>.LowB:<?>.HighB]", 1, ``NA.C20.Diff.sliceB_noPanic),
  ("panos|index|<*rulesPair>.a.rules[max(<?>.LowA, <int>)]", 1, ``NA.C20.Diff.panosMoveTo_noPanic),
  ("panos|index|<*rulesPair>.b.rules[<?> + (<?>.LowB - <?>.LowA)]", 1, ``NA.C20.Diff.indexEqualB_noPanic),
  ("panos|index|<[]string>[<?> + (<?>.LowB - <?>.LowA)]", 1, ``NA.C20.Diff.indexEqualB_noPanic),
  ("panos|slice|<*rulesPair>.a.rules[<?>.LowA:<?>.HighA]", 1, ``NA.C20.Diff.sliceA_noPanic),
  ("panos|slice|<*rulesPair>.b.rules[<?>.LowB:<?>.HighB]", 1, ``NA.C20.Diff.sliceB_noPanic),
  ("panos|slice|<[]string>[<?>.LowA:<?>.HighA]", 1, ``NA.C20.Diff.sliceA_noPanic),
  ("panos|slice|<[]string>[<?>.LowB:<?>.HighB]", 1, ``NA.C20.Diff.sliceB_noPanic)
]

end NA.C20
