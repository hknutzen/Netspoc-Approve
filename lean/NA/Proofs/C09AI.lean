import NA.Proofs.C09Inv
/-!
# C09: one abstract interpreter for session programs

`ai D p x = some o`: started in a running state described by the abstract value `x`, program `p` ends in mode `m`
only in a state described by `o.at m`.  A domain supplies what a test tells (`split`), the constructs without
sub-programs (`leaf`) and listed sub-programs proved by hand (`blk`); the control constructs are interpreted here, and
`ai_sound` is the one induction that follows `exec` through them.
-/
namespace NA.C09
open NA.Sess NA.Apply

def isLeaf : Sess → Bool
  | .ite _ _ _ _ | .seq _ _ | .forEach _ | .defer _ _ | .loopN _ _ | .loopFuel _ | .call _ _ _ | .scope _ _
  | .when _ _ => false
  | _ => true

structure Ends (A : Type) where
  run : A
  ret : A
  cont : A
  panic : A
  div : A

variable {A : Type}

def Ends.at (o : Ends A) : Mode → A
  | .run => o.run | .ret => o.ret | .cont => o.cont | .panic => o.panic | .diverge => o.div

def Ends.only (bot : A) (m : Mode) (a : A) : Ends A :=
  ⟨if m = .run then a else bot, if m = .ret then a else bot, if m = .cont then a else bot,
   if m = .panic then a else bot, if m = .diverge then a else bot⟩

theorem Ends.only_at {bot : A} {m : Mode} {a : A} : (Ends.only bot m a).at m = a := by cases m <;> simp [Ends.only, Ends.at]

structure Dom (A : Type) where
  bot : A
  /-- recognises (some) values that describe no state: code started from them is not looked at -/
  dead : A → Bool
  join : A → A → A
  le : A → A → Bool
  split : Cond → A → A × A
  leaf : Sess → A → Option (Ends A)
  blk : Sess → A → Option (Ends A)
  /-- what is kept of a value in front of a `for { … }`: every round is analysed from it -/
  inv : A → A

variable (D : Dom A)

def nowhere : Ends A := ⟨D.bot, D.bot, D.bot, D.bot, D.bot⟩
def joinEnds (r1 r2 : Ends A) : Ends A :=
  ⟨D.join r1.run r2.run, D.join r1.ret r2.ret, D.join r1.cont r2.cont, D.join r1.panic r2.panic, D.join r1.div r2.div⟩
def seqEnds (r1 r2 : Ends A) : Ends A :=
  ⟨r2.run, D.join r1.ret r2.ret, D.join r1.cont r2.cont, D.join r1.panic r2.panic, D.join r1.div r2.div⟩
def whenEnds (rt : Ends A) (xe : A) : Ends A := ⟨D.join rt.run xe, rt.ret, rt.cont, rt.panic, rt.div⟩
/-- a `return` ends the function, not what follows the call -/
def callEnds (r : Ends A) : Ends A := ⟨D.join r.run r.ret, D.bot, r.cont, r.panic, r.div⟩
/-- a loop over the script: `x` holds in front of every round -/
def eachEnds (x : A) (r : Ends A) : Ends A := ⟨x, r.ret, r.cont, r.panic, r.div⟩
/-- a `for { … }` ends by `return`, by abort, or by running out of fuel in front of a round -/
def loopEnds (x : A) (r : Ends A) : Ends A := ⟨D.bot, r.ret, D.bot, r.panic, D.join r.div x⟩
/-- `r`: the body; `cr ct cc cp`: the clean-up started from what the body left in mode run / ret / cont / panic.
A clean-up that runs through restores the mode of the body; otherwise its own mode stands. -/
def deferEnds (r cr ct cc cp : Ends A) : Ends A :=
  let o := joinEnds D (joinEnds D cr ct) (joinEnds D cc cp)
  ⟨cr.run, D.join ct.run o.ret, D.join cc.run o.cont, D.join cp.run o.panic, D.join r.div o.div⟩

def live (f : A → Option (Ends A)) (x : A) : Option (Ends A) := if D.dead x then some (nowhere D) else f x

def aiLoop (x : A) : Option (Ends A) → Option (Ends A)
  | some r => if D.le r.run x && D.le r.cont x then some (loopEnds D x r) else none
  | none => none

def ai : Sess → A → Option (Ends A)
  | .seq a b, x =>
    match D.blk (.seq a b) x with
    | some o => some o
    | none =>
      match live D (ai a) x with
      | none => none
      | some r1 => (live D (ai b) r1.run).map (seqEnds D r1)
  | .ite c l t e, x =>
    match D.blk (.ite c l t e) x with
    | some o => some o
    | none =>
      match live D (ai t) (D.split c x).1, live D (ai e) (D.split c x).2 with
      | some rt, some re => some (joinEnds D rt re)
      | _, _ => none
  | .when c b, x => (live D (ai b) (D.split c x).1).map fun rt => whenEnds D rt (D.split c x).2
  | .call n l b, x =>
    match D.blk (.call n l b) x with
    | some o => some o
    | none => (ai b x).map (callEnds D)
  | .scope _ b, x => ai b x
  | .forEach b, x =>
    match D.blk (.forEach b) x with
    | some o => some o
    | none =>
      match ai b x with
      | some r => if D.le r.run x then some (eachEnds x r) else none
      | none => none
  | .loopN _ b, x | .loopFuel b, x => aiLoop D (D.inv x) (ai b (D.inv x))
  | .defer c b, x =>
    match ai b x with
    | none => none
    | some r =>
      match live D (ai c) r.run, live D (ai c) r.ret, live D (ai c) r.cont, live D (ai c) r.panic with
      | some cr, some ct, some cc, some cp => some (deferEnds D r cr ct cc cp)
      | _, _, _, _ => none
  | p, x => D.leaf p x

variable (γ : A → Env → St → St → Prop)

/-- `γ a env s0 s`: the abstract value `a` describes the state `s` of a run in environment `env` that was in state `s0`
when the piece of program under analysis started (frame properties relate the two).
`Sound γ p x o`: `o` describes every way `p` can end when started in a running state described by `x`. -/
def Sound (p : Sess) (x : A) (o : Ends A) : Prop :=
  ∀ env s0 s, s.mode = .run → γ x env s0 s → γ (o.at (exec p env s).mode) env s0 (exec p env s)

structure Dom.OK : Prop where
  /-- the control constructs change the mode of a state, the current script element of the environment, nothing else -/
  mode : ∀ {a env s0 s} (m : Mode), γ a env s0 s → γ a env s0 { s with mode := m }
  cur : ∀ {a env s0 s} (pk : List String), γ a { env with cur := pk } s0 s ↔ γ a env s0 s
  dead : ∀ {a env s0 s}, D.dead a = true → ¬ γ a env s0 s
  joinL : ∀ {a b env s0 s}, γ a env s0 s → γ (D.join a b) env s0 s
  joinR : ∀ {a b env s0 s}, γ b env s0 s → γ (D.join a b) env s0 s
  le : ∀ {a b env s0 s}, D.le a b = true → γ a env s0 s → γ b env s0 s
  split : ∀ {a env s0 s} (c : Cond), s.mode = .run → γ a env s0 s →
    (evalCond c env s = true → γ (D.split c a).1 env s0 s) ∧ (evalCond c env s = false → γ (D.split c a).2 env s0 s)
  leaf : ∀ {p x o}, isLeaf p = true → D.leaf p x = some o → Sound γ p x o
  blk : ∀ {p x o}, D.blk p x = some o → Sound γ p x o
  inv : ∀ {a env s0 s}, γ a env s0 s → γ (D.inv a) env s0 s

theorem iter_inv {I Q : St → Prop} (f : St → St)
    (hstep : ∀ s, s.mode = .run → I s → ((f s).mode = .run → I (f s)) ∧ ((f s).mode = .cont → I { f s with mode := .run })
      ∧ ((f s).mode ≠ .run → (f s).mode ≠ .cont → Q (f s)))
    (hdiv : ∀ s, s.mode = .run → I s → Q { s with mode := .diverge }) :
    ∀ (n : Nat) (s : St), s.mode = .run → I s → Q (iter n f s) := by
  intro n
  induction n with
  | zero => intro s hm hi; simp only [iter, hm, if_true]; exact hdiv s hm hi
  | succ n ih =>
    intro s hm hi
    obtain ⟨h1, h2, h3⟩ := hstep s hm hi
    simp only [iter, hm, if_true]
    split
    · rename_i hc; exact ih _ rfl (h2 hc)
    · rename_i hr; exact ih _ hr (h1 hr)
    · rename_i hc hr; exact h3 hr hc

theorem each_inv {I : St → Prop} (f : List String → St → St) (hstep : ∀ pk s, I s → I (f pk s)) :
    ∀ (l : List (List String)) (s : St), I s → I (each f l s)
  | [], _, h => h
  | pk :: rest, s, h => each_inv f hstep rest _ (hstep pk s h)

section
variable {D γ} (hD : D.OK γ)
include hD

theorem live_sound {p : Sess} {f : A → Option (Ends A)} {x : A} {o : Ends A} (hf : ∀ o, f x = some o → Sound γ p x o)
    (h : live D f x = some o) : Sound γ p x o := by
  unfold live at h
  split at h
  · rename_i hd; exact fun env s0 s _ hx => absurd hx (hD.dead hd)
  · exact hf o h

theorem at_joinL {r1 r2 : Ends A} {m : Mode} {env s0 s} (h : γ (r1.at m) env s0 s) : γ ((joinEnds D r1 r2).at m) env s0 s := by
  cases m <;> exact hD.joinL h
theorem at_joinR {r1 r2 : Ends A} {m : Mode} {env s0 s} (h : γ (r2.at m) env s0 s) : γ ((joinEnds D r1 r2).at m) env s0 s := by
  cases m <;> exact hD.joinR h

theorem deferEnds_other {r cr ct cc cp : Ends A} {m : Mode} {env s0 s} (hm : m ≠ .run)
    (h : γ ((joinEnds D (joinEnds D cr ct) (joinEnds D cc cp)).at m) env s0 s) :
    γ ((deferEnds D r cr ct cc cp).at m) env s0 s := by
  cases m
  · exact absurd rfl hm
  all_goals exact hD.joinR h

/-- The clean-up `c` (its ends: `cm`) runs in normal mode from the state `s1` that the body left in mode `m`; if it
runs through, mode `m` is restored. -/
theorem defer_sound {c : Sess} {a : A} {cm o : Ends A} {m : Mode} (hc : Sound γ c a cm) {env : Env} {s0 s1 : St}
    (g : γ a env s0 s1) (hrun : ∀ {s}, γ cm.run env s0 s → γ (o.at m) env s0 s)
    (hoth : ∀ {m' s}, m' ≠ .run → γ (cm.at m') env s0 s → γ (o.at m') env s0 s) :
    γ (o.at (if (exec c env { s1 with mode := .run }).mode = .run then { exec c env { s1 with mode := .run } with mode := m }
        else exec c env { s1 with mode := .run }).mode) env s0
      (if (exec c env { s1 with mode := .run }).mode = .run then { exec c env { s1 with mode := .run } with mode := m }
        else exec c env { s1 with mode := .run }) := by
  have g2 := hc env s0 { s1 with mode := .run } rfl (hD.mode .run g)
  split
  · rename_i h2; rw [h2] at g2; exact hD.mode _ (hrun g2)
  · rename_i h2; exact hoth h2 g2

theorem aiLoop_sound {b : Sess} {x : A} {o : Ends A} (ih : ∀ o, ai D b x = some o → Sound γ b x o)
    (h : aiLoop D x (ai D b x) = some o) (n : Nat) (env : Env) (s0 s : St) (hm : s.mode = .run) (hx : γ x env s0 s) :
    γ (o.at (iter n (exec b env) s).mode) env s0 (iter n (exec b env) s) := by
  unfold aiLoop at h
  split at h
  · rename_i r hr
    split at h
    · rename_i hle
      cases h
      simp only [Bool.and_eq_true] at hle
      refine iter_inv (I := fun st => γ x env s0 st) (Q := fun st => γ ((loopEnds D x r).at st.mode) env s0 st) _
        (fun st hst hi => ?_) (fun st _ hi => hD.joinR (hD.mode .diverge hi)) _ s hm hx
      have g := ih r hr env s0 st hst hi
      refine ⟨fun hr' => hD.le hle.1 (by rwa [hr'] at g), fun hc => hD.mode .run (hD.le hle.2 (by rwa [hc] at g)), fun h1 h2 => ?_⟩
      revert g h1 h2; cases (exec b env st).mode <;> intro g h1 h2
      · exact absurd rfl h1
      · exact g
      · exact g
      · exact absurd rfl h2
      · exact hD.joinL g
    · cases h
  · cases h

theorem ai_sound : ∀ (p : Sess) (x : A) (o : Ends A), ai D p x = some o → Sound γ p x o := by
  intro p x o h env s0 s hm hx
  induction p generalizing x o env s0 s with
  | seq a b iha ihb =>
    simp only [ai] at h
    split at h
    · rename_i o' hb; cases h; exact hD.blk hb env s0 s hm hx
    · split at h
      · cases h
      · rename_i r1 h1
        simp only [Option.map_eq_some_iff] at h
        obtain ⟨r2, h2, rfl⟩ := h
        have g1 := live_sound hD (iha x) h1 env s0 s hm hx
        rw [exec_seq]
        by_cases hm1 : (exec a env s).mode = .run
        · rw [hm1] at g1
          have g2 := live_sound hD (ihb _) h2 env s0 _ hm1 g1
          revert g2
          cases (exec b env (exec a env s)).mode <;> intro g2
          · exact g2
          all_goals exact hD.joinR g2
        · rw [exec_nonrun _ _ _ hm1]
          revert g1 hm1
          cases (exec a env s).mode <;> intro g1 hm1
          · exact absurd rfl hm1
          all_goals exact hD.joinL g1
  | ite c l t e iht ihe =>
    simp only [ai] at h
    split at h
    · rename_i o' hb; cases h; exact hD.blk hb env s0 s hm hx
    · split at h
      · rename_i rt re ht he
        cases h
        rw [exec_ite _ _ _ _ _ _ hm]
        have hs := hD.split c hm hx
        split
        · rename_i hc; exact at_joinL hD (live_sound hD (iht _) ht env s0 s hm (hs.1 hc))
        · rename_i hc; exact at_joinR hD (live_sound hD (ihe _) he env s0 s hm (hs.2 (by simpa using hc)))
      · cases h
  | «when» c b ih =>
    simp only [ai, Option.map_eq_some_iff] at h
    obtain ⟨rt, ht, rfl⟩ := h
    have hs := hD.split c hm hx
    simp only [sess_run, hm, if_true]
    split
    · rename_i hc
      have g := live_sound hD (ih _) ht env s0 s hm (hs.1 hc)
      revert g; cases (exec b env s).mode <;> intro g
      · exact hD.joinL g
      all_goals exact g
    · rename_i hc
      rw [hm]; exact hD.joinR (hs.2 (by simpa using hc))
  | call n l b ih =>
    simp only [ai] at h
    split at h
    · rename_i o' hb; cases h; exact hD.blk hb env s0 s hm hx
    · simp only [Option.map_eq_some_iff] at h
      obtain ⟨r, hr, rfl⟩ := h
      have g := ih x r hr env s0 s hm hx
      rw [exec_call _ _ _ _ _ hm]
      split
      · rename_i hret
        rw [hret] at g
        exact hD.joinR (hD.mode .run g)
      · rename_i hret
        revert g hret; cases (exec b env s).mode <;> intro g hret
        · exact hD.joinL g
        · exact g
        · exact absurd rfl hret
        all_goals exact g
  | scope c b ih =>
    rw [exec_scope]; exact ih x o h env s0 s hm hx
  | forEach b ih =>
    simp only [ai] at h
    split at h
    · rename_i o' hb; cases h; exact hD.blk hb env s0 s hm hx
    split at h
    · rename_i r hr
      split at h
      · rename_i hle
        cases h
        simp only [sess_run, hm, if_true]
        refine each_inv (I := fun st => γ ((eachEnds x r).at st.mode) env s0 st) _ (fun pk st hst => ?_) _ _
          (by rw [hm]; exact hx)
        by_cases hst' : st.mode = .run
        · rw [hst'] at hst
          have g := ih _ r hr { env with cur := pk } s0 st hst' ((hD.cur pk).mpr hst)
          rw [hD.cur pk] at g
          revert g; cases (exec b { env with cur := pk } st).mode <;> intro g
          · exact hD.le hle g
          all_goals exact g
        · rw [exec_nonrun _ _ _ hst']; exact hst
      · cases h
    · cases h
  | loopN k b ih =>
    rw [exec_loopN]; exact aiLoop_sound hD (ih _) h k env s0 s hm (hD.inv hx)
  | loopFuel b ih =>
    simp only [sess_run]; exact aiLoop_sound hD (ih _) h env.fuel env s0 s hm (hD.inv hx)
  | defer c b ihc ihb =>
    simp only [ai] at h
    split at h
    · cases h
    · rename_i r hr
      split at h
      · rename_i cr ct cc cp hcr hct hcc hcp
        cases h
        have g := ihb x r hr env s0 s hm hx
        simp only [sess_run, hm, if_true]
        split
        · rename_i hd; rw [hd] at g ⊢; exact hD.joinL g
        · rename_i hd
          revert hd g
          generalize (exec b env s).mode = m
          intro g hd
          cases m
          · exact defer_sound hD (live_sound hD (ihc _) hcr) g id
              (fun hne h => deferEnds_other hD hne (at_joinL hD (at_joinL hD h)))
          · exact defer_sound hD (live_sound hD (ihc _) hcp) g hD.joinL
              (fun hne h => deferEnds_other hD hne (at_joinR hD (at_joinR hD h)))
          · exact defer_sound hD (live_sound hD (ihc _) hct) g hD.joinL
              (fun hne h => deferEnds_other hD hne (at_joinL hD (at_joinR hD h)))
          · exact defer_sound hD (live_sound hD (ihc _) hcc) g hD.joinL
              (fun hne h => deferEnds_other hD hne (at_joinR hD (at_joinL hD h)))
          · exact absurd rfl hd
      · cases h
  | _ =>
    exact hD.leaf rfl (by simpa [ai] using h) env s0 s hm hx

end

end NA.C09
