import NA.Model.MergeCisco
import NA.Proofs.C18
import NA.Core.ListFacts
/-! The general model of cisco MergeSpoc (`NA/Model/MergeCisco.lean`): every merge function only extends the
state (`Ext`: table keys, reference marks, the hand-over log and the write log only grow; `LogInv`, `LogOK` are
kept), and the lists that the generic, sub-command and crypto merges store. -/
namespace NA.C18.G

/-- Each non-simple object is handed over to `mergeCmds` once, and every object handed over is marked referenced. -/
def LogInv (s : St) : Prop := s.log.Nodup ∧ ∀ k ∈ s.log, s.isRefd k = true

theorem assocGet_assocSet {β : Type} (t : List (String × β)) (k k' : String) (v : β) :
    assocGet (assocSet t k v) k' = if k == k' then some v else assocGet t k' := by
  induction t with
  | nil => by_cases h : k == k' <;> simp [assocSet, assocGet, h]
  | cons p t ih =>
    unfold assocSet
    split
    · rename_i hp
      have hp' := beq_iff_eq.mp hp
      by_cases h : k == k' <;> simp [assocGet, h, hp']
    · rename_i hp
      unfold assocGet at ih ⊢
      simp only [List.find?_cons]
      split
      · rename_i hpk'
        have : (k == k') = false := by
          rw [beq_eq_false_iff_ne]; rintro rfl; exact hp hpk'
        simp [this]
      · exact ih

theorem Tbl.lookup_set (t : Tbl) (p n p' n' : String) (l : List Cmd) :
    assocGet ((t.set p n l).names p') n' = if p = p' ∧ n = n' then some l else assocGet (t.names p') n' := by
  unfold Tbl.names Tbl.set
  rw [assocGet_assocSet]
  by_cases hp : p = p'
  · subst hp
    rw [if_pos (beq_self_eq_true p), Option.getD_some, assocGet_assocSet]
    by_cases hn : n = n'
    · subst hn; simp
    · simp [hn, Tbl.names]
  · simp [hp]

theorem Tbl.has_set_of_has (t : Tbl) (p n p' n' : String) (l : List Cmd) (h : t.has p' n' = true) :
    (t.set p n l).has p' n' = true := by
  unfold Tbl.has at h ⊢
  rw [Tbl.lookup_set]
  split
  · rfl
  · exact h

theorem Tbl.get_set (t : Tbl) (p n p' n' : String) (l : List Cmd) :
    (t.set p n l).get p' n' = if p = p' ∧ n = n' then l else t.get p' n' := by
  unfold Tbl.get
  rw [Tbl.lookup_set]
  split <;> rfl

theorem has_append_of_has (t : Tbl) (x : String × NameTbl) (p n : String) (h : t.has p n = true) :
    Tbl.has (t ++ [x]) p n = true := by
  unfold Tbl.has Tbl.names assocGet at *
  cases hf : t.find? (fun q => q.1 == p) with
  | none => simp [hf] at h
  | some q => simp [hf] at h ⊢; exact h

def lastWrite (w : List (Key × List Cmd)) (p n : String) : Option (List Cmd) :=
  ((w.filter (fun x => x.1.1 == p && x.1.2 == n)).getLast?).map (·.2)

theorem lastWrite_append (w : List (Key × List Cmd)) (p n p' n' : String) (l : List Cmd) :
    lastWrite (w ++ [((p, n), l)]) p' n' = if p = p' ∧ n = n' then some l else lastWrite w p' n' := by
  unfold lastWrite
  rw [List.filter_append]
  by_cases h : p = p' ∧ n = n'
  · obtain ⟨rfl, rfl⟩ := h
    simp
  · have : ((p == p') && (n == n')) = false := by
      simp only [Bool.and_eq_false_iff, beq_eq_false_iff_ne]
      exact Decidable.not_and_iff_not_or_not.mp h
    simp [this, h]

/-- The table holds, for every key written during the merge, the list written last. -/
def LogOK (s : St) : Prop := ∀ p n l, lastWrite s.writes p n = some l → s.a.get p n = l

structure Ext (s s' : St) : Prop where
  tbl  : LogOK s → LogOK s'
  wsub : ∀ x, x ∈ s.writes → x ∈ s'.writes
  keys : ∀ p n, s.a.has p n = true → s'.a.has p n = true
  tru  : ∀ k, s.isRefd k = true → s'.isRefd k = true
  seen : ∀ k, k ∈ s.seen → k ∈ s'.seen
  sub  : ∀ k, k ∈ s.log → k ∈ s'.log
  inv  : LogInv s → LogInv s'

theorem Ext.refl (s : St) : Ext s s := ⟨fun h => h, fun _ h => h, fun _ _ h => h, fun _ h => h, fun _ h => h, fun _ h => h, fun h => h⟩

theorem Ext.trans {a b c : St} (h1 : Ext a b) (h2 : Ext b c) : Ext a c :=
  ⟨fun h => h2.tbl (h1.tbl h), fun x h => h2.wsub x (h1.wsub x h), fun p n h => h2.keys p n (h1.keys p n h), fun k h => h2.tru k (h1.tru k h), fun k h => h2.seen k (h1.seen k h), fun k h => h2.sub k (h1.sub k h),
   fun h => h2.inv (h1.inv h)⟩

theorem Ext.store (s : St) (p n : String) (l : List Cmd) : Ext s (s.store p n l) := by
  refine ⟨fun h p' n' l' hl => ?_, fun x hx => List.mem_append_left _ hx,
    fun p' n' h => Tbl.has_set_of_has _ _ _ _ _ _ h, fun _ h => h, fun _ h => h, fun _ h => h, fun h => h⟩
  simp only [St.store] at hl ⊢
  rw [lastWrite_append] at hl
  rw [Tbl.get_set]
  by_cases hk : p = p' ∧ n = n'
  · simp only [hk, and_self, if_true, Option.some.injEq] at hl ⊢
    exact hl
  · simp only [hk, if_false] at hl ⊢
    exact h p' n' l' hl

theorem store_get (st : St) (p n : String) (l : List Cmd) : (st.store p n l).a.get p n = l := by
  simp [St.store, Tbl.get_set]

theorem store_event (st : St) (p n : String) (l : List Cmd) :
    (st.store p n l).writes.getLast? = some ((p, n), (st.store p n l).a.get p n) := by
  simp [St.store, Tbl.get_set]

theorem isRefd_markRef (s : St) (k k' : Key) :
    (s.markRef k).isRefd k' = true ↔ k' = k ∨ s.isRefd k' = true := by
  simp [St.markRef, St.isRefd]

theorem Ext.markRef (s : St) (k : Key) : Ext s (s.markRef k) := by
  refine ⟨fun h => h, fun _ h => h, fun _ _ h => h, fun k' h => ?_, fun _ h => h, fun _ h => h, fun h => ⟨h.1, fun k' hk' => ?_⟩⟩
  · exact (isRefd_markRef s k k').mpr (Or.inr h)
  · exact (isRefd_markRef s k k').mpr (Or.inr (h.2 k' hk'))

theorem Ext.markSeen (s : St) (k : Key) : Ext s (s.markSeen k) :=
  ⟨fun h => h, fun _ h => h, fun _ _ h => h, fun _ h => h, fun _ h => List.mem_append_left _ h, fun _ h => h, fun h => h⟩

theorem Ext.handOver (s : St) (k : Key) (hk : s.isRefd k = false) :
    Ext s { s.markRef k with log := s.log ++ [k] } := by
  refine ⟨fun h => h, fun _ h => h, fun _ _ h => h, fun k' h => ?_, fun _ h => h, fun k' h => List.mem_append_left _ h, fun h => ⟨?_, fun k' hk' => ?_⟩⟩
  · exact (Ext.markRef s k).tru k' h
  · refine List.nodup_append.mpr ⟨h.1, by simp, fun a ha c hc hab => ?_⟩
    have := h.2 a ha
    rw [hab, List.mem_singleton.mp hc, hk] at this
    cases this
  · rcases List.mem_append.mp hk' with h1 | h1
    · exact (isRefd_markRef s k k').mpr (Or.inr (h.2 k' h1))
    · exact (isRefd_markRef s k k').mpr (Or.inl (by simpa using h1))

theorem simpleFinish_fst (st : St) (al : List Cmd) (aref : Option (List String)) (bref : List String) (i : Nat) :
    (simpleFinish st al aref bref i).1 = st := by
  unfold simpleFinish; split <;> rfl

def RecExt (rec : Rec) : Prop := ∀ st al bl n p st', rec st al bl n p = .ok st' → Ext st st'

theorem foldE_eq_foldlM {σ β : Type} (f : σ → β → Except Err σ) (s : σ) (l : List β) :
    foldE f s l = l.foldlM f s := by
  induction l generalizing s with
  | nil => rfl
  | cons x xs ih =>
    simp only [foldE, List.foldlM_cons]
    cases f s x with
    | ok s' => exact ih s'
    | error e => rfl

theorem foldE_ext {σ β : Type} (π : σ → St) {f : σ → β → Except Err σ}
    (hf : ∀ s x s', f s x = .ok s' → Ext (π s) (π s')) {l : List β} {s s' : σ} (h : foldE f s l = .ok s') :
    Ext (π s) (π s') :=
  foldlM_inv f (fun t => Ext (π s) (π t)) (fun _ => True) (fun t x t' ht _ hx => ht.trans (hf t x t' hx))
    l s s' (fun _ _ => trivial) (Ext.refl _) (foldE_eq_foldlM f s l ▸ h)

section
variable {rec : Rec} {b : Tbl} {raw : Bool} (hrec : RecExt rec)
include hrec

theorem refStep_ext {acc acc' : St × Option (List String) × List String} {i : Nat} {bName pfx : String}
    (h : refStep rec b raw acc i bName pfx = .ok acc') : Ext acc.1 acc'.1 := by
  obtain ⟨st, aref, bref⟩ := acc
  unfold refStep at h
  simp only at h
  split at h
  · cases h
  · split at h
    · -- simple object
      split at h
      · cases h
        rw [simpleFinish_fst]
        exact Ext.markRef _ _
      · split at h
        · cases h
        · cases h
          rw [simpleFinish_fst]
          exact (Ext.markRef st _).trans (Ext.store _ _ _ _)
    · split at h
      · split at h
        · cases h
        · rename_i hnot
          split at h
          · rename_i st' hr
            cases h
            exact (Ext.handOver st _ (by simpa using hnot)).trans (hrec _ _ _ _ _ _ hr)
          · cases h
      · split at h
        · cases h
        · split at h
          · cases h
          · split at h
            · cases h
            · rename_i hnot
              split at h
              · rename_i st' hr
                cases h
                exact (Ext.handOver st _ (by simpa using hnot)).trans (hrec _ _ _ _ _ _ hr)
              · cases h

theorem mergeRefs_ext {st : St} {aref : Option (List String)} {bref brefPfx : List String}
    {r : St × Option (List String) × List String}
    (h : mergeRefs rec b raw st aref bref brefPfx = .ok r) : Ext st r.1 := by
  unfold mergeRefs at h
  exact foldE_ext Prod.fst (fun _ _ _ hs => refStep_ext hrec hs) h

/-- New subcommands (`for _, bs := range b.sub { mergeRefs(ab, nil, bs) }`). -/
theorem newSubs_ext {l : List Sub} {acc acc' : St × List Sub}
    (h : foldE (newSubStep rec b raw) acc l = .ok acc') : Ext acc.1 acc'.1 := by
  refine foldE_ext Prod.fst (fun _ _ _ hs => ?_) h
  unfold newSubStep at hs
  split at hs
  · rename_i hm; cases hs; exact mergeRefs_ext hrec hm
  · cases hs

end

/-- The model's loop is the generic recursion for the last position of a key (arguments in another order). -/
theorem lastIdxFrom_eq {β : Type} [BEq β] (k : β) : ∀ (l : List β) (i : Nat) (acc : Option Nat),
    lastIdxFrom k i l acc = ListFacts.lastIdxFrom k l i acc
  | [], _, _ => rfl
  | _ :: xs, i, _ => lastIdxFrom_eq k xs (i + 1) _

theorem lastIdxOf_isSome {β : Type} [BEq β] [LawfulBEq β] (l : List β) (k : β) :
    (lastIdxOf l k).isSome = l.contains k := by
  unfold lastIdxOf
  rw [lastIdxFrom_eq, ListFacts.lastIdxFrom_isSome]
  rfl

theorem contains_of_lastIdxOf {β : Type} [BEq β] [LawfulBEq β] {l : List β} {k : β} {j : Nat}
    (h : lastIdxOf l k = some j) : l.contains k = true := by
  rw [← lastIdxOf_isSome, h]; rfl

theorem contains_of_lastIdxOf_none {β : Type} [BEq β] [LawfulBEq β] {l : List β} {k : β}
    (h : lastIdxOf l k = none) : l.contains k = false := by
  rw [← lastIdxOf_isSome, h]; rfl

theorem lastIdxOf_some {β : Type} [BEq β] [LawfulBEq β] (l : List β) (k : β) (j : Nat)
    (h : lastIdxOf l k = some j) : l[j]? = some k := by
  unfold lastIdxOf at h
  rw [lastIdxFrom_eq] at h
  rcases ListFacts.lastIdxFrom_some k l 0 none j h with h1 | ⟨m, rfl, h2⟩
  · cases h1
  · simpa using h2

theorem listSet_spec {β γ : Type} (f : β → γ) {l : List β} {j : Nat} {y : β} (x : β) (hy : l[j]? = some y)
    (hf : f x = f y) : (listSet l j x).map f = l.map f ∧ ∀ c ∈ listSet l j x, c = x ∨ c ∈ l := by
  refine ⟨?_, fun _ hc => (List.mem_or_eq_of_mem_set hc).symm⟩
  obtain ⟨hj, rfl⟩ := List.getElem?_eq_some_iff.mp hy
  unfold listSet
  rw [List.map_set, hf, ← List.getElem_map f, List.set_getElem_self]
  rwa [List.length_map]

theorem length_listSet {β : Type} (l : List β) (j : Nat) (x : β) : (listSet l j x).length = l.length := by
  simp [listSet]

/-! ### One successful step of every merge function: how the state grows, and what the list looks like

`*_spec`: one step of a loop (`Ext` of the state given `RecExt rec`, and the list equation); `*_ok`: a merge of one
kind is its loop followed by ONE `store`.  Everything else about these functions is read off these lemmas. -/

section
variable {rec : Rec} {b : Tbl} {raw : Bool}

theorem subStep_spec {keys : List String} {acc acc' : St × List Sub} {bs : Sub}
    (h : subStep rec b raw keys acc bs = .ok acc') :
    (RecExt rec → Ext acc.1 acc'.1) ∧
    acc'.2.map (·.parsed) = acc.2.map (·.parsed) ++ (if !keys.contains bs.parsed then [bs.parsed] else []) := by
  obtain ⟨st, asub⟩ := acc
  unfold subStep at h
  simp only at h
  split at h
  · rename_i j hj
    split at h
    · cases h
    · rename_i as has
      split at h
      · rename_i hm; cases h
        refine ⟨fun hrec => mergeRefs_ext hrec hm, ?_⟩
        simp only [contains_of_lastIdxOf hj, Bool.not_true, Bool.false_eq_true, ↓reduceIte, List.append_nil]
        refine (listSet_spec (·.parsed) _ has ?_).1
        rfl
      · cases h
  · rename_i hj
    split at h
    · rename_i hm; cases h
      refine ⟨fun hrec => mergeRefs_ext hrec hm, ?_⟩
      simp only [contains_of_lastIdxOf_none hj, Bool.not_false, ↓reduceIte, List.map_append]
      rfl
    · cases h

theorem mergeSubCmds_ok {st : St} {a bc : Cmd} {r : St × Cmd} (h : mergeSubCmds rec b raw st a bc = .ok r) :
    ∃ asub, foldE (subStep rec b raw (a.sub.map (·.parsed))) (st, a.sub) bc.sub = .ok (r.1, asub) ∧
      r.2 = { a with sub := asub } := by
  unfold mergeSubCmds at h
  split at h
  · rename_i st' asub hf; cases h; exact ⟨asub, hf, rfl⟩
  · cases h

theorem mergeSubCmds_ext (hrec : RecExt rec) {st : St} {a bc : Cmd} {r : St × Cmd}
    (h : mergeSubCmds rec b raw st a bc = .ok r) : Ext st r.1 :=
  let ⟨_, hf, _⟩ := mergeSubCmds_ok h
  foldE_ext Prod.fst (fun _ _ _ hs => (subStep_spec hs).1 hrec) hf

theorem subcmds_keys {st : St} {a bc : Cmd} {r : St × Cmd} (h : mergeSubCmds rec b raw st a bc = .ok r) :
    r.2.sub.map (·.parsed) = a.sub.map (·.parsed) ++
      (bc.sub.filter (fun s => !(a.sub.map (·.parsed)).contains s.parsed)).map (·.parsed) := by
  obtain ⟨asub, hf, e⟩ := mergeSubCmds_ok h
  rw [e]
  exact foldlM_collect (subStep rec b raw _) (fun a : St × List Sub => a.2.map (·.parsed)) _ _
    (fun _ _ _ hx => (subStep_spec hx).2) _ _ _ (foldE_eq_foldlM _ _ _ ▸ hf)

theorem genericStep_spec {keys : List String} {acc acc' : St × List Cmd} {bc : Cmd}
    (h : genericStep rec b raw keys acc bc = .ok acc') :
    (RecExt rec → Ext acc.1 acc'.1) ∧
    acc'.2.map (·.parsed) = acc.2.map (·.parsed) ++ (if !keys.contains bc.parsed then [bc.parsed] else []) := by
  obtain ⟨st, al⟩ := acc
  unfold genericStep at h
  simp only at h
  split at h
  · rename_i j hj
    split at h
    · cases h
    · rename_i a ha
      split at h
      · cases h
      · rename_i st1 a1 hs
        split at h
        · rename_i hm; cases h
          refine ⟨fun hrec => (mergeSubCmds_ext hrec hs).trans (mergeRefs_ext hrec hm), ?_⟩
          simp only [contains_of_lastIdxOf hj, Bool.not_true, Bool.false_eq_true, ↓reduceIte, List.append_nil]
          obtain ⟨_, _, e⟩ := mergeSubCmds_ok hs
          refine (listSet_spec (·.parsed) _ ha ?_).1
          simp only at e
          rw [e]
        · cases h
  · rename_i hj
    split at h
    · cases h
    · rename_i hf
      split at h
      · rename_i hm; cases h
        refine ⟨fun hrec => (newSubs_ext hrec hf).trans (mergeRefs_ext hrec hm), ?_⟩
        simp only [contains_of_lastIdxOf_none hj, Bool.not_false, ↓reduceIte, List.map_append]
        rfl
      · cases h

theorem generic_keys {keys : List String} {bl : List Cmd} {acc acc' : St × List Cmd}
    (h : foldE (genericStep rec b raw keys) acc bl = .ok acc') :
    acc'.2.map (·.parsed) =
      acc.2.map (·.parsed) ++ (bl.filter (fun c => !keys.contains c.parsed)).map (·.parsed) :=
  foldlM_collect (genericStep rec b raw keys) (fun a : St × List Cmd => a.2.map (·.parsed)) _ _
    (fun _ _ _ hx => (genericStep_spec hx).2) bl acc acc' (foldE_eq_foldlM _ _ _ ▸ h)

theorem mergeGeneric_ok {st st' : St} {al bl : List Cmd} {name pfx : String}
    (h : mergeGeneric rec b raw st al bl name pfx = .ok st') :
    ∃ st1 al', foldE (genericStep rec b raw (al.map (·.parsed))) (st, al) bl = .ok (st1, al') ∧
      st' = st1.store pfx name al' := by
  unfold mergeGeneric at h
  split at h
  · rename_i st1 al' hf; cases h; exact ⟨st1, al', hf, rfl⟩
  · cases h

theorem aclRefStep_spec {acc acc' : St × List Cmd} {bc : Cmd} (h : aclRefStep rec b raw acc bc = .ok acc') :
    (RecExt rec → Ext acc.1 acc'.1) ∧ ∃ c, acc'.2 = acc.2 ++ [c] ∧ c.parsed = bc.parsed ∧ c.app = bc.app := by
  unfold aclRefStep at h
  split at h
  · rename_i hm; cases h; exact ⟨fun hrec => mergeRefs_ext hrec hm, _, rfl, rfl, rfl⟩
  · cases h

theorem aclRef_fold (bl : List Cmd) (acc acc' : St × List Cmd)
    (h : foldE (aclRefStep rec b raw) acc bl = .ok acc') :
    acc'.2.map (·.parsed) = acc.2.map (·.parsed) ++ bl.map (·.parsed) ∧
    acc'.2.map (·.app) = acc.2.map (·.app) ++ bl.map (·.app) := by
  have step : ∀ s x s', aclRefStep rec b raw s x = .ok s' → ∃ c, s'.2 = s.2 ++ [c] ∧ c.parsed = x.parsed ∧ c.app = x.app :=
    fun _ _ _ hx => (aclRefStep_spec hx).2
  rw [foldE_eq_foldlM] at h
  have h1 := foldlM_collect _ (fun a : St × List Cmd => a.2.map (·.parsed)) (fun _ => true) (·.parsed)
    (fun s x s' hx => by obtain ⟨c, hc, hp, _⟩ := step s x s' hx; simp [hc, hp]) bl acc acc' h
  have h2 := foldlM_collect _ (fun a : St × List Cmd => a.2.map (·.app)) (fun _ => true) (·.app)
    (fun s x s' hx => by obtain ⟨c, hc, _, ha⟩ := step s x s' hx; simp [hc, ha]) bl acc acc' h
  rw [List.filter_eq_self.mpr fun _ _ => rfl] at h1 h2
  exact ⟨h1, h2⟩

theorem mergeAsaAcl_ok {st st' : St} {al bl : List Cmd} {name pfx : String}
    (h : mergeAsaAcl rec b raw st al bl name pfx = .ok st') :
    ∃ st1 bl', foldE (aclRefStep rec b raw) (st, []) bl = .ok (st1, bl') ∧
      st' = st1.store pfx name (mergeVia mergeASA (fun c => asaKind c.parsed) (·.app) al bl') := by
  unfold mergeAsaAcl at h
  split at h
  · cases h
  · rename_i st1 bl' hf; cases h; exact ⟨st1, bl', hf, rfl⟩

theorem mergeIosAcl_ok {st st' : St} {al bl : List Cmd} {name pfx : String}
    (h : mergeIosAcl st al bl name pfx = .ok st') :
    ∃ b0 rest, bl = b0 :: rest ∧ st' = st.store pfx name
      [{ b0 with sub := mergeVia mergeIOS (fun (s : Sub) => iosKind s.parsed) (·.app) ((al.head?.map (·.sub)).getD []) (bl.flatMap (·.sub)) }] := by
  unfold mergeIosAcl at h
  split at h
  · cases h
  · rename_i b0 rest; cases h; exact ⟨b0, rest, rfl, rfl⟩

theorem cryptoStep_spec {keys : List (String × String)} {al0 : List Cmd}
    {acc acc' : St × List Cmd × List Cmd} {bc : Cmd}
    (hk : acc.2.1.map (fun c => cryptoKey c.parsed) = keys)
    (h : cryptoStep rec b raw keys al0 acc bc = .ok acc') :
    (RecExt rec → Ext acc.1 acc'.1) ∧
    acc'.2.1.map (fun c => cryptoKey c.parsed) = keys ∧
    acc'.2.2.map (·.parsed) = acc.2.2.map (·.parsed) ++
      (if !keys.contains (cryptoKey bc.parsed) then [bc.parsed] else []) ∧
    (∀ c ∈ acc'.2.1, c.parsed = bc.parsed ∨ c.parsed ∈ acc.2.1.map (·.parsed)) := by
  obtain ⟨st, al, add⟩ := acc
  simp only at hk
  have hold : ∀ c ∈ al, c.parsed = bc.parsed ∨ c.parsed ∈ al.map (·.parsed) :=
    fun c hc => Or.inr (List.mem_map.mpr ⟨c, hc, rfl⟩)
  unfold cryptoStep cryptoStepG at h
  simp only [if_true] at h
  split at h
  · rename_i j hj
    simp only [contains_of_lastIdxOf hj, Bool.not_true, Bool.false_eq_true, ↓reduceIte, List.append_nil]
    split at h
    · cases h
    · rename_i a ha
      -- the slot found has the key of the raw command
      have hka : cryptoKey a.parsed = cryptoKey bc.parsed := by
        have h1 : (al.map (fun c => cryptoKey c.parsed))[j]? = some (cryptoKey a.parsed) := by
          simp [List.getElem?_map, ha]
        rw [hk, lastIdxOf_some keys _ j hj] at h1
        exact (Option.some.inj h1).symm
      split at h
      · split at h
        · cases h
        · rename_i st1 a1 hs
          obtain ⟨_, _, e⟩ := mergeSubCmds_ok hs
          have hp1 : a1.parsed = a.parsed := by simp only at e; rw [e]
          split at h
          · rename_i st2 ar2 br2 hm2
            cases h
            obtain ⟨hmap, hmem⟩ := listSet_spec (fun c : Cmd => cryptoKey c.parsed) { a1 with ref := ar2.getD a1.ref } ha
              (congrArg cryptoKey hp1)
            refine ⟨fun hrec => (mergeSubCmds_ext hrec hs).trans (mergeRefs_ext hrec hm2), hmap.trans hk, rfl,
              fun c hc => ?_⟩
            rcases hmem c hc with rfl | h1
            · exact Or.inr (List.mem_map.mpr ⟨a, List.mem_of_getElem? ha, hp1.symm⟩)
            · exact hold c h1
          · cases h
      · split at h
        · rename_i st2 ar2 br2 hm2
          cases h
          obtain ⟨hmap, hmem⟩ := listSet_spec (fun c : Cmd => cryptoKey c.parsed)
            { a with parsed := bc.parsed, ref := br2, refPrefix := bc.refPrefix } ha hka.symm
          refine ⟨fun hrec => mergeRefs_ext hrec hm2, hmap.trans hk, rfl, fun c hc => ?_⟩
          rcases hmem c hc with rfl | h1
          · exact Or.inl rfl
          · exact hold c h1
        · cases h
  · rename_i hj
    simp only [contains_of_lastIdxOf_none hj, Bool.not_false, ↓reduceIte]
    split at h
    · cases h
    · rename_i hf
      split at h
      · rename_i hm
        cases h
        exact ⟨fun hrec => (newSubs_ext hrec hf).trans (mergeRefs_ext hrec hm), hk,
          by rw [List.map_append]; split <;> rfl, hold⟩
      · cases h

theorem crypto_keys (keys : List (String × String)) (al0 : List Cmd) :
    ∀ (bl : List Cmd) (acc acc' : St × List Cmd × List Cmd),
      acc.2.1.map (fun c => cryptoKey c.parsed) = keys →
      foldE (cryptoStep rec b raw keys al0) acc bl = .ok acc' →
      (RecExt rec → Ext acc.1 acc'.1) ∧
      acc'.2.1.map (fun c => cryptoKey c.parsed) = keys ∧
      acc'.2.2.map (·.parsed) = acc.2.2.map (·.parsed) ++
        (bl.filter (fun c => !keys.contains (cryptoKey c.parsed))).map (·.parsed) ∧
      (∀ c ∈ acc'.2.1, c.parsed ∈ bl.map (·.parsed) ∨ c.parsed ∈ acc.2.1.map (·.parsed)) := by
  intro bl
  induction bl with
  | nil =>
    intro acc acc' hk h
    cases h
    exact ⟨fun _ => Ext.refl _, hk, by simp, fun c hc => Or.inr (List.mem_map.mpr ⟨c, hc, rfl⟩)⟩
  | cons x xs ih =>
    intro acc acc' hk h
    rw [foldE_eq_foldlM] at h
    obtain ⟨a1, hx, h⟩ := (foldlM_cons_ok _).mp h
    rw [← foldE_eq_foldlM] at h
    obtain ⟨h0, h1, h2, h3⟩ := cryptoStep_spec hk hx
    obtain ⟨i0, i1, i2, i3⟩ := ih a1 acc' h1 h
    refine ⟨fun hrec => (h0 hrec).trans (i0 hrec), i1, ?_, ?_⟩
    · rw [i2, h2, List.append_assoc, List.filter_cons]
      cases keys.contains (cryptoKey x.parsed) <;> rfl
    · intro c hc
      rcases i3 c hc with h4 | h4
      · exact Or.inl (List.mem_cons_of_mem _ h4)
      · obtain ⟨c', hc', hpc⟩ := List.mem_map.mp h4
        rcases h3 c' hc' with h5 | h5
        · exact Or.inl (hpc ▸ h5 ▸ List.mem_cons_self)
        · exact Or.inr (hpc ▸ h5)

theorem cryptoCommon_ext (hrec : RecExt rec) {st : St} {al bl : List Cmd} {r : St × List Cmd × List Cmd}
    (h : cryptoCommon rec b raw st al bl = .ok r) : Ext st r.1 :=
  (crypto_keys _ al bl (st, al, []) r rfl h).1 hrec

theorem mergeDynMap_ok {st st' : St} {al bl : List Cmd} {name pfx : String}
    (h : mergeDynMap rec b raw st al bl name pfx = .ok st') :
    ∃ st1 al' add, cryptoCommon rec b raw st al bl = .ok (st1, al', add) ∧ st' = st1.store pfx name (al' ++ add) := by
  unfold mergeDynMap at h
  split at h
  · rename_i st1 al' add hc; cases h; exact ⟨st1, al', add, hc, rfl⟩
  · cases h

theorem cryptoMapStep_ext (hrec : RecExt rec) {acc acc' : St × List Cmd} {c : Call}
    (h : cryptoMapStep rec b raw acc c = .ok acc') : Ext acc.1 acc'.1 := by
  obtain ⟨st, al⟩ := acc
  unfold cryptoMapStep at h
  simp only at h
  split at h
  · cases h
  · rename_i hc; cases h; exact cryptoCommon_ext hrec hc

theorem mergeCryptoMap_ok {st st' : St} {al bl : List Cmd} {name pfx : String}
    (h : mergeCryptoMap rec b raw st al bl name pfx = .ok st') :
    ∃ calls st1 al', matchCryptoMap al bl = .ok calls ∧
      foldE (cryptoMapStep rec b raw) (st, al) calls = .ok (st1, al') ∧ st' = st1.store pfx name al' := by
  unfold mergeCryptoMap at h
  split at h
  · cases h
  · rename_i calls hc
    split at h
    · rename_i st1 al' hf; cases h; exact ⟨calls, st1, al', hc, hf, rfl⟩
    · cases h

theorem mergeCmdsWith_ext (hrec : RecExt rec) : RecExt (mergeCmdsWith rec b raw) := by
  intro st al bl n p st' h
  unfold mergeCmdsWith at h
  split at h
  · obtain ⟨_, _, _, _, hf, rfl⟩ := mergeCryptoMap_ok h
    exact (foldE_ext Prod.fst (fun _ _ _ hs => cryptoMapStep_ext hrec hs) hf).trans (Ext.store _ _ _ _)
  · split at h
    · obtain ⟨_, _, _, hc, rfl⟩ := mergeDynMap_ok h
      exact (cryptoCommon_ext hrec hc).trans (Ext.store _ _ _ _)
    · split at h
      · obtain ⟨_, _, hf, rfl⟩ := mergeAsaAcl_ok h
        exact (foldE_ext Prod.fst (fun _ _ _ hs => (aclRefStep_spec hs).1 hrec) hf).trans (Ext.store _ _ _ _)
      · split at h
        · obtain ⟨_, _, _, rfl⟩ := mergeIosAcl_ok h
          exact Ext.store _ _ _ _
        · obtain ⟨_, _, hf, rfl⟩ := mergeGeneric_ok h
          exact (foldE_ext Prod.fst (fun _ _ _ hs => (genericStep_spec hs).1 hrec) hf).trans (Ext.store _ _ _ _)

end

theorem mergeCmds_ext (b : Tbl) (raw : Bool) : ∀ fuel, RecExt (mergeCmds b raw fuel)
  | 0 => by intro st al bl n p st' h; simp [mergeCmds] at h
  | fuel + 1 => mergeCmdsWith_ext (mergeCmds_ext b raw fuel)

theorem topStep_ext (b : Tbl) (raw : Bool) (st st' : St) (k : Key)
    (h : topStep b raw st k = .ok st') : Ext st st' := by
  unfold topStep at h
  simp only at h
  split at h
  · cases h
  · split at h
    · cases h
    · split at h
      · exact mergeCmds_ext b raw _ _ _ _ _ _ _ h
      · split at h
        · cases h
          exact Ext.markSeen st k
        · cases h; exact Ext.refl _

theorem foldTop_ext (b : Tbl) (raw : Bool) (l : List Key) (st st' : St)
    (h : foldE (topStep b raw) st l = .ok st') : Ext st st' :=
  foldE_ext id (fun s x s' hs => topStep_ext b raw s s' x hs) h

theorem insertSorted_eq : insertSorted = ListFacts.insertBy (fun a b : String => decide (a ≤ b)) := by
  funext k l
  induction l with
  | nil => rfl
  | cons y ys ih => simp only [insertSorted, ListFacts.insertBy, ih, decide_eq_true_eq]

theorem mem_sortStrings (x : String) (l : List String) : x ∈ sortStrings l ↔ x ∈ l := by
  unfold sortStrings
  rw [ListFacts.mem_foldl_iff (Q := (x = ·))
    (fun _ _ => by rw [insertSorted_eq, ListFacts.mem_insertBy, or_comm]) l []]
  simp

end NA.C18.G
