import NA.Proofs.C09Struct
import NA.Proofs.C09Http
/-!
# C09: which change commands a program puts on the wire (towards "OK only if everything was sent")

`noChange p`: `p` contains no send of role `change`; then `changeSends` of the trace is unchanged
(`without_ext` of `C09Struct`).
-/
namespace NA.C09
open NA.Sess NA.Apply NA.Spec.C09

def isChangeSend : Ev → Bool
  | .sent .change _ => true
  | _ => false

def noChange : Sess → Bool := without isChangeSend

theorem isChangeSend_kind : SendKind isChangeSend :=
  ⟨fun _ _ => rfl, fun _ => rfl, rfl, rfl, fun ρ _ _ => by cases ρ <;> rfl⟩

theorem changeSends_append (a b : List Ev) : changeSends (a ++ b) = changeSends a ++ changeSends b := by
  induction a with
  | nil => simp [changeSends]
  | cons e t ih =>
    cases e with
    | sent ρ ls => cases ρ <;> simp [changeSends, ih]
    | _ => simp [changeSends, ih]

theorem changeSends_cons_of_not {e : Ev} (t : List Ev) (h : isChangeSend e = false) :
    changeSends (e :: t) = changeSends t := by
  cases e with
  | sent ρ ls => cases ρ <;> first | rfl | cases h
  | _ => rfl

theorem changeSends_quiet (l : List Ev) (h : ∀ e ∈ l, isChangeSend e = false) : changeSends l = [] := by
  induction l with
  | nil => rfl
  | cons e t ih =>
    rw [changeSends_cons_of_not t (h e (by simp))]
    exact ih fun x hx => h x (by simp [hx])

theorem noChange_changeSends (p : Sess) (hq : noChange p = true) (env : Env) (s : St) :
    changeSends (exec p env s).tr = changeSends s.tr := by
  obtain ⟨l, he, hl⟩ := without_ext isChangeSend_kind p hq env s
  rw [he, changeSends_append, changeSends_quiet l hl, List.append_nil]

/-- `Rep l m`: `m` is `l` with some elements doubled in place (a command net/http replayed) -/
inductive Rep {α : Type} : List α → List α → Prop
  | nil : Rep [] []
  | one {a : α} {l m : List α} (h : Rep l m) : Rep (a :: l) (a :: m)
  | two {a : α} {l m : List α} (h : Rep l m) : Rep (a :: l) (a :: a :: m)

theorem Rep.refl {α : Type} : ∀ (l : List α), Rep l l
  | [] => .nil
  | _ :: t => .one (Rep.refl t)

theorem Rep.sublist {α : Type} {l m : List α} (h : Rep l m) : l.Sublist m := by
  induction h with
  | nil => exact .slnil
  | one _ ih => exact ih.cons_cons _
  | two _ ih => exact (ih.cons_cons _).cons _

/-- **A loop over the script whose body puts the current packet on the wire once** (or, if `dbl`, once or twice in a
row, and nothing else that is a change command): what the loop adds is a prefix of the script, with doublings in
place; without doublings the prefix itself; and the whole script if the loop ends in normal mode. -/
theorem each_sends (dbl : Bool) (f : List String → St → St)
    (hnon : ∀ pk s, s.mode ≠ .run → f pk s = s)
    (hsend : ∀ pk s, s.mode = .run → changeSends (f pk s).tr = changeSends s.tr ++ [pk] ∨
      (dbl = true ∧ changeSends (f pk s).tr = changeSends s.tr ++ [pk, pk])) :
    ∀ (l : List (List String)) (s : St), ∃ k new, changeSends (each f l s).tr = changeSends s.tr ++ new ∧
      Rep (l.take k) new ∧ ((each f l s).mode = .run → l.take k = l) ∧ (dbl = false → new = l.take k) := by
  intro l
  induction l with
  | nil => intro s; exact ⟨0, [], by simp [each], .nil, fun _ => rfl, fun _ => rfl⟩
  | cons pk rest ih =>
    intro s
    simp only [each]
    by_cases hm : s.mode = .run
    · obtain ⟨k, new, hk, hr, hall, hx⟩ := ih (f pk s)
      rcases hsend pk s hm with h1 | ⟨hd, h2⟩
      · exact ⟨k + 1, pk :: new, by rw [hk, h1]; simp, by simpa using Rep.one hr, fun h => by simp [hall h],
          fun h => by simp [hx h]⟩
      · exact ⟨k + 1, pk :: pk :: new, by rw [hk, h2]; simp, by simpa using Rep.two hr, fun h => by simp [hall h],
          fun h => by rw [hd] at h; cases h⟩
    · -- a state that does not run stays as it is, so the loop cannot end in normal mode
      rw [hnon pk s hm, each_nonrun f hnon rest s hm]
      exact ⟨0, [], by simp, .nil, fun h => absurd h hm, fun _ => rfl⟩

theorem cs_call (n : String) (l : List String) (b : Sess) (env : Env) (s : St) :
    changeSends (exec (.call n l b) env s).tr = changeSends (exec b env s).tr := by
  by_cases hm : s.mode = .run
  · simp only [sess_run, hm, if_true]
    split <;> rfl
  · rw [exec_nonrun _ _ _ hm, exec_nonrun _ _ _ hm]

theorem cs_seq_right (a b : Sess) (hb : noChange b = true) (env : Env) (s : St) :
    changeSends (exec (a ;; b) env s).tr = changeSends (exec a env s).tr := by
  simp only [sess_run]
  exact noChange_changeSends b hb env _

theorem cs_send_change (t : Txt) (env : Env) (s : St) (hm : s.mode = .run) :
    changeSends (exec (.send .change t) env s).tr = changeSends s.tr ++ [t.lines env] := by
  simp [sess_run, hm, changeSends_append, changeSends]

theorem cs_console_cmd_txt (n : String) (l : List String) (t : Txt) (rest : Sess) (hrest : noChange rest = true)
    (env : Env) (s : St) (hm : s.mode = .run) :
    changeSends (exec (.call n l (Send .change t ;; rest)) env s).tr = changeSends s.tr ++ [t.lines env] := by
  rw [cs_call, cs_seq_right _ _ hrest, Send, cs_call, sendBody, cs_send_change _ _ _ hm]

theorem cs_console_cmd (n : String) (l : List String) (rest : Sess) (hrest : noChange rest = true)
    (env : Env) (s : St) (hm : s.mode = .run) :
    changeSends (exec (.call n l (Send .change .cur ;; rest)) env s).tr = changeSends s.tr ++ [env.cur] :=
  cs_console_cmd_txt n l .cur rest hrest env s hm

theorem cs_linux_lit (x : String) (env : Env) (st : St) :
    changeSends (exec (linuxCmd .change (.lit x) ["_"]) env st).tr =
      changeSends st.tr ++ (if st.mode = .run then [[x]] else []) := by
  by_cases hm : st.mode = .run
  · have := cs_console_cmd_txt "cmd" ["_"] (.lit x) linuxCmdRest (by decide) env st hm
    rw [show exec (linuxCmd .change (.lit x) ["_"]) env st
        = exec (.call "cmd" ["_"] (Send .change (.lit x) ;; linuxCmdRest)) env st from rfl, this]
    simp [hm, Txt.lines]
  · rw [exec_nonrun _ _ _ hm]; simp [hm]

theorem exec_forEach (body : Sess) (env : Env) (s : St) (hm : s.mode = .run) :
    exec (.forEach body) env s = each (fun pk st => exec body { env with cur := pk } st) s.plan s := by
  simp [sess_run, hm]

/-- **If the loop over the change script ends in normal mode, every packet of the script has been
put on the wire, in order, exactly once** — for any loop body that sends the current packet once. -/
theorem foreach_sends_all (body : Sess)
    (hsend : ∀ (env' : Env) (st : St), st.mode = .run → changeSends (exec body env' st).tr = changeSends st.tr ++ [env'.cur])
    (env : Env) (s : St) (hm : s.mode = .run) (hend : (exec (.forEach body) env s).mode = .run) :
    changeSends (exec (.forEach body) env s).tr = changeSends s.tr ++ s.plan := by
  rw [exec_forEach _ _ _ hm] at hend ⊢
  obtain ⟨k, new, hc, _, hall, hx⟩ := each_sends false _ (fun pk st h => exec_nonrun _ _ _ h)
    (fun pk st h => .inl (hsend { env with cur := pk } st h)) s.plan s
  rw [hc, hx rfl, hall hend]

theorem foreach_sends_all_asa (env : Env) (s : St) (hm : s.mode = .run)
    (hend : (exec (.forEach (asaCmd .change .cur ["_"])) env s).mode = .run) :
    changeSends (exec (.forEach (asaCmd .change .cur ["_"])) env s).tr = changeSends s.tr ++ s.plan :=
  foreach_sends_all _ (cs_console_cmd _ _ _ (by decide)) env s hm hend

theorem foreach_sends_all_ios (env : Env) (s : St) (hm : s.mode = .run)
    (hend : (exec (.forEach (iosCmd .change .cur ["_"])) env s).mode = .run) :
    changeSends (exec (.forEach (iosCmd .change .cur ["_"])) env s).tr = changeSends s.tr ++ s.plan :=
  foreach_sends_all _ (cs_console_cmd _ _ _ (by decide)) env s hm hend

theorem foreach_sends_all_linux (env : Env) (s : St) (hm : s.mode = .run)
    (hend : (exec (.forEach (linuxCmd .change .cur ["_"])) env s).mode = .run) :
    changeSends (exec (.forEach (linuxCmd .change .cur ["_"])) env s).tr = changeSends s.tr ++ s.plan :=
  foreach_sends_all _ (cs_console_cmd _ _ _ (by decide)) env s hm hend

theorem cs_recvLoop (dev : Dev) (ρ : Role) (p : Pat) (n : Nat) (st : St) :
    changeSends (recvLoop dev ρ p n st).tr = changeSends st.tr := by
  obtain ⟨⟨l, he, hl⟩, _⟩ := recvLoop_grows (Q := (isChangeSend · = false)) (sp := true) (fun _ _ => rfl) (fun _ => rfl) dev ρ p n st
  rw [he, changeSends_append, changeSends_quiet l hl, List.append_nil]

theorem cs_roundTrip_once (t : Txt) (env : Env) (s : St) (hm : s.mode = .run) :
    changeSends (exec (.roundTrip .change t false) env s).tr = changeSends s.tr ++ [t.lines env] := by
  simp only [sess_run, hm, if_true, Bool.false_and, Bool.false_eq_true, if_false]
  rw [cs_recvLoop, changeSends_append]
  simp [changeSends]

theorem cs_nsx_request (env : Env) (st : St) (h : st.mode = .run) :
    changeSends (exec nsxChangeStep env st).tr
      = changeSends st.tr ++ [env.cur] := by
  rw [nsxChangeStep, cs_seq_right _ _ (by decide)]
  rw [nsxSendRequest, cs_call, nsxSendRequestBody]
  rw [exec_seq, exec_seq, cs_seq_right _ _ (by decide)]
  have h0 : exec (.ite .never "err != nil" (.ret .keep ["nil", "err"]) .skip)
      env (exec (op "NewRequest" ["_", "_", "_"]) env st) = st := by
    simp [sess_run, h]
  rw [h0, show (Role.change != Role.change) = false by decide, cs_roundTrip_once _ _ _ h]
  rfl

theorem foreach_sends_all_nsx (env : Env) (s : St) (hm : s.mode = .run)
    (hend : (exec (.forEach nsxChangeStep) env s).mode = .run) :
    changeSends (exec (.forEach nsxChangeStep) env s).tr
      = changeSends s.tr ++ s.plan :=
  foreach_sends_all _ cs_nsx_request env s hm hend


theorem cs_roundTrip_replay (t : Txt) (env : Env) (s : St) (hm : s.mode = .run) :
    changeSends (exec (.roundTrip .change t true) env s).tr = changeSends s.tr ++ [t.lines env]
    ∨ changeSends (exec (.roundTrip .change t true) env s).tr = changeSends s.tr ++ [t.lines env, t.lines env] := by
  simp only [sess_run, hm, if_true]
  split
  · right
    rw [cs_recvLoop, changeSends_append, cs_recvLoop, changeSends_append]
    simp [changeSends]
  · left
    rw [cs_recvLoop, changeSends_append]
    simp [changeSends]

theorem cs_panos_request (env : Env) (st : St) (h : st.mode = .run) :
    changeSends (exec panosChangeStep env st).tr
      = changeSends st.tr ++ [env.cur]
    ∨ changeSends (exec panosChangeStep env st).tr
      = changeSends st.tr ++ [env.cur, env.cur] := by
  rw [panosChangeStep, cs_seq_right _ _ (by decide)]
  rw [panosDoCmd, cs_call, panosDoCmdBody, cs_seq_right _ _ (by decide)]
  rw [panosHttpPrefixGetLog, cs_call, panosHttpPrefixGetLogBody, cs_seq_right _ _ (by decide)]
  rw [panosHttpGet, cs_call, panosHttpGetBody, cs_seq_right _ _ (by decide)]
  exact cs_roundTrip_replay .cur env st h

/-- PAN-OS: if the loop over the script ends in normal mode, every command of the script has been
sent, in order (as a sublist: net/http may replay a command). -/
theorem foreach_sends_all_panos (env : Env) (s : St) (hm : s.mode = .run)
    (hend : (exec (.forEach panosChangeStep) env s).mode = .run) :
    ∃ new, changeSends (exec (.forEach panosChangeStep) env s).tr
        = changeSends s.tr ++ new ∧ List.Sublist s.plan new := by
  rw [exec_forEach _ _ _ hm] at hend ⊢
  obtain ⟨k, new, hc, hr, hall, _⟩ := each_sends true _ (fun pk st h => exec_nonrun _ _ _ h)
    (fun pk st h => (cs_panos_request { env with cur := pk } st h).imp id fun h2 => ⟨rfl, h2⟩) s.plan s
  exact ⟨new, hc, by rw [← hall hend]; exact hr.sublist⟩

end NA.C09
