/-
C11: reachability in a finite call graph, checked by the kernel.

`closed g n` — every edge of `g` that starts below `n` ends below `n` — is a certificate that
the set {0 … n-1} is closed under the call relation; `closed_sound` lifts it to: nothing at or
above `n` is reachable from anything below `n`.  The translator numbers the nodes so that the
nodes reachable from the compare roots come first; Lean only has to check the certificate
(linear in the number of edges), not to compute a transitive closure.
-/
namespace NA.C11

abbrev Graph := List (Nat × List Nat)

inductive Reach (g : Graph) : Nat → Nat → Prop
  | refl (a : Nat) : Reach g a a
  | step {a b c : Nat} (succs : List Nat) : (a, succs) ∈ g → b ∈ succs → Reach g b c → Reach g a c

def closed (g : Graph) (n : Nat) : Bool :=
  g.all fun e => !(decide (e.1 < n)) || e.2.all fun b => decide (b < n)

theorem closed_sound (g : Graph) (n : Nat) (h : closed g n = true) :
    ∀ a b, Reach g a b → a < n → b < n := by
  intro a b hr
  induction hr with
  | refl a => exact id
  | step succs hmem hb _ ih =>
    intro ha
    have := List.all_eq_true.mp h _ hmem
    simp only [Bool.or_eq_true, Bool.not_eq_true', decide_eq_false_iff_not, List.all_eq_true,
      decide_eq_true_eq] at this
    exact ih (this.resolve_left (fun hn => hn ha) _ hb)

theorem unreachable_of_closed (g : Graph) (n : Nat) (h : closed g n = true) (a t : Nat)
    (ha : a < n) (ht : n ≤ t) : ¬ Reach g a t := by
  intro hr
  have := closed_sound g n h a t hr ha
  omega

def isPath (g : Graph) : List Nat → Bool
  | [] => true
  | [_] => true
  | a :: b :: rest => (g.any fun e => e.1 == a && e.2.contains b) && isPath g (b :: rest)

theorem path_reach (g : Graph) : ∀ (l : List Nat) (a : Nat), isPath g (a :: l) = true →
    Reach g a ((a :: l).getLast (by simp)) := by
  intro l
  induction l with
  | nil => intro a _; exact Reach.refl a
  | cons b rest ih =>
    intro a h
    simp only [isPath, Bool.and_eq_true, List.any_eq_true, beq_iff_eq, List.contains_iff_mem] at h
    obtain ⟨⟨⟨_, succs⟩, he, rfl, hb⟩, hrest⟩ := h
    exact Reach.step succs he hb (ih b hrest)

end NA.C11
