import NA.Proofs.F1Groups
import NA.Proofs.F1Cases
/-!
# F1: which marks a part of the engine leaves alone

Four relations say which fields two states of the engine agree on: `SameMarks` (all marks; `out`, `mode` and the counters may
differ), `SameAclMarks` (only the marks of access lists and access-group commands), `Core` (NA/Proofs/F1DiffAcl.lean: `out`, `mode`,
`needed`, `ready`, names — all but the three `toDelete`), `RouteFrame` (NA/Proofs/F1Routes.lean: all marks, `out` grown by given commands).
The edit loop of `equalizedGroups` is ONE fold over the member commands (`editMembers_eq_fold`); every fact about it goes through that.
-/
namespace NA.F1
open NA.Acl (Range)

structure SameMarks (st st' : St) : Prop where
  gNeeded : st'.gNeeded = st.gNeeded
  gToDel : st'.gToDel = st.gToDel
  aNeeded : st'.aNeeded = st.aNeeded
  aToDel : st'.aToDel = st.aToDel
  bNeeded : st'.bNeeded = st.bNeeded
  bToDel : st'.bToDel = st.bToDel
  gReady : st'.gReady = st.gReady
  gName : st'.gName = st.gName
  aReady : st'.aReady = st.aReady
  aName : st'.aName = st.aName

theorem SameMarks.refl (st : St) : SameMarks st st := ⟨rfl, rfl, rfl, rfl, rfl, rfl, rfl, rfl, rfl, rfl⟩

theorem SameMarks.trans {s1 s2 s3 : St} (h1 : SameMarks s1 s2) (h2 : SameMarks s2 s3) : SameMarks s1 s3 :=
  ⟨h2.gNeeded.trans h1.gNeeded, h2.gToDel.trans h1.gToDel, h2.aNeeded.trans h1.aNeeded, h2.aToDel.trans h1.aToDel,
   h2.bNeeded.trans h1.bNeeded, h2.bToDel.trans h1.bToDel, h2.gReady.trans h1.gReady, h2.gName.trans h1.gName,
   h2.aReady.trans h1.aReady, h2.aName.trans h1.aName⟩

theorem emit_marks (st : St) (c : Chg) : SameMarks st (st.emit c) := ⟨rfl, rfl, rfl, rfl, rfl, rfl, rfl, rfl, rfl, rfl⟩
theorem hit_marks (st : St) (x : String) : SameMarks st (st.hit x) := ⟨rfl, rfl, rfl, rfl, rfl, rfl, rfl, rfl, rfl, rfl⟩
theorem mode_marks (st : St) (n : Name) : SameMarks st { st with mode := n } := ⟨rfl, rfl, rfl, rfl, rfl, rfl, rfl, rfl, rfl, rfl⟩

theorem setMode_marks (st : St) (n : Name) : SameMarks st (setMode st n) := by
  unfold setMode
  split
  · exact SameMarks.refl st
  · split
    · exact (((emit_marks st _).trans (hit_marks _ _)).trans (emit_marks _ _)).trans (mode_marks _ _)
    · exact (emit_marks _ _).trans (mode_marks _ _)

def memChg : Bool × String → Chg
  | (true, m) => .mem m
  | (false, m) => .noMem m

theorem delMembers_eq_fold (st : St) (aN : Name) (ms : List String) :
    delMembers st aN ms = (ms.map (false, ·)).foldl (fun s op => (setMode s aN).emit (memChg op)) st := by
  unfold delMembers
  rw [List.foldl_map]
  rfl

theorem addMembers_eq_fold (st : St) (aN : Name) (ms : List String) :
    addMembers st aN ms = (ms.map (true, ·)).foldl (fun s op => (setMode s aN).emit (memChg op)) st := by
  unfold addMembers
  rw [List.foldl_map]
  rfl

theorem editMembers_eq_fold (aN : Name) (la lb : List String) : ∀ (rs : List Range) (st : St),
    editMembers st aN la lb rs = (memOps la lb rs).foldl (fun s op => (setMode s aN).emit (memChg op)) st := by
  intro rs
  induction rs with
  | nil => intro st; rfl
  | cons r rs ih =>
    intro st
    unfold editMembers
    rw [ih]
    simp only [memOps, List.foldl_append]
    by_cases hd : r.isDelete = true
    · simp only [hd, if_true, delMembers_eq_fold]
    · by_cases hi : r.isInsert = true
      · simp only [hd, hi, if_true, Bool.false_eq_true, if_false, addMembers_eq_fold]
      · simp only [hd, hi, Bool.false_eq_true, if_false, List.foldl_nil]

theorem editMembers_preserves (P : St → Prop) (aN : Name)
    (hdel : ∀ st m, P st → P ((setMode st aN).emit (.noMem m)))
    (hadd : ∀ st m, P st → P ((setMode st aN).emit (.mem m))) (la lb : List String)
    (rs : List Range) (st : St) (h : P st) : P (editMembers st aN la lb rs) := by
  rw [editMembers_eq_fold]
  refine foldl_inv (fun op _ s hs => ?_) h
  obtain ⟨k, m⟩ := op
  cases k
  · exact hdel s m hs
  · exact hadd s m hs

theorem editMembers_marks (aN : Name) (la lb : List String) (rs : List Range) (st : St) :
    SameMarks st (editMembers st aN la lb rs) :=
  editMembers_preserves (SameMarks st) aN (fun s _ hs => hs.trans ((setMode_marks s aN).trans (emit_marks _ _)))
    (fun s _ hs => hs.trans ((setMode_marks s aN).trans (emit_marks _ _))) la lb rs st (SameMarks.refl st)

theorem findGroup_ready_or_same (e : Env) (st : St) (bN : Name) :
    findGroup e st bN = st ∨ (findGroup e st bN).gReady.contains bN = true := by
  unfold findGroup
  split
  · exact Or.inl rfl
  · split
    · exact Or.inr (by simp [St.hit])
    · exact Or.inl rfl

/-- If the `findGroup` behind a device group that is not `needed` does not make the target group `ready`, it has changed nothing: the
last two branches start from `st` itself. -/
theorem equalizedGroups_cases (e : Env) (st : St) (aN bN : Name) (P : St × Bool → Prop)
    (ready : st.gNeeded.contains aN = true → st.gReady.contains bN = true →
      P (st.hit "grp:eq:needed+ready", aN == st.gNameOf bN))
    (find : st.gNeeded.contains aN = true → ¬ st.gReady.contains bN = true →
      P ((findGroup e st bN).hit "grp:eq:needed->find", false))
    (differs : ¬ st.gNeeded.contains aN = true → isIdentity (lookupD e.sc.grp (aN, bN)) = false →
      (findGroup e st bN).gReady.contains bN = true →
      P ((findGroup e st bN).hit "grp:eq:differs->ready", aN == (findGroup e st bN).gNameOf bN))
    (tooMany : ¬ st.gNeeded.contains aN = true →
      (scriptStat (lookupD e.sc.grp (aN, bN))).1 + (scriptStat (lookupD e.sc.grp (aN, bN))).2 > (e.bMembers bN).length →
      P (st.hit "grp:eq:too-many-changes", false))
    (edit : ¬ st.gNeeded.contains aN = true →
      ¬ (scriptStat (lookupD e.sc.grp (aN, bN))).1 + (scriptStat (lookupD e.sc.grp (aN, bN))).2 > (e.bMembers bN).length →
      ∀ st2, st2 = editMembers { st with gNeeded := addSet aN st.gNeeded, gName := (bN, aN) :: st.gName } aN
          (e.aMembers aN) (e.bMembers bN) (lookupD e.sc.grp (aN, bN)) →
      SameMarks { st with gNeeded := addSet aN st.gNeeded, gName := (bN, aN) :: st.gName } st2 →
      P ({ st2 with gReady := addSet bN st2.gReady }.hit
          (if isIdentity (lookupD e.sc.grp (aN, bN)) then "grp:eq:identical" else "grp:eq:edit-in-place"), true)) :
    P (equalizedGroups e st aN bN) := by
  unfold equalizedGroups
  by_cases h1 : st.gNeeded.contains aN = true
  · rw [if_pos h1]
    by_cases h2 : st.gReady.contains bN = true
    · rw [if_pos h2]; exact ready h1 h2
    · rw [if_neg h2]; exact find h1 h2
  · rw [if_neg h1]
    simp only []
    -- the state after the optional `findGroup`: `st` again, unless the target group is `ready` now
    have hst1 : (if isIdentity (lookupD e.sc.grp (aN, bN)) = true then st else findGroup e st bN) = st ∨
        isIdentity (lookupD e.sc.grp (aN, bN)) = false ∧ (findGroup e st bN).gReady.contains bN = true ∧
          (if isIdentity (lookupD e.sc.grp (aN, bN)) = true then st else findGroup e st bN) = findGroup e st bN := by
      cases hid : isIdentity (lookupD e.sc.grp (aN, bN)) with
      | true => exact Or.inl rfl
      | false => exact (findGroup_ready_or_same e st bN).elim Or.inl fun h => Or.inr ⟨rfl, h, rfl⟩
    rcases hst1 with he | ⟨hid, hr, he⟩
    · rw [he]
      by_cases h3 : (!isIdentity (lookupD e.sc.grp (aN, bN)) && st.gReady.contains bN) = true
      · -- then `findGroup` returns `st` at once
        rw [Bool.and_eq_true, Bool.not_eq_true'] at h3
        have hf : findGroup e st bN = st := by unfold findGroup; rw [if_pos h3.2]
        rw [if_pos (by rw [h3.1, h3.2]; rfl)]
        have := differs h1 h3.1 (by rw [hf]; exact h3.2)
        rwa [hf] at this
      · rw [if_neg h3]
        generalize scriptStat (lookupD e.sc.grp (aN, bN)) = stat at tooMany edit ⊢
        obtain ⟨ins, del⟩ := stat
        show P (if _ then _ else _)
        by_cases h4 : ins + del > (e.bMembers bN).length
        · rw [if_pos h4]; exact tooMany h1 h4
        · rw [if_neg h4]; exact edit h1 h4 _ rfl (editMembers_marks ..)
    · rw [he, if_pos (by rw [hid, hr]; rfl)]
      exact differs h1 hid hr

structure SameAclMarks (st st' : St) : Prop where
  aNeeded : st'.aNeeded = st.aNeeded
  aToDel : st'.aToDel = st.aToDel
  bNeeded : st'.bNeeded = st.bNeeded
  bToDel : st'.bToDel = st.bToDel
  aReady : st'.aReady = st.aReady
  aName : st'.aName = st.aName

theorem SameAclMarks.refl (st : St) : SameAclMarks st st := ⟨rfl, rfl, rfl, rfl, rfl, rfl⟩

theorem SameAclMarks.trans {s1 s2 s3 : St} (h1 : SameAclMarks s1 s2) (h2 : SameAclMarks s2 s3) : SameAclMarks s1 s3 :=
  ⟨h2.aNeeded.trans h1.aNeeded, h2.aToDel.trans h1.aToDel, h2.bNeeded.trans h1.bNeeded, h2.bToDel.trans h1.bToDel,
   h2.aReady.trans h1.aReady, h2.aName.trans h1.aName⟩

theorem SameAclMarks.hit {st st' : St} (h : SameAclMarks st st') (x : String) : SameAclMarks st (st'.hit x) :=
  ⟨h.aNeeded, h.aToDel, h.bNeeded, h.bToDel, h.aReady, h.aName⟩

theorem SameAclMarks.foldl {α : Type} (f : St → α → St) (l : List α) (st : St) (h : ∀ s x, SameAclMarks s (f s x)) :
    SameAclMarks st (l.foldl f st) :=
  foldl_inv (fun x _ s hs => hs.trans (h s x)) (SameAclMarks.refl st)

theorem SameMarks.toAcl {st st' : St} (h : SameMarks st st') : SameAclMarks st st' :=
  ⟨h.aNeeded, h.aToDel, h.bNeeded, h.bToDel, h.aReady, h.aName⟩

theorem findGroup_aclMarks (e : Env) (st : St) (bN : Name) : SameAclMarks st (findGroup e st bN) := by
  cases findGroup_result e st bN with
  | unchanged he => rw [he]; exact SameAclMarks.refl st
  | adopted aN _ _ _ _ hst => rw [hst]; exact ⟨rfl, rfl, rfl, rfl, rfl, rfl⟩

theorem transferGroup_aclMarks (e : Env) (st : St) (bN : Name) : SameAclMarks st (transferGroup e st bN) := by
  unfold transferGroup
  split
  · exact SameAclMarks.refl st
  · exact ⟨rfl, rfl, rfl, rfl, rfl, rfl⟩

theorem equalizedGroups_aclMarks (e : Env) (st : St) (aN bN : Name) : SameAclMarks st (equalizedGroups e st aN bN).1 :=
  equalizedGroups_cases e st aN bN (fun r => SameAclMarks st r.1) (fun _ _ => ⟨rfl, rfl, rfl, rfl, rfl, rfl⟩)
    (fun _ _ => (findGroup_aclMarks e st bN).hit _) (fun _ _ _ => (findGroup_aclMarks e st bN).hit _)
    (fun _ _ => ⟨rfl, rfl, rfl, rfl, rfl, rfl⟩) fun _ _ _ _ hm => ⟨hm.aNeeded, hm.aToDel, hm.bNeeded, hm.bToDel, hm.aReady, hm.aName⟩

theorem emitLine_aclMarks (e : Env) (st : St) (mk : RLine → Chg) (l : Line) : SameAclMarks st (emitLine e st mk l) := by
  unfold emitLine
  exact (SameAclMarks.foldl _ _ st (fun s g => transferGroup_aclMarks e s g)).trans ⟨rfl, rfl, rfl, rfl, rfl, rfl⟩

theorem markDeletedLines_aclMarks (st : St) (ls : List Line) : SameAclMarks st (markDeletedLines st ls) :=
  ⟨rfl, rfl, rfl, rfl, rfl, rfl⟩

theorem diffASAACLs_aclMarks (e : Env) (st : St) (aN bN : Name) (rs : List Range) :
    SameAclMarks st (diffASAACLs e st aN bN rs) :=
  diffASAACLs_preserves e (SameAclMarks st) (fun _ => True) aN bN rs (fun _ _ _ => trivial)
    (fun s g hs => hs.trans (findGroup_aclMarks e s g))
    (fun s a b _ hs => hs.trans (equalizedGroups_aclMarks e s a b))
    (fun _ x hs => hs.hit x)
    (fun s cells op hs => hs.trans (emitOp_cases e aN _ _ cells s (SameAclMarks s)
      (fun _ _ => (emitLine_aclMarks e s _ _).hit _)
      (fun _ _ => (((emit_marks s _).trans (mode_marks _ _)).toAcl.trans (markDeletedLines_aclMarks _ _)).hit _)
      (fun _ _ _ _ => ((markDeletedLines_aclMarks s _).trans (emitLine_aclMarks e _ _ _)).hit _)
      (emit_marks s _).toAcl ((emit_marks s _).toAcl.hit _) op))
    (SameAclMarks.refl st)

theorem transferGroup_ready_mono (e : Env) (st : St) (bN g : Name) (hg : g ∈ st.gReady) :
    g ∈ (transferGroup e st bN).gReady := by
  unfold transferGroup
  by_cases hr : st.gReady.contains bN = true
  · simp only [hr, if_true]; exact hg
  · simp only [hr, St.hit]; exact List.mem_cons_of_mem _ hg

theorem transferGroup_gName (e : Env) (st : St) (bN : Name) : (transferGroup e st bN).gName = st.gName := by
  unfold transferGroup
  split <;> simp [St.hit]

theorem transferGroup_ready (e : Env) (st : St) (bN : Name) : bN ∈ (transferGroup e st bN).gReady := by
  unfold transferGroup
  split
  · rename_i hr; exact List.contains_iff_mem.mp hr
  · exact List.mem_cons_self

theorem transferRefs_ready (e : Env) : ∀ (refs : List Name) (st : St),
    (∀ g ∈ refs, g ∈ (refs.foldl (transferGroup e) st).gReady) ∧ (∀ g ∈ st.gReady, g ∈ (refs.foldl (transferGroup e) st).gReady)
  | [], _ => ⟨fun _ hg => (nomatch hg), fun _ hg => hg⟩
  | g :: gs, st =>
    let ⟨i1, i2⟩ := transferRefs_ready e gs (transferGroup e st g)
    ⟨fun x hx => (List.mem_cons.mp hx).elim (fun e1 => e1 ▸ i2 _ (transferGroup_ready e st g)) (i1 x),
     fun x hx => i2 x (transferGroup_ready_mono e st g x hx)⟩

theorem transferRefs_gName (e : Env) (refs : List Name) (st : St) : (refs.foldl (transferGroup e) st).gName = st.gName :=
  foldl_inv (P := fun s => s.gName = st.gName) (fun g _ s hs => (transferGroup_gName e s g).trans hs) rfl

end NA.F1
