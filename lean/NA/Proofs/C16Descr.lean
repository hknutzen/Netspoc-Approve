import NA.Proofs.C16
import NA.Model.MapSiteDescr
/-!
# C16 — a described body is insensitive to the iteration order, for every semantics
-/
namespace NA.C16.D
open NA.PermFold NA.C16

theorem heapFootprint_disjoint {K V : Type} [DecidableEq K] (l : List Eff) (sem : Sem K V)
    {es : List (Entry K)} (hk : DistinctKeys es) (hs : SeparateEntries es) :
    (heapFootprint l sem).Disjoint es := by
  intro a ha b hb hab c hc
  cases c with
  | slot m k =>
    simp only [heapFootprint, owns, Bool.and_eq_true, decide_eq_true_eq] at hc
    exact hab (hk.eq_of_key_eq ha hb (hc.1.2.symm.trans hc.2.2))
  | field o f =>
    simp only [heapFootprint, owns, Bool.and_eq_true, List.contains_iff_mem] at hc
    exact hs a ha b hb hab o ⟨hc.1.2, hc.2.2⟩

theorem setsStep_rightComm {K V : Type} (l : List Eff) (sem : Sem K V) : RightComm (setsStep l sem) := by
  intro s x y
  funext n
  exact setInsert_rightComm (fun e v => l.contains (Eff.setInsert n) && sem.items e n v) (s n) x y

theorem sharedStep_rightComm {K V : Type} (l : List Eff) (sem : Sem K V) :
    RightComm (sharedStep l sem) := by
  intro s x y
  funext n
  exact constFlag_rightComm (fun e => l.contains (Eff.sharedConst n) && sem.stores e n) (sem.const n) (s n) x y

theorem effStep_commOn {K V : Type} [DecidableEq K] (l : List Eff) (sem : Sem K V)
    {es : List (Entry K)} (hk : DistinctKeys es) (hs : SeparateEntries es) :
    CommOn (effStep l sem) es :=
  CommOn.prod ((heapFootprint l sem).commOn (heapFootprint_disjoint l sem hk hs))
    (CommOn.prod (CommOn.of_rightComm (setsStep_rightComm l sem) es)
      (CommOn.of_rightComm (sharedStep_rightComm l sem) es))

theorem guarded_quiet {K V : Type} [DecidableEq K] (l : List Eff) (sem : Sem K V) (sem2 : Sem2 K)
    (es : List (Entry K)) (hq : ∀ e, e ∈ es → sem2.complains e = false) (c : Cells K V) :
    es.foldl (guardedStep l sem sem2) (c, none) = (es.foldl (effStep l sem) c, none) := by
  induction es generalizing c with
  | nil => rfl
  | cons e es ih =>
    simp only [List.foldl_cons, guardedStep, hq e List.mem_cons_self]
    exact ih (fun x hx => hq x (List.mem_cons_of_mem _ hx)) _

/-- **A described body computes the same program state for every visiting order**, given `DistinctKeys`,
`SeparateEntries`, `PayloadsAgree` and `NoComplaint`. -/
theorem runBody_perm {K V C : Type} [DecidableEq K] (site : String) (b : Body) (sem : Sem K V)
    (sem2 : Sem2 K) (p : PState K V C) {es₁ es₂ : List (Entry K)} (hk : DistinctKeys es₁)
    (hs : SeparateEntries es₁) (ha : PayloadsAgree b sem2 es₁) (hq : NoComplaint b sem2 es₁)
    (perm : es₁.Perm es₂) :
    runBody site b sem sem2 p es₁ = runBody site b sem sem2 p es₂ := by
  cases b with
  | effects l =>
    simp only [runBody]
    rw [foldl_perm _ perm (effStep_commOn l sem hk hs)]
  | collectSorted n =>
    simp only [runBody]
    rw [collectSorted_perm strLe_lawful sem2.keep sem2.msg (p.slices n) perm]
  | anyHit =>
    simp only [runBody]
    have : firstIn (fun e => if sem2.hit e then some () else none) es₁
        = firstIn (fun e => if sem2.hit e then some () else none) es₂ :=
      findSome?_perm (fun _ _ _ _ _ _ _ _ => rfl) perm
    rw [this]
  | firstPayload t =>
    cases es₁ with
    | nil => rw [List.Perm.eq_nil (perm.symm)]
    | cons e₁ r₁ =>
      cases es₂ with
      | nil => exact absurd (List.Perm.eq_nil perm) (by simp)
      | cons e₂ r₂ =>
        have h := ha t rfl e₁ (by simp) e₂ (perm.mem_iff.mpr (by simp))
        simp only [runBody, h]
  | guarded l =>
    have q₁ := hq l rfl
    have q₂ : ∀ e, e ∈ es₂ → sem2.complains e = false := fun e he => q₁ e (perm.mem_iff.mpr he)
    simp only [runBody]
    rw [guarded_quiet l sem sem2 es₁ q₁, guarded_quiet l sem sem2 es₂ q₂,
      foldl_perm _ perm (effStep_commOn l sem hk hs)]
  | «opaque» w => rfl

end NA.C16.D
