import NA.Model.Merge
/-! List-level facts for C18.  Everything about where `[APPEND]` lines go is said through one predicate, `Placed`; the
folds that stop at the first error of the three merge models are `List.foldlM`, their facts are proved once here. -/
namespace NA.C18

theorem upto_append_trailing (q : Entry → Bool) (l : List Entry) : upto q l ++ trailing q l = l := by
  unfold upto trailing
  rw [← List.reverse_append, List.takeWhile_append_dropWhile, List.reverse_reverse]

theorem trailing_all (q : Entry → Bool) (l : List Entry) : ∀ e ∈ trailing q l, q e = true := by
  intro e he
  exact List.all_eq_true.mp List.all_takeWhile e (List.mem_reverse.mp he)

theorem upto_last (q : Entry → Bool) (l : List Entry) :
    upto q l = [] ∨ ∃ init x, upto q l = init ++ [x] ∧ q x = false := by
  unfold upto
  cases h : l.reverse.dropWhile q with
  | nil => left; simp
  | cons x rest =>
    right
    refine ⟨rest.reverse, x, by simp, ?_⟩
    simpa [h] using List.head_dropWhile_not q (l := l.reverse) (by simp [h])

theorem insertBeforeTrailing_nil (q : Entry → Bool) (l : List Entry) : insertBeforeTrailing q l [] = l := by
  simp [insertBeforeTrailing, upto_append_trailing]

/-- Uniqueness of the split: `x ++ t` with `t` all `q` and `x` empty or ending in a non-`q` entry. -/
theorem split_unique (q : Entry → Bool) (x t : List Entry) (ht : ∀ e ∈ t, q e = true)
    (hx : x = [] ∨ ∃ init y, x = init ++ [y] ∧ q y = false) :
    trailing q (x ++ t) = t ∧ upto q (x ++ t) = x := by
  have hall : ∀ e ∈ t.reverse, q e = true := fun e he => ht e (List.mem_reverse.mp he)
  unfold trailing upto
  rw [List.reverse_append, List.takeWhile_append_of_pos hall, List.dropWhile_append_of_pos hall]
  rcases hx with rfl | ⟨init, y, rfl, hy⟩
  · simp
  · simp [hy]

theorem upto_ne_nil_of_exists (q : Entry → Bool) (a : List Entry) (h : ∃ x ∈ a, q x = false) : upto q a ≠ [] := by
  obtain ⟨x, hx, hq⟩ := h
  intro h0
  have h1 := upto_append_trailing q a
  rw [h0, List.nil_append] at h1
  have := trailing_all q a x (h1.symm ▸ hx)
  simp [hq] at this

theorem trailing_append_of_exists (q : Entry → Bool) (p n : List Entry) (h : ∃ e ∈ n, q e = false) :
    trailing q (p ++ n) = trailing q n ∧ upto q (p ++ n) = p ++ upto q n := by
  rcases upto_last q n with h0 | ⟨init, x, hx, hqx⟩
  · exact absurd h0 (upto_ne_nil_of_exists q n h)
  · have := split_unique q (p ++ upto q n) (trailing q n) (trailing_all q n)
      (Or.inr ⟨p ++ init, x, by rw [hx, List.append_assoc], hqx⟩)
    rwa [List.append_assoc, upto_append_trailing] at this

theorem sublist_insertBeforeTrailing (q : Entry → Bool) (l A : List Entry) : l.Sublist (insertBeforeTrailing q l A) := by
  unfold insertBeforeTrailing
  conv => lhs; rw [← upto_append_trailing q l]
  rw [List.append_assoc]
  exact List.Sublist.append (List.Sublist.refl _) (List.sublist_append_right _ _)

/-- Searching the last permit line in the whole list built so far (`top ++ net`, code as found) or only in
Netspoc's lines `net` (repaired code) is the same when `net` has a permit line. -/
theorem insertBeforeTrailing_append (top net A : List Entry) (h : ∃ e ∈ net, e.isPermit = true) :
    insertBeforeTrailing Entry.notPermit (top ++ net) A = top ++ insertBeforeTrailing Entry.notPermit net A := by
  obtain ⟨e, he, hpe⟩ := h
  have := trailing_append_of_exists Entry.notPermit top net ⟨e, he, by simp [Entry.notPermit, hpe]⟩
  unfold insertBeforeTrailing
  rw [this.1, this.2]
  simp

/-- The placement every `[APPEND]`-aware merge has to establish: the result is
`top ++ pre ++ app ++ post` where `pre ++ post` are the Netspoc entries, `post` consists of
entries satisfying `q` (deny / DROP lines) only, and `pre` is empty or ends in an entry that does not
(the last permit line).  Stated for any element type: on ACL lines of the general model it is `G.PlacedL`. -/
def Placed {α : Type} (q : α → Bool) (top net app r : List α) : Prop :=
  ∃ pre post, net = pre ++ post ∧ r = top ++ pre ++ app ++ post ∧
    (∀ e ∈ post, q e = true) ∧ (pre = [] ∨ ∃ init x, pre = init ++ [x] ∧ q x = false)

theorem placed_insert (q : Entry → Bool) (top net app : List Entry) :
    Placed q top net app (top ++ insertBeforeTrailing q net app) := by
  refine ⟨upto q net, trailing q net, (upto_append_trailing q net).symm, ?_, trailing_all q net, upto_last q net⟩
  simp [insertBeforeTrailing]

theorem placed_shape {α : Type} {top net app r pre post : List α} (hn : net = pre ++ post)
    (hr : r = top ++ pre ++ app ++ post) :
    r.Perm (top ++ net ++ app) ∧ top.Sublist r ∧ net.Sublist r ∧ app.Sublist r ∧ (top ++ app).Sublist r := by
  subst hn hr
  simp only [List.append_assoc]
  refine ⟨List.Perm.append_left top (List.Perm.append_left pre List.perm_append_comm),
    List.sublist_append_left top _, ?_, ?_, ?_⟩
  · exact (List.Sublist.append (List.Sublist.refl pre) (List.sublist_append_right app post)).trans
      (List.sublist_append_right top _)
  · exact (List.sublist_append_left app post).trans
      ((List.sublist_append_right pre _).trans (List.sublist_append_right top _))
  · exact List.Sublist.append (List.Sublist.refl top)
      ((List.sublist_append_left app post).trans (List.sublist_append_right pre _))

section
variable {α : Type} {q : α → Bool} {top net app r : List α} (h : Placed q top net app r)
include h

theorem Placed.shape :
    r.Perm (top ++ net ++ app) ∧ top.Sublist r ∧ net.Sublist r ∧ app.Sublist r ∧ (top ++ app).Sublist r :=
  let ⟨_, _, hn, hr, _⟩ := h; placed_shape hn hr

theorem Placed.perm : r.Perm (top ++ net ++ app) := h.shape.1
theorem Placed.sub_top : top.Sublist r := h.shape.2.1
theorem Placed.sub_net : net.Sublist r := h.shape.2.2.1
theorem Placed.sub_app : app.Sublist r := h.shape.2.2.2.1
/-- The raw part as a whole (`top ++ app`, in file order) keeps its order. -/
theorem Placed.sub_top_app : (top ++ app).Sublist r := h.shape.2.2.2.2

end

theorem nonApp_append_appPart_perm (b : List Entry) : (nonApp b ++ appPart b).Perm b :=
  List.perm_append_comm.trans (List.filter_append_perm (fun e : Entry => e.app) b)

/-- The two shapes of `asaSplit`: nothing is moved, or the last non-APPEND line of `b` is
`deny ip any6 any6` and goes behind the lines of `a`. -/
theorem asaSplit_cases (a b : List Entry) :
    asaSplit a b = (nonApp b, a) ∨
    ∃ init x, x.isAny6 = true ∧ nonApp b = init ++ [x] ∧ asaSplit a b = (init, a ++ [x]) := by
  unfold asaSplit
  simp only
  split
  · rename_i x hx
    split
    · rename_i h6
      right
      obtain ⟨ys, hys⟩ := List.getLast?_eq_some_iff.mp hx
      exact ⟨ys, x, h6, hys, by rw [hys]; simp⟩
    · left; rfl
  · left; rfl

theorem asaSplit_fst (a b : List Entry) :
    (asaSplit a b).1 = nonApp b ∨
    ∃ x, x.isAny6 = true ∧ nonApp b = (asaSplit a b).1 ++ [x] ∧ (asaSplit a b).2 = a ++ [x] := by
  rcases asaSplit_cases a b with h | ⟨init, x, hx, hp, h⟩
  · left; rw [h]
  · right; exact ⟨x, hx, by rw [h]; exact hp, by rw [h]⟩

theorem asaSplit_snd (a b : List Entry) :
    (asaSplit a b).2 = a ∨ ∃ x, x.isAny6 = true ∧ (asaSplit a b).2 = a ++ [x] := by
  rcases asaSplit_cases a b with h | ⟨init, x, hx, _, h⟩
  · left; rw [h]
  · right; exact ⟨x, hx, by rw [h]⟩

theorem asaSplit_perm (a b : List Entry) :
    ((asaSplit a b).1 ++ (asaSplit a b).2).Perm (nonApp b ++ a) := by
  rcases asaSplit_cases a b with h | ⟨init, x, _, hp, h⟩
  · rw [h]
  · rw [h, hp]
    simp only [List.append_assoc]
    refine List.Perm.append_left _ ?_
    exact List.perm_append_comm

theorem perm_parts (a b r : List Entry) (h : r.Perm (nonApp b ++ a ++ appPart b)) : r.Perm (a ++ b) := by
  refine h.trans ?_
  have h2 : (nonApp b ++ a ++ appPart b).Perm (a ++ (nonApp b ++ appPart b)) := by
    simp only [List.append_assoc]
    exact (List.perm_append_comm_assoc (nonApp b) a (appPart b))
  exact h2.trans (List.Perm.append_left a (nonApp_append_appPart_perm b))


theorem mergeASA_perm (a b : List Entry) : (mergeASA a b).Perm (a ++ b) := by
  have h : Placed Entry.notPermit (asaSplit a b).1 (asaSplit a b).2 (appPart b) (mergeASA a b) :=
    placed_insert _ _ _ _
  refine h.perm.trans ?_
  exact perm_parts a b _ ((asaSplit_perm a b).append_right (appPart b))

theorem mergeIOS_perm (a b : List Entry) : (mergeIOS a b).Perm (a ++ b) :=
  perm_parts a b _ (placed_insert Entry.notPermit (nonApp b) a (appPart b)).perm

theorem mergeLinux_perm (a b : List Entry) : (mergeLinux a b).Perm (a ++ b) :=
  perm_parts a b _ (placed_insert Entry.isDrop (nonApp b) a (appPart b)).perm

theorem mergePan_perm (a b : List Entry) : (mergePan a b).Perm (a ++ b) :=
  perm_parts a b _ (List.Perm.refl _)

/-- Inserting one more APPEND rule behind those already inserted (Linux, code as found). -/
theorem insert_one_more (q : Entry → Bool) (top a app : List Entry) (e : Entry)
    (happ : ∀ x ∈ app, q x = false)
    (hx : app ≠ [] ∨ upto q a ≠ [] ∨ top = [] ∨ ∃ init y, top = init ++ [y] ∧ q y = false) :
    insertBeforeTrailing q (top ++ insertBeforeTrailing q a app) [e] =
      top ++ insertBeforeTrailing q a (app ++ [e]) := by
  have hsplit : top ++ insertBeforeTrailing q a app = (top ++ upto q a ++ app) ++ trailing q a := by
    simp [insertBeforeTrailing]
  have hxx : (top ++ upto q a ++ app) = [] ∨ ∃ init y, (top ++ upto q a ++ app) = init ++ [y] ∧ q y = false := by
    by_cases h1 : app = []
    · subst h1
      by_cases h2 : upto q a = []
      · rw [h2]
        rcases hx with h | h | h | h
        · exact absurd rfl h
        · exact absurd h2 h
        · left; simp [h]
        · right; obtain ⟨init, y, hy, hq⟩ := h; exact ⟨init, y, by simp [hy], hq⟩
      · right
        rcases upto_last q a with h | ⟨init, y, hy, hq⟩
        · exact absurd h h2
        · exact ⟨top ++ init, y, by simp [hy], hq⟩
    · right
      obtain ⟨init, y, hy⟩ : ∃ init y, app = init ++ [y] :=
        ⟨app.dropLast, app.getLast h1, (List.dropLast_concat_getLast h1).symm⟩
      refine ⟨top ++ upto q a ++ init, y, by simp [hy], happ y ?_⟩
      rw [hy]; simp
  have := split_unique q (top ++ upto q a ++ app) (trailing q a) (trailing_all q a) hxx
  rw [hsplit]
  show upto q _ ++ [e] ++ trailing q _ = top ++ (upto q a ++ (app ++ [e]) ++ trailing q a)
  rw [this.1, this.2]
  simp

/-- Hypothesis under which the Linux code as found behaves like the repaired code
(complement of F-C18b, F-C18c and the Linux case of F-C18d); `top`, `app`: what was placed already. -/
def LinuxOldOK (a top app b : List Entry) : Prop :=
  (top ++ nonApp b).length ≤ 1 ∧
  (∀ x ∈ (app ++ appPart b).dropLast, x.isDrop = false) ∧
  (app ++ appPart b = [] ∨ (∃ x ∈ a, x.isDrop = false) ∨ ∀ p ∈ top ++ nonApp b, p.isDrop = false)

theorem linuxOld_fold (a : List Entry) (b : List Entry) : ∀ (top app : List Entry), LinuxOldOK a top app b →
    b.foldl linuxStepOld (top ++ insertBeforeTrailing Entry.isDrop a app) =
      (nonApp b ++ top) ++ insertBeforeTrailing Entry.isDrop a (app ++ appPart b) := by
  induction b with
  | nil => intro top app _; simp [nonApp, appPart]
  | cons e b ih =>
    intro top app ⟨h1, h2, h3⟩
    cases he : e.app with
    | false =>
      have hn : nonApp (e :: b) = e :: nonApp b := by simp [nonApp, he]
      have ha : appPart (e :: b) = appPart b := by simp [appPart, he]
      rw [hn] at h1 h3
      rw [ha] at h2 h3
      have htop : top = [] := by
        cases top with
        | nil => rfl
        | cons t ts => simp at h1
      have hnb : nonApp b = [] := by
        cases hb : nonApp b with
        | nil => rfl
        | cons t ts => rw [hb, htop] at h1; simp at h1
      subst htop
      have key := ih [e] app ⟨by simp [hnb], h2, h3⟩
      simp only [List.foldl_cons, linuxStepOld, he, Bool.false_eq_true, if_false, List.nil_append]
      rw [hn, ha, hnb]
      rw [hnb] at key
      exact key
    | true =>
      have hn : nonApp (e :: b) = nonApp b := by simp [nonApp, he]
      have ha : appPart (e :: b) = e :: appPart b := by simp [appPart, he]
      rw [hn] at h1 h3
      rw [ha] at h2 h3
      replace h3 := h3.resolve_left (by simp)
      have happ : ∀ x ∈ app, x.isDrop = false := by
        intro x hx
        apply h2 x
        rw [List.dropLast_append_of_ne_nil (by simp)]
        exact List.mem_append_left _ hx
      have hx : app ≠ [] ∨ upto Entry.isDrop a ≠ [] ∨ top = [] ∨ ∃ init y, top = init ++ [y] ∧ y.isDrop = false := by
        rcases h3 with h | h
        · exact Or.inr (Or.inl (upto_ne_nil_of_exists _ a h))
        · cases top with
          | nil => exact Or.inr (Or.inr (Or.inl rfl))
          | cons t ts =>
            have : ts = [] := by
              cases ts with
              | nil => rfl
              | cons u us => simp at h1
            subst this
            exact Or.inr (Or.inr (Or.inr ⟨[], t, rfl, h t (by simp)⟩))
      have key := ih top (app ++ [e]) ⟨h1, by simpa using h2, Or.inr h3⟩
      simp only [List.foldl_cons, linuxStepOld, he, if_true]
      rw [insert_one_more Entry.isDrop top a app e happ hx, key, hn, ha]
      simp

theorem mergeLinuxOld_eq (a b : List Entry) (h : LinuxOldOK a [] [] b) : mergeLinuxOld a b = mergeLinux a b := by
  have := linuxOld_fold a b [] [] h
  simp only [List.nil_append, insertBeforeTrailing_nil, List.append_nil] at this
  unfold mergeLinuxOld mergeLinux
  exact this

/-! ### Folds that stop at the first error

`foldE`, `foldX` and `foldExcept` of the three model files are all `List.foldlM` in `Except`
(`foldE_eq_foldlM` in `C18Cisco`, `foldX_eq_foldlM` in `C18Other`, `foldExcept_eq_foldlM` in `C18Conf`). -/
section foldlM
variable {σ β ε : Type} (f : σ → β → Except ε σ)

theorem bind_ok_iff {m : Except ε σ} {k : σ → Except ε σ} {s' : σ} :
    m >>= k = .ok s' ↔ ∃ s1, m = .ok s1 ∧ k s1 = .ok s' := by
  cases m with
  | error e => exact ⟨(fun h => nomatch h), (fun ⟨_, h, _⟩ => nomatch h)⟩
  | ok s1 => exact ⟨fun h => ⟨s1, rfl, h⟩, fun ⟨_, h, h'⟩ => by cases h; exact h'⟩

theorem foldlM_cons_ok {x : β} {xs : List β} {s s' : σ} :
    (x :: xs).foldlM f s = .ok s' ↔ ∃ s1, f s x = .ok s1 ∧ xs.foldlM f s1 = .ok s' := by
  rw [List.foldlM_cons]
  exact bind_ok_iff

theorem foldlM_append_ok {l1 l2 : List β} {s s' : σ} :
    (l1 ++ l2).foldlM f s = .ok s' ↔ ∃ s1, l1.foldlM f s = .ok s1 ∧ l2.foldlM f s1 = .ok s' := by
  rw [List.foldlM_append]
  exact bind_ok_iff

theorem foldlM_inv (P : σ → Prop) (Q : β → Prop) (hstep : ∀ s x s', P s → Q x → f s x = .ok s' → P s') :
    ∀ (l : List β) (s s' : σ), (∀ x ∈ l, Q x) → P s → l.foldlM f s = .ok s' → P s' := by
  intro l
  induction l with
  | nil => intro s s' _ h0 h; cases h; exact h0
  | cons x xs ih =>
    intro s s' hq h0 h
    obtain ⟨s1, hx, h⟩ := (foldlM_cons_ok f).mp h
    exact ih s1 s' (fun y hy => hq y (List.mem_cons_of_mem _ hy)) (hstep s x s1 h0 (hq x List.mem_cons_self) hx) h

theorem foldlM_error_of_mem (x : β) (hx : ∀ s, ∃ e, f s x = .error e) :
    ∀ (l : List β) (s : σ), x ∈ l → ∃ e, l.foldlM f s = .error e := by
  intro l
  induction l with
  | nil => intro s h; cases h
  | cons y ys ih =>
    intro s h
    rw [List.foldlM_cons]
    rcases List.mem_cons.mp h with rfl | h'
    · obtain ⟨e, he⟩ := hx s; exact ⟨e, by rw [he]; rfl⟩
    · cases f s y with
      | error e => exact ⟨e, rfl⟩
      | ok s1 => exact ih s1 h'

/-- **Second occurrence.**  If a successful step on `x1` establishes `P`, the steps in between keep `P`, and
the step on `x2` fails in every state with `P`, then the fold over a list with `x1` before `x2` fails. -/
theorem foldlM_error_of_second (P : σ → Prop) (Q : β → Prop) (x1 x2 : β)
    (h1 : ∀ s s', f s x1 = .ok s' → P s') (hkeep : ∀ s x s', P s → Q x → f s x = .ok s' → P s')
    (h2 : ∀ s, P s → ∃ e, f s x2 = .error e) (l1 l2 l3 : List β) (hl2 : ∀ x ∈ l2, Q x) (s : σ) :
    ∃ e, (l1 ++ x1 :: (l2 ++ x2 :: l3)).foldlM f s = .error e := by
  cases h : (l1 ++ x1 :: (l2 ++ x2 :: l3)).foldlM f s with
  | error e => exact ⟨e, rfl⟩
  | ok s' =>
    obtain ⟨s1, _, h⟩ := (foldlM_append_ok f).mp h
    obtain ⟨s2, hx1, h⟩ := (foldlM_cons_ok f).mp h
    obtain ⟨s3, h3, h⟩ := (foldlM_append_ok f).mp h
    obtain ⟨s4, hx2, _⟩ := (foldlM_cons_ok f).mp h
    obtain ⟨e, he⟩ := h2 s3 (foldlM_inv f P Q hkeep l2 s2 s3 hl2 (h1 s1 s2 hx1) h3)
    rw [he] at hx2
    cases hx2

theorem foldlM_collect {γ : Type} (m : σ → List γ) (p : β → Bool) (g : β → γ)
    (hstep : ∀ s x s', f s x = .ok s' → m s' = m s ++ if p x then [g x] else []) :
    ∀ (l : List β) (s s' : σ), l.foldlM f s = .ok s' → m s' = m s ++ (l.filter p).map g := by
  intro l
  induction l with
  | nil => intro s s' h; cases h; simp
  | cons x xs ih =>
    intro s s' h
    obtain ⟨s1, hx, h⟩ := (foldlM_cons_ok f).mp h
    rw [ih s1 s' h, hstep s x s1 hx, List.append_assoc, List.filter_cons]
    cases p x <;> rfl

end foldlM

end NA.C18
