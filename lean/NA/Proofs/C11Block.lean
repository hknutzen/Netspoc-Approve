import NA.Proofs.C11Sess
/-!
# C11: configuration mode is entered only for the terminal width — an abstract interpreter

Abstract state of a run: (mode of the run, `Blk` = where the dialogue is with respect to
configuration mode, a function of the lines sent so far).  `Trun p q` over-approximates the
abstract states in which a program `p` can end in a compare run when started in normal mode
with the dialogue at `q` — branching on every test whose outcome depends on the device, following
`abort` / `return` / `defer`, giving up (`allAS`) on loops and on sends of the change script.
`T_sound`: against every device the real end state is among them.  Last, the table for the whole run of every backend
(`NA.C11S.Trun_body`) and the end state of a compare run as a member of it.
-/
namespace NA.C11
open NA.Sess NA.Apply NA.Spec.C11

abbrev AS := Mode × Blk

def allModes : List Mode := [.run, .panic, .ret, .cont, .diverge]
def allBlks : List Blk := [.out, .conf, .width, .bad]
def allAS : List AS := allModes.flatMap fun m => allBlks.map fun q => (m, q)

theorem mem_allAS (a : AS) : a ∈ allAS := by
  obtain ⟨m, q⟩ := a
  cases m <;> cases q <;> decide

/-- the same set of abstract states without repetitions (at most 20 elements): keeps the
interpreter from growing exponentially with the number of device-dependent tests -/
def norm (l : List AS) : List AS := allAS.filter fun a => l.contains a

theorem mem_norm (a : AS) (l : List AS) : a ∈ norm l ↔ a ∈ l := by
  simp [norm, List.mem_filter, mem_allAS]

def α (s : St) : AS := (s.mode, blkOf s.tr)

/-- the lines of a text that do not depend on the run -/
def txtLines : Txt → Option (List String)
  | .lit s => some [s]
  | .litNl s => some [s]
  | .secret => some ["<secret>"]
  | .cur => none

theorem txtLines_sound (t : Txt) (ls : List String) (h : txtLines t = some ls) (env : Env) : t.lines env = ls := by
  cases t <;> simp_all [txtLines, Txt.lines]

def lift (f : Blk → List AS) (a : AS) : List AS := if a.1 = .run then f a.2 else [a]

def deferOut (m1 : Mode) (r : AS) : AS := if r.1 = .run then (m1, r.2) else r

def Trun : Sess → Blk → List AS
  | .skip, q => [(.run, q)]
  | .send _ t, q =>
    match txtLines t with
    | some ls => [(.run, stepLines q ls)]
    | none => allAS
  | .recv _ _, q => [(.run, q)]
  | .recvMore _, q => [(.run, q)]
  | .roundTrip _ t _, q =>
    match txtLines t with
    | some ls => [(.run, stepLines q ls), (.run, stepLines (stepLines q ls) ls)]
    | none => allAS
  | .ite c _ t e, q =>
    match condKnown c with
    | some true => Trun t q
    | some false => Trun e q
    | none => norm (Trun t q ++ Trun e q)
  | .abort _, q => [(.panic, q)]
  | .warn _, q => [(.run, q)]
  | .mark e, q =>
    match e with
    | .sent _ ls => [(.run, stepLines q ls)]
    | _ => [(.run, q)]
  | .seq a b, q => norm ((Trun a q).flatMap (lift (fun q' => Trun b q')))
  | .forEach _, _ => allAS
  | .defer c b, q =>
    norm ((Trun b q).flatMap fun r =>
      if r.1 = .diverge then [r] else (Trun c r.2).map (deferOut r.1))
  | .loopN _ _, _ => allAS
  | .loopFuel _, _ => allAS
  | .cont, q => [(.cont, q)]
  | .ret _ _, q => [(.ret, q)]
  | .setCtr _, q => [(.run, q)]
  | .decCtr, q => [(.run, q)]
  | .setPlan, q => [(.run, q)]
  | .call _ _ b, q => norm ((Trun b q).map fun r => (if r.1 = .ret then .run else r.1, r.2))
  | .scope _ b, q => Trun b q
  | .when c b, q =>
    match condKnown c with
    | some true => Trun b q
    | some false => [(.run, q)]
    | none => norm (Trun b q ++ [(.run, q)])
  | .assumeBanner, q => [(.run, q)]

theorem linesOf_append (a b : List Ev) :
    NA.Spec.C09.linesOf (a ++ b) = NA.Spec.C09.linesOf a ++ NA.Spec.C09.linesOf b := by
  induction a with
  | nil => simp [NA.Spec.C09.linesOf]
  | cons e t ih =>
    simp only [NA.Spec.C09.linesOf, List.cons_append, List.foldr_cons] at ih ⊢
    cases e <;> simp [ih]

theorem blkOf_snoc_sent (tr : List Ev) (ρ : Role) (ls : List String) :
    blkOf (tr ++ [.sent ρ ls]) = stepLines (blkOf tr) ls := by
  unfold blkOf sentLines
  rw [linesOf_append]
  simp [NA.Spec.C09.linesOf, stepLines, List.foldl_append]

theorem blkOf_snoc_other (tr : List Ev) (e : Ev) (h : ∀ ρ ls, e ≠ .sent ρ ls) :
    blkOf (tr ++ [e]) = blkOf tr := by
  unfold blkOf sentLines
  cases e with
  | sent ρ ls => exact absurd rfl (h ρ ls)
  | _ => simp [NA.Spec.C09.linesOf]

theorem recvLoop_α (dev : Dev) (ρ : Role) (p : Pat) (n : Nat) (s : St) : α (recvLoop dev ρ p n s) = α s := by
  induction n generalizing s with
  | zero => rfl
  | succ n ih =>
    simp only [recvLoop]
    split
    · simp [α, blkOf_snoc_other]
    · split
      · rw [ih]; simp [α, blkOf_snoc_other]
      · simp [α, blkOf_snoc_other]

theorem α_run {s : St} {q : Blk} (h : α s = (.run, q)) : s.mode = .run ∧ blkOf s.tr = q :=
  Prod.mk.inj h

theorem α_snoc_sent (s : St) (ρ : Role) (ls : List String) :
    α { s with tr := s.tr ++ [Ev.sent ρ ls] } = ((α s).1, stepLines (α s).2 ls) := by
  simp [α, blkOf_snoc_sent]

theorem lift_run (f : Blk → List AS) {s : St} (h : s.mode = .run) : lift f (α s) = f (blkOf s.tr) := by
  simp [lift, α, h]

/-- A run that is not going on stays as it is, so soundness has to be shown for running states only. -/
theorem sound_of_run (p : Sess) (env : Env) (s : St)
    (h : s.mode = .run → α (exec p env s) ∈ Trun p (blkOf s.tr)) :
    α (exec p env s) ∈ lift (Trun p) (α s) := by
  by_cases hm : s.mode = .run
  · rw [lift_run _ hm]; exact h hm
  · rw [exec_nonrun _ _ _ hm]; simp [lift, α, hm]

theorem T_sound (p : Sess) : ∀ (env : Env) (s : St), env.compare = true →
    α (exec p env s) ∈ lift (Trun p) (α s) := by
  intro env s hc
  refine sound_of_run p env s ?_
  induction p generalizing s with
  | skip | recvMore _ | cont | ret _ _ | setCtr _ | decCtr | setPlan | assumeBanner =>
    intro hm
    simp [hm, sess_run, Trun, α]
  | abort _ | warn _ =>
    intro hm
    simp [hm, sess_run, Trun, α, blkOf_snoc_other]
  | mark e =>
    intro hm
    cases e <;> simp [hm, sess_run, Trun, α, blkOf_snoc_other, blkOf_snoc_sent]
  | forEach _ _ | loopN _ _ _ | loopFuel _ _ => exact fun _ => mem_allAS _
  | send ρ t =>
    intro hm
    simp only [α, hm, if_true, sess_run, Trun]
    cases ht : txtLines t with
    | none => exact mem_allAS _
    | some ls => simp [txtLines_sound t ls ht env, blkOf_snoc_sent]
  | recv ρ p =>
    intro hm
    simp only [hm, if_true, sess_run, Trun]
    rw [recvLoop_α]
    simp [α, hm]
  | roundTrip ρ t r =>
    intro hm
    simp only [Trun]
    cases ht : txtLines t with
    | none => exact mem_allAS _
    | some ls =>
      have hl := txtLines_sound t ls ht env
      simp only [sess_run, if_pos hm, hl]
      have e1 : α (recvLoop env.dev ρ Pat.http 1 { s with tr := s.tr ++ [Ev.sent ρ ls] }) =
          (.run, stepLines (blkOf s.tr) ls) := by
        rw [recvLoop_α, α_snoc_sent]; simp [α, hm]
      split
      · rw [recvLoop_α, α_snoc_sent, e1]; simp
      · rw [e1]; simp
  | ite c l t e iht ihe =>
    intro hm
    simp only [sess_run, hm, if_true, Trun]
    cases hk : condKnown c with
    | none =>
      simp only [mem_norm, List.mem_append]
      split
      · exact Or.inl (iht s hm)
      · exact Or.inr (ihe s hm)
    | some v =>
      have hv := condKnown_sound c v env s hc hk
      cases v with
      | true => simp only [hv, if_true]; exact iht s hm
      | false => simp only [hv, Bool.false_eq_true, if_false]; exact ihe s hm
  | seq a b iha ihb =>
    intro hm
    simp only [sess_run, Trun, mem_norm, List.mem_flatMap]
    exact ⟨α (exec a env s), iha s hm, sound_of_run b env _ (ihb _)⟩
  | defer c b ihc ihb =>
    intro hm
    simp only [sess_run, hm, if_true, Trun, mem_norm, List.mem_flatMap]
    refine ⟨α (exec b env s), ihb s hm, ?_⟩
    by_cases hd : (exec b env s).mode = .diverge
    · simp [α, hd]
    · have h2 := ihc { exec b env s with mode := Mode.run } rfl
      simp only [α, hd, if_false, List.mem_map]
      refine ⟨_, h2, ?_⟩
      simp only [deferOut]
      split <;> simp_all [α]
  | call n l b ih =>
    intro hm
    simp only [sess_run, hm, if_true, Trun, mem_norm, List.mem_map]
    refine ⟨_, ih s hm, ?_⟩
    split <;> simp_all [α]
  | scope c b ih =>
    rw [NA.C09.exec_scope]
    exact ih s
  | «when» c b ih =>
    intro hm
    simp only [sess_run, hm, if_true, Trun]
    cases hk : condKnown c with
    | none =>
      simp only [mem_norm, List.mem_append]
      split
      · exact Or.inl (ih s hm)
      · simp [α, hm]
    | some v =>
      have hv := condKnown_sound c v env s hc hk
      cases v with
      | true => simp only [hv, if_true]; exact ih s hm
      | false => simp [hv, hm, α]

end NA.C11

namespace NA.C11S
open NA.Sess NA.Apply NA.Spec.C11 NA.C11

/-! ### the table of the whole run -/

/-- The abstract end states of the whole run started outside configuration mode; what follows
about configuration mode is read off this table.  The five backends are evaluated together: most of
the run is common to them. -/
theorem Trun_body (b : Backend) :
    Trun (approveOrCompareBody b) .out =
      match b with
      | .asa => [(.panic, .out), (.panic, .conf), (.panic, .width), (.ret, .out)]
      | .ios | .linux => [(.panic, .out), (.ret, .out)]
      | .panos | .nsx => [(.panic, .out), (.ret, .out), (.cont, .out)] := by
  have hb : b ∈ [Backend.asa, .ios, .linux, .panos, .nsx] := by cases b <;> decide
  revert b
  decide +kernel

/-- the abstract state in which a compare run ends is in the table -/
theorem end_state_in_table (b : Backend) (env : Env) (h : env.compare = true) :
    α (exec (approveOrCompareBody b) env {}) ∈ Trun (approveOrCompareBody b) .out :=
  T_sound (approveOrCompareBody b) env {} h

end NA.C11S
