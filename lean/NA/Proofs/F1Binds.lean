import NA.Proofs.F1DiffAcl
import NA.Proofs.F1Ops
/-!
# F1: the access-group anchors (`makeEqual` for every kept pair) on the strict device
-/
namespace NA.F1
open NA.AsaDev
open NA.Acl (Range)
open NA.ListFacts

/-- The invariant of the run over the access-group commands: `pend` = compared device commands not yet handled,
`done` = target commands already handled; `managed` = the compared device commands. -/
structure BInv (e : Env) (managed : List Nat) (st : St) (d : Dev) (pend : List Nat) (done : List Bind) : Prop where
  full : Full e st d
  intfs : d.intfs = e.a.intfs
  bkeys : (d.binds.map (·.1)).Nodup
  pendOrig : ∀ i ∈ pend, d.binds.lookup (keyOf e i) = some (aclOfI e i)
  pendNd : (pend.map (keyOf e)).Nodup
  pendLt : ∀ i ∈ pend, i < e.a.binds.length
  frozenVals : ∀ p ∈ d.binds, FrozenAcl e st p.2 ∨ ∃ i ∈ pend, p.1 = keyOf e i
  keysFrom : ∀ p ∈ d.binds, (∃ i ∈ pend, p.1 = keyOf e i) ∨ (∃ x ∈ done, p.1 = (x.dir, x.intf)) ∨
    (∃ i, i < e.a.binds.length ∧ i ∉ managed ∧ p.1 = keyOf e i)
  doneOK : ∀ b ∈ done, b.acl ∈ st.aReady ∧ d.binds.lookup (b.dir, b.intf) = some (st.aNameOf b.acl)
  doneDisj : ∀ b ∈ done, ∀ j ∈ pend, (b.dir, b.intf) ≠ keyOf e j
  routes : d.routes = (ofConfig e.a).routes

theorem BInv.of_step {e : Env} {managed : List Nat} {st st' : St} {d d' : Dev} {pend : List Nat} {done : List Bind}
    (h : BInv e managed st d pend done) (s : Step e st d st' d') (f : Full e st' d')
    (hb : d'.binds = d.binds) (hr : d'.routes = d.routes) : BInv e managed st' d' pend done := by
  refine ⟨f, s.intfs.trans h.intfs, by rw [hb]; exact h.bkeys, by rw [hb]; exact h.pendOrig, h.pendNd, h.pendLt, ?_,
    by rw [hb]; exact h.keysFrom, ?_, h.doneDisj, hr.trans h.routes⟩
  · intro p hp
    rw [hb] at hp
    exact (h.frozenVals p hp).imp_left fun h1 => h1.mono s.aGrow
  · intro b hb'
    obtain ⟨q1, q2⟩ := h.doneOK b hb'
    obtain ⟨t1, t2⟩ := s.aReadyMono b.acl q1
    exact ⟨t1, by rw [hb, t2]; exact q2⟩

theorem bindsCmd_step {e : Env} {st st' : St} {d : Dev} {c : Chg} {bs : List ((String × Name) × Name)} (hF : Full e st d)
    (hex : exec1 d c = .ok { d with binds := bs, mode := none }) (ho : st'.out = st.out ++ [c]) (hm : st'.mode = "")
    (g1 : st'.gNeeded = st.gNeeded) (g2 : st'.gReady = st.gReady) (g3 : st'.gName = st.gName)
    (a1 : st'.aNeeded = st.aNeeded) (a2 : st'.aReady = st.aReady) (a3 : st'.aName = st.aName) :
    Step e st d st' { d with binds := bs, mode := none } ∧ Full e st' { d with binds := bs, mode := none } :=
  ⟨⟨⟨[c], ho, exec_single hex⟩, fun _ hx _ => ⟨hx, rfl⟩, fun x hx => by rw [g1]; exact hx, fun _ hX _ => ⟨hX, rfl⟩,
      fun x hx => by rw [a1]; exact hx, fun bN hb => ⟨by rw [a2]; exact hb, by unfold St.aNameOf; rw [a3]⟩, rfl⟩,
    hF.of_dev rfl rfl (by unfold ModeRel; rw [hm]; rfl) g1 g2 g3 a1 a2 a3⟩

/-- `pend'`: the pending commands at other places than that of `b`. -/
theorem bindCmd_full (e : Env) (managed : List Nat) (st : St) (d : Dev) (pend pend' : List Nat) (done : List Bind) (b : Bind)
    (tag : String) (hI : BInv e managed st d pend done) (hr : b.acl ∈ st.aReady) (hi : b.intf ∈ e.a.intfs)
    (hd : ∀ b' ∈ done, (b'.dir, b'.intf) ≠ (b.dir, b.intf))
    (hp : ∀ j, j ∈ pend' ↔ j ∈ pend ∧ keyOf e j ≠ (b.dir, b.intf)) (hnd : (pend'.map (keyOf e)).Nodup) :
    ∃ d', Step e st d ({ (st.emit (.bind (printBind st b))) with mode := "" }.hit tag) d' ∧
      BInv e managed ({ (st.emit (.bind (printBind st b))) with mode := "" }.hit tag) d' pend' (done ++ [b]) := by
  obtain ⟨hx1, _, hx3⟩ := hI.full.ready b.acl hr
  have hex : exec1 d (.bind (printBind st b)) =
      .ok { d with binds := setAssoc d.binds (b.dir, b.intf) (st.aNameOf b.acl), mode := none } := by
    simp [exec1, printBind, hx1, hI.intfs, hi]
  obtain ⟨s1, f1⟩ := bindsCmd_step (st' := { (st.emit (.bind (printBind st b))) with mode := "" }.hit tag) hI.full hex
    rfl rfl rfl rfl rfl rfl rfl rfl
  generalize hd1 : ({ d with binds := setAssoc d.binds (b.dir, b.intf) (st.aNameOf b.acl), mode := none } : Dev) = d1 at s1 f1
  have hb1 : d1.binds = setAssoc d.binds (b.dir, b.intf) (st.aNameOf b.acl) := by rw [← hd1]
  have hr1 : d1.routes = d.routes := by rw [← hd1]
  obtain ⟨t1, t2⟩ := s1.aReadyMono b.acl hr
  refine ⟨d1, s1, f1, s1.intfs.trans hI.intfs, ?_, ?_, hnd, fun j hj => hI.pendLt j ((hp j).mp hj).1, ?_, ?_, ?_, ?_,
    hr1.trans hI.routes⟩
  · rw [hb1]; exact nodup_keys_setAssoc _ _ _ hI.bkeys
  · intro j hj
    obtain ⟨h1, h2⟩ := (hp j).mp hj
    rw [hb1, lookup_setAssoc_ne _ _ _ _ h2]; exact hI.pendOrig j h1
  · intro p hp'
    rw [hb1] at hp'
    rcases mem_setAssoc hp' with h1 | ⟨h1, h2⟩
    · left; rw [h1]; exact hx3.mono s1.aGrow
    · rcases hI.frozenVals p h1 with h3 | ⟨j, hj, h3⟩
      · exact Or.inl (h3.mono s1.aGrow)
      · exact Or.inr ⟨j, (hp j).mpr ⟨hj, by rw [← h3]; exact h2⟩, h3⟩
  · intro p hp'
    rw [hb1] at hp'
    rcases mem_setAssoc hp' with h1 | ⟨h1, h2⟩
    · exact Or.inr (Or.inl ⟨b, List.mem_append_right _ List.mem_cons_self, by rw [h1]⟩)
    · rcases hI.keysFrom p h1 with ⟨j, hj, h3⟩ | ⟨x, hx, h3⟩ | h3
      · exact Or.inl ⟨j, (hp j).mpr ⟨hj, by rw [← h3]; exact h2⟩, h3⟩
      · exact Or.inr (Or.inl ⟨x, List.mem_append_left _ hx, h3⟩)
      · exact Or.inr (Or.inr h3)
  · intro b' hb'
    rcases List.mem_append.mp hb' with h1 | h1
    · obtain ⟨q1, q2⟩ := hI.doneOK b' h1
      obtain ⟨u1, u2⟩ := s1.aReadyMono b'.acl q1
      exact ⟨u1, by rw [hb1, lookup_setAssoc_ne _ _ _ _ (hd b' h1), u2]; exact q2⟩
    · rw [List.mem_singleton.mp h1]
      exact ⟨t1, by rw [hb1, lookup_setAssoc_self, t2]⟩
  · intro b' hb' j hj
    rcases List.mem_append.mp hb' with h1 | h1
    · exact hI.doneDisj b' h1 j ((hp j).mp hj).1
    · rw [List.mem_singleton.mp h1]; exact fun h => ((hp j).mp hj).2 h.symm

/-- The side conditions of `makeEqualBind e st i b` as its proof uses them: the interface of the target command is
looked at only if the `access-group` command is sent again, the target's list of access lists only if the access list
may be transferred (outside the incremental branch of `diffAcl`). -/
structure PairOK (e : Env) (st : St) (i : Nat) (b : Bind) : Prop where
  key : keyOf e i = (b.dir, b.intf)
  aAcl : (e.a.binds.getD i default).acl ∈ A0 e
  step : aclStepCheck e { st with bNeeded := makeEqualBind.addSet' i st.bNeeded } (e.a.binds.getD i default).acl b.acl = true
  intf : (diffAcl e { st with bNeeded := makeEqualBind.addSet' i st.bNeeded } (e.a.binds.getD i default).acl b.acl).2 ≠
    (e.a.binds.getD i default).acl → b.intf ∈ e.a.intfs
  bAcl : ¬ Incr e { st with bNeeded := makeEqualBind.addSet' i st.bNeeded } (e.a.binds.getD i default).acl b.acl →
    b.acl ∈ BAcls e

theorem PairOK.of_check {e : Env} {st : St} {i : Nat} {b : Bind} (hc : pairCheck e st i b = true) : PairOK e st i b := by
  unfold pairCheck at hc
  simp only [Bool.and_eq_true, beq_iff_eq, List.contains_eq_mem, decide_eq_true_eq] at hc
  obtain ⟨⟨⟨⟨⟨c1, c2⟩, c3⟩, c4⟩, c5⟩, c6⟩ := hc
  exact ⟨by unfold keyOf; rw [c1, c2], c3, c6, fun _ => c5, fun _ => c4⟩

theorem makeEqualBind_full (e : Env) (managed : List Nat) (hw : WF e) (hA : RefsClosedA e) (hB : RefsClosedB e) (st : St) (d : Dev)
    (i : Nat) (pend : List Nat) (done : List Bind) (b : Bind)
    (hI : BInv e managed st d pend done) (hi : i ∈ pend) (hc : PairOK e st i b) :
    ∃ d', Step e st d (makeEqualBind e st i b) d' ∧
      BInv e managed (makeEqualBind e st i b) d' (pend.filter (· != i)) (done ++ [b]) ∧
      (∀ j, j ∈ (makeEqualBind e st i b).bNeeded ↔ j = i ∨ j ∈ st.bNeeded) ∧
      ((diffAcl e { st with bNeeded := makeEqualBind.addSet' i st.bNeeded } (e.a.binds.getD i default).acl b.acl).2 =
        (e.a.binds.getD i default).acl → d'.binds = d.binds) := by
  have hkey := hc.key
  have c6 := hc.step
  have c5 := hc.intf
  have c4 := hc.bAcl
  have hdk : ∀ b' ∈ done, (b'.dir, b'.intf) ≠ (b.dir, b.intf) := fun b' hb' => by
    rw [← hkey]; exact hI.doneDisj b' hb' i hi
  -- the pending commands at other places
  have hp : ∀ j, j ∈ pend.filter (· != i) ↔ j ∈ pend ∧ keyOf e j ≠ (b.dir, b.intf) := by
    intro j
    rw [mem_filter_ne, ← hkey]
    exact ⟨fun h => ⟨h.1, fun e1 => h.2 (eq_of_nodup_map hI.pendNd h.1 hi e1)⟩,
      fun h => ⟨h.1, fun e1 => h.2 (by rw [e1])⟩⟩
  have hnd := nodup_map_filter (keyOf e) (· != i) hI.pendNd
  generalize hst1 : ({ st with bNeeded := makeEqualBind.addSet' i st.bNeeded } : St) = st1 at c6 c5 c4 ⊢
  have hF1 : Full e st1 d := by rw [← hst1]; exact hI.full.of_dev rfl rfl hI.full.sem.mode rfl rfl rfl rfl rfl rfl
  have s1 : Step e st d st1 d := by rw [← hst1]; exact Step.of_marks rfl rfl rfl rfl rfl
  unfold makeEqualBind
  simp only []
  rw [hst1]
  generalize hq : diffAcl e st1 (e.a.binds.getD i default).acl b.acl = q
  obtain ⟨d2, s2, f2, r2, n2, nd2, b2, ro2, bn2⟩ := diffAcl_full e hw hA hB st1 d hF1 (e.a.binds.getD i default).acl b.acl hc.aAcl c4 c6 hq
  obtain ⟨st2, refName⟩ := q
  have hI2 : BInv e managed st2 d2 pend done := (hI.of_step s1 hF1 rfl rfl).of_step s2 f2 b2 ro2
  have hbn2 : ∀ j, j ∈ st2.bNeeded ↔ j = i ∨ j ∈ st.bNeeded := fun j => by rw [bn2, ← hst1]; exact mem_addSet'
  by_cases hre : (refName != (e.a.binds.getD i default).acl) = true
  · -- the binding is re-pointed
    rw [if_pos hre]
    obtain ⟨d3, s3, i3⟩ := bindCmd_full e managed st2 d2 pend _ done b "bind:changed-ref" hI2 r2
      (c5 (by rw [hq]; exact bne_iff_ne.mp hre)) hdk hp hnd
    exact ⟨d3, (s1.trans s2).trans s3, i3, hbn2, fun h => absurd h (bne_iff_ne.mp hre)⟩
  · -- the binding stays
    rw [if_neg hre]
    have hrn : refName = aclOfI e i := Decidable.of_not_not (fun h => hre (bne_iff_ne.mpr h))
    have horig := hI2.pendOrig i hi
    refine ⟨d2, s1.trans s2, ⟨f2, hI2.intfs, hI2.bkeys, fun j hj => hI2.pendOrig j ((hp j).mp hj).1, hnd,
      fun j hj => hI.pendLt j ((hp j).mp hj).1, ?_, ?_, ?_, ?_, hI2.routes⟩, hbn2, fun _ => b2⟩
    · intro p hp'
      rcases hI2.frozenVals p hp' with h3 | ⟨j, hj, h3⟩
      · exact Or.inl h3
      · by_cases e1 : j = i
        · -- the entry of the handled command: its value is the device ACL, which is needed now
          have hl := (lookup_eq_some_iff_mem hI2.bkeys).mpr hp'
          rw [h3, e1, horig] at hl
          rw [← Option.some.inj hl]; exact Or.inl (Or.inl (nd2 hrn))
        · exact Or.inr ⟨j, mem_filter_ne.mpr ⟨hj, e1⟩, h3⟩
    · intro p hp'
      rcases hI2.keysFrom p hp' with ⟨j, hj, h3⟩ | ⟨x, hx, h3⟩ | h3
      · by_cases e1 : j = i
        · exact Or.inr (Or.inl ⟨b, List.mem_append_right _ List.mem_cons_self, by rw [h3, e1, hkey]⟩)
        · exact Or.inl ⟨j, mem_filter_ne.mpr ⟨hj, e1⟩, h3⟩
      · exact Or.inr (Or.inl ⟨x, List.mem_append_left _ hx, h3⟩)
      · exact Or.inr (Or.inr h3)
    · intro b' hb'
      rcases List.mem_append.mp hb' with h1 | h1
      · exact hI2.doneOK b' h1
      · rw [List.mem_singleton.mp h1]
        exact ⟨r2, by rw [← hkey, horig, ← n2, hrn]⟩
    · intro b' hb' j hj
      rcases List.mem_append.mp hb' with h1 | h1
      · exact hI2.doneDisj b' h1 j ((hp j).mp hj).1
      · rw [List.mem_singleton.mp h1]; exact fun h => ((hp j).mp hj).2 h.symm

theorem markDeletedBinds_core (e : Env) (st : St) (idx : List Nat) : Core st (markDeletedBinds e st idx) := by
  unfold markDeletedBinds
  refine foldl_inv (P := Core st) (fun i _ s hs => ?_) (Core.refl st)
  split
  · exact hs
  · exact hs.trans ((⟨rfl, rfl, rfl, rfl, rfl, rfl, rfl, rfl, rfl⟩ : Core s { s with bToDel := i :: s.bToDel }).trans
      (markDeletedAcl_core e _ _))

theorem BInv.of_core {e : Env} {managed : List Nat} {st st' : St} {d : Dev} {pend : List Nat} {done : List Bind}
    (h : BInv e managed st d pend done) (c : Core st st') : BInv e managed st' d pend done :=
  h.of_step (Step.of_core c) (h.full.of_core c) rfl rfl

theorem keyOf_mem_keys (e : Env) (i : Nat) (hi : i < e.a.binds.length) :
    keyOf e i ∈ e.a.binds.map fun x => (x.dir, x.intf) :=
  List.mem_map.mpr ⟨_, getD_mem hi, rfl⟩

theorem delFold_full (e : Env) (managed : List Nat) (f : St → Nat → St)
    (hf : f = fun st i => if st.bNeeded.contains i then st else
      { (st.emit (.noBind (e.a.binds.getD i default))) with mode := "", bNeeded := i :: st.bNeeded }.hit "bind:del") :
    ∀ (idx : List Nat) (st : St) (d : Dev) (pend : List Nat) (done : List Bind),
    BInv e managed st d pend done → idx.Nodup → (∀ i ∈ idx, i ∈ pend ∧ i ∉ st.bNeeded) →
    ∃ d', Step e st d (idx.foldl f st) d' ∧
      BInv e managed (idx.foldl f st) d' (pend.filter fun j => !idx.contains j) done ∧
      (∀ j, j ∈ (idx.foldl f st).bNeeded ↔ j ∈ idx ∨ j ∈ st.bNeeded) := by
  subst hf
  intro idx
  induction idx with
  | nil =>
    intro st d pend done hI _ _
    refine ⟨d, Step.refl e st d, ?_, fun j => by simp only [List.foldl_nil, List.not_mem_nil, false_or]⟩
    have : (pend.filter fun j => !([] : List Nat).contains j) = pend := List.filter_eq_self.mpr (fun _ _ => by simp)
    rw [List.foldl_nil, this]; exact hI
  | cons i is ih =>
    intro st d pend done hI hnd hc
    obtain ⟨hip, hin⟩ := hc i List.mem_cons_self
    have hin' : st.bNeeded.contains i = false := by simpa using hin
    rw [List.foldl_cons]
    simp only [hin', Bool.false_eq_true, if_false]
    have hex : exec1 d (.noBind (e.a.binds.getD i default)) = .ok { d with binds := delAssoc d.binds (keyOf e i), mode := none } :=
      exec1_noBind_ok _ (hI.pendOrig i hip)
    obtain ⟨s1, hF1⟩ := bindsCmd_step
      (st' := { (st.emit (.noBind (e.a.binds.getD i default))) with mode := "", bNeeded := i :: st.bNeeded }.hit "bind:del")
      hI.full hex rfl rfl rfl rfl rfl rfl rfl rfl
    generalize hst1 : ({ (st.emit (.noBind (e.a.binds.getD i default))) with mode := "", bNeeded := i :: st.bNeeded }.hit "bind:del" : St) = st1 at s1 hF1 ⊢
    generalize hd1 : ({ d with binds := delAssoc d.binds (keyOf e i), mode := none } : Dev) = d1 at s1 hF1
    have hb1 : d1.binds = delAssoc d.binds (keyOf e i) := by rw [← hd1]
    have hfa : ∀ x, FrozenAcl e st x → FrozenAcl e st1 x := fun x hx => by rw [← hst1]; exact hx
    have hkne : ∀ j ∈ pend, j ≠ i → keyOf e j ≠ keyOf e i := fun j hj hne e1 =>
      hne (eq_of_nodup_map hI.pendNd hj hip e1)
    have hI1 : BInv e managed st1 d1 (pend.filter (· != i)) done := by
      refine ⟨hF1, by rw [← hd1]; exact hI.intfs, ?_, ?_, nodup_map_filter _ _ hI.pendNd,
        fun j hj => hI.pendLt j (mem_filter_ne.mp hj).1, ?_, ?_, ?_, ?_, by rw [← hd1]; exact hI.routes⟩
      · rw [hb1]; unfold delAssoc; exact nodup_map_filter _ _ hI.bkeys
      · intro j hj
        obtain ⟨h1, h2⟩ := mem_filter_ne.mp hj
        rw [hb1, lookup_delAssoc_ne _ _ (hkne j h1 h2)]
        exact hI.pendOrig j h1
      · intro p hp
        rw [hb1] at hp
        obtain ⟨h1, h2⟩ := mem_delAssoc hp
        rcases hI.frozenVals p h1 with h3 | ⟨j, hj, h3⟩
        · exact Or.inl (hfa _ h3)
        · by_cases e1 : j = i
          · exfalso; apply h2; rw [h3, e1]
          · exact Or.inr ⟨j, mem_filter_ne.mpr ⟨hj, e1⟩, h3⟩
      · intro p hp
        rw [hb1] at hp
        obtain ⟨h1, h2⟩ := mem_delAssoc hp
        rcases hI.keysFrom p h1 with ⟨j, hj, h3⟩ | h3 | h3
        · by_cases e1 : j = i
          · exfalso; apply h2; rw [h3, e1]
          · exact Or.inl ⟨j, mem_filter_ne.mpr ⟨hj, e1⟩, h3⟩
        · exact Or.inr (Or.inl h3)
        · exact Or.inr (Or.inr h3)
      · intro b hb
        obtain ⟨q1, q2⟩ := hI.doneOK b hb
        refine ⟨by rw [← hst1]; exact q1, ?_⟩
        rw [hb1, lookup_delAssoc_ne _ _ (hI.doneDisj b hb i hip)]
        rw [← hst1]; exact q2
      · intro b hb j hj
        exact hI.doneDisj b hb j (mem_filter_ne.mp hj).1
    have hnd' := List.nodup_cons.mp hnd
    obtain ⟨d2, s2, i2, bn2⟩ := ih st1 d1 (pend.filter (· != i)) done hI1 hnd'.2 (by
      intro j hj
      have hji : j ≠ i := fun e1 => hnd'.1 (e1 ▸ hj)
      obtain ⟨h1, h2⟩ := hc j (List.mem_cons_of_mem _ hj)
      refine ⟨mem_filter_ne.mpr ⟨h1, hji⟩, ?_⟩
      rw [← hst1]
      show j ∉ i :: st.bNeeded
      exact fun hx => (List.mem_cons.mp hx).elim hji h2)
    refine ⟨d2, s1.trans s2, (show _ = pend.filter fun j => !(i :: is).contains j from filter_key_ne_filter id pend i is) ▸ i2, ?_⟩
    intro j
    rw [bn2, ← hst1]
    show j ∈ is ∨ j ∈ i :: st.bNeeded ↔ _
    simp only [List.mem_cons]
    rw [or_left_comm, or_assoc]

theorem delBinds_full (e : Env) (managed : List Nat) (idx : List Nat) (st : St) (d : Dev) (pend : List Nat) (done : List Bind)
    (hI : BInv e managed st d pend done) (hnd : idx.Nodup) (hc : ∀ i ∈ idx, i ∈ pend ∧ i ∉ st.bNeeded) :
    ∃ d', Step e st d (delBinds e st idx) d' ∧
      BInv e managed (delBinds e st idx) d' (pend.filter fun j => !idx.contains j) done ∧
      (∀ j, j ∈ (delBinds e st idx).bNeeded ↔ j ∈ idx ∨ j ∈ st.bNeeded) := by
  obtain ⟨d1, s1, i1, bn1⟩ := delFold_full e managed _ rfl idx st d pend done hI hnd hc
  unfold delBinds
  generalize (idx.foldl (fun st i =>
        if st.bNeeded.contains i then st else
        { (st.emit (.noBind (e.a.binds.getD i default))) with mode := "", bNeeded := i :: st.bNeeded }.hit "bind:del") st) = st1 at s1 i1 bn1
  split
  · exact ⟨d1, s1, i1, bn1⟩
  · have c := markDeletedBinds_core e st1 idx
    refine ⟨d1, s1.trans (Step.of_core c), i1.of_core c, ?_⟩
    intro j; rw [c.bNeeded]; exact bn1 j

theorem addOne_full (e : Env) (managed : List Nat) (hw : WF e) (hB : RefsClosedB e) (st : St) (d : Dev)
    (pend : List Nat) (done : List Bind) (b : Bind) (hI : BInv e managed st d pend done)
    (hc : opCheck e st pend done (.add b) = true) :
    ∃ d', Step e st d (addOne e st b) d' ∧ BInv e managed (addOne e st b) d' pend (done ++ [b]) ∧
      (addOne e st b).bNeeded = st.bNeeded := by
  unfold opCheck at hc
  simp only [Bool.and_eq_true, Bool.not_eq_true', List.contains_eq_mem, decide_eq_true_eq, decide_eq_false_iff_not] at hc
  obtain ⟨⟨⟨⟨c1, c2⟩, c3⟩, c4⟩, c5⟩ := hc
  obtain ⟨d1, s1, f1, r1, b1, ro1, _, bn1⟩ := transferAcl_full e hw hB st d hI.full b.acl c1 c5
  unfold addOne
  generalize transferAcl e st b.acl = st1 at s1 f1 r1 bn1 ⊢
  -- the place is new
  have hpend : ∀ j ∈ pend, keyOf e j ≠ (b.dir, b.intf) := fun j hj e1 =>
    c3 (e1 ▸ keyOf_mem_keys e j (hI.pendLt j hj))
  obtain ⟨d2, s2, i2⟩ := bindCmd_full e managed st1 d1 pend pend done b "bind:add" (hI.of_step s1 f1 b1 ro1) r1 c2
    (fun b' hb' e1 => c4 (List.mem_map.mpr ⟨b', hb', e1⟩)) (fun j => ⟨fun h => ⟨h, hpend j h⟩, And.left⟩) hI.pendNd
  exact ⟨d2, s1.trans s2, i2, bn1⟩

theorem bindOps_full (e : Env) (managed : List Nat) (hw : WF e) (hA : RefsClosedA e) (hB : RefsClosedB e) :
    ∀ (ops : List BOp) (st : St) (d : Dev) (pend : List Nat) (done : List Bind),
    BInv e managed st d pend done → opsCheck e st pend done ops = true →
    ∃ d', Step e st d (ops.foldl (applyOp e) st) d' ∧
      BInv e managed (ops.foldl (applyOp e) st) d' (opsEnd pend done ops).1 (opsEnd pend done ops).2 ∧
      (∀ j, j ∈ pend → j ∈ (opsEnd pend done ops).1 ∨ j ∈ (ops.foldl (applyOp e) st).bNeeded) ∧
      (∀ j ∈ st.bNeeded, j ∈ (ops.foldl (applyOp e) st).bNeeded) := by
  intro ops
  induction ops with
  | nil =>
    intro st d pend done hI _
    exact ⟨d, Step.refl e st d, hI, fun j hj => Or.inl hj, fun j hj => hj⟩
  | cons op ops ih =>
    intro st d pend done hI hc
    unfold opsCheck at hc
    simp only [Bool.and_eq_true] at hc
    obtain ⟨c1, c2⟩ := hc
    rw [List.foldl_cons]
    cases op with
    | delGroup idx =>
      have c1' := c1
      unfold opCheck at c1'
      simp only [Bool.and_eq_true, decide_eq_true_eq, List.all_eq_true, Bool.not_eq_true', List.contains_eq_mem,
        decide_eq_false_iff_not] at c1'
      obtain ⟨d1, s1, i1, bn1⟩ := delBinds_full e managed idx st d pend done hI c1'.1 c1'.2
      obtain ⟨d2, s2, i2, k2, m2⟩ := ih (delBinds e st idx) d1 _ done i1 c2
      refine ⟨d2, s1.trans s2, i2, ?_, fun j hj => m2 j ((bn1 j).mpr (Or.inr hj))⟩
      intro j hj
      by_cases hji : j ∈ idx
      · exact Or.inr (m2 j ((bn1 j).mpr (Or.inl hji)))
      · exact k2 j (List.mem_filter.mpr ⟨hj, by simpa using hji⟩)
    | add b =>
      obtain ⟨d1, s1, i1, bn1⟩ := addOne_full e managed hw hB st d pend done b hI c1
      obtain ⟨d2, s2, i2, k2, m2⟩ := ih (addOne e st b) d1 pend (done ++ [b]) i1 c2
      exact ⟨d2, s1.trans s2, i2, k2, fun j hj => m2 j (by rw [bn1]; exact hj)⟩
    | eq i b =>
      have c1' := c1
      unfold opCheck at c1'
      simp only [Bool.and_eq_true, List.contains_eq_mem, decide_eq_true_eq] at c1'
      obtain ⟨d1, s1, i1, bn1, _⟩ := makeEqualBind_full e managed hw hA hB st d i pend done b hI c1'.1 (.of_check c1'.2)
      obtain ⟨d2, s2, i2, k2, m2⟩ := ih (makeEqualBind e st i b) d1 _ (done ++ [b]) i1 c2
      refine ⟨d2, s1.trans s2, i2, ?_, fun j hj => m2 j ((bn1 j).mpr (Or.inr hj))⟩
      intro j hj
      by_cases hji : j = i
      · exact Or.inr (m2 j ((bn1 j).mpr (Or.inl hji)))
      · exact k2 j (mem_filter_ne.mpr ⟨hj, hji⟩)

end NA.F1
