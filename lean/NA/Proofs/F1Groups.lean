import NA.Model.AsaEngine
import NA.Core.ListFacts
/-!
# F1: object-groups — `sortGroups`, `findGroupOnDevice`, the in-place edit of `equalizedGroups`, on lists only (no device)
-/
namespace NA.F1
open NA.Acl (Range)

theorem insertS_eq : insertS = ListFacts.insertBy (fun a b : String => decide (a ≤ b)) := by
  funext x l
  induction l with
  | nil => rfl
  | cons y ys ih => simp only [insertS, ListFacts.insertBy, ih, decide_eq_true_eq]

theorem sortS_eq : sortS = ListFacts.isort (fun a b : String => decide (a ≤ b)) := by
  funext l; rw [sortS, insertS_eq]; rfl

theorem sortS_perm (l : List String) : (sortS l).Perm l := sortS_eq ▸ ListFacts.isort_perm _ l

theorem mem_sortS {x : String} {l : List String} : x ∈ sortS l ↔ x ∈ l := (sortS_perm l).mem_iff

theorem sortS_nodup {l : List String} (h : l.Nodup) : (sortS l).Nodup := (sortS_perm l).nodup_iff.mpr h

theorem sortS_filter_nodup {l : List Name} (h : l.Nodup) (p : Name → Bool) : (sortS (l.filter p)).Nodup :=
  sortS_nodup (List.Nodup.sublist List.filter_sublist h)

theorem perm_of_sortS_eq {l₁ l₂ : List String} (h : sortS l₁ = sortS l₂) : l₁.Perm l₂ :=
  (sortS_perm l₁).symm.trans (h ▸ sortS_perm l₂)

theorem findGroupIn_sound {names needed : List Name} {mA : Name → List String} {mb : List String} {aN : Name}
    (h : findGroupIn names needed mA mb = some aN) : aN ∈ names ∧ aN ∉ needed ∧ mA aN = mb := by
  unfold findGroupIn at h
  have h1 := List.mem_of_find?_eq_some h
  have h2 := List.find?_some h
  simp only [Bool.and_eq_true, Bool.not_eq_true', beq_iff_eq] at h2
  refine ⟨h1, ?_, h2.2⟩
  intro hm
  have : needed.contains aN = true := by simpa using hm
  rw [this] at h2
  exact absurd h2.1 (by decide)

inductive FindResult (e : Env) (st st' : St) (bN : Name) : Prop
  | unchanged (h : st' = st)
  | adopted (aN : Name) (hdev : aN ∈ e.a.groups.map (·.1)) (hfree : aN ∉ st.gNeeded) (hnr : bN ∉ st.gReady)
      (hsame : (lookupD e.a.groups aN).Perm (lookupD e.b.groups bN))
      (hst : st' = { st with gNeeded := addSet aN st.gNeeded, gReady := bN :: st.gReady,
                             gName := (bN, aN) :: st.gName, hits := "grp:found-on-device" :: st.hits })

theorem findGroup_result (e : Env) (st : St) (bN : Name) : FindResult e st (findGroup e st bN) bN := by
  unfold findGroup
  by_cases hr : st.gReady.contains bN = true
  · simp only [hr, if_true]; exact .unchanged rfl
  · simp only [hr]
    cases hf : findGroupIn e.aGroupNames st.gNeeded e.aMembers (e.bMembers bN) with
    | none => exact .unchanged rfl
    | some aN =>
      obtain ⟨h1, h2, h3⟩ := findGroupIn_sound hf
      refine .adopted aN ?_ h2 (by simpa using hr) (perm_of_sortS_eq h3) rfl
      exact mem_sortS.mp h1

theorem findGroup_out (e : Env) (st : St) (bN : Name) : (findGroup e st bN).out = st.out := by
  cases findGroup_result e st bN with
  | unchanged he => rw [he]
  | adopted aN _ _ _ _ hst => rw [hst]

theorem mem_addSet {g x : Name} {s : List Name} : g ∈ addSet x s ↔ g = x ∨ g ∈ s := by
  unfold addSet
  split
  · rename_i h
    exact ⟨Or.inr, fun h' => h'.elim (fun e => e ▸ List.contains_iff_mem.mp h) id⟩
  · exact List.mem_cons

theorem mem_foldl_addSet (g : Name) (l s : List Name) : g ∈ l.foldl (fun s g => addSet g s) s ↔ g ∈ l ∨ g ∈ s := by
  rw [ListFacts.mem_foldl_iff (Q := (g = ·)) (fun _ _ => by rw [mem_addSet, or_comm]) l s, or_comm]; simp

/-- A script is one for the lists `a`, `b` from position `(ia, ib)`: contiguous, in bounds, kept ranges
pairwise equal.  Kind tests in the order of `equalizedGroups` (delete, insert, equal). -/
def scriptOK {α : Type} [DecidableEq α] (a b : List α) : List Range → Nat → Nat → Bool
  | [], ia, ib => ia == a.length && ib == b.length
  | r :: rs, ia, ib =>
    r.lowA == ia && r.lowB == ib && decide (ia ≤ r.highA) && decide (ib ≤ r.highB) &&
    decide (r.highA ≤ a.length) && decide (r.highB ≤ b.length) &&
    (r.isDelete || r.isInsert || (r.isEqual && slice a ia r.highA == slice b ib r.highB)) &&
    scriptOK a b rs r.highA r.highB

def delsOf (a : List String) : List Range → List String
  | [] => []
  | r :: rs => (if r.isDelete then slice a r.lowA r.highA else []) ++ delsOf a rs

def inssOf (b : List String) : List Range → List String
  | [] => []
  | r :: rs => (if !r.isDelete && r.isInsert then slice b r.lowB r.highB else []) ++ inssOf b rs

def keptOf (a : List String) : List Range → List String
  | [] => []
  | r :: rs => (if !r.isDelete && !r.isInsert then slice a r.lowA r.highA else []) ++ keptOf a rs

/-- The member commands in script order: `(false, m)` = `no network-object m`, `(true, m)` = `network-object m`. -/
def memOps (a b : List String) : List Range → List (Bool × String)
  | [] => []
  | r :: rs =>
    (if r.isDelete then (slice a r.lowA r.highA).map (false, ·)
     else if r.isInsert then (slice b r.lowB r.highB).map (true, ·) else []) ++ memOps a b rs

/-- Strict member semantics of an object-group (as `NA.AsaDev.exec1`). -/
def applyMem : List String → List (Bool × String) → Option (List String)
  | cur, [] => some cur
  | cur, (true, m) :: ops => if cur.contains m then none else applyMem (cur ++ [m]) ops
  | cur, (false, m) :: ops => if cur.contains m then applyMem (cur.filter (· != m)) ops else none

def opDels (ops : List (Bool × String)) : List String := (ops.filter (!·.1)).map (·.2)
def opInss (ops : List (Bool × String)) : List String := (ops.filter (·.1)).map (·.2)

theorem slice_drop (l : List String) (lo hi : Nat) (h1 : lo ≤ hi) : l.drop lo = slice l lo hi ++ l.drop hi :=
  ListFacts.drop_split l h1

theorem scriptOK_cons {α : Type} [DecidableEq α] {a b : List α} {r : Range} {rs : List Range} {ia ib : Nat}
    (h : scriptOK a b (r :: rs) ia ib = true) :
    (((((((r.lowA = ia ∧ r.lowB = ib) ∧ ia ≤ r.highA) ∧ ib ≤ r.highB) ∧ r.highA ≤ a.length) ∧ r.highB ≤ b.length) ∧
      ((r.isDelete = true ∨ r.isInsert = true) ∨ r.isEqual = true ∧ slice a ia r.highA = slice b ib r.highB)) ∧
      scriptOK a b rs r.highA r.highB = true) := by
  simpa only [scriptOK, Bool.and_eq_true, beq_iff_eq, decide_eq_true_eq, Bool.or_eq_true] using h

theorem scriptOK_split (a b : List String) : ∀ (rs : List Range) (ia ib : Nat), scriptOK a b rs ia ib = true →
    (a.drop ia).Perm (keptOf a rs ++ delsOf a rs) ∧ (b.drop ib).Perm (keptOf a rs ++ inssOf b rs) := by
  intro rs
  induction rs with
  | nil =>
    intro ia ib h
    simp only [scriptOK, Bool.and_eq_true, beq_iff_eq] at h
    simp [keptOf, delsOf, inssOf, h.1, h.2]
  | cons r rs ih =>
    intro ia ib h
    obtain ⟨⟨⟨⟨⟨⟨⟨hla, hlb⟩, h1⟩, h2⟩, -⟩, -⟩, hk⟩, hrest⟩ := scriptOK_cons h
    obtain ⟨iha, ihb⟩ := ih r.highA r.highB hrest
    have ea := slice_drop a ia r.highA h1
    have eb := slice_drop b ib r.highB h2
    by_cases hd : r.isDelete = true
    · -- delete range: the b side does not advance
      have hb0 : r.highB = ib := (eq_of_beq hd).symm.trans hlb
      simp only [keptOf, delsOf, inssOf, hd, hla, Bool.not_true, Bool.false_and, if_true]
      constructor
      · rw [ea]
        exact (iha.append_left _).trans (List.perm_append_comm_assoc ..)
      · rw [← hb0]; simpa using ihb
    · have hd' : r.isDelete = false := by simpa using hd
      by_cases hi : r.isInsert = true
      · have ha0 : r.highA = ia := (eq_of_beq hi).symm.trans hla
        simp only [keptOf, delsOf, inssOf, hd', hi, hlb, Bool.not_false, Bool.true_and, Bool.not_true,
          Bool.and_false, if_true]
        constructor
        · rw [← ha0]; simpa using iha
        · rw [eb]
          exact (ihb.append_left _).trans (List.perm_append_comm_assoc ..)
      · have hi' : r.isInsert = false := by simpa using hi
        have heq : slice a ia r.highA = slice b ib r.highB := by
          rcases hk with (hk | hk) | hk
          · exact absurd hk hd
          · exact absurd hk hi
          · exact hk.2
        simp only [keptOf, delsOf, inssOf, hd', hi', hla, Bool.not_false, Bool.and_self, if_true,
          Bool.and_false]
        constructor
        · rw [ea, List.append_assoc]
          exact iha.append_left _
        · rw [eb, ← heq, List.append_assoc]
          exact ihb.append_left _

theorem memOps_parts (a b : List String) (rs : List Range) :
    opDels (memOps a b rs) = delsOf a rs ∧ opInss (memOps a b rs) = inssOf b rs := by
  induction rs with
  | nil => exact ⟨rfl, rfl⟩
  | cons r rs ih =>
    simp only [memOps, delsOf, inssOf, opDels, opInss, List.filter_append, List.map_append] at ih ⊢
    rw [ih.1, ih.2]
    by_cases hd : r.isDelete = true
    · simp [hd, List.filter_map, Function.comp_def]
    · have hd' : r.isDelete = false := by simpa using hd
      by_cases hi : r.isInsert = true <;> simp [hd', hi, List.filter_map, Function.comp_def]

theorem opDels_memOps (a b : List String) (rs : List Range) : opDels (memOps a b rs) = delsOf a rs := (memOps_parts a b rs).1

theorem opInss_memOps (a b : List String) (rs : List Range) : opInss (memOps a b rs) = inssOf b rs := (memOps_parts a b rs).2

theorem applyMem_eq : ∀ (ops : List (Bool × String)) (cur : List String),
    (∀ m ∈ opDels ops, m ∈ cur) → (opDels ops).Nodup → (opInss ops).Nodup →
    (∀ m ∈ opInss ops, m ∉ cur) → (∀ m ∈ opInss ops, m ∉ opDels ops) →
    applyMem cur ops = some (cur.filter (fun m => !(opDels ops).contains m) ++ opInss ops) := by
  intro ops
  induction ops with
  | nil =>
    intro cur _ _ _ _ _
    have : List.filter (fun _ => true) cur = cur := List.filter_eq_self.mpr (fun _ _ => rfl)
    simp [applyMem, opDels, opInss, this]
  | cons op ops ih =>
    intro cur h1 h2 h3 h4 h5
    obtain ⟨k, m⟩ := op
    cases k with
    | true =>
      have eD : opDels ((true, m) :: ops) = opDels ops := rfl
      have eI : opInss ((true, m) :: ops) = m :: opInss ops := rfl
      have hm : m ∉ cur := h4 m (List.mem_cons_self)
      have hmD : m ∉ opDels ops := h5 m (List.mem_cons_self)
      have hc : cur.contains m = false := by rw [List.contains_eq_mem]; exact decide_eq_false hm
      simp only [applyMem, hc, eD, eI]
      rw [ih (cur ++ [m])]
      · have : (List.filter (fun m => !(opDels ops).contains m) [m]) = [m] := by
          simp [List.filter, hmD]
        rw [List.filter_append, this, List.append_assoc]
        rfl
      · intro x hx; exact List.mem_append_left _ (h1 x hx)
      · exact h2
      · exact (List.nodup_cons.mp h3).2
      · intro x hx hxc
        rcases List.mem_append.mp hxc with hxc | hxc
        · exact h4 x (List.mem_cons_of_mem _ hx) hxc
        · simp at hxc; subst hxc; exact (List.nodup_cons.mp h3).1 hx
      · intro x hx; exact h5 x (List.mem_cons_of_mem _ hx)
    | false =>
      have eD : opDels ((false, m) :: ops) = m :: opDels ops := rfl
      have eI : opInss ((false, m) :: ops) = opInss ops := rfl
      have hm : m ∈ cur := h1 m (List.mem_cons_self)
      have hc : cur.contains m = true := by rw [List.contains_eq_mem]; exact decide_eq_true hm
      simp only [applyMem, hc, if_true, eD, eI]
      rw [ih (cur.filter (· != m))]
      · congr 2
        rw [List.filter_filter]
        apply List.filter_congr
        intro x _
        by_cases hx : x = m <;> simp [hx]
      · intro x hx
        have hxm : x ≠ m := fun e => (List.nodup_cons.mp h2).1 (e ▸ hx)
        simp [List.mem_filter, h1 x (List.mem_cons_of_mem _ hx), hxm]
      · exact (List.nodup_cons.mp h2).2
      · exact h3
      · intro x hx hxc; exact h4 x hx (List.mem_filter.mp hxc).1
      · intro x hx hxd; exact h5 x hx (List.mem_cons_of_mem _ hxd)

theorem applyMem_append (cur : List String) (xs ys : List (Bool × String)) :
    applyMem cur (xs ++ ys) = (applyMem cur xs).bind fun c => applyMem c ys := by
  induction xs generalizing cur with
  | nil => simp [applyMem]
  | cons x xs ih =>
    obtain ⟨k, m⟩ := x
    cases k <;> simp only [List.cons_append, applyMem] <;> split <;> simp [ih]

theorem opInss_append (a b : List (Bool × String)) : opInss (a ++ b) = opInss a ++ opInss b := by
  simp [opInss]

theorem opDels_append (a b : List (Bool × String)) : opDels (a ++ b) = opDels a ++ opDels b := by
  simp [opDels]

theorem memOps_prefix (la lb cur : List String) (rs : List Range) (hv : scriptOK la lb rs 0 0 = true)
    (hna : la.Nodup) (hnb : lb.Nodup) (hcur : cur.Perm la) (hdisj : ∀ m ∈ inssOf lb rs, m ∉ delsOf la rs)
    (pre suf : List (Bool × String)) (hs : memOps la lb rs = pre ++ suf) :
    applyMem cur pre = some (cur.filter (fun m => !(opDels pre).contains m) ++ opInss pre) ∧
    (∀ m ∈ opDels pre, m ∈ delsOf la rs) ∧ (∀ m ∈ opInss pre, m ∈ inssOf lb rs) := by
  obtain ⟨pa, pb⟩ := scriptOK_split la lb rs 0 0 hv
  simp only [List.drop_zero] at pa pb
  obtain ⟨_, nD, _⟩ := List.nodup_append.mp (pa.nodup_iff.mp hna)
  obtain ⟨_, nI, hKI⟩ := List.nodup_append.mp (pb.nodup_iff.mp hnb)
  have hI : opInss pre ++ opInss suf = inssOf lb rs := by rw [← opInss_append, ← hs, opInss_memOps]
  have hD : opDels pre ++ opDels suf = delsOf la rs := by rw [← opDels_append, ← hs, opDels_memOps]
  have dsub : ∀ m ∈ opDels pre, m ∈ delsOf la rs := fun m hm => hD ▸ List.mem_append_left _ hm
  have isub : ∀ m ∈ opInss pre, m ∈ inssOf lb rs := fun m hm => hI ▸ List.mem_append_left _ hm
  have hmem : ∀ x, x ∈ cur ↔ x ∈ keptOf la rs ∨ x ∈ delsOf la rs := fun x => by
    rw [hcur.mem_iff, pa.mem_iff, List.mem_append]
  exact ⟨applyMem_eq pre cur (fun m hm => (hmem m).mpr (Or.inr (dsub m hm))) (List.nodup_append.mp (hD ▸ nD)).1
    (List.nodup_append.mp (hI ▸ nI)).1
    (fun m hm hc => ((hmem m).mp hc).elim (fun hk => hKI m hk m (isub m hm) rfl) (hdisj m (isub m hm)))
    (fun m hm hd => hdisj m (isub m hm) (dsub m hd)), dsub, isub⟩

/-- `group_equalize_converges` (NA/Props/F1.lean) on member lists. -/
theorem memOps_converge (la lb cur : List String) (rs : List Range) (hv : scriptOK la lb rs 0 0 = true)
    (hna : la.Nodup) (hnb : lb.Nodup) (hcur : cur.Perm la)
    (hdisj : ∀ m ∈ inssOf lb rs, m ∉ delsOf la rs) :
    ∃ l', applyMem cur (memOps la lb rs) = some l' ∧ l'.Perm lb := by
  refine ⟨_, (memOps_prefix la lb cur rs hv hna hnb hcur hdisj _ [] (List.append_nil _).symm).1, ?_⟩
  obtain ⟨pa, pb⟩ := scriptOK_split la lb rs 0 0 hv
  obtain ⟨_, _, hKD⟩ := List.nodup_append.mp (pa.nodup_iff.mp hna)
  rw [opInss_memOps, opDels_memOps]
  refine (List.Perm.append ?_ (List.Perm.refl _)).trans pb.symm
  -- cur without the deleted members is the kept part
  refine ((hcur.trans pa).filter _).trans ?_
  rw [List.filter_append]
  have e1 : (keptOf la rs).filter (fun m => !(delsOf la rs).contains m) = keptOf la rs := by
    apply List.filter_eq_self.mpr
    intro x hx
    simp only [Bool.not_eq_true', List.contains_eq_mem, decide_eq_false_iff_not]
    exact fun hd => hKD x hx x hd rfl
  have e2 : (delsOf la rs).filter (fun m => !(delsOf la rs).contains m) = [] := by
    apply List.filter_eq_nil_iff.mpr
    intro x hx
    simp [hx]
  rw [e1, e2, List.append_nil]

abbrev D0 (e : Env) : List Name := e.a.groups.map (·.1)
abbrev A0 (e : Env) : List Name := e.a.acls.map (·.1)

/-- Device groups referenced by device lines exist on the device. -/
def RefsClosedA (e : Env) : Prop :=
  ∀ n, ∀ l ∈ e.aLines n, ∀ g ∈ l.refs, g ∈ e.a.groups.map (·.1)

def refsClosedA (e : Env) : Bool :=
  e.a.acls.all fun a => a.2.all fun l => l.refs.all (e.a.groups.map (·.1)).contains

theorem refsClosed_of_check {acls : List (Name × List Line)} {names : List Name}
    (h : (acls.all fun a => a.2.all fun l => l.refs.all names.contains) = true) :
    ∀ n, ∀ l ∈ lookupD acls n, ∀ g ∈ l.refs, g ∈ names := by
  intro n l hl g hg
  unfold lookupD at hl
  cases hlk : acls.lookup n with
  | none => rw [hlk] at hl; simp [default] at hl
  | some ls =>
    rw [hlk] at hl
    simp only [List.all_eq_true] at h
    exact List.contains_iff_mem.mp (h _ (ListFacts.mem_of_lookup hlk) l hl g hg)

theorem RefsClosedA.of_check {e : Env} (h : refsClosedA e = true) : RefsClosedA e := refsClosed_of_check h

theorem getD_refs {ls : List Line} {Q : Name → Prop} (h : ∀ l ∈ ls, ∀ g ∈ l.refs, Q g) (i : Nat) :
    ∀ g ∈ (ls.getD i default).refs, Q g := by
  intro g hg
  by_cases hi : i < ls.length
  · exact h _ (ListFacts.getD_mem hi) g hg
  · rw [List.getD_eq_getElem?_getD, List.getElem?_eq_none (Nat.le_of_not_lt hi)] at hg
    exact absurd hg List.not_mem_nil

theorem aLines_getD_refs (e : Env) (hA : RefsClosedA e) (aN : Name) (i : Nat) :
    ∀ g ∈ ((e.aLines aN).getD i default).refs, g ∈ D0 e :=
  getD_refs (hA aN) i

end NA.F1
