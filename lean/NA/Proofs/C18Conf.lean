import NA.Model.MergeConf
import NA.Proofs.C18
/-! Helper lemmas for the configuration-level part of C18: tables, the fold over the anchors of a
file (`ciscoStep`), and what it preserves. -/
deriving instance DecidableEq for Except

namespace NA.C18

theorem Table.get?_nil (n : Nat) : Table.get? [] n = none := rfl

theorem Table.get?_cons (c : Nat × Bool × List Entry) (t : Table) (n : Nat) :
    Table.get? (c :: t) n = if c.1 == n then some c.2 else Table.get? t n := by
  unfold Table.get?
  by_cases h : c.1 == n <;> simp [h]

theorem linesOf_nil (n : Nat) : linesOf [] n = [] := rfl

theorem linesOf_cons (c : Nat × Bool × List Entry) (t : Table) (n : Nat) :
    linesOf (c :: t) n = if c.1 == n then c.2.2 else linesOf t n := by
  unfold linesOf
  rw [Table.get?_cons]
  by_cases h : c.1 == n <;> simp [h]

theorem Table.has_cons (c : Nat × Bool × List Entry) (t : Table) (n : Nat) :
    Table.has (c :: t) n = (c.1 == n || Table.has t n) := by
  simp [Table.has]

theorem Table.has_eq_isSome (t : Table) (n : Nat) : t.has n = (t.get? n).isSome := by
  induction t with
  | nil => rfl
  | cons c t ih =>
    rw [Table.get?_cons]
    by_cases h : c.1 == n <;> simp [Table.has, h] <;> exact ih

/-- `set` changes the entry `n` only, keeping the `user` flag of an existing container. -/
theorem Table.get?_set (t : Table) (n n' : Nat) (u : Bool) (ls : List Entry) :
    (t.set n u ls).get? n' = if n == n' then some (((t.get? n).map (·.1)).getD u, ls) else t.get? n' := by
  induction t with
  | nil => by_cases h : n == n' <;> simp [Table.set, h, Table.get?]
  | cons c t ih =>
    unfold Table.set
    by_cases hc : c.1 == n
    · have hcn : c.1 = n := by simpa using hc
      by_cases h : n == n' <;> simp [Table.get?_cons, h, hcn]
    · simp only [hc, Bool.false_eq_true, if_false, Table.get?_cons, ih]
      by_cases hc' : c.1 == n'
      · have : (n == n') = false := by
          rw [beq_eq_false_iff_ne]; rintro rfl; exact hc hc'
        simp [hc', this]
      · simp [hc']

theorem get?_none_of_not_has (t : Table) (n : Nat) (h : t.has n = false) : t.get? n = none := by
  rw [Table.has_eq_isSome] at h
  simpa using h

theorem get?_some_of_has (t : Table) (n : Nat) (h : t.has n = true) : ∃ u ls, t.get? n = some (u, ls) := by
  rw [Table.has_eq_isSome] at h
  obtain ⟨p, hp⟩ := Option.isSome_iff_exists.mp h
  exact ⟨p.1, p.2, hp⟩

theorem linesOf_of_not_has (t : Table) (n : Nat) (h : t.has n = false) : linesOf t n = [] := by
  simp [linesOf, get?_none_of_not_has t n h]

theorem linesOf_set_same (t : Table) (n : Nat) (u : Bool) (ls : List Entry) :
    linesOf (t.set n u ls) n = ls := by
  simp [linesOf, Table.get?_set]

theorem linesOf_set_other (t : Table) (n n' : Nat) (u : Bool) (ls : List Entry) (hne : n' ≠ n) :
    linesOf (t.set n u ls) n' = linesOf t n' := by
  simp [linesOf, Table.get?_set, beq_eq_false_iff_ne.mpr (Ne.symm hne)]

theorem has_set (t : Table) (n n' : Nat) (u : Bool) (ls : List Entry) :
    (t.set n u ls).has n' = (t.has n' || n == n') := by
  simp only [Table.has_eq_isSome, Table.get?_set]
  by_cases h : n == n' <;> simp [h]

theorem linesOf_append_new (t : Table) (n n' : Nat) (u : Bool) (ls : List Entry) (h : t.has n = false) :
    linesOf (t ++ [(n, u, ls)]) n' = if n == n' then ls else linesOf t n' := by
  have h0 := get?_none_of_not_has t n h
  unfold linesOf Table.get? at *
  rw [List.find?_append, List.find?_singleton]
  by_cases hn : n == n'
  · obtain rfl := beq_iff_eq.mp hn
    simp [Option.map_eq_none_iff.mp h0]
  · simp [hn]

theorem has_append_new (t : Table) (n n' : Nat) (u : Bool) (ls : List Entry) :
    (t ++ [(n, u, ls)]).has n' = (t.has n' || n == n') := by
  simp [Table.has]

theorem linesOf_of_get? (t : Table) (n : Nat) (u : Bool) (ls : List Entry) (h : t.get? n = some (u, ls)) :
    linesOf t n = ls := by
  simp [linesOf, h]

def tableStep (t : Table) (c : Cont) : Table :=
  match t.get? c.name with
  | some (u, ls) => t.set c.name u (ls ++ c.parsed)
  | none => t ++ [(c.name, c.user, c.parsed)]

theorem File.table_eq (f : File) : f.table = f.conts.foldl tableStep [] := rfl

theorem linesOf_tableStep (t : Table) (c : Cont) (n : Nat) :
    linesOf (tableStep t c) n = if c.name == n then linesOf t n ++ c.parsed else linesOf t n := by
  unfold tableStep
  cases hg : t.get? c.name with
  | none =>
    have hh : t.has c.name = false := by rw [Table.has_eq_isSome, hg]; rfl
    simp only
    rw [linesOf_append_new t c.name n c.user c.parsed hh]
    by_cases hn : c.name == n
    · obtain rfl := beq_iff_eq.mp hn
      rw [if_pos hn, if_pos hn, linesOf_of_not_has t c.name hh, List.nil_append]
    · rw [if_neg hn, if_neg hn]
  | some p =>
    obtain ⟨u, ls⟩ := p
    simp only
    by_cases hn : c.name == n
    · obtain rfl := beq_iff_eq.mp hn
      rw [if_pos hn, linesOf_set_same, linesOf_of_get? t c.name u ls hg]
    · rw [if_neg hn, linesOf_set_other _ _ _ _ _ (fun e => hn (beq_iff_eq.mpr e.symm))]

/-- **The parsed table, exactly**: under a name stand the known lines of all containers of that name, in file order. -/
theorem linesOf_foldl_tableStep (n : Nat) : ∀ (cs : List Cont) (t : Table),
    linesOf (cs.foldl tableStep t) n = linesOf t n ++ (cs.filter (·.name == n)).flatMap (·.parsed)
  | [], t => by simp
  | c :: cs, t => by
    rw [List.foldl_cons, linesOf_foldl_tableStep n cs, linesOf_tableStep, List.filter_cons]
    split <;> simp

theorem table_lines (f : File) (c : Cont) (hc : c ∈ f.conts) (l : SrcLine) (hl : l ∈ c.lines)
    (hk : l.known = true) : l.e ∈ linesOf f.table c.name := by
  rw [File.table_eq, linesOf_foldl_tableStep]
  exact List.mem_append_right _ (List.mem_flatMap.mpr ⟨c, List.mem_filter.mpr ⟨hc, beq_self_eq_true _⟩,
    List.mem_map.mpr ⟨l, List.mem_filter.mpr ⟨hl, hk⟩, rfl⟩⟩)

theorem tableStep_has (t : Table) (c : Cont) (n : Nat) :
    (tableStep t c).has n = (t.has n || c.name == n) := by
  unfold tableStep
  cases hg : t.get? c.name with
  | none => simp only; rw [has_append_new]
  | some p => obtain ⟨u, ls⟩ := p; simp only; rw [has_set]

theorem has_foldl_tableStep (n : Nat) : ∀ (cs : List Cont) (t : Table),
    (cs.foldl tableStep t).has n = (t.has n || cs.any (·.name == n))
  | [], t => by simp
  | c :: cs, t => by rw [List.foldl_cons, has_foldl_tableStep n cs, tableStep_has, List.any_cons, Bool.or_assoc]

theorem table_has (f : File) (c : Cont) (hc : c ∈ f.conts) : f.table.has c.name = true := by
  rw [File.table_eq, has_foldl_tableStep]
  exact Bool.or_eq_true_iff.mpr (Or.inr (List.any_eq_true.mpr ⟨c, hc, beq_self_eq_true _⟩))

theorem mergeLines_new_ok (dev : Dev) (a b : List Entry) : ∃ r, mergeLines dev .new a b = .ok r := by
  cases dev <;> exact ⟨_, rfl⟩

theorem mergeLines_new_mem (dev : Dev) (a b r : List Entry) (h : mergeLines dev .new a b = .ok r) (e : Entry) :
    e ∈ r ↔ e ∈ a ∨ e ∈ b := by
  have hp : r.Perm (a ++ b) := by
    cases dev <;> simp only [mergeLines, Except.ok.injEq] at h <;> subst h
    · exact mergeASA_perm a b
    · exact mergeIOS_perm a b
    · exact mergeLinux_perm a b
    · exact mergePan_perm a b
    · exact List.Perm.refl _
  rw [hp.mem_iff, List.mem_append]

theorem foldExcept_eq_foldlM {σ β ε : Type} (f : σ → β → Except ε σ) (s : σ) (l : List β) :
    foldExcept f s l = l.foldlM f s := by
  induction l generalizing s with
  | nil => rfl
  | cons x xs ih =>
    simp only [foldExcept, List.foldlM_cons]
    cases f s x with
    | ok s' => exact ih s'
    | error e => rfl

section step
variable (dev : Dev) (g : Gen) (isRaw : Bool) (orig : List Anchor) (bt : Table)

theorem ciscoStep_ok (st st' : St) (k : Anchor) (h : ciscoStep dev g isRaw orig bt st k = .ok st') :
    (∃ ka r, orig.find? (fun ka => ka.key == k.key) = some ka ∧ st.refd.contains k.acl = false ∧
        mergeLines dev g (linesOf st.conts ka.acl) (linesOf bt k.acl) = .ok r ∧
        st' = { st with conts := st.conts.set ka.acl false r, refd := k.acl :: st.refd }) ∨
    (∃ r, orig.find? (fun ka => ka.key == k.key) = none ∧ (isRaw && st.conts.has k.acl) = false ∧
        (g == .new && isRaw && st.refd.contains k.acl) = false ∧
        mergeLines dev g [] (linesOf bt k.acl) = .ok r ∧
        st' = { conts := st.conts.set k.acl false r, anchors := st.anchors ++ [k], refd := k.acl :: st.refd }) := by
  unfold ciscoStep at h
  split at h
  · rename_i ka hf
    split at h
    · cases h
    · rename_i hc
      split at h
      · rename_i r hm
        left
        cases h
        exact ⟨ka, r, hf, by simpa using hc, hm, rfl⟩
      · cases h
  · rename_i hf
    split at h
    · cases h
    · rename_i h1
      split at h
      · cases h
      · rename_i h2
        split at h
        · rename_i r hm
          right
          cases h
          exact ⟨r, hf, by simpa using h1, by simpa using h2, hm, rfl⟩
        · cases h

theorem ciscoStep_refd (st st' : St) (k : Anchor) (h : ciscoStep dev g isRaw orig bt st k = .ok st') :
    st'.refd = k.acl :: st.refd := by
  rcases ciscoStep_ok dev g isRaw orig bt st st' k h with ⟨ka, r, _, _, _, rfl⟩ | ⟨r, _, _, _, _, rfl⟩ <;> rfl

theorem ciscoStep_err_of_refd (st : St) (k : Anchor) (hr : k.acl ∈ st.refd) :
    ∃ e, ciscoStep dev .new true orig bt st k = .error e := by
  unfold ciscoStep
  cases hf : orig.find? (fun ka => ka.key == k.key) with
  | some ka => exact ⟨.onlyOnce k.acl, by simp [hr]⟩
  | none =>
    cases hh : st.conts.has k.acl with
    | true => exact ⟨.nameClash k.acl, rfl⟩
    | false => exact ⟨.onlyOnce k.acl, by simp [hr]⟩

theorem fold_refd_subset (st st' : St) (l : List Anchor)
    (h : l.foldlM (ciscoStep dev g isRaw orig bt) st = .ok st') (n : Nat) (hn : n ∈ st'.refd) :
    n ∈ st.refd ∨ ∃ k ∈ l, k.acl = n := by
  induction l generalizing st with
  | nil => cases h; exact Or.inl hn
  | cons x xs ih =>
    obtain ⟨s1, hx, h⟩ := (foldlM_cons_ok _).mp h
    rcases ih s1 h with h1 | ⟨k, hk, hk2⟩
    · rw [ciscoStep_refd dev g isRaw orig bt st s1 x hx] at h1
      rcases List.mem_cons.mp h1 with rfl | h1
      · exact Or.inr ⟨x, List.mem_cons_self, rfl⟩
      · exact Or.inl h1
    · exact Or.inr ⟨k, List.mem_cons_of_mem _ hk, hk2⟩

/-- Containers only gain entries and anchors are only added. -/
def Grow (st st' : St) : Prop :=
  (∀ n e, e ∈ linesOf st.conts n → e ∈ linesOf st'.conts n) ∧ (∀ k ∈ st.anchors, k ∈ st'.anchors)

theorem Grow.refl (st : St) : Grow st st := ⟨fun _ _ h => h, fun _ h => h⟩

theorem Grow.trans {s1 s2 s3 : St} (h1 : Grow s1 s2) (h2 : Grow s2 s3) : Grow s1 s3 :=
  ⟨fun n e h => h2.1 n e (h1.1 n e h), fun k h => h2.2 k (h1.2 k h)⟩

theorem ciscoStep_grow (st st' : St) (k : Anchor)
    (h : ciscoStep dev .new isRaw orig bt st k = .ok st') (hs : stepSafe orig st k = true) : Grow st st' := by
  rcases ciscoStep_ok dev .new isRaw orig bt st st' k h with ⟨ka, r, _, _, hm, rfl⟩ | ⟨r, hf, _, _, hm, rfl⟩
  · refine ⟨fun n e he => ?_, fun k hk => hk⟩
    by_cases hn : n = ka.acl
    · subst hn
      simp only
      rw [linesOf_set_same]
      exact (mergeLines_new_mem dev _ _ r hm e).mpr (Or.inl he)
    · simp only
      rw [linesOf_set_other _ _ _ _ _ hn]; exact he
  · have hh : st.conts.has k.acl = false := by
      unfold stepSafe at hs
      simpa [hf] using hs
    refine ⟨fun n e he => ?_, fun k' hk => List.mem_append_left _ hk⟩
    by_cases hn : n = k.acl
    · subst hn
      rw [linesOf_of_not_has _ _ hh] at he; cases he
    · simp only
      rw [linesOf_set_other _ _ _ _ _ hn]; exact he

/-- A successful run over a raw file is safe: a new anchor whose ACL name exists is a name clash. -/
theorem safeRun_of_raw (st st' : St) (l : List Anchor)
    (h : l.foldlM (ciscoStep dev g true orig bt) st = .ok st') :
    safeRun dev g true orig bt st l = true := by
  induction l generalizing st with
  | nil => rfl
  | cons x xs ih =>
    obtain ⟨s1, hx, h⟩ := (foldlM_cons_ok _).mp h
    unfold safeRun
    simp only [hx, Bool.and_eq_true]
    refine ⟨?_, ih s1 h⟩
    unfold stepSafe
    rcases ciscoStep_ok dev g true orig bt st s1 x hx with ⟨ka, r, hf, _, _, _⟩ | ⟨r, hf, hh, _, _, _⟩
    · simp [hf]
    · simp only [Bool.true_and] at hh
      simp [hf, hh]

/-- The ACL of a processed anchor ends up, with all its entries, in the ACL bound at the anchor's place. -/
def Landed (st : St) (k : Anchor) : Prop :=
  ∃ k' ∈ st.anchors, k'.key = k.key ∧ ∀ e ∈ linesOf bt k.acl, e ∈ linesOf st.conts k'.acl

theorem Landed.grow {st st' : St} {k : Anchor} (h : Landed bt st k) (hg : Grow st st') : Landed bt st' k := by
  obtain ⟨k', hk', hkey, hl⟩ := h
  exact ⟨k', hg.2 k' hk', hkey, fun e he => hg.1 _ e (hl e he)⟩

theorem ciscoStep_landed (st st' : St) (k : Anchor) (horig : ∀ ka ∈ orig, ka ∈ st.anchors)
    (h : ciscoStep dev .new isRaw orig bt st k = .ok st') : Landed bt st' k := by
  rcases ciscoStep_ok dev .new isRaw orig bt st st' k h with ⟨ka, r, hf, _, hm, rfl⟩ | ⟨r, _, _, _, hm, rfl⟩
  · refine ⟨ka, horig ka (List.mem_of_find?_eq_some hf), ?_, fun e he => ?_⟩
    · simpa using List.find?_some hf
    · simp only
      rw [linesOf_set_same]
      exact (mergeLines_new_mem dev _ _ r hm e).mpr (Or.inr he)
  · refine ⟨k, List.mem_append_right _ (List.mem_singleton.mpr rfl), rfl, fun e he => ?_⟩
    simp only
    rw [linesOf_set_same]
    exact (mergeLines_new_mem dev _ _ r hm e).mpr (Or.inr he)

theorem fold_grow_landed : ∀ (l : List Anchor) (st st' : St), (∀ ka ∈ orig, ka ∈ st.anchors) →
    l.foldlM (ciscoStep dev .new isRaw orig bt) st = .ok st' → safeRun dev .new isRaw orig bt st l = true →
    Grow st st' ∧ ∀ k ∈ l, Landed bt st' k
  | [], st, st', _, h, _ => by cases h; exact ⟨Grow.refl _, nofun⟩
  | x :: xs, st, st', horig, h, hs => by
    obtain ⟨s1, hx, hxs⟩ := (foldlM_cons_ok _).mp h
    unfold safeRun at hs
    simp only [hx, Bool.and_eq_true] at hs
    have hg1 := ciscoStep_grow dev isRaw orig bt st s1 x hx hs.1
    obtain ⟨hg, hl⟩ := fold_grow_landed xs s1 st' (fun ka hka => hg1.2 ka (horig ka hka)) hxs hs.2
    exact ⟨hg1.trans hg, List.forall_mem_cons.mpr
      ⟨(ciscoStep_landed dev isRaw orig bt st s1 x horig hx).grow bt hg, hl⟩⟩

end step

theorem mergeCisco_ok (dev : Dev) (g : Gen) (a : Conf) (f : File) (c : Conf) (w : List Nat)
    (h : mergeCisco dev g a f = .ok (c, w)) :
    ∃ st, f.anchors.foldlM (ciscoStep dev g f.isRaw a.anchors f.table) { conts := a.conts, anchors := a.anchors } = .ok st ∧
      c = { conts := st.conts, anchors := st.anchors } ∧ w = unusedWarnings f.isRaw f.table st.refd := by
  unfold mergeCisco at h
  rw [foldExcept_eq_foldlM] at h
  split at h
  · rename_i st hst
    simp only [Except.ok.injEq, Prod.mk.injEq] at h
    exact ⟨st, hst, h.1.symm, h.2.symm⟩
  · cases h

theorem fold_err_of_dup (dev : Dev) (orig : List Anchor) (bt : Table) (l1 l2 l3 : List Anchor) (k1 k2 : Anchor)
    (hk : k1.acl = k2.acl) (st : St) :
    ∃ e, (l1 ++ k1 :: (l2 ++ k2 :: l3)).foldlM (ciscoStep dev .new true orig bt) st = .error e :=
  foldlM_error_of_second _ (fun s => k1.acl ∈ s.refd) (fun _ => True) k1 k2
    (fun s s' h => ciscoStep_refd dev .new true orig bt s s' k1 h ▸ List.mem_cons_self)
    (fun s k s' hs _ h => ciscoStep_refd dev .new true orig bt s s' k h ▸ List.mem_cons_of_mem _ hs)
    (fun s hs => ciscoStep_err_of_refd dev orig bt s k2 (hk ▸ hs)) l1 l2 l3 (fun _ _ => trivial) st

end NA.C18
