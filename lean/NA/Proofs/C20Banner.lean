import NA.Proofs.C20
import NA.Model.CursorBanner
/-!
`removeBanner` and `removeHeader` neither panic nor run out of fuel: every iteration moves the read position forward by at
least one byte.
-/
namespace NA.C20.Banner
open NA.C20 NA.C20.Res

theorem indexNl_lt : ∀ (s : Str) (k : Nat), indexNl s = some k → k < s.length
  | [], _, h => nomatch h
  | c :: cs, k, h => by
    unfold indexNl at h
    split at h
    · cases h; simp
    · obtain ⟨j, hj, rfl⟩ := Option.map_eq_some_iff.1 h
      exact Nat.succ_lt_succ (indexNl_lt cs j hj)

theorem loop_noPanic (data : Str) (fuel i : Nat) (out : Str) (eb : Option Str)
    (hj : out.length ≤ i) (hi : i ≤ data.length) (hf : data.length - i < fuel) : NoPanic (loop data fuel i out eb) := by
  induction fuel generalizing i out eb with
  | zero => omega
  | succ fuel ih =>
    unfold loop
    rw [if_pos hi]
    split
    · rw [if_pos hj]
      have : (out ++ List.drop i data).length ≤ data.length := by simp; omega
      rw [if_pos this]
      exact noPanic_ok
    · rename_i k hk
      have hlt := indexNl_lt _ k hk
      rw [List.length_drop] at hlt
      simp only
      have he : i + k + 1 ≤ data.length := by omega
      rw [if_pos he]
      split
      · exact ih (i + k + 1) out _ (by omega) he (by omega)
      · split
        · exact ih (i + k + 1) out _ (by omega) he (by omega)
        · rw [if_pos hj]
          exact ih (i + k + 1) _ _ (by simp; omega) he (by omega)

theorem removeBanner_noPanic (data : Str) : NoPanic (removeBanner data) :=
  loop_noPanic data _ 0 [] none (by simp) (by simp) (by omega)

theorem removeHeader_noPanic : ∀ (fuel : Nat) (data : Str), data.length < fuel → NoPanic (removeHeader fuel data)
  | 0, _, h => by omega
  | fuel + 1, data, h => by
    unfold removeHeader
    split
    · rename_i tl
      split
      · exact noPanic_ok
      · rename_i i hi
        have hlt := indexNl_lt _ i hi
        rw [if_pos (by omega)]
        refine removeHeader_noPanic fuel _ ?_
        rw [List.length_drop]
        omega
    · exact noPanic_ok

end NA.C20.Banner
