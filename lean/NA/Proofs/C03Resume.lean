import NA.Proofs.C03GrpConv
/-
C03 / C10, whole vsys: the plan of a pair without groups in closed form (`transferCmds_plain`, `planState_plain`,
`removeCmds_plain`); the device-side half of `PlainPair` is preserved by every accepted request of a plan
(`exec_devOk`), and every request of a plan for a `PlainPair` is of that kind (`plan_cmdOk`, read off
`plan_fromTarget`); hence the state after any prefix of the plan is again a legitimate start for the planner.
Core Lean only.
-/
namespace NA.PanOs

theorem planState_plain (diff : Differ) (hd : GoodDiffer diff) (a b : Vsys)
    (hag : a.groups = []) (hbg : b.groups = []) (hasg : a.sgroups = []) (hbsg : b.sgroups = []) :
    (planState diff a b).aGrp = [] ∧ (planState diff a b).bGrp = [] ∧
    (planState diff a b).aSG = [] ∧ (planState diff a b).bSG = [] ∧
    (planState diff a b).out =
      plainRuleCmds diff (sortVsys a).rules
        (((sortVsys b).rules.zip (uniqNames (ruleNames (sortVsys a).rules) (ruleNames (sortVsys b).rules))).map
          (fun (r, n) => { r with name := n }))
        (ruleScript diff a b) := by
  have m := markObjects_marking (planFuel (sortVsys a) (sortVsys b))
    (initSt (sortVsys a) (sortVsys b) (groupNamesFor (sortVsys a) (sortVsys b))) (sortVsys b).rules
  have h1 : NoGrp (markedState a b) :=
    ⟨m.grp.ag.trans (initSt_aGrp_nil _ _ hag), m.bGrp_nil (initSt_bGrp_nil _ _ hbg)⟩
  have e : planState diff a b = diffRules diff (_ + 2) (markedState a b) (sortVsys a) (sortVsys b) (sortVsys a).rules
    (((sortVsys b).rules.zip (uniqNames (ruleNames (sortVsys a).rules) (ruleNames (sortVsys b).rules))).map
      (fun (r, n) => { r with name := n })) := rfl
  rw [e, diffRules_noGrp diff hd _ _ h1]
  refine ⟨h1.1, h1.2, m.aSG_nil (initSt_aSG_nil _ _ hasg), m.bSG_nil (initSt_bSG_nil _ _ hbsg), ?_⟩
  show (markedState a b).out ++ _ = _
  rw [show (markedState a b).out = [] from m.out]
  rfl

theorem removeCmds_plain (st : St) (hag : st.aGrp = []) (hasg : st.aSG = []) :
    removeCmds st =
      ((st.aAddr.filter (fun o => !o.needed)).map (fun o => Cmd.delAddr o.o.name)) ++
      ((st.aSvc.filter (fun o => !o.needed)).map (fun o => Cmd.delSvc o.o.name)) := by
  simp only [removeCmds, hag, hasg, List.filterMap_nil, List.nil_append, List.append_nil]
  rw [filterMap_if (fun (o : AObj) => !o.needed) (fun o => Cmd.delAddr o.o.name),
    filterMap_if (fun (o : AObj) => !o.needed) (fun o => Cmd.delSvc o.o.name)]

theorem transferCmds_plain (st : St) (hbG : st.bGrp = []) (hbSG : st.bSG = []) :
    transferCmds st = addrTransfer st.bAddr ++ svcTransfer st.bSvc := by
  simp [transferCmds, addrTransfer, svcTransfer, objTransfer, hbG, hbSG]


def DevOk (sh : Shared) (v : Vsys) : Prop :=
  v.groups = [] ∧ v.sgroups = [] ∧ (ruleNames v.rules).Nodup ∧
  (v.addrs.map (·.name)).Nodup ∧ (v.svcs.map (·.name)).Nodup ∧
  (∀ r ∈ v.rules, r.src.Nodup ∧ r.dst.Nodup) ∧
  (∀ x ∈ v.addrs.map (·.name), x ≠ "any" ∧ x ∉ sh) ∧
  (∀ x ∈ v.svcs.map (·.name), x ≠ "any" ∧ x ≠ "application-default" ∧ x ∉ sh)

def TgtOk (sh : Shared) (b : Vsys) : Prop :=
  b.groups = [] ∧ b.sgroups = [] ∧ (ruleNames b.rules).Nodup ∧
  (b.addrs.map (·.name)).Nodup ∧ (b.svcs.map (·.name)).Nodup ∧
  (∀ r ∈ b.rules, r.src.Nodup ∧ r.dst.Nodup) ∧
  (∀ r ∈ b.rules, (∀ x ∈ r.src ++ r.dst, x = "any" ∨ x ∈ sh ∨ x ∈ b.addrs.map (·.name)) ∧
    (∀ x ∈ r.srv, x = "any" ∨ x = "application-default" ∨ x ∈ sh ∨ x ∈ b.svcs.map (·.name)))

theorem plainPair_iff (sh : Shared) (a b : Vsys) : PlainPair sh a b ↔ DevOk sh a ∧ TgtOk sh b := by
  unfold PlainPair DevOk TgtOk
  constructor
  · rintro ⟨h1, h2, h3, h4, h5, h6, h7, h8, h9, h10, h11, h12, h13, h14, h15⟩
    exact ⟨⟨h1, h3, h5, h7, h9, h11, h14, h15⟩, ⟨h2, h4, h6, h8, h10, h12, h13⟩⟩
  · rintro ⟨⟨h1, h3, h5, h7, h9, h11, h14, h15⟩, ⟨h2, h4, h6, h8, h10, h12, h13⟩⟩
    exact ⟨h1, h2, h3, h4, h5, h6, h7, h8, h9, h10, h11, h12, h13, h14, h15⟩

def CmdOk (sh : Shared) : Cmd → Prop
  | .setAddr n _ => n ≠ "any" ∧ n ∉ sh
  | .setSvc n _ => n ≠ "any" ∧ n ≠ "application-default" ∧ n ∉ sh
  | .editAddr .. | .editSvc .. | .delRule .. | .move .. | .delMem .. | .addMem .. | .delAddr .. | .delSvc .. => True
  | .editList _ f ms => f = .srv ∨ ms.Nodup
  | .setRule r => r.src.Nodup ∧ r.dst.Nodup
  | _ => False

theorem mergeMembers_nodup (old new : List String) (h : old.Nodup) : (mergeMembers old new).Nodup := by
  unfold mergeMembers
  refine ListFacts.foldl_inv (P := List.Nodup) (fun x _ acc ha => ?_) h
  split
  · exact ha
  · rename_i hc
    exact ListFacts.nodup_snoc ha fun hm => hc (List.contains_iff_mem.mpr hm)

theorem mem_modifyRule {rs : List Rule} {n : String} {g : Rule → Rule} {r' : Rule} (h : r' ∈ modifyRule rs n g) :
    ∃ r ∈ rs, r' = r ∨ r' = g r := by
  unfold modifyRule at h
  obtain ⟨r, hr, he⟩ := List.mem_map.mp h
  refine ⟨r, hr, ?_⟩
  split at he
  · exact Or.inr he.symm
  · exact Or.inl he.symm

theorem mem_insertBefore {d : String} {r x : Rule} {rs : List Rule} (h : x ∈ insertBefore d r rs) :
    x = r ∨ x ∈ rs := by
  induction rs with
  | nil => simp [insertBefore] at h; exact Or.inl h
  | cons y ys ih =>
    simp only [insertBefore] at h
    split at h
    · exact List.mem_cons.mp h
    · rcases List.mem_cons.mp h with h | h
      · exact Or.inr (by simp [h])
      · exact (ih h).imp_right (List.mem_cons_of_mem _)

theorem Rule.set_lists (r : Rule) (f : Fld) (l : List String) (h : r.src.Nodup ∧ r.dst.Nodup)
    (hl : f = .srv ∨ l.Nodup) : (r.set f l).src.Nodup ∧ (r.set f l).dst.Nodup := by
  cases f with
  | src =>
    rcases hl with hl | hl
    · cases hl
    · exact ⟨hl, h.2⟩
  | dst =>
    rcases hl with hl | hl
    · cases hl
    · exact ⟨h.1, hl⟩
  | srv => exact h

theorem Rule.get_nodup (r : Rule) (f : Fld) (h : r.src.Nodup ∧ r.dst.Nodup) : f = .srv ∨ (r.get f).Nodup := by
  cases f with
  | src => exact Or.inr h.1
  | dst => exact Or.inr h.2
  | srv => exact Or.inl rfl

def Cmd.keeps (Q : Rule → Prop) : Cmd → Prop
  | .setRule r => Q r
  | .delMem _ f m => ∀ r, Q r → Q (r.set f ((r.get f).filter (· != m)))
  | .addMem _ f ms => ∀ r, Q r → Q (r.set f (mergeMembers (r.get f) ms))
  | .editList _ f ms => ∀ r, Q r → Q (r.set f ms)
  | _ => True

theorem exec_rules_forall {Q : Rule → Prop} {sh : Shared} {v v' : Vsys} {c : Cmd} (h : exec sh v c = .ok v')
    (hk : c.keeps Q) (hv : ∀ r ∈ v.rules, Q r) : ∀ r ∈ v'.rules, Q r := by
  have modified : ∀ (n : String) (g : Rule → Rule), (∀ r, Q r → Q (g r)) → ∀ r' ∈ modifyRule v.rules n g, Q r' := by
    intro n g hg r' hr'
    obtain ⟨r0, hr0, rfl | rfl⟩ := mem_modifyRule hr'
    · exact hv _ hr0
    · exact hg _ (hv _ hr0)
  cases c with
  | delRule n =>
    obtain ⟨_, rfl⟩ := exec_delRule_iff.mp h
    exact fun r' hr' => hv r' (List.mem_filter.mp hr').1
  | setRule r =>
    obtain ⟨_, _, _, rfl⟩ := exec_setRule_iff.mp h
    intro r' hr'
    rcases List.mem_append.mp hr' with hr' | hr'
    · exact hv r' hr'
    · rw [List.mem_singleton.mp hr']; exact hk
  | move n d =>
    obtain ⟨r, hf, _, _, rfl⟩ := exec_move_iff.mp h
    intro r' hr'
    rcases mem_insertBefore hr' with rfl | hr'
    · exact hv _ (List.mem_of_find?_eq_some hf)
    · exact hv r' (List.mem_filter.mp hr').1
  | delMem n f m => obtain ⟨_, _, _, rfl⟩ := exec_delMem_iff.mp h; exact modified n _ hk
  | addMem n f ms => obtain ⟨_, _, rfl⟩ := exec_addMem_iff.mp h; exact modified n _ hk
  | editList n f ms => obtain ⟨_, _, rfl⟩ := exec_editList_iff.mp h; exact modified n _ hk
  | setAddr _ _ | editAddr _ _ | setSvc _ _ | editSvc _ _ | setGrp _ _ | setSGrp _ _ | delGMem _ _
  | delGrp _ | delAddr _ | delSGrp _ | delSvc _ | bad _ =>
    rw [(exec_frame h).2.2 rfl]; exact hv

theorem names_nodup_append (os : List Obj) (n val : String) (hnd : (os.map (·.name)).Nodup)
    (hf : os.find? (·.name == n) = none) : ((os ++ [Obj.mk n val]).map (·.name)).Nodup := by
  rw [List.map_append]
  refine ListFacts.nodup_snoc hnd fun hm => ?_
  obtain ⟨o, ho, e⟩ := List.mem_map.mp hm
  exact List.find?_eq_none.mp hf o ho (beq_iff_eq.mpr e)

theorem forall_names_append {P : String → Prop} (os : List Obj) (n val : String)
    (hall : ∀ x ∈ os.map (·.name), P x) (hn : P n) : ∀ x ∈ (os ++ [Obj.mk n val]).map (·.name), P x := by
  intro x hx
  simp only [List.map_append, List.map_cons, List.map_nil, List.mem_append, List.mem_singleton] at hx
  rcases hx with hx | rfl
  · exact hall x hx
  · exact hn

theorem forall_names_filter {P : String → Prop} (os : List Obj) (p : Obj → Bool)
    (hall : ∀ x ∈ os.map (·.name), P x) : ∀ x ∈ (os.filter p).map (·.name), P x :=
  fun x hx => hall x ((List.Sublist.map _ List.filter_sublist).subset hx)

theorem exec_devOk {sh : Shared} {v v' : Vsys} {c : Cmd} (hv : DevOk sh v) (hc : CmdOk sh c)
    (h : exec sh v c = .ok v') : DevOk sh v' := by
  obtain ⟨g1, g2, g3, g4, g5, g6, g7, g8⟩ := hv
  have hkeeps : c.keeps (fun r => r.src.Nodup ∧ r.dst.Nodup) := by
    cases c with
    | setRule r => exact hc
    | delMem n f m =>
      exact fun r hr => Rule.set_lists r f _ hr ((Rule.get_nodup r f hr).imp id List.filter_sublist.nodup)
    | addMem n f ms =>
      exact fun r hr => Rule.set_lists r f _ hr ((Rule.get_nodup r f hr).imp id (mergeMembers_nodup _ _))
    | editList n f ms => exact fun r hr => Rule.set_lists r f _ hr hc
    | _ => trivial
  have g6' := exec_rules_forall h hkeeps g6
  -- requests on rules: tables static, names by the order effect
  have onRules : c.onRules = true → DevOk sh v' := by
    intro hr
    obtain ⟨s1, s2, s3, s4, _⟩ := exec_onRules_static h hr
    have hnames : (ruleNames v'.rules).Nodup := runOrd_nodup _ _ _ (exec_ord h) g3
    exact ⟨by rw [s3]; exact g1, by rw [s4]; exact g2, hnames, by rw [s1]; exact g4, by rw [s2]; exact g5, g6',
      by rw [s1]; exact g7, by rw [s2]; exact g8⟩
  cases c with
  | setAddr n val =>
    rcases exec_setAddr_iff.mp h with ⟨_, _, _, rfl⟩ | ⟨hf, rfl⟩
    · exact ⟨g1, g2, g3, g4, g5, g6, g7, g8⟩
    · exact ⟨g1, g2, g3, names_nodup_append _ n val g4 hf, g5, g6, forall_names_append _ n val g7 hc, g8⟩
  | setSvc n val =>
    rcases exec_setSvc_iff.mp h with ⟨_, _, _, rfl⟩ | ⟨hf, rfl⟩
    · exact ⟨g1, g2, g3, g4, g5, g6, g7, g8⟩
    · exact ⟨g1, g2, g3, g4, names_nodup_append _ n val g5 hf, g6, g7, forall_names_append _ n val g8 hc⟩
  | editAddr n val =>
    obtain ⟨_, rfl⟩ := exec_editAddr_iff.mp h
    exact ⟨g1, g2, g3, by simpa [setVal_names] using g4, g5, g6, by simpa [setVal_names] using g7, g8⟩
  | editSvc n val =>
    obtain ⟨_, rfl⟩ := exec_editSvc_iff.mp h
    exact ⟨g1, g2, g3, g4, by simpa [setVal_names] using g5, g6, g7, by simpa [setVal_names] using g8⟩
  | delAddr n =>
    obtain ⟨_, _, rfl⟩ := exec_delAddr_iff.mp h
    exact ⟨g1, g2, g3, (List.Sublist.map _ List.filter_sublist).nodup g4, g5, g6, forall_names_filter _ _ g7, g8⟩
  | delSvc n =>
    obtain ⟨_, _, rfl⟩ := exec_delSvc_iff.mp h
    exact ⟨g1, g2, g3, g4, (List.Sublist.map _ List.filter_sublist).nodup g5, g6, g7, forall_names_filter _ _ g8⟩
  | delRule _ | setRule _ | move _ _ | delMem _ _ _ | addMem _ _ _ | editList _ _ _ => exact onRules rfl
  | setGrp _ _ | setSGrp _ _ | delGMem _ _ | delGrp _ | delSGrp _ | bad _ => exact hc.elim

def Cmd.FromRules (B : List Rule) : Cmd → Prop
  | .setRule r => r ∈ B
  | .editList _ f ms => ∃ rb ∈ B, ms = rb.get f
  | .delRule .. | .move .. | .delMem .. | .addMem .. => True
  | _ => False

def Cmd.FromTarget (b : Vsys) (B : List Rule) : Cmd → Prop
  | .setAddr n _ => n ∈ b.addrs.map (·.name)
  | .setSvc n _ => n ∈ b.svcs.map (·.name)
  | .editAddr .. | .editSvc .. | .delAddr .. | .delSvc .. => True
  | c => c.FromRules B

theorem eqCmds_fromRules (diff : Differ) {B : List Rule} (ra : Rule) {rb : Rule} (hrb : rb ∈ B) :
    ∀ c ∈ eqCmds diff ra rb, c.FromRules B := fun c hc => by
  obtain ⟨f, ⟨_, rfl⟩ | ⟨_, rfl⟩ | rfl⟩ := mem_eqCmds hc
  · exact True.intro
  · exact True.intro
  · exact ⟨rb, hrb, rfl⟩

theorem Al.cmds_fromRules (diff : Differ) (B : List Rule) (l : List (Al Rule Rule)) (hb : ∀ b ∈ Al.bs l, b ∈ B) :
    ∀ c ∈ Al.cmds1 diff l ++ Al.cmds2 l, c.FromRules B := fun c hc => by
  rcases List.mem_append.mp hc with hc | hc
  · obtain ⟨a, _, rfl | ⟨b, hbl, h⟩⟩ := Al.mem_cmds1 hc
    · exact True.intro
    · exact eqCmds_fromRules diff a (hb b hbl) c h
  · obtain ⟨b, hbl, rfl | ⟨d, rfl⟩⟩ := Al.mem_cmds2 hc
    · exact hb b ((Al.inss_sublist l).subset hbl)
    · exact True.intro


theorem plainRuleCmds_fromRules {eq : Nat → Nat → Bool} (diff : Differ) (A B : List Rule) (rs : List Range)
    (hv : validScript eq A.length B.length rs = true) : ∀ c ∈ plainRuleCmds diff A B rs, c.FromRules B :=
  Al.cmds_fromRules diff B _ fun _ h => (align_sides0 hv).2 ▸ h

theorem plan_fromTarget (sh : Shared) (diff : Differ) (hd : GoodDiffer diff) (a b : Vsys)
    (hP : PlainPair sh a b) : ∀ c ∈ planVsys diff a b, c.FromTarget b (bRulesOf a b) := by
  obtain ⟨hag, hbg, hasg, hbsg, _⟩ := hP
  obtain ⟨q1, q2, q3, q4, hout⟩ := planState_plain diff hd a b hag hbg hasg hbsg
  have hflags := planState_planFlags diff a b hbg hbsg
  intro c hc
  unfold planVsys at hc
  simp only at hc
  rw [transferCmds_plain _ q2 q4, removeCmds_plain _ q1 q3, hout] at hc
  rcases List.mem_append.mp hc with hc | hc
  · rcases List.mem_append.mp hc with hc | hc
    · rcases List.mem_append.mp hc with hc | hc
      · unfold addrTransfer objTransfer at hc
        obtain ⟨o, ho, he⟩ := List.mem_filterMap.mp hc
        split at he
        · cases he; exact True.intro
        · split at he
          · cases he
            show o.o.name ∈ b.addrs.map (·.name)
            rw [← hflags.bAddr]
            exact List.mem_map.mpr ⟨o.o, List.mem_map_of_mem ho, rfl⟩
          · cases he
      · unfold svcTransfer objTransfer at hc
        obtain ⟨o, ho, he⟩ := List.mem_filterMap.mp hc
        split at he
        · cases he; exact True.intro
        · split at he
          · cases he
            show o.o.name ∈ b.svcs.map (·.name)
            rw [← hflags.bSvc]
            exact List.mem_map.mpr ⟨o.o, List.mem_map_of_mem ho, rfl⟩
          · cases he
    · have := plainRuleCmds_fromRules diff _ _ _ (hd (sortVsys a).rules.length (bRulesOf a b).length
        (fun i j => ruleEqual (sortVsys a) (sortVsys b) ((sortVsys a).rules.getD i default)
          ((bRulesOf a b).getD j default))).1 c hc
      cases c <;> first | exact this | exact this.elim
  · rcases List.mem_append.mp hc with hc | hc
    · obtain ⟨o, _, rfl⟩ := List.mem_map.mp hc
      exact True.intro
    · obtain ⟨o, _, rfl⟩ := List.mem_map.mp hc
      exact True.intro

theorem bRulesOf_forall (a b : Vsys) (Q : List String → Prop) (hsort : ∀ l, Q l → Q (sortStrings l)) (f : Fld)
    (hb : ∀ r ∈ b.rules, Q (r.get f)) : ∀ rb ∈ bRulesOf a b, Q (rb.get f) := by
  intro rb hrb
  obtain ⟨j, hj⟩ := List.getElem?_of_mem hrb
  have hjb : j < b.rules.length := bRulesOf_length a b ▸ (List.getElem?_eq_some_iff.mp hj).1
  obtain ⟨_, h1, h2, h3⟩ := bRulesOf_getD a b j hjb
  rw [getD_of_getElem? hj] at h1 h2 h3
  have hq := hsort _ (hb _ (getD_mem (d := default) hjb))
  cases f
  · rw [Rule.get, h1]; exact hq
  · rw [Rule.get, h2]; exact hq
  · rw [Rule.get, h3]; exact hq

theorem plan_cmdOk (sh : Shared) (diff : Differ) (hd : GoodDiffer diff) (a b : Vsys)
    (hP : PlainPair sh a b) (hN : TgtNames sh b) : ∀ c ∈ planVsys diff a b, CmdOk sh c := by
  have hfromT := plan_fromTarget sh diff hd a b hP
  obtain ⟨_, _, _, _, _, _, _, _, _, _, _, hbl, _⟩ := hP
  have hsrc := bRulesOf_forall a b List.Nodup (fun _ => sortStrings_nodup) .src fun r hr => (hbl r hr).1
  have hdst := bRulesOf_forall a b List.Nodup (fun _ => sortStrings_nodup) .dst fun r hr => (hbl r hr).2
  intro c hc
  have hfrom := hfromT c hc
  cases c with
  | setAddr n _ => exact hN.1 n hfrom
  | setSvc n _ => exact hN.2 n hfrom
  | setRule r => exact ⟨hsrc r hfrom, hdst r hfrom⟩
  | editList n f ms =>
    obtain ⟨rb, hrb, rfl⟩ : ∃ rb ∈ bRulesOf a b, ms = rb.get f := hfrom
    cases f
    · exact Or.inr (hsrc rb hrb)
    · exact Or.inr (hdst rb hrb)
    · exact Or.inl rfl
  | editAddr _ _ | editSvc _ _ | delRule _ | move _ _ | delMem _ _ _ | addMem _ _ _ | delAddr _ | delSvc _ =>
    exact True.intro
  | setGrp _ _ | setSGrp _ _ | delGMem _ _ | delGrp _ | delSGrp _ | bad _ => exact hfrom.elim

theorem prefix_devOk (sh : Shared) (diff : Differ) (hd : GoodDiffer diff) (a b : Vsys)
    (hP : PlainPair sh a b) (hN : TgtNames sh b) (k : Nat) :
    ∃ ak, Runs sh a ((planVsys diff a b).take k) ak ∧ PlainPair sh ak b := by
  obtain ⟨w, hw, _⟩ := plain_converges sh diff hd a b hP
  rw [← List.take_append_drop k (planVsys diff a b)] at hw
  obtain ⟨ak, h1, _⟩ := Runs.of_append _ _ _ _ hw
  refine ⟨ak, h1, ?_⟩
  rw [plainPair_iff] at hP ⊢
  exact ⟨Runs.preserves exec_devOk hP.1 (fun c hc => plan_cmdOk sh diff hd a b ((plainPair_iff sh a b).mpr hP) hN c
    (List.mem_of_mem_take hc)) h1, hP.2⟩

theorem plain_resume (sh : Shared) (diff : Differ) (hd : GoodDiffer diff) (a b : Vsys)
    (hP : PlainPair sh a b) (hN : TgtNames sh b) (k : Nat) :
    ∃ ak w, Runs sh a ((planVsys diff a b).take k) ak ∧ Runs sh ak (planVsys diff ak b) w ∧
      equiv w b = true := by
  obtain ⟨ak, h1, hPk⟩ := prefix_devOk sh diff hd a b hP hN k
  obtain ⟨w, hw, he, _⟩ := plain_converges sh diff hd ak b hPk
  exact ⟨ak, w, h1, hw, he⟩

end NA.PanOs
