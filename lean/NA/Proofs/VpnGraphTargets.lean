import NA.Proofs.VpnGraphFrame
import NA.Proofs.VpnGraphBasic
/-!
Frame (C07), engine side: every command of the body (everything before `deleteUnused`) targets an
object of a reference-closed set `R` of device objects that contains the compared anchors, or an
object under a name generated for / taken from the target; `toDelete` marks stay inside `R`.
-/
namespace NA.Vpn.G

/-- the name the target object `rb` is created under (its generated name; its own name if fixed) -/
def genOf (gen : List (Ref × String)) (rb : Ref) : String :=
  match gen.find? (fun p => p.1 == rb) with
  | some p => p.2
  | none => rb.2

/-- allowed targets: `R` (device side) or a new object of the target -/
def Allowed (R : Ref → Prop) (gen : List (Ref × String)) (r : Ref) : Prop :=
  R r ∨ ∃ rb : Ref, r = (rb.1, genOf gen rb)

/-- sub-commands with equal keys reference objects of the same kind -/
def KindByKey (sa sb : List Sub) : Prop :=
  ∀ s ∈ sa, ∀ s' ∈ sb, s.key = s'.key → ∀ xa xb, s.ref = some xa → s'.ref = some xb → xa.1 = xb.1

/-- decidable form for two configurations (it holds of the templates of `asa/cmd-info.go`) -/
def kindByKeyB (a b : List Obj) : Bool :=
  a.all fun x => b.all fun y => x.secs.all fun sx => y.secs.all fun sy =>
    sx.subs.all fun s => sy.subs.all fun s' =>
      !(s.key == s'.key) || (match s.ref, s'.ref with
        | some xa, some xb => xa.1 == xb.1
        | _, _ => true)

theorem kindByKey_of_B (a b : List Obj) (h : kindByKeyB a b = true) :
    ∀ x ∈ a, ∀ y ∈ b, ∀ sx ∈ x.secs, ∀ sy ∈ y.secs, KindByKey sx.subs sy.subs := by
  intro x hx y hy sx hsx sy hsy s hs s' hs' hkey xa xb hxa hxb
  unfold kindByKeyB at h
  have h1 := (List.all_eq_true.1 h) x hx
  have h2 := (List.all_eq_true.1 h1) y hy
  have h3 := (List.all_eq_true.1 h2) sx hsx
  have h4 := (List.all_eq_true.1 h3) sy hsy
  have h5 := (List.all_eq_true.1 h4) s hs
  have h6 := (List.all_eq_true.1 h5) s' hs'
  rw [hxa, hxb, beq_iff_eq.2 hkey] at h6
  exact eq_of_beq h6

structure Inv (R : Ref → Prop) (a : List Obj) (gen : List (Ref × String)) (st : St) : Prop where
  sa : st.a = a
  sg : st.gen = gen
  kk : ∀ x ∈ st.a, ∀ y ∈ st.b, ∀ sx ∈ x.secs, ∀ sy ∈ y.secs, KindByKey sx.subs sy.subs
  mode : modeAfter none st.out = st.mode
  tg : ∀ r ∈ targets none st.out, Allowed R gen r
  -- a ready pool may stand under the name of any device pool with its content (`findPool`); aaa-servers are never printed
  cur : ∀ rb : Ref, rb.1 ≠ .aaa → (rb.1 ≠ .pool ∨ st.isReady rb = false) → Allowed R gen (rb.1, st.cur rb)
  del : ∀ r ∈ st.toDel, R r

variable {R : Ref → Prop} {a : List Obj} {gen : List (Ref × String)}

theorem cur_notReady (st : St) (rb : Ref) (h : st.isReady rb = false) : st.cur rb = genOf st.gen rb := by
  rw [isReady_eq_find] at h
  unfold St.cur genOf
  cases hf : st.ready.find? (fun p => p.1 == rb) with
  | some p => rw [hf] at h; cases h
  | none => rfl

theorem Inv.setReady (h : Inv R a gen st) (r : Ref) (n : String) (hn : r.1 ≠ .pool → r.1 ≠ .aaa → Allowed R gen (r.1, n)) :
    Inv R a gen (st.setReady r n) where
  sa := h.sa
  sg := h.sg
  kk := h.kk
  mode := h.mode
  tg := h.tg
  del := h.del
  cur := by
    intro rb hna hrb
    by_cases e : rb = r
    · subst e
      rw [cur_setReady_self]
      rcases hrb with h1 | h1
      · exact hn h1 hna
      · rw [isReady_setReady_self] at h1; cases h1
    · rw [cur_setReady_ne st r rb n e]
      apply h.cur rb hna
      rw [isReady_setReady_ne st r rb n e] at hrb
      exact hrb

theorem Inv.same {st st' : St} (h : Inv R a gen st)
    (ha : st'.a = st.a) (hb : st'.b = st.b) (hg : st'.gen = st.gen) (hr : st'.ready = st.ready) (hd : st'.toDel = st.toDel)
    (ho : st'.out = st.out) (hm : st'.mode = st.mode) : Inv R a gen st' where
  sa := by rw [ha]; exact h.sa
  sg := by rw [hg]; exact h.sg
  kk := by rw [ha, hb]; exact h.kk
  mode := by rw [ho, hm]; exact h.mode
  tg := by rw [ho]; exact h.tg
  cur := by
    intro rb hna hrb
    rw [cur_congr st st' hr hg]
    apply h.cur rb hna
    rw [isReady_congr st st' hr] at hrb
    exact hrb
  del := by rw [hd]; exact h.del

theorem Inv.markNeeded (h : Inv R a gen st) (r : Ref) : Inv R a gen (st.markNeeded r) := by
  unfold St.markNeeded
  split
  · exact h
  · exact h.same rfl rfl rfl rfl rfl rfl rfl

theorem Inv.setOutside (h : Inv R a gen st) : Inv R a gen { st with outside := true } :=
  h.same rfl rfl rfl rfl rfl rfl rfl

theorem modeAfter_snoc (out : List Chg) (c : Chg) (m : Mode) :
    modeAfter m (out ++ [c]) = modeStep (modeAfter m out) c := by
  rw [modeAfter_append]; rfl

theorem targets_snoc (out : List Chg) (c : Chg) (m : Mode) :
    targets m (out ++ [c]) = targets m out ++ (targetOf (modeAfter m out) c).toList := by
  rw [targets_append]; simp [targets]

theorem Inv.step {st st' : St} (h : Inv R a gen st) (c : Chg)
    (ha : st'.a = st.a) (hb : st'.b = st.b) (hg : st'.gen = st.gen) (hr : st'.ready = st.ready) (hd : st'.toDel = st.toDel)
    (ho : st'.out = st.out ++ [c]) (hm : st'.mode = modeStep st.mode c)
    (ht : ∀ t, targetOf st.mode c = some t → Allowed R gen t) : Inv R a gen st' where
  sa := by rw [ha]; exact h.sa
  sg := by rw [hg]; exact h.sg
  kk := by rw [ha, hb]; exact h.kk
  mode := by rw [ho, modeAfter_snoc, h.mode, hm]
  tg := by
    intro r hr'
    rw [ho, targets_snoc, h.mode] at hr'
    rcases List.mem_append.1 hr' with h1 | h1
    · exact h.tg r h1
    · exact ht r (Option.mem_toList.1 h1)
  cur := by
    intro rb hna hrb
    rw [cur_congr st st' hr hg]
    apply h.cur rb hna
    rw [isReady_congr st st' hr] at hrb
    exact hrb
  del := by rw [hd]; exact h.del

theorem Inv.setMode {st : St} (h : Inv R a gen st) (k : Kind) (n hd : String) (hk : Allowed R gen (k, n)) :
    Inv R a gen (st.setMode k n hd) := by
  unfold St.setMode
  split
  · exact h
  · by_cases hs : st.mode.isSome = true
    · simp only [hs, if_true]
      have h1 : Inv R a gen { (st.emit .exit) with mode := none } :=
        h.step .exit rfl rfl rfl rfl rfl rfl rfl (by intro t ht; cases ht)
      exact h1.step (.sec false k n hd true) rfl rfl rfl rfl rfl rfl rfl (by intro t ht; cases ht; exact hk)
    · simp only [hs]
      exact h.step (.sec false k n hd true) rfl rfl rfl rfl rfl rfl rfl (by intro t ht; cases ht; exact hk)

theorem Inv.setModeSub {st : St} (h : Inv R a gen st) (k : Kind) (n hd : String) (hk : Allowed R gen (k, n))
    (no : Bool) (t : String) (ref : Option Ref) (key : String) (body : List String) :
    Inv R a gen ((st.setMode k n hd).emit (.sub no t ref key body)) :=
  (h.setMode k n hd hk).step (.sub no t ref key body) rfl rfl rfl rfl rfl rfl rfl (by
    intro t' ht
    rw [setMode_mode] at ht
    cases ht
    exact hk)

theorem Inv.addSec {st : St} (h : Inv R a gen st) (k : Kind) (n : String) (sec : Sec) (hk : Allowed R gen (k, n)) :
    Inv R a gen (addSec st k n sec) := by
  unfold G.addSec
  -- the sub-commands land in the mode the command has just opened, if it opened one: the object of the open mode is allowed
  let P : St → Prop := fun s => Inv R a gen s ∧ ∀ k' n' hd', s.mode = some (k', n', hd') → Allowed R gen (k', n')
  have sub : ∀ s ∈ sec.subs, ∀ st, P st → P (st.emit (.sub false (st.subText s) (st.subRef s) s.key s.body)) := by
    intro s _ st hp
    refine ⟨hp.1.step _ rfl rfl rfl rfl rfl rfl rfl ?_, hp.2⟩
    intro t ht
    obtain ⟨m, hm, rfl⟩ := Option.map_eq_some_iff.1 ht
    exact hp.2 m.1 m.2.1 m.2.2 hm
  refine (foldl_inv (P := P) sub ⟨?_, ?_⟩).1
  · exact h.step (.sec false k n sec.head sec.mode) rfl rfl rfl rfl rfl rfl rfl (by intro t ht; cases ht; exact hk)
  · intro k' n' hd' hm
    split at hm
    · cases hm; exact hk
    · cases hm

def AddSpec (R : Ref → Prop) (a : List Obj) (gen : List (Ref × String)) (add : St → Ref → Option St) : Prop :=
  ∀ st x st', Inv R a gen st → add st x = some st' → Inv R a gen st'
def DiffSpec (R : Ref → Prop) (a : List Obj) (gen : List (Ref × String)) (diff : St → Ref → Ref → Option (St × String)) : Prop :=
  ∀ st xa xb st' n, Inv R a gen st → R xa → xa.1 = xb.1 → diff st xa xb = some (st', n) → Inv R a gen st'
def MarkSpec (R : Ref → Prop) (a : List Obj) (gen : List (Ref × String)) (mark : St → Ref → St) : Prop :=
  ∀ st x, Inv R a gen st → R x → Inv R a gen (mark st x)

def SubsIn (R : Ref → Prop) (l : List Sub) : Prop := ∀ s ∈ l, ∀ x, s.ref = some x → R x

theorem SubsIn.sub {l : List Sub} (h : SubsIn R l) (idx : List Nat) : SubsIn R (idx.filterMap fun i => l[i]?) :=
  fun s hs => h s (mem_of_filterMap_get l idx s hs)

theorem followSubs_inv {add : St → Ref → Option St} (hadd : AddSpec R a gen add) (subs : List Sub) (st st' : St)
    (h : Inv R a gen st) (he : followSubs add st subs = some st') : Inv R a gen st' := by
  refine foldl_opt_inv (P := Inv R a gen) ?_ he h
  intro s _ st st' hp hs
  cases hr : s.ref with
  | none => simp only [hr] at hs; cases hs; exact hp
  | some x => simp only [hr] at hs; exact hadd st x st' hp hs

theorem addSecs_inv {add : St → Ref → Option St} (hadd : AddSpec R a gen add) (k : Kind) (n : String)
    (hk : Allowed R gen (k, n)) (secs : List Sec) (st st' : St)
    (h : Inv R a gen st) (he : addSecs add st k n secs = some st') : Inv R a gen st' := by
  refine foldl_opt_inv (P := Inv R a gen) ?_ he h
  intro sec _ st st' hp hs
  obtain ⟨st1, hf, rfl⟩ := Option.map_eq_some_iff.1 hs
  exact (followSubs_inv hadd sec.subs st st1 hp hf).addSec k n sec hk

theorem addSubs_inv {add : St → Ref → Option St} (hadd : AddSpec R a gen add) (k : Kind) (n hd : String)
    (hk : Allowed R gen (k, n)) (l : List Sub) (st st' : St)
    (h : Inv R a gen st) (he : addSubs add st k n hd l = some st') : Inv R a gen st' := by
  refine foldl_opt_inv (P := Inv R a gen) ?_ he h
  intro s _ st st' hp hs
  obtain ⟨st1, h1, rfl⟩ := Option.map_eq_some_iff.1 hs
  refine Inv.setModeSub ?_ k n hd hk _ _ _ _ _
  cases hr : s.ref with
  | none => simp only [hr] at h1; cases h1; exact hp
  | some x => simp only [hr] at h1; exact hadd st x st1 hp h1

theorem delSubs_inv {mark : St → Ref → St} (hmark : MarkSpec R a gen mark) (k : Kind) (n hd : String)
    (hk : Allowed R gen (k, n)) (l : List Sub) (hl : SubsIn R l) (st : St)
    (h : Inv R a gen st) : Inv R a gen (delSubs mark st k n hd l) := by
  unfold delSubs
  refine foldl_inv (fun x hx st hp => ?_) (foldl_inv (fun s _ st hp => hp.setModeSub k n hd hk _ _ _ _ _) h)
  obtain ⟨s, hs, hsx⟩ := List.mem_filterMap.1 hx
  exact hmark st x hp (hl s hs x hsx)

theorem equalSubs_inv {diff : St → Ref → Ref → Option (St × String)} (hdiff : DiffSpec R a gen diff) (k : Kind) (n hd : String)
    (hk : Allowed R gen (k, n)) (pairs : List (Sub × Sub))
    (hp : ∀ q ∈ pairs, ∀ xa xb, q.1.ref = some xa → q.2.ref = some xb → R xa ∧ xa.1 = xb.1) (st st' : St)
    (h : Inv R a gen st) (he : equalSubs diff st k n hd pairs = some st') : Inv R a gen st' := by
  refine foldl_opt_inv (P := Inv R a gen) ?_ he h
  intro q hq st st' hinv hs
  cases h1 : q.1.ref with
  | none => simp only [h1] at hs; cases hs; exact hinv
  | some xa =>
    cases h2 : q.2.ref with
    | none => simp only [h1, h2] at hs; cases hs; exact hinv
    | some xb =>
      simp only [h1, h2] at hs
      obtain ⟨r, hd', rfl⟩ := Option.map_eq_some_iff.1 hs
      have hr := hp q hq xa xb h1 h2
      have hi := hdiff st xa xb r.1 r.2 hinv hr.1 hr.2 hd'
      split
      · exact hi.setModeSub k n hd hk _ _ _ _ _
      · exact hi

theorem diffSubs_inv {add : St → Ref → Option St} {diff : St → Ref → Ref → Option (St × String)} {mark : St → Ref → St}
    (hadd : AddSpec R a gen add) (hdiff : DiffSpec R a gen diff) (hmark : MarkSpec R a gen mark)
    (k : Kind) (n hd : String) (hk : Allowed R gen (k, n)) (sa sb : List Sub)
    (hsa : SubsIn R sa) (hkk : KindByKey sa sb) (st st' : St)
    (h : Inv R a gen st) (he : diffSubs add diff mark st k n hd sa sb = some st') : Inv R a gen st' := by
  unfold diffSubs at he
  by_cases h0 : (sa.isEmpty && sb.isEmpty) = true
  · rw [if_pos h0] at he; cases he; exact h
  · rw [if_neg h0] at he
    dsimp only at he
    by_cases hv : (NA.Vpn.unorderedA (keysOf sb) (keysOf sa) 0 []).1.isEmpty = true
    · -- no sub-command in common
      rw [if_pos hv] at he
      have h1 : Inv R a gen (if sa.isEmpty then st else delSubs mark st k n hd sa) := by
        split
        · exact h
        · exact delSubs_inv hmark k n hd hk sa hsa st h
      split at he
      · cases he; exact h1
      · exact addSubs_inv hadd k n hd hk sb _ st' h1 he
    · rw [if_neg hv] at he
      obtain ⟨st2, h2, he⟩ := foldl_opt_start he
      have h1 := delSubs_inv hmark k n hd hk _ (hsa.sub (NA.Vpn.unorderedA (keysOf sb) (keysOf sa) 0 []).2.1) st h
      have hi2 := equalSubs_inv hdiff k n hd hk _ (by
        intro q hq xa xb hxa hxb
        obtain ⟨hma, hmb, hkey⟩ := pairsOf_keys (fun (s : Sub) => s.key) sa sb q hq
        exact ⟨hsa q.1 hma xa hxa, hkk q.1 hma q.2 hmb hkey xa xb hxa hxb⟩) _ st2 h1 h2
      refine foldl_opt_inv (P := Inv R a gen) ?_ he hi2
      intro run _ st st' hp hs
      exact addSubs_inv hadd k n hd hk _ st st' hp hs

theorem delSecs_inv {mark : St → Ref → St} (hmark : MarkSpec R a gen mark) (k : Kind) (n : String)
    (hk : Allowed R gen (k, n)) (secs : List Sec) (hs : ∀ sec ∈ secs, SubsIn R sec.subs) (st : St)
    (h : Inv R a gen st) : Inv R a gen (delSecs mark st k n secs) := by
  unfold delSecs
  refine foldl_inv (fun sec hsec st hp => ?_) h
  refine foldl_inv (fun x hx st hp => ?_)
    (hp.step (.sec true k n sec.head sec.mode) rfl rfl rfl rfl rfl rfl rfl (by intro t ht; cases ht; exact hk))
  obtain ⟨s, hs', hsx⟩ := List.mem_filterMap.1 hx
  exact hmark st x hp (hs sec hsec s hs' x hsx)

theorem diffSecs_inv {add : St → Ref → Option St} {diff : St → Ref → Ref → Option (St × String)} {mark : St → Ref → St}
    (hadd : AddSpec R a gen add) (hdiff : DiffSpec R a gen diff) (hmark : MarkSpec R a gen mark)
    (k : Kind) (n : String) (hk : Allowed R gen (k, n)) (sa sb : List Sec)
    (hsa : ∀ sec ∈ sa, SubsIn R sec.subs)
    (hkk : ∀ x ∈ sa, ∀ y ∈ sb, KindByKey x.subs y.subs)
    (u : List (Nat × Nat) × List Nat × List String) (st st' : St)
    (h : Inv R a gen st) (he : diffSecs add diff mark st k n sa sb u = some st') : Inv R a gen st' := by
  unfold diffSecs at he
  obtain ⟨st2, h2, he⟩ := Option.bind_eq_some_iff.1 he
  have h1 := delSecs_inv hmark k n hk (u.2.1.filterMap fun i => sa[i]?)
    (fun sec hsec => hsa sec (mem_of_filterMap_get sa _ sec hsec)) st h
  refine addSecs_inv hadd k n hk _ st2 st' (foldl_opt_inv (P := Inv R a gen) ?_ h2 h1) he
  intro p hp st st' hinv hs
  have hm := pairsOf_mem hp
  exact diffSubs_inv hadd hdiff hmark k n p.2.head hk p.1.subs p.2.subs (hsa p.1 hm.1) (hkk p.1 hm.1 p.2 hm.2) st st' hinv hs

/-- `R` is closed under the references of the device's objects -/
def Closed (R : Ref → Prop) (a : List Obj) : Prop :=
  ∀ r o, R r → a.find? (fun o => o.id == r) = some o → ∀ x ∈ o.refs, R x

theorem Inv.aObj {st : St} (h : Inv R a gen st) {r : Ref} {o : Obj} (ho : st.aObj r = some o) :
    a.find? (fun o => o.id == r) = some o := by
  rw [← h.sa]; exact ho

theorem markDel_inv (hc : Closed R a) : ∀ f, MarkSpec R a gen (markDel f)
  | 0 => fun _ _ h _ => h
  | f + 1 => by
    intro st r h hr
    rw [markDel_succ]
    split
    · exact h
    · cases ho : st.aObj r with
      | none => exact h
      | some o =>
        dsimp only
        split
        · exact h
        · exact foldl_inv (fun x hx st' hp => markDel_inv hc f st' x hp (hc r o hr (h.aObj ho) x hx))
            ⟨h.sa, h.sg, h.kk, h.mode, h.tg, h.cur, List.forall_mem_cons.2 ⟨hr, h.del⟩⟩

theorem aclLines_inv (n : String) (hk : Allowed R gen (.acl, n)) (ls : List String) (st : St) (h : Inv R a gen st) :
    Inv R a gen { (ls.foldl (fun st l => st.emit (.line n l)) st) with mode := if ls.isEmpty then st.mode else none } := by
  cases ls with
  | nil => exact h
  | cons l ls =>
    -- from the first line on no mode is open; the engine's field is set at the end only
    exact foldl_inv (P := fun s : St => Inv R a gen { s with mode := none }) (s := st.emit (.line n l))
      (fun l _ s hs => hs.step (.line n l) rfl rfl rfl rfl rfl rfl rfl (by intro t ht; cases ht; exact hk))
      (h.step (.line n l) rfl rfl rfl rfl rfl rfl rfl (by intro t ht; cases ht; exact hk))

theorem addAny_inv : ∀ f, AddSpec R a gen (addAny f)
  | 0 => by intro st x st' h he; cases he; exact h
  | f + 1 => by
    intro st r st' h he
    by_cases hk : r.1 = .aaa
    · rw [addAny_aaa f st hk] at he
      split at he
      · cases he
        exact (h.markNeeded r).setReady r r.2 (fun _ hna => absurd hk hna)
      · cases he
    cases hb : st.bObj r with
    | none => rw [addAny_done f hk (Or.inl hb)] at he; cases he; exact h
    | some o =>
    cases hr : st.isReady r with
    | true => rw [addAny_done f hk (Or.inr hr)] at he; cases he; exact h
    | false =>
    rcases Kind.shape r.1 with hk' | hk' | hk' | hk'
    · exact absurd hk' hk
    · rw [addAny_acl f hk' hb hr] at he
      cases he
      have hcur := h.cur r hk (Or.inl (by rw [hk']; decide))
      rw [hk'] at hcur
      exact aclLines_inv (st.cur r) hcur o.lines _ (h.setReady r (st.cur r) (fun _ _ => by rw [hk']; exact hcur))
    · rw [addAny_pool f hk' hb hr] at he
      have hcur := h.cur r hk (Or.inr hr)
      rw [hk'] at hcur
      have h1 := h.setReady r (st.cur r) (fun hp _ => absurd hk' hp)
      split at he
      · cases he
        exact (h1.markNeeded _).setReady r _ (fun hp _ => absurd hk' hp)
      · cases he
        exact h1.step (.pool false (st.cur r) (o.lines.headD "")) rfl rfl rfl rfl rfl rfl rfl (by intro t ht; cases ht; exact hcur)
    · rw [addAny_sec f hk' hb hr] at he
      have hcur := h.cur r hk (Or.inl (by intro e; rw [e] at hk'; exact hk' rfl))
      exact addSecs_inv (addAny_inv f) r.1 (st.cur r) hcur o.secs _ st' (h.setReady r (st.cur r) (fun _ _ => hcur)) he

/-- the branches of `diffAny` that end with a transfer of the target object -/
theorem addAny_pair {st : St} {rb : Ref} {g : St → String} {st' : St} {n : String} (f : Nat) (h : Inv R a gen st)
    (he : ((addAny f st rb).map fun st => (st, g st)) = some (st', n)) : Inv R a gen st' := by
  obtain ⟨s1, ha, e⟩ := Option.map_eq_some_iff.1 he
  cases e
  exact addAny_inv f st rb _ h ha

theorem diffAny_inv (hc : Closed R a) : ∀ f, DiffSpec R a gen (diffAny f)
  | 0 => by
    intro st xa xb st' n h _ _ he
    cases he; exact h
  | f + 1 => by
    intro st ra rb st' n h hra hkind he
    have hal : Allowed R gen (rb.1, ra.2) := by rw [← hkind]; exact Or.inl hra
    -- the device object is kept under its name
    have keep : ∀ {s : St}, Inv R a gen s → Inv R a gen ((s.markNeeded ra).setReady rb ra.2) :=
      fun hs => (hs.markNeeded ra).setReady rb ra.2 (fun _ _ => hal)
    cases hoa : st.aObj ra with
    | none => rw [diffAny_missing f (Or.inl hoa)] at he; cases he; exact h
    | some oa =>
    cases hob : st.bObj rb with
    | none => rw [diffAny_missing f (Or.inr hob)] at he; cases he; exact h
    | some ob =>
    by_cases hk : ra.1 = .aaa
    · rw [diffAny_aaa f hk hoa hob] at he
      split at he
      · exact addAny_pair (f + 1) h he
      · cases he; exact keep h
    cases hn : st.isNeeded ra with
    | true => rw [diffAny_needed f hk hoa hob hn] at he; exact addAny_pair (f + 1) h he
    | false =>
    cases hr : st.isReady rb with
    | true => rw [diffAny_ready f hk hoa hob hn hr] at he; cases he; exact h
    | false =>
    have hm : ∀ {s : St}, Inv R a gen s → Inv R a gen (markDel (f + 1) s ra) := fun hs => markDel_inv hc (f + 1) _ ra hs hra
    rcases Kind.shape ra.1 with hk' | hk' | hk' | hk'
    · exact absurd hk' hk
    · by_cases hl : oa.lines = ob.lines
      · rw [diffAny_same f (Or.inl hk') hoa hob hn hr hl] at he; cases he; exact keep h
      · rw [diffAny_acl f hk' hoa hob hn hr hl] at he
        refine addAny_pair (f + 1) (hm ?_) he
        split
        · exact h.setOutside
        · exact h
    · by_cases hl : oa.lines = ob.lines
      · rw [diffAny_same f (Or.inr hk') hoa hob hn hr hl] at he; cases he; exact keep h
      · rw [diffAny_pool f hk' hoa hob hn hr hl] at he
        split at he
        · cases he
          exact ((hm h).markNeeded _).setReady rb _ (fun hp _ => absurd (by rw [← hkind, hk']) hp)
        · exact addAny_pair (f + 1) (hm h) he
    · rw [diffAny_sec f hk' hoa hob hn hr] at he
      split at he
      · exact addAny_pair (f + 1) (hm h) he
      · obtain ⟨s1, hd, e⟩ := Option.map_eq_some_iff.1 he
        cases e
        have hma : oa ∈ st.a := List.mem_of_find?_eq_some hoa
        have hmb : ob ∈ st.b := List.mem_of_find?_eq_some hob
        exact diffSecs_inv (addAny_inv f) (diffAny_inv hc f) (markDel_inv hc f) ra.1 ra.2 (Or.inl hra) oa.secs ob.secs
          (fun sec hsec s hs x hx => hc ra oa hra (h.aObj hoa) x (ref_mem_refs oa sec s x hsec hs hx))
          (fun x hx y hy => h.kk oa hma ob hmb x hx y hy) _ _ _ (keep h) hd

theorem diffAnchors_inv (hc : Closed R a) (hanch : ∀ o ∈ a, o.anchor = true → R o.id) (k : Kind) (st st' : St)
    (h : Inv R a gen st) (he : diffAnchors st k = some st') : Inv R a gen st' := by
  unfold diffAnchors at he
  obtain ⟨st1, h1, he⟩ := foldl_opt_start he
  have hmem : ∀ n ∈ sortS ((st.a.filter fun o => o.kind == k && o.anchor).map (·.name)), R (k, n) := by
    intro n hn
    obtain ⟨o, ho, ha, hid⟩ := (mem_anchor_names st.a k n).1 hn
    rw [← hid]; exact hanch o (by rw [← h.sa]; exact ho) ha
  refine foldl_opt_inv (P := Inv R a gen) ?_ he (foldl_opt_inv (P := Inv R a gen) ?_ h1 h)
  · intro n _ st st' hp hs
    split at hs
    · cases hs; exact hp
    · exact addAny_inv fuel st (k, n) st' hp hs
  · intro n hn st st' hp hs
    split at hs
    · obtain ⟨r, hd, rfl⟩ := Option.map_eq_some_iff.1 hs
      exact diffAny_inv hc fuel st (k, n) (k, n) r.1 r.2 hp (hmem n hn) rfl hd
    · cases hs
      exact markDel_inv hc fuel st (k, n) hp (hmem n hn)

theorem init_inv (a b : List Obj)
    (hkk : ∀ x ∈ a, ∀ y ∈ b, ∀ sx ∈ x.secs, ∀ sy ∈ y.secs, KindByKey sx.subs sy.subs) :
    Inv R a (initSt a b).gen (initSt a b) where
  sa := rfl
  sg := rfl
  kk := hkk
  mode := rfl
  tg := by intro r hr; cases hr
  cur := by
    intro rb _ _
    right
    refine ⟨rb, ?_⟩
    rw [cur_notReady]
    unfold St.isReady initSt
    rfl
  del := by intro r hr; cases hr

theorem body_targets (a b : List Obj) (hc : Closed R a) (hanch : ∀ o ∈ a, o.anchor = true → R o.id)
    (hkk : ∀ x ∈ a, ∀ y ∈ b, ∀ sx ∈ x.secs, ∀ sy ∈ y.secs, KindByKey sx.subs sy.subs) (st : St)
    (he : ((diffAnchors (initSt a b) .tg).bind fun st => diffAnchors st .user) = some st) :
    (∀ r ∈ targets none st.out, Allowed R (initSt a b).gen r) ∧ (∀ r ∈ st.toDel, R r) ∧
      modeAfter none st.out = st.mode ∧ st.a = a := by
  obtain ⟨st1, h1, he⟩ := Option.bind_eq_some_iff.1 he
  have i1 := diffAnchors_inv hc hanch .tg _ st1 (init_inv a b hkk) h1
  have i2 := diffAnchors_inv hc hanch .user st1 st i1 he
  exact ⟨i2.tg, i2.del, i2.mode, i2.sa⟩

end NA.Vpn.G
