import NA.Proofs.Masks
/-
Line plans on a masked merged list, independent of any device and of either planner's code.
`cplan M` is THE plan both `diffASAACLs` and `diffIOSACLs` compute: per new-only cell, top-down, a move
of the old-only cell with its `mkey` (`delLookup`) or else an add; then the old-only cells no new-only
cell looked up, bottom-up.  The planners differ in how they address a cell (ASA: its position
`cnt μ i`; IOS: its number `numOf M i`) and in that IOS may suppress a move, which is the plain plan
of a re-labelled list (`keepCells`, NA/Proofs/IosConvRun.lean).
-/
namespace NA.Acl

attribute [-simp] List.getD_eq_getElem?_getD

/-- Index form of `Nodup` of the `mkey`s of the new (resp. old) lines. -/
def NewInj (M : List Cell) : Prop :=
  ∀ x y, x < M.length → y < M.length → (M.getD x default).new = true → (M.getD y default).new = true →
    (M.getD x default).line.mkey = (M.getD y default).line.mkey → x = y
def OldInj (M : List Cell) : Prop :=
  ∀ x y, x < M.length → y < M.length → (M.getD x default).old = true → (M.getD y default).old = true →
    (M.getD x default).line.mkey = (M.getD y default).line.mkey → x = y

theorem sel_mkey_inj (sel : Cell → Bool) (M : List Cell)
    (h : (((M.filter sel).map (·.line)).map (·.mkey)).Nodup) {i i' : Nat}
    (hi : i < M.length) (hi' : i' < M.length)
    (hs : sel (M.getD i default) = true) (hs' : sel (M.getD i' default) = true)
    (hm : (M.getD i default).line.mkey = (M.getD i' default).line.mkey) : i = i' := by
  have hp : M.Pairwise fun a b => sel a = true → sel b = true → a.line.mkey ≠ b.line.mkey := by
    rw [List.map_map, List.Nodup, List.pairwise_map, List.pairwise_filter] at h
    exact h
  rw [ListFacts.getD_of_lt default hi] at hs hm
  rw [ListFacts.getD_of_lt default hi'] at hs' hm
  rcases Nat.lt_trichotomy i i' with hlt | heq | hgt
  · exact absurd hm (List.pairwise_iff_getElem.mp hp i i' hi hi' hlt hs hs')
  · exact heq
  · exact absurd hm.symm (List.pairwise_iff_getElem.mp hp i' i hi' hi hgt hs' hs)

theorem newInj_of_nodup (M : List Cell) (h : ((news M).map (·.mkey)).Nodup) : NewInj M :=
  fun _ _ hx hy px py e => sel_mkey_inj (·.new) M h hx hy px py e

theorem oldInj_of_nodup (M : List Cell) (h : ((olds M).map (·.mkey)).Nodup) : OldInj M :=
  fun _ _ hx hy px py e => sel_mkey_inj (·.old) M h hx hy px py e

theorem getD_set_ne (μ : List Bool) {i x : Nat} (b : Bool) (e : x ≠ i) :
    (μ.set i b).getD x false = μ.getD x false :=
  (ListFacts.getD_set μ i x b false).trans (if_neg fun c => e c.1.symm)

theorem getD_set_self (μ : List Bool) {i : Nat} (b : Bool) (h : i < μ.length) :
    (μ.set i b).getD i false = b :=
  (ListFacts.getD_set_of_lt i b false h).trans (if_pos rfl)

theorem mem_delIdx (M : List Cell) (i : Nat) :
    i ∈ delIdx M ↔ i < M.length ∧ (M.getD i default).old = true ∧ (M.getD i default).new = false := by
  simp [delIdx, List.mem_filter]

theorem mem_addIdx (M : List Cell) (j : Nat) :
    j ∈ addIdx M ↔ j < M.length ∧ (M.getD j default).old = false ∧ (M.getD j default).new = true := by
  simp only [addIdx, List.mem_filter, List.mem_range, Bool.and_eq_true, Bool.not_eq_true']
  exact and_congr_right' and_comm

theorem delLookup_someI {M : List Cell} {mk i : Nat} (h : delLookup M mk = some i) :
    i ∈ delIdx M ∧ (M.getD i default).line.mkey = mk := by
  unfold delLookup at h
  have := List.mem_of_getLast? h
  simp only [List.mem_filter, beq_iff_eq] at this
  exact this

theorem delLookup_noneI {M : List Cell} {mk : Nat} (h : delLookup M mk = none) :
    ∀ i ∈ delIdx M, (M.getD i default).line.mkey ≠ mk := by
  unfold delLookup at h
  rw [List.getLast?_eq_none_iff] at h
  intro i hi hm
  have : i ∈ (delIdx M).filter fun i => (M.getD i default).line.mkey == mk :=
    List.mem_filter.mpr ⟨hi, by simp only [hm, beq_self_eq_true]⟩
  rw [h] at this
  cases this

/-- `delLookup_someI` / `delLookup_noneI` with membership in `delIdx M` spelt out. -/
theorem delLookup_some (M : List Cell) (k i : Nat) (h : delLookup M k = some i) :
    i < M.length ∧ (M.getD i default).old = true ∧ (M.getD i default).new = false ∧
      (M.getD i default).line.mkey = k :=
  let ⟨h1, h2⟩ := delLookup_someI h
  let ⟨a, b, c⟩ := (mem_delIdx M i).1 h1
  ⟨a, b, c, h2⟩

theorem delLookup_none (M : List Cell) (k : Nat) (h : delLookup M k = none) (x : Nat)
    (hx : x < M.length) (hO : (M.getD x default).old = true) (hN : (M.getD x default).new = false) :
    (M.getD x default).line.mkey ≠ k :=
  delLookup_noneI h x ((mem_delIdx M x).2 ⟨hx, hO, hN⟩)

inductive COp
  | add (j : Nat)
  | del (i : Nat)
  | move (i j : Nat)

def COp.apply (μ : List Bool) : COp → List Bool
  | .add j => μ.set j true
  | .del i => μ.set i false
  | .move i j => (μ.set i false).set j true

/-- No present line has the `mkey` of cell `j` (the devices reject duplicate entries). -/
def Fresh (M : List Cell) (μ : List Bool) (j : Nat) : Prop :=
  ∀ x, x < M.length → μ.getD x false = true →
    (M.getD x default).line.mkey ≠ (M.getD j default).line.mkey

/-- What the strict devices of `NA.Spec.AclDev` demand of the command for `c` when they hold `masked M μ`. -/
def COp.ok (M : List Cell) (μ : List Bool) : COp → Prop
  | .add j => j < M.length ∧ μ.getD j false = false ∧ (M.getD j default).new = true ∧ Fresh M μ j
  | .del i => i < M.length ∧ μ.getD i false = true
  | .move i j => i < M.length ∧ j < M.length ∧ μ.getD i false = true ∧
      (μ.set i false).getD j false = false ∧ (M.getD j default).new = true ∧
      Fresh M (μ.set i false) j

theorem COp.apply_length (μ : List Bool) (c : COp) : (c.apply μ).length = μ.length := by
  cases c <;> simp [COp.apply]

/-- A run of legal cell operations all of whose states (after each operation) satisfy `P`. -/
inductive CRun (M : List Cell) (P : List Bool → Prop) : List Bool → List COp → List Bool → Prop
  | nil (μ : List Bool) : CRun M P μ [] μ
  | step (μ : List Bool) (c : COp) (cs : List COp) (μ' : List Bool) :
      c.ok M μ → P (c.apply μ) → CRun M P (c.apply μ) cs μ' → CRun M P μ (c :: cs) μ'

theorem CRun.append {M : List Cell} {P : List Bool → Prop} {μ μ1 μ2 : List Bool} {a b : List COp}
    (h1 : CRun M P μ a μ1) (h2 : CRun M P μ1 b μ2) : CRun M P μ (a ++ b) μ2 := by
  induction h1 with
  | nil μ => exact h2
  | step μ c cs μ' hok hp _ ih => exact CRun.step μ c _ μ2 hok hp (ih h2)

theorem CRun.cons_inv {M : List Cell} {P : List Bool → Prop} {μ μ' : List Bool} {c : COp}
    {cs : List COp} (h : CRun M P μ (c :: cs) μ') :
    c.ok M μ ∧ P (c.apply μ) ∧ CRun M P (c.apply μ) cs μ' := by
  cases h with
  | step _ _ _ _ hok hp hr => exact ⟨hok, hp, hr⟩

theorem CRun.append_inv {M : List Cell} {P : List Bool → Prop} {μ μ' : List Bool} {a b : List COp}
    (h : CRun M P μ (a ++ b) μ') : ∃ μ1, CRun M P μ a μ1 ∧ CRun M P μ1 b μ' := by
  induction a generalizing μ with
  | nil => exact ⟨μ, CRun.nil μ, h⟩
  | cons c a ih =>
    obtain ⟨hok, hp, hr⟩ := CRun.cons_inv h
    obtain ⟨μ1, h1, h2⟩ := ih hr
    exact ⟨μ1, CRun.step μ c a μ1 hok hp h1, h2⟩

def cellOp (M : List Cell) (j : Nat) : COp :=
  match delLookup M (M.getD j default).line.mkey with
  | some d => .move d j
  | none => .add j

/-- The old-only cells that some new-only cell looks up: they are moved, not deleted. -/
def lookups (M : List Cell) : List Nat :=
  (addIdx M).filterMap fun j => delLookup M (M.getD j default).line.mkey

def cdels (M : List Cell) : List Nat := (delIdx M).reverse.filter fun i => !(lookups M).contains i

def cplan (M : List Cell) : List COp := (addIdx M).map (cellOp M) ++ (cdels M).map COp.del

theorem mem_lookups {M : List Cell} {x : Nat} :
    x ∈ lookups M ↔ ∃ j, j ∈ addIdx M ∧ delLookup M (M.getD j default).line.mkey = some x := by
  simp only [lookups, List.mem_filterMap]

end NA.Acl
