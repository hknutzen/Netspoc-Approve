import NA.Proofs.C03Resume
/-
C03, whole vsys: a device that already says what the target says gets an
empty plan (`plain_fixpoint`); the device reached by executing a plan is such a device
(`plain_idempotent`).  Core Lean only.
-/
namespace NA.PanOs

def CmdSrvOk : Cmd → Prop
  | .editList _ f ms => f = .srv → ms.Nodup
  | .setRule r => r.srv.Nodup
  | _ => True

theorem Rule.set_srv (r : Rule) (f : Fld) (l : List String) (h : r.srv.Nodup) (hl : f = .srv → l.Nodup) :
    (r.set f l).srv.Nodup := by
  cases f with
  | src => exact h
  | dst => exact h
  | srv => exact hl rfl

theorem exec_srvOk {sh : Shared} {v v' : Vsys} {c : Cmd} (hv : SrvNodup v) (hc : CmdSrvOk c)
    (h : exec sh v c = .ok v') : SrvNodup v' := by
  refine exec_rules_forall h ?_ hv
  cases c with
  | setRule r => exact hc
  | delMem n f m =>
    exact fun r hr => Rule.set_srv r f _ hr (fun e => by subst e; exact List.filter_sublist.nodup hr)
  | addMem n f ms =>
    exact fun r hr => Rule.set_srv r f _ hr (fun e => by subst e; exact mergeMembers_nodup _ _ hr)
  | editList n f ms => exact fun r hr => Rule.set_srv r f _ hr hc
  | _ => trivial

theorem eqCmds_same (diff : Differ) (hid : IdentityDiffer diff) (ra rb : Rule)
    (h1 : ra.src = rb.src) (h2 : ra.dst = rb.dst) (h3 : ra.srv = rb.srv) : eqCmds diff ra rb = [] := by
  unfold eqCmds
  rw [h1, h2, h3, fieldCmds_same diff hid, fieldCmds_same diff hid]
  simp

theorem plainRuleCmds_identity (diff : Differ) (A B : List Rule) (n : Nat)
    (h : ∀ k, k < n → eqCmds diff (A.getD k default) (B.getD k default) = []) :
    plainRuleCmds diff A B [⟨0, n, 0, n⟩] = [] := by
  -- an alignment of pairs none of which asks for a request
  have key : ∀ xs ys : List Rule, (∀ a b, Al.eq a b ∈ List.zipWith Al.eq xs ys → eqCmds diff a b = []) →
      Al.cmds1 diff (List.zipWith .eq xs ys) ++ Al.cmds2 (List.zipWith .eq xs ys) = [] := by
    intro xs
    induction xs with
    | nil => intro ys _; rw [List.zipWith_nil_left]; rfl
    | cons x xs ih =>
      intro ys h
      cases ys with
      | nil => rfl
      | cons y ys =>
        show eqCmds diff x y ++ Al.cmds1 diff (List.zipWith .eq xs ys) ++ Al.cmds2 (List.zipWith .eq xs ys) = []
        rw [h x y List.mem_cons_self, List.nil_append]
        exact ih ys fun a b hm => h a b (List.mem_cons_of_mem _ hm)
  unfold plainRuleCmds
  cases hk : (⟨0, n, 0, n⟩ : Range).kind with
  | del => cases Range.kind_del_iff.mp hk; simp only [align, hk]; rfl
  | ins => exact absurd (Range.kind_ins_iff.mp hk).1 (Range.kind_ins_iff.mp hk).2
  | eq =>
    simp only [align, hk, List.append_nil]
    refine key _ _ fun a b hm => ?_
    obtain ⟨k, h1, h2⟩ := mem_zipWith_eq _ _ hm
    have hkn : k < n - 0 := Nat.lt_of_lt_of_le (List.getElem?_eq_some_iff.mp h1).1 (List.length_take_le ..)
    rw [getElem?_extract A hkn, Nat.zero_add] at h1
    rw [getElem?_extract B hkn, Nat.zero_add] at h2
    rw [← getD_of_getElem? h1, ← getD_of_getElem? h2]
    exact h k hkn

theorem servicesEq_same (A B : List Obj) : ∀ (l : List String), servicesEq A B l l = true := by
  intro l
  induction l with
  | nil => rfl
  | cons x xs ih => simp [servicesEq, ih]

theorem objMap_isSome (os : List Obj) (n : String) : (objMap os n).isSome = true ↔ n ∈ os.map (·.name) := by
  unfold objMap
  constructor
  · intro h
    cases hi : lastIdx (os.map (·.name)) n with
    | none => simp [hi] at h
    | some i => exact List.mem_of_getElem? (lastIdx_spec hi)
  · intro h
    obtain ⟨i, hi⟩ := Option.isSome_iff_exists.mp (lastIdx_isSome_of_mem h)
    obtain ⟨o, ho, _⟩ := lastIdx_map_get hi
    rw [hi, Option.bind_some, ho]
    rfl

theorem vsysListType_same (v v' : Vsys) (hg : v.groups = []) (hg' : v'.groups = []) (l : List String)
    (h : ∀ x ∈ l, x ∈ v.addrs.map (·.name) ↔ x ∈ v'.addrs.map (·.name)) :
    vsysListType v l = vsysListType v' l := by
  have hall : l.all (fun n => (objMap v.addrs n).isSome) = l.all (fun n => (objMap v'.addrs n).isSome) := by
    rw [Bool.eq_iff_iff, List.all_eq_true, List.all_eq_true]
    simp only [objMap_isSome]
    exact forall₂_congr h
  unfold vsysListType
  rw [hg, hg']
  unfold objListType
  simp only [hall]
  split
  · split
    · rfl
    · rfl
  · rfl

structure Settled (w b : Vsys) : Prop where
  len : w.rules.length = b.rules.length
  like : ∀ t, t < b.rules.length → RuleLike (w.rules.getD t default) (b.rules.getD t default)
  srvW : ∀ r ∈ w.rules, r.srv.Nodup
  srvB : ∀ r ∈ b.rules, r.srv.Nodup
  addrSame : ∀ x, RefAddr b x → x ∈ b.addrs.map (·.name) → lookupObj w.addrs x = lookupObj b.addrs x
  addrRef : ∀ x ∈ w.addrs.map (·.name), RefAddr b x
  svcSame : ∀ x, RefSvc b x → x ∈ b.svcs.map (·.name) → lookupObj w.svcs x = lookupObj b.svcs x
  svcRef : ∀ x ∈ w.svcs.map (·.name), RefSvc b x

/-- No entry of the target's table is flagged: an `edit` would need another value on the device, a `set` a name the
device lacks. -/
theorem no_flag_of_same {as : List AObj} {bs : List BObj} {ta tb : List Obj} {R : String → Prop}
    (hb : bs.map (·.o) = tb) (hadef : as.map (·.o) = ta) (hs : ObjFlagSound as bs)
    (hprov : ∀ ob ∈ bs, (ob.needed = true ∨ ob.edit = true) → R ob.o.name)
    (hta : (ta.map (·.name)).Nodup) (htb : (tb.map (·.name)).Nodup)
    (hsame : ∀ x, R x → x ∈ tb.map (·.name) → lookupObj ta x = lookupObj tb x) :
    ∀ ob ∈ bs, ob.edit = false ∧ ob.needed = false := by
  intro ob hob
  have hmem : ob.o ∈ tb := by rw [← hb]; exact List.mem_map_of_mem hob
  have hname : ob.o.name ∈ tb.map (·.name) := List.mem_map_of_mem hmem
  have hval := lookupObj_of_mem htb hmem
  obtain ⟨bi, hbi⟩ := List.getElem?_of_mem hob
  constructor
  · cases he : ob.edit with
    | false => rfl
    | true =>
      exfalso
      obtain ⟨ai, oa, hai, hoa, hne⟩ := (hs bi ob hbi).2 he
      have hoaw : oa.o ∈ ta := by rw [← hadef]; exact List.mem_map_of_mem (List.mem_of_getElem? hoa)
      have h1 := lookupObj_of_mem hta hoaw
      rw [lastIdx_map_name (f := (·.o.name)) hai hoa, hsame _ (hprov ob hob (Or.inr he)) hname, hval] at h1
      exact hne (Option.some.inj h1).symm
  · cases hn : ob.needed with
    | false => rfl
    | true =>
      exfalso
      have hlack := lastIdx_none_not_mem ((hs bi ob hbi).1 hn)
      rw [map_o_name hadef] at hlack
      have := hsame _ (hprov ob hob (Or.inl hn)) hname
      rw [(lookupObj_none_iff _ _).mpr hlack, hval] at this
      cases this

theorem objTransfer_nil {editC setC : String → String → Cmd} {bs : List BObj}
    (h : ∀ ob ∈ bs, ob.edit = false ∧ ob.needed = false) : objTransfer editC setC bs = [] :=
  List.filterMap_eq_nil_iff.mpr fun ob hob => by rw [(h ob hob).1, (h ob hob).2]; rfl

theorem unneeded_nil {as : List AObj} {ta tb : List Obj} {R : String → Prop} (hadefs : as.map (·.o) = ta)
    (marked : ∀ x, R x → x ∈ tb.map (·.name) → ∀ oa ∈ as, oa.o.name = x → oa.needed = true)
    (hall : ∀ x ∈ ta.map (·.name), R x ∧ x ∈ tb.map (·.name)) : as.filter (fun o => !o.needed) = [] := by
  rw [List.filter_eq_nil_iff]
  intro oa hoa
  obtain ⟨hr, hb⟩ := hall oa.o.name (by rw [← map_o_name hadefs]; exact List.mem_map_of_mem hoa)
  rw [marked _ hr hb oa hoa rfl]
  exact Bool.false_ne_true

theorem plain_fixpoint (sh : Shared) (diff : Differ) (hd : GoodDiffer diff) (hid : IdentityDiffer diff)
    (w b : Vsys) (hP : PlainPair sh w b) (hS : Settled w b) : planVsys diff w b = [] := by
  obtain ⟨hag, hbg, hasg, hbsg, han, hbn, haan, hban, hasn, hbsn, hal, hbl, hbr, hres, hsres⟩ := hP
  obtain ⟨q1, q2, q3, q4, hout⟩ := planState_plain diff hd w b hag hbg hasg hbsg
  have hflags := planState_planFlags diff w b hbg hbsg
  have hA := addrSummary_of_planFlags hflags haan
  have hSv := svcSummary_of_planFlags hflags hasn
  obtain ⟨provA, provS⟩ := planState_prov diff w b hbg hbsg
  -- every object of the device is one the target's rules use, hence (its name not being reserved) one the target defines
  have hdefA : ∀ x ∈ w.addrs.map (·.name), RefAddr b x ∧ x ∈ b.addrs.map (·.name) := fun x hx =>
    have ⟨r, hr, hxr⟩ := hS.addrRef x hx
    ⟨⟨r, hr, hxr⟩, (((hbr r hr).1 x (List.mem_append.mpr hxr)).resolve_left (hres x hx).1).resolve_left (hres x hx).2⟩
  have hdefS : ∀ x ∈ w.svcs.map (·.name), RefSvc b x ∧ x ∈ b.svcs.map (·.name) := fun x hx =>
    have ⟨r, hr, hxr⟩ := hS.svcRef x hx
    ⟨⟨r, hr, hxr⟩, ((((hbr r hr).2 x hxr).resolve_left (hsres x hx).1).resolve_left (hsres x hx).2.1).resolve_left
      (hsres x hx).2.2⟩
  -- the two sorted copies agree position by position
  have hlists : ∀ t, t < b.rules.length →
      ((sortVsys w).rules.getD t default).hdr = ((bRulesOf w b).getD t default).hdr ∧
      ((sortVsys w).rules.getD t default).src = ((bRulesOf w b).getD t default).src ∧
      ((sortVsys w).rules.getD t default).dst = ((bRulesOf w b).getD t default).dst ∧
      ((sortVsys w).rules.getD t default).srv = ((bRulesOf w b).getD t default).srv := by
    intro t ht
    obtain ⟨e1, e2, e3, e4⟩ := bRulesOf_getD w b t ht
    have htw : t < w.rules.length := by rw [hS.len]; exact ht
    rw [sortVsys_rules_getD w t htw, e1, e2, e3, e4]
    obtain ⟨l0, l1, l2, l3⟩ := hS.like t ht
    have hmw : w.rules.getD t default ∈ w.rules := getD_mem htw
    have hmb : b.rules.getD t default ∈ b.rules := getD_mem ht
    exact ⟨l0, sortStrings_canonical (hal _ hmw).1 (hbl _ hmb).1 l1,
      sortStrings_canonical (hal _ hmw).2 (hbl _ hmb).2 l2, sortStrings_canonical (hS.srvW _ hmw) (hS.srvB _ hmb) l3⟩
  -- a list of names the target's rules use has the same type on both sides
  have hltype : ∀ l, (∀ x ∈ l, RefAddr b x) → vsysListType (sortVsys w) l = vsysListType (sortVsys b) l := fun l hl =>
    vsysListType_same _ _ (by simp [sortVsys, hag]) (by simp [sortVsys, hbg]) l fun x hx =>
      ⟨fun h => (hdefA x h).2, fun (h : x ∈ b.addrs.map (·.name)) =>
        Decidable.byContradiction fun (hn : x ∉ w.addrs.map (·.name)) => by
        have := hS.addrSame x (hl x hx) h
        rw [(lookupObj_none_iff _ _).mpr hn] at this
        exact (lookupObj_none_iff _ _).mp this.symm h⟩
  -- the rule script is the identity
  have hscript : ruleScript diff w b = [⟨0, b.rules.length, 0, b.rules.length⟩] := by
    rw [ruleScript_eq diff w b, bRulesOf_length, show (sortVsys w).rules.length = b.rules.length by simp [sortVsys, hS.len]]
    apply hid
    intro t ht
    obtain ⟨e0, e1, e2, e3⟩ := hlists t ht
    have hmb : b.rules.getD t default ∈ b.rules := getD_mem ht
    obtain ⟨_, b1, b2, _⟩ := bRulesOf_getD w b t ht
    unfold ruleEqual
    rw [e0, e1, e2, e3, servicesEq_same,
      hltype _ fun x hx => ⟨_, hmb, Or.inl ((mem_sortStrings x _).mp (b1 ▸ hx))⟩,
      hltype _ fun x hx => ⟨_, hmb, Or.inr ((mem_sortStrings x _).mp (b2 ▸ hx))⟩]
    simp
  -- no rule request
  have hrules : (planState diff w b).out = [] := by
    rw [hout, show (((sortVsys b).rules.zip (uniqNames (ruleNames (sortVsys w).rules)
      (ruleNames (sortVsys b).rules))).map (fun (r, n) => { r with name := n })) = bRulesOf w b from rfl, hscript]
    exact plainRuleCmds_identity diff _ _ _ fun k hk =>
      have ⟨_, e1, e2, e3⟩ := hlists k hk
      eqCmds_same diff hid _ _ e1 e2 e3
  -- no transfer (no flag is up), no removal
  unfold planVsys
  simp only
  rw [transferCmds_plain _ q2 q4, removeCmds_plain _ q1 q3, hrules, addrTransfer, svcTransfer,
    objTransfer_nil (no_flag_of_same hflags.bAddr hflags.aAddr hflags.sound provA.1 haan hban hS.addrSame),
    objTransfer_nil (no_flag_of_same hflags.bSvc hflags.aSvc hflags.ssound provS.1 hasn hbsn hS.svcSame),
    unneeded_nil hA.adefs hA.marked hdefA, unneeded_nil hSv.adefs hSv.marked hdefS]
  rfl


theorem plan_cmdSrvOk (sh : Shared) (diff : Differ) (hd : GoodDiffer diff) (a b : Vsys)
    (hP : PlainPair sh a b) (hsb : SrvNodup b) : ∀ c ∈ planVsys diff a b, CmdSrvOk c := by
  have hB := bRulesOf_forall a b List.Nodup (fun _ => sortStrings_nodup) .srv hsb
  intro c hc
  have hfrom := plan_fromTarget sh diff hd a b hP c hc
  cases c with
  | setRule r => exact hB r hfrom
  | editList n f ms =>
    obtain ⟨rb, hrb, rfl⟩ : ∃ rb ∈ bRulesOf a b, ms = rb.get f := hfrom
    intro hf
    subst hf
    exact hB rb hrb
  | _ => exact True.intro

theorem plain_idempotent (sh : Shared) (diff : Differ) (hd : GoodDiffer diff) (hid : IdentityDiffer diff)
    (a b : Vsys) (hP : PlainPair sh a b) (hN : TgtNames sh b)
    (hsa : SrvNodup a) (hsb : SrvNodup b) :
    ∃ w, Runs sh a (planVsys diff a b) w ∧ equiv w b = true ∧ planVsys diff w b = [] := by
  obtain ⟨w, hw, heq, _, _, _, hlen, _, hlike, lookA, lookS, refA, refS⟩ := plain_converges_full sh diff hd a b hP
  refine ⟨w, hw, heq, ?_⟩
  have hPw : PlainPair sh w b := by
    rw [plainPair_iff] at hP ⊢
    exact ⟨Runs.preserves exec_devOk hP.1 (plan_cmdOk sh diff hd a b ((plainPair_iff sh a b).mpr hP) hN) hw, hP.2⟩
  apply plain_fixpoint sh diff hd hid w b hPw
  refine ⟨hlen, ?_, Runs.preserves exec_srvOk hsa (plan_cmdSrvOk sh diff hd a b hP hsb) hw, hsb,
    fun x hr hx => lookA x hr (Or.inr (Or.inr hx)), refA,
    fun x hr hx => lookS x hr (Or.inr (Or.inr (Or.inr hx))), refS⟩
  intro t ht
  have htw : t < w.rules.length := by rw [hlen]; exact ht
  have := getElem?_of_lt w.rules t htw
  exact hlike t _ this

end NA.PanOs
