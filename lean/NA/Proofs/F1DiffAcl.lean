import NA.Proofs.F1Transfer
/-!
# F1: `diffCmds` for two access lists (all four branches) on the strict device, preserving `Full`
-/
namespace NA.F1
open NA.AsaDev
open NA.Acl (Range)

/-- `Full` does not look at bindings, routes and interfaces of the device. -/
theorem Full.of_dev {e : Env} {st st' : St} {d d' : Dev} (h : Full e st d) (hg : d'.groups = d.groups)
    (ha : d'.acls = d.acls) (hm : ModeRel st' d')
    (g1 : st'.gNeeded = st.gNeeded) (g2 : st'.gReady = st.gReady) (g3 : st'.gName = st.gName)
    (a1 : st'.aNeeded = st.aNeeded) (a2 : st'.aReady = st.aReady) (a3 : st'.aName = st.aName) : Full e st' d' := by
  have hgN : ∀ x ∈ st.gNeeded, x ∈ st'.gNeeded := fun y hy => by rw [g1]; exact hy
  have hfa : ∀ x, FrozenAcl e st x → FrozenAcl e st' x := fun x hx => hx.mono (fun y hy => by rw [a1]; exact hy)
  have hfa' : ∀ x, FrozenAcl e st' x → FrozenAcl e st x := fun x hx => hx.mono (fun y hy => by rw [← a1]; exact hy)
  have hn : ∀ b, st'.aNameOf b = st.aNameOf b := fun b => by simp [St.aNameOf, a3]
  have hha : ∀ n, hasAcl d' n = hasAcl d n := fun n => by simp [hasAcl, ha]
  have hli : ∀ n, linesOf d' n = linesOf d n := fun n => by simp [linesOf, ha]
  have hhg : ∀ n, hasGroup d' n = hasGroup d n := fun n => by simp [hasGroup, hg]
  have hmg : ∀ n, membersOf d' n = membersOf d n := fun n => by simp [membersOf, hg]
  have hok : ∀ ls bl, AclOK e st d ls bl → AclOK e st' d' ls bl := fun ls bl h1 =>
    ⟨h1.1, fun p hp => ⟨(h1.2 p hp).1, (h1.2 p hp).2.1, fun q hq =>
      ⟨by rw [hhg]; exact ((h1.2 p hp).2.2 q hq).1, by rw [hmg]; exact ((h1.2 p hp).2.2 q hq).2.1,
        ((h1.2 p hp).2.2 q hq).2.2.mono hgN⟩⟩⟩
  refine ⟨h.sem.transport hg hm g1 g2 g3, by rw [ha]; exact h.keysNodup, fun n hn' => by rw [hha]; exact h.devAcls n hn',
    ?_, ?_, ?_, ?_⟩
  · intro n hn' hnn; rw [hli]; exact h.untouched n hn' (by rw [← a1]; exact hnn)
  · intro b hb
    rw [a2] at hb
    obtain ⟨r1, r2, r3⟩ := h.ready b hb
    rw [hn, hha, hli]
    exact ⟨r1, hok _ _ r2, hfa _ r3⟩
  · intro b hbB hb
    rw [a2] at hb
    rw [hn, hha]; exact h.unready b hbB hb
  · intro X hX hf
    rw [hli]
    exact (h.frozenLines X (by rw [← hha]; exact hX) (hfa' X hf)).mono hgN

/-- Everything `Full` and `BInv` read, and `bNeeded`: only `toDelete` marks and counters may differ. -/
structure Core (st st' : St) : Prop where
  out : st'.out = st.out
  mode : st'.mode = st.mode
  gNeeded : st'.gNeeded = st.gNeeded
  gReady : st'.gReady = st.gReady
  gName : st'.gName = st.gName
  aNeeded : st'.aNeeded = st.aNeeded
  aReady : st'.aReady = st.aReady
  aName : st'.aName = st.aName
  bNeeded : st'.bNeeded = st.bNeeded

theorem Core.refl (st : St) : Core st st := ⟨rfl, rfl, rfl, rfl, rfl, rfl, rfl, rfl, rfl⟩

theorem Core.trans {s1 s2 s3 : St} (h1 : Core s1 s2) (h2 : Core s2 s3) : Core s1 s3 :=
  ⟨h2.out.trans h1.out, h2.mode.trans h1.mode, h2.gNeeded.trans h1.gNeeded, h2.gReady.trans h1.gReady,
   h2.gName.trans h1.gName, h2.aNeeded.trans h1.aNeeded, h2.aReady.trans h1.aReady, h2.aName.trans h1.aName,
   h2.bNeeded.trans h1.bNeeded⟩

theorem Core.hit (st : St) (x : String) : Core st (st.hit x) := ⟨rfl, rfl, rfl, rfl, rfl, rfl, rfl, rfl, rfl⟩

theorem Full.of_core {e : Env} {st st' : St} {d : Dev} (h : Full e st d) (c : Core st st') : Full e st' d :=
  h.of_dev rfl rfl (by unfold ModeRel; rw [c.mode]; exact h.sem.mode) c.gNeeded c.gReady c.gName c.aNeeded c.aReady c.aName

theorem Full.hit {e : Env} {st : St} {d : Dev} (h : Full e st d) (x : String) : Full e (st.hit x) d :=
  h.of_core (Core.hit st x)

theorem Step.of_marks {e : Env} {st st' : St} {d : Dev} (ho : st'.out = st.out)
    (g1 : st'.gNeeded = st.gNeeded) (a1 : st'.aNeeded = st.aNeeded) (a2 : st'.aReady = st.aReady)
    (a3 : st'.aName = st.aName) : Step e st d st' d :=
  ⟨out_refl d ho, fun _ h _ => ⟨h, rfl⟩, fun x hx => by rw [g1]; exact hx,
   fun _ h _ => ⟨h, rfl⟩, fun x hx => by rw [a1]; exact hx,
   fun b hb => ⟨by rw [a2]; exact hb, by simp [St.aNameOf, a3]⟩, rfl⟩

theorem Step.of_core {e : Env} {st st' : St} {d : Dev} (c : Core st st') : Step e st d st' d :=
  Step.of_marks c.out c.gNeeded c.aNeeded c.aReady c.aName

theorem markDeletedAcl_core (e : Env) (st : St) (aN : Name) : Core st (markDeletedAcl e st aN) := by
  unfold markDeletedAcl
  split
  · exact Core.refl st
  · delta markDeletedLines
    exact ⟨rfl, rfl, rfl, rfl, rfl, rfl, rfl, rfl, rfl⟩

theorem AclOK.namesFrozen {e : Env} {st : St} {d : Dev} {ls : List RLine} {bl : List Line} (h : AclOK e st d ls bl) :
    NamesFrozen e st ls := by
  intro l hl x hx
  obtain ⟨i, hi, hli⟩ := List.getElem_of_mem hl
  have hi' : i < bl.length := by rw [← h.1]; exact hi
  have hz : (l, bl[i]) ∈ ls.zip bl := by rw [← hli]; exact mem_zip_of_getElem _ _ i hi hi'
  obtain ⟨_, hlen, hnames⟩ := h.2 _ hz
  obtain ⟨j, hj, hxj⟩ := List.getElem_of_mem hx
  have hz2 : (x, (bl[i]).refs[j]'(by rw [← hlen]; exact hj)) ∈ l.names.zip (bl[i]).refs := by
    rw [← hxj]; exact mem_zip_of_getElem _ _ j hj (by rw [← hlen]; exact hj)
  exact (hnames _ hz2).2.2

theorem LineOK.of_gNeeded {e : Env} {st st' : St} {d : Dev} {l : RLine} {b : Line} (h : LineOK e st d l b)
    (g1 : ∀ x ∈ st.gNeeded, x ∈ st'.gNeeded) : LineOK e st' d l b :=
  ⟨h.1, h.2.1, fun q hq => ⟨(h.2.2 q hq).1, (h.2.2 q hq).2.1, (h.2.2 q hq).2.2.mono g1⟩⟩

theorem aNameOf_head {s : St} {bN aN : Name} {l : List (Name × Name)} (hs : s.aName = (bN, aN) :: l) :
    s.aNameOf bN = aN := by
  simp only [St.aNameOf, hs, List.lookup, name_beq_self, Option.getD_some]

theorem aNameOf_tail {s st : St} {bN aN b : Name} (hs : s.aName = (bN, aN) :: st.aName) (h : b ≠ bN) :
    s.aNameOf b = st.aNameOf b := by
  simp only [St.aNameOf, hs, List.lookup, beq_eq_false_iff_ne.mpr h]

theorem incrementalAcl_full (e : Env) (hw : WF e) (hA : RefsClosedA e) (hB : RefsClosedB e) (st : St) (d : Dev)
    (hF : Full e st d) (aN bN : Name) (haN : aN ∈ A0 e) (hna : aN ∉ st.aNeeded) (hnr : bN ∉ st.aReady)
    (stP : St) (hP : Core { st with aName := (bN, aN) :: st.aName } stP)
    (hscript : scriptOK ((e.aLines aN).map (·.body)) ((e.bLines bN).map (·.body)) (lookupD e.sc.acl (aN, bN)) 0 0 = true)
    (hcheck : planCheck e stP aN bN (lookupD e.sc.acl (aN, bN)) = "hyp:ok")
    (hlenA : RefsMatchBody (e.aLines aN)) (hlenB : RefsMatchBody (e.bLines bN))
    (st' : St) (hst' : st' = { (diffASAACLs e stP aN bN (lookupD e.sc.acl (aN, bN))) with
      aNeeded := addSet aN (diffASAACLs e stP aN bN (lookupD e.sc.acl (aN, bN))).aNeeded,
      aReady := addSet bN (diffASAACLs e stP aN bN (lookupD e.sc.acl (aN, bN))).aReady }) :
    ∃ d', Step e st d st' d' ∧ Full e st' d' ∧ bN ∈ st'.aReady ∧ st'.aNameOf bN = aN ∧ aN ∈ st'.aNeeded ∧
      d'.binds = d.binds ∧ d'.routes = d.routes ∧ st'.bNeeded = st.bNeeded := by
  have hsemP : Sem e stP d := sem_marks hF.sem hP.mode hP.gNeeded hP.gReady hP.gName
  have hal : linesOf d aN = (e.aLines aN).map resolveA := hF.untouched aN haN hna
  obtain ⟨d', l1, hlen, hlines⟩ := acl_pair_converges_checked e hw hA hB stP d hsemP aN bN _ hal hscript hcheck hlenA hlenB
  have hfr := diffASAACLs_aclMarks e stP aN bN (lookupD e.sc.acl (aN, bN))
  generalize diffASAACLs e stP aN bN (lookupD e.sc.acl (aN, bN)) = st3 at l1 hlines hfr hst'
  subst hst'
  have h3n : st3.aNeeded = st.aNeeded := hfr.aNeeded.trans hP.aNeeded
  have h3r : st3.aReady = st.aReady := hfr.aReady.trans hP.aReady
  have h3name : st3.aName = (bN, aN) :: st.aName := hfr.aName.trans hP.aName
  have hnotfrozen : ¬ FrozenAcl e st aN := by
    intro hf; rcases hf with hf | hf
    · exact hna hf
    · exact hf haN
  obtain ⟨cs, ho, he⟩ := l1.out
  have hstepX : StepX e st d { st3 with aNeeded := addSet aN st3.aNeeded, aReady := addSet bN st3.aReady } d' aN := by
    refine ⟨⟨cs, ho.trans (congrArg (· ++ cs) hP.out), he⟩, ?_, ?_, ?_, ?_, ?_, l1.intfs⟩
    · intro x hx hf
      exact ⟨l1.hasMono x hx, l1.stable x hx (hf.mono (fun y hy => hP.gNeeded.symm ▸ hy))⟩
    · intro x hx; exact l1.grow x (hP.gNeeded.symm ▸ hx)
    · intro X hX; exact ⟨hasAcl_congr_keys l1.aclKeys X, l1.others X hX⟩
    · intro x hx; exact mem_addSet.mpr (Or.inr (by rw [h3n]; exact hx))
    · intro b hb
      refine ⟨mem_addSet.mpr (Or.inr (by rw [h3r]; exact hb)), ?_⟩
      exact aNameOf_tail h3name (fun e1 => hnr (e1 ▸ hb))
  have hstep := hstepX.toStep (fun hx => hnotfrozen hx.2)
  have hsem' : Sem e { st3 with aNeeded := addSet aN st3.aNeeded, aReady := addSet bN st3.aReady } d' :=
    sem_marks l1.sem rfl rfl rfl rfl
  have hacl' : hasAcl d' aN = true := by rw [hasAcl_congr_keys l1.aclKeys]; exact hF.devAcls aN haN
  have haclOK : AclOK e { st3 with aNeeded := addSet aN st3.aNeeded, aReady := addSet bN st3.aReady } d'
      (linesOf d' aN) (e.bLines bN) :=
    ⟨hlen, fun p hp => (hlines p hp).of_gNeeded (fun x hx => hx)⟩
  refine ⟨d', hstep, ?_, mem_addSet.mpr (Or.inl rfl), aNameOf_head h3name,
    mem_addSet.mpr (Or.inl rfl), l1.binds, l1.routes, hfr.bNeeded.trans hP.bNeeded⟩
  apply Full.update hF hstep hsem' aN bN (by rw [l1.aclKeys]; exact hF.keysNodup) (fun n hn => hstepX.aStable n hn)
  · exact ⟨hacl', haclOK, Or.inl (mem_addSet.mpr (Or.inl rfl)), haclOK.namesFrozen⟩
  · intro x hx
    exact (mem_addSet.mp hx).symm.imp_left fun h1 => h3n ▸ h1
  · intro b
    show b ∈ addSet bN st3.aReady ↔ _
    rw [mem_addSet, h3r]
  · exact aNameOf_head h3name
  · exact fun b hb => aNameOf_tail h3name hb
  · exact fun hx => hnotfrozen hx.2
  · exact Or.inl haN

def Incr (e : Env) (st : St) (aN bN : Name) : Prop :=
  st.aNeeded.contains aN = false ∧ st.aReady.contains bN = false ∧ (lookupD e.sc.acl (aN, bN)).any (·.isEqual) = true

theorem diffAcl_incr {e : Env} {st : St} {aN bN : Name} (h : Incr e st aN bN) : (diffAcl e st aN bN).2 = aN :=
  diffAcl_cases e st aN bN (P := fun r => r.2 = aN) rfl (fun h1 => absurd h1 (by rw [h.1]; decide))
    (fun _ h2 => absurd h2 (by rw [h.2.1]; decide)) (fun _ _ h3 => absurd h3 (by rw [h.2.2]; decide))
    (fun _ _ _ _ _ => rfl)

/-- That `bN` is an access list of the target is used only where it may be transferred, i.e. outside the incremental branch. -/
theorem diffAcl_full (e : Env) (hw : WF e) (hA : RefsClosedA e) (hB : RefsClosedB e) (st : St) (d : Dev)
    (hF : Full e st d) (aN bN : Name) (haN : aN ∈ A0 e) (hbN : ¬ Incr e st aN bN → bN ∈ BAcls e)
    (hc : aclStepCheck e st aN bN = true) {r : St × Name} (hr : diffAcl e st aN bN = r) :
    ∃ d', Step e st d r.1 d' ∧ Full e r.1 d' ∧ bN ∈ r.1.aReady ∧ r.2 = r.1.aNameOf bN ∧ (r.2 = aN → aN ∈ r.1.aNeeded) ∧
      d'.binds = d.binds ∧ d'.routes = d.routes ∧ r.1.bNeeded = st.bNeeded := by
  unfold aclStepCheck at hc
  apply diffAcl_cases e st aN bN hr
  · -- the device ACL is already used: transfer
    intro h1 st' hst'
    subst hst'
    rw [if_pos h1] at hc
    obtain ⟨d', s1, f1, r1, b1, ro1, n1, bn1⟩ :=
      transferAcl_full e hw hB _ d (hF.hit "acl:device-acl-needed") bN
        (hbN fun h => absurd h1 (by rw [h.1]; decide)) hc
    have s0 : Step e st d (st.hit "acl:device-acl-needed") d := Step.of_core (Core.hit st _)
    refine ⟨d', s0.trans s1, f1, r1, rfl, fun _ => ?_, b1, ro1, bn1⟩
    show aN ∈ (transferAcl e (st.hit "acl:device-acl-needed") bN).aNeeded
    rw [n1]
    have : aN ∈ st.aNeeded := by simpa using h1
    exact this
  · intro h1 h2
    have hb2 : bN ∈ st.aReady := by simpa using h2
    have s0 : Step e st d (st.hit "acl:target-acl-ready") d := Step.of_core (Core.hit st _)
    refine ⟨d, s0, hF.hit _, hb2, rfl, fun hname => ?_, rfl, rfl, rfl⟩
    -- a ready target ACL named like a device ACL that is not needed: impossible
    exfalso
    obtain ⟨_, _, r3⟩ := hF.ready bN hb2
    have hname' : st.aNameOf bN = aN := hname
    rw [hname'] at r3
    rcases r3 with r3 | r3
    · apply h1; simpa using r3
    · exact r3 haN
  · intro h1 h2 h3 st' hst'
    have hna : aN ∉ st.aNeeded := by simpa using h1
    rw [if_neg h1, if_neg h2] at hc
    simp only [h3, Bool.not_false, if_true] at hc
    have cM := (Core.hit st "acl:no-parts-equal").trans (markDeletedAcl_core e _ aN)
    generalize markDeletedAcl e (st.hit "acl:no-parts-equal") aN = stM at hc cM hst'
    subst hst'
    obtain ⟨d', s1, f1, r1, b1, ro1, n1, bn1⟩ := transferAcl_full e hw hB stM d (hF.of_core cM) bN
      (hbN fun h => absurd h3 (by rw [h.2.2]; decide)) hc
    refine ⟨d', (Step.of_core cM).trans s1, f1, r1, rfl, fun hname => ?_, b1, ro1, bn1.trans cM.bNeeded⟩
    exfalso
    -- the transferred ACL carries a generated name, which is frozen; `aN` is a device ACL that is not needed
    have hname' : (transferAcl e stM bN).aNameOf bN = aN := hname
    obtain ⟨_, _, r3⟩ := f1.ready bN r1
    rw [hname'] at r3
    rcases r3 with r3 | r3
    · rw [n1, cM.aNeeded] at r3; exact hna r3
    · exact r3 haN
  · intro h1 h2 h3 st' hst'
    have hnr : bN ∉ st.aReady := by simpa using h2
    have hna : aN ∉ st.aNeeded := by simpa using h1
    rw [if_neg h1, if_neg h2] at hc
    simp only [h3, Bool.not_true, Bool.false_eq_true, if_false, Bool.and_eq_true, beq_iff_eq] at hc
    obtain ⟨⟨⟨c1, c2⟩, c3⟩, c4⟩ := hc
    generalize hP : ({ st with aName := (bN, aN) :: st.aName }.hit "acl:incremental").hit
      (planCheck e st aN bN (lookupD e.sc.acl (aN, bN))) = stP at c2 hst'
    obtain ⟨d', s1, f1, r1, nm1, nd1, b1, ro1, bn1⟩ := incrementalAcl_full e hw hA hB st d hF aN bN haN hna hnr
      stP (hP ▸ (Core.hit _ _).trans (Core.hit _ _)) c1 c2 (RefsMatchBody.of_check c3) (RefsMatchBody.of_check c4)
      { st' with aNeeded := addSet aN st'.aNeeded, aReady := addSet bN st'.aReady } (by rw [hst'])
    exact ⟨d', s1, f1, r1, nm1.symm, fun _ => nd1, b1, ro1, bn1⟩

end NA.F1
