import NA.Proofs.C19Flow
/-!
# C19 — the safety layer (locking, crash-consistent ordering)

Domain `safety`: three facts per program point
* `holds`  — this process holds the flock on `policies/LOCK`;
* `nextOk` — `policies/next` exists and holds a successful compile (and we hold the lock);
* `dirOk`  — the directory `p$POLICY` exists (and we hold the lock).
Their meaning `Γ1` has a fourth clause that is no bit of the domain: `tch` — a process whose ghost
`touched` is set holds the lock.  `one_worker` rests on it.

Requirements checked on the program: every command that writes below `policies/` (other than opening
the lock file) or to the remote runs with `holds`; `mv next $POLICY` runs with `nextOk`; `rm -f $CURRENT` and
`ln -s $POLICY $CURRENT` run with `dirOk`.
-/
namespace NA.C19

structure F1 where
  holds  : Bool
  nextOk : Bool
  dirOk  : Bool
  deriving DecidableEq, Repr

def tf1 (c : Cmd) (a : F1) (ok : Bool) : Option F1 :=
  some <|
    match c with
    | .flockNB => if ok then { a with holds := true } else a
    | .compile => { a with nextOk := ok && a.holds }
    | .rmrfNext | .mkdirNext | .gitClone => { a with nextOk := false }
    | .mvNextTo => { a with nextOk := false, dirOk := a.nextOk }
    | .policyFromCount => { a with dirOk := false }
    | _ => a

def req1 (c : Cmd) (a : F1) : Bool :=
  (!c.mutating || a.holds) &&
  (match c with
   | .mvNextTo => a.nextOk
   | .rmCurrent | .lnCurrent => a.dirOk
   | _ => true)

def safety : Dom where
  F := F1
  le a b := (!b.holds || a.holds) && (!b.nextOk || a.nextOk) && (!b.dirOk || a.dirOk)
  meet a b := ⟨a.holds && b.holds, a.nextOk && b.nextOk, a.dirOk && b.dirOk⟩
  entry := ⟨false, false, false⟩
  tf := tf1
  req := req1

structure Γ1 (a : F1) (g : G) (p : Proc) : Prop where
  holds  : a.holds = true → g.lock = some p.pid
  nextOk : a.nextOk = true → g.lock = some p.pid ∧ ∃ d, g.next = some d ∧ d.built = true
  dirOk  : a.dirOk = true → g.lock = some p.pid ∧ ∃ d, lookupDir g.dirs p.policy = some d
  tch    : p.touched = true → g.lock = some p.pid

theorem Γ1.mono {a b : F1} {g : G} {p : Proc} (h : Γ1 a g p) (hle : safety.le a b = true) : Γ1 b g p := by
  simp only [safety, Bool.and_eq_true] at hle
  obtain ⟨⟨h1, h2⟩, h3⟩ := hle
  exact ⟨fun hb => h.holds (bit_of_le h1 hb), fun hb => h.nextOk (bit_of_le h2 hb), fun hb => h.dirOk (bit_of_le h3 hb),
    h.tch⟩

structure GI1 (g : G) : Prop where
  dirs : ∀ n d, lookupDir g.dirs n = some d → d.built = true
  cur  : ∀ n, g.current = some n → ∃ d, lookupDir g.dirs n = some d

theorem GI1.currentOK {g : G} (h : GI1 g) : g.currentOK = true := by
  unfold G.currentOK
  cases hc : g.current with
  | none => rfl
  | some n =>
    obtain ⟨d, hd⟩ := h.cur n hc
    simp [hd, h.dirs n d hd]

theorem mut_holds {c : Cmd} {a : F1} {g : G} {p : Proc} (hΓ : Γ1 a g p) (hreq : req1 c a = true)
    (hm : c.mutating = true) : g.lock = some p.pid := by
  simp only [req1, hm, Bool.and_eq_true] at hreq
  exact hΓ.holds hreq.1

/-- The facts that survive a command whatever it does. -/
def F1.kept (a : F1) (c : Cmd) : F1 := ⟨a.holds, !c.wBuilt && a.nextOk, !c.wPolicy && a.dirOk⟩

theorem keep1 {i : Instr} {a : F1} {g : G} {p : Proc} (hΓ : Γ1 a g p)
    (hmut : i.cmd.mutating = true → g.lock = some p.pid) : Γ1 (a.kept i.cmd) (exec i.cmd g p).1 (after i g p) := by
  refine ⟨fun hf => exec_lock_after (hΓ.holds hf), fun hf => ?_, fun hf => ?_, fun ht => ?_⟩
  · simp only [F1.kept, Bool.and_eq_true, Bool.not_eq_true'] at hf
    exact ⟨exec_lock_after (hΓ.nextOk hf.2).1, (frame i.cmd g p).built (hΓ.nextOk hf.2).2 hf.1⟩
  · simp only [F1.kept, Bool.and_eq_true, Bool.not_eq_true'] at hf
    refine ⟨exec_lock_after (hΓ.dirOk hf.2).1, ?_⟩
    show ∃ d, lookupDir _ (exec i.cmd g p).2.1.policy = some d
    rw [(frame i.cmd g p).policy hf.1]; exact exec_dirs_mono g p (hΓ.dirOk hf.2).2
  · have ht' : ((exec i.cmd g p).2.1.touched || i.cmd.mutating) = true := ht
    rw [(frame i.cmd g p).touched, Bool.or_eq_true] at ht'
    exact exec_lock_after (ht'.elim hΓ.tch hmut)

theorem own1 {i : Instr} {a x : F1} {g : G} {p : Proc} (hΓ : Γ1 a g p) (hreq : req1 i.cmd a = true)
    (htf : tf1 i.cmd a (exec i.cmd g p).2.2 = some x) : Γ1 x (exec i.cmd g p).1 (after i g p) := by
  have hK := keep1 (i := i) hΓ (mut_holds hΓ hreq)
  obtain ⟨line, c, kok, kfail, vis, inh⟩ := i
  cases c
  case flockNB =>
    cases hok : (exec Cmd.flockNB g p).2.2 <;> rw [hok] at htf <;> cases htf
    · exact hK
    · exact { hK with holds := fun _ => by rw [after_pid]; exact flock_ok hok }
  case compile =>
    cases htf
    refine { hK with nextOk := fun (hf : ((exec Cmd.compile g p).2.2 && a.holds) = true) => ?_ }
    simp only [Bool.and_eq_true] at hf
    exact ⟨exec_lock_after (hΓ.holds hf.2), compile_ok hf.1⟩
  case mvNextTo =>
    cases htf
    refine { hK with dirOk := fun hf => ⟨exec_lock_after (hΓ.nextOk hf).1, ?_⟩ }
    show ∃ d, lookupDir _ (exec Cmd.mvNextTo g p).2.1.policy = some d
    rw [(frame _ g p).policy rfl]; exact mv_dir (hΓ.nextOk hf).2
  all_goals (cases htf; exact hK)

/-- If the lock is held by somebody else, none of `q`'s facts can be claimed. -/
theorem Γ1.vacuous {b : F1} {g g' : G} {q : Proc} {pid : Nat} (h : Γ1 b g q) (hl : g.lock = some pid)
    (hne : q.pid ≠ pid) : Γ1 b g' q := by
  have no := not_holder hl hne
  exact ⟨fun hb => (no (h.holds hb)).elim, fun hb => (no (h.nextOk hb).1).elim,
         fun hb => (no (h.dirOk hb).1).elim, fun hb => (no (h.tch hb)).elim⟩

/-- Steps of another process do not disturb `q`'s facts (that process writes only under the lock). -/
theorem other1 {c : Cmd} {b : F1} {g : G} {p q : Proc} (h : Γ1 b g q) (hne : q.pid ≠ p.pid)
    (hmut : c.mutating = true → g.lock = some p.pid) : Γ1 b (exec c g p).1 q := by
  cases hm : c.mutating
  · obtain ⟨_, _, _, _, _, w6, w7⟩ := nonmut_writes hm
    refine ⟨fun hb => exec_lock_other (h.holds hb), fun hb => ⟨exec_lock_other (h.nextOk hb).1, ?_⟩,
      fun hb => ⟨exec_lock_other (h.dirOk hb).1, ?_⟩, fun hb => exec_lock_other (h.tch hb)⟩
    · rw [(frame c g p).next w6]; exact (h.nextOk hb).2
    · rw [(frame c g p).dirs w7]; exact (h.dirOk hb).2
  · exact h.vacuous (hmut hm) hne

theorem Γ1.release {b : F1} {g : G} {q : Proc} {pid : Nat} (h : Γ1 b g q) (hne : q.pid ≠ pid) :
    Γ1 b (release g pid) q :=
  release_ind g pid h fun hl => h.vacuous hl hne

theorem GI1.congr {g g' : G} (h : GI1 g) (h1 : g'.dirs = g.dirs) (h2 : g'.current = g.current) : GI1 g' :=
  ⟨fun n d => by rw [h1]; exact h.dirs n d, fun n => by rw [h1, h2]; exact h.cur n⟩

theorem GI1.release {g : G} {pid : Nat} (h : GI1 g) : GI1 (release g pid) :=
  release_ind g pid h fun _ => h.congr rfl rfl

theorem dirOk_of_wCurrent {c : Cmd} {a : F1} (hw : c.wCurrent = true) (hreq : req1 c a = true) : a.dirOk = true := by
  cases c <;> cases hw <;> (simp only [req1, Bool.and_eq_true] at hreq; exact hreq.2)

theorem gi1_exec {c : Cmd} {a : F1} {g : G} {p : Proc} (h : GI1 g) (hΓ : Γ1 a g p) (hreq : req1 c a = true) :
    GI1 (exec c g p).1 := by
  constructor
  · apply exec_dirs_built g p h.dirs
    intro hc; subst hc
    simp [req1] at hreq
    exact (hΓ.nextOk hreq.2).2
  · intro n hn
    cases hw : c.wCurrent
    · rw [(frame c g p).current hw] at hn
      exact exec_dirs_mono g p (h.cur n hn)
    · have hd := (hΓ.dirOk (dirOk_of_wCurrent hw hreq)).2
      cases c <;> cases hw
      · -- rm -f $CURRENT
        simp [exec] at hn
      · -- ln -s $POLICY $CURRENT
        simp only [exec] at hn ⊢
        split at hn
        · simp at hn; subst hn; exact hd
        · next k hk => simp at hn; simpa using h.cur n (by simp_all)

structure Inv1 (ann : Ann safety) (s : State) : Prop where
  gi    : GI1 s.g
  uniq  : UniquePids s.procs
  fresh : ∀ p ∈ s.procs, p.pid < s.npid
  procs : ∀ p ∈ s.procs, p.alive = true → ∃ a, safety.at ann p.pc = some a ∧ Γ1 a s.g p

theorem inv1_init {ann : Ann safety} (se : Bool) :
    Inv1 ann (init se) :=
  ⟨⟨fun n d h => by simp [init, lookupDir] at h, fun n h => by simp [init] at h⟩,
   fun p hp => by simp [init] at hp, fun p hp => by simp [init] at hp, fun p hp => by simp [init] at hp⟩

theorem Γ1_entry (g : G) (p : Proc) (hp : p.touched = false) : Γ1 safety.entry g p :=
  ⟨fun h => (nomatch h), fun h => (nomatch h), fun h => (nomatch h), fun h => by rw [hp] at h; cases h⟩

theorem Inv1.mut_holds {prog : Prog} {ann : Ann safety} (hc : check safety prog ann = true) {s : State}
    (hinv : Inv1 ann s) {p : Proc} (hp : p ∈ s.procs) (hal : p.alive = true) {i : Instr}
    (hi : instrAt prog p.pc = some i) (hm : i.cmd.mutating = true) : s.g.lock = some p.pid := by
  obtain ⟨a, ha, hΓ⟩ := hinv.procs p hp hal
  exact NA.C19.mut_holds hΓ (check_step hc hi ha).1 hm

theorem inv1_stepCore {prog : Prog} {ann : Ann safety} (hc : check safety prog ann = true) {s : State}
    (hinv : Inv1 ann s) (e : Event) : Inv1 ann (stepCore prog s e) := by
  have hgi := hinv.gi
  have hs := core_stepCore prog s e
  generalize stepCore prog s e = s' at hs ⊢
  have repl : ∀ p ∈ s.procs, ∀ p' : Proc, p'.pid = p.pid → ∀ q ∈ replaceProc s.procs p', q.pid < s.npid := by
    intro p hp p' hpid q hq
    rcases mem_replaceProc hq with ⟨rfl, _⟩ | ⟨hq1, _⟩
    · rw [hpid]; exact hinv.fresh p hp
    · exact hinv.fresh q hq1
  refine ⟨?_, ?_, ?_, ?_⟩
  · refine hs.global hgi (fun _ _ _ _ => hgi.congr rfl rfl) (fun _ => hgi.release) (fun p i hf hal hi _ _ => ?_)
    obtain ⟨a, ha, hΓ⟩ := hinv.procs p (findProc_some hf).1 hal
    exact gi1_exec hgi hΓ (check_step hc hi ha).1
  · cases hs with
    | idle => exact hinv.uniq
    | commit => exact hinv.uniq
    | spawn =>
      intro p hp q hq hpq
      rcases List.mem_append.mp hp with hp | hp <;> rcases List.mem_append.mp hq with hq | hq
      · exact hinv.uniq p hp q hq hpq
      · obtain rfl := List.mem_singleton.mp hq; have := hinv.fresh p hp; simp at hpq; omega
      · obtain rfl := List.mem_singleton.mp hp; have := hinv.fresh q hq; simp at hpq; omega
      · rw [List.mem_singleton.mp hp, List.mem_singleton.mp hq]
    | gone => exact unique_replaceProc hinv.uniq
    | cmd => exact unique_replaceProc hinv.uniq
  · cases hs with
    | idle => exact hinv.fresh
    | commit => exact hinv.fresh
    | spawn =>
      intro p hp
      rcases List.mem_append.mp hp with hp | hp
      · have := hinv.fresh p hp; show p.pid < s.npid + 1; omega
      · obtain rfl := List.mem_singleton.mp hp; show s.npid < s.npid + 1; omega
    | gone _ p x hf => exact repl p (findProc_some hf).1 _ rfl
    | cmd p i hf => exact repl p (findProc_some hf).1 _ (after_pid i s.g p)
  · exact hs.annotated (D := safety) (Γ := Γ1) hc Γ1.mono hinv.procs (Γ1_entry _ _ rfl)
      (fun _ _ _ hg p _ _ b h => hg ▸ ⟨h.holds, h.nextOk, h.dirOk, h.tch⟩)
      (fun pid q _ hne b h => h.release hne)
      (fun p hp hal i a hi hne _ ha hΓ hreq => ⟨_, rfl, own1 hΓ hreq rfl⟩)
      (fun p hp hal i hi q hq hne b h => other1 h hne (hinv.mut_holds hc hp hal hi))

theorem Inv1.dying {ann : Ann safety} {s : State} {d : List Nat} (h : Inv1 ann s) : Inv1 ann { s with dying := d } :=
  ⟨h.gi, h.uniq, h.fresh, h.procs⟩

/-- A live process that has started to write, or is about to. -/
def works (prog : Prog) (p : Proc) : Bool :=
  p.alive && (p.touched || ((instrAt prog p.pc).map (·.cmd.mutating)).getD false)

theorem works_holds {prog : Prog} {ann : Ann safety} (hc : check safety prog ann = true) {s : State}
    (hinv : Inv1 ann s) {p : Proc} (hp : p ∈ s.procs) (hw : works prog p = true) : s.g.lock = some p.pid := by
  simp only [works, Bool.and_eq_true, Bool.or_eq_true] at hw
  obtain ⟨hal, hw | hw⟩ := hw
  · obtain ⟨a, _, hΓ⟩ := hinv.procs p hp hal
    exact hΓ.tch hw
  · cases hi : instrAt prog p.pc with
    | none => simp [hi] at hw
    | some i => exact hinv.mut_holds hc hp hal hi (by simpa [hi] using hw)

theorem one_worker {prog : Prog} {ann : Ann safety} (hc : check safety prog ann = true) {s : State}
    (hinv : Inv1 ann s) {p q : Proc} (hp : p ∈ s.procs) (hq : q ∈ s.procs)
    (wp : works prog p = true) (wq : works prog q = true) : p = q ∧ s.g.lock = some p.pid := by
  have h1 := works_holds hc hinv hp wp
  have h2 := works_holds hc hinv hq wq
  rw [h1] at h2
  injection h2 with h2
  exact ⟨hinv.uniq p hp q hq h2, h1⟩

theorem current_changeCore {prog : Prog} {ann : Ann safety} (hc : check safety prog ann = true) {s : State}
    (hinv : Inv1 ann s) (e : Event) (hch : (stepCore prog s e).g.current ≠ s.g.current) :
    ∃ pid p d, e = .step pid ∧ findProc s.procs pid = some p ∧ p.alive = true ∧
      s.g.lock = some p.pid ∧ lookupDir s.g.dirs p.policy = some d ∧ d.built = true := by
  refine (core_stepCore prog s e).global (I := fun g => g.current ≠ s.g.current → _) (fun h => absurd rfl h)
    (fun _ _ _ _ h => absurd rfl h) (fun pid h => ?_) (fun p i hf hal hi _ he h => ?_) hch
  · exact absurd (release_ind (motive := fun x => x.current = s.g.current) s.g pid rfl fun _ => rfl) h
  · -- only `rm -f $CURRENT` and `ln -s $POLICY $CURRENT` write the link, and they require `dirOk`
    obtain ⟨a, ha, hΓ⟩ := hinv.procs p (findProc_some hf).1 hal
    have hd : a.dirOk = true := by
      cases hw : i.cmd.wCurrent
      · exact absurd ((frame i.cmd s.g p).current hw) h
      · exact dirOk_of_wCurrent hw (check_step hc hi ha).1
    obtain ⟨hl, d, hd2⟩ := hΓ.dirOk hd
    exact ⟨p.pid, p, d, he, hf, hal, hl, hd2, hinv.gi.dirs _ _ hd2⟩

theorem kill_current {prog : Prog} (s : State) (pid : Nat) : (stepCore prog s (.kill pid)).g.current = s.g.current := by
  simp only [stepCore]
  split
  · split
    · simp only [release]; split <;> rfl
    · rfl
  · rfl

theorem current_change {prog : Prog} {ann : Ann safety} (hinh : inhOK prog = true) (hc : check safety prog ann = true)
    {s : State} (hinv : Inv1 ann s) (e : Event) (hch : (step prog s e).g.current ≠ s.g.current) :
    ∃ pid p d, e = .step pid ∧ findProc s.procs pid = some p ∧ p.alive = true ∧
      s.g.lock = some p.pid ∧ lookupDir s.g.dirs p.policy = some d ∧ d.built = true := by
  rcases step_cases hinh s e with ⟨e', he, rfl | ⟨pid, rfl, rfl⟩⟩ | ⟨pid, p, _, _, he⟩ | ⟨pid, rfl, he⟩ <;> rw [he] at hch
  · exact current_changeCore hc hinv _ hch
  · exact absurd (kill_current s pid) hch
  · exact absurd rfl hch
  · rw [kill_current] at hch
    exact current_changeCore hc hinv (.step pid) hch

end NA.C19
