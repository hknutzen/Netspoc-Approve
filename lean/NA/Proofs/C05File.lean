import NA.Proofs.C05Words
import NA.Spec.LinuxOracle
/-!
C05: `parseIPTables` on a whole file.  What it accepts has distinct table names and, per table, distinct chain names
(`parseIPTables_wft`); the text of an abstract rule set whose names are distinct words — in either spelling, with or
without the `[0:0]` counters — is parsed to an explicitly given value (`mkTables`).
-/
namespace NA.C05
open NA.Linux NA.Linux.Spec

def WFT (tb : Tables) : Prop := (keysA tb).Nodup ∧ ∀ t cm, getA t tb = some cm → (keysA cm).Nodup

theorem WFT_set (tb : Tables) (t : Str) (cm : Chains) (h : WFT tb) (hc : (keysA cm).Nodup) : WFT (setA t cm tb) := by
  refine ⟨setA_nodup t cm tb h.1, ?_⟩
  intro t' cm' hg
  rw [getA_setA] at hg
  split at hg
  · cases hg; exact hc
  · exact h.2 t' cm' hg

theorem getD_nodup (tb : Tables) (t : Str) (h : WFT tb) : (keysA ((getA t tb).getD [])).Nodup := by
  cases hg : getA t tb with
  | none => exact List.nodup_nil
  | some cm => exact h.2 t cm hg

theorem parseIptLine_wft (st st' : PState) (line : Str) (h : parseIptLine st line = .ok st') (hw : WFT st.tb) :
    WFT st'.tb := by
  unfold parseIptLine at h
  split at h
  · cases h; exact hw
  · cases h; exact hw
  · split at h
    · cases h
    · injection h with h; rw [← h]; exact WFT_set _ _ _ hw List.nodup_nil
  · split at h
    · cases h
    · split at h
      · simp only at h
        split at h
        · cases h
        · cases h
          exact WFT_set _ _ _ hw (setA_nodup _ _ _ (getD_nodup _ _ hw))
      · cases h; exact hw
  · split at h
    · cases h
    · simp only at h
      split at h
      · cases h; exact hw
      · split at h
        · cases h
        · split at h
          · cases h
          · split at h
            · cases h
            · split at h
              · cases h
              · cases h
                exact WFT_set _ _ _ hw (setA_nodup _ _ _ (getD_nodup _ _ hw))
  · split at h
    · cases h; exact hw
    · split at h
      · cases h; exact hw
      · cases h

theorem aux_cons_ok {l : Str} {ls : List Str} {st st' : PState} (h : parseIptLine st (trimSpace l) = .ok st') :
    parseIPTablesAux (l :: ls) st = parseIPTablesAux ls st' := by
  simp [parseIPTablesAux, h, bind, Except.bind]

theorem parseIPTablesAux_wft : ∀ (lines : List Str) (st st' : PState),
    parseIPTablesAux lines st = .ok st' → WFT st.tb → WFT st'.tb := by
  intro lines
  induction lines with
  | nil => intro st st' h hw; cases h; exact hw
  | cons l ls ih =>
    intro st st' h hw
    cases h1 : parseIptLine st (trimSpace l) with
    | error e => simp [parseIPTablesAux, h1, bind, Except.bind] at h
    | ok st1 => exact ih st1 st' (aux_cons_ok h1 ▸ h) (parseIptLine_wft st st1 _ h1 hw)

theorem parseIPTables_wft (lines : List Str) (tb : Tables) (h : parseIPTables lines = .ok tb) : WFT tb := by
  simp only [parseIPTables, bind, Except.bind] at h
  cases h1 : parseIPTablesAux lines {} with
  | error e => simp [h1] at h
  | ok st =>
    simp only [h1, pure, Except.pure, Except.ok.injEq] at h
    rw [← h]
    exact parseIPTablesAux_wft lines {} st h1 ⟨List.nodup_nil, nofun⟩

def appendRule (cm : Chains) (cn : Str) (ru : Rule) : Chains :=
  cm.map fun p => if p.1 = cn then (p.1, { p.2 with rules := p.2.rules ++ [ru] }) else p

theorem appendRule_keys (cm : Chains) (cn : Str) (ru : Rule) : keysA (appendRule cm cn ru) = keysA cm := by
  simp only [keysA, appendRule, List.map_map]
  apply List.map_congr_left
  intro p _
  simp only [Function.comp]
  split <;> rfl

theorem setA_appendRule (cm : Chains) (cn : Str) (ch : Chain) (ru : Rule) (hn : (keysA cm).Nodup)
    (hg : getA cn cm = some ch) :
    setA cn { ch with rules := ch.rules ++ [ru] } cm = appendRule cm cn ru := by
  induction cm with
  | nil => simp [getA] at hg
  | cons x xs ih =>
    obtain ⟨k0, v0⟩ := x
    simp only [keysA, List.map_cons, List.nodup_cons] at hn
    by_cases h0 : k0 = cn
    · subst h0
      simp only [getA, ↓reduceIte, Option.some.injEq] at hg
      subst hg
      have hrest : xs.map (fun p => if p.1 = k0 then (p.1, { p.2 with rules := p.2.rules ++ [ru] }) else p) = xs :=
        ListFacts.map_eq_self fun p hp => by
          have : ¬ p.1 = k0 := fun e => hn.1 (by rw [← e]; exact List.mem_map_of_mem (f := fun x => x.fst) hp)
          simp [this]
      simp [setA, appendRule, hrest]
    · simp only [getA, h0, ↓reduceIte] at hg
      simp only [setA, h0, ↓reduceIte, appendRule, List.map_cons]
      have := ih hn.2 hg
      simp only [appendRule] at this
      rw [this]

def addRules (cm : Chains) (l : List (Str × Rule)) : Chains := l.foldl (fun cm q => appendRule cm q.1 q.2) cm

theorem addRules_keys (cm : Chains) (l : List (Str × Rule)) : keysA (addRules cm l) = keysA cm := by
  induction l generalizing cm with
  | nil => rfl
  | cons q qs ih => simp only [addRules, List.foldl_cons] at ih ⊢; rw [ih, appendRule_keys]

theorem addRules_eq (cm : Chains) (l : List (Str × Rule)) :
    addRules cm l = cm.map fun p =>
      (p.1, { p.2 with rules := p.2.rules ++ (l.filter (fun q => q.1 = p.1)).map (·.2) }) := by
  induction l generalizing cm with
  | nil => simp [addRules]
  | cons q qs ih =>
    simp only [addRules, List.foldl_cons] at ih ⊢
    rw [ih, appendRule, List.map_map]
    apply List.map_congr_left
    intro p _
    simp only [Function.comp]
    by_cases h : p.1 = q.1
    · simp [h]
    · simp [h, Ne.symm h]

structure SpellOK (sp : ARule → List OptW) (r : ARule) : Prop where
  ok : ∀ o ∈ sp r, OptOK o
  tok : ∀ o ∈ sp r, ∀ w ∈ o.words, Tok w

def wordsOf (sp : ARule → List OptW) (r : ARule) : List Str := (sp r).flatMap OptW.words

/-- What the parser makes of one rule line. -/
def mkRule (sp : ARule → List OptW) (cn : Str) (r : ARule) : Rule :=
  { orig := ruleText cn (wordsOf sp r), pairs := normalize (pairsOf (sp r) []), app := false }

theorem ruleText_shape (cn : Str) (ws : List Str) :
    ruleText cn ws = '-' :: 'A' :: ' ' :: joinWith [' '] (cn :: ws) := by
  simp [ruleText, joinWith, s]

theorem ruleLine_toks (sp : ARule → List OptW) (cn : Str) (r : ARule) (hcn : Tok cn) (h : SpellOK sp r) :
    ∀ x ∈ s "-A" :: cn :: wordsOf sp r, Tok x :=
  tok_cons2 (by decide) hcn (List.forall_mem_flatMap.2 h.tok)

theorem line_rule (sp : ARule → List OptW) (tb : Tables) (t cn : Str) (r : ARule) (cm : Chains) (ch : Chain)
    (hcn : Tok cn) (h : SpellOK sp r) (hcm : getA t tb = some cm) (hg : getA cn cm = some ch) :
    parseIptLine { tb := tb, cur := some t, app := false } (trimSpace (ruleText cn (wordsOf sp r))) =
      .ok { tb := setA t (setA cn { ch with rules := ch.rules ++ [mkRule sp cn r] } cm) tb,
            cur := some t, app := false } := by
  have htoks := ruleLine_toks sp cn r hcn h
  have htrim : trimSpace (ruleText cn (wordsOf sp r)) = ruleText cn (wordsOf sp r) :=
    trimSpace_join _ (by simp) htoks
  have hf : fields (ruleText cn (wordsOf sp r)) = s "-A" :: cn :: wordsOf sp r := fields_join _ htoks
  have hp : parsePairs (wordsOf sp r) = some (pairsOf (sp r) []) := parsePairs_words _ h.ok
  rw [htrim]
  have hshape := ruleText_shape cn (wordsOf sp r)
  generalize hline : ruleText cn (wordsOf sp r) = line at hshape hf
  subst hshape
  simp only [parseIptLine, hf, ne_eq, not_true_eq_false, ↓reduceIte, hcm, Option.getD_some, hg, hp, mkRule, hline]

theorem line_chain (tb : Tables) (t cn pol : Str) (sfx : List Str) (cm : Chains) (hcn : Tok cn) (hpol : Tok pol)
    (hsfx : ∀ x ∈ sfx, Tok x) (hcm : getA t tb = some cm) (hnew : cn ∉ keysA cm) :
    parseIptLine { tb := tb, cur := some t, app := false } (trimSpace (':' :: joinWith [' '] (cn :: pol :: sfx))) =
      .ok { tb := setA t (setA cn { policy := pol } cm) tb, cur := some t, app := false } := by
  have htoks := tok_cons2 hcn hpol hsfx
  rw [trimSpace_cons_join ':' rfl _ (by simp) htoks]
  simp only [parseIptLine, fields_join _ htoks, hcm, Option.getD_some, hasA_of_not_mem hnew, Bool.false_eq_true, ↓reduceIte]

theorem line_table (st : PState) (name : Str) (hn : Tok name) (hnew : name ∉ keysA st.tb) :
    parseIptLine st (trimSpace ('*' :: name)) = .ok { tb := setA name [] st.tb, cur := some name, app := false } := by
  rw [trimSpace_cons_tok '*' rfl hn]
  simp only [parseIptLine, hasA_of_not_mem hnew, Bool.false_eq_true, ↓reduceIte]

theorem trimSpace_commit : trimSpace (s "COMMIT") = s "COMMIT" := by decide

theorem line_commit (st : PState) : parseIptLine st (trimSpace (s "COMMIT")) = .ok st := by
  rw [trimSpace_commit]; rfl

/-- Lines the parser skips: comment lines of iptables-save and blank lines. -/
def Ignorable (x : Str) : Prop := (∃ r, trimSpace x = '#' :: r) ∨ trimSpace x = []

theorem trimLeftSpace_hash (y : Str) : ∃ y', trimLeftSpace (y ++ ['#']) = y' ++ ['#'] := by
  induction y with
  | nil => exact ⟨[], rfl⟩
  | cons c cs ih =>
    simp only [List.cons_append, trimLeftSpace]
    split
    · exact ih
    · exact ⟨c :: cs, rfl⟩

theorem ignorable_hash {x : Str} (h : x.head? = some '#') : Ignorable x := by
  cases x with
  | nil => cases h
  | cons c r =>
    cases h
    obtain ⟨y', hy⟩ := trimLeftSpace_hash r.reverse
    refine Or.inl ⟨y'.reverse, ?_⟩
    show (trimLeftSpace (List.reverse ('#' :: r))).reverse = _
    rw [List.reverse_cons, hy, List.reverse_append]
    rfl

theorem line_comment (st : PState) (x : Str) (h : Ignorable x) : parseIptLine st (trimSpace x) = .ok st := by
  rcases h with ⟨r, hr⟩ | hr
  · rw [hr]; rfl
  · rw [hr]; rfl

def chainLine (sfx : List Str) (c : AChain) : Str := ':' :: joinWith [' '] (c.name :: c.policy :: sfx)

def declOf (c : AChain) : Str × Chain := (c.name, { policy := c.policy })

theorem block_decls (sfx : List Str) (hsfx : ∀ x ∈ sfx, Tok x) (done : Tables) (name : Str)
    (hname : name ∉ keysA done) : ∀ (cs : List AChain) (cm : Chains) (rest : List Str),
    (∀ c ∈ cs, Tok c.name ∧ Tok c.policy) → (cs.map (·.name)).Nodup → (∀ c ∈ cs, c.name ∉ keysA cm) →
    parseIPTablesAux (cs.map (chainLine sfx) ++ rest) { tb := done ++ [(name, cm)], cur := some name, app := false } =
      parseIPTablesAux rest { tb := done ++ [(name, cm ++ cs.map declOf)], cur := some name, app := false } := by
  intro cs
  induction cs with
  | nil => intro cm rest _ _ _; simp
  | cons c cs ih =>
    intro cm rest htok hnd hdis
    simp only [List.map_cons, List.nodup_cons] at hnd
    obtain ⟨hc, htok⟩ := List.forall_mem_cons.1 htok
    obtain ⟨hdc, hdis⟩ := List.forall_mem_cons.1 hdis
    have hl := line_chain (done ++ [(name, cm)]) name c.name c.policy sfx cm hc.1 hc.2 hsfx
      (getA_last name cm done hname) hdc
    rw [setA_last name _ _ done hname, setA_new c.name _ cm hdc] at hl
    rw [List.map_cons, List.cons_append, aux_cons_ok (l := chainLine sfx c) hl, ih _ rest htok hnd.2 fun x hx =>
      not_mem_keysA_snoc.mpr ⟨hdis x hx, fun e => hnd.1 (by rw [← e]; exact List.mem_map_of_mem hx)⟩]
    simp [declOf]

theorem block_rules (sp : ARule → List OptW) (done : Tables) (name : Str) (hname : name ∉ keysA done) :
    ∀ (rs : List (Str × ARule)) (cm : Chains) (rest : List Str), (keysA cm).Nodup →
    (∀ p ∈ rs, Tok p.1 ∧ p.1 ∈ keysA cm ∧ SpellOK sp p.2) →
    parseIPTablesAux (rs.map (fun p => ruleText p.1 (wordsOf sp p.2)) ++ rest)
        { tb := done ++ [(name, cm)], cur := some name, app := false } =
      parseIPTablesAux rest
        { tb := done ++ [(name, addRules cm (rs.map fun p => (p.1, mkRule sp p.1 p.2)))], cur := some name, app := false } := by
  intro rs
  induction rs with
  | nil => intro cm rest _ _; simp [addRules]
  | cons p rs ih =>
    intro cm rest hnd hall
    obtain ⟨⟨h1, h2, h3⟩, hall⟩ := List.forall_mem_cons.1 hall
    obtain ⟨ch, hch⟩ := (mem_keysA_iff p.1 cm).mp h2
    have hl := line_rule sp (done ++ [(name, cm)]) name p.1 p.2 cm ch h1 h3 (getA_last name cm done hname) hch
    rw [setA_last name _ _ done hname, setA_appendRule cm p.1 ch _ hnd hch] at hl
    rw [List.map_cons, List.cons_append, aux_cons_ok hl,
      ih _ rest (by rw [appendRule_keys]; exact hnd) (by rw [appendRule_keys]; exact hall)]
    simp [addRules]

def mkChains (sp : ARule → List OptW) (tbl : ATable) : Chains :=
  tbl.chains.map fun c => (c.name, { policy := c.policy, rules := c.rules.map (mkRule sp c.name) })

def mkTables (sp : ARule → List OptW) (a : AState) : Tables := a.map fun tbl => (tbl.name, mkChains sp tbl)

def blockLines (sfx : List Str) (sp : ARule → List OptW) (tbl : ATable) : List Str :=
  ['*' :: tbl.name] ++ tbl.chains.map (chainLine sfx) ++
  (tbl.chains.flatMap fun c => c.rules.map fun r => ruleText c.name (wordsOf sp r)) ++ [s "COMMIT"]

structure TableOK (sp : ARule → List OptW) (tbl : ATable) : Prop where
  name : Tok tbl.name
  chains : ∀ c ∈ tbl.chains, Tok c.name ∧ Tok c.policy
  nodup : (tbl.chains.map (·.name)).Nodup
  rules : ∀ c ∈ tbl.chains, ∀ r ∈ c.rules, SpellOK sp r

theorem rules_of_chain (sp : ARule → List OptW) (tbl : ATable) (h : TableOK sp tbl) :
    addRules (tbl.chains.map declOf)
      ((tbl.chains.flatMap fun c => c.rules.map fun r => (c.name, r)).map fun p => (p.1, mkRule sp p.1 p.2)) =
    mkChains sp tbl := by
  rw [addRules_eq, mkChains, List.map_map]
  apply List.map_congr_left
  intro c hc
  have e : ((tbl.chains.flatMap fun c => c.rules.map fun r => (c.name, r)).map fun p => (p.1, mkRule sp p.1 p.2)) =
      tbl.chains.flatMap fun x => (x.rules.map (mkRule sp x.name)).map fun y => (x.name, y) := by
    simp only [List.map_flatMap, List.map_map]; rfl
  have hf := filter_flatMap_key (fun x : AChain => x.name) (fun x => x.rules.map (mkRule sp x.name)) _ c h.nodup hc
  rw [e]
  exact congrArg (fun l => (c.name, ({ policy := c.policy, rules := l } : Chain))) hf

theorem keysA_decls (cs : List AChain) : keysA (cs.map declOf) = cs.map (·.name) := by
  simp [keysA, declOf, List.map_map, Function.comp_def]

theorem block_ok (sfx : List Str) (hsfx : ∀ x ∈ sfx, Tok x) (sp : ARule → List OptW) (tbl : ATable)
    (h : TableOK sp tbl) (done : Tables) (hname : tbl.name ∉ keysA done) (c0 : Option Str) (a0 : Bool)
    (rest : List Str) :
    parseIPTablesAux (blockLines sfx sp tbl ++ rest) { tb := done, cur := c0, app := a0 } =
      parseIPTablesAux rest { tb := done ++ [(tbl.name, mkChains sp tbl)], cur := some tbl.name, app := false } := by
  have hrl : (tbl.chains.flatMap fun c => c.rules.map fun r => ruleText c.name (wordsOf sp r)) =
      (tbl.chains.flatMap fun c => c.rules.map fun r => (c.name, r)).map (fun p => ruleText p.1 (wordsOf sp p.2)) := by
    simp only [List.map_flatMap, List.map_map]; rfl
  unfold blockLines
  rw [hrl]
  simp only [List.append_assoc, List.cons_append, List.nil_append]
  rw [aux_cons_ok (line_table { tb := done, cur := c0, app := a0 } tbl.name h.name hname),
    setA_new tbl.name [] done hname,
    block_decls sfx hsfx done tbl.name hname tbl.chains [] _ h.chains h.nodup (fun _ _ => List.not_mem_nil)]
  simp only [List.nil_append]
  rw [block_rules sp done tbl.name hname _ _ _ (by rw [keysA_decls]; exact h.nodup)
    (List.forall_mem_flatMap.2 fun c hc => List.forall_mem_map.2 fun r hr =>
      ⟨(h.chains c hc).1, by rw [keysA_decls]; exact List.mem_map_of_mem hc, h.rules c hc r hr⟩)]
  rw [aux_cons_ok (line_commit _), rules_of_chain sp tbl h]

structure StateOK (sp : ARule → List OptW) (a : AState) : Prop where
  tables : ∀ tbl ∈ a, TableOK sp tbl
  nodup : (a.map (·.name)).Nodup

theorem file_ok (sfx : List Str) (hsfx : ∀ x ∈ sfx, Tok x) (sp : ARule → List OptW) :
    ∀ (a : AState) (done : Tables) (c0 : Option Str) (rest : List Str), StateOK sp a →
    (∀ tbl ∈ a, tbl.name ∉ keysA done) →
    ∃ c', parseIPTablesAux (a.flatMap (blockLines sfx sp) ++ rest) { tb := done, cur := c0, app := false } =
      parseIPTablesAux rest { tb := done ++ mkTables sp a, cur := c', app := false } := by
  intro a
  induction a with
  | nil => intro done c0 rest _ _; exact ⟨c0, by simp [mkTables]⟩
  | cons tbl ts ih =>
    intro done c0 rest hok hdis
    have hnd := hok.nodup
    simp only [List.map_cons, List.nodup_cons] at hnd
    obtain ⟨htbl, hts⟩ := List.forall_mem_cons.1 hok.tables
    obtain ⟨hd, hdis⟩ := List.forall_mem_cons.1 hdis
    obtain ⟨c', hc'⟩ := ih (done ++ [(tbl.name, mkChains sp tbl)]) (some tbl.name) rest ⟨hts, hnd.2⟩ fun x hx =>
        not_mem_keysA_snoc.mpr ⟨hdis x hx, fun e => hnd.1 (by rw [← e]; exact List.mem_map_of_mem hx)⟩
    refine ⟨c', ?_⟩
    rw [List.flatMap_cons, List.append_assoc, block_ok sfx hsfx sp tbl htbl done hd c0 false, hc']
    simp [mkTables]

/-- The parser on the text of a whole rule set, with any comment lines in front and behind. -/
theorem parse_file (sfx : List Str) (hsfx : ∀ x ∈ sfx, Tok x) (sp : ARule → List OptW) (a : AState)
    (h : StateOK sp a) (pre post : List Str) (hpre : ∀ x ∈ pre, Ignorable x)
    (hpost : ∀ x ∈ post, Ignorable x) :
    parseIPTables (pre ++ a.flatMap (blockLines sfx sp) ++ post) = .ok (mkTables sp a) := by
  have hcom : ∀ (l : List Str) (st : PState) (rest : List Str), (∀ x ∈ l, Ignorable x) →
      parseIPTablesAux (l ++ rest) st = parseIPTablesAux rest st := by
    intro l
    induction l with
    | nil => intro st rest _; rfl
    | cons x xs ih =>
      intro st rest hx
      obtain ⟨hx, hxs⟩ := List.forall_mem_cons.1 hx
      rw [List.cons_append, aux_cons_ok (line_comment st x hx), ih st rest hxs]
  obtain ⟨c', hc'⟩ := file_ok sfx hsfx sp a [] none post h (fun _ _ => List.not_mem_nil)
  unfold parseIPTables
  rw [List.append_assoc, hcom pre _ _ hpre, hc', ← List.append_nil post, hcom post _ [] hpost]
  simp [parseIPTablesAux, bind, Except.bind, pure, Except.pure]

end NA.C05
