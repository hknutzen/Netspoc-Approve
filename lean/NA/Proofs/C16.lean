import NA.Model.MapSites
/-!
# C16 — each loop shape is insensitive to the iteration order

In front, `zip_of_map_eq`: the list fact behind the table sweeps of Props/C16.lean and C16Deep.lean
(two generated tables with the same key column list the same sites in the same order).
-/
namespace NA.C16
open NA.PermFold

theorem zip_of_map_eq {α β γ : Type} {f : α → γ} {g : β → γ} : ∀ {l₁ : List α} {l₂ : List β},
    l₁.map f = l₂.map g → l₁.length = l₂.length ∧ ∀ p ∈ l₁.zip l₂, f p.1 = g p.2
  | [], [], _ => ⟨rfl, fun _ h => nomatch h⟩
  | [], _ :: _, h | _ :: _, [], h => nomatch h
  | a :: l₁, b :: l₂, h => by
    simp only [List.map_cons, List.cons.injEq] at h
    obtain ⟨hl, hz⟩ := zip_of_map_eq h.2
    refine ⟨by simp [hl], fun p hp => ?_⟩
    rcases List.mem_cons.mp hp with rfl | hp
    · exact h.1
    · exact hz p hp

theorem foldl_collectStep {α β : Type} (p : α → Bool) (f : α → β) (init : List β) (es : List α) :
    es.foldl (collectStep p f) init = init ++ (es.filter p).map f := by
  induction es generalizing init with
  | nil => simp
  | cons e es ih =>
    simp only [List.foldl_cons, ih, collectStep, List.filter_cons]
    by_cases h : p e = true <;> simp [h]

theorem collectSorted_perm {α β : Type} {le : β → β → Bool} (h : LawfulLe le) (p : α → Bool)
    (f : α → β) (init : List β) {es₁ es₂ : List α} (perm : es₁.Perm es₂) :
    collectSorted le p f init es₁ = collectSorted le p f init es₂ := by
  unfold collectSorted
  rw [foldl_collectStep, foldl_collectStep]
  exact sort_perm h (List.Perm.append_left init ((perm.filter p).map f))

theorem Footprint.commOn {ι μ α : Type} (F : Footprint ι μ α) {l : List α} (hd : F.Disjoint l) :
    CommOn F.step l := by
  intro x hx y hy s
  by_cases hxy : x = y
  · rw [hxy]
  · funext i
    have hdis := hd x hx y hy hxy
    -- an entry that owns `i` does not see what an entry with a disjoint footprint wrote
    have hl : ∀ a b, (∀ j, ¬ (F.owns a j = true ∧ F.owns b j = true)) → F.owns b i = true →
        F.write b (F.step s a) i = F.write b s i := by
      intro a b hab hob
      apply F.local b _ _ _ i hob
      intro j hj
      have : F.owns a j = false := Bool.eq_false_iff.mpr fun haj => hab j ⟨haj, hj⟩
      simp [Footprint.step, this]
    cases hox : F.owns x i <;> cases hoy : F.owns y i
    · simp [Footprint.step, hox, hoy]
    · simp [Footprint.step, hox, hoy, hl x y hdis hoy]
    · simp [Footprint.step, hox, hoy, hl y x (fun j h => hdis j h.symm) hox]
    · exact absurd ⟨hox, hoy⟩ (hdis i)

theorem Footprint.perm {ι μ α : Type} (F : Footprint ι μ α) {l₁ l₂ : List α} (hd : F.Disjoint l₁)
    (p : l₁.Perm l₂) (s : ι → μ) : l₁.foldl F.step s = l₂.foldl F.step s :=
  foldl_perm F.step p (F.commOn hd) s

theorem ownKey_disjoint {κ ν μ : Type} [DecidableEq κ] (g : κ → ν → μ → μ) {es : Entries κ ν}
    (hm : IsMap es) : (ownKey g).Disjoint es := by
  intro a ha b hb hab i hi
  simp only [ownKey, decide_eq_true_eq] at hi
  exact hab (hm.eq_of_key_eq ha hb (hi.1.symm.trans hi.2))

theorem ownKey_perm {κ ν μ : Type} [DecidableEq κ] (g : κ → ν → μ → μ) {es₁ es₂ : Entries κ ν}
    (hm : IsMap es₁) (p : es₁.Perm es₂) (s : κ → μ) :
    es₁.foldl (ownKey g).step s = es₂.foldl (ownKey g).step s :=
  (ownKey g).perm (ownKey_disjoint g hm) p s

/-- Heap separation for `perObject`: different entries reach different objects. -/
def Separate {ι α : Type} (objs : α → List ι) (l : List α) : Prop :=
  ∀ a, a ∈ l → ∀ b, b ∈ l → a ≠ b → ∀ i, ¬ (i ∈ objs a ∧ i ∈ objs b)

theorem perObject_disjoint {ι μ α : Type} [DecidableEq ι] (objs : α → List ι) (upd : α → ι → μ → μ)
    {l : List α} (h : Separate objs l) : (perObject objs upd).Disjoint l := by
  intro a ha b hb hab i hi
  simp only [perObject, decide_eq_true_eq] at hi
  exact h a ha b hb hab i hi

theorem perObject_perm {ι μ α : Type} [DecidableEq ι] (objs : α → List ι) (upd : α → ι → μ → μ)
    {l₁ l₂ : List α} (h : Separate objs l₁) (p : l₁.Perm l₂) (s : ι → μ) :
    l₁.foldl (perObject objs upd).step s = l₂.foldl (perObject objs upd).step s :=
  (perObject objs upd).perm (perObject_disjoint objs upd h) p s

theorem setInsert_rightComm {α β : Type} (items : α → β → Bool) : RightComm (setInsertStep items) := by
  intro s x y
  funext b
  simp only [setInsertStep, Bool.or_assoc]
  rw [Bool.or_comm (items x b)]

theorem constFlag_rightComm {α γ : Type} (q : α → Bool) (c : γ) : RightComm (constFlagStep q c) := by
  intro s x y
  simp only [constFlagStep]
  cases q x <;> cases q y <;> simp

theorem exitOrOwnKey_commOn {κ ν μ : Type} [DecidableEq κ] (skip : κ → Bool)
    (parse : κ → ν → Option μ) {es : Entries κ ν} (hm : IsMap es) :
    CommOn (exitOrOwnKeyStep skip parse) es := by
  apply CommOn.of_keys hm
  intro x y hk s
  cases s with
  | none => simp [exitOrOwnKeyStep]
  | some m =>
    simp only [exitOrOwnKeyStep]
    cases skip x.1 <;> cases skip y.1 <;>
      cases parse x.1 x.2 <;> cases parse y.1 y.2 <;> simp
    funext i
    by_cases h1 : i = x.1 <;> by_cases h2 : i = y.1
    · exact absurd (h1.symm.trans h2) hk
    · simp [h1, hk]
    · simp [h2, Ne.symm hk]
    · simp [h1, h2]

theorem firstInSorted_perm {κ ν ρ : Type} {le : κ → κ → Bool} (h : LawfulLe le)
    (f : κ × ν → Option ρ) {es₁ es₂ : Entries κ ν} (hm : IsMap es₁) (p : es₁.Perm es₂) :
    firstInSorted le f es₁ = firstInSorted le f es₂ :=
  sorted_deterministic h Prod.fst (firstIn f) hm p

theorem logInSorted_perm {κ ν ρ : Type} {le : κ → κ → Bool} (h : LawfulLe le)
    (f : κ × ν → Option ρ) {es₁ es₂ : Entries κ ν} (hm : IsMap es₁) (p : es₁.Perm es₂) :
    logInSorted le f es₁ = logInSorted le f es₂ :=
  sorted_deterministic h Prod.fst (logIn f) hm p

theorem firstInSorted_least {κ ν ρ : Type} {le : κ → κ → Bool} (h : LawfulLe le)
    (f : κ × ν → Option ρ) (es : Entries κ ν) (r : ρ) (hr : firstInSorted le f es = some r) :
    ∃ e, e ∈ es ∧ f e = some r ∧ ∀ e', e' ∈ es → (f e').isSome → le e.1 e'.1 = true := by
  obtain ⟨l₁, a, l₂, hl, hfa, hnone⟩ := List.findSome?_eq_some_iff.mp hr
  have hp := sortBy_perm_self le Prod.fst es
  have hsorted : (sortBy le Prod.fst es).Pairwise (fun a b => le a.1 b.1 = true) :=
    List.pairwise_mergeSort (le := fun a b : κ × ν => le a.1 b.1)
      (fun a b c => h.trans a.1 b.1 c.1) (fun a b => h.total a.1 b.1) es
  rw [hl] at hp hsorted
  refine ⟨a, hp.mem_iff.mp (by simp), hfa, fun e' he' hs => ?_⟩
  rcases List.mem_append.mp (hp.mem_iff.mpr he') with h1 | h2
  · rw [hnone e' h1] at hs; cases hs
  · rcases List.mem_cons.mp h2 with rfl | h2
    · simpa using h.total e'.1 e'.1
    · exact (List.pairwise_cons.mp (List.pairwise_append.mp hsorted).2.1).1 e' h2

theorem peerStepUnfixed_commOn {π : Type} [DecidableEq π] {es : Entries Nat (Option π)}
    (hsome : ∀ e, e ∈ es → e.2.isSome) (hpeers : UniqueKeys Prod.snd es) :
    CommOn peerStepUnfixed es := by
  intro x hx y hy s
  by_cases hxy : x = y
  · rw [hxy]
  · cases s with
    | error n => simp [peerStepUnfixed]
    | ok m =>
      obtain ⟨p, hx2⟩ := Option.isSome_iff_exists.mp (hsome x hx)
      obtain ⟨q, hy2⟩ := Option.isSome_iff_exists.mp (hsome y hy)
      have hpq : p ≠ q := fun e => hxy (hpeers.eq_of_key_eq hx hy (by rw [hx2, hy2, e]))
      simp only [peerStepUnfixed, hx2, hy2]
      congr 1
      funext r
      by_cases hr1 : r = p <;> by_cases hr2 : r = q
      · exact absurd (hr1.symm.trans hr2) hpq
      · simp [hr1, hpq]
      · simp [hr2, Ne.symm hpq]
      · simp [hr1, hr2]

end NA.C16
