import NA.Proofs.C03Order
/-
C03: which requests the parts of the planner model append to the output, and that they leave the
object tables alone (`Quiet`).  `equalize` (through `hasEqualizedLists` / `hasEqualizedGroups`, one lemma per
function of the model, any fuel, any differ) only appends member-list requests; `adaptGroups` / `findGroupOnDevice` append
nothing; hence the order-relevant requests of `diffRules` are exactly `orderOps` of the script.
Core Lean only.
-/
namespace NA.PanOs

def Cmd.isMember : Cmd → Bool
  | .delMem .. | .addMem .. | .editList .. | .delGMem .. | .setGrp .. => true
  | _ => false

def St.objs (st : St) := (st.aAddr, st.bAddr, st.aSvc, st.bSvc, st.aSG, st.bSG)

/-- `st'` extends the output of `st` by requests of kind `p` only and has the object tables of
`st` (only the tables of the address-groups may differ). -/
def Quiet (p : Cmd → Bool) (st st' : St) : Prop :=
  (∃ cs, st'.out = st.out ++ cs ∧ ∀ c ∈ cs, p c = true) ∧ st'.objs = st.objs

theorem Quiet.of_eq {p : Cmd → Bool} {a b : St} (h : b.out = a.out) (ho : b.objs = a.objs) : Quiet p a b :=
  ⟨⟨[], by simp [h], by simp⟩, ho⟩

theorem Quiet.refl (p : Cmd → Bool) (st : St) : Quiet p st st := Quiet.of_eq rfl rfl

theorem Quiet.trans {p : Cmd → Bool} {a b c : St} (h₁ : Quiet p a b) (h₂ : Quiet p b c) : Quiet p a c := by
  obtain ⟨⟨c1, e1, m1⟩, o1⟩ := h₁
  obtain ⟨⟨c2, e2, m2⟩, o2⟩ := h₂
  exact ⟨⟨c1 ++ c2, by rw [e2, e1, List.append_assoc], List.forall_mem_append.mpr ⟨m1, m2⟩⟩, o2.trans o1⟩

theorem Quiet.emitAll {p : Cmd → Bool} (st : St) (cs : List Cmd) (h : ∀ c ∈ cs, p c = true) :
    Quiet p st (st.emitAll cs) := ⟨⟨cs, rfl, h⟩, rfl⟩

theorem Quiet.emit {p : Cmd → Bool} (st : St) (c : Cmd) (h : p c = true) : Quiet p st (st.emit c) :=
  Quiet.emitAll st [c] (by simpa using h)

theorem Quiet.mono {p q : Cmd → Bool} (hpq : ∀ c, p c = true → q c = true) {a b : St} (h : Quiet p a b) :
    Quiet q a b :=
  ⟨h.1.imp fun _ hcs => ⟨hcs.1, fun c hc => hpq c (hcs.2 c hc)⟩, h.2⟩

theorem foldl_quiet {p : Cmd → Bool} {β : Type} (f : St → β → St) (hf : ∀ s x, Quiet p s (f s x)) :
    ∀ (l : List β) (s : St), Quiet p s (l.foldl f s) :=
  fun _ s => ListFacts.foldl_inv (P := Quiet p s) (fun x _ t ht => ht.trans (hf t x)) (Quiet.refl p s)

/-! ### The planner's functions written with projections instead of pattern-matching `let`s -/

theorem equalizeList_eq (diff : Differ) (fuel : Nat) (st : St) (la lb : List String) (n : String) (f : Fld) :
    equalizeList diff fuel st la lb n f =
      if (hasEqLists diff fuel st la lb (.rule n f)).1 then (hasEqLists diff fuel st la lb (.rule n f)).2
      else (adaptGroups (hasEqLists diff fuel st la lb (.rule n f)).2 lb).2.emit
        (.editList n f (adaptGroups (hasEqLists diff fuel st la lb (.rule n f)).2 lb).1) := rfl

theorem insertRule_eq (anchor : Option String) (st : St) (ru : Rule) :
    insertRule anchor st ru =
      let s2 := (adaptGroups (adaptGroups st ru.src).2 ru.dst).2
      let c := Cmd.setRule
        { ru with src := (adaptGroups st ru.src).1, dst := (adaptGroups (adaptGroups st ru.src).2 ru.dst).1 }
      match anchor with
      | some d => (s2.emit c).emit (.move ru.name d)
      | none => s2.emit c := rfl

theorem findGroupOnDevice_silent (st : St) (gbi : Nat) :
    (findGroupOnDevice st gbi).2.out = st.out ∧ (findGroupOnDevice st gbi).2.objs = st.objs := by
  unfold findGroupOnDevice
  dsimp only
  cases findGroupOnDeviceFrom ((Option.map (fun x => x.g.members) st.bGrp[gbi]?).getD []) st.aGrp 0 with
  | none => exact ⟨rfl, rfl⟩
  | some p => exact ⟨rfl, rfl⟩

theorem adaptStep_silent (acc : List String × St) (adr : String) :
    (adaptStep acc adr).2.out = acc.2.out ∧ (adaptStep acc adr).2.objs = acc.2.objs := by
  obtain ⟨res, s⟩ := acc
  unfold adaptStep
  simp only
  split
  · exact ⟨rfl, rfl⟩
  · split
    · exact ⟨rfl, rfl⟩
    · have := findGroupOnDevice_silent s ‹Nat›
      split
      · exact this
      · exact this

theorem adaptGroups_silent (st : St) (lb : List String) :
    (adaptGroups st lb).2.out = st.out ∧ (adaptGroups st lb).2.objs = st.objs := by
  unfold adaptGroups
  exact ListFacts.foldl_inv (P := fun acc : List String × St => acc.2.out = st.out ∧ acc.2.objs = st.objs)
    (fun x _ acc h => ⟨(adaptStep_silent acc x).1.trans h.1, (adaptStep_silent acc x).2.trans h.2⟩) ⟨rfl, rfl⟩

theorem adaptGroups_quiet (p : Cmd → Bool) (st : St) (lb : List String) : Quiet p st (adaptGroups st lb).2 :=
  Quiet.of_eq (adaptGroups_silent st lb).1 (adaptGroups_silent st lb).2

theorem MPath.delCmd_isMember (p : MPath) (m : String) : (p.delCmd m).isMember = true := by
  cases p <;> rfl

theorem MPath.addCmd_isMember (p : MPath) (ms : List String) : (p.addCmd ms).isMember = true := by
  cases p <;> rfl

theorem foldl_quiet_acc {p : Cmd → Bool} {β : Type} (st₀ : St)
    (f : Bool × St × List String → β → Bool × St × List String)
    (hf : ∀ acc x, Quiet p st₀ acc.2.1 → Quiet p st₀ (f acc x).2.1) :
    ∀ (l : List β) (acc : Bool × St × List String), Quiet p st₀ acc.2.1 → Quiet p st₀ (l.foldl f acc).2.1 :=
  fun _ _ h => ListFacts.foldl_inv (P := fun acc : Bool × St × List String => Quiet p st₀ acc.2.1)
    (fun x _ acc h => hf acc x h) h

theorem eqGroups_quiet (recur : St → List String → List String → MPath → Bool × St)
    (hrec : ∀ s la lb p, Quiet Cmd.isMember s (recur s la lb p).2) (st : St) (gai gbi : Nat) :
    Quiet Cmd.isMember st (eqGroups recur st gai gbi).2 := by
  unfold eqGroups
  simp only
  split
  · exact Quiet.refl _ st
  · split
    · exact Quiet.refl _ st
    · have h := hrec st (st.aGrp[gai]?.getD default).g.members (st.bGrp[gbi]?.getD default).g.members
        (.group (st.aGrp[gai]?.getD default).g.name)
      revert h
      generalize recur st _ _ _ = res
      obtain ⟨b, s⟩ := res
      intro h
      split
      · exact h.trans (Quiet.of_eq rfl rfl)
      · exact h

theorem pairStep_quiet (recur : St → List String → List String → MPath → Bool × St)
    (hrec : ∀ s la lb p, Quiet Cmd.isMember s (recur s la lb p).2) (st₀ : St) (la lb : List String) (r : Range)
    (acc : Bool × St × List String) (k : Nat) (h : Quiet Cmd.isMember st₀ acc.2.1) :
    Quiet Cmd.isMember st₀ (pairStep recur la lb r acc k).2.1 := by
  obtain ⟨ok, s, ins⟩ := acc
  unfold pairStep
  simp only at h ⊢
  split
  · exact h
  · split
    · exact h
    · split
      · exact h
      · exact h.trans (eqGroups_quiet recur hrec s _ _)

theorem rangeStep_quiet (recur : St → List String → List String → MPath → Bool × St)
    (hrec : ∀ s la lb p, Quiet Cmd.isMember s (recur s la lb p).2) (st₀ : St) (la lb : List String) (path : MPath)
    (acc : Bool × St × List String) (r : Range) (h : Quiet Cmd.isMember st₀ acc.2.1) :
    Quiet Cmd.isMember st₀ (rangeStep recur la lb path acc r).2.1 := by
  obtain ⟨ok, s, ins⟩ := acc
  unfold rangeStep
  simp only at h ⊢
  split
  · exact h
  · split
    · exact h.trans (Quiet.emitAll _ _ (by
        intro c hc
        obtain ⟨m, _, rfl⟩ := List.mem_map.mp hc
        exact MPath.delCmd_isMember _ _))
    · exact h.trans (adaptGroups_quiet _ _ _)
    · exact foldl_quiet_acc st₀ _ (pairStep_quiet recur hrec st₀ la lb r) _ _ h

theorem hasEqLists_quiet (diff : Differ) :
    ∀ (fuel : Nat) (st : St) (la lb : List String) (path : MPath),
      Quiet Cmd.isMember st (hasEqLists diff fuel st la lb path).2 := by
  intro fuel
  induction fuel with
  | zero => intro st la lb path; simp only [hasEqLists]; exact Quiet.refl _ st
  | succ fuel ih =>
    intro st la lb path
    rw [hasEqLists]
    split
    · exact Quiet.refl _ st
    · have key := foldl_quiet_acc st _ (rangeStep_quiet (hasEqLists diff fuel) ih st la lb path)
        (diff la.length lb.length (fun i j => memberEq st (la.getD i "") (lb.getD j ""))) (true, st, [])
        (Quiet.refl _ st)
      revert key
      generalize (List.foldl _ (true, st, []) _) = res
      intro key
      obtain ⟨ok, s, ins⟩ := res
      simp only at key ⊢
      split
      · exact key
      · split
        · exact key
        · exact key.trans (Quiet.emit _ _ (MPath.addCmd_isMember _ _))


theorem equalizeList_quiet (diff : Differ) (fuel : Nat) (st : St) (la lb : List String) (n : String) (f : Fld) :
    Quiet Cmd.isMember st (equalizeList diff fuel st la lb n f) := by
  rw [equalizeList_eq]
  have h := hasEqLists_quiet diff fuel st la lb (.rule n f)
  split
  · exact h
  · exact (h.trans (adaptGroups_quiet _ _ lb)).trans (Quiet.emit _ _ rfl)

theorem equalize_quiet (diff : Differ) (fuel : Nat) (st : St) (ra rb : Rule) :
    Quiet Cmd.isMember st (equalize diff fuel st ra rb) := by
  unfold equalize
  have h1 := equalizeList_quiet diff fuel st ra.src rb.src ra.name .src
  have h2 := equalizeList_quiet diff fuel (equalizeList diff fuel st ra.src rb.src ra.name .src)
    ra.dst rb.dst ra.name .dst
  split
  · exact (h1.trans h2).trans (Quiet.emit _ _ rfl)
  · exact h1.trans h2

theorem isMember_ordOf {c : Cmd} (h : c.isMember = true) : ordOf c = none := by
  cases c <;> simp_all [Cmd.isMember, ordOf]

theorem filterMap_ordOf_nil_of {l : List Cmd} (h : ∀ c ∈ l, ordOf c = none) : l.filterMap ordOf = [] := by
  rw [List.filterMap_eq_nil_iff]; exact h

theorem Quiet.ord {st st' : St} (h : Quiet Cmd.isMember st st') :
    st'.out.filterMap ordOf = st.out.filterMap ordOf := by
  obtain ⟨⟨cs, e, m⟩, _⟩ := h
  rw [e, List.filterMap_append, filterMap_ordOf_nil_of fun c hc => isMember_ordOf (m c hc), List.append_nil]

def Cmd.isRuleCmd (c : Cmd) : Bool := c.isMember || (ordOf c).isSome

theorem Quiet.toRule {a b : St} (h : Quiet Cmd.isMember a b) : Quiet Cmd.isRuleCmd a b :=
  h.mono fun c hc => by simp [Cmd.isRuleCmd, hc]

def QuietOrd (os : List OrdOp) (st st' : St) : Prop :=
  Quiet Cmd.isRuleCmd st st' ∧ st'.out.filterMap ordOf = st.out.filterMap ordOf ++ os

theorem QuietOrd.trans {o₁ o₂ : List OrdOp} {a b c : St} (h₁ : QuietOrd o₁ a b) (h₂ : QuietOrd o₂ b c) :
    QuietOrd (o₁ ++ o₂) a c :=
  ⟨h₁.1.trans h₂.1, by rw [h₂.2, h₁.2, List.append_assoc]⟩

theorem Quiet.quietOrd {st st' : St} (h : Quiet Cmd.isMember st st') : QuietOrd [] st st' :=
  ⟨h.toRule, by rw [h.ord, List.append_nil]⟩

theorem QuietOrd.emitAll (st : St) (cs : List Cmd) (h : ∀ c ∈ cs, c.isRuleCmd = true) :
    QuietOrd (cs.filterMap ordOf) st (st.emitAll cs) :=
  ⟨Quiet.emitAll st cs h, List.filterMap_append⟩

theorem foldl_quietOrd {β : Type} (f : St → β → St) (g : β → List OrdOp) (hf : ∀ s x, QuietOrd (g x) s (f s x)) :
    ∀ (l : List β) (s : St), QuietOrd (l.flatMap g) s (l.foldl f s) := by
  intro l
  induction l with
  | nil => intro s; exact (Quiet.refl Cmd.isMember s).quietOrd
  | cons x xs ih => intro s; exact (hf s x).trans (ih _)

theorem extract_map_name (rs : List Rule) (lo hi : Nat) :
    (rs.extract lo hi).map (·.name) = (ruleNames rs).extract lo hi := by
  simp [List.extract, ruleNames, List.map_take, List.map_drop]

theorem filterMap_delRule (l : List Rule) :
    (l.map (fun ru => Cmd.delRule ru.name)).filterMap ordOf = (l.map (·.name)).map OrdOp.del := by
  induction l with
  | nil => rfl
  | cons x xs ih => simp [ordOf, ih]

theorem phase1Step_del (diff : Differ) (fuel : Nat) (aRules bRules : List Rule) (st : St) (d : Nat)
    (ins : List InsGroup) (r : Range) (hk : r.kind = .del) :
    phase1Step diff fuel aRules bRules (st, d, ins) r =
      (st.emitAll ((aRules.extract r.lowA r.highA).map (fun ru => Cmd.delRule ru.name)), r.highA, ins) := by
  unfold phase1Step; simp only [hk]

theorem phase1Step_ins (diff : Differ) (fuel : Nat) (aRules bRules : List Rule) (st : St) (d : Nat)
    (ins : List InsGroup) (r : Range) (hk : r.kind = .ins) :
    phase1Step diff fuel aRules bRules (st, d, ins) r =
      (st, d, ins ++ [⟨(aRules[max r.lowA d]?).map (·.name), r.lowB, r.highB⟩]) := by
  unfold phase1Step; simp only [hk]

theorem phase1Step_eq (diff : Differ) (fuel : Nat) (aRules bRules : List Rule) (st : St) (d : Nat)
    (ins : List InsGroup) (r : Range) (hk : r.kind = .eq) :
    phase1Step diff fuel aRules bRules (st, d, ins) r =
      ((List.range (r.highA - r.lowA)).foldl (fun st k =>
        equalize diff fuel st (aRules.getD (r.lowA + k) default) (bRules.getD (r.lowB + k) default)) st, d, ins) := by
  unfold phase1Step; simp only [hk]

theorem rulePhase1_quietOrd (diff : Differ) (fuel : Nat) (aRules bRules : List Rule) :
    ∀ (rs : List Range) (st : St) (d : Nat) (ins : List InsGroup),
      QuietOrd ((delNamesOf (ruleNames aRules) rs).map OrdOp.del) st
          (rs.foldl (phase1Step diff fuel aRules bRules) (st, d, ins)).1 ∧
        (rs.foldl (phase1Step diff fuel aRules bRules) (st, d, ins)).2.2 =
          ins ++ insGroupsFrom (ruleNames aRules) d rs := by
  intro rs
  induction rs with
  | nil => intro st d ins; exact ⟨(Quiet.refl Cmd.isMember st).quietOrd, (List.append_nil _).symm⟩
  | cons r rs ih =>
    intro st d ins
    rw [List.foldl_cons]
    cases hk : r.kind with
    | del =>
      rw [phase1Step_del _ _ _ _ _ _ _ _ hk]
      obtain ⟨h1, h2⟩ := ih (st.emitAll ((aRules.extract r.lowA r.highA).map (fun ru => Cmd.delRule ru.name))) r.highA ins
      have h0 := QuietOrd.emitAll st ((aRules.extract r.lowA r.highA).map (fun ru => Cmd.delRule ru.name))
        (fun c hc => by obtain ⟨_, _, rfl⟩ := List.mem_map.mp hc; rfl)
      rw [filterMap_delRule, extract_map_name] at h0
      simp only [delNamesOf, insGroupsFrom, hk, List.map_append]
      exact ⟨h0.trans h1, h2⟩
    | ins =>
      rw [phase1Step_ins _ _ _ _ _ _ _ _ hk]
      obtain ⟨h1, h2⟩ := ih st d (ins ++ [⟨(aRules[max r.lowA d]?).map (·.name), r.lowB, r.highB⟩])
      simp only [delNamesOf, insGroupsFrom, hk]
      refine ⟨h1, ?_⟩
      rw [h2, List.append_assoc, ruleNames, List.getElem?_map]
      rfl
    | eq =>
      rw [phase1Step_eq _ _ _ _ _ _ _ _ hk]
      obtain ⟨h1, h2⟩ := ih ((List.range (r.highA - r.lowA)).foldl (fun st k =>
          equalize diff fuel st (aRules.getD (r.lowA + k) default) (bRules.getD (r.lowB + k) default)) st) d ins
      simp only [delNamesOf, insGroupsFrom, hk]
      exact ⟨(foldl_quiet _ (fun s k => equalize_quiet diff fuel s _ _) _ st).quietOrd.trans h1, h2⟩

theorem insertRule_quietOrd (anchor : Option String) (st : St) (ru : Rule) :
    QuietOrd (OrdOp.app ru.name :: (match anchor with | some d => [OrdOp.mv ru.name d] | none => [])) st
      (insertRule anchor st ru) := by
  rw [insertRule_eq]
  have one : ∀ (s : St) (c : Cmd), c.isRuleCmd = true → QuietOrd ([c].filterMap ordOf) s (s.emit c) := fun s c h =>
    QuietOrd.emitAll s [c] (fun c' hc => by cases List.mem_singleton.mp hc; exact h)
  have h := (((adaptGroups_quiet Cmd.isMember st ru.src).trans (adaptGroups_quiet _ _ ru.dst)).quietOrd).trans
    (one _ (.setRule { ru with src := (adaptGroups st ru.src).1, dst := (adaptGroups (adaptGroups st ru.src).2 ru.dst).1 })
      rfl)
  cases anchor with
  | none => exact h
  | some d => exact h.trans (one _ (.move ru.name d) rfl)

theorem rulePhase2_quietOrd (bRules : List Rule) (inserts : List InsGroup) (st : St) :
    QuietOrd (insOps (ruleNames bRules) inserts) st (rulePhase2 st bRules inserts) :=
  foldl_quietOrd (insertGroup bRules) (insOpsOfGroup (ruleNames bRules)) (fun s g => by
    have := foldl_quietOrd _ _ (insertRule_quietOrd g.anchor) (bRules.extract g.lowB g.highB) s
    rwa [← List.flatMap_map (f := fun x : Rule => x.name)
      (g := fun n => OrdOp.app n :: (match g.anchor with | some d => [OrdOp.mv n d] | none => [])),
      extract_map_name] at this) inserts st

theorem diffRules_quietOrd (diff : Differ) (fuel : Nat) (st : St) (a b : Vsys) (aRules bRules : List Rule) :
    QuietOrd (orderOps (ruleNames aRules) (ruleNames bRules)
      (diff aRules.length bRules.length
        (fun i j => ruleEqual a b (aRules.getD i default) (bRules.getD j default)))) st
      (diffRules diff fuel st a b aRules bRules) := by
  unfold diffRules rulePhase1
  simp only
  generalize diff aRules.length bRules.length _ = rs
  obtain ⟨h1, h2⟩ := rulePhase1_quietOrd diff fuel aRules bRules rs st 0 []
  revert h1 h2
  generalize (rs.foldl _ (st, 0, [])) = res
  obtain ⟨s, d, ins⟩ := res
  intro h1 h2
  simp only [List.nil_append] at h1 h2 ⊢
  rw [h2]
  exact h1.trans (rulePhase2_quietOrd bRules _ s)

theorem diffRules_ord (diff : Differ) (fuel : Nat) (st : St) (a b : Vsys) (aRules bRules : List Rule) :
    (diffRules diff fuel st a b aRules bRules).out.filterMap ordOf =
      st.out.filterMap ordOf ++
        orderOps (ruleNames aRules) (ruleNames bRules)
          (diff aRules.length bRules.length
            (fun i j => ruleEqual a b (aRules.getD i default) (bRules.getD j default))) :=
  (diffRules_quietOrd diff fuel st a b aRules bRules).2

theorem diffRules_quiet (diff : Differ) (fuel : Nat) (st : St) (a b : Vsys) (aRules bRules : List Rule) :
    Quiet Cmd.isRuleCmd st (diffRules diff fuel st a b aRules bRules) :=
  (diffRules_quietOrd diff fuel st a b aRules bRules).1

end NA.PanOs
