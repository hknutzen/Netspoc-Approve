import NA.Model.PanOs
import NA.Core.ListFacts
/-
C03: member lists up to order.  `SameMem`: the same members; `sort.Strings` (the planner sorts its copies of
the member lists) as the insertion sort of `NA.ListFacts`: it keeps the members, yields a permutation, and is
canonical — two lists without repetition and with the same members are sorted to the same list.
Core Lean only.
-/
namespace NA.PanOs

def SameMem (l l' : List String) : Prop := ∀ x, x ∈ l ↔ x ∈ l'

theorem SameMem.refl (l : List String) : SameMem l l := fun _ => Iff.rfl
theorem SameMem.symm {l l' : List String} (h : SameMem l l') : SameMem l' l := fun x => (h x).symm
theorem SameMem.trans {a b c : List String} (h₁ : SameMem a b) (h₂ : SameMem b c) : SameMem a c :=
  fun x => (h₁ x).trans (h₂ x)

theorem SameMem.of_perm {l l' : List String} (h : l.Perm l') : SameMem l l' := fun _ => h.mem_iff

/-- `sort.Strings` as the insertion sort of `NA.ListFacts` (whose `insertBy` tests the other way round). -/
theorem insertSorted_eq : insertSorted = ListFacts.insertBy (fun a b : String => !decide (b < a)) := by
  funext x l
  induction l with
  | nil => rfl
  | cons y ys ih => simp only [insertSorted, ListFacts.insertBy, ih]; split <;> simp_all

theorem sortStrings_eq (l : List String) : sortStrings l = ListFacts.isort (fun a b : String => !decide (b < a)) l := by
  rw [sortStrings, insertSorted_eq]; rfl

theorem mem_sortStrings (x : String) (l : List String) : x ∈ sortStrings l ↔ x ∈ l := by
  rw [sortStrings_eq]; exact ListFacts.mem_isort

theorem insertSorted_perm (x : String) (l : List String) : (insertSorted x l).Perm (x :: l) := by
  rw [insertSorted_eq]; exact ListFacts.insertBy_perm _ x l

theorem sortStrings_perm (l : List String) : (sortStrings l).Perm l := by
  rw [sortStrings_eq]; exact ListFacts.isort_perm _ l

theorem sortStrings_nodup {l : List String} (h : l.Nodup) : (sortStrings l).Nodup :=
  (sortStrings_perm l).nodup_iff.mpr h

theorem sortStrings_sameMem (l : List String) : SameMem l (sortStrings l) :=
  (SameMem.of_perm (sortStrings_perm l)).symm

theorem sortStrings_canonical {l₁ l₂ : List String} (h₁ : l₁.Nodup) (h₂ : l₂.Nodup) (hm : SameMem l₁ l₂) :
    sortStrings l₁ = sortStrings l₂ := by
  rw [sortStrings_eq, sortStrings_eq]
  -- `!decide (b < a)` is `a ≤ b`, a linear order
  have le_iff : ∀ a b : String, (!decide (b < a)) = true ↔ a ≤ b := fun a b => by
    rw [Bool.not_eq_true', decide_eq_false_iff_not, String.not_lt]
  refine ListFacts.isort_eq_of_perm (fun a b c hab hbc => ?_) (fun a b => ?_) (fun a b _ _ hab hba => ?_)
    ((List.perm_ext_iff_of_nodup h₁ h₂).mpr hm)
  · rw [le_iff] at *; exact String.le_trans hab hbc
  · rw [le_iff, le_iff]; exact String.le_total a b
  · rw [le_iff] at *; exact String.le_antisymm hab hba

end NA.PanOs
