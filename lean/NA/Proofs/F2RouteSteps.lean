import NA.Proofs.F2Routes
import NA.Model.IosEngineRoutes
import NA.Proofs.C14Routes
/-!
# F2: route coverage at every step (C14) — `NA.Route.routes_covered` closed for the model of `diffRoutes`

`NA.Route.routes_covered` (NA/Props/C14.lean) is about abstract scripts of the shape
`phaseA` (adds / same-destination replacements) then `phaseB` (removals of non-target routes) that
reach the target (`hall`).  Here the three hypotheses are PROVED for the plan of the tied model
`routePlan` (`routes_run_full`), under the numeric encoding `encRoute`, and the theorem is applied (in the form it is
proved in, `NA.Route.covered_both_phases`, NA/Proofs/C14Routes.lean).
-/
namespace NA.F2
open NA.ListFacts
open NA.Route (ROp rexec1 rtrace covered phaseA phaseB)

variable {keyOf : String → String × String} {U : List String}

theorem enc_inj {t t' : String} (ht : t ∈ U) (h : encRoute keyOf U t = encRoute keyOf U t') : t = t' :=
  idxOf_inj ht (congrArg NA.Route.Route.hop h)

theorem enc_key {t t' : String} (ht : t ∈ U) :
    ((encRoute keyOf U t).vrf = (encRoute keyOf U t').vrf ∧ (encRoute keyOf U t).dst = (encRoute keyOf U t').dst) ↔
      keyOf t = keyOf t' := by
  constructor
  · rintro ⟨h1, h2⟩
    have m1 : (keyOf t).1 ∈ U.map fun u => (keyOf u).1 := List.mem_map.mpr ⟨t, ht, rfl⟩
    have m2 : (keyOf t).2 ∈ U.map fun u => (keyOf u).2 := List.mem_map.mpr ⟨t, ht, rfl⟩
    exact Prod.ext (idxOf_inj m1 h1) (idxOf_inj m2 h2)
  · intro h
    simp only [encRoute, h, and_self]

theorem filter_enc (T : List String) (o : String) (hT : ∀ t ∈ T, t ∈ U) :
    (T.filter (· != o)).map (encRoute keyOf U) = (T.map (encRoute keyOf U)).filter (· != encRoute keyOf U o) := by
  rw [List.filter_map]
  congr 1
  apply List.filter_congr
  intro t ht
  simp only [Function.comp]
  by_cases h : t = o
  · subst h
    simp only [bne_self_eq_false]
  · have : encRoute keyOf U t ≠ encRoute keyOf U o := fun hc => h (enc_inj (hT t ht) hc)
    have e1 : (encRoute keyOf U t != encRoute keyOf U o) = true := bne_iff_ne.mpr this
    have e2 : (t != o) = true := bne_iff_ne.mpr h
    rw [e1, e2]

theorem sim_step (T T' : List String) (a : MA) (h : rStep T a = some T') (hT : ∀ t ∈ T, t ∈ U)
    (ha : ∀ t ∈ addedText a, t ∈ U) :
    T'.map (encRoute keyOf U) = rexec1 (T.map (encRoute keyOf U)) (encOp keyOf U a) ∧ (∀ t ∈ T', t ∈ U) := by
  have hf : ∀ o, ∀ t ∈ T.filter (· != o), t ∈ U := fun o t ht => hT t (List.mem_filter.mp ht).1
  rcases rStep_some h with ⟨r, rfl, _, rfl⟩ | ⟨r, rfl, rfl⟩ | ⟨o, n, rfl, _, rfl⟩
  · exact ⟨List.map_append, List.forall_mem_append.mpr ⟨hT, ha⟩⟩
  · exact ⟨filter_enc T r hT, hf r⟩
  · refine ⟨?_, List.forall_mem_append.mpr ⟨hf o, ha⟩⟩
    rw [List.map_append, filter_enc T o hT]
    rfl

theorem sim_run (acts : List MA) (T T' : List String) (h : rRun T acts = some T') (hT : ∀ t ∈ T, t ∈ U)
    (ha : ∀ a ∈ acts, ∀ t ∈ addedText a, t ∈ U) :
    T'.map (encRoute keyOf U) = (acts.map (encOp keyOf U)).foldl rexec1 (T.map (encRoute keyOf U)) ∧ (∀ t ∈ T', t ∈ U) := by
  induction acts generalizing T with
  | nil => cases h; exact ⟨rfl, hT⟩
  | cons a acts ih =>
    obtain ⟨T1, h1, h⟩ := rRun_cons_some.mp h
    obtain ⟨k1, k2⟩ := sim_step (keyOf := keyOf) T T1 a h1 hT (ha a List.mem_cons_self)
    obtain ⟨j1, j2⟩ := ih T1 h k2 (fun a' ha' => ha a' (List.mem_cons_of_mem _ ha'))
    exact ⟨by rw [List.map_cons, List.foldl_cons, j1, k1], j2⟩

theorem trace_mem (acts : List MA) (T Tk : List String) (k : Nat) (hk : 0 < k) (hk2 : k ≤ acts.length)
    (h : rRun T (acts.take k) = some Tk) (hT : ∀ t ∈ T, t ∈ U) (ha : ∀ a ∈ acts, ∀ t ∈ addedText a, t ∈ U) :
    Tk.map (encRoute keyOf U) ∈ rtrace (T.map (encRoute keyOf U)) (acts.map (encOp keyOf U)) := by
  induction acts generalizing T k with
  | nil => exact absurd hk (Nat.not_lt.mpr hk2)
  | cons a acts ih =>
    cases k with
    | zero => cases hk
    | succ k =>
      obtain ⟨T1, h1, h⟩ := rRun_cons_some.mp h
      obtain ⟨k1, k2⟩ := sim_step (keyOf := keyOf) T T1 a h1 hT (ha a List.mem_cons_self)
      rw [List.map_cons, rtrace, ← k1]
      rcases Nat.eq_zero_or_pos k with rfl | hk0
      · cases h; exact List.mem_cons_self
      · exact List.mem_cons_of_mem _
          (ih T1 k hk0 (Nat.le_of_succ_le_succ hk2) h k2 fun a' ha' => ha a' (List.mem_cons_of_mem _ ha'))

theorem covered_enc (T : List String) (hT : ∀ t ∈ T, t ∈ U) (t0 : String) :
    covered (T.map (encRoute keyOf U)) (encRoute keyOf U t0).vrf (encRoute keyOf U t0).dst = true ↔
      ∃ t ∈ T, keyOf t = keyOf t0 := by
  simp only [covered, List.any_map, List.any_eq_true, Function.comp, Bool.and_eq_true, beq_iff_eq]
  constructor
  · rintro ⟨t, ht, h1, h2⟩
    exact ⟨t, ht, (enc_key (hT t ht)).mp ⟨h1, h2⟩⟩
  · rintro ⟨t, ht, hk⟩
    obtain ⟨h1, h2⟩ := (enc_key (keyOf := keyOf) (hT t ht)).mpr hk
    exact ⟨t, ht, h1, h2⟩

/-- **Coverage at every step**, route-table level.  `al`/`bl`: compared device routes / target routes
(sorted), `R`: all route lines of the device, `keyOf`: (VRF, destination) of a route line as the
parser reads it.  Every command of the plan is accepted; after each command (`take k`: a
replacement is ONE command) every destination that has a route before (`t0 ∈ R`) and after the whole
plan has a route.  The three hypotheses of `NA.Route.routes_covered` are proved for the encoded plan. -/
theorem routes_covered_every_step (al bl : List Route) (R : List String) (keyOf : String → String × String)
    (h : RoutesWF al bl R) (hkey : ∀ r ∈ al ++ bl, keyOf r.text = r.key) :
    ∃ R' pa pb, (routePlan al bl).1 = pa ++ pb ∧ rRun R (routePlan al bl).1 = some R' ∧
      phaseA (pa.map (encOp keyOf (R ++ bl.map (·.text)))) = true ∧
      phaseB ((bl.map (·.text)).map (encRoute keyOf (R ++ bl.map (·.text)))) (pb.map (encOp keyOf (R ++ bl.map (·.text)))) = true ∧
      (∀ r ∈ (bl.map (·.text)).map (encRoute keyOf (R ++ bl.map (·.text))),
        r ∈ (pa.map (encOp keyOf (R ++ bl.map (·.text)))).foldl rexec1 (R.map (encRoute keyOf (R ++ bl.map (·.text))))) ∧
      ∀ k, ∃ Rk, rRun R ((routePlan al bl).1.take k) = some Rk ∧
        ∀ t0 ∈ R, (∃ t ∈ R', keyOf t = keyOf t0) → ∃ t ∈ Rk, keyOf t = keyOf t0 := by
  obtain ⟨R', pa, pb, Ra, hplan, hrunA, hrunB, hshA, hshB, hallT, _⟩ := routes_run_full al bl R h
  rw [hplan]
  generalize hU : R ++ bl.map (·.text) = U
  have hRU : ∀ t ∈ R, t ∈ U := fun t ht => hU ▸ List.mem_append_left _ ht
  have hBU : ∀ r ∈ bl, r.text ∈ U := fun r hr => hU ▸ List.mem_append_right _ (List.mem_map_of_mem hr)
  have hAU : ∀ o ∈ al, o.text ∈ U := fun o ho => hRU _ (h.aIn o ho)
  have htA : ∀ a ∈ pa, ∀ t ∈ addedText a, t ∈ U := by
    intro a ha
    rcases hshA a ha with ⟨r, hr, rfl⟩ | ⟨_, _, r, hr, rfl, _⟩ <;> exact List.forall_mem_singleton.mpr (hBU r hr)
  have htB : ∀ a ∈ pb, ∀ t ∈ addedText a, t ∈ U := by
    intro a ha
    obtain ⟨o, _, rfl, _⟩ := hshB a ha
    exact fun _ ht => nomatch ht
  have htAB : ∀ a ∈ pa ++ pb, ∀ t ∈ addedText a, t ∈ U := List.forall_mem_append.mpr ⟨htA, htB⟩
  have hrun : rRun R (pa ++ pb) = some R' := by rw [rRun_append, hrunA]; exact hrunB
  obtain ⟨simA, hRaU⟩ := sim_run (keyOf := keyOf) pa R Ra hrunA hRU htA
  -- the three hypotheses of `NA.Route.routes_covered`
  have hA : phaseA (pa.map (encOp keyOf U)) = true := by
    simp only [phaseA, List.all_map, List.all_eq_true, Function.comp]
    intro a ha
    rcases hshA a ha with ⟨r, hr, rfl⟩ | ⟨o, ho, r, hr, rfl, hk⟩
    · rfl
    · have hk' : keyOf o.text = keyOf r.text := by
        rw [hkey o (List.mem_append_left _ ho), hkey r (List.mem_append_right _ hr), hk]
      obtain ⟨e1, e2⟩ := (enc_key (keyOf := keyOf) (hAU o ho)).mpr hk'
      simp only [encOp, e1, e2, beq_self_eq_true, Bool.and_self]
  have hB : phaseB ((bl.map (·.text)).map (encRoute keyOf U)) (pb.map (encOp keyOf U)) = true := by
    simp only [phaseB, List.all_map, List.all_eq_true, Function.comp]
    intro a ha
    obtain ⟨o, ho, rfl, hnot⟩ := hshB a ha
    simp only [encOp, Bool.not_eq_true']
    rw [Bool.eq_false_iff]
    intro hc
    obtain ⟨t, ht, het⟩ := List.mem_map.mp (List.contains_iff_mem.mp hc)
    obtain ⟨r, hr, rfl⟩ := List.mem_map.mp ht
    exact hnot (by rw [← enc_inj (hBU r hr) het]; exact List.mem_map_of_mem hr)
  have hall : ∀ r ∈ (bl.map (·.text)).map (encRoute keyOf U),
      r ∈ (pa.map (encOp keyOf U)).foldl rexec1 (R.map (encRoute keyOf U)) := by
    intro r hr
    obtain ⟨t, ht, rfl⟩ := List.mem_map.mp hr
    obtain ⟨b, hb, rfl⟩ := List.mem_map.mp ht
    rw [← simA]
    exact List.mem_map_of_mem (hallT b hb)
  refine ⟨R', pa, pb, rfl, hrun, hA, hB, hall, ?_⟩
  intro k
  obtain ⟨Rk, hk1, hk2⟩ := rRun_take _ R R' hrun k
  refine ⟨Rk, hk1, ?_⟩
  intro t0 ht0 ⟨t, htR', htk⟩
  by_cases htb : t ∈ bl.map (·.text)
  · -- covered by a target route afterwards: `routes_covered`, unless no or all commands have run
    rcases Nat.eq_zero_or_pos k with rfl | hk0
    · cases hk1; exact ⟨t0, ht0, rfl⟩
    by_cases hkl : (pa ++ pb).length ≤ k
    · rw [List.take_of_length_le hkl, hrun] at hk1
      cases hk1; exact ⟨t, htR', htk⟩
    rw [List.length_append] at hkl
    have hold := (covered_enc (keyOf := keyOf) R hRU t0).mpr ⟨t0, ht0, rfl⟩
    have hnew := (covered_enc (keyOf := keyOf) (bl.map (·.text))
      (fun x hx => by obtain ⟨r, hr, rfl⟩ := List.mem_map.mp hx; exact hBU r hr) t0).mpr ⟨t, htb, htk⟩
    have hcov := NA.Route.covered_both_phases _ _ _ _ _ _ hA hB hall hold hnew
    have hRkU : ∀ x ∈ Rk, x ∈ U :=
      (sim_run (keyOf := keyOf) _ R Rk hk1 hRU fun a ha => htAB a (List.mem_of_mem_take ha)).2
    refine (covered_enc Rk hRkU t0).mp (hcov _ ?_)
    -- the table after `k` commands is in the trace
    by_cases hle : k ≤ pa.length
    · rw [List.take_append_of_le_length hle] at hk1
      exact List.mem_append_left _ (trace_mem pa R Rk k hk0 hle hk1 hRU htA)
    · rw [List.take_append, List.take_of_length_le (by omega), rRun_append, hrunA] at hk1
      rw [← simA]
      exact List.mem_append_right _ (trace_mem pb Ra Rk (k - pa.length) (by omega) (by omega) hk1 hRaU htB)
  · -- covered afterwards by a line that is not a target route: it was never touched
    refine ⟨t, persist _ Rk R' hk2 t htR' fun a ha hc => ?_, htk⟩
    rcases List.mem_append.mp (List.mem_of_mem_drop ha) with k' | k'
    · rcases hshA a k' with ⟨r, hr, rfl⟩ | ⟨o, ho, r, hr, rfl, _⟩ <;>
        exact htb (List.mem_singleton.mp hc ▸ List.mem_map_of_mem hr)
    · obtain ⟨o, ho, rfl, _⟩ := hshB a k'
      cases hc

end NA.F2
