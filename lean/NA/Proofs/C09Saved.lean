import NA.Proofs.C09Cls
/-!
# C09: the save step returns normally only after the device confirmed it
(ASA `write memory`, IOS `writeMem`, PAN-OS `commit`)
-/
namespace NA.C09
open NA.Sess NA.Apply NA.Spec.C09

theorem saveConfirmed_snoc (tr0 : List Ev) (r : Reply)
    (h : Flag.okMark ∈ r.flags ∨ Flag.jobOk ∈ r.flags ∨ Flag.noChanges ∈ r.flags) :
    saveConfirmed (tr0 ++ [Ev.got .save r]) = true := by
  simp only [saveConfirmed, List.any_append, List.any_cons, List.any_nil, Bool.or_false, Bool.or_eq_true]
  right
  rcases h with h | h | h <;> simp [h]

theorem saveConfirmed_append (a l : List Ev) (h : saveConfirmed a = true) : saveConfirmed (a ++ l) = true := by
  simp only [saveConfirmed, List.any_append, Bool.or_eq_true] at h ⊢
  exact Or.inl h

/-! ## "the device confirmed the save" as a base of the classes of `C09Cls`

`A`: the save is confirmed — it stays so, whatever follows; `top`: nothing is known; a reply is pending as soon as it is
the last event of the trace.  The reply to a save step that carries `[OK]`, job result OK or "no changes" is the
confirmation.  So `E` is "confirmed unless an error value is pending": what a function that returns error values has to
establish. -/

def svBase : Base where
  A tr := saveConfirmed tr = true
  T _ := True
  Pend ρ tr r := ∃ tr0, tr = tr0 ++ [.got ρ r]

def svGood (ρ : Role) (k : Know) : Bool :=
  ρ == .save && (has k (.flag .okMark) true || has k (.flag .jobOk) true || has k (.flag .noChanges) true)

theorem svGood_sound {ρ : Role} {k : Know} {tr : List Ev} {r : Reply} (h : svBase.Pend ρ tr r) (hk : trueOf k r)
    (hg : svGood ρ k = true) : svBase.A tr := by
  obtain ⟨tr0, rfl⟩ := h
  simp only [svGood, Bool.and_eq_true, beq_iff_eq, Bool.or_eq_true] at hg
  obtain ⟨rfl, hg⟩ := hg
  have hf : ∀ {f}, has k (.flag f) true = true → f ∈ r.flags := fun h => by simpa [Atom.eval] using has_eval hk h
  exact saveConfirmed_snoc _ _ (hg.elim (·.elim (fun h => .inl (hf h)) (fun h => .inr (.inl (hf h)))) (fun h => .inr (.inr (hf h))))

/-- what survives an event, and a new error value: confirmation -/
def K.keepA : K → K | .bot => .bot | .A => .A | _ => .top
/-- what survives an event: confirmation, and what is said of the error value alone -/
def K.keep : K → K | .E => .E | .X => .X | c => c.keepA

/-- talking keeps what is confirmed; every wait brings a fresh reply (or an error) -/
def evSv (p : Sess) (c : K) : Option (Ends K) :=
  match p with
  | .warn _ | .send _ _ | .mark _ => some (at1 .run c.keep)
  | .abort _ => some (at1 .panic c.keep)
  | .recv ρ q => some (at1 .run (if c.leA then c else .H ρ (matchLits q)))
  | .roundTrip ρ _ _ => some (at1 .run (if c.leA then c else .H ρ (matchLits .http)))
  | _ => none

theorem K.keep_sound {c : K} {s s' : St} (l : List Ev) (ht : s'.tr = s.tr ++ l) (he : s'.errv = s.errv)
    (h : K.γ svBase c s) : K.γ svBase c.keep s' := by
  have hA : svBase.A s.tr → svBase.A s'.tr := fun h => ht ▸ saveConfirmed_append _ l h
  cases c <;> first | exact False.elim h | exact hA h | exact trivial | skip
  · exact ⟨trivial, fun he' => hA (h.2 (he ▸ he'))⟩
  · exact ⟨trivial, he ▸ h.2⟩

theorem K.keepA_sound {c : K} {s s' : St} (l : List Ev) (ht : s'.tr = s.tr ++ l) (h : K.γ svBase c s) :
    K.γ svBase c.keepA s' := by
  cases c <;> first | exact False.elim h | exact (ht ▸ saveConfirmed_append _ l h : svBase.A s'.tr) | exact trivial

theorem fresh_of_got {dev : Dev} {ρ : Role} {p : Pat} {n : Nat} {s : St} :
    K.γ svBase (.H ρ (matchLits p)) (recvLoop dev ρ p n s) := by
  obtain ⟨_, _, l, _, h3⟩ := recvLoop_got dev ρ p n s
  rcases h3 with ⟨_, he⟩ | ⟨ht, he⟩
  · exact .inr ⟨trivial, he⟩
  · cases hmt : p.matches (recvLoop dev ρ p n s).last with
    | false => exact .inr ⟨trivial, by rw [he, hmt]; rfl⟩
    | true =>
      exact .inl ⟨⟨_, ht⟩, matchLits_true p _ hmt, by rw [he, hmt]; rfl⟩

theorem evSv_sound (p : Sess) (c : K) (o : Ends K) (h : evSv p c = some o) (env : Env) (s : St)
    (hm : s.mode = .run) (hc : K.γ svBase c s) : K.γ svBase (o.at (exec p env s).mode) (exec p env s) := by
  cases p <;> simp only [evSv, reduceCtorEq, Option.some.injEq] at h <;> subst h
  case warn | send | mark => simp only [sess_run, hm, if_true]; rw [← hm, at1_at]; exact K.keep_sound [_] rfl rfl hc
  case abort l => rw [exec_abort _ _ _ hm]; simp only [at1_at]; exact K.keep_sound [_] rfl rfl hc
  case recv ρ q =>
    rw [exec_recv_mode _ _ _ _ hm, at1_at]
    split
    · rename_i hk
      obtain ⟨l, hl, _⟩ := (leaf_grows (.recv ρ q) rfl env s hm).1
      have := K.keepA_sound l hl hc
      revert this; cases c <;> first | exact id | cases hk
    · simp only [sess_run, hm, if_true]; exact fresh_of_got
  case roundTrip ρ t r =>
    rw [exec_roundTrip_mode _ _ _ _ _ hm, at1_at]
    split
    · rename_i hk
      obtain ⟨l, hl, _⟩ := (leaf_grows (.roundTrip ρ t r) rfl env s hm).1
      have := K.keepA_sound l hl hc
      revert this; cases c <;> first | exact id | cases hk
    · simp only [sess_run, if_pos hm]; split <;> exact fresh_of_got

/-- in front of a `for { … }`: only confirmation is kept -/
abbrev svD : Dom K := KD svGood evSv K.keepA

/-- started anywhere, `p` ends (mode by mode) only in the classes `o'` -/
def svEnds (p : Sess) (o' : Ends K) : Bool :=
  match ai svD p .top with
  | some o => leEnds o o'
  | none => false

theorem svEnds_sound (p : Sess) (o' : Ends K) (h : svEnds p o' = true) (env : Env) (s : St) (hm : s.mode = .run) :
    K.γ svBase (o'.at (exec p env s).mode) (exec p env s) := by
  unfold svEnds at h
  split at h
  · rename_i o ho
    exact KD_sound ⟨fun _ => trivial, fun _ => trivial⟩ svGood_sound (fun p _ => evSv_sound p)
      (fun c => by cases c <;> rfl) p .top o o' ho h env s hm trivial
  · cases h

theorem svEnds_cont (p : Sess) (ρ : Role) (a : Atom) (v : Bool)
    (h : svEnds p ⟨.top, .top, .P ρ [(a, v)], .top, .top⟩ = true) (env : Env) (s : St) (hm : s.mode = .run)
    (hc : (exec p env s).mode = .cont) : a.eval (exec p env s).last = v := by
  have := svEnds_sound p _ h env s hm
  rw [hc] at this
  exact this.2.1 a v (List.mem_singleton.mpr rfl)

/-- ASA: the `write memory` block ends in normal mode only if the reply contained `[OK]` -/
theorem asa_saved_if_completes (env : Env) (s : St) (hm : s.mode = .run)
    (hend : (exec (GetCmdOutput .save (.lit "write memory") ["write memory"] ;;
       .ite (.not (.flag .okMark)) "¬strings.Contains($GetCmdOutput, \"[OK]\")"
         (.abort ["Command 'write memory' failed, missing [OK] in output:\n%s", "_"]) .skip) env s).mode = .run) :
    saveConfirmed (exec (GetCmdOutput .save (.lit "write memory") ["write memory"] ;;
       .ite (.not (.flag .okMark)) "¬strings.Contains($GetCmdOutput, \"[OK]\")"
         (.abort ["Command 'write memory' failed, missing [OK] in output:\n%s", "_"]) .skip) env s).tr = true := by
  have := svEnds_sound asaSaveBlock ⟨.A, .top, .top, .top, .top⟩ (by decide +kernel) env s hm
  rw [show (exec asaSaveBlock env s).mode = .run from hend] at this
  exact this

/-- **IOS: `writeMem` comes back (no abort) only after the device answered `[OK]`.** -/
theorem ios_saved_if_completes (env : Env) (s : St) (hm : s.mode = .run)
    (hend : (exec iosWriteMem env s).mode = .run) : saveConfirmed (exec iosWriteMem env s).tr = true := by
  have := svEnds_sound iosWriteMem ⟨.A, .top, .top, .top, .top⟩ (by decide +kernel) env s hm
  rw [hend] at this
  exact this

theorem panosCommitBody_eq : panosCommitBody =
    (panosCommitHead ;; xmlUnmarshal ;; .ite .err "err != nil" (.ret .keep ["err"]) .skip ;; .loopFuel panosPollRound) := rfl

/-- **PAN-OS: `commit` returns nil only after the device said "no changes" or the job result was OK.** -/
theorem panos_saved_if_commit_returns_nil (env : Env) (s : St) (hm : s.mode = .run)
    (hend : (exec panosCommit env s).mode = .run) (herr : (exec panosCommit env s).errv = false) :
    saveConfirmed (exec panosCommit env s).tr = true := by
  have := svEnds_sound panosCommit ⟨.E, .top, .top, .top, .top⟩ (by decide +kernel) env s hm
  rw [hend] at this
  exact this.2 herr

end NA.C09
