import NA.Proofs.C09AI
/-!
# C09: structural facts about session programs

A relation between the state before and after that the control constructs respect (`Frame`) holds along every program
once the constructs without sub-programs respect it (`exec_walk`); what those append to the trace is `leaf_grows`.
`Reach`: the modes a program can end in, a domain of the interpreter `ai`.
-/
namespace NA.C09
open NA.Sess NA.Apply NA.Spec.C09

def allLeaves (ok : Sess → Bool) : Sess → Bool
  | .ite _ _ t e => allLeaves ok t && allLeaves ok e
  | .seq a b => allLeaves ok a && allLeaves ok b
  | .defer c b => allLeaves ok c && allLeaves ok b
  | .forEach b | .loopN _ b | .loopFuel b | .call _ _ b | .scope _ b | .when _ b => allLeaves ok b
  | p => ok p

/-- A relation between the states before and after a piece of a run that composition respects: apart
from running their parts, the control constructs only change the mode. -/
structure Frame (R : St → St → Prop) : Prop where
  refl : ∀ s, R s s
  trans : ∀ {a b c}, R a b → R b c → R a c
  mode : ∀ s m, R s { s with mode := m }

/-- What a Boolean check of programs must grant to be followed through a program: it descends into the parts, and
for a test whose outcome `known` tells, into the branch taken only. -/
def Descends (known : Cond → Option Bool) (chk : Sess → Bool) : Prop :=
  ∀ p, chk p = true → match p with
    | .ite c _ t e =>
      match known c with
      | some true => chk t = true
      | some false => chk e = true
      | none => chk t = true ∧ chk e = true
    | .seq a b | .defer a b => chk a = true ∧ chk b = true
    | .forEach b | .loopN _ b | .loopFuel b | .call _ _ b | .scope _ b | .when _ b => chk b = true
    | _ => True

/-- **Frame properties along a program**: if every construct without sub-programs that `chk` admits respects `R`
(started in normal mode; otherwise it does nothing), so does every program `chk` admits — in environments `E`
in which `known` is right about the tests. -/
theorem exec_walk {R : St → St → Prop} (hR : Frame R) {E : Env → Prop}
    (hcur : ∀ env pk, E { env with cur := pk } ↔ E env) {known : Cond → Option Bool}
    (hk : ∀ c v env s, E env → known c = some v → evalCond c env s = v) {chk : Sess → Bool} (hd : Descends known chk)
    (hleaf : ∀ p, isLeaf p = true → chk p = true → ∀ env s, E env → s.mode = .run → R s (exec p env s)) :
    ∀ p, chk p = true → ∀ (env : Env) (s : St), E env → R s (exec p env s) := by
  have nonrun : ∀ p env s, s.mode ≠ .run → R s (exec p env s) := fun p env s hm => by
    rw [exec_nonrun _ _ _ hm]; exact hR.refl s
  -- a loop whose rounds respect `R`
  have loop : ∀ (f : St → St), (∀ s, R s (f s)) → ∀ n s, R s (iter n f s) := fun f hf n s => by
    by_cases hm : s.mode = .run
    · exact iter_inv (I := R s) (Q := R s) f
        (fun st _ h => ⟨fun _ => hR.trans h (hf st), fun _ => hR.trans (hR.trans h (hf st)) (hR.mode _ _),
          fun _ _ => hR.trans h (hf st)⟩) (fun st _ h => hR.trans h (hR.mode _ _)) n s hm (hR.refl s)
    · cases n <;> simp only [iter, hm, if_false] <;> exact hR.refl s
  intro p h env s he
  induction p generalizing env s with
  | seq a b iha ihb =>
    rw [exec_seq]; exact hR.trans (iha (hd _ h).1 env s he) (ihb (hd _ h).2 env _ he)
  | ite c l t e iht ihe =>
    by_cases hm : s.mode = .run
    · have h' : match known c with
          | some true => chk t = true | some false => chk e = true | none => chk t = true ∧ chk e = true := hd _ h
      rw [exec_ite _ _ _ _ _ _ hm]
      cases hkc : known c with
      | none =>
        rw [hkc] at h'; split
        · exact iht h'.1 env s he
        · exact ihe h'.2 env s he
      | some v =>
        rw [hkc] at h'; rw [hk c v env s he hkc]
        cases v
        · exact ihe h' env s he
        · exact iht h' env s he
    · exact nonrun _ env s hm
  | «when» c b ih =>
    by_cases hm : s.mode = .run
    · simp only [sess_run, hm, if_true]; split
      · exact ih (hd _ h) env s he
      · exact hR.refl s
    · exact nonrun _ env s hm
  | call n l b ih =>
    by_cases hm : s.mode = .run
    · rw [exec_call _ _ _ _ _ hm]; split
      · exact hR.trans (ih (hd _ h) env s he) (hR.mode _ _)
      · exact ih (hd _ h) env s he
    · exact nonrun _ env s hm
  | scope c b ih => rw [exec_scope]; exact ih (hd _ h) env s he
  | forEach b ih =>
    by_cases hm : s.mode = .run
    · simp only [sess_run, hm, if_true]
      exact each_inv (I := R s) _ (fun pk st hst => hR.trans hst (ih (hd _ h) _ st ((hcur env pk).mpr he))) _ _ (hR.refl s)
    · exact nonrun _ env s hm
  | loopN k b ih => rw [exec_loopN]; exact loop _ (fun st => ih (hd _ h) env st he) k s
  | loopFuel b ih => simp only [sess_run]; exact loop _ (fun st => ih (hd _ h) env st he) _ s
  | defer c b ihc ihb =>
    by_cases hm : s.mode = .run
    · have hb := ihb (hd _ h).2 env s he
      simp only [sess_run, hm, if_true]
      split
      · exact hb
      · have hc := hR.trans (hR.trans hb (hR.mode _ .run)) (ihc (hd _ h).1 env _ he)
        split
        · exact hR.trans hc (hR.mode _ _)
        · exact hc
    · exact nonrun _ env s hm
  | _ =>
    by_cases hm : s.mode = .run
    · exact hleaf _ rfl h env s he hm
    · exact nonrun _ env s hm
theorem allLeaves_descends (ok : Sess → Bool) : Descends (fun _ => none) (allLeaves ok) := by
  intro p h
  cases p <;> simp only [allLeaves, Bool.and_eq_true] at h <;> first | trivial | exact h

theorem exec_frame {R : St → St → Prop} (hR : Frame R) {ok : Sess → Bool}
    (hleaf : ∀ p, isLeaf p = true → ok p = true → ∀ env s, s.mode = .run → R s (exec p env s)) :
    ∀ p, allLeaves ok p = true → ∀ (env : Env) (s : St), R s (exec p env s) :=
  fun p h env s => exec_walk (E := fun _ => True) hR (fun _ _ => Iff.rfl) (fun _ _ _ _ _ h => by cases h)
    (allLeaves_descends ok)
    (fun p hl hok env s _ hm => hleaf p hl (by cases p <;> first | exact hok | cases hl) env s hm) p h env s trivial

/-- the events program `p` itself can append: replies read, and its own packet, log line or mark -/
def leafEv (p : Sess) (env : Env) (e : Ev) : Prop :=
  (∃ ρ r, e = .got ρ r) ∨ (∃ r, e = .skipped r) ∨
  match p with
  | .send ρ t | .roundTrip ρ t _ => e = .sent ρ (t.lines env)
  | .abort _ => e = .logErr
  | .warn _ => e = .logWarn
  | .mark e' => e = e'
  | _ => False

/-- `s'` has the trace of `s` extended by events with `Q`, and, unless `sp`, the script and iptables flag of `s` -/
def Grows (Q : Ev → Prop) (sp : Bool) (s s' : St) : Prop :=
  (∃ l, s'.tr = s.tr ++ l ∧ ∀ e ∈ l, Q e) ∧ (sp = false → s'.plan = s.plan ∧ s'.ipt = s.ipt)

section
variable {Q : Ev → Prop} {sp : Bool}

theorem Grows.refl (s : St) : Grows Q sp s s := ⟨⟨[], by simp, by simp⟩, fun _ => ⟨rfl, rfl⟩⟩
theorem Grows.trans {a b c : St} (h1 : Grows Q sp a b) (h2 : Grows Q sp b c) : Grows Q sp a c := by
  obtain ⟨⟨l1, e1, q1⟩, p1⟩ := h1
  obtain ⟨⟨l2, e2, q2⟩, p2⟩ := h2
  refine ⟨⟨l1 ++ l2, by rw [e2, e1, List.append_assoc], fun e he => ?_⟩,
    fun h => ⟨(p2 h).1.trans (p1 h).1, (p2 h).2.trans (p1 h).2⟩⟩
  rcases List.mem_append.mp he with h | h
  · exact q1 e h
  · exact q2 e h
theorem Grows.snoc {s s' : St} (e : Ev) (h : s'.tr = s.tr ++ [e]) (he : Q e) (hp : s'.plan = s.plan := by rfl)
    (hi : s'.ipt = s.ipt := by rfl) : Grows Q sp s s' := ⟨⟨[e], h, by simpa using he⟩, fun _ => ⟨hp, hi⟩⟩
theorem Grows.of_tr {s s' : St} (h : s'.tr = s.tr) (hp : s'.plan = s.plan := by rfl)
    (hi : s'.ipt = s.ipt := by rfl) : Grows Q sp s s' := ⟨⟨[], by simp [h], by simp⟩, fun _ => ⟨hp, hi⟩⟩
theorem Grows.mono {Q' : Ev → Prop} {sp' : Bool} {s s' : St} (h : Grows Q sp s s') (hQ : ∀ e, Q e → Q' e)
    (hsp : sp' = false → sp = false) : Grows Q' sp' s s' :=
  ⟨h.1.imp fun _ hl => ⟨hl.1, fun e he => hQ e (hl.2 e he)⟩, fun h' => h.2 (hsp h')⟩

theorem Grows.frame : Frame (Grows Q sp) := ⟨.refl, .trans, fun _ _ => .of_tr rfl⟩

/-- Reading replies: whatever the device says, only `got` / `skipped` events are appended.  Induction on the number
of unread replies — one reply of the device is consumed per step. -/
theorem recvLoop_grows (hg : ∀ ρ r, Q (.got ρ r)) (hs : ∀ r, Q (.skipped r)) (dev : Dev) (ρ : Role) (p : Pat) :
    ∀ (n : Nat) (s : St), Grows Q sp s (recvLoop dev ρ p n s) := by
  intro n
  induction n with
  | zero => intro s; exact .of_tr rfl
  | succ n ih =>
    intro s
    simp only [recvLoop]
    split
    · exact .snoc _ rfl (hg _ _)
    · split
      · exact (Grows.snoc (s' := { s with tr := s.tr ++ [Ev.skipped (dev s.tr)] }) _ rfl (hs _)).trans (ih _)
      · exact .snoc _ rfl (hg _ _)
end

theorem leaf_grows (p : Sess) (hl : isLeaf p = true) (env : Env) (s : St) (hm : s.mode = .run) :
    Grows (leafEv p env) (p == .setPlan) s (exec p env s) := by
  have hg : ∀ ρ r, leafEv p env (.got ρ r) := fun ρ r => .inl ⟨ρ, r, rfl⟩
  have hs : ∀ r, leafEv p env (.skipped r) := fun r => .inr (.inl ⟨r, rfl⟩)
  cases p <;> try cases hl
  case roundTrip ρ t r =>
    have hsent : leafEv (.roundTrip ρ t r) env (Ev.sent ρ (t.lines env)) := .inr (.inr rfl)
    have h1 := (Grows.snoc (sp := false) (s' := { s with tr := s.tr ++ [Ev.sent ρ (t.lines env)] }) _ rfl hsent).trans
      (recvLoop_grows hg hs env.dev ρ .http 1 _)
    simp only [sess_run, if_pos hm]
    split
    · exact h1.trans ((Grows.snoc _ rfl hsent).trans (recvLoop_grows hg hs _ _ _ _ _))
    · exact h1
  case setPlan => simp only [sess_run, hm, if_true]; exact ⟨⟨[], by simp, by simp⟩, fun h => by cases h⟩
  all_goals simp only [sess_run, hm, if_true]
  case recv ρ p => exact recvLoop_grows hg hs _ _ _ _ _
  case send | mark | abort | warn => exact .snoc _ rfl (.inr (.inr rfl))
  all_goals exact .of_tr rfl

/-- no send, request or mark of `p` is in `X` (a send is judged by its role) -/
def without (X : Ev → Bool) : Sess → Bool := allLeaves fun
  | .send ρ _ | .roundTrip ρ _ _ => !X (.sent ρ [])
  | .mark e => !X e
  | _ => true

structure SendKind (X : Ev → Bool) : Prop where
  got : ∀ ρ r, X (.got ρ r) = false
  skipped : ∀ r, X (.skipped r) = false
  logErr : X .logErr = false
  logWarn : X .logWarn = false
  sent : ∀ ρ l l', X (.sent ρ l) = X (.sent ρ l')

theorem without_ext {X : Ev → Bool} (hX : SendKind X) (p : Sess) (hq : without X p = true) (env : Env) (s : St) :
    ∃ l, (exec p env s).tr = s.tr ++ l ∧ ∀ e ∈ l, X e = false := by
  refine (exec_frame (R := Grows (X · = false) true) Grows.frame (fun p hl hok env s hm => ?_) p hq env s).1
  refine (leaf_grows p hl env s hm).mono (fun e he => ?_) (fun h => by cases h)
  rcases he with ⟨ρ, r, rfl⟩ | ⟨r, rfl⟩ | h
  · exact hX.got _ _
  · exact hX.skipped _
  · cases p <;> (try cases hl) <;> (try exact False.elim h)
    all_goals subst h
    · rw [hX.sent _ _ []]; simpa using hok
    · rw [hX.sent _ _ []]; simpa using hok
    · exact hX.logErr
    · exact hX.logWarn
    · simpa using hok

/-- `p` contains no send of a change command or save and no scp mark; then whatever `p` appends to
the trace is harmless even after a failure (used for deferred clean-up) -/
def quiet : Sess → Bool := without isChangeOrSave

theorem isChangeOrSave_kind : SendKind isChangeOrSave :=
  ⟨fun _ _ => rfl, fun _ => rfl, rfl, rfl, fun ρ _ _ => by cases ρ <;> rfl⟩

theorem quiet_safe (bad : Role → Reply → Bool) (p : Sess) (hq : quiet p = true) (env : Env) (s : St)
    (hs : safe bad s.tr = true) : safe bad (exec p env s).tr = true := by
  obtain ⟨l, he, hl⟩ := without_ext isChangeOrSave_kind p hq env s
  rw [he, safe_append_quiet bad _ _ hl]; exact hs


def lookup {β : Type} (bl : List (Sess × β)) (p : Sess) : Option β := (bl.find? (fun x => x.1 == p)).map (·.2)

def allBut (m : Mode) : Ends Bool := ⟨m != .run, m != .ret, m != .cont, m != .panic, m != .diverge⟩

def rSplit : Cond → Bool → Bool × Bool
  | .never, a => (false, a)
  | .not .never, a => (a, false)
  | _, a => (a, a)

def rLeaf (p : Sess) (a : Bool) : Option (Ends Bool) := some (match p with
  | .ret _ _ => .only false .ret a
  | .cont => .only false .cont a
  | .abort _ => .only false .panic a
  | _ => .only false .run a)

/-- The domain "reachable": `return` is absorbed by a call, `continue` by a `for { … }` (not by `forEach`), a `for { … }` may run out of fuel
(`diverge`).  `bl` lists sub-programs (functions; `ai` asks `blk` at `seq`, `ite`, `call`, `forEach` only) whose possible ends are
proved separately. -/
def Reach (bl : List (Sess × Ends Bool)) : Dom Bool :=
  ⟨false, (!·), or, fun a b => !a || b, rSplit, rLeaf, fun p _ => lookup bl p, id⟩

theorem mem_of_lookup {β : Type} {bl : List (Sess × β)} {p : Sess} {o : β} (h : lookup bl p = some o) : (p, o) ∈ bl := by
  simp only [lookup, Option.map_eq_some_iff] at h
  obtain ⟨⟨q, o⟩, hx, rfl⟩ := h
  have hq := List.find?_some hx
  obtain rfl : q = p := beq_iff_eq.mp hq
  exact List.mem_of_find?_eq_some hx

theorem rLeaf_sound (p : Sess) (hl : isLeaf p = true) (o : Ends Bool) (h : rLeaf p true = some o) (env : Env) (s : St)
    (hm : s.mode = .run) : o.at (exec p env s).mode = true := by
  simp only [rLeaf, Option.some.injEq] at h
  subst h
  cases p <;> try cases hl
  case recv ρ p => rw [exec_recv_mode _ _ _ _ hm]; rfl
  case roundTrip ρ t r => rw [exec_roundTrip_mode _ _ _ _ _ hm]; rfl
  all_goals simp [sess_run, hm, Ends.only, Ends.at]

theorem reach_ok (bl : List (Sess × Ends Bool))
    (hbl : ∀ q o, (q, o) ∈ bl → ∀ env s, s.mode = .run → o.at (exec q env s).mode = true) :
    (Reach bl).OK fun a _ _ _ => a = true where
  mode _ h := h
  cur _ := Iff.rfl
  dead h := by simp_all [Reach]
  joinL h := by simp_all [Reach]
  joinR h := by simp_all [Reach]
  le h1 h2 := by simp_all [Reach]
  split c _ h := by
    cases h
    show (_ → (rSplit c true).1 = true) ∧ (_ → (rSplit c true).2 = true)
    unfold rSplit
    split <;> simp [evalCond]
  leaf hl h env s0 s hm hx := by cases hx; exact rLeaf_sound _ hl _ h env s hm
  blk h env s0 s hm hx := hbl _ _ (mem_of_lookup h) env s hm
  inv h := h

theorem reach_sound (bl : List (Sess × Ends Bool))
    (hbl : ∀ q o, (q, o) ∈ bl → ∀ env s, s.mode = .run → o.at (exec q env s).mode = true)
    (p : Sess) (o : Ends Bool) (h : ai (Reach bl) p true = some o) (env : Env) (s : St) (hm : s.mode = .run) :
    o.at (exec p env s).mode = true :=
  ai_sound (reach_ok bl hbl) p true o h env s s hm rfl

/-- `never m bl p`: `p` does not end in mode `m`; `bl` lists sub-programs for which this is proved separately -/
def never (m : Mode) (bl : List Sess) (p : Sess) : Bool :=
  match ai (Reach (bl.map (·, allBut m))) p true with
  | some o => !o.at m
  | none => false

theorem never_run (m : Mode) (bl : List Sess)
    (hbl : ∀ q ∈ bl, ∀ env s, s.mode = .run → (exec q env s).mode ≠ m) (p : Sess) (hq : never m bl p = true)
    (env : Env) (s : St) (hm : s.mode = .run) : (exec p env s).mode ≠ m := by
  unfold never at hq
  split at hq
  · rename_i o ho
    intro he
    have := reach_sound _ (fun q o hqo env s hs => ?_) p o ho env s hm
    · rw [he] at this; rw [this] at hq; cases hq
    · obtain ⟨q', hq', heq⟩ := List.mem_map.mp hqo
      cases heq
      have := hbl q hq' env s hs
      revert this; cases (exec q env s).mode <;> cases m <;> simp [allBut, Ends.at]
  · cases hq

theorem never_mode (m : Mode) (bl : List Sess)
    (hbl : ∀ q ∈ bl, ∀ env s, s.mode ≠ m → (exec q env s).mode ≠ m) (p : Sess) :
    never m bl p = true → ∀ (env : Env) (s : St), s.mode ≠ m → (exec p env s).mode ≠ m := by
  intro hq env s hs
  by_cases hm : s.mode = .run
  · exact never_run m bl (fun q hq env s hs' => hbl q hq env s (by rw [hs', ← hm]; exact hs)) p hq env s hm
  · rw [exec_nonrun _ _ _ hm]; exact hs

def noRet : Sess → Bool := never .ret []
def noCont : Sess → Bool := never .cont []
/-- `noLoop` with exceptions: functions whose loops are proved to terminate separately -/
def noLoopB (bl : List Sess) : Sess → Bool := never .diverge bl
def noLoop : Sess → Bool := noLoopB []
def leaves : Sess → Bool := never .run []

theorem noRet_mode (p : Sess) (hq : noRet p = true) :
    ∀ (env : Env) (s : St), s.mode ≠ .ret → (exec p env s).mode ≠ .ret := never_mode _ _ (by simp) p hq
theorem noCont_mode (p : Sess) (hq : noCont p = true) :
    ∀ (env : Env) (s : St), s.mode ≠ .cont → (exec p env s).mode ≠ .cont := never_mode _ _ (by simp) p hq
theorem noLoopB_mode (bl : List Sess) (hbl : ∀ q ∈ bl, ∀ env s, s.mode ≠ .diverge → (exec q env s).mode ≠ .diverge)
    (p : Sess) (hq : noLoopB bl p = true) :
    ∀ (env : Env) (s : St), s.mode ≠ .diverge → (exec p env s).mode ≠ .diverge := never_mode _ _ hbl p hq
theorem noLoop_mode (p : Sess) (hq : noLoop p = true) :
    ∀ (env : Env) (s : St), s.mode ≠ .diverge → (exec p env s).mode ≠ .diverge := noLoopB_mode [] (by simp) p hq
theorem leaves_mode (p : Sess) (hq : leaves p = true) : ∀ (env : Env) (s : St), s.mode = .run → (exec p env s).mode ≠ .run :=
  never_run _ _ (by simp) p hq

/-- the state in which round `k` of a `for { … }` starts when all earlier rounds said `continue` -/
def rounds (f : St → St) : Nat → St → St
  | 0, s => s
  | k+1, s => rounds f k { f s with mode := .run }

/-- A `for { … }` whose body never falls through and never diverges ends (does not run out of
fuel) as soon as some round within the fuel does not say `continue`. -/
theorem iter_total (f : St → St)
    (hf : ∀ s, s.mode = .run → (f s).mode ≠ .run ∧ (f s).mode ≠ .diverge) :
    ∀ (n : Nat) (s : St), s.mode = .run → ∀ k, k < n → (f (rounds f k s)).mode ≠ .cont →
      (iter n f s).mode ≠ .diverge := by
  intro n
  induction n with
  | zero => intro s _ k hk; exact absurd hk (Nat.not_lt_zero k)
  | succ n ih =>
    intro s hs k hk hstop
    simp only [iter, hs, if_true]
    split
    · rename_i hc
      cases k with
      | zero => exact absurd hc hstop
      | succ k' => exact ih _ rfl k' (Nat.lt_of_succ_lt_succ hk) hstop
    · rename_i hr; exact absurd hr (hf s hs).1
    · exact (hf s hs).2

end NA.C09
