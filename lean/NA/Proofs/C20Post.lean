import NA.Proofs.C20Refs
import NA.Model.CursorPost
/-!
`RefsFit` survives `postprocessParsed`, entry by entry of the lookup map (`postLookup`): every command still has at most as
many references as prefixes are registered for its type, hence `c.typ.ref[i]` of `checkReferences` stays in range.
-/
namespace NA.C20
open Res

theorem mapRes_mem {α β : Type} (f : α → Res β) (l : List α) (l' : List β) (h : mapRes f l = .ok l') :
    ∀ y ∈ l', ∃ x ∈ l, f x = .ok y := by
  fun_induction mapRes f l generalizing l'
  case case1 => cases h; exact fun _ hy => nomatch hy
  case case2 x xs ih =>
    obtain ⟨y0, hx, h⟩ := res_bind_ok h
    obtain ⟨ys, hxs, h⟩ := res_bind_ok h
    cases h
    exact List.forall_mem_cons.2 ⟨⟨x, List.mem_cons_self .., hx⟩, fun y hy =>
      let ⟨x', hx', hf⟩ := ih ys hxs y hy; ⟨x', List.mem_cons_of_mem _ hx', hf⟩⟩

theorem typRefTop_acl (ds : List Descr) (c : Cmd) (h : prefixOf ds c = lit "access-list") :
    typRefTop ds c = fiveGroups := by
  unfold typRefTop
  unfold prefixOf at h
  simp only [h, if_true]

theorem typRefTop_plain (ds : List Descr) (c : Cmd) (h1 : prefixOf ds c ≠ lit "access-list")
    (h2 : prefixOf ds c ≠ lit "crypto map") (h3 : prefixOf ds c ≠ lit "crypto dynamic-map") :
    typRefTop ds c = (ds.getD c.descr noDescr).refs := by
  unfold typRefTop
  unfold prefixOf at h1 h2 h3
  simp only [h1, h2, h3, if_false, or_self]

theorem typRefTop_congr (ds : List Descr) (c c' : Cmd) (hd : c'.descr = c.descr) (hp : c'.parsed = c.parsed) :
    typRefTop ds c' = typRefTop ds c := by
  unfold typRefTop
  rw [hd, hp]

theorem typRefSub_congr (ds : List Descr) (pc pc' sc : Cmd) (hd : pc'.descr = pc.descr) :
    typRefSub true ds pc' sc = typRefSub true ds pc sc := by
  unfold typRefSub
  rw [hd]

/-- the template of an `access-list` command has no `$REF`, `postprocessASAACL` appends at most five names, five prefixes
are registered. -/
theorem refsFit_asaACL (ds : List Descr) (c : Cmd) (d : Nat × Descr) (hd : d ∈ indexed ds) (hdi : c.descr = d.1)
    (hpre : d.2.pre = lit "access-list") (hcnt : c.ref.length = 0)
    (tb : Tables) (p : Str) (refs : List Str) (h : asaACL true tb c.orig c.parsed = .ok (some (p, refs))) :
    ({ c with parsed := p, ref := c.ref ++ refs } : Cmd).ref.length ≤
      (typRefTop ds { c with parsed := p, ref := c.ref ++ refs }).length := by
  have := (asaACL_spec true tb c.orig c.parsed).ok h p refs rfl
  rw [typRefTop_acl, fiveGroups_length]
  · simp; omega
  · exact (prefixOf_eq ds _ d hd hdi).trans hpre

/-- `setTransRef` stores at most eleven names (fix 7ae6545) where eleven prefixes are registered. -/
theorem refsFit_transRefs (orig names : Str) (r : List Str × Str) (h : transRefs true orig names = .ok r)
    (p : Str) : r.1.length ≤ (List.replicate 11 p).length := by
  simpa using transRefs_le11 orig names r h

def AclNoRef (ds : List Descr) : Prop := ∀ d ∈ ds, d.pre = lit "access-list" → d.template.count refTok = 0

theorem postASA_fit (ds : List Descr) (hdecl : RefsDeclared ds) (hmax : MaxRefs5 ds) (hacl : AclNoRef ds)
    (tb : Tables) (c c' : Cmd) (ht : TopOK ds c) (hp : prefixOf ds c = lit "access-list")
    (h : postASA tb c = .ok c') : RefsFit true ds c' := by
  have hfit := refsFit_of_topOK true ds hdecl hmax c ht
  unfold postASA at h
  obtain ⟨o, ha, h⟩ := res_bind_ok h
  cases o with
  | none => cases h; exact hfit
  | some pr =>
    obtain ⟨p, refs⟩ := pr
    cases h
    obtain ⟨d, hd, hdi, _, hr, _⟩ := ht
    have hpre : d.2.pre = lit "access-list" := by rw [← prefixOf_eq ds c d hd hdi, hp]
    exact ⟨refsFit_asaACL ds c d hd hdi hpre (by rw [hr]; exact hacl d.2 (mem_indexed hd) hpre) tb p refs ha, hfit.2⟩

def IosSubNoRef (ds : List Descr) : Prop :=
  ∀ d ∈ ds, d.pre = lit "ip access-list extended" → ∀ s ∈ d.sub, s.1.count refTok = 0

theorem typRefSub_ios (ds : List Descr) (pc sc : Cmd) (h : prefixOf ds pc = lit "ip access-list extended") :
    typRefSub true ds pc sc = fiveGroups := by
  unfold typRefSub
  unfold prefixOf at h
  simp only [h, and_self, if_true]

theorem postIOSGroup_fit (ds : List Descr) (hdecl : RefsDeclared ds) (hmax : MaxRefs5 ds) (hios : IosSubNoRef ds)
    (tb : Tables) (l l' : List Cmd) (ht : ∀ c ∈ l, TopOK ds c ∧ prefixOf ds c = lit "ip access-list extended")
    (h : postIOSGroup tb l = .ok l') : ∀ c' ∈ l', RefsFit true ds c' := by
  cases l with
  | nil => unfold postIOSGroup at h; cases h
  | cons c rest =>
    obtain ⟨subs, hs, h⟩ := res_bind_ok h
    cases h
    obtain ⟨⟨htc, hpc⟩, hrest⟩ := List.forall_mem_cons.1 ht
    refine List.forall_mem_cons.2 ⟨⟨(refsFit_of_topOK true ds hdecl hmax c htc).1, fun sc' hsc' => ?_⟩,
      fun c' hc' => refsFit_of_topOK true ds hdecl hmax c' (hrest c' hc').1⟩
    obtain ⟨d, hd, hdi, _, _, hsubs⟩ := htc
    obtain ⟨sc, hsc, hf⟩ := mapRes_mem (postIOSSub tb) c.sub subs hs sc' hsc'
    rw [typRefSub_ios ds { c with sub := subs } sc' hpc, fiveGroups_length]
    obtain ⟨r, hi, hf⟩ := res_bind_ok hf
    cases hf
    obtain ⟨s, hs', _, _, hr⟩ := hsubs sc hsc
    have h0 : sc.ref.length = 0 := by
      rw [hr]; exact hios d.2 (mem_indexed hd) (by rw [← prefixOf_eq ds c d hd hdi, hpc]) s.2 (mem_indexed hs')
    have h5 := (iosACL_spec true tb sc.orig sc.parsed).ok hi
    simp
    omega

theorem cutStr_spec (pat : Str) : ∀ (s a b : Str), cutStr pat s = some (a, b) → s = a ++ pat ++ b
  | [], a, b, h => by unfold cutStr at h; cases h
  | c :: cs, a, b, h => by
    unfold cutStr at h
    split at h
    · rename_i hp
      cases h
      exact (List.prefix_iff_eq_append.mp (List.isPrefixOf_iff_prefix.mp hp)).symm
    · obtain ⟨r, hc, h⟩ := Option.map_eq_some_iff.mp h
      cases h
      exact congrArg (c :: ·) (cutStr_spec pat cs r.1 r.2 hc)

theorem has_mid (pat a r : Str) :
    (List.range ((a ++ pat ++ r).length + 1)).any (fun i => pat.isPrefixOf ((a ++ pat ++ r).drop i)) = true := by
  rw [List.any_eq_true]
  refine ⟨a.length, ?_, ?_⟩
  · simp; omega
  · rw [List.append_assoc, List.drop_left]
    exact List.isPrefixOf_iff_prefix.mpr ⟨r, rfl⟩

theorem isTransformCmd_some (a r : Str) (part : Str) (hp : part = ikev1Part ∨ part = ikev2Part) :
    ∃ p, isTransformCmd (a ++ part ++ r) = some p := by
  fun_cases isTransformCmd (a ++ part ++ r)
  case case3 h1 h2 =>
    rcases hp with rfl | rfl
    · exact absurd (has_mid ikev1Part a r) h1
    · exact absurd (has_mid ikev2Part a r) h2
  all_goals exact ⟨_, rfl⟩

theorem typRefTop_crypto (ds : List Descr) (c : Cmd)
    (h : prefixOf ds c = lit "crypto map" ∨ prefixOf ds c = lit "crypto dynamic-map") (p : Str)
    (hp : isTransformCmd c.parsed = some p) : typRefTop ds c = List.replicate 11 p := by
  unfold typRefTop
  unfold prefixOf at h
  have hne : ¬ (ds.getD c.descr noDescr).pre = lit "access-list" := by
    rcases h with h | h <;> rw [h] <;> simp -index only [lit_ofList] <;> decide
  simp only [hne, if_false, h, if_true, hp]

theorem transPass_fit (ds : List Descr) (part : Str) (hpart : part = ikev1Part ∨ part = ikev2Part) (c c' : Cmd)
    (hpre : prefixOf ds c = lit "crypto map" ∨ prefixOf ds c = lit "crypto dynamic-map")
    (hfit : RefsFit true ds c) (h : transPass part c = .ok c') :
    RefsFit true ds c' ∧ c'.descr = c.descr := by
  unfold transPass at h
  split at h
  · cases h; exact ⟨hfit, rfl⟩
  · rename_i d names hcut
    obtain ⟨r, ht, h⟩ := res_bind_ok h
    cases h
    refine ⟨⟨?_, hfit.2⟩, rfl⟩
    obtain ⟨p, hp⟩ := isTransformCmd_some d r.2 part hpart
    rw [typRefTop_crypto ds { c with ref := r.1, parsed := d ++ part ++ r.2 } hpre p hp]
    exact refsFit_transRefs c.orig names r ht p

theorem postTrans_fit (ds : List Descr) (c c' : Cmd)
    (hpre : prefixOf ds c = lit "crypto map" ∨ prefixOf ds c = lit "crypto dynamic-map")
    (hfit : RefsFit true ds c) (h : postTrans c = .ok c') : RefsFit true ds c' := by
  obtain ⟨c1, h1, h⟩ := res_bind_ok h
  obtain ⟨hf1, hd1⟩ := transPass_fit ds ikev1Part (Or.inl rfl) c c1 hpre hfit h1
  have hpre1 : prefixOf ds c1 = lit "crypto map" ∨ prefixOf ds c1 = lit "crypto dynamic-map" := by
    unfold prefixOf at hpre ⊢; rw [hd1]; exact hpre
  exact (transPass_fit ds ikev2Part (Or.inr rfl) c1 c' hpre1 hf1 h).1

theorem refsFit_parsed (ds : List Descr) (c : Cmd) (p : Str)
    (h : ¬ (prefixOf ds c = lit "crypto map" ∨ prefixOf ds c = lit "crypto dynamic-map")) (hfit : RefsFit true ds c) :
    RefsFit true ds { c with parsed := p } := by
  refine ⟨?_, hfit.2⟩
  have := hfit.1
  unfold typRefTop prefixOf at *
  simpa only [h, if_false] using this

theorem postGroup_fit (ds : List Descr) (hdecl : RefsDeclared ds) (hmax : MaxRefs5 ds) (hacl : AclNoRef ds)
    (hios : IosSubNoRef ds) (tb : Tables) (g g' : (Str × Str) × List Cmd)
    (hg : ∀ c ∈ g.2, TopOK ds c ∧ keyOf ds c = g.1) (h : postGroup tb g = .ok g') :
    ∀ c' ∈ g'.2, RefsFit true ds c' := by
  have hpre : ∀ c ∈ g.2, prefixOf ds c = g.1.1 := fun c hc => congrArg Prod.fst (hg c hc).2
  have hplain : ∀ c ∈ g.2, RefsFit true ds c := fun c hc => refsFit_of_topOK true ds hdecl hmax c (hg c hc).1
  revert h
  fun_cases postGroup tb g <;> intro h
  case case5 => cases h; exact hplain
  all_goals
    obtain ⟨l, hm, h⟩ := res_bind_ok h
    cases h
  case case1 hk =>
    intro c' hc'
    obtain ⟨c, hc, hf⟩ := mapRes_mem (postASA tb) g.2 l hm c' hc'
    exact postASA_fit ds hdecl hmax hacl tb c c' (hg c hc).1 (by rw [hpre c hc, hk]) hf
  case case2 hk =>
    exact postIOSGroup_fit ds hdecl hmax hios tb g.2 l (fun c hc => ⟨(hg c hc).1, by rw [hpre c hc, hk]⟩) hm
  case case3 hk =>
    intro c' hc'
    obtain ⟨c, hc, hy⟩ := (aaaGroup_spec g.1.2 g.2).ok hm c' hc'
    rcases hy with rfl | ⟨p, rfl⟩
    · exact hplain c' hc
    · exact refsFit_parsed ds c p (by rw [hpre c hc, hk]; simp -index only [lit_ofList]; decide) (hplain c hc)
  case case4 hk =>
    intro c' hc'
    obtain ⟨c, hc, hf⟩ := mapRes_mem postTrans g.2 l hm c' hc'
    exact postTrans_fit ds c c' (by rw [hpre c hc]; exact hk) (hplain c hc) hf

theorem checkReferences_postprocessed_noPanic (ds : List Descr) (hct : CleanTop ds) (hcs : CleanSubs ds)
    (hdecl : RefsDeclared ds) (hmax : MaxRefs5 ds) (hacl : AclNoRef ds) (hios : IosSubNoRef ds)
    (tb : Tables) (isRaw : Bool) (data : Str) (cmds : List Cmd) (lk' : Lookup)
    (hparse : parseConfig true ds isRaw data = .ok cmds)
    (hpost : postLookup tb (buildLookup ds cmds) = .ok lk') :
    NoPanic (checkReferences true ds lk' isRaw) := by
  apply checkReferences_noPanic
  intro g' hg' c' hc'
  unfold postLookup at hpost
  obtain ⟨g, hg, hf⟩ := mapRes_mem (postGroup tb) _ lk' hpost g' hg'
  have hok := buildLookup_ok ds (TopOK ds) cmds ((parseConfig_spec ds isRaw data).ok hparse hct hcs) g hg
  exact postGroup_fit ds hdecl hmax hacl hios tb g g' hok.2 hf c' hc'

end NA.C20
