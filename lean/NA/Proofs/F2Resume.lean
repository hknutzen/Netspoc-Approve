import NA.Proofs.F2Final
import NA.Model.IosEngineRoutes
/-!
# F2: resuming after an interrupted approve (C10)

The printed script is cut after any command — also between the two halves of a joined line
(`no N\N M TEXT`, `no ip route A\N ip route B`: `splitChg`).  The device at the cut, read back by a new
compare in a new session (`strip`: top-level mode; `reconf`), is a device that *reads as* that
configuration (`Reads`, whatever its entry numbers).  The end-to-end theorem holds from every such
device (`F2_end_to_end_from`), hence for the second run — provided the cut state is in the class
`wfB` again (it is a decidable predicate on the cut state, evaluated by the driver on every cut).
-/
namespace NA.F2
open NA.ListFacts
open NA.IosDev2
open NA.F1 (genName lookupD addSet sortS isTagged)

def splitChg : Chg → List Chg
  | .move dn an l => [.noNum dn, .numEntry an l]
  | .replRoute o n => [.noRoute o, .route n]
  | c => [c]

/-- The script as the device receives it: one command per line. -/
def splitScript (cs : List Chg) : List Chg := cs.flatMap splitChg

theorem execEntry_move (es : Entries) (dn an : Nat) (l : ALine) :
    toOpt (execEntry es (.move dn an l)) =
      (toOpt (execEntry es (.noNum dn))).bind fun es1 => toOpt (execEntry es1 (.numEntry an l)) := by
  simp only [execEntry]
  by_cases h1 : es.any (·.1 == dn) = true
  · rw [if_pos h1, if_pos h1]; rfl
  · rw [if_neg h1, if_neg h1]; rfl

theorem exec1_move_split (d : Dev) (dn an : Nat) (l : ALine) :
    toOpt (exec1 d (.move dn an l)) = (toOpt (exec1 d (.noNum dn))).bind fun d1 => toOpt (exec1 d1 (.numEntry an l)) := by
  cases hm : d.mode with
  | none => simp [exec1, isEntryCmd, hm, toOpt]
  | some m =>
    cases m with
    | intf i => simp [exec1, isEntryCmd, hm, toOpt]
    | acl n =>
      rw [exec1_entry rfl d n hm, exec1_entry rfl d n hm, execEntry_move]
      cases h1 : execEntry (entriesOf d n) (.noNum dn) with
      | error e => rfl
      | ok es1 =>
        -- the delete succeeded, so the ACL exists and holds `es1` afterwards
        have hhas : hasAcl d n = true := by
          cases hh : hasAcl d n with
          | true => rfl
          | false => rw [entriesOf_nil_of_not_hasAcl d n hh] at h1; cases h1
        have hmode : (setAcl d n es1).mode = some (.acl n) := hm
        rw [show toOpt (Except.ok es1 : Except String Entries) = some es1 from rfl, Option.map_some, Option.bind_some,
          Option.bind_some, exec1_entry (c := .numEntry an l) rfl _ n hmode, entriesOf_setAcl_self d n _ hhas]
        cases execEntry es1 (.numEntry an l) with
        | error e => rfl
        | ok es2 => exact congrArg some (setAcl_setAcl d n es1 es2).symm

theorem exec1_repl_split (d : Dev) (o n : String) :
    toOpt (exec1 d (.replRoute o n)) = (toOpt (exec1 d (.noRoute o))).bind fun d1 => toOpt (exec1 d1 (.route n)) := by
  simp only [exec1, isEntryCmd, isBindCmd, Bool.false_eq_true, ↓reduceIte, execTop]
  cases h1 : d.routes.contains o with
  | false => simp only [Bool.not_false, ↓reduceIte, Bool.false_eq_true, toOpt, Option.bind_none]
  | true =>
    simp only [Bool.not_true, Bool.false_eq_true, ↓reduceIte, toOpt, Option.bind_some]

theorem exec_pair {c c1 c2 : Chg}
    (h : ∀ d, toOpt (exec1 d c) = (toOpt (exec1 d c1)).bind fun d1 => toOpt (exec1 d1 c2))
    (d : Dev) {cs cs' : List Chg} (ih : ∀ d, exec d cs' = exec d cs) : exec d (c1 :: c2 :: cs') = exec d (c :: cs) := by
  rw [exec_cons d c1, exec_cons d c, h]
  cases exec1 d c1 with
  | error e => rfl
  | ok d1 =>
    simp only [toOpt, Option.bind_some]
    rw [exec_cons]
    cases exec1 d1 c2 with
    | error e => rfl
    | ok d2 => exact ih d2

theorem exec_splitScript (d : Dev) (cs : List Chg) : exec d (splitScript cs) = exec d cs := by
  induction cs generalizing d with
  | nil => rfl
  | cons c cs ih =>
    have hgen : ∀ c', splitChg c' = [c'] → exec d (splitScript (c' :: cs)) = exec d (c' :: cs) := by
      intro c' hc'
      simp only [splitScript, List.flatMap_cons, hc', List.cons_append, List.nil_append]
      rw [exec_cons, exec_cons]
      cases exec1 d c' with
      | error e => rfl
      | ok d1 => simp only [toOpt, Option.bind_some]; exact ih d1
    cases c with
    | move dn an l => exact exec_pair (cs' := splitScript cs) (fun d => exec1_move_split d dn an l) d ih
    | replRoute o n => exact exec_pair (cs' := splitScript cs) (fun d => exec1_repl_split d o n) d ih
    | _ => exact hgen _ rfl

theorem exec_take (cs : List Chg) (d d' : Dev) (h : exec d cs = some d') (k : Nat) : ∃ dk, exec d (cs.take k) = some dk := by
  rw [← List.take_append_drop k cs, exec_append] at h
  exact let ⟨dk, h1, _⟩ := Option.bind_eq_some_iff.1 h; ⟨dk, h1⟩

theorem skel_setSlot (d : Dev) (x dir : String) (v : Option Name) : skel (setSlot d x dir v) = skel d := by
  simp only [skel, setSlot, List.map_map]
  apply List.map_congr_left
  intro i _
  simp only [Function.comp]
  split
  · split <;> rfl
  · rfl

theorem execTop_frame (d : Dev) (c : Chg) :
    OkSat (fun d' => d'.intfs = d.intfs ∧ rRun d.routes (chgRouteOp c) = some d'.routes) (execTop d c) := by
  cases c with
  | reseq n s t => exact .ite (.ok ⟨rfl, rfl⟩) .error
  | aclMode n => exact .ok ⟨rfl, rfl⟩
  | noAcl n => exact .ite .error (.ite .error (.ok ⟨rfl, rfl⟩))
  | intfMode n => exact .ite (.ok ⟨rfl, rfl⟩) .error
  | route r =>
    refine .iteH (fun _ => .error) fun hc => .ok ⟨rfl, ?_⟩
    simp only [chgRouteOp, rRun, List.foldlM_cons, List.foldlM_nil, rStep, hc]
    rfl
  | noRoute r =>
    refine .iteH (fun hc => .ok ⟨rfl, ?_⟩) fun _ => .error
    simp only [chgRouteOp, rRun, List.foldlM_cons, List.foldlM_nil, rStep, hc, ↓reduceIte]
    rfl
  | replRoute o n =>
    refine .iteH (fun _ => .error) fun hc => .iteH (fun _ => .error) fun hc2 => .ok ⟨rfl, ?_⟩
    simp only [chgRouteOp, rRun, List.foldlM_cons, List.foldlM_nil, rStep, hc, hc2]
    rfl
  | _ => exact .error

theorem exec1_cases {d d' : Dev} {c : Chg} (h : exec1 d c = .ok d') :
    (c = .exit ∧ d' = { d with mode := none }) ∨ (isEntryCmd c = true ∧ ∃ n es, d' = setAcl d n es) ∨
    (isBindCmd c = true ∧ ∃ i dir v, d' = setSlot d i dir v) ∨ execTop d c = .ok d' := by
  unfold exec1 at h
  split at h
  · split at h
    · cases h
    · injection h with h; exact Or.inl ⟨rfl, h.symm⟩
  · cases h
  · by_cases he : isEntryCmd c = true
    · rw [if_pos he] at h
      split at h
      · split at h
        · injection h with h; exact Or.inr (Or.inl ⟨he, _, _, h.symm⟩)
        · cases h
      · cases h
    · rw [if_neg he] at h
      by_cases hb : isBindCmd c = true
      · rw [if_pos hb] at h
        split at h
        · split at h
          · injection h with h; exact Or.inr (Or.inr (Or.inl ⟨hb, _, _, _, h.symm⟩))
          · cases h
        · split at h
          · injection h with h; exact Or.inr (Or.inr (Or.inl ⟨hb, _, _, _, h.symm⟩))
          · cases h
        · cases h
      · rw [if_neg hb] at h
        exact Or.inr (Or.inr (Or.inr h))

theorem chgRouteOp_sub {c : Chg} (h : c = .exit ∨ isEntryCmd c = true ∨ isBindCmd c = true) : chgRouteOp c = [] := by
  cases c <;> first | rfl | (rcases h with h | h | h <;> cases h)

theorem exec1_frame {d d' : Dev} {c : Chg} (h : exec1 d c = .ok d') :
    skel d' = skel d ∧ rRun d.routes (chgRouteOp c) = some d'.routes := by
  rcases exec1_cases h with ⟨hc, rfl⟩ | ⟨hc, n, es, rfl⟩ | ⟨hc, i, dir, v, rfl⟩ | hc
  · rw [chgRouteOp_sub (Or.inl hc)]; exact ⟨rfl, rfl⟩
  · rw [chgRouteOp_sub (Or.inr (Or.inl hc))]; exact ⟨rfl, rfl⟩
  · rw [chgRouteOp_sub (Or.inr (Or.inr hc))]; exact ⟨skel_setSlot .., rfl⟩
  · obtain ⟨h1, h2⟩ := execTop_frame d c d' hc
    exact ⟨by rw [skel, h1]; rfl, h2⟩

theorem exec_frame (cs : List Chg) (d d' : Dev) (h : exec d cs = some d') :
    skel d' = skel d ∧ rRun d.routes (cs.flatMap chgRouteOp) = some d'.routes := by
  induction cs generalizing d with
  | nil =>
    rw [exec_nil] at h
    injection h with h
    rw [h]; exact ⟨rfl, rfl⟩
  | cons c cs ih =>
    obtain ⟨d1, h1, h2⟩ := exec_cons_some h
    obtain ⟨k1, k2⟩ := ih d1 h2
    rw [k1, (exec1_frame h1).1, List.flatMap_cons, rRun_append, (exec1_frame h1).2, Option.bind_some]
    exact ⟨rfl, k2⟩

/-- The run of the engine from a cut state.  `d0`: any device that reads as `a0` (the conclusion about the cut state has
the form of this hypothesis, so interruptions compose); `k`: number of command lines that reached the device. -/
theorem F2_resume (a0 b : Config) (sc : Scripts) (hw : WF a0 b sc) (hok : (engine a0 b sc).ok = true)
    (d0 : Dev) (hr : Reads d0 a0) (k : Nat) :
    ∃ dk, exec d0 ((splitScript (engine a0 b sc).script).take k) = some dk ∧
      Reads (strip dk) (reconf a0 (a0.routes ++ b.routes) dk) ∧
      ∀ sc2, WF (reconf a0 (a0.routes ++ b.routes) dk) b sc2 →
        (engine (reconf a0 (a0.routes ++ b.routes) dk) b sc2).ok = true ∧
        ∃ d', (exec (strip dk) (engine (reconf a0 (a0.routes ++ b.routes) dk) b sc2).script).map strip = some d' ∧
          Converged (reconf a0 (a0.routes ++ b.routes) dk) b (strip dk) d' := by
  obtain ⟨dfull, hfull, _⟩ := F2_end_to_end_from a0 b sc hw hok d0 hr
  obtain ⟨x, hx, _⟩ := Option.map_eq_some_iff.mp hfull
  rw [← exec_splitScript] at hx
  obtain ⟨dk, hdk⟩ := exec_take _ _ _ hx k
  have hsk : skel dk = skel (ofConfig a0) := (exec_frame _ _ _ hdk).1.trans (by rw [skel, hr.intfs]; rfl)
  have hreads := reads_reconf a0 (a0.routes ++ b.routes) dk hw.aIntfs hsk
  refine ⟨dk, hdk, hreads, ?_⟩
  intro sc2 hw2
  have hok2 : (engine (reconf a0 (a0.routes ++ b.routes) dk) b sc2).ok = true := by
    rw [engine_ok_reconf a0 b sc sc2]; exact hok
  exact ⟨hok2, F2_end_to_end_from _ b sc2 hw2 hok2 (strip dk) hreads⟩

end NA.F2
