import NA.Model.AsaEngine
import NA.Core.ListFacts
/-!
# `diffUnordered` (shared model of the Go function, used by both engines): what its ranges are, flattened

For a duplicate-free key list `as` (device side) and any `bs`:
* `fDel`: the indices of `as` in delete ranges, in order = the `i` with `as[i] ∉ bs`;
* `fEq`:  the index pairs of equal ranges, in order = the `(i, j)` with `as[i] ∈ bs`, `j` the last
          index of that key in `bs`;
* `fIns`: the indices of `bs` in insert ranges, in order = the `j` with `bs[j] ∉ as`;
* every range is of exactly one kind and inside the bounds; the a-side ranges come first.

Stated in the forms the readers consume: `NA.F2.diffUnordered_spec` (against the scans `sDel` / `sEq` / `sIns`), by position
(`diffUnordered_pos`), for lists of items with keys as the matching `mDels` / `mPairs` / `mInss` (`diffUnordered_match`), and for the
ASA engine `NA.F1.diffUnordered_spec` (last section).  The lemmas live in `NA.F2` although both engines use them.
-/
namespace NA.F2
open NA.Acl (Range)
open NA.F1 (diffUnordered duStepA duStepB lastIdx)

def idxs (lo hi : Nat) : List Nat := (List.range (hi - lo)).map (lo + ·)

def fDel (rs : List Range) : List Nat := rs.flatMap fun r => if r.isDelete then idxs r.lowA r.highA else []
def fIns (rs : List Range) : List Nat := rs.flatMap fun r => if r.isInsert then idxs r.lowB r.highB else []
def fEq (rs : List Range) : List (Nat × Nat) :=
  rs.flatMap fun r => if r.isInsert then [] else if r.isEqual then (idxs r.lowA r.highA).zip (idxs r.lowB r.highB) else []

inductive Kind | del | eq | ins
  deriving DecidableEq

/-- Shape of the ranges `diffUnordered` produces for lists of lengths `n`, `m`. -/
def kindOf (n m : Nat) (r : Range) : Option Kind :=
  if r.lowA < r.highA ∧ r.highA ≤ n ∧ r.lowB = 0 ∧ r.highB = 0 then some .del
  else if r.lowA < r.highA ∧ r.highA ≤ n ∧ r.lowB < r.highB ∧ r.highB ≤ m ∧ r.highB - r.lowB = r.highA - r.lowA then some .eq
  else if r.lowA = n ∧ r.highA = n ∧ r.lowB < r.highB ∧ r.highB ≤ m then some .ins
  else none

theorem idxs_succ (lo hi : Nat) (h : lo ≤ hi) : idxs lo (hi + 1) = idxs lo hi ++ [hi] := by
  unfold idxs
  rw [Nat.sub_add_comm h, List.range_succ, List.map_append, List.map_singleton, Nat.add_sub_of_le h]

theorem idxs_single (i : Nat) : idxs i (i + 1) = [i] := by
  simp [idxs]

theorem idxs_length (lo hi : Nat) : (idxs lo hi).length = hi - lo := by simp [idxs]

theorem idxs_self (i : Nat) : idxs i i = [] := by simp [idxs]

section kinds
variable {n m : Nat} {r : Range}

/-! The three conditions of `kindOf` exclude one another, so each kind is its condition. -/

theorem kindOf_del_iff :
    kindOf n m r = some .del ↔ r.lowA < r.highA ∧ r.highA ≤ n ∧ r.lowB = 0 ∧ r.highB = 0 := by
  unfold kindOf
  split
  · exact iff_of_true rfl ‹_›
  · refine iff_of_false ?_ ‹_›
    split
    · nofun
    · split <;> nofun

theorem kindOf_eq_iff :
    kindOf n m r = some .eq ↔
      r.lowA < r.highA ∧ r.highA ≤ n ∧ r.lowB < r.highB ∧ r.highB ≤ m ∧ r.highB - r.lowB = r.highA - r.lowA := by
  unfold kindOf
  split
  · exact iff_of_false nofun fun c => by omega
  · split
    · exact iff_of_true rfl ‹_›
    · refine iff_of_false ?_ ‹_›
      split <;> nofun

theorem kindOf_ins_iff :
    kindOf n m r = some .ins ↔ r.lowA = n ∧ r.highA = n ∧ r.lowB < r.highB ∧ r.highB ≤ m := by
  unfold kindOf
  split
  · exact iff_of_false nofun fun c => by omega
  · split
    · exact iff_of_false nofun fun c => by omega
    · split
      · exact iff_of_true rfl ‹_›
      · exact iff_of_false nofun ‹_›

/-- The three tests of the Go code on a range of known kind. -/
theorem tests_del (h : kindOf n m r = some .del) : r.isDelete = true ∧ r.isInsert = false ∧ r.isEqual = false := by
  obtain ⟨h1, _, h3, h4⟩ := kindOf_del_iff.mp h
  refine ⟨beq_iff_eq.mpr (h3.trans h4.symm), beq_eq_false_iff_ne.mpr (Nat.ne_of_lt h1), beq_eq_false_iff_ne.mpr ?_⟩
  rw [h3, h4]
  exact Nat.ne_of_lt (Nat.sub_pos_of_lt h1)

theorem tests_eq (h : kindOf n m r = some .eq) : r.isDelete = false ∧ r.isInsert = false ∧ r.isEqual = true := by
  obtain ⟨h1, _, h3, _, h5⟩ := kindOf_eq_iff.mp h
  exact ⟨beq_eq_false_iff_ne.mpr (Nat.ne_of_lt h3), beq_eq_false_iff_ne.mpr (Nat.ne_of_lt h1), beq_iff_eq.mpr h5⟩

theorem tests_ins (h : kindOf n m r = some .ins) : r.isDelete = false ∧ r.isInsert = true ∧ r.isEqual = false := by
  obtain ⟨h1, h2, h3, _⟩ := kindOf_ins_iff.mp h
  refine ⟨beq_eq_false_iff_ne.mpr (Nat.ne_of_lt h3), beq_iff_eq.mpr (h1.trans h2.symm), beq_eq_false_iff_ne.mpr ?_⟩
  rw [h1, h2, Nat.sub_self]
  exact Nat.ne_of_gt (Nat.sub_pos_of_lt h3)

end kinds

def gDel (r : Range) : List Nat := if r.isDelete then idxs r.lowA r.highA else []
def gIns (r : Range) : List Nat := if r.isInsert then idxs r.lowB r.highB else []
def gEq (r : Range) : List (Nat × Nat) :=
  if r.isInsert then [] else if r.isEqual then (idxs r.lowA r.highA).zip (idxs r.lowB r.highB) else []

theorem fDel_eq (rs : List Range) : fDel rs = rs.flatMap gDel := rfl
theorem fIns_eq (rs : List Range) : fIns rs = rs.flatMap gIns := rfl
theorem fEq_eq (rs : List Range) : fEq rs = rs.flatMap gEq := rfl

theorem flatMap_rev_cons {β : Type} (g : Range → List β) (p : Range) (rest : List Range) :
    (p :: rest).reverse.flatMap g = rest.reverse.flatMap g ++ g p := by
  rw [List.reverse_cons, List.flatMap_append, List.flatMap_singleton]

section single
variable {n m : Nat}

theorem g_of_del {r : Range} (h : kindOf n m r = some .del) :
    gDel r = idxs r.lowA r.highA ∧ gEq r = [] ∧ gIns r = [] := by
  obtain ⟨h1, h2, h3⟩ := tests_del h
  simp [gDel, gEq, gIns, h1, h2, h3]

theorem g_of_eq {r : Range} (h : kindOf n m r = some .eq) :
    gDel r = [] ∧ gEq r = (idxs r.lowA r.highA).zip (idxs r.lowB r.highB) ∧ gIns r = [] := by
  obtain ⟨h1, h2, h3⟩ := tests_eq h
  simp [gDel, gEq, gIns, h1, h2, h3]

theorem g_of_ins {r : Range} (h : kindOf n m r = some .ins) :
    gDel r = [] ∧ gEq r = [] ∧ gIns r = idxs r.lowB r.highB := by
  obtain ⟨h1, h2, h3⟩ := tests_ins h
  simp [gDel, gEq, gIns, h1, h2]

/-! A range that begins at one index (`new_*`), and a range grown by one index (`ext_*`): its kind, and
what it adds to the three flattened lists. -/

theorem new_del (i : Nat) (hi : i < n) :
    kindOf n m ⟨i, i + 1, 0, 0⟩ = some .del ∧
      gDel ⟨i, i + 1, 0, 0⟩ = [i] ∧ gEq ⟨i, i + 1, 0, 0⟩ = [] ∧ gIns ⟨i, i + 1, 0, 0⟩ = [] := by
  have hk : kindOf n m ⟨i, i + 1, 0, 0⟩ = some .del := kindOf_del_iff.mpr ⟨Nat.lt_succ_self i, hi, rfl, rfl⟩
  obtain ⟨h1, h2, h3⟩ := g_of_del hk
  exact ⟨hk, by rw [h1, idxs_single], h2, h3⟩

theorem new_eq (i j : Nat) (hi : i < n) (hj : j < m) :
    kindOf n m ⟨i, i + 1, j, j + 1⟩ = some .eq ∧
      gDel ⟨i, i + 1, j, j + 1⟩ = [] ∧ gEq ⟨i, i + 1, j, j + 1⟩ = [(i, j)] ∧ gIns ⟨i, i + 1, j, j + 1⟩ = [] := by
  have hk : kindOf n m ⟨i, i + 1, j, j + 1⟩ = some .eq :=
    kindOf_eq_iff.mpr ⟨Nat.lt_succ_self i, hi, Nat.lt_succ_self j, hj, by simp only [Nat.add_sub_cancel_left]⟩
  obtain ⟨h1, h2, h3⟩ := g_of_eq hk
  exact ⟨hk, h1, by rw [h2, idxs_single, idxs_single]; rfl, h3⟩

theorem new_ins (j : Nat) (hj : j < m) :
    kindOf n m ⟨n, n, j, j + 1⟩ = some .ins ∧
      gDel ⟨n, n, j, j + 1⟩ = [] ∧ gEq ⟨n, n, j, j + 1⟩ = [] ∧ gIns ⟨n, n, j, j + 1⟩ = [j] := by
  have hk : kindOf n m ⟨n, n, j, j + 1⟩ = some .ins := kindOf_ins_iff.mpr ⟨rfl, rfl, Nat.lt_succ_self j, hj⟩
  obtain ⟨h1, h2, h3⟩ := g_of_ins hk
  exact ⟨hk, h1, h2, by rw [h3, idxs_single]⟩

theorem ext_del {p : Range} (h : kindOf n m p = some .del) (i : Nat) (hpa : p.highA = i) (hi : i < n) :
    kindOf n m { p with highA := i + 1 } = some .del ∧ gDel { p with highA := i + 1 } = gDel p ++ [i] ∧
      gEq { p with highA := i + 1 } = gEq p ++ [] ∧ gIns { p with highA := i + 1 } = gIns p ++ [] := by
  subst hpa
  obtain ⟨h1, _, h3, h4⟩ := kindOf_del_iff.mp h
  have hk : kindOf n m { p with highA := p.highA + 1 } = some .del :=
    kindOf_del_iff.mpr ⟨Nat.lt_succ_of_lt h1, hi, h3, h4⟩
  obtain ⟨p1, p2, p3⟩ := g_of_del h
  obtain ⟨q1, q2, q3⟩ := g_of_del hk
  exact ⟨hk, by rw [q1, p1]; exact idxs_succ p.lowA p.highA (Nat.le_of_lt h1), by rw [q2, p2]; rfl,
    by rw [q3, p3]; rfl⟩

theorem ext_eq {p : Range} (h : kindOf n m p = some .eq) (i j : Nat) (hpa : p.highA = i) (hpb : p.highB = j)
    (hi : i < n) (hj : j < m) :
    kindOf n m { p with highA := i + 1, highB := j + 1 } = some .eq ∧
      gDel { p with highA := i + 1, highB := j + 1 } = gDel p ++ [] ∧
      gEq { p with highA := i + 1, highB := j + 1 } = gEq p ++ [(i, j)] ∧
      gIns { p with highA := i + 1, highB := j + 1 } = gIns p ++ [] := by
  subst hpa hpb
  obtain ⟨h1, h2, h3, h4, h5⟩ := kindOf_eq_iff.mp h
  have h1' := Nat.le_of_lt h1
  have h3' := Nat.le_of_lt h3
  have hk : kindOf n m { p with highA := p.highA + 1, highB := p.highB + 1 } = some .eq :=
    kindOf_eq_iff.mpr ⟨Nat.lt_succ_of_lt h1, hi, Nat.lt_succ_of_lt h3, hj,
      show p.highB + 1 - p.lowB = p.highA + 1 - p.lowA by rw [Nat.sub_add_comm h3', Nat.sub_add_comm h1', h5]⟩
  obtain ⟨p1, p2, p3⟩ := g_of_eq h
  obtain ⟨q1, q2, q3⟩ := g_of_eq hk
  refine ⟨hk, by rw [q1, p1]; rfl, ?_, by rw [q3, p3]; rfl⟩
  rw [q2, p2]
  rw [idxs_succ _ _ h1', idxs_succ _ _ h3', List.zip_append (by rw [idxs_length, idxs_length, h5])]
  rfl

theorem ext_ins {p : Range} (h : kindOf n m p = some .ins) (j : Nat) (hpb : p.highB = j) (hj : j < m) :
    kindOf n m { p with highB := j + 1 } = some .ins ∧ gDel { p with highB := j + 1 } = gDel p ++ [] ∧
      gEq { p with highB := j + 1 } = gEq p ++ [] ∧ gIns { p with highB := j + 1 } = gIns p ++ [j] := by
  subst hpb
  obtain ⟨h1, h2, h3, _⟩ := kindOf_ins_iff.mp h
  have hk : kindOf n m { p with highB := p.highB + 1 } = some .ins :=
    kindOf_ins_iff.mpr ⟨h1, h2, Nat.lt_succ_of_lt h3, hj⟩
  obtain ⟨p1, p2, p3⟩ := g_of_ins h
  obtain ⟨q1, q2, q3⟩ := g_of_ins hk
  exact ⟨hk, by rw [q1, p1]; rfl, by rw [q2, p2]; rfl,
    by rw [q3, p3]; exact idxs_succ p.lowB p.highB (Nat.le_of_lt h3)⟩

end single

/-- What each loop body does to the ranges found so far (newest first): the newest range is extended
if `test` accepts it, otherwise `fresh` begins a new one. -/
def push (test : Range → Bool) (ext : Range → Range) (fresh : Range) : List Range → List Range
  | p :: rest => if test p then ext p :: rest else fresh :: p :: rest
  | [] => [fresh]

theorem duStepA_eq (bs : List String) (res : List Range) (matched : List String) (i : Nat) (k : String) :
    duStepA bs (res, matched, i) k =
      match (if matched.contains k then none else lastIdx k bs) with
      | some j => (push (fun p => p.isEqual && p.highA == i && p.highB == j)
          (fun p => { p with highA := i + 1, highB := j + 1 }) ⟨i, i + 1, j, j + 1⟩ res, k :: matched, i + 1)
      | none => (push (fun p => p.isDelete && p.highA == i) (fun p => { p with highA := i + 1 }) ⟨i, i + 1, 0, 0⟩ res,
          matched, i + 1) := by
  unfold duStepA
  dsimp only
  cases (if matched.contains k = true then none else lastIdx k bs) with
  | none =>
    cases res with
    | nil => rfl
    | cons p rest => exact (apply_ite (fun z => (z, matched, i + 1)) _ _ _).symm
  | some j =>
    cases res with
    | nil => rfl
    | cons p rest => exact (apply_ite (fun z => (z, k :: matched, i + 1)) _ _ _).symm

theorem duStepB_eq (la : Nat) (matched : List String) (res : List Range) (j : Nat) (k : String) :
    duStepB la matched (res, j) k =
      (if matched.contains k then res
        else push (fun p => p.isInsert && p.highB == j) (fun p => { p with highB := j + 1 }) ⟨la, la, j, j + 1⟩ res,
       j + 1) := by
  unfold duStepB
  dsimp only
  split
  · rfl
  · cases res with
    | nil => rfl
    | cons p rest => exact (apply_ite (fun z => (z, j + 1)) _ _ _).symm

theorem push_append {test : Range → Bool} {ext : Range → Range} {fresh : Range} (rb ra : List Range)
    (hra : ∀ p ∈ ra, test p = false) : push test ext fresh (rb ++ ra) = push test ext fresh rb ++ ra := by
  cases rb with
  | cons q rb' => show (if _ then _ else _) = (if _ then _ else _) ++ ra; split <;> rfl
  | nil =>
    cases ra with
    | nil => rfl
    | cons p rest => show (if _ then _ else _) = _; rw [if_neg (by rw [hra p (List.mem_cons_self ..)]; nofun)]; rfl

/-- `push` keeps a property `Q` of all ranges and appends `xd`, `xe`, `xi` to the flattened lists, if
`fresh` does and `ext` does so on a newest range that `test` accepts. -/
theorem push_spec {test : Range → Bool} {ext : Range → Range} {fresh : Range} (Q : Range → Prop)
    (xd : List Nat) (xe : List (Nat × Nat)) (xi : List Nat) {res res' : List Range}
    (hp : push test ext fresh res = res') (hres : ∀ r ∈ res, Q r)
    (hfresh : Q fresh ∧ gDel fresh = xd ∧ gEq fresh = xe ∧ gIns fresh = xi)
    (hext : ∀ p rest, res = p :: rest → test p = true →
      Q (ext p) ∧ gDel (ext p) = gDel p ++ xd ∧ gEq (ext p) = gEq p ++ xe ∧ gIns (ext p) = gIns p ++ xi) :
    (∀ r ∈ res', Q r) ∧ fDel res'.reverse = fDel res.reverse ++ xd ∧ fEq res'.reverse = fEq res.reverse ++ xe ∧
      fIns res'.reverse = fIns res.reverse ++ xi := by
  subst hp
  have hnew : (∀ r ∈ fresh :: res, Q r) ∧ fDel (fresh :: res).reverse = fDel res.reverse ++ xd ∧
      fEq (fresh :: res).reverse = fEq res.reverse ++ xe ∧ fIns (fresh :: res).reverse = fIns res.reverse ++ xi := by
    obtain ⟨hq, hd, he, hi⟩ := hfresh
    exact ⟨List.forall_mem_cons.mpr ⟨hq, hres⟩, by rw [fDel_eq, flatMap_rev_cons, hd]; rfl, by rw [fEq_eq, flatMap_rev_cons, he]; rfl,
      by rw [fIns_eq, flatMap_rev_cons, hi]; rfl⟩
  cases res with
  | nil => exact hnew
  | cons p rest =>
    by_cases ht : test p = true
    · rw [show push test ext fresh (p :: rest) = ext p :: rest from if_pos ht]
      obtain ⟨hq, hd, he, hi⟩ := hext p rest rfl ht
      exact ⟨List.forall_mem_cons.mpr ⟨hq, (List.forall_mem_cons.mp hres).2⟩,
        by rw [fDel_eq, fDel_eq, flatMap_rev_cons, flatMap_rev_cons, hd, List.append_assoc],
        by rw [fEq_eq, fEq_eq, flatMap_rev_cons, flatMap_rev_cons, he, List.append_assoc],
        by rw [fIns_eq, fIns_eq, flatMap_rev_cons, flatMap_rev_cons, hi, List.append_assoc]⟩
    · rw [show push test ext fresh (p :: rest) = fresh :: p :: rest from if_neg ht]
      exact hnew

export NA.ListFacts (getD_of_lt eq_of_nodup_map)

theorem getD_inj_of_nodup_map {α β : Type} [Inhabited α] {f : α → β} {l : List α} (hnd : (l.map f).Nodup) {k k' : Nat}
    (hk : k < l.length) (hk' : k' < l.length) (h : f (l.getD k' default) = f (l.getD k default)) : k' = k :=
  NA.ListFacts.idx_of_nodup_map hnd (by rw [getD_of_lt _ hk', List.getElem?_eq_getElem hk'])
    (by rw [getD_of_lt _ hk, List.getElem?_eq_getElem hk]) h

theorem lastIdx_some {k : String} {bs : List String} {j : Nat} (h : lastIdx k bs = some j) :
    j < bs.length ∧ bs.getD j "" = k := by
  unfold lastIdx at h
  have hm := List.mem_of_find?_eq_some h
  have hp := List.find?_some h
  simp only [List.mem_reverse, List.mem_range] at hm
  exact ⟨hm, by simpa using hp⟩

theorem lastIdx_none {k : String} {bs : List String} : lastIdx k bs = none ↔ k ∉ bs := by
  unfold lastIdx
  rw [List.find?_eq_none]
  constructor
  · intro h hk
    obtain ⟨j, hj, hjk⟩ := List.getElem_of_mem hk
    have := h j (by simp [hj])
    rw [getD_of_lt _ hj, hjk] at this
    exact this (beq_self_eq_true k)
  · intro h j hj hc
    simp only [List.mem_reverse, List.mem_range] at hj
    rw [getD_of_lt _ hj, beq_iff_eq] at hc
    exact h (hc ▸ List.getElem_mem hj)

def sDel (bs : List String) : Nat → List String → List Nat
  | _, [] => []
  | i, k :: ks => (if (lastIdx k bs).isNone then [i] else []) ++ sDel bs (i + 1) ks

def sEq (bs : List String) : Nat → List String → List (Nat × Nat)
  | _, [] => []
  | i, k :: ks => (match lastIdx k bs with
      | some j => [(i, j)]
      | none => []) ++ sEq bs (i + 1) ks

def sIns (as : List String) : Nat → List String → List Nat
  | _, [] => []
  | j, k :: ks => (if as.contains k then [] else [j]) ++ sIns as (j + 1) ks

theorem sDel_snoc (bs : List String) (i : Nat) (pre : List String) (k : String) :
    sDel bs i (pre ++ [k]) = sDel bs i pre ++ (if (lastIdx k bs).isNone then [i + pre.length] else []) := by
  induction pre generalizing i with
  | nil => simp [sDel]
  | cons x xs ih => simp only [List.cons_append, sDel, ih, List.length_cons, List.append_assoc, Nat.add_right_comm i 1,
      Nat.add_assoc]

theorem sEq_snoc (bs : List String) (i : Nat) (pre : List String) (k : String) :
    sEq bs i (pre ++ [k]) = sEq bs i pre ++ (match lastIdx k bs with
      | some j => [(i + pre.length, j)]
      | none => []) := by
  induction pre generalizing i with
  | nil => simp [sEq]
  | cons x xs ih => simp only [List.cons_append, sEq, ih, List.length_cons, List.append_assoc, Nat.add_right_comm i 1,
      Nat.add_assoc]

theorem sIns_snoc (as : List String) (j : Nat) (pre : List String) (k : String) :
    sIns as j (pre ++ [k]) = sIns as j pre ++ (if as.contains k then [] else [j + pre.length]) := by
  induction pre generalizing j with
  | nil => simp [sIns]
  | cons x xs ih => simp only [List.cons_append, sIns, ih, List.length_cons, List.append_assoc, Nat.add_right_comm j 1,
      Nat.add_assoc]

theorem foldl_prefix_induction {α σ : Type} (f : σ → α → σ) (I : List α → σ → Prop) (l : List α) (s : σ)
    (h0 : I [] s)
    (hstep : ∀ pre k rest s, l = pre ++ k :: rest → I pre s → I (pre ++ [k]) (f s k)) : I l (l.foldl f s) := by
  suffices h : ∀ rest pre s, l = pre ++ rest → I pre s → I l (rest.foldl f s) from h l [] s rfl h0
  intro rest
  induction rest with
  | nil => exact fun pre s e h => (List.append_nil pre ▸ e) ▸ h
  | cons k rest ih =>
    exact fun pre s e h => ih (pre ++ [k]) (f s k) (by rw [e, List.append_assoc]; rfl) (hstep pre k rest s e h)

/-- Invariant of the first loop after the keys `pre`. -/
structure InvA (bs : List String) (n : Nat) (pre : List String) (s : List Range × List String × Nat) : Prop where
  idx : s.2.2 = pre.length
  matched : ∀ k, k ∈ s.2.1 ↔ k ∈ pre ∧ k ∈ bs
  kinds : ∀ r ∈ s.1, (kindOf n bs.length r = some .del ∨ kindOf n bs.length r = some .eq) ∧ r.highA ≤ pre.length
  del : fDel s.1.reverse = sDel bs 0 pre
  eq : fEq s.1.reverse = sEq bs 0 pre
  ins : fIns s.1.reverse = []

theorem invA_step (bs : List String) (n : Nat) (pre : List String) (s : List Range × List String × Nat)
    (k : String) (h : InvA bs n pre s) (hk : k ∉ pre) (hn : pre.length < n) :
    InvA bs n (pre ++ [k]) (duStepA bs s k) := by
  obtain ⟨res, matched, i⟩ := s
  obtain ⟨hidx, hmat, hkinds, hdel, heq, hins⟩ := h
  subst hidx
  have hnm : matched.contains k = false := by
    rw [Bool.eq_false_iff]
    intro hc
    exact hk ((hmat k).mp (by simpa using hc)).1
  have hlen : (pre ++ [k]).length = pre.length + 1 := by simp
  have hb : pre.length + 1 ≤ (pre ++ [k]).length := Nat.le_of_eq hlen.symm
  have hkinds' : ∀ r ∈ res, (kindOf n bs.length r = some .del ∨ kindOf n bs.length r = some .eq) ∧
      r.highA ≤ (pre ++ [k]).length :=
    fun r hr => ⟨(hkinds r hr).1, Nat.le_trans (Nat.le_succ_of_le (hkinds r hr).2) hb⟩
  rw [duStepA_eq, hnm, if_neg Bool.false_ne_true]
  cases hl : lastIdx k bs with
  | none =>
    have hkb : k ∉ bs := lastIdx_none.mp hl
    generalize hp : push _ _ _ res = res'
    obtain ⟨hq, hd, he, hi⟩ := push_spec _ [pre.length] [] [] hp hkinds'
      (by
        obtain ⟨a, b⟩ := new_del (n := n) (m := bs.length) pre.length hn
        exact ⟨⟨Or.inl a, hb⟩, b⟩)
      (fun p rest e ht => by
        simp only [Bool.and_eq_true, beq_iff_eq] at ht
        have hp := (hkinds p (e ▸ List.mem_cons_self ..)).1.resolve_right
          fun c => by have := (tests_eq c).1; rw [ht.1] at this; cases this
        obtain ⟨a, b⟩ := ext_del hp pre.length ht.2 hn
        exact ⟨⟨Or.inl a, hb⟩, b⟩)
    refine ⟨hlen.symm, ?_, hq, ?_, ?_, ?_⟩
    · intro k'
      rw [hmat k', List.mem_append, List.mem_singleton]
      exact ⟨fun ⟨h1, h2⟩ => ⟨Or.inl h1, h2⟩, fun ⟨h1, h2⟩ => ⟨h1.resolve_right fun c => hkb (c ▸ h2), h2⟩⟩
    · rw [hd, hdel, sDel_snoc, hl, Nat.zero_add]; rfl
    · rw [he, heq, sEq_snoc, hl]
    · rw [hi, hins]; rfl
  | some j =>
    have hjm := (lastIdx_some hl).1
    have hkb : k ∈ bs := Classical.byContradiction fun c => nomatch (lastIdx_none.mpr c).symm.trans hl
    dsimp only
    generalize hp : push _ _ _ res = res'
    obtain ⟨hq, hd, he, hi⟩ := push_spec _ [] [(pre.length, j)] [] hp hkinds'
      (by
        obtain ⟨a, b⟩ := new_eq (n := n) (m := bs.length) pre.length j hn hjm
        exact ⟨⟨Or.inr a, hb⟩, b⟩)
      (fun p rest e ht => by
        simp only [Bool.and_eq_true, beq_iff_eq] at ht
        have hp := (hkinds p (e ▸ List.mem_cons_self ..)).1.resolve_left
          fun c => by have := (tests_del c).2.2; rw [ht.1.1] at this; cases this
        obtain ⟨a, b⟩ := ext_eq hp pre.length j ht.1.2 ht.2 hn hjm
        exact ⟨⟨Or.inr a, hb⟩, b⟩)
    refine ⟨hlen.symm, ?_, hq, ?_, ?_, ?_⟩
    · intro k'
      rw [List.mem_cons, hmat k', List.mem_append, List.mem_singleton]
      exact ⟨fun h => h.elim (fun c => ⟨Or.inr c, c ▸ hkb⟩) fun ⟨h1, h2⟩ => ⟨Or.inl h1, h2⟩,
        fun ⟨h1, h2⟩ => h1.elim (fun c => Or.inr ⟨c, h2⟩) Or.inl⟩
    · rw [hd, hdel, sDel_snoc, hl]; rfl
    · rw [he, heq, sEq_snoc, hl, Nat.zero_add]
    · rw [hi, hins]; rfl

/-- Invariant of the second loop after the keys `preb` of `bs`: `ra` is the result of the first loop. -/
structure InvB (as bs : List String) (ra : List Range) (preb : List String) (s : List Range × Nat) : Prop where
  idx : s.2 = preb.length
  split : ∃ rb, s.1 = rb ++ ra ∧ (∀ r ∈ rb, kindOf as.length bs.length r = some .ins) ∧
    fIns rb.reverse = sIns as 0 preb

theorem invB_step (as bs : List String) (ra : List Range) (matched : List String) (preb : List String)
    (s : List Range × Nat) (k : String)
    (hra : ∀ r ∈ ra, kindOf as.length bs.length r = some .del ∨ kindOf as.length bs.length r = some .eq)
    (hmat : matched.contains k = as.contains k) (hm : preb.length < bs.length)
    (h : InvB as bs ra preb s) : InvB as bs ra (preb ++ [k]) (duStepB as.length matched s k) := by
  obtain ⟨res, j⟩ := s
  obtain ⟨hidx, rb, hres, hkinds, hins⟩ := h
  subst hidx hres
  have hlen : (preb ++ [k]).length = preb.length + 1 := by simp
  rw [duStepB_eq, hmat]
  by_cases hc : as.contains k = true
  · rw [if_pos hc]
    exact ⟨hlen.symm, rb, rfl, hkinds, by rw [hins, sIns_snoc, if_pos hc, List.append_nil]⟩
  · rw [if_neg hc, push_append rb ra fun p hp => by
      have : p.isInsert = false := (hra p hp).elim (fun c => (tests_del c).2.1) fun c => (tests_eq c).2.1
      rw [this]; rfl]
    generalize hp : push _ _ _ rb = rb'
    obtain ⟨hq, _, _, hi⟩ := push_spec _ [] [] [preb.length] hp hkinds (new_ins preb.length hm)
      (fun p rest e ht => by
        simp only [Bool.and_eq_true, beq_iff_eq] at ht
        exact ext_ins (hkinds p (e ▸ List.mem_cons_self ..)) preb.length ht.2 hm)
    exact ⟨hlen.symm, _, rfl, hq, by rw [hi, hins, sIns_snoc, if_neg hc, Nat.zero_add]⟩

theorem diffUnordered_spec (as bs : List String) (hnd : as.Nodup) :
    ∃ rsA rsB, diffUnordered as bs = rsA ++ rsB ∧
      (∀ r ∈ rsA, kindOf as.length bs.length r = some .del ∨ kindOf as.length bs.length r = some .eq) ∧
      (∀ r ∈ rsB, kindOf as.length bs.length r = some .ins) ∧
      fDel rsA = sDel bs 0 as ∧ fEq rsA = sEq bs 0 as ∧ fIns rsB = sIns as 0 bs := by
  have hA : InvA bs as.length as (as.foldl (duStepA bs) ([], [], 0)) :=
    foldl_prefix_induction _ (InvA bs as.length) as _ ⟨rfl, by simp, nofun, rfl, rfl, rfl⟩ fun pre k rest s e h => by
      have hnd' : (pre ++ k :: rest).Nodup := e ▸ hnd
      exact invA_step bs _ pre s k h (fun c => (List.nodup_append.mp hnd').2.2 k c k (List.mem_cons_self ..) rfl)
        (by rw [e]; simp)
  unfold diffUnordered
  generalize as.foldl (duStepA bs) ([], [], 0) = sA at hA ⊢
  obtain ⟨ra, matched, ia⟩ := sA
  obtain ⟨_, hmat, hkinds, hdel, heq, _⟩ := hA
  dsimp only at hmat hkinds hdel heq ⊢
  have hB : InvB as bs ra bs (bs.foldl (duStepB as.length matched) (ra, 0)) :=
    foldl_prefix_induction _ (InvB as bs ra) bs _ ⟨rfl, [], rfl, nofun, rfl⟩ fun preb k rest s e h => by
      refine invB_step as bs ra matched preb s k (fun r hr => (hkinds r hr).1) ?_ (by rw [e]; simp) h
      have hk : k ∈ bs := by rw [e]; simp
      rw [Bool.eq_iff_iff, List.contains_iff_mem, List.contains_iff_mem, hmat k]
      exact and_iff_left hk
  generalize bs.foldl (duStepB as.length matched) (ra, 0) = sB at hB ⊢
  obtain ⟨rf, jf⟩ := sB
  obtain ⟨_, rb, rfl, hkb, hins⟩ := hB
  exact ⟨ra.reverse, rb.reverse, List.reverse_append, fun r hr => (hkinds r (List.mem_reverse.mp hr)).1,
    fun r hr => hkb r (List.mem_reverse.mp hr), hdel, heq, hins⟩

theorem slice_eq_idxs {α : Type} [Inhabited α] (l : List α) (lo hi : Nat) (h : hi ≤ l.length) :
    NA.F1.slice l lo hi = (idxs lo hi).map fun t => l.getD t default := by
  unfold NA.F1.slice idxs
  apply List.ext_getElem
  · rw [List.length_take, List.length_drop, List.length_map, List.length_map, List.length_range,
      Nat.min_eq_left (Nat.sub_le_sub_right h lo)]
  · intro t _ h2
    rw [List.length_map, List.length_map, List.length_range] at h2
    rw [List.getElem_take, List.getElem_drop, List.getElem_map, List.getElem_map, List.getElem_range,
      getD_of_lt _ (Nat.lt_of_lt_of_le (Nat.add_lt_of_lt_sub' h2) h)]

theorem slice_range (n lo hi : Nat) (h : hi ≤ n) : NA.F1.slice (List.range n) lo hi = idxs lo hi := by
  rw [slice_eq_idxs _ _ _ (by rw [List.length_range]; exact h)]
  refine NA.ListFacts.map_eq_self fun t ht => ?_
  obtain ⟨x, hx, rfl⟩ := List.mem_map.mp ht
  have hx := List.mem_range.mp hx
  rw [getD_of_lt _ (by rw [List.length_range]; omega), List.getElem_range]

theorem foldl_flatMap' {α β σ : Type} (l : List α) (g : α → List β) (f : σ → β → σ) (s : σ) :
    (l.flatMap g).foldl f s = l.foldl (fun s x => (g x).foldl f s) s :=
  List.foldl_flatMap

theorem fDel_append (a b : List Range) : fDel (a ++ b) = fDel a ++ fDel b := by simp [fDel]
theorem fIns_append (a b : List Range) : fIns (a ++ b) = fIns a ++ fIns b := by simp [fIns]
theorem fEq_append (a b : List Range) : fEq (a ++ b) = fEq a ++ fEq b := by simp [fEq]

theorem fDel_of_ins {n m : Nat} {rs : List Range} (h : ∀ r ∈ rs, kindOf n m r = some .ins) : fDel rs = [] := by
  simp only [fDel, List.flatMap_eq_nil_iff]
  intro r hr
  simp [(tests_ins (h r hr)).1]

theorem fIns_of_delEq {n m : Nat} {rs : List Range}
    (h : ∀ r ∈ rs, kindOf n m r = some .del ∨ kindOf n m r = some .eq) : fIns rs = [] := by
  simp only [fIns, List.flatMap_eq_nil_iff]
  intro r hr
  rcases h r hr with h1 | h1
  · simp [(tests_del h1).2.1]
  · simp [(tests_eq h1).2.1]

/-! ## the flattened results by position

`sDel`, `sEq`, `sIns` walk the key list with a running index; the same lists read off the positions of the
key list, which is the form in which membership, order and absence of duplicates are those of `List.range`. -/

theorem lastIdx_isNone (k : String) (bs : List String) : (lastIdx k bs).isNone = !bs.contains k := by
  rw [Bool.eq_iff_iff, Option.isNone_iff_eq_none, lastIdx_none, Bool.not_eq_true', ← Bool.not_eq_true, List.contains_iff_mem]

theorem sDel_eq (bs : List String) : ∀ (i : Nat) (ks : List String),
    sDel bs i ks = ((List.range ks.length).filter fun t => !bs.contains (ks.getD t "")).map (i + ·)
  | _, [] => rfl
  | i, k :: ks => by
    rw [sDel, sDel_eq bs (i + 1) ks, List.length_cons, List.range_succ_eq_map, List.filter_cons, List.filter_map,
      lastIdx_isNone, List.getD_cons_zero]
    cases bs.contains k <;>
      simp only [Bool.not_true, Bool.not_false, Bool.false_eq_true, if_true, if_false, List.map_cons, List.map_map,
        Function.comp_def, List.getD_cons_succ, Nat.add_zero, Nat.succ_eq_add_one, Nat.add_assoc, Nat.add_comm 1,
        List.nil_append, List.singleton_append]

theorem sIns_eq (as : List String) : ∀ (j : Nat) (ks : List String),
    sIns as j ks = ((List.range ks.length).filter fun t => !as.contains (ks.getD t "")).map (j + ·)
  | _, [] => rfl
  | j, k :: ks => by
    rw [sIns, sIns_eq as (j + 1) ks, List.length_cons, List.range_succ_eq_map, List.filter_cons, List.filter_map,
      List.getD_cons_zero]
    cases as.contains k <;>
      simp only [Bool.not_true, Bool.not_false, Bool.false_eq_true, if_true, if_false, List.map_cons, List.map_map,
        Function.comp_def, List.getD_cons_succ, Nat.add_zero, Nat.succ_eq_add_one, Nat.add_assoc, Nat.add_comm 1,
        List.nil_append, List.singleton_append]

theorem sEq_eq (bs : List String) : ∀ (i : Nat) (ks : List String),
    sEq bs i ks = (List.range ks.length).filterMap fun t => (lastIdx (ks.getD t "") bs).map fun j => (i + t, j)
  | _, [] => rfl
  | i, k :: ks => by
    rw [sEq, sEq_eq bs (i + 1) ks, List.length_cons, List.range_succ_eq_map, List.filterMap_cons, List.filterMap_map,
      List.getD_cons_zero]
    cases lastIdx k bs <;>
      simp only [Option.map_none, Option.map_some, Function.comp_def, List.getD_cons_succ, Nat.add_zero,
        Nat.succ_eq_add_one, Nat.add_assoc, Nat.add_comm 1, List.nil_append, List.singleton_append]

theorem diffUnordered_pos (as bs : List String) (hnd : as.Nodup) :
    ∃ rsA rsB, diffUnordered as bs = rsA ++ rsB ∧
      (∀ r ∈ rsA, kindOf as.length bs.length r = some .del ∨ kindOf as.length bs.length r = some .eq) ∧
      (∀ r ∈ rsB, kindOf as.length bs.length r = some .ins) ∧
      fDel rsA = (List.range as.length).filter (fun i => !bs.contains (as.getD i "")) ∧
      fEq rsA = (List.range as.length).filterMap (fun i => (lastIdx (as.getD i "") bs).map fun j => (i, j)) ∧
      fIns rsB = (List.range bs.length).filter (fun j => !as.contains (bs.getD j "")) := by
  obtain ⟨rsA, rsB, h1, h2, h3, h4, h5, h6⟩ := diffUnordered_spec as bs hnd
  refine ⟨rsA, rsB, h1, h2, h3, ?_, ?_, ?_⟩
  · rw [h4, sDel_eq]; exact List.map_id'' Nat.zero_add _
  · rw [h5, sEq_eq]; simp only [Nat.zero_add]
  · rw [h6, sIns_eq]; exact List.map_id'' Nat.zero_add _

/-! ## the matching of two lists of items by key

What `diffUnordered` decides, as three lists of their own: the device positions whose key the target lacks (`mDels`), every
other device position with the LAST target item of its key (`mPairs`), the target items whose key the device lacks (`mInss`). -/

section matching
open NA.ListFacts
variable {α β : Type} (ka : α → String) (kb : β → String) (al : List α) (bl : List β)

def mDels [Inhabited α] : List Nat := (List.range al.length).filter fun i => !(bl.map kb).contains (ka (al.getD i default))

def mPairs [Inhabited α] [Inhabited β] : List (Nat × β) :=
  (List.range al.length).filterMap fun i => (lastIdx (ka (al.getD i default)) (bl.map kb)).map fun j => (i, bl.getD j default)

def mInss : List β := bl.filter fun b => !(al.map ka).contains (kb b)

variable {ka kb al bl}

theorem mem_mDels [Inhabited α] {k : Nat} : k ∈ mDels ka kb al bl ↔ k < al.length ∧ ka (al.getD k default) ∉ bl.map kb := by
  rw [mDels, List.mem_filter, List.mem_range, Bool.not_eq_true', Bool.eq_false_iff, Ne, List.contains_iff_mem]

theorem nodup_mDels [Inhabited α] : (mDels ka kb al bl).Nodup := List.nodup_range.sublist List.filter_sublist

theorem mem_mInss {b : β} : b ∈ mInss ka kb al bl ↔ b ∈ bl ∧ kb b ∉ al.map ka := by
  rw [mInss, List.mem_filter, Bool.not_eq_true', Bool.eq_false_iff, Ne, List.contains_iff_mem]

theorem mem_mPairs [Inhabited α] [Inhabited β] {k : Nat} {b : β} : (k, b) ∈ mPairs ka kb al bl ↔
    k < al.length ∧ ∃ j, lastIdx (ka (al.getD k default)) (bl.map kb) = some j ∧ b = bl.getD j default := by
  rw [mPairs, List.mem_filterMap]
  constructor
  · rintro ⟨i, hi, h⟩
    obtain ⟨j, hl, h⟩ := Option.map_eq_some_iff.1 h
    cases h
    exact ⟨List.mem_range.mp hi, j, hl, rfl⟩
  · rintro ⟨hk, j, hl, rfl⟩
    exact ⟨k, List.mem_range.mpr hk, by rw [hl]; rfl⟩

theorem mPairs_spec [Inhabited α] [Inhabited β] {p : Nat × β} (hp : p ∈ mPairs ka kb al bl) :
    p.1 < al.length ∧ p.2 ∈ bl ∧ ka (al.getD p.1 default) = kb p.2 := by
  obtain ⟨hk, j, hl, hb⟩ := mem_mPairs.mp (show (p.1, p.2) ∈ _ from hp)
  obtain ⟨hj, hjk⟩ := lastIdx_some hl
  rw [List.length_map] at hj
  rw [getD_map kb "" default hj] at hjk
  exact ⟨hk, hb ▸ getD_mem hj, by rw [hb, hjk]⟩

theorem nodup_mPairs [Inhabited α] [Inhabited β] : ((mPairs ka kb al bl).map (·.1)).Nodup := by
  rw [List.Nodup, List.pairwise_map]
  refine List.nodup_range.filterMap _ fun a a' hne b hb b' hb' hc => hne ?_
  cases ha : lastIdx (ka (al.getD a default)) (bl.map kb) <;> rw [ha] at hb <;> cases hb
  cases ha' : lastIdx (ka (al.getD a' default)) (bl.map kb) <;> rw [ha'] at hb' <;> cases hb'
  exact hc

theorem mPairs_cov [Inhabited α] [Inhabited β] {k : Nat} (hk : k < al.length) (hkey : ka (al.getD k default) ∈ bl.map kb) :
    ∃ b, (k, b) ∈ mPairs ka kb al bl := by
  cases hl : lastIdx (ka (al.getD k default)) (bl.map kb) with
  | none => exact absurd hkey (lastIdx_none.mp hl)
  | some j => exact ⟨_, mem_mPairs.mpr ⟨hk, j, hl, rfl⟩⟩

theorem mPairs_covB [Inhabited α] [Inhabited β] (hnd : (bl.map kb).Nodup) {b : β} (hb : b ∈ bl) (hkey : kb b ∈ al.map ka) :
    ∃ k, (k, b) ∈ mPairs ka kb al bl := by
  obtain ⟨a, ha, hab⟩ := List.mem_map.mp hkey
  obtain ⟨k, hk, rfl⟩ := exists_getD_of_mem default ha
  obtain ⟨b', hb'⟩ := mPairs_cov hk (hab ▸ List.mem_map_of_mem (f := kb) hb)
  obtain ⟨_, h2, h3⟩ := mPairs_spec hb'
  exact ⟨k, eq_of_nodup_map hnd h2 hb (h3.symm.trans hab) ▸ hb'⟩

theorem match_disjoint [Inhabited α] [Inhabited β] (h : mPairs ka kb al bl = []) :
    mDels ka kb al bl = List.range al.length ∧ mInss ka kb al bl = bl := by
  have hno : ∀ k, k < al.length → ka (al.getD k default) ∉ bl.map kb := fun k hk hc =>
    (mPairs_cov hk hc).elim fun _ hb => by rw [h] at hb; cases hb
  refine ⟨List.filter_eq_self.mpr fun k hk => ?_, List.filter_eq_self.mpr fun b hb => ?_⟩
  · rw [Bool.not_eq_true', Bool.eq_false_iff, Ne, List.contains_iff_mem]; exact hno k (List.mem_range.mp hk)
  · rw [Bool.not_eq_true', Bool.eq_false_iff, Ne, List.contains_iff_mem]
    intro hc
    obtain ⟨a, ha, hab⟩ := List.mem_map.mp hc
    obtain ⟨k, hk, rfl⟩ := exists_getD_of_mem default ha
    exact hno k hk (hab ▸ List.mem_map_of_mem hb)

/-- The matching depends only on which keys of the two sides are equal. -/
theorem match_congr [Inhabited α] [Inhabited β] {ka' : α → String} {kb' : β → String}
    (h : ∀ a ∈ al, ∀ b ∈ bl, (ka a = kb b ↔ ka' a = kb' b)) :
    mDels ka kb al bl = mDels ka' kb' al bl ∧ mPairs ka kb al bl = mPairs ka' kb' al bl ∧ mInss ka kb al bl = mInss ka' kb' al bl := by
  have hmemB : ∀ a ∈ al, (ka a ∈ bl.map kb ↔ ka' a ∈ bl.map kb') := fun a ha => by
    simp only [List.mem_map]
    exact ⟨fun ⟨b, hb, e⟩ => ⟨b, hb, ((h a ha b hb).mp e.symm).symm⟩, fun ⟨b, hb, e⟩ => ⟨b, hb, ((h a ha b hb).mpr e.symm).symm⟩⟩
  have hmemA : ∀ b ∈ bl, (kb b ∈ al.map ka ↔ kb' b ∈ al.map ka') := fun b hb => by
    simp only [List.mem_map]
    exact ⟨fun ⟨a, ha, e⟩ => ⟨a, ha, (h a ha b hb).mp e⟩, fun ⟨a, ha, e⟩ => ⟨a, ha, (h a ha b hb).mpr e⟩⟩
  refine ⟨List.filter_congr fun k hk => ?_, ?_, List.filter_congr fun b hb => ?_⟩
  · have := hmemB _ (getD_mem (d := default) (List.mem_range.mp hk))
    rw [← List.contains_iff_mem, ← List.contains_iff_mem] at this
    rw [Bool.eq_iff_iff.mpr this]
  · refine filterMap_congr fun k hk => ?_
    have hka := getD_mem (d := default) (List.mem_range.mp hk)
    congr 1
    unfold lastIdx
    simp only [List.length_map]
    refine find?_congr fun j hj => ?_
    have hj' : j < bl.length := List.mem_range.mp (List.mem_reverse.mp hj)
    rw [getD_map kb "" default hj', getD_map kb' "" default hj']
    have := h _ hka _ (getD_mem (d := default) hj')
    rw [Bool.eq_iff_iff, beq_iff_eq, beq_iff_eq, eq_comm, this, eq_comm]
  · have := hmemA b hb
    rw [← List.contains_iff_mem, ← List.contains_iff_mem] at this
    rw [Bool.eq_iff_iff.mpr this]

/-- **`diffUnordered` computes the matching**: delete / equal ranges over the device positions without partner and the
pairs, then insert ranges over the target items without partner. -/
theorem diffUnordered_match [Inhabited α] [Inhabited β] (ka : α → String) (kb : β → String) (al : List α) (bl : List β)
    (hnd : (al.map ka).Nodup) :
    ∃ rsA rsB, diffUnordered (al.map ka) (bl.map kb) = rsA ++ rsB ∧
      (∀ r ∈ rsA, kindOf al.length bl.length r = some .del ∨ kindOf al.length bl.length r = some .eq) ∧
      (∀ r ∈ rsB, kindOf al.length bl.length r = some .ins) ∧
      fDel rsA = mDels ka kb al bl ∧ ((fEq rsA).map fun p => (p.1, bl.getD p.2 default)) = mPairs ka kb al bl ∧
      ((fIns rsB).map fun j => bl.getD j default) = mInss ka kb al bl := by
  obtain ⟨rsA, rsB, hrs, hkA, hkB, hfD, hfE, hfI⟩ := diffUnordered_pos (al.map ka) (bl.map kb) hnd
  simp only [List.length_map] at hkA hkB hfD hfE hfI
  refine ⟨rsA, rsB, hrs, hkA, hkB, ?_, ?_, ?_⟩
  · rw [hfD]; exact List.filter_congr fun i hi => by rw [getD_map ka "" default (List.mem_range.mp hi)]
  · rw [hfE, List.map_filterMap]
    refine filterMap_congr fun i hi => ?_
    rw [getD_map ka "" default (List.mem_range.mp hi)]
    cases lastIdx (ka (al.getD i default)) (bl.map kb) <;> rfl
  · rw [hfI, mInss, ← (filter_map_index default bl (fun b => !(al.map ka).contains (kb b)) id).trans (List.map_id _)]
    exact congrArg _ (List.filter_congr fun j hj => by rw [getD_map kb "" default (List.mem_range.mp hj)])

end matching

/-- **What both `diffRoutes` read off the script**, for items with keys: the device items whose key the
target lacks, with their positions, and the target items whose key the device lacks. -/
theorem unmatched_items {α β : Type} [Inhabited α] [Inhabited β] (al : List α) (bl : List β) (ka : α → String)
    (kb : β → String) (hnd : (al.map ka).Nodup) :
    ((diffUnordered (al.map ka) (bl.map kb)).flatMap fun r =>
      if r.isDelete then (List.range (r.highA - r.lowA)).map fun i => (r.lowA + i, al.getD (r.lowA + i) default) else []) =
      (mDels ka kb al bl).map (fun i => (i, al.getD i default)) ∧
    ((diffUnordered (al.map ka) (bl.map kb)).flatMap fun r => if r.isInsert then NA.F1.slice bl r.lowB r.highB else []) =
      mInss ka kb al bl := by
  obtain ⟨rsA, rsB, hrs, hkA, hkB, hfD, _, hfI⟩ := diffUnordered_match ka kb al bl hnd
  have hdel : ∀ rs : List Range, (rs.flatMap fun r =>
      if r.isDelete then (List.range (r.highA - r.lowA)).map fun i => (r.lowA + i, al.getD (r.lowA + i) default) else []) =
      (fDel rs).map fun k => (k, al.getD k default) := fun rs => by
    rw [fDel, List.map_flatMap]
    refine congrArg (rs.flatMap ·) (funext fun r => ?_)
    split
    · rw [idxs, List.map_map]; rfl
    · rfl
  have hinsA : (rsA.flatMap fun r => if r.isInsert then NA.F1.slice bl r.lowB r.highB else []) = [] :=
    List.flatMap_eq_nil_iff.mpr fun r hr => by
      rw [if_neg]
      rw [(hkA r hr).elim (fun c => (tests_del c).2.1) fun c => (tests_eq c).2.1]; nofun
  have hinsB : (rsB.flatMap fun r => if r.isInsert then NA.F1.slice bl r.lowB r.highB else []) =
      (fIns rsB).map fun j => bl.getD j default := by
    rw [fIns, List.map_flatMap, List.flatMap_def, List.flatMap_def]
    refine congrArg _ (List.map_congr_left fun r hr => ?_)
    rw [if_pos (tests_ins (hkB r hr)).2.1, if_pos (tests_ins (hkB r hr)).2.1]
    exact slice_eq_idxs bl _ _ (kindOf_ins_iff.mp (hkB r hr)).2.2.2
  rw [hrs, hdel, fDel_append, fDel_of_ins hkB, List.append_nil, hfD, List.flatMap_append, hinsA, hinsB, hfI, List.nil_append]
  exact ⟨rfl, rfl⟩

section readers
open NA.F1 (slice)

theorem foldl_eq_flatMap {α β σ : Type} (step : σ → α → σ) (g : α → List β) (F : σ → β → σ) (l : List α)
    (h : ∀ r ∈ l, ∀ st, step st r = (g r).foldl F st) (st : σ) : l.foldl step st = (l.flatMap g).foldl F st :=
  (NA.ListFacts.foldl_ext_mem step _ l st fun s r hr => h r hr s).trans (List.foldl_flatMap ..).symm

/-- A loop over device-side ranges (delete / equal kinds) that works on equal ranges pair by pair (`G`) is a fold
over the flattened pairs, whatever it would do on insert ranges (`X`).  Shared by `diffBinds` and `diffIntfs`. -/
theorem fEq_fold {β σ : Type} [Inhabited β] (n : Nat) (bl : List β) (G : σ → Nat × β → σ) (X : σ → Range → σ)
    (rs : List Range) (hk : ∀ r ∈ rs, kindOf n bl.length r = some .del ∨ kindOf n bl.length r = some .eq) (st : σ) :
    rs.foldl (fun st r =>
        if r.isInsert then X st r
        else if r.isEqual then ((slice (List.range n) r.lowA r.highA).zip (slice bl r.lowB r.highB)).foldl G st
        else st) st =
      ((fEq rs).map fun p => (p.1, bl.getD p.2 default)).foldl G st := by
  rw [fEq_eq, List.map_flatMap]
  refine foldl_eq_flatMap _ _ _ rs (fun r hr st => ?_) st
  rcases hk r hr with h | h
  · obtain ⟨_, h2, h3⟩ := tests_del h
    simp [gEq, h2, h3]
  · obtain ⟨_, h2, h3⟩ := tests_eq h
    obtain ⟨_, q2, _, q4, _⟩ := kindOf_eq_iff.mp h
    simp only [gEq, h2, Bool.false_eq_true, ↓reduceIte, h3, slice_range _ _ _ q2, slice_eq_idxs bl _ _ q4,
      List.zip_map_right]
    rfl

end readers

end NA.F2

/-! ## The index level of the ASA proofs

The three index lists are the flattened lists above. -/
namespace NA.F1
open NA.Acl (Range)
open NA.F2 (fDel fIns fEq kindOf tests_del tests_eq tests_ins kindOf_eq_iff idxs diffUnordered_pos fDel_append fDel_of_ins
  fIns_append fIns_of_delEq)

def delIdxOf (diff : List Range) : List Nat :=
  diff.flatMap fun r => if r.isDelete then (List.range (r.highA - r.lowA)).map (r.lowA + ·) else []

def insIdxOf (diff : List Range) : List Nat :=
  diff.flatMap fun r => if r.isInsert then (List.range (r.highB - r.lowB)).map (r.lowB + ·) else []

def eqIdxOf (diff : List Range) : List (Nat × Nat) :=
  diff.flatMap fun r =>
    if !r.isInsert && !r.isDelete then (List.range (r.highA - r.lowA)).map (fun t => (r.lowA + t, r.lowB + t)) else []

/-- Invariant of the first loop after `n` keys of `as`. -/
structure InvA (as bs : List String) (n : Nat) (res : List Range) (matched : List String) : Prop where
  dels : delIdxOf res.reverse = (List.range n).filter fun i => !bs.contains (as.getD i "")
  inss : insIdxOf res.reverse = []
  eqs : eqIdxOf res.reverse = (List.range n).filterMap fun i => (lastIdx (as.getD i "") bs).map fun j => (i, j)
  matched : ∀ k, k ∈ matched ↔ (∃ i, i < n ∧ as.getD i "" = k) ∧ k ∈ bs
  wf : ∀ p ∈ res, p.lowA < p.highA ∧ p.lowB ≤ p.highB ∧ p.highA ≤ n ∧ (p.isDelete = false → p.highB ≤ bs.length)

theorem delIdxOf_eq (rs : List Range) : delIdxOf rs = fDel rs := rfl
theorem insIdxOf_eq (rs : List Range) : insIdxOf rs = fIns rs := rfl

theorem eqIdxOf_eq {n m : Nat} {rs : List Range} (h : ∀ r ∈ rs, (kindOf n m r).isSome = true) : eqIdxOf rs = fEq rs := by
  rw [eqIdxOf, fEq, List.flatMap_def, List.flatMap_def]
  refine congrArg _ (List.map_congr_left fun r hr => ?_)
  cases hk : kindOf n m r with
  | none => exact absurd (h r hr) (by rw [hk]; nofun)
  | some k =>
    cases k with
    | del => obtain ⟨t1, t2, t3⟩ := tests_del hk; rw [t1, t2, t3]; rfl
    | ins => obtain ⟨t1, t2, t3⟩ := tests_ins hk; rw [t1, t2]; rfl
    | eq =>
      obtain ⟨t1, t2, t3⟩ := tests_eq hk
      rw [t1, t2, t3, idxs, idxs, (kindOf_eq_iff.mp hk).2.2.2.2, List.zip_map']
      rfl

/-- **What `diffUnordered` computes** for a duplicate-free `as`. -/
theorem diffUnordered_spec (as bs : List String) (has : as.Nodup) :
    delIdxOf (diffUnordered as bs) = (List.range as.length).filter (fun i => !bs.contains (as.getD i "")) ∧
    insIdxOf (diffUnordered as bs) = (List.range bs.length).filter (fun t => !as.contains (bs.getD t "")) ∧
    eqIdxOf (diffUnordered as bs) =
      (List.range as.length).filterMap (fun i => (lastIdx (as.getD i "") bs).map fun j => (i, j)) := by
  obtain ⟨rsA, rsB, hrs, hkA, hkB, hfD, hfE, hfI⟩ := diffUnordered_pos as bs has
  have hall : ∀ r ∈ rsA ++ rsB, (kindOf as.length bs.length r).isSome = true := fun r hr =>
    (List.mem_append.mp hr).elim (fun h => (hkA r h).elim (fun c => by rw [c]; rfl) fun c => by rw [c]; rfl)
      fun h => by rw [hkB r h]; rfl
  have hE : fEq rsB = [] := List.flatMap_eq_nil_iff.mpr fun r hr => by rw [(tests_ins (hkB r hr)).2.1]; rfl
  rw [hrs, delIdxOf_eq, insIdxOf_eq, eqIdxOf_eq hall, fDel_append, fDel_of_ins hkB, List.append_nil, fIns_append,
    fIns_of_delEq hkA, List.nil_append, NA.F2.fEq_append, hE, List.append_nil]
  exact ⟨hfD, hfI, hfE⟩

end NA.F1
