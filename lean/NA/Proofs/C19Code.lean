import NA.Proofs.C19Number
import NA.Proofs.C19Safety
/-!
# C19 — the compiled code of every policy directory belongs to the tree of its HEAD

The compiler stamps `next` with the content id of the tree it read (`Dir.code`, the tree without
the POLICY file).  Between the compile and `mv next $POLICY` the script commits POLICY (same
content), may merge what others pushed (`git pull --no-rebase`: HEAD now has THEIR content) and
returns to its own commit with `git reset --hard $HASH`.  Domain `code`:
* `codeH` — the stamp of `next` is the content of HEAD of next/src,
* `codeS` — `$HASH` is set and the stamp of `next` is the content of commit `$HASH`,
* `clean` — `next` holds no output of an earlier compile (the compile gives `codeH` only then),
* `nextNone`, `nextEmpty` — `next` does not exist / exists without a clone: what `rm -rf $NEXT;
  mkdir $NEXT` leave, so that `mkdir` cannot fail and gives `clean`;
requirement: `mv next $POLICY` only with `codeH`.  Dropping the `git reset` loses `codeH` at the `mv`.
-/
namespace NA.C19

structure F4 where
  holds : Bool
  codeH : Bool
  codeS : Bool
  clean : Bool
  nextNone : Bool
  nextEmpty : Bool
  deriving DecidableEq, Repr

def F4.kept (a : F4) (c : Cmd) : F4 where
  holds := a.holds
  codeH := a.codeH && !c.wNext
  codeS := a.codeS && !c.wCode && !c.wHash
  clean := a.clean && !c.wCode
  nextNone := a.nextNone && !c.wNext
  nextEmpty := a.nextEmpty && !c.wNext

def tf4 (c : Cmd) (a : F4) (ok : Bool) : Option F4 :=
  let k := a.kept c
  match c with
  | .flockNB => some (if ok then { k with holds := true } else k)
  | .rmrfNext => some { k with nextNone := a.holds }
  | .mkdirNext =>
    if ok then some { k with clean := a.holds, nextEmpty := a.holds } else if a.nextNone then none else some k
  | .compile => some { k with codeH := ok && a.holds && a.clean }
  | .gitCommitPolicy => some { k with codeH := a.codeH }
  | .saveHash => if ok then some { k with codeS := a.codeH } else if a.codeH then none else some k
  | .gitResetHash => some { k with codeH := a.codeS }
  | _ => some k

def req4 (c : Cmd) (a : F4) : Bool :=
  match c with
  | .mvNextTo => a.codeH
  | _ => true

def code : Dom where
  F := F4
  le a b := (!b.holds || a.holds) && (!b.codeH || a.codeH) && (!b.codeS || a.codeS) && (!b.clean || a.clean) &&
    (!b.nextNone || a.nextNone) && (!b.nextEmpty || a.nextEmpty)
  meet a b := ⟨a.holds && b.holds, a.codeH && b.codeH, a.codeS && b.codeS, a.clean && b.clean, a.nextNone && b.nextNone,
    a.nextEmpty && b.nextEmpty⟩
  entry := ⟨false, false, false, false, false, false⟩
  tf := tf4
  req := req4

def treeOf (g : G) (i : Nat) : Nat := (commitAt g.store i).tree

structure Γ4 (a : F4) (g : G) (p : Proc) : Prop where
  holds : a.holds = true → g.lock = some p.pid
  codeH : a.codeH = true → g.lock = some p.pid ∧
            ∃ d h, g.next = some d ∧ d.head = some h ∧ d.code = treeOf g h ∧ d.mixed = false
  codeS : a.codeS = true → g.lock = some p.pid ∧ p.hash ≠ 0 ∧
            ∃ d, g.next = some d ∧ d.code = treeOf g p.hash ∧ d.mixed = false
  clean : a.clean = true → g.lock = some p.pid ∧ ∃ d, g.next = some d ∧ d.dirty = false ∧ d.mixed = false
  nextNone : a.nextNone = true → g.lock = some p.pid ∧ g.next = none
  nextEmpty : a.nextEmpty = true → g.lock = some p.pid ∧ ∃ d, g.next = some d ∧ d.head = none

theorem Γ4.upd {a : F4} {g : G} {q : Proc} {pc : Nat} {t : Bool} (h : Γ4 a g q) : Γ4 a g (upd q pc t) := { h with }

theorem Γ4.mono {a b : F4} {g : G} {p : Proc} (h : Γ4 a g p) (hle : code.le a b = true) : Γ4 b g p := by
  simp only [code, Bool.and_eq_true] at hle
  obtain ⟨⟨⟨⟨⟨h1, h2⟩, h3⟩, h4⟩, h5⟩, h6⟩ := hle
  exact ⟨fun hb => h.holds (bit_of_le h1 hb), fun hb => h.codeH (bit_of_le h2 hb), fun hb => h.codeS (bit_of_le
    h3 hb), fun hb => h.clean (bit_of_le h4 hb), fun hb => h.nextNone (bit_of_le h5 hb), fun hb => h.nextEmpty
    (bit_of_le h6 hb)⟩

structure GI4 (g : G) : Prop where
  dirs : ∀ n d, lookupDir g.dirs n = some d → d.built = true →
          ∃ h, d.head = some h ∧ h ≤ g.store.length ∧ d.code = treeOf g h ∧ d.mixed = false
  rpos : 1 ≤ g.remote
  hpos : ∀ h, g.nextHead = some h → 1 ≤ h

theorem GI4.dirCodeOK {g : G} (h : GI4 g) {n : Nat} {d : Dir} (hd : lookupDir g.dirs n = some d) :
    dirCodeOK g.store d = true := by
  unfold NA.C19.dirCodeOK
  cases hb : d.built with
  | false => rfl
  | true =>
    obtain ⟨x, hx, _, hc, hm⟩ := h.dirs n d hd hb
    simp [hx, hc, hm, treeOf]

theorem treeOf_exec (c : Cmd) {g : G} {p : Proc} {i : Nat} (h : i ≤ g.store.length) :
    treeOf (exec c g p).1 i = treeOf g i := by
  unfold treeOf; rw [commitAt_exec c h]

/-- The code facts read: who holds the lock, `next` (its HEAD, stamp, dirty/mixed flags), the trees of
revisions in range, `$HASH`. -/
theorem Γ4.move {a : F4} {g g' : G} {p p' : Proc} (c : Cmd) (h : Γ4 a g p) (hvg : VG g) (hvp : VP g p)
    (hlock : g.lock = some p.pid → g'.lock = some p'.pid)
    (ht : ∀ i, i ≤ g.store.length → treeOf g' i = treeOf g i)
    (hnext : c.wNext = false → g'.next = g.next)
    (hcode : c.wCode = false →
      g'.next.map (fun d => (d.code, d.dirty, d.mixed)) = g.next.map (fun d => (d.code, d.dirty, d.mixed)))
    (hhash : c.wHash = false → p'.hash = p.hash) : Γ4 (a.kept c) g' p' := by
  -- `next` after the change, when only its stamp and flags are known to be the old ones
  have stamp : ∀ {d}, c.wCode = false → g.next = some d →
      ∃ d', g'.next = some d' ∧ d'.code = d.code ∧ d'.dirty = d.dirty ∧ d'.mixed = d.mixed := fun w hn => by
    have := hcode w
    rw [hn] at this
    cases hn' : g'.next with
    | none => simp [hn'] at this
    | some d' => simp [hn'] at this; exact ⟨d', rfl, this⟩
  constructor <;> intro hf <;> (try simp only [F4.kept, Bool.and_eq_true, Bool.not_eq_true'] at hf)
  · exact hlock (h.holds hf)
  · obtain ⟨h1, h2⟩ := hf
    obtain ⟨hL, d, x, hn, hx, hc, hm⟩ := h.codeH h1
    exact ⟨hlock hL, d, x, by rw [hnext h2]; exact hn, hx, by rw [ht x (hvg.head x (nextHead_of_next hn hx))]; exact hc, hm⟩
  · obtain ⟨⟨h1, h2⟩, h3⟩ := hf
    obtain ⟨hL, hne, d, hn, hc, hm⟩ := h.codeS h1
    obtain ⟨d', hn', e1, _, e3⟩ := stamp h2 hn
    exact ⟨hlock hL, by rw [hhash h3]; exact hne, d', hn', by rw [hhash h3, ht _ hvp.hash, e1]; exact hc, by rw [e3]; exact hm⟩
  · obtain ⟨h1, h2⟩ := hf
    obtain ⟨hL, d, hn, hd, hm⟩ := h.clean h1
    obtain ⟨d', hn', _, e2, e3⟩ := stamp h2 hn
    exact ⟨hlock hL, d', hn', by rw [e2]; exact hd, by rw [e3]; exact hm⟩
  · obtain ⟨h1, h2⟩ := hf
    exact ⟨hlock (h.nextNone h1).1, by rw [hnext h2]; exact (h.nextNone h1).2⟩
  · obtain ⟨h1, h2⟩ := hf
    exact ⟨hlock (h.nextEmpty h1).1, by rw [hnext h2]; exact (h.nextEmpty h1).2⟩

theorem keep4 (c : Cmd) {a : F4} {g : G} {p : Proc} (hΓ : Γ4 a g p) (hvg : VG g) (hvp : VP g p) :
    Γ4 (a.kept c) (exec c g p).1 (exec c g p).2.1 :=
  have f := frame c g p
  hΓ.move c hvg hvp exec_lock_own (fun _ hi => treeOf_exec c hi) f.next f.code f.hash

/-- The branches the domain calls impossible: `HASH=$(git log …)` failing although next/src has a
HEAD, and `mkdir $NEXT` failing right after `rm -rf $NEXT` under the lock. -/
theorem tf4_feasible {c : Cmd} {a : F4} {g : G} {p : Proc} (hΓ : Γ4 a g p) :
    ∃ x, tf4 c a (exec c g p).2.2 = some x := by
  by_cases hc : c = .saveHash
  · subst hc
    cases hok : (exec Cmd.saveHash g p).2.2
    · by_cases ha : a.codeH = true
      · exfalso
        obtain ⟨_, d, h, hn, hh, _⟩ := hΓ.codeH ha
        simp [exec, G.nextHead, hn, hh] at hok
      · simp [tf4, ha]
    · simp [tf4]
  by_cases hc2 : c = .mkdirNext
  · subst hc2
    cases hok : (exec Cmd.mkdirNext g p).2.2
    · by_cases ha : a.nextNone = true
      · exfalso
        obtain ⟨_, hn⟩ := hΓ.nextNone ha
        simp [exec, hn] at hok
      · simp [tf4, ha]
    · simp [tf4]
  · cases c <;> simp_all [tf4]

theorem own4 {c : Cmd} {a x : F4} {g : G} {p : Proc} (hΓ : Γ4 a g p) (hvg : VG g) (hvp : VP g p)
    (hpos : ∀ h, g.nextHead = some h → 1 ≤ h)
    (htf : tf4 c a (exec c g p).2.2 = some x) : Γ4 x (exec c g p).1 (exec c g p).2.1 := by
  have hK := keep4 c hΓ hvg hvp
  cases c
  case flockNB =>
    cases hok : (exec Cmd.flockNB g p).2.2 <;> rw [hok] at htf <;> cases htf
    · exact hK
    · exact { hK with holds := fun _ => by rw [exec_pid]; exact flock_ok hok }
  case rmrfNext =>
    cases htf
    exact { hK with nextNone := fun hf => ⟨exec_lock_own (hΓ.holds hf), rfl⟩ }
  case mkdirNext =>
    cases hok : (exec Cmd.mkdirNext g p).2.2 <;> rw [hok] at htf
    · cases ha : a.nextNone <;> simp only [tf4, ha] at htf <;> cases htf
      exact hK
    · cases htf
      obtain ⟨d, hd1, hd2, hd3, hd4⟩ :
          ∃ d, (exec Cmd.mkdirNext g p).1.next = some d ∧ d.head = none ∧ d.dirty = false ∧ d.mixed = false := by
        simp only [exec] at hok ⊢
        cases hn : g.next with
        | none => simp
        | some d => simp [hn] at hok
      exact { hK with
        clean := fun hf => ⟨exec_lock_own (hΓ.holds hf), d, hd1, hd3, hd4⟩
        nextEmpty := fun hf => ⟨exec_lock_own (hΓ.holds hf), d, hd1, hd2⟩ }
  case compile =>
    cases htf
    refine { hK with codeH := fun (hf : ((exec Cmd.compile g p).2.2 && a.holds && a.clean) = true) => ?_ }
    simp only [Bool.and_eq_true] at hf
    obtain ⟨⟨hok, hh0⟩, hcl⟩ := hf
    obtain ⟨_, d, hn, hd, hm⟩ := hΓ.clean hcl
    refine ⟨exec_lock_own (hΓ.holds hh0), ?_⟩
    simp only [exec, hn] at hok ⊢
    cases hh : d.head with
    | none => simp [hh] at hok
    | some h =>
      by_cases hg : (commitAt g.store h).good = true
      · simp [hg, treeOf, hd, hm]
      · simp [hh, hg] at hok
  case gitCommitPolicy =>
    cases htf
    refine { hK with codeH := fun hf => ?_ }
    -- the commit has the tree of its parent
    obtain ⟨hL, d, h, hn, hh, hc, hm⟩ := hΓ.codeH hf
    refine ⟨exec_lock_own hL, ?_⟩
    have hnh := nextHead_of_next hn hh
    simp only [exec, hnh]
    cases hs : p.spol with
    | none => exact ⟨d, h, hn, hh, hc, hm⟩
    | some n =>
      simp only []
      split
      · exact ⟨d, h, hn, hh, hc, hm⟩
      · refine ⟨{ d with head := some (g.store.length + 1) }, g.store.length + 1, ?_, rfl, ?_, hm⟩
        · simp [G.setNextHead, hn]
        · simp [treeOf, commitAt_new]; exact hc
  case saveHash =>
    cases hok : (exec Cmd.saveHash g p).2.2 <;> rw [hok] at htf
    · cases ha : a.codeH <;> simp only [tf4, ha] at htf <;> cases htf
      exact hK
    · cases htf
      refine { hK with codeS := fun hf => ?_ }
      obtain ⟨hL, d, h, hn, hh, hc, hm⟩ := hΓ.codeH hf
      have hnh := nextHead_of_next hn hh
      have h1 := hpos h hnh
      refine ⟨exec_lock_own hL, ?_, d, ?_, ?_, hm⟩
      · simp [exec, hnh]; omega
      · simp [exec, hn]
      · simp [exec, hnh] at hc ⊢; exact hc
  case gitResetHash =>
    cases htf
    refine { hK with codeH := fun hf => ?_ }
    obtain ⟨hL, hne, d, hn, hc, hm⟩ := hΓ.codeS hf
    refine ⟨exec_lock_own hL, { d with head := some p.hash }, p.hash, ?_, rfl, ?_, hm⟩
    · simp [exec, hne, G.setNextHead, hn]
    · simp [exec, hne, treeOf] at hc ⊢; exact hc
  all_goals (cases htf; exact hK)

theorem Γ4.vacuous {b : F4} {g g' : G} {q : Proc} {pid : Nat} (h : Γ4 b g q) (hl : g.lock = some pid)
    (hne : q.pid ≠ pid) : Γ4 b g' q := by
  have no := not_holder hl hne
  exact ⟨fun hf => (no (h.holds hf)).elim, fun hf => (no (h.codeH hf).1).elim, fun hf => (no (h.codeS hf).1).elim,
    fun hf => (no (h.clean hf).1).elim, fun hf => (no (h.nextNone hf).1).elim, fun hf => (no (h.nextEmpty hf).1).elim⟩

theorem Γ4.release {b : F4} {g : G} {q : Proc} {pid : Nat} (h : Γ4 b g q) (hne : q.pid ≠ pid) :
    Γ4 b (release g pid) q :=
  release_ind g pid h fun hl => h.vacuous hl hne

theorem Γ4.grow {b : F4} {g g' : G} {q : Proc} (h : Γ4 b g q) (hvg : VG g) (hvp : VP g q)
    (hlock : g.lock = some q.pid → g'.lock = some q.pid) (hn : g'.next = g.next)
    (hs : ∃ l, g'.store = g.store ++ l) : Γ4 b g' q := by
  obtain ⟨l, hl⟩ := hs
  -- `F4.kept` has the bit first and the write lists after it, so `b.kept (.nop _)` is `b` only after `Bool.and_true`
  have e : b.kept (.nop "") = b := by cases b; simp [F4.kept, Cmd.wNext, Cmd.wCode, Cmd.wHash]
  exact e ▸ h.move (.nop "") hvg hvp hlock (fun i hi => by simp [treeOf, hl, commitAt_append hi]) (fun _ => hn)
    (fun _ => by rw [hn]) (fun _ => rfl)

theorem other4 {c : Cmd} {b : F4} {g : G} {p q : Proc} (h : Γ4 b g q) (hvg : VG g) (hvp : VP g q) (hne : q.pid ≠ p.pid)
    (hmut : c.mutating = true → g.lock = some p.pid) : Γ4 b (exec c g p).1 q := by
  cases hm : c.mutating
  · exact h.grow hvg hvp exec_lock_other ((frame c g p).next (nonmut_writes hm).2.2.2.2.2.1) (frame c g p).grow
  · exact h.vacuous (hmut hm) hne

theorem GI4.grow {g g' : G} (h : GI4 g) (hd : g'.dirs = g.dirs) (hs : ∃ l, g'.store = g.store ++ l)
    (hr : 1 ≤ g'.remote) (hh : ∀ x, g'.nextHead = some x → 1 ≤ x) : GI4 g' := by
  obtain ⟨l, hl⟩ := hs
  refine ⟨?_, hr, hh⟩
  intro n d hn hb
  rw [hd] at hn
  obtain ⟨x, hx, hv, hc, hm⟩ := h.dirs n d hn hb
  refine ⟨x, hx, by rw [hl]; simp; omega, ?_, hm⟩
  simp [treeOf, hl, commitAt_append hv]; exact hc

theorem gi4_exec {c : Cmd} {a : F4} {g : G} {p : Proc} (h : GI4 g) (hΓ : Γ4 a g p) (hreq : req4 c a = true)
    (hvg : VG g) : GI4 (exec c g p).1 := by
  have hlen := len_exec c (g := g) (p := p)
  have hrpos : 1 ≤ (exec c g p).1.remote := by
    rcases (frame c g p).remoteFrom with h1 | h1
    · rw [h1]; exact h.rpos
    · exact h.hpos _ h1
  have hhpos : ∀ x, (exec c g p).1.nextHead = some x → 1 ≤ x := by
    intro x hx
    rcases (frame c g p).headFrom x hx with h1 | h1 | ⟨h1, _⟩ | ⟨h1, h2⟩
    · exact h.hpos x h1
    · rw [h1]; exact h.rpos
    · omega
    · omega
  refine ⟨fun n d hn hb => ?_, hrpos, hhpos⟩
  rcases dirs_exec hn with ⟨d1, h1, hb1, hh1, hc1, hm1⟩ | ⟨rfl, rfl, hx, _⟩
  · obtain ⟨x, hx, hv, hcx, hmx⟩ := h.dirs n d1 h1 (hb1 ▸ hb)
    exact ⟨x, hh1 ▸ hx, Nat.le_trans hv hlen, by rw [← hc1, treeOf_exec c hv]; exact hcx, hm1 ▸ hmx⟩
  · -- the new directory is `next`, whose stamp belongs to its HEAD (requirement of `mv`)
    obtain ⟨_, d0, x0, hn0, hx0, hc0, hm0⟩ := hΓ.codeH hreq
    rw [hx] at hn0; cases hn0
    have hv0 : x0 ≤ g.store.length := hvg.head x0 (nextHead_of_next hx hx0)
    exact ⟨x0, hx0, Nat.le_trans hv0 hlen, by rw [treeOf_exec _ hv0]; exact hc0, hm0⟩

theorem GI4.release {g : G} {pid : Nat} (h : GI4 g) : GI4 (release g pid) :=
  release_ind g pid h fun _ => ⟨h.dirs, h.rpos, h.hpos⟩

structure Inv4 (ann : Ann code) (s : State) : Prop where
  gi    : GI4 s.g
  procs : ∀ p ∈ s.procs, p.alive = true → ∃ a, code.at ann p.pc = some a ∧ Γ4 a s.g p

theorem Inv4.dying {ann : Ann code} {s : State} {d : List Nat} (h : Inv4 ann s) : Inv4 ann { s with dying := d } :=
  ⟨h.gi, h.procs⟩

theorem inv4_init {ann : Ann code} (se : Bool) : Inv4 ann (init se) :=
  ⟨⟨fun n d h => by simp [init, lookupDir] at h, by simp [init], fun h hh => by simp [init, G.nextHead] at hh⟩,
   fun p hp => by simp [init] at hp⟩

theorem Γ4_entry (g : G) (p : Proc) : Γ4 code.entry g p := by
  constructor <;> intro h <;> cases h

theorem inv4_stepCore {prog : Prog} {ann1 : Ann safety} {ann : Ann code}
    (hc1 : check safety prog ann1 = true) (hc : check code prog ann = true) {s : State}
    (hinv1 : Inv1 ann1 s) (hvg : VG s.g) (hvp : ∀ p ∈ s.procs, VP s.g p) (hinv : Inv4 ann s) (e : Event) :
    Inv4 ann (stepCore prog s e) := by
  obtain ⟨hgi, hprocs⟩ := hinv
  have hs := core_stepCore prog s e
  refine ⟨hs.global hgi (fun _ _ _ _ => hgi.grow rfl ⟨_, rfl⟩ (Nat.succ_pos _) hgi.hpos) (fun _ => hgi.release)
      (fun p i hf hal hi _ _ => ?_), ?_⟩
  · obtain ⟨a, ha, hΓ⟩ := hprocs p (findProc_some hf).1 hal
    exact gi4_exec hgi hΓ (check_step hc hi ha).1 hvg
  · refine hs.annotated (D := code) (Γ := Γ4) hc Γ4.mono hprocs (Γ4_entry _ _)
      (fun _ _ _ hg p hp _ b h => hg ▸ h.grow hvg (hvp p hp) id rfl ⟨_, rfl⟩)
      (fun pid q _ hne b h => h.release hne) (fun p hp hal i a hi hne _ ha hΓ hreq => ?_)
      (fun p hp hal i hi q hq hne b h => other4 h hvg (hvp q hq) hne (hinv1.mut_holds hc1 hp hal hi))
    obtain ⟨x, hx⟩ := tf4_feasible (c := i.cmd) hΓ
    exact ⟨x, hx, (own4 hΓ hvg (hvp p hp) hgi.hpos hx).upd⟩

end NA.C19
