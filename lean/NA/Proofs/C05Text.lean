import NA.Proofs.C05Values
/-!
C05: the text level.  Words (`Tok`: not empty, no white space `NoSp`) joined by single blanks are read back by `fields`; a line that
neither starts nor ends with white space is its own `trimSpace`; and `parseRoute` reads back what
`ip route show` prints for a static route (`routeShow`).
-/
namespace NA.C05
open NA.Linux NA.Linux.Spec

def NoSp (w : Str) : Prop := ∀ c ∈ w, isSpace c = false

instance (w : Str) : Decidable (NoSp w) := by unfold NoSp; exact inferInstance

theorem NoSp.append {a b : Str} (ha : NoSp a) (hb : NoSp b) : NoSp (a ++ b) :=
  List.forall_mem_append.2 ⟨ha, hb⟩

/-- The second half is `NoSp w` written out, and is used as such. -/
def Tok (w : Str) : Prop := w ≠ [] ∧ ∀ c ∈ w, isSpace c = false

instance (w : Str) : Decidable (Tok w) := by unfold Tok; exact inferInstance

theorem fieldsGo_nosp (w rest cur : Str) (hw : NoSp w) :
    fields.go (w ++ rest) cur = fields.go rest (w.reverse ++ cur) := by
  induction w generalizing cur with
  | nil => rfl
  | cons c cs ih =>
    have hc : isSpace c = false := hw c (by simp)
    simp only [List.cons_append, fields.go, hc, Bool.false_eq_true, ↓reduceIte,
      ih (c :: cur) (fun d hd => hw d (by simp [hd]))]
    simp

theorem fieldsGo_join : ∀ (ws : List Str) (w cur : Str), (∀ x ∈ w :: ws, Tok x) →
    fields.go (joinWith [' '] (w :: ws)) cur = (cur.reverse ++ w) :: ws := by
  have hne : ∀ (w cur : Str), w ≠ [] → (w.reverse ++ cur).isEmpty = false := fun w cur h => by simp [h]
  intro ws
  induction ws with
  | nil =>
    intro w cur h
    have hw := h w (by simp)
    have := fieldsGo_nosp w [] cur hw.2
    simp only [List.append_nil] at this
    simp [joinWith, this, fields.go, hne w cur hw.1]
  | cons y ys ih =>
    intro w cur h
    have hw := h w (by simp)
    have hj : joinWith [' '] (w :: y :: ys) = w ++ (' ' :: joinWith [' '] (y :: ys)) := by simp [joinWith]
    rw [hj, fieldsGo_nosp w _ cur hw.2]
    simp only [fields.go, show isSpace ' ' = true from rfl, ↓reduceIte, hne w cur hw.1, Bool.false_eq_true]
    rw [ih y [] (fun x hx => h x (by simp [List.mem_cons.mp hx]))]
    simp

theorem fields_join (ws : List Str) (h : ∀ x ∈ ws, Tok x) : fields (joinWith [' '] ws) = ws := by
  cases ws with
  | nil => rfl
  | cons w ws =>
    unfold fields
    rw [fieldsGo_join ws w [] h]
    simp

theorem trimLeftSpace_id {x : Str} (h : ∀ c, x.head? = some c → isSpace c = false) : trimLeftSpace x = x := by
  cases x with
  | nil => rfl
  | cons c cs => simp [trimLeftSpace, h c rfl]

theorem trimSpace_id {x : Str} (h1 : ∀ c, x.head? = some c → isSpace c = false)
    (h2 : ∀ c, x.getLast? = some c → isSpace c = false) : trimSpace x = x := by
  unfold trimSpace
  rw [trimLeftSpace_id h1, trimLeftSpace_id (fun c hc => h2 c (List.head?_reverse ▸ hc)), List.reverse_reverse]

theorem join_head_last : ∀ (ws : List Str), ws ≠ [] → (∀ x ∈ ws, Tok x) →
    (∀ c, (joinWith [' '] ws).head? = some c → isSpace c = false) ∧
    (∀ c, (joinWith [' '] ws).getLast? = some c → isSpace c = false) ∧ joinWith [' '] ws ≠ [] := by
  intro ws
  induction ws with
  | nil => intro h; exact absurd rfl h
  | cons x xs ih =>
    intro _ hall
    have hx := hall x (by simp)
    cases xs with
    | nil =>
      refine ⟨fun c hc => hx.2 c (List.mem_of_mem_head? hc), fun c hc => hx.2 c (List.mem_of_getLast? hc), hx.1⟩
    | cons y ys =>
      obtain ⟨_, h2, h3⟩ := ih (by simp) (fun z hz => hall z (by simp [hz]))
      simp only [joinWith]
      refine ⟨?_, ?_, ?_⟩
      · intro c hc
        rw [List.append_assoc, head_append_of_ne_nil hx.1] at hc
        exact hx.2 c (List.mem_of_mem_head? hc)
      · intro c hc
        rw [getLast?_append_ne _ _ h3] at hc
        exact h2 c hc
      · intro e
        exact h3 (List.append_eq_nil_iff.mp e).2

theorem trimSpace_join (ws : List Str) (hne : ws ≠ []) (h : ∀ x ∈ ws, Tok x) :
    trimSpace (joinWith [' '] ws) = joinWith [' '] ws := by
  obtain ⟨h1, h2, _⟩ := join_head_last ws hne h
  exact trimSpace_id h1 h2

theorem trimSpace_cons_join (c : Char) (hc : isSpace c = false) (ws : List Str) (hne : ws ≠ [])
    (h : ∀ x ∈ ws, Tok x) : trimSpace (c :: joinWith [' '] ws) = c :: joinWith [' '] ws := by
  obtain ⟨_, h2, h3⟩ := join_head_last ws hne h
  apply trimSpace_id
  · intro d hd; cases hd; exact hc
  · intro d hd
    rw [List.getLast?_cons_of_ne_nil h3] at hd
    exact h2 d hd

theorem trimSpace_cons_tok (c : Char) (hc : isSpace c = false) {w : Str} (hw : Tok w) : trimSpace (c :: w) = c :: w :=
  trimSpace_cons_join c hc [w] (by simp) (List.forall_mem_singleton.2 hw)

theorem tok_cons2 {a b : Str} {l : List Str} (ha : Tok a) (hb : Tok b) (hl : ∀ x ∈ l, Tok x) : ∀ x ∈ a :: b :: l, Tok x :=
  List.forall_mem_cons.2 ⟨ha, List.forall_mem_cons.2 ⟨hb, hl⟩⟩

theorem hasPrefix_mem {x p : Str} (h : hasPrefix x p = true) : ∀ c ∈ p, c ∈ x := by
  fun_induction hasPrefix x p with
  | case1 => exact fun _ hc => nomatch hc
  | case2 => cases h
  | case3 a as b bs ih =>
    simp only [Bool.and_eq_true, beq_iff_eq] at h
    exact List.forall_mem_cons.2 ⟨h.1 ▸ List.mem_cons_self, fun c hc => List.mem_cons_of_mem _ (ih h.2 c hc)⟩

theorem contains_nosp (w rest sub : Str) (hw : NoSp w) :
    contains (w ++ rest) (' ' :: sub) = contains rest (' ' :: sub) := by
  induction w with
  | nil => rfl
  | cons c cs ih =>
    have hc : ¬ c = ' ' := fun e => absurd (hw c (by simp)) (by rw [e]; decide)
    have hb : (c == ' ') = false := by simp [hc]
    simp only [List.cons_append, contains, hasPrefix, hb, Bool.false_and, Bool.false_or]
    exact ih (fun d hd => hw d (by simp [hd]))

theorem contains_nil (sub : Str) : contains [] (' ' :: sub) = false := rfl

theorem contains_space (rest sub : Str) :
    contains (' ' :: rest) (' ' :: sub) = (hasPrefix rest sub || contains rest (' ' :: sub)) := rfl

theorem cutPrefix_none_of_head {x p : Str} {c d : Char} (hx : x.head? = some c) (hp : p.head? = some d)
    (hcd : c ≠ d) : cutPrefix x p = none ∧ hasPrefix x p = false := by
  cases x with
  | nil => simp at hx
  | cons a as =>
    cases p with
    | nil => simp at hp
    | cons b bs =>
      simp only [List.head?_cons, Option.some.injEq] at hx hp
      subst hx; subst hp
      simp [cutPrefix, hasPrefix, hcd]

theorem matchProto_nosp (w rest : Str) (hw : NoSp w) :
    matchProtoIgnored (w ++ rest) = matchProtoIgnored rest := by
  induction w with
  | nil => rfl
  | cons c cs ih =>
    have hc : ¬ c = ' ' := fun e => absurd (hw c (by simp)) (by rw [e]; decide)
    have hcp : cutPrefix (c :: (cs ++ rest)) (s " proto ") = none := (cutPrefix_none_of_head rfl rfl hc).1
    simp only [List.cons_append, matchProtoIgnored, hcp, Bool.false_or]
    exact ih (fun d hd => hw d (by simp [hd]))

theorem matchProto_space (rest : Str) (h : cutPrefix rest (s "proto ") = none) :
    matchProtoIgnored (' ' :: rest) = matchProtoIgnored rest := by
  have : cutPrefix (' ' :: rest) (s " proto ") = cutPrefix rest (s "proto ") := by
    show cutPrefix (' ' :: rest) (' ' :: s "proto ") = _
    simp [cutPrefix]
  simp only [matchProtoIgnored, this, h, Bool.false_or]

theorem nosp_no_blank_prefix {w p : Str} (hw : NoSp w) (hp : ' ' ∈ p) :
    cutPrefix w p = none ∧ hasPrefix w p = false := by
  have hb : ' ' ∉ w := fun hm => absurd (hw ' ' hm) (by decide)
  constructor
  · cases h : cutPrefix w p with
    | none => rfl
    | some r => exact absurd (by rw [cutPrefix_some h]; simp [hp]) hb
  · cases h : hasPrefix w p with
    | false => rfl
    | true => exact absurd (hasPrefix_mem h ' ' hp) hb

theorem nosp_plain {w : Str} (h : plainTok w = true) : NoSp w := by
  simp only [plainTok, Bool.and_eq_true, Bool.not_eq_eq_eq_not, Bool.not_true, List.any_eq_false] at h
  intro c hc; simpa using h.1.1.1.2 c hc

theorem ne_nil_plain {w : Str} (h : plainTok w = true) : w ≠ [] := by
  intro e; subst e; simp [plainTok] at h

theorem tok_plain {w : Str} (h : plainTok w = true) : Tok w := ⟨ne_nil_plain h, nosp_plain h⟩

theorem ipTok_plain {w : Str} (h : ipTok w = true) : plainTok w = true := by
  simp only [ipTok, Bool.and_eq_true] at h; exact h.1

theorem ipTok_tok {w : Str} (h : ipTok w = true) : Tok w := tok_plain (ipTok_plain h)

theorem ipTok_chars {w : Str} (h : ipTok w = true) : ∀ c ∈ w, isDigit c = true ∨ c = '.' := by
  simp only [ipTok, Bool.and_eq_true, List.all_eq_true, Bool.or_eq_true, beq_iff_eq] at h
  exact h.2

theorem ipTok_head {w : Str} (h : ipTok w = true) : ∃ c, w.head? = some c ∧ (isDigit c = true ∨ c = '.') := by
  cases w with
  | nil => exact absurd rfl (ipTok_tok h).1
  | cons c cs => exact ⟨c, rfl, ipTok_chars h c (by simp)⟩

theorem digit_or_dot_ne {c : Char} (h : isDigit c = true ∨ c = '.') : c ≠ 's' ∧ c ≠ 'p' ∧ c ≠ '/' ∧ c ≠ 'd' := by
  rcases h with h | h
  · refine ⟨?_, ?_, ?_, ?_⟩ <;> exact ne_of_isDigit h rfl
  · subst h; decide

def rtail : Option Str → Str
  | some d => ' ' :: (s "dev" ++ ' ' :: d)
  | none => []

/-- The shape all printed routes have: `DST via HOP [dev IF]`. -/
def rline (D hop : Str) (dev : Option Str) : Str := D ++ (' ' :: (s "via" ++ (' ' :: (hop ++ rtail dev))))

def rtoks (D hop : Str) : Option Str → List Str
  | some d => [D, s "via", hop, s "dev", d]
  | none => [D, s "via", hop]

theorem rline_join (D hop : Str) (dev : Option Str) : rline D hop dev = joinWith [' '] (rtoks D hop dev) := by
  cases dev <;> simp [rline, rtail, rtoks, joinWith]

theorem rtoks_tok (D hop : Str) (dev : Option Str) (hD : Tok D) (hhop : ipTok hop = true)
    (hdev : ∀ d, dev = some d → Tok d) : ∀ x ∈ rtoks D hop dev, Tok x := by
  cases dev with
  | none => exact tok_cons2 hD (by decide) (List.forall_mem_singleton.2 (ipTok_tok hhop))
  | some d =>
    exact tok_cons2 hD (by decide) (tok_cons2 (ipTok_tok hhop) (by decide) (List.forall_mem_singleton.2 (hdev d rfl)))

theorem rline_notIgnored (D hop : Str) (dev : Option Str) (hD : Tok D) (hhop : ipTok hop = true)
    (hdev : ∀ d, dev = some d → Tok d) :
    contains (rline D hop dev) (s " scope link") = false ∧ matchProtoIgnored (rline D hop dev) = false := by
  obtain ⟨hc, hhd, hcd⟩ := ipTok_head hhop
  have hne := digit_or_dot_ne hcd
  have hhopT := ipTok_tok hhop
  have hvia : NoSp (s "via") := by decide
  have hdevw : NoSp (s "dev") := by decide
  have pat : s " scope link" = ' ' :: s "scope link" := rfl
  have hop_head : ∀ (T : Str), (hop ++ T).head? = some hc := fun T => (head_append_of_ne_nil hhopT.1).trans hhd
  constructor
  · unfold rline
    rw [pat, contains_nosp D _ _ hD.2, contains_space]
    rw [(cutPrefix_none_of_head (x := s "via" ++ (' ' :: (hop ++ rtail dev))) (p := s "scope link") (c := 'v') (d := 's') rfl rfl (by decide)).2]
    rw [Bool.false_or, contains_nosp _ _ _ hvia, contains_space]
    rw [(cutPrefix_none_of_head (hop_head _) (p := s "scope link") (d := 's') rfl hne.1).2]
    rw [Bool.false_or, contains_nosp _ _ _ hhopT.2]
    cases dev with
    | none => rfl
    | some d =>
      have hd := hdev d rfl
      simp only [rtail]
      rw [contains_space]
      rw [(cutPrefix_none_of_head (x := s "dev" ++ ' ' :: d) (p := s "scope link") (c := 'd') (d := 's') rfl rfl (by decide)).2]
      rw [Bool.false_or, contains_nosp _ _ _ hdevw, contains_space]
      rw [(nosp_no_blank_prefix hd.2 (p := s "scope link") (by decide)).2, Bool.false_or]
      rw [← List.append_nil d, contains_nosp _ _ _ hd.2]; rfl
  · unfold rline
    rw [matchProto_nosp D _ hD.2, matchProto_space _ (cutPrefix_none_of_head (x := s "via" ++ (' ' :: (hop ++ rtail dev)))
        (p := s "proto ") (c := 'v') (d := 'p') rfl rfl (by decide)).1]
    rw [matchProto_nosp _ _ hvia, matchProto_space _ (cutPrefix_none_of_head (hop_head _) (p := s "proto ") (d := 'p') rfl hne.2.1).1]
    rw [matchProto_nosp _ _ hhopT.2]
    cases dev with
    | none => rfl
    | some d =>
      have hd := hdev d rfl
      simp only [rtail]
      rw [matchProto_space _ (cutPrefix_none_of_head (x := s "dev" ++ ' ' :: d) (p := s "proto ") (c := 'd') (d := 'p') rfl rfl (by decide)).1]
      rw [matchProto_nosp _ _ hdevw, matchProto_space _ (nosp_no_blank_prefix hd.2 (p := s "proto ") (by decide)).1]
      rw [← List.append_nil d, matchProto_nosp _ _ hd.2]; rfl

/-- How `parseRoutes` reads a destination word. -/
def dstParse (D : Str) : Str × Int :=
  match cutChar D '/' with
  | (a, b, true) => (a, atoiOrZero b)
  | _ => if D = s "default" then (s "0.0.0.0", 0) else (D, 32)

theorem parseRoute_rline (D hop : Str) (dev : Option Str) (hD : Tok D) (hhop : ipTok hop = true)
    (hdev : ∀ d, dev = some d → Tok d) :
    parseRoute (s "ip route add " ++ rline D hop dev) =
      .ok (some { ip := (dstParse D).1, plen := (dstParse D).2,
                  hop := hop, orig := s "ip route add " ++ rline D hop dev }) := by
  obtain ⟨h1, h2⟩ := rline_notIgnored D hop dev hD hhop hdev
  have hf : fields (rline D hop dev) = rtoks D hop dev := by
    rw [rline_join]; exact fields_join _ (rtoks_tok D hop dev hD hhop hdev)
  unfold parseRoute
  rw [cutPrefix_append]
  simp only [h1, h2, Bool.false_eq_true, ↓reduceIte, hf]
  cases dev with
  | none => rfl
  | some d => rfl

theorem nosp_digits {d : Str} (h : d.all isDigit = true) : NoSp d := by
  intro c hc; exact digit_nosp (List.all_eq_true.mp h c hc)

theorem plen_text (n : Nat) (h : n ≤ 9223372036854775807) :
    atoiOrZero (toString (Int.ofNat n)).toList = Int.ofNat n ∧
    NoSp (toString (Int.ofNat n)).toList :=
  ⟨atoiOrZero_natToStr n h, nosp_digits (natToStr_digits n)⟩

/-- The destination word of `routeShow`. -/
def dstText (ip : Str) (pl : Int) : Str :=
  if pl = 32 then ip else if ip = s "0.0.0.0" ∧ pl = 0 then s "default" else ip ++ ['/'] ++ (toString pl).toList

theorem routeShow_eq (ip hop : Str) (pl : Int) (dev : Option Str) :
    routeShow (ip, pl, hop) dev = rline (dstText ip pl) hop dev := by
  have e1 : s " via " = ' ' :: (s "via" ++ [' ']) := by decide
  have e2 : s " dev " = ' ' :: (s "dev" ++ [' ']) := by decide
  cases dev with
  | none =>
    simp only [routeShow, rline, rtail, dstText, e1, List.append_assoc, List.cons_append, List.nil_append,
      List.append_nil]
  | some d =>
    simp only [routeShow, rline, rtail, dstText, e1, e2, List.append_assoc, List.cons_append, List.nil_append]

theorem dstText_tok {ip : Str} (hip : ipTok ip = true) (n : Nat) (hn : n ≤ 9223372036854775807) :
    Tok (dstText ip (Int.ofNat n)) := by
  unfold dstText
  split
  · exact ipTok_tok hip
  · split
    · decide
    · exact ⟨by simp, NoSp.append (NoSp.append (ipTok_tok hip).2 (by decide)) (plen_text n hn).2⟩

theorem dstParse_dstText {ip : Str} (hip : ipTok ip = true) (n : Nat) (hn : n ≤ 9223372036854775807) :
    dstParse (dstText ip (Int.ofNat n)) = (ip, Int.ofNat n) := by
  obtain ⟨hc, hhd, hcd⟩ := ipTok_head hip
  have hns := ipTok_noslash hip
  unfold dstText
  split
  · -- a host route is printed without its prefix length
    rename_i h32
    have hnd : ¬ ip = s "default" := by
      intro e; rw [e] at hhd
      have : hc = 'd' := by simpa [s] using hhd.symm
      exact (digit_or_dot_ne hcd).2.2.2 this
    unfold dstParse; rw [cutChar_no ip '/' hns, if_neg hnd, h32]
  · split
    · rename_i hdef
      rw [hdef.1, hdef.2]; decide
    · unfold dstParse
      rw [List.append_assoc, List.singleton_append, cutChar_at ip (toString (Int.ofNat n)).toList '/' hns]
      simp only; rw [(plen_text n hn).1]

theorem parseRoute_routeShow (ip hop : Str) (n : Nat) (dev : Option Str) (hip : ipTok ip = true)
    (hhop : ipTok hop = true) (hn : n ≤ 9223372036854775807) (hdev : ∀ d, dev = some d → Tok d) :
    ∃ r : Route, parseRoute (s "ip route add " ++ routeShow (ip, Int.ofNat n, hop) dev) = .ok (some r) ∧
      r.key = (ip, Int.ofNat n, hop) := by
  rw [routeShow_eq]
  refine ⟨_, parseRoute_rline _ hop dev (dstText_tok hip n hn) hhop hdev, ?_⟩
  simp only [Route.key, dstParse_dstText hip n hn]

end NA.C05
