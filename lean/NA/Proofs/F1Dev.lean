import NA.Core.ListFacts
import NA.Spec.AsaDev
/-!
# F1: the strict device — basic lemmas (association lists, single commands, scripts)
-/
namespace NA.AsaDev
open NA.F1
export NA.ListFacts (mapSet anyKey_eq_lookup lookup_mapSet lookup_filter_key lookup_filter_keep anyKey_filter_keep keys_mapSet)

theorem setAssoc_eq {κ β : Type} [BEq κ] [LawfulBEq κ] (m : List (κ × β)) (k : κ) (v : β) :
    setAssoc m k v = if m.any (·.1 == k) then mapSet m k v else m ++ [(k, v)] := rfl

theorem lookup_setAssoc {κ β : Type} [BEq κ] [LawfulBEq κ] (m : List (κ × β)) (k k' : κ) (v : β) :
    (setAssoc m k v).lookup k' = if k' == k then some v else m.lookup k' := by
  rw [setAssoc_eq, anyKey_eq_lookup]
  by_cases e : k' = k
  · subst e
    cases h : m.lookup k' with
    | none => simp [List.lookup_append, h]
    | some w => simp [lookup_mapSet, h]
  · rw [beq_false_of_ne e]
    split
    · rw [lookup_mapSet, beq_false_of_ne e]; rfl
    · simp [List.lookup_append, List.lookup, beq_false_of_ne e]

theorem lookup_setAssoc_self {κ β : Type} [BEq κ] [LawfulBEq κ] (m : List (κ × β)) (k : κ) (v : β) :
    (setAssoc m k v).lookup k = some v := by
  rw [lookup_setAssoc, beq_self_eq_true, if_pos rfl]

theorem lookup_setAssoc_ne {κ β : Type} [BEq κ] [LawfulBEq κ] (m : List (κ × β)) (k k' : κ) (v : β) (hne : k' ≠ k) :
    (setAssoc m k v).lookup k' = m.lookup k' := by
  rw [lookup_setAssoc, beq_false_of_ne hne]; rfl

theorem anyKey_setAssoc {κ β : Type} [BEq κ] [LawfulBEq κ] (m : List (κ × β)) (k k' : κ) (v : β) :
    (setAssoc m k v).any (·.1 == k') = (k == k' || m.any (·.1 == k')) := by
  rw [anyKey_eq_lookup, anyKey_eq_lookup, lookup_setAssoc]
  by_cases e : k' = k
  · subst e; simp
  · rw [beq_false_of_ne e, beq_false_of_ne (Ne.symm e)]; rfl

theorem lookup_delAssoc_ne {κ β : Type} [BEq κ] [LawfulBEq κ] (k k' : κ) (hne : k' ≠ k) (m : List (κ × β)) :
    (delAssoc m k).lookup k' = m.lookup k' := by
  unfold delAssoc
  rw [lookup_filter_key (fun x => !(x == k)), beq_false_of_ne hne]; rfl

theorem keys_setAssoc_existing {κ β : Type} [BEq κ] [LawfulBEq κ] (m : List (κ × β)) (k : κ) (v : β) (h : m.any (·.1 == k) = true) :
    (setAssoc m k v).map (·.1) = m.map (·.1) := by
  rw [setAssoc_eq, if_pos h]; exact keys_mapSet k v m

def step (d : Dev) (c : Chg) : Option Dev := match exec1 d c with | .ok d' => some d' | .error _ => none

theorem exec_eq (d : Dev) (cs : List Chg) : exec d cs = cs.foldlM step d := rfl

theorem exec_nil (d : Dev) : exec d [] = some d := rfl

theorem exec_cons (d : Dev) (c : Chg) (cs : List Chg) : exec d (c :: cs) = (step d c).bind fun d' => exec d' cs := by
  simp [exec_eq, List.foldlM_cons, Option.bind_eq_bind]

theorem exec_append (d : Dev) (xs ys : List Chg) : exec d (xs ++ ys) = (exec d xs).bind fun d' => exec d' ys := by
  simp [exec_eq, List.foldlM_append, Option.bind_eq_bind]

theorem exec_append_some {d d1 d2 : Dev} {xs ys : List Chg} (h1 : exec d xs = some d1) (h2 : exec d1 ys = some d2) :
    exec d (xs ++ ys) = some d2 := by rw [exec_append, h1]; exact h2

theorem exec_single {d d' : Dev} {c : Chg} (h : exec1 d c = .ok d') : exec d [c] = some d' := by
  simp [exec_cons, step, h, exec_nil]

/-- "The script grew by commands that the device accepts" (the field `out` of every step relation): nothing printed, and
composition. -/
theorem out_refl {st st' : St} (d : Dev) (ho : st'.out = st.out) : ∃ cs, st'.out = st.out ++ cs ∧ exec d cs = some d :=
  ⟨[], by rw [ho, List.append_nil], exec_nil d⟩

theorem out_trans {s1 s2 s3 : St} {d1 d2 d3 : Dev} (h1 : ∃ cs, s2.out = s1.out ++ cs ∧ exec d1 cs = some d2)
    (h2 : ∃ cs, s3.out = s2.out ++ cs ∧ exec d2 cs = some d3) : ∃ cs, s3.out = s1.out ++ cs ∧ exec d1 cs = some d3 :=
  let ⟨c1, o1, e1⟩ := h1
  let ⟨c2, o2, e2⟩ := h2
  ⟨c1 ++ c2, by rw [o2, o1, List.append_assoc], exec_append_some e1 e2⟩

theorem exec1_exit_ok {d : Dev} {n : Name} (h : d.mode = some n) : exec1 d .exit = .ok { d with mode := none } := by
  simp [exec1, h]

theorem exec1_noBind_ok {d : Dev} (b : Bind) (h : d.binds.lookup (b.dir, b.intf) = some b.acl) :
    exec1 d (.noBind b) = .ok { d with binds := delAssoc d.binds (b.dir, b.intf), mode := none } := by
  simp only [exec1, h, bne_self_eq_false, Bool.false_eq_true, if_false]

theorem membersOf_setGroup_self (d : Dev) (g : Name) (ms : List String) (md : Option Name) :
    membersOf { d with groups := setAssoc d.groups g ms, mode := md } g = ms := by
  simp [membersOf, lookup_setAssoc_self]

theorem membersOf_setGroup_ne (d : Dev) (g g' : Name) (ms : List String) (md : Option Name) (h : g' ≠ g) :
    membersOf { d with groups := setAssoc d.groups g ms, mode := md } g' = membersOf d g' := by
  simp [membersOf, lookup_setAssoc_ne _ _ _ _ h]

theorem hasGroup_setGroup (d : Dev) (g g' : Name) (ms : List String) (md : Option Name) :
    hasGroup { d with groups := setAssoc d.groups g ms, mode := md } g' = (g == g' || hasGroup d g') := by
  simp [hasGroup, anyKey_setAssoc]

end NA.AsaDev

namespace NA.F1
open NA.AsaDev

theorem keys_setAssoc_new {κ β : Type} [BEq κ] [LawfulBEq κ] (m : List (κ × β)) (k : κ) (v : β) (h : m.any (·.1 == k) = false) :
    (setAssoc m k v).map (·.1) = m.map (·.1) ++ [k] := by
  rw [setAssoc_eq]; simp [h]

theorem nodup_keys_setAssoc {κ β : Type} [BEq κ] [LawfulBEq κ] (m : List (κ × β)) (k : κ) (v : β)
    (h : (m.map (·.1)).Nodup) : ((setAssoc m k v).map (·.1)).Nodup := by
  cases hx : m.any (·.1 == k) with
  | true => rw [keys_setAssoc_existing _ _ _ hx]; exact h
  | false =>
    rw [keys_setAssoc_new _ _ _ hx]
    refine ListFacts.nodup_snoc h fun hk => ?_
    obtain ⟨p, hp, rfl⟩ := List.mem_map.mp hk
    have : m.any (·.1 == p.1) = true := List.any_eq_true.mpr ⟨p, hp, beq_self_eq_true _⟩
    rw [hx] at this
    cases this

theorem mem_setAssoc {κ β : Type} [BEq κ] [LawfulBEq κ] {m : List (κ × β)} {k : κ} {v : β} {p : κ × β}
    (h : p ∈ setAssoc m k v) : p = (k, v) ∨ (p ∈ m ∧ p.1 ≠ k) := by
  rw [setAssoc_eq] at h
  split at h
  · unfold mapSet at h
    obtain ⟨q, hq, rfl⟩ := List.mem_map.mp h
    by_cases e1 : q.1 = k
    · left; simp [e1]
    · right
      have : (q.1 == k) = false := by simpa using e1
      simp only [this, Bool.false_eq_true, if_false]
      exact ⟨hq, e1⟩
  · rename_i hn
    rcases List.mem_append.mp h with h1 | h1
    · right
      refine ⟨h1, ?_⟩
      intro e1
      apply hn
      exact List.any_eq_true.mpr ⟨p, h1, by simp [e1]⟩
    · left; simpa using h1

theorem mem_delAssoc {κ β : Type} [BEq κ] [LawfulBEq κ] {m : List (κ × β)} {k : κ} {p : κ × β}
    (h : p ∈ delAssoc m k) : p ∈ m ∧ p.1 ≠ k := by
  unfold delAssoc at h
  obtain ⟨h1, h2⟩ := List.mem_filter.mp h
  exact ⟨h1, by simpa using h2⟩

end NA.F1
