import NA.Proofs.F2Shape
import NA.Proofs.F2Routes
/-!
# F2: a statically settled pair of configurations gives the empty script (`ios_F2_quiet`)

About the model alone: along the shape lemmas of F2Shape the marks of a run on a pair of the class `settledB` keep `QInv`
(nothing but quiet edits has been decided; `ready` target ACLs and `needed` device ACLs are paired as the compared pairs
say), the route plan is empty (`routePlan_quiet`) and nothing is pending for the clean-up.
-/
namespace NA.F2
open NA.ListFacts
open NA.F1 (lookupD sortS isTagged diffUnordered slice lastIdx)
open NA.Acl (Range)

/-- A decision that prints nothing: the line planner had nothing to do. -/
def QuietAct (act : MA) : Prop := ∃ aN al bl rs, act = .edit aN al bl rs ∧ editEvents aN al bl rs = [.reset]

theorem quiet_events (al bl : List ALine) (rs : List Range) (aN : Name) (h : quietLines al bl rs = true)
    (hne : (al.isEmpty && bl.isEmpty) = false) : editEvents aN al bl rs = [.reset] := by
  simp only [quietLines, hne, Bool.false_or, Bool.and_eq_true, Bool.not_eq_true'] at h
  obtain ⟨hal, hm⟩ := h
  unfold editEvents
  simp only [hal, Bool.false_eq_true, ↓reduceIte]
  cases hc : pairCells al bl rs with
  | none => rw [hc] at hm; cases hm
  | some M =>
    rw [hc] at hm
    simp only [Bool.and_eq_true] at hm
    simp only [hm.1, Bool.not_true, Bool.false_eq_true, ↓reduceIte, hm.2]

theorem render_resets (m : Option Mode) (evs : List Ev) (h : ∀ e ∈ evs, e = .reset) : render m evs = [] := by
  induction evs generalizing m with
  | nil => rfl
  | cons e es ih =>
    have := h e (List.mem_cons_self ..)
    subst this
    simp only [render, renderEv, List.nil_append]
    exact ih none (fun e' he' => h e' (List.mem_cons_of_mem _ he'))

theorem scriptOf_quiet (acts : List MA) (h : ∀ act ∈ acts, QuietAct act) : scriptOf acts = [] := by
  apply render_resets
  intro ev hev
  obtain ⟨act, hact, hev'⟩ := List.mem_flatMap.mp hev
  obtain ⟨aN, al, bl, rs, rfl, hq⟩ := h act hact
  simp only [expand, hq, List.mem_singleton] at hev'
  exact hev'

/-- Marks of a run in which nothing has been printed. `cp`: compared ACL pairs, `prot`: ACLs bound by
interfaces without partner. -/
structure QInv (cp : List (Name × Name)) (prot : List Name) (st : St) : Prop where
  acts : ∀ act ∈ st.acts, QuietAct act
  toDel : st.aToDel = []
  ready : ∀ bN ∈ st.aReady, ∃ aN, (aN, bN) ∈ cp ∧ st.nameOf bN = aN ∧ aN ∈ st.aNeeded
  needed : ∀ aN ∈ st.aNeeded, aN ∈ prot ∨ ∃ bN ∈ st.aReady, (aN, bN) ∈ cp ∧ st.nameOf bN = aN

structure QEnv (e : Env) (cp : List (Name × Name)) (prot : List Name) : Prop where
  oneToOne : ∀ p ∈ cp, ∀ q ∈ cp, (p.1 = q.1 ↔ p.2 = q.2)
  notProt : ∀ p ∈ cp, p.1 ∉ prot
  quiet : ∀ p ∈ cp, quietLines (e.a.lines p.1) (e.b.lines p.2) (lookupD e.sc.acl p) = true

theorem qinv_hit {cp : List (Name × Name)} {prot : List Name} {st : St} (h : QInv cp prot st) (s : String) :
    QInv cp prot (st.hit s) := ⟨h.acts, h.toDel, h.ready, h.needed⟩

theorem quiet_makeEqualBind {e : Env} {cp : List (Name × Name)} {prot : List Name} (hq : QEnv e cp prot)
    {st : St} (h : QInv cp prot st) (i k : Nat) (x : String) (a b : Bind) (hcp : (a.acl, b.acl) ∈ cp)
    (ha : e.a.hasAcl a.acl = true) (hb : e.b.hasAcl b.acl = true) :
    QInv cp prot (makeEqualBind e st i k x a b) ∧ a.acl ∈ (makeEqualBind e st i k x a b).aNeeded ∧
      (∀ n ∈ st.aNeeded, n ∈ (makeEqualBind e st i k x a b).aNeeded) := by
  unfold makeEqualBind
  simp only [ha, hb, Bool.and_self, ↓reduceIte]
  obtain ⟨st1, hst1⟩ : ∃ st1 : St, st1 = { st with bNeeded := (i, k) :: st.bNeeded } := ⟨_, rfl⟩
  rw [← hst1]
  have h1 : QInv cp prot st1 := by rw [hst1]; exact ⟨h.acts, h.toDel, h.ready, h.needed⟩
  have hN1 : st1.aNeeded = st.aNeeded := by rw [hst1]
  rcases diffAcl_cases e st1 a.acl b.acl with ⟨hmem, hd⟩ | ⟨hnn, hmem, _⟩ | ⟨hnn, hnr, hd⟩
  · -- the device ACL is taken: by the very same target ACL, which is `ready`, so nothing is transferred
    rcases h1.needed _ hmem with hp | ⟨bN', hr', hc', hname'⟩
    · exact absurd hp (hq.notProt _ hcp)
    · have hbb : bN' = b.acl := ((hq.oneToOne _ hc' _ hcp).mp rfl)
      rw [hbb] at hr' hname'
      have hrc : (st1.hit "acl:device-acl-needed").aReady.contains b.acl = true := List.contains_iff_mem.mpr hr'
      have hname : (st1.hit "acl:device-acl-needed").nameOf b.acl = a.acl := hname'
      rw [hd]
      simp only [transferAcl, hrc, ↓reduceIte, hname, bne_self_eq_false, Bool.false_eq_true]
      exact ⟨qinv_hit h1 _, hmem, fun n hn' => by rw [← hN1] at hn'; exact hn'⟩
  · -- the target ACL cannot be `ready` while its device ACL is not `needed`
    exfalso
    obtain ⟨aN', hc', _, hn'⟩ := h1.ready _ hmem
    have : aN' = a.acl := (hq.oneToOne _ hc' _ hcp).mpr rfl
    exact hnn (this ▸ hn')
  · rw [hd]
    simp only [bne_self_eq_false, Bool.false_eq_true, ↓reduceIte]
    have hql := hq.quiet _ hcp
    obtain ⟨f1, f2, f3, _, _, f4, facts⟩ := adopt_marks e st1 a.acl b.acl
    obtain ⟨hname_b, hname_o⟩ := nameOf_adopted f2
    have hacts : ∀ act ∈ (diffLines e (adoptSt st1 a.acl b.acl) a.acl b.acl).acts, QuietAct act := by
      by_cases hemp : ((e.a.lines a.acl).isEmpty && (e.b.lines b.acl).isEmpty) = true
      · rw [if_pos hemp] at facts
        rw [facts]; exact h1.acts
      · rw [if_neg hemp] at facts
        rw [facts]
        intro act hact
        rcases List.mem_append.mp hact with h2 | h2
        · exact h1.acts act h2
        · exact ⟨_, _, _, _, List.mem_singleton.mp h2, quiet_events _ _ _ _ hql (by simpa using hemp)⟩
    refine ⟨⟨hacts, by rw [f4]; exact h1.toDel, ?_, ?_⟩, by rw [f1]; simp, fun n hn' => by rw [f1, hN1]; simp [hn']⟩
    · intro bN hbN
      rw [f3] at hbN
      rcases List.mem_cons.mp hbN with rfl | hbN'
      · exact ⟨a.acl, hcp, hname_b, by rw [f1]; simp⟩
      · obtain ⟨aN', hc', hn1, hn2⟩ := h1.ready bN hbN'
        have hne : bN ≠ b.acl := fun hc => hnr (hc ▸ hbN')
        exact ⟨aN', hc', by rw [hname_o bN hne]; exact hn1, by rw [f1]; simp [hn2]⟩
    · intro aN haN
      rw [f1] at haN
      rcases List.mem_cons.mp haN with rfl | haN'
      · exact Or.inr ⟨b.acl, by rw [f3]; simp, hcp, hname_b⟩
      · rcases h1.needed aN haN' with hp | ⟨bN, hr1, hc1, hn1⟩
        · exact Or.inl hp
        · have hne : bN ≠ b.acl := fun hc => hnr (hc ▸ hr1)
          exact Or.inr ⟨bN, by rw [f3]; simp [hr1], hc1, by rw [hname_o bN hne]; exact hn1⟩

/-- A fold of steps each of which keeps the invariant, keeps `needed` ACLs `needed` and marks the ACLs `g x`. -/
theorem qinv_foldl {cp : List (Name × Name)} {prot : List Name} {α : Type} (f : St → α → St) (g : α → Name → Prop)
    (l : List α)
    (hf : ∀ st x, x ∈ l → QInv cp prot st →
      QInv cp prot (f st x) ∧ (∀ n, g x n → n ∈ (f st x).aNeeded) ∧ ∀ n ∈ st.aNeeded, n ∈ (f st x).aNeeded)
    {st : St} (h : QInv cp prot st) :
    QInv cp prot (l.foldl f st) ∧ (∀ x ∈ l, ∀ n, g x n → n ∈ (l.foldl f st).aNeeded) ∧
      ∀ n ∈ st.aNeeded, n ∈ (l.foldl f st).aNeeded := by
  induction l generalizing st with
  | nil => exact ⟨h, fun _ hx => (nomatch hx), fun n hn => hn⟩
  | cons x l ih =>
    obtain ⟨k1, k2, k3⟩ := hf st x (List.mem_cons_self ..) h
    obtain ⟨j1, j2, j3⟩ := ih (fun st y hy => hf st y (List.mem_cons_of_mem _ hy)) k1
    exact ⟨j1, List.forall_mem_cons.mpr ⟨fun n hn => j3 n (k2 n hn), j2⟩, fun n hn => j3 n (k3 n hn)⟩

/-- `diffBinds` for an interface pair that binds the same directions to compared ACLs: nothing is
printed; afterwards the ACLs of the device interface are `needed`. -/
theorem quiet_diffBinds {e : Env} {cp : List (Name × Name)} {prot : List Name} (hq : QEnv e cp prot)
    (i : Nat) (x : String) (al bl : List Bind)
    (hAn : (al.map (·.dir)).Nodup) (hAd : ∀ bd ∈ al, isDir bd.dir = true) (hAc : ∀ bd ∈ al, e.a.hasAcl bd.acl = true)
    (hB : BindsB e bl)
    (hsame1 : ∀ ba ∈ al, ba.dir ∈ bl.map (·.dir)) (hsame2 : ∀ bb ∈ bl, bb.dir ∈ al.map (·.dir))
    (hcp : ∀ ba ∈ al, ∀ bb ∈ bl, ba.dir = bb.dir → (ba.acl, bb.acl) ∈ cp)
    {st : St} (h : QInv cp prot st) :
    QInv cp prot (diffBinds e st i x al bl) ∧ (∀ ba ∈ al, ba.acl ∈ (diffBinds e st i x al bl).aNeeded) ∧
    (∀ n ∈ st.aNeeded, n ∈ (diffBinds e st i x al bl).aNeeded) := by
  obtain ⟨st0, hst0, hcompEq⟩ := diffBinds_canon e i x al bl hAn hAd hAc hB st
  have hks0 : mDels (·.dir) (·.dir) al bl = [] := List.eq_nil_iff_forall_not_mem.mpr fun k hk =>
    (mem_mDels.mp hk).2 (hsame1 _ (getD_mem (mem_mDels.mp hk).1))
  have hbs0 : mInss (·.dir) (·.dir) al bl = [] := List.eq_nil_iff_forall_not_mem.mpr fun b hb =>
    (mem_mInss.mp hb).2 (hsame2 b (mem_mInss.mp hb).1)
  rw [hks0, hbs0, List.foldl_nil, List.foldl_nil] at hcompEq
  have h0 : QInv cp prot st0 ∧ st0.aNeeded = st.aNeeded := by
    rcases hst0 with rfl | rfl
    · exact ⟨h, rfl⟩
    · exact ⟨qinv_hit h _, rfl⟩
  obtain ⟨k1, k2, k3⟩ := qinv_foldl (fun st p => makeEqualBind e st i p.1 x (al.getD p.1 default) p.2)
    (fun p n => n = (al.getD p.1 default).acl) (mPairs (·.dir) (·.dir) al bl)
    (fun st p hp h => by
      obtain ⟨h1, h3, h2⟩ := mPairs_spec hp
      obtain ⟨j1, j2, j3⟩ := quiet_makeEqualBind hq h i p.1 x (al.getD p.1 default) p.2
        (hcp _ (getD_mem h1) _ h3 h2) (hAc _ (getD_mem h1)) (hB.closed _ h3)
      exact ⟨j1, fun n hn => hn ▸ j2, j3⟩) h0.1
  rw [← hcompEq] at k1 k2 k3
  refine ⟨k1, ?_, fun n hn => k3 n (by rw [h0.2]; exact hn)⟩
  intro ba hba
  obtain ⟨k, hk, rfl⟩ := exists_getD_of_mem default hba
  obtain ⟨b, hb⟩ := mPairs_cov (kb := fun b : Bind => b.dir) hk (hsame1 _ hba)
  exact k2 _ hb _ rfl

structure QStatic (e : Env) (cp : List (Name × Name)) : Prop extends IStatic e where
  same : ∀ ai ∈ e.a.intfs, ∀ bi ∈ e.b.intfs, ai.name = bi.name →
    (∀ ba ∈ ai.binds, ba.dir ∈ bi.binds.map (·.dir)) ∧ (∀ bb ∈ bi.binds, bb.dir ∈ ai.binds.map (·.dir))
  cpMem : ∀ ai ∈ e.a.intfs, ∀ bi ∈ e.b.intfs, ai.name = bi.name → ∀ ba ∈ ai.binds, ∀ bb ∈ bi.binds, ba.dir = bb.dir →
    (ba.acl, bb.acl) ∈ cp

theorem quiet_diffIntfs {e : Env} {cp : List (Name × Name)} {prot : List Name} (hq : QEnv e cp prot) (hs : QStatic e cp)
    (hcpE : cp = cmpPairs e.a e.b) {st : St} (h : QInv cp prot st) :
    QInv cp prot (diffIntfs e st e.a.intfs e.b.intfs) ∧
    (∀ p ∈ cp, p.1 ∈ (diffIntfs e st e.a.intfs e.b.intfs).aNeeded) ∧
    (∀ n ∈ st.aNeeded, n ∈ (diffIntfs e st e.a.intfs e.b.intfs).aNeeded) := by
  obtain ⟨hh, hshape⟩ := diffIntfs_canon e e.a.intfs e.b.intfs hs.aNames st
  obtain ⟨k1, k2, k3⟩ := qinv_foldl (pairStep e e.a.intfs)
    (fun p n => ∃ ba ∈ (e.a.intfs.getD p.1 default).binds, ba.acl = n) (mPairs (·.name) (·.name) e.a.intfs e.b.intfs)
    (fun st p hp h => by
      obtain ⟨hk, hb, hn⟩ := mPairs_spec hp
      have hmem : e.a.intfs.getD p.1 default ∈ e.a.intfs := getD_mem hk
      obtain ⟨a1, a2, a3⟩ := hs.aIntf _ hmem
      obtain ⟨s1, s2⟩ := hs.same _ hmem _ hb hn
      obtain ⟨j1, j2, j3⟩ := quiet_diffBinds hq p.1 (e.a.intfs.getD p.1 default).name (e.a.intfs.getD p.1 default).binds
        p.2.binds a1 a2 a3 (hs.bIntf _ hb) s1 s2 (hs.cpMem _ hmem _ hb hn)
        (st := ({ st with iNeeded := p.1 :: st.iNeeded } : St).hit "intf:pair") ⟨h.acts, h.toDel, h.ready, h.needed⟩
      exact ⟨j1, fun n ⟨ba, hba, e⟩ => e ▸ j2 ba hba, j3⟩) h
  rw [hshape]
  refine ⟨⟨k1.acts, k1.toDel, k1.ready, k1.needed⟩, ?_, k3⟩
  intro p hp
  rw [hcpE] at hp
  obtain ⟨ai, hai, bi, hbi, hn, ba, hba, bb, hbb, hd, h5, h6⟩ := mem_cmpPairs.mp (show (p.1, p.2) ∈ _ from hp)
  -- the device interface `ai` has a partner, so it is in a pair
  obtain ⟨k, hk, rfl⟩ := exists_getD_of_mem default hai
  obtain ⟨bi', hmem⟩ := mPairs_cov (kb := fun i : Intf => i.name) hk (hn ▸ List.mem_map_of_mem (f := fun i : Intf => i.name) hbi)
  rw [← h5]
  exact k2 _ hmem _ ⟨ba, hba, rfl⟩

theorem qinv_init {cp : List (Name × Name)} {prot : List Name} (a' b : Config) {st2 : St} (hcore : CoreEmpty st2)
    (hP : ∀ n ∈ st2.aNeeded, n ∈ prot) : QInv cp prot (generateNames a' b st2) := by
  obtain ⟨c1, c2, c3, c4, c5, c6⟩ := hcore
  refine ⟨fun act hact => ?_, c1, fun bN hbN => ?_, fun aN haN => Or.inl (hP aN haN)⟩
  · have : (generateNames a' b st2).acts = st2.acts := rfl
    rw [this, c6] at hact; cases hact
  · have : (generateNames a' b st2).aReady = st2.aReady := rfl
    rw [this, c4] at hbN; cases hbN

/-- **`ios_F2_quiet`**: a statically settled pair of configurations gives the empty script. -/
theorem F2_quiet (a b : Config) (sc : Scripts) (hS : settledB a b sc = true) : (engine a b sc).script = [] := by
  simp only [settledB, Bool.and_eq_true, decide_eq_true_eq, List.all_eq_true, Bool.or_eq_true, bne_iff_ne, ne_eq,
    Bool.not_eq_true', List.any_eq_true, beq_iff_eq] at hS
  obtain ⟨⟨⟨⟨⟨⟨⟨⟨⟨⟨⟨⟨hok, hAn⟩, hBn⟩, hAb⟩, hBb⟩, hsame⟩, h11⟩, hnp⟩, hql⟩, hRn⟩, hRb⟩, hRa⟩, htag⟩ := hS
  obtain ⟨hacts, hscript⟩ := engine_acts a b sc hok
  obtain ⟨hcore2, hneeded2⟩ := start_marks a b ((engine_ok_eq a b sc).symm.trans hok)
  obtain ⟨_, _, ⟨pR, hpR⟩, _⟩ := alignVRFs_config a b {}
  have hqenv : QEnv (envOf a b sc) (cmpPairs (aOf a b) b) (unpairedAcls a b) := by
    refine ⟨?_, ?_, ?_⟩
    · intro p hp q hq'
      have := h11 p hp q hq'
      constructor
      · intro h1; simpa [h1] using this
      · intro h2; simpa [h2] using this
    · intro p hp hc
      have := hnp p hp
      rw [List.contains_iff_mem.mpr hc] at this; cases this
    · intro p hp
      show quietLines ((aOf a b).lines p.1) (b.lines p.2) (lookupD sc.acl p) = true
      rw [lines_aOf]; exact hql p hp
  have hstatic : QStatic (envOf a b sc) (cmpPairs (aOf a b) b) := by
    refine ⟨istatic_aOf sc hAn hBn hAb hBb, ?_, ?_⟩
    · intro ai hai bi hbi hn
      rcases hsame ai hai bi hbi with k | ⟨k1, k2⟩
      · exact absurd hn k
      · refine ⟨?_, ?_⟩
        · intro ba hba
          obtain ⟨bb, hbb, hd⟩ := k1 ba hba
          exact List.mem_map.mpr ⟨bb, hbb, hd⟩
        · intro bb hbb
          obtain ⟨ba, hba, hd⟩ := k2 bb hbb
          exact List.mem_map.mpr ⟨ba, hba, hd⟩
    · intro ai hai bi hbi hn ba hba bb hbb hd
      exact mem_cmpPairs.mpr ⟨ai, hai, bi, hbi, hn, ba, hba, bb, hbb, hd, rfl, rfl⟩
  have hq0 := qinv_init (cp := cmpPairs (aOf a b) b) (aOf a b) b hcore2 fun n hn => ((hneeded2 n).mp hn).2
  obtain ⟨q3, hcpN, hmono3⟩ := quiet_diffIntfs hqenv hstatic rfl hq0
  have hplan : (routePlan (sortRoutes (aOf a b).routes) (sortRoutes b.routes)).1 = [] := by
    have hpa := perm_sortRoutes (aOf a b).routes
    have hpb := perm_sortRoutes b.routes
    apply routePlan_quiet
    · rw [(hpa.map _).nodup_iff, show (aOf a b).routes = _ from hpR]; exact nodup_map_filter _ _ hRn
    · intro rb hrb
      obtain ⟨ra, hra, ht⟩ := hRb rb (hpb.mem_iff.mp hrb)
      rw [← ht]
      exact (hpa.map _).mem_iff.mpr (List.mem_map_of_mem hra)
    · intro ra hra
      rcases hRa ra (hpa.mem_iff.mp hra) with ⟨rb, hrb, ht⟩ | h2
      · left; rw [← ht]; exact (hpb.map _).mem_iff.mpr (List.mem_map_of_mem hrb)
      · right
        intro hc
        obtain ⟨rb, hrb, hv⟩ := List.mem_map.mp ((hpb.map (·.vrf)).mem_iff.mp hc)
        have : (b.routes.any fun rb => rb.vrf == ra.vrf) = true := List.any_eq_true.mpr ⟨rb, hrb, by simp [hv]⟩
        rw [this] at h2; cases h2
  -- clean-up: nothing is pending
  have hpend : (duPending (envOf a b sc) (st3Of a b sc)).1 = [] := by
    rw [List.eq_nil_iff_forall_not_mem]
    intro n hn
    obtain ⟨⟨hacl, hnn, hc2⟩, _⟩ := mem_duPending.mp hn
    rw [show (st3Of a b sc).aToDel = [] from q3.toDel] at hc2
    rcases hc2 with hc2 | hc2
    · cases hc2
    · rw [show (envOf a b sc).a.acls = a.acls from acls_aOf a b] at hacl
      apply hnn
      rcases htag n hacl with (h1 | h1) | ⟨p, hp, hpn⟩
      · rw [hc2] at h1; cases h1
      · exact hmono3 n ((hneeded2 n).mpr ⟨(hasAcl_config_iff a n).mpr hacl, List.contains_iff_mem.mp h1⟩)
      · rw [← hpn]; exact hcpN p hp
  rw [hscript, hacts, hplan, hpend, show cleanupActs [] = [] from rfl, List.append_nil, List.append_nil]
  exact scriptOf_quiet _ q3.acts
end NA.F2
