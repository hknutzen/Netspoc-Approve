import NA.Proofs.F1Sem
import NA.Proofs.F1Lines
import NA.Proofs.F1Equalize
/-!
# F1: the first phase of `diffASAACLs` (early `findGroupOnDevice`, `equalizeACLs`) on the strict device
-/
namespace NA.F1
open NA.AsaDev
open NA.Acl (Range)

/-- Device group `x` has the members of target group `bN` and will not be edited any more. -/
def GoodFrozen (e : Env) (st : St) (d : Dev) (x bN : Name) : Prop :=
  hasGroup d x = true ∧ (membersOf d x).Perm (lookupD e.b.groups bN) ∧ Frozen e st x

theorem GoodFrozen.gstep {e : Env} {st st' : St} {d d' : Dev} {x bN : Name} (h : GoodFrozen e st d x bN)
    (g : GStep e st d st' d') : GoodFrozen e st' d' x bN :=
  ⟨g.hasMono x h.1, by rw [g.stable x h.1 h.2.2]; exact h.2.1, h.2.2.mono g.grow⟩

def PairGood (e : Env) (st : St) (d : Dev) (a b : Line) : Prop :=
  ∀ p ∈ a.refs.zip b.refs, GoodFrozen e st d p.1 p.2

theorem equalizePair_gstep (e : Env) (hw : WF e) (st : St) (d : Dev) (h : Sem e st d) (a b : Line)
    (ha : ∀ g ∈ a.refs, g ∈ D0 e) (hb : ∀ g ∈ b.refs, g ∈ BNames e) {s' : St} {ok : Bool} (hq : equalizePair e st a b = (s', ok)) :
    ∃ d', GStep e st d s' d' ∧ (ok = true → PairGood e s' d' a b) := by
  -- the flag stays `true` only if every pair so far was equalised
  obtain ⟨rfl, rfl⟩ := Prod.mk.inj hq.symm
  refine equalizePair_rec e (fun done s ok => ∃ d', GStep e st d s d' ∧ (ok = true → ∀ p ∈ done, GoodFrozen e s d' p.1 p.2))
    a b st ⟨d, GStep.refl h, fun _ _ hp => nomatch hp⟩ ?_
  rintro done s ok p hp ⟨d1, g1, r1⟩
  obtain ⟨d2, g2⟩ := equalizedGroups_gstep e hw s d1 g1.sem p.1 p.2 (ha p.1 (List.of_mem_zip hp).1) (hb p.2 (List.of_mem_zip hp).2)
  refine ⟨d2, g1.trans g2, fun hok x hx => ?_⟩
  rw [Bool.and_eq_true] at hok
  rcases List.mem_append.mp hx with hx | hx
  · exact (r1 hok.1 x hx).gstep g2
  · obtain ⟨rr1, rr2⟩ := equalizedGroups_true e s p.1 p.2 hok.2
    have := g2.sem.ready p.2 rr1
    rw [rr2] at this
    exact List.mem_singleton.mp hx ▸ this

def KeepGood (e : Env) (st : St) (d : Dev) (al bl : List Line) (cells : List MCell) : Prop :=
  ∀ ai bi, MCell.keep ai bi ∈ cells → PairGood e st d (al.getD ai default) (bl.getD bi default)

theorem KeepGood.gstep {e : Env} {st st' : St} {d d' : Dev} {al bl : List Line} {cells : List MCell}
    (h : KeepGood e st d al bl cells) (g : GStep e st d st' d') : KeepGood e st' d' al bl cells :=
  fun ai bi hm p hp => (h ai bi hm p hp).gstep g

theorem cellsPhase_gstep (e : Env) (hw : WF e) (hA : RefsClosedA e) (aN : Name) (bl : List Line)
    (hbl : ∀ bi, ∀ g ∈ (bl.getD bi default).refs, g ∈ BNames e) (rs : List Range) (st : St) (d : Dev) (h : Sem e st d)
    {st1 : St} {cells : List MCell} (hq : cellsPhase e (e.aLines aN) bl rs (earlyFind e bl rs st) [] = (st1, cells)) :
    ∃ d', GStep e st d st1 d' ∧ KeepGood e st1 d' (e.aLines aN) bl cells := by
  obtain ⟨rfl, rfl⟩ := Prod.mk.inj hq.symm
  have find : ∀ s g, (∃ d', GStep e st d s d') → ∃ d', GStep e st d (findGroup e s g) d' :=
    fun s g ⟨d', hs⟩ => ⟨d', hs.trans (findGroup_gstep e s d' hs.sem g)⟩
  obtain ⟨d0, g0⟩ : ∃ d', GStep e st d (earlyFind e bl rs st) d' := by
    refine foldl_inv (P := fun s => ∃ d', GStep e st d s d') (fun r _ s hs => ?_) ⟨d, GStep.refl h⟩
    split
    · exact foldl_inv (fun g _ s' hs' => find s' g hs') hs
    · exact hs
  refine cellsPhase_rec e (e.aLines aN) bl
    (fun _ s c => ∃ d', GStep e st d s d' ∧ KeepGood e s d' (e.aLines aN) bl c) ?_ ?_ ?_ (fun _ _ _ _ _ _ _ h => h)
    rs _ [] ⟨d0, g0, fun _ _ hm => nomatch hm⟩
  · exact fun _ _ _ _ _ ⟨d', g, k⟩ => ⟨d', g, fun ai bi hm => k ai bi (keep_mem_append_ins hm)⟩
  · exact fun _ _ _ _ _ _ ⟨d', g, k⟩ => ⟨d', g, fun ai bi hm => k ai bi (keep_mem_append_del hm)⟩
  · intro r _ s c _ _ _ hs
    refine equalizeRange_rec e (e.aLines aN) bl r.lowA r.lowB
      (fun _ s c => ∃ d', GStep e st d s d' ∧ KeepGood e s d' (e.aLines aN) bl c) s c hs _ ?_
    rintro k _ s1 c1 ⟨d1, g1, k1⟩ s2 ok hq
    obtain ⟨d2, g2, r2⟩ := equalizePair_gstep e hw s1 d1 g1.sem ((e.aLines aN).getD (r.lowA + k) default)
      (bl.getD (r.lowB + k) default) (aLines_getD_refs e hA aN _) (hbl _) hq
    cases ok with
    | true =>
      refine ⟨d2, g1.trans g2, fun ai bi hm => ?_⟩
      rcases List.mem_append.mp hm with hm | hm
      · exact (k1.gstep g2) ai bi hm
      · simp only [if_true, List.mem_singleton, MCell.keep.injEq] at hm
        rw [hm.1, hm.2]; exact r2 rfl
    | false =>
      refine ⟨d2, gstep_hit (g1.trans g2) _, fun ai bi hm => ?_⟩
      rcases List.mem_append.mp hm with hm | hm
      · exact (k1.gstep g2) ai bi hm
      · simp at hm

end NA.F1
