import NA.Proofs.C05Ipt
/-!
C05, iptables: `normalizeIPTables` seen through lookups (`getA_normalize`), and the option loop of the parser on the words
of options (`parsePairs_words`).
-/
namespace NA.C05
open NA.Linux NA.Linux.Spec

def kM : Str := s "-m"
def kP : Str := s "-p"
def kXmark : Str := s "--set-xmark"
def kMark : Str := s "--set-mark"

/-- Is the `-m` entry dropped (it names the protocol)? -/
def mDrop (p : Pairs) : Bool :=
  match getA kM p with
  | some v => equalFold v ((getA kP p).getD [])
  | none => false

/-- Is this `--set-xmark` value rewritten to `--set-mark`? -/
def xConvV (v : Str) : Bool :=
  let (_, mask, found) := cutChar v '/'
  !found || lower mask = s "0xffffffff"

def step1 (p : Pairs) : Pairs := if mDrop p then eraseA kM p else p

def step2 (p : Pairs) : Pairs :=
  match getA kXmark p with
  | some v => if xConvV v then setA kMark v (eraseA kXmark p) else p
  | none => p

theorem normalize_eq (p : Pairs) :
    normalize p = (step2 (step1 p)).map fun (kv : Str × Str) => (kv.1, normVal kv.1 kv.2) := by
  unfold normalize step1 step2 mDrop xConvV kM kP kXmark kMark
  cases h1 : getA (s "-m") p with
  | none =>
    cases h2 : getA (s "--set-xmark") p with
    | none => rfl
    | some v => rfl
  | some m =>
    by_cases he : equalFold m ((getA (s "-p") p).getD []) = true
    · simp only [he, ↓reduceIte]
      cases h2 : getA (s "--set-xmark") (eraseA (s "-m") p) with
      | none => rfl
      | some v => rfl
    · simp only [he, Bool.false_eq_true, ↓reduceIte]
      cases h2 : getA (s "--set-xmark") p with
      | none => rfl
      | some v => rfl

theorem getA_step1 (p : Pairs) (k : Str) :
    getA k (step1 p) = if k = kM ∧ mDrop p = true then none else getA k p := by
  unfold step1
  by_cases hd : mDrop p = true
  · simp only [hd, ↓reduceIte, getA_eraseA, and_true, eq_comm (a := kM)]
  · simp [hd]

def xConv (p : Pairs) : Option Str :=
  match getA kXmark p with
  | some v => if xConvV v then some v else none
  | none => none

theorem xConv_eq_some {p : Pairs} {xv : Str} : xConv p = some xv ↔ getA kXmark p = some xv ∧ xConvV xv = true := by
  unfold xConv
  cases getA kXmark p with
  | none => simp
  | some w =>
    by_cases hc : xConvV w = true
    · simp only [hc, if_true, Option.some.injEq]
      exact ⟨fun e => ⟨e, e ▸ hc⟩, fun e => e.1⟩
    · simp only [if_neg hc]
      exact ⟨nofun, fun e => absurd (Option.some.inj e.1 ▸ e.2) hc⟩

theorem getA_step2 (p : Pairs) (k : Str) :
    getA k (step2 p) =
      match xConv p with
      | some v => if k = kMark then some v else if k = kXmark then none else getA k p
      | none => getA k p := by
  unfold step2 xConv
  cases h : getA kXmark p with
  | none => rfl
  | some v =>
    by_cases hc : xConvV v = true
    · simp only [hc, ↓reduceIte, getA_setA, getA_eraseA, eq_comm (a := kMark), eq_comm (a := kXmark)]
    · simp [hc]

theorem kX_ne_kM : kXmark ≠ kM := by unfold kXmark kM; decide_lit [s_ofList]
theorem kMark_ne_kM : kMark ≠ kM := by unfold kMark kM; decide_lit [s_ofList]
theorem kMark_ne_kX : kMark ≠ kXmark := by unfold kMark kXmark; decide_lit [s_ofList]
theorem kP_ne_kM : kP ≠ kM := by unfold kP kM; decide_lit [s_ofList]

theorem xConv_step1 (p : Pairs) : xConv (step1 p) = xConv p := by
  unfold xConv
  rw [getA_step1]
  simp [kX_ne_kM]

/-- Lookup in the normalised map, in terms of lookups in the parsed map. -/
theorem getA_normalize (p : Pairs) (k : Str) :
    getA k (normalize p) =
      (match xConv p with
       | some v => if k = kMark then some v else if k = kXmark then none
                   else if k = kM ∧ mDrop p = true then none else getA k p
       | none => if k = kM ∧ mDrop p = true then none else getA k p).map (normVal k) := by
  rw [normalize_eq, getA_mapVal, getA_step2, xConv_step1]
  cases xConv p <;> simp only [getA_step1]

theorem keys_normalize (p : Pairs) (k : Str) (h : k ∈ keysA (normalize p)) : k ∈ keysA p ∨ k = kMark := by
  obtain ⟨v, hv⟩ := (mem_keysA_iff k _).mp h
  rw [getA_normalize] at hv
  obtain ⟨w, hw, -⟩ := Option.map_eq_some_iff.mp hv
  by_cases hk : k = kMark
  · exact Or.inr hk
  · -- every other entry of the normal form is looked up in `p`
    refine Or.inl (mem_keysA_of_getA (v := w) ?_)
    cases hx : xConv p <;> simp only [hx, if_neg hk, Option.ite_none_left_eq_some] at hw
    · exact hw.2
    · exact hw.2.2

/-- A map on which a second normalisation finds nothing to do: every value (looked up by key) is a
fixed point of the per-key rewriting, no convertible `--set-xmark` is left, and a surviving `-m` still
differs from the (normalised) protocol.  Decidable. -/
def StableB (q : Pairs) : Bool :=
  (keysA q).all (fun k => match getA k q with | some v => normVal k v == v | none => true) &&
  (xConv q).isNone && !mDrop q

def Stable (q : Pairs) : Prop := StableB q = true

instance (q : Pairs) : Decidable (Stable q) := by unfold Stable; exact inferInstance

theorem stable_iff (q : Pairs) :
    Stable q ↔ (∀ k v, getA k q = some v → normVal k v = v) ∧ xConv q = none ∧ mDrop q = false := by
  unfold Stable StableB
  simp only [Bool.and_eq_true, List.all_eq_true, Option.isNone_iff_eq_none, Bool.not_eq_eq_eq_not, Bool.not_true]
  constructor
  · rintro ⟨⟨h1, h2⟩, h3⟩
    refine ⟨?_, h2, h3⟩
    intro k v hg
    simpa [hg] using h1 k (mem_keysA_of_getA hg)
  · rintro ⟨h1, h2, h3⟩
    refine ⟨⟨?_, h2⟩, h3⟩
    intro k _
    cases hg : getA k q with
    | none => rfl
    | some v => simpa using h1 k v hg

theorem normalize_of_stable (q : Pairs) (h : Stable q) : PairsEq (normalize q) q := by
  intro k
  obtain ⟨hv, hx, hm⟩ := (stable_iff q).mp h
  rw [getA_normalize, hx]
  simp only [hm, Bool.false_eq_true, and_false, ↓reduceIte]
  cases hq : getA k q with
  | none => rfl
  | some v => simp [hv k v hq]

/-- The entry the parser makes of an option (with its one hard coded special case). -/
def pkv (o : OptW) : Str × Str :=
  fixSyn o.key (if o.neg.isNeg then ['!'] else []) (joinWith [' '] o.args)

def pairsOf (l : List OptW) (acc : Pairs) : Pairs := l.foldl (fun acc o => setA (pkv o).1 (pkv o).2 acc) acc

/-- An option the parser reads back as written. -/
def OptOK (o : OptW) : Prop :=
  startsWithDash o.key = true ∧ (∀ a ∈ o.args, isArg a = true) ∧ (o.neg = .after → o.args ≠ [])

def RestOK (rest : List Str) : Prop :=
  rest = [] ∨ (∃ k tl, rest = k :: tl ∧ startsWithDash k = true) ∨
  (∃ k tl, rest = ['!'] :: k :: tl ∧ startsWithDash k = true)

theorem dash_ne_bang {k : Str} (h : startsWithDash k = true) : k ≠ ['!'] := by
  intro e; subst e; simp [startsWithDash] at h

theorem words_restOK (l : List OptW) (h : ∀ o ∈ l, OptOK o) : RestOK (l.flatMap OptW.words) := by
  cases l with
  | nil => left; rfl
  | cons o os =>
    have ho := h o (by simp)
    cases hn : o.neg with
    | no => right; left; exact ⟨o.key, o.args ++ os.flatMap OptW.words, by simp [OptW.words, hn], ho.1⟩
    | before => right; right; exact ⟨o.key, o.args ++ os.flatMap OptW.words, by simp [OptW.words, hn], ho.1⟩
    | after => right; left; exact ⟨o.key, ['!'] :: o.args ++ os.flatMap OptW.words, by simp [OptW.words, hn], ho.1⟩

theorem takeWhile_args (args rest : List Str) (ha : ∀ a ∈ args, isArg a = true) (hr : RestOK rest) :
    (args ++ rest).takeWhile isArg = args ∧ (args ++ rest).dropWhile isArg = rest := by
  rw [List.takeWhile_append_of_pos ha, List.dropWhile_append_of_pos ha]
  rcases hr with rfl | ⟨k, tl, rfl, hk⟩ | ⟨k, tl, rfl, _⟩
  · simp
  · simp [isArg, hk]
  · simp [isArg]

theorem negAfter_none (args rest : List Str) (ha : ∀ a ∈ args, isArg a = true) (hr : RestOK rest) :
    negAfter (args ++ rest) = (false, args ++ rest) := by
  cases args with
  | nil =>
    rcases hr with rfl | ⟨k, tl, rfl, hk⟩ | ⟨k, tl, rfl, hk⟩
    · rfl
    · cases tl <;> simp [negAfter, dash_ne_bang hk]
    · simp [negAfter, hk]
  | cons a as =>
    have h := ha a (by simp)
    simp only [isArg, Bool.and_eq_true, decide_eq_true_eq] at h
    cases hl : as ++ rest <;> simp [negAfter, hl, h.2]

theorem negAfter_some (a : Str) (as rest : List Str) (ha : startsWithDash a = false) :
    negAfter (['!'] :: a :: as ++ rest) = (true, a :: as ++ rest) := by
  simp [negAfter, ha]

theorem readOpt_ok (o : OptW) (rest : List Str) (ho : OptOK o) (hr : RestOK rest) :
    (o.neg = .no → readOpt false o.key (o.args ++ rest) = (pkv o, rest)) ∧
    (o.neg = .before → readOpt true o.key (o.args ++ rest) = (pkv o, rest)) ∧
    (o.neg = .after → readOpt false o.key (['!'] :: (o.args ++ rest)) = (pkv o, rest)) := by
  obtain ⟨_, ha, hafter⟩ := ho
  have htd := takeWhile_args o.args rest ha hr
  have hna := negAfter_none o.args rest ha hr
  refine ⟨?_, ?_, ?_⟩
  · intro hn
    simp [readOpt, hna, htd.1, htd.2, pkv, hn, Neg.isNeg]
  · intro hn
    simp [readOpt, hna, htd.1, htd.2, pkv, hn, Neg.isNeg]
  · intro hn
    obtain ⟨a, as, hargs⟩ := List.exists_cons_of_ne_nil (hafter hn)
    have hap : startsWithDash a = false := by
      have := ha a (by simp [hargs])
      simp only [isArg, Bool.and_eq_true, Bool.not_eq_eq_eq_not, Bool.not_true] at this
      exact this.1
    rw [hargs] at htd ⊢
    have hn2 := negAfter_some a as rest hap
    simp only [List.cons_append] at hn2 htd ⊢
    simp [readOpt, hn2, htd.1, htd.2, pkv, hn, Neg.isNeg, hargs]

theorem parse_step (o : OptW) (rest : List Str) (acc : Pairs) (fuel : Nat) (ho : OptOK o) (hr : RestOK rest) :
    parsePairsAux (fuel + 1) (o.words ++ rest) acc =
      parsePairsAux fuel rest (setA (pkv o).1 (pkv o).2 acc) := by
  have hkb := dash_ne_bang ho.1
  obtain ⟨h1, h2, h3⟩ := readOpt_ok o rest ho hr
  cases hn : o.neg with
  | no => simp only [OptW.words, hn, List.cons_append, parsePairsAux, if_neg hkb, h1 hn]
  | before => simp only [OptW.words, hn, List.cons_append, parsePairsAux, ↓reduceIte, h2 hn]
  | after =>
    simp only [OptW.words, hn, List.cons_append, parsePairsAux, if_neg hkb, h3 hn]

theorem parse_opts : ∀ (l : List OptW) (acc : Pairs) (fuel : Nat), (∀ o ∈ l, OptOK o) →
    (l.flatMap OptW.words).length ≤ fuel →
    parsePairsAux fuel (l.flatMap OptW.words) acc = some (pairsOf l acc) := by
  intro l
  induction l with
  | nil => intro acc fuel _ _; cases fuel <;> simp [parsePairsAux, pairsOf]
  | cons o os ih =>
    intro acc fuel hok hf
    rw [List.forall_mem_cons] at hok
    have hpos : 0 < (o.words).length := by cases hn : o.neg <;> simp [OptW.words, hn]
    simp only [List.flatMap_cons, List.length_append] at hf ⊢
    cases fuel with
    | zero => omega
    | succ fuel =>
      rw [parse_step o _ acc fuel hok.1 (words_restOK os hok.2)]
      rw [ih _ fuel hok.2 (by omega)]
      simp [pairsOf]

theorem parsePairs_words (l : List OptW) (h : ∀ o ∈ l, OptOK o) :
    parsePairs (l.flatMap OptW.words) = some (pairsOf l []) :=
  parse_opts l [] _ h (Nat.le_succ _)

theorem pkv_key_ne_nil (o : OptW) (h : OptOK o) : (pkv o).1 ≠ [] := by
  unfold pkv fixSyn
  split
  · show s "--syn" ≠ []; decide
  · intro e
    simp only at e
    simpa [e, startsWithDash] using h.1

theorem pairsOf_keys (l : List OptW) (acc : Pairs) (k : Str) (h : k ∈ keysA (pairsOf l acc)) :
    k ∈ keysA acc ∨ ∃ o ∈ l, (pkv o).1 = k := by
  induction l generalizing acc with
  | nil => left; exact h
  | cons o os ih =>
    rcases ih _ h with h1 | ⟨o', ho', hk⟩
    · obtain ⟨v, hv⟩ := (mem_keysA_iff k _).mp h1
      rw [getA_setA] at hv
      by_cases he : (pkv o).1 = k
      · right; exact ⟨o, by simp, he⟩
      · left
        rw [if_neg he] at hv
        exact mem_keysA_of_getA hv
    · right; exact ⟨o', by simp [ho'], hk⟩

theorem normalize_pairsOf_NE (l : List OptW) (h : ∀ o ∈ l, OptOK o) : NEPairs (normalize (pairsOf l [])) := by
  intro hm
  rcases keys_normalize _ _ hm with h1 | h1
  · rcases pairsOf_keys l [] [] h1 with h2 | ⟨o, ho, hk⟩
    · simp [keysA] at h2
    · exact pkv_key_ne_nil o (h o ho) hk
  · exact absurd h1 (by decide_lit [s_ofList])

end NA.C05
