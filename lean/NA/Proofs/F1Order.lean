import NA.Spec.AsaDev
import NA.Proofs.F1Frame
/-!
# F1: referenced object-groups are created before the line that uses them (engine-wide invariant)

`Inv`: the script emitted so far creates every group before its first use, contains no removal, and every
target group that is `ready` carries a name that exists on the device at this point of the script.
Every function of the engine up to the access-group commands preserves `Inv`; `deleteUnused` only appends commands
that add no line.
-/
namespace NA.F1
open NA.AsaDev
open NA.Acl (Range)

theorem defAfter_append (D : List Name) (xs ys : List Chg) :
    defAfter D (xs ++ ys) = defAfter (defAfter D xs) ys := by
  simp [defAfter, List.foldl_append]

theorem createdBeforeUse_append (D : List Name) (xs ys : List Chg) :
    createdBeforeUse D (xs ++ ys) = (createdBeforeUse D xs && createdBeforeUse (defAfter D xs) ys) := by
  induction xs generalizing D with
  | nil => simp [createdBeforeUse, defAfter]
  | cons c cs ih => simp [createdBeforeUse, defAfter, ih, Bool.and_assoc]

/-- A command that keeps every existing group. -/
def Mono (c : Chg) : Prop := ∀ D x, x ∈ D → x ∈ defStep D c

/-- A command that neither uses nor creates nor removes a group. -/
def Neutral (c : Chg) : Prop := removesObject c = false ∧ ∀ D, usesDefined D c = true ∧ defStep D c = D

theorem Neutral.mono {c : Chg} (h : Neutral c) : Mono c := fun D x hx => by rw [(h.2 D).2]; exact hx

theorem mono_grp (n : Name) : Mono (.grp n) := by
  intro D x hx
  simp only [defStep]
  split
  · exact hx
  · exact List.mem_cons_of_mem _ hx

theorem mem_defAfter_of_mono {cs : List Chg} (h : ∀ c ∈ cs, Mono c) {D : List Name} {x : Name} (hx : x ∈ D) :
    x ∈ defAfter D cs :=
  foldl_inv (P := (x ∈ ·)) (fun c hc D' hD' => h c hc D' x hD') hx

theorem neutral_mem (m : String) : Neutral (.mem m) := ⟨rfl, fun _ => ⟨rfl, rfl⟩⟩
theorem neutral_noMem (m : String) : Neutral (.noMem m) := ⟨rfl, fun _ => ⟨rfl, rfl⟩⟩
theorem neutral_exit : Neutral .exit := ⟨rfl, fun _ => ⟨rfl, rfl⟩⟩
theorem neutral_noAcl (n : Name) (k : Nat) (l : RLine) : Neutral (.noAcl n k l) := ⟨rfl, fun _ => ⟨rfl, rfl⟩⟩
theorem neutral_bind (b : Bind) : Neutral (.bind b) := ⟨rfl, fun _ => ⟨rfl, rfl⟩⟩
theorem neutral_noBind (b : Bind) : Neutral (.noBind b) := ⟨rfl, fun _ => ⟨rfl, rfl⟩⟩
theorem neutral_route (r : String) : Neutral (.route r) := ⟨rfl, fun _ => ⟨rfl, rfl⟩⟩
theorem neutral_noRoute (r : String) : Neutral (.noRoute r) := ⟨rfl, fun _ => ⟨rfl, rfl⟩⟩
theorem neutral_bad : Neutral .bad := ⟨rfl, fun _ => ⟨rfl, rfl⟩⟩
theorem neutral_join {a b : Chg} (ha : Neutral a) (hb : Neutral b) : Neutral (.join a b) :=
  ⟨by simp [removesObject, ha.1, hb.1], fun D => by
    simp [usesDefined, defStep, (ha.2 D).1, (ha.2 D).2, (hb.2 D).1, (hb.2 D).2]⟩

def nameOf (names : List (Name × Name)) (g : Name) : Name := (names.lookup g).getD g

structure Inv3 (D0 : List Name) (out : List Chg) (ready : List Name) (names : List (Name × Name)) : Prop where
  ord : createdBeforeUse D0 out = true
  mono : ∀ c ∈ out, Mono c
  norem : ∀ c ∈ out, removesObject c = false
  ready : ∀ g ∈ ready, nameOf names g ∈ defAfter D0 out

def Inv (D0 : List Name) (st : St) : Prop := Inv3 D0 st.out st.gReady st.gName

theorem gNameOf_eq (st : St) (g : Name) : st.gNameOf g = nameOf st.gName g := rfl

theorem Inv3.emit {D0 out ready names} (h : Inv3 D0 out ready names) (c : Chg)
    (huse : usesDefined (defAfter D0 out) c = true) (hm : Mono c) (hrem : removesObject c = false) :
    Inv3 D0 (out ++ [c]) ready names := by
  have all : ∀ {P : Chg → Prop}, (∀ c' ∈ out, P c') → P c → ∀ c' ∈ out ++ [c], P c' :=
    fun h1 h2 => List.forall_mem_append.mpr ⟨h1, List.forall_mem_singleton.mpr h2⟩
  refine ⟨?_, all h.mono hm, all h.norem hrem, fun g hg => ?_⟩
  · rw [createdBeforeUse_append, h.ord]; simp [createdBeforeUse, huse]
  · rw [defAfter_append]
    exact hm _ _ (h.ready g hg)

theorem Inv3.emit_neutral {D0 out ready names} (h : Inv3 D0 out ready names) (c : Chg) (hc : Neutral c) :
    Inv3 D0 (out ++ [c]) ready names :=
  h.emit c (hc.2 _).1 hc.mono hc.1

theorem Inv3.append_neutral {D0 out ready names} (h : Inv3 D0 out ready names) (cs : List Chg)
    (hc : ∀ c ∈ cs, Neutral c) : Inv3 D0 (out ++ cs) ready names := by
  induction cs generalizing out with
  | nil => rw [List.append_nil]; exact h
  | cons c cs ih =>
    have h1 := ih (h.emit_neutral c (hc c List.mem_cons_self)) (fun c' h' => hc c' (List.mem_cons_of_mem _ h'))
    rwa [List.append_assoc] at h1

theorem Inv3.emit_grp {D0 out ready names} (h : Inv3 D0 out ready names) (n : Name) (ms : List Chg)
    (hms : ∀ c ∈ ms, Neutral c) :
    Inv3 D0 (out ++ (Chg.grp n :: ms)) ready names ∧ n ∈ defAfter D0 (out ++ (Chg.grp n :: ms)) := by
  have hn : ∀ D, n ∈ defAfter D [Chg.grp n] := by
    intro D
    simp only [defAfter, List.foldl_cons, List.foldl_nil, defStep]
    split
    · rename_i h; simpa using h
    · exact List.mem_cons_self
  have h2 := (h.emit (.grp n) rfl (mono_grp n) rfl).append_neutral ms hms
  have e : out ++ [Chg.grp n] ++ ms = out ++ (Chg.grp n :: ms) := by simp
  rw [e] at h2
  refine ⟨h2, ?_⟩
  rw [← e, defAfter_append, defAfter_append]
  exact mem_defAfter_of_mono (fun c hc => (hms c hc).mono) (hn _)

theorem Inv3.set_name {D0 out ready names} (h : Inv3 D0 out ready names) (bN aN : Name)
    (ha : aN ∈ defAfter D0 out) (ready' : List Name) (hr : ∀ g ∈ ready', g = bN ∨ g ∈ ready) :
    Inv3 D0 out ready' ((bN, aN) :: names) := by
  refine ⟨h.ord, h.mono, h.norem, fun g hg => ?_⟩
  show ((List.lookup g ((bN, aN) :: names)).getD g) ∈ _
  rw [List.lookup_cons]
  split
  · exact ha
  · rename_i hne
    exact h.ready g ((hr g hg).resolve_left (by simpa using hne))

theorem Inv3.ready_mono {D0 out ready names} (h : Inv3 D0 out ready names) (ready' : List Name)
    (hr : ∀ g ∈ ready', g ∈ ready) : Inv3 D0 out ready' names :=
  ⟨h.ord, h.mono, h.norem, fun g hg => h.ready g (hr g hg)⟩

theorem inv_hit {D0 : List Name} {st : St} (h : Inv D0 st) (x : String) : Inv D0 (st.hit x) := h

theorem inv_emit_neutral {D0 : List Name} {st : St} (h : Inv D0 st) (c : Chg) (hc : Neutral c) : Inv D0 (st.emit c) :=
  Inv3.emit_neutral h c hc

theorem inv_of_eq {D0 : List Name} {st st' : St} (h : Inv D0 st) (ho : st'.out = st.out)
    (hr : st'.gReady = st.gReady) (hn : st'.gName = st.gName) : Inv D0 st' := by
  unfold Inv at h ⊢
  rw [ho, hr, hn]; exact h

theorem findGroup_inv (e : Env) {st : St} (h : Inv (e.a.groups.map (·.1)) st) (bN : Name) :
    Inv (e.a.groups.map (·.1)) (findGroup e st bN) := by
  cases findGroup_result e st bN with
  | unchanged he => rw [he]; exact h
  | adopted aN hdev _ _ _ hst =>
    rw [hst]
    exact Inv3.set_name h bN aN (mem_defAfter_of_mono h.mono hdev) _ fun _ hg => List.mem_cons.mp hg

theorem transferGroup_inv (e : Env) {D0 : List Name} {st : St} (h : Inv D0 st) (bN : Name) :
    Inv D0 (transferGroup e st bN) := by
  unfold transferGroup
  by_cases hr : st.gReady.contains bN = true
  · rw [if_pos hr]; exact h
  · rw [if_neg hr]
    obtain ⟨h1, h2⟩ := Inv3.emit_grp h (st.gNameOf bN) ((e.bMembers bN).map Chg.mem)
      (fun c hc => by obtain ⟨m, _, rfl⟩ := List.mem_map.mp hc; exact neutral_mem m)
    exact ⟨h1.ord, h1.mono, h1.norem, List.forall_mem_cons.mpr ⟨h2, h1.ready⟩⟩

theorem setMode_inv {D0 : List Name} {st : St} (h : Inv D0 st) (n : Name) : Inv D0 (setMode st n) := by
  unfold setMode
  by_cases hm : (st.mode == n) = true
  · rw [if_pos hm]; exact h
  · rw [if_neg hm]
    have key : ∀ st' : St, Inv D0 st' → Inv D0 { (st'.emit (.grp n)) with mode := n } := by
      intro st' h'
      exact (Inv3.emit_grp h' n [] (fun _ hc => by simp at hc)).1
    by_cases he : (st.mode != "") = true
    · simp only [he, if_true]
      exact key _ (inv_hit (inv_emit_neutral h _ neutral_exit) _)
    · simp only [he]
      exact key _ h

theorem equalizedGroups_inv (e : Env) {st : St} (h : Inv (e.a.groups.map (·.1)) st) (aN bN : Name)
    (ha : aN ∈ e.a.groups.map (·.1)) : Inv (e.a.groups.map (·.1)) (equalizedGroups e st aN bN).1 := by
  refine equalizedGroups_cases e st aN bN (fun r => Inv (e.a.groups.map (·.1)) r.1) (fun _ _ => h)
    (fun _ _ => inv_hit (findGroup_inv e h bN) _) (fun _ _ _ => inv_hit (findGroup_inv e h bN) _) (fun _ _ => h)
    fun _ _ st2 hst2 hm => ?_
  -- rename, edit, ready
  have h2 : Inv (e.a.groups.map (·.1)) { st with gNeeded := addSet aN st.gNeeded, gName := (bN, aN) :: st.gName } :=
    Inv3.set_name h bN aN (mem_defAfter_of_mono h.mono ha) _ (fun g hg => Or.inr hg)
  have h3 := editMembers_preserves (Inv (e.a.groups.map (·.1))) aN
    (fun _ m hs => inv_emit_neutral (setMode_inv hs aN) _ (neutral_noMem m))
    (fun _ m hs => inv_emit_neutral (setMode_inv hs aN) _ (neutral_mem m))
    (e.aMembers aN) (e.bMembers bN) (lookupD e.sc.grp (aN, bN)) _ h2
  rw [← hst2] at h3
  refine ⟨h3.ord, h3.mono, h3.norem, fun g hg => (mem_addSet.mp hg).elim (fun eg => ?_) (h3.ready g)⟩
  show nameOf st2.gName g ∈ _
  rw [eg, hm.gName]
  simp only [nameOf, List.lookup, beq_self_eq_true, Option.getD_some]
  exact mem_defAfter_of_mono h3.mono ha

/-- The constructor `mk` builds a line command: it uses exactly the groups of the line. -/
def LineCmd (mk : RLine → Chg) : Prop :=
  ∀ r, removesObject (mk r) = false ∧ ∀ D, usesDefined D (mk r) = r.names.all D.contains ∧ defStep D (mk r) = D

theorem lineCmd_acl (n : Name) (k : Option Nat) : LineCmd (Chg.acl n k) := fun _ => ⟨rfl, fun _ => ⟨rfl, rfl⟩⟩
theorem lineCmd_move (n : Name) (dp : Nat) (a : RLine) (ap : Option Nat) :
    LineCmd (fun r => .join (.noAcl n dp a) (.acl n ap r)) :=
  fun _ => ⟨rfl, fun _ => ⟨by simp [usesDefined, defStep], rfl⟩⟩

theorem emitLine_inv (e : Env) {st : St} (h : Inv (D0 e) st) (mk : RLine → Chg) (hmk : LineCmd mk) (l : Line) :
    Inv (D0 e) (emitLine e st mk l) := by
  unfold emitLine
  have h1 : Inv (D0 e) (l.refs.foldl (transferGroup e) st) := foldl_inv (fun g _ _ hs => transferGroup_inv e hs g) h
  have h2 := (transferRefs_ready e l.refs st).1
  refine Inv3.emit h1 _ ?_ (fun D x hx => by rw [((hmk _).2 D).2]; exact hx) (hmk _).1
  rw [((hmk _).2 _).1]
  simp only [resolveB, List.all_map, List.all_eq_true, Function.comp]
  intro g hg
  have := h1.ready g (h2 g hg)
  simpa [gNameOf_eq] using this

theorem markDeletedLines_inv {D : List Name} {st : St} (h : Inv D st) (ls : List Line) : Inv D (markDeletedLines st ls) := h

theorem diffASAACLs_inv (e : Env) (hA : RefsClosedA e) {st : St} (h : Inv (D0 e) st) (aN bN : Name) (rs : List Range) :
    Inv (D0 e) (diffASAACLs e st aN bN rs) :=
  diffASAACLs_preserves e (Inv (D0 e)) (· ∈ D0 e) aN bN rs (aLines_getD_refs e hA aN)
    (fun _ g hs => findGroup_inv e hs g) (fun _ a b ha hs => equalizedGroups_inv e hs a b ha)
    (fun _ x hs => inv_hit hs x) (fun s cells op hs => emitOp_cases e aN _ _ cells s (Inv (D0 e))
      (fun _ _ => inv_hit (emitLine_inv e hs _ (lineCmd_acl _ _) _) _)
      (fun _ _ => inv_hit (markDeletedLines_inv (st := { (s.emit _) with mode := "" })
        (Inv3.emit_neutral hs _ (neutral_noAcl _ _ _)) _) _)
      (fun _ _ _ _ => inv_hit (emitLine_inv e (markDeletedLines_inv hs _) _ (lineCmd_move _ _ _ _) _) _)
      (Inv3.emit_neutral hs _ neutral_bad) (Inv3.emit_neutral hs _ neutral_bad) op) h

theorem diffBinds_inv (e : Env) (hA : RefsClosedA e) {st : St} (h : Inv (D0 e) st) (al : List Nat) (bl : List Bind) :
    Inv (D0 e) (diffBinds e st al bl) :=
  bindsWalk_preserves e (Inv (D0 e)) Neutral neutral_bind neutral_noBind
    (fun _ _ ho _ hr hn hs => inv_of_eq hs ho hr hn)
    (fun _ _ c hc ho _ hr hn hs => inv_of_eq (inv_emit_neutral hs c hc) ho hr hn)
    (fun _ _ l hs => emitLine_inv e hs _ (lineCmd_acl _ _) l)
    (fun _ aN bN rs hs => diffASAACLs_inv e hA hs aN bN rs) h al bl

def TailCmd (c : Chg) : Prop := c = .exit ∨ (∃ b, c = .noBind b) ∨ (∃ n, c = .clearAcl n) ∨ (∃ n, c = .noGrp n)

theorem TailCmd.noLine {c : Chg} (h : TailCmd c) : addsLine c = false := by
  rcases h with h | ⟨_, h⟩ | ⟨_, h⟩ | ⟨_, h⟩ <;> subst h <;> rfl

/-- `c₁` before `c₂` is harmless: not (`no object-group g` before `clear configure access-list n` with `g` used by `n`). -/
def TailRel (e : Env) (c₁ c₂ : Chg) : Prop :=
  ∀ g n, c₁ = .noGrp g → c₂ = .clearAcl n → g ∉ (e.aLines n).flatMap (·.refs)

theorem TailRel.pairwise_map_append {α : Type} (e : Env) (f : α → Chg) (hf : ∀ x g, f x ≠ .noGrp g)
    (l : List α) {cs : List Chg} (h : cs.Pairwise (TailRel e)) : (l.map f ++ cs).Pairwise (TailRel e) := by
  induction l with
  | nil => exact h
  | cons x xs ih => exact List.pairwise_cons.mpr ⟨fun _ _ g _ e1 _ => absurd e1 (hf x g), ih⟩

theorem duRounds_order (e : Env) : ∀ (n : Nat) (st : St) (p : Pending),
    ∃ cs, (duRounds e n st p).out = st.out ++ cs ∧ cs.Pairwise (TailRel e) ∧ (∀ m, Chg.clearAcl m ∈ cs → m ∈ p.acls) ∧
      ∀ c ∈ cs, TailCmd c := by
  intro n
  induction n with
  | zero => intro st p; exact ⟨[], (List.append_nil _).symm, List.Pairwise.nil, (fun _ h => nomatch h), fun _ h => nomatch h⟩
  | succ n ih =>
    intro st p
    unfold duRounds
    split
    · exact ⟨[], (List.append_nil _).symm, List.Pairwise.nil, (fun _ h => nomatch h), fun _ h => nomatch h⟩
    · obtain ⟨ho, hp⟩ := duRound_out e st p
      generalize duRound e st p = q at ho hp
      obtain ⟨st1, p1⟩ := q
      simp only at ho hp ⊢
      obtain ⟨cs, hc, hpw, hm, ht⟩ := ih st1 p1
      have hm' : ∀ m, Chg.clearAcl m ∈ cs → m ∈ p.acls := by
        intro m h
        have := hm m h
        rw [hp] at this
        exact (List.mem_filter.mp this).1
      refine ⟨_, by rw [hc, ho, List.append_assoc, List.append_assoc, List.append_assoc], ?_, ?_, ?_⟩
      · refine TailRel.pairwise_map_append e _ (fun _ _ => Chg.noConfusion) _
          (TailRel.pairwise_map_append e _ (fun _ _ => Chg.noConfusion) _ (List.pairwise_append.mpr ⟨?_, hpw, ?_⟩))
        · exact List.pairwise_map.mpr (List.pairwise_of_forall fun _ _ _ _ _ e2 => Chg.noConfusion e2)
        · -- a group removed in this round is not referenced by an access list cleared later
          intro x hx y hy g m e1 e2 hmem
          subst e1 e2
          obtain ⟨g', hg, h2⟩ := List.mem_map.mp hx
          cases h2
          have := (List.mem_filter.mp hg).2
          simp only [Bool.not_eq_true', List.contains_eq_mem, decide_eq_false_iff_not] at this
          exact this (List.mem_flatMap.mpr ⟨m, hm' m hy, hmem⟩)
      · intro m hmem
        simp only [List.mem_append, List.mem_map] at hmem
        rcases hmem with ⟨_, _, h2⟩ | ⟨i, hi, h2⟩ | ⟨_, _, h2⟩ | h1
        · cases h2
        · cases h2; exact (List.mem_filter.mp hi).1
        · cases h2
        · exact hm' m h1
      · intro c hmem
        simp only [List.mem_append, List.mem_map] at hmem
        rcases hmem with ⟨_, _, rfl⟩ | ⟨_, _, rfl⟩ | ⟨_, _, rfl⟩ | h1
        · exact Or.inr (Or.inl ⟨_, rfl⟩)
        · exact Or.inr (Or.inr (Or.inl ⟨_, rfl⟩))
        · exact Or.inr (Or.inr (Or.inr ⟨_, rfl⟩))
        · exact ht c h1

theorem deleteUnused_tail (e : Env) (st : St) (managed : List Nat) :
    ∃ cs, (deleteUnused e st managed).out = st.out ++ cs ∧ cs.Pairwise (TailRel e) ∧ ∀ c ∈ cs, TailCmd c := by
  refine deleteUnused_cases e st managed
    (fun r => ∃ cs, r.out = st.out ++ cs ∧ cs.Pairwise (TailRel e) ∧ ∀ c ∈ cs, TailCmd c)
    fun st1 p n ho _ => ⟨?_, fun _ => ?_, fun _ => ?_⟩
  · exact ⟨[], by rw [ho, List.append_nil], List.Pairwise.nil, fun _ h => nomatch h⟩
  · obtain ⟨cs, hc, hp, _, ht⟩ := duRounds_order e n ((st1.emit .exit).hit "du:exit") p
    refine ⟨Chg.exit :: cs, ?_, List.pairwise_cons.mpr ⟨fun _ _ _ _ e1 _ => Chg.noConfusion e1, hp⟩,
      List.forall_mem_cons.mpr ⟨Or.inl rfl, ht⟩⟩
    rw [hc]; show (st1.out ++ [Chg.exit]) ++ cs = _; rw [ho, List.append_assoc]; rfl
  · obtain ⟨cs, hc, hp, _, ht⟩ := duRounds_order e n st1 p
    exact ⟨cs, by rw [hc, ho], hp, ht⟩

theorem deleteUnused_order (e : Env) (st : St) (managed : List Nat) :
    ∃ cs, (deleteUnused e st managed).out = st.out ++ cs ∧ cs.Pairwise (TailRel e) :=
  let ⟨cs, h1, h2, _⟩ := deleteUnused_tail e st managed
  ⟨cs, h1, h2⟩

theorem tail_uses (D : List Name) : ∀ (cs : List Chg), (∀ c ∈ cs, TailCmd c) → createdBeforeUse D cs = true := by
  intro cs
  induction cs generalizing D with
  | nil => intro _; rfl
  | cons c cs ih =>
    intro h
    have hc := h c List.mem_cons_self
    have : usesDefined D c = true := by
      rcases hc with h | ⟨_, h⟩ | ⟨_, h⟩ | ⟨_, h⟩ <;> subst h <;> rfl
    simp only [createdBeforeUse, this, Bool.true_and]
    exact ih _ (fun c' h' => h c' (List.mem_cons_of_mem _ h'))

end NA.F1
