import NA.Proofs.C05Routes
import NA.Proofs.C05Restore
/-!
C05 / C10: an interrupted approve.  The Linux approve (`ApplyCommands`, modelled here: `planSteps`, `stepDev`) as a list of steps — the single `ip route` commands, then (if the
rule sets differ) copy of the restore file, its load (atomic: `iptables-restore` either happened or not) and the move to
the start-up file, then (if routes changed) the copy of the start-up routing file — for ANY route script that runs: cut at
any position (`approve_prefix`) and undisturbed (`approve_full`).
-/
namespace NA.C05
open NA.Linux NA.Linux.Spec

theorem execLine_nodup {t t' : RTable} {cmds : List RCmd} (h : execLine t cmds = some t') (hn : t.Nodup) : t'.Nodup := by
  induction cmds generalizing t with
  | nil => exact Option.some.inj h ▸ hn
  | cons c cs ih =>
    simp only [execLine] at h
    cases hs : stepCmd t c with
    | none => simp [hs] at h
    | some t1 => exact ih (by simpa [hs] using h) (stepCmd_nodup hs hn)

/-- What runs in front of a run that succeeds has succeeded, and has kept the table a set. -/
theorem execLine_prefix {t t' : RTable} {a b : List RCmd} (h : execLine t (a ++ b) = some t') (hn : t.Nodup) :
    ∃ u, execLine t a = some u ∧ u.Nodup := by
  rw [execLine_append] at h
  cases hu : execLine t a with
  | none => rw [hu] at h; cases h
  | some u => exact ⟨u, rfl, execLine_nodup hu hn⟩

theorem execLine_take (t t' : RTable) (cmds : List RCmd) (h : execLine t cmds = some t') (hn : t.Nodup) (k : Nat) :
    ∃ u, execLine t (cmds.take k) = some u ∧ u.Nodup :=
  execLine_prefix (b := cmds.drop k) (by rwa [List.take_append_drop]) hn

theorem execScript_take (T t : RTable) (l : List (List RCmd)) (h : execScript T l = some t) (hn : T.Nodup) (k : Nat) :
    ∃ u, execScript T (l.take k) = some u ∧ u.Nodup := by
  rw [execScript_flatten] at h ⊢
  exact execLine_prefix (b := (l.drop k).flatten) (by rwa [← List.flatten_append, List.take_append_drop]) hn

/-- The Linux host: running routes, running rule sets, and whether the two start-up files hold the target. -/
structure LDev where
  routes : RTable
  ipt : KState
  bootIpt : Bool
  bootRt : Bool

inductive AStep
  | rcmd (c : RCmd)     -- one `ip route add|del`
  | copyIpt             -- scp of packet-filter.new
  | load                -- packet-filter.new executed: iptables-restore
  | mvIpt               -- mv packet-filter.new packet-filter
  | copyRt              -- scp of the start-up routing file
  deriving DecidableEq

/-- One step on the host; `file` is the restore file of the target. -/
def stepDev (file : List RLn) (d : LDev) : AStep → Option LDev
  | .rcmd c => (stepCmd d.routes c).map fun t => { d with routes := t }
  | .copyIpt => some d
  | .load => (restore d.ipt file).map fun st => { d with ipt := st }
  | .mvIpt => some { d with bootIpt := true }
  | .copyRt => some { d with bootRt := true }

def runSteps (file : List RLn) : LDev → List AStep → Option LDev
  | d, [] => some d
  | d, x :: xs => match stepDev file d x with
    | some d' => runSteps file d' xs
    | none => none

/-- `ApplyCommands`: routes, then iptables (only if a difference was found), then the routing file
(only if there were route commands). -/
def planSteps (routeScript : List (List RCmd)) (iptChange : Bool) : List AStep :=
  routeScript.flatten.map AStep.rcmd ++
  (if iptChange then [AStep.copyIpt, AStep.load, AStep.mvIpt] else []) ++
  (if routeScript.isEmpty then [] else [AStep.copyRt])

theorem runSteps_append (file : List RLn) (d : LDev) (a b : List AStep) :
    runSteps file d (a ++ b) = (runSteps file d a).bind fun d' => runSteps file d' b := by
  induction a generalizing d with
  | nil => rfl
  | cons x xs ih =>
    simp only [List.cons_append, runSteps]
    cases stepDev file d x with
    | none => rfl
    | some d' => exact ih d'

theorem runSteps_rcmds (file : List RLn) (d : LDev) (cmds : List RCmd) :
    runSteps file d (cmds.map AStep.rcmd) = (execLine d.routes cmds).map fun t => { d with routes := t } := by
  induction cmds generalizing d with
  | nil => rfl
  | cons c cs ih =>
    simp only [List.map_cons, runSteps, stepDev, execLine]
    cases stepCmd d.routes c with
    | none => rfl
    | some t => simp only [Option.map_some]; rw [ih]

/-- The steps behind the route commands never fail, whatever prefix of them is executed; the rule
sets are then either untouched or exactly what `iptables-restore` makes of some state with the file. -/
theorem tail_steps (file : List RLn) (hfile : ∀ st, ∃ st', restore st file = some st') (d : LDev)
    (tail : List AStep) (htail : ∀ x ∈ tail, ∀ c, x ≠ AStep.rcmd c) :
    ∃ d', runSteps file d tail = some d' ∧ d'.routes = d.routes ∧
      (d'.ipt = d.ipt ∨ ∃ u, restore u file = some d'.ipt) := by
  induction tail generalizing d with
  | nil => exact ⟨d, rfl, rfl, Or.inl rfl⟩
  | cons x xs ih =>
    obtain ⟨hx, hxs⟩ := List.forall_mem_cons.1 htail
    cases x with
    | rcmd c => exact absurd rfl (hx c)
    | copyIpt => exact ih d hxs
    | mvIpt => exact ih { d with bootIpt := true } hxs
    | copyRt => exact ih { d with bootRt := true } hxs
    | load =>
      obtain ⟨st', hr⟩ := hfile d.ipt
      obtain ⟨d', h1, h2, h3⟩ := ih { d with ipt := st' } hxs
      refine ⟨d', by simp only [runSteps, stepDev, hr, Option.map_some]; exact h1, h2, ?_⟩
      rcases h3 with h3 | h3
      · right; exact ⟨d.ipt, by rw [h3]; exact hr⟩
      · right; exact h3

def tailOf (iptChange noRoutes : Bool) : List AStep :=
  (if iptChange then [AStep.copyIpt, AStep.load, AStep.mvIpt] else []) ++ (if noRoutes then [] else [AStep.copyRt])

theorem tailOf_nocmd (c e : Bool) : ∀ x ∈ tailOf c e, ∀ r, x ≠ AStep.rcmd r := by
  intro x hx r
  cases c <;> cases e <;> simp [tailOf] at hx <;> (try rcases hx with h | h | h | h) <;> simp_all

/-- The complete tail: the rule sets are loaded iff the compare found a difference. -/
theorem tail_full (file : List RLn) (hfile : ∀ st, ∃ st', restore st file = some st') (d : LDev) (c e : Bool) :
    ∃ d', runSteps file d (tailOf c e) = some d' ∧ d'.routes = d.routes ∧
      (c = true → restore d.ipt file = some d'.ipt ∧ d'.bootIpt = true) ∧ (c = false → d'.ipt = d.ipt) := by
  obtain ⟨st', hr⟩ := hfile d.ipt
  cases c <;> cases e <;> simp [tailOf, runSteps, stepDev, hr]

theorem planSteps_eq (script : List (List RCmd)) (c : Bool) :
    planSteps script c = script.flatten.map AStep.rcmd ++ tailOf c script.isEmpty := by
  simp [planSteps, tailOf, List.append_assoc]

/-- **A whole approve whose route script runs**: no step fails, the routes are what the script leaves, and the target's file is
loaded iff the compare found a difference. -/
theorem approve_full (file : List RLn) (hfile : ∀ st, ∃ st', restore st file = some st') (d : LDev)
    (sc : List (List RCmd)) (t : RTable) (h : execScript d.routes sc = some t) (c : Bool) :
    ∃ d2, runSteps file d (planSteps sc c) = some d2 ∧ d2.routes = t ∧
      (c = true → restore d.ipt file = some d2.ipt ∧ d2.bootIpt = true) ∧ (c = false → d2.ipt = d.ipt) := by
  rw [execScript_flatten] at h
  obtain ⟨d2, hF, hFr, hFc, hFn⟩ := tail_full file hfile { d with routes := t } c sc.isEmpty
  exact ⟨d2, by rw [planSteps_eq, runSteps_append, runSteps_rcmds, h]; exact hF, hFr, hFc, hFn⟩

/-- **Such an approve cut behind any number `k` of its steps** (inside a joined route packet, before or behind the load, between
the two start-up copies): the route table is still a set, the rule sets are untouched or exactly loaded. -/
theorem approve_prefix (file : List RLn) (hfile : ∀ st, ∃ st', restore st file = some st') (d : LDev) (hn : d.routes.Nodup)
    (sc : List (List RCmd)) (t : RTable) (h : execScript d.routes sc = some t) (c : Bool) (k : Nat) :
    ∃ d1, runSteps file d ((planSteps sc c).take k) = some d1 ∧ d1.routes.Nodup ∧
      (d1.ipt = d.ipt ∨ ∃ u, restore u file = some d1.ipt) := by
  rw [execScript_flatten] at h
  rw [planSteps_eq, List.take_append]
  -- the route part of the prefix, then the rest
  obtain ⟨u, hu, hun⟩ := execLine_take d.routes t _ h hn k
  obtain ⟨d1, hT, hTr, hTi⟩ := tail_steps file hfile { d with routes := u }
    ((tailOf c sc.isEmpty).take (k - (sc.flatten.map AStep.rcmd).length))
    (fun x hx => tailOf_nocmd _ _ x (List.mem_of_mem_take hx))
  exact ⟨d1, by rw [runSteps_append, ← List.map_take, runSteps_rcmds, hu]; exact hT, hTr ▸ hun, hTi⟩

end NA.C05
