import NA.Proofs.F1Dev
import NA.Proofs.F1Lines
/-!
# F1: executing access-list line commands on the strict device — refinement of `NA.Acl.asaExec1`
-/
namespace NA.F1
open NA.AsaDev
open NA.Acl (Range)

theorem linesOf_setAcl_self (d : Dev) (n : Name) (ls : List RLine) (md : Option Name) :
    linesOf { d with acls := setAssoc d.acls n ls, mode := md } n = ls := by
  simp [linesOf, lookup_setAssoc_self]

theorem linesOf_setAcl_ne (d : Dev) (n n' : Name) (ls : List RLine) (md : Option Name) (h : n' ≠ n) :
    linesOf { d with acls := setAssoc d.acls n ls, mode := md } n' = linesOf d n' := by
  simp [linesOf, lookup_setAssoc_ne _ _ _ _ h]

theorem linesOf_ofConfig (a : Config) (n : Name) : linesOf (ofConfig a) n = (lookupD a.acls n).map resolveA := by
  unfold linesOf ofConfig lookupD
  induction a.acls with
  | nil => rfl
  | cons p ps ih =>
    obtain ⟨k, v⟩ := p
    simp only [List.map_cons, List.lookup]
    cases (n == k)
    · exact ih
    · rfl

theorem aclKeys_ofConfig (a : Config) : (ofConfig a).acls.map (·.1) = a.acls.map (·.1) := by
  simp [ofConfig, List.map_map, Function.comp_def]

theorem hasAcl_setAcl (d : Dev) (X n : Name) (ls : List RLine) (md : Option Name) :
    hasAcl { d with acls := setAssoc d.acls X ls, mode := md } n = (X == n || hasAcl d n) := by
  simp [hasAcl, anyKey_setAssoc]

theorem hasAcl_iff_keys (d : Dev) (n : Name) : hasAcl d n = true ↔ n ∈ d.acls.map (·.1) := by
  simp only [hasAcl, List.any_eq_true, List.mem_map, beq_iff_eq]

theorem hasAcl_congr_keys {d d' : Dev} (h : d'.acls.map (·.1) = d.acls.map (·.1)) (n : Name) : hasAcl d' n = hasAcl d n := by
  rw [Bool.eq_iff_iff, hasAcl_iff_keys, hasAcl_iff_keys, h]

/-- Appending one line to access list `X` (created if it does not exist). -/
theorem exec1_aclAppend (d : Dev) (X : Name) (r : RLine) (hg : ∀ g ∈ r.names, hasGroup d g = true)
    (hdup : (linesOf d X).any (fun x => x.mkey == r.mkey) = false) :
    exec1 d (.acl X none r) = .ok { d with acls := setAssoc d.acls X (linesOf d X ++ [r]), mode := none } := by
  have h1 : r.names.all (hasGroup d) = true := List.all_eq_true.mpr hg
  simp [exec1, h1, hdup]

/-- `d'` differs from `d` at most in the lines of access list `n`; the key list is the same, so `n` existed before. -/
structure OnlyAcl (d d' : Dev) (n : Name) : Prop where
  others : ∀ n', n' ≠ n → linesOf d' n' = linesOf d n'
  groups : d'.groups = d.groups
  binds : d'.binds = d.binds
  routes : d'.routes = d.routes
  intfs : d'.intfs = d.intfs
  mode : d'.mode = none
  keys : d'.acls.map (·.1) = d.acls.map (·.1)

theorem hasAcl_of_lines {d : Dev} {n : Name} (h : linesOf d n ≠ []) : hasAcl d n = true := by
  unfold linesOf at h
  cases hl : d.acls.lookup n with
  | none => rw [hl] at h; exact absurd rfl h
  | some ls =>
    have := mem_of_lookup hl
    unfold hasAcl
    exact List.any_eq_true.mpr ⟨_, this, by simp⟩

theorem exec1_acl_ok (d : Dev) (n : Name) (p : Nat) (l : RLine)
    (hg : ∀ g ∈ l.names, hasGroup d g = true)
    (hdup : (linesOf d n).any (fun x => x.mkey == l.mkey) = false) (hp : p ≤ (linesOf d n).length) :
    exec1 d (.acl n (some (p + 1)) l) =
      .ok { d with acls := setAssoc d.acls n ((linesOf d n).insertIdx p l), mode := none } := by
  have h1 : l.names.all (hasGroup d) = true := List.all_eq_true.mpr hg
  simp only [exec1, h1, hdup, Bool.not_true, Bool.false_eq_true, if_false]
  simp [hp]

theorem exec1_noAcl_ok (d : Dev) (n : Name) (p : Nat) (l : RLine)
    (hl : (linesOf d n)[p]? = some l) (hne : ((linesOf d n).eraseIdx p) ≠ []) :
    exec1 d (.noAcl n (p + 1) l) =
      .ok { d with acls := setAssoc d.acls n ((linesOf d n).eraseIdx p), mode := none } := by
  have h2 : ((linesOf d n).eraseIdx p).isEmpty = false := by
    cases h : (linesOf d n).eraseIdx p with
    | nil => exact absurd h hne
    | cons _ _ => rfl
  simp [exec1, hl, h2]

/-- Refinement of one line operation: `S` is the abstract line list, `dec` its decoding to printed lines. -/
theorem refine_add (d : Dev) (n : Name) (S : List NA.Acl.Line) (dec : NA.Acl.Line → RLine) (p : Nat) (l : NA.Acl.Line)
    (S' : List NA.Acl.Line) (hS : linesOf d n = S.map dec) (hSne : S ≠ [])
    (hx : NA.Acl.asaExec1 S (.add p l) = some S')
    (hg : ∀ g ∈ (dec l).names, hasGroup d g = true)
    (hcode : ∀ x ∈ S, ((dec x).mkey == (dec l).mkey) = (x.mkey == l.mkey)) :
    ∃ d', exec1 d (.acl n (some (p + 1)) (dec l)) = .ok d' ∧ linesOf d' n = S'.map dec ∧ OnlyAcl d d' n := by
  simp only [NA.Acl.asaExec1] at hx
  split at hx
  · rename_i hc
    simp only [Bool.and_eq_true, decide_eq_true_eq, Bool.not_eq_true'] at hc
    simp only [Option.some.injEq] at hx
    have hdup : (linesOf d n).any (fun x => x.mkey == (dec l).mkey) = false := by
      rw [hS, List.any_map]
      rw [← hc.2]
      have : ∀ (T : List NA.Acl.Line), (∀ x ∈ T, x ∈ S) →
          T.any ((fun x => x.mkey == (dec l).mkey) ∘ dec) = T.any (fun x => x.mkey == l.mkey) := by
        intro T
        induction T with
        | nil => intro _; rfl
        | cons t ts ih =>
          intro hT
          simp only [List.any_cons, Function.comp]
          rw [hcode t (hT t List.mem_cons_self), ih (fun x hx => hT x (List.mem_cons_of_mem _ hx))]
      exact this S (fun _ h => h)
    have hex : hasAcl d n = true := hasAcl_of_lines (by rw [hS]; intro h; exact hSne (List.map_eq_nil_iff.mp h))
    refine ⟨_, exec1_acl_ok d n p (dec l) hg hdup (by rw [hS]; simpa using hc.1), ?_, ?_⟩
    · rw [linesOf_setAcl_self, hS, ← hx, map_insertIdx]
    · exact ⟨fun n' h' => linesOf_setAcl_ne d n n' _ _ h', rfl, rfl, rfl, rfl, rfl, keys_setAssoc_existing _ _ _ hex⟩
  · exact absurd hx (by simp)

theorem refine_del (d : Dev) (n : Name) (S : List NA.Acl.Line) (dec : NA.Acl.Line → RLine) (p : Nat) (l : NA.Acl.Line)
    (S' : List NA.Acl.Line) (hS : linesOf d n = S.map dec)
    (hx : NA.Acl.asaExec1 S (.del p l) = some S') (hne : S' ≠ []) :
    ∃ d', exec1 d (.noAcl n (p + 1) (dec l)) = .ok d' ∧ linesOf d' n = S'.map dec ∧ OnlyAcl d d' n := by
  simp only [NA.Acl.asaExec1] at hx
  split at hx
  · rename_i hc
    simp only [Option.some.injEq] at hx
    have hl : (linesOf d n)[p]? = some (dec l) := by
      rw [hS, List.getElem?_map]
      have : S[p]? = some l := by simpa using hc
      rw [this]; rfl
    have hne' : (linesOf d n).eraseIdx p ≠ [] := by
      rw [hS, ← map_eraseIdx, hx]
      intro h; exact hne (List.map_eq_nil_iff.mp h)
    have hex : hasAcl d n = true := hasAcl_of_lines fun hh => by rw [hh] at hl; simp at hl
    refine ⟨_, exec1_noAcl_ok d n p (dec l) hl hne', ?_, ?_⟩
    · rw [linesOf_setAcl_self, hS, ← map_eraseIdx, hx]
    · exact ⟨fun n' h' => linesOf_setAcl_ne d n n' _ _ h', rfl, rfl, rfl, rfl, rfl, keys_setAssoc_existing _ _ _ hex⟩
  · exact absurd hx (by simp)

theorem OnlyAcl.trans {d1 d2 d3 : Dev} {n : Name} (o1 : OnlyAcl d1 d2 n) (o2 : OnlyAcl d2 d3 n) : OnlyAcl d1 d3 n :=
  ⟨fun n' h' => (o2.others n' h').trans (o1.others n' h'), o2.groups.trans o1.groups,
    o2.binds.trans o1.binds, o2.routes.trans o1.routes, o2.intfs.trans o1.intfs, o2.mode, o2.keys.trans o1.keys⟩

end NA.F1
