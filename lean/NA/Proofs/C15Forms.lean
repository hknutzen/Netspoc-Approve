import NA.Proofs.C15Check
/-!
# C15: the answers of the scripted device, form by form

`reply_anatomy`: for every `Form` of `NA/Spec/IosDev.lean` where the first prompt of the answer is, what follows it, and
that `stripReloadBanner` turns the text in front of it into the banner-free answer, up to empty lines in the output.  At a
`probing` placement `stripReloadBanner` reads the expect buffer beyond the current
answer (`WaitShort("[#] ?$")`, `TryPrompt`), so the buffer has to end with the answer there; in a joined line the
answer to the second half is already in the buffer, which is why `cmd_two` (`C15Run`) excludes these placements on the
first half (F-C15b).
-/
namespace NA.Ios

variable {σ : Type}

/-- a change command line: no line feed, BEL or `#`, does not end in a blank, does not contain the
device name -/
structure CleanCmd (c : Str) : Prop where
  noNL : '\n' ∉ c
  noBell : '\x07' ∉ c
  noHash : '#' ∉ c
  lastNS : ∃ p x, c = p ++ [x] ∧ isUniSpace x = false
  noName : ∀ n, routerName.isPrefixOf (c.drop n) = false

/-- output of a command: whole lines, no BEL, no line starting with the device name -/
structure CleanOut (o : Str) : Prop where
  noBell : '\x07' ∉ o
  endsNL : o = [] ∨ ∃ o', o = o' ++ ['\n']
  noName : noPH ('\n' :: o) = true

structure CleanMsg (m : Str) : Prop where
  ne : m ≠ []
  noNL : '\n' ∉ m

theorem blank_append (a b : Str) : blank (a ++ b) = (blank a && blank b) := by
  simp [blank, List.all_append]

theorem blank_nls (n : Nat) : blank (nls n) = true := by
  simp [blank, nls, isUniSpace]

theorem CleanCmd.ne {c : Str} (h : CleanCmd c) : c ≠ [] := by
  obtain ⟨p, x, hc, _⟩ := h.lastNS; rw [hc]; simp

theorem CleanCmd.not_blank {c : Str} (h : CleanCmd c) : blank c = false := by
  obtain ⟨p, x, hc, hx⟩ := h.lastNS
  rw [hc, blank_append]; simp [blank, hx]

theorem CleanCmd.blank_drop {c : Str} (h : CleanCmd c) (off : Nat) (hb : blank (c.drop off) = true) :
    c.length ≤ off := by
  obtain ⟨p, x, hcx, hx⟩ := h.lastNS
  by_cases hlt : off < c.length
  · have hmem : x ∈ c.drop off := by
      have hlen : c.length = p.length + 1 := by rw [hcx]; simp
      rw [hcx, List.drop_append_of_le_length (by omega)]; simp
    simp only [blank, List.all_eq_true] at hb
    exact absurd (hx.symm.trans (hb x hmem)) Bool.false_ne_true
  · omega

theorem CleanCmd.noPH {c : Str} (h : CleanCmd c) : noPH c = true := noPH_of_no_nl c h.noNL

theorem runNoHash_of_no_hash (c w : Str) (hc : '#' ∉ c) : runNoHash (c ++ '\n' :: w) = true := by
  induction c with
  | nil => simp [runNoHash, isReSpace]
  | cons x c ih =>
    have hx : x ≠ '#' := fun e => hc (by simp [e])
    simp [runNoHash, hx, ih (fun e => hc (by simp [e]))]

theorem CleanCmd.runNoHash_append {c : Str} (h : CleanCmd c) (w : Str) :
    runNoHash (c ++ '\n' :: w) = true :=
  runNoHash_of_no_hash c w h.noHash

theorem echo_out_endsNL (ci out : Str) (ho : CleanOut out) : ∃ u, ci ++ '\n' :: out = u ++ ['\n'] := by
  rcases ho.endsNL with rfl | ⟨o', rfl⟩
  · exact ⟨ci, rfl⟩
  · exact ⟨ci ++ '\n' :: o', by simp⟩

theorem noPH_line_out (p out : Str) (hp : '\n' ∉ p) (ho : CleanOut out) : noPH (p ++ '\n' :: out) = true := by
  have h := ho.noName
  rw [noPH] at h
  simp only [bne_self_eq_false, Bool.false_or, Bool.and_eq_true, Bool.not_eq_true'] at h
  rw [noPH_append_nl, noPH_of_no_nl p hp, h.1, h.2]; rfl

theorem bell_not_mem_echo_out (ci out : Str) (hc : CleanCmd ci) (ho : CleanOut out) : '\x07' ∉ ci ++ '\n' :: out := by
  intro h
  rcases List.mem_append.1 h with h | h
  · exact hc.noBell h
  · rcases List.mem_cons.1 h with h | h
    · cases h
    · exact ho.noBell h

theorem noPH_drop_last (u : Str) (h : noPH (u ++ ['\n']) = true) : noPH u = true := by
  rw [noPH_append_nl] at h
  simp only [Bool.and_eq_true] at h
  exact h.1.1

theorem echo_out_body (ci out u : Str) (hc : CleanCmd ci) (ho : CleanOut out) (hu : ci ++ '\n' :: out = u ++ ['\n']) :
    noPH u = true ∧ '\x07' ∉ u :=
  ⟨noPH_drop_last u (by rw [← hu]; exact noPH_line_out ci out hc.noNL ho),
    fun h => bell_not_mem_echo_out ci out hc ho (by rw [hu]; exact List.mem_append_left _ h)⟩

theorem prompt_eq : prompt = routerName ++ ['#'] := by decide +kernel

theorem bannerText_pieces (msg b : Str) :
    bannerText msg ++ b =
      '\n' :: ([] ++ '\n' :: ([] ++ '\n' :: (lit "\x07***" ++ '\n' ::
        ((lit "***" ++ msg) ++ '\n' :: (lit "***" ++ '\n' :: b))))) := by
  have e1 : lit "\n\n\n\x07***\n***" = '\n' :: '\n' :: '\n' :: (lit "\x07***" ++ '\n' :: lit "***") := by decide +kernel
  have e2 : lit "\n***\n" = '\n' :: (lit "***" ++ ['\n']) := by decide +kernel
  unfold bannerText
  rw [e1, e2]
  simp

theorem router_not_prefix_nl (w : Str) : routerName.isPrefixOf ('\n' :: w) = false := by
  simp [routerName, lit, List.isPrefixOf]

theorem noPH_banner (a b msg : Str) (hm : '\n' ∉ msg) :
    noPH (a ++ bannerText msg ++ b) = (noPH a && !routerName.isPrefixOf b && noPH b) := by
  have hstar : ∀ w, routerName.isPrefixOf (lit "***" ++ w) = false := by
    intro w; simp [routerName, lit, List.isPrefixOf]
  have hbell : ∀ w, routerName.isPrefixOf (lit "\x07***" ++ w) = false := by
    intro w; simp [routerName, lit, List.isPrefixOf]
  have hm' : noPH (lit "***" ++ msg) = true := noPH_of_no_nl _ (by
    intro h; rcases List.mem_append.1 h with h | h
    · revert h; decide +kernel
    · exact hm h)
  have h3 : noPH (lit "***") = true := by decide +kernel
  have h4 : noPH (lit "\x07***") = true := by decide +kernel
  rw [List.append_assoc, bannerText_pieces]
  rw [noPH_append_nl, noPH_append_nl, noPH_append_nl, noPH_append_nl, noPH_append_nl, noPH_append_nl]
  simp only [List.nil_append, router_not_prefix_nl, hbell, hstar, hm', h3, h4, List.append_assoc]
  simp [noPH, Bool.and_assoc]

theorem noPH_banner_end (a msg : Str) (hm : '\n' ∉ msg) : noPH (a ++ bannerText msg) = noPH a := by
  have := noPH_banner a [] msg hm
  rwa [List.append_nil, show routerName.isPrefixOf [] = false by decide +kernel, show noPH [] = true from rfl,
    Bool.not_false, Bool.and_true, Bool.and_true] at this

theorem nls_zero : nls 0 = [] := rfl
theorem nls_succ (n : Nat) : nls (n + 1) = '\n' :: nls n := by simp [nls, List.replicate_succ]
theorem nls_add (a b : Nat) : nls a ++ nls b = nls (a + b) := by
  simp [nls, List.replicate_append_replicate]

theorem bell_not_mem_nls (n : Nat) : '\x07' ∉ nls n := by
  simp [nls]

theorem router_not_prefix_nls (n : Nat) : routerName.isPrefixOf (nls n) = false := by
  cases n with
  | zero => decide +kernel
  | succ n => rw [nls_succ]; exact router_not_prefix_nl _

theorem noPH_nls_only (n : Nat) : noPH (nls n) = true := by
  induction n with
  | zero => rfl
  | succ n ih => rw [nls_succ, noPH, ih, router_not_prefix_nls]; rfl

theorem noPH_nls (n : Nat) (w : Str) : noPH (nls n ++ '\n' :: w) = (!routerName.isPrefixOf w && noPH w) := by
  rw [show nls n ++ '\n' :: w = nls (n + 1) ++ w by rw [← nls_add n 1]; simp [nls_succ, nls_zero]]
  induction n with
  | zero => simp [nls_succ, nls_zero, noPH]
  | succ n ih =>
    rw [nls_succ, List.cons_append, noPH, ih, nls_succ, List.cons_append, router_not_prefix_nl]; simp

theorem noPH_append_nls (u : Str) (n : Nat) : noPH (u ++ nls n) = noPH u := by
  cases n with
  | zero => simp [nls_zero]
  | succ n => rw [nls_succ, noPH_append_nl, router_not_prefix_nls, noPH_nls_only]; simp

theorem dropLastNL_snoc (u : Str) : dropLastNL (u ++ ['\n']) = u := by
  simp [dropLastNL]

theorem noPH_banner_inside (ci out msg : Str) (off : Nat) (hc : CleanCmd ci) (ho : CleanOut out) (hm : CleanMsg msg) :
    noPH (ci.take off ++ bannerText msg ++ (ci.drop off ++ '\n' :: out)) = true := by
  rw [noPH_banner _ _ _ hm.noNL]
  have h1 : noPH (ci.take off) = true := noPH_of_no_nl _ (fun e => hc.noNL (List.mem_of_mem_take e))
  have h2 : routerName.isPrefixOf (ci.drop off ++ '\n' :: out) = false := by
    rw [isPrefixOf_append_of_not_mem _ _ _ _ (by decide +kernel)]; exact hc.noName off
  simp [h1, h2, noPH_line_out _ out (fun e => hc.noNL (List.mem_of_mem_drop e)) ho]

theorem bannerText_snoc (msg : Str) : bannerText msg = (bannerHead ++ msg ++ lit "\n***") ++ ['\n'] := by
  have : bannerTail = lit "\n***" ++ ['\n'] := by decide +kernel
  rw [bannerText_eq, this]; simp

/-- the placement makes `stripReloadBanner` look for another prompt behind the answer (`afterPrompt` brings its own) -/
def probing (ci : Str) (b : Behav) : Bool :=
  match b.form with
  | .before _ => true
  | .after => true
  | .afterLine _ _ => true
  | .inside off => decide (ci.length ≤ off) && blank b.out
  | _ => false

/-- the flag `check` hands to `cmd` -/
def needOf (b : Behav) : Bool :=
  match b.form with
  | .none => false
  | _ => oneMinute b.msg

structure CleanBehav (b : Behav) : Prop where
  out : CleanOut b.out
  msg : b.form ≠ .none → CleanMsg b.msg

/-- what follows the first prompt of an answer -/
def replyTail (ci : Str) (b : Behav) (rest : Str) : Str :=
  match b.form with
  | .none => rest
  | .before _ => ci ++ '\n' :: b.out ++ prompt ++ rest
  | .inside _ => rest
  | .afterPrompt _ => '\n' :: prompt ++ rest
  | .after => rest
  | .afterLine _ _ => rest

theorem runNoHash_replyTail (ci : Str) (b : Behav) (rest : Str) (hc : CleanCmd ci) (hr : runNoHash rest = true) :
    runNoHash (replyTail ci b rest) = true := by
  unfold replyTail
  cases b.form with
  | before pad => have := hc.runNoHash_append (b.out ++ prompt ++ rest); simpa using this
  | afterPrompt pad => simp [runNoHash, isReSpace]
  | _ => exact hr

theorem prompt_after (u x : Str) : u ++ promptHead ++ '#' :: x = u ++ ['\n'] ++ prompt ++ x := by
  rw [prompt_eq, promptHead_eq]; simp

theorem echo_out_nls (ci out u0 : Str) (k : Nat) (ho : CleanOut out) (hu0 : ci ++ '\n' :: out = u0 ++ ['\n']) :
    ∃ R, u0 ++ nls (k + 1) = ci ++ '\n' :: R ∧ neLines R = neLines out := by
  rcases ho.endsNL with rfl | ⟨o', rfl⟩
  · have hci : u0 = ci := (List.append_cancel_right (hu0 : ci ++ ['\n'] = u0 ++ ['\n'])).symm
    exact ⟨nls k, by rw [hci, nls_succ], by rw [neLines_nls]; rfl⟩
  · have hu' : u0 = ci ++ '\n' :: o' := by
      have : (ci ++ '\n' :: o') ++ ['\n'] = u0 ++ ['\n'] := by rw [← hu0]; simp
      exact (List.append_cancel_right this).symm
    refine ⟨o' ++ nls (k + 1), by rw [hu']; simp, ?_⟩
    rw [nls_succ, neLines_append_nl, neLines_nls, neLines_append_nl]
    simp [show neLines ([] : Str) = [] by decide +kernel]

/-- a banner inserted anywhere into echo and output (`P` in front of it, `Q` behind it): `stripReloadBanner` looks for a
fresh prompt (`TryPrompt`) only if the banner ends the text but for white space, and then finds nothing or the fresh prompt -/
theorem strip_insert {σ : Type} (st : St σ) (ci R P Q msg rest : Str) (hc : CleanCmd ci) (hm : CleanMsg msg)
    (hb : '\x07' ∉ P) (hPQ : P ++ Q = ci ++ '\n' :: R) (ha : st.reloadActive = true)
    (hp : if (!P.isEmpty && blank Q) = true
          then (st.pend = [] ∧ rest = []) ∨ (st.pend = promptHead ++ '#' :: rest ∧ runNoHash rest = true)
          else st.pend = rest) :
    stripReloadBanner (P ++ bannerText msg ++ Q) st = (.ok (ci ++ '\n' :: R, oneMinute msg), setPend st rest) := by
  have hb1 : blank (P ++ Q) = false := by rw [hPQ, blank_append, hc.not_blank]; rfl
  unfold stripReloadBanner bindM getActive
  simp only [ha, if_true, bannerFind_banner P msg Q hb hm.ne hm.noNL]
  unfold stripProbe
  rw [← hPQ]
  cases hb2 : (!P.isEmpty && blank Q) with
  | false =>
    rw [hb2] at hp
    simp only [hb1, Bool.false_eq_true, if_false, pureM]
    rw [← hp]; rfl
  | true =>
    simp only [hb1, Bool.false_eq_true, if_false, if_true]
    unfold bindM tryPrompt
    rw [hb2] at hp
    rcases hp with ⟨hp, rfl⟩ | ⟨hp, hr⟩
    · simp only [hp, promptFind, pureM]; rw [← hp]; rfl
    · have hfind : promptFind (promptHead ++ '#' :: rest) = some (0, 8) := by
        simpa using promptFind_at [] rest rfl hr
      have hdrop : (promptHead ++ '#' :: rest).drop 8 = rest := by
        rw [show promptHead ++ '#' :: rest = (promptHead ++ ['#']) ++ rest by simp]
        exact List.drop_left' (by simp [promptHead_len])
      simp only [hp, hfind, hdrop, pureM]
      rfl

/-- `a` empty lines in front of the banner, `k` behind it -/
theorem strip_behind (ci out msg u0 : Str) (a k : Nat) (hc : CleanCmd ci) (ho : CleanOut out)
    (hm : CleanMsg msg) (hu0 : ci ++ '\n' :: out = u0 ++ ['\n']) (hak : 0 < a + k) :
    ∃ R, neLines R = neLines out ∧ ∀ {σ : Type} (st : St σ) (rest : Str), st.reloadActive = true →
      (st.pend = [] ∧ rest = []) ∨ (st.pend = promptHead ++ '#' :: rest ∧ runNoHash rest = true) →
      stripReloadBanner (u0 ++ nls a ++ bannerText msg ++ nls k) st =
        (.ok (ci ++ '\n' :: R, oneMinute msg), setPend st rest) := by
  obtain ⟨R, hpay, hne⟩ := echo_out_nls ci out u0 (a + k - 1) ho hu0
  rw [show a + k - 1 + 1 = a + k by omega, ← nls_add, ← List.append_assoc] at hpay
  have hb2 : (!(u0 ++ nls a).isEmpty && blank (nls k)) = true := by
    cases u0 with
    | nil => cases ci with
      | nil => exact absurd rfl hc.ne
      | cons x c => simp at hu0
    | cons _ _ => simp [blank_nls]
  refine ⟨R, hne, fun st rest ha hv =>
    strip_insert st ci R _ _ msg rest hc hm (fun h => ?_) hpay ha (by rw [if_pos hb2]; exact hv)⟩
  rcases List.mem_append.1 h with h | h
  · exact (echo_out_body ci out u0 hc ho hu0).2 h
  · exact bell_not_mem_nls a h

/-- `u` is the text in front of the first prompt; from `u` and its line feed — what `GetOutput` returns —
`stripReloadBanner` recovers the echo line and an output `R` with the non-empty lines of `b.out`, consuming from the buffer
what the banner's fresh prompt added.  The state type is bound inside: the first three facts are about texts only and are
used without a state (`reply_split`, `conf_wide`). -/
theorem reply_anatomy (ci : Str) (b : Behav) (rest : Str) (hc : CleanCmd ci) (hb : CleanBehav b) :
    ∃ u R, replyFor ci b ++ rest = u ++ promptHead ++ '#' :: replyTail ci b rest ∧ noPH u = true ∧
      neLines R = neLines b.out ∧
      ∀ {σ : Type} (st : St σ), st.reloadActive = true → st.pend = replyTail ci b rest → runNoHash rest = true →
        (probing ci b = true → rest = []) →
        stripReloadBanner (u ++ ['\n']) st = (.ok (ci ++ '\n' :: R, needOf b), setPend st rest) := by
  obtain ⟨u0, hu0⟩ := echo_out_endsNL ci b.out hb.out
  have hn0 := (echo_out_body ci b.out u0 hc hb.out hu0).1
  have hline : ci ++ ['\n'] ++ b.out = u0 ++ ['\n'] := by simpa using hu0
  have hbody : dropLastNL (ci ++ ['\n'] ++ b.out) = u0 := by rw [hline]; exact dropLastNL_snoc u0
  unfold replyFor replyTail needOf probing
  cases hf : b.form <;> dsimp only
  case none =>
    refine ⟨u0, b.out, by rw [hline, prompt_after], hn0, rfl, fun st _ hp _ _ => ?_⟩
    rw [← hu0, strip_none st _ (bannerFind_none _ (bell_not_mem_echo_out ci b.out hc hb.out)), ← hp]; rfl
  case before pad =>
    have hm := hb.msg (by rw [hf]; simp)
    refine ⟨nls pad ++ bannerText b.msg, b.out, by rw [prompt_after]; simp, ?_, rfl, fun st ha hp _ hprobe => ?_⟩
    · rw [noPH_banner_end _ _ hm.noNL, noPH_nls_only]
    · -- `WaitShort` swallows the answer proper, which has to end the buffer
      rw [hprobe rfl] at hp ⊢
      rw [strip_wait st _ (nls pad) b.msg ['\n'] u0 ha
        (bannerFind_banner _ _ _ (bell_not_mem_nls pad) hm.ne hm.noNL)
        (by rw [blank_append, blank_nls]; decide +kernel)
        (by rw [hp, List.append_nil, hu0, prompt_eq, promptHead_eq]; simp) hn0, ← hu0]
  case inside off =>
    have hm := hb.msg (by rw [hf]; simp)
    obtain ⟨u1, hu1⟩ := echo_out_endsNL (ci.drop off) b.out hb.out
    have hY : ci.take off ++ bannerText b.msg ++ u1 ++ ['\n'] =
        ci.take off ++ bannerText b.msg ++ (ci.drop off ++ '\n' :: b.out) := by rw [hu1]; simp
    refine ⟨ci.take off ++ bannerText b.msg ++ u1, b.out, ?_, ?_, rfl, fun st ha hp _ hprobe => ?_⟩
    · have : ci.drop off ++ ['\n'] ++ b.out = u1 ++ ['\n'] := by simpa using hu1
      rw [prompt_after]
      calc ci.take off ++ bannerText b.msg ++ ci.drop off ++ ['\n'] ++ b.out ++ prompt ++ rest
          = ci.take off ++ bannerText b.msg ++ (ci.drop off ++ ['\n'] ++ b.out) ++ prompt ++ rest := by simp
        _ = _ := by rw [this]; simp
    · exact noPH_drop_last _ (by rw [hY]; exact noPH_banner_inside ci b.out b.msg off hc hb.out hm)
    · rw [hY]
      refine strip_insert st ci b.out _ _ b.msg rest hc hm (fun e => hc.noBell (List.mem_of_mem_take e))
        (by rw [← List.append_assoc, List.take_append_drop]) ha ?_
      split
      · -- probing placement: the banner ends the echo and the output is blank
        rename_i hb2
        rw [blank_append] at hb2
        simp only [Bool.and_eq_true] at hb2
        have hbo : blank b.out = true := by
          have := hb2.2.2
          simp only [blank, List.all_cons, Bool.and_eq_true] at this
          exact this.2
        have hrest := hprobe (by simp [hc.blank_drop off hb2.2.1, hbo])
        exact .inl ⟨by rw [hp, hrest], hrest⟩
      · exact hp
  case afterPrompt pad =>
    have hm := hb.msg (by rw [hf]; simp)
    obtain ⟨R, hR, hs⟩ := strip_behind ci b.out b.msg u0 pad 1 hc hb.out hm hu0 (by omega)
    refine ⟨u0 ++ nls pad ++ bannerText b.msg, R, by rw [hbody, prompt_after]; simp, ?_, hR, fun st ha hp hr _ => ?_⟩
    · rw [noPH_banner_end _ _ hm.noNL, noPH_append_nls, hn0]
    · exact hs st rest ha (.inr ⟨by rw [hp]; simpa using (prompt_after [] rest).symm, hr⟩)
  case after =>
    have hm := hb.msg (by rw [hf]; simp)
    obtain ⟨R, hR, hs⟩ := strip_behind ci b.out b.msg u0 0 1 hc hb.out hm hu0 (by omega)
    refine ⟨u0 ++ bannerText b.msg, R, by rw [hbody, prompt_after], ?_, hR, fun st ha hp _ hprobe => ?_⟩
    · rw [noPH_banner_end _ _ hm.noNL, hn0]
    · have := hs st rest ha (.inl ⟨by rw [hp, hprobe rfl], hprobe rfl⟩)
      simpa [nls_zero, nls_succ] using this
  case afterLine pre post =>
    have hm := hb.msg (by rw [hf]; simp)
    obtain ⟨R, hR, hs⟩ := strip_behind ci b.out b.msg u0 (pre + 1) post hc hb.out hm hu0 (by omega)
    obtain ⟨u', hu'⟩ : ∃ u', u0 ++ nls (pre + 1) ++ bannerText b.msg ++ nls post = u' ++ ['\n'] := by
      cases post with
      | zero => exact ⟨u0 ++ nls (pre + 1) ++ (bannerHead ++ b.msg ++ lit "\n***"), by
          rw [bannerText_snoc]; simp [nls_zero]⟩
      | succ k => exact ⟨u0 ++ nls (pre + 1) ++ bannerText b.msg ++ nls k, by
          rw [← nls_add k 1]; simp [nls_succ, nls_zero]⟩
    refine ⟨u', R, ?_, ?_, hR, fun st ha hp _ hprobe => ?_⟩
    · have e : ci ++ ['\n'] ++ b.out ++ nls pre ++ bannerText b.msg ++ nls post ++ prompt ++ rest =
          (u0 ++ nls (pre + 1) ++ bannerText b.msg ++ nls post) ++ prompt ++ rest := by
        rw [hline, nls_succ]; simp
      rw [e, hu', prompt_after]
    · apply noPH_drop_last
      rw [← hu', noPH_banner _ _ _ hm.noNL, noPH_append_nls, hn0, router_not_prefix_nls, noPH_nls_only]; rfl
    · rw [← hu']; exact hs st rest ha (.inl ⟨by rw [hp, hprobe rfl], hprobe rfl⟩)

theorem body_then_nl (ci out X : Str) (ho : CleanOut out) (hX : ∃ x, X = '\n' :: x) :
    ∃ z, dropLastNL (ci ++ '\n' :: out) ++ X = ci ++ '\n' :: z := by
  obtain ⟨x, rfl⟩ := hX
  rcases ho.endsNL with rfl | ⟨o', rfl⟩
  · rw [dropLastNL_snoc]; exact ⟨x, rfl⟩
  · rw [show ci ++ '\n' :: (o' ++ ['\n']) = (ci ++ '\n' :: o') ++ ['\n'] by simp, dropLastNL_snoc]
    exact ⟨o' ++ '\n' :: x, by simp⟩

theorem bannerText_starts_nl (m w : Str) : ∃ x, bannerText m ++ w = '\n' :: x :=
  ⟨_, bannerText_pieces m w⟩

theorem nls_banner_starts_nl (n : Nat) (m w : Str) : ∃ x, nls n ++ (bannerText m ++ w) = '\n' :: x := by
  cases n with
  | zero => simpa [nls] using bannerText_starts_nl m w
  | succ n => exact ⟨nls n ++ (bannerText m ++ w), by simp [nls, List.replicate_succ]⟩

theorem runNoHash_reply (ci : Str) (b : Behav) (hc : CleanCmd ci) (hb : CleanBehav b) (w : Str) :
    runNoHash (replyFor ci b ++ w) = true := by
  unfold replyFor
  cases hf : b.form with
  | none | afterLine pre post =>
    simp only [List.append_assoc, List.cons_append, List.nil_append]
    exact hc.runNoHash_append _
  | before pad =>
    simp only [List.append_assoc]
    obtain ⟨x, hx⟩ := nls_banner_starts_nl pad b.msg (['\n'] ++ (prompt ++ (ci ++ (['\n'] ++ (b.out ++ (prompt ++ w))))))
    rw [hx]; simp [runNoHash, isReSpace]
  | inside off =>
    simp only [List.append_assoc]
    obtain ⟨x, hx⟩ := bannerText_starts_nl b.msg (ci.drop off ++ (['\n'] ++ (b.out ++ (prompt ++ w))))
    rw [hx]; exact runNoHash_of_no_hash _ _ (fun e => hc.noHash (List.mem_of_mem_take e))
  | afterPrompt pad =>
    simp only [List.append_assoc, List.cons_append, List.nil_append]
    obtain ⟨z, hz⟩ := body_then_nl ci b.out _ hb.out
      (nls_banner_starts_nl pad b.msg ('\n' :: (prompt ++ '\n' :: (prompt ++ w))))
    rw [hz]; exact hc.runNoHash_append _
  | after =>
    simp only [List.append_assoc, List.cons_append, List.nil_append]
    obtain ⟨z, hz⟩ := body_then_nl ci b.out _ hb.out
      (bannerText_starts_nl b.msg ('\n' :: (prompt ++ w)))
    rw [hz]; exact hc.runNoHash_append _

theorem check_reply (st : St σ) (ci : Str) (b : Behav) (rest : Str) (hc : CleanCmd ci) (hb : CleanBehav b)
    (hp : st.pend = replyFor ci b ++ rest) (ha : st.reloadActive = true)
    (hr : runNoHash rest = true) (hprobe : probing ci b = true → rest = []) :
    ∃ R, neLines R = neLines b.out ∧
      check ci st = (checkRes ci b.out R (needOf b), addWarns (setPend st rest) (warnsOf ci b.out)) := by
  obtain ⟨u, R, hsplit, hnu, hR, hstrip⟩ := reply_anatomy ci b rest hc hb
  have h1 := getOutput_eval st u _ (hp.trans hsplit) hnu (runNoHash_replyTail ci b rest hc hr)
  exact ⟨R, hR, check_compose st _ _ ci _ R b.out _ h1 (hstrip _ ha rfl hr hprobe) hR⟩

end NA.Ios
