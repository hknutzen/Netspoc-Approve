import NA.Proofs.C03GrpTransfer
/-
C03, the end of the plan on the strict device, in terms of the target alone (of the planner state only `removeCmds` and
`newGroups` are read off): `Like`, below.
Core Lean only.
-/
namespace NA.PanOs

theorem filterMap_if {α β : Type} (p : α → Bool) (f : α → β) (l : List α) :
    l.filterMap (fun o => if p o then some (f o) else none) = (l.filter p).map f := by
  induction l with
  | nil => rfl
  | cons o os ih =>
    simp only [List.filterMap_cons, List.filter_cons]
    cases p o <;> simp [ih]

theorem rulesEquiv_of_forall (dv tv : Vsys) : ∀ (ds ts : List Rule), ds.length = ts.length →
    (∀ (t : Nat) (d r : Rule), ds[t]? = some d → ts[t]? = some r → ruleEquiv dv d tv r = true) →
    rulesEquiv dv tv ds ts = true := by
  intro ds
  induction ds with
  | nil => intro ts hl _; cases ts with | nil => rfl | cons _ _ => simp at hl
  | cons d ds ih =>
    intro ts hl h
    cases ts with
    | nil => simp at hl
    | cons r ts =>
      simp only [rulesEquiv, Bool.and_eq_true]
      refine ⟨h 0 d r rfl rfl, ih ts (by simpa using hl) ?_⟩
      intro t d' r' hd hr
      exact h (t + 1) d' r' (by simpa using hd) (by simpa using hr)

theorem sameSet_flatMap (f g : String → List Leaf) (l l' : List String) (hs : SameMem l l')
    (hfg : ∀ x ∈ l', f x = g x) : sameSet (l.flatMap f) (l'.flatMap g) = true := by
  unfold sameSet
  simp only [Bool.and_eq_true, List.all_eq_true, List.contains_iff_mem, List.mem_flatMap]
  constructor
  · rintro y ⟨x, hx, hy⟩
    have hx' := (hs x).mp hx
    exact ⟨x, hx', by rw [← hfg x hx']; exact hy⟩
  · rintro y ⟨x, hx, hy⟩
    exact ⟨x, (hs x).mpr hx, by rw [hfg x hx]; exact hy⟩

theorem expandSrv_noGroups (v : Vsys) (hg : v.sgroups = []) (x : String) :
    expandSrv v (v.sgroups.length + 1) x =
      match lookupObj v.svcs x with
      | some val => [.val val]
      | none => [.ext x] := by
  simp only [hg, expandSrv, List.find?_nil, lookupObj]
  cases v.svcs.find? (·.name == x) <;> rfl


theorem runs_delGrps (sh : Shared) : ∀ (xs : List String) (v : Vsys), xs.Nodup →
    (∀ x ∈ xs, x ∈ v.groups.map (·.name)) →
    (∀ x ∈ xs, ∀ r ∈ v.rules, x ∉ r.src ∧ x ∉ r.dst) →
    (∀ x ∈ xs, ∀ g ∈ v.groups, x ∉ g.members) →
    ∃ gs, Runs sh v (xs.map Cmd.delGrp) { v with groups := gs } ∧
      (∀ n, n ∉ xs → lookupGrp gs n = lookupGrp v.groups n) ∧
      (∀ g ∈ gs, g ∈ v.groups ∧ g.name ∉ xs) := by
  intro xs
  induction xs with
  | nil =>
    intro v _ _ _ _
    exact ⟨v.groups, Runs.nil sh v, fun _ _ => rfl, fun g hg => ⟨hg, by simp⟩⟩
  | cons x xs ih =>
    intro v hnd hmem hrules hgrps
    rw [List.nodup_cons] at hnd
    have hany : v.groups.any (·.name == x) = true := any_name_of_mem (hmem x (by simp))
    have hunused : addrUsed { v with groups := v.groups.filter (·.name != x) } x = false := by
      unfold addrUsed
      rw [Bool.eq_false_iff]
      intro h
      simp only [Bool.or_eq_true, List.any_eq_true, List.contains_iff_mem] at h
      rcases h with ⟨r, hr, hx⟩ | ⟨g, hg, hx⟩
      · obtain ⟨h1, h2⟩ := hrules x (by simp) r hr
        rcases hx with hx | hx
        · exact h1 hx
        · exact h2 hx
      · exact hgrps x (by simp) g (List.mem_filter.mp hg).1 hx
    have hexec : exec sh v (.delGrp x) = .ok { v with groups := v.groups.filter (·.name != x) } :=
      exec_delGrp_iff.mpr ⟨hany, hunused, rfl⟩
    obtain ⟨gs, hw, p, q⟩ := ih { v with groups := v.groups.filter (·.name != x) } hnd.2
      (by
        intro y hy
        obtain ⟨g, hg, hn⟩ := List.mem_map.mp (hmem y (List.mem_cons_of_mem _ hy))
        refine List.mem_map.mpr ⟨g, List.mem_filter.mpr ⟨hg, ?_⟩, hn⟩
        have : g.name ≠ x := fun e => hnd.1 (by rw [← e, hn]; exact hy)
        simpa using this)
      (fun y hy r hr => hrules y (List.mem_cons_of_mem _ hy) r hr)
      (fun y hy g hg => hgrps y (List.mem_cons_of_mem _ hy) g (List.mem_filter.mp hg).1)
    refine ⟨gs, Runs.cons hexec hw, ?_, ?_⟩
    · intro n hn
      simp only [List.mem_cons, not_or] at hn
      rw [p n hn.2]
      exact lookupGrp_filter _ _ _ hn.1
    · intro g hg
      obtain ⟨h1, h2⟩ := q g hg
      obtain ⟨h3, h4⟩ := List.mem_filter.mp h1
      refine ⟨h3, ?_⟩
      simp only [List.mem_cons, not_or]
      exact ⟨by simpa using h4, h2⟩

theorem removeCmds_grp (st : St) (hasg : st.aSG = []) :
    removeCmds st =
      ((st.aGrp.filter (fun g => !g.needed)).map (fun g => Cmd.delGrp g.g.name)) ++
      ((st.aAddr.filter (fun o => !o.needed)).map (fun o => Cmd.delAddr o.o.name)) ++
      ((st.aSvc.filter (fun o => !o.needed)).map (fun o => Cmd.delSvc o.o.name)) := by
  simp only [removeCmds, hasg, List.filterMap_nil, List.append_nil]
  rw [filterMap_if (fun (o : AObj) => !o.needed) (fun o => Cmd.delAddr o.o.name),
    filterMap_if (fun (o : AObj) => !o.needed) (fun o => Cmd.delSvc o.o.name),
    filterMap_if (fun (g : AGrp) => !g.needed) (fun g => Cmd.delGrp g.g.name)]

theorem expandAddr_plain (v : Vsys) (fuel : Nat) (x : String) (h : x ∉ v.groups.map (·.name)) :
    expandAddr v (fuel + 1) x =
      match lookupObj v.addrs x with
      | some val => [.val val]
      | none => [.ext x] := by
  have hf : v.groups.find? (·.name == x) = none := by
    rw [List.find?_eq_none]
    intro g hg hb
    exact h (List.mem_map.mpr ⟨g, hg, by simpa using hb⟩)
  simp only [expandAddr, hf, lookupObj]
  cases v.addrs.find? (·.name == x) <;> rfl

theorem expandAddr_group (v : Vsys) (fuel : Nat) (x : String) (ms : List String)
    (h : lookupGrp v.groups x = some ms) (hm : ∀ m ∈ ms, m ∉ v.groups.map (·.name)) :
    expandAddr v (fuel + 2) x = ms.flatMap (fun m =>
      match lookupObj v.addrs m with
      | some val => [.val val]
      | none => [.ext m]) := by
  obtain ⟨gr, hf, hgm⟩ := lookupGrp_some h
  simp only [expandAddr, hf, hgm]
  exact ListFacts.flatMap_congr fun m hm' => expandAddr_plain v fuel m (hm m hm')

theorem sameSet_trans_eq {x y z : List Leaf} (h1 : sameSet x y = true) (h2 : y = z) : sameSet x z = true := by
  rw [← h2]; exact h1

theorem sameSet_trans {x y z : List Leaf} (h1 : sameSet x y = true) (h2 : sameSet y z = true) :
    sameSet x z = true := by
  unfold sameSet at *
  simp only [Bool.and_eq_true, List.all_eq_true, List.contains_iff_mem] at *
  exact ⟨fun a ha => h2.1 a (h1.1 a ha), fun a ha => h1.2 a (h2.2 a ha)⟩

theorem sameSet_refl_eq {x y : List Leaf} (h : x = y) : sameSet x y = true := by
  subst h
  unfold sameSet
  simp [List.all_eq_true]

theorem addrContent_plain {w b : Vsys} {ld l0 : List String} (hsame : SameMem ld l0)
    (hpw : ∀ x ∈ l0, x ∉ w.groups.map (·.name)) (hpb : ∀ x ∈ l0, x ∉ b.groups.map (·.name))
    (hlook : ∀ x ∈ l0, lookupObj w.addrs x = lookupObj b.addrs x) :
    sameSet (addrContent w ld) (addrContent b l0) = true := by
  unfold addrContent
  apply sameSet_flatMap _ _ _ _ hsame
  intro x hx
  rw [expandAddr_plain w _ x (hpw x hx), expandAddr_plain b _ x (hpb x hx), hlook x hx]

theorem addrContent_group {w b : Vsys} {ld ms mb : List String} {y g : String} (hsame : SameMem ld [y])
    (hw : lookupGrp w.groups y = some ms) (hb : lookupGrp b.groups g = some mb) (hsm : SameMem ms mb)
    (hpw : ∀ m ∈ ms, m ∉ w.groups.map (·.name)) (hpb : ∀ m ∈ mb, m ∉ b.groups.map (·.name))
    (hlook : ∀ m ∈ mb, lookupObj w.addrs m = lookupObj b.addrs m) :
    sameSet (addrContent w ld) (addrContent b [g]) = true := by
  obtain ⟨gw, hfw, _⟩ := lookupGrp_some hw
  obtain ⟨gb, hfb, _⟩ := lookupGrp_some hb
  obtain ⟨k, hk⟩ : ∃ k, w.groups.length = k + 1 :=
    ⟨_, (Nat.sub_add_cancel (List.length_pos_of_mem (List.mem_of_find?_eq_some hfw))).symm⟩
  obtain ⟨j, hj⟩ : ∃ j, b.groups.length = j + 1 :=
    ⟨_, (Nat.sub_add_cancel (List.length_pos_of_mem (List.mem_of_find?_eq_some hfb))).symm⟩
  unfold addrContent
  rw [hk, hj]
  refine sameSet_trans (sameSet_flatMap _ _ _ _ hsame (fun _ _ => rfl)) ?_
  simp only [List.flatMap_cons, List.flatMap_nil, List.append_nil]
  rw [expandAddr_group w k y ms hw hpw, expandAddr_group b j g mb hb hpb]
  apply sameSet_flatMap _ _ _ _ hsm
  intro m hm
  rw [hlook m hm]

/-! ### A vsys whose rules and groups carry the target's rulebase

The state of the device from the end of the rule phase on, in terms of the target alone (no planner state): `Like xs w b`.
The removal of the groups `xs` keeps it (`Like.delGrps`), removals of addresses and services do not touch it
(`Like.congr`) and may not remove what it uses (`Like.addrUsed`, `Like.srvUsed`); with the right values under the
names the target uses it gives equivalence (`Like.equiv`). -/

/-- `xs`: names of groups of `w` that are about to be removed; `ld` names none of them. -/
def ListLike (xs : List String) (w b : Vsys) (ld l0 : List String) : Prop :=
  (SameMem ld l0 ∧ ∀ x ∈ l0, x ∉ w.groups.map (·.name) ∧ x ∉ b.groups.map (·.name)) ∨
  ∃ y g ms mb, SameMem ld [y] ∧ l0 = [g] ∧ y ∉ xs ∧ lookupGrp w.groups y = some ms ∧
    lookupGrp b.groups g = some mb ∧ SameMem ms mb

structure Like (xs : List String) (w b : Vsys) : Prop where
  len : w.rules.length = b.rules.length
  rule : ∀ (t : Nat) (d r0 : Rule), w.rules[t]? = some d → b.rules[t]? = some r0 →
    d.hdr = r0.hdr ∧ SameMem d.srv r0.srv ∧ ListLike xs w b d.src r0.src ∧ ListLike xs w b d.dst r0.dst
  grp : ∀ g ∈ w.groups, g.name ∈ xs ∨ ∃ gr ∈ b.groups, RefAddr b gr.name ∧ SameMem g.members gr.members
  plain : ∀ g ∈ w.groups, ∀ m ∈ g.members, m ∉ w.groups.map (·.name)

theorem Like.congr {xs : List String} {w w' b : Vsys} (h : Like xs w b) (hr : w'.rules = w.rules)
    (hg : w'.groups = w.groups) : Like xs w' b := by
  cases w; cases w'
  subst hr hg
  exact ⟨h.len, h.rule, h.grp, h.plain⟩

theorem Like.at {xs : List String} {w b : Vsys} (h : Like xs w b) {d : Rule} (hd : d ∈ w.rules) :
    ∃ r0 ∈ b.rules, d.hdr = r0.hdr ∧ SameMem d.srv r0.srv ∧ ListLike xs w b d.src r0.src ∧ ListLike xs w b d.dst r0.dst := by
  obtain ⟨t, ht⟩ := List.getElem?_of_mem hd
  have hr0 := getElem?_of_lt b.rules t (h.len ▸ (List.getElem?_eq_some_iff.mp ht).1)
  exact ⟨_, List.mem_of_getElem? hr0, h.rule t d _ ht hr0⟩

theorem Like.uses {xs : List String} {w b : Vsys} (h : Like xs w b) {d : Rule} (hd : d ∈ w.rules) {x : String}
    (hx : x ∈ d.src ∨ x ∈ d.dst) :
    (∃ r0 ∈ b.rules, (x ∈ r0.src ∨ x ∈ r0.dst) ∧ x ∉ w.groups.map (·.name) ∧ x ∉ b.groups.map (·.name)) ∨
    (x ∉ xs ∧ x ∈ w.groups.map (·.name)) := by
  obtain ⟨r0, hr0, _, _, l1, l2⟩ := h.at hd
  have one : ∀ {ld l0 : List String}, ListLike xs w b ld l0 → x ∈ ld →
      (x ∈ l0 ∧ x ∉ w.groups.map (·.name) ∧ x ∉ b.groups.map (·.name)) ∨ (x ∉ xs ∧ x ∈ w.groups.map (·.name)) := by
    rintro ld l0 (⟨hs, hp⟩ | ⟨y, g, ms, mb, hs, _, hy, hw, _⟩) hxl
    · exact Or.inl ⟨(hs x).mp hxl, hp x ((hs x).mp hxl)⟩
    · cases List.mem_singleton.mp ((hs x).mp hxl)
      obtain ⟨gr, hf, _⟩ := lookupGrp_some hw
      exact Or.inr ⟨hy, List.mem_map.mpr ⟨gr, List.mem_of_find?_eq_some hf, by simpa using List.find?_some hf⟩⟩
  rcases hx with hx | hx
  · exact (one l1 hx).imp_left fun ⟨h1, h2⟩ => ⟨r0, hr0, Or.inl h1, h2⟩
  · exact (one l2 hx).imp_left fun ⟨h1, h2⟩ => ⟨r0, hr0, Or.inr h1, h2⟩

theorem Like.delGrps (sh : Shared) {xs : List String} {w b : Vsys} (h : Like xs w b) (hnd : xs.Nodup)
    (hsub : ∀ x ∈ xs, x ∈ w.groups.map (·.name)) :
    ∃ gs, Runs sh w (xs.map Cmd.delGrp) { w with groups := gs } ∧ Like [] { w with groups := gs } b ∧
      ∀ n ∈ gs.map (·.name), n ∈ w.groups.map (·.name) := by
  obtain ⟨gs, hw', p, q⟩ := runs_delGrps sh xs w hnd hsub
    (fun x hx d hd => by
      have no : ¬ (x ∈ d.src ∨ x ∈ d.dst) := fun hxd => by
        rcases h.uses hd hxd with ⟨_, _, _, hn, _⟩ | ⟨hn, _⟩
        · exact hn (hsub x hx)
        · exact hn hx
      exact ⟨fun hs => no (Or.inl hs), fun hs => no (Or.inr hs)⟩)
    (fun x hx g hg hm => h.plain g hg x hm (hsub x hx))
  have names : ∀ n, n ∈ gs.map (·.name) → n ∈ w.groups.map (·.name) := fun n hn => by
    obtain ⟨g, hg, rfl⟩ := List.mem_map.mp hn
    exact List.mem_map_of_mem (q g hg).1
  have one : ∀ {ld l0 : List String}, ListLike xs w b ld l0 → ListLike [] { w with groups := gs } b ld l0 := by
    rintro ld l0 (⟨hs, hp⟩ | ⟨y, g, ms, mb, hs, e, hy, hw, rest⟩)
    · exact Or.inl ⟨hs, fun x hx => ⟨fun hn => (hp x hx).1 (names x hn), (hp x hx).2⟩⟩
    · exact Or.inr ⟨y, g, ms, mb, hs, e, List.not_mem_nil, (p y hy).trans hw, rest⟩
  refine ⟨gs, hw', ⟨h.len, fun t d r0 hd hr0 => ?_, fun g hg => ?_,
    fun g hg m hm hn => h.plain g (q g hg).1 m hm (names m hn)⟩, names⟩
  · obtain ⟨l0, l3, l1, l2⟩ := h.rule t d r0 hd hr0
    exact ⟨l0, l3, one l1, one l2⟩
  · exact Or.inr ((h.grp g (q g hg).1).resolve_left (q g hg).2)

theorem Like.addrUsed {w b : Vsys} (h : Like [] w b)
    (hbplain : ∀ g ∈ b.groups, ∀ m ∈ g.members, m ∉ b.groups.map (·.name)) {x : String} (hu : addrUsed w x = true) :
    RefAddrN b x ∨ x ∈ w.groups.map (·.name) := by
  unfold NA.PanOs.addrUsed at hu
  simp only [Bool.or_eq_true, List.any_eq_true, List.contains_iff_mem] at hu
  rcases hu with ⟨d, hd, hx⟩ | ⟨g, hg, hx⟩
  · exact (h.uses hd hx).imp (fun ⟨r0, hr0, hx0, _, hn⟩ => ⟨⟨r0, hr0, Or.inl hx0⟩, hn⟩) (·.2)
  · obtain ⟨gr, hgr, ⟨r, hr, hx0⟩, hs⟩ := (h.grp g hg).resolve_left List.not_mem_nil
    have hm := (hs x).mp hx
    exact Or.inl ⟨⟨r, hr, Or.inr ⟨gr, hgr, hx0, hm⟩⟩, hbplain gr hgr x hm⟩

theorem Like.srvUsed {xs : List String} {w b : Vsys} (h : Like xs w b) (hws : w.sgroups = []) {x : String}
    (hu : srvUsed w x = true) : RefSvc b x := by
  unfold NA.PanOs.srvUsed at hu
  simp only [hws, List.any_nil, Bool.or_false, List.any_eq_true, List.contains_iff_mem] at hu
  obtain ⟨d, hd, hx⟩ := hu
  obtain ⟨r0, hr0, _, l3, _⟩ := h.at hd
  exact ⟨r0, hr0, (l3 x).mp hx⟩

theorem Like.equiv {xs : List String} {w b : Vsys} (h : Like xs w b) (hws : w.sgroups = []) (hbs : b.sgroups = [])
    (hbplain : ∀ g ∈ b.groups, ∀ m ∈ g.members, m ∉ b.groups.map (·.name))
    (lookA : ∀ x, RefAddrN b x → lookupObj w.addrs x = lookupObj b.addrs x)
    (lookS : ∀ x, RefSvc b x → lookupObj w.svcs x = lookupObj b.svcs x) : equiv w b = true := by
  refine rulesEquiv_of_forall w b _ _ h.len fun t d r0 hd hr0 => ?_
  have hr0m := List.mem_of_getElem? hr0
  obtain ⟨l0, l3, l1, l2⟩ := h.rule t d r0 hd hr0
  have one : ∀ {ld l0 : List String}, (∀ x ∈ l0, x ∈ r0.src ∨ x ∈ r0.dst) → ListLike xs w b ld l0 →
      sameSet (addrContent w ld) (addrContent b l0) = true := by
    rintro ld l0 hin (⟨hs, hp⟩ | ⟨y, g, ms, mb, hs, rfl, _, hw, hb, hsm⟩)
    · exact addrContent_plain hs (fun x hx => (hp x hx).1) (fun x hx => (hp x hx).2)
        (fun x hx => lookA x ⟨⟨r0, hr0m, Or.inl (hin x hx)⟩, (hp x hx).2⟩)
    · obtain ⟨gw, hfw, egw⟩ := lookupGrp_some hw
      obtain ⟨gr, hfb, egr⟩ := lookupGrp_some hb
      have hgr := List.mem_of_find?_eq_some hfb
      have hgn : gr.name = g := by simpa using List.find?_some hfb
      exact addrContent_group hs hw hb hsm (egw ▸ h.plain gw (List.mem_of_find?_eq_some hfw)) (egr ▸ hbplain gr hgr)
        (fun m hm => lookA m ⟨⟨r0, hr0m, Or.inr ⟨gr, hgr, hgn ▸ hin g (by simp), egr ▸ hm⟩⟩, hbplain gr hgr m (egr ▸ hm)⟩)
  simp only [ruleEquiv, Bool.and_eq_true, beq_iff_eq]
  refine ⟨⟨⟨l0, one (fun _ => Or.inl) l1⟩, one (fun _ => Or.inr) l2⟩, ?_⟩
  unfold srvContent
  refine sameSet_flatMap _ _ _ _ l3 fun x hx => ?_
  rw [expandSrv_noGroups w hws, expandSrv_noGroups b hbs, lookS x ⟨r0, hr0m, hx⟩]

end NA.PanOs
