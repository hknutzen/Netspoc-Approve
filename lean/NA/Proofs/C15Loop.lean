import NA.Proofs.C15Forms
import NA.Proofs.C15
/-!
# C15: the scripted device line by line, the client's exchanges, `cmd` on a single and on a joined line, `Follows`
-/
namespace NA.Ios

variable {σ : Type}

theorem issueCmd_eval (D : Device σ) (st : St σ) (l : Str) (name : String) (alts : List (Str × Bool))
    (reply : Str) (dev' : σ) (hstep : D.step st.dev l = (dev', reply)) (hpend : st.pend = [])
    (halt : altFind alts reply = some reply.length) :
    issueCmd D l name alts st =
      (.ok reply, { st with dev := dev', pend := [], trace := st.trace ++ [l] }) := by
  unfold issueCmd bindM send expectEnd
  simp [hstep, hpend, halt]

theorem sendCmd_eval (D : Device σ) (st : St σ) (l reply : Str) (dev' : σ) (a : Nat)
    (hstep : D.step st.dev l = (dev', reply)) (hpend : st.pend = [])
    (hprompt : promptFind reply = some (a, reply.length)) :
    sendCmd D l st = (.ok (), { st with dev := dev', pend := [], trace := st.trace ++ [l] }) := by
  unfold sendCmd bindM send waitPrompt expectEnd
  simp [hstep, hpend, hprompt, pureM]

theorem simStep_std (na : Bool) (dev : SimSt) (l h : Str) (t : List Str) (hp : dev.parts = [])
    (hs : stdReplyV na l = some (h :: t)) (hsplit : splitOnNL l = [l]) :
    (simDevice [] na).step dev l = ({ dev with parts := t }, h) := by
  simp [simDevice, hsplit, simLines, simLine, hp, hs]

theorem simStep_part (na : Bool) (dev : SimSt) (l p : Str) (ps : List Str) (hp : dev.parts = p :: ps)
    (hsplit : splitOnNL l = [l]) :
    (simDevice [] na).step dev l = ({ dev with parts := ps }, l ++ ['\n'] ++ p) := by
  simp [simDevice, hsplit, simLines, simLine, hp]

theorem simStep_plain (na : Bool) (dev : SimSt) (l : Str) (hp : dev.parts = []) (hs : stdReplyV na l = none)
    (hc : isChange l = false) (hsplit : splitOnNL l = [l]) :
    (simDevice [] na).step dev l = (dev, l ++ ['\n'] ++ prompt) := by
  simp [simDevice, hsplit, simLines, simLine, hp, hs, hc]

theorem simDev_parts_nil (d : SimSt) (h : d.parts = []) : ({ d with parts := [] } : SimSt) = d := by
  cases d with
  | mk pa qu oc => simp at h; simp [h]

def confReply : Str :=
  lit "configure terminal\nEnter configuration commands, one per line.  End with CNTL/Z.\n" ++ prompt
def cancelReply : Str := lit "reload cancel\n\n\n***\n*** --- SHUTDOWN ABORTED ---\n***\n" ++ prompt
def writeReply : Str :=
  lit "write memory\nBuilding configuration...\n  Compressed configuration from 106098 bytes to 30504 bytes[OK]\n" ++ prompt

theorem stdReplyV_fixed (na : Bool) :
    stdReplyV na confCmd = some [confReply] ∧ stdReplyV na cancelCmd = some [cancelReply] ∧
    stdReplyV na writeCmd = some [writeReply] ∧ stdReplyV na endCmd = none ∧ stdReplyV na [] = none := by
  cases na <;> decide_lit [c15_vocab, confReply, cancelReply, writeReply]

theorem simStep_conf (na : Bool) (d : SimSt) (h : d.parts = []) : (simDevice [] na).step d confCmd = (d, confReply) := by
  rw [simStep_std na d confCmd confReply [] h (stdReplyV_fixed na).1 (fixed_single _ (by simp [fixedLines, prepCmds])),
    simDev_parts_nil d h]
theorem simStep_cancel (na : Bool) (d : SimSt) (h : d.parts = []) :
    (simDevice [] na).step d cancelCmd = (d, cancelReply) := by
  rw [simStep_std na d cancelCmd cancelReply [] h (stdReplyV_fixed na).2.1 (fixed_single _ (by simp [fixedLines])),
    simDev_parts_nil d h]
theorem simStep_write (na : Bool) (d : SimSt) (h : d.parts = []) :
    (simDevice [] na).step d writeCmd = (d, writeReply) := by
  rw [simStep_std na d writeCmd writeReply [] h (stdReplyV_fixed na).2.2.1 (fixed_single _ (by simp [fixedLines])),
    simDev_parts_nil d h]
theorem simStep_end (na : Bool) (d : SimSt) (h : d.parts = []) :
    (simDevice [] na).step d endCmd = (d, endCmd ++ ['\n'] ++ prompt) :=
  have hm : endCmd ∈ fixedLines := by simp [fixedLines, prepCmds]
  simStep_plain na d endCmd h (stdReplyV_fixed na).2.2.2.1 (fixed_not_change _ hm) (fixed_single _ hm)
theorem simStep_empty (na : Bool) (d : SimSt) (h : d.parts = []) :
    (simDevice [] na).step d [] = (d, [] ++ ['\n'] ++ prompt) :=
  have hm : ([] : Str) ∈ fixedLines := by simp [fixedLines]
  simStep_plain na d [] h (stdReplyV_fixed na).2.2.2.2 (fixed_not_change _ hm) (fixed_single _ hm)

theorem simStep_key (na : Bool) (d : SimSt) (s : Str) (hk : isKey s = true) (hparts : d.parts = []) :
    (simDevice [] na).step d s = (d, replyFor s { out := stdOutOf s }) := by
  unfold isKey at hk
  simp only [Bool.or_eq_true, beq_iff_eq] at hk
  rcases hk with (rfl | rfl) | rfl
  · rw [simStep_conf na d hparts]
    exact congrArg _ (by unfold confReply replyFor stdOutOf confOut confCmd prompt; decide_lit [lit_ofList])
  · rw [simStep_end na d hparts]
    exact congrArg _ (by unfold replyFor stdOutOf endCmd confCmd cancelCmd prompt; decide_lit [lit_ofList])
  · rw [simStep_cancel na d hparts]
    exact congrArg _ (by unfold cancelReply replyFor stdOutOf cancelOut confCmd cancelCmd prompt; decide_lit [lit_ofList])

theorem change_ne_fixed (c k : Str) (h : isChange c = true) (hk : k ∈ fixedLines) : (c == k) = false :=
  beq_eq_false_iff_ne.2 fun e => by rw [e, fixed_not_change k hk] at h; cases h

theorem joined_ne_fixed (c1 c2 k : Str) (hk : k ∈ fixedLines) : (c1 ++ '\n' :: c2 == k) = false :=
  beq_eq_false_iff_ne.2 fun e => (fixedLines_facts k hk).1 (e ▸ by simp)

theorem stdReplyV_change (na : Bool) (c : Str) (h : isChange c = true) : stdReplyV na c = none := by
  have hk : ∀ k ∈ [confCmd, reloadCmd, doReloadCmd, cancelCmd, writeCmd], (c == k) = false :=
    fun k hk => change_ne_fixed c k h (by
      simp only [List.mem_cons, List.not_mem_nil, or_false] at hk
      rcases hk with rfl | rfl | rfl | rfl | rfl <;> simp [fixedLines, prepCmds])
  simp [stdReplyV, stdReply, hk]

theorem simLine_change (na : Bool) (dev : SimSt) (c : Str) (b : Behav) (q : List Behav) (hp : dev.parts = [])
    (hq : dev.queue = b :: q) (hch : isChange c = true) :
    simLine [] na dev c = ({ dev with queue := q }, replyFor c b) := by
  simp [simLine, hp, stdReplyV_change na c hch, hch, hq]

theorem sendReloadCmd_eval (D : Device σ) (st : St σ) (withDo : Bool) (r0 r1 r2 : Str) (d1 d2 d3 : σ) (k : Nat)
    (hp : st.pend = [])
    (h1 : D.step st.dev (if withDo then doReloadCmd else reloadCmd) = (d1, r0))
    (a1 : altFind [(lit "[yes/no]: ", false), (lit "[confirm]", false)] r0 = some r0.length)
    (hy : containsLit (lit "[yes/no]") r0 = true)
    (h2 : D.step d1 (lit "n") = (d2, r1))
    (a2 : altFind [(lit "[confirm]", false)] r1 = some r1.length)
    (h3 : D.step d2 [] = (d3, r2))
    (a3 : promptFind r2 = some (k, r2.length)) :
    sendReloadCmd D withDo st =
      (.ok (), { st with dev := d3, pend := [], reloadActive := true,
                         trace := st.trace ++ [if withDo then doReloadCmd else reloadCmd, lit "n", []] }) := by
  unfold sendReloadCmd issueCmd sendCmd bindM send expectEnd waitPrompt setActive pureM
  simp [expectEnd, hp, h1, a1, hy, h2, a2, h3, a3]

theorem sendReloadCmd_eval_noask (D : Device σ) (st : St σ) (withDo : Bool) (r0 r2 : Str) (d1 d3 : σ) (k : Nat)
    (hp : st.pend = [])
    (h1 : D.step st.dev (if withDo then doReloadCmd else reloadCmd) = (d1, r0))
    (a1 : altFind [(lit "[yes/no]: ", false), (lit "[confirm]", false)] r0 = some r0.length)
    (hy : containsLit (lit "[yes/no]") r0 = false)
    (h3 : D.step d1 [] = (d3, r2))
    (a3 : promptFind r2 = some (k, r2.length)) :
    sendReloadCmd D withDo st =
      (.ok (), { st with dev := d3, pend := [], reloadActive := true,
                         trace := st.trace ++ [if withDo then doReloadCmd else reloadCmd, []] }) := by
  unfold sendReloadCmd issueCmd sendCmd bindM send expectEnd waitPrompt setActive pureM
  simp [expectEnd, hp, h1, a1, hy, h3, a3]

theorem stdReplyV_reload (na withDo : Bool) :
    stdReplyV na (if withDo then doReloadCmd else reloadCmd) =
      some (if na then reloadPartsNA withDo else reloadParts withDo) := by
  cases na <;> cases withDo <;>
    decide_lit [c15_vocab]

/-- `d ps` is the state of the device while the parts `ps` of the scripted answer are still to come -/
theorem sendReloadCmd_played (D : Device σ) (na withDo : Bool) (st : St σ) (d : List Str → σ) (hp : st.pend = [])
    (h1 : ∀ p ps, (if na then reloadPartsNA withDo else reloadParts withDo) = p :: ps →
      D.step st.dev (if withDo then doReloadCmd else reloadCmd) = (d ps, p))
    (h2 : ∀ l p ps, l = lit "n" ∨ l = [] → p ∈ (if na then reloadPartsNA withDo else reloadParts withDo).tail →
      D.step (d (p :: ps)) l = (d ps, l ++ ['\n'] ++ p)) :
    sendReloadCmd D withDo st =
      (.ok (), { st with dev := d [], pend := [], reloadActive := true,
                         trace := st.trace ++ (if withDo then doReloadCmd else reloadCmd) ::
                           (if na then [[]] else [lit "n", []]) }) := by
  cases na with
  | false =>
    exact sendReloadCmd_eval D st withDo _ _ _ _ _ _ 0 hp (h1 _ _ rfl)
      (by cases withDo <;> decide_lit [lit_ofList]) (by cases withDo <;> decide_lit [lit_ofList])
      (h2 _ _ _ (.inl rfl) (.head _)) (by decide_lit [lit_ofList])
      (h2 _ _ _ (.inr rfl) (.tail _ (.head _))) (by decide +kernel)
  | true =>
    exact sendReloadCmd_eval_noask D st withDo _ _ _ _ 0 hp (h1 _ _ rfl)
      (by cases withDo <;> decide_lit [lit_ofList]) (by cases withDo <;> decide_lit [lit_ofList])
      (h2 _ _ _ (.inr rfl) (.head _)) (by decide +kernel)

def St.onDev (e : SimSt → σ) (st : St SimSt) : St σ :=
  { dev := e st.dev, pend := st.pend, trace := st.trace, reloadActive := st.reloadActive, warns := st.warns }

/-- `D` in state `e d` answers the packet `s` as the scripted device does in state `d`.  The scripted device itself is
the case `e = id`, where `St.onDev id st` is `st` by eta, so the `_follows` lemmas apply to `st` as they stand. -/
def Follows (D : Device σ) (na : Bool) (e : SimSt → σ) (d : SimSt) (s : Str) : Prop :=
  D.step (e d) s = (e ((simDevice [] na).step d s).1, ((simDevice [] na).step d s).2)

theorem sendReloadCmd_follows (D : Device σ) (na withDo : Bool) (e : SimSt → σ) (st : St SimSt) (hp : st.pend = [])
    (hparts : st.dev.parts = [])
    (h1 : Follows D na e st.dev (if withDo then doReloadCmd else reloadCmd))
    (h2 : ∀ l p ps, l = lit "n" ∨ l = [] → p ∈ (if na then reloadPartsNA withDo else reloadParts withDo).tail →
      Follows D na e { st.dev with parts := p :: ps } l) :
    sendReloadCmd D withDo (st.onDev e) =
      (.ok (), St.onDev e
        { st with pend := [], reloadActive := true,
                  trace := st.trace ++ (if withDo then doReloadCmd else reloadCmd) ::
                    (if na then [[]] else [lit "n", []]) }) := by
  rw [sendReloadCmd_played D na withDo (st.onDev e) (fun ps => e { st.dev with parts := ps }) hp
    (fun p ps h => by
      show D.step (e st.dev) _ = _
      rw [h1, simStep_std na st.dev _ p ps hparts (by rw [stdReplyV_reload, h])
        (fixed_single _ (by cases withDo <;> simp [fixedLines]))])
    (fun l p ps hl h => by
      rw [h2 l p ps hl h, simStep_part na _ l p ps rfl (fixed_single l (by rcases hl with rfl | rfl <;> simp [fixedLines]))])]
  simp only [simDev_parts_nil st.dev hparts]
  rfl

theorem sendReloadCmd_sim (na withDo : Bool) (st : St SimSt) (hp : st.pend = []) (hparts : st.dev.parts = []) :
    sendReloadCmd (simDevice [] na) withDo st =
      (.ok (), { st with pend := [], reloadActive := true,
                         trace := st.trace ++ (if withDo then doReloadCmd else reloadCmd) ::
                           (if na then [[]] else [lit "n", []]) }) :=
  sendReloadCmd_follows _ na withDo id st hp hparts rfl (fun _ _ _ _ _ => rfl)

/-- the lines of one re-arm exchange in the two dialogue variants -/
def rearmLines (na : Bool) : List Str := if na then [doReloadCmd, []] else [doReloadCmd, lit "n", []]

attribute [c15_vocab] rearmLines

theorem extendReload_sim (na : Bool) (st : St SimSt) (hp : st.pend = []) (hparts : st.dev.parts = []) :
    extendReload (simDevice [] na) st =
      (.ok (), { st with pend := [], reloadActive := true, trace := st.trace ++ rearmLines na }) := by
  unfold extendReload
  rw [sendReloadCmd_sim na true st hp hparts]
  cases na <;> rfl

theorem cmd_single (D : Device σ) (fixed : Bool) (c : Str) (st st1 st2 : St σ) (r : Res Bool)
    (hcut : cutNL c = (c, [])) (hsend : send D c st = (.ok (), st1)) (hck : check c st1 = (r, st2)) :
    cmd D fixed c st =
      match (generalizing := false) r with
      | .ok need => if need then extendReload D st2 else (.ok (), st2)
      | .abort e => (.abort e, st2) := by
  unfold cmd bindM
  simp only [hsend, hcut, hck, List.isEmpty_nil, if_true]
  cases r with
  | ok need => cases need <;> rfl
  | abort e => rfl

theorem cmd_joined (D : Device σ) (c c1 c2 : Str) (st st1 st2 st3 : St σ) (r1 r2 : Res Bool)
    (hcut : cutNL c = (c1, c2)) (hne : c2.isEmpty = false) (hsend : send D c st = (.ok (), st1))
    (hck1 : check c1 st1 = (r1, st2)) (hck2 : check c2 st2 = (r2, st3)) :
    cmd D true c st =
      match (generalizing := false) r1, r2 with
      | .abort e, _ => (.abort e, st2)
      | .ok _, .abort e => (.abort e, st3)
      | .ok n1, .ok n2 => if n1 || n2 then extendReload D st3 else (.ok (), st3) := by
  unfold cmd bindM
  simp only [hsend, hcut, hck1, hne, Bool.false_eq_true, if_false]
  cases r1 with
  | abort e => rfl
  | ok n1 =>
    simp only [hck2]
    cases r2 with
    | abort e => rfl
    | ok n2 => simp only [pureM, if_true]; cases (n1 || n2) <;> rfl

end NA.Ios
