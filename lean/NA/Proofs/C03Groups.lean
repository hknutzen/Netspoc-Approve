import NA.Model.PanOs
/-
C03, reuse of address-groups (`findGroupOnDevice`, `hasEqualizedGroups`): only a device group
that this plan has neither claimed nor changed and whose (sorted) member list is identical is
taken over; a claimed group is never changed for another target group.  Core Lean only.
-/
namespace NA.PanOs

theorem findGroupOnDeviceFrom_spec (ms : List String) :
    ∀ (l : List AGrp) (k i : Nat) (name : String),
      findGroupOnDeviceFrom ms l k = some (i, name) →
        ∃ j ga, i = k + j ∧ l[j]? = some ga ∧ ga.needed = false ∧ ga.g.members = ms ∧ ga.g.name = name ∧
          ∀ j', j' < j → ∀ g, l[j']? = some g → ¬ (g.needed = false ∧ g.g.members = ms) := by
  intro l
  induction l with
  | nil => intro k i name h; cases h
  | cons x xs ih =>
    intro k i name h
    simp only [findGroupOnDeviceFrom] at h
    split at h
    · rename_i hx
      simp only [Option.some.injEq, Prod.mk.injEq] at h
      obtain ⟨rfl, rfl⟩ := h
      simp only [Bool.and_eq_true, Bool.not_eq_true', beq_iff_eq] at hx
      exact ⟨0, x, rfl, rfl, hx.1, hx.2, rfl, fun j' hj' => absurd hj' (Nat.not_lt_zero j')⟩
    · rename_i hx
      obtain ⟨j, ga, hi, hga, h1, h2, h3, h4⟩ := ih (k + 1) i name h
      refine ⟨j + 1, ga, by rw [hi, Nat.add_assoc, Nat.add_comm 1], hga, h1, h2, h3, ?_⟩
      intro j' hj' g hg
      cases j' with
      | zero =>
        cases hg
        intro hc
        apply hx
        simp [hc.1, hc.2]
      | succ j' => exact h4 j' (Nat.lt_of_succ_lt_succ hj') g hg

theorem findGroupOnDeviceFrom_none (ms : List String) :
    ∀ (l : List AGrp) (k : Nat), findGroupOnDeviceFrom ms l k = none →
      ∀ g ∈ l, ¬ (g.needed = false ∧ g.g.members = ms) := by
  intro l
  induction l with
  | nil => intro k _ g hg; cases hg
  | cons x xs ih =>
    intro k h g hg
    simp only [findGroupOnDeviceFrom] at h
    split at h
    · cases h
    · rename_i hx
      rcases List.mem_cons.mp hg with rfl | hg
      · intro hc; apply hx; simp [hc.1, hc.2]
      · exact ih (k + 1) h g hg

theorem findGroupOnDevice_sound (st : St) (gbi : Nat) :
    let ms := (st.bGrp[gbi]?.map (·.g.members)).getD []
    (∃ i ga, st.aGrp[i]? = some ga ∧ ga.needed = false ∧ ga.g.members = ms ∧
        (∀ j, j < i → ∀ g, st.aGrp[j]? = some g → ¬ (g.needed = false ∧ g.g.members = ms)) ∧
        findGroupOnDevice st gbi = (ga.g.name, { st with
          aGrp := modAt st.aGrp i (fun g => { g with needed := true }),
          bGrp := modAt st.bGrp gbi (fun g => { g with needed := false, onDev := ga.g.name }) })) ∨
    ((∀ g ∈ st.aGrp, ¬ (g.needed = false ∧ g.g.members = ms)) ∧ findGroupOnDevice st gbi = ("", st)) := by
  intro ms
  unfold findGroupOnDevice
  cases h : findGroupOnDeviceFrom ms st.aGrp 0 with
  | none =>
    right
    exact ⟨findGroupOnDeviceFrom_none ms _ 0 h, by simp only [ms] at h; simp [h]⟩
  | some p =>
    obtain ⟨i, name⟩ := p
    left
    obtain ⟨j, ga, hi, hga, h1, h2, h3, h4⟩ := findGroupOnDeviceFrom_spec ms _ 0 i name h
    rw [Nat.zero_add] at hi
    subst hi
    refine ⟨i, ga, hga, h1, h2, h4, ?_⟩
    simp only [ms] at h
    simp [h, h3]

theorem eqGroups_needed_unchanged (recur : St → List String → List String → MPath → Bool × St)
    (st : St) (gai gbi : Nat) (h : (st.aGrp[gai]?.getD default).needed = true) :
    (eqGroups recur st gai gbi).2 = st := by
  unfold eqGroups
  simp only
  split
  · rfl
  · simp

theorem eqGroups_needed_true (recur : St → List String → List String → MPath → Bool × St)
    (st : St) (gai gbi : Nat) (h : (st.aGrp[gai]?.getD default).needed = true)
    (ht : (eqGroups recur st gai gbi).1 = true) :
    (st.bGrp[gbi]?.getD default).onDev = (st.aGrp[gai]?.getD default).g.name ∧
      (st.bGrp[gbi]?.getD default).onDev ≠ "" := by
  unfold eqGroups at ht
  simp only at ht
  split at ht
  · rename_i hne
    exact ⟨by simpa using ht, by simpa using hne⟩
  · simp at ht

end NA.PanOs
