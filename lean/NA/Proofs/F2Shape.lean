import NA.Proofs.F2Init
import NA.Proofs.DiffUnordered
/-!
# F2: the shape of a run — the decisions of the engine as folds over items

What the engine decides, read off the model alone (no device).  Both walks over the interface phase — on the device
(`SemN`, F2Sem … F2Intfs) and for a settled pair (`QInv`, F2Quiet) — go along these lemmas.
-/
namespace NA.F2
open NA.ListFacts
open NA.F1 (genName lookupD addSet sortS isTagged sortS_perm diffUnordered slice lastIdx)
open NA.Acl (Range)

/-- The three outcomes of `diffCmds` for two ACL objects: the device ACL is taken already (the target ACL is
transferred), the target ACL is `ready` already, or the device ACL is adopted and the lines are compared. -/
theorem diffAcl_cases (e : Env) (st : St) (aN bN : Name) :
    (aN ∈ st.aNeeded ∧ diffAcl e st aN bN = (transferAcl e (st.hit "acl:device-acl-needed") bN,
      (transferAcl e (st.hit "acl:device-acl-needed") bN).nameOf bN)) ∨
    (aN ∉ st.aNeeded ∧ bN ∈ st.aReady ∧ diffAcl e st aN bN = (st.hit "acl:target-acl-ready", st.nameOf bN)) ∨
    (aN ∉ st.aNeeded ∧ bN ∉ st.aReady ∧ diffAcl e st aN bN = (diffLines e (adoptSt st aN bN) aN bN, aN)) := by
  unfold diffAcl
  by_cases hn : st.aNeeded.contains aN = true
  · rw [if_pos hn]; exact Or.inl ⟨List.contains_iff_mem.mp hn, rfl⟩
  · rw [if_neg hn]
    have hnn : aN ∉ st.aNeeded := fun hc => hn (List.contains_iff_mem.mpr hc)
    by_cases hr : st.aReady.contains bN = true
    · rw [if_pos hr]; exact Or.inr (Or.inl ⟨hnn, List.contains_iff_mem.mp hr, rfl⟩)
    · rw [if_neg hr]; exact Or.inr (Or.inr ⟨hnn, fun hc => hr (List.contains_iff_mem.mpr hc), rfl⟩)

theorem adopt_marks (e : Env) (st : St) (aN bN : Name) :
    (diffLines e (adoptSt st aN bN) aN bN).aNeeded = aN :: st.aNeeded ∧
    (diffLines e (adoptSt st aN bN) aN bN).aName = (bN, aN) :: st.aName ∧
    (diffLines e (adoptSt st aN bN) aN bN).aReady = bN :: st.aReady ∧
    (diffLines e (adoptSt st aN bN) aN bN).bNeeded = st.bNeeded ∧
    (diffLines e (adoptSt st aN bN) aN bN).iNeeded = st.iNeeded ∧
    (diffLines e (adoptSt st aN bN) aN bN).aToDel = st.aToDel ∧
    (if ((e.a.lines aN).isEmpty && (e.b.lines bN).isEmpty) = true then (diffLines e (adoptSt st aN bN) aN bN).acts = st.acts
     else (diffLines e (adoptSt st aN bN) aN bN).acts =
       st.acts ++ [.edit aN (e.a.lines aN) (e.b.lines bN) (lookupD e.sc.acl (aN, bN))]) := by
  unfold diffLines
  simp only
  split <;> exact ⟨rfl, rfl, rfl, rfl, rfl, rfl, rfl⟩

theorem nameOf_adopted {s st : St} {aN bN : Name} (h : s.aName = (bN, aN) :: st.aName) :
    s.nameOf bN = aN ∧ ∀ x, x ≠ bN → s.nameOf x = st.nameOf x := by
  refine ⟨by simp [St.nameOf, h], fun x hx => ?_⟩
  have : (x == bN) = false := by simpa using hx
  simp [St.nameOf, h, List.lookup, this]

structure BindsB (e : Env) (bl : List Bind) : Prop where
  dirsNd : (bl.map (·.dir)).Nodup
  dirs : ∀ bd ∈ bl, isDir bd.dir = true
  closed : ∀ bd ∈ bl, e.b.hasAcl bd.acl = true

structure IStatic (e : Env) : Prop where
  aNames : (e.a.intfs.map (·.name)).Nodup
  bNames : (e.b.intfs.map (·.name)).Nodup
  aIntf : ∀ ai ∈ e.a.intfs, (ai.binds.map (·.dir)).Nodup ∧ (∀ bd ∈ ai.binds, isDir bd.dir = true) ∧
    ∀ bd ∈ ai.binds, e.a.hasAcl bd.acl = true
  bIntf : ∀ bi ∈ e.b.intfs, BindsB e bi.binds

theorem phase1_fold (e : Env) (i : Nat) (x : String) (al bl : List Bind) (rs : List Range)
    (hk : ∀ r ∈ rs, kindOf al.length bl.length r = some .del ∨ kindOf al.length bl.length r = some .eq ∨
      kindOf al.length bl.length r = some .ins) (st : St) :
    rs.foldl (fun st r => if r.isDelete then delBinds e st i x al (slice (List.range al.length) r.lowA r.highA) else st) st =
      (fDel rs).foldl (delBind1 e i x al) st := by
  rw [fDel_eq]
  refine foldl_eq_flatMap _ _ _ rs (fun r hr st => ?_) st
  rcases hk r hr with h | h | h
  · obtain ⟨h1, h2, _⟩ := tests_del h
    obtain ⟨_, q2, _, _⟩ := kindOf_del_iff.mp h
    simp only [gDel, h1, ↓reduceIte, delBinds, slice_range _ _ _ q2]
  · obtain ⟨h1, _, _⟩ := tests_eq h
    simp [gDel, h1]
  · obtain ⟨h1, _, _⟩ := tests_ins h
    simp [gDel, h1]

theorem phase2_foldB (e : Env) (i : Nat) (x : String) (al bl : List Bind) (rs : List Range)
    (hk : ∀ r ∈ rs, kindOf al.length bl.length r = some .ins) (st : St) :
    rs.foldl (fun st r =>
        if r.isInsert then (if r.highB ≤ r.lowB then st else addBinds e st x (slice bl r.lowB r.highB))
        else if r.isEqual then
          ((slice (List.range al.length) r.lowA r.highA).zip (slice bl r.lowB r.highB)).foldl
            (fun st p => makeEqualBind e st i p.1 x (al.getD p.1 default) p.2) st
        else st) st =
      ((fIns rs).map fun j => bl.getD j default).foldl (addBind1 e x) st := by
  rw [fIns_eq, List.map_flatMap]
  refine foldl_eq_flatMap _ _ _ rs (fun r hr st => ?_) st
  obtain ⟨_, h2, _⟩ := tests_ins (hk r hr)
  obtain ⟨_, _, q3, q4⟩ := kindOf_ins_iff.mp (hk r hr)
  have : ¬ r.highB ≤ r.lowB := by omega
  simp only [gIns, h2, ↓reduceIte, this, addBinds, slice_eq_idxs bl _ _ q4]

theorem key_inj {d1 d2 : String} (h1 : isDir d1 = true) (h2 : isDir d2 = true) (h : "$REF " ++ d1 = "$REF " ++ d2) :
    d1 = d2 := by
  simp only [isDir, Bool.or_eq_true, beq_iff_eq] at h1 h2
  rcases h1 with rfl | rfl <;> rcases h2 with rfl | rfl
  · rfl
  · exact absurd h (by decide)
  · exact absurd h (by decide)
  · rfl

/-- `diffBinds` as three folds over the matching of the sub-commands by direction: device sub-commands without partner are
deleted, pairs of equal direction equalised, target sub-commands without partner added. -/
theorem diffBinds_canon (e : Env) (i : Nat) (x : String) (al bl : List Bind)
    (hAn : (al.map (·.dir)).Nodup) (hAd : ∀ bd ∈ al, isDir bd.dir = true) (hAc : ∀ bd ∈ al, e.a.hasAcl bd.acl = true)
    (hB : BindsB e bl) (st : St) :
    ∃ st0 : St, (st0 = st ∨ st0 = st.hit "bind:no-parts-equal") ∧
      diffBinds e st i x al bl =
        (mInss (·.dir) (·.dir) al bl).foldl (addBind1 e x)
          ((mPairs (·.dir) (·.dir) al bl).foldl (fun st p => makeEqualBind e st i p.1 x (al.getD p.1 default) p.2)
            ((mDels (·.dir) (·.dir) al bl).foldl (delBind1 e i x al) st0)) := by
  -- the keys of sub-commands that refer to defined ACLs are the directions
  have hkeyA : ∀ bd ∈ al, bindKey e.a bd = "$REF " ++ bd.dir := fun bd hbd => by simp [bindKey, hAc bd hbd]
  have hkeyB : ∀ bd ∈ bl, bindKey e.b bd = "$REF " ++ bd.dir := fun bd hbd => by simp [bindKey, hB.closed bd hbd]
  obtain ⟨cD, cE, cI⟩ := match_congr (ka := (·.dir)) (kb := (·.dir)) (ka' := bindKey e.a) (kb' := bindKey e.b) (al := al) (bl := bl)
    fun a ha b hb => by
      rw [hkeyA a ha, hkeyB b hb]
      exact ⟨fun h => by rw [h], key_inj (hAd a ha) (hB.dirs b hb)⟩
  have hnd : (al.map (bindKey e.a)).Nodup :=
    nodup_map_of_inj_on (nodup_of_map _ hAn) fun a ha b hb hc => eq_of_nodup_map hAn ha hb (by
      rw [hkeyA a ha, hkeyA b hb] at hc
      exact key_inj (hAd a ha) (hAd b hb) hc)
  obtain ⟨rsA, rsB, hrs, hkA, hkB, hfD, hfE, hfI⟩ := diffUnordered_match (bindKey e.a) (bindKey e.b) al bl hnd
  rw [cD, cE, cI]
  have hkAll : ∀ r ∈ rsA ++ rsB, kindOf al.length bl.length r = some .del ∨ kindOf al.length bl.length r = some .eq ∨
      kindOf al.length bl.length r = some .ins := fun r hr =>
    (List.mem_append.mp hr).elim (fun h => (hkA r h).imp_right Or.inl) fun h => Or.inr (Or.inr (hkB r h))
  by_cases hany : ((rsA ++ rsB).any fun r => r.isEqual) = true
  · refine ⟨st, Or.inl rfl, ?_⟩
    unfold diffBinds
    simp only [hrs, hany, Bool.not_true, Bool.false_eq_true, ↓reduceIte]
    rw [phase1_fold e i x al bl (rsA ++ rsB) hkAll, fDel_append, fDel_of_ins hkB, List.append_nil, hfD, List.foldl_append,
      fEq_fold al.length bl (fun st p => makeEqualBind e st i p.1 x (al.getD p.1 default) p.2) _ rsA hkA, phase2_foldB e i x al bl rsB hkB,
      hfE, hfI]
  · -- nothing in common: everything deleted, everything added
    have hE0 : mPairs (bindKey e.a) (bindKey e.b) al bl = [] := by
      rw [← hfE, List.map_eq_nil_iff, fEq, List.flatMap_eq_nil_iff]
      intro r hr
      rcases hkA r hr with h | h
      · exact (g_of_del h).2.1
      · exact absurd (List.any_eq_true.mpr ⟨r, List.mem_append_left _ hr, (tests_eq h).2.2⟩) hany
    obtain ⟨hD, hI⟩ := match_disjoint hE0
    refine ⟨if al.isEmpty then st else st.hit "bind:no-parts-equal", by split <;> simp, ?_⟩
    rw [hE0, hD, hI]
    unfold diffBinds
    simp only [hrs, hany, Bool.not_false, ↓reduceIte, List.foldl_nil]
    have hadd : ∀ s : St, (if bl.isEmpty then s else addBinds e s x bl) = bl.foldl (addBind1 e x) s := fun s => by
      cases bl <;> rfl
    rw [hadd]
    cases al <;> rfl

theorem intf_fold (e : Env) (al bl : List Intf) (rsA rsB : List Range)
    (hkA : ∀ r ∈ rsA, kindOf al.length bl.length r = some .del ∨ kindOf al.length bl.length r = some .eq)
    (hkB : ∀ r ∈ rsB, kindOf al.length bl.length r = some .ins) (st : St) :
    (rsA ++ rsB).foldl (fun st r =>
        if r.isInsert then st
        else if r.isEqual then
          ((slice (List.range al.length) r.lowA r.highA).zip (slice bl r.lowB r.highB)).foldl (pairStep e al) st
        else st) st =
      ((fEq rsA).map fun p => (p.1, bl.getD p.2 default)).foldl (pairStep e al) st := by
  rw [List.foldl_append]
  have hB : ∀ s0 : St, rsB.foldl (fun st r =>
        if r.isInsert then st
        else if r.isEqual then
          ((slice (List.range al.length) r.lowA r.highA).zip (slice bl r.lowB r.highB)).foldl (pairStep e al) st
        else st) s0 = s0 := fun s0 =>
    foldl_inv (P := (· = s0)) (fun r hr s hs => (if_pos (tests_ins (hkB r hr)).2.1).trans hs) rfl
  rw [hB]
  exact fEq_fold al.length bl (pairStep e al) (fun st _ => st) rsA hkA st

/-- `diffIntfs` as a fold of `pairStep` over the pairs of the matching of the interfaces by name; everything else only counts branches. -/
theorem diffIntfs_canon (e : Env) (al bl : List Intf) (hnd : (al.map (·.name)).Nodup) (st : St) :
    ∃ hs : List String, diffIntfs e st al bl = { (mPairs (·.name) (·.name) al bl).foldl (pairStep e al) st with hits := hs } := by
  obtain ⟨rsA, rsB, hrs, hkA, hkB, _, hfE, _⟩ := diffUnordered_match (·.name) (·.name) al bl hnd
  unfold diffIntfs
  simp only [hrs]
  rw [intf_fold e al bl rsA rsB hkA hkB st, hfE]
  -- the second fold only counts branches
  generalize (mPairs (·.name) (·.name) al bl).foldl (pairStep e al) st = s0
  refine foldl_inv (P := fun s => ∃ hs, s = { s0 with hits := hs }) (fun r _ s hs => ?_) ?_
  · obtain ⟨hs0, rfl⟩ := hs
    split
    · split <;> exact ⟨_, rfl⟩
    · split <;> exact ⟨_, rfl⟩
  · split <;> exact ⟨_, rfl⟩

theorem foldl_iNeeded {α : Type} (f : St → α → St) (hf : ∀ st x, (f st x).iNeeded = st.iNeeded) (l : List α) (st : St) :
    (l.foldl f st).iNeeded = st.iNeeded := by
  induction l generalizing st with
  | nil => rfl
  | cons x l ih => rw [List.foldl_cons, ih, hf]

theorem iNeeded_ite {c : Prop} [Decidable c] {a b s : St} (ha : a.iNeeded = s.iNeeded) (hb : b.iNeeded = s.iNeeded) :
    (if c then a else b).iNeeded = s.iNeeded := by
  split <;> assumption

theorem iNeeded_transferAcl (e : Env) (st : St) (bN : Name) : (transferAcl e st bN).iNeeded = st.iNeeded := by
  unfold transferAcl; split <;> rfl

theorem iNeeded_delBind1 (e : Env) (i : Nat) (x : String) (al : List Bind) (st : St) (k : Nat) :
    (delBind1 e i x al st k).iNeeded = st.iNeeded := by
  unfold delBind1
  exact iNeeded_ite (iNeeded_ite rfl rfl) (iNeeded_ite rfl rfl)

theorem iNeeded_addBind1 (e : Env) (x : String) (st : St) (b : Bind) : (addBind1 e x st b).iNeeded = st.iNeeded := by
  unfold addBind1
  split
  · have h := iNeeded_transferAcl e st b.acl
    generalize transferAcl e st b.acl = st1 at h ⊢
    exact h
  · rfl

theorem iNeeded_makeEqualBind (e : Env) (st : St) (i k : Nat) (x : String) (a b : Bind) :
    (makeEqualBind e st i k x a b).iNeeded = st.iNeeded := by
  unfold makeEqualBind
  simp only
  generalize hs : ({ st with bNeeded := (i, k) :: st.bNeeded } : St) = s
  have hsi : s.iNeeded = st.iNeeded := by rw [← hs]
  split
  · have : (diffAcl e s a.acl b.acl).1.iNeeded = s.iNeeded := by
      rcases diffAcl_cases e s a.acl b.acl with ⟨_, hd⟩ | ⟨_, _, hd⟩ | ⟨_, _, hd⟩ <;> rw [hd]
      · exact iNeeded_transferAcl ..
      · rfl
      · exact (adopt_marks e s a.acl b.acl).2.2.2.2.1
    generalize diffAcl e s a.acl b.acl = r at this ⊢
    split <;> exact this.trans hsi
  · exact hsi

theorem iNeeded_diffBinds (e : Env) (st : St) (i : Nat) (x : String) (al bl : List Bind) :
    (diffBinds e st i x al bl).iNeeded = st.iNeeded := by
  have hdel : ∀ (s : St) (idx : List Nat), (delBinds e s i x al idx).iNeeded = s.iNeeded := fun s idx =>
    foldl_iNeeded (delBind1 e i x al) (iNeeded_delBind1 e i x al) idx s
  have hadd : ∀ (s : St) (bs : List Bind), (addBinds e s x bs).iNeeded = s.iNeeded := fun s bs =>
    foldl_iNeeded (addBind1 e x) (iNeeded_addBind1 e x) bs s
  have hstep1 : ∀ (s : St) (r : Range), (if r.isDelete then
      delBinds e s i x al (slice (List.range al.length) r.lowA r.highA) else s).iNeeded = s.iNeeded := fun s r =>
    iNeeded_ite (hdel ..) rfl
  have hstep2 : ∀ (s : St) (r : Range), (if r.isInsert then
        (if r.highB ≤ r.lowB then s else addBinds e s x (slice bl r.lowB r.highB))
      else if r.isEqual then
        ((slice (List.range al.length) r.lowA r.highA).zip (slice bl r.lowB r.highB)).foldl
          (fun st p => makeEqualBind e st i p.1 x (al.getD p.1 default) p.2) s
      else s).iNeeded = s.iNeeded := fun s r =>
    iNeeded_ite (iNeeded_ite rfl (hadd ..)) (iNeeded_ite
      (foldl_iNeeded _ (fun (s : St) (p : Nat × Bind) => iNeeded_makeEqualBind e s i p.1 x (al.getD p.1 default) p.2) _ s) rfl)
  have h1 : (if al.isEmpty = true then st else
      delBinds e (st.hit "bind:no-parts-equal") i x al (List.range al.length)).iNeeded = st.iNeeded :=
    iNeeded_ite rfl (hdel ..)
  unfold diffBinds
  exact iNeeded_ite (iNeeded_ite h1 ((hadd ..).trans h1))
    ((foldl_iNeeded _ hstep2 _ _).trans (foldl_iNeeded _ hstep1 _ _))

theorem iNeeded_pairs (e : Env) (al : List Intf) (ps : List (Nat × Intf)) (st : St) :
    (∀ p ∈ ps, p.1 ∈ (ps.foldl (pairStep e al) st).iNeeded) ∧ ∀ k ∈ st.iNeeded, k ∈ (ps.foldl (pairStep e al) st).iNeeded := by
  induction ps generalizing st with
  | nil => exact ⟨fun _ h => (nomatch h), fun _ h => h⟩
  | cons p ps ih =>
    obtain ⟨j1, j2⟩ := ih (pairStep e al st p)
    have hp : (pairStep e al st p).iNeeded = p.1 :: st.iNeeded :=
      iNeeded_diffBinds e (({ st with iNeeded := p.1 :: st.iNeeded } : St).hit "intf:pair") p.1 (al.getD p.1 default).name
        (al.getD p.1 default).binds p.2.binds
    rw [List.foldl_cons]
    generalize pairStep e al st p = s1 at j1 j2 hp ⊢
    exact ⟨List.forall_mem_cons.mpr ⟨j2 _ (by rw [hp]; exact List.mem_cons_self ..), j1⟩,
      fun k hk => j2 k (by rw [hp]; exact List.mem_cons_of_mem _ hk)⟩

theorem iNeeded_diffIntfs (e : Env) (hnd : (e.a.intfs.map (·.name)).Nodup) (st : St) :
    ∀ k, k < e.a.intfs.length → (e.a.intfs.getD k default).name ∈ e.b.intfs.map (·.name) →
      k ∈ (diffIntfs e st e.a.intfs e.b.intfs).iNeeded := by
  obtain ⟨hs, hshape⟩ := diffIntfs_canon e e.a.intfs e.b.intfs hnd st
  intro k hk hkey
  obtain ⟨bi, hmem⟩ := mPairs_cov (kb := fun i : Intf => i.name) hk hkey
  rw [hshape]
  exact (iNeeded_pairs e e.a.intfs _ st).1 _ hmem

theorem nameOf_generateNames (a' b : Config) (st : St) {bN : Name} (hb : b.hasAcl bN = true) :
    (generateNames a' b st).nameOf bN = genName bN (a'.acls.map (·.1)) := by
  simp only [St.nameOf, generateNames]
  rw [lookup_map_gen (fun n => genName n (a'.acls.map (·.1))) bN b.acls ((hasAcl_config_iff b bN).mp hb)]; rfl

theorem insertR_eq : insertR = insertBy routeLe := by
  funext x l
  induction l with
  | nil => rfl
  | cons y ys ih => simp only [insertR, insertBy, ih]

theorem perm_sortRoutes (l : List Route) : (sortRoutes l).Perm l := by
  rw [sortRoutes, insertR_eq]; exact isort_perm routeLe l

theorem mem_cmpPairs {a' b : Config} {aN bN : Name} :
    (aN, bN) ∈ cmpPairs a' b ↔ ∃ ai ∈ a'.intfs, ∃ bi ∈ b.intfs, ai.name = bi.name ∧
      ∃ ba ∈ ai.binds, ∃ bb ∈ bi.binds, ba.dir = bb.dir ∧ ba.acl = aN ∧ bb.acl = bN := by
  simp only [cmpPairs, List.mem_flatMap]
  constructor
  · rintro ⟨ai, hai, bi, hbi, h⟩
    split at h
    · rename_i hn
      simp only [List.mem_flatMap, List.mem_filterMap] at h
      obtain ⟨ba, hba, bb, hbb, h2⟩ := h
      split at h2
      · rename_i hd
        simp only [Option.some.injEq, Prod.mk.injEq] at h2
        exact ⟨ai, hai, bi, hbi, by simpa using hn, ba, hba, bb, hbb, by simpa using hd, h2.1, h2.2⟩
      · cases h2
    · cases h
  · rintro ⟨ai, hai, bi, hbi, hn, ba, hba, bb, hbb, hd, rfl, rfl⟩
    refine ⟨ai, hai, bi, hbi, ?_⟩
    simp only [hn, beq_self_eq_true, ↓reduceIte, List.mem_flatMap, List.mem_filterMap]
    exact ⟨ba, hba, bb, hbb, by simp [hd]⟩

abbrev aOf (a0 b : Config) : Config := (alignVRFs a0 b {}).2
abbrev st2Of (a0 b : Config) : St := (checkInterfaces (aOf a0 b) b (alignVRFs a0 b {}).1).1
abbrev envOf (a0 b : Config) (sc : Scripts) : Env := ⟨aOf a0 b, b, sc⟩
abbrev st3Of (a0 b : Config) (sc : Scripts) : St :=
  diffIntfs (envOf a0 b sc) (generateNames (aOf a0 b) b (st2Of a0 b)) (aOf a0 b).intfs b.intfs

theorem acls_aOf (a0 b : Config) : (aOf a0 b).acls = a0.acls := (alignVRFs_config a0 b {}).1

theorem hasAcl_aOf (a0 b : Config) (n : Name) : (aOf a0 b).hasAcl n = a0.hasAcl n := Config.hasAcl_congr (acls_aOf a0 b) n

theorem lines_aOf (a0 b : Config) (n : Name) : (aOf a0 b).lines n = a0.lines n := Config.lines_congr (acls_aOf a0 b) n

theorem mem_intfs_aOf {a0 b : Config} {i : Intf} (hi : i ∈ (aOf a0 b).intfs) : i ∈ a0.intfs := by
  obtain ⟨_, ⟨pI, hpI⟩, _⟩ := alignVRFs_config a0 b {}
  rw [show (aOf a0 b).intfs = _ from hpI] at hi; exact (List.mem_filter.mp hi).1

theorem nodup_intfs_aOf {a0 : Config} (b : Config) (h : (a0.intfs.map (·.name)).Nodup) :
    ((aOf a0 b).intfs.map (·.name)).Nodup := by
  obtain ⟨_, ⟨pI, hpI⟩, _⟩ := alignVRFs_config a0 b {}
  rw [show (aOf a0 b).intfs = _ from hpI]; exact nodup_map_filter _ _ h

/-- The static facts about the interfaces of the aligned device configuration and the target, from those about the
device configuration (in the form `wfB` and `settledB` state them). -/
theorem istatic_aOf {a0 b : Config} (sc : Scripts) (hA : (a0.intfs.map (·.name)).Nodup) (hB : (b.intfs.map (·.name)).Nodup)
    (hAb : ∀ i ∈ a0.intfs, (i.binds.map (·.dir)).Nodup ∧ ∀ bd ∈ i.binds, isDir bd.dir = true ∧ a0.hasAcl bd.acl = true)
    (hBb : ∀ i ∈ b.intfs, (i.binds.map (·.dir)).Nodup ∧ ∀ bd ∈ i.binds, isDir bd.dir = true ∧ b.hasAcl bd.acl = true) :
    IStatic (envOf a0 b sc) :=
  ⟨nodup_intfs_aOf b hA, hB,
    fun ai hai => ⟨(hAb ai (mem_intfs_aOf hai)).1, fun bd hbd => ((hAb ai (mem_intfs_aOf hai)).2 bd hbd).1,
      fun bd hbd => (hasAcl_aOf a0 b bd.acl).trans ((hAb ai (mem_intfs_aOf hai)).2 bd hbd).2⟩,
    fun bi hbi => ⟨(hBb bi hbi).1, fun bd hbd => ((hBb bi hbi).2 bd hbd).1, fun bd hbd => ((hBb bi hbi).2 bd hbd).2⟩⟩

/-- `n` is referenced by a sub-command that is not `needed` of a device interface that is not `needed`. -/
def StillRef (e : Env) (st : St) (n : Name) : Prop :=
  ∃ i, i < e.a.intfs.length ∧ i ∉ st.iNeeded ∧ ∃ k, k < (e.a.intfs.getD i default).binds.length ∧ (i, k) ∉ st.bNeeded ∧
    ((e.a.intfs.getD i default).binds.getD k default).acl = n

/-- What `deleteUnused` removes: a device ACL that is not `needed`, is marked `toDelete` or carries the `-DRC-`
tag, and is not referenced any more. -/
theorem mem_duPending {e : Env} {st : St} {n : Name} :
    n ∈ (duPending e st).1 ↔
      (n ∈ e.a.acls.map (·.1) ∧ n ∉ st.aNeeded ∧ (n ∈ st.aToDel ∨ isTagged n = true)) ∧ ¬ StillRef e st n := by
  unfold duPending
  rw [(sortS_perm _).mem_iff, List.mem_filter, List.mem_filter]
  simp only [Bool.and_eq_true, Bool.not_eq_true', Bool.or_eq_true, Bool.eq_false_iff, ne_eq, List.contains_iff_mem]
  apply and_congr_right
  rintro ⟨hn, hnn, _⟩
  apply not_congr
  simp only [StillRef, List.mem_flatMap, List.mem_filter, List.mem_range, List.mem_filterMap, Bool.not_eq_true',
    Bool.eq_false_iff, ne_eq, Option.ite_none_right_eq_some, Option.some.injEq, List.contains_iff_mem]
  constructor
  · rintro ⟨i, ⟨hi, hin⟩, k, ⟨hk, hkn⟩, _, rfl⟩
    exact ⟨i, hi, hin, k, hk, hkn, rfl⟩
  · rintro ⟨i, hi, hin, k, hk, hkn, rfl⟩
    exact ⟨i, ⟨hi, hin⟩, k, ⟨hk, hkn⟩, ⟨(hasAcl_config_iff _ _).mpr hn, hnn⟩, rfl⟩

theorem duPending_diffRoutes (e : Env) (st : St) (al bl : List Route) : duPending e (diffRoutes st al bl) = duPending e st := rfl

def cleanupActs (p : List Name) : List MA := if p.isEmpty then [] else [.cleanup p]

theorem acts_deleteUnused (e : Env) (st : St) : (deleteUnused e st).acts = st.acts ++ cleanupActs (duPending e st).1 := by
  unfold deleteUnused cleanupActs
  obtain ⟨⟨p, sr⟩, hdp⟩ : ∃ r, duPending e st = r := ⟨_, rfl⟩
  rw [hdp]
  simp only
  have h4 : (if sr = true then st.hit "du:still-referenced" else st).acts = st.acts := by split <;> rfl
  split
  · rw [h4, List.append_nil]
  · show (if sr = true then st.hit "du:still-referenced" else st).acts ++ [MA.cleanup p] = _
    rw [h4]

theorem engine_ok_eq (a b : Config) (sc : Scripts) :
    (engine a b sc).ok = (checkInterfaces (alignVRFs a b {}).2 b (alignVRFs a b {}).1).2 := by
  unfold engine
  simp only
  cases (checkInterfaces (alignVRFs a b {}).2 b (alignVRFs a b {}).1).2 <;> simp

theorem engine_acts (a0 b : Config) (sc : Scripts) (hok : (engine a0 b sc).ok = true) :
    (engine a0 b sc).acts = (st3Of a0 b sc).acts ++ (routePlan (sortRoutes (aOf a0 b).routes) (sortRoutes b.routes)).1 ++
      cleanupActs (duPending (envOf a0 b sc) (st3Of a0 b sc)).1 ∧
    (engine a0 b sc).script = scriptOf (engine a0 b sc).acts := by
  have hchk := (engine_ok_eq a0 b sc).symm.trans hok
  have hrun : (engine a0 b sc).acts = (deleteUnused (envOf a0 b sc)
      (diffRoutes (st3Of a0 b sc) (sortRoutes (aOf a0 b).routes) (sortRoutes b.routes))).acts ∧
      (engine a0 b sc).script = scriptOf (engine a0 b sc).acts := by
    unfold engine
    simp only [hchk, Bool.not_true, Bool.false_eq_true, ↓reduceIte, and_self]
  refine ⟨?_, hrun.2⟩
  rw [hrun.1, acts_deleteUnused, duPending_diffRoutes]
  rfl

theorem nodup_duPending (e : Env) (st : St) (h : (e.a.acls.map (·.1)).Nodup) : (duPending e st).1.Nodup := by
  unfold duPending
  rw [(sortS_perm _).nodup_iff]
  exact List.Nodup.sublist (List.filter_sublist.trans List.filter_sublist) h

end NA.F2
