import NA.Proofs.C05Option
import NA.Core.ListFacts
/-!
C05: from options to rules — lookups in the parsed option map of a rule whose option keys are
distinct, the entries of its normal form, and the options the kernel prints.
-/
namespace NA.C05
open NA.Linux NA.Linux.Spec

theorem getA_pairsOf (k : Str) : ∀ (l : List OptW) (acc : Pairs), ((l.map fun o => (pkv o).1).Nodup) →
    getA k (pairsOf l acc) =
      match l.find? (fun o => (pkv o).1 = k) with
      | some o => some (pkv o).2
      | none => getA k acc := by
  intro l
  induction l with
  | nil => intro acc _; rfl
  | cons o os ih =>
    intro acc hnd
    simp only [List.map_cons, List.nodup_cons] at hnd
    simp only [pairsOf, List.foldl_cons] at ih ⊢
    rw [ih _ hnd.2]
    by_cases hk : (pkv o).1 = k
    · have hnone : os.find? (fun o => decide ((pkv o).1 = k)) = none :=
        List.find?_eq_none.mpr fun x hx hc => hnd.1 (by
          rw [hk, ← of_decide_eq_true hc]; exact List.mem_map_of_mem (f := fun o => (pkv o).1) hx)
      simp [hnone, hk, getA_setA]
    · simp only [List.find?_cons, hk, decide_false]
      cases os.find? (fun o => decide ((pkv o).1 = k)) with
      | some x => rfl
      | none => simp [getA_setA, hk]

theorem getA_pairsOf_iff (l : List OptW) (hnd : (l.map fun o => (pkv o).1).Nodup) (k v : Str) :
    getA k (pairsOf l []) = some v ↔ ∃ o ∈ l, pkv o = (k, v) := by
  rw [getA_pairsOf k l [] hnd]
  constructor
  · intro h
    split at h
    · next o hf =>
      obtain ⟨h1, h2⟩ := (find?_key_iff _ l hnd k o).mp hf
      exact ⟨o, h1, by rw [← h2, ← Option.some.inj h]⟩
    · cases h
  · rintro ⟨o, ho, he⟩
    rw [(find?_key_iff (fun o => (pkv o).1) l hnd k o).mpr ⟨ho, congrArg Prod.fst he⟩]
    exact congrArg (fun e => some e.2) he

theorem normalize_entries (p : Pairs) (hside : xConv p = none ∨ getA kMark p = none) (k' v' : Str) :
    getA k' (normalize p) = some v' ↔
      ∃ k v, getA k p = some v ∧ nEntry (mDrop p) (k, v) = some (k', v') := by
  rw [getA_normalize, Option.map_eq_some_iff]
  cases hx : xConv p with
  | none =>
    -- no `--set-xmark` is rewritten: every entry keeps its key
    have hxk : ∀ k v, getA k p = some v → ¬ (k = kXmark ∧ xConvV v = true) := fun k v hg hc =>
      nomatch hx.symm.trans (xConv_eq_some.mpr ⟨hc.1 ▸ hg, hc.2⟩)
    simp only [Option.ite_none_left_eq_some]
    constructor
    · rintro ⟨w, ⟨hd, hg⟩, rfl⟩
      exact ⟨k', w, hg, nEntry_eq_some.mpr ⟨hd, if_neg (hxk k' w hg)⟩⟩
    · rintro ⟨k, v, hg, hn⟩
      obtain ⟨hd, he⟩ := nEntry_eq_some.mp hn
      rw [if_neg (hxk k v hg)] at he
      obtain ⟨rfl, rfl⟩ := Prod.mk.inj he
      exact ⟨v, ⟨hd, hg⟩, rfl⟩
  | some xv =>
    -- the entry of `--set-xmark` becomes that of `--set-mark` (of which there is none), the others keep their keys
    obtain ⟨hxg, hxc⟩ := xConv_eq_some.mp hx
    have hmk : getA kMark p = none := hside.resolve_left (by rw [hx]; exact nofun)
    simp only
    constructor
    · rintro ⟨w, hw, rfl⟩
      by_cases h1 : k' = kMark
      · rw [if_pos h1] at hw
        obtain rfl := Option.some.inj hw
        exact ⟨kXmark, xv, hxg, nEntry_eq_some.mpr ⟨fun hc => kX_ne_kM hc.1, by rw [if_pos ⟨rfl, hxc⟩, h1]⟩⟩
      · simp only [if_neg h1, Option.ite_none_left_eq_some] at hw
        exact ⟨k', w, hw.2.2, nEntry_eq_some.mpr ⟨hw.2.1, if_neg fun hc => hw.1 hc.1⟩⟩
    · rintro ⟨k, v, hg, hn⟩
      obtain ⟨hd, he⟩ := nEntry_eq_some.mp hn
      by_cases hk : k = kXmark
      · obtain rfl : xv = v := Option.some.inj (hxg.symm.trans (hk ▸ hg))
        rw [if_pos ⟨hk, hxc⟩] at he
        obtain ⟨rfl, rfl⟩ := Prod.mk.inj he
        exact ⟨xv, if_pos rfl, rfl⟩
      · rw [if_neg fun hc => hk hc.1] at he
        obtain ⟨rfl, rfl⟩ := Prod.mk.inj he
        have h1 : k ≠ kMark := fun e => by rw [e, hmk] at hg; cases hg
        exact ⟨v, by rw [if_neg h1, if_neg hk, if_neg hd]; exact hg, rfl⟩

theorem mem_byRank (l : List AOpt) (a : AOpt) : a ∈ byRank l ↔ a ∈ l := (isort_perm _ l).mem_iff

theorem class_exclusive (a : AOpt) :
    (a.isHead = true → a.isProtoMatch = false ∧ a.isTarget = false) ∧
    (a.isProtoMatch = true → a.isTarget = false) := by
  cases a <;> simp [AOpt.isHead, AOpt.isProtoMatch, AOpt.isTarget]

/-- The four groups the kernel prints are exactly the options that are not a `-m` naming the protocol. -/
theorem isPM_false_iff (pn : Option Str) (a : AOpt) : isPM pn a = false ↔
    (a.isHead = true ∨ a.isProtoMatch = true ∨ inOG pn a = true ∨ a.isTarget = true) := by
  cases a <;> simp [isPM, inOG, inPG, AOpt.isHead, AOpt.isProtoMatch, AOpt.isTarget]

theorem mem_kernelOpts (cfg : KCfg) (r : ARule) (o : OptW) :
    o ∈ kernelOpts cfg r ↔
      (∃ a ∈ r, isPM (protoOf cfg r) a = false ∧ o = a.kernel cfg) ∨
      (∃ p, protoOf cfg r = some p ∧ r.any (inPG (protoOf cfg r)) = true ∧ o = ⟨.no, s "-m", [p]⟩) := by
  -- the options of one group
  have hm : ∀ (q : AOpt → Bool), o ∈ (byRank (r.filter q)).map (AOpt.kernel cfg) ↔
      ∃ a ∈ r, q a = true ∧ o = a.kernel cfg := by
    intro q
    simp only [List.mem_map, mem_byRank, List.mem_filter, and_assoc, eq_comm (a := o)]
  have hmo : o ∈ (r.filter (inOG (protoOf cfg r))).map (AOpt.kernel cfg) ↔
      ∃ a ∈ r, inOG (protoOf cfg r) a = true ∧ o = a.kernel cfg := by
    simp only [List.mem_map, List.mem_filter, and_assoc, eq_comm (a := o)]
  -- the protocol match with its `-m <proto>` in front
  have hpg : o ∈ protoGroup (protoOf cfg r) (r.any (inPG (protoOf cfg r)))
        ((byRank (r.filter AOpt.isProtoMatch)).map (AOpt.kernel cfg)) ↔
      ((∃ p, protoOf cfg r = some p ∧ r.any (inPG (protoOf cfg r)) = true ∧ o = ⟨.no, s "-m", [p]⟩) ∨
       (∃ a ∈ r, a.isProtoMatch = true ∧ o = a.kernel cfg)) := by
    unfold protoGroup
    cases hp : protoOf cfg r with
    | none => simp only [hm]; simp
    | some p =>
      by_cases hany : r.any (inPG (some p)) = true
      · simp [hany, hm]
      · simp [hany, hm]
  -- the order of the two middle groups does not matter here
  have hswap : ∀ (c : Prop) [Decidable c] (x y : List OptW),
      o ∈ (if c then x ++ y else y ++ x) ↔ o ∈ x ∨ o ∈ y := by
    intro c _ x y; split <;> simp [or_comm]
  unfold kernelOpts
  simp only [List.mem_append, hswap, hm, hmo, hpg]
  constructor
  · rintro ((⟨a, ha, hc, he⟩ | (h | ⟨a, ha, hc, he⟩) | ⟨a, ha, hc, he⟩) | ⟨a, ha, hc, he⟩)
    · exact Or.inl ⟨a, ha, (isPM_false_iff _ a).mpr (Or.inl hc), he⟩
    · exact Or.inr h
    · exact Or.inl ⟨a, ha, (isPM_false_iff _ a).mpr (Or.inr (Or.inl hc)), he⟩
    · exact Or.inl ⟨a, ha, (isPM_false_iff _ a).mpr (Or.inr (Or.inr (Or.inl hc))), he⟩
    · exact Or.inl ⟨a, ha, (isPM_false_iff _ a).mpr (Or.inr (Or.inr (Or.inr hc))), he⟩
  · rintro (⟨a, ha, hc, he⟩ | h)
    · rcases (isPM_false_iff _ a).mp hc with h1 | h1 | h1 | h1
      · exact Or.inl (Or.inl ⟨a, ha, h1, he⟩)
      · exact Or.inl (Or.inr (Or.inl (Or.inr ⟨a, ha, h1, he⟩)))
      · exact Or.inl (Or.inr (Or.inr ⟨a, ha, h1, he⟩))
      · exact Or.inr ⟨a, ha, h1, he⟩
    · exact Or.inl (Or.inr (Or.inl (Or.inl h)))

end NA.C05
