import NA.Proofs.IosConv
import NA.Proofs.CellPlan
/-!
What `planIOS` emits.  The insert runs of the model, flattened, are exactly the new-only cells in
order, with `before = countOld` and `offset = runOff`, so the number sent is `numOf`
(`insertRuns_items`).  The plan is, for every new-only cell in order, an `add`, a `move` or nothing
(suppressed move), then the deletes (bottom-up) of the old-only cells no new-only cell looked up, for
suppression decisions `g`, each with the reason the code had (`plan_general`, `RunRsn`).
-/
namespace NA.Acl

/-- (cell index, before, offset, line) -/
abbrev Item4 := Nat × Nat × Nat × Line

def itemsFrom4 (b : Nat) : Nat → Nat → List Line → List Item4
  | _, _, [] => []
  | idx, o, l :: ls => (idx, b, o, l) :: itemsFrom4 b (idx + 1) (o + 1) ls

def flat4 (runs : List (Nat × Nat × List Line)) : List Item4 :=
  runs.flatMap fun r => itemsFrom4 r.1 r.2.1 0 r.2.2

def bump (o idx : Nat) : List (Nat × Nat × List Line) → List Item4
  | [] => []
  | r :: rest => if r.2.1 == idx then itemsFrom4 r.1 r.2.1 o r.2.2 ++ flat4 rest else flat4 (r :: rest)

theorem insertRuns_cons_other (c : Cell) (M : List Cell) (idx b : Nat) (hc : c.newOnly = false) :
    insertRuns (c :: M) idx b = insertRuns M (idx + 1) (if c.old then b + 1 else b) := by
  have hc' : (c.new && !c.old) = false := hc
  rw [insertRuns, if_neg (by simp [hc'])]

/-- A new-only cell opens a run; the run that starts at the next cell with the same `before`, if
there is one, is joined to it. -/
theorem insertRuns_cons_newOnly (c : Cell) (M : List Cell) (idx b : Nat) (hc : c.newOnly = true) :
    ∃ ls rest, insertRuns (c :: M) idx b = (b, idx, c.line :: ls) :: rest ∧
      (∀ r ∈ rest, r ∈ insertRuns M (idx + 1) b) ∧
      (insertRuns M (idx + 1) b = (b, idx + 1, ls) :: rest ∨
        ls = [] ∧ rest = insertRuns M (idx + 1) b ∧
          ∀ r rest', rest = r :: rest' → ¬ (r.1 = b ∧ r.2.1 = idx + 1)) := by
  have hc' : (c.new && !c.old) = true := hc
  rw [insertRuns, if_pos hc']
  cases hR : insertRuns M (idx + 1) b with
  | nil => exact ⟨[], [], rfl, fun _ h => h, Or.inr ⟨rfl, rfl, fun r rest' h => nomatch h⟩⟩
  | cons r' rest =>
    obtain ⟨b', i', ls⟩ := r'
    by_cases hm : (b' == b && i' == idx + 1) = true
    · simp only [hm, if_true]
      simp only [Bool.and_eq_true, beq_iff_eq] at hm
      obtain ⟨rfl, rfl⟩ := hm
      exact ⟨ls, rest, rfl, fun r h => List.mem_cons_of_mem _ h, Or.inl rfl⟩
    · simp only [hm]
      refine ⟨[], _, rfl, fun _ h => h, Or.inr ⟨rfl, rfl, fun r rest' h hr => hm ?_⟩⟩
      obtain ⟨rfl, -⟩ := List.cons.inj h
      simpa using hr

theorem insertRuns_ge (M : List Cell) (idx b : Nat) :
    ∀ r ∈ insertRuns M idx b, idx ≤ r.2.1 ∧ b ≤ r.1 := by
  induction M generalizing idx b with
  | nil => simp [insertRuns]
  | cons c M ih =>
    intro r hr
    cases hc : c.newOnly with
    | true =>
      obtain ⟨ls, rest, heq, hsub, -⟩ := insertRuns_cons_newOnly c M idx b hc
      rw [heq] at hr
      rcases List.mem_cons.mp hr with rfl | hr
      · exact ⟨Nat.le_refl _, Nat.le_refl _⟩
      · have := ih (idx + 1) b r (hsub r hr)
        exact ⟨Nat.le_of_succ_le this.1, this.2⟩
    | false =>
      rw [insertRuns_cons_other c M idx b hc] at hr
      have := ih _ _ r hr
      exact ⟨Nat.le_of_succ_le this.1, Nat.le_trans (by split <;> omega) this.2⟩

theorem insertRuns_head_before (M : List Cell) (idx b : Nat) (r : Nat × Nat × List Line)
    (rest : List (Nat × Nat × List Line)) (h : insertRuns M idx b = r :: rest) (hi : r.2.1 = idx) :
    r.1 = b := by
  cases M with
  | nil => simp [insertRuns] at h
  | cons c M =>
    cases hc : c.newOnly with
    | true =>
      obtain ⟨ls, rest', heq, -, -⟩ := insertRuns_cons_newOnly c M idx b hc
      rw [heq] at h
      rw [← (List.cons.inj h).1]
    | false =>
      rw [insertRuns_cons_other c M idx b hc] at h
      have := (insertRuns_ge M (idx + 1) _ r (by rw [h]; exact List.mem_cons_self)).1
      omega

theorem bump_zero (idx : Nat) (runs : List (Nat × Nat × List Line)) : bump 0 idx runs = flat4 runs := by
  cases runs with
  | nil => rfl
  | cons r rest => simp only [bump]; split <;> simp [flat4]

def item4 (M : List Cell) (j : Nat) : Item4 := (j, countOld M j, runOff M j, (M.getD j default).line)

/-- The runs found in a suffix `M` of `pre ++ M`, flattened, with the offset of a run that starts at
once continued from `pre`: the new-only cells of `M` with their `before` and offset. -/
theorem bump_insertRuns (pre M : List Cell) :
    bump (runOff (pre ++ M) pre.length) pre.length
        (insertRuns M pre.length (countOld (pre ++ M) pre.length)) =
      ((List.range' pre.length M.length).filter fun i => ((pre ++ M).getD i default).newOnly).map
        (item4 (pre ++ M)) := by
  induction M generalizing pre with
  | nil => simp [insertRuns, bump]
  | cons c M ih =>
    have hget : (pre ++ c :: M).getD pre.length default = c := by
      simp [List.getD_eq_getElem?_getD]
    have hlen : pre.length < (pre ++ c :: M).length := by simp
    have ih' := ih (pre ++ [c])
    have happ : pre ++ [c] ++ M = pre ++ c :: M := by simp
    rw [happ] at ih'
    simp only [List.length_append, List.length_cons, List.length_nil, Nat.zero_add] at ih'
    rw [countOld_succ _ _ hlen, hget] at ih'
    simp only [runOff, hget] at ih'
    simp only [List.length_cons, List.range'_succ, List.filter_cons, hget]
    have hitem : item4 (pre ++ c :: M) pre.length = (pre.length, countOld (pre ++ c :: M) pre.length,
        runOff (pre ++ c :: M) pre.length, c.line) := by rw [item4, hget]
    generalize countOld (pre ++ c :: M) pre.length = b at ih' hitem ⊢
    generalize runOff (pre ++ c :: M) pre.length = o at ih' hitem ⊢
    cases hc : c.newOnly with
    | true =>
      have hold : c.old = false := by
        simp [Cell.newOnly] at hc; exact hc.2
      simp only [hc, if_true, List.map_cons, hold, Bool.false_eq_true, if_false, Nat.add_zero] at ih' ⊢
      obtain ⟨ls, rest, heq, -, hrest⟩ := insertRuns_cons_newOnly c M pre.length b hc
      rw [heq, ← ih']
      rcases hrest with hR | ⟨rfl, rfl, hhead⟩
      · rw [hR]; simp [bump, itemsFrom4, hitem]
      · cases hR : insertRuns M (pre.length + 1) b with
        | nil => simp [bump, itemsFrom4, flat4, hitem]
        | cons r' rest' =>
          have hi : r'.2.1 ≠ pre.length + 1 := fun hi =>
            hhead r' rest' hR ⟨insertRuns_head_before M (pre.length + 1) b _ _ hR hi, hi⟩
          simp [bump, itemsFrom4, hi, flat4, hitem]
    | false =>
      simp only [hc, Bool.false_eq_true, if_false] at ih' ⊢
      rw [insertRuns_cons_other c M pre.length b hc, ← ih', bump_zero]
      have hb : (b + if c.old = true then 1 else 0) = if c.old = true then b + 1 else b := by
        cases c.old <;> rfl
      rw [hb]
      cases hR : insertRuns M (pre.length + 1) (if c.old = true then b + 1 else b) with
      | nil => rfl
      | cons r rest =>
        have := (insertRuns_ge M (pre.length + 1) _ r (by rw [hR]; exact List.mem_cons_self)).1
        have hne : r.2.1 ≠ pre.length := by omega
        simp [bump, hne]

theorem insertRuns_items (M : List Cell) : flat4 (insertRuns M 0 0) = (addIdx M).map (item4 M) := by
  have := bump_insertRuns [] M
  simp only [List.length_nil, List.nil_append] at this
  have h0 : countOld M 0 = 0 := by simp [countOld]
  rw [h0] at this
  simp only [runOff] at this
  rw [← bump_zero 0, this, addIdx, List.range_eq_range']
  rfl

/-- (number, line), as the planner sends them -/
abbrev Item := Nat × Line

def itemsFrom (before : Nat) : Nat → List Line → List Item
  | _, [] => []
  | i, l :: ls => (before * 10000 + i + 1, l) :: itemsFrom before (i + 1) ls

def runItems (r : Nat × Nat × List Line) : List Item := itemsFrom r.1 0 r.2.2

def Item4.toItem (x : Item4) : Item := (x.2.1 * 10000 + x.2.2.1 + 1, x.2.2.2)

theorem itemsFrom4_toItem (b idx o : Nat) (ls : List Line) :
    (itemsFrom4 b idx o ls).map Item4.toItem = itemsFrom b o ls := by
  induction ls generalizing idx o with
  | nil => rfl
  | cons l ls ih => simp [itemsFrom4, itemsFrom, Item4.toItem, ih]

theorem flat4_toItem (runs : List (Nat × Nat × List Line)) :
    (flat4 runs).map Item4.toItem = runs.flatMap runItems := by
  rw [flat4, List.map_flatMap]
  exact ListFacts.flatMap_congr fun r _ => itemsFrom4_toItem r.1 r.2.1 0 r.2.2

def newItem (M : List Cell) (j : Nat) : Item := (numOf M j, (M.getD j default).line)

/-- `mem_addIdx` (NA/Proofs/CellPlan.lean) with the two flags folded into `newOnly`, the form `runOff`
tests. -/
theorem mem_addIdxI {M : List Cell} {j : Nat} :
    j ∈ addIdx M ↔ j < M.length ∧ (M.getD j default).newOnly = true := by
  simp [addIdx, Cell.newOnly]

theorem insertRuns_numOf (M : List Cell) :
    (insertRuns M 0 0).flatMap runItems = (addIdx M).map (newItem M) := by
  rw [← flat4_toItem, insertRuns_items, List.map_map]
  apply List.map_congr_left
  intro j hj
  simp only [Function.comp, item4, Item4.toItem, newItem, numOf, ((mem_addIdx M j).1 hj).2.1,
    Bool.false_eq_true, if_false]

theorem mem_itemsFrom4 (bf idx o : Nat) (ls : List Line) (x : Item4) :
    x ∈ itemsFrom4 bf idx o ls ↔
      ∃ i, ls[i]? = some x.2.2.2 ∧ x.1 = idx + i ∧ x.2.1 = bf ∧ x.2.2.1 = o + i := by
  induction ls generalizing idx o with
  | nil => simp [itemsFrom4]
  | cons l ls ih =>
    rw [itemsFrom4, List.mem_cons, ih]
    constructor
    · rintro (rfl | ⟨i, h1, h2, h3, h4⟩)
      · exact ⟨0, rfl, rfl, rfl, rfl⟩
      · exact ⟨i + 1, h1, h2.trans (Nat.add_right_comm idx 1 i), h3,
          h4.trans (Nat.add_right_comm o 1 i)⟩
    · rintro ⟨i, h1, h2, h3, h4⟩
      cases i with
      | zero =>
        obtain ⟨x1, x2, x3, x4⟩ := x
        have h1 : l = x4 := Option.some.inj h1
        subst h1 h2 h3 h4
        exact Or.inl rfl
      | succ i =>
        exact Or.inr ⟨i, h1, h2.trans (Nat.add_right_comm idx i 1), h3,
          h4.trans (Nat.add_right_comm o i 1)⟩

theorem itemsFrom4_off_lt (b idx o : Nat) (ls : List Line) :
    ∀ x ∈ itemsFrom4 b idx o ls, x.2.2.1 < o + ls.length := by
  intro x hx
  obtain ⟨i, h1, -, -, h4⟩ := (mem_itemsFrom4 b idx o ls x).mp hx
  have := (List.getElem?_eq_some_iff.mp h1).1
  omega

/-- `errlog.Abort("Can't insert more than 9999 ACL lines at once")` not taken.  The code tests every
insert range of the script; `myers.Diff` joins neighbouring ranges of one kind (`combineRanges`), so
these are the maximal runs of new-only cells that `insertRuns` rebuilds from the cells. -/
def runsOK (M : List Cell) : Bool := (insertRuns M 0 0).all fun r => r.2.2.length < 10000

theorem runsShort_of_runsOK (M : List Cell) (h : runsOK M = true) : runsShort M := by
  have hall : ∀ x ∈ flat4 (insertRuns M 0 0), x.2.2.1 + 1 < 10000 := by
    intro x hx
    simp only [flat4, List.mem_flatMap] at hx
    obtain ⟨r, hr, hxr⟩ := hx
    have h1 := itemsFrom4_off_lt _ _ _ _ x hxr
    have h2 := (List.all_eq_true.mp h) r hr
    simp only [decide_eq_true_eq] at h2
    omega
  rw [insertRuns_items] at hall
  intro i hi
  cases i with
  | zero => simp [runOff]
  | succ k =>
    simp only [runOff]
    split
    · rename_i hn
      have hk : k ∈ addIdx M := mem_addIdxI.mpr ⟨by omega, hn⟩
      have := hall (item4 M k) (List.mem_map.mpr ⟨k, hk, rfl⟩)
      simpa [item4] using this
    · omega

def lookupI (M : List Cell) (it : Item) : Option Nat := iosDelLookup M it.2.mkey

/-- What the planner emits for one inserted line; the flag says "move suppressed". -/
def itemOps (M : List Cell) (x : Item × Bool) : List IOp :=
  match iosDelLookup M x.1.2.mkey with
  | none => [IOp.add x.1.1 x.1.2]
  | some ai => if x.2 then [] else [IOp.move ((ai + 1) * 10000) x.1.1 x.1.2]

/-- The suppression test of `moveACL` (without `moveOK`). -/
def blkCond (blk : List Nat) (before : Nat) (sameAct : Bool) (ai : Nat) : Bool :=
  (decide (before > 0) && blk.getD (before - 1) 0 == blk.getD ai 0) ||
    (sameAct && decide (before < blk.length) && blk.getD before 0 == blk.getD ai 0)

/-- `Rsn`: what is known about an item whose move was suppressed. -/
def AddInv (M : List Cell) (Rsn : Item → Prop) (done : List Item) (st : IosSt) : Prop :=
  ∃ flags : List Bool, flags.length = done.length ∧
    st.ops = ((done.zip flags).flatMap (itemOps M)).reverse ∧
    st.moved = (done.filterMap (lookupI M)).reverse ∧
    ∀ x ∈ done.zip flags, x.2 = true → Rsn x.1

theorem AddInv.snoc {M : List Cell} {Rsn : Item → Prop} {done : List Item} {st st' : IosSt}
    (h : AddInv M Rsn done st) (it : Item) (f : Bool)
    (hops : st'.ops = (itemOps M (it, f)).reverse ++ st.ops)
    (hmoved : st'.moved = (lookupI M it).toList ++ st.moved) (hf : f = true → Rsn it) :
    AddInv M Rsn (done ++ [it]) st' := by
  obtain ⟨flags, hlen, ho, hm, hrsn⟩ := h
  refine ⟨flags ++ [f], by simp [hlen], ?_, ?_, ?_⟩
  · simp [List.zip_append hlen.symm, hops, ho]
  · rw [hmoved, hm, List.filterMap_append, List.reverse_append]
    cases hl : lookupI M it <;> simp [hl]
  · intro x hx hx2
    rw [List.zip_append hlen.symm] at hx
    rcases List.mem_append.mp hx with hx | hx
    · exact hrsn x hx hx2
    · have hx : x = (it, f) := by simpa using hx
      subst hx
      exact hf hx2

/-- The loop of `iosRun` from line `i` of a run on; `ok` is `moveOK` so far.  `hR`: what a set flag
for line `i + k` entitles to. -/
theorem go_inv (M : List Cell) (Rsn : Item → Prop) (blk : List Nat) (before : Nat) (al : List Line)
    (action0 : Act) (sameAct : Bool) (ls : List Line) (i : Nat) (ok : Bool)
    (hR : ∀ k b ai, ls[k]? = some b →
      (ok && (ls.take (k + 1)).all fun c => action0 == c.act) = true →
      iosDelLookup M b.mkey = some ai → blkCond blk before sameAct ai = true →
      Rsn (before * 10000 + (i + k) + 1, b))
    (st : IosSt) (done : List Item)
    (h : AddInv M Rsn done st)
    (hnd : ((done ++ itemsFrom before i ls).filterMap (lookupI M)).Nodup) :
    AddInv M Rsn (done ++ itemsFrom before i ls)
      (iosRun.go M blk before al action0 sameAct ls i ok st) := by
  induction ls generalizing i ok st done with
  | nil => simpa [itemsFrom, iosRun.go] using h
  | cons b rest ih =>
    simp only [iosRun.go, itemsFrom] at hnd ⊢
    rw [List.append_cons] at hnd ⊢
    refine ih (i + 1) (ok && action0 == b.act) (fun k b' ai hk hok hl hc => ?_) _ _ ?_ hnd
    · have := hR (k + 1) b' ai hk (by simpa [List.take_succ_cons, Bool.and_assoc] using hok) hl hc
      rwa [show i + (k + 1) = i + 1 + k by omega] at this
    cases hl : iosDelLookup M b.mkey with
    | none => exact h.snoc _ false (by simp [itemOps, hl]) (by simp [lookupI, hl]) (by simp)
    | some ai =>
      -- the lookups are pairwise different, so `ai` was not moved before
      have hnot : st.moved.contains ai = false := by
        rw [List.filterMap_append, List.filterMap_append] at hnd
        have h1 := (List.nodup_append.mp (List.nodup_append.mp hnd).1).2.2
        cases hc : st.moved.contains ai with
        | false => rfl
        | true =>
          have hm : ai ∈ st.moved := List.contains_iff_mem.mp hc
          obtain ⟨_, _, _, hmoved, _⟩ := h
          rw [hmoved, List.mem_reverse] at hm
          exact absurd rfl (h1 ai hm ai (by simp [lookupI, hl]))
      simp only [hnot, Bool.false_eq_true, if_false]
      split
      · rename_i hsup
        rw [Bool.and_eq_true] at hsup
        exact h.snoc _ true (by simp [itemOps, hl]) (by simp [lookupI, hl]) fun _ =>
          hR 0 b ai rfl (by simpa using hsup.1) hl hsup.2
      · exact h.snoc _ false (by simp [itemOps, hl]) (by simp [lookupI, hl]) (by simp)

/-- What `iosRun` knows when it suppresses the move of line `i` of run `r`. -/
def RunRsn (M : List Cell) (blk : List Nat) (r : Nat × Nat × List Line) (it : Item) : Prop :=
  ∃ i b ai, r.2.2[i]? = some b ∧ it = (r.1 * 10000 + i + 1, b) ∧
    ((r.2.2.take (i + 1)).all fun c => (r.2.2.headD default).act == c.act) = true ∧
    iosDelLookup M b.mkey = some ai ∧
    blkCond blk r.1 (r.2.2.all fun c => c.act == (r.2.2.headD default).act) ai = true

theorem runs_inv (M : List Cell) (Rsn : Item → Prop) (blk : List Nat)
    (runs : List (Nat × Nat × List Line))
    (hR : ∀ r ∈ runs, ∀ it, RunRsn M blk r it → Rsn it)
    (st : IosSt) (done : List Item) (h : AddInv M Rsn done st)
    (hnd : ((done ++ runs.flatMap runItems).filterMap (lookupI M)).Nodup) :
    AddInv M Rsn (done ++ runs.flatMap runItems) (runs.foldl (iosRun M blk) st) := by
  induction runs generalizing st done with
  | nil => simpa using h
  | cons r rest ih =>
    obtain ⟨b, i, ls⟩ := r
    simp only [List.flatMap_cons, List.foldl_cons] at hnd ⊢
    rw [← List.append_assoc] at hnd ⊢
    apply ih (fun r hr => hR r (List.mem_cons_of_mem _ hr))
    · have hnd' : ((done ++ itemsFrom b 0 ls).filterMap (lookupI M)).Nodup := by
        rw [List.filterMap_append] at hnd
        exact (List.nodup_append.mp hnd).1
      exact go_inv M Rsn blk b (olds M) (ls.headD default).act
        (ls.all fun c => c.act == (ls.headD default).act) ls 0 true
        (fun k b' ai h1 h2 h3 h4 => hR (b, i, ls) List.mem_cons_self _
          ⟨k, b', ai, h1, by simp, by simpa using h2, h3, h4⟩)
        st done h hnd'
    · exact hnd

def delStep (st : IosSt) (ai : Nat) : IosSt :=
  if st.moved.contains ai then st else { st with ops := IOp.del ((ai + 1) * 10000) :: st.ops }

theorem delFold_ops (ais : List Nat) (st : IosSt) :
    (ais.foldl delStep st).ops =
      ((ais.filter fun ai => !st.moved.contains ai).map fun ai => IOp.del ((ai + 1) * 10000)).reverse
        ++ st.ops := by
  induction ais generalizing st with
  | nil => simp
  | cons a ais ih =>
    simp only [List.foldl_cons]
    rw [ih]
    unfold delStep
    by_cases hc : a ∈ st.moved <;> simp [hc]

theorem delLookup_of (M : List Cell) (hn : ((olds M).map (·.mkey)).Nodup) {i : Nat}
    (hi : i ∈ delIdx M) : delLookup M (M.getD i default).line.mkey = some i := by
  cases h : delLookup M (M.getD i default).line.mkey with
  | none => exact absurd rfl (delLookup_noneI h i hi)
  | some i' =>
    obtain ⟨hl', ho', -, h2⟩ := delLookup_some M _ i' h
    obtain ⟨hl, ho, -⟩ := (mem_delIdx M i).1 hi
    rw [oldInj_of_nodup M hn _ _ hl' hl ho' ho h2]

theorem lookups_nodup (M : List Cell) (hnn : ((news M).map (·.mkey)).Nodup) :
    (((addIdx M).map (newItem M)).filterMap (lookupI M)).Nodup := by
  rw [List.filterMap_map, List.nodup_iff_pairwise_ne]
  have hnd : (addIdx M).Pairwise (· ≠ ·) := by
    rw [← List.nodup_iff_pairwise_ne]
    exact List.Nodup.sublist List.filter_sublist List.nodup_range
  rw [List.pairwise_filterMap]
  refine List.Pairwise.imp_of_mem ?_ hnd
  intro j j' hj hj' hne b hb b' hb' hbb
  apply hne
  simp only [Function.comp, lookupI, newItem, iosDelLookup, Option.map_eq_some_iff] at hb hb'
  obtain ⟨d, hd, rfl⟩ := hb
  obtain ⟨d', hd', hcd⟩ := hb'
  obtain ⟨hl, ho, -, h2⟩ := delLookup_some M _ d hd
  obtain ⟨hl', ho', -, h2'⟩ := delLookup_some M _ d' hd'
  have hdd : d' = d := countOld_inj M hl' hl ho' ho (by rw [hcd, hbb])
  subst hdd
  obtain ⟨hjl, -, hjn⟩ := (mem_addIdx M j).1 hj
  obtain ⟨hjl', -, hjn'⟩ := (mem_addIdx M j').1 hj'
  exact newInj_of_nodup M hnn _ _ hjl hjl' hjn hjn' (by rw [← h2, ← h2'])

attribute [-simp] List.getD_eq_getElem?_getD

/-- Suppressed: the planner's flag is set and there is a deleted line to move. -/
def supprAt (M : List Cell) (g : Nat → Bool) (j : Nat) : Bool :=
  g j && (delLookup M (M.getD j default).line.mkey).isSome

theorem mem_addIdx_of_suppr (M : List Cell) (g : Nat → Bool) :
    ∀ j ∈ (addIdx M).filter (supprAt M g), j ∈ addIdx M := fun _ hj => (List.mem_filter.mp hj).1

theorem suppr_nodup (M : List Cell) (g : Nat → Bool) : ((addIdx M).filter (supprAt M g)).Nodup :=
  (List.nodup_range.sublist List.filter_sublist).sublist List.filter_sublist

/-- What the planner sends for new-only cell `j` under suppression flags `g`. -/
def cellOpsG (M : List Cell) (g : Nat → Bool) (j : Nat) : List IOp := itemOps M (newItem M j, g j)

theorem cellOpsG_of_none (M : List Cell) (g : Nat → Bool) {j : Nat}
    (hl : delLookup M (M.getD j default).line.mkey = none) :
    cellOpsG M g j = [IOp.add (numOf M j) (M.getD j default).line] := by
  simp [cellOpsG, itemOps, newItem, iosDelLookup, hl]

theorem cellOpsG_of_some (M : List Cell) (g : Nat → Bool) {j d : Nat}
    (hl : delLookup M (M.getD j default).line.mkey = some d) :
    cellOpsG M g j =
      if g j then [] else [IOp.move (numOf M d) (numOf M j) (M.getD j default).line] := by
  simp [cellOpsG, itemOps, newItem, iosDelLookup, hl, numOf_old M d (delLookup_some M _ d hl).2.1]

def IOp.isAddMove : IOp → Bool
  | .add _ _ => true
  | .move _ _ _ => true
  | _ => false

def movedOf (M : List Cell) : List Nat := ((addIdx M).map (newItem M)).filterMap (lookupI M)

def delsOf (M : List Cell) : List IOp :=
  (((delIdx M).map (countOld M)).reverse.filter fun ai => !(movedOf M).contains ai).map
    fun ai => IOp.del ((ai + 1) * 10000)

theorem flags_as_fun (l : List Nat) (hnd : l.Nodup) (flags : List Bool) (hlen : flags.length = l.length) :
    ∃ g : Nat → Bool, flags = l.map g := by
  refine ⟨fun x => flags.getD (l.idxOf x) false, List.ext_getElem (by simp [hlen]) fun i h1 h2 => ?_⟩
  simp [List.Nodup.idxOf_getElem hnd, List.getD_eq_getElem?_getD, h1]

theorem plan_general (M : List Cell) (hboth : (M.any fun c => c.old && c.new) = true)
    (hnn : ((news M).map (·.mkey)).Nodup) :
    ∃ g : Nat → Bool, planIOS M = (addIdx M).flatMap (cellOpsG M g) ++ delsOf M ∧
      ∀ j ∈ addIdx M, g j = true → ∃ r ∈ insertRuns M 0 0, RunRsn M
        (blockPass (olds M) (insertRuns M 0 0) (blocksOf (olds M)) (maxBlock (olds M))).1 r
        (newItem M j) := by
  have hnd := lookups_nodup M hnn
  rw [← insertRuns_numOf] at hnd
  unfold planIOS planIOS'
  simp only [hboth, Bool.not_true, Bool.false_eq_true, if_false]
  generalize (blockPass (olds M) (insertRuns M 0 0) (blocksOf (olds M)) (maxBlock (olds M))) = bp
  obtain ⟨blk, mx⟩ := bp
  -- the add phase, with the flags the loop collects
  have h0 : AddInv M (fun it => ∃ r ∈ insertRuns M 0 0, RunRsn M blk r it) [] {} :=
    ⟨[], rfl, rfl, rfl, fun _ hx => nomatch hx⟩
  have h1 := runs_inv M _ blk (insertRuns M 0 0) (fun r hr it hit => ⟨r, hr, hit⟩) {} [] h0
    (by simpa using hnd)
  simp only [List.nil_append, insertRuns_numOf] at h1
  obtain ⟨flags, hlen, hops, hmoved, hrsn⟩ := h1
  -- the flags as a function of the cell
  obtain ⟨g, rfl⟩ := flags_as_fun (addIdx M)
    (List.Nodup.sublist List.filter_sublist List.nodup_range) flags (by simpa using hlen)
  rw [List.zip_map'] at hops hrsn
  refine ⟨g, ?_, fun j hj hgj => hrsn (newItem M j, g j) (List.mem_map.mpr ⟨j, hj, rfl⟩) hgj⟩
  have := delFold_ops ((delIdx M).map (countOld M)).reverse
    ((insertRuns M 0 0).foldl (iosRun M blk) {})
  unfold delStep at this
  rw [this, hops, hmoved, List.flatMap_map]
  simp only [List.reverse_append, List.reverse_reverse]
  exact congrArg _ (congrArg _ (List.filter_congr fun x _ => by rw [List.contains_reverse]; rfl))

theorem cellOpsG_addMove (M : List Cell) (g : Nat → Bool) (j : Nat) :
    ((cellOpsG M g j).filter IOp.isAddMove).length = if supprAt M g j then 0 else 1 := by
  unfold supprAt
  cases hl : delLookup M (M.getD j default).line.mkey with
  | none => rw [cellOpsG_of_none M g hl, Option.isSome_none, Bool.and_false]; rfl
  | some d => rw [cellOpsG_of_some M g hl, Option.isSome_some, Bool.and_true]; cases g j <;> rfl

theorem suppr_count (M : List Cell) (g : Nat → Bool) (js : List Nat) :
    ((js.flatMap (cellOpsG M g)).filter IOp.isAddMove).length + (js.filter (supprAt M g)).length =
      js.length := by
  induction js with
  | nil => rfl
  | cons j js ih =>
    rw [List.flatMap_cons, List.filter_append, List.length_append, cellOpsG_addMove, List.filter_cons,
      List.length_cons]
    cases supprAt M g j <;> simp only [if_true, if_false, Bool.false_eq_true, List.length_cons] <;>
      omega

theorem delsOf_filter (M : List Cell) : (delsOf M).filter IOp.isAddMove = [] := by
  rw [List.filter_eq_nil_iff]
  intro a ha
  simp only [delsOf, List.mem_map] at ha
  obtain ⟨i, _, rfl⟩ := ha
  simp [IOp.isAddMove]

theorem suppr_nil_of_count (M : List Cell) (g : Nat → Bool)
    (hg : planIOS M = (addIdx M).flatMap (cellOpsG M g) ++ delsOf M)
    (hcount : ((planIOS M).filter IOp.isAddMove).length = (addIdx M).length) :
    (addIdx M).filter (supprAt M g) = [] := by
  rw [hg, List.filter_append, delsOf_filter, List.append_nil] at hcount
  have := suppr_count M g (addIdx M)
  exact List.length_eq_zero_iff.1 (by omega)

theorem suppr_nil_of_no_moves (M : List Cell) (g : Nat → Bool)
    (hnm : ∀ i ∈ delIdx M, ∀ j ∈ addIdx M,
      (M.getD i default).line.mkey ≠ (M.getD j default).line.mkey) :
    (addIdx M).filter (supprAt M g) = [] := by
  refine List.filter_eq_nil_iff.2 fun j hj hs => ?_
  rw [supprAt, Bool.and_eq_true, Option.isSome_iff_exists] at hs
  obtain ⟨-, d, hl⟩ := hs
  exact hnm d (delLookup_someI hl).1 j hj (delLookup_someI hl).2

theorem mem_movedOf {M : List Cell} {ai : Nat} :
    ai ∈ movedOf M ↔ ∃ j ∈ addIdx M, iosDelLookup M (M.getD j default).line.mkey = some ai := by
  simp [movedOf, List.mem_filterMap, lookupI, newItem]

theorem moved_iff (M : List Cell) (hno : ((olds M).map (·.mkey)).Nodup) {i : Nat}
    (hi : i ∈ delIdx M) : countOld M i ∈ movedOf M ↔
      ∃ j ∈ addIdx M, (M.getD j default).line.mkey = (M.getD i default).line.mkey := by
  rw [mem_movedOf]
  constructor
  · rintro ⟨j, hj, hl⟩
    refine ⟨j, hj, ?_⟩
    simp only [iosDelLookup, Option.map_eq_some_iff] at hl
    obtain ⟨d, hd, hc⟩ := hl
    obtain ⟨hdl, hdo, -, h2⟩ := delLookup_some M _ d hd
    obtain ⟨hil, hio, -⟩ := (mem_delIdx M i).1 hi
    have := countOld_inj M hdl hil hdo hio hc
    subst this
    exact h2.symm
  · rintro ⟨j, hj, hm⟩
    refine ⟨j, hj, ?_⟩
    have := delLookup_of M hno hi
    rw [← hm] at this
    simp [iosDelLookup, this]

theorem delsOf_eq (M : List Cell) :
    delsOf M = ((delIdx M).reverse.filter fun i => !(movedOf M).contains (countOld M i)).map
      fun i => IOp.del (numOf M i) := by
  unfold delsOf
  rw [← List.map_reverse, List.filter_map, List.map_map]
  apply List.map_congr_left
  intro i hi
  have hi' : i ∈ delIdx M := by
    have := (List.mem_filter.mp hi).1
    exact List.mem_reverse.mp this
  simp [numOf_old M i ((mem_delIdx M i).1 hi').2.1]

end NA.Acl
