import NA.Proofs.F1Check
/-!
# F1: the run as stations and operations (the model alone)

What the end-to-end theorems of all three invariants read off the engine before any device is looked at.
-/
namespace NA.F1
open NA.Acl (Range)
open NA.ListFacts

/-- What `markNeeded` of the commands of unknown interfaces leaves. -/
structure CIMarks (e : Env) (s : St) : Prop where
  aReady : s.aReady = []
  closed : ∀ X ∈ s.aNeeded, ∀ l ∈ e.aLines X, ∀ g ∈ l.refs, g ∈ s.gNeeded

theorem markNeededBind_marks (e : Env) (s : St) (i : Nat) (h : CIMarks e s) :
    CIMarks e ((markNeededBind e s i).hit "intf:unmanaged-binding") := by
  refine ⟨h.aReady, ?_⟩
  intro X hX l hl g hg
  show g ∈ ((e.aLines (e.a.binds.getD i default).acl).flatMap (·.refs)).foldl (fun s g => addSet g s) s.gNeeded
  rw [mem_foldl_addSet]
  have hX' : X ∈ addSet (e.a.binds.getD i default).acl s.aNeeded := hX
  rcases mem_addSet.mp hX' with e1 | e1
  · left
    subst e1
    exact List.mem_flatMap.mpr ⟨l, hl, hg⟩
  · right; exact h.closed X e1 l hl g hg

theorem markFold_needed (e : Env) : ∀ (l : List Nat) (s : St),
    (∀ i ∈ l, aclOfI e i ∈ (l.foldl (fun st i => (markNeededBind e st i).hit "intf:unmanaged-binding") s).aNeeded) ∧
    (∀ x ∈ s.aNeeded, x ∈ (l.foldl (fun st i => (markNeededBind e st i).hit "intf:unmanaged-binding") s).aNeeded) := by
  intro l
  induction l with
  | nil => intro s; exact ⟨fun i hi => by simp at hi, fun x hx => hx⟩
  | cons j js ih =>
    intro s
    rw [List.foldl_cons]
    obtain ⟨h1, h2⟩ := ih ((markNeededBind e s j).hit "intf:unmanaged-binding")
    refine ⟨?_, ?_⟩
    · intro i hi
      rcases List.mem_cons.mp hi with e1 | e1
      · subst e1
        apply h2
        show aclOfI e i ∈ addSet (e.a.binds.getD i default).acl s.aNeeded
        exact mem_addSet.mpr (Or.inl rfl)
      · exact h1 i e1
    · intro x hx
      apply h2
      show x ∈ addSet (e.a.binds.getD j default).acl s.aNeeded
      exact mem_addSet.mpr (Or.inr hx)

/-- The result of `checkInterfaces`: `um` = the access-group commands of the interfaces unknown to the target. -/
theorem checkInterfaces_eq (e : Env) (st : St) (managed : List Nat) (h : checkInterfaces e {} = some (st, managed)) :
    ∃ um : List Nat, (∀ i ∈ um, (e.a.binds.getD i default).intf ∉ e.b.binds.map (·.intf)) ∧
      st = um.foldl (fun st i => (markNeededBind e st i).hit "intf:unmanaged-binding") {} ∧
      ∀ i, i ∈ managed ↔ i < e.a.binds.length ∧ i ∉ um := by
  unfold checkInterfaces at h
  simp only [] at h
  split at h
  · simp only [Option.some.injEq, Prod.mk.injEq] at h
    obtain ⟨h1, h2⟩ := h
    refine ⟨_, ?_, h1.symm, ?_⟩
    · intro i hi
      rw [List.mem_eraseDups] at hi
      obtain ⟨n, hn, hin⟩ := List.mem_flatMap.mp hi
      have hn' := (List.mem_filter.mp hn).2
      unfold bindsOf at hin
      rw [beq_iff_eq.mp (List.mem_filter.mp hin).2]
      simp only [Bool.not_eq_true', List.contains_eq_mem, decide_eq_false_iff_not] at hn'
      exact hn'
    · intro i
      rw [← h2, List.mem_filter, List.mem_range]
      simp only [Bool.not_eq_true', List.contains_eq_mem, decide_eq_false_iff_not]
  · exact absurd h (by simp)

theorem checkInterfaces_marks (e : Env) (st : St) (managed : List Nat) (h : checkInterfaces e {} = some (st, managed)) :
    CIMarks e st ∧ (∀ i, i < e.a.binds.length → i ∈ managed ∨ aclOfI e i ∈ st.aNeeded) ∧
    (∀ i ∈ managed, i < e.a.binds.length) := by
  obtain ⟨um, _, h1, h2⟩ := checkInterfaces_eq e st managed h
  refine ⟨?_, ?_, fun i hi => ((h2 i).mp hi).1⟩
  · exact checkInterfaces_preserves e (CIMarks e) ⟨rfl, fun X hX => by simp at hX⟩ (fun s i hs => markNeededBind_marks e s i hs) h
  · intro i hi
    by_cases hu : i ∈ um
    · right; rw [h1]; exact (markFold_needed e um {}).1 i hu
    · exact Or.inl ((h2 i).mpr ⟨hi, hu⟩)

theorem unmanaged_intf (e : Env) (st : St) (managed : List Nat) (h : checkInterfaces e {} = some (st, managed))
    (i : Nat) (hi : i < e.a.binds.length) (hm : i ∉ managed) :
    (e.a.binds.getD i default).intf ∉ e.b.binds.map (·.intf) := by
  obtain ⟨um, h0, _, h2⟩ := checkInterfaces_eq e st managed h
  exact h0 i (Decidable.of_not_not fun hu => hm ((h2 i).mpr ⟨hi, hu⟩))

/-- The state handed to `diffRoutes`. -/
def afterBinds (e : Env) (st0 : St) (managed : List Nat) : St :=
  if managed.isEmpty && e.b.binds.isEmpty then generateNames e st0 else diffBinds e (generateNames e st0) managed e.b.binds

/-- The state at the end of `diffConfig`. -/
def finalSt (e : Env) (st0 : St) (managed : List Nat) : St :=
  deleteUnused e (diffRoutes (afterBinds e st0 managed) (sortRoutes e.a.routes) (sortRoutes e.b.routes)) managed

theorem engine_eq (a b : Config) (sc : Scripts) (st0 : St) (managed : List Nat)
    (h : checkInterfaces ⟨a, b, sc⟩ {} = some (st0, managed)) :
    (engine a b sc).map (·.script) = some (finalSt ⟨a, b, sc⟩ st0 managed).out := by
  unfold engine
  simp only [h]
  rfl

theorem mem_addSet' {i j : Nat} {s : List Nat} : j ∈ makeEqualBind.addSet' i s ↔ j = i ∨ j ∈ s := by
  unfold makeEqualBind.addSet'
  split
  · rename_i hx
    have hi : i ∈ s := by simpa using hx
    exact ⟨Or.inr, fun h => h.elim (fun h1 => h1 ▸ hi) id⟩
  · exact List.mem_cons

theorem markDeletedAcl_bToDel (e : Env) (st : St) (aN : Name) : (markDeletedAcl e st aN).bToDel = st.bToDel := by
  unfold markDeletedAcl
  split <;> rfl

theorem diffBinds_eq_pairs (e : Env) (st : St) (al : List Nat) (bl : List Bind) (h : bindsShape e st al bl = true) :
    diffBinds e st al bl =
      (bindPairs al bl (diffUnordered (al.map fun i => (e.a.binds.getD i default).key) (bl.map (·.key)))).foldl
        (fun st p => makeEqualBind e st p.1 p.2) st := by
  unfold bindsShape at h
  simp only [Bool.and_eq_true, Bool.not_eq_true'] at h
  obtain ⟨⟨h1, h2⟩, h3⟩ := h
  unfold diffBinds
  rw [if_neg (by rw [h1]; simp), if_neg (by rw [h2]; simp)]
  generalize diffUnordered (al.map fun i => (e.a.binds.getD i default).key) (bl.map (·.key)) = diff at h3 ⊢
  rw [List.all_eq_true] at h3
  have hk : ∀ r ∈ diff, r.isDelete = false ∧ r.isInsert = false ∧ r.isEqual = true := by
    intro r hr
    have := h3 r hr
    simp only [Bool.and_eq_true, Bool.not_eq_true'] at this
    exact ⟨this.1.1, this.1.2, this.2⟩
  rw [foldl_inv (P := (· = st)) (fun r hr t ht => by simp [(hk r hr).1, ht]) rfl]
  unfold bindPairs
  rw [List.foldl_flatMap]
  apply foldl_ext_mem
  intro t r hr
  simp [(hk r hr).2.1, (hk r hr).2.2]

theorem markDeletedBinds_toDel (e : Env) : ∀ (idx : List Nat) (st : St),
    (∀ i ∈ idx, i ∈ (markDeletedBinds e st idx).bToDel) ∧ (∀ i ∈ st.bToDel, i ∈ (markDeletedBinds e st idx).bToDel) := by
  intro idx
  induction idx with
  | nil => intro st; exact ⟨fun i hi => by simp at hi, fun i hi => hi⟩
  | cons j js ih =>
    intro st
    unfold markDeletedBinds
    rw [List.foldl_cons]
    have hstep : ∀ i, (i = j ∨ i ∈ st.bToDel) → i ∈ (if st.bToDel.contains j then st else
        markDeletedAcl e { st with bToDel := j :: st.bToDel } (e.a.binds.getD j default).acl).bToDel := by
      intro i hi
      split
      · rename_i hc
        rcases hi with rfl | hi
        · simpa using hc
        · exact hi
      · have hb := markDeletedAcl_bToDel e { st with bToDel := j :: st.bToDel } (e.a.binds.getD j default).acl
        rw [hb]
        exact List.mem_cons.mpr hi
    obtain ⟨i1, i2⟩ := ih (if st.bToDel.contains j then st else
        markDeletedAcl e { st with bToDel := j :: st.bToDel } (e.a.binds.getD j default).acl)
    unfold markDeletedBinds at i1 i2
    exact ⟨List.forall_mem_cons.mpr ⟨i2 j (hstep j (Or.inl rfl)), i1⟩, fun i hi => i2 i (hstep i (Or.inr hi))⟩

theorem diffBinds_noparts (e : Env) (st : St) (al : List Nat) (bl : List Bind)
    (h1 : (!al.isEmpty && st.bNeeded.contains (al.headD 0)) = false)
    (h2 : (diffUnordered (al.map fun i => (e.a.binds.getD i default).key) (bl.map (·.key))).any (·.isEqual) = false) :
    diffBinds e st al bl = (bl.map BOp.add).foldl (applyOp e) (nopartsSt e st al) := by
  unfold diffBinds
  simp only []
  rw [if_neg (by rw [h1]; simp), if_pos (by rw [h2]; rfl)]
  unfold nopartsSt
  rw [List.foldl_map]
  split
  · rename_i hb
    have : bl = [] := by simpa using hb
    subst this
    rfl
  · rfl

theorem opsEnd_adds (pend : List Nat) : ∀ (bs : List Bind) (done : List Bind),
    opsEnd pend done (bs.map BOp.add) = (pend, done ++ bs) := by
  intro bs
  induction bs with
  | nil => intro done; simp [opsEnd]
  | cons b bs ih => intro done; simp [opsEnd, ih, List.append_assoc]

theorem diffBinds_eq_ops (e : Env) (st : St) (al : List Nat) (bl : List Bind)
    (h1 : (!al.isEmpty && st.bNeeded.contains (al.headD 0)) = false)
    (h2 : (diffUnordered (al.map fun i => (e.a.binds.getD i default).key) (bl.map (·.key))).any (·.isEqual) = true) :
    diffBinds e st al bl =
      (bindOps al bl (diffUnordered (al.map fun i => (e.a.binds.getD i default).key) (bl.map (·.key)))).foldl (applyOp e) st := by
  unfold diffBinds
  rw [if_neg (by rw [h1]; simp), if_neg (by rw [h2]; simp)]
  generalize diffUnordered (al.map fun i => (e.a.binds.getD i default).key) (bl.map (·.key)) = diff
  unfold bindOps
  rw [List.foldl_append, List.foldl_flatMap, List.foldl_flatMap]
  have e1 : diff.foldl (fun st r => if r.isDelete then delBinds e st (slice al r.lowA r.highA) else st) st =
      diff.foldl (fun t r => (if r.isDelete then [BOp.delGroup (slice al r.lowA r.highA)] else []).foldl (applyOp e) t) st := by
    apply foldl_ext_mem
    intro t r _
    split <;> simp [applyOp]
  rw [← e1]
  apply foldl_ext_mem
  intro t r _
  by_cases hI : r.isInsert = true
  · rw [if_pos hI, if_pos hI]
    by_cases hb : r.highB ≤ r.lowB
    · rw [if_pos hb, if_pos hb]; rfl
    · rw [if_neg hb, if_neg hb, List.foldl_map]; rfl
  · rw [if_neg hI, if_neg hI]
    by_cases hE : r.isEqual = true
    · rw [if_pos hE, if_pos hE, List.foldl_map]; rfl
    · rw [if_neg hE, if_neg hE]; rfl

theorem addOne_bmarks (e : Env) (st : St) (b : Bind) :
    (addOne e st b).bNeeded = st.bNeeded ∧ (addOne e st b).bToDel = st.bToDel := by
  have hm : (transferAcl e st b.acl).bNeeded = st.bNeeded ∧ (transferAcl e st b.acl).bToDel = st.bToDel := by
    unfold transferAcl
    split
    · exact ⟨rfl, rfl⟩
    · have := SameAclMarks.foldl (fun st l => emitLine e st (Chg.acl (st.aNameOf b.acl) none) l) (e.bLines b.acl)
        ({ st with aReady := b.acl :: st.aReady }.hit "acl:transfer") (fun s x => emitLine_aclMarks e s _ x)
      exact ⟨this.bNeeded, this.bToDel⟩
  unfold addOne
  generalize transferAcl e st b.acl = st1 at hm ⊢
  exact hm

theorem adds_bmarks (e : Env) (bs : List Bind) (s : St) :
    ((bs.map BOp.add).foldl (applyOp e) s).bNeeded = s.bNeeded ∧ ((bs.map BOp.add).foldl (applyOp e) s).bToDel = s.bToDel := by
  rw [List.foldl_map]
  exact foldl_inv (P := fun t => t.bNeeded = s.bNeeded ∧ t.bToDel = s.bToDel)
    (fun b _ t ht => ⟨(addOne_bmarks e t b).1.trans ht.1, (addOne_bmarks e t b).2.trans ht.2⟩) ⟨rfl, rfl⟩

end NA.F1
