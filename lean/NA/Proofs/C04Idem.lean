import NA.Proofs.C04Main
import NA.Proofs.C04Calls
import NA.Proofs.C04Order
/-!
Idempotence: on a manager that is equivalent to the target the whole plan is empty (`plan_unchanged`), hence a second
run after an accepted one plans nothing.  The core is one policy: rules that carry the same multiset of sort keys as
the target's rules produce no call at all (`diffRules_noop`), provided the edit-script function is the identity on
pairwise-equal lists and no two managed groups / target groups have the same content.
-/
namespace NA.Nsx

/-- `myers.Diff` on two lists of the same length whose elements are pairwise equal returns the
single range that pairs them (for length 0 the library returns `[{0,0,0,0}]`; the empty script is admitted as well, it is
what `prefixDiff` returns for two empty lists). -/
def IdOnEqual (diff : Diff) : Prop :=
  ∀ n eq, (∀ i, i < n → eq i i = true) → diff n n eq = [⟨0, n, 0, n⟩] ∨ (n = 0 ∧ diff n n eq = [])

def zipItems (a b : List Rule) : List Item := (a.zip b).map fun (x, y) => Item.eq x y

theorem itemsOf_identity (diff : Diff) (hid : IdOnEqual diff) (a b : List Rule) (hl : a.length = b.length)
    (eq : Nat → Nat → Bool) (heq : ∀ i, i < a.length → eq i i = true) :
    itemsOf (diff a.length b.length eq) a b = zipItems a b := by
  rw [← hl]
  rcases hid a.length eq heq with h | ⟨h0, h⟩
  · rw [h]
    simp only [itemsOf, List.flatMap_cons, List.flatMap_nil, List.append_nil, Range.isDelete, Range.isInsert]
    by_cases hn : a.length = 0
    · have ha : a = [] := List.length_eq_zero_iff.mp hn
      have hb : b = [] := List.length_eq_zero_iff.mp (hl ▸ hn)
      subst ha; subst hb
      simp [zipItems]
    · have : (0 == a.length) = false := by simpa using fun e => hn e.symm
      simp only [this, Bool.false_eq_true, if_false, List.drop_zero, Nat.sub_zero, List.take_length]
      rfl
  · rw [h]
    have ha : a = [] := List.length_eq_zero_iff.mp h0
    have hb : b = [] := List.length_eq_zero_iff.mp (hl ▸ h0)
    subst ha; subst hb
    simp [itemsOf, zipItems]

theorem addrDiff_identity (n : Nat) (a b : List String) : addrDiff [⟨0, n, 0, n⟩] a b = ([], []) := by
  simp only [addrDiff, Range.isDelete, Range.isInsert]
  by_cases hn : n = 0
  · subst hn; simp
  · have : (0 == n) = false := by simpa using fun e => hn e.symm
    simp [this]

theorem groupCalls_noop (diff : Diff) (hid : IdOnEqual diff) (ga gb : Group) (h : ga.addrs = gb.addrs) :
    groupCalls diff ga gb = [] := by
  unfold groupCalls
  rw [← h]
  have heq : ∀ i, i < ga.addrs.length → (ga.addrs[i]! == ga.addrs[i]!) = true := fun _ _ => by simp
  rcases hid ga.addrs.length (fun i j => ga.addrs[i]! == ga.addrs[j]!) heq with h1 | ⟨_, h1⟩
  · rw [h1]; simp only [addrDiff_identity]; simp
  · rw [h1]; simp [addrDiff]

/-- Planner state of a run on an already equivalent manager. -/
structure Inv2 (ctx : Ctx) (st : PSt) : Prop where
  nod : ∀ k n, st.nod.lookup k = some n → ∃ ga gb, findGroupLast ctx.aGroups n = some ga ∧
    ctx.bmap.lookup k = some gb ∧ ga.addrs = gb.addrs ∧ n ∈ st.needed
  owned : ∀ n ∈ st.needed, ∃ k, st.nod.lookup k = some n

structure Ctx2OK (ctx : Ctx) : Prop where
  diff_id : IdOnEqual ctx.diff
  dA : ∀ n n' ga ga', findGroupLast ctx.aGroups n = some ga → findGroupLast ctx.aGroups n' = some ga' →
    ga.addrs = ga'.addrs → n = n'
  dB : ∀ k k' gb gb', ctx.bmap.lookup k = some gb → ctx.bmap.lookup k' = some gb' → gb.addrs = gb'.addrs → k = k'

theorem inv2_init (ctx : Ctx) : Inv2 ctx {} := ⟨fun k n h => by simp at h, fun n h => by simp at h⟩

def Grow (st st' : PSt) : Prop := ∀ n ∈ st.needed, n ∈ st'.needed

theorem equalize_noop {ctx : Ctx} (hc : Ctx2OK ctx) {st st' : PSt} (hinv : Inv2 ctx st) {la lb la' : String}
    {ch : Bool} {cs : List Call} (h : equalize ctx st la lb = (st', la', ch, cs))
    (hk : epKey ctx.gma la = epKey ctx.gmb lb) :
    (la', ch, cs) = (la, false, []) ∧ Inv2 ctx st' ∧ Grow st st' ∧
    ∀ ga, ctx.gma la = some ga → ga.id ∈ st'.needed := by
  -- when `la` is a loaded group, `lb` is a target group with the same addresses
  have haddr : ∀ {ga key gb}, ctx.gma la = some ga → groupRef lb = some key → ctx.bmap.lookup key = some gb →
      ga.addrs = gb.addrs := by
    intro ga key gb hga hr hb
    rw [epKey_some hga, epKey_some ((gmb_of_groupRef hr).trans hb)] at hk
    exact EPKey.grp.inj hk
  cases equalize_cases h with
  | other hga => exact ⟨rfl, hinv, fun _ h => h, fun _ h => by rw [hga] at h; cases h⟩
  | undefined hga hgb => rw [epKey_some hga, epKey_none hgb] at hk; cases hk
  | same hga hr hb hn =>
    obtain ⟨_, _, _, _, _, hnd⟩ := hinv.nod _ _ hn
    exact ⟨rfl, hinv, fun _ h => h, fun g hg => by rw [hga] at hg; cases hg; exact hnd⟩
  | known hga hr hb hn hne =>
    -- the name of the target group is the device group's: no two device groups with the same content
    obtain ⟨ga', gb', hfl', hl', ha', _⟩ := hinv.nod _ _ hn
    rw [hb] at hl'; cases hl'
    exact absurd (hc.dA _ _ ga' _ hfl' (gma_findLast hga) (ha'.trans (haddr hga hr hb).symm)) hne
  | put hga hr hb hn hnd =>
    -- the device group is not needed for another target group: no two target groups with the same content
    obtain ⟨k', hk'⟩ := hinv.owned _ hnd
    obtain ⟨ga', gb', hfl', hl', ha', _⟩ := hinv.nod k' _ hk'
    rw [gma_findLast hga] at hfl'; cases hfl'
    rw [hc.dB k' _ gb' _ hl' hb (ha'.symm.trans (haddr hga hr hb)), hn] at hk'
    cases hk'
  | @rewrite ga key gb hga hr hb hn hnn =>
    refine ⟨by rw [groupCalls_noop _ hc.diff_id ga gb (haddr hga hr hb)], ⟨?_, ?_⟩, fun _ h => List.mem_cons_of_mem _ h,
      fun g hg => by rw [hga] at hg; cases hg; exact List.mem_cons_self⟩
    · intro k n hl2
      rcases lookup_cons_cases hl2 with e | e
      · subst e
        rw [show List.lookup k ((k, ga.id) :: st.nod) = some ga.id from lookup_cons_self] at hl2
        cases hl2
        exact ⟨ga, gb, gma_findLast hga, hb, haddr hga hr hb, List.mem_cons_self⟩
      · obtain ⟨ga', gb', a1, a2, a3, a4⟩ := hinv.nod k n e
        exact ⟨ga', gb', a1, a2, a3, List.mem_cons_of_mem _ a4⟩
    · intro n hn'
      rcases List.mem_cons.mp hn' with e | e
      · exact ⟨key, e ▸ lookup_cons_self⟩
      · obtain ⟨k', hk'⟩ := hinv.owned n e
        have : k' ≠ key := fun e' => by rw [e', hn] at hk'; cases hk'
        exact ⟨k', by rw [show List.lookup k' ((key, ga.id) :: st.nod) = List.lookup k' st.nod from
          lookup_cons_ne this]; exact hk'⟩

def ruleGroupsNeeded (ctx : Ctx) (st : PSt) (r : Rule) : Prop :=
  (∀ ga, ctx.gma r.src = some ga → ga.id ∈ st.needed) ∧ (∀ ga, ctx.gma r.dst = some ga → ga.id ∈ st.needed)

theorem stepItem_eq_noop {ctx : Ctx} (pid : String) (hc : Ctx2OK ctx) {st : PSt} (hinv : Inv2 ctx st) {ra rb : Rule}
    (hk : ruleKey ctx.gma ra = ruleKey ctx.gmb rb) :
    (stepItem { ctx with pid := pid } st (.eq ra rb)).2 = [] ∧ Inv2 ctx (stepItem { ctx with pid := pid } st (.eq ra rb)).1 ∧
    Grow st (stepItem { ctx with pid := pid } st (.eq ra rb)).1 ∧
    ruleGroupsNeeded ctx (stepItem { ctx with pid := pid } st (.eq ra rb)).1 ra := by
  rcases hE1 : equalize ctx st ra.src rb.src with ⟨st1, src, ch1, c1⟩
  rcases hE2 : equalize ctx st1 ra.dst rb.dst with ⟨st2, dst, ch2, c2⟩
  obtain ⟨e1, i1, g1, n1⟩ := equalize_noop hc hinv hE1 (congrArg RKey.src hk)
  obtain ⟨e2, i2, g2, n2⟩ := equalize_noop hc i1 hE2 (congrArg RKey.dst hk)
  cases e1; cases e2
  rw [stepItem_eq pid hE1 hE2]
  exact ⟨rfl, i2, fun n h => g2 n (g1 n h), fun ga h => g2 _ (n1 ga h), n2⟩

inductive KeysAligned (ctx : Ctx) : List Rule → List Rule → Prop
  | nil : KeysAligned ctx [] []
  | cons {ra rb a b} : ruleKey ctx.gma ra = ruleKey ctx.gmb rb → KeysAligned ctx a b → KeysAligned ctx (ra :: a) (rb :: b)

theorem keysAligned_of_map_eq (ctx : Ctx) : ∀ (a b : List Rule),
    a.map (ruleKey ctx.gma) = b.map (ruleKey ctx.gmb) → KeysAligned ctx a b
  | [], [], _ => .nil
  | [], _ :: _, h => by simp at h
  | _ :: _, [], h => by simp at h
  | x :: xs, y :: ys, h => by
    simp only [List.map_cons, List.cons.injEq] at h
    exact .cons h.1 (keysAligned_of_map_eq ctx xs ys h.2)

theorem KeysAligned.length {ctx : Ctx} {a b : List Rule} (h : KeysAligned ctx a b) : a.length = b.length := by
  induction h with
  | nil => rfl
  | cons _ _ ih => simp [ih]

theorem KeysAligned.get {ctx : Ctx} {a b : List Rule} (h : KeysAligned ctx a b) :
    ∀ i (h1 : i < a.length) (h2 : i < b.length), ruleKey ctx.gma a[i] = ruleKey ctx.gmb b[i] := by
  induction h with
  | nil => intro i h1; simp at h1
  | cons hk _ ih =>
    intro i h1 h2
    cases i with
    | zero => exact hk
    | succ j => exact ih j (by simpa using h1) (by simpa using h2)

theorem stepItems_zip_noop {ctx : Ctx} (pid : String) (hc : Ctx2OK ctx) : ∀ {a b : List Rule}, KeysAligned ctx a b →
    ∀ {st : PSt}, Inv2 ctx st →
    (stepItems { ctx with pid := pid } st (zipItems a b)).2 = [] ∧
    Inv2 ctx (stepItems { ctx with pid := pid } st (zipItems a b)).1 ∧
    Grow st (stepItems { ctx with pid := pid } st (zipItems a b)).1 ∧
    ∀ r ∈ a, ruleGroupsNeeded ctx (stepItems { ctx with pid := pid } st (zipItems a b)).1 r := by
  intro a b h
  induction h with
  | nil => intro st hinv; exact ⟨rfl, hinv, fun _ h => h, fun r hr => by cases hr⟩
  | @cons ra rb a' b' hk _ ih =>
    intro st hinv
    obtain ⟨e1, i1, g1, n1⟩ := stepItem_eq_noop pid hc hinv hk
    rcases hS : stepItem { ctx with pid := pid } st (.eq ra rb) with ⟨st1, c1⟩
    rw [hS] at e1 i1 g1 n1
    obtain ⟨e2, i2, g2, n2⟩ := ih i1
    rw [show zipItems (ra :: a') (rb :: b') = Item.eq ra rb :: zipItems a' b' from rfl, stepItems_cons hS]
    cases e1
    refine ⟨e2, i2, fun n h => g2 n (g1 n h), ?_⟩
    intro r hr
    rcases List.mem_cons.mp hr with e | e
    · subst e
      exact ⟨fun ga h => g2 _ (n1.1 ga h), fun ga h => g2 _ (n1.2 ga h)⟩
    · exact n2 r e

theorem ruleEqual_of_key {gma gmb : String → Option Group} {ra rb : Rule}
    (h : ruleKey gma ra = ruleKey gmb rb) : ruleEqual gma gmb ra rb = true := by
  have h1 : ra.attrs = rb.attrs := congrArg RKey.attrs h
  have h2 : ra.service = rb.service := congrArg RKey.service h
  have h3 : epKey gma ra.src = epKey gmb rb.src := congrArg RKey.src h
  have h4 : epKey gma ra.dst = epKey gmb rb.dst := congrArg RKey.dst h
  have hg : ∀ p q, epKey gma p = epKey gmb q → (if (gma p).isNone || (gmb q).isNone then p == q else true) = true := by
    intro p q hpq
    cases ha : gma p <;> cases hb : gmb q <;>
      simp [ha, hb, epKey_none, epKey_some] at hpq ⊢
    exact hpq
  unfold ruleEqual
  simp only [h1, h2, beq_self_eq_true, Bool.true_and, Bool.and_eq_true]
  exact ⟨hg _ _ h3, hg _ _ h4⟩

theorem sameButId_key (gm : String → Option Group) {r' r : Rule} (h : SameButId r' r) : ruleKey gm r' = ruleKey gm r := by
  unfold SameButId at h
  rw [h]; rfl

/-- A policy whose rules have the same sort keys as the target's rules yields no call. -/
theorem diffRules_noop {ctx : Ctx} (hc : Ctx2OK ctx) {st : PSt} (hinv : Inv2 ctx st) (pa pb : Policy)
    (hb : (rids pb.rules).Nodup)
    (hp : (pa.rules.map (ruleKey ctx.gma)).Perm (pb.rules.map (ruleKey ctx.gmb)))
    (hab : (diffRules ctx st pa pb).1.abort = none) :
    (diffRules ctx st pa pb).2 = [] ∧ Inv2 ctx (diffRules ctx st pa pb).1 ∧ Grow st (diffRules ctx st pa pb).1 ∧
    ∀ r ∈ pa.rules, ruleGroupsNeeded ctx (diffRules ctx st pa pb).1 r := by
  cases hg : genUniqRules (pa.rules.map (·.id)) pb.rules with
  | none => rw [diffRules_of_none hg] at hab; cases hab
  | some bR =>
    rw [diffRules_of_some hg]
    have hal := keysAligned_of_map_eq ctx _ _ (sortRules_keys ctx.gma ctx.gmb pa.rules bR
      (by rw [forall2_map_eq (f := ruleKey ctx.gmb) (g := ruleKey ctx.gmb) (fun _ _ => sameButId_key _) (genUniqRules_same hg)]; exact hp))
    have hmem : ∀ r ∈ pa.rules, r ∈ sortRules ctx.gma pa.rules := fun r hr => (isort_perm _ _).mem_iff.mpr hr
    generalize sortRules ctx.gma pa.rules = aS at hal hmem ⊢
    generalize sortRules ctx.gmb bR = bS at hal ⊢
    -- the script pairs the two sorted lists position by position
    rw [itemsOf_identity ctx.diff hc.diff_id aS bS hal.length _ fun i hi => by
      have hi2 : i < bS.length := hal.length ▸ hi
      rw [getElem!_pos aS i hi, getElem!_pos bS i hi2]
      exact ruleEqual_of_key (hal.get i hi hi2)]
    obtain ⟨e, i, g, n⟩ := stepItems_zip_noop pa.id hc hal hinv
    exact ⟨e, i, g, fun r hr => n r (hmem r hr)⟩

theorem planSvc_noop (aS bS : List Service)
    (h : ∀ id ∈ sids bS, (findService aS.reverse id).map (·.defn) = (findService bS id).map (·.defn)) :
    (planServices aS bS).1 = [] := by
  rw [planServices, planSvc_eq]
  refine List.flatMap_eq_nil_iff.mpr fun sb hsb => ?_
  have hf := (mem_firsts.mp hsb).1
  have h1 := h sb.id (List.mem_map_of_mem (findService_some hf).1)
  rw [hf] at h1
  obtain ⟨sa, hfa, hd⟩ := Option.map_eq_some_iff.mp h1
  exact svcCalls_same hfa hd

theorem ruleGroupsNeeded_grow {ctx : Ctx} {st st' : PSt} {r : Rule} (hg : Grow st st')
    (h : ruleGroupsNeeded ctx st r) : ruleGroupsNeeded ctx st' r :=
  ⟨fun ga hga => hg _ (h.1 ga hga), fun ga hga => hg _ (h.2 ga hga)⟩

/-- What the loop over the device policies needs to know about each of them on an equivalent manager. -/
def PolAligned (ctx : Ctx) (T : Config) (pa : Policy) : Prop :=
  ∃ pb, findPolicyLast T.policies pa.id = some pb ∧ (rids pb.rules).Nodup ∧
    (pa.rules.map (ruleKey ctx.gma)).Perm (pb.rules.map (ruleKey ctx.gmb))

theorem overA_noop {ctx : Ctx} (hc : Ctx2OK ctx) (T : Config) : ∀ (ps : List Policy) (st : PSt), Inv2 ctx st →
    (∀ pa ∈ ps, PolAligned ctx T pa) → (overA ctx T ps st).1.abort = none →
    (overA ctx T ps st).2 = [] ∧ Inv2 ctx (overA ctx T ps st).1 ∧ Grow st (overA ctx T ps st).1 ∧
    ∀ pa ∈ ps, ∀ r ∈ pa.rules, ruleGroupsNeeded ctx (overA ctx T ps st).1 r := by
  intro ps
  induction ps with
  | nil => intro st hinv _ _; exact ⟨rfl, hinv, fun _ h => h, fun pa hpa => by cases hpa⟩
  | cons pa rest ih =>
    intro st hinv hal hab
    obtain ⟨pb, hfl, hnd, hperm⟩ := hal pa List.mem_cons_self
    unfold overA at hab ⊢
    simp only [hfl] at hab ⊢
    have hab1 : (diffRules ctx st pa pb).1.abort = none := overA_abort ctx T rest _ hab
    obtain ⟨e1, i1, g1, n1⟩ := diffRules_noop hc hinv pa pb hnd hperm hab1
    generalize hD : diffRules ctx st pa pb = D at *
    obtain ⟨st1, c1⟩ := D
    obtain ⟨e2, i2, g2, n2⟩ := ih st1 i1 (fun p hp => hal p (List.mem_cons_of_mem _ hp)) hab
    refine ⟨by rw [e1, e2]; rfl, i2, fun n h => g2 n (g1 n h), ?_⟩
    intro p hp r hr
    rcases List.mem_cons.mp hp with e | e
    · subst e; exact ruleGroupsNeeded_grow g2 (n1 r hr)
    · exact n2 p e r hr

theorem overB_skip (ctx : Ctx) (A : Config) : ∀ (ps : List Policy) (st : PSt),
    (∀ pb ∈ ps, A.policies.any (·.id == pb.id) = true) → overB ctx A ps st = (st, []) := by
  intro ps
  induction ps with
  | nil => intro st _; rfl
  | cons pb rest ih =>
    intro st h
    unfold overB
    simp only [h pb List.mem_cons_self, if_true]
    exact ih st fun p hp => h p (List.mem_cons_of_mem _ hp)

def RulesCompact (C : Config) : Prop :=
  ∀ p ∈ C.policies, ∀ r ∈ p.rules, compactJSON r.attrs.svcEntries = r.attrs.svcEntries

theorem rulesCompact_iff (C : Config) : rulesCompact C = true ↔ RulesCompact C := by
  unfold rulesCompact RulesCompact
  simp only [List.all_eq_true, beq_iff_eq]

theorem compactAttrs_of_compact {a : Attrs} (h : compactJSON a.svcEntries = a.svcEntries) : compactAttrs a = a := by
  unfold compactAttrs; rw [h]

theorem findGroupLast_sorted {S : Store} (hS : StoreFacts S) {n : String} {g : Group}
    (hf : findGroup S.groups n = some g) (hm : managed n = true) :
    findGroupLast (sortGroups (load S).groups) n = some { g with addrs := sortAddrs g.addrs } := by
  obtain ⟨hgm, hgid⟩ := findGroup_some hf
  have hnd : (gids (sortGroups (load S).groups)).Nodup := by
    rw [gids_sortGroups]; exact (List.Sublist.map _ List.filter_sublist).nodup hS.grp_nodup
  rw [findGroupLast_eq hnd, ← hgid]
  exact findGroup_mem_nodup (g := { g with addrs := sortAddrs g.addrs }) hnd
    (List.mem_map.mpr ⟨g, List.mem_filter.mpr ⟨hgm, by rw [hgid]; exact hm⟩, rfl⟩)

theorem epkey_of_epequiv {diff : Diff} {S : Store} {T : Config} {ctx : Ctx} (hcf : CtxFacts diff S T ctx)
    (hS : StoreFacts S) (hT : TargetFacts T) {pS pB : String} (h : EPEquiv S.groups T.groups pS pB)
    (hdef : ∀ x, groupRef pB = some x → managed x = true → x ∈ gids T.groups) :
    epKey ctx.gma pS = epKey ctx.gmb pB := by
  rw [EPEquiv] at h
  cases targetEntry hcf hT pB with
  | other hn ht hnotT =>
    -- the same text on both sides, and no loaded group either: the target would have to define it
    rw [ht] at h
    subst h
    have hA : ctx.gma pS = none := by
      cases ha : ctx.gma pS with
      | none => rfl
      | some ga =>
        obtain ⟨hgaM, hp⟩ := gma_some ha
        have hr : groupRef pS = some ga.id := by rw [hp]; exact groupRef_groupPath _
        have hx : ga.id ∈ gids ctx.aGroups := mem_gids hgaM
        rw [hcf.a_eq, gids_sortGroups] at hx
        have hmx := (gids_filter_managed.mp hx).2
        exact absurd (hdef _ hr hmx) (hnotT _ hr hmx)
    rw [epKey_none hA, epKey_none hn]
  | @group k gb gt hr hb ht hgt hid hmk hmgb hsorted =>
    rw [ht] at h
    obtain ⟨n, g, hp, hmn, hfg, hmem⟩ := h
    have hB : ctx.gmb pB = some gb := by rw [gmb_of_groupRef hr]; exact hb
    have hA : ctx.gma pS = some { g with addrs := sortAddrs g.addrs } := by
      rw [Ctx.gma, hp, groupRef_groupPath, hcf.a_eq]
      exact findGroupLast_sorted hS hfg hmn
    rw [epKey_some hA, epKey_some hB, hsorted]
    congr 1
    exact sortAddrs_eq_of_mem (hS.addrs g (findGroup_some hfg).1) (hT.grp gt hgt).2 hmem

attribute [local irreducible] EPEquiv

/-- **Equivalent ⇒ unchanged**: `nsx_equivalent_unchanged_partial` with the side conditions as propositions. -/
theorem plan_unchanged {diff : Diff} (hid : IdOnEqual diff) {S : Store} {T : Config} (hS : StoreFacts S)
    (hT : TargetFacts T) (hconv : Converged S T) (hsvc : ServicesConverged S T) (hgrp : NoLeftoverGroup S T)
    (hcS : RulesCompact (load S)) (hcT : RulesCompact T) (hdT : DistinctContent T.groups)
    (hdS : DistinctContent (load S).groups) (hab : (plan diff (load S) T).abort = none) :
    (plan diff (load S) T).calls = [] := by
  obtain ⟨ctx, hmk⟩ := plan_abort_none_ctx hab
  rw [plan_eq hmk] at hab ⊢
  have hcf := ctxFacts_of (diff := diff) hT hmk
  have hloadP : (load S).policies = S.policies.filter (managed ·.id) := rfl
  have hc : Ctx2OK ctx := by
    refine ⟨by rw [hcf.diff_eq]; exact hid, ?_, ?_⟩
    · intro n n' ga ga' h1 h2 he
      have hof : ∀ m gx, findGroupLast ctx.aGroups m = some gx →
          ∃ g ∈ (load S).groups, g.id = m ∧ gx.addrs = sortAddrs g.addrs := by
        intro m gx h
        have hid' := findGroupLast_id h
        unfold findGroupLast at h
        have hm := List.mem_reverse.mp (findGroup_some h).1
        rw [hcf.a_eq] at hm
        obtain ⟨g, hg, e⟩ := mem_sortGroups hm
        exact ⟨g, hg, by rw [← hid', e], by rw [e]⟩
      obtain ⟨g, hg, hgid, hga⟩ := hof n ga h1
      obtain ⟨g', hg', hgid', hga'⟩ := hof n' ga' h2
      rw [← hgid, ← hgid', hdS.sorted hg hg' (hga.symm.trans (he.trans hga'))]
    · intro k k' gb gb' h1 h2 he
      obtain ⟨gt, hgt, hk, hs1, _⟩ := hcf.b_of k gb h1
      obtain ⟨gt', hgt', hk', hs2, _⟩ := hcf.b_of k' gb' h2
      rw [← hk, ← hk', hdT.sorted hgt hgt' (hs1.symm.trans (he.trans hs2))]
  -- every managed policy is aligned with its target policy
  have hal : ∀ pa ∈ (load S).policies, PolAligned ctx T pa := by
    intro pa hpa
    obtain ⟨hpaS, hpam⟩ := List.mem_filter.mp hpa
    obtain ⟨pb, hpb, hpbid⟩ := hconv.2 pa hpaS hpam
    obtain ⟨p, L, hfp, hperm, hf⟩ := hconv.1 pb hpb
    have : p = pa := by
      have h1 := findPolicy_mem_nodup hS.pol_nodup hpaS
      rw [← hpbid, hfp] at h1
      exact Option.some.inj h1
    subst this
    have hfl : findPolicyLast T.policies p.id = some pb := hpbid ▸ findPolicyLast_of_mem hT.pol_nodup hpb
    refine ⟨pb, hfl, (hT.rules pb hpb).1, ?_⟩
    have hkeys : L.map (ruleKey ctx.gma) = pb.rules.map (ruleKey ctx.gmb) := by
      refine forall2_map_eq ?_ hf.mem_right
      rintro r rb ⟨⟨ha, hsv, hsrc, hdst⟩, hrL, hrb⟩
      obtain ⟨d1, d2, _⟩ := refsDefined_ep ((hT.rules pb hpb).2 rb hrb)
      have hr : r ∈ p.rules := hperm.mem_iff.mpr hrL
      have hattrs : r.attrs = rb.attrs := by
        rw [← compactAttrs_of_compact (hcS p hpa r hr), ← compactAttrs_of_compact (hcT pb hpb rb hrb)]
        exact ha
      unfold ruleKey
      rw [hattrs, hsv, epkey_of_epequiv hcf hS hT hsrc d1, epkey_of_epequiv hcf hS hT hdst d2]
    rw [← hkeys]
    exact hperm.map _
  have hsvcNone : (planServices (load S).services T.services).1 = [] :=
    planSvc_noop _ _ fun id hin => by
      obtain ⟨t, ht, rfl⟩ := List.mem_map.mp hin
      rw [findService_loaded hS.svc_nodup (hT.svc t ht)]; exact hsvc.1 t ht
  have habA : (overA ctx T (load S).policies {}).1.abort = none := overB_abort _ _ _ _ hab
  obtain ⟨eA, iA, _, nA⟩ := overA_noop hc T (load S).policies {} (inv2_init ctx) hal habA
  -- target policies: all present
  have hB : overB ctx (load S) T.policies (overA ctx T (load S).policies {}).1 =
      ((overA ctx T (load S).policies {}).1, []) := by
    apply overB_skip
    intro pb hpb
    obtain ⟨p, _, hfp, _, _⟩ := hconv.1 pb hpb
    obtain ⟨hpm, hpid⟩ := findPolicy_some hfp
    rw [any_pid_iff, hloadP, pids_filter_managed]
    exact ⟨hpid ▸ List.mem_map_of_mem (f := (·.id)) hpm, hT.pol_managed pb hpb⟩
  rw [hB] at hab ⊢
  -- nothing to delete
  have hdelS : ((load S).services.filter (!(planServices (load S).services T.services).2.contains ·.id)) = [] := by
    refine List.eq_nil_iff_forall_not_mem.mpr fun s hs => ?_
    obtain ⟨hsm, hman, hnT⟩ := mem_delServices.mp (List.mem_map_of_mem (f := (·.id)) hs)
    obtain ⟨s0, hs0, e⟩ := List.mem_map.mp hsm
    obtain ⟨t, ht, hte⟩ := hsvc.2 s0 hs0 (by rw [show s0.id = s.id from e]; exact hman)
    exact hnT (e ▸ hte ▸ List.mem_map_of_mem (f := (·.id)) ht)
  have hdelG : ((load S).groups.filter (!(overA ctx T (load S).policies {}).1.needed.contains ·.id)) = [] := by
    rw [List.filter_eq_nil_iff]
    intro g hg
    obtain ⟨hgm, hman⟩ := List.mem_filter.mp hg
    obtain ⟨p, hp, ⟨pb, hpb, hpbid⟩, r, hr, huse⟩ := hgrp g hgm hman
    have hpl : p ∈ (load S).policies :=
      List.mem_filter.mpr ⟨hp, by rw [← hpbid]; exact hT.pol_managed pb hpb⟩
    have hneed := nA p hpl r hr
    have hga : ctx.gma (groupPath g.id) = some { g with addrs := sortAddrs g.addrs } := by
      rw [Ctx.gma]
      rw [groupRef_groupPath, hcf.a_eq]
      exact findGroupLast_sorted hS (findGroup_mem_nodup hS.grp_nodup hgm) hman
    have : g.id ∈ (overA ctx T (load S).policies {}).1.needed := by
      rcases ruleUsesGroup_iff.mp huse with e | e
      · exact hneed.1 { g with addrs := sortAddrs g.addrs } (by rw [e]; exact hga)
      · exact hneed.2 { g with addrs := sortAddrs g.addrs } (by rw [e]; exact hga)
    simpa using this
  rw [hsvcNone, eA, hdelS, hdelG]
  rfl

theorem allCompact_iff (S : Store) : AllCompact S ↔ RulesCompact (load S) := by
  unfold AllCompact RulesCompact Rule.compact
  constructor
  · intro h p hp r hr
    obtain ⟨h1, h2⟩ := List.mem_filter.mp hp
    exact h p h1 h2 r hr
  · intro h p hp hm r hr
    exact h p (List.mem_filter.mpr ⟨hp, hm⟩) r hr

/-- **Idempotence.**  Execute the plan on the strict manager, plan again: no call. -/
theorem plan_idempotent {diff : Diff} (hdiff : ∀ n m eq, validScript n m eq (diff n m eq) = true)
    (hid : IdOnEqual diff) {S : Store} {T : Config} (hacc : accepted S T = true) (hidem : idemOK S T = true)
    (hab : (plan diff (load S) T).abort = none) :
    ∃ S', run S (plan diff (load S) T).calls = some S' ∧
      ((plan diff (load S') T).abort = none → (plan diff (load S') T).calls = []) := by
  obtain ⟨hS, hT, h5, h6⟩ := accepted_facts hacc
  unfold idemOK at hidem
  simp only [Bool.and_eq_true] at hidem
  obtain ⟨⟨i1, i2⟩, i3⟩ := hidem
  obtain ⟨S', hrun, hconv, hsvc, hgrp, hdist⟩ := plan_converges hdiff hS hT h5 h6 hab
  refine ⟨S', hrun, fun hab2 => ?_⟩
  have hk : run S ((plan diff (load S) T).calls.take (plan diff (load S) T).calls.length) = some S' := by
    rw [List.take_length]; exact hrun
  have hS' := (accepted_facts (prefix_accepted hdiff hacc _ hk)).1
  have hcomp : AllCompact S' :=
    run_compact _ S S' ((allCompact_iff S).mpr ((rulesCompact_iff _).mp i1)) (plan_aok hdiff hT) hrun
  have hdT := DistinctContent.of_decide _ i3
  exact plan_unchanged hid hS' hT hconv hsvc hgrp ((allCompact_iff S').mp hcomp) ((rulesCompact_iff _).mp i2) hdT
    (hdist hdT) hab2

theorem commonPrefix_all (eq : Nat → Nat → Bool) (n : Nat) (h : ∀ j, j < n → eq j j = true) :
    ∀ (f i : Nat), i ≤ n → commonPrefix eq n n f i = min (i + f) n := by
  intro f
  induction f with
  | zero => intro i hi; simp [commonPrefix]; omega
  | succ f ih =>
    intro i hi
    unfold commonPrefix
    by_cases hlt : i < n
    · simp only [hlt, h i hlt, and_self, if_true]
      rw [ih (i + 1) (by omega)]; omega
    · simp only [hlt, false_and, if_false]; omega

theorem prefixDiff_idOnEqual : IdOnEqual prefixDiff := by
  intro n eq h
  unfold prefixDiff
  have hk : commonPrefix eq n n (min n n) 0 = n := by rw [commonPrefix_all eq n h _ 0 (by omega)]; omega
  simp only [hk, Nat.lt_irrefl, if_false, List.append_nil]
  by_cases hn : n = 0
  · right; exact ⟨hn, by simp [hn]⟩
  · left; simp [hn]

end NA.Nsx
