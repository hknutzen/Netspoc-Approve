import NA.Spec.C11Sess
import NA.Proofs.C09Struct
/-!
# C11 over the session model of C09: a reflective checker for "compare sends only harmless things"

`ro b p` is a syntactic check of a session program `p` under the assumption that the run is a
compare run (`env.compare = true`): a test of the flag `isCompare` selects its branch, every
`send` / `roundTrip` has a harmless role and a literal from `allowedLines b` (or the password),
never the current element of the change script, and no start-up file is copied.

`ro_ext` — soundness: whatever the device answers, everything a checked program appends to the trace is `sentAllowed`.
-/
namespace NA.C11
open NA.Sess NA.Apply NA.Spec.C11 NA.C09

/-- what is known about a condition in a compare run -/
def condKnown : Cond → Option Bool
  | .isCompare => some true
  | .not c => (condKnown c).map (!·)
  | _ => none

theorem condKnown_sound (c : Cond) (v : Bool) (env : Env) (s : St) (h : env.compare = true)
    (hv : condKnown c = some v) : evalCond c env s = v := by
  induction c generalizing v with
  | isCompare => cases hv; simp [evalCond, h]
  | not c ih =>
    obtain ⟨w, hw, rfl⟩ := Option.map_eq_some_iff.1 hv
    simp [evalCond, ih w hw]
  | _ => simp [condKnown] at hv

def okTxt (b : Backend) : Txt → Bool
  | .lit s => (allowedLines b).contains s
  | .litNl s => (allowedLines b).contains s
  | .secret => (allowedLines b).contains "<secret>"
  | .cur => false

def ro (b : Backend) : Sess → Bool
  | .skip | .recv _ _ | .recvMore _ | .abort _ | .warn _ | .cont | .ret _ _ | .setCtr _ | .decCtr
  | .setPlan | .assumeBanner => true
  | .send ρ t => allowedRole ρ && okTxt b t
  | .roundTrip ρ t _ => allowedRole ρ && okTxt b t
  | .mark e => sentAllowed b e
  | .ite c _ t e =>
    match condKnown c with
    | some true => ro b t
    | some false => ro b e
    | none => ro b t && ro b e
  | .seq p q => ro b p && ro b q
  | .forEach p => ro b p
  | .defer c p => ro b c && ro b p
  | .loopN _ p => ro b p
  | .loopFuel p => ro b p
  | .call _ _ p => ro b p
  | .scope _ p => ro b p
  | .when _ p => ro b p

/-- `s'` extends the trace of `s` by allowed events only -/
def Ext (b : Backend) (s s' : St) : Prop := ∃ l, s'.tr = s.tr ++ l ∧ ∀ e ∈ l, sentAllowed b e = true

theorem recvLoop_ext (b : Backend) (dev : Dev) (ρ : Role) (p : Pat) :
    ∀ (n : Nat) (s : St), Ext b s (recvLoop dev ρ p n s) := fun n s =>
  (recvLoop_grows (Q := (sentAllowed b · = true)) (sp := true) (fun _ _ => rfl) (fun _ => rfl) dev ρ p n s).1

theorem okTxt_lines (b : Backend) (t : Txt) (h : okTxt b t = true) (env : Env) :
    (t.lines env).all (allowedLines b).contains = true := by
  cases t <;> simp_all [okTxt, Txt.lines]

theorem ro_descends (b : Backend) : Descends condKnown (ro b) := by
  intro p h
  cases p <;> try trivial
  case ite c l t e =>
    show match condKnown c with
      | some true => ro b t = true | some false => ro b e = true | none => ro b t = true ∧ ro b e = true
    cases hk : condKnown c with
    | none => simpa [ro, hk] using h
    | some v => cases v <;> simpa [ro, hk] using h
  case seq a b' => simpa [ro] using h
  case defer a b' => simpa [ro] using h
  all_goals exact h

/-- **Soundness of the checker**: in a compare run a checked program appends only allowed events,
against every device. -/
theorem ro_ext (b : Backend) (p : Sess) (hq : ro b p = true) :
    ∀ (env : Env) (s : St), env.compare = true → Ext b s (exec p env s) := by
  refine fun env s hc => (exec_walk (R := Grows (sentAllowed b · = true) true) (E := fun env => env.compare = true)
    Grows.frame (fun _ _ => Iff.rfl) condKnown_sound (ro_descends b)
    (fun p hl hok env s _ hm => ?_) p hq env s hc).1
  -- what the construct itself appends: replies, or its own packet / mark, which `ro` has looked at
  refine (leaf_grows p hl env s hm).mono (fun e he => ?_) (fun h => by cases h)
  rcases he with ⟨ρ, r, rfl⟩ | ⟨r, rfl⟩ | h
  · rfl
  · rfl
  · cases p <;> (try cases hl) <;> (try exact False.elim h)
    all_goals subst h
    · simp only [ro, Bool.and_eq_true] at hok
      simp [sentAllowed, hok.1, okTxt_lines b _ hok.2 env]
    · simp only [ro, Bool.and_eq_true] at hok
      simp [sentAllowed, hok.1, okTxt_lines b _ hok.2 env]
    · rfl
    · rfl
    · simpa [ro] using hok

theorem linesOf_allowed (b : Backend) (tr : List Ev) (h : ReadOnlyTrace b tr) :
    ∀ l ∈ sentLines tr, l ∈ allowedLines b := by
  induction tr with
  | nil => intro l hl; cases hl
  | cons e t ih =>
    intro l hl
    obtain ⟨he, ht⟩ := List.forall_mem_cons.mp h
    cases e with
    | sent ρ ls =>
      simp only [sentLines, NA.Spec.C09.linesOf, List.foldr_cons, List.mem_append] at hl
      rcases hl with hl | hl
      · simp only [sentAllowed, Bool.and_eq_true, List.all_eq_true] at he
        simpa using he.2 l hl
      · exact ih ht l hl
    | _ =>
      exact ih ht l hl

end NA.C11
