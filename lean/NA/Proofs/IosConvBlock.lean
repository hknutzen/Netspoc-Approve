import NA.Spec.AclDev
import NA.Proofs.C14
/-!
Block equivalence of line lists.  `BlockEq`: generated by swaps of adjacent lines of equal action (or
where one is a remark); `BlockEqG E`: also a line replaced by an `E`-related one (`LineEqv`: lines that
differ only in `log`); `BlockEq` is the case `E = Eq`.  Each implies equal `eval`; `eval` depends only on
the action blocks that the executable `blockEquiv` compares.
-/
namespace NA.Acl

def swappable (a b : Line) : Prop := a.remark = true ∨ b.remark = true ∨ a.permit = b.permit

inductive BlockEq : List Line → List Line → Prop
  | refl (x : List Line) : BlockEq x x
  | swap (s1 s2 : List Line) (a b : Line) (h : swappable a b) :
      BlockEq (s1 ++ a :: b :: s2) (s1 ++ b :: a :: s2)
  | trans {x y z : List Line} : BlockEq x y → BlockEq y z → BlockEq x z

theorem swappable_symm {a b : Line} (h : swappable a b) : swappable b a := by
  rcases h with h | h | h
  · exact Or.inr (Or.inl h)
  · exact Or.inl h
  · exact Or.inr (Or.inr h.symm)

theorem BlockEq.symm {x y : List Line} (h : BlockEq x y) : BlockEq y x := by
  induction h with
  | refl x => exact .refl x
  | swap s1 s2 a b h => exact .swap s1 s2 b a (swappable_symm h)
  | trans _ _ ih1 ih2 => exact .trans ih2 ih1

theorem eval_swap (s1 s2 : List Line) (a b : Line) (h : swappable a b) (p : Nat) :
    eval (s1 ++ a :: b :: s2) p = eval (s1 ++ b :: a :: s2) p := by
  rw [eval_append, eval_append s1]
  congr 1
  simp only [eval]
  rcases h with h | h | h
  · simp [Line.hits, h]
  · simp [Line.hits, h]
  · cases a.hits p <;> cases b.hits p <;> simp [h]

inductive BlockEqG (E : Line → Line → Prop) : List Line → List Line → Prop
  | refl (x : List Line) : BlockEqG E x x
  | swap (s1 s2 : List Line) (a b : Line) (h : swappable a b) :
      BlockEqG E (s1 ++ a :: b :: s2) (s1 ++ b :: a :: s2)
  | repl (s1 s2 : List Line) (a b : Line) (h : E a b) : BlockEqG E (s1 ++ a :: s2) (s1 ++ b :: s2)
  | trans {x y z : List Line} : BlockEqG E x y → BlockEqG E y z → BlockEqG E x z

theorem BlockEq.toG (E : Line → Line → Prop) {x y : List Line} (h : BlockEq x y) : BlockEqG E x y := by
  induction h with
  | refl x => exact .refl x
  | swap s1 s2 a b h => exact .swap s1 s2 a b h
  | trans _ _ ih1 ih2 => exact .trans ih1 ih2

theorem BlockEqG.toBlockEq {x y : List Line} (h : BlockEqG Eq x y) : BlockEq x y := by
  induction h with
  | refl x => exact .refl x
  | swap s1 s2 a b h => exact .swap s1 s2 a b h
  | repl s1 s2 a b h => subst h; exact .refl _
  | trans _ _ ih1 ih2 => exact .trans ih1 ih2

theorem BlockEqG.cons {E : Line → Line → Prop} (a : Line) {x y : List Line} (h : BlockEqG E x y) :
    BlockEqG E (a :: x) (a :: y) := by
  induction h with
  | refl x => exact .refl _
  | swap s1 s2 b c h => exact .swap (a :: s1) s2 b c h
  | repl s1 s2 b c h => exact .repl (a :: s1) s2 b c h
  | trans _ _ ih1 ih2 => exact .trans ih1 ih2

theorem BlockEqG.eval_eq {E : Line → Line → Prop}
    (hE : ∀ a b, E a b → a.permit = b.permit ∧ ∀ p, a.hits p = b.hits p)
    {x y : List Line} (h : BlockEqG E x y) (p : Nat) : eval x p = eval y p := by
  induction h with
  | refl x => rfl
  | swap s1 s2 a b h => exact eval_swap s1 s2 a b h p
  | repl s1 s2 a b h => exact eval_replace_same s1 s2 a b p ((hE a b h).2 p) (hE a b h).1
  | trans _ _ ih1 ih2 => exact ih1.trans ih2

theorem BlockEq.eval_eq {x y : List Line} (h : BlockEq x y) (p : Nat) : eval x p = eval y p :=
  (h.toG Eq).eval_eq (by rintro _ _ rfl; exact ⟨rfl, fun _ => rfl⟩) p

theorem BlockEq.cons (a : Line) {x y : List Line} (h : BlockEq x y) : BlockEq (a :: x) (a :: y) :=
  ((h.toG Eq).cons a).toBlockEq

theorem BlockEq.append_left (s : List Line) {x y : List Line} (h : BlockEq x y) :
    BlockEq (s ++ x) (s ++ y) := by
  induction s with
  | nil => exact h
  | cons a s ih => exact ih.cons a

theorem BlockEq.append_right (s : List Line) {x y : List Line} (h : BlockEq x y) :
    BlockEq (x ++ s) (y ++ s) := by
  induction h with
  | refl x => exact .refl _
  | swap s1 s2 b c h => simpa using BlockEq.swap s1 (s2 ++ s) b c h
  | trans _ _ ih1 ih2 => exact .trans ih1 ih2

theorem BlockEq.move_down (s1 mid s2 : List Line) (x : Line) (h : ∀ y ∈ mid, swappable x y) :
    BlockEq (s1 ++ x :: mid ++ s2) (s1 ++ mid ++ x :: s2) := by
  induction mid generalizing s1 with
  | nil => simpa using BlockEq.refl _
  | cons y mid ih =>
    have h1 : BlockEq (s1 ++ x :: (y :: mid) ++ s2) (s1 ++ y :: x :: (mid ++ s2)) := by
      simpa using BlockEq.swap s1 (mid ++ s2) x y (h y List.mem_cons_self)
    have h2 := ih (s1 ++ [y]) (fun z hz => h z (List.mem_cons_of_mem _ hz))
    refine h1.trans ?_
    simpa using h2

/-- Same match, same action, same identity modulo `log`. -/
def LineEqv (a b : Line) : Prop :=
  a.mkey = b.mkey ∧ a.permit = b.permit ∧ a.remark = b.remark ∧ a.mask = b.mask

instance (a b : Line) : Decidable (LineEqv a b) := by unfold LineEqv; infer_instance

theorem LineEqv.sem {a b : Line} (h : LineEqv a b) : a.permit = b.permit ∧ ∀ p, a.hits p = b.hits p := by
  obtain ⟨_, h2, h3, h4⟩ := h
  exact ⟨h2, fun p => by simp [Line.hits, h3, h4]⟩

theorem LineEqv.swappable {a b c : Line} (h : LineEqv a b) (hs : swappable a c) : swappable b c := by
  obtain ⟨_, h2, h3, _⟩ := h
  rcases hs with hs | hs | hs
  · exact Or.inl (by rw [← h3]; exact hs)
  · exact Or.inr (Or.inl hs)
  · exact Or.inr (Or.inr (by rw [← h2]; exact hs))

theorem LineEqv.act {a b : Line} (h : LineEqv a b) : a.act = b.act := by
  obtain ⟨_, h2, h3, _⟩ := h
  simp [Line.act, h2, h3]

/-- Evaluation on action blocks, given which `mkey`s match the packet. -/
def evalBlocks (H : Nat → Bool) : List (Bool × List Nat) → Bool
  | [] => false
  | (perm, ks) :: rest => if ks.any H then perm else evalBlocks H rest

theorem any_insertSorted (H : Nat → Bool) (k : Nat) (ks : List Nat) :
    (insertSorted k ks).any H = (H k || ks.any H) := by
  induction ks with
  | nil => simp [insertSorted]
  | cons y ys ih =>
    simp only [insertSorted]
    split
    · simp
    · simp only [List.any_cons, ih]
      cases H k <;> cases H y <;> simp

theorem eval_eq_evalBlocks (H : Nat → Bool) (p : Nat) (x : List Line)
    (hH : ∀ l ∈ x, l.remark = false → H l.mkey = l.hits p) :
    eval x p = evalBlocks H (actionBlocks x) := by
  induction x with
  | nil => rfl
  | cons l ls ih =>
    have ih' := ih fun l' hl' => hH l' (List.mem_cons_of_mem _ hl')
    simp only [eval, actionBlocks]
    cases hr : l.remark with
    | true => simp [Line.hits, hr, ih']
    | false =>
      have hl := hH l List.mem_cons_self hr
      simp only [Bool.false_eq_true, if_false]
      rw [ih']
      cases hab : actionBlocks ls with
      | nil => simp [evalBlocks, hl]
      | cons b rest =>
        obtain ⟨q, ks⟩ := b
        by_cases hq : q = l.permit
        · subst hq
          simp only [beq_self_eq_true, if_true, evalBlocks, any_insertSorted, hl]
          cases l.hits p <;> simp
        · have : (q == l.permit) = false := by simpa using hq
          simp only [this, Bool.false_eq_true, if_false, evalBlocks, List.any_cons, List.any_nil,
            Bool.or_false, hl]

end NA.Acl
