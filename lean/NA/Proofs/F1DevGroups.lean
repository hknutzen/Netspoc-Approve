import NA.Proofs.F1Dev
import NA.Proofs.F1Frame
/-!
# F1: executing the engine's object-group commands on the strict device
-/
namespace NA.F1
open NA.AsaDev
open NA.Acl (Range)

/-- The engine's `subCmdOf` and the device's open sub-mode agree. -/
def ModeRel (st : St) (d : Dev) : Prop := d.mode = if st.mode = "" then none else some st.mode

structure OnlyGroup (d d' : Dev) (g : Name) : Prop where
  others : ∀ g', g' ≠ g → membersOf d' g' = membersOf d g'
  has : ∀ g', hasGroup d' g' = hasGroup d g'
  acls : d'.acls = d.acls
  binds : d'.binds = d.binds
  routes : d'.routes = d.routes
  intfs : d'.intfs = d.intfs

theorem OnlyGroup.refl (d : Dev) (g : Name) : OnlyGroup d d g := ⟨fun _ _ => rfl, fun _ => rfl, rfl, rfl, rfl, rfl⟩

theorem OnlyGroup.trans {d1 d2 d3 : Dev} {g : Name} (h1 : OnlyGroup d1 d2 g) (h2 : OnlyGroup d2 d3 g) : OnlyGroup d1 d3 g :=
  ⟨fun g' hg => (h2.others g' hg).trans (h1.others g' hg), fun g' => (h2.has g').trans (h1.has g'),
   h2.acls.trans h1.acls, h2.binds.trans h1.binds, h2.routes.trans h1.routes, h2.intfs.trans h1.intfs⟩

theorem OnlyGroup.of_mode (d : Dev) (g : Name) (md : Option Name) : OnlyGroup d { d with mode := md } g :=
  ⟨fun _ _ => rfl, fun _ => rfl, rfl, rfl, rfl, rfl⟩

theorem or_has {d : Dev} {X : Name} (hX : hasGroup d X = true) (g : Name) : hasGroup d g = (X == g || hasGroup d g) := by
  by_cases e1 : X = g
  · rw [← e1, hX, Bool.or_true]
  · rw [beq_false_of_ne e1, Bool.false_or]

theorem OnlyGroup.of_setGroup (d : Dev) (g : Name) (ms : List String) (md : Option Name) (hg : hasGroup d g = true) :
    OnlyGroup d { d with groups := setAssoc d.groups g ms, mode := md } g :=
  ⟨fun g' hg' => membersOf_setGroup_ne d g g' ms md hg', fun g' => (hasGroup_setGroup d g g' ms md).trans (or_has hg g').symm,
    rfl, rfl, rfl, rfl⟩

theorem setMode_exec (st : St) (d : Dev) (n : Name) (hm : ModeRel st d) (hg : hasGroup d n = true) (hn : n ≠ "") :
    ∃ cs, (setMode st n).out = st.out ++ cs ∧ exec d cs = some { d with mode := some n } ∧ (setMode st n).mode = n := by
  unfold setMode
  by_cases h1 : (st.mode == n) = true
  · have e : st.mode = n := eq_of_beq h1
    rw [if_pos h1]
    refine ⟨[], (List.append_nil _).symm, ?_, e⟩
    unfold ModeRel at hm
    rw [e, if_neg hn] at hm
    cases d; simp only at hm; subst hm; rfl
  · rw [if_neg h1]
    have hgrp : ∀ d0 : Dev, hasGroup d0 n = true → exec1 d0 (.grp n) = .ok { d0 with mode := some n } := by
      intro d0 h0; simp [exec1, h0]
    by_cases h2 : (st.mode != "") = true
    · have hne : st.mode ≠ "" := by simpa using h2
      simp only [h2, if_true]
      refine ⟨[.exit, .grp n], by simp [St.emit, St.hit], ?_⟩
      simp only [and_true]
      unfold ModeRel at hm
      rw [if_neg hne] at hm
      rw [exec_cons]
      simp only [step, exec1_exit_ok hm, Option.bind_some]
      exact exec_single (hgrp _ hg)
    · simp only [h2, Bool.false_eq_true, if_false]
      exact ⟨[.grp n], by simp [St.emit], by simp only [and_true]; exact exec_single (hgrp d hg)⟩

theorem modeRel_of_mode {st : St} {d : Dev} {n : Name} (h1 : st.mode = n) (h2 : d.mode = some n) (hn : n ≠ "") : ModeRel st d := by
  unfold ModeRel; rw [h1, if_neg hn]; exact h2

theorem exec1_memChg {d : Dev} {g : Name} {op : Bool × String} {cur' : List String} (hm : d.mode = some g)
    (ha : applyMem (membersOf d g) [op] = some cur') :
    exec1 d (memChg op) = .ok { d with groups := setAssoc d.groups g cur' } := by
  obtain ⟨k, m⟩ := op
  cases k with
  | true =>
    simp only [applyMem] at ha
    split at ha
    · exact absurd ha (by simp)
    · rename_i hc
      have hc' : m ∉ membersOf d g := by simpa using hc
      simp only [Option.some.injEq] at ha
      simp [memChg, exec1, hm, hc', ← ha]
  | false =>
    simp only [applyMem] at ha
    split at ha
    · rename_i hc
      have hc' : m ∈ membersOf d g := by simpa using hc
      simp only [Option.some.injEq] at ha
      simp [memChg, exec1, hm, hc', ← ha]
    · exact absurd ha (by simp)

theorem memStep_exec (st : St) (d : Dev) (aN : Name) (op : Bool × String) (cur' : List String)
    (hm : ModeRel st d) (hg : hasGroup d aN = true) (hn : aN ≠ "")
    (ha : applyMem (membersOf d aN) [op] = some cur') :
    ∃ cs d', ((setMode st aN).emit (memChg op)).out = st.out ++ cs ∧ exec d cs = some d' ∧
      ModeRel ((setMode st aN).emit (memChg op)) d' ∧ membersOf d' aN = cur' ∧ OnlyGroup d d' aN := by
  obtain ⟨cs, ho, he, hmd⟩ := setMode_exec st d aN hm hg hn
  have e1 := exec1_memChg (d := { d with mode := some aN }) rfl ha
  generalize setMode st aN = s at ho hmd ⊢
  exact ⟨cs ++ [memChg op], _, by rw [← List.append_assoc, ← ho]; rfl, exec_append_some he (exec_single e1),
    modeRel_of_mode hmd rfl hn, membersOf_setGroup_self d aN cur' _, OnlyGroup.of_setGroup d aN _ _ hg⟩

theorem memFold_exec (aN : Name) (hn : aN ≠ "") : ∀ (ops : List (Bool × String)) (st : St) (d : Dev) (cur' : List String),
    ModeRel st d → hasGroup d aN = true → applyMem (membersOf d aN) ops = some cur' →
    ∃ cs d', (ops.foldl (fun s op => (setMode s aN).emit (memChg op)) st).out = st.out ++ cs ∧ exec d cs = some d' ∧
      ModeRel (ops.foldl (fun s op => (setMode s aN).emit (memChg op)) st) d' ∧ membersOf d' aN = cur' ∧ OnlyGroup d d' aN := by
  intro ops
  induction ops with
  | nil =>
    intro st d cur' hm _ ha
    simp only [applyMem, Option.some.injEq] at ha
    exact ⟨[], d, by simp, exec_nil d, hm, ha, OnlyGroup.refl d aN⟩
  | cons op ops ih =>
    intro st d cur' hm hg ha
    have hsplit : applyMem (membersOf d aN) ([op] ++ ops) = some cur' := ha
    rw [applyMem_append] at hsplit
    cases h1 : applyMem (membersOf d aN) [op] with
    | none => rw [h1] at hsplit; exact absurd hsplit (by simp)
    | some c1 =>
      rw [h1] at hsplit
      obtain ⟨cs1, d1, ho1, he1, hm1, hmem1, hog1⟩ := memStep_exec st d aN op c1 hm hg hn h1
      have hg1 : hasGroup d1 aN = true := by rw [hog1.has]; exact hg
      obtain ⟨cs2, d2, ho2, he2, hm2, hmem2, hog2⟩ := ih _ d1 cur' hm1 hg1 (by rw [hmem1]; exact hsplit)
      refine ⟨cs1 ++ cs2, d2, ?_, exec_append_some he1 he2, hm2, hmem2, hog1.trans hog2⟩
      simp only [List.foldl_cons]
      rw [ho2, ho1, List.append_assoc]

theorem editMembers_exec (st : St) (d : Dev) (aN : Name) (la lb : List String) (rs : List Range) (cur' : List String)
    (hn : aN ≠ "") (hm : ModeRel st d) (hg : hasGroup d aN = true)
    (ha : applyMem (membersOf d aN) (memOps la lb rs) = some cur') :
    ∃ cs d', (editMembers st aN la lb rs).out = st.out ++ cs ∧ exec d cs = some d' ∧
      ModeRel (editMembers st aN la lb rs) d' ∧ membersOf d' aN = cur' ∧ OnlyGroup d d' aN := by
  rw [editMembers_eq_fold]
  exact memFold_exec aN hn _ st d cur' hm hg ha

theorem editMembers_converges (st : St) (d : Dev) (aN : Name) (la lb : List String) (rs : List Range)
    (hn : aN ≠ "") (hm : ModeRel st d) (hg : hasGroup d aN = true)
    (hv : scriptOK la lb rs 0 0 = true) (hna : la.Nodup) (hnb : lb.Nodup) (hcur : (membersOf d aN).Perm la)
    (hdisj : ∀ m ∈ inssOf lb rs, m ∉ delsOf la rs) :
    ∃ cs d', (editMembers st aN la lb rs).out = st.out ++ cs ∧ exec d cs = some d' ∧
      ModeRel (editMembers st aN la lb rs) d' ∧ (membersOf d' aN).Perm lb ∧ OnlyGroup d d' aN := by
  obtain ⟨l', h1, h2⟩ := memOps_converge la lb (membersOf d aN) rs hv hna hnb hcur hdisj
  obtain ⟨cs, d', ho, he, hm', hmem, hog⟩ := editMembers_exec st d aN la lb rs l' hn hm hg h1
  exact ⟨cs, d', ho, he, hm', hmem ▸ h2, hog⟩

end NA.F1
