import NA.Model.Cursor
/-!
Two ways to speak of a call.  Where a function has one result and it is "no Go panic": `NoPanic` with its rules.  Where more
is claimed: `Res.Spec P D N r` — the call `r` ends with a value satisfying `P`, a diagnostic satisfying `D` or a Go panic
satisfying `N`; such a function gets ONE theorem `f_spec`, from one walk through its case tree, and `NoPanic`, `PanicOnly`, "the
diagnostic names the command" and the bounds on the value are its components.  A hypothesis that only one outcome needs
stands inside that component (`N := fun _ => fixed = false ∨ (fields parsed).length < 4`: a panic only in the snapshot or
with too few words).  `res_bind_ok` reads a successful call backwards, for the modules that speak only of the value returned.
-/
namespace NA.C20
open Res

/-- For the kernel a string literal is `String.ofList [chars]`, so this gives the characters of
`lit "…"` without evaluating `String.toList`, which decodes UTF-8 byte by byte.  Use it as
`simp -index only [lit_ofList]` (simp's index does not match a literal against `String.ofList _`)
before a concrete evaluation. -/
theorem lit_ofList (l : List Char) : lit (String.ofList l) = l := String.toList_ofList

theorem noPanic_ok {α : Type} {a : α} : NoPanic (Res.ok a) := by intro p h; cases h
theorem noPanic_diag {α : Type} {m : Str} : NoPanic (Res.diag m : Res α) := by intro p h; cases h

theorem NoPanic.ite {α : Type} {c : Prop} [Decidable c] {x y : Res α} (hx : NoPanic x) (hy : NoPanic y) :
    NoPanic (if c then x else y) := by
  split <;> assumption

theorem NoPanic.bind {α β : Type} {x : Res α} {f : α → Res β}
    (hx : NoPanic x) (hf : ∀ a, NoPanic (f a)) : NoPanic (x.bind f) := by
  intro p h
  cases x with
  | ok a => exact hf a p h
  | diag m => cases h
  | panic q => exact hx q rfl

theorem noPanic_failAt_fixed {α : Type} (p : Panic) (m : Str) : NoPanic (failAt true p m : Res α) := noPanic_diag

theorem ok_bind {α β : Type} (a : α) (f : α → Res β) : (Res.ok a).bind f = f a := rfl

theorem res_bind_ok {α β : Type} {x : Res α} {f : α → Res β} {b : β} (h : x.bind f = .ok b) :
    ∃ a, x = .ok a ∧ f a = .ok b := by
  cases x with
  | ok a => exact ⟨a, rfl, h⟩
  | diag m => cases h
  | panic p => cases h

def Res.Spec {α : Type} (P : α → Prop) (D : Str → Prop) (N : Panic → Prop) : Res α → Prop
  | .ok a => P a
  | .diag m => D m
  | .panic p => N p

section
variable {α β : Type} {P P' : α → Prop} {Q : β → Prop} {D D' : Str → Prop} {N N' : Panic → Prop} {r : Res α}

theorem Res.Spec.bind {f : α → Res β} (hx : Spec P D N r) (hf : ∀ a, P a → Spec Q D N (f a)) :
    Spec Q D N (r.bind f) := by
  cases r with
  | ok a => exact hf a hx
  | diag m => exact hx
  | panic p => exact hx

theorem Res.Spec.mono (h : Spec P D N r) (hp : ∀ a, P a → P' a) (hd : ∀ m, D m → D' m) (hn : ∀ p, N p → N' p) :
    Spec P' D' N' r := by
  cases r with
  | ok a => exact hp a h
  | diag m => exact hd m h
  | panic p => exact hn p h

theorem Res.Spec.weaken (h : Spec P D N r) (hd : ∀ m, D m → D' m) (hn : ∀ p, N p → N' p) : Spec P D' N' r :=
  h.mono (fun _ h => h) hd hn

theorem Res.Spec.imp (h : Spec P D N r) (hp : ∀ a, P a → P' a) : Spec P' D N r :=
  h.mono hp (fun _ h => h) (fun _ h => h)

theorem Res.Spec.ok (h : Spec P D N r) {a : α} (e : r = .ok a) : P a := by subst e; exact h
theorem Res.Spec.diag (h : Spec P D N r) {m : Str} (e : r = .diag m) : D m := by subst e; exact h
theorem Res.Spec.panic (h : Spec P D N r) {p : Panic} (e : r = .panic p) : N p := by subst e; exact h

theorem Res.Spec.noPanic (h : Spec P D (fun _ => False) r) : NoPanic r := fun _ e => h.panic e

theorem spec_of_noPanic (h : NoPanic r) : Spec (fun _ => True) (fun _ => True) (fun _ => False) r := by
  cases r with
  | ok a => trivial
  | diag m => trivial
  | panic p => exact h p rfl

theorem spec_failAt {fixed : Bool} {p : Panic} {msg : Str} (hd : fixed = true → D msg) (hn : fixed = false → N p) :
    Spec P D N (failAt fixed p msg) := by
  cases fixed
  · exact hn rfl
  · exact hd rfl
end

def Names (m x : Str) : Prop := x <:+: m

theorem names_mid (a x b : Str) : Names (a ++ x ++ b) x := ⟨a, b, rfl⟩
theorem names_end (a x : Str) : Names (a ++ x) x := ⟨a, [], by simp⟩
theorem Names.append {m x : Str} (h : Names m x) (b : Str) : Names (m ++ b) x :=
  List.IsInfix.trans h (List.prefix_append m b).isInfix

/-- The `conv…` cursor steps of `postprocessACLParts` (cisco/parse.go), which stop at a missing token with `failAt`. -/
def Step (fixed : Bool) (orig : Str) (Q : AclSt → AclSt → Prop) (f : AclSt → Res AclSt) : Prop :=
  ∀ s, Spec (Q s) (· = incomplete orig) (fun _ => fixed = false) (f s)

def Grow1 (s s' : AclSt) : Prop := s'.refs.length ≤ s.refs.length + 1 ∧ s'.proto = s.proto

theorem step_convObjectGroup (fixed : Bool) (orig : Str) : Step fixed orig Grow1 (convObjectGroup fixed orig) := by
  intro s
  fun_cases convObjectGroup fixed orig s
  · exact ⟨by simp, rfl⟩
  · exact spec_failAt (fun _ => rfl) id

theorem step_convObject (fixed : Bool) (tb : Tables) (orig : Str) :
    Step fixed orig Grow1 (convObject fixed tb orig) := by
  intro s
  fun_cases convObject fixed tb orig s
  case case2 => exact step_convObjectGroup fixed orig s
  case case6 => exact spec_failAt (fun _ => rfl) id
  all_goals exact ⟨by simp, rfl⟩

theorem step_convPortOrObject (fixed : Bool) (tb : Tables) (orig : Str) :
    Step fixed orig Grow1 (convPortOrObject fixed tb orig) := by
  intro s
  fun_cases convPortOrObject fixed tb orig s
  case case4 => exact step_convObject fixed tb orig s
  all_goals exact ⟨by simp, rfl⟩

theorem step_convProto (fixed : Bool) (tb : Tables) (orig : Str) :
    Step fixed orig (fun s s' => s'.refs.length ≤ s.refs.length + 1 ∧ (s'.refs.length = s.refs.length + 1 → s'.proto = s.proto))
      (convProto fixed tb orig) := by
  intro s
  fun_cases convProto fixed tb orig s
  case case2 => exact (step_convObjectGroup fixed orig s).imp fun s' h => ⟨h.1, fun _ => h.2⟩
  case case1 | case4 => exact spec_failAt (fun _ => rfl) id
  all_goals exact ⟨by simp, by simp⟩

theorem convICMP_refs (tb : Tables) (s : AclSt) : (convICMP tb s).refs = s.refs := by
  fun_cases convICMP tb s
  all_goals rfl

theorem skipNumber_refs (s : AclSt) : (skipNumber s).refs = s.refs := by
  fun_cases skipNumber s
  all_goals rfl

theorem aclParts_spec (fixed : Bool) (tb : Tables) (orig : Str) (parts : List Str) :
    Spec (fun r => r.2.length ≤ 5) (· = incomplete orig) (fun _ => fixed = false) (aclParts fixed tb orig parts) := by
  have ho := step_convObject fixed tb orig
  have hp := step_convPortOrObject fixed tb orig
  unfold aclParts
  refine (step_convProto fixed tb orig _).bind fun s1 ⟨p1, p1'⟩ => (ho s1).bind fun s2 ⟨g2, q2⟩ => ?_
  simp only [List.length_nil, Nat.zero_add] at p1 p1'
  refine Spec.bind (P := fun s3 => s3.refs.length ≤ 4) ?_ fun s3 h3 => (ho s3).bind fun s4 g4 => ?_
  · split
    · -- tcp / udp: `proto` is not empty, so `convProto` took no reference
      rename_i hpr
      have hs1 : s1.refs.length ≠ 1 := fun h1 => by
        rw [q2, p1' h1] at hpr
        rcases hpr with hpr | hpr <;> exact absurd hpr (by simp -index only [lit_ofList]; decide)
      exact (hp s2).bind fun a ha => (hp a).bind fun b hb => (hp b).imp fun c hc => by
        have := ha.1; have := hb.1; have := hc.1; omega
    · split
      · exact (ho s2).bind fun a ha => by
          show (skipNumber (convICMP tb a)).refs.length ≤ 4
          rw [skipNumber_refs, convICMP_refs]; have := ha.1; omega
      · exact (ho s2).imp fun a ha => by have := ha.1; omega
  · show s4.refs.reverse.length ≤ 5
    rw [List.length_reverse]; have := g4.1; omega

theorem noPanic_aclParts (tb : Tables) (orig : Str) (parts : List Str) : NoPanic (aclParts true tb orig parts) :=
  fun _ e => Bool.noConfusion ((aclParts_spec true tb orig parts).panic e)

theorem aclParts_diag_names (tb : Tables) (orig : Str) (parts : List Str) (m : Str)
    (h : aclParts true tb orig parts = .diag m) : Names m orig :=
  (aclParts_spec true tb orig parts).diag h ▸ names_end _ _

theorem aclParts_refs_le5 (fixed : Bool) (tb : Tables) (orig : Str) (parts : List Str)
    (r : List Str × List Str) (h : aclParts fixed tb orig parts = .ok r) : r.2.length ≤ 5 :=
  (aclParts_spec fixed tb orig parts).ok h

theorem fields_space_cons (c : Char) (cs : Str) (h : isSpace c = true) : fields (c :: cs) = fields cs := by
  rw [fields.eq_def]; simp [h]

theorem fields_single (c : Char) (h : isSpace c = false) : fields [c] = [[c]] := by
  rw [fields.eq_def]; simp [h]

theorem fields_word_end (c d : Char) (cs : Str) (h : isSpace c = false) (hd : isSpace d = true) :
    fields (c :: d :: cs) = [c] :: fields (d :: cs) := by
  rw [fields.eq_def]; simp [h, hd]

theorem fields_word_cont (c d : Char) (cs : Str) (w : Str) (ws : List Str) (h : isSpace c = false)
    (hd : isSpace d = false) (hf : fields (d :: cs) = w :: ws) : fields (c :: d :: cs) = (c :: w) :: ws := by
  rw [fields.eq_def]; simp [h, hd, hf]

theorem fields_cons_ne_nil {c : Char} (cs : Str) (h : isSpace c = false) : fields (c :: cs) ≠ [] := by
  unfold fields
  rw [if_neg (by simp [h])]
  split
  · simp
  · split
    · simp
    · split <;> simp

def Nonblank (s : Str) : Prop := ∃ c ∈ s, isSpace c = false

theorem nonblank_cons {c : Char} (h : ¬ isSpace c = true) (t : Str) : Nonblank (c :: t) :=
  ⟨c, List.mem_cons_self .., by simpa using h⟩

theorem fields_mem_nonblank (s : Str) : ∀ w ∈ fields s, Nonblank w := by
  fun_induction fields s
  case case1 => exact fun _ h => nomatch h
  case case2 ih => exact ih
  case case3 hc => exact List.forall_mem_singleton.2 (nonblank_cons hc _)
  case case4 hc _ _ _ ih => exact List.forall_mem_cons.2 ⟨nonblank_cons hc _, ih⟩
  case case5 hc _ _ _ _ _ hf ih =>
    rw [hf] at ih ⊢
    exact List.forall_mem_cons.2 ⟨nonblank_cons hc _, (List.forall_mem_cons.1 ih).2⟩
  case case6 hc _ _ _ hf _ => rw [hf]; exact List.forall_mem_singleton.2 (nonblank_cons hc _)

theorem fields_mem_ne_nil (s w : Str) (h : w ∈ fields s) : w ≠ [] := by
  obtain ⟨c, hc, _⟩ := fields_mem_nonblank s w h
  exact List.ne_nil_of_mem hc

theorem fields_ne_nil_of_mem (s : Str) (h : Nonblank s) : fields s ≠ [] := by
  induction s with
  | nil => obtain ⟨_, hc, _⟩ := h; cases hc
  | cons c cs ih =>
    by_cases hc : isSpace c = true
    · rw [fields_space_cons _ _ hc]
      obtain ⟨d, hd, hs⟩ := h
      rcases List.mem_cons.1 hd with rfl | hd
      · rw [hc] at hs; cases hs
      · exact ih ⟨d, hd, hs⟩
    · exact fields_cons_ne_nil cs (by simpa using hc)

theorem getIndent_of_mem (l : Str) (h : ∃ c ∈ l, c ≠ ' ') : ∃ k, getIndent l = some k ∧ k < l.length := by
  induction l with
  | nil => simp at h
  | cons c cs ih =>
    unfold getIndent
    by_cases hc : c = ' '
    · obtain ⟨d, hd, hne⟩ := h
      obtain ⟨k, hk, hlt⟩ := ih ⟨d, (List.mem_cons.1 hd).resolve_left fun e => hne (e ▸ hc), hne⟩
      exact ⟨k + 1, by simp [hc, hk], by simp; omega⟩
    · exact ⟨0, by simp [hc], by simp⟩

theorem trimRight_last (s : Str) (x : Char) (hx : (trimRight s).getLast? = some x) : isSpace x = false := by
  unfold trimRight at hx
  rw [List.getLast?_reverse] at hx
  have := List.head?_dropWhile_not isSpace s.reverse
  rwa [hx] at this

theorem not_space_ne_blank {c : Char} (h : isSpace c = false) : c ≠ ' ' := by
  intro hc; subst hc; simp [isSpace] at h

theorem getIndent_trimRight (s : Str) (h : trimRight s ≠ []) :
    ∃ k, getIndent (trimRight s) = some k ∧ k < (trimRight s).length :=
  have hx := List.getLast?_eq_some_getLast h
  getIndent_of_mem _ ⟨_, List.mem_of_getLast? hx, not_space_ne_blank (trimRight_last s _ hx)⟩

theorem length_lt_three {α : Type} {l : List α} (h : ∀ a b c r, l = a :: b :: c :: r → False) : l.length < 3 :=
  Nat.lt_of_not_le fun h3 => match l, h, h3 with
    | a :: b :: c :: r, h, _ => h a b c r rfl

theorem aaaHost_spec (orig parsed : Str) :
    Spec (fun _ => True) (· = incomplete orig) (fun _ => (fields parsed).length < 3) (aaaHost true orig parsed) := by
  unfold aaaHost
  simp only [if_true]
  split
  · rename_i w0 w1 w2 rest hf
    split
    · -- `words[2][0]`: a word of `strings.Fields` is not empty
      exact absurd rfl (fields_mem_ne_nil parsed [] (by rw [hf]; simp))
    · split
      · split
        · split
          · exact rfl
          · trivial
        · trivial
      · -- the shifted list `ws` is not empty
        rename_i hws
        exfalso
        split at hws
        · split at hws <;> simp at hws
        · simp at hws
  · rename_i hf
    exact length_lt_three hf

theorem aaaHost_noPanic (orig parsed : Str) (h : 3 ≤ (fields parsed).length) : NoPanic (aaaHost true orig parsed) :=
  fun _ e => Nat.not_le_of_lt ((aaaHost_spec orig parsed).panic e) h

theorem aaaHost_diag_names (orig parsed m : Str) (h : aaaHost true orig parsed = .diag m) : Names m orig :=
  (aaaHost_spec orig parsed).diag h ▸ names_end _ _

/-- what the aaa-server part needs of a command: three words (`aaa-server $NAME *`), a `$REF` in every sub command. -/
def AaaOK (c : Cmd) : Prop := 3 ≤ (fields c.parsed).length ∧ ∀ s ∈ c.sub, s.ref ≠ []

theorem subRef_spec (c : Cmd) : Spec (fun _ => True) (fun _ => True) (fun _ => ¬ AaaOK c) (subRef c) := by
  fun_cases subRef c
  case case3 s0 _ hs hr => exact fun h => h.2 s0 (by rw [hs]; simp) hr
  all_goals trivial

theorem aaaRest_spec (name : Str) : ∀ (cs : List Cmd) (ldapMap : Str),
    Spec (fun r => ∀ y ∈ r, ∃ c ∈ cs, y = c ∨ ∃ p, y = { c with parsed := p }) (fun _ => True)
      (fun _ => ¬ ∀ c ∈ cs, AaaOK c) (aaaRest true name ldapMap cs)
  | [], _ => fun _ h => nomatch h
  | c :: cs, ldapMap => by
    have tail : ∀ (ldap' : Str) (y : Cmd), (y = c ∨ ∃ p, y = { c with parsed := p }) →
        Spec (fun r => ∀ z ∈ r, ∃ x ∈ c :: cs, z = x ∨ ∃ p, z = { x with parsed := p }) (fun _ => True)
          (fun _ => ¬ ∀ x ∈ c :: cs, AaaOK x) ((aaaRest true name ldap' cs).bind fun r => .ok (y :: r)) :=
      fun ldap' y hy => ((aaaRest_spec name cs ldap').weaken (fun _ h => h)
        fun _ h hall => h (List.forall_mem_cons.1 hall).2).bind fun r hr =>
          List.forall_mem_cons.2 ⟨⟨c, List.mem_cons_self .., hy⟩, fun z hz =>
            let ⟨x, hx, hxz⟩ := hr z hz; ⟨x, List.mem_cons_of_mem _ hx, hxz⟩⟩
    unfold aaaRest
    refine ((aaaHost_spec c.orig c.parsed).weaken (fun _ _ => trivial) fun _ h hall =>
      Nat.not_le_of_lt h (hall c (List.mem_cons_self ..)).1).bind fun o _ => ?_
    cases o with
    | none => exact tail _ c (Or.inl rfl)
    | some p =>
      refine ((subRef_spec c).weaken (fun _ h => h) fun _ h hall => h (hall c (List.mem_cons_self ..))).bind fun ref _ => ?_
      split
      · trivial
      · exact tail _ _ (Or.inr ⟨p, rfl⟩)

/-- `l = []` does not occur for a list stored in the lookup map: entries are only created by `append` (`buildLookup_ok`). -/
theorem aaaGroup_spec (name : Str) (l : List Cmd) :
    Spec (fun r => ∀ y ∈ r, ∃ c ∈ l, y = c ∨ ∃ p, y = { c with parsed := p }) (fun _ => True)
      (fun _ => l = [] ∨ ¬ ∀ c ∈ l, AaaOK c) (aaaGroup true name l) := by
  fun_cases aaaGroup true name l
  case case1 => exact Or.inl rfl
  case case2 | case3 => exact fun y hy => ⟨y, hy, Or.inl rfl⟩
  case case4 c0 rest _ _ =>
    refine ((aaaRest_spec name rest _).weaken (fun _ h => h) fun _ h =>
      Or.inr fun hall => h (List.forall_mem_cons.1 hall).2).bind fun r hr y hy => ?_
    rcases List.mem_cons.mp hy with rfl | hy
    · exact ⟨y, List.mem_cons_self .., Or.inl rfl⟩
    · obtain ⟨x, hx, hxy⟩ := hr y (List.mem_of_mem_take hy)
      exact ⟨x, List.mem_cons_of_mem _ hx, hxy⟩

theorem aaaGroup_noPanic (name : Str) (l : List Cmd) (hne : l ≠ [])
    (h1 : ∀ c ∈ l, 3 ≤ (fields c.parsed).length) (h2 : ∀ c ∈ l, ∀ s ∈ c.sub, s.ref ≠ []) :
    NoPanic (aaaGroup true name l) :=
  fun _ e => ((aaaGroup_spec name l).panic e).elim hne fun h => h fun c hc => ⟨h1 c hc, h2 c hc⟩

theorem stripMetric_noPanic (parsed : Str) : NoPanic (stripMetric parsed) := by
  fun_cases stripMetric parsed
  case case1 tokens h6 hn => rw [List.getElem?_eq_none_iff] at hn; omega
  case case3 h6 _ _ _ h5 => omega
  all_goals exact noPanic_ok

theorem transRefs_spec (orig names : Str) :
    Spec (fun r => r.1.length ≤ 11) (fun m => Names m orig) (fun _ => fields names = []) (transRefs true orig names) := by
  fun_cases transRefs true orig names
  case case1 hf => exact hf
  case case2 => exact names_end _ _
  case case3 hn => show (_ :: _).length ≤ 11; simpa using hn

theorem transRefs_noPanic (orig names : Str) (h : fields names ≠ []) : NoPanic (transRefs true orig names) :=
  fun _ e => h ((transRefs_spec orig names).panic e)
theorem transRefs_le11 (orig names : Str) (r : List Str × Str) (h : transRefs true orig names = .ok r) :
    r.1.length ≤ 11 := (transRefs_spec orig names).ok h

theorem dstOfRoute_spec (fixed isV6 : Bool) (orig parsed : Str) :
    Spec (fun _ => True) (fun m => Names m orig) (fun _ => fixed = false) (dstOfRoute fixed isV6 orig parsed) := by
  fun_cases dstOfRoute fixed isV6 orig parsed
  case case2 | case3 | case7 => trivial
  all_goals exact spec_failAt (fun _ => names_end _ _) id

theorem dstOfRoute_noPanic (isV6 : Bool) (orig parsed : Str) : NoPanic (dstOfRoute true isV6 orig parsed) :=
  fun _ e => Bool.noConfusion ((dstOfRoute_spec true isV6 orig parsed).panic e)

theorem dstOfRoute_diag_names (isV6 : Bool) (orig parsed m : Str)
    (h : dstOfRoute true isV6 orig parsed = .diag m) : Names m orig := (dstOfRoute_spec true isV6 orig parsed).diag h

theorem routeVRF_spec (fixed : Bool) (orig parsed : Str) :
    Spec (fun _ => True) (fun m => Names m orig) (fun _ => fixed = false ∨ (fields parsed).length < 3)
      (routeVRF fixed orig parsed) := by
  fun_cases routeVRF fixed orig parsed
  case case2 => exact spec_failAt (fun _ => names_end _ _) Or.inl
  case case4 hf => exact Or.inr (length_lt_three hf)
  all_goals trivial

theorem routeVRF_noPanic (orig parsed : Str) (h : 3 ≤ (fields parsed).length) :
    NoPanic (routeVRF true orig parsed) :=
  fun _ e => ((routeVRF_spec true orig parsed).panic e).elim Bool.noConfusion fun h' => Nat.not_le_of_lt h' h

theorem asaACL_spec (fixed : Bool) (tb : Tables) (orig parsed : Str) :
    Spec (fun o => ∀ p refs, o = some (p, refs) → refs.length ≤ 5) (· = incomplete orig)
      (fun _ => fixed = false ∨ (fields parsed).length < 4) (asaACL fixed tb orig parsed) := by
  fun_cases asaACL fixed tb orig parsed
  case case1 => intro _ _ h; cases h
  case case2 =>
    exact ((aclParts_spec fixed tb orig _).weaken (fun _ h => h) fun _ => Or.inl).bind fun r hr p refs h => by cases h; exact hr
  case case3 tokens _ _ _ _ hf => exact Or.inr (by rw [show fields parsed = tokens from rfl, hf]; simp)
  case case4 hf => exact Or.inr (Nat.lt_succ_of_lt (length_lt_three hf))

theorem asaACL_noPanic (tb : Tables) (orig parsed : Str) (h : 4 ≤ (fields parsed).length) :
    NoPanic (asaACL true tb orig parsed) :=
  fun _ e => ((asaACL_spec true tb orig parsed).panic e).elim Bool.noConfusion fun h' => Nat.not_le_of_lt h' h

/-- `∃ o`: the diagnostic names the command without its sequence number (`orig1`). -/
theorem iosACL_spec (fixed : Bool) (tb : Tables) (orig parsed : Str) :
    Spec (fun r => r.2.2.length ≤ 5) (fun m => ∃ o, m = incomplete o)
      (fun _ => fixed = false ∨ (fields parsed).length < 2) (iosACL fixed tb orig parsed) := by
  fun_cases iosACL fixed tb orig parsed
  case case1 hf => exact Or.inr (by rw [hf]; decide)
  case case2 t0 rest0 hf stripped tokens ht =>
    -- `$SEQ` was the only word
    refine Or.inr ?_
    by_cases hs : stripped <;> simp [tokens, hs] at ht
    simp [hf, ht]
  case case3 => exact Nat.zero_le _
  case case4 =>
    exact ((aclParts_spec fixed tb _ _).weaken (fun _ h => ⟨_, h⟩) fun _ => Or.inl).bind fun q hq => hq

theorem iosACL_noPanic (tb : Tables) (orig parsed : Str) (h : 2 ≤ (fields parsed).length) :
    NoPanic (iosACL true tb orig parsed) :=
  fun _ e => ((iosACL_spec true tb orig parsed).panic e).elim Bool.noConfusion fun h' => Nat.not_le_of_lt h' h

/-- in-place compaction `l[j] = c; j++` inside `for _, c := range l`, then `l[:j]`: `j` never
overtakes the loop index. -/
theorem compact_index_ok (i j n : Nat) (hj : j ≤ i) (hi : i < n) : j < n ∧ j + 1 ≤ n := by omega

/-- an index below the checked length is in range (`len(tokens) == 5` then `tokens[4]`,
`len(ipList) == 0` excluded then `ipList[0]`). -/
theorem guarded_index_ok {α : Type} (l : List α) (k : Nat) (h : k < l.length) : (l[k]?).isSome = true := by
  simp [h]

/-- `data[i+1:]` with `i = bytes.IndexByte(data, c)`: `-1 ≤ i < len(data)`. -/
theorem slice_from_index_ok (i : Int) (n : Nat) (h1 : -1 ≤ i) (h2 : i < n) : 0 ≤ i + 1 ∧ i + 1 ≤ n := by omega

/-- `aAddr[i]` for `i` ranging over `bAddr` after `len(aAddr) != len(bAddr)` was excluded. -/
theorem eqlen_index_ok {α : Type} (a b : List α) (i : Nat) (h : a.length = b.length) (hi : i < b.length) :
    i < a.length := by omega

/-- The arithmetic of `l[lo:hi]` for a range inside a list of length `n`.  That every range of an edit script
is one — and that `Equal(ai, bi)` is called with `ai < LenA()`, `bi < LenB()` — is the contract of the
third-party `myers.Diff` (trusted base, DESIGN.md section 4), not proved here. -/
theorem myers_range_ok (lo hi n : Nat) (h1 : lo ≤ hi) (h2 : hi ≤ n) : lo ≤ n ∧ hi - lo ≤ n := by omega

end NA.C20
