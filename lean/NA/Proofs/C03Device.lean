import NA.Proofs.C03Sim
import NA.Proofs.C03Plan
import NA.Spec.PanOsWhole
/-
C03 / C07, whole device: a device with several vsys.  The plan of `GetChanges`
is a list of (vsys name, requests); executing it on the device changes exactly the vsys the
target names, each into what its own plan makes of it.  Core Lean only.
-/
namespace NA.PanOs

theorem execDevCmds_frame {sh : Shared} {vs : String} : ∀ (cs : List Cmd) (d d' : Device),
    execDevCmds sh d vs cs = .ok d' →
    d'.length = d.length ∧ ∀ (i : Nat) (v : Vsys), d[i]? = some v → v.name ≠ vs → d'[i]? = some v := by
  intro cs
  induction cs with
  | nil => intro d d' h; simp only [execDevCmds, Except.ok.injEq] at h; subst h; exact ⟨rfl, fun _ _ h _ => h⟩
  | cons c cs ih =>
    intro d d' h
    simp only [execDevCmds] at h
    split at h
    · cases h
    · rename_i d1 h1
      obtain ⟨l1, f1⟩ := execDev_frame h1
      obtain ⟨l2, f2⟩ := ih d1 d' h
      exact ⟨l2.trans l1, fun i v hi hne => f2 i v (f1 i v hi hne) hne⟩

theorem execDevAll_frame {sh : Shared} : ∀ (l : List (String × List Cmd)) (d d' : Device),
    execDevAll sh d l = .ok d' →
    d'.length = d.length ∧
      ∀ (i : Nat) (v : Vsys), d[i]? = some v → (∀ p ∈ l, p.1 ≠ v.name) → d'[i]? = some v := by
  intro l
  induction l with
  | nil => intro d d' h; simp only [execDevAll, Except.ok.injEq] at h; subst h; exact ⟨rfl, fun _ _ h _ => h⟩
  | cons p ps ih =>
    intro d d' h
    simp only [execDevAll] at h
    split at h
    · cases h
    · rename_i d1 h1
      obtain ⟨l1, f1⟩ := execDevCmds_frame _ _ _ h1
      obtain ⟨l2, f2⟩ := ih d1 d' h
      refine ⟨l2.trans l1, fun i v hi hne => ?_⟩
      exact f2 i v (f1 i v hi (fun e => hne p (by simp) e.symm)) (fun q hq => hne q (List.mem_cons_of_mem _ hq))

theorem mapM_set {sh : Shared} {c : Cmd} : ∀ (d : Device) (i : Nat) (v v' : Vsys),
    (d.map (·.name)).Nodup → d[i]? = some v → exec sh v c = .ok v' →
    d.mapM (fun x => if x.name == v.name then exec sh x c else Except.ok x) = .ok (d.set i v') := by
  intro d
  induction d with
  | nil => intro i v v' _ hi _; simp at hi
  | cons x xs ih =>
    intro i v v' hnd hi hx
    simp only [List.map_cons, List.nodup_cons] at hnd
    cases i with
    | zero =>
      simp only [List.getElem?_cons_zero, Option.some.injEq] at hi
      subst hi
      have hrest : xs.mapM (fun y => if y.name == x.name then exec sh y c else Except.ok y) = .ok xs := by
        have : ∀ (l : List Vsys), (∀ y ∈ l, y.name ≠ x.name) →
            l.mapM (fun y => if y.name == x.name then exec sh y c else Except.ok y) = .ok l := by
          intro l
          induction l with
          | nil => intro _; rfl
          | cons y ys ihl =>
            intro hne
            have hy : (y.name == x.name) = false := by simpa using hne y (by simp)
            simp only [List.mapM_cons, hy, Bool.false_eq_true, if_false, bind, Except.bind, pure, Except.pure]
            rw [ihl (fun z hz => hne z (List.mem_cons_of_mem _ hz))]
        exact this xs (fun y hy e => hnd.1 (e ▸ List.mem_map_of_mem hy))
      simp only [List.mapM_cons, beq_self_eq_true, if_true, hx, bind, Except.bind, pure, Except.pure, hrest,
        List.set_cons_zero]
    | succ i =>
      simp only [List.getElem?_cons_succ] at hi
      have hxv : (x.name == v.name) = false := by
        have : x.name ≠ v.name := fun e => hnd.1 (e ▸ List.mem_map_of_mem (List.mem_of_getElem? hi))
        simpa using this
      simp only [List.mapM_cons, hxv, Bool.false_eq_true, if_false, bind, Except.bind, pure, Except.pure,
        ih i v v' hnd.2 hi hx, List.set_cons_succ]

theorem execDev_set {sh : Shared} {c : Cmd} (d : Device) (i : Nat) (v v' : Vsys)
    (hnd : (d.map (·.name)).Nodup) (hi : d[i]? = some v) (hx : exec sh v c = .ok v') :
    execDev sh d v.name c = .ok (d.set i v') := by
  unfold execDev
  have hfind : (d.find? (·.name == v.name)).isSome := by
    rw [List.find?_isSome]
    exact ⟨v, List.mem_of_getElem? hi, by simp⟩
  split
  · rename_i h; rw [h] at hfind; cases hfind
  · exact mapM_set d i v v' hnd hi hx

theorem set_names (d : Device) (i : Nat) (v v' : Vsys) (hi : d[i]? = some v) (hn : v'.name = v.name) :
    (d.set i v').map (·.name) = d.map (·.name) := by
  rw [List.map_set]
  apply List.ext_getElem?
  intro j
  rw [List.getElem?_set]
  split
  · rename_i hij
    subst hij
    split
    · rw [List.getElem?_map, hi, hn]; rfl
    · rename_i hlt
      simp only [List.length_map] at hlt
      exact absurd (List.getElem?_eq_some_iff.mp hi).1 hlt
  · rfl

theorem execDevCmds_runs {sh : Shared} : ∀ (cs : List Cmd) (d : Device) (i : Nat) (v w : Vsys),
    (d.map (·.name)).Nodup → d[i]? = some v → Runs sh v cs w →
    execDevCmds sh d v.name cs = .ok (d.set i w) ∧ w.name = v.name := by
  intro cs
  induction cs with
  | nil =>
    intro d i v w _ hi hr
    rw [runs_nil_eq hr]
    refine ⟨?_, rfl⟩
    obtain ⟨hlt, rfl⟩ := List.getElem?_eq_some_iff.mp hi
    simp only [execDevCmds]
    rw [List.set_getElem_self hlt]
  | cons c cs ih =>
    intro d i v w hnd hi hr
    obtain ⟨v', hx, h2⟩ := Runs.cons_inv hr
    have hn := (exec_frame hx).1
    have hnd' : ((d.set i v').map (·.name)).Nodup := by rw [set_names d i v v' hi hn]; exact hnd
    have hi' : (d.set i v')[i]? = some v' := by
      rw [List.getElem?_set_self (List.getElem?_eq_some_iff.mp hi).1]
    obtain ⟨e1, e2⟩ := ih (d.set i v') i v' w hnd' hi' h2
    simp only [execDevCmds, execDev_set d i v v' hnd hi hx]
    rw [← hn, e1, List.set_set]
    exact ⟨rfl, e2⟩

theorem vsysMap_mem {vs : List Vsys} {n : String} {v : Vsys} (h : vsysMap vs n = some v) :
    v ∈ vs ∧ v.name = n := by
  obtain ⟨i, hi, h⟩ := Option.bind_eq_some_iff.mp h
  exact ⟨List.mem_of_getElem? h, lastIdx_map_name (f := (·.name)) hi h⟩


def devEntry (diff : Differ) (tgt : List Vsys) (v1 : Vsys) : Option (String × List Cmd) :=
  match vsysMap tgt v1.name with
  | none => none
  | some v2 =>
    let l := planVsys diff v1 v2
    if l.isEmpty then none else some (v2.name, l)

theorem execDevAll_entries (sh : Shared) (diff : Differ) (tgt : List Vsys) :
    ∀ (rest pre : List Vsys), ((pre ++ rest).map (·.name)).Nodup →
    (∀ v1 ∈ rest, ∀ v2, vsysMap tgt v1.name = some v2 → ∃ w, Runs sh v1 (planVsys diff v1 v2) w) →
    ∃ rest' : List Vsys, execDevAll sh (pre ++ rest) (rest.filterMap (devEntry diff tgt)) = .ok (pre ++ rest') ∧
      rest'.length = rest.length ∧
      ∀ (j : Nat) v1, rest[j]? = some v1 → ∃ w, rest'[j]? = some w ∧ (vsysMap tgt v1.name = none → w = v1) ∧
        ∀ v2, vsysMap tgt v1.name = some v2 → Runs sh v1 (planVsys diff v1 v2) w := by
  intro rest
  induction rest with
  | nil => intro pre _ _; exact ⟨[], rfl, rfl, fun j v h => by simp at h⟩
  | cons v1 rest ih =>
    intro pre hnd H
    -- once `v1` has become `w`, the rest of the plan runs on `(pre ++ [w]) ++ rest`
    have tail : ∀ w, w.name = v1.name →
        execDevAll sh (pre ++ v1 :: rest) ((v1 :: rest).filterMap (devEntry diff tgt)) =
          execDevAll sh (pre ++ w :: rest) (rest.filterMap (devEntry diff tgt)) →
        (vsysMap tgt v1.name = none → w = v1) →
        (∀ v2, vsysMap tgt v1.name = some v2 → Runs sh v1 (planVsys diff v1 v2) w) →
        ∃ rest' : List Vsys, execDevAll sh (pre ++ v1 :: rest) ((v1 :: rest).filterMap (devEntry diff tgt)) =
            .ok (pre ++ rest') ∧
          rest'.length = (v1 :: rest).length ∧
          ∀ (j : Nat) v, (v1 :: rest)[j]? = some v → ∃ w, rest'[j]? = some w ∧ (vsysMap tgt v.name = none → w = v) ∧
            ∀ v2, vsysMap tgt v.name = some v2 → Runs sh v (planVsys diff v v2) w := by
      intro w hwn hexec h1 h2
      obtain ⟨rest', e1, e2, e3⟩ := ih (pre ++ [w])
        (by simpa [hwn] using hnd) (fun v hv => H v (List.mem_cons_of_mem _ hv))
      rw [List.append_assoc, List.singleton_append] at e1
      refine ⟨w :: rest', by rw [hexec, e1, List.append_assoc, List.singleton_append], by simp [e2], fun j v hj => ?_⟩
      cases j with
      | zero => cases Option.some.inj hj; exact ⟨w, rfl, h1, h2⟩
      | succ j => exact e3 j v hj
    cases hm : vsysMap tgt v1.name with
    | none =>
      exact tail v1 rfl (by rw [List.filterMap_cons_none (by simp [devEntry, hm])]) (fun _ => rfl)
        (fun v2 hv2 => by rw [hm] at hv2; cases hv2)
    | some v2 =>
      obtain ⟨w, hw⟩ := H v1 (by simp) v2 hm
      by_cases hemp : (planVsys diff v1 v2).isEmpty = true
      · refine tail v1 rfl (by rw [List.filterMap_cons_none (by simp [devEntry, hm, hemp])]) (fun _ => rfl)
          (fun v2' hv2' => ?_)
        rw [hm] at hv2'
        cases hv2'
        rw [List.isEmpty_iff.mp hemp] at hw ⊢
        exact runs_nil_eq hw ▸ hw
      · have hk : (pre ++ v1 :: rest)[pre.length]? = some v1 := by simp
        obtain ⟨hexec, hwn⟩ := execDevCmds_runs _ _ pre.length v1 w hnd hk hw
        refine tail w hwn ?_ (fun hn => by rw [hm] at hn; cases hn) (fun v2' hv2' => by rw [hm] at hv2'; cases hv2'; exact hw)
        rw [List.filterMap_cons_some (show devEntry diff tgt v1 = some (v2.name, planVsys diff v1 v2) by
          simp [devEntry, hm, hemp])]
        simp only [execDevAll, (vsysMap_mem hm).2, hexec, List.set_append_right _ _ (Nat.le_refl _), Nat.sub_self,
          List.set_cons_zero]

theorem planDevice_entries {diff : Differ} {devA devB : String} {dev tgt : List Vsys}
    {l : List (String × List Cmd)} (h : planDevice diff devA devB dev tgt = .ok l) :
    l = dev.filterMap (devEntry diff tgt) := by
  unfold planDevice at h
  split at h
  · cases h
  · split at h
    · cases h
    · simp only [Except.ok.injEq] at h
      subst h
      rfl

theorem execDevAll_planDevice (sh : Shared) (diff : Differ) (devA devB : String) (dev tgt : List Vsys)
    (l : List (String × List Cmd)) (hplan : planDevice diff devA devB dev tgt = .ok l)
    (hnd : (dev.map (·.name)).Nodup)
    (H : ∀ v1 ∈ dev, ∀ v2, vsysMap tgt v1.name = some v2 → ∃ w, Runs sh v1 (planVsys diff v1 v2) w) :
    ∃ d', execDevAll sh dev l = .ok d' ∧ d'.length = dev.length ∧
      ∀ (i : Nat) (v1 : Vsys), dev[i]? = some v1 →
        (vsysMap tgt v1.name = none → d'[i]? = some v1) ∧
        (∀ v2, vsysMap tgt v1.name = some v2 →
          ∃ w, d'[i]? = some w ∧ Runs sh v1 (planVsys diff v1 v2) w) := by
  rw [planDevice_entries hplan]
  obtain ⟨d', e1, e2, e3⟩ := execDevAll_entries sh diff tgt dev [] hnd H
  refine ⟨d', e1, e2, fun i v1 hi => ?_⟩
  obtain ⟨w, hw, h1, h2⟩ := e3 i v1 hi
  exact ⟨fun hn => h1 hn ▸ hw, fun v2 hv2 => ⟨w, hw, h2 v2 hv2⟩⟩

theorem device_converges (sh : Shared) (diff : Differ) (devA devB : String) (dev tgt : List Vsys)
    (l : List (String × List Cmd)) (hplan : planDevice diff devA devB dev tgt = .ok l)
    (hnd : (dev.map (·.name)).Nodup)
    (H : ∀ v1 ∈ dev, ∀ v2, vsysMap tgt v1.name = some v2 →
      ∃ w, Runs sh v1 (planVsys diff v1 v2) w ∧ equiv w v2 = true) :
    ∃ d', execDevAll sh dev l = .ok d' ∧ d'.length = dev.length ∧
      ∀ (i : Nat) (v1 : Vsys), dev[i]? = some v1 →
        (vsysMap tgt v1.name = none → d'[i]? = some v1) ∧
        (∀ v2, vsysMap tgt v1.name = some v2 → ∃ w, d'[i]? = some w ∧ equiv w v2 = true) := by
  obtain ⟨d', e1, e2, e3⟩ := execDevAll_planDevice sh diff devA devB dev tgt l hplan hnd
    (fun v1 hv1 v2 hv2 => (H v1 hv1 v2 hv2).imp fun _ h => h.1)
  refine ⟨d', e1, e2, fun i v1 hi => ⟨(e3 i v1 hi).1, fun v2 hv2 => ?_⟩⟩
  obtain ⟨w, hw1, hw2⟩ := (e3 i v1 hi).2 v2 hv2
  obtain ⟨w', hw', heq⟩ := H v1 (List.mem_of_getElem? hi) v2 hv2
  -- a script runs to one state only
  have : w = w' := congrArg Prod.fst (hw2.symm.trans hw')
  exact ⟨w, hw1, this ▸ heq⟩

end NA.PanOs
