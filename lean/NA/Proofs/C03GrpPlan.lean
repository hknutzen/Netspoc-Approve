import NA.Proofs.C03GrpMarks
import NA.Proofs.C03GrpRule
import NA.Proofs.C03Tables
import NA.Model.PanOsGrpPair
/-
C03, vsys pairs with address-groups: the fragment `GenPair`, and the planner state before the rule phase (after
`markObjects`), said in terms of the two configurations: its tables, the flags of addresses and groups, the invariant
of the claims, the shapes of the rules' lists.  Core Lean only.
-/
namespace NA.PanOs

/-! ### The fragment of the whole-vsys theorems

`GrpPair` and `PlainPair` in one: `GrpPair` without the three things a pair without groups need not satisfy —
that a source / destination list is not empty (asked of the device's lists, and only when the target has
groups), and that the names the device's rules use resolve (only when the target has groups). -/

def ListShapeW (C : Prop) (v : Vsys) (l : List String) : Prop :=
  (C → l ≠ []) ∧ (((∀ x ∈ l, isGrpOf v x = false) ∧ l.Nodup) ∨ singleGrp v l = true)

def GrpName (sh : Shared) (a b : Vsys) (x : String) : Prop :=
  x ≠ "" ∧ x ≠ "any" ∧ x ∉ sh ∧ x ∉ a.addrs.map (·.name) ∧ x ∉ b.addrs.map (·.name)

structure GenPair (sh : Shared) (a b : Vsys) : Prop where
  asg : a.sgroups = []
  bsg : b.sgroups = []
  arn : (ruleNames a.rules).Nodup
  brn : (ruleNames b.rules).Nodup
  aan : (a.addrs.map (·.name)).Nodup
  ban : (b.addrs.map (·.name)).Nodup
  asn : (a.svcs.map (·.name)).Nodup
  bsn : (b.svcs.map (·.name)).Nodup
  agn : (a.groups.map (·.name)).Nodup
  bgn : (b.groups.map (·.name)).Nodup
  agm : ∀ g ∈ a.groups, g.members.Nodup ∧ ∀ m ∈ g.members, m ∈ a.addrs.map (·.name)
  bgm : ∀ g ∈ b.groups, g.members.Nodup ∧ ∀ m ∈ g.members, m ∈ b.addrs.map (·.name)
  aName : ∀ x ∈ a.groups.map (·.name), GrpName sh a b x
  bName : ∀ x ∈ b.groups.map (·.name), GrpName sh a b x
  nName : ∀ x ∈ newGroupNames a b, GrpName sh a b x
  al : ∀ r ∈ a.rules, ListShapeW (b.groups ≠ []) a r.src ∧ ListShapeW (b.groups ≠ []) a r.dst
  bl : ∀ r ∈ b.rules, ListShapeW False b r.src ∧ ListShapeW False b r.dst
  ar : b.groups ≠ [] → ∀ r ∈ a.rules, ∀ x ∈ r.src ++ r.dst,
    x = "any" ∨ x ∈ sh ∨ x ∈ a.addrs.map (·.name) ∨ x ∈ a.groups.map (·.name)
  br : ∀ r ∈ b.rules,
    (∀ x ∈ r.src ++ r.dst, x = "any" ∨ x ∈ sh ∨ x ∈ b.addrs.map (·.name) ∨ x ∈ b.groups.map (·.name)) ∧
    (∀ x ∈ r.srv, x = "any" ∨ x = "application-default" ∨ x ∈ sh ∨ x ∈ b.svcs.map (·.name))
  ares : ∀ x ∈ a.addrs.map (·.name), x ≠ "any" ∧ x ∉ sh
  sres : ∀ x ∈ a.svcs.map (·.name), x ≠ "any" ∧ x ≠ "application-default" ∧ x ∉ sh

theorem GenPair.of_grpPair {sh : Shared} {a b : Vsys} (h : GrpPair sh a b) : GenPair sh a b := by
  obtain ⟨h1, h2, h3, h4, h5, h6, h7, h8, h9, h10, h11, h12, h13, hal, hbl, har, hbr, h18, h19⟩ := h
  exact ⟨h1, h2, h3, h4, h5, h6, h7, h8, h9, h10, h11, h12, fun x hx => h13 x (by simp [hx]),
    fun x hx => h13 x (by simp [hx]), fun x hx => h13 x (by simp [hx]),
    fun r hr => ⟨⟨fun _ => (hal r hr).1.1, (hal r hr).1.2⟩, ⟨fun _ => (hal r hr).2.1, (hal r hr).2.2⟩⟩,
    fun r hr => ⟨⟨False.elim, (hbl r hr).1.2⟩, ⟨False.elim, (hbl r hr).2.2⟩⟩, fun _ => har, hbr, h18, h19⟩

theorem GenPair.bplain {sh : Shared} {a b : Vsys} (hP : GenPair sh a b) :
    ∀ g ∈ b.groups, ∀ m ∈ g.members, m ∉ b.groups.map (·.name) :=
  fun g hg m hm hn => (hP.bName m hn).2.2.2.2 ((hP.bgm g hg).2 m hm)

theorem newGroupNames_nil (a b : Vsys) (hb : b.groups = []) : newGroupNames a b = [] := by
  simp only [newGroupNames, groupNamesFor, sortVsys, hb, List.map_nil, uniqNamesFrom]

theorem GenPair.of_plainPair {sh : Shared} {a b : Vsys} (hP : PlainPair sh a b) : GenPair sh a b := by
  obtain ⟨hag, hbg, hasg, hbsg, han, hbn, haan, hban, hasn, hbsn, hal, hbl, hbr, hres, hsres⟩ := hP
  have shape : ∀ (C : Prop) (v : Vsys), v.groups = [] → (C → False) → ∀ l : List String, l.Nodup → ListShapeW C v l :=
    fun C v hv hC l hnd => ⟨fun c => (hC c).elim, Or.inl ⟨fun x _ => by rw [isGrpOf, hv]; rfl, hnd⟩⟩
  exact ⟨hasg, hbsg, han, hbn, haan, hban, hasn, hbsn, by rw [hag]; exact .nil, by rw [hbg]; exact .nil,
    (fun g hg => by rw [hag] at hg; cases hg), (fun g hg => by rw [hbg] at hg; cases hg),
    (fun x hx => by rw [hag] at hx; cases hx), (fun x hx => by rw [hbg] at hx; cases hx),
    (fun x hx => by rw [newGroupNames_nil a b hbg] at hx; cases hx),
    fun r hr => ⟨shape _ a hag (fun h => h hbg) _ (hal r hr).1, shape _ a hag (fun h => h hbg) _ (hal r hr).2⟩,
    fun r hr => ⟨shape _ b hbg id _ (hbl r hr).1, shape _ b hbg id _ (hbl r hr).2⟩,
    fun h => absurd hbg h,
    fun r hr => ⟨fun x hx => ((hbr r hr).1 x hx).imp id (fun h => h.imp id Or.inl), (hbr r hr).2⟩, hres, hsres⟩

/-- The planner state at the start: the `initSt …` of `planState` (`newGroupNames a b` unfolds to its
`groupNamesFor (sortVsys a) (sortVsys b)`). -/
def st0 (a b : Vsys) : St := initSt (sortVsys a) (sortVsys b) (newGroupNames a b)

/-- `planFuel (sortVsys a) (sortVsys b)` is `fuelOf a b + 2` (by `rfl`, see `planState_def`): the lemmas about groups
ask for two levels of recursion. -/
def fuelOf (a b : Vsys) : Nat := (sortVsys a).groups.length + (sortVsys b).groups.length + (sortVsys b).sgroups.length

theorem planState_def (diff : Differ) (a b : Vsys) :
    planState diff a b =
      diffRules diff (fuelOf a b + 2) (markedState a b) (sortVsys a) (sortVsys b) (sortVsys a).rules (bRulesOf a b) := rfl

def RefAddrD (b : Vsys) (m : String) : Prop :=
  ∃ r ∈ b.rules, (m ∈ r.src ∨ m ∈ r.dst) ∨
    ∃ gr ∈ b.groups, (gr.name ∈ r.src ∨ gr.name ∈ r.dst) ∧ m ∈ gr.members

/-- The address names the transfer phase must get right: used by a rule of the target directly
(and not a group) or as member of a group a rule names. -/
def RefAddrN (b : Vsys) (m : String) : Prop := RefAddrD b m ∧ m ∉ b.groups.map (·.name)

theorem sortVsys_groups_names (v : Vsys) : (sortVsys v).groups.map (·.name) = v.groups.map (·.name) := by
  simp [sortVsys, List.map_map, Function.comp_def]

theorem st0_bGrp (a b : Vsys) :
    (st0 a b).bGrp.map (fun g => (g.g, g.newName)) = (sortVsys b).groups.zip (newGroupNames a b) := by
  unfold st0 initSt
  rw [List.map_map]
  exact ListFacts.map_eq_self fun p _ => rfl

theorem newGroupNames_length (a b : Vsys) : (newGroupNames a b).length = (sortVsys b).groups.length :=
  groupNamesFor_length _ _

theorem st0_bGrp_names (a b : Vsys) : (st0 a b).bGrp.map (·.g.name) = b.groups.map (·.name) := by
  have h := congrArg (List.map Prod.fst) (st0_bGrp a b)
  rw [List.map_map, List.map_fst_zip (Nat.le_of_eq (newGroupNames_length a b).symm)] at h
  have := congrArg (List.map (·.name)) h
  rw [List.map_map, sortVsys_groups_names] at this
  exact this

theorem st0_newNames (a b : Vsys) : (st0 a b).bGrp.map (·.newName) = newGroupNames a b := by
  have := congrArg (List.map Prod.snd) (st0_bGrp a b)
  rwa [List.map_map, List.map_snd_zip (Nat.le_of_eq (newGroupNames_length a b))] at this

theorem st0_bGrp_mem (a b : Vsys) {gb : BGrp} (h : gb ∈ (st0 a b).bGrp) :
    ∃ gr ∈ b.groups, gb.g = { gr with members := sortStrings gr.members } ∧ gb.newName ∈ newGroupNames a b ∧
      gb.onDev = "" ∧ gb.needed = false := by
  unfold st0 initSt at h
  simp only [List.mem_map] at h
  obtain ⟨p, hp, rfl⟩ := h
  obtain ⟨hp1, hp2⟩ := List.of_mem_zip hp
  simp only [sortVsys, List.mem_map] at hp1
  obtain ⟨gr, hgr, hge⟩ := hp1
  exact ⟨gr, hgr, hge.symm, hp2, rfl, rfl⟩

theorem grpMembers_st0 (a b : Vsys) (hnd : (b.groups.map (·.name)).Nodup) (gr : Grp) (hgr : gr ∈ b.groups) :
    grpMembers (st0 a b) gr.name = sortStrings gr.members ∧ (st0 a b).bGrpIdx gr.name ≠ none := by
  obtain ⟨gi, hgi⟩ : ∃ gi, (st0 a b).bGrpIdx gr.name = some gi := Option.isSome_iff_exists.mp
    (lastIdx_isSome_of_mem (by rw [st0_bGrp_names]; exact List.mem_map_of_mem hgr))
  refine ⟨?_, by simp [hgi]⟩
  obtain ⟨gb, hgb, hname⟩ := bGrp_of_idx hgi
  unfold grpMembers
  rw [hgi]
  simp only [hgb, Option.map_some, Option.getD_some]
  -- gb.g is the sorted copy of a group of b with that name: it is gr's
  obtain ⟨g0, hg0, e, _⟩ := st0_bGrp_mem a b (List.mem_of_getElem? hgb)
  have : g0 = gr := ListFacts.eq_of_nodup_map hnd hg0 hgr (by rw [← hname, e])
  subst this
  rw [e]

theorem st0_bGrpIdx_none (a b : Vsys) (m : String) (h : m ∉ b.groups.map (·.name)) : (st0 a b).bGrpIdx m = none := by
  unfold St.bGrpIdx
  apply lastIdx_none_of_not_mem
  rw [st0_bGrp_names]; exact h

theorem markedState_addrFlags (a b : Vsys) (hbn : (b.groups.map (·.name)).Nodup) :
    FlagSound (markedState a b) ∧ (markedState a b).aAddr.map (·.o) = a.addrs ∧ (markedState a b).bAddr.map (·.o) = b.addrs ∧
    ∀ m, RefAddrD b m → m ∉ b.groups.map (·.name) → m ∈ b.addrs.map (·.name) →
      Covered (markedState a b) m ∧ Marked (markedState a b) m := by
  refine ⟨(markedState_sound a b).1, (markedState_tables a b).1, (markedState_tables a b).2.1, ?_⟩
  · intro m ⟨r, hr, hcase⟩ hng hdef
    have hsome : ((st0 a b).bAddrIdx m).isSome := initSt_bAddrIdx _ (sortVsys b) _ (List.mem_map.mp hdef)
    have hdeep : Deep (st0 a b) (sortStrings r.src) m ∨ Deep (st0 a b) (sortStrings r.dst) m := by
      rcases hcase with (h | h) | ⟨gr, hgr, (h | h), hm⟩
      · exact Or.inl (Or.inl ((mem_sortStrings m _).mpr h))
      · exact Or.inr (Or.inl ((mem_sortStrings m _).mpr h))
      · exact Or.inl (Or.inr ⟨gr.name, (mem_sortStrings _ _).mpr h, by
          rw [(grpMembers_st0 a b hbn gr hgr).1]; exact (mem_sortStrings m _).mpr hm⟩)
      · exact Or.inr (Or.inr ⟨gr.name, (mem_sortStrings _ _).mpr h, by
          rw [(grpMembers_st0 a b hbn gr hgr).1]; exact (mem_sortStrings m _).mpr hm⟩)
    exact ⟨markObjects_covers_deep (fuelOf a b) (sortVsys_rule_mem hr) hdeep (st0_bGrpIdx_none a b m hng),
      markObjects_marks_deep (fuelOf a b) (sortVsys_rule_mem hr) hdeep (st0_bGrpIdx_none a b m hng) hsome⟩

theorem markedState_svcFlags (a b : Vsys) (hbs : b.sgroups = []) :
    SFlagSound (markedState a b) ∧ (markedState a b).aSvc.map (·.o) = a.svcs ∧ (markedState a b).bSvc.map (·.o) = b.svcs ∧
    ∀ x, RefSvc b x → x ∈ b.svcs.map (·.name) → SCovered (markedState a b) x ∧ SMarked (markedState a b) x := by
  obtain ⟨_, _, t3, t4⟩ := markedState_tables a b
  refine ⟨(markedState_sound a b).2, t3, t4, fun x ⟨r, hr, hx⟩ hdef => ?_⟩
  have h := markedState_svc a b hbs hr hx
  exact ⟨h.1, h.2 (List.mem_map.mp hdef)⟩

theorem markedState_gmark (a b : Vsys) : GMark (st0 a b) (markedState a b) := (markObjects_marking _ _ _).grp

theorem markedState_aGrp (a b : Vsys) :
    (markedState a b).aGrp = a.groups.map (fun g => ({ g := { g with members := sortStrings g.members } } : AGrp)) := by
  rw [(markedState_gmark a b).ag]
  simp [st0, initSt, sortVsys, List.map_map, Function.comp_def]

theorem markedState_aGrp_names (a b : Vsys) : (markedState a b).aGrp.map (·.g.name) = a.groups.map (·.name) := by
  rw [markedState_aGrp]; simp [List.map_map, Function.comp_def]

theorem markedState_bGrp_names (a b : Vsys) : (markedState a b).bGrp.map (·.g.name) = b.groups.map (·.name) := by
  have := congrArg (List.map (fun p : Grp × String × String => p.1.name)) (markedState_gmark a b).bg
  simp only [List.map_map, Function.comp_def] at this
  rw [this, st0_bGrp_names]

theorem markedState_aGrp_mem (a b : Vsys) {ga : AGrp} (h : ga ∈ (markedState a b).aGrp) :
    ∃ gr ∈ a.groups, ga.g = { gr with members := sortStrings gr.members } ∧ ga.needed = false := by
  rw [markedState_aGrp] at h
  obtain ⟨gr, hgr, rfl⟩ := List.mem_map.mp h
  exact ⟨gr, hgr, rfl, rfl⟩

theorem markedState_bGrp_mem (a b : Vsys) {gb : BGrp} (h : gb ∈ (markedState a b).bGrp) :
    ∃ gr ∈ b.groups, gb.g = { gr with members := sortStrings gr.members } ∧ gb.newName ∈ newGroupNames a b ∧
      gb.onDev = "" := by
  obtain ⟨gb0, hgb0, e⟩ := mem_of_map_eq (markedState_gmark a b).bg h
  simp only [Prod.mk.injEq] at e
  obtain ⟨gr, hgr, e1, e2, e3, _⟩ := st0_bGrp_mem a b hgb0
  exact ⟨gr, hgr, e.1 ▸ e1, e.2.1 ▸ e2, e.2.2 ▸ e3⟩

theorem isGrpOf_iff (v : Vsys) (x : String) : isGrpOf v x = true ↔ x ∈ v.groups.map (·.name) := by
  unfold isGrpOf
  simp only [List.any_eq_true, beq_iff_eq, List.mem_map]

theorem markedState_aGrpIdx (a b : Vsys) (m : String) :
    ((markedState a b).aGrpIdx m).isSome = isGrpOf a m := by
  rw [Bool.eq_iff_iff, isGrpOf_iff, ← markedState_aGrp_names a b]
  exact lastIdx_isSome_iff

theorem markedState_bGrpIdx (a b : Vsys) (m : String) :
    ((markedState a b).bGrpIdx m).isSome = isGrpOf b m := by
  rw [Bool.eq_iff_iff, isGrpOf_iff, ← markedState_bGrp_names a b]
  exact lastIdx_isSome_iff

theorem idx_none_of {o : Option Nat} {c : Bool} (h : o.isSome = c) (hc : c = false) : o = none := by
  cases o with | none => rfl | some _ => rw [← h] at hc; cases hc

theorem markedState_ginv (sh : Shared) (a b : Vsys) (hP : GenPair sh a b) : GInv (RefAddr b) (markedState a b) := by
  obtain ⟨hfresh, _, _⟩ := groupNamesFor_spec suffixInj (sortVsys a) (sortVsys b)
    (by rw [sortVsys_groups_names]; exact hP.bgn)
  refine ⟨⟨by rw [markedState_aGrp_names]; exact hP.agn, ?_, ?_, ?_, ?_, ?_, ?_, ?_⟩,
    ?_, ?_, ?_, ?_, ?_, ?_⟩
  · intro ga hga
    obtain ⟨gr, hgr, e, _⟩ := markedState_aGrp_mem a b hga
    rw [e]
    exact (hP.aName gr.name (List.mem_map_of_mem hgr)).1
  · intro gb hgb
    obtain ⟨gr, hgr, e, hn, _⟩ := markedState_bGrp_mem a b hgb
    refine ⟨(hP.nName _ hn).1, ?_⟩
    rw [markedState_aGrp_names, ← sortVsys_groups_names]
    exact hfresh _ hn
  · intro ga hga m hm
    obtain ⟨gr, hgr, e, _⟩ := markedState_aGrp_mem a b hga
    rw [e] at hm
    have hm' : m ∈ gr.members := (mem_sortStrings m _).mp hm
    have hma := (hP.agm gr hgr).2 m hm'
    exact idx_none_of (markedState_aGrpIdx a b m) (Bool.eq_false_iff.mpr fun h => (hP.aName m ((isGrpOf_iff a m).mp h)).2.2.2.1 hma)
  · intro gb hgb m hm
    obtain ⟨gr, hgr, e, _, _⟩ := markedState_bGrp_mem a b hgb
    rw [e] at hm
    have hm' : m ∈ gr.members := (mem_sortStrings m _).mp hm
    have hmb := (hP.bgm gr hgr).2 m hm'
    exact idx_none_of (markedState_bGrpIdx a b m) (Bool.eq_false_iff.mpr fun h => (hP.bName m ((isGrpOf_iff b m).mp h)).2.2.2.2 hmb)
  · intro ga hga
    obtain ⟨gr, hgr, e, _⟩ := markedState_aGrp_mem a b hga
    rw [e]; exact sortStrings_nodup (hP.agm gr hgr).1
  · intro gb hgb
    obtain ⟨gr, hgr, e, _, _⟩ := markedState_bGrp_mem a b hgb
    rw [e]; exact sortStrings_nodup (hP.bgm gr hgr).1
  · intro gb hgb
    obtain ⟨gr, hgr, e, _, _⟩ := markedState_bGrp_mem a b hgb
    rw [e]
    exact (hP.bName gr.name (List.mem_map_of_mem hgr)).1
  · -- c0: a group the rules name is needed
    intro gb hgb _ ⟨r, hr, hx⟩
    have hnm : gb.g.name ∈ b.groups.map (·.name) := by
      rw [← markedState_bGrp_names]; exact List.mem_map_of_mem hgb
    obtain ⟨gi, hgi⟩ : ∃ gi, (st0 a b).bGrpIdx gb.g.name = some gi := Option.isSome_iff_exists.mp
      (lastIdx_isSome_of_mem (by rw [st0_bGrp_names]; exact hnm))
    obtain ⟨gb', hgb', hn'⟩ := markObjects_grp_needed (fuelOf a b + 1) (sortVsys b).rules (st0 a b) _ gb.g.name gi
      (sortVsys_rule_mem hr) (by
        rcases hx with hx | hx
        · exact Or.inl ((mem_sortStrings _ _).mpr hx)
        · exact Or.inr ((mem_sortStrings _ _).mpr hx)) hgi
    have hgi' : (markedState a b).bGrpIdx gb.g.name = some gi := by rw [(markedState_gmark a b).bIdx]; exact hgi
    obtain ⟨gb'', hgb'', hname''⟩ := bGrp_of_idx hgi'
    have hgb2 : (markedState a b).bGrp[gi]? = some gb' := hgb'
    rw [hgb''] at hgb2
    cases hgb2
    have := ListFacts.eq_of_nodup_map (by rw [markedState_bGrp_names]; exact hP.bgn) (List.mem_of_getElem? hgb'') hgb hname''
    rw [← this]; exact hn'
  · intro gb hgb he
    obtain ⟨_, _, _, hn, hon⟩ := markedState_bGrp_mem a b hgb
    rw [hon] at he
    exact absurd he.symm (hP.nName _ hn).1
  · intro gb hgb ga hga he
    obtain ⟨_, _, _, _, hon⟩ := markedState_bGrp_mem a b hgb
    obtain ⟨gr, hgr, e, _⟩ := markedState_aGrp_mem a b hga
    rw [hon, e] at he
    exact absurd he.symm (hP.aName gr.name (List.mem_map_of_mem hgr)).1
  · intro gb hgb
    exact Or.inl (markedState_bGrp_mem a b hgb).choose_spec.2.2.2
  · intro ga hga hn
    obtain ⟨_, _, _, hnn⟩ := markedState_aGrp_mem a b hga
    rw [hnn] at hn; cases hn
  · intro gb hgb hne
    exact absurd (markedState_bGrp_mem a b hgb).choose_spec.2.2.2 hne

theorem markedState_sg_nil (a b : Vsys) (has : a.sgroups = []) (hbs : b.sgroups = []) :
    (markedState a b).aSG = [] ∧ (markedState a b).bSG = [] :=
  ⟨(markObjects_marking _ _ _).aSG_nil (initSt_aSG_nil _ _ has), (markObjects_marking _ _ _).bSG_nil (initSt_bSG_nil _ _ hbs)⟩

theorem markedState_out (a b : Vsys) : (markedState a b).out = [] := by
  unfold markedState; rw [markObjects_out]; rfl

theorem markedState_gprov (sh : Shared) (a b : Vsys) (hP : GenPair sh a b) : GProv (RefAddr b) (markedState a b) := by
  have hI := markedState_ginv sh a b hP
  have hbp0 : BPlain (st0 a b) := by
    intro gb0 hgb0 m hm
    obtain ⟨gb, hgb, e⟩ := mem_of_map_eq (l := (markedState a b).bGrp) (l' := (st0 a b).bGrp)
      (f := fun g : BGrp => (g.g, g.newName, g.onDev)) (markedState_gmark a b).bg.symm hgb0
    simp only [Prod.mk.injEq] at e
    rw [← (markedState_gmark a b).bIdx]
    exact hI.bplain gb hgb m (by rw [e.1]; exact hm)
  apply markObjects_gprov (RefAddr b) _ _ _ hbp0
  · intro r' hr' x hx _
    simp only [sortVsys, List.mem_map] at hr'
    obtain ⟨r, hr, rfl⟩ := hr'
    refine ⟨r, hr, ?_⟩
    rcases hx with hx | hx
    · exact Or.inl ((mem_sortStrings x _).mp hx)
    · exact Or.inr ((mem_sortStrings x _).mp hx)
  · intro gb hgb hn
    obtain ⟨_, _, _, _, _, hnn⟩ := st0_bGrp_mem a b hgb
    rw [hnn] at hn; cases hn

theorem sortStrings_single (g : String) : sortStrings [g] = [g] := by
  simp [sortStrings, insertSorted]

theorem sortStrings_ne_nil {l : List String} (h : l ≠ []) : sortStrings l ≠ [] := by
  intro e
  exact h (e ▸ (sortStrings_perm l).symm).eq_nil

theorem singleGrp_spec {v : Vsys} {l : List String} (h : singleGrp v l = true) : ∃ g, l = [g] ∧ isGrpOf v g = true := by
  match l, h with
  | [g], h => exact ⟨g, rfl, h⟩

theorem listShape_nodup {C : Prop} {v : Vsys} {l : List String} (h : ListShapeW C v l) : l.Nodup := by
  rcases h.2 with ⟨_, h1⟩ | h1
  · exact h1
  · obtain ⟨g, rfl, _⟩ := singleGrp_spec h1
    simp

theorem bRulesOf_mem (a b : Vsys) {rb : Rule} (h : rb ∈ bRulesOf a b) :
    ∃ r ∈ b.rules, rb.src = sortStrings r.src ∧ rb.dst = sortStrings r.dst ∧ rb.srv = sortStrings r.srv := by
  unfold bRulesOf at h
  simp only [List.mem_map] at h
  obtain ⟨p, hp, rfl⟩ := h
  have hp1 := (List.of_mem_zip hp).1
  simp only [sortVsys, List.mem_map] at hp1
  obtain ⟨r, hr, e⟩ := hp1
  exact ⟨r, hr, by rw [← e], by rw [← e], by rw [← e]⟩

theorem markedState_shapes {I : Prop} (sh : Shared) (a b : Vsys) (hI : a.groups ≠ [] → I) (hP : GenPair sh a b) :
    (∀ ra ∈ (sortVsys a).rules, AShape I (b.groups ≠ []) (markedState a b) ra.src ∧
      AShape I (b.groups ≠ []) (markedState a b) ra.dst) ∧
    (∀ rb ∈ bRulesOf a b, BShape (RefAddr b) (b.groups ≠ []) (markedState a b) rb.src ∧
      BShape (RefAddr b) (b.groups ≠ []) (markedState a b) rb.dst) := by
  have aidx_none : ∀ m, isGrpOf a m = false → (markedState a b).aGrpIdx m = none :=
    fun m => idx_none_of (markedState_aGrpIdx a b m)
  have aidx_some : ∀ m, isGrpOf a m = true → ((markedState a b).aGrpIdx m).isSome = true :=
    fun m hm => (markedState_aGrpIdx a b m).trans hm
  have bidx_none : ∀ m, isGrpOf b m = false → (markedState a b).bGrpIdx m = none :=
    fun m => idx_none_of (markedState_bGrpIdx a b m)
  have bidx_some : ∀ m, isGrpOf b m = true → ((markedState a b).bGrpIdx m).isSome = true :=
    fun m hm => (markedState_bGrpIdx a b m).trans hm
  -- one list of a device rule
  have grp_ne : ∀ (v : Vsys) g, isGrpOf v g = true → v.groups ≠ [] := fun v g hg =>
    List.ne_nil_of_mem (List.mem_map.mp ((isGrpOf_iff v g).mp hg)).choose_spec.1
  have ashape : ∀ r ∈ a.rules, ∀ l, (l = r.src ∨ l = r.dst) → ListShapeW (b.groups ≠ []) a l →
      AShape I (b.groups ≠ []) (markedState a b) (sortStrings l) := by
    intro r hr l hl hs
    obtain ⟨hne, hcase⟩ := hs
    refine ⟨fun hN => sortStrings_ne_nil (hne hN), ?_, ?_⟩
    · rcases hcase with ⟨h1, _⟩ | h1
      · exact Or.inl (fun x hx => aidx_none x (h1 x ((mem_sortStrings x l).mp hx)))
      · obtain ⟨g, rfl, hg⟩ := singleGrp_spec h1
        exact Or.inr ⟨g, sortStrings_single g, aidx_some g hg, hI (grp_ne a g hg)⟩
    · intro x hx hidx gb hgb e
      have hxl : x ∈ l := (mem_sortStrings x l).mp hx
      obtain ⟨_, hgr, _, hn, _⟩ := markedState_bGrp_mem a b hgb
      rw [← e] at hn
      obtain ⟨_, n2, n3, n4, _⟩ := hP.nName x hn
      have hres := hP.ar (List.ne_nil_of_mem hgr) r hr x (by
        rcases hl with rfl | rfl
        · simp [hxl]
        · simp [hxl])
      rcases hres with h | h | h | h
      · exact n2 h
      · exact n3 h
      · exact n4 h
      · have := aidx_some x ((isGrpOf_iff a x).mpr h)
        rw [hidx] at this; cases this
  have bshape : ∀ r ∈ b.rules, ∀ l, (l = r.src ∨ l = r.dst) → ListShapeW False b l →
      BShape (RefAddr b) (b.groups ≠ []) (markedState a b) (sortStrings l) := by
    intro r hr l hl hs
    obtain ⟨hne, hcase⟩ := hs
    refine ⟨?_, ?_⟩
    · rcases hcase with ⟨h1, _⟩ | h1
      · exact Or.inl (fun x hx => bidx_none x (h1 x ((mem_sortStrings x l).mp hx)))
      · obtain ⟨g, rfl, hg⟩ := singleGrp_spec h1
        refine Or.inr ⟨g, sortStrings_single g, bidx_some g hg, ⟨r, hr, ?_⟩, grp_ne b g hg⟩
        rcases hl with e | e
        · exact Or.inl (by rw [← e]; simp)
        · exact Or.inr (by rw [← e]; simp)
    · intro y hy hidx ga hga e
      have hyl : y ∈ l := (mem_sortStrings y l).mp hy
      obtain ⟨gr, hgr, eg, _⟩ := markedState_aGrp_mem a b hga
      have hyn : y ∈ a.groups.map (·.name) := by
        rw [e, eg]; exact List.mem_map.mpr ⟨gr, hgr, rfl⟩
      obtain ⟨_, n2, n3, _, n5⟩ := hP.aName y hyn
      have hres := (hP.br r hr).1 y (by
        rcases hl with rfl | rfl
        · simp [hyl]
        · simp [hyl])
      rcases hres with h | h | h | h
      · exact n2 h
      · exact n3 h
      · exact n5 h
      · have := bidx_some y ((isGrpOf_iff b y).mpr h)
        rw [hidx] at this; cases this
  constructor
  · intro ra hra
    simp only [sortVsys, List.mem_map] at hra
    obtain ⟨r, hr, rfl⟩ := hra
    exact ⟨ashape r hr r.src (Or.inl rfl) (hP.al r hr).1, ashape r hr r.dst (Or.inr rfl) (hP.al r hr).2⟩
  · intro rb hrb
    obtain ⟨r, hr, e1, e2, _⟩ := bRulesOf_mem a b hrb
    rw [e1, e2]
    exact ⟨bshape r hr r.src (Or.inl rfl) (hP.bl r hr).1, bshape r hr r.dst (Or.inr rfl) (hP.bl r hr).2⟩

theorem ref_group_members (sh : Shared) (a b : Vsys) (hP : GenPair sh a b) (gr : Grp) (hgr : gr ∈ b.groups)
    (href : RefAddr b gr.name) : ∀ m ∈ gr.members, m ∈ b.addrs.map (·.name) ∧ RefAddrN b m := by
  obtain ⟨r, hr, hx⟩ := href
  exact fun m hm => ⟨(hP.bgm gr hgr).2 m hm, ⟨r, hr, Or.inr ⟨gr, hgr, hx, hm⟩⟩, hP.bplain gr hgr m hm⟩

theorem GenPair.refAddrN {sh : Shared} {a b : Vsys} (hP : GenPair sh a b) {x : String} (h : RefAddrN b x) :
    (x = "any" ∨ x ∈ sh) ∨ x ∈ b.addrs.map (·.name) := by
  obtain ⟨⟨r, hr, hx | ⟨gr, hgr, _, hm⟩⟩, hng⟩ := h
  · rcases (hP.br r hr).1 x (List.mem_append.mpr hx) with h | h | h | h
    · exact Or.inl (Or.inl h)
    · exact Or.inl (Or.inr h)
    · exact Or.inr h
    · exact absurd h hng
  · exact Or.inr ((hP.bgm gr hgr).2 x hm)

end NA.PanOs
