import NA.Proofs.F1Routes
import NA.Proofs.DiffUnordered
import NA.Proofs.C14Routes
/-!
# F1: the route commands of `diffRoutes` have the shape assumed by `NA.Route.covered_both_phases`

The rendering of the route-level operations `routeOpsOf` IS the engine's route script (`diffRoutes_out`,
NA/Proofs/F1Routes.lean); the hypotheses `phaseA`, `phaseB`, `hall` of `NA.Route.covered_both_phases` are proved for them
(through an injective numbering of the routes).
-/
namespace NA.F1
open NA.Acl (Range)
open NA.ListFacts

theorem routeDelsInss_spec (al bl : List Route) (hnd : (al.map (·.text)).Nodup) :
    (routeDelsOf al bl).map (·.2) = al.filter (fun a => !(bl.map (·.text)).contains a.text) ∧
    routeInssOf al bl = bl.filter (fun r => !(al.map (·.text)).contains r.text) := by
  unfold routeDelsOf routeInssOf
  by_cases ha : al.isEmpty = true
  · have : al = [] := by simpa using ha
    subst this
    refine ⟨rfl, ?_⟩
    exact (List.filter_eq_self.mpr (fun _ _ => rfl)).symm
  · rw [if_neg ha, if_neg ha]
    obtain ⟨hd, hi⟩ := NA.F2.unmatched_items al bl (·.text) (·.text) hnd
    rw [hd, hi, List.map_map]
    exact ⟨(ListFacts.filter_map_index default al (fun a : Route => !(bl.map (fun b : Route => b.text)).contains a.text) id).trans (List.map_id _), rfl⟩

/-- Shape of the second loop on the inserted routes `rs`: every operation adds one of them, possibly replacing a
deleted device route with the same destination; every one of them is added. -/
def AddShape (dels : List (Nat × Route)) (rs : List Route) (ops : List RO) : Prop :=
  (∀ op ∈ ops, (∃ n ∈ rs, op = RO.add n) ∨
    (∃ o n, op = RO.repl o n ∧ o ∈ dels.map (·.2) ∧ n ∈ rs ∧ o.dst = n.dst)) ∧
  (∀ n ∈ rs, ∃ op ∈ ops, op = RO.add n ∨ ∃ o, op = RO.repl o n)

theorem AddShape.cons {dels : List (Nat × Route)} {rs : List Route} {ops : List RO} (h : AddShape dels rs ops) {r : Route}
    {op0 : RO} (h0 : op0 = RO.add r ∨ ∃ o, op0 = RO.repl o r ∧ o ∈ dels.map (·.2) ∧ o.dst = r.dst) :
    AddShape dels (r :: rs) (op0 :: ops) := by
  refine ⟨fun op hop => ?_, fun n hn => ?_⟩
  · rcases List.mem_cons.mp hop with rfl | e1
    · rcases h0 with rfl | ⟨o, rfl, h2, h4⟩
      · exact Or.inl ⟨r, List.mem_cons_self, rfl⟩
      · exact Or.inr ⟨o, r, rfl, h2, List.mem_cons_self, h4⟩
    · rcases h.1 op e1 with ⟨n, hn, h1⟩ | ⟨o, n, h1, h2, h3, h4⟩
      · exact Or.inl ⟨n, List.mem_cons_of_mem _ hn, h1⟩
      · exact Or.inr ⟨o, n, h1, h2, List.mem_cons_of_mem _ h3, h4⟩
  · rcases List.mem_cons.mp hn with rfl | e1
    · exact ⟨op0, List.mem_cons_self, h0.imp id fun ⟨o, h1, _⟩ => ⟨o, h1⟩⟩
    · obtain ⟨op, hop, h1⟩ := h.2 n e1
      exact ⟨op, List.mem_cons_of_mem _ hop, h1⟩

theorem routeAddOps_shape (dels : List (Nat × Route)) : ∀ (rs : List Route) (used : List Nat) (gone : List String),
    AddShape dels rs (routeAddOps dels rs used gone).1 := by
  intro rs
  induction rs with
  | nil => intro used gone; exact ⟨fun op hop => by simp [routeAddOps] at hop, fun n hn => by simp at hn⟩
  | cons r rs ih =>
    intro used gone
    cases hm : (dels.filter fun d => d.2.dst == r.dst && !gone.contains r.dst).getLast? with
    | some d =>
      have hd := List.mem_filter.mp (List.mem_of_getLast? hm)
      have hdst : d.2.dst = r.dst := by
        have := hd.2
        simp only [Bool.and_eq_true, beq_iff_eq] at this
        exact this.1
      rw [routeAddOps_some dels r rs used gone d hm]
      exact (ih _ _).cons (Or.inr ⟨d.2, rfl, List.mem_map.mpr ⟨d, hd.1, rfl⟩, hdst⟩)
    | none =>
      rw [routeAddOps_none dels r rs used gone hm]
      exact (ih _ _).cons (Or.inl rfl)

def roExec (s : List Route) : RO → List Route
  | .add r => s ++ [r]
  | .repl o n => (s.filter (· != o)) ++ [n]
  | .del r => s.filter (· != r)

def roTrace : List Route → List RO → List (List Route)
  | _, [] => []
  | s, op :: ops => roExec s op :: roTrace (roExec s op) ops

/-- Numbering of the routes of `U`: destination ↦ its first position among the destinations, route ↦ its first
position. -/
def encR (U : List Route) (r : Route) : NA.Route.Route := ⟨0, (U.map (·.dst)).idxOf r.dst, U.idxOf r⟩

def encOp (U : List Route) : RO → NA.Route.ROp
  | .add r => .add (encR U r)
  | .repl o n => .repl (encR U o) (encR U n)
  | .del r => .del (encR U r)

theorem encR_inj {U : List Route} {x y : Route} (hx : x ∈ U) (h : encR U x = encR U y) : x = y := by
  unfold encR at h
  have := (NA.Route.Route.mk.injEq ..).mp h
  exact idxOf_inj hx this.2.2

/-- The numbering commutes with removing a route of `U` (it is injective at that route; the table itself need not
lie inside `U`). -/
theorem map_filter_ne (U : List Route) {o : Route} (ho : o ∈ U) (s : List Route) :
    (s.filter (· != o)).map (encR U) = (s.map (encR U)).filter (· != encR U o) := by
  rw [List.filter_map]
  congr 1
  refine List.filter_congr fun x _ => ?_
  by_cases e1 : x = o
  · subst e1; simp
  · have : encR U x ≠ encR U o := fun h => e1 (encR_inj ho h.symm).symm
    rw [bne_iff_ne.mpr e1]; exact (bne_iff_ne.mpr this).symm

def RO.routes : RO → List Route
  | .add r => [r]
  | .repl o n => [o, n]
  | .del r => [r]

theorem roExec_enc (U : List Route) (s : List Route) (op : RO) (hop : ∀ r ∈ op.routes, r ∈ U) :
    (roExec s op).map (encR U) = NA.Route.rexec1 (s.map (encR U)) (encOp U op) := by
  cases op with
  | add r => simp [roExec, encOp, NA.Route.rexec1]
  | repl o n =>
    simp only [roExec, encOp, NA.Route.rexec1, List.map_append, map_filter_ne U (hop o List.mem_cons_self) s]; rfl
  | del r => simp only [roExec, encOp, NA.Route.rexec1, map_filter_ne U (hop r List.mem_cons_self) s]

theorem roTrace_enc (U : List Route) : ∀ (ops : List RO) (s : List Route), (∀ op ∈ ops, ∀ r ∈ op.routes, r ∈ U) →
    (roTrace s ops).map (List.map (encR U)) = NA.Route.rtrace (s.map (encR U)) (ops.map (encOp U)) := by
  intro ops
  induction ops with
  | nil => intro s _; rfl
  | cons op ops ih =>
    intro s hops
    simp only [roTrace, List.map_cons, NA.Route.rtrace]
    rw [← roExec_enc U s op (hops op List.mem_cons_self)]
    congr 1
    exact ih _ (fun o ho => hops o (List.mem_cons_of_mem _ ho))

theorem foldl_enc (U : List Route) : ∀ (ops : List RO) (s : List Route), (∀ op ∈ ops, ∀ r ∈ op.routes, r ∈ U) →
    (ops.foldl roExec s).map (encR U) = (ops.map (encOp U)).foldl NA.Route.rexec1 (s.map (encR U)) := by
  intro ops
  induction ops with
  | nil => intro s _; rfl
  | cons op ops ih =>
    intro s hops
    simp only [List.foldl_cons, List.map_cons]
    rw [← roExec_enc U s op (hops op List.mem_cons_self)]
    exact ih _ (fun o ho => hops o (List.mem_cons_of_mem _ ho))

theorem covered_enc (U : List Route) (s : List Route) {d : String} (hd : d ∈ U.map (·.dst)) :
    NA.Route.covered (s.map (encR U)) 0 ((U.map (·.dst)).idxOf d) = true ↔ ∃ r ∈ s, r.dst = d := by
  simp only [NA.Route.covered, List.any_eq_true, List.mem_map, Bool.and_eq_true, beq_iff_eq]
  constructor
  · rintro ⟨x, ⟨r, hr, rfl⟩, _, h2⟩
    exact ⟨r, hr, (idxOf_inj hd h2.symm).symm⟩
  · rintro ⟨r, hr, rfl⟩
    exact ⟨encR U r, ⟨r, hr, rfl⟩, rfl, rfl⟩

/-- Input well-formedness: a route is determined by its text (destination and sort key are parsed from it). -/
def RouteWF (U : List Route) : Prop := ∀ r ∈ U, ∀ r' ∈ U, r.text = r'.text → r = r'

theorem foldl_keep (Dset : List Route) : ∀ (ops : List RO) (s : List Route),
    (∀ op ∈ ops, (∃ n, op = RO.add n) ∨ (∃ o n, op = RO.repl o n ∧ o ∈ Dset)) →
    ∀ r, r ∉ Dset → r ∈ s → r ∈ ops.foldl roExec s := by
  intro ops
  induction ops with
  | nil => intro s _ r _ hr; exact hr
  | cons op ops ih =>
    intro s hops r hrD hr
    rw [List.foldl_cons]
    apply ih _ (fun o ho => hops o (List.mem_cons_of_mem _ ho)) r hrD
    rcases hops op List.mem_cons_self with ⟨n, rfl⟩ | ⟨o, n, rfl, ho⟩
    · exact List.mem_append_left _ hr
    · apply List.mem_append_left
      apply List.mem_filter.mpr
      refine ⟨hr, ?_⟩
      simp only [bne_iff_ne, ne_eq]
      exact fun h => hrD (h ▸ ho)

theorem foldl_added (Dset : List Route) : ∀ (ops : List RO) (s : List Route),
    (∀ op ∈ ops, (∃ n, op = RO.add n) ∨ (∃ o n, op = RO.repl o n ∧ o ∈ Dset)) →
    ∀ n, n ∉ Dset → (∃ op ∈ ops, op = RO.add n ∨ ∃ o, op = RO.repl o n) → n ∈ ops.foldl roExec s := by
  intro ops
  induction ops with
  | nil => intro s _ n _ h; obtain ⟨op, hop, _⟩ := h; simp at hop
  | cons op ops ih =>
    intro s hops n hnD h
    rw [List.foldl_cons]
    obtain ⟨op', hop', h1⟩ := h
    rcases List.mem_cons.mp hop' with e1 | e1
    · subst e1
      apply foldl_keep Dset ops _ (fun o ho => hops o (List.mem_cons_of_mem _ ho)) n hnD
      rcases h1 with rfl | ⟨o, rfl⟩
      · simp [roExec]
      · simp [roExec]
    · exact ih _ (fun o ho => hops o (List.mem_cons_of_mem _ ho)) n hnD ⟨op', e1, h1⟩

theorem routeOps_phases (al bl : List Route) (hnd : (al.map (·.text)).Nodup) (hwf : RouteWF (al ++ bl)) :
    ∃ opsA opsB, routeOpsOf al bl = opsA ++ opsB ∧
      NA.Route.phaseA (opsA.map (encOp (al ++ bl))) = true ∧
      NA.Route.phaseB (bl.map (encR (al ++ bl))) (opsB.map (encOp (al ++ bl))) = true ∧
      (∀ r ∈ bl.map (encR (al ++ bl)), r ∈ (opsA.map (encOp (al ++ bl))).foldl NA.Route.rexec1 (al.map (encR (al ++ bl)))) ∧
      (∀ op ∈ opsA ++ opsB, ∀ r ∈ op.routes, r ∈ al ++ bl) := by
  obtain ⟨sd, si⟩ := routeDelsInss_spec al bl hnd
  obtain ⟨sh1, sh2⟩ := routeAddOps_shape (routeDelsOf al bl) (routeInssOf al bl) [] []
  unfold routeOpsOf routeOps
  generalize routeAddOps (routeDelsOf al bl) (routeInssOf al bl) [] [] = q at sh1 sh2 ⊢
  have hdel : ∀ o ∈ (routeDelsOf al bl).map (·.2), o ∈ al ∧ o ∉ bl := by
    intro o ho
    rw [sd] at ho
    obtain ⟨h1, h2⟩ := List.mem_filter.mp ho
    exact ⟨h1, fun hb => not_contains_iff.mp h2 (List.mem_map.mpr ⟨o, hb, rfl⟩)⟩
  have hins : ∀ n ∈ routeInssOf al bl, n ∈ bl := by
    intro n hn; rw [si] at hn; exact (List.mem_filter.mp hn).1
  have hU : ∀ op ∈ q.1, ∀ r ∈ op.routes, r ∈ al ++ bl := by
    intro op hop x hx
    rcases sh1 op hop with ⟨n, hn, rfl⟩ | ⟨o, n, rfl, h2, h3, _⟩
    · have : x = n := by simpa [RO.routes] using hx
      exact this ▸ List.mem_append_right _ (hins n hn)
    · simp only [RO.routes, List.mem_cons, List.not_mem_nil, or_false] at hx
      rcases hx with rfl | rfl
      · exact List.mem_append_left _ (hdel _ h2).1
      · exact List.mem_append_right _ (hins _ h3)
  generalize hB : ite (bl.isEmpty = true) ([] : List RO) _ = opsB
  have hdelB : ∀ op ∈ opsB, ∃ o, op = RO.del o ∧ o ∈ al ∧ o ∉ bl := by
    intro op hop
    rw [← hB] at hop
    split at hop
    · simp at hop
    · obtain ⟨d, hd, rfl⟩ := List.mem_map.mp hop
      exact ⟨d.2, rfl, hdel d.2 (List.mem_map.mpr ⟨d, (List.mem_filter.mp hd).1, rfl⟩)⟩
  refine ⟨q.1, opsB, rfl, ?_, ?_, ?_, ?_⟩
  · -- phase A
    unfold NA.Route.phaseA
    apply List.all_eq_true.mpr
    intro x hx
    obtain ⟨op, hop, rfl⟩ := List.mem_map.mp hx
    rcases sh1 op hop with ⟨n, _, rfl⟩ | ⟨o, n, rfl, _, _, h4⟩
    · rfl
    · simp [encOp, encR, h4]
  · -- phase B
    unfold NA.Route.phaseB
    apply List.all_eq_true.mpr
    intro x hx
    obtain ⟨op, hop, rfl⟩ := List.mem_map.mp hx
    obtain ⟨o, rfl, _, hob⟩ := hdelB op hop
    simp only [encOp, Bool.not_eq_true', List.contains_eq_mem, decide_eq_false_iff_not, List.mem_map]
    rintro ⟨r, hr, he⟩
    exact hob (encR_inj (List.mem_append_right _ hr) he ▸ hr)
  · -- after phase A the whole target is there
    intro x hx
    obtain ⟨r, hr, rfl⟩ := List.mem_map.mp hx
    have hops : ∀ op ∈ q.1,
        (∃ n, op = RO.add n) ∨ (∃ o n, op = RO.repl o n ∧ o ∈ (routeDelsOf al bl).map (·.2)) := by
      intro op hop
      rcases sh1 op hop with ⟨n, _, h1⟩ | ⟨o, n, h1, h2, _, _⟩
      · exact Or.inl ⟨n, h1⟩
      · exact Or.inr ⟨o, n, h1, h2⟩
    have hrD : r ∉ (routeDelsOf al bl).map (·.2) := fun h => (hdel r h).2 hr
    have hnative : r ∈ q.1.foldl roExec al := by
      by_cases ht : r.text ∈ al.map (·.text)
      · obtain ⟨a, ha, hat⟩ := List.mem_map.mp ht
        have : a = r := hwf a (List.mem_append_left _ ha) r (List.mem_append_right _ hr) hat
        exact foldl_keep _ _ al hops r hrD (this ▸ ha)
      · have hri : r ∈ routeInssOf al bl := by
          rw [si]; exact List.mem_filter.mpr ⟨hr, not_contains_iff.mpr ht⟩
        exact foldl_added _ _ al hops r hrD (sh2 r hri)
    rw [← foldl_enc (al ++ bl) _ al hU]
    exact List.mem_map.mpr ⟨r, hnative, rfl⟩
  · intro op hop x hx
    rcases List.mem_append.mp hop with h | h
    · exact hU op h x hx
    · obtain ⟨o, rfl, hoa, _⟩ := hdelB op h
      have : x = o := by simpa [RO.routes] using hx
      exact this ▸ List.mem_append_left _ hoa

theorem roTrace_append : ∀ (ops1 ops2 : List RO) (s : List Route),
    roTrace s (ops1 ++ ops2) = roTrace s ops1 ++ roTrace (ops1.foldl roExec s) ops2 := by
  intro ops1
  induction ops1 with
  | nil => intro ops2 s; rfl
  | cons op ops ih => intro ops2 s; simp [roTrace, ih]

/-- The tables are those of `roExec`, the execution of `NA.Route.rexec1` (an addition always appends), not those of the strict device
(`roStep`, NA/Proofs/F1Routes.lean, which also refuses); no statement relates the two executions. -/
theorem routes_covered_every_step (al bl : List Route) (hnd : (al.map (·.text)).Nodup) (hwf : RouteWF (al ++ bl))
    (d : String) (hold : ∃ r ∈ al, r.dst = d) (hnew : ∃ r ∈ bl, r.dst = d) :
    ∀ t ∈ roTrace al (routeOpsOf al bl), ∃ r ∈ t, r.dst = d := by
  obtain ⟨opsA, opsB, hsplit, hA, hB, hall, hU⟩ := routeOps_phases al bl hnd hwf
  have hUA : ∀ op ∈ opsA, ∀ r ∈ op.routes, r ∈ al ++ bl := fun op hop => hU op (List.mem_append_left _ hop)
  have hUB : ∀ op ∈ opsB, ∀ r ∈ op.routes, r ∈ al ++ bl := fun op hop => hU op (List.mem_append_right _ hop)
  have hd : d ∈ (al ++ bl).map (·.dst) := by
    obtain ⟨r, hr, rfl⟩ := hold
    exact List.mem_map.mpr ⟨r, List.mem_append_left _ hr, rfl⟩
  have key := NA.Route.covered_both_phases (al.map (encR (al ++ bl))) (bl.map (encR (al ++ bl)))
    (opsA.map (encOp (al ++ bl))) (opsB.map (encOp (al ++ bl))) 0 (((al ++ bl).map (·.dst)).idxOf d) hA hB hall
    ((covered_enc (al ++ bl) al hd).mpr hold) ((covered_enc (al ++ bl) bl hd).mpr hnew)
  rw [hsplit, roTrace_append]
  intro t ht
  apply (covered_enc (al ++ bl) t hd).mp
  apply key
  rcases List.mem_append.mp ht with h | h
  · apply List.mem_append_left
    rw [← roTrace_enc (al ++ bl) opsA al hUA]
    exact List.mem_map.mpr ⟨t, h, rfl⟩
  · apply List.mem_append_right
    rw [← foldl_enc (al ++ bl) opsA al hUA, ← roTrace_enc (al ++ bl) opsB _ hUB]
    exact List.mem_map.mpr ⟨t, h, rfl⟩

end NA.F1
