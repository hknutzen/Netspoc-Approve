import NA.Model.NsxDiff
import NA.Proofs.C04StoreInv
/-!
The planner by itself: nothing here executes a call.  `Emits` is the one walk over its recursion that needs no store:
every call a part emits is a `PlanCall`, and `abort`, once set, stays set.
-/
namespace NA.Nsx

theorem gmb_of_groupRef {ctx : Ctx} {p key : String} (hr : groupRef p = some key) :
    ctx.gmb p = ctx.bmap.lookup key := by
  rw [Ctx.gmb, hr]

theorem gma_some {ctx : Ctx} {p : String} {ga : Group} (h : ctx.gma p = some ga) :
    ga ∈ ctx.aGroups ∧ p = groupPath ga.id := by
  rw [Ctx.gma] at h
  cases hr : groupRef p with
  | none => simp [hr] at h
  | some x =>
    simp only [hr] at h
    unfold findGroupLast at h
    obtain ⟨hm, hid⟩ := findGroup_some h
    exact ⟨List.mem_reverse.mp hm, by rw [hid]; exact groupRef_some hr⟩

theorem gmb_some {ctx : Ctx} {p : String} {gb : Group} (h : ctx.gmb p = some gb) :
    ∃ k, groupRef p = some k ∧ ctx.bmap.lookup k = some gb := by
  rw [Ctx.gmb] at h
  cases hr : groupRef p with
  | none => rw [hr] at h; cases h
  | some k => rw [hr] at h; exact ⟨k, rfl, h⟩

theorem gma_none_of_groupRef {ctx : Ctx} {p k : String} (hr : groupRef p = some k) (h : ctx.gma p = none) :
    k ∉ gids ctx.aGroups := by
  rw [Ctx.gma, hr] at h
  exact findGroupLast_none.mp h

theorem gma_findLast {ctx : Ctx} {p : String} {ga : Group} (h : ctx.gma p = some ga) :
    findGroupLast ctx.aGroups ga.id = some ga := by
  rw [Ctx.gma] at h
  cases hx : groupRef p with
  | none => rw [hx] at h; cases h
  | some x => simp only [hx] at h; rw [findGroupLast_id h]; exact h

/- `adaptGroup` and `equalize` branch on `groupRef p` / `ctx.gma p` for a variable `p`, so (see the note on `epOk` in
`C04Store`) they are opened by their equations and only here: for their branches (`adaptGroup_cases`,
`equalize_cases`) and for the one fact that they do not read the policy id.  Everything else goes through the case
rules and names results with `rcases h : f … with ⟨…⟩`. -/

inductive AdaptCase (ctx : Ctx) (st : PSt) (p : String) : PSt × String × List Call → Prop
  | other : ctx.gmb p = none → AdaptCase ctx st p (st, p, [])
  | known {key gb n} : groupRef p = some key → ctx.bmap.lookup key = some gb → st.nod.lookup key = some n →
      AdaptCase ctx st p (st, groupPath n, [])
  | claim {key gb ga} : groupRef p = some key → ctx.bmap.lookup key = some gb → st.nod.lookup key = none →
      findOnDevice ctx.aGroups st.needed gb = some ga →
      AdaptCase ctx st p
        ({ st with needed := ga.id :: st.needed, nod := (key, ga.id) :: st.nod }, groupPath ga.id, [])
  | put {key gb} : groupRef p = some key → ctx.bmap.lookup key = some gb → st.nod.lookup key = none →
      findOnDevice ctx.aGroups st.needed gb = none →
      AdaptCase ctx st p ({ st with nod := (key, gb.id) :: st.nod }, groupPath gb.id, [putGroupCall gb])

theorem adaptGroup_cases {ctx : Ctx} {st : PSt} {p : String} {r : PSt × String × List Call}
    (h : adaptGroup ctx st p = r) : AdaptCase ctx st p r := by
  subst h
  rw [adaptGroup]
  cases hr : groupRef p with
  | none => exact .other (by rw [Ctx.gmb, hr])
  | some key =>
    cases hb : ctx.bmap.lookup key with
    | none => simp only [hb]; exact .other (by rw [gmb_of_groupRef hr, hb])
    | some gb =>
      cases hn : st.nod.lookup key with
      | some n => simp only [hb, hn]; exact .known hr hb hn
      | none =>
        cases hf : findOnDevice ctx.aGroups st.needed gb with
        | some ga => simp only [hb, hn, hf]; exact .claim hr hb hn hf
        | none => simp only [hb, hn, hf]; exact .put hr hb hn hf

/-- The outcomes of `equalize` for a kept rule's entry `la` against the target's `lb`: `la` is not a loaded
group; the target does not define `lb` (abort); the target group is known under this very device group;
it is known under another name; the device group is taken, so a new group is PUT; the device group is
claimed and its addresses are rewritten. -/
inductive EqualizeCase (ctx : Ctx) (st : PSt) (la lb : String) : PSt × String × Bool × List Call → Prop
  | other : ctx.gma la = none → EqualizeCase ctx st la lb (st, la, false, [])
  | undefined {ga} : ctx.gma la = some ga → ctx.gmb lb = none →
      EqualizeCase ctx st la lb
        ({ st with abort := some s!"group {lb} not defined in Netspoc config" }, la, false, [])
  | same {ga key gb} : ctx.gma la = some ga → groupRef lb = some key → ctx.bmap.lookup key = some gb →
      st.nod.lookup key = some ga.id → EqualizeCase ctx st la lb (st, la, false, [])
  | known {ga key gb nm} : ctx.gma la = some ga → groupRef lb = some key → ctx.bmap.lookup key = some gb →
      st.nod.lookup key = some nm → nm ≠ ga.id → EqualizeCase ctx st la lb (st, groupPath nm, true, [])
  | put {ga key gb} : ctx.gma la = some ga → groupRef lb = some key → ctx.bmap.lookup key = some gb →
      st.nod.lookup key = none → ga.id ∈ st.needed →
      EqualizeCase ctx st la lb ({ st with nod := (key, gb.id) :: st.nod }, groupPath gb.id, true, [putGroupCall gb])
  | rewrite {ga key gb} : ctx.gma la = some ga → groupRef lb = some key → ctx.bmap.lookup key = some gb →
      st.nod.lookup key = none → ga.id ∉ st.needed →
      EqualizeCase ctx st la lb
        ({ st with needed := ga.id :: st.needed, nod := (key, ga.id) :: st.nod }, la, false, groupCalls ctx.diff ga gb)

theorem equalize_cases {ctx : Ctx} {st : PSt} {la lb : String} {r : PSt × String × Bool × List Call}
    (h : equalize ctx st la lb = r) : EqualizeCase ctx st la lb r := by
  subst h
  rw [equalize]
  cases hga : ctx.gma la with
  | none => exact .other hga
  | some ga =>
    cases hr : groupRef lb with
    | none => exact .undefined hga (by rw [Ctx.gmb, hr])
    | some key =>
      cases hb : ctx.bmap.lookup key with
      | none => simp only [hb]; exact .undefined hga (by rw [gmb_of_groupRef hr, hb])
      | some gb =>
        cases hn : st.nod.lookup key with
        | some nm =>
          by_cases e : nm = ga.id
          · subst e; simp only [hb, hn, beq_self_eq_true, if_true]; exact .same hga hr hb hn
          · have e' : (some nm == some ga.id) = false := by simpa using e
            simp only [hb, hn, e', Option.isSome_some, Bool.or_true, Bool.false_eq_true, if_false, if_true]
            exact .known hga hr hb hn e
        | none =>
          have e' : ((none : Option String) == some ga.id) = false := rfl
          by_cases hnd : ga.id ∈ st.needed
          · have : st.needed.contains ga.id = true := by simpa using hnd
            simp only [hb, hn, e', this, Bool.true_or, Bool.false_eq_true, if_false, if_true]
            exact .put hga hr hb hn hnd
          · have : st.needed.contains ga.id = false := by simpa using hnd
            simp only [hb, hn, e', this, Option.isSome_none, Bool.or_false, Bool.false_eq_true, if_false]
            exact .rewrite hga hr hb hn hnd

theorem adaptGroup_withPid (ctx : Ctx) (pid : String) (st : PSt) (p : String) :
    adaptGroup { ctx with pid := pid } st p = adaptGroup ctx st p := by
  rw [adaptGroup, adaptGroup]

theorem equalize_withPid (ctx : Ctx) (pid : String) (st : PSt) (la lb : String) :
    equalize { ctx with pid := pid } st la lb = equalize ctx st la lb := by
  rw [equalize, equalize]; rfl

/- `stepItem` is stated for `{ ctx with pid := pid }`: `diffRules` walks with `{ ctx with pid := a.id }`. -/

theorem stepItem_ins {ctx : Ctx} (pid : String) {st st1 st2 : PSt} {rb : Rule} {src dst : String} {c1 c2 : List Call}
    (h1 : adaptGroup ctx st rb.src = (st1, src, c1)) (h2 : adaptGroup ctx st1 rb.dst = (st2, dst, c2)) :
    stepItem { ctx with pid := pid } st (.ins rb) = (st2, c1 ++ c2 ++ [.putRule pid rb.id (ruleBody rb src dst)]) := by
  simp only [stepItem, adaptGroup_withPid, h1, h2]

theorem stepItem_eq {ctx : Ctx} (pid : String) {st st1 st2 : PSt} {ra rb : Rule} {src dst : String} {ch1 ch2 : Bool}
    {c1 c2 : List Call} (h1 : equalize ctx st ra.src rb.src = (st1, src, ch1, c1))
    (h2 : equalize ctx st1 ra.dst rb.dst = (st2, dst, ch2, c2)) :
    stepItem { ctx with pid := pid } st (.eq ra rb) =
      (st2, c1 ++ c2 ++ if ch1 || ch2 then [.patchRule pid ra.id (ruleBody ra src dst)] else []) := by
  simp only [stepItem, equalize_withPid, h1, h2]

theorem stepItems_cons {ctx : Ctx} {st st1 : PSt} {it : Item} {rest : List Item} {c1 : List Call}
    (h1 : stepItem ctx st it = (st1, c1)) :
    stepItems ctx st (it :: rest) = ((stepItems ctx st1 rest).1, c1 ++ (stepItems ctx st1 rest).2) := by
  simp only [stepItems, h1]

theorem adaptRules_cons {ctx : Ctx} {st st1 st2 : PSt} {r : Rule} {rest : List Rule} {src dst : String}
    {c1 c2 : List Call} (h1 : adaptGroup ctx st r.src = (st1, src, c1)) (h2 : adaptGroup ctx st1 r.dst = (st2, dst, c2)) :
    adaptRules ctx st (r :: rest) =
      ((adaptRules ctx st2 rest).1, c1 ++ c2 ++ (adaptRules ctx st2 rest).2.1,
        { compactRule r with src := src, dst := dst } :: (adaptRules ctx st2 rest).2.2) := by
  simp only [adaptRules, h1, h2]

theorem diffRules_of_none {ctx : Ctx} {st : PSt} {a b : Policy}
    (hg : genUniqRules (a.rules.map (·.id)) b.rules = none) :
    diffRules ctx st a b = ({ st with abort := some "model: no fresh rule id" }, []) := by
  rw [diffRules, hg]

theorem diffRules_of_some {ctx : Ctx} {st : PSt} {a b : Policy} {bR : List Rule}
    (hg : genUniqRules (a.rules.map (·.id)) b.rules = some bR) :
    diffRules ctx st a b = stepItems { ctx with pid := a.id } st
      (itemsOf (ctx.diff (sortRules ctx.gma a.rules).length (sortRules ctx.gmb bR).length fun i j =>
          ruleEqual ctx.gma ctx.gmb (sortRules ctx.gma a.rules)[i]! (sortRules ctx.gmb bR)[j]!)
        (sortRules ctx.gma a.rules) (sortRules ctx.gmb bR)) := by
  rw [diffRules, hg]

/-- What the planner can emit; `Q` holds of the policy ids it works on. -/
inductive PlanCall (ctx : Ctx) (Q : String → Prop) : Call → Prop
  | putService {id d} : managed id = true → PlanCall ctx Q (.putService id d)
  | patchService {id d} : managed id = true → PlanCall ctx Q (.patchService id d)
  | deleteService {id} : managed id = true → PlanCall ctx Q (.deleteService id)
  | putGroup {k gb} : ctx.bmap.lookup k = some gb → PlanCall ctx Q (putGroupCall gb)
  | groupCall {ga k gb c} : ga ∈ ctx.aGroups → ctx.bmap.lookup k = some gb → c ∈ groupCalls ctx.diff ga gb →
      PlanCall ctx Q c
  | deleteGroup {id} : managed id = true → PlanCall ctx Q (.deleteGroup id)
  | putPolicy {id rules} : Q id → (∀ r ∈ rules, r.compact) → PlanCall ctx Q (.putPolicy id rules)
  | deletePolicy {id} : Q id → PlanCall ctx Q (.deletePolicy id)
  | putRule {pid rid r src dst} : Q pid → PlanCall ctx Q (.putRule pid rid (ruleBody r src dst))
  | patchRule {pid rid r src dst} : Q pid → PlanCall ctx Q (.patchRule pid rid (ruleBody r src dst))
  | deleteRule {pid rid} : Q pid → PlanCall ctx Q (.deleteRule pid rid)

/-- `Q` is a parameter so that one walk serves both readers: scope (`plan_scope`, `Q` = "carries the prefix") and the
specifications on the store, which need the second field only and take `Q := fun _ => True`. -/
structure Emits (ctx : Ctx) (Q : String → Prop) (st : PSt) (cs : List Call) (st' : PSt) : Prop where
  calls : ∀ c ∈ cs, PlanCall ctx Q c
  abort : st'.abort = none → st.abort = none

section
variable {ctx : Ctx} {Q : String → Prop} {st st1 st2 st' : PSt} {c1 c2 cs : List Call} {c : Call}

theorem Emits.nil : Emits ctx Q st [] st := ⟨(fun _ h => nomatch h), id⟩

theorem Emits.append (h1 : Emits ctx Q st c1 st1) (h2 : Emits ctx Q st1 c2 st2) : Emits ctx Q st (c1 ++ c2) st2 :=
  ⟨List.forall_mem_append.mpr ⟨h1.calls, h2.calls⟩, fun h => h1.abort (h2.abort h)⟩

theorem Emits.cons (h : PlanCall ctx Q c) (h2 : Emits ctx Q st cs st') : Emits ctx Q st (c :: cs) st' :=
  ⟨List.forall_mem_cons.mpr ⟨h, h2.calls⟩, h2.abort⟩

theorem adaptGroup_emits {p p' : String} (h : adaptGroup ctx st p = (st', p', cs)) : Emits ctx Q st cs st' := by
  cases adaptGroup_cases h with
  | put _ hb _ _ => exact ⟨List.forall_mem_singleton.mpr (.putGroup hb), id⟩
  | _ => exact ⟨(fun _ h => nomatch h), id⟩

theorem equalize_emits {la lb la' : String} {ch : Bool} (h : equalize ctx st la lb = (st', la', ch, cs)) :
    Emits ctx Q st cs st' := by
  cases equalize_cases h with
  | undefined _ _ => exact ⟨(fun _ h => nomatch h), (fun h => nomatch h)⟩
  | put _ _ hb _ _ => exact ⟨List.forall_mem_singleton.mpr (.putGroup hb), id⟩
  | rewrite hga _ hb _ _ => exact ⟨fun c hc => .groupCall (gma_some hga).1 hb hc, id⟩
  | _ => exact ⟨(fun _ h => nomatch h), id⟩

end

theorem stepItem_emits (ctx : Ctx) {Q : String → Prop} {pid : String} (hq : Q pid) (st : PSt) (it : Item) :
    Emits ctx Q st (stepItem { ctx with pid := pid } st it).2 (stepItem { ctx with pid := pid } st it).1 := by
  cases it with
  | del ra => exact .cons (.deleteRule hq) .nil
  | ins rb =>
    rcases h1 : adaptGroup ctx st rb.src with ⟨st1, src, c1⟩
    rcases h2 : adaptGroup ctx st1 rb.dst with ⟨st2, dst, c2⟩
    rw [stepItem_ins pid h1 h2]
    exact ((adaptGroup_emits h1).append (adaptGroup_emits h2)).append (.cons (.putRule hq) .nil)
  | eq ra rb =>
    rcases h1 : equalize ctx st ra.src rb.src with ⟨st1, src, ch1, c1⟩
    rcases h2 : equalize ctx st1 ra.dst rb.dst with ⟨st2, dst, ch2, c2⟩
    rw [stepItem_eq pid h1 h2]
    refine ((equalize_emits h1).append (equalize_emits h2)).append ?_
    split
    · exact .cons (.patchRule hq) .nil
    · exact .nil

theorem stepItems_emits (ctx : Ctx) {Q : String → Prop} {pid : String} (hq : Q pid) : ∀ (items : List Item) (st : PSt),
    Emits ctx Q st (stepItems { ctx with pid := pid } st items).2 (stepItems { ctx with pid := pid } st items).1
  | [], _ => .nil
  | it :: rest, st => by
    have h1 := stepItem_emits ctx hq st it
    rcases hst : stepItem { ctx with pid := pid } st it with ⟨st1, c1⟩
    rw [hst] at h1
    rw [stepItems_cons hst]
    exact h1.append (stepItems_emits ctx hq rest st1)

theorem diffRules_emits (ctx : Ctx) {Q : String → Prop} (st : PSt) (pa pb : Policy) (hq : Q pa.id) :
    Emits ctx Q st (diffRules ctx st pa pb).2 (diffRules ctx st pa pb).1 := by
  cases hg : genUniqRules (pa.rules.map (·.id)) pb.rules with
  | none => rw [diffRules_of_none hg]; exact ⟨(fun _ h => nomatch h), (fun h => nomatch h)⟩
  | some bR => rw [diffRules_of_some hg]; exact stepItems_emits ctx hq _ _

theorem adaptRules_emits (ctx : Ctx) {Q : String → Prop} : ∀ (rules : List Rule) (st : PSt),
    Emits ctx Q st (adaptRules ctx st rules).2.1 (adaptRules ctx st rules).1 ∧ ∀ r ∈ (adaptRules ctx st rules).2.2, r.compact
  | [], _ => ⟨.nil, (fun _ h => nomatch h)⟩
  | r :: rest, st => by
    rcases h1 : adaptGroup ctx st r.src with ⟨st1, src, c1⟩
    rcases h2 : adaptGroup ctx st1 r.dst with ⟨st2, dst, c2⟩
    rw [adaptRules_cons h1 h2]
    obtain ⟨h3, h4⟩ := adaptRules_emits ctx (Q := Q) rest st2
    exact ⟨((adaptGroup_emits h1).append (adaptGroup_emits h2)).append h3,
      List.forall_mem_cons.mpr ⟨compactJSON_idem _, h4⟩⟩

theorem overA_emits (ctx : Ctx) {Q : String → Prop} (T : Config) : ∀ (ps : List Policy) (st : PSt),
    (∀ p ∈ ps, Q p.id) → Emits ctx Q st (overA ctx T ps st).2 (overA ctx T ps st).1
  | [], _, _ => .nil
  | pa :: rest, st, hm => by
    have hpa := hm pa List.mem_cons_self
    have ih := fun st' => overA_emits ctx T rest st' fun p hp => hm p (List.mem_cons_of_mem _ hp)
    unfold overA
    split
    · exact .cons (.deletePolicy hpa) (ih _)
    · exact (diffRules_emits ctx st pa _ hpa).append (ih _)

theorem overB_emits (ctx : Ctx) {Q : String → Prop} (A : Config) : ∀ (ps : List Policy) (st : PSt),
    (∀ p ∈ ps, Q p.id) → Emits ctx Q st (overB ctx A ps st).2 (overB ctx A ps st).1
  | [], _, _ => .nil
  | pb :: rest, st, hm => by
    have ih := fun st' => overB_emits ctx A rest st' fun p hp => hm p (List.mem_cons_of_mem _ hp)
    unfold overB
    split
    · exact ih _
    · exact ((adaptRules_emits ctx _ _).1.append
        (.cons (.putPolicy (hm pb List.mem_cons_self) (adaptRules_emits ctx (Q := Q) _ _).2) .nil)).append (ih _)

theorem equalize_abort {ctx : Ctx} {st st' : PSt} {la lb la' : String} {ch : Bool} {cs : List Call}
    (h : equalize ctx st la lb = (st', la', ch, cs)) (hab : st'.abort = none) : st.abort = none :=
  (equalize_emits (Q := fun _ => True) h).abort hab

theorem stepItems_abort {ctx : Ctx} {pid : String} {st : PSt} {items : List Item}
    (h : (stepItems { ctx with pid := pid } st items).1.abort = none) : st.abort = none :=
  (stepItems_emits ctx (Q := fun _ => True) trivial items st).abort h

theorem overA_abort (ctx : Ctx) (T : Config) (ps : List Policy) (st : PSt)
    (h : (overA ctx T ps st).1.abort = none) : st.abort = none :=
  (overA_emits ctx (Q := fun _ => True) T ps st fun _ _ => trivial).abort h

theorem overB_abort (ctx : Ctx) (A : Config) (ps : List Policy) (st : PSt)
    (h : (overB ctx A ps st).1.abort = none) : st.abort = none :=
  (overB_emits ctx (Q := fun _ => True) A ps st fun _ _ => trivial).abort h

end NA.Nsx
