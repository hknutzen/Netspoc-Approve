import NA.Model.IosEngineHyp
import NA.Proofs.F1Names
import NA.Proofs.F1Groups
/-!
# F2: `alignVRFs`, `checkIOSInterfaces` — the state `diffConfig` starts from

Both functions only add `needed` marks on device ACLs (besides messages and counters): `alignVRFs` for the
interfaces it removes, `checkIOSInterfaces` for the interfaces the target does not name.  `Marks a l st st'`
says exactly which; everything downstream reads the marks of the start state from it (`start_marks`).  The flag of
`checkIOSInterfaces` looks at name, VRF and `ip inspect` only (`checkInterfaces_ok`).  About the model alone.
-/
namespace NA.F2
open NA.ListFacts
open NA.F1 (genName lookupD addSet sortS mem_addSet)

theorem Config.hasAcl_congr {c c' : Config} (h : c'.acls = c.acls) (n : Name) : c'.hasAcl n = c.hasAcl n := by
  simp only [Config.hasAcl, h]

theorem Config.lines_congr {c c' : Config} (h : c'.acls = c.acls) (n : Name) : c'.lines n = c.lines n := by
  simp only [Config.lines, h]

theorem hasAcl_config_iff (c : Config) (n : Name) : c.hasAcl n = true ↔ n ∈ c.acls.map (·.1) := by
  simp [Config.hasAcl]

theorem genName_not_hasAcl (c : Config) (bN : Name) : c.hasAcl (genName bN (c.acls.map (·.1))) = false := by
  rw [Bool.eq_false_iff]
  intro h
  exact NA.F1.genName_fresh bN _ ((hasAcl_config_iff c _).mp h)

def CoreEmpty (st : St) : Prop :=
  st.aToDel = [] ∧ st.iNeeded = [] ∧ st.bNeeded = [] ∧ st.aReady = [] ∧ st.aName = [] ∧ st.acts = []

/-- The ACLs bound by interface `i` are `needed`. -/
def Marked (a : Config) (st : St) (i : Intf) : Prop :=
  ∀ bd ∈ i.binds, a.hasAcl bd.acl = true → bd.acl ∈ st.aNeeded

theorem coreEmpty_hit {st : St} (h : CoreEmpty st) (s : String) : CoreEmpty (st.hit s) := h
theorem coreEmpty_msg {st : St} (h : CoreEmpty st) (s : String) : CoreEmpty (st.msg s) := h

theorem mem_markNeededIntf {a : Config} {st : St} {i : Intf} {n : Name} :
    n ∈ (markNeededIntf a st i).aNeeded ↔ n ∈ st.aNeeded ∨ (n ∈ i.binds.map (·.acl) ∧ a.hasAcl n = true) := by
  show n ∈ i.binds.foldl (fun s b => if a.hasAcl b.acl then addSet b.acl s else s) st.aNeeded ↔ _
  rw [mem_foldl_iff (Q := fun b => n = b.acl ∧ a.hasAcl n = true) fun s b => ?_]
  · refine or_congr_right ⟨fun ⟨b, hb, e, hh⟩ => ⟨e ▸ List.mem_map_of_mem hb, hh⟩, fun ⟨hm, hh⟩ => ?_⟩
    obtain ⟨b, hb, e⟩ := List.mem_map.mp hm
    exact ⟨b, hb, e.symm, hh⟩
  · by_cases hb : a.hasAcl b.acl = true
    · rw [if_pos hb, mem_addSet, or_comm]
      exact or_congr_right ⟨fun e => ⟨e, e ▸ hb⟩, And.left⟩
    · rw [if_neg hb]
      exact ⟨Or.inl, fun h => h.elim id fun e => absurd (e.1 ▸ e.2) hb⟩

/-- `st'` is `st` with the defined ACLs of the interfaces `l` marked `needed` (messages and counters apart). -/
structure Marks (a : Config) (l : List Intf) (st st' : St) : Prop where
  needed : ∀ n, n ∈ st'.aNeeded ↔ n ∈ st.aNeeded ∨ ∃ i ∈ l, n ∈ i.binds.map (·.acl) ∧ a.hasAcl n = true
  core : CoreEmpty st → CoreEmpty st'

theorem Marks.refl (a : Config) (st : St) : Marks a [] st st := ⟨fun n => by simp, fun h => h⟩

theorem Marks.same {a : Config} {l : List Intf} {st s s' : St} (h : Marks a l st s) (hN : s'.aNeeded = s.aNeeded)
    (hC : CoreEmpty s → CoreEmpty s') : Marks a l st s' :=
  ⟨fun n => by rw [hN]; exact h.needed n, fun hc => hC (h.core hc)⟩

theorem Marks.hit {a : Config} {l : List Intf} {st s : St} (h : Marks a l st s) (t : String) : Marks a l st (s.hit t) :=
  h.same rfl id

theorem Marks.msg {a : Config} {l : List Intf} {st s : St} (h : Marks a l st s) (m : String) : Marks a l st (s.msg m) :=
  h.same rfl id

theorem Marks.ite {a : Config} {l : List Intf} {st s1 s2 : St} {c : Prop} [Decidable c] (h1 : Marks a l st s1)
    (h2 : Marks a l st s2) : Marks a l st (if c then s1 else s2) := by
  split
  · exact h1
  · exact h2

theorem Marks.mark {a : Config} {l : List Intf} {st s : St} (h : Marks a l st s) (i : Intf) :
    Marks a (l ++ [i]) st (markNeededIntf a s i) := by
  refine ⟨fun n => ?_, h.core⟩
  rw [mem_markNeededIntf, h.needed n]
  simp only [List.mem_append, List.mem_singleton, or_assoc, or_and_right, exists_or, exists_eq_left]

theorem Marks.marked {a : Config} {l : List Intf} {st s : St} (h : Marks a l st s) {i : Intf} (hi : i ∈ l) : Marked a s i :=
  fun _ hbd hh => (h.needed _).mpr (Or.inr ⟨i, hi, List.mem_map_of_mem hbd, hh⟩)

structure MarkInv (a : Config) (st0 st : St) : Prop where
  core : CoreEmpty st
  mono : ∀ n ∈ st0.aNeeded, n ∈ st.aNeeded
  sound : ∀ n ∈ st.aNeeded, n ∈ st0.aNeeded ∨ a.hasAcl n = true

theorem markInv_trans {a : Config} {s0 s1 s2 : St} (h1 : MarkInv a s0 s1) (h2 : MarkInv a s1 s2) : MarkInv a s0 s2 :=
  ⟨h2.core, fun n hn => h2.mono n (h1.mono n hn), fun n hn => by
    rcases h2.sound n hn with h | h
    · exact h1.sound n h
    · exact Or.inr h⟩

theorem Marks.foldl_mark {a : Config} (hit : String) (l : List Intf) {l0 : List Intf} {st s : St} (h : Marks a l0 st s) :
    Marks a (l0 ++ l) st (l.foldl (fun st i => (markNeededIntf a st i).hit hit) s) := by
  induction l generalizing l0 s with
  | nil => rw [List.append_nil]; exact h
  | cons x xs ih =>
    rw [List.foldl_cons, List.append_cons]
    exact ih ((h.mark x).hit hit)

theorem Marks.foldl_msg {a : Config} {α : Type} (f : α → String) (l : List α) {l0 : List Intf} {st s : St}
    (h : Marks a l0 st s) : Marks a l0 st (l.foldl (fun st v => st.msg (f v)) s) := by
  induction l generalizing s with
  | nil => exact h
  | cons x xs ih => exact ih (h.msg _)

theorem alignVRFs_marks (a b : Config) (st : St) :
    ∃ l, Marks a l st (alignVRFs a b st).1 ∧ ∀ i, i ∈ l ↔ i ∈ a.intfs ∧ i ∉ (alignVRFs a b st).2.intfs := by
  unfold alignVRFs
  by_cases hv : (b.intfs.map (·.vrf) ++ b.routes.map (·.vrf)).isEmpty = true
  · rw [if_pos hv]
    exact ⟨[], (Marks.refl a st).hit _, fun i => by simp⟩
  · rw [if_neg hv]
    refine ⟨a.intfs.filter fun i => !(b.intfs.map (·.vrf) ++ b.routes.map (·.vrf)).contains i.vrf, ?_, fun i => ?_⟩
    · apply Marks.foldl_msg
      have h1 := Marks.foldl_mark "align:interface-removed"
        (a.intfs.filter fun i => !(b.intfs.map (·.vrf) ++ b.routes.map (·.vrf)).contains i.vrf) (Marks.refl a st)
      rw [List.nil_append] at h1
      exact Marks.ite h1 (h1.hit _)
    · simp only [List.mem_filter, Bool.not_eq_true', not_and, Bool.not_eq_true]
      exact ⟨fun h => ⟨h.1, fun _ => h.2⟩, fun h => ⟨h.1, h.2 h.1⟩⟩

theorem alignVRFs_config (a b : Config) (st : St) :
    (alignVRFs a b st).2.acls = a.acls ∧
    (∃ p : Intf → Bool, (alignVRFs a b st).2.intfs = a.intfs.filter p) ∧
    (∃ p : Route → Bool, (alignVRFs a b st).2.routes = a.routes.filter p) ∧
    (∀ r ∈ a.routes, r.vrf ∈ b.routes.map (·.vrf) → r ∈ (alignVRFs a b st).2.routes) := by
  unfold alignVRFs
  by_cases hv : (b.intfs.map (·.vrf) ++ b.routes.map (·.vrf)).isEmpty = true
  · rw [if_pos hv]
    exact ⟨rfl, ⟨fun _ => true, (List.filter_eq_self.mpr (fun _ _ => rfl)).symm⟩,
      ⟨fun _ => true, (List.filter_eq_self.mpr (fun _ _ => rfl)).symm⟩, fun r hr _ => hr⟩
  · rw [if_neg hv]
    exact ⟨rfl, ⟨_, rfl⟩, ⟨_, rfl⟩, fun r hr hvr => List.mem_filter.mpr ⟨hr, by simp [hvr]⟩⟩

theorem bFind_none_iff (b : Config) (n : String) : bFind b n = none ↔ n ∉ b.intfs.map (·.name) := by
  unfold bFind
  rw [List.find?_eq_none]
  constructor
  · intro h hc
    obtain ⟨i, hi, rfl⟩ := List.mem_map.mp hc
    exact h i (List.mem_reverse.mpr hi) (by simp)
  · intro h i hi hc
    exact h (List.mem_map.mpr ⟨i, List.mem_reverse.mp hi, by simpa using hc⟩)

def okI (b : Config) (ai : Intf) : Bool :=
  match bFind b ai.name with
  | some bi => ai.inspect == bi.inspect && ai.vrf == bi.vrf
  | none => true

theorem checkStep_ok (a b : Config) (s : St × Bool) (ai : Intf) : (checkStep a b s ai).2 = (s.2 && okI b ai) := by
  obtain ⟨st, f⟩ := s
  unfold checkStep okI
  cases f with
  | false => simp
  | true =>
    simp only [Bool.not_true, Bool.false_eq_true, ↓reduceIte, Bool.true_and]
    cases hb : bFind b ai.name with
    | none =>
      simp only
      split <;> rfl
    | some bi =>
      by_cases h1 : ai.inspect = bi.inspect
      · by_cases h2 : ai.vrf = bi.vrf
        · simp [h1, h2]
        · simp [h1, h2]
      · simp [h1]

theorem fold_checkStep_ok (a b : Config) (l : List Intf) (s : St × Bool) :
    (l.foldl (checkStep a b) s).2 = (s.2 && l.all (okI b)) := by
  induction l generalizing s with
  | nil => simp
  | cons x l ih =>
    simp only [List.foldl_cons, List.all_cons]
    rw [ih, checkStep_ok, Bool.and_assoc]

theorem checkInterfaces_ok (a b : Config) (st : St) :
    (checkInterfaces a b st).2 = (a.intfs.all (okI b) &&
      (b.intfs.find? fun bi => !(a.intfs.any fun ai => ai.name == bi.name)).isNone) := by
  unfold checkInterfaces
  have hf := fold_checkStep_ok a b a.intfs (st, true)
  simp only [Bool.true_and] at hf
  cases hall : a.intfs.all (okI b) with
  | false =>
    rw [hall] at hf
    simp only [hf, Bool.not_false, ↓reduceIte, Bool.false_and]
  | true =>
    rw [hall] at hf
    simp only [hf, Bool.not_true, Bool.false_eq_true, ↓reduceIte, Bool.true_and]
    cases b.intfs.find? fun bi => !(a.intfs.any fun ai => ai.name == bi.name) with
    | none => simp [hf]
    | some bi => simp

theorem checkInterfaces_cov (a b : Config) (st : St) (hok : (checkInterfaces a b st).2 = true) :
    ∀ bi ∈ b.intfs, ∃ ai ∈ a.intfs, ai.name = bi.name := by
  rw [checkInterfaces_ok, Bool.and_eq_true, Option.isNone_iff_eq_none] at hok
  intro bi hbi
  have := List.find?_eq_none.mp hok.2 bi hbi
  simp only [Bool.not_eq_true', Bool.not_eq_false, List.any_eq_true, beq_iff_eq] at this
  exact this

theorem checkStep_marks (a b : Config) {l : List Intf} {st s : St} (x : Intf) (h : Marks a l st s) :
    (bFind b x.name = none → Marks a (l ++ [x]) st (checkStep a b (s, true) x).1) ∧
    (bFind b x.name ≠ none → Marks a l st (checkStep a b (s, true) x).1) := by
  unfold checkStep
  simp only [Bool.not_true, Bool.false_eq_true, ↓reduceIte]
  cases bFind b x.name with
  | none =>
    refine ⟨fun _ => ?_, fun hc => absurd rfl hc⟩
    by_cases hw : (!x.shut && x.addr != "" && !b.intfs.isEmpty) = true
    · rw [if_pos hw]; exact ((h.mark x).msg _).hit _
    · rw [if_neg hw]; exact (h.mark x).hit _
  | some bi =>
    refine ⟨fun hc => (by cases hc), fun _ => ?_⟩
    -- whatever is reported, the marks stay
    have h1 := Marks.ite (c := (x.addr != bi.addr && bi.addr != "negotiated") = true)
      ((h.msg ("WARNING>>> Different address defined for interface " ++ x.name ++ ": Device: " ++ quote x.addr ++
        ", Netspoc: " ++ quote bi.addr)).hit "check:address-differs") h
    rw [apply_ite Prod.fst, apply_ite Prod.fst]
    exact Marks.ite ((h1.msg _).hit _) (Marks.ite ((h1.msg _).hit _) h1)

theorem fold_checkStep_marks (a b : Config) (xs : List Intf) {l : List Intf} {st s : St} (h : Marks a l st s)
    (hok : xs.all (okI b) = true) :
    Marks a (l ++ xs.filter fun i => (bFind b i.name).isNone) st (xs.foldl (checkStep a b) (s, true)).1 := by
  induction xs generalizing l s with
  | nil => rw [List.filter_nil, List.append_nil]; exact h
  | cons x xs ih =>
    rw [List.all_cons, Bool.and_eq_true] at hok
    obtain ⟨hn, hs⟩ := checkStep_marks a b x h
    have hf : (checkStep a b (s, true) x).2 = true := by rw [checkStep_ok]; exact hok.1
    obtain ⟨⟨s1, f⟩, hstep⟩ : ∃ r, checkStep a b (s, true) x = r := ⟨_, rfl⟩
    rw [hstep] at hn hs hf
    rw [List.foldl_cons, hstep, show f = true from hf]
    by_cases hb : bFind b x.name = none
    · rw [List.filter_cons_of_pos (by rw [hb]; rfl), List.append_cons]
      exact ih (hn hb) hok.2
    · rw [List.filter_cons_of_neg (by rw [Option.isNone_iff_eq_none]; exact hb)]
      exact ih (hs hb) hok.2

theorem checkInterfaces_marks (a b : Config) (st : St) (hok : (checkInterfaces a b st).2 = true) :
    Marks a (a.intfs.filter fun i => (bFind b i.name).isNone) st (checkInterfaces a b st).1 := by
  rw [checkInterfaces_ok, Bool.and_eq_true, Option.isNone_iff_eq_none] at hok
  have hf : (a.intfs.foldl (checkStep a b) (st, true)).2 = true := by rw [fold_checkStep_ok, hok.1]; rfl
  have := fold_checkStep_marks a b a.intfs (Marks.refl a st) hok.1
  rw [List.nil_append] at this
  unfold checkInterfaces
  simp only [hf, Bool.not_true, Bool.false_eq_true, ↓reduceIte, hok.2]
  exact this

theorem mem_unpairedAcls {a b : Config} {n : Name} :
    n ∈ unpairedAcls a b ↔ ∃ i ∈ a.intfs, (i ∉ (alignVRFs a b {}).2.intfs ∨ i.name ∉ b.intfs.map (·.name)) ∧
      n ∈ i.binds.map (·.acl) := by
  simp only [unpairedAcls, List.mem_flatMap, List.mem_filter, Bool.or_eq_true, Bool.not_eq_true', Bool.eq_false_iff, ne_eq,
    List.contains_iff_mem, List.any_eq_true, beq_iff_eq, List.mem_map, and_assoc]

theorem start_marks (a b : Config) (hok : (checkInterfaces (alignVRFs a b {}).2 b (alignVRFs a b {}).1).2 = true) :
    CoreEmpty (checkInterfaces (alignVRFs a b {}).2 b (alignVRFs a b {}).1).1 ∧
    ∀ n, n ∈ (checkInterfaces (alignVRFs a b {}).2 b (alignVRFs a b {}).1).1.aNeeded ↔
      a.hasAcl n = true ∧ n ∈ unpairedAcls a b := by
  obtain ⟨l1, m1, hl1⟩ := alignVRFs_marks a b {}
  have m2 := checkInterfaces_marks (alignVRFs a b {}).2 b (alignVRFs a b {}).1 hok
  have hl2 : ∀ i, i ∈ (alignVRFs a b {}).2.intfs.filter (fun i => (bFind b i.name).isNone) ↔
      i ∈ (alignVRFs a b {}).2.intfs ∧ bFind b i.name = none := fun i => by
    rw [List.mem_filter, Option.isNone_iff_eq_none]
  obtain ⟨hacls, ⟨pI, hpI⟩, _⟩ := alignVRFs_config a b {}
  have hhas : ∀ n, (alignVRFs a b {}).2.hasAcl n = a.hasAcl n := Config.hasAcl_congr hacls
  refine ⟨m2.core (m1.core ⟨rfl, rfl, rfl, rfl, rfl, rfl⟩), fun n => ?_⟩
  rw [m2.needed n, m1.needed n, mem_unpairedAcls]
  constructor
  · rintro ((h | ⟨i, hi, hn, hh⟩) | ⟨i, hi, hn, hh⟩)
    · cases h
    · exact ⟨hh, i, ((hl1 i).mp hi).1, Or.inl ((hl1 i).mp hi).2, hn⟩
    · obtain ⟨hi', hb⟩ := (hl2 i).mp hi
      rw [hpI] at hi'
      exact ⟨hhas n ▸ hh, i, (List.mem_filter.mp hi').1, Or.inr ((bFind_none_iff b i.name).mp hb), hn⟩
  · rintro ⟨hh, i, hi, hc, hn⟩
    by_cases hin : i ∈ (alignVRFs a b {}).2.intfs
    · refine Or.inr ⟨i, (hl2 i).mpr ⟨hin, (bFind_none_iff b i.name).mpr (hc.resolve_left fun h => h hin)⟩, hn, ?_⟩
      rw [hhas]; exact hh
    · exact Or.inl (Or.inr ⟨i, (hl1 i).mpr ⟨hi, hin⟩, hn, hh⟩)

end NA.F2
