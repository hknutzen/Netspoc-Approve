import NA.Spec.NsxStore
import NA.Core.PermFold
/-!
The strict manager of `NA/Spec/NsxStore.lean` by itself: nothing here mentions the planner.
-/
namespace NA.Nsx

theorem hasPrefix_append (p r : String) : hasPrefix p (p ++ r) = true := by
  simp [hasPrefix, String.toList_append]

theorem cutPrefix_some {p s r : String} (h : cutPrefix p s = some r) : s = p ++ r := by
  unfold cutPrefix at h
  by_cases hp : hasPrefix p s = true
  · simp only [hp, if_true, Option.some.injEq] at h
    subst h
    unfold hasPrefix at hp
    rw [List.isPrefixOf_iff_prefix] at hp
    obtain ⟨t, ht⟩ := hp
    apply String.toList_inj.mp
    rw [String.toList_append, String.toList_ofList, ← ht]
    simp
  · simp [hp] at h

theorem cutPrefix_append (p r : String) : cutPrefix p (p ++ r) = some r := by
  unfold cutPrefix
  rw [if_pos (hasPrefix_append p r)]
  congr 1
  apply String.toList_inj.mp
  simp [String.toList_append]

theorem groupRef_groupPath (id : String) : groupRef (groupPath id) = some id := cutPrefix_append _ _

theorem groupRef_some {p x : String} (h : groupRef p = some x) : p = groupPath x := cutPrefix_some h

theorem groupPath_inj {a b : String} (h : groupPath a = groupPath b) : a = b := by
  have := groupRef_groupPath a
  rw [h, groupRef_groupPath] at this
  exact (Option.some.inj this).symm

theorem hasPrefix_append_right {p s : String} (t : String) (h : hasPrefix p s = true) : hasPrefix p (s ++ t) = true := by
  unfold hasPrefix at *
  rw [List.isPrefixOf_iff_prefix] at *
  rw [String.toList_append]
  exact h.trans (List.prefix_append _ _)

theorem serviceRef_servicePath (id : String) : serviceRef (servicePath id) = some id := cutPrefix_append _ _

theorem serviceRef_some {p x : String} (h : serviceRef p = some x) : p = servicePath x := cutPrefix_some h

/-- non-accumulating form of the scanner inside `compactJSON` -/
def compactGo : List Char → Bool → Bool → List Char
  | [], _, _ => []
  | c :: rest, inStr, esc =>
    if inStr then
      if esc then c :: compactGo rest true false
      else if c == '\\' then c :: compactGo rest true true
      else if c == '"' then c :: compactGo rest false false
      else c :: compactGo rest true false
    else if c == ' ' || c == '\t' || c == '\n' || c == '\r' then compactGo rest false false
    else if c == '"' then c :: compactGo rest true false
    else c :: compactGo rest false false

theorem compactJSON_go_eq (l : List Char) (i e : Bool) (acc : List Char) :
    compactJSON.go l i e acc = acc.reverse ++ compactGo l i e := by
  induction l generalizing i e acc with
  | nil => simp [compactJSON.go, compactGo]
  | cons c rest ih =>
    unfold compactJSON.go compactGo
    cases i <;> cases e <;> simp only [Bool.false_eq_true, if_false, if_true] <;>
      (repeat' split) <;> simp [ih]

theorem compactJSON_eq (s : String) : compactJSON s = String.ofList (compactGo s.toList false false) := by
  unfold compactJSON
  rw [compactJSON_go_eq]; simp

theorem compactGo_idem (l : List Char) (i e : Bool) (he : i = false → e = false) :
    compactGo (compactGo l i e) i e = compactGo l i e := by
  induction l generalizing i e with
  | nil => simp [compactGo]
  | cons c rest ih =>
    cases i with
    | true =>
      cases e with
      | true =>
        simp only [compactGo, if_true]
        rw [ih true false (by simp)]
      | false =>
        by_cases h1 : c = '\\'
        · subst h1
          simp only [compactGo, if_true, Bool.false_eq_true, if_false, beq_self_eq_true]
          rw [ih true true (by simp)]
        · have h1' : (c == '\\') = false := by simpa using h1
          by_cases h2 : c = '"'
          · subst h2
            simp only [compactGo, if_true, Bool.false_eq_true, if_false, h1', beq_self_eq_true]
            rw [ih false false (by simp)]
          · have h2' : (c == '"') = false := by simpa using h2
            simp only [compactGo, if_true, Bool.false_eq_true, if_false, h1', h2']
            rw [ih true false (by simp)]
    | false =>
      have : e = false := he rfl
      subst this
      by_cases hw : (c == ' ' || c == '\t' || c == '\n' || c == '\r') = true
      · simp only [compactGo, Bool.false_eq_true, if_false, hw, if_true]
        exact ih false false (by simp)
      · have hw' : (c == ' ' || c == '\t' || c == '\n' || c == '\r') = false := Bool.eq_false_iff.mpr hw
        by_cases h2 : c = '"'
        · subst h2
          simp only [compactGo, Bool.false_eq_true, if_false, hw', beq_self_eq_true, if_true]
          rw [ih true false (by simp)]
        · have h2' : (c == '"') = false := by simpa using h2
          simp only [compactGo, Bool.false_eq_true, if_false, hw', h2']
          rw [ih false false (by simp)]

theorem compactJSON_idem (s : String) : compactJSON (compactJSON s) = compactJSON s := by
  rw [compactJSON_eq, compactJSON_eq, String.toList_ofList, compactGo_idem _ _ _ (fun _ => rfl)]

theorem compactAttrs_idem (a : Attrs) : compactAttrs (compactAttrs a) = compactAttrs a := by
  simp [compactAttrs, compactJSON_idem]

/- `findGroup`, `findService`, `findPolicy`, `findRule` and `hasGroup`, `hasService`, `hasPolicy` are `find?` / `any` on
`key · == id` for the projection `id` of the object type, so the lemmas of this section apply to them as they stand. -/

section ByKey
variable {α : Type} {key : α → String}

theorem find?_key_some {l : List α} {id : String} {x : α} (h : l.find? (key · == id) = some x) :
    x ∈ l ∧ key x = id :=
  ⟨List.mem_of_find?_eq_some h, by simpa using List.find?_some h⟩

theorem any_key_iff {l : List α} {id : String} : l.any (key · == id) = true ↔ id ∈ l.map key := by
  simp only [List.any_eq_true, beq_iff_eq, List.mem_map]

theorem find?_key_none {l : List α} {id : String} : l.find? (key · == id) = none ↔ id ∉ l.map key := by
  simp only [List.find?_eq_none, beq_iff_eq, List.mem_map, not_exists, not_and]

theorem exists_find?_key {l : List α} {id : String} : (∃ x, l.find? (key · == id) = some x) ↔ id ∈ l.map key := by
  constructor
  · rintro ⟨x, hx⟩
    exact (find?_key_some hx).2 ▸ List.mem_map_of_mem (find?_key_some hx).1
  · intro h
    cases hf : l.find? (key · == id) with
    | none => exact absurd h (find?_key_none.mp hf)
    | some x => exact ⟨x, rfl⟩

theorem find?_key_reverse {l : List α} (hn : (l.map key).Nodup) (id : String) :
    l.reverse.find? (key · == id) = l.find? (key · == id) :=
  (PermFold.find?_perm (PermFold.UniqueKeys.atMostOne hn fun _ => eq_of_beq) (List.reverse_perm l).symm).symm

theorem mem_map_key_filter {l : List α} {p : String → Bool} {id : String} :
    id ∈ (l.filter fun x => p (key x)).map key ↔ id ∈ l.map key ∧ p id = true := by
  simp only [List.mem_map, List.mem_filter]
  constructor
  · rintro ⟨x, ⟨hx, hp⟩, rfl⟩; exact ⟨⟨x, hx, rfl⟩, hp⟩
  · rintro ⟨⟨x, hx, rfl⟩, hp⟩; exact ⟨x, ⟨hx, hp⟩, rfl⟩

theorem find?_key_map {l : List α} {id : String} (g : α → α) (hg : ∀ x, key (g x) = key x) :
    (l.map g).find? (key · == id) = (l.find? (key · == id)).map g := by
  rw [List.find?_map]
  simp only [Function.comp_def, hg]

theorem map_key_map {l : List α} (g : α → α) (hg : ∀ x, key (g x) = key x) : (l.map g).map key = l.map key := by
  rw [List.map_map]; exact List.map_congr_left fun x _ => hg x

theorem zipWith_setKey (set : α → String → α) (hk : ∀ x i, key (set x i) = i) (b : List α) (ids : List String)
    (h : ids.length = b.length) :
    (List.zipWith set b ids).map key = ids ∧ Forall2 (fun x' x => x' = set x (key x')) (List.zipWith set b ids) b := by
  induction b generalizing ids with
  | nil =>
    cases ids with
    | nil => exact ⟨rfl, .nil⟩
    | cons _ _ => cases h
  | cons r rest ih =>
    cases ids with
    | nil => cases h
    | cons i is =>
      obtain ⟨h1, h2⟩ := ih is (Nat.succ.inj h)
      refine ⟨?_, .cons (by rw [hk]) h2⟩
      rw [List.zipWith_cons_cons, List.map_cons, hk, h1]

end ByKey

theorem Forall2.imp {α β : Type} {R Q : α → β → Prop} (h : ∀ a b, R a b → Q a b) {l : List α} {m : List β}
    (hf : Forall2 R l m) : Forall2 Q l m := by
  induction hf with
  | nil => exact .nil
  | cons hab _ ih => exact .cons (h _ _ hab) ih

theorem Forall2.append {α β : Type} {R : α → β → Prop} {l1 l2 : List α} {m1 m2 : List β}
    (h1 : Forall2 R l1 m1) (h2 : Forall2 R l2 m2) : Forall2 R (l1 ++ l2) (m1 ++ m2) := by
  induction h1 with
  | nil => exact h2
  | cons hab _ ih => exact .cons hab ih

theorem Forall2.comp {α β γ : Type} {R : α → β → Prop} {Q : β → γ → Prop} {P : α → γ → Prop}
    (hpq : ∀ a b c, R a b → Q b c → P a c) {l : List α} {m : List β} {n : List γ}
    (h1 : Forall2 R l m) (h2 : Forall2 Q m n) : Forall2 P l n := by
  induction h1 generalizing n with
  | nil => cases h2; exact .nil
  | cons hab _ ih =>
    cases h2 with
    | cons hbc hrest => exact .cons (hpq _ _ _ hab hbc) (ih hrest)

theorem forall2_map_eq {α β γ : Type} {R : α → β → Prop} {f : α → γ} {g : β → γ} (h : ∀ a b, R a b → f a = g b)
    {l : List α} {m : List β} (hf : Forall2 R l m) : l.map f = m.map g := by
  induction hf with
  | nil => rfl
  | cons hab _ ih => simp only [List.map_cons, h _ _ hab, ih]

theorem Forall2.exists_right {α β : Type} {R : α → β → Prop} {l : List α} {m : List β} (h : Forall2 R l m)
    {x : α} (hx : x ∈ l) : ∃ y ∈ m, R x y := by
  induction h with
  | nil => cases hx
  | cons hab _ ih =>
    rcases List.mem_cons.mp hx with e | e
    · subst e; exact ⟨_, List.mem_cons_self, hab⟩
    · obtain ⟨y, hy, hr⟩ := ih e
      exact ⟨y, List.mem_cons_of_mem _ hy, hr⟩

theorem Forall2.exists_left {α β : Type} {R : α → β → Prop} {l : List α} {m : List β} (h : Forall2 R l m)
    {y : β} (hy : y ∈ m) : ∃ x ∈ l, R x y := by
  induction h with
  | nil => cases hy
  | cons hab _ ih =>
    rcases List.mem_cons.mp hy with e | e
    · subst e; exact ⟨_, List.mem_cons_self, hab⟩
    · obtain ⟨x, hx, hr⟩ := ih e
      exact ⟨x, List.mem_cons_of_mem _ hx, hr⟩

theorem Forall2.mem_right {α β : Type} {R : α → β → Prop} {l : List α} {m : List β} (h : Forall2 R l m) :
    Forall2 (fun a b => R a b ∧ a ∈ l ∧ b ∈ m) l m := by
  induction h with
  | nil => exact .nil
  | cons hab _ ih =>
    exact .cons ⟨hab, List.mem_cons_self, List.mem_cons_self⟩
      (ih.imp fun a b ⟨h1, h2, h3⟩ => ⟨h1, List.mem_cons_of_mem _ h2, List.mem_cons_of_mem _ h3⟩)

theorem Forall2_perm_right {α β : Type} {R : α → β → Prop} {l : List α} {m m' : List β}
    (h : Forall2 R l m) (hp : m.Perm m') : ∃ l', l.Perm l' ∧ Forall2 R l' m' := by
  induction hp generalizing l with
  | nil => exact ⟨l, List.Perm.refl _, h⟩
  | cons x _ ih =>
    cases h with
    | cons hab hrest =>
      obtain ⟨l', hl', hf⟩ := ih hrest
      exact ⟨_ :: l', List.Perm.cons _ hl', .cons hab hf⟩
  | swap x y _ =>
    cases h with
    | cons hab hrest =>
      cases hrest with
      | cons hab2 hrest2 => exact ⟨_, List.Perm.swap _ _ _, .cons hab2 (.cons hab hrest2)⟩
  | trans _ _ ih1 ih2 =>
    obtain ⟨l1, hl1, hf1⟩ := ih1 h
    obtain ⟨l2, hl2, hf2⟩ := ih2 hf1
    exact ⟨l2, hl1.trans hl2, hf2⟩

theorem lookup_cons_ne {k k' : String} {v : String} {l : List (String × String)} (h : k' ≠ k) :
    List.lookup k' ((k, v) :: l) = List.lookup k' l := by
  have : (k' == k) = false := by simpa using h
  simp [List.lookup_cons, this]

theorem lookup_cons_self {k : String} {v : String} {l : List (String × String)} :
    List.lookup k ((k, v) :: l) = some v := by
  simp

theorem lookup_cons_cases {k k' v : String} {l : List (String × String)} {n : String}
    (h : List.lookup k ((k', v) :: l) = some n) : k = k' ∨ List.lookup k l = some n := by
  by_cases e : k = k'
  · exact Or.inl e
  · rw [lookup_cons_ne e] at h; exact Or.inr h

theorem lookup_cons_inj {l : List (String × String)} {k n : String} (hn : ∀ k', l.lookup k' ≠ some n)
    (hinj : ∀ k1 k2 m, l.lookup k1 = some m → l.lookup k2 = some m → k1 = k2) :
    ∀ k1 k2 m, List.lookup k1 ((k, n) :: l) = some m → List.lookup k2 ((k, n) :: l) = some m → k1 = k2 := by
  intro k1 k2 m h1 h2
  by_cases e1 : k1 = k <;> by_cases e2 : k2 = k
  · rw [e1, e2]
  · subst e1
    rw [lookup_cons_self] at h1; cases h1
    rw [lookup_cons_ne e2] at h2
    exact absurd h2 (hn k2)
  · subst e2
    rw [lookup_cons_self] at h2; cases h2
    rw [lookup_cons_ne e1] at h1
    exact absurd h1 (hn k1)
  · rw [lookup_cons_ne e1] at h1
    rw [lookup_cons_ne e2] at h2
    exact hinj k1 k2 m h1 h2

def gids (G : List Group) : List String := G.map (·.id)
def sids (ss : List Service) : List String := ss.map (·.id)
def pids (ps : List Policy) : List String := ps.map (·.id)
def rids (L : List Rule) : List String := L.map (·.id)

theorem idsNodup_iff (l : List String) : idsNodup l = true ↔ l.Nodup := by
  induction l with
  | nil => simp [idsNodup]
  | cons x rest ih => simp [idsNodup, ih]

theorem findGroup_some {G : List Group} {id : String} {g : Group} (h : findGroup G id = some g) :
    g ∈ G ∧ g.id = id := find?_key_some h

theorem findGroup_none {G : List Group} {id : String} : findGroup G id = none ↔ id ∉ gids G := find?_key_none

theorem findGroup_isSome_of_mem {G : List Group} {id : String} (h : id ∈ gids G) : ∃ g, findGroup G id = some g :=
  exists_find?_key.mpr h

theorem findGroup_mem_nodup {G : List Group} {g : Group} (hn : (gids G).Nodup) (hg : g ∈ G) :
    findGroup G g.id = some g := ListFacts.find?_key_of_mem hn hg

theorem findGroupLast_eq {G : List Group} (hn : (gids G).Nodup) (id : String) : findGroupLast G id = findGroup G id :=
  find?_key_reverse hn id

theorem findGroupLast_none {gs : List Group} {k : String} : findGroupLast gs k = none ↔ k ∉ gids gs := by
  unfold findGroupLast
  rw [findGroup_none]
  simp [gids]

theorem findGroupLast_id {gs : List Group} {n : String} {g : Group} (h : findGroupLast gs n = some g) : g.id = n := by
  unfold findGroupLast at h
  exact (findGroup_some h).2

theorem mem_gids {G : List Group} {g : Group} (h : g ∈ G) : g.id ∈ gids G := List.mem_map_of_mem h

theorem mem_gids_of_find {G : List Group} {id : String} {g : Group} (h : findGroup G id = some g) : id ∈ gids G :=
  exists_find?_key.mp ⟨g, h⟩

theorem hasGroup_iff {S : Store} {id : String} : hasGroup S id = true ↔ id ∈ gids S.groups := any_key_iff

theorem gids_filter_managed {G : List Group} {id : String} :
    id ∈ gids (G.filter (managed ·.id)) ↔ id ∈ gids G ∧ managed id = true := mem_map_key_filter (p := managed)

theorem findGroup_filter_keep (G : List Group) (q : Group → Bool) (id : String)
    (hq : ∀ g ∈ G, g.id = id → q g = true) : findGroup (G.filter q) id = findGroup G id :=
  ListFacts.find?_filter_of_imp _ q G fun g hg h => hq g hg (eq_of_beq h)

theorem findGroup_append_fresh (G : List Group) (g : Group) (id : String) (hfresh : g.id ∉ gids G) :
    findGroup (G ++ [g]) id = if id = g.id then some g else findGroup G id := by
  unfold findGroup
  rw [ListFacts.find?_append_single]
  by_cases h : id = g.id
  · subst h; simp [find?_key_none.mpr hfresh]
  · have : (g.id == id) = false := by simpa using fun e => h e.symm
    simp [h, this]

theorem setGroupAddrs_key (gid : String) {f : Group → Group} (hf : ∀ g, (f g).id = g.id) (g : Group) :
    (if g.id == gid then f g else g).id = g.id := by
  split <;> simp [hf]

theorem gids_setGroupAddrs (G : List Group) (gid : String) (f : Group → Group) (hf : ∀ g, (f g).id = g.id) :
    gids (setGroupAddrs G gid f) = gids G := map_key_map _ (setGroupAddrs_key gid hf)

theorem findGroup_setGroupAddrs (gs : List Group) (id : String) (f : Group → Group)
    (hf : ∀ g, (f g).id = g.id) :
    findGroup (setGroupAddrs gs id f) id = (findGroup gs id).map f := by
  unfold findGroup setGroupAddrs
  rw [find?_key_map _ (setGroupAddrs_key id hf)]
  cases h : gs.find? (·.id == id) with
  | none => rfl
  | some g => simp [(find?_key_some h).2]

theorem findGroup_setGroupAddrs_ne (G : List Group) (gid id : String) (f : Group → Group)
    (hf : ∀ g, (f g).id = g.id) (hne : id ≠ gid) :
    findGroup (setGroupAddrs G gid f) id = findGroup G id := by
  unfold findGroup setGroupAddrs
  rw [find?_key_map _ (setGroupAddrs_key gid hf)]
  cases h : G.find? (·.id == id) with
  | none => rfl
  | some g => simp [(find?_key_some h).2, hne]

theorem setGroupAddrs_comp (gs : List Group) (id : String) (f h : Group → Group) (hf : ∀ g, (f g).id = g.id) :
    setGroupAddrs (setGroupAddrs gs id f) id h = setGroupAddrs gs id (h ∘ f) := by
  simp only [setGroupAddrs, List.map_map]
  apply List.map_congr_left
  intro a _
  by_cases ha : a.id = id <;> simp [ha, hf]

theorem setGroupAddrs_eq_self {G : List Group} {gid : String} {f : Group → Group} (h : ∀ g, f g = g) :
    setGroupAddrs G gid f = G := by
  simp [setGroupAddrs, h]

theorem setGroupAddrs_id (gs : List Group) (id : String) : setGroupAddrs gs id (fun g => g) = gs :=
  setGroupAddrs_eq_self fun _ => rfl

theorem mem_setGroupAddrs {G : List Group} {gid : String} {f : Group → Group} {g' : Group}
    (h : g' ∈ setGroupAddrs G gid f) : ∃ g ∈ G, (g.id = gid ∧ g' = f g) ∨ (g.id ≠ gid ∧ g' = g) := by
  obtain ⟨g, hg, e⟩ := List.mem_map.mp h
  refine ⟨g, hg, ?_⟩
  by_cases hid : g.id = gid
  · left; exact ⟨hid, by rw [← e]; simp [hid]⟩
  · right; exact ⟨hid, by rw [← e]; simp [hid]⟩

def GroupsLE (S S' : Store) : Prop := ∀ id, id ∈ gids S.groups → id ∈ gids S'.groups

theorem GroupsLE.refl (S : Store) : GroupsLE S S := fun _ h => h
theorem GroupsLE.trans {a b c : Store} (h1 : GroupsLE a b) (h2 : GroupsLE b c) : GroupsLE a c :=
  fun id h => h2 id (h1 id h)

theorem findService_some {ss : List Service} {id : String} {s : Service} (h : findService ss id = some s) :
    s ∈ ss ∧ s.id = id := find?_key_some h

theorem findService_none {ss : List Service} {id : String} : findService ss id = none ↔ id ∉ sids ss :=
  find?_key_none

theorem findService_reverse_none {ss : List Service} {id : String} : findService ss.reverse id = none ↔ id ∉ sids ss := by
  rw [findService_none]; simp [sids]

theorem findService_reverse {ss : List Service} (hn : (sids ss).Nodup) (id : String) :
    findService ss.reverse id = findService ss id := find?_key_reverse hn id

theorem findService_mem_nodup {ss : List Service} {s : Service} (hn : (sids ss).Nodup) (hs : s ∈ ss) :
    findService ss s.id = some s := ListFacts.find?_key_of_mem hn hs

theorem hasService_iff {S : Store} {id : String} : hasService S id = true ↔ id ∈ sids S.services := any_key_iff

theorem sids_filter_managed {ss : List Service} {id : String} :
    id ∈ sids (ss.filter (managed ·.id)) ↔ id ∈ sids ss ∧ managed id = true := mem_map_key_filter (p := managed)

theorem findService_filter_keep (ss : List Service) (q : Service → Bool) (id : String)
    (hq : ∀ s ∈ ss, s.id = id → q s = true) : findService (ss.filter q) id = findService ss id :=
  ListFacts.find?_filter_of_imp _ q ss fun s hs h => hq s hs (eq_of_beq h)

theorem findService_loaded {S : Store} (hn : (sids S.services).Nodup) {id : String} (hm : managed id = true) :
    findService (load S).services.reverse id = findService S.services id :=
  (findService_reverse ((List.Sublist.map _ List.filter_sublist).nodup hn) id).trans
    (findService_filter_keep _ _ _ fun s _ e => by rw [e]; exact hm)

theorem findService_append_single (ss : List Service) (q : Service) (id : String) :
    findService (ss ++ [q]) id = (findService ss id).or (if q.id == id then some q else none) :=
  ListFacts.find?_append_single _ ss q

theorem findService_cons (sb : Service) (rest : List Service) (id : String) :
    findService (sb :: rest) id = if sb.id = id then some sb else findService rest id := by
  unfold findService
  by_cases h : sb.id = id <;> simp [h]

theorem patchService_key (sid d : String) (s : Service) : (if s.id == sid then (⟨sid, d⟩ : Service) else s).id = s.id := by
  split <;> simp_all

theorem sids_patch (ss : List Service) (sid d : String) :
    sids (ss.map fun s => if s.id == sid then ⟨sid, d⟩ else s) = sids ss := map_key_map _ (patchService_key sid d)

theorem findService_map_set (ss : List Service) (sid d id : String) :
    findService (ss.map fun s => if s.id == sid then ⟨sid, d⟩ else s) id =
      if id = sid then (findService ss sid).map (fun _ => ⟨sid, d⟩) else findService ss id := by
  unfold findService
  rw [find?_key_map _ (patchService_key sid d)]
  by_cases h : id = sid
  · subst h
    cases hf : ss.find? (·.id == id) with
    | none => simp
    | some s => simp [(find?_key_some hf).2]
  · cases hf : ss.find? (·.id == id) with
    | none => simp [h]
    | some s => simp [h, (find?_key_some hf).2]

theorem findPolicy_some {ps : List Policy} {id : String} {p : Policy} (h : findPolicy ps id = some p) :
    p ∈ ps ∧ p.id = id := find?_key_some h

theorem findPolicy_mem_nodup {ps : List Policy} {p : Policy} (hn : (pids ps).Nodup) (hp : p ∈ ps) :
    findPolicy ps p.id = some p := ListFacts.find?_key_of_mem hn hp

theorem any_pid_iff {ps : List Policy} {id : String} : ps.any (·.id == id) = true ↔ id ∈ pids ps := any_key_iff

theorem hasPolicy_iff {S : Store} {id : String} : hasPolicy S id = true ↔ id ∈ pids S.policies := any_key_iff

theorem hasPolicy_false_iff {S : Store} {id : String} : hasPolicy S id = false ↔ findPolicy S.policies id = none := by
  rw [Bool.eq_false_iff, Ne, hasPolicy_iff]; exact find?_key_none.symm

theorem hasPolicy_iff_find {S : Store} {id : String} : hasPolicy S id = true ↔ ∃ p, findPolicy S.policies id = some p :=
  hasPolicy_iff.trans exists_find?_key.symm

theorem pids_filter_managed {ps : List Policy} {id : String} :
    id ∈ pids (ps.filter (managed ·.id)) ↔ id ∈ pids ps ∧ managed id = true := mem_map_key_filter (p := managed)

theorem findPolicy_append_single (ps : List Policy) (q : Policy) (id : String) :
    findPolicy (ps ++ [q]) id = (findPolicy ps id).or (if q.id == id then some q else none) :=
  ListFacts.find?_append_single _ ps q

theorem findPolicy_filter_ne (ps : List Policy) (pid id : String) (h : id ≠ pid) :
    findPolicy (ps.filter (·.id != pid)) id = findPolicy ps id :=
  ListFacts.find?_filter_of_imp _ _ ps fun p _ e => by simpa [eq_of_beq e] using h

theorem findPolicy_filter_self (ps : List Policy) (pid : String) :
    findPolicy (ps.filter (·.id != pid)) pid = none := by
  rw [findPolicy, List.find?_eq_none]
  intro p hp
  simpa using (List.mem_filter.mp hp).2

theorem setRules_key (pid : String) (f : List Rule → List Rule) (p : Policy) :
    (if p.id == pid then { p with rules := f p.rules } else p).id = p.id := by
  split <;> rfl

theorem pids_setRules (ps : List Policy) (pid : String) (F : List Rule → List Rule) :
    pids (setRules ps pid F) = pids ps := map_key_map _ (setRules_key pid F)

theorem findPolicy_setRules (ps : List Policy) (pid : String) (f : List Rule → List Rule) :
    findPolicy (setRules ps pid f) pid = (findPolicy ps pid).map fun p => { p with rules := f p.rules } := by
  unfold findPolicy setRules
  rw [find?_key_map _ (setRules_key pid f)]
  cases h : ps.find? (·.id == pid) with
  | none => rfl
  | some p => simp [(find?_key_some h).2]

theorem findPolicy_setRules_ne (ps : List Policy) (pid id : String) (f : List Rule → List Rule) (hne : id ≠ pid) :
    findPolicy (setRules ps pid f) id = findPolicy ps id := by
  unfold findPolicy setRules
  rw [find?_key_map _ (setRules_key pid f)]
  cases h : ps.find? (·.id == id) with
  | none => rfl
  | some p => simp [(find?_key_some h).2, hne]

theorem setRules_comp (ps : List Policy) (pid : String) (f g : List Rule → List Rule) :
    setRules (setRules ps pid f) pid g = setRules ps pid (g ∘ f) := by
  simp only [setRules, List.map_map]
  apply List.map_congr_left
  intro p _
  by_cases h : p.id = pid <;> simp [h]

theorem mem_setRules {ps : List Policy} {pid : String} {F : List Rule → List Rule} {p' : Policy}
    (h : p' ∈ setRules ps pid F) :
    ∃ p ∈ ps, (p.id = pid ∧ p' = { p with rules := F p.rules }) ∨ (p.id ≠ pid ∧ p' = p) := by
  obtain ⟨p, hp, e⟩ := List.mem_map.mp h
  refine ⟨p, hp, ?_⟩
  by_cases hid : p.id = pid
  · left; exact ⟨hid, by rw [← e]; simp [hid]⟩
  · right; exact ⟨hid, by rw [← e]; simp [hid]⟩

theorem policies_findPolicy {S S' : Store} (h : S'.policies = S.policies) (pid : String) :
    findPolicy S'.policies pid = findPolicy S.policies pid := by rw [h]

theorem rule_any_id {L : List Rule} {rid : String} : (L.any (·.id == rid)) = true ↔ rid ∈ rids L := any_key_iff

theorem filter_ne_of_not_mem (L : List Rule) (rid : String) (h : rid ∉ rids L) : L.filter (·.id != rid) = L := by
  rw [List.filter_eq_self]
  intro r hr
  have : r.id ≠ rid := fun e => h (e ▸ List.mem_map_of_mem hr)
  simpa using this

theorem map_if_of_not_mem (L : List Rule) (rid : String) (f : Rule → Rule) (h : rid ∉ rids L) :
    L.map (fun x => if x.id == rid then f x else x) = L := by
  conv => rhs; rw [← List.map_id L]
  apply List.map_congr_left
  intro r hr
  have : r.id ≠ rid := fun e => h (e ▸ List.mem_map_of_mem hr)
  simp [this]

/- `epOk`, `svcOk` (and the planner's functions later) branch on `groupRef p` / `serviceRef p` for a
variable `p`.  To see whether such a match reduces, the kernel evaluates `hasPrefix gpp p` as far as it can
and decodes the string literal `gpp` on the way, which is slow and happens each time a proof makes it
compare a folded with an unfolded form.  So these definitions are opened with `rw [f]` (their equation),
not with `unfold f` / `simp only [f]` (a definitional change the kernel has to confirm), and their
matches with `cases h : discriminant`, not with `split`. -/

theorem epOk_of_groupRef {S : Store} {p x : String} (h : groupRef p = some x) : epOk S p = hasGroup S x := by
  rw [epOk, h]

theorem epOk_mono {S S' : Store} (h : GroupsLE S S') {p : String} (hp : epOk S p = true) : epOk S' p = true := by
  rw [epOk] at hp ⊢
  cases hr : groupRef p with
  | none => rfl
  | some x =>
    simp only [hr] at hp ⊢
    exact hasGroup_iff.mpr (h x (hasGroup_iff.mp hp))

theorem epOk_groupPath {S : Store} {n : String} (h : n ∈ gids S.groups) : epOk S (groupPath n) = true := by
  rw [epOk_of_groupRef (groupRef_groupPath n)]
  exact hasGroup_iff.mpr h

theorem epOk_congr {S S' : Store} (hg : S'.groups = S.groups) (p : String) : epOk S' p = epOk S p := by
  rw [epOk, epOk]
  cases groupRef p with
  | none => rfl
  | some x => show hasGroup S' x = hasGroup S x; unfold hasGroup; rw [hg]

theorem svcOk_of_services {S S' : Store} (h : S'.services = S.services) (p : String) : svcOk S' p = svcOk S p := by
  rw [svcOk, svcOk]
  cases serviceRef p with
  | none => rfl
  | some x => show hasService S' x = hasService S x; unfold hasService; rw [h]

theorem svcOk_mono {S S' : Store} (hs : ∀ id, hasService S id = true → hasService S' id = true) {p : String}
    (hp : svcOk S p = true) : svcOk S' p = true := by
  rw [svcOk] at hp ⊢
  cases hr : serviceRef p with
  | none => rfl
  | some x =>
    simp only [hr] at hp ⊢
    exact hs x hp

theorem epOk_filter_ne {S S' : Store} {id q : String} (hg : S'.groups = S.groups.filter (·.id != id))
    (hok : epOk S q = true) (hne : groupRef q ≠ some id) : epOk S' q = true := by
  rw [epOk] at hok ⊢
  cases hx : groupRef q with
  | none => rfl
  | some x =>
    simp only [hx] at hok ⊢
    rw [hasGroup_iff] at hok ⊢
    rw [hg]
    exact (mem_map_key_filter (key := Group.id) (p := (· != id))).mpr
      ⟨hok, by simpa using fun e : x = id => hne (e ▸ hx)⟩

theorem svcOk_filter_ne {S S' : Store} {id q : String} (hs : S'.services = S.services.filter (·.id != id))
    (hok : svcOk S q = true) (hne : serviceRef q ≠ some id) : svcOk S' q = true := by
  rw [svcOk] at hok ⊢
  cases hx : serviceRef q with
  | none => rfl
  | some x =>
    simp only [hx] at hok ⊢
    rw [hasService_iff] at hok ⊢
    rw [hs]
    exact (mem_map_key_filter (key := Service.id) (p := (· != id))).mpr
      ⟨hok, by simpa using fun e : x = id => hne (e ▸ hx)⟩

theorem refsOk_iff {S : Store} {r : Rule} :
    refsOk S r = true ↔ epOk S r.src = true ∧ epOk S r.dst = true ∧ svcOk S r.service = true := by
  rw [refsOk, Bool.and_eq_true, Bool.and_eq_true, and_assoc]

theorem refsOk_grow {S S' : Store} {r : Rule} (hs : ∀ id, hasService S id = true → hasService S' id = true)
    (hg : GroupsLE S S') (h : refsOk S r = true) : refsOk S' r = true :=
  refsOk_iff.mpr ((refsOk_iff.mp h).imp (epOk_mono hg) (.imp (epOk_mono hg) (svcOk_mono hs)))

theorem refsOk_mono {S S' : Store} {r : Rule} (hs : S'.services = S.services) (hg : GroupsLE S S')
    (h : refsOk S r = true) : refsOk S' r = true :=
  refsOk_grow (fun id hid => by unfold hasService at hid ⊢; rwa [hs]) hg h

theorem refsOk_congr {S S' : Store} (hg : S'.groups = S.groups) (hs : S'.services = S.services) (r : Rule) :
    refsOk S' r = refsOk S r := by
  rw [refsOk, refsOk, epOk_congr hg, epOk_congr hg, svcOk_of_services hs]

theorem serviceUsed_iff {S : Store} {id : String} :
    serviceUsed S id = true ↔ ∃ p ∈ S.policies, ∃ r ∈ p.rules, r.service = servicePath id := by
  simp only [serviceUsed, List.any_eq_true, beq_iff_eq]

theorem ruleUsesGroup_iff {id : String} {r : Rule} :
    ruleUsesGroup id r = true ↔ r.src = groupPath id ∨ r.dst = groupPath id := by
  simp only [ruleUsesGroup, Bool.or_eq_true, beq_iff_eq]

theorem groupUsed_iff {S : Store} {id : String} :
    groupUsed S id = true ↔ ∃ p ∈ S.policies, ∃ r ∈ p.rules, r.src = groupPath id ∨ r.dst = groupPath id := by
  simp only [groupUsed, List.any_eq_true, ruleUsesGroup_iff]

structure WF (S : Store) : Prop where
  pol : (pids S.policies).Nodup
  grp : (gids S.groups).Nodup
  svc : (sids S.services).Nodup
  rules : ∀ p ∈ S.policies, (rids p.rules).Nodup ∧ ∀ r ∈ p.rules, refsOk S r = true

theorem policyWF_iff {S : Store} {p : Policy} :
    policyWF S p = true ↔ (rids p.rules).Nodup ∧ ∀ r ∈ p.rules, refsOk S r = true := by
  rw [policyWF, Bool.and_eq_true, idsNodup_iff, List.all_eq_true]; rfl

theorem storeWF_iff {S : Store} : storeWF S = true ↔ WF S := by
  simp only [storeWF, Bool.and_eq_true, idsNodup_iff, List.all_eq_true, policyWF_iff]
  exact ⟨fun ⟨⟨⟨a, b⟩, c⟩, d⟩ => ⟨a, b, c, d⟩, fun h => ⟨⟨⟨h.pol, h.grp⟩, h.svc⟩, h.rules⟩⟩

theorem run_single {S S' : Store} {c : Call} (h : exec S c = .ok S') : run S [c] = some S' := by
  simp [run, h]

theorem run_append {S S1 : Store} {c1 c2 : List Call} (h : run S c1 = some S1) :
    run S (c1 ++ c2) = run S1 c2 := by
  induction c1 generalizing S with
  | nil => simp [run] at h; subst h; rfl
  | cons c rest ih =>
    simp only [List.cons_append, run] at h ⊢
    cases he : exec S c with
    | error e => simp [he] at h
    | ok S2 =>
      simp only [he] at h ⊢
      exact ih h

theorem run_inv {P : Store → Prop} {Q : Call → Prop}
    (hstep : ∀ {S S' : Store} {c : Call}, P S → Q c → exec S c = .ok S' → P S') :
    ∀ (cs : List Call) (S S' : Store), P S → (∀ c ∈ cs, Q c) → run S cs = some S' → P S' := by
  intro cs
  induction cs with
  | nil => intro S S' h _ hr; cases hr; exact h
  | cons c rest ih =>
    intro S S' h hq hr
    rw [run] at hr
    cases he : exec S c with
    | error e => rw [he] at hr; cases hr
    | ok S1 =>
      rw [he] at hr
      exact ih S1 S' (hstep h (hq c List.mem_cons_self) he) (fun c' hc' => hq c' (List.mem_cons_of_mem _ hc')) hr

/-- What a call that the strict manager accepts has been checked for, and what it does. -/
inductive Step (S : Store) : Call → Store → Prop
  | putService {id d} : hasService S id = false →
      Step S (.putService id d) { S with services := S.services ++ [⟨id, d⟩] }
  | patchService {id d} : hasService S id = true →
      Step S (.patchService id d) { S with services := S.services.map fun s => if s.id == id then ⟨id, d⟩ else s }
  | deleteService {id} : hasService S id = true → serviceUsed S id = false →
      Step S (.deleteService id) { S with services := S.services.filter (·.id != id) }
  | putGroup {id e t addrs} : hasGroup S id = false → addrs ≠ [] →
      Step S (.putGroup id e t addrs) { S with groups := S.groups ++ [⟨id, e, t, addrs⟩] }
  | addAddrs {gid addrs g} : findGroup S.groups gid = some g → (∀ x ∈ addrs, x ∉ g.addrs) →
      Step S (.postAddrs gid g.exprId true addrs)
        { S with groups := setGroupAddrs S.groups gid fun g => { g with addrs := g.addrs ++ addrs } }
  | removeAddrs {gid addrs g} : findGroup S.groups gid = some g → (∀ x ∈ addrs, x ∈ g.addrs) →
      (∃ x ∈ g.addrs, x ∉ addrs) →
      Step S (.postAddrs gid g.exprId false addrs)
        { S with groups := setGroupAddrs S.groups gid fun g => { g with addrs := g.addrs.filter (!addrs.contains ·) } }
  | patchExpr {gid t addrs g} : findGroup S.groups gid = some g → addrs ≠ [] →
      Step S (.patchExpr gid g.exprId t addrs)
        { S with groups := setGroupAddrs S.groups gid fun g => { g with rtype := t, addrs := addrs } }
  | deleteGroup {id} : hasGroup S id = true → groupUsed S id = false →
      Step S (.deleteGroup id) { S with groups := S.groups.filter (·.id != id) }
  | putPolicy {id rules} : hasPolicy S id = false → (rids rules).Nodup → (∀ r ∈ rules, refsOk S r = true) →
      Step S (.putPolicy id rules) { S with policies := S.policies ++ [⟨id, rules⟩] }
  | deletePolicy {id} : hasPolicy S id = true →
      Step S (.deletePolicy id) { S with policies := S.policies.filter (·.id != id) }
  | putRule {pid rid r p} : findPolicy S.policies pid = some p → rid ∉ rids p.rules → refsOk S r = true →
      Step S (.putRule pid rid r)
        { S with policies := setRules S.policies pid fun rs => rs ++ [{ r with id := rid, rev := 0 }] }
  | patchRule {pid rid r p} : findPolicy S.policies pid = some p → rid ∈ rids p.rules → refsOk S r = true →
      Step S (.patchRule pid rid r)
        { S with policies := setRules S.policies pid fun rs =>
            rs.map fun x => if x.id == rid then { r with id := rid, rev := x.rev + 1 } else x }
  | deleteRule {pid rid p} : findPolicy S.policies pid = some p → rid ∈ rids p.rules →
      Step S (.deleteRule pid rid) { S with policies := setRules S.policies pid fun rs => rs.filter (·.id != rid) }

/-! The guards of `exec`, in the form in which they occur there, as propositions. -/

theorem idsNodup_rids (rs : List Rule) : idsNodup (rs.map (·.id)) = true ↔ (rids rs).Nodup := idsNodup_iff _

theorem find?_refsOk_none {S : Store} {rs : List Rule} :
    rs.find? (!refsOk S ·) = none ↔ ∀ r ∈ rs, refsOk S r = true := by simp

theorem rule_any_id_false {L : List Rule} {rid : String} : (L.any (·.id == rid)) = false ↔ rid ∉ rids L := by
  rw [← rule_any_id, Bool.not_eq_true]

theorem any_contains_false {l m : List String} : l.any (m.contains ·) = false ↔ ∀ x ∈ l, x ∉ m := by simp

theorem all_contains {l m : List String} : l.all (m.contains ·) = true ↔ ∀ x ∈ l, x ∈ m := by simp

theorem filter_not_contains_ne_nil {l m : List String} : m.filter (!l.contains ·) ≠ [] ↔ ∃ x ∈ m, x ∉ l := by simp

theorem exec_of_step {S S' : Store} {c : Call} (h : Step S c S') : exec S c = .ok S' := by
  cases h with
  | putGroup h1 h2 => simp [exec, h1, h2]
  | addAddrs hf hd =>
    simp only [exec, hf, any_contains_false.mpr hd, bne_self_eq_false, Bool.false_eq_true, if_false, if_true]
  | removeAddrs hf ha hn =>
    simp only [exec, hf, all_contains.mpr ha, List.isEmpty_eq_false_iff.mpr (filter_not_contains_ne_nil.mpr hn),
      bne_self_eq_false, Bool.not_true, Bool.false_eq_true, if_false]
  | patchExpr hf h2 => simp [exec, hf, h2]
  | putPolicy h1 h2 h3 => simp [exec, h1, (idsNodup_rids _).mpr h2, find?_refsOk_none.mpr h3]
  | putRule hf h1 h2 => simp [exec, hf, rule_any_id_false.mpr h1, h2]
  | patchRule hf h1 h2 => simp [exec, hf, rule_any_id.mpr h1, h2]
  | deleteRule hf h1 => simp [exec, hf, rule_any_id.mpr h1]
  | _ => simp [exec, *]

theorem step_of_exec {S S' : Store} {c : Call} (h : exec S c = .ok S') : Step S c S' := by
  cases c <;> simp only [exec] at h <;> (repeat' split at h) <;> cases h
  all_goals
    simp only [Bool.not_eq_true, Bool.not_eq_false, Bool.not_eq_eq_eq_not, Bool.not_true, bne_eq_false_iff_eq,
      Classical.not_not, List.isEmpty_eq_false_iff, idsNodup_rids, find?_refsOk_none, rule_any_id, rule_any_id_false,
      any_contains_false, all_contains, filter_not_contains_ne_nil] at *
    subst_vars
    constructor <;> assumption

end NA.Nsx
