import NA.Model.GateConfig
/-!
# C06: what one accepted line of the configuration file does to the banner (`NA.Gate.Config`)

A banner regexp in the accumulator after an accepted `Config.insert` / `step` / `go` was there before or is the ONE value
of a `checkbanner = <value>` line that compiles; a first `checkbanner` line with several values is an error.  Stated for
`LoadConfig` in `NA.Props.C06Config`.
-/
namespace NA.C06Config
open NA.Gate NA.Gate.Config

theorem regexp_key (key : String) (h : singleKeys.lookup key = some .regexp) : key = "checkbanner" := by
  obtain ⟨l₁, l₂, he, _⟩ := List.lookup_eq_some_iff.mp h
  have : (key, KeyKind.regexp) ∈ singleKeys := by rw [he]; simp
  simpa [singleKeys] using this

theorem insert_banner (valid : String → Bool) (acc acc' : Acc) (key : String) (values : List String)
    (h : Config.insert valid acc key values = .ok acc') (src : String) (hs : acc'.banner = some src) :
    acc.banner = some src ∨ (key = "checkbanner" ∧ values = [src] ∧ valid src = true) := by
  unfold Config.insert at h
  split at h
  · cases h; exact Or.inl hs
  · split at h
    · split at h
      · rename_i hk
        split at h
        · rename_i hv
          cases h
          right
          cases hs
          exact ⟨regexp_key key hk, rfl, hv⟩
        · cases h
      · split at h
        · cases h; exact Or.inl hs
        · cases h
      · split at h
        · cases h; exact Or.inl hs
        · cases h; exact Or.inl hs
      · cases h; exact Or.inl hs
    · cases h

theorem step_banner (valid : String → Bool) (acc acc' : Acc) (line : String)
    (h : step valid acc line = .ok acc') (src : String) (hs : acc'.banner = some src) :
    acc.banner = some src ∨ (fieldsS line = ["checkbanner", "=", src] ∧ valid src = true) := by
  unfold step at h
  split at h
  · cases h; exact Or.inl hs
  · rename_i w0 rest hf
    split at h
    · cases h; exact Or.inl hs
    · split at h
      · rename_i eq v vs
        split at h
        · cases h; exact Or.inl hs
        · rename_i heq
          split at h
          · cases h; exact Or.inl hs
          · refine (insert_banner valid _ acc' w0 (v :: vs) h src hs).imp_right fun ⟨hk, hv, hval⟩ => ⟨?_, hval⟩
            have he : eq = "=" := by simpa using heq
            simp only [List.cons.injEq] at hv
            rw [hf, hk, he, hv.1, hv.2]
      · cases h; exact Or.inl hs

theorem go_banner (valid : String → Bool) : ∀ (ls : List String) (acc acc' : Acc),
    go valid acc ls = .ok acc' → ∀ src, acc'.banner = some src →
      acc.banner = some src ∨ ∃ l ∈ ls, fieldsS l = ["checkbanner", "=", src] ∧ valid src = true := by
  intro ls
  induction ls with
  | nil => intro acc acc' h src hs; simp only [go] at h; cases h; exact Or.inl hs
  | cons l ls ih =>
    intro acc acc' h src hs
    simp only [go] at h
    split at h
    · rename_i a1 hstep
      obtain hb | ⟨l', hl', hf⟩ := ih a1 acc' h src hs
      · exact (step_banner valid acc a1 l hstep src hb).imp_right fun h1 => ⟨l, List.mem_cons_self, h1⟩
      · exact Or.inr ⟨l', List.mem_cons_of_mem _ hl', hf⟩
    · cases h

theorem step_multiword (valid : String → Bool) (acc : Acc) (line : String) (v1 v2 : String)
    (rest : List String) (hf : fieldsS line = "checkbanner" :: "=" :: v1 :: v2 :: rest)
    (hseen : acc.seen.contains "checkbanner" = false) :
    step valid acc line = .error "one-value" := by
  unfold step
  rw [hf]
  have hn : "checkbanner" ∉ acc.seen := by simpa using hseen
  simp [hn, Config.insert, multiKeys]

end NA.C06Config
