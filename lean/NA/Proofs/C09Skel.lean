import NA.Proofs.C09Inv
import NA.Gen.Skel
/-!
# C09, T-gen: the skeleton of every Lean session program equals the skeleton regenerated from
the Go source on this run (`translate/skeleton` → `NA/Gen/Skel.lean`).

Removing an error check, moving the save in front of the loop, dropping a `defer`, adding a
send, changing a literal command: each changes the generated list and breaks one of these.
Each is kernel evaluation of a decidable equality of two finite lists (`rfl` where the program has a
parameter that `skel` does not look at).
-/
namespace NA.C09
open NA.Sess NA.Apply NA.Gen.Skel

/-! ### A copy of `skelT` that is cheap to evaluate

`labelPol` takes `String.toList` of every label, and the kernel needs time quadratic in the length for that.  A label
that does not begin with `¬` is returned as it is, which the first character shows.  `skelF` is `skel` with that
shortcut; the rows below are evaluated through it. -/

def labelPolF (l : String) : Bool × String := if l.front = '¬' then labelPol l else (false, l)

theorem labelPolF_eq (l : String) : labelPolF l = labelPol l := by
  unfold labelPolF
  split
  · rfl
  · rename_i h
    unfold labelPol
    split
    · rename_i r hl
      exact absurd (by simp [String.front_eq, String.front?_eq, hl]) h
    · rfl

def iteCtxF (label : String) (lt le : Bool) (ctx : List String) : IteCtx :=
  let neg := (labelPolF label).1
  let l := (labelPolF label).2
  let lp := if neg then le else lt
  let ln := if neg then lt else le
  let cp := if lp || !ln then ctx ++ ["if:" ++ l] else ctx
  let cn := if lp then ctx else ctx ++ ["else:" ++ l]
  ⟨if neg then cn else cp, if neg then cp else cn, (neg && (lp || !ln)) || (!neg && !lp && ln)⟩

def skelTF : Sess → List String → Tail → List Site
  | .skip, _, _ => []
  | .send _ t, ctx, _ => [⟨"<send>", (match t with | .lit s => [s] | .litNl s => [s ++ "\n"] | _ => ["_"]), ctx⟩]
  | .recv _ _, ctx, _ => [⟨"<recv>", [], ctx⟩]
  | .recvMore _, ctx, _ => [⟨"<recv>", [], ctx⟩]
  | .roundTrip _ _ _, ctx, _ => [⟨"<send>", ["_"], ctx⟩, ⟨"<recv>", [], ctx⟩]
  | .ite _ label t e, ctx, tl =>
    let k := iteCtxF label (leaves t || tl.any) (leaves e || tl.any) ctx
    if k.eFirst then skelTF e k.ce tl ++ skelTF t k.ct tl else skelTF t k.ct tl ++ skelTF e k.ce tl
  | .abort lits, ctx, _ => [⟨"Abort", lits, ctx⟩]
  | .warn lits, ctx, _ => [⟨"Warning", lits, ctx⟩]
  | .mark _, _, _ => []
  | .seq (.ite _ label t e) b, ctx, tl =>
    if leaves t && silent e then
      let k := iteCtxF label true (leaves b || tl.any) ctx
      if k.eFirst then skelTF b k.ce tl ++ skelTF t k.ct tl else skelTF t k.ct tl ++ skelTF b k.ce tl
    else if silent t && leaves e then
      let k := iteCtxF label (leaves b || tl.any) true ctx
      if k.eFirst then skelTF e k.ce tl ++ skelTF b k.ct tl else skelTF b k.ct tl ++ skelTF e k.ce tl
    else
      let tl' := if silent b then tl else .none
      let k := iteCtxF label (leaves t || tl'.any) (leaves e || tl'.any) ctx
      (if k.eFirst then skelTF e k.ce tl' ++ skelTF t k.ct tl' else skelTF t k.ct tl' ++ skelTF e k.ce tl') ++
      (if leaves t && leaves e then [] else skelTF b ctx tl)
  | .seq a b, ctx, tl =>
    skelTF a ctx (if silent b then tl else .none) ++ (if leaves a then [] else skelTF b ctx tl)
  | .forEach body, ctx, _ => skelTF body (ctx ++ ["loop"]) .loop
  | .defer cleanup body, ctx, tl => skelTF cleanup (ctx ++ ["defer"]) .fn ++ skelTF body ctx tl
  | .loopN _ body, ctx, _ => skelTF body (ctx ++ ["loop"]) .loop
  | .loopFuel body, ctx, _ => skelTF body (ctx ++ ["loop"]) .loop
  | .cont, ctx, tl => if tl = .loop then [] else [⟨"continue", [], ctx⟩]
  | .ret _ lits, ctx, tl => if lits.isEmpty && tl = .fn then [] else [⟨"return", lits, ctx⟩]
  | .setCtr _, _, _ => []
  | .decCtr, _, _ => []
  | .setPlan, _, _ => []
  | .call name lits body, ctx, _ =>
    if inlineNames.contains name then skelTF body ctx .fn else [⟨name, lits, ctx⟩]
  | .scope c body, ctx, tl => skelTF body (ctx ++ [c]) (scopeTail c tl)
  | .when _ body, ctx, tl => skelTF body ctx tl
  | .assumeBanner, _, _ => []

def skelF (p : Sess) (ctx : List String) : List Site := skelTF (absorbN 200 (rassocAll p)) ctx .fn

theorem iteCtxF_eq (label : String) (lt le : Bool) (ctx : List String) : iteCtxF label lt le ctx = iteCtx label lt le ctx := by
  simp only [iteCtxF, iteCtx, labelPolF_eq]

theorem skelTF_eq (p : Sess) (ctx : List String) (tl : Tail) : skelTF p ctx tl = skelT p ctx tl := by
  fun_induction skelT p ctx tl <;> (try simp_all +zetaDelta [skelTF, iteCtxF_eq])
  case case2 ρ t ctx tl => cases t <;> rfl
  case case15 c l t e b ctx tl _ _ h1 h2 _ _ _ =>
    rw [if_neg (fun h => by rw [h1 h.1] at h; exact absurd h.2 (by decide)),
      if_neg (fun h => by rw [h2 h.1] at h; exact absurd h.2 (by decide))]

theorem skelF_eq (p : Sess) (ctx : List String) : skelF p ctx = skel p ctx := skelTF_eq _ _ _

theorem skel_console_Send (ρ : Role) : skel (sendBody ρ .cur) [] = console_Send := by cases ρ <;> rfl
theorem skel_console_SendCmd (ρ : Role) (t : Txt) : skel (sendCmdBody ρ t) [] = console_SendCmd := by rw [← skelF_eq]; rfl
theorem skel_console_IssueCmd (ρ : Role) (t : Txt) (p : Pat) : skel (issueCmdBody ρ t p) [] = console_IssueCmd := by rw [← skelF_eq]; rfl
theorem skel_console_GetCmdOutput (ρ : Role) (t : Txt) : skel (getCmdOutputBody ρ t) [] = console_GetCmdOutput := by rw [← skelF_eq]; rfl
theorem skel_console_GetOutput (ρ : Role) : skel (getOutputBody ρ) [] = console_GetOutput := by rw [← skelF_eq]; rfl
theorem skel_console_waitPrompt (ρ : Role) (p : Pat) : skel (waitPromptBody ρ p) [] = console_waitPrompt := by rw [← skelF_eq]; rfl
theorem skel_console_WaitShort (ρ : Role) (p : Pat) (m : Bool) : skel (waitShortBody ρ p m) [] = console_WaitShort := by rw [← skelF_eq]; rfl
theorem skel_console_WaitLogin (ρ : Role) (p : Pat) : skel (waitLoginBody ρ p) [] = console_WaitLogin := by rw [← skelF_eq]; rfl
theorem skel_console_expectLog (ρ : Role) (p : Pat) (m : Bool) : skel (expectLogBody ρ p m) [] = console_expectLog := by
  cases m <;> rfl
theorem skel_console_StripEcho : skel stripEchoBody [] = console_StripEcho := by rw [← skelF_eq]; decide +kernel
theorem skel_console_StripStdPrompt : skel stripStdPromptBody [] = console_StripStdPrompt := by rw [← skelF_eq]; decide +kernel
theorem skel_console_Close : skel closeBody [] = console_Close := by rw [← skelF_eq]; decide +kernel
theorem skel_errlog_HandleAbort : skel handleAbortSkel [] = errlog_HandleAbort := by rw [← skelF_eq]; decide +kernel
theorem skel_errlog_Abort : skel abortSkel [] = errlog_Abort := by rw [← skelF_eq]; decide +kernel

theorem skel_asa_ApplyCommands : skel asaApplyBody [] = asa_ApplyCommands := by rw [← skelF_eq]; decide +kernel
theorem skel_asa_cmd (ρ : Role) (t : Txt) : skel (asaCmdBody ρ t) [] = asa_cmd := by rw [← skelF_eq]; rfl
theorem skel_asa_CloseConnection : skel (Backend.closeConnectionBody .asa) [] = asa_CloseConnection := by rw [← skelF_eq]; decide +kernel

theorem skel_ios_ApplyCommands : skel iosApplyBody [] = ios_ApplyCommands := by rw [← skelF_eq]; decide +kernel
theorem skel_ios_cmd (ρ : Role) (t : Txt) : skel (iosCmdBody ρ t) [] = ios_cmd := by rw [← skelF_eq]; rfl
theorem skel_ios_writeMem : skel iosWriteMemBody [] = ios_writeMem := by rw [← skelF_eq]; decide +kernel
theorem skel_ios_prepareDevice : skel iosPrepareDeviceBody [] = ios_prepareDevice := by rw [← skelF_eq]; decide +kernel
theorem skel_ios_sendReloadCmd (d : Bool) : skel (iosSendReloadCmdBody d) [] = ios_sendReloadCmd := by
  rw [← skelF_eq]; revert d; decide +kernel
theorem skel_ios_cancelReload : skel iosCancelReloadBody [] = ios_cancelReload := by rw [← skelF_eq]; decide +kernel
theorem skel_ios_CloseConnection : skel (Backend.closeConnectionBody .ios) [] = ios_CloseConnection := by rw [← skelF_eq]; decide +kernel

theorem skel_linux_ApplyCommands : skel linuxApplyBody [] = linux_ApplyCommands := by rw [← skelF_eq]; decide +kernel
theorem skel_linux_cmd (ρ : Role) (t : Txt) : skel (linuxCmdBody ρ t) [] = linux_cmd := by rw [← skelF_eq]; rfl
theorem skel_linux_writeStartupRouting : skel linuxWriteStartupRoutingBody [] = linux_writeStartupRouting := by rw [← skelF_eq]; decide +kernel
theorem skel_linux_writeStartupIPTables : skel linuxWriteStartupIPTablesBody [] = linux_writeStartupIPTables := by rw [← skelF_eq]; decide +kernel
theorem skel_linux_findIPTablesRestoreCmd : skel linuxFindRestoreBody [] = linux_findIPTablesRestoreCmd := by rw [← skelF_eq]; decide +kernel
theorem skel_linux_writeStartup (w : String) : skel (linuxWriteStartupBody w) [] = linux_writeStartup := by rw [← skelF_eq]; rfl
theorem skel_linux_putScp (w : String) : skel (linuxPutScpBody w) [] = linux_putScp := by rw [← skelF_eq]; rfl
theorem skel_linux_CloseConnection : skel (Backend.closeConnectionBody .linux) [] = linux_CloseConnection := by rw [← skelF_eq]; decide +kernel

theorem skel_panos_ApplyCommands : skel panosApplyBody [] = panos_ApplyCommands := by rw [← skelF_eq]; decide +kernel
theorem skel_panos_doCmd (ρ : Role) (t : Txt) : skel (panosDoCmdBody ρ t) [] = panos_ApplyCommands_doCmd := by rw [← skelF_eq]; rfl
theorem skel_panos_commit : skel panosCommitBody [] = panos_ApplyCommands_commit := by rw [← skelF_eq]; decide +kernel
theorem skel_panos_httpPrefixGetLog (ρ : Role) (t : Txt) : skel (panosHttpPrefixGetLogBody ρ t) [] = panos_httpPrefixGetLog := by rw [← skelF_eq]; rfl
theorem skel_panos_httpGet (ρ : Role) (t : Txt) : skel (panosHttpGetBody ρ t) [] = panos_httpGet := by rw [← skelF_eq]; rfl
theorem skel_panos_CloseConnection : skel (Backend.closeConnectionBody .panos) [] = panos_CloseConnection := by rw [← skelF_eq]; decide +kernel

theorem skel_nsx_ApplyCommands : skel nsxApplyBody [] = nsx_ApplyCommands := by rw [← skelF_eq]; decide +kernel
theorem skel_nsx_sendRequest (ρ : Role) (t : Txt) : skel (nsxSendRequestBody ρ t) [] = nsx_sendRequest := by rw [← skelF_eq]; rfl
theorem skel_nsx_CloseConnection : skel (Backend.closeConnectionBody .nsx) [] = nsx_CloseConnection := by rw [← skelF_eq]; decide +kernel

/-- The programs of the five backends differ only inside the bodies of calls, which `skel` does not
enter: one evaluation for all five (`forall_backend`) lets the kernel share everything else. -/
theorem skel_device_ApproveOrCompare (b : Backend) : skel (approveOrCompareBody b) [] = device_ApproveOrCompare := by
  rw [← skelF_eq]; revert b; exact forall_backend (by decide +kernel)
theorem skel_device_approve (b : Backend) : skel (approveBody b) [] = device_approve := by
  rw [← skelF_eq]; revert b; exact forall_backend (by decide +kernel)
theorem skel_device_compare (b : Backend) : skel (compareBody b) [] = device_compare := by
  rw [← skelF_eq]; revert b; exact forall_backend (by decide +kernel)
theorem skel_device_compareDevice (b : Backend) : skel (compareDeviceBody b) [] = device_compareDevice := by
  rw [← skelF_eq]; revert b; exact forall_backend (by decide +kernel)
theorem skel_device_applyCommands (b : Backend) : skel (applyCommandsBody b) [] = device_applyCommands := by
  rw [← skelF_eq]; revert b; exact forall_backend (by decide +kernel)
theorem skel_device_showCompareInfo : skel showCompareInfoBody [] = device_showCompareInfo := by rw [← skelF_eq]; decide +kernel
theorem skel_doapprove_Main (b : Backend) : skel (doApproveMainSkel b) [] = doapprove_Main := by
  rw [← skelF_eq]; revert b; exact forall_backend (by decide +kernel)
theorem skel_status_SetApprove : skel setApproveSkel [] = status_SetApprove := by rw [← skelF_eq]; decide +kernel
theorem skel_status_SetCompare : skel setCompareSkel [] = status_SetCompare := by rw [← skelF_eq]; decide +kernel

theorem skel_cisco_LoginEnable : skel ciscoLoginEnableBody [] = cisco_LoginEnable := by rw [← skelF_eq]; decide +kernel
theorem skel_cisco_LoginEnable_waitPrompt (t : Txt) : skel (ciscoWaitPromptBody t) [] = cisco_LoginEnable_waitPrompt := by rw [← skelF_eq]; rfl
theorem skel_httpdevice_TryReachableHTTPLogin (login : Sess) :
    skel (tryReachableBody login) [] = httpdevice_TryReachableHTTPLogin := by rw [← skelF_eq]; rfl
theorem skel_asa_LoadDevice : skel asaLoadDevice [] = asa_LoadDevice := by rw [← skelF_eq]; decide +kernel
theorem skel_asa_setTerminal : skel asaSetTerminal [] = asa_setTerminal := by rw [← skelF_eq]; decide +kernel
theorem skel_asa_logVersion : skel asaLogVersionBody [] = asa_logVersion := by rw [← skelF_eq]; decide +kernel
theorem skel_asa_checkDeviceName : skel asaCheckDeviceNameBody [] = asa_checkDeviceName := by rw [← skelF_eq]; decide +kernel
theorem skel_ios_LoadDevice : skel iosLoadDevice [] = ios_LoadDevice := by rw [← skelF_eq]; decide +kernel
theorem skel_ios_setTerminal : skel iosSetTerminalBody [] = ios_setTerminal := by rw [← skelF_eq]; decide +kernel
theorem skel_ios_logVersion : skel iosLogVersionBody [] = ios_logVersion := by rw [← skelF_eq]; decide +kernel
theorem skel_ios_checkDeviceName : skel iosCheckDeviceNameBody [] = ios_checkDeviceName := by rw [← skelF_eq]; decide +kernel
theorem skel_linux_LoadDevice : skel linuxLoadDevice [] = linux_LoadDevice := by rw [← skelF_eq]; decide +kernel
theorem skel_linux_loginEnable : skel linuxLoginEnableBody [] = linux_loginEnable := by rw [← skelF_eq]; decide +kernel
theorem skel_linux_logVersion : skel linuxLogVersionBody [] = linux_logVersion := by rw [← skelF_eq]; decide +kernel
theorem skel_linux_checkDeviceName : skel linuxCheckDeviceNameBody [] = linux_checkDeviceName := by rw [← skelF_eq]; decide +kernel
theorem skel_linux_checkBanner : skel linuxCheckBannerBody [] = linux_checkBanner := by rw [← skelF_eq]; decide +kernel
theorem skel_linux_getDeviceRoutes : skel linuxGetDeviceRoutesBody [] = linux_getDeviceRoutes := by rw [← skelF_eq]; decide +kernel
theorem skel_linux_getDeviceIPTables : skel linuxGetDeviceIPTablesBody [] = linux_getDeviceIPTables := by rw [← skelF_eq]; decide +kernel
theorem skel_panos_LoadDevice : skel panosLoadDevice [] = panos_LoadDevice := by rw [← skelF_eq]; decide +kernel
theorem skel_panos_getAPIKey : skel panosGetAPIKeyBody [] = panos_getAPIKey := by rw [← skelF_eq]; decide +kernel
theorem skel_panos_checkHA : skel panosCheckHABody [] = panos_checkHA := by rw [← skelF_eq]; decide +kernel
theorem skel_nsx_LoadDevice : skel nsxLoadDevice [] = nsx_LoadDevice := by rw [← skelF_eq]; decide +kernel
theorem skel_nsx_getRawJSON (t : Txt) : skel (nsxGetRawJSONBody t) [] = nsx_getRawJSON := by rw [← skelF_eq]; rfl

/-- The Lean session program (one instance of each) behind every function of interest, by the
name the translator gives its skeleton. -/
def covered : List (String × List Site) := [
  ("console_Send", skel (sendBody .setup .cur) []),
  ("console_SendCmd", skel (sendCmdBody .setup .cur) []),
  ("console_IssueCmd", skel (issueCmdBody .setup .cur .std) []),
  ("console_GetCmdOutput", skel (getCmdOutputBody .setup .cur) []),
  ("console_GetOutput", skel (getOutputBody .setup) []),
  ("console_waitPrompt", skel (waitPromptBody .setup .std) []),
  ("console_WaitShort", skel (waitShortBody .setup .std) []),
  ("console_WaitLogin", skel (waitLoginBody .setup .std) []),
  ("console_expectLog", skel (expectLogBody .setup .std) []),
  ("console_StripEcho", skel stripEchoBody []),
  ("console_StripStdPrompt", skel stripStdPromptBody []),
  ("console_Close", skel closeBody []),
  ("errlog_HandleAbort", skel handleAbortSkel []),
  ("errlog_Abort", skel abortSkel []),
  ("cisco_LoginEnable", skel ciscoLoginEnableBody []),
  ("cisco_LoginEnable_waitPrompt", skel (ciscoWaitPromptBody .cur) []),
  ("httpdevice_TryReachableHTTPLogin", skel (tryReachableBody .skip) []),
  ("asa_ApplyCommands", skel asaApplyBody []),
  ("asa_cmd", skel (asaCmdBody .change .cur) []),
  ("asa_CloseConnection", skel (Backend.closeConnectionBody .asa) []),
  ("asa_LoadDevice", skel asaLoadDevice []),
  ("asa_setTerminal", skel asaSetTerminal []),
  ("asa_logVersion", skel asaLogVersionBody []),
  ("asa_checkDeviceName", skel asaCheckDeviceNameBody []),
  ("ios_ApplyCommands", skel iosApplyBody []),
  ("ios_cmd", skel (iosCmdBody .change .cur) []),
  ("ios_writeMem", skel iosWriteMemBody []),
  ("ios_prepareDevice", skel iosPrepareDeviceBody []),
  ("ios_sendReloadCmd", skel (iosSendReloadCmdBody false) []),
  ("ios_cancelReload", skel iosCancelReloadBody []),
  ("ios_CloseConnection", skel (Backend.closeConnectionBody .ios) []),
  ("ios_LoadDevice", skel iosLoadDevice []),
  ("ios_setTerminal", skel iosSetTerminalBody []),
  ("ios_logVersion", skel iosLogVersionBody []),
  ("ios_checkDeviceName", skel iosCheckDeviceNameBody []),
  ("linux_ApplyCommands", skel linuxApplyBody []),
  ("linux_cmd", skel (linuxCmdBody .change .cur) []),
  ("linux_writeStartupRouting", skel linuxWriteStartupRoutingBody []),
  ("linux_writeStartupIPTables", skel linuxWriteStartupIPTablesBody []),
  ("linux_findIPTablesRestoreCmd", skel linuxFindRestoreBody []),
  ("linux_writeStartup", skel (linuxWriteStartupBody "routing") []),
  ("linux_putScp", skel (linuxPutScpBody "routing") []),
  ("linux_CloseConnection", skel (Backend.closeConnectionBody .linux) []),
  ("linux_LoadDevice", skel linuxLoadDevice []),
  ("linux_loginEnable", skel linuxLoginEnableBody []),
  ("linux_logVersion", skel linuxLogVersionBody []),
  ("linux_checkDeviceName", skel linuxCheckDeviceNameBody []),
  ("linux_checkBanner", skel linuxCheckBannerBody []),
  ("linux_getDeviceRoutes", skel linuxGetDeviceRoutesBody []),
  ("linux_getDeviceIPTables", skel linuxGetDeviceIPTablesBody []),
  ("panos_ApplyCommands", skel panosApplyBody []),
  ("panos_ApplyCommands_doCmd", skel (panosDoCmdBody .change .cur) []),
  ("panos_ApplyCommands_commit", skel panosCommitBody []),
  ("panos_httpPrefixGetLog", skel (panosHttpPrefixGetLogBody .change .cur) []),
  ("panos_httpGet", skel (panosHttpGetBody .change .cur) []),
  ("panos_CloseConnection", skel (Backend.closeConnectionBody .panos) []),
  ("panos_LoadDevice", skel panosLoadDevice []),
  ("panos_getAPIKey", skel panosGetAPIKeyBody []),
  ("panos_checkHA", skel panosCheckHABody []),
  ("nsx_ApplyCommands", skel nsxApplyBody []),
  ("nsx_sendRequest", skel (nsxSendRequestBody .change .cur) []),
  ("nsx_CloseConnection", skel (Backend.closeConnectionBody .nsx) []),
  ("nsx_LoadDevice", skel nsxLoadDevice []),
  ("nsx_getRawJSON", skel (nsxGetRawJSONBody .cur) []),
  ("device_ApproveOrCompare", skel (approveOrCompareBody .asa) []),
  ("device_approve", skel (approveBody .asa) []),
  ("device_compare", skel (compareBody .asa) []),
  ("device_compareDevice", skel (compareDeviceBody .asa) []),
  ("device_applyCommands", skel (applyCommandsBody .asa) []),
  ("device_showCompareInfo", skel showCompareInfoBody []),
  ("doapprove_Main", skel (doApproveMainSkel .asa) []),
  ("status_SetApprove", skel setApproveSkel []),
  ("status_SetCompare", skel setCompareSkel []) ]

/-- **Every regenerated skeleton is covered, and nothing else**: the list of (name, skeleton) the
translator writes on this run equals the list of (name, skeleton of the Lean program).  A function
that appears in or disappears from the translator's set, a renamed one, or any changed call site
breaks this single equality. -/
theorem skel_all_covered : NA.Gen.Skel.all = covered := by
  simp only [NA.Gen.Skel.all, covered, skel_console_Send, skel_console_SendCmd, skel_console_IssueCmd,
    skel_console_GetCmdOutput, skel_console_GetOutput, skel_console_waitPrompt, skel_console_WaitShort,
    skel_console_WaitLogin, skel_console_expectLog, skel_console_StripEcho, skel_console_StripStdPrompt,
    skel_console_Close, skel_errlog_HandleAbort, skel_errlog_Abort, skel_asa_ApplyCommands, skel_asa_cmd,
    skel_asa_CloseConnection, skel_ios_ApplyCommands, skel_ios_cmd, skel_ios_writeMem,
    skel_ios_prepareDevice, skel_ios_sendReloadCmd, skel_ios_cancelReload, skel_ios_CloseConnection,
    skel_linux_ApplyCommands, skel_linux_cmd, skel_linux_writeStartupRouting,
    skel_linux_writeStartupIPTables, skel_linux_findIPTablesRestoreCmd, skel_linux_writeStartup,
    skel_linux_putScp, skel_linux_CloseConnection, skel_panos_ApplyCommands, skel_panos_doCmd,
    skel_panos_commit, skel_panos_httpPrefixGetLog, skel_panos_httpGet, skel_panos_CloseConnection,
    skel_nsx_ApplyCommands, skel_nsx_sendRequest, skel_nsx_CloseConnection, skel_device_ApproveOrCompare,
    skel_device_approve, skel_device_compare, skel_device_compareDevice, skel_device_applyCommands,
    skel_device_showCompareInfo, skel_doapprove_Main, skel_status_SetApprove, skel_status_SetCompare,
    skel_cisco_LoginEnable, skel_cisco_LoginEnable_waitPrompt, skel_httpdevice_TryReachableHTTPLogin,
    skel_asa_LoadDevice, skel_asa_setTerminal, skel_asa_logVersion, skel_asa_checkDeviceName,
    skel_ios_LoadDevice, skel_ios_setTerminal, skel_ios_logVersion, skel_ios_checkDeviceName,
    skel_linux_LoadDevice, skel_linux_loginEnable, skel_linux_logVersion, skel_linux_checkDeviceName,
    skel_linux_checkBanner, skel_linux_getDeviceRoutes, skel_linux_getDeviceIPTables, skel_panos_LoadDevice,
    skel_panos_getAPIKey, skel_panos_checkHA, skel_nsx_LoadDevice, skel_nsx_getRawJSON]

/-- The skeleton theorems of every function a `compare` run can reach (do-approve front end,
ApproveOrCompare, compare, LoadDevice of the five backends with everything it calls, the console
and HTTP primitives, CloseConnection, the writer of the compare status): for properties that are
about compare runs only (C11). -/
def comparePathSkel : List Lean.Name := [
  ``NA.C09.skel_device_ApproveOrCompare,
  ``NA.C09.skel_device_compare,
  ``NA.C09.skel_device_compareDevice,
  ``NA.C09.skel_device_showCompareInfo,
  ``NA.C09.skel_errlog_HandleAbort,
  ``NA.C09.skel_errlog_Abort,
  ``NA.C09.skel_doapprove_Main,
  ``NA.C09.skel_status_SetCompare,
  ``NA.C09.skel_console_Send,
  ``NA.C09.skel_console_SendCmd,
  ``NA.C09.skel_console_IssueCmd,
  ``NA.C09.skel_console_GetCmdOutput,
  ``NA.C09.skel_console_GetOutput,
  ``NA.C09.skel_console_waitPrompt,
  ``NA.C09.skel_console_WaitShort,
  ``NA.C09.skel_console_WaitLogin,
  ``NA.C09.skel_console_expectLog,
  ``NA.C09.skel_console_StripEcho,
  ``NA.C09.skel_console_StripStdPrompt,
  ``NA.C09.skel_console_Close,
  ``NA.C09.skel_cisco_LoginEnable,
  ``NA.C09.skel_cisco_LoginEnable_waitPrompt,
  ``NA.C09.skel_httpdevice_TryReachableHTTPLogin,
  ``NA.C09.skel_asa_LoadDevice,
  ``NA.C09.skel_asa_setTerminal,
  ``NA.C09.skel_asa_logVersion,
  ``NA.C09.skel_asa_checkDeviceName,
  ``NA.C09.skel_asa_CloseConnection,
  ``NA.C09.skel_ios_LoadDevice,
  ``NA.C09.skel_ios_setTerminal,
  ``NA.C09.skel_ios_logVersion,
  ``NA.C09.skel_ios_checkDeviceName,
  ``NA.C09.skel_ios_CloseConnection,
  ``NA.C09.skel_linux_LoadDevice,
  ``NA.C09.skel_linux_loginEnable,
  ``NA.C09.skel_linux_logVersion,
  ``NA.C09.skel_linux_checkDeviceName,
  ``NA.C09.skel_linux_checkBanner,
  ``NA.C09.skel_linux_getDeviceRoutes,
  ``NA.C09.skel_linux_getDeviceIPTables,
  ``NA.C09.skel_linux_CloseConnection,
  ``NA.C09.skel_panos_LoadDevice,
  ``NA.C09.skel_panos_getAPIKey,
  ``NA.C09.skel_panos_checkHA,
  ``NA.C09.skel_panos_httpPrefixGetLog,
  ``NA.C09.skel_panos_httpGet,
  ``NA.C09.skel_panos_CloseConnection,
  ``NA.C09.skel_nsx_LoadDevice,
  ``NA.C09.skel_nsx_getRawJSON,
  ``NA.C09.skel_nsx_sendRequest,
  ``NA.C09.skel_nsx_CloseConnection]

end NA.C09
