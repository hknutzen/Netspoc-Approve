import NA.Proofs.C20
import NA.Model.CursorLinux
/-!
The loop over the words of a rule carries fuel `len(words)+1` in the model; it is never used up: every iteration consumes
the key, and each step hands an end piece of its words to the next.
-/
namespace NA.C20.Linux
open NA.C20 NA.C20.Res

theorem parseRoute_noPanic (line : Str) : NoPanic (parseRoute line) := by
  fun_cases parseRoute line <;> (intro p h; cases h)

theorem parseRoutes_noPanic : ∀ ls : List Str, NoPanic (parseRoutes ls)
  | [] => noPanic_ok
  | l :: ls =>
    NoPanic.bind (parseRoute_noPanic l) fun _ =>
      NoPanic.bind (parseRoutes_noPanic ls) fun _ => noPanic_ok

theorem firstChar_noPanic (site : String) (w : Str) (h : w ≠ []) : NoPanic (firstChar site w) := by
  unfold firstChar
  split
  · exact noPanic_ok
  · exact absurd rfl h

theorem takeArgs_spec (ws : List Str) (hne : ∀ w ∈ ws, w ≠ []) :
    Spec (fun x => x.2 <:+ ws) (fun _ => True) (fun _ => False) (takeArgs ws) := by
  induction ws with
  | nil => exact List.suffix_refl _
  | cons w ws ih =>
    unfold takeArgs
    refine (spec_of_noPanic (firstChar_noPanic _ w (hne w (List.mem_cons_self ..)))).bind fun c _ => ?_
    split
    · exact (ih fun x hx => hne x (List.mem_cons_of_mem _ hx)).bind fun p hp => hp.trans (List.suffix_cons _ _)
    · exact List.suffix_refl _

theorem negKey_spec (line w : Str) (ws : List Str) :
    Spec (fun x => x.2.2 <:+ ws) (fun _ => True) (fun _ => False) (negKey line w ws) := by
  fun_cases negKey line w ws
  · trivial
  · exact List.suffix_cons _ _
  · exact List.suffix_refl _

theorem negArg_spec (neg : Str) (ws1 : List Str) (hne : ∀ w ∈ ws1, w ≠ []) :
    Spec (fun x => x.2 <:+ ws1) (fun _ => True) (fun _ => False) (negArg neg ws1) := by
  unfold negArg
  split
  · rename_i a b more
    split
    · refine (spec_of_noPanic (firstChar_noPanic _ b (hne b (by simp)))).bind fun c _ => ?_
      split
      · exact List.suffix_cons _ _
      · exact List.suffix_refl _
    · exact List.suffix_refl _
  · exact List.suffix_refl _

theorem parsePairs_noPanic (line : Str) : ∀ (fuel : Nat) (ws : List Str),
    ws.length ≤ fuel → (∀ w ∈ ws, w ≠ []) → Spec (fun _ => True) (fun _ => True) (fun _ => False) (parsePairs line fuel ws)
  | _, [], _, _ => by unfold parsePairs; trivial
  | 0, _ :: _, hl, _ => by simp at hl
  | fuel + 1, w :: ws, hl, hne => by
    have hws : ∀ x ∈ ws, x ≠ [] := fun x hx => hne x (List.mem_cons_of_mem _ hx)
    unfold parsePairs
    refine (negKey_spec line w ws).bind fun r1 s1 => ?_
    refine (negArg_spec r1.1 r1.2.2 fun y hy => hws y (s1.subset hy)).bind fun r2 s2 => ?_
    have s2 := s2.trans s1
    refine (takeArgs_spec r2.2 fun y hy => hws y (s2.subset hy)).bind fun r3 s3 => ?_
    have s3 := s3.trans s2
    exact (parsePairs_noPanic line fuel r3.2 (Nat.le_trans s3.length_le (Nat.le_of_succ_le_succ hl))
      fun y hy => hws y (s3.subset hy)).bind fun ps _ => trivial

theorem iptLine_noPanic (st : IptSt) (raw : Str) : NoPanic (iptLine st raw) := by
  fun_cases iptLine st raw
  -- `words[0]`: a line that starts with `-` has a word
  case case9 line cs _ hf hline _ _ =>
    exact absurd (hline ▸ hf) (fields_cons_ne_nil cs (by decide))
  -- the option loop gets fuel for every word, and the words come from `strings.Fields`
  case case13 hf =>
    refine NoPanic.bind (parsePairs_noPanic _ _ _ (Nat.le_succ _) fun x hx => ?_).noPanic fun _ => noPanic_ok
    exact fields_mem_ne_nil _ x (hf ▸ List.mem_cons_of_mem _ (List.mem_cons_of_mem _ hx))
  -- every other branch returns a state or a diagnostic
  all_goals intro p h; cases h

theorem iptLines_noPanic : ∀ (ls : List Str) (st : IptSt), NoPanic (iptLines st ls)
  | [], _ => noPanic_ok
  | l :: ls, st => NoPanic.bind (iptLine_noPanic st l) (iptLines_noPanic ls)

theorem parseConfig_noPanic (data : Str) : NoPanic (parseConfig data) :=
  NoPanic.bind (parseRoutes_noPanic _) fun _ =>
    NoPanic.bind (iptLines_noPanic _ _) fun _ => noPanic_ok

theorem appendIndex_spec : ∀ revDrop : List Bool,
    Spec (fun i => i ≤ revDrop.length) (fun _ => True) (fun _ => False) (appendIndex true revDrop)
  | [] => Nat.le_refl 0
  | d :: rest => by
    unfold appendIndex
    split
    · exact (appendIndex_spec rest).imp fun i h => Nat.le_succ_of_le h
    · exact Nat.le_refl _


theorem appendIndex_noPanic (revDrop : List Bool) : NoPanic (appendIndex true revDrop) := (appendIndex_spec revDrop).noPanic
theorem appendIndex_le (revDrop : List Bool) (i : Nat) (h : appendIndex true revDrop = .ok i) : i ≤ revDrop.length :=
  (appendIndex_spec revDrop).ok h

end NA.C20.Linux
