import NA.Proofs.F2Binds
/-!
# F2: all interface pairs (`diffIntfs`) on the strict device
-/
namespace NA.F2
open NA.ListFacts
open NA.IosDev2
open NA.F1 (diffUnordered slice lastIdx)
open NA.Acl (Range)

/-- The status of the directions of interface `x` after its pair has been processed. -/
structure Done (σ : String → String → Status) (x : String) (al bl : List Bind) : Prop where
  settled : ∀ b ∈ bl, σ x b.dir = .settled b.acl
  cleared : ∀ a ∈ al, a.dir ∉ bl.map (·.dir) → σ x a.dir = .cleared
  orig : ∀ dir, dir ∉ al.map (·.dir) → dir ∉ bl.map (·.dir) → σ x dir = .orig

theorem Done.bound_not_orig {σ : String → String → Status} {x : String} {al bl : List Bind} (h : Done σ x al bl)
    {a : Bind} (ha : a ∈ al) : σ x a.dir ≠ .orig := by
  intro hc
  by_cases hd : a.dir ∈ bl.map (·.dir)
  · obtain ⟨b, hb, hbd⟩ := List.mem_map.mp hd
    have := h.settled b hb
    rw [hbd, hc] at this; cases this
  · have := h.cleared a ha hd
    rw [hc] at this; cases this

theorem sem_pairs {e : Env} (hwf : WFE e) {P : List Name} {d0 : Dev} (hwi : WFI e d0)
    (ps : List (Nat × Intf)) (hps : ∀ p ∈ ps, p.1 < e.a.intfs.length ∧ p.2 ∈ e.b.intfs ∧
      (e.a.intfs.getD p.1 default).name = p.2.name) (hnd : (ps.map (·.1)).Nodup)
    {st : St} {σ : String → String → Status} (h : Walk e P d0 st σ)
    (hσ : ∀ p ∈ ps, ∀ dir, σ (e.a.intfs.getD p.1 default).name dir = .orig) :
    ∃ σ', Walk e P d0 (ps.foldl (pairStep e e.a.intfs) st) σ' ∧
      (∀ p ∈ ps, Done σ' (e.a.intfs.getD p.1 default).name (e.a.intfs.getD p.1 default).binds p.2.binds) ∧
      (∀ y, (∀ p ∈ ps, y ≠ (e.a.intfs.getD p.1 default).name) → ∀ dir, σ' y dir = σ y dir) := by
  induction ps generalizing st σ with
  | nil => exact ⟨σ, h, fun _ hp => (nomatch hp), fun _ _ _ => rfl⟩
  | cons p ps ih =>
    obtain ⟨hk, hb, hnm⟩ := hps p (List.mem_cons_self ..)
    have hmem := getD_mem (d := default) hk
    simp only [List.map_cons, List.nodup_cons] at hnd
    obtain ⟨σ1, h1, hoth, hset, hclr, horig⟩ := sem_diffBinds hwf p.1 (e.a.intfs.getD p.1 default).name
      (e.a.intfs.getD p.1 default).binds p.2.binds (fun _ => rfl) (hwi.bindsA hmem) (hwi.bIntf _ hb)
      (fun a ha b' hb' hd => ⟨_, hmem, _, hb, hnm, a, ha, b', hb', hd, rfl, rfl⟩) (fun b' hb' => ⟨p.2, hb, b', hb', rfl⟩)
      (h.congr (st' := { st with iNeeded := p.1 :: st.iNeeded }.hit "intf:pair") rfl rfl rfl rfl rfl)
      (hσ p (List.mem_cons_self ..))
    -- the other pairs are about other interfaces
    have hne : ∀ p' ∈ ps, (e.a.intfs.getD p'.1 default).name ≠ (e.a.intfs.getD p.1 default).name := fun p' hp' hc =>
      hnd.1 (getD_inj_of_nodup_map hwi.aNames hk (hps p' (List.mem_cons_of_mem _ hp')).1 hc ▸ List.mem_map_of_mem (f := (·.1)) hp')
    obtain ⟨σ', h', hdone, hoth'⟩ := ih (fun p' hp' => hps p' (List.mem_cons_of_mem _ hp')) hnd.2 h1
      fun p' hp' dir => by rw [hoth _ (hne p' hp')]; exact hσ p' (List.mem_cons_of_mem _ hp') dir
    refine ⟨σ', h', fun q hq => ?_, fun y hy dir => ?_⟩
    · rcases List.mem_cons.mp hq with rfl | hq'
      · have hsame := hoth' _ fun p' hp' => (hne p' hp').symm
        exact ⟨fun b hb' => by rw [hsame]; exact hset b hb', fun a ha hn => by rw [hsame]; exact hclr a ha hn,
          fun dir h1' h2' => by rw [hsame]; exact horig dir h1' h2'⟩
      · exact hdone q hq'
    · rw [hoth' y (fun p' hp' => hy p' (List.mem_cons_of_mem _ hp')) dir, hoth y (hy p (List.mem_cons_self ..)) dir]

/-- `diffCmds` for the interface anchors: afterwards every target interface is bound as the target
says; interfaces without partner are not touched. -/
theorem sem_diffIntfs {e : Env} (hwf : WFE e) {P : List Name} {d0 : Dev} (hwi : WFI e d0)
    (hcov : ∀ bi ∈ e.b.intfs, ∃ ai ∈ e.a.intfs, ai.name = bi.name)
    {st : St} {d : Dev} {σ : String → String → Status} (h : SemN e P d0 st d σ) (hB : st.bNeeded = [])
    (hσ : ∀ x dir, σ x dir = .orig) :
    ∃ d' σ', SemN e P d0 (diffIntfs e st e.a.intfs e.b.intfs) d' σ' ∧
      (∀ bi ∈ e.b.intfs, ∃ ai ∈ e.a.intfs, ai.name = bi.name ∧ Done σ' bi.name ai.binds bi.binds) ∧
      (∀ y, y ∉ e.b.intfs.map (·.name) → ∀ dir, σ' y dir = .orig) := by
  obtain ⟨hs, hshape⟩ := diffIntfs_canon e e.a.intfs e.b.intfs hwi.aNames st
  have hps : ∀ p ∈ mPairs (·.name) (·.name) e.a.intfs e.b.intfs, p.1 < e.a.intfs.length ∧ p.2 ∈ e.b.intfs ∧
      (e.a.intfs.getD p.1 default).name = p.2.name := fun p => mPairs_spec
  obtain ⟨σ', ⟨⟨d', h'⟩, _⟩, hdone, hoth⟩ := sem_pairs hwf hwi _ hps nodup_mPairs
    ⟨⟨d, h⟩, fun p hp => by rw [hB] at hp; cases hp⟩ (fun p _ dir => hσ _ dir)
  refine ⟨d', σ', by rw [hshape]; exact h'.congr rfl rfl rfl rfl, ?_, ?_⟩
  · intro bi hbi
    obtain ⟨ai, hai, hname⟩ := hcov bi hbi
    obtain ⟨k, hmem⟩ := mPairs_covB hwi.bNames hbi (hname ▸ List.mem_map_of_mem (f := fun i : Intf => i.name) hai)
    have := hdone _ hmem
    rw [(hps _ hmem).2.2] at this
    exact ⟨_, getD_mem (hps _ hmem).1, (hps _ hmem).2.2, this⟩
  · intro y hy dir
    rw [hoth y _ dir]
    · exact hσ y dir
    · intro p hp hc
      obtain ⟨_, hb, hn⟩ := hps p hp
      exact hy (hc ▸ hn ▸ List.mem_map_of_mem hb)

end NA.F2
