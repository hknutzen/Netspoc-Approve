import NA.Proofs.C03GrpWhole
/-
C03, the whole plan on the strict device: `gen_converges` composes transfer, rule phase and removals for `GenPair`;
pairs with address-groups (`GrpPair`) and pairs without (`PlainPair`) are its two special cases.  Core Lean only.
-/
namespace NA.PanOs

theorem gen_converges (sh : Shared) (diff : Differ) (hd : GoodDiffer diff) (a b : Vsys)
    (hid : a.groups ≠ [] → IdentityDiffer diff) (hP : GenPair sh a b) :
    ∃ w, Runs sh a (planVsys diff a b) w ∧ equiv w b = true ∧ w.name = a.name ∧ w.sgroups = [] ∧
      (ruleNames w.rules).Nodup ∧ Like [] w b ∧
      (∀ x, RefAddrN b x → x ∈ b.addrs.map (·.name) → lookupObj w.addrs x = lookupObj b.addrs x) ∧
      (∀ x, (x = "any" ∨ x ∈ sh) → x ∉ b.addrs.map (·.name) → lookupObj w.addrs x = lookupObj b.addrs x) ∧
      (∀ x, RefSvc b x → (x = "any" ∨ x = "application-default" ∨ x ∈ sh ∨ x ∈ b.svcs.map (·.name)) →
        lookupObj w.svcs x = lookupObj b.svcs x) ∧
      (∀ x ∈ w.addrs.map (·.name), (∃ oa ∈ (planState diff a b).aAddr, oa.o.name = x ∧ oa.needed = true) ∨
        ∃ ob ∈ (planState diff a b).bAddr, ob.flagged = true ∧ ob.o.name = x) ∧
      (∀ x ∈ w.svcs.map (·.name), (∃ oa ∈ (planState diff a b).aSvc, oa.o.name = x ∧ oa.needed = true) ∨
        ∃ ob ∈ (planState diff a b).bSvc, ob.flagged = true ∧ ob.o.name = x) := by
  obtain ⟨a1, ha1, hT⟩ := grp_transfer sh diff hd a b hid hP
  obtain ⟨w2, hw2, s1, s2, s3, s4, hnd, hlike2, hsub, hgna⟩ := after_rulePhase sh diff hd a b hid hP a1 hT
  obtain ⟨hA, hSv, haSG, _⟩ := grp_summaries sh diff a b hP
  obtain ⟨hfa, _⟩ := fin_groups sh diff hd a b hid hP
  have hrefN := fun x => hP.refAddrN (x := x)
  have hrefS : ∀ x, RefSvc b x → (x = "any" ∨ x = "application-default" ∨ x ∈ sh) ∨ x ∈ b.svcs.map (·.name) := by
    rintro x ⟨r, hr, hx⟩
    rcases (hP.br r hr).2 x hx with h | h | h | h
    exact .inl (.inl h); exact .inl (.inr (.inl h)); exact .inl (.inr (.inr h)); exact .inr h
  have hresA : ∀ x ∈ a.addrs.map (·.name), ¬ (x = "any" ∨ x ∈ sh) :=
    fun x hx h => h.elim (hP.ares x hx).1 (hP.ares x hx).2
  have hresS : ∀ x ∈ a.svcs.map (·.name), ¬ (x = "any" ∨ x = "application-default" ∨ x ∈ sh) :=
    fun x hx h => h.elim (hP.sres x hx).1 (fun h => h.elim (hP.sres x hx).2.1 (hP.sres x hx).2.2)
  -- removal of the device groups that are not needed
  obtain ⟨gs3, hw3, hlike3, hgn3⟩ := hlike2.delGrps sh
    ((List.Sublist.map _ List.filter_sublist).nodup (by rw [hfa]; exact hP.agn)) hsub
  -- removal of the addresses: what rules and groups use is needed
  obtain ⟨os4, hw4, vlook, vgone⟩ := runs_delObjs addrKind sh (unneeded (planState diff a b).aAddr) { w2 with groups := gs3 }
    (unneeded_nodup (by rw [map_o_name hA.adefs]; exact hP.aan))
    (fun x hx => s1 ▸ hT.addrKeep x (unneeded_subset hA.adefs x hx))
    (fun x hx => Bool.eq_false_iff.mpr fun hu => by
      rcases hlike3.addrUsed hP.bplain hu with h | h
      · exact unneeded_not_used hA.adefs hA.marked hresA x hx h (hrefN x h)
      · exact hgna x (hgn3 x h) (unneeded_subset hA.adefs x hx))
  -- removal of the services
  have hsg : w2.sgroups = [] := s3.trans (hT.sgroups.trans hP.asg)
  obtain ⟨os, hw, zlook, zgone⟩ := runs_delObjs svcKind sh (unneeded (planState diff a b).aSvc)
    { w2 with groups := gs3, addrs := os4 }
    (unneeded_nodup (by rw [map_o_name hSv.adefs]; exact hP.asn))
    (fun x hx => s2 ▸ hT.svcKeep x (unneeded_subset hSv.adefs x hx))
    (fun x hx => Bool.eq_false_iff.mpr fun hu => by
      have href := (hlike3.congr (w' := { w2 with groups := gs3, addrs := os4 }) rfl rfl).srvUsed hsg hu
      exact unneeded_not_used hSv.adefs hSv.marked hresS x hx href (hrefS x href))
  -- the whole run
  have hruns : Runs sh a (planVsys diff a b) { w2 with groups := gs3, addrs := os4, svcs := os } := by
    unfold planVsys
    simp only
    rw [removeCmds_grp _ haSG]
    have e0 : ((planState diff a b).aGrp.filter (fun g => !g.needed)).map (fun g => Cmd.delGrp g.g.name) =
        (unneededGrps (planState diff a b)).map Cmd.delGrp := by
      simp [unneededGrps, List.map_map, Function.comp_def]
    rw [e0, map_del_unneeded, map_del_unneeded]
    exact (ha1.append hw2).append ((hw3.append hw4).append hw)
  -- the tables of the final state
  obtain ⟨lookA, lookA0⟩ := final_table hA.adefs (fun n hn => s1 ▸ vlook n hn) vgone hT.addrRef hT.addrOther hA.marked hresA
  obtain ⟨lookS, lookS0⟩ := final_table hSv.adefs (fun n hn => s2 ▸ zlook n hn) zgone hT.svcRef hT.svcOther hSv.marked hresS
  have lookS' : ∀ x, RefSvc b x → (x = "any" ∨ x = "application-default" ∨ x ∈ sh ∨ x ∈ b.svcs.map (·.name)) →
      lookupObj os x = lookupObj b.svcs x := fun x href _ => by
    by_cases hxb : x ∈ b.svcs.map (·.name)
    · exact lookS x href hxb
    · exact lookS0 x ((hrefS x href).resolve_right hxb) hxb
  have hlikeW : Like [] { w2 with groups := gs3, addrs := os4, svcs := os } b := hlike3.congr rfl rfl
  refine ⟨_, hruns, hlikeW.equiv hsg hP.bsg hP.bplain (fun x href => ?_) (fun x href => lookS' x href ((hrefS x href).elim
      (fun h => h.elim .inl fun h => h.elim (.inr ∘ .inl) (.inr ∘ .inr ∘ .inl)) (.inr ∘ .inr ∘ .inr))),
    s4.trans hT.name, hsg, hnd, hlikeW, lookA, lookA0, lookS',
    final_table_names hA.adefs (fun n hn => s1 ▸ vlook n hn) vgone hT.addrNames,
    final_table_names hSv.adefs (fun n hn => s2 ▸ zlook n hn) zgone hT.svcNames⟩
  by_cases hxb : x ∈ b.addrs.map (·.name)
  · exact lookA x href hxb
  · exact lookA0 x ((hrefN x href).resolve_right hxb) hxb

theorem grp_converges (sh : Shared) (diff : Differ) (hd : GoodDiffer diff) (hid : IdentityDiffer diff)
    (a b : Vsys) (hP : GrpPair sh a b) :
    ∃ w, Runs sh a (planVsys diff a b) w ∧ equiv w b = true ∧ w.name = a.name ∧
      w.rules.length = b.rules.length :=
  have ⟨w, hw, heq, hname, _, _, hlike, _⟩ := gen_converges sh diff hd a b (fun _ => hid) (.of_grpPair hP)
  ⟨w, hw, heq, hname, hlike.len⟩

theorem plain_converges_full (sh : Shared) (diff : Differ) (hd : GoodDiffer diff) (a b : Vsys)
    (hP : PlainPair sh a b) :
    ∃ w, Runs sh a (planVsys diff a b) w ∧ equiv w b = true ∧
      w.groups = [] ∧ w.sgroups = [] ∧ w.name = a.name ∧ w.rules.length = b.rules.length ∧
      (ruleNames w.rules).Nodup ∧
      (∀ (t : Nat) (r : Rule), w.rules[t]? = some r → RuleLike r (b.rules.getD t default)) ∧
      (∀ x, RefAddr b x → (x = "any" ∨ x ∈ sh ∨ x ∈ b.addrs.map (·.name)) →
        lookupObj w.addrs x = lookupObj b.addrs x) ∧
      (∀ x, RefSvc b x → (x = "any" ∨ x = "application-default" ∨ x ∈ sh ∨ x ∈ b.svcs.map (·.name)) →
        lookupObj w.svcs x = lookupObj b.svcs x) ∧
      (∀ x ∈ w.addrs.map (·.name), RefAddr b x) ∧ (∀ x ∈ w.svcs.map (·.name), RefSvc b x) := by
  obtain ⟨w, hw, heq, hname, hsg, hnd, hlk, lookA, lookA0, lookS, namesA, namesS⟩ :=
    gen_converges sh diff hd a b (fun h => absurd hP.1 h) (.of_plainPair hP)
  obtain ⟨_, hbg, _, hbsg, _⟩ := hP
  obtain ⟨provA, provS⟩ := planState_prov diff a b hbg hbsg
  -- without groups in the target a list is like the target's only as a list of addresses
  have hsame : ∀ {ld l0 : List String}, ListLike [] w b ld l0 → SameMem ld l0 := by
    rintro ld l0 (⟨hs, _⟩ | ⟨_, g, _, mb, _, _, _, _, hb, _⟩)
    · exact hs
    · rw [hbg] at hb; cases hb
  refine ⟨w, hw, heq, List.eq_nil_iff_forall_not_mem.mpr fun g hg => ?_, hsg, hname, hlk.len, hnd, fun t r hr => ?_,
    fun x href hcase => ?_, lookS, fun x hx => ?_, fun x hx => ?_⟩
  · obtain ⟨gr, hgr, _⟩ := (hlk.grp g hg).resolve_left List.not_mem_nil
    rw [hbg] at hgr; cases hgr
  · have hr0 := getElem?_of_lt b.rules t (hlk.len ▸ (List.getElem?_eq_some_iff.mp hr).1)
    obtain ⟨l0, l3, l1, l2⟩ := hlk.rule t r _ hr hr0
    rw [getD_of_getElem? hr0]
    exact ⟨l0, hsame l1, hsame l2, l3⟩
  · by_cases hxb : x ∈ b.addrs.map (·.name)
    · obtain ⟨r, hr, hx⟩ := href
      exact lookA x ⟨⟨r, hr, Or.inl hx⟩, by simp [hbg]⟩ hxb
    · exact lookA0 x (by rcases hcase with h | h | h; exact .inl h; exact .inr h; exact absurd h hxb) hxb
  · rcases namesA x hx with ⟨oa, hoa, rfl, hn⟩ | ⟨ob, hob, hf, rfl⟩
    · exact provA.2 oa hoa hn
    · exact provA.1 ob hob (by simpa [BObj.flagged, Or.comm] using hf)
  · rcases namesS x hx with ⟨oa, hoa, rfl, hn⟩ | ⟨ob, hob, hf, rfl⟩
    · exact provS.2 oa hoa hn
    · exact provS.1 ob hob (by simpa [BObj.flagged, Or.comm] using hf)

theorem plain_converges (sh : Shared) (diff : Differ) (hd : GoodDiffer diff) (a b : Vsys)
    (hP : PlainPair sh a b) :
    ∃ w, Runs sh a (planVsys diff a b) w ∧ equiv w b = true ∧
      w.groups = [] ∧ w.sgroups = [] ∧ w.name = a.name ∧ w.rules.length = b.rules.length ∧
      (ruleNames w.rules).Nodup ∧
      (∀ (t : Nat) (r : Rule), w.rules[t]? = some r → RuleLike r (b.rules.getD t default)) := by
  obtain ⟨w, h1, h2, h3, h4, h5, h6, h7, h8, _⟩ := plain_converges_full sh diff hd a b hP
  exact ⟨w, h1, h2, h3, h4, h5, h6, h7, h8⟩

end NA.PanOs
