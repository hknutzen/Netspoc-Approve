import NA.Proofs.C04Inv
import NA.Proofs.C04Names
import NA.Proofs.C04StoreInv
import NA.Model.NsxAccept
/-!
From the decidable side conditions (`accepted`) to propositions, and what `mkCtx` makes of a pair: from the target
alone `CtxFacts` (scope and the normal form of the bodies need no more), with a well-formed store `CtxOK`.
-/
namespace NA.Nsx

theorem sortAddrs_perm (l : List String) : (sortAddrs l).Perm l := isort_perm _ _

theorem gids_sortGroups (gs : List Group) : gids (sortGroups gs) = gids gs := by
  simp [gids, sortGroups, List.map_map, Function.comp]

theorem mem_sortGroups {gs : List Group} {ga : Group} (h : ga ∈ sortGroups gs) :
    ∃ g ∈ gs, ga = { g with addrs := sortAddrs g.addrs } := by
  unfold sortGroups at h
  obtain ⟨g, hg, e⟩ := List.mem_map.mp h
  exact ⟨g, hg, e.symm⟩

/-- The pairs (original id, renamed group) the planner's `ab.b.groups` consists of. -/
def bpairs (b bG : List Group) : List (String × Group) := (b.map (·.id)).zip bG

theorem bpairs_cons (g g' : Group) (b bG : List Group) : bpairs (g :: b) (g' :: bG) = (g.id, g') :: bpairs b bG := rfl

theorem bpairs_keys {b bG : List Group} (h : Forall2 SameButIdG bG b) : (bpairs b bG).map Prod.fst = gids b := by
  induction h with
  | nil => rfl
  | cons _ _ ih => rw [bpairs_cons, List.map_cons, ih]; rfl

theorem bpairs_mem {b bG : List Group} (h : Forall2 SameButIdG bG b) {k : String} {v : Group}
    (hm : (k, v) ∈ bpairs b bG) : v ∈ bG ∧ ∃ g0 ∈ b, g0.id = k ∧ v = { g0 with id := v.id } := by
  induction h with
  | nil => simp [bpairs] at hm
  | cons hab _ ih =>
    simp only [bpairs_cons, List.mem_cons, Prod.mk.injEq] at hm
    rcases hm with ⟨e1, e2⟩ | hm
    · subst e1; subst e2
      exact ⟨List.mem_cons_self, _, List.mem_cons_self, rfl, hab⟩
    · obtain ⟨h1, g0, hg0, h2, h3⟩ := ih hm
      exact ⟨List.mem_cons_of_mem _ h1, g0, List.mem_cons_of_mem _ hg0, h2, h3⟩

theorem bpairs_total {b bG : List Group} (h : Forall2 SameButIdG bG b) {g0 : Group} (hg : g0 ∈ b) :
    ∃ v, (g0.id, v) ∈ bpairs b bG := by
  induction h with
  | nil => cases hg
  | cons _ _ ih =>
    rcases List.mem_cons.mp hg with e | e
    · subst e; exact ⟨_, List.mem_cons_self⟩
    · obtain ⟨v, hv⟩ := ih e
      exact ⟨v, List.mem_cons_of_mem _ hv⟩

theorem bpairs_inj {b bG : List Group} (h : Forall2 SameButIdG bG b) (hn : (gids bG).Nodup)
    {k1 k2 : String} {v1 v2 : Group} (h1 : (k1, v1) ∈ bpairs b bG) (h2 : (k2, v2) ∈ bpairs b bG)
    (e : v1.id = v2.id) : k1 = k2 := by
  induction h with
  | nil => simp [bpairs] at h1
  | cons hab hrest ih =>
    simp only [gids, List.map_cons, List.nodup_cons] at hn
    simp only [bpairs_cons, List.mem_cons, Prod.mk.injEq] at h1 h2
    rcases h1 with ⟨a1, a2⟩ | h1 <;> rcases h2 with ⟨b1, b2⟩ | h2
    · rw [a1, b1]
    · subst a2
      exact absurd (e ▸ List.mem_map_of_mem (f := (·.id)) (bpairs_mem hrest h2).1) hn.1
    · subst b2
      exact absurd (e ▸ List.mem_map_of_mem (f := (·.id)) (bpairs_mem hrest h1).1) hn.1
    · exact ih hn.2 h1 h2

structure StoreFacts (S : Store) : Prop where
  pol_nodup : (pids S.policies).Nodup
  grp_nodup : (gids S.groups).Nodup
  svc_nodup : (sids S.services).Nodup
  rules : ∀ p ∈ S.policies, (rids p.rules).Nodup ∧ ∀ r ∈ p.rules, refsOk S r = true
  addrs : ∀ g ∈ S.groups, g.addrs.Nodup

theorem addrsNodup_iff {S : Store} : addrsNodup S = true ↔ AddrsNodup S := by
  unfold addrsNodup AddrsNodup
  simp only [List.all_eq_true, idsNodup_iff]

theorem storeFacts_of {S : Store} (h1 : storeWF S = true) (h2 : addrsNodup S = true) : StoreFacts S :=
  have w := storeWF_iff.mp h1
  ⟨w.pol, w.grp, w.svc, w.rules, addrsNodup_iff.mp h2⟩

theorem StoreFacts.wf {S : Store} (h : StoreFacts S) : WF S := ⟨h.pol_nodup, h.grp_nodup, h.svc_nodup, h.rules⟩

structure TargetFacts (T : Config) : Prop where
  pol_nodup : (pids T.policies).Nodup
  pol_managed : ∀ p ∈ T.policies, managed p.id = true
  grp : ∀ g ∈ T.groups, managed g.id = true ∧ g.addrs.Nodup
  grp_nonempty : ∀ g ∈ T.groups, g.addrs ≠ []
  grp_nodup : (gids T.groups).Nodup
  svc : ∀ s ∈ T.services, managed s.id = true
  rules : ∀ p ∈ T.policies, (rids p.rules).Nodup ∧ ∀ r ∈ p.rules, refsDefined T r = true

theorem targetFacts_of {T : Config} (h1 : targetWF T = true) (h2 : policyIdsManaged T = true) : TargetFacts T := by
  unfold targetWF at h1
  simp only [Bool.and_eq_true, idsNodup_iff, List.all_eq_true] at h1
  obtain ⟨⟨⟨⟨⟨a, b⟩, c⟩, d⟩, _⟩, f⟩ := h1
  unfold policyIdsManaged at h2
  simp only [List.all_eq_true] at h2
  refine ⟨a, h2, fun g hg => ⟨(b g hg).1.1, (b g hg).1.2⟩, ?_, c, d, f⟩
  intro g hg he
  have := (b g hg).2
  rw [he] at this
  simp at this

theorem accepted_facts {S : Store} {T : Config} (h : accepted S T = true) :
    StoreFacts S ∧ TargetFacts T ∧ extRefsOK S T = true ∧ unmanagedIndep S = true := by
  unfold accepted at h
  simp only [Bool.and_eq_true] at h
  obtain ⟨⟨⟨⟨⟨h1, h2⟩, h3⟩, h4⟩, h5⟩, h6⟩ := h
  exact ⟨storeFacts_of h1 h2, targetFacts_of h3 h4, h5, h6⟩

theorem refsDefined_ep {T : Config} {r : Rule} (h : refsDefined T r = true) :
    (∀ x, groupRef r.src = some x → managed x = true → x ∈ gids T.groups) ∧
    (∀ x, groupRef r.dst = some x → managed x = true → x ∈ gids T.groups) ∧
    (∀ x, serviceRef r.service = some x → managed x = true → x ∈ sids T.services) := by
  unfold refsDefined at h
  simp only [Bool.and_eq_true] at h
  obtain ⟨⟨h1, h2⟩, h3⟩ := h
  refine ⟨?_, ?_, ?_⟩
  · intro x hx hm
    simp only [hx, hm, Bool.not_true, Bool.false_or, List.any_eq_true, beq_iff_eq] at h1
    obtain ⟨g, hg, e⟩ := h1
    exact e ▸ List.mem_map_of_mem (f := (·.id)) hg
  · intro x hx hm
    simp only [hx, hm, Bool.not_true, Bool.false_or, List.any_eq_true, beq_iff_eq] at h2
    obtain ⟨g, hg, e⟩ := h2
    exact e ▸ List.mem_map_of_mem (f := (·.id)) hg
  · intro x hx hm
    simp only [hx, hm, Bool.not_true, Bool.false_or, List.any_eq_true, beq_iff_eq] at h3
    obtain ⟨s, hs, e⟩ := h3
    exact e ▸ List.mem_map_of_mem (f := (·.id)) hs

theorem extRefs_ep {S : Store} {T : Config} (h : extRefsOK S T = true) {p : Policy} (hp : p ∈ T.policies)
    {r : Rule} (hr : r ∈ p.rules) :
    (∀ x, groupRef r.src = some x → managed x = false → hasGroup S x = true) ∧
    (∀ x, groupRef r.dst = some x → managed x = false → hasGroup S x = true) ∧
    (∀ x, serviceRef r.service = some x → managed x = false → hasService S x = true) := by
  unfold extRefsOK at h
  simp only [List.all_eq_true, Bool.and_eq_true] at h
  obtain ⟨⟨h1, h2⟩, h3⟩ := h p hp r hr
  refine ⟨?_, ?_, ?_⟩
  · intro x hx hm; simpa [hx, hm] using h1
  · intro x hx hm; simpa [hx, hm] using h2
  · intro x hx hm; simpa [hx, hm] using h3

theorem unmanagedIndep_ep {S : Store} (h : unmanagedIndep S = true) {p : Policy} (hp : p ∈ S.policies)
    (hm : managed p.id = false) {r : Rule} (hr : r ∈ p.rules) :
    (∀ x, groupRef r.src = some x → managed x = false) ∧ (∀ x, groupRef r.dst = some x → managed x = false) ∧
    (∀ x, serviceRef r.service = some x → managed x = false) := by
  unfold unmanagedIndep at h
  simp only [List.all_eq_true, Bool.or_eq_true, Bool.and_eq_true] at h
  rcases h p hp with h | h
  · rw [hm] at h; cases h
  · obtain ⟨⟨h1, h2⟩, h3⟩ := h r hr
    refine ⟨?_, ?_, ?_⟩
    · intro x hx; simpa [hx] using h1
    · intro x hx; simpa [hx] using h2
    · intro x hx; simpa [hx] using h3

def DistinctContent (gs : List Group) : Prop :=
  ∀ g1 ∈ gs, ∀ g2 ∈ gs, (∀ x, x ∈ g1.addrs ↔ x ∈ g2.addrs) → g1.id = g2.id

theorem DistinctContent.of_decide (gs : List Group) : distinctContent gs = true → DistinctContent gs := by
  intro h g1 h1 g2 h2 hm
  unfold distinctContent at h
  rw [List.all_eq_true] at h
  have := h g1 h1
  rw [List.all_eq_true] at this
  have := this g2 h2
  simp only [Bool.or_eq_true, beq_iff_eq, Bool.not_eq_eq_eq_not, Bool.not_true, Bool.and_eq_false_iff,
    List.all_eq_false, List.contains_eq_mem, decide_eq_true_eq] at this
  rcases this with e | ⟨x, hx, hn⟩ | ⟨x, hx, hn⟩
  · exact e
  · exact absurd ((hm x).mp hx) (by simpa using hn)
  · exact absurd ((hm x).mpr hx) (by simpa using hn)

theorem DistinctContent.sorted {gs : List Group} (h : DistinctContent gs) {g g' : Group} (hg : g ∈ gs) (hg' : g' ∈ gs)
    (e : sortAddrs g.addrs = sortAddrs g'.addrs) : g.id = g'.id :=
  h g hg g' hg' fun x => by rw [← (sortAddrs_perm g.addrs).mem_iff, e, (sortAddrs_perm g'.addrs).mem_iff]

structure CtxFacts (diff : Diff) (S : Store) (T : Config) (ctx : Ctx) : Prop where
  diff_eq : ctx.diff = diff
  a_eq : ctx.aGroups = sortGroups (load S).groups
  b_dom : ∀ k, k ∈ gids T.groups → ∃ gb, ctx.bmap.lookup k = some gb
  b_of : ∀ k gb, ctx.bmap.lookup k = some gb →
    ∃ gt ∈ T.groups, gt.id = k ∧ gb.addrs = sortAddrs gt.addrs ∧ managed gb.id = true ∧ managed k = true
  b_fresh : ∀ k gb, ctx.bmap.lookup k = some gb → gb.id ∉ gids S.groups
  b_inj : ∀ k1 k2 g1 g2, ctx.bmap.lookup k1 = some g1 → ctx.bmap.lookup k2 = some g2 → g1.id = g2.id → k1 = k2

theorem ctxFacts_of {diff : Diff} {S : Store} {T : Config} {ctx : Ctx} (hT : TargetFacts T)
    (hmk : mkCtx diff (load S) T = some ctx) : CtxFacts diff S T ctx := by
  unfold mkCtx at hmk
  cases hg : genUniqGroups ((sortGroups (load S).groups).map (·.id)) (sortGroups T.groups) with
  | none => simp [hg] at hmk
  | some bG =>
    simp only [hg, Option.map_some, Option.some.injEq] at hmk
    subst hmk
    have hb0n : (gids (sortGroups T.groups)).Nodup := by rw [gids_sortGroups]; exact hT.grp_nodup
    have hb0m : ∀ g ∈ sortGroups T.groups, managed g.id = true := by
      intro g hg'
      obtain ⟨g0, hg0, e⟩ := mem_sortGroups hg'
      rw [e]; exact (hT.grp g0 hg0).1
    obtain ⟨hn, hfresh, hman, hsame⟩ := genUniqGroups_spec hg hb0n hb0m
    have hkeys : (bpairs (sortGroups T.groups) bG).map Prod.fst = gids (sortGroups T.groups) := bpairs_keys hsame
    have hnr : ((bpairs (sortGroups T.groups) bG).reverse.map Prod.fst).Nodup := by
      rw [List.map_reverse, hkeys]; exact (List.reverse_perm _).nodup_iff.mpr hb0n
    have hmem : ∀ k gb, List.lookup k (bpairs (sortGroups T.groups) bG).reverse = some gb ↔
        (k, gb) ∈ bpairs (sortGroups T.groups) bG :=
      fun k gb => (ListFacts.lookup_eq_some_iff_mem hnr).trans List.mem_reverse
    refine ⟨rfl, rfl, ?_, ?_, ?_, ?_⟩
    · intro k hk
      rw [← gids_sortGroups] at hk
      obtain ⟨g0, hg0, e⟩ := List.mem_map.mp hk
      obtain ⟨v, hv⟩ := bpairs_total hsame hg0
      exact ⟨v, (hmem k v).mpr (e ▸ hv)⟩
    · intro k gb h
      obtain ⟨hgb, g0, hg0, hk, hsm⟩ := bpairs_mem hsame ((hmem k gb).mp h)
      obtain ⟨gt, hgt, e⟩ := mem_sortGroups hg0
      exact ⟨gt, hgt, by rw [← hk, e], by rw [hsm, e], hman _ (mem_gids hgb), by rw [← hk, e]; exact (hT.grp gt hgt).1⟩
    · intro k gb h hin
      obtain ⟨hgb, _⟩ := bpairs_mem hsame ((hmem k gb).mp h)
      apply hfresh _ (mem_gids hgb)
      show gb.id ∈ gids (sortGroups (S.groups.filter (managed ·.id)))
      rw [gids_sortGroups, gids_filter_managed]
      exact ⟨hin, hman _ (mem_gids hgb)⟩
    · intro k1 k2 g1 g2 h1 h2 e
      exact bpairs_inj hsame hn ((hmem k1 g1).mp h1) ((hmem k2 g2).mp h2) e

/-- The device side of `CtxOK` (its first three fields) is where the well-formedness of the store enters the
group invariant. -/
theorem CtxFacts.ok {diff : Diff} {S : Store} {T : Config} {ctx : Ctx} (hcf : CtxFacts diff S T ctx) (hS : StoreFacts S)
    (hT : TargetFacts T) : CtxOK ctx S.groups := by
  have hA : ∀ ga ∈ ctx.aGroups, ∃ g ∈ S.groups, ga = { g with addrs := sortAddrs g.addrs } := fun ga hga => by
    rw [hcf.a_eq] at hga
    obtain ⟨g, hgm, e⟩ := mem_sortGroups hga
    exact ⟨g, (List.mem_filter.mp hgm).1, e⟩
  refine ⟨hS.grp_nodup, ?_, ?_, hcf.b_fresh, hcf.b_inj, ?_, ?_⟩
  · intro ga hga
    obtain ⟨g, hg, e⟩ := hA ga hga
    exact ⟨g, by rw [e]; exact findGroup_mem_nodup hS.grp_nodup hg, by rw [e], by rw [e]; exact (sortAddrs_perm _).symm⟩
  · intro ga hga
    obtain ⟨g, hg, e⟩ := hA ga hga
    rw [e]
    exact (sortAddrs_perm _).nodup_iff.mpr (hS.addrs g hg)
  · intro k gb h
    obtain ⟨gt, hgt, _, hs, _⟩ := hcf.b_of k gb h
    exact hs ▸ (sortAddrs_perm _).nodup_iff.mpr (hT.grp gt hgt).2
  · intro k gb h he
    obtain ⟨gt, hgt, _, hs, _⟩ := hcf.b_of k gb h
    exact hT.grp_nonempty gt hgt ((sortAddrs_perm _).symm.trans (hs ▸ he ▸ .refl _)).eq_nil

/-- What an entry `p` of a target rule is, seen by the planner (`ctx.gmb`) and by the specification
(`targetGroup`) at once: no group of the target on either side, or the target group `gt`, which the planner knows as
`gb` under the key `gt.id`. -/
inductive TargetEntry (ctx : Ctx) (T : Config) (p : String) : Prop
  | other : ctx.gmb p = none → targetGroup T.groups p = none →
      (∀ k, groupRef p = some k → managed k = true → k ∉ gids T.groups) → TargetEntry ctx T p
  | group {k gb gt} : groupRef p = some k → ctx.bmap.lookup k = some gb → targetGroup T.groups p = some gt →
      gt ∈ T.groups → gt.id = k → managed k = true → managed gb.id = true → gb.addrs = sortAddrs gt.addrs →
      TargetEntry ctx T p

theorem targetEntry {diff : Diff} {S : Store} {T : Config} {ctx : Ctx} (hcf : CtxFacts diff S T ctx)
    (hT : TargetFacts T) (p : String) : TargetEntry ctx T p := by
  cases hr : groupRef p with
  | none => exact .other (by rw [Ctx.gmb, hr]) (by rw [targetGroup, hr]) fun k h => by rw [hr] at h; cases h
  | some k =>
    cases hl : ctx.bmap.lookup k with
    | some gb =>
      obtain ⟨gt, hgt, hid, hsorted, hmgb, hmk⟩ := hcf.b_of k gb hl
      refine .group hr hl ?_ hgt hid hmk hmgb hsorted
      rw [targetGroup, hr]
      simp only [hmk, if_true]
      exact (findGroupLast_eq hT.grp_nodup k).trans (hid ▸ findGroup_mem_nodup hT.grp_nodup hgt)
    | none =>
      have hnot : managed k = true → k ∉ gids T.groups := fun _ hin => by
        obtain ⟨gb, hgb⟩ := hcf.b_dom k hin
        rw [hl] at hgb; cases hgb
      refine .other (by rw [gmb_of_groupRef hr, hl]) ?_ fun k' h hm => by rw [hr] at h; cases h; exact hnot hm
      rw [targetGroup, hr]
      show (if managed k = true then findGroupLast T.groups k else none) = none
      by_cases hm : managed k = true
      · rw [if_pos hm]; exact findGroupLast_none.mpr (hnot hm)
      · rw [if_neg hm]

theorem aext_ep {diff : Diff} {S : Store} {T : Config} {ctx : Ctx} (hcf : CtxFacts diff S T ctx) {p : String}
    (hep : epOk S p = true) (hga : ctx.gma p = none) : ctx.gmb p = none := by
  cases hb : ctx.gmb p with
  | none => rfl
  | some gb =>
    exfalso
    obtain ⟨k, hk, hl⟩ := gmb_some hb
    obtain ⟨_, _, _, _, _, hmk⟩ := hcf.b_of k gb hl
    rw [epOk_of_groupRef hk] at hep
    have hin : k ∈ gids S.groups := hasGroup_iff.mp hep
    have := gma_none_of_groupRef hk hga
    rw [hcf.a_eq, gids_sortGroups] at this
    exact this (gids_filter_managed.mpr ⟨hin, hmk⟩)

end NA.Nsx
