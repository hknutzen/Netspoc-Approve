import NA.Model.IosSession
/-!
# C15: the matchers on structured strings

The matchers computed on texts given as concatenations (`u ++ prompt ++ v`, `pre ++ banner ++ post`, `a ++ '\n' :: b`), under
side conditions on the parts (`noPH`, `runNoHash`, no BEL) that fix where the leftmost match is; for texts with an arbitrary
front part and a match behind it, that some match is found (`altFind`: one that ends no later).
-/
namespace NA.Ios

theorem isPrefixOf_append_of_not_mem (p a w : Str) (c : Char) (hc : c ∉ p) :
    p.isPrefixOf (a ++ c :: w) = p.isPrefixOf a := by
  induction p generalizing a with
  | nil => simp
  | cons x p ih =>
    have hx : x ≠ c := fun h => hc (by simp [h])
    have hp : c ∉ p := fun h => hc (by simp [h])
    cases a with
    | nil => simp [List.isPrefixOf, hx]
    | cons y a => simp [List.isPrefixOf, ih a hp]

theorem isPrefixOf_self_append (p s : Str) : p.isPrefixOf (p ++ s) = true :=
  List.isPrefixOf_iff_prefix.2 (List.prefix_append p s)

theorem isPrefixOf_false_of_append (p a b : Str) (h : p.isPrefixOf (a ++ b) = false) : p.isPrefixOf a = false :=
  Bool.eq_false_iff.2 fun hp => Bool.eq_false_iff.1 h
    (List.isPrefixOf_iff_prefix.2 ((List.isPrefixOf_iff_prefix.1 hp).trans (List.prefix_append a b)))

def routerName : Str := lit "router"

theorem promptHead_eq : promptHead = '\n' :: routerName := by decide +kernel

theorem promptHead_len : promptHead.length = 7 := by decide +kernel

/-- no line feed is followed by the device name -/
def noPH : Str → Bool
  | [] => true
  | c :: t => (c != '\n' || !routerName.isPrefixOf t) && noPH t

theorem noPH_append_nl (a b : Str) :
    noPH (a ++ '\n' :: b) = (noPH a && !routerName.isPrefixOf b && noPH b) := by
  induction a with
  | nil => simp [noPH]
  | cons c a ih =>
    have : routerName.isPrefixOf (a ++ '\n' :: b) = routerName.isPrefixOf a :=
      isPrefixOf_append_of_not_mem _ _ _ _ (by decide +kernel)
    simp only [List.cons_append, noPH, ih, this]
    cases (c != '\n' || !routerName.isPrefixOf a) <;> simp [Bool.and_assoc]

theorem noPH_of_no_nl (p : Str) (h : '\n' ∉ p) : noPH p = true := by
  induction p with
  | nil => rfl
  | cons c p ih =>
    have hc : c ≠ '\n' := fun e => h (by simp [e])
    simp [noPH, hc, ih (fun e => h (by simp [e]))]

/-- the run of non-space characters at the start (empty if a space comes first) contains no `#` -/
def runNoHash : Str → Bool
  | [] => true
  | c :: t => isReSpace c || (c != '#' && runNoHash t)

theorem lastHash_of_runNoHash (v : Str) (i : Nat) (acc : Option Nat) (h : runNoHash v = true) :
    lastHash v i acc = acc := by
  induction v generalizing i acc with
  | nil => rfl
  | cons c v ih =>
    unfold lastHash
    unfold runNoHash at h
    cases hs : isReSpace c with
    | true => simp
    | false =>
      simp [hs] at h
      have hc : (c == '#') = false := by simpa using h.1
      simp [hc, ih _ _ h.2]

theorem noPH_append_left (a b : Str) (h : noPH (a ++ b) = true) : noPH a = true := by
  induction a with
  | nil => rfl
  | cons c a ih =>
    simp only [List.cons_append, noPH, Bool.and_eq_true, Bool.or_eq_true, bne_iff_ne, ne_eq,
      Bool.not_eq_true'] at h ⊢
    exact ⟨h.1.imp_right (isPrefixOf_false_of_append _ _ _), ih h.2⟩

theorem runNoHash_append_left (a b : Str) (h : runNoHash (a ++ b) = true) : runNoHash a = true := by
  induction a with
  | nil => rfl
  | cons c a ih =>
    simp only [List.cons_append, runNoHash, Bool.or_eq_true, Bool.and_eq_true] at h ⊢
    exact h.imp_right fun h => ⟨h.1, ih h.2⟩

theorem promptHead_not_prefix (c : Char) (u w : Str) (hu : c ≠ '\n' ∨ routerName.isPrefixOf u = false)
    (hw : w = [] ∨ w.head? = some '\n') : promptHead.isPrefixOf (c :: (u ++ w)) = false := by
  rw [promptHead_eq]
  simp only [List.isPrefixOf]
  cases hc : (('\n' : Char) == c) with
  | false => simp
  | true =>
    have hr : routerName.isPrefixOf u = false := hu.resolve_left (not_not_intro (beq_iff_eq.1 hc).symm)
    rcases hw with rfl | hh
    · simp [hr]
    · cases w with
      | nil => simp [hr]
      | cons x w =>
        simp at hh; subst hh
        rw [isPrefixOf_append_of_not_mem _ _ _ _ (by decide +kernel)]
        simp [hr]

theorem lastHash_some (s : Str) (i a : Nat) : ∃ e, lastHash s i (some a) = some e := by
  induction s generalizing i a with
  | nil => exact ⟨a, rfl⟩
  | cons c s ih =>
    unfold lastHash
    split
    · exact ⟨a, rfl⟩
    · split
      · exact ih _ _
      · exact ih _ _

theorem promptFind_head (v : Str) :
    ∃ e, lastHash v 1 (some 1) = some e ∧ promptFind (promptHead ++ '#' :: v) = some (0, 7 + e) := by
  obtain ⟨e, he⟩ := lastHash_some v 1 1
  refine ⟨e, he, ?_⟩
  have h3 : lastHash ('#' :: v) 0 none = some e := he
  have hne : promptHead ++ '#' :: v = '\n' :: (routerName ++ '#' :: v) := by rw [promptHead_eq]; rfl
  rw [hne]; unfold promptFind; rw [← hne, isPrefixOf_self_append]
  simp only [if_true, promptHead_len, List.drop_left' promptHead_len, h3, Option.map_some]

theorem promptFind_skip (u w : Str) (hu : noPH u = true) (hw : w = [] ∨ w.head? = some '\n') :
    promptFind (u ++ w) = (promptFind w).map fun r => (u.length + r.1, u.length + r.2) := by
  induction u with
  | nil => simp
  | cons c u ih =>
    unfold noPH at hu
    simp only [Bool.and_eq_true, Bool.or_eq_true, bne_iff_ne, ne_eq, Bool.not_eq_true'] at hu
    rw [List.cons_append, promptFind]
    simp only [promptHead_not_prefix c u w hu.1 hw, Bool.false_eq_true, if_false]
    rw [ih hu.2]
    cases promptFind w <;> simp [Nat.add_comm, Nat.add_assoc]

theorem promptFind_at (u v : Str) (hu : noPH u = true) (hv : runNoHash v = true) :
    promptFind (u ++ promptHead ++ '#' :: v) = some (u.length, u.length + 8) := by
  obtain ⟨e, he, hp⟩ := promptFind_head v
  rw [lastHash_of_runNoHash v 1 (some 1) hv] at he
  cases he
  rw [List.append_assoc, promptFind_skip u _ hu (.inr (by rw [promptHead_eq]; rfl)), hp]
  rfl

theorem promptFind_exists (X v : Str) : ∃ r, promptFind (X ++ promptHead ++ '#' :: v) = some r := by
  induction X with
  | nil =>
    obtain ⟨e, -, hp⟩ := promptFind_head v
    exact ⟨_, hp⟩
  | cons c X ih =>
    obtain ⟨r, hr⟩ := ih
    show ∃ r, promptFind (c :: (X ++ promptHead ++ '#' :: v)) = some r
    unfold promptFind
    simp only
    split
    · exact ⟨_, rfl⟩
    · rw [hr]; exact ⟨_, rfl⟩

theorem mem_take_append {x : Char} (n : Nat) (a b : Str) (h : x ∈ (a ++ b).take n) :
    x ∈ a ∨ x ∈ b.take n := by
  rw [List.take_append] at h
  exact (List.mem_append.1 h).imp List.mem_of_mem_take fun h => List.take_subset_take_left b (Nat.sub_le n a.length) h

theorem takeWhile_append_stop (p : Char → Bool) (m r : Str) (c : Char)
    (hm : ∀ x ∈ m, p x = true) (hc : p c = false) : (m ++ c :: r).takeWhile p = m := by
  rw [List.takeWhile_append_of_pos hm, List.takeWhile_cons_of_neg (Bool.eq_false_iff.1 hc), List.append_nil]

theorem dropWhile_append_stop (p : Char → Bool) (m r : Str) (c : Char)
    (hm : ∀ x ∈ m, p x = true) (hc : p c = false) : (m ++ c :: r).dropWhile p = c :: r := by
  rw [List.dropWhile_append_of_pos hm, List.dropWhile_cons_of_neg (Bool.eq_false_iff.1 hc)]

theorem bannerText_eq (msg : Str) : bannerText msg = bannerHead ++ msg ++ bannerTail := rfl

theorem bannerTail_eq : bannerTail = '\n' :: lit "***\n" := by decide +kernel

theorem bannerAt_banner (msg post : Str) (hne : msg ≠ []) (hnl : '\n' ∉ msg) :
    bannerAt (bannerText msg ++ post) = some (msg, post) := by
  have hm : ∀ x ∈ msg, (x != '\n') = true := by
    intro x hx; simp; intro e; exact hnl (e ▸ hx)
  have e1 : bannerText msg ++ post = bannerHead ++ (msg ++ '\n' :: (lit "***\n" ++ post)) := by
    rw [bannerText_eq, bannerTail_eq]; simp
  unfold bannerAt
  rw [e1, isPrefixOf_self_append, if_pos rfl]
  simp only [List.drop_left]
  rw [takeWhile_append_stop _ _ _ _ hm (by decide +kernel), dropWhile_append_stop _ _ _ _ hm (by decide +kernel)]
  have e2 : '\n' :: (lit "***\n" ++ post) = bannerTail ++ post := by rw [bannerTail_eq]; rfl
  rw [e2, isPrefixOf_self_append, List.drop_left, List.isEmpty_eq_false_iff.2 hne]
  rfl

theorem bannerHead_list : bannerHead = ['\n', '\n', '\n', '\x07', '*', '*', '*', '\n', '*', '*', '*'] := by
  decide +kernel

/-- the fourth character of a banner is BEL -/
theorem bannerAt_none_of_no_bell (s : Str) (hb : '\x07' ∉ s.take 4) : bannerAt s = none := by
  have hpre : bannerHead.isPrefixOf s = false := Bool.eq_false_iff.2 fun hp => hb (by
    obtain ⟨t, rfl⟩ := List.isPrefixOf_iff_prefix.1 hp
    rw [bannerHead_list]; simp)
  unfold bannerAt
  rw [hpre]; rfl

theorem bannerAt_none_before (c : Char) (p msg post : Str) (hb : '\x07' ∉ c :: p) :
    bannerAt (c :: p ++ bannerText msg ++ post) = none := by
  apply bannerAt_none_of_no_bell
  rw [bannerText_eq, bannerHead_list]
  -- at most three line feeds of the banner are among the first four characters
  match p, hb with
  | [], hb | [_], hb | [_, _], hb => simpa using hb
  | x :: y :: z :: p, hb => simp at hb ⊢; exact ⟨hb.1, hb.2.1, hb.2.2.1, hb.2.2.2.1⟩

theorem bannerFind_banner (pre msg post : Str) (hb : '\x07' ∉ pre) (hne : msg ≠ []) (hnl : '\n' ∉ msg) :
    bannerFind (pre ++ bannerText msg ++ post) = some (pre, msg, post) := by
  induction pre with
  | nil =>
    obtain ⟨c, s, h⟩ : ∃ c s, bannerText msg ++ post = c :: s := ⟨'\n', _, by rw [bannerText_eq, bannerHead_list]; rfl⟩
    rw [List.nil_append, h]
    unfold bannerFind
    rw [← h, bannerAt_banner msg post hne hnl]
  | cons c p ih =>
    show bannerFind (c :: (p ++ bannerText msg ++ post)) = _
    unfold bannerFind
    have := bannerAt_none_before c p msg post hb
    simp only [List.cons_append] at this
    rw [this, ih (fun e => hb (by simp [e]))]
    rfl

theorem bannerFind_none (s : Str) (hb : '\x07' ∉ s) : bannerFind s = none := by
  induction s with
  | nil => rfl
  | cons c s ih =>
    unfold bannerFind
    have hat : bannerAt (c :: s) = none :=
      bannerAt_none_of_no_bell _ (fun e => hb (List.mem_of_mem_take e))
    rw [hat, ih (fun e => hb (by simp [e]))]; rfl

theorem splitOnNL_ne_nil (s : Str) : splitOnNL s ≠ [] := by
  induction s with
  | nil => simp [splitOnNL]
  | cons c s ih =>
    unfold splitOnNL
    cases h : splitOnNL s with
    | nil => simp
    | cons l ls => by_cases hc : (c == '\n') = true <;> simp [hc]

theorem splitOnNL_cons (c : Char) (s : Str) :
    splitOnNL (c :: s) =
      (match splitOnNL s with
       | [] => [[c]]
       | l :: ls => if c == '\n' then [] :: l :: ls else (c :: l) :: ls) := by
  rw [splitOnNL]; cases splitOnNL s <;> rfl

theorem splitOnNL_append_nl (a b : Str) : splitOnNL (a ++ '\n' :: b) = splitOnNL a ++ splitOnNL b := by
  induction a with
  | nil =>
    show splitOnNL ('\n' :: b) = [[]] ++ splitOnNL b
    rw [splitOnNL_cons]
    cases h : splitOnNL b with
    | nil => exact absurd h (splitOnNL_ne_nil b)
    | cons l ls => simp
  | cons c a ih =>
    show splitOnNL (c :: (a ++ '\n' :: b)) = splitOnNL (c :: a) ++ splitOnNL b
    rw [splitOnNL_cons, splitOnNL_cons c a, ih]
    cases h : splitOnNL a with
    | nil => exact absurd h (splitOnNL_ne_nil a)
    | cons l ls => by_cases hc : (c == '\n') = true <;> simp [hc]

theorem splitOnNL_no_nl (s : Str) (h : '\n' ∉ s) : splitOnNL s = [s] := by
  induction s with
  | nil => rfl
  | cons c s ih =>
    have hc : (c == '\n') = false := by simp; exact fun e => h (by simp [e])
    rw [splitOnNL_cons, ih (fun e => h (by simp [e]))]
    simp [hc]

theorem validOutput_cons (l : Str) (ls : List Str) :
    validOutput (l :: ls) =
      (match lineKind l with
       | .bad => ([], false)
       | .warning => ((l :: (validOutput ls).1), (validOutput ls).2)
       | _ => validOutput ls) := by
  rw [validOutput]; cases lineKind l <;> rfl

theorem validOutput_filter (ls : List Str) :
    validOutput ls = validOutput (ls.filter (fun l => !l.isEmpty)) := by
  induction ls with
  | nil => rfl
  | cons l ls ih =>
    cases hl : l.isEmpty with
    | true =>
      have : lineKind l = .empty := by simp [lineKind, hl]
      simp only [List.filter, hl, Bool.not_true]
      rw [validOutput_cons, this]; exact ih
    | false =>
      simp only [List.filter, hl, Bool.not_false]
      rw [validOutput_cons, validOutput_cons, ih]

def neLines (s : Str) : List Str := (splitOnNL s).filter (fun l => !l.isEmpty)

theorem neLines_append_nl (a b : Str) : neLines (a ++ '\n' :: b) = neLines a ++ neLines b := by
  simp [neLines, splitOnNL_append_nl]

theorem neLines_nls (n : Nat) : neLines (nls n) = [] := by
  induction n with
  | zero => rfl
  | succ n ih =>
    show neLines ([] ++ '\n' :: nls n) = []
    rw [neLines_append_nl, ih]; rfl

theorem validOutput_neLines (s : Str) : validOutput (splitOnNL s) = validOutput (neLines s) :=
  validOutput_filter _

theorem altAt_single_le (p s : Str) (e : Nat) (h : altAt [(p, false)] s = some e) : e = p.length := by
  unfold altAt at h
  split at h
  · simp at h; exact h.symm
  · simp [altAt] at h

theorem altFind_ge (p : Str) (R : Str) (k : Nat) (h : altFind [(p, false)] R = some k) : p.length ≤ k := by
  induction R generalizing k with
  | nil => simp [altFind] at h
  | cons c R ih =>
    unfold altFind at h
    cases ha : altAt [(p, false)] (c :: R) with
    | some e => rw [ha] at h; simp at h; rw [← h, altAt_single_le p _ e ha]; exact Nat.le_refl _
    | none =>
      rw [ha] at h
      cases hf : altFind [(p, false)] R with
      | none => rw [hf] at h; simp at h
      | some k' => rw [hf] at h; simp at h; have := ih k' hf; omega

theorem altFind_append_exists (p L R : Str) (k : Nat) (h : altFind [(p, false)] R = some k) :
    ∃ e, altFind [(p, false)] (L ++ R) = some e ∧ e ≤ L.length + k := by
  induction L with
  | nil => exact ⟨k, h, by simp⟩
  | cons c L ih =>
    obtain ⟨e, he, hle⟩ := ih
    show ∃ e, altFind [(p, false)] (c :: (L ++ R)) = some e ∧ e ≤ (c :: L).length + k
    unfold altFind
    cases ha : altAt [(p, false)] (c :: (L ++ R)) with
    | some e' =>
      refine ⟨e', rfl, ?_⟩
      rw [altAt_single_le p _ e' ha]
      have := altFind_ge p R k h
      simp; omega
    | none => exact ⟨e + 1, by simp [he], by simp; omega⟩

theorem endsWithHash_append (a : Str) : endsWithHash (a ++ ['#']) = true := by
  simp [endsWithHash]

theorem endsWithHash_drop (s' : Str) (e : Nat) (h : e ≤ s'.length) : endsWithHash ((s' ++ ['#']).drop e) = true := by
  rw [List.drop_append_of_le_length h]; exact endsWithHash_append _

theorem altFind_prefix (p X : Str) (hp : p ≠ []) : altFind [(p, false)] (p ++ X) = some p.length := by
  cases p with
  | nil => exact absurd rfl hp
  | cons c p =>
    show altFind [(c :: p, false)] (c :: (p ++ X)) = _
    unfold altFind
    have : altAt [(c :: p, false)] (c :: (p ++ X)) = some (c :: p).length := by
      unfold altAt
      have h := isPrefixOf_self_append (c :: p) X
      simp only [List.cons_append] at h
      simp [h]
    rw [this]

theorem cutNL_no_nl (c : Str) (h : '\n' ∉ c) : cutNL c = (c, []) := by
  induction c with
  | nil => rfl
  | cons x c ih =>
    have hx : (x == '\n') = false := by simp; exact fun e => h (by simp [e])
    rw [cutNL]; simp [hx, ih (fun e => h (by simp [e]))]

theorem cutNL_joined (c1 c2 : Str) (h : '\n' ∉ c1) : cutNL (c1 ++ '\n' :: c2) = (c1, c2) := by
  induction c1 with
  | nil => rw [List.nil_append, cutNL]; simp
  | cons x c ih =>
    have hx : (x == '\n') = false := by simp; exact fun e => h (by simp [e])
    rw [List.cons_append, cutNL]; simp [hx, ih (fun e => h (by simp [e]))]

end NA.Ios
