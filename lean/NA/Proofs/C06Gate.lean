import NA.Proofs.C06
/-
C06: the gate.  `approve` = load ; GetChanges ; gate ; apply.  If the load part always stops or
leaves the gate shut, approve sends nothing but harmless requests and fails
(`approveWith_blocked`); per backend and per interlock, the load part stops / shuts the gate.
-/
namespace NA.Gate
open NA.Gate.Spec

theorem exec_seq (env : Env) (p q : Prog) (st : St) : exec env (p ;; q) st = exec env q (exec env p st) := rfl
theorem exec_call (env : Env) (f : String) (p : Prog) (st : St) : exec env (.call f p) st = exec env p st := rfl
theorem exec_block (env : Env) (p : Prog) (st : St) : exec env (.block p) st = exec env p st := rfl
theorem exec_note (env : Env) (k t : String) (st : St) : exec env (.note k t) st = st := rfl
theorem exec_defn (env : Env) (k : String) (p : Prog) (st : St) : exec env (.defn k p) st = st := rfl
theorem exec_nop (env : Env) (st : St) : exec env .nop st = st := rfl
theorem exec_send (env : Env) (a b : String) (o : Out) (fm : FaultMode) (st : St) :
    exec env (.send a b o fm) st = sendStep env o fm st := rfl

theorem sendStep_running (env : Env) (o : Out) (fm : FaultMode) (st : St) (h : st.status = .running) :
    sendStep env o fm st =
      match env.dev st.trace o with
      | .fault why => { st with trace := st.trace ++ [o], reply := .fault why, status := faultStatus fm why }
      | r => { st with trace := st.trace ++ [o], reply := r, connected := st.connected || o == .connect } := by
  unfold sendStep
  simp only [h, Status.isRunning_running, if_true]
  cases env.dev st.trace o <;> rfl

theorem compareDevice_exec (env : Env) (load gc : Prog) (st : St) :
    exec env (compareDeviceP load gc) st = exec env gc (exec env load st) := rfl

theorem approveWith_exec (env : Env) (load gc ap : Prog) (c : Bool) (st : St) :
    exec env (approveWith load gc c ap) st =
      exec env (applyCommandsP ap) (exec env (.gate c) (exec env gc (exec env load st))) := rfl

theorem compareWith_exec (env : Env) (load gc : Prog) (st : St) :
    exec env (compareWith load gc) st = exec env .warnU (exec env gc (exec env load st)) := rfl

theorem exec_gate_open (env : Env) (c : Bool) (st : St) (h : st.errU = []) :
    exec env (.gate c) st = st := by
  simp only [exec, h]
  split <;> rfl

theorem safe_compareDevice (b : Backend) (load gc : Prog) :
    safe b (compareDeviceP load gc) = (safe b load && safe b gc) := by
  simp [compareDeviceP, loadDeviceP, getCompareP, gate_run, safe]

theorem noCrash_compareDevice (load gc : Prog) :
    noCrash (compareDeviceP load gc) = (noCrash load && noCrash gc) := by
  simp [compareDeviceP, loadDeviceP, getCompareP, gate_run, noCrash]

theorem noChange_nil (b : Backend) : NoChange b ([] : List Out) := List.forall_mem_nil _

theorem not_noChange_of_mem (b : Backend) (tr : List Out) (o : Out) (ho : o ∈ tr)
    (hh : harmless b o = false) : ¬ NoChange b tr :=
  fun h => Bool.false_ne_true (hh.symm.trans (h o ho))

theorem notPanicked_init : notPanicked ({} : St) := ⟨fun m => by simp, by simp⟩

theorem isRunning_false_of_ne {s : Status} : s.isRunning = false ↔ s ≠ .running := by
  cases s <;> simp [Status.isRunning]

theorem exit_one (st : St) (hn : st.status.isRunning = false) (hp : notPanicked st) :
    st.exit = 1 ∧ st.diagnostic.isSome = true := by
  unfold St.exit St.diagnostic
  cases h : st.status with
  | running => rw [h] at hn; cases hn
  | aborted m | failed m => simp
  | panicked m => exact absurd h (hp.1 m)
  | unfinished => exact absurd h hp.2

theorem closeStep_status (o : Option Out) (st : St) : (closeStep o st).status = st.status := by
  unfold closeStep
  split
  · rfl
  · split <;> rfl

theorem closeOut_harmless (b : Backend) (x : Out) (h : closeOut b = some x) : harmless b x = true := by
  cases b <;> simp [closeOut] at h <;> subst h <;> decide

theorem closeStep_noChange (b : Backend) (st : St) (h : NoChange b st.trace) :
    NoChange b (closeStep (closeOut b) st).trace := by
  unfold closeStep
  split
  · exact h
  · rename_i x hx
    split
    · exact noChange_append b _ _ h (closeOut_harmless b x hx)
    · exact h

/-- The structural theorem: whenever the load part (LoadDevice ; GetChanges) either stops or ends
with a non-empty `errUnmanaged` that the gate consults, approve sends only harmless requests,
ends with exit status 1 and an ERROR line. -/
theorem approveWith_blocked (env : Env) (b : Backend) (load gc ap : Prog) (c : Bool)
    (hs1 : safe b load = true ∧ safe b gc = true) (hn1 : noCrash load = true ∧ noCrash gc = true)
    (hshut : (exec env gc (exec env load {})).status.isRunning = true →
      c = true ∧ (exec env gc (exec env load {})).errU ≠ []) :
    let f := closeStep (closeOut b) (exec env (approveWith load gc c ap) {})
    NoChange b f.trace ∧ f.exit = 1 ∧ f.diagnostic.isSome = true := by
  intro f
  -- state after the load part
  let s := exec env gc (exec env load {})
  -- state after the gate: stopped
  let g := exec env (.gate c) s
  have htr : NoChange b g.trace :=
    exec_noChange env b _ rfl _
      (exec_noChange env b gc hs1.2 _ (exec_noChange env b load hs1.1 _ (noChange_nil b)))
  have hnp : notPanicked g :=
    exec_noPanic env _ rfl _ (exec_noPanic env gc hn1.2 _ (exec_noPanic env load hn1.1 _ notPanicked_init))
  have hg : g.status.isRunning = false := by
    show (exec env (.gate c) s).status.isRunning = false
    cases hr : s.status.isRunning with
    | false => exact exec_nr_status env _ s hr
    | true =>
      obtain ⟨hc, he⟩ := hshut hr
      simp only [exec, hr, hc, Bool.and_self, if_true]
      cases hel : s.errU with
      | nil => exact absurd hel he
      | cons m l => rfl
  have hf : exec env (approveWith load gc c ap) {} = g := by
    rw [approveWith_exec]; exact exec_nr env _ g hg
  have hfs : f.status = g.status := by
    rw [closeStep_status, hf]
  refine ⟨?_, exit_one f ?_ (notPanicked_of_status hfs hnp)⟩
  · show NoChange b (closeStep (closeOut b) (exec env (approveWith load gc c ap) {})).trace
    rw [hf]; exact closeStep_noChange b g htr
  · rw [hfs]; exact hg

/-- `drc FILE` / `do-approve approve` = ApproveOrCompare with `isCompare = false`. -/
theorem runMain_approve (b : Backend) (env : Env) (h : env.cfg.isCompare = false) :
    runMain b env = closeStep (closeOut b) (exec env (approveP b env.cfg) {}) := by
  simp [runMain, run, approveOrCompareP, gate_run, h]

theorem runMain_compare (b : Backend) (env : Env) (h : env.cfg.isCompare = true) :
    runMain b env = closeStep (closeOut b) (exec env (compareP b env.cfg) {}) := by
  simp [runMain, run, approveOrCompareP, gate_run, h]

theorem safe_tryNames (b : Backend) (body : String → Prog) (h : ∀ n, safe b (body n) = true) :
    ∀ names, safe b (tryNames body names) = true := by
  intro names
  induction names with
  | nil => rfl
  | cons n ns ih => simp [tryNames, safe, h n, ih]

theorem noCrash_tryNames (body : String → Prog) (h : ∀ n, noCrash (body n) = true) :
    ∀ names, noCrash (tryNames body names) = true := by
  intro names
  induction names with
  | nil => rfl
  | cons n ns ih => simp [tryNames, noCrash, h n, ih]

/-- The closed parts are evaluated; what depends on the configuration (the name list, the text
of the `grep`) does not matter to `safe`. -/
theorem safe_load (b : Backend) (cfg : Cfg) :
    safe b (backendLoad b cfg) = true ∧ safe b (backendGetChanges b) = true := by
  cases b <;> simp only [backendLoad, backendGetChanges]
  · decide +kernel
  · decide +kernel
  · exact ⟨rfl, rfl⟩
  · have h : ∀ n, safe .panos (panLoginBody n) = true := fun n => by
      simp only [panLoginBody, safe, Bool.and_true]; decide +kernel
    simp only [panLoadDevice, errRet, safe, safe_tryNames .panos panLoginBody h cfg.names, Bool.and_true,
      Bool.true_and]
    decide +kernel
  · have h : ∀ n, safe .nsx (nsxLoginBody n) = true := fun n => by
      unfold nsxLoginBody; decide +kernel
    simp only [nsxLoadDevice, safe, safe_tryNames .nsx nsxLoginBody h cfg.names, Bool.and_true, Bool.true_and]
    decide +kernel

/-- `hb`: NSX has the paging loops, and no interlock. -/
theorem noCrash_load (b : Backend) (hb : b ≠ .nsx) (cfg : Cfg) :
    noCrash (backendLoad b cfg) = true ∧ noCrash (backendGetChanges b) = true := by
  cases b with
  | asa | ios | linux => exact ⟨rfl, rfl⟩
  | panos =>
    have := noCrash_tryNames panLoginBody (fun _ => rfl) cfg.names
    refine ⟨?_, rfl⟩
    simp only [backendLoad, panLoadDevice, errRet, noCrash, this, Bool.and_true, Bool.true_and]
    rfl
  | nsx => exact absurd rfl hb

def Blocks (env : Env) (p : Prog) : Prop := ∀ st, (exec env p st).status.isRunning = false

theorem Blocks.seq_left {env : Env} {p : Prog} (h : Blocks env p) (q : Prog) : Blocks env (p ;; q) :=
  fun st => exec_nr_status env q _ (h st)

theorem Blocks.seq_right {env : Env} (p : Prog) {q : Prog} (h : Blocks env q) : Blocks env (p ;; q) :=
  fun _ => h _

theorem Blocks.call {env : Env} (f : String) {p : Prog} (h : Blocks env p) : Blocks env (.call f p) := h

/-- `out := e1(answer to q); out = e2(out); if name != out { Abort }`: the run goes on only if the
answer, so transformed (`f`), is the expected name. -/
theorem nameCheck_blocks (env : Env) (a b q : String) (d : Bool) (e1 e2 : TExp) (f : Reply → List Char)
    (hf : ∀ (pe : PEnv) (r : Reply),
      e2.eval { pe with out := e1.eval { pe with reply := r }, reply := r } = f r)
    (hw : ∀ hist, f (env.dev hist (.lit q)) ≠ env.cfg.name.toList) :
    Blocks env (.send a b (.lit q) .abort ;; .assign .out d false e1 ;; .assign .out false false e2 ;; nameCheck) := by
  intro st
  cases hr : st.status.isRunning with
  | false => exact exec_nr_status env _ st hr
  | true =>
    simp only [nameCheck, exec_seq, exec_send]
    have hs : st.status = .running := Status.isRunning_iff.mp hr
    rw [sendStep_running env _ _ st hs]
    have hw' := hw st.trace
    cases hd : env.dev st.trace (.lit q) with
    | fault w => simp [gate_run]
    | _ =>
      rw [hd, ← hf (penv env st)] at hw'
      simp [gate_run, hs] at hw' ⊢
      rw [if_neg (fun e => hw' e.symm)]; rfl

theorem asa_nameCheck_blocks (env : Env) (h : WrongHost .asa [env.cfg.name] env.dev) :
    Blocks env asaCheckDeviceName :=
  nameCheck_blocks env _ _ "show hostname" true .reply (.trimSuffix (.v .out) "\n")
    (fun r => trimSuffixL (replyText r) ['\n']) (fun _ r => by cases r <;> rfl)
    (fun hist => by simpa [hostIs] using h _ rfl hist env.cfg.name List.mem_cons_self)

theorem linux_nameCheck_blocks (env : Env) (h : WrongHost .linux [env.cfg.name] env.dev) :
    Blocks env linuxCheckDeviceName :=
  nameCheck_blocks env _ _ "hostname -s" true .reply (.trimSuffix (.v .out) "\n")
    (fun r => trimSuffixL (replyText r) ['\n']) (fun _ r => by cases r <;> rfl)
    (fun hist => by simpa [hostIs] using h _ rfl hist env.cfg.name List.mem_cons_self)

theorem ios_nameCheck_blocks (env : Env) (h : WrongHost .ios [env.cfg.name] env.dev) :
    Blocks env iosCheckDeviceName :=
  nameCheck_blocks env _ _ "" true (.trimSpace .reply) (.trimSuffix (.v .out) "#")
    (fun r => trimSuffixL (trimSpaceL (replyText r)) ['#']) (fun _ r => by cases r <;> rfl)
    (fun hist => by simpa [hostIs] using h _ rfl hist env.cfg.name List.mem_cons_self)

/-- `LoadDevice` of ASA: the name check is the third call after the login. -/
theorem asa_host_blocks (env : Env) (h : WrongHost .asa [env.cfg.name] env.dev) : Blocks env asaLoadDevice :=
  .seq_right _ (.seq_right _ (.seq_right _ (.seq_right _ (.seq_left (.call _ (asa_nameCheck_blocks env h)) _))))

theorem ios_host_blocks (env : Env) (h : WrongHost .ios [env.cfg.name] env.dev) : Blocks env iosLoadDevice :=
  .seq_right _ (.seq_right _ (.seq_right _ (.seq_right _ (.seq_left (.call _ (ios_nameCheck_blocks env h)) _))))

/-- Linux: the name check is the last call before `checkBanner`. -/
theorem linux_host_blocks (env : Env) (h : WrongHost .linux [env.cfg.name] env.dev) (cb : Prog) :
    Blocks env (linuxLoadDeviceWith cb) :=
  .seq_left (.seq_right _ (.seq_right _ (.seq_right _ (.seq_right _ (.seq_right _
    (.call _ (linux_nameCheck_blocks env h))))))) _

theorem panLoginBody_name (env : Env) (n : String) (st : St)
    (h : (exec env (panLoginBody n) st).status.isRunning = true) :
    (exec env (panLoginBody n) st).devName = n := by
  simp only [panLoginBody, errRet, exec_seq, exec_call, exec_block, exec_note] at h ⊢
  generalize exec env (Prog.check _ _ _ _) _ = x at h ⊢
  simp only [exec, running_before env _ x h, if_true]

/-- `TryReachableHTTPLogin` -/
theorem tryNames_running (env : Env) (body : String → Prog) (names : List String) :
    ∀ st, (exec env (tryNames body names) st).status.isRunning = true →
      ∃ n ∈ names, ∃ st', exec env (tryNames body names) st = exec env (body n) st' := by
  induction names with
  | nil =>
    intro st h
    simp [tryNames, exec, Pred.eval, running_before env _ st h] at h
  | cons n ns ih =>
    intro st h
    simp only [tryNames, exec, running_before env _ st h, if_true] at h ⊢
    split
    · rename_i m hm
      simp only [hm] at h
      obtain ⟨n', hn', st', e⟩ := ih _ h
      exact ⟨n', List.mem_cons_of_mem _ hn', st', e⟩
    · exact ⟨n, List.mem_cons_self, st, rfl⟩

theorem tryNames_devName (env : Env) (names : List String) (st : St)
    (h : (exec env (tryNames panLoginBody names) st).status.isRunning = true) :
    (exec env (tryNames panLoginBody names) st).devName ∈ names := by
  obtain ⟨n, hn, st', e⟩ := tryNames_running env panLoginBody names st h
  rw [e] at h ⊢
  rw [panLoginBody_name env n st' h]; exact hn

/-- The part of PAN-OS `LoadDevice` after the login loop: request the configuration, decode,
compare `<hostname>` with the name that logged in. -/
theorem panLoadSuffix_running (env : Env) (st : St)
    (hr : (exec env panLoadSuffix st).status.isRunning = true) :
    ∃ vs, env.dev st.trace panConf = .conf st.devName vs ∧
      (exec env panLoadSuffix st).reply = .conf st.devName vs := by
  have hs : st.status = .running := Status.isRunning_iff.mp (running_before env _ st hr)
  simp only [panLoadSuffix, panCheckDeviceName, errRet, exec_seq, exec_call, exec_block, exec_note,
    exec_send] at hr ⊢
  rw [sendStep_running env _ _ st hs] at hr ⊢
  cases hd : env.dev st.trace panConf with
  | fault w => simp [hd, gate_run] at hr
  | conf hname vs =>
    simp only [hd] at hr ⊢
    by_cases hc : hname = st.devName
    · subst hc; exact ⟨vs, rfl, by simp [gate_run, hs]⟩
    · simp [hc, gate_run, hs] at hr
  | _ => simp [hd, hs, gate_run] at hr

theorem panLoadSuffix_blocks (env : Env) (h : WrongHost .panos env.cfg.names env.dev) (st : St)
    (hn : st.status.isRunning = true → st.devName ∈ env.cfg.names) :
    (exec env panLoadSuffix st).status.isRunning = false := by
  refine Bool.eq_false_iff.2 fun hr => ?_
  obtain ⟨vs, hd, _⟩ := panLoadSuffix_running env st hr
  have := h panConf rfl st.trace st.devName (hn (running_before env _ st hr))
  simp [hostIs, hd] at this

theorem panos_host_blocks (env : Env) (h : WrongHost .panos env.cfg.names env.dev) :
    Blocks env (panLoadDevice env.cfg) := by
  intro st
  simp only [panLoadDevice, errRet, exec]
  exact panLoadSuffix_blocks env h _ (tryNames_devName env env.cfg.names _)

theorem haOK_eq (r : Reply) : haOK r = haActive r := by
  cases r with
  | ha e m s =>
    simp only [haOK, haActive]
    by_cases he : e = "yes"
    · by_cases h1 : m = "Active-Passive"
      · subst he h1; simp
      · by_cases h2 : m = "Active-Active"
        · subst he h2; simp
        · simp [he, h1, h2]
    · simp [he]
  | _ => rfl

theorem panLoginBody_blocks (env : Env) (h : HaPassive env.dev) (n : String) : Blocks env (panLoginBody n) := by
  intro st
  simp only [panLoginBody, errRet, exec_seq, exec_call, exec_block, exec_note]
  apply exec_nr_status
  -- state before checkHA
  generalize exec env panGetAPIKey st = x
  cases hr : x.status.isRunning with
  | false => exact exec_nr_status env _ _ (exec_nr_status env _ x hr)
  | true =>
    simp only [panCheckHA, errRet, exec_seq, exec_block, exec_note, exec_send]
    have hs : x.status = .running := Status.isRunning_iff.mp hr
    rw [sendStep_running env _ _ x hs]
    have hp : haOK (env.dev x.trace panHa) = false := (haOK_eq _).trans (h x.trace)
    cases hd : env.dev x.trace panHa with
    | fault w => simp [gate_run, haOK]
    | ha a b c =>
      rw [hd] at hp
      simp [gate_run, hs, hp]
    | _ => simp [gate_run, hs, haOK]

theorem tryNames_blocks (env : Env) (body : String → Prog) (hb : ∀ n, Blocks env (body n))
    (names : List String) : Blocks env (tryNames body names) := by
  refine fun st => Bool.eq_false_iff.2 fun hr => ?_
  obtain ⟨n, _, st', e⟩ := tryNames_running env body names st hr
  rw [e, hb n st'] at hr; cases hr

theorem panos_ha_blocks (env : Env) (h : HaPassive env.dev) : Blocks env (panLoadDevice env.cfg) :=
  .seq_right _ (.seq_left (.call _ (tryNames_blocks env panLoginBody (panLoginBody_blocks env h) _)) _)

def FromDev (dev : Dev) (s : String) : Prop := ∃ hist o, dev hist o = .text s

def BannerInv (env : Env) (st : St) : Prop :=
  (∀ s ∈ st.banner, FromDev env.dev s) ∧ (∀ s, st.reply = .text s → FromDev env.dev s)

theorem bannerInv_step (env : Env) : StepInv env (BannerInv env) where
  send := by
    intro st o fm h
    unfold sendStep
    split
    · dsimp only
      split
      · rename_i w hw
        exact ⟨h.1, fun s hs => nomatch hw.symm.trans hs⟩
      · exact ⟨h.1, fun s hs => ⟨st.trace, o, hs⟩⟩
    · exact h
  collect := by
    intro st s h hs
    exact ⟨List.forall_mem_append.2 ⟨h.1, List.forall_mem_singleton.2 (h.2 s hs)⟩, h.2⟩
  setName := fun _ _ h => h
  status := fun _ _ h => h
  errU := fun _ _ h => h
  warn := fun _ _ h => h
  retry := fun _ _ h => h
  out := fun _ _ h => h
  lines := fun _ _ h => h
  cursor := fun _ _ h => h

theorem bannerInv_init (env : Env) : BannerInv env {} := by
  refine ⟨?_, ?_⟩
  · intro s hs; cases hs
  · intro s hs; cases hs

/-- the regexp is searched in the concatenation of the collected outputs, all of which came from the device (`BannerInv`). -/
theorem ciscoCheckBanner_sets (env : Env) (r : Rx) (hb : env.cfg.banner = some r)
    (hm : MarkerNever env.dev r) (st : St) (hi : BannerInv env st)
    (hr : (exec env ciscoCheckBanner st).status.isRunning = true) :
    (exec env ciscoCheckBanner st).errU = [missingBanner] := by
  have hrun : st.status.isRunning = true := running_before env _ st hr
  have hfalse : r.search (List.flatMap String.toList st.banner) = false := by simpa using hm st.banner hi.1
  simp [ciscoCheckBanner, gate_run, hrun, hb, hfalse]

theorem cisco_marker_shut (env : Env) (r : Rx) (hb : env.cfg.banner = some r)
    (hm : MarkerNever env.dev r) (post gc : Prog) (hpost : noRecord post = true)
    (hgc : noRecord gc = true) :
    let s := exec env gc (exec env (ciscoPreLogin ;; .call "LoginEnable" ciscoLoginEnable ;; post) {})
    s.status.isRunning = true → s.errU ≠ [] := by
  intro s hr
  have e : s = exec env gc (exec env post (exec env ciscoCheckBanner
      (exec env ciscoLoginPre (exec env ciscoPreLogin {})))) := rfl
  rw [e] at hr ⊢
  have h3 := running_before env _ _ (running_before env _ _ hr)
  have hinv : BannerInv env (exec env ciscoLoginPre (exec env ciscoPreLogin {})) :=
    exec_inv env _ (bannerInv_step env) _ _ (exec_inv env _ (bannerInv_step env) _ _ (bannerInv_init env))
  rw [exec_errU env gc hgc, exec_errU env post hpost, ciscoCheckBanner_sets env r hb hm _ hinv h3]
  simp

theorem noRecord_linuxPre : noRecord linuxPreBanner = true := by decide
theorem noRecord_linuxPost : noRecord linuxPostBanner = true := by decide
theorem noRecord_linuxGetChanges : noRecord linuxGetChanges = true := by decide
theorem noRecord_asaPost : noRecord asaPostLogin = true := by decide
theorem noRecord_iosPost : noRecord iosPostLogin = true := by decide
theorem noRecord_ciscoGetChanges : noRecord ciscoGetChanges = true := by decide

theorem panMarked_eq (dn : String) : panMarked dn = vsysMarked dn := rfl

theorem panUnmarked_ne (cfg : Cfg) (vs : List (String × String))
    (h : ∃ v ∈ vs, v.1 ∈ cfg.targetVsys ∧ vsysMarked v.2 = false) : panUnmarked cfg vs ≠ [] := by
  obtain ⟨v, hv, ht, hm⟩ := h
  refine List.ne_nil_of_mem (List.mem_map_of_mem (List.mem_filter.2 ⟨hv, ?_⟩))
  simp [ht, panMarked_eq, hm]

theorem panos_marker_shut (env : Env) (h : PanNoMarker env.cfg env.dev) :
    let s := exec env panGetChanges (exec env (panLoadDevice env.cfg) {})
    s.status.isRunning = true → s.errU ≠ [] := by
  intro s hr
  have e : s = exec env panGetChanges (exec env panLoadSuffix
      (exec env (tryNames panLoginBody env.cfg.names) {})) := by
    simp [s, panLoadDevice, gate_run]
  rw [e] at hr ⊢
  generalize exec env (tryNames panLoginBody env.cfg.names) {} = x at hr ⊢
  have h1 : (exec env panLoadSuffix x).status.isRunning = true := running_before env _ _ hr
  obtain ⟨vs, hdev, hrep⟩ := panLoadSuffix_running env x h1
  have hne := panUnmarked_ne env.cfg vs (h x.trace x.devName vs hdev)
  generalize exec env panLoadSuffix x = y at hr h1 hrep ⊢
  have hne' : (panUnmarked env.cfg vs).isEmpty = false := List.isEmpty_eq_false_iff.mpr hne
  simp only [panGetChanges, panProcessVsysPairs, panCheckUnmanaged, exec_seq, exec_call, exec_note,
    exec_defn] at hr ⊢
  -- the record step appends a non-empty list; the check after it does not touch errU
  have hrec : ∀ l t : String, (exec env (Prog.record
      (.opaque l fun cfg r _ => !(panUnmarkedOf cfg r).isEmpty) t
      .append panUnmarkedOf) y).errU = y.errU ++ panUnmarked env.cfg vs := by
    simp [gate_run, h1, hrep, panUnmarkedOf, hne']
  intro hnil
  rw [exec_errU env _ rfl, hrec] at hnil
  exact hne (List.append_eq_nil_iff.mp hnil).2

theorem ciscoCheckBanner_skip (env : Env) (h : env.cfg.banner = none) (st : St) :
    (exec env ciscoCheckBanner st).errU = st.errU := by
  simp only [ciscoCheckBanner, exec_seq]
  have hx := exec_errU env (Prog.assign .lines true true .bannerLines) rfl st
  generalize exec env (Prog.assign .lines true true .bannerLines) st = x at hx
  simp [gate_run, h, hx]

theorem linuxCheckBanner_skip (env : Env) (h : env.cfg.banner = none) (st : St) :
    exec env (linuxCheckBanner env.cfg) st = st := by
  simp only [linuxCheckBanner, exec, Pred.eval, penv, h, Option.isNone_none, if_true]
  split <;> rfl

theorem cisco_errU_nil (env : Env) (h : env.cfg.banner = none) (post gc : Prog)
    (hpost : noRecord post = true) (hgc : noRecord gc = true) :
    (exec env gc (exec env (ciscoPreLogin ;; .call "LoginEnable" ciscoLoginEnable ;; post) {})).errU = [] := by
  simp only [ciscoLoginEnable, exec_seq, exec_call]
  rw [exec_errU env gc hgc, exec_errU env post hpost, ciscoCheckBanner_skip env h,
    exec_errU env ciscoLoginPre rfl, exec_errU env ciscoPreLogin rfl]

end NA.Gate
