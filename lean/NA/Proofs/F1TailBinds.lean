import NA.Proofs.F1Tail
import NA.Proofs.F1Check
/-!
# F1: the rounds of `deleteUnused` on the strict device

One round: `no access-group …` for every pending command, then the pending access lists that none of these commands
referenced, then the pending groups that no pending access list references.  `RoundOK` is what a round needs of the device for
what is pending; a round is accepted under it and re-establishes it for what stays pending (`duRound_exec`), so all rounds are an
induction on the fuel (`duRounds_exec`); every round lowers `Pending.rank` (access-group commands, access lists, groups: at most
three rounds), which the fuel of `deleteUnused` covers.
-/
namespace NA.F1
open NA.AsaDev
open NA.Acl (Range)

theorem noBinds_exec (e : Env) : ∀ (B : List Nat) (d : Dev), (B.map (keyOf e)).Nodup →
    (∀ i ∈ B, d.binds.lookup (keyOf e i) = some (aclOfI e i)) →
    exec d (B.map fun i => Chg.noBind (e.a.binds.getD i default)) =
      some { d with binds := d.binds.filter (fun p => !(B.map (keyOf e)).contains p.1),
                    mode := if B.isEmpty then d.mode else none } := by
  intro B
  induction B with
  | nil =>
    intro d _ _
    have : d.binds.filter (fun _ => true) = d.binds := List.filter_eq_self.mpr (fun _ _ => rfl)
    simp [exec_nil, this]
  | cons i is ih =>
    intro d hnd h
    simp only [List.map_cons, List.nodup_cons] at hnd
    obtain ⟨hn, hnd'⟩ := hnd
    have h1 := h i List.mem_cons_self
    have hex : exec1 d (.noBind (e.a.binds.getD i default)) = .ok { d with binds := delAssoc d.binds (keyOf e i), mode := none } :=
      exec1_noBind_ok _ h1
    rw [List.map_cons, exec_cons]
    simp only [step, hex, Option.bind_some]
    rw [ih _ hnd']
    · simp only [List.isEmpty_cons, Bool.false_eq_true, if_false]
      congr 2
      · unfold delAssoc
        rw [List.filter_filter]
        apply List.filter_congr
        intro p _
        simp only [List.map_cons, List.contains_cons, Bool.not_or, Bool.and_comm]
      · split <;> rfl
    · intro j hj
      have hne : keyOf e j ≠ keyOf e i := fun e1 => hn (e1 ▸ List.mem_map.mpr ⟨j, hj, rfl⟩)
      show (delAssoc d.binds (keyOf e i)).lookup (keyOf e j) = _
      rw [lookup_delAssoc_ne _ _ hne]
      exact h j (List.mem_cons_of_mem _ hj)

theorem filter_filter_partition {α : Type} (l : List (Name × α)) (A : List Name) (R : Name → Bool) :
    (l.filter fun p => !(A.filter fun n => !R n).contains p.1).filter (fun p => !(A.filter R).contains p.1) =
      l.filter fun p => !A.contains p.1 := by
  rw [List.filter_filter]
  apply List.filter_congr
  intro p _
  by_cases h : p.1 ∈ A
  · by_cases hr : R p.1 = true
    · have h1 : p.1 ∈ A.filter R := List.mem_filter.mpr ⟨h, hr⟩
      simp [h, h1]
    · have h1 : p.1 ∈ A.filter fun n => !R n := List.mem_filter.mpr ⟨h, by simpa using hr⟩
      simp [h, h1]
  · have h1 : p.1 ∉ A.filter R := fun hx => h (List.mem_filter.mp hx).1
    have h2 : p.1 ∉ A.filter fun n => !R n := fun hx => h (List.mem_filter.mp hx).1
    simp [h, h1, h2]

theorem aclBound_filter_false {d dd : Dev} {K : List BKey} {m : Name}
    (hdd : dd.binds = d.binds.filter fun p => !K.contains p.1) (h : ∀ p ∈ d.binds, p.1 ∉ K → p.2 ≠ m) :
    aclBound dd m = false := by
  unfold aclBound
  rw [hdd]
  refine Bool.eq_false_iff.mpr fun hh => ?_
  obtain ⟨p, hp, hpm⟩ := List.any_eq_true.mp hh
  obtain ⟨hp1, hp2⟩ := List.mem_filter.mp hp
  exact h p hp1 (by simpa using hp2) (by simpa using hpm)

/-- A pending group is referenced by no access list that is still there, unless that list is pending and
references it in the model; the pending lists that are still there are those in `R` (only their lines are looked at). -/
theorem groupReferenced_pending_false (e : Env) (A : List Name) (R : Name → Bool) {d dd : Dev} {g : Name}
    (hsub : ∀ p ∈ dd.acls, p ∈ d.acls ∧ (p.1 ∈ A → R p.1 = true))
    (hAlines : ∀ p ∈ d.acls, p.1 ∈ A → R p.1 = true → p.2 = (e.aLines p.1).map resolveA)
    (hother : ∀ p ∈ d.acls, p.1 ∉ A → ∀ l ∈ p.2, g ∉ l.names)
    (hgr : g ∉ A.flatMap fun n => (e.aLines n).flatMap (·.refs)) : groupReferenced dd g = false := by
  refine groupReferenced_false fun p hp l hl hlg => ?_
  by_cases hpA : p.1 ∈ A
  · rw [hAlines p (hsub p hp).1 hpA ((hsub p hp).2 hpA)] at hl
    obtain ⟨l0, hl0, rfl⟩ := List.mem_map.mp hl
    exact hgr (List.mem_flatMap.mpr ⟨p.1, hpA, List.mem_flatMap.mpr ⟨l0, hl0, hlg⟩⟩)
  · exact hother p (hsub p hp).1 hpA l hl hlg

structure RoundOK (e : Env) (d : Dev) (p : Pending) : Prop where
  bKeys : (p.binds.map (keyOf e)).Nodup
  bOrig : ∀ i ∈ p.binds, d.binds.lookup (keyOf e i) = some (aclOfI e i)
  aNd : p.acls.Nodup
  gNd : p.grps.Nodup
  aOk : ∀ m ∈ p.acls, hasAcl d m = true ∧ ∀ q ∈ d.binds, q.1 ∉ p.binds.map (keyOf e) → q.2 ≠ m
  aLines : ∀ q ∈ d.acls, q.1 ∈ p.acls → q.1 ∈ p.binds.map (aclOfI e) → q.2 = (e.aLines q.1).map resolveA
  gOk : ∀ g ∈ p.grps, hasGroup d g = true ∧ ∀ q ∈ d.acls, q.1 ∉ p.acls → ∀ l ∈ q.2, g ∉ l.names

structure Removed (e : Env) (d : Dev) (p : Pending) (d' : Dev) : Prop where
  acls : d'.acls = d.acls.filter fun q => !p.acls.contains q.1
  groups : ∀ g, g ∉ p.grps → d'.groups.lookup g = d.groups.lookup g ∧ d'.groups.any (·.1 == g) = d.groups.any (·.1 == g)
  binds : d'.binds = d.binds.filter fun q => !(p.binds.map (keyOf e)).contains q.1
  routes : d'.routes = d.routes
  intfs : d'.intfs = d.intfs

theorem duRound_exec (e : Env) (st : St) (p : Pending) (d : Dev) (h : RoundOK e d p) :
    ∃ cs d', (duRound e st p).1.out = st.out ++ cs ∧ exec d cs = some d' ∧ RoundOK e d' (duRound e st p).2 ∧
      d'.acls = d.acls.filter (fun q =>
        !(p.acls.filter fun n => !(p.binds.map fun i => (e.a.binds.getD i default).acl).contains n).contains q.1) ∧
      d'.groups = d.groups.filter (fun q =>
        !(p.grps.filter fun g => !(p.acls.flatMap fun n => (e.aLines n).flatMap (·.refs)).contains g).contains q.1) ∧
      d'.binds = d.binds.filter (fun q => !(p.binds.map (keyOf e)).contains q.1) ∧ d'.routes = d.routes ∧ d'.intfs = d.intfs := by
  obtain ⟨hBk, hBo, hA, hG, hAok, hAl, hGok⟩ := h
  obtain ⟨B, A, G⟩ := p
  obtain ⟨o1, p1⟩ := duRound_out e st ⟨B, A, G⟩
  rw [p1]
  generalize hR : (B.map fun i => (e.a.binds.getD i default).acl) = R at o1 ⊢
  have hAl' : ∀ q ∈ d.acls, q.1 ∈ A → R.contains q.1 = true → q.2 = (e.aLines q.1).map resolveA :=
    fun q hq h1 h2 => hAl q hq h1 (hR ▸ List.contains_iff_mem.mp h2)
  -- a pending access list that is still there after the clearing is one of those in `R`
  have hstay : ∀ q ∈ d.acls.filter (fun q => !(A.filter fun n => !R.contains n).contains q.1), q.1 ∈ A → R.contains q.1 = true := by
    intro q hq hqA
    cases hr : R.contains q.1 with
    | true => rfl
    | false =>
      have h2 := (List.mem_filter.mp hq).2
      rw [List.contains_eq_mem, decide_eq_true (List.mem_filter.mpr ⟨hqA, by rw [hr]; rfl⟩)] at h2
      exact absurd h2 (by decide)
  refine ⟨_, _, o1, exec_append_some (noBinds_exec e B d hBk hBo) (exec_append_some
    (clearAcls_exec _ _ (hA.filter _) fun m hm => ?_) (noGrps_exec _ _ (hG.filter _) fun g hg => ?_)),
    ⟨List.nodup_nil, fun _ hi => (nomatch hi), hA.filter _, hG.filter _, fun m hm => ?_, fun _ _ _ hx => (nomatch hx), fun g hg => ?_⟩,
    rfl, rfl, rfl, rfl, rfl⟩
  · have hmA := (List.mem_filter.mp hm).1
    exact ⟨(hAok m hmA).1, aclBound_filter_false rfl (hAok m hmA).2⟩
  · obtain ⟨hgG, hgr⟩ := List.mem_filter.mp hg
    exact ⟨(hGok g hgG).1, groupReferenced_pending_false e A R.contains
      (fun q hq => ⟨(List.mem_filter.mp hq).1, hstay q hq⟩) hAl' (hGok g hgG).2
      (by simpa only [Bool.not_eq_true', List.contains_eq_mem, decide_eq_false_iff_not] using hgr)⟩
  · have hmA := (List.mem_filter.mp hm).1
    refine ⟨?_, fun q hq _ => (hAok m hmA).2 q (List.mem_filter.mp hq).1 (by simpa using (List.mem_filter.mp hq).2)⟩
    show (d.acls.filter _).any (·.1 == m) = true
    rw [(filter_notin_keep _ m (filter_parts_disjoint A R.contains m hm) d.acls).2]
    exact (hAok m hmA).1
  · have hgG := (List.mem_filter.mp hg).1
    refine ⟨?_, fun q hq hqA' => (hGok g hgG).2 q (List.mem_filter.mp hq).1 fun hqA =>
      hqA' (List.mem_filter.mpr ⟨hqA, hstay q hq hqA⟩)⟩
    show (d.groups.filter _).any (·.1 == g) = true
    rw [(filter_notin_keep _ g (filter_parts_disjoint G _ g hg) d.groups).2]
    exact (hGok g hgG).1

/-- Rounds still needed: one for the access-group commands, one for the access lists, one for the groups. -/
def Pending.rank (p : Pending) : Nat := min p.binds.length 1 + min p.acls.length 1 + min p.grps.length 1

theorem min_filter_le {α : Type} (f : α → Bool) (l : List α) : min (l.filter f).length 1 ≤ min l.length 1 := by
  have := List.length_filter_le f l
  omega

theorem rank_duRound (e : Env) (st : St) (p : Pending) (hE : ¬ p.isEmpty = true) :
    (duRound e st p).2.rank < p.rank := by
  rw [(duRound_out e st p).2]
  obtain ⟨B, A, G⟩ := p
  have hA := min_filter_le (B.map fun i => (e.a.binds.getD i default).acl).contains A
  have hG := min_filter_le (A.flatMap fun n => (e.aLines n).flatMap (·.refs)).contains G
  simp only [Pending.rank, List.length_nil, Nat.zero_min, Nat.zero_add]
  cases B with
  | cons b bs => exact Nat.lt_of_le_of_lt (Nat.add_le_add hA hG) (by simp only [List.length_cons]; omega)
  | nil =>
    cases A with
    | cons a as => exact Nat.lt_of_le_of_lt (Nat.add_le_add (Nat.le_of_eq rfl) hG) (by simp [filter_nil_contains])
    | nil =>
      cases G with
      | cons g gs => simp [filter_nil_contains]
      | nil => exact absurd rfl hE

theorem duRounds_exec (e : Env) : ∀ (n : Nat) (st : St) (p : Pending) (d : Dev), RoundOK e d p → p.rank ≤ n →
    ∃ tail d', (duRounds e n st p).out = st.out ++ tail ∧ exec d tail = some d' ∧ Removed e d p d' := by
  have empty : ∀ (st : St) (p : Pending) (d : Dev), p.isEmpty = true →
      ∃ tail d', st.out = st.out ++ tail ∧ exec d tail = some d' ∧ Removed e d p d' := by
    intro st p d hE
    obtain ⟨⟨hB, hA⟩, hG⟩ : (p.binds = [] ∧ p.acls = []) ∧ p.grps = [] := by simpa [Pending.isEmpty] using hE
    exact ⟨[], d, (List.append_nil _).symm, exec_nil d, by rw [hA]; exact (List.filter_eq_self.mpr fun _ _ => rfl).symm,
      fun _ _ => ⟨rfl, rfl⟩, by rw [hB]; exact (List.filter_eq_self.mpr fun _ _ => rfl).symm, rfl, rfl⟩
  intro n
  induction n with
  | zero =>
    intro st p d _ hr
    by_cases hE : p.isEmpty = true
    · exact empty st p d hE
    · exact absurd (Nat.lt_of_lt_of_le (rank_duRound e st p hE) hr) (Nat.not_lt_zero _)
  | succ n ih =>
    intro st p d h hr
    unfold duRounds
    by_cases hE : p.isEmpty = true
    · rw [if_pos hE]; exact empty st p d hE
    · rw [if_neg hE]
      obtain ⟨cs, d1, o1, e1, ok1, a1, g1, b1, r1, i1⟩ := duRound_exec e st p d h
      have hrk := Nat.le_of_lt_succ (Nat.lt_of_lt_of_le (rank_duRound e st p hE) hr)
      have p1 := (duRound_out e st p).2
      generalize duRound e st p = q at o1 ok1 hrk p1
      obtain ⟨st1, pp⟩ := q
      obtain ⟨tail, d2, o2, e2, rm⟩ := ih st1 pp d1 ok1 hrk
      subst p1
      refine ⟨cs ++ tail, d2, by rw [o2, o1, List.append_assoc], exec_append_some e1 e2, ?_, ?_, ?_,
        rm.routes.trans r1, rm.intfs.trans i1⟩
      · rw [rm.acls, a1]
        exact filter_filter_partition d.acls p.acls fun n => (p.binds.map (aclOfI e)).contains n
      · intro g hg
        obtain ⟨x1, x2⟩ := rm.groups g fun hx => hg (List.mem_filter.mp hx).1
        rw [x1, x2, g1]
        exact filter_notin_keep _ g (fun hx => hg (List.mem_filter.mp hx).1) d.groups
      · rw [rm.binds, b1]
        exact List.filter_eq_self.mpr fun _ _ => rfl

/-- What is pending: access lists and groups of the device that are not `needed`; and an access list of the device
that is neither `needed` nor pending protects the groups it references (`follow` of the first loop). -/
theorem duPending_spec (e : Env) (st : St) (managed : List Nat) :
    (∀ m ∈ (duPending e st managed).1.acls, m ∈ e.a.acls.map (·.1) ∧ m ∉ st.aNeeded) ∧
    (∀ g ∈ (duPending e st managed).1.grps, g ∈ e.a.groups.map (·.1) ∧ g ∉ st.gNeeded ∧
      ∀ n ∈ e.a.acls.map (·.1), n ∉ st.aNeeded → n ∉ (duPending e st managed).1.acls → ∀ l ∈ e.aLines n, g ∉ l.refs) ∧
    ((e.a.acls.map (·.1)).Nodup → (duPending e st managed).1.acls.Nodup) ∧
    ((e.a.groups.map (·.1)).Nodup → (duPending e st managed).1.grps.Nodup) := by
  unfold duPending
  simp only []
  generalize ((managed.filter fun i => !st.bNeeded.contains i && !st.bToDel.contains i).map
    fun i => (e.a.binds.getD i default).acl).filter (fun n => !st.aNeeded.contains n) = S
  refine ⟨fun m hm => ?_, fun g hg => ?_, fun h => sortS_nodup ((h.sublist List.filter_sublist).sublist List.filter_sublist),
    fun h => sortS_nodup ((h.sublist List.filter_sublist).sublist List.filter_sublist)⟩
  · obtain ⟨h1, h2⟩ := List.mem_filter.mp (List.mem_filter.mp (mem_sortS.mp hm)).1
    exact ⟨h1, by simpa using ((Bool.and_eq_true _ _).mp h2).1⟩
  · obtain ⟨hg1, hg2⟩ := List.mem_filter.mp (mem_sortS.mp hg)
    obtain ⟨h1, h2⟩ := List.mem_filter.mp hg1
    have hgn : g ∉ st.gNeeded := by simpa using ((Bool.and_eq_true _ _).mp h2).1
    refine ⟨h1, hgn, fun n hn hna hnp l hl hgl => ?_⟩
    -- `n` is among the access lists `follow` starts from
    simp only [Bool.not_eq_true', List.contains_eq_mem, decide_eq_false_iff_not] at hg2
    apply hg2
    refine List.mem_filter.mpr ⟨List.mem_flatMap.mpr ⟨n, List.mem_filter.mpr ⟨hn, ?_⟩, List.mem_flatMap.mpr ⟨l, hl, hgl⟩⟩,
      by simpa using hgn⟩
    by_cases hs : n ∈ S
    · simp [hna, hs]
    · by_cases hd : (st.aToDel.contains n || isTagged n) = true
      · exact absurd (mem_sortS.mpr (List.mem_filter.mpr ⟨List.mem_filter.mpr ⟨hn, by simpa [hna] using hd⟩, by simp [hs]⟩)) hnp
      · simp only [Bool.or_eq_true, List.contains_eq_mem, decide_eq_true_eq, not_or] at hd
        simp [hna, hd.1, hd.2]

/-- So the fuel of `duRounds` covers every round that is needed. -/
theorem duPending_rank (e : Env) (st : St) (managed : List Nat) :
    (duPending e st managed).1.rank ≤ e.a.acls.length + e.a.groups.length + 2 := by
  obtain ⟨pa, pg, _, _⟩ := duPending_spec e st managed
  have bound : ∀ {l ks : List Name}, (∀ m ∈ l, m ∈ ks) → min l.length 1 ≤ ks.length := by
    intro l ks h
    cases l with
    | nil => simp
    | cons m _ =>
      have := List.length_pos_of_mem (h m List.mem_cons_self)
      omega
  have hA := bound fun m hm => (pa m hm).1
  have hG := bound fun g hg => (pg g hg).1
  rw [List.length_map] at hA hG
  unfold Pending.rank
  omega

theorem deleteUnused_exec (e : Env) (st : St) (managed : List Nat) (d : Dev) (hm : ModeRel st d)
    (h : RoundOK e d (duPending e st managed).1) :
    ∃ tail d', (deleteUnused e st managed).out = st.out ++ tail ∧ exec d tail = some d' ∧
      Removed e d (duPending e st managed).1 d' := by
  have hrank := duPending_rank e st managed
  generalize hq : duPending e st managed = q at h hrank ⊢
  obtain ⟨p, sr⟩ := q
  by_cases hE : p.isEmpty = true
  · obtain ⟨tail, d', o, x, rm⟩ := duRounds_exec e _ st p d h hrank
    rw [duRounds, if_pos hE] at o
    exact ⟨tail, d', by rw [deleteUnused_nothing hq hE]; exact o, x, rm⟩
  · obtain ⟨cs0, st2, md, hdu, ho2, he0⟩ := deleteUnused_start d hm hq hE
    -- `RoundOK` does not look at the mode
    obtain ⟨tail, d', o, x, rm⟩ := duRounds_exec e _ st2 p { d with mode := md } ⟨h.1, h.2, h.3, h.4, h.5, h.6, h.7⟩ hrank
    exact ⟨cs0 ++ tail, d', by rw [hdu, o, ho2, List.append_assoc], exec_append_some he0 x, ⟨rm.1, rm.2, rm.3, rm.4, rm.5⟩⟩

end NA.F1
