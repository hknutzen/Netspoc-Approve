import NA.Model.Lock
/-!
# C12 — the lock model over all schedules

One invariant `Inv` of the world, kept by every action; what the property says — the protected steps of the runs for one
device form separate blocks, a dead holder frees its lock, every entry of the lock table has a reason, one holder excludes any
number of contenders — is read off it (the blocks and the table entries by an induction of their own over it: `sep_run`,
`justified_run`).  Core Lean only.
-/
namespace NA.Lock
open NA.Flock NA.LockSkel

theorem safe_err_tail (l p : Bool) : safe l p [.printErr, .exit 1] = true := rfl

theorem safe_exit_tail (l p : Bool) : safe l p [.exit 1] = true := rfl

theorem safe_onError (l p : Bool) (rest : List Step) (h : safe l p rest = true) :
    safe l p (onError rest) = true := by
  unfold onError; split
  · exact safe_err_tail l p
  · exact h

theorem noflock_onError (rest : List Step) (h : rest.contains .flock = false) :
    (onError rest).contains .flock = false := by
  unfold onError; split
  · simp
  · exact h

/-- Holding the lock, without a pinned lock file and without a `defer` ahead, a disciplined
program has neither a `flock` nor a protected step ahead: losing the lock to the finaliser is harmless. -/
theorem safe_unpinned (prog : List Step) (h : safe true false prog = true)
    (hd : prog.contains .deferClose = false) :
    prog.contains .flock = false ∧ safe false false prog = true := by
  induction prog with
  | nil => simp [safe]
  | cons s rest ih =>
    have hd' : rest.contains .deferClose = false := by
      simp at hd ⊢; exact hd.2
    cases s <;> simp [safe, Step.protected] at h hd ⊢ <;>
      first
        | exact ih h hd'
        | (obtain ⟨h1, h2⟩ := h; exact ih h2 hd')
        | skip
    all_goals simp_all


structure Proc.OK (p : Proc) : Prop where
  safe : p.st = .running → safe p.holds p.pinned p.prog = true
  lostTail : p.st = .running → p.lost = true → p.prog = [.printErr, .exit 1] ∨ p.prog = [.exit 1]
  lostNever : p.lost = true → p.everHeld = false
  heldEver : p.holds = true → p.everHeld = true
  holdsRun : p.holds = true → p.st = .running
  noRelock : p.st = .running → p.everHeld = true → p.holds = false → p.prog.contains .flock = false
  lostExit : p.lost = true → ∀ c, p.st = .exited c → c = 1

theorem safe_plain (l p : Bool) (s : Step) (rest : List Step) (hs : s.plain = true) :
    safe l p (s :: rest) = ((!s.protected || (l && p)) && safe l p rest) := by
  cases s <;> simp_all [safe, Step.plain]

theorem onError_cases (rest : List Step) : onError rest = rest ∨ onError rest = [.printErr, .exit 1] := by
  unfold onError; split <;> simp

theorem next_plain (p : Proc) (s : Step) (rest : List Step) (hp : p.prog = s :: rest)
    (hs : s.plain = true) (hsafe : safe p.holds p.pinned (s :: rest) = true) (free fail : Bool) :
    ∃ X ok, (X = rest ∨ X = [.printErr, .exit 1]) ∧
      p.next free fail = ⟨{ p with prog := X }, .none, ok⟩ := by
  unfold Proc.next
  rw [hp]
  cases s <;> simp [Step.plain] at hs <;> simp only
  case openLock =>
    cases fail
    · exact ⟨rest, true, Or.inl rfl, by simp⟩
    · simp only [if_true]
      unfold skipFlock
      split
      · refine ⟨_, false, Or.inr ?_, rfl⟩
        simp [safe, Step.protected] at hsafe
        simp [onError, hsafe.1.2]
      · exact ⟨_, false, onError_cases _, rfl⟩
  case errReturn =>
    cases fail
    · exact ⟨rest, true, Or.inl rfl, by simp⟩
    · exact ⟨[.printErr, .exit 1], false, Or.inr rfl, by simp⟩
  all_goals first
    | exact ⟨rest, true, Or.inl rfl, rfl⟩
    | (cases fail
       · exact ⟨rest, true, Or.inl rfl, by simp⟩
       · exact ⟨onError rest, false, onError_cases rest, by simp⟩)

/-- What one step does to the record of a process, in the terms the invariant of the world is stated in. -/
structure NextFacts (p : Proc) (o : Out) (free : Bool) : Prop where
  ok : o.proc.OK
  lockFile : o.proc.lockFile = p.lockFile
  acq : o.op = .acquire → free = true ∧ o.proc.holds = true
  nop : o.op = .none → o.proc.holds = p.holds
  rel : o.op = .release → o.proc.holds = false
  ever : p.everHeld = true → o.proc.everHeld = true
  pinned : p.pinned = true → o.proc.pinned = true
  keeps : p.holds = true → o.proc.st = .running → o.proc.holds = true
  prot : ∀ s rest, p.prog = s :: rest → s.protected = true →
    p.holds = true ∧ p.pinned = true ∧ o.proc.st = .running
  lostOld : p.lost = true → o.proc.lost = true
  lostNew : p.lost = false → o.proc.lost = true →
    o.proc.st = .running ∧ o.proc.prog = [.printErr, .exit 1]
  running : o.proc.st ≠ .running → o.op = .release

theorem ok_at_flock {p : Proc} (h : p.OK) (hr : p.st = .running) {rest : List Step}
    (hp : p.prog = .flock :: rest) :
    p.holds = false ∧ guarded rest = true ∧ safe true p.pinned rest = true ∧ p.lost = false ∧
      p.everHeld = false := by
  have hsafe := h.safe hr
  rw [hp] at hsafe
  simp only [safe, Bool.and_eq_true, Bool.not_eq_true'] at hsafe
  obtain ⟨⟨hh, hg⟩, hs⟩ := hsafe
  refine ⟨hh, hg, hs, ?_, ?_⟩
  · exact Bool.eq_false_iff.mpr fun hl => by
      rcases h.lostTail hr hl with h' | h' <;> rw [hp] at h' <;> cases h'
  · exact Bool.eq_false_iff.mpr fun he => by
      have := h.noRelock hr he hh; rw [hp] at this; simp at this

/-- The program advances (to the rest, or to the error exit) and at most the lock file gets pinned:
every plain step, `defer lockFH.Close()`, a conditional return that is not taken. -/
theorem nextFacts_advance (p : Proc) (h : p.OK) (hr : p.st = .running) (s : Step) (rest X : List Step)
    (q ok free : Bool) (hp : p.prog = s :: rest) (hs : ∀ c, s ≠ .exit c)
    (hX : X = rest ∨ X = [.printErr, .exit 1]) (hq : p.pinned = true → q = true)
    (hprot : s.protected = true → p.holds = true ∧ p.pinned = true)
    (hrest : safe p.holds q rest = true) :
    NextFacts p ⟨{ p with prog := X, pinned := q }, .none, ok⟩ free where
  ok := {
    safe := fun _ => by
      rcases hX with rfl | rfl
      · exact hrest
      · exact safe_err_tail _ _
    lostTail := fun _ hl => by
      rcases hX with rfl | rfl
      · rcases h.lostTail hr hl with h' | h' <;> rw [hp] at h' <;> cases h'
        · exact Or.inr rfl
        · exact absurd rfl (hs 1)
      · exact Or.inl rfl
    lostNever := h.lostNever
    heldEver := h.heldEver
    holdsRun := h.holdsRun
    noRelock := fun _ he hh => by
      have := h.noRelock hr he hh
      rcases hX with rfl | rfl
      · rw [hp] at this; simp only [List.contains_cons, Bool.or_eq_false_iff] at this; exact this.2
      · rfl
    lostExit := h.lostExit }
  lockFile := rfl
  acq := nofun
  nop := fun _ => rfl
  rel := nofun
  ever := id
  pinned := hq
  keeps := fun hh _ => hh
  prot := fun s' rest' heq hs' => by
    rw [hp] at heq; cases heq
    exact ⟨(hprot hs').1, (hprot hs').2, hr⟩
  lostOld := id
  lostNew := fun h1 h2 => by cases h1.symm.trans h2
  running := absurd hr

/-- The process ends: end of `Main`, `exit c`, a conditional return that is taken.  A loser ends
with status 1; the step is not a protected one. -/
theorem nextFacts_end (p : Proc) (h : p.OK) (c : Nat) (X : List Step) (free : Bool)
    (hc : p.lost = true → c = 1) (hprot : ∀ s rest, p.prog = s :: rest → s.protected = false) :
    NextFacts p ⟨{ p with st := .exited c, holds := false, prog := X }, .release, true⟩ free where
  ok := { safe := nofun, lostTail := nofun, lostNever := h.lostNever, heldEver := nofun,
          holdsRun := nofun, noRelock := nofun,
          lostExit := fun hl _ hc' => by cases hc'; exact hc hl }
  lockFile := rfl
  acq := nofun
  nop := nofun
  rel := fun _ => rfl
  ever := id
  pinned := id
  keeps := fun _ => nofun
  prot := fun s rest hp hs => by rw [hprot s rest hp] at hs; cases hs
  lostOld := id
  lostNew := fun h1 h2 => by cases h1.symm.trans h2
  running := fun _ => rfl

theorem nextFacts_acquire (p : Proc) (h : p.OK) (hr : p.st = .running) (rest : List Step)
    (hp : p.prog = .flock :: rest) :
    NextFacts p ⟨{ p with prog := rest, holds := true, everHeld := true }, .acquire, true⟩ true := by
  obtain ⟨_, _, hs, hl, _⟩ := ok_at_flock h hr hp
  exact {
    ok := { safe := fun _ => hs
            lostTail := fun _ hl' => by cases hl.symm.trans hl'
            lostNever := fun hl' => by cases hl.symm.trans hl'
            heldEver := fun _ => rfl, holdsRun := fun _ => hr, noRelock := fun _ _ => nofun
            lostExit := fun hl' => by cases hl.symm.trans hl' }
    lockFile := rfl
    acq := fun _ => ⟨rfl, rfl⟩
    nop := nofun
    rel := nofun
    ever := fun _ => rfl
    pinned := id
    keeps := fun _ _ => rfl
    prot := fun s rest' heq hs' => by rw [hp] at heq; cases heq; cases hs'
    lostOld := id
    lostNew := fun h1 h2 => by cases h1.symm.trans h2
    running := absurd hr }

/-- `flock` fails: a loser, about to print the error and exit with 1. -/
theorem nextFacts_lose (p : Proc) (h : p.OK) (hr : p.st = .running) (rest : List Step)
    (hp : p.prog = .flock :: rest) (free : Bool) :
    NextFacts p ⟨{ p with prog := onError rest, lost := true }, .none, false⟩ free := by
  obtain ⟨hh, hg, _, _, he⟩ := ok_at_flock h hr hp
  have hoe : onError rest = [.printErr, .exit 1] := by simp [onError, hg]
  rw [hoe]
  exact {
    ok := { safe := fun _ => safe_err_tail _ _, lostTail := fun _ _ => Or.inl rfl
            lostNever := fun _ => he
            heldEver := fun hh' => by cases hh.symm.trans hh'
            holdsRun := fun _ => hr, noRelock := fun _ _ _ => rfl
            lostExit := fun _ c hc => by cases hr.symm.trans hc }
    lockFile := rfl
    acq := nofun
    nop := fun _ => rfl
    rel := nofun
    ever := id
    pinned := id
    keeps := fun hh' _ => hh'
    prot := fun s rest' heq hs' => by rw [hp] at heq; cases heq; cases hs'
    lostOld := fun _ => rfl
    lostNew := fun _ _ => ⟨hr, rfl⟩
    running := absurd hr }

theorem next_facts (p : Proc) (h : p.OK) (hr : p.st = .running) (free fail : Bool) :
    NextFacts p (p.next free fail) free := by
  have hsafe := h.safe hr
  -- a loser is at `[printErr, exit 1]` or `[exit 1]`: if it ends now, then with status 1
  have hexit : ∀ c rest, p.prog = .exit c :: rest → p.lost = true → c = 1 := by
    intro c rest hp hl
    rcases h.lostTail hr hl with h' | h' <;> rw [hp] at h' <;> cases h'
    rfl
  cases hp : p.prog with
  | nil =>
    have hn : p.next free fail = ⟨{ p with st := .exited 0, holds := false, prog := p.prog }, .release, true⟩ := by
      simp only [Proc.next, hp]
    rw [hn]
    refine nextFacts_end p h 0 _ free (fun hl => ?_) (fun s rest hp' => by rw [hp] at hp'; cases hp')
    rcases h.lostTail hr hl with h' | h' <;> rw [hp] at h' <;> cases h'
  | cons s rest =>
    rw [hp] at hsafe
    by_cases hs : s.plain = true
    · obtain ⟨X, ok, hX, hn⟩ := next_plain p s rest hp hs hsafe free fail
      rw [hn]
      rw [safe_plain _ _ _ _ hs, Bool.and_eq_true] at hsafe
      refine nextFacts_advance p h hr s rest X p.pinned ok free hp ?_ hX id (fun hprot => ?_) hsafe.2
      · intro c hc; rw [hc] at hs; cases hs
      · simpa [hprot] using hsafe.1
    · cases s <;> simp only [Step.plain, not_true_eq_false] at hs
      case flock =>
        simp only [Proc.next, hp]
        cases free <;> cases fail
        case true.false => exact nextFacts_acquire p h hr rest hp
        all_goals exact nextFacts_lose p h hr rest hp _
      case closeLock => simp [safe] at hsafe
      case deferClose =>
        simp only [Proc.next, hp]
        exact nextFacts_advance p h hr _ rest rest true true free hp nofun (Or.inl rfl) (fun _ => rfl) nofun hsafe
      case exit c =>
        simp only [Proc.next, hp]
        exact nextFacts_end p h c rest free (hexit c rest hp) (fun s' rest' hp' => by rw [hp] at hp'; cases hp'; rfl)
      case mayExit c =>
        simp only [Proc.next, hp]
        cases fail
        · exact nextFacts_advance p h hr _ rest rest p.pinned true free hp nofun (Or.inl rfl) id nofun hsafe
        · refine nextFacts_end p h c rest free (fun hl => ?_) (fun s' rest' hp' => by rw [hp] at hp'; cases hp'; rfl)
          rcases h.lostTail hr hl with h' | h' <;> rw [hp] at h' <;> cases h'

theorem next_lockFile (p : Proc) (free fail : Bool) : (p.next free fail).proc.lockFile = p.lockFile := by
  unfold Proc.next
  cases p.prog with
  | nil => rfl
  | cons s rest => cases s <;> simp only <;> split <;> rfl

theorem next_dead (p : Proc) (free fail : Bool) : (p.next free fail).proc.st ≠ .running ∨
    (p.next free fail).proc.st = p.st := by
  unfold Proc.next
  cases p.prog with
  | nil => left; simp
  | cons s rest => cases s <;> simp only <;> (try split) <;> simp

theorem next_op_acquire (p : Proc) (free fail : Bool) (h : (p.next free fail).op = .acquire) :
    ∃ rest, p.prog = .flock :: rest := by
  unfold Proc.next at h
  cases hp : p.prog with
  | nil => simp [hp] at h
  | cons s rest =>
    rw [hp] at h
    cases s <;> simp only at h <;> (try split at h) <;> simp at h
    exact ⟨rest, rfl⟩

theorem ok_dead (p : Proc) (h : p.OK) : ({ p with st := .killed, holds := false } : Proc).OK where
  safe := nofun
  lostTail := nofun
  lostNever := h.lostNever
  heldEver := nofun
  holdsRun := nofun
  noRelock := nofun
  lostExit := fun _ _ => nofun

theorem gcable_iff {p : Proc} : p.gcable = true ↔
    p.st = .running ∧ p.holds = true ∧ p.pinned = false ∧ p.prog.contains .deferClose = false := by
  simp [Proc.gcable, and_assoc]

/-- What one action can do to the record of one process: nothing; one step of its program; SIGKILL; the
finaliser closing its lock file. -/
inductive Moves (p : Proc) : Proc → Prop
  | stay : Moves p p
  | step (free fail : Bool) (hr : p.st = .running) : Moves p (p.next free fail).proc
  | kill (hr : p.st = .running) : Moves p { p with st := .killed, holds := false }
  | gc (hg : p.gcable = true) : Moves p { p with holds := false }

theorem Moves.lockFile {p p' : Proc} (h : Moves p p') : p'.lockFile = p.lockFile := by
  cases h with
  | step free fail _ => exact next_lockFile p free fail
  | _ => rfl

theorem Moves.dead {p p' : Proc} (h : Moves p p') (hd : p.st ≠ .running) : p' = p := by
  cases h with
  | stay => rfl
  | step _ _ hr | kill hr => exact absurd hr hd
  | gc hg => exact absurd (gcable_iff.1 hg).1 hd

theorem Moves.ok {p p' : Proc} (h : Moves p p') (hok : p.OK) : p'.OK := by
  cases h with
  | stay => exact hok
  | step free fail hr => exact (next_facts p hok hr free fail).ok
  | kill _ => exact ok_dead p hok
  | gc hg =>
    -- not pinned and no `defer` ahead: a disciplined program has neither a `flock` nor a protected step left
    obtain ⟨hr, hh, hpin, hd⟩ := gcable_iff.1 hg
    have hsafe := hok.safe hr
    rw [hh, hpin] at hsafe
    obtain ⟨hnf, hsf⟩ := safe_unpinned _ hsafe hd
    exact { safe := fun _ => hpin ▸ hsf, lostTail := hok.lostTail, lostNever := hok.lostNever,
            heldEver := nofun, holdsRun := nofun, noRelock := fun _ _ _ => hnf, lostExit := hok.lostExit }

theorem Moves.held_once {p p' : Proc} (h : Moves p p') (hok : p.OK) (he : p.everHeld = true) :
    p'.everHeld = true ∧ (p.holds = false → p'.holds = false) := by
  cases h with
  | stay => exact ⟨he, id⟩
  | kill _ | gc _ => exact ⟨he, fun _ => rfl⟩
  | step free fail hr =>
    have nf := next_facts p hok hr free fail
    refine ⟨nf.ever he, fun hh => ?_⟩
    cases hop : (p.next free fail).op with
    | none => rw [nf.nop hop]; exact hh
    | release => exact nf.rel hop
    | acquire =>
      obtain ⟨rest, hp⟩ := next_op_acquire _ _ _ hop
      cases he.symm.trans (ok_at_flock hok hr hp).2.2.2.2

theorem releaseOf_eq_some (w : World) (i j : Pid) (g : String) :
    w.releaseOf i g = some j ↔ w.table g = some j ∧ (w.childHasFd i = true ∨ j ≠ i) :=
  Table.release_unless_eq_some _ _ _ _ _

theorem releaseOf_none (w : World) (i : Pid) (g : String) (h : w.table g = none) :
    w.releaseOf i g = none :=
  Table.release_unless_none _ _ _ _ h

/-- Closing the holder's descriptors frees the file — unless a live child has a descriptor of it. -/
theorem releaseOf_holder (w : World) (i : Pid) (g : String) (h : w.table g = some i)
    (hc : w.childHasFd i = false) : w.releaseOf i g = none := by
  unfold World.releaseOf
  rw [hc]; exact Table.release_of_holder _ _ _ h

theorem releaseOf_clears (w : World) (i : Pid) (g : String) (hc : w.childHasFd i = false) :
    w.releaseOf i g ≠ some i := by
  intro h
  rcases ((releaseOf_eq_some w i i g).1 h).2 with h' | h'
  · rw [hc] at h'; cases h'
  · exact h' rfl


structure Inv (w : World) : Prop where
  ok : ∀ i, (w.procs i).OK
  /-- whoever is past its flock step is the holder recorded in the kernel's table -/
  table : ∀ i, (w.procs i).holds = true → w.table (w.procs i).lockFile = some i
  /-- protected steps were executed only by processes that had acquired their lock file -/
  traceEver : ∀ ev ∈ w.trace, ev.step.protected = true →
    (w.procs ev.pid).everHeld = true ∧ ev.file = (w.procs ev.pid).lockFile
  /-- a process that has executed a protected step keeps the lock for as long as it lives -/
  writers : ∀ ev ∈ w.trace, ev.step.protected = true → (w.procs ev.pid).st = .running →
    (w.procs ev.pid).holds = true ∧ (w.procs ev.pid).pinned = true
  /-- a loser is about to print the error, or has printed it, or was killed before it could -/
  msg : ∀ i, (w.procs i).lost = true →
    ((w.procs i).st = .running ∧ (w.procs i).prog = [.printErr, .exit 1]) ∨ (w.procs i).st = .killed ∨
    ∃ ev ∈ w.trace, ev.pid = i ∧ ev.step = .printErr

theorem setProc_same (procs : Pid → Proc) (i : Pid) (p : Proc) : setProc procs i p i = p := by
  simp [setProc]

theorem setProc_other (procs : Pid → Proc) (i j : Pid) (p : Proc) (h : j ≠ i) :
    setProc procs i p j = procs j := by
  simp [setProc, h]

theorem mem_evOf {p : Proc} {i : Pid} {ok : Bool} {ev : Ev} (h : ev ∈ evOf p i ok) :
    ∃ s rest, p.prog = s :: rest ∧ ev = ⟨i, p.lockFile, s, ok⟩ := by
  unfold evOf at h
  split at h
  · exact ⟨_, _, ‹_›, List.mem_singleton.1 h⟩
  · cases h

theorem exec_moves (w : World) (a : Action) (j : Pid) : Moves (w.procs j) ((exec w a).procs j) := by
  have upd : ∀ i p', Moves (w.procs i) p' → Moves (w.procs j) (setProc w.procs i p' j) := by
    intro i p' h
    by_cases hji : j = i
    · subst hji; rw [setProc_same]; exact h
    · rw [setProc_other _ _ _ _ hji]; exact .stay
  cases a with
  | step i | fail i =>
    simp only [exec, stepProc]; split
    · exact upd i _ (.step _ _ ‹_›)
    · exact .stay
  | kill i => simp only [exec]; split; exact upd i _ (.kill ‹_›); exact .stay
  | gc i => simp only [exec]; split; exact upd i _ (.gc ‹_›); exact .stay
  | reap i | cexec i => simp only [exec]; split <;> exact .stay

theorem inv_stepProc (w : World) (h : Inv w) (i : Pid) (fail : Bool) : Inv (stepProc w i fail) := by
  unfold stepProc
  by_cases hr : (w.procs i).st = .running
  · simp only [hr, if_true]
    have nf := next_facts (w.procs i) (h.ok i) hr (w.table.free (w.procs i).lockFile) fail
    generalize (w.procs i).next (w.table.free (w.procs i).lockFile) fail = o at nf
    constructor
    · intro j
      by_cases hji : j = i
      · subst hji; simp only [setProc_same]; exact nf.ok
      · simp only [setProc_other _ _ _ _ hji]; exact h.ok j
    · intro j hj
      by_cases hji : j = i
      · subst hji
        simp only [setProc_same] at hj ⊢
        rw [nf.lockFile]
        cases hop : o.op with
        | none => simp only [applyOp]; rw [nf.nop hop] at hj; exact h.table j hj
        | acquire => simp [applyOp]
        | release => rw [nf.rel hop] at hj; cases hj
      · simp only [setProc_other _ _ _ _ hji] at hj ⊢
        have hold := h.table j hj
        cases hop : o.op with
        | none => exact hold
        | acquire =>
          simp only [applyOp]
          have hfree := (nf.acq hop).1
          by_cases hf : (w.procs j).lockFile = (w.procs i).lockFile
          · rw [Table.free_iff, ← hf, hold] at hfree; cases hfree
          · rw [Table.acquire_other _ _ _ _ hf]; exact hold
        | release =>
          exact (releaseOf_eq_some w i j _).2 ⟨hold, Or.inr hji⟩
    · intro ev hev hprot
      simp only [List.mem_append] at hev
      rcases hev with hev | hev
      · -- the new event
        obtain ⟨s, rest, hp, rfl⟩ := mem_evOf hev
        simp only [setProc_same]
        obtain ⟨hh, _, _⟩ := nf.prot s rest hp hprot
        exact ⟨nf.ever ((h.ok i).heldEver hh), nf.lockFile.symm⟩
      · obtain ⟨he, hf⟩ := h.traceEver ev hev hprot
        by_cases hji : ev.pid = i
        · subst hji
          simp only [setProc_same]
          exact ⟨nf.ever he, hf.trans nf.lockFile.symm⟩
        · simp only [setProc_other _ _ _ _ hji]; exact ⟨he, hf⟩
    · intro ev hev hprot hrun
      simp only [List.mem_append] at hev
      rcases hev with hev | hev
      · obtain ⟨s, rest, hp, rfl⟩ := mem_evOf hev
        simp only [setProc_same] at hrun ⊢
        obtain ⟨hh, hpin, hrun'⟩ := nf.prot s rest hp hprot
        exact ⟨nf.keeps hh hrun', nf.pinned hpin⟩
      · by_cases hji : ev.pid = i
        · subst hji
          simp only [setProc_same] at hrun ⊢
          obtain ⟨hh, hpin⟩ := h.writers ev hev hprot hr
          exact ⟨nf.keeps hh hrun, nf.pinned hpin⟩
        · simp only [setProc_other _ _ _ _ hji] at hrun ⊢
          exact h.writers ev hev hprot hrun
    · intro j hl
      by_cases hji : j = i
      · subst hji
        simp only [setProc_same] at hl ⊢
        cases hpl : (w.procs j).lost with
        | false => exact Or.inl (nf.lostNew hpl hl)
        | true =>
          rcases h.msg j hpl with ⟨_, hp⟩ | hk | ⟨ev, hev, h1, h2⟩
          · right; right
            refine ⟨⟨j, (w.procs j).lockFile, .printErr, o.ok⟩, ?_, rfl, rfl⟩
            simp [evOf, hp]
          · rw [hk] at hr; cases hr
          · right; right; exact ⟨ev, List.mem_append_right _ hev, h1, h2⟩
      · simp only [setProc_other _ _ _ _ hji] at hl ⊢
        exact (h.msg j hl).imp_right (.imp_right fun ⟨ev, hev, h12⟩ => ⟨ev, List.mem_append_right _ hev, h12⟩)
  · simp only [hr, if_false]; exact h

/-- Process `i` lets go of the lock without executing a step: it is killed, or the finaliser closes
the lock file of a process that is not pinned. -/
theorem inv_drop (w : World) (h : Inv w) (i : Pid) (st' : PSt)
    (hst : st' = .killed ∨ st' = (w.procs i).st ∧ (w.procs i).pinned = false)
    (hok : ({ w.procs i with st := st', holds := false } : Proc).OK) :
    Inv { w with procs := setProc w.procs i { w.procs i with st := st', holds := false }
                 table := w.releaseOf i } := by
  constructor
  · intro j
    by_cases hji : j = i
    · subst hji; simp only [setProc_same]; exact hok
    · simp only [setProc_other _ _ _ _ hji]; exact h.ok j
  · intro j hj
    by_cases hji : j = i
    · subst hji; simp [setProc_same] at hj
    · simp only [setProc_other _ _ _ _ hji] at hj ⊢
      exact (releaseOf_eq_some w i j _).2 ⟨h.table j hj, Or.inr hji⟩
  · intro ev hev hprot
    obtain ⟨he, hf⟩ := h.traceEver ev hev hprot
    by_cases hji : ev.pid = i
    · subst hji; simp only [setProc_same]; exact ⟨he, hf⟩
    · simp only [setProc_other _ _ _ _ hji]; exact ⟨he, hf⟩
  · intro ev hev hprot hrun
    by_cases hji : ev.pid = i
    · subst hji; simp only [setProc_same] at hrun
      rcases hst with rfl | ⟨rfl, hpin⟩
      · cases hrun
      · -- a process that has written is pinned, so the finaliser cannot have struck it
        cases hpin.symm.trans (h.writers ev hev hprot hrun).2
    · simp only [setProc_other _ _ _ _ hji] at hrun ⊢
      exact h.writers ev hev hprot hrun
  · intro j hl
    by_cases hji : j = i
    · subst hji; simp only [setProc_same] at hl ⊢
      rcases hst with rfl | ⟨rfl, _⟩
      · exact Or.inr (Or.inl rfl)
      · exact h.msg j hl
    · simp only [setProc_other _ _ _ _ hji] at hl ⊢
      exact h.msg j hl

/-- A child of process `i` closes its copy of the descriptor; the lock stays if `c`, which holds
at least when `i` itself holds the lock.  Nothing else the invariant speaks of changes. -/
theorem inv_release_unless {w w' : World} (h : Inv w) (i : Pid) (c : Bool)
    (hc : (w.procs i).holds = true → c = true) (hp : w'.procs = w.procs) (ht : w'.trace = w.trace)
    (htab : w'.table = if c = true then w.table else w.table.release i) : Inv w' := by
  obtain ⟨procs, table, trace, _, _, _⟩ := w'
  cases hp; cases ht; cases htab
  refine ⟨h.ok, fun j hj => ?_, h.traceEver, h.writers, h.msg⟩
  refine (Table.release_unless_eq_some _ _ _ _ _).2 ⟨h.table j hj, ?_⟩
  by_cases hji : j = i
  · exact Or.inl (hc (hji ▸ hj))
  · exact Or.inr hji

theorem inv_exec (w : World) (h : Inv w) (a : Action) : Inv (exec w a) := by
  cases a with
  | step i => exact inv_stepProc w h i false
  | fail i => exact inv_stepProc w h i true
  | kill i =>
    simp only [exec]; split
    · exact inv_drop w h i .killed (Or.inl rfl) (ok_dead _ (h.ok i))
    · exact h
  | gc i =>
    simp only [exec]; split
    · rename_i hg
      exact inv_drop w h i _ (Or.inr ⟨rfl, (gcable_iff.1 hg).2.2.1⟩) ((Moves.gc hg).ok (h.ok i))
    · exact h
  | reap i =>
    simp only [exec]; split
    · exact inv_release_unless h i _ id rfl rfl rfl
    · exact h
  | cexec i =>
    simp only [exec]; split
    · exact inv_release_unless h i _ (fun hh => by rw [hh]; rfl) rfl rfl rfl
    · exact h

theorem run_inv {P : World → Prop} (hP : ∀ w a, P w → P (exec w a)) (as : List Action) (w : World)
    (h : P w) : P (run as w) :=
  List.foldlRecOn as exec h fun w hw a _ => hP w a hw

theorem inv_run (as : List Action) (w : World) (h : Inv w) : Inv (run as w) :=
  run_inv (fun w a h => inv_exec w h a) as w h

/-- Start of a schedule: nobody holds anything, nothing has happened, and every process that exists
runs a disciplined program. -/
structure Init (w : World) : Prop where
  fresh : ∀ i, (w.procs i).holds = false ∧ (w.procs i).pinned = false ∧ (w.procs i).lost = false ∧
    (w.procs i).everHeld = false
  safe : ∀ i, (w.procs i).st = .running → safe false false (w.procs i).prog = true
  table : ∀ f, w.table f = none
  trace : w.trace = []

theorem inv_init (w : World) (h : Init w) : Inv w := by
  constructor
  · intro i
    obtain ⟨h1, h2, h3, h4⟩ := h.fresh i
    constructor <;> simp_all
    exact h.safe i
  · intro i hi; rw [(h.fresh i).1] at hi; cases hi
  · intro ev hev; rw [h.trace] at hev; cases hev
  · intro ev hev; rw [h.trace] at hev; cases hev
  · intro i hl; rw [(h.fresh i).2.2.1] at hl; cases hl

theorem drcProg_safe : safe false false drcProg = true := by decide

theorem doApproveProg_safe : safe false false doApproveProg = true := by decide

theorem spec_safe (s : Spec) : safe false false s.prog = true := by
  obtain ⟨front, arg⟩ := s
  cases front
  · exact drcProg_safe
  · exact doApproveProg_safe

theorem init_mkWorld (specs : List Spec) : Init (mkWorld specs) := by
  constructor
  · intro i; simp only [mkWorld]; split <;> simp [mkProc]
  · intro i; simp only [mkWorld]; split
    · intro _; exact spec_safe _
    · intro h; cases h
  · intro f; rfl
  · rfl

theorem lockFile_exec (w : World) (a : Action) (j : Pid) :
    ((exec w a).procs j).lockFile = (w.procs j).lockFile :=
  (exec_moves w a j).lockFile

theorem lockFile_run (as : List Action) (w : World) (j : Pid) :
    ((run as w).procs j).lockFile = (w.procs j).lockFile :=
  run_inv (P := fun w' => (w'.procs j).lockFile = (w.procs j).lockFile)
    (fun w' a h => (lockFile_exec w' a j).trans h) as w rfl

theorem exec_trace (w : World) (a : Action) : (exec w a).trace = newEvents w a ++ w.trace := by
  cases a with
  | step i | fail i => simp only [exec, stepProc, newEvents]; split <;> simp
  | kill i | gc i | reap i | cexec i => simp only [exec, newEvents]; split <;> simp

theorem dead_exec (w : World) (a : Action) (j : Pid) (h : (w.procs j).st ≠ .running) :
    (exec w a).procs j = w.procs j :=
  (exec_moves w a j).dead h

theorem dead_run (as : List Action) (w : World) (j : Pid) (h : (w.procs j).st ≠ .running) :
    (run as w).procs j = w.procs j :=
  run_inv (P := fun w' => w'.procs j = w.procs j)
    (fun w' a h' => (dead_exec w' a j (h' ▸ h)).trans h') as w rfl

theorem mem_newEvents {w : World} {a : Action} {ev : Ev} (h : ev ∈ newEvents w a) :
    ∃ i fail, (w.procs i).st = .running ∧
      ev ∈ evOf (w.procs i) i ((w.procs i).next (w.table.free (w.procs i).lockFile) fail).ok := by
  cases a with
  | step i | fail i =>
    simp only [newEvents] at h
    split at h
    · exact ⟨i, _, ‹_›, h⟩
    · cases h
  | kill i | gc i | reap i | cexec i => cases h

theorem new_protected (w : World) (h : Inv w) (a : Action) (ev : Ev) (hev : ev ∈ newEvents w a)
    (hprot : ev.step.protected = true) :
    (w.procs ev.pid).holds = true ∧ (w.procs ev.pid).st = .running ∧ w.table ev.file = some ev.pid := by
  obtain ⟨i, fail, hr, hmem⟩ := mem_newEvents hev
  have nf := next_facts (w.procs i) (h.ok i) hr (w.table.free (w.procs i).lockFile) fail
  obtain ⟨s, rest, hp, rfl⟩ := mem_evOf hmem
  have hh := (nf.prot s rest hp hprot).1
  exact ⟨hh, hr, h.table i hh⟩

/-- In a trace (newest first): whenever a protected step of one run is followed by a protected step
of another run for the same lock file, the earlier run never executes a protected step again.
So the protected steps of the runs for one device form disjoint consecutive blocks. -/
def Separated (t : List Ev) : Prop :=
  ∀ t1 e t2, t = t1 ++ e :: t2 → e.step.protected = true →
    ∀ e' ∈ t2, e'.step.protected = true → e'.file = e.file → e'.pid ≠ e.pid →
      ∀ e'' ∈ t1, e''.step.protected = true → e''.pid ≠ e'.pid

/-- … because at that moment the earlier run is already dead. -/
def EarlierDead (w : World) : Prop :=
  ∀ t1 e t2, w.trace = t1 ++ e :: t2 → e.step.protected = true →
    ∀ e' ∈ t2, e'.step.protected = true → e'.file = e.file → e'.pid ≠ e.pid →
      (w.procs e'.pid).st ≠ .running

theorem newEvents_cases (w : World) (a : Action) : newEvents w a = [] ∨ ∃ x, newEvents w a = [x] := by
  cases a <;> simp only [newEvents] <;> (try split) <;> (try (unfold evOf; split)) <;> simp

theorem others_dead (w : World) (h : Inv w) (a : Action) (x : Ev) (hx : x ∈ newEvents w a)
    (hprot : x.step.protected = true) (e' : Ev) (he' : e' ∈ w.trace) (hp' : e'.step.protected = true)
    (hfile : e'.file = x.file) (hpid : e'.pid ≠ x.pid) : (w.procs e'.pid).st ≠ .running := by
  intro hrun
  obtain ⟨_, _, ht⟩ := new_protected w h a x hx hprot
  have ht' := h.table e'.pid (h.writers e' he' hp' hrun).1
  rw [← (h.traceEver e' he' hp').2, hfile, ht] at ht'
  exact hpid (Option.some.inj ht').symm

theorem sep_exec (w : World) (h : Inv w) (hd : EarlierDead w) (hs : Separated w.trace) (a : Action) :
    EarlierDead (exec w a) ∧ Separated (exec w a).trace := by
  have keep : ∀ j, (w.procs j).st ≠ .running → ((exec w a).procs j).st ≠ .running := by
    intro j hj; rw [dead_exec w a j hj]; exact hj
  rcases newEvents_cases w a with hn | ⟨x, hn⟩
  · have ht : (exec w a).trace = w.trace := by rw [exec_trace, hn]; rfl
    constructor
    · intro t1 e t2 heq hp e' he' hp' hf hpid
      rw [ht] at heq
      exact keep _ (hd t1 e t2 heq hp e' he' hp' hf hpid)
    · rw [ht]; exact hs
  · have ht : (exec w a).trace = x :: w.trace := by rw [exec_trace, hn]; rfl
    have hxmem : x ∈ newEvents w a := by rw [hn]; simp
    constructor
    · intro t1 e t2 heq hp e' he' hp' hf hpid
      rw [ht] at heq
      cases t1 with
      | nil =>
        obtain ⟨rfl, rfl⟩ := heq
        exact keep _ (others_dead w h a _ hxmem hp e' he' hp' hf hpid)
      | cons y t1' =>
        simp at heq
        exact keep _ (hd t1' e t2 heq.2 hp e' he' hp' hf hpid)
    · rw [ht]
      intro t1 e t2 heq hp e' he' hp' hf hpid e'' he'' hp''
      cases t1 with
      | nil => cases he''
      | cons y t1' =>
        simp at heq
        obtain ⟨rfl, heq⟩ := heq
        have hdead := hd t1' e t2 heq hp e' he' hp' hf hpid
        rcases List.mem_cons.1 he'' with rfl | hmem
        · intro hEq
          have hrun := (new_protected w h a _ hxmem hp'').2.1
          rw [hEq] at hrun
          exact hdead hrun
        · exact hs t1' e t2 heq hp e' he' hp' hf hpid e'' hmem hp''

theorem sep_run (as : List Action) (w : World) (h : Inv w) (hd : EarlierDead w) (hs : Separated w.trace) :
    EarlierDead (run as w) ∧ Separated (run as w).trace :=
  (run_inv (P := fun w => Inv w ∧ EarlierDead w ∧ Separated w.trace)
    (fun w a ⟨h, hd, hs⟩ => ⟨inv_exec w h a, sep_exec w h hd hs a⟩) as w ⟨h, hd, hs⟩).2

/-- `attempts w f a`: action `a` is a flock attempt on lock file `f`. -/
def attempts (w : World) (f : String) : Action → Prop
  | .step j | .fail j => (w.procs j).st = .running ∧ (w.procs j).lockFile = f ∧
      ∃ rest, (w.procs j).prog = .flock :: rest
  | _ => False

def noAttempt (f : String) : World → List Action → Prop
  | _, [] => True
  | w, b :: bs => ¬ attempts w f b ∧ noAttempt f (exec w b) bs

theorem free_stepProc (w : World) (f : String) (hf : w.table f = none) (j : Pid) (fail : Bool)
    (hn : ¬ ((w.procs j).st = .running ∧ (w.procs j).lockFile = f ∧ ∃ rest, (w.procs j).prog = .flock :: rest)) :
    (stepProc w j fail).table f = none := by
  unfold stepProc
  by_cases hr : (w.procs j).st = .running
  · simp only [hr, if_true]
    cases hop : ((w.procs j).next (w.table.free (w.procs j).lockFile) fail).op with
    | none => simp only [applyOp]; exact hf
    | release => simp only [applyOp]; exact releaseOf_none _ _ _ hf
    | acquire =>
      simp only [applyOp]
      have hne : f ≠ (w.procs j).lockFile := fun h => hn ⟨hr, h.symm, next_op_acquire _ _ _ hop⟩
      rw [Table.acquire_other _ _ _ _ hne]; exact hf
  · simp only [hr, if_false]; exact hf

theorem free_exec (w : World) (f : String) (hf : w.table f = none) (b : Action)
    (hn : ¬ attempts w f b) : (exec w b).table f = none := by
  cases b with
  | step j => exact free_stepProc w f hf j false hn
  | fail j => exact free_stepProc w f hf j true hn
  | kill j | gc j =>
    simp only [exec]; split
    · exact releaseOf_none _ _ _ hf
    · exact hf
  | reap j | cexec j =>
    simp only [exec]; split
    · exact Table.release_unless_none _ _ _ _ hf
    · exact hf

theorem free_run (bs : List Action) (w : World) (f : String) (hf : w.table f = none)
    (hn : noAttempt f w bs) : (run bs w).table f = none := by
  induction bs generalizing w with
  | nil => exact hf
  | cons b bs ih => exact ih (exec w b) (free_exec w f hf b hn.1) hn.2

theorem acquire_free (w : World) (j : Pid) (rest : List Step) (hr : (w.procs j).st = .running)
    (hp : (w.procs j).prog = .flock :: rest) (hf : w.table (w.procs j).lockFile = none) :
    ((exec w (.step j)).procs j).holds = true ∧
    (exec w (.step j)).table (w.procs j).lockFile = some j ∧
    ((exec w (.step j)).procs j).prog = rest := by
  have hfree : w.table.free (w.procs j).lockFile = true := (Table.free_iff _ _).2 hf
  simp [exec, stepProc, hr, setProc_same, Proc.next, hp, hfree, applyOp]

theorem flock_busy (w : World) (h : Inv w) (j i : Pid) (rest : List Step)
    (hr : (w.procs j).st = .running) (hp : (w.procs j).prog = .flock :: rest)
    (hb : w.table (w.procs j).lockFile = some i) :
    ((exec w (.step j)).procs j).lost = true ∧ ((exec w (.step j)).procs j).holds = false ∧
    ((exec w (.step j)).procs j).prog = [.printErr, .exit 1] ∧
    (exec w (.step j)).table = w.table := by
  have hfree : w.table.free (w.procs j).lockFile = false := by rw [Table.free, hb]; rfl
  obtain ⟨hh, hg, -⟩ := ok_at_flock (h.ok j) hr hp
  simp [exec, stepProc, hr, setProc_same, Proc.next, hp, hfree, applyOp, onError, hg, hh]

/-- The step that process `p` is about to execute ends it: end of `Main`, an `exit`, or a
conditional early return that is taken. -/
def endsNow (p : Proc) (fail : Bool) : Prop :=
  p.prog = [] ∨ (∃ c rest, p.prog = .exit c :: rest) ∨ (fail = true ∧ ∃ c rest, p.prog = .mayExit c :: rest)

/-- Death of a holder frees its lock file — provided no live child has a descriptor of it (a child
that has not reached its `exec` yet has one; later only without close-on-exec). -/
theorem death_releases (w : World) (h : Inv w) (i : Pid) (hh : (w.procs i).holds = true)
    (hc : w.childHasFd i = false) :
    (exec w (.kill i)).table (w.procs i).lockFile = none ∧
    (∀ fail, endsNow (w.procs i) fail → (stepProc w i fail).table (w.procs i).lockFile = none) := by
  have hr := (h.ok i).holdsRun hh
  have hrel := releaseOf_holder w i _ (h.table i hh) hc
  constructor
  · simp only [exec, hr, if_true]; exact hrel
  · intro fail hprog
    simp only [stepProc, hr, if_true]
    rcases hprog with hp | ⟨c, rest, hp⟩ | ⟨hf, c, rest, hp⟩
    · simp only [Proc.next, hp, applyOp]; exact hrel
    · simp only [Proc.next, hp, applyOp]; exact hrel
    · subst hf; simp only [Proc.next, hp, applyOp, if_true]; exact hrel

theorem cloexec_exec (w : World) (a : Action) : (exec w a).cloexec = w.cloexec := by
  cases a <;> simp only [exec, stepProc] <;> split <;> rfl

theorem cloexec_run (as : List Action) (w : World) : (run as w).cloexec = w.cloexec :=
  run_inv (P := fun w' => w'.cloexec = w.cloexec) (fun w' a h => (cloexec_exec w' a).trans h) as w rfl

/-- The kernel's table never shows a holder without a reason: the process named there is past its
flock and alive, or a live child of it still has a descriptor of the lock file (it has not reached
`exec` yet, or the file was opened without close-on-exec). -/
def Justified (w : World) : Prop :=
  ∀ i f, w.table f = some i → (w.procs i).holds = true ∨ w.childHasFd i = true

theorem childHasFd_step (w : World) (i : Pid) (fail : Bool) (k : Pid)
    (h : w.childHasFd k = true) : (stepProc w i fail).childHasFd k = true := by
  unfold stepProc
  by_cases hr : (w.procs i).st = .running
  · simp only [hr, if_true]
    unfold World.childHasFd at h ⊢
    by_cases hs : spawns (w.procs i) = true
    · simp only [hs, if_true]
      by_cases hk : k = i
      · simp [hk]
      · simpa [hk] using h
    · simpa [hs] using h
  · simp only [hr, if_false]; exact h

theorem justified_stepProc (w : World) (h : Inv w) (hj : Justified w) (i : Pid) (fail : Bool) :
    Justified (stepProc w i fail) := by
  by_cases hr : (w.procs i).st = .running
  · intro k f hk
    have nf := next_facts (w.procs i) (h.ok i) hr (w.table.free (w.procs i).lockFile) fail
    have hp : (stepProc w i fail).procs =
        setProc w.procs i ((w.procs i).next (w.table.free (w.procs i).lockFile) fail).proc := by
      simp [stepProc, hr]
    -- an entry that was there before stays justified; if it is `i`'s: `i` still holds, or (it releases) by a child
    have old : w.table f = some k →
        (k = i → (w.procs i).holds = true →
          ((stepProc w i fail).procs i).holds = true ∨ w.childHasFd i = true) →
        ((stepProc w i fail).procs k).holds = true ∨ (stepProc w i fail).childHasFd k = true := by
      intro hold hi
      rcases hj k f hold with hh | hc
      · by_cases hki : k = i
        · subst hki; exact (hi rfl hh).imp_right (childHasFd_step w k fail k)
        · left; rw [hp, setProc_other _ _ _ _ hki]; exact hh
      · right; exact childHasFd_step w i fail k hc
    simp only [stepProc, hr, if_true] at hk
    cases hop : ((w.procs i).next (w.table.free (w.procs i).lockFile) fail).op with
    | none =>
      rw [hop] at hk; simp only [applyOp] at hk
      exact old hk (fun _ hh => Or.inl (by rw [hp, setProc_same, nf.nop hop]; exact hh))
    | acquire =>
      have hacq : ((stepProc w i fail).procs i).holds = true := by rw [hp, setProc_same]; exact (nf.acq hop).2
      rw [hop] at hk; simp only [applyOp] at hk
      by_cases hf : f = (w.procs i).lockFile
      · subst hf
        rw [Table.acquire_same] at hk
        cases hk
        exact Or.inl hacq
      · rw [Table.acquire_other _ _ _ _ hf] at hk
        exact old hk (fun _ _ => Or.inl hacq)
    | release =>
      rw [hop] at hk; simp only [applyOp] at hk
      obtain ⟨hold, hor⟩ := (releaseOf_eq_some w i k f).1 hk
      exact old hold (fun hki _ => Or.inr (hor.resolve_right (fun h => h hki)))
  · simp only [stepProc, hr, if_false]; exact hj

/-- `holds := false` together with `releaseOf`: kill, finaliser. -/
theorem justified_drop (w : World) (hj : Justified w) (i : Pid) (p' : Proc) :
    ∀ k f, w.releaseOf i f = some k → (setProc w.procs i p' k).holds = true ∨ w.childHasFd k = true := by
  intro k f hk
  obtain ⟨hold, hor⟩ := (releaseOf_eq_some w i k f).1 hk
  by_cases hki : k = i
  · subst hki; exact Or.inr (hor.resolve_right (fun h => h rfl))
  · rw [setProc_other _ _ _ _ hki]; exact hj k f hold

theorem justified_exec (w : World) (h : Inv w) (hj : Justified w) (a : Action) : Justified (exec w a) := by
  cases a with
  | step i => exact justified_stepProc w h hj i false
  | fail i => exact justified_stepProc w h hj i true
  | kill i | gc i =>
    simp only [exec]; split
    · exact justified_drop w hj i _
    · exact hj
  | reap i =>
    simp only [exec]; split
    · intro k f hk
      obtain ⟨hold, hor⟩ := (Table.release_unless_eq_some _ _ _ _ _).1 hk
      by_cases hki : k = i
      · subst hki; exact Or.inl (hor.resolve_right (fun h => h rfl))
      · exact (hj k f hold).imp_right fun h1 => by unfold World.childHasFd at h1 ⊢; simpa [hki] using h1
    · exact hj
  | cexec i =>
    simp only [exec]; split
    · rename_i hen
      intro k f hk
      obtain ⟨hold, hor⟩ := (Table.release_unless_eq_some _ _ _ _ _).1 hk
      by_cases hki : k = i
      · subst hki
        -- the parent holds the lock, or the child keeps the descriptor across its `exec`
        have hc : ((w.procs k).holds || !w.cloexec) = true := hor.resolve_right (fun h => h rfl)
        by_cases hh : (w.procs k).holds = true
        · exact Or.inl hh
        · have hcl : w.cloexec = false := by simpa [hh] using hc
          simp only [Bool.and_eq_true] at hen
          right; unfold World.childHasFd
          simp [hen.1, hcl]
      · exact (hj k f hold).imp_right fun h1 => by unfold World.childHasFd at h1 ⊢; simpa [hki] using h1
    · exact hj

theorem justified_run (as : List Action) (w : World) (h : Inv w) (hj : Justified w) : Justified (run as w) :=
  (run_inv (P := fun w => Inv w ∧ Justified w)
    (fun w a ⟨h, hj⟩ => ⟨inv_exec w h a, justified_exec w h hj a⟩) as w ⟨h, hj⟩).2

/-- **A lock never outlives its holder for longer than the holder's child needs to `exec`.** In any
reachable world, with the lock file opened close-on-exec: if process `i` is dead (exited or killed),
then once its child — if it has one that is still between fork and exec — has reached `exec` or has
ended, no lock file shows `i` as holder any more. -/
theorem stale_lock_ends (w : World) (h : Inv w) (hj : Justified w) (hc : w.cloexec = true) (i : Pid)
    (hdead : (w.procs i).st ≠ .running) (f : String) :
    (w.preExec i = false ∨ w.kids i = false → w.table f ≠ some i) ∧
    (exec w (.cexec i)).table f ≠ some i ∧ (exec w (.reap i)).table f ≠ some i := by
  have hnh : (w.procs i).holds = false := Bool.eq_false_iff.mpr fun hh => hdead ((h.ok i).holdsRun hh)
  have base : w.childHasFd i = false → w.table f ≠ some i := by
    intro hcf ht
    rcases hj i f ht with h1 | h1
    · rw [hnh] at h1; cases h1
    · rw [hcf] at h1; cases h1
  refine ⟨?_, ?_, ?_⟩
  · intro hpk; apply base
    unfold World.childHasFd; rcases hpk with h1 | h1 <;> simp [h1, hc]
  · simp only [exec]; split
    · intro ht
      have := ((Table.release_unless_eq_some _ _ _ _ _).1 ht).2
      simp [hnh, hc] at this
    · apply base
      unfold World.childHasFd
      cases hk : w.kids i <;> cases hp : w.preExec i <;> simp_all
  · simp only [exec]; split
    · intro ht
      have := ((Table.release_unless_eq_some _ _ _ _ _).1 ht).2
      simp [hnh] at this
    · apply base; unfold World.childHasFd; simp_all

theorem held_once (w : World) (h : Inv w) (a : Action) (i : Pid) (he : (w.procs i).everHeld = true) :
    ((exec w a).procs i).everHeld = true ∧
    ((w.procs i).holds = false → ((exec w a).procs i).holds = false) :=
  (exec_moves w a i).held_once (h.ok i) he

theorem held_once_run (bs : List Action) (w : World) (h : Inv w) (i : Pid)
    (he : (w.procs i).everHeld = true) (hh : (w.procs i).holds = false) :
    ((run bs w).procs i).holds = false :=
  (run_inv (P := fun w => Inv w ∧ (w.procs i).everHeld = true ∧ (w.procs i).holds = false)
    (fun w a ⟨h, he, hh⟩ => have ho := held_once w h a i he; ⟨inv_exec w h a, ho.1, ho.2 hh⟩)
    bs w ⟨h, he, hh⟩).2.2

/-- **One holder, any number of contenders.** From any reachable world in which process `i` holds
its lock file, through ANY further schedule at whose end `i` still holds it (so `i` was neither
killed nor has exited): every protected step executed meanwhile for that lock file — history, log,
status, device — was executed by `i`.  Whatever the other processes are and wherever they stand
(before their flock, at it, behind it as losers), they leave all of that untouched. -/
theorem holder_excludes (bs : List Action) (w : World) (h : Inv w) (i : Pid)
    (hh : (w.procs i).holds = true) (hend : ((run bs w).procs i).holds = true) :
    ∃ np, (run bs w).trace = np ++ w.trace ∧
      ∀ ev ∈ np, ev.step.protected = true → ev.file = (w.procs i).lockFile → ev.pid = i := by
  induction bs generalizing w with
  | nil => exact ⟨[], rfl, fun ev hev => by cases hev⟩
  | cons a bs ih =>
    have he' := (held_once w h a i ((h.ok i).heldEver hh)).1
    have hh1 : ((exec w a).procs i).holds = true := Bool.of_not_eq_false fun hc => by
      cases (held_once_run bs (exec w a) (inv_exec w h a) i he' hc).symm.trans hend
    obtain ⟨np1, ht1, hp1⟩ := ih (exec w a) (inv_exec w h a) hh1 hend
    refine ⟨np1 ++ newEvents w a, ?_, ?_⟩
    · show (run bs (exec w a)).trace = _
      rw [ht1, exec_trace, List.append_assoc]
    · intro ev hev hprot hfile
      rcases List.mem_append.1 hev with hm | hm
      · exact hp1 ev hm hprot (by rw [lockFile_exec]; exact hfile)
      · obtain ⟨_, _, ht⟩ := new_protected w h a ev hm hprot
        have hti := h.table i hh
        rw [← hfile, ht] at hti
        exact Option.some.inj hti

end NA.Lock
