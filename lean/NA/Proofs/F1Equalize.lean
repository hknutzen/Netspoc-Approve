import NA.Proofs.F1Frame
/-!
# F1: `equalizedGroups` — when the in-place edit is taken, and what it emits
-/
namespace NA.F1
open NA.Acl (Range)

def chgMem : Chg → Option (Bool × String)
  | .mem m => some (true, m)
  | .noMem m => some (false, m)
  | _ => none

theorem setMode_mem (st : St) (n : Name) : (setMode st n).out.filterMap chgMem = st.out.filterMap chgMem := by
  unfold setMode
  split
  · rfl
  · split <;> simp [St.emit, St.hit, List.filterMap_append, chgMem]

theorem editMembers_mem (aN : Name) (la lb : List String) (rs : List Range) (st : St) :
    (editMembers st aN la lb rs).out.filterMap chgMem = st.out.filterMap chgMem ++ memOps la lb rs := by
  rw [editMembers_eq_fold]
  generalize memOps la lb rs = ops
  induction ops generalizing st with
  | nil => simp
  | cons op ops ih =>
    rw [List.foldl_cons, ih]
    obtain ⟨k, m⟩ := op
    cases k <;> simp [St.emit, List.filterMap_append, chgMem, memChg, setMode_mem]

theorem equalize_needed_never_edited (e : Env) (st : St) (aN bN : Name) (h : st.gNeeded.contains aN = true) :
    (equalizedGroups e st aN bN).1.out = st.out :=
  equalizedGroups_cases e st aN bN (fun r => r.1.out = st.out) (fun _ _ => rfl) (fun _ _ => findGroup_out e st bN)
    (fun hn => absurd h hn) (fun hn => absurd h hn) (fun hn => absurd h hn)

theorem equalizedGroups_true (e : Env) (st : St) (aN bN : Name) (h : (equalizedGroups e st aN bN).2 = true) :
    bN ∈ (equalizedGroups e st aN bN).1.gReady ∧ (equalizedGroups e st aN bN).1.gNameOf bN = aN := by
  revert h
  refine equalizedGroups_cases e st aN bN (fun r => r.2 = true → bN ∈ r.1.gReady ∧ r.1.gNameOf bN = aN)
    (fun _ hr h => ⟨List.contains_iff_mem.mp hr, (eq_of_beq h).symm⟩) (fun _ _ h => nomatch h)
    (fun _ _ hr h => ⟨List.contains_iff_mem.mp hr, (eq_of_beq h).symm⟩) (fun _ _ h => nomatch h) fun _ _ st2 _ hm _ => ?_
  refine ⟨mem_addSet.mpr (Or.inl rfl), ?_⟩
  show (st2.gName.lookup bN).getD bN = aN
  rw [hm.gName]; simp [List.lookup]

theorem equalize_edit_only_if_small (e : Env) (st : St) (aN bN : Name)
    (h : (equalizedGroups e st aN bN).1.out ≠ st.out) :
    st.gNeeded.contains aN = false ∧
    (scriptStat (lookupD e.sc.grp (aN, bN))).1 + (scriptStat (lookupD e.sc.grp (aN, bN))).2 ≤ (e.bMembers bN).length ∧
    aN ∈ (equalizedGroups e st aN bN).1.gNeeded ∧ bN ∈ (equalizedGroups e st aN bN).1.gReady ∧
    (equalizedGroups e st aN bN).1.gNameOf bN = aN ∧ (equalizedGroups e st aN bN).2 = true := by
  revert h
  refine equalizedGroups_cases e st aN bN (fun r => r.1.out ≠ st.out → st.gNeeded.contains aN = false ∧
    (scriptStat (lookupD e.sc.grp (aN, bN))).1 + (scriptStat (lookupD e.sc.grp (aN, bN))).2 ≤ (e.bMembers bN).length ∧
    aN ∈ r.1.gNeeded ∧ bN ∈ r.1.gReady ∧ r.1.gNameOf bN = aN ∧ r.2 = true)
    (fun _ _ h => absurd rfl h) (fun _ _ h => absurd (findGroup_out e st bN) h)
    (fun _ _ _ h => absurd (findGroup_out e st bN) h) (fun _ _ h => absurd rfl h) fun hn hsmall st2 _ hm _ => ?_
  · refine ⟨by simpa using hn, by omega, ?_, mem_addSet.mpr (Or.inl rfl), ?_, rfl⟩
    · show aN ∈ st2.gNeeded
      rw [hm.gNeeded]; exact mem_addSet.mpr (Or.inl rfl)
    · show (st2.gName.lookup bN).getD bN = aN
      rw [hm.gName]; simp [List.lookup]

end NA.F1
