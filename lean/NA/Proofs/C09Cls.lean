import NA.Proofs.C09Struct
import NA.Proofs.C09Http
/-!
# C09: classes of states around a wait for the device, a domain of the interpreter

Relative to a base (`Base`: a good class `A`, a weakest class `top`, what it means that the latest reply is unjudged):
`E` = `top`, and `A` unless an error value is pending; `X` = `top`, and one is pending; `P ρ k` = the latest reply, read
under role `ρ`, is unjudged, no error is pending, and the literals `k` (outcomes of tests already made) hold of it;
`H ρ k` = that, or `X` (a function that returns error values has come back).  `if err != nil` splits `H`; a test of the
reply adds its literal; once the literals show the reply good the class is `A` again.  So the interpreter follows every
exchange itself; no sub-program is proved by hand.  The invariant of the property is one base (`invBase`); `chk`
(functions abort on failure) and `stepC` (functions return error values) are its two checkers.
-/
namespace NA.C09
open NA.Sess NA.Apply NA.Spec.C09

/-- what the code can find out about a reply -/
inductive Atom | arrives | full | echo | outNone | outText | outWarn | s200 | parses | flag (f : Flag)
  deriving DecidableEq, Repr

def Atom.eval : Atom → Reply → Bool
  | .arrives, r => promptArrives r
  | .full, r => r.arr == .full
  | .echo, r => r.echoOk
  | .outNone, r => r.out == .none
  | .outText, r => r.out == .text
  | .outWarn, r => r.out == .warning
  | .s200, r => r.status200
  | .parses, r => r.parses
  | .flag f, r => r.flags.contains f

abbrev Know := List (Atom × Bool)

def trueOf (k : Know) (r : Reply) : Prop := ∀ a v, (a, v) ∈ k → a.eval r = v

def has (k : Know) (a : Atom) (v : Bool) : Bool := k.contains (a, v)

theorem has_eval {k : Know} {r : Reply} (h : trueOf k r) {a : Atom} {v : Bool} (hk : has k a v = true) : a.eval r = v :=
  h a v (by simpa [has] using hk)

inductive K
  | bot | A | E | top | X
  | P (ρ : Role) (k : Know)
  | H (ρ : Role) (k : Know)
  deriving DecidableEq, Repr

def mkP (good : Role → Know → Bool) (ρ : Role) (k : Know) : K := if good ρ k then .A else .P ρ k

def inter (k k' : Know) : Know := k.filter k'.contains
/-- every literal of `k` is in `k'` -/
def sub (k k' : Know) : Bool := k.all k'.contains

def K.rank : K → Nat | .A => 1 | .E => 2 | .top => 3 | _ => 0

def K.join : K → K → K
  | .bot, b => b
  | a, .bot => a
  | .P ρ k, .P ρ' k' => if ρ = ρ' then .P ρ (inter k k') else .top
  | .P ρ k, .X | .X, .P ρ k => .H ρ k
  | .H ρ k, .X | .X, .H ρ k => .H ρ k
  | .H ρ k, .P ρ' k' | .P ρ' k', .H ρ k | .H ρ k, .H ρ' k' => if ρ = ρ' then .H ρ (inter k k') else .top
  | .X, .X => .X
  | .X, .A | .A, .X | .X, .E | .E, .X => .E
  | .P _ _, _ | _, .P _ _ | .H _ _, _ | _, .H _ _ | .X, _ | _, .X => .top
  | a, b => if a.rank ≤ b.rank then b else a

def K.le : K → K → Bool
  | .bot, _ => true
  | _, .top => true
  | .P ρ k, .P ρ' k' | .P ρ k, .H ρ' k' | .H ρ k, .H ρ' k' => ρ == ρ' && sub k' k
  | .X, .X | .X, .E | .X, .H _ _ => true
  | .A, .A | .A, .E | .E, .E => true
  | _, _ => false

/-- the literal a test of the reply adds when it comes out true -/
def condLit : Cond → Option (Atom × Bool)
  | .flag f => some (.flag f, true)
  | .echoBad => some (.echo, false)
  | .outNonEmpty => some (.outNone, false)
  | .outInvalid => some (.outText, true)
  | .outWarn => some (.outWarn, true)
  | .not200 => some (.s200, false)
  | .parseFails => some (.parses, false)
  | _ => none

def refine (good : Role → Know → Bool) (ρ : Role) (k : Know) (a : Atom) (v : Bool) : K :=
  if has k a (!v) then .bot else mkP good ρ (if has k a v then k else (a, v) :: k)

def kSplit (good : Role → Know → Bool) : Cond → K → K × K
  | .not c, x => ((kSplit good c x).2, (kSplit good c x).1)
  | .never, x => (.bot, x)
  | .err, .H ρ k => (.X, mkP good ρ k)
  | .err, .P ρ k => (.bot, .P ρ k)
  | .err, .X => (.X, .bot)
  | .err, .E => (.E, .A)
  | c, .P ρ k =>
    match condLit c with
    | some (a, v) => (refine good ρ k a v, refine good ρ k a (!v))
    | none => (.P ρ k, .P ρ k)
  | _, x => (x, x)

abbrev at1 (m : Mode) (a : K) : Ends K := .only .bot m a

theorem at1_at {m : Mode} {c : K} : (at1 m c).at m = c := Ends.only_at

/-- what a wait that was satisfied tells about the reply -/
def matchLits : Pat → Know
  | .std | .http => [(.full, true), (.arrives, true)]
  | .special fs | .stdOr fs => if fs.all specialPrompt then [(.arrives, true)] else []

theorem matchLits_true (p : Pat) (r : Reply) (h : p.matches r = true) : trueOf (matchLits p) r := by
  intro a v hav
  cases p with
  | std | http =>
    simp only [matchLits, List.mem_cons, List.mem_nil_iff, or_false, Prod.mk.injEq] at hav
    rcases hav with ⟨rfl, rfl⟩ | ⟨rfl, rfl⟩
    · simpa [Atom.eval, Pat.matches] using h
    · exact matches_arrives _ rfl _ h
  | special fs | stdOr fs =>
    simp only [matchLits] at hav
    split at hav
    · rename_i hfs
      simp only [List.mem_cons, List.mem_nil_iff, or_false, Prod.mk.injEq] at hav
      obtain ⟨rfl, rfl⟩ := hav
      exact matches_arrives _ (by exact hfs) _ h
    · cases hav

def K.pend : K → Bool | .P _ _ | .H _ _ | .X => true | _ => false
def K.leA : K → Bool | .bot | .A => true | _ => false

/-- `ev`: what the constructs that talk (`send`, `recv`, `roundTrip`, log lines, marks, `abort`) do to a class -/
def kLeaf (ev : Sess → K → Option (Ends K)) (p : Sess) (c : K) : Option (Ends K) :=
  match p with
  | .skip | .setCtr _ | .decCtr | .setPlan | .assumeBanner => some (at1 .run c)
  | .cont => some (at1 .cont c)
  | .recvMore _ => some (at1 .run (if c.leA then c else .top))
  | .ret v _ => some (at1 .ret (match c, v with
      | .P _ _, .err | .H _ _, .err | .X, .err => .X
      | .H _ _, .nil | .X, .nil => .top
      | .P ρ k, _ => .P ρ k
      | .H ρ k, _ => .H ρ k
      | .X, _ => .X
      | c, .nil => if c.leA then c else .top
      | c, .err => if c.leA then c else .E
      | c, _ => c))
  | p => ev p c

/-- `wide`: what is kept of a class in front of a `for { … }` -/
def KD (good : Role → Know → Bool) (ev : Sess → K → Option (Ends K)) (wide : K → K) : Dom K :=
  ⟨.bot, (· == .bot), K.join, K.le, kSplit good, kLeaf ev, fun _ _ => none, wide⟩

/-- the good class and the weakest class, as properties of the trace; the latest reply is unjudged -/
structure Base where
  A : List Ev → Prop
  T : List Ev → Prop
  Pend : Role → List Ev → Reply → Prop

structure Base.OK (B : Base) : Prop where
  A_T : ∀ {tr}, B.A tr → B.T tr
  Pend_T : ∀ {ρ tr r}, B.Pend ρ tr r → B.T tr

variable (B : Base)

def K.γ : K → St → Prop
  | .bot, _ => False
  | .A, s => B.A s.tr
  | .E, s => B.T s.tr ∧ (s.errv = false → B.A s.tr)
  | .top, s => B.T s.tr
  | .X, s => B.T s.tr ∧ s.errv = true
  | .P ρ k, s => B.Pend ρ s.tr s.last ∧ trueOf k s.last ∧ s.errv = false
  | .H ρ k, s => (B.Pend ρ s.tr s.last ∧ trueOf k s.last ∧ s.errv = false) ∨ (B.T s.tr ∧ s.errv = true)

theorem K.γ_congr {c : K} {s s' : St} (ht : s'.tr = s.tr) (hl : s'.last = s.last) (he : s'.errv = s.errv)
    (h : K.γ B c s) : K.γ B c s' := by
  cases c <;> simp only [K.γ, ht, hl, he] at h ⊢ <;> exact h

theorem trueOf_sub {k k' : Know} {r : Reply} (hs : sub k' k = true) (h : trueOf k r) : trueOf k' r := fun a v hm =>
  h a v (by simpa using List.all_eq_true.mp hs (a, v) hm)

theorem sub_refl (k : Know) : sub k k = true := by simp [sub]
theorem sub_inter_left (k k' : Know) : sub (inter k k') k = true := by
  simp only [sub, inter, List.all_eq_true, List.mem_filter]; intro x hx; simpa using hx.1
theorem sub_inter_right (k k' : Know) : sub (inter k k') k' = true := by
  simp only [sub, inter, List.all_eq_true, List.mem_filter]; intro x hx; exact hx.2

theorem K.le_joinL (a b : K) : a.le (a.join b) = true := by
  cases a <;> cases b <;> simp only [K.join] <;> (try split) <;>
    simp_all [K.le, K.rank, sub_refl, sub_inter_left, sub_inter_right] <;> first | omega | (rename_i h; exact h.symm)
theorem K.le_joinR (a b : K) : b.le (a.join b) = true := by
  cases a <;> cases b <;> simp only [K.join] <;> (try split) <;>
    simp_all [K.le, K.rank, sub_refl, sub_inter_left, sub_inter_right]

theorem K.le_refl (a : K) : a.le a = true := by cases a <;> simp [K.le, sub_refl]

section
variable {B} (hB : B.OK)
include hB

theorem K.γ_T {c : K} {s : St} (h : K.γ B c s) : B.T s.tr := by
  cases c with
  | bot => cases h
  | A => exact hB.A_T h
  | top => exact h
  | P ρ k => exact hB.Pend_T h.1
  | H ρ k => exact h.elim (hB.Pend_T ·.1) (·.1)
  | _ => exact h.1

theorem K.γ_le {a b : K} {s : St} (hle : a.le b = true) (h : K.γ B a s) : K.γ B b s := by
  cases b with
  | top => exact K.γ_T hB h
  | bot => cases a <;> first | exact False.elim h | cases hle
  | A | X => cases a <;> first | exact False.elim h | exact h | cases hle
  | E =>
    cases a <;> first | exact False.elim h | exact h | cases hle | skip
    · exact ⟨hB.A_T h, fun _ => h⟩
    · exact ⟨h.1, fun he => by rw [h.2] at he; cases he⟩
  | P ρ' k' =>
    cases a <;> first | exact False.elim h | cases hle | skip
    simp only [K.le, Bool.and_eq_true, beq_iff_eq] at hle
    obtain ⟨rfl, hs⟩ := hle
    exact ⟨h.1, trueOf_sub hs h.2.1, h.2.2⟩
  | H ρ' k' =>
    cases a <;> first | exact False.elim h | cases hle | skip
    · exact .inr h
    · simp only [K.le, Bool.and_eq_true, beq_iff_eq] at hle
      obtain ⟨rfl, hs⟩ := hle
      exact .inl ⟨h.1, trueOf_sub hs h.2.1, h.2.2⟩
    · simp only [K.le, Bool.and_eq_true, beq_iff_eq] at hle
      obtain ⟨rfl, hs⟩ := hle
      exact h.imp (fun h => ⟨h.1, trueOf_sub hs h.2.1, h.2.2⟩) id

variable {good : Role → Know → Bool}
  (hgood : ∀ {ρ k tr r}, B.Pend ρ tr r → trueOf k r → good ρ k = true → B.A tr)
include hgood

omit hB in
theorem mkP_sound {ρ : Role} {k : Know} {s : St} (hp : B.Pend ρ s.tr s.last) (hk : trueOf k s.last)
    (he : s.errv = false) : K.γ B (mkP good ρ k) s := by
  unfold mkP
  split
  · rename_i hg; exact hgood hp hk hg
  · exact ⟨hp, hk, he⟩

omit hB hgood in
theorem condLit_sound {c : Cond} {a : Atom} {v : Bool} (h : condLit c = some (a, v)) (env : Env) (s : St) :
    evalCond c env s = (a.eval s.last == v) := by
  cases c <;> simp only [condLit, Option.some.injEq, Prod.mk.injEq, reduceCtorEq] at h <;> obtain ⟨rfl, rfl⟩ := h <;>
    simp [evalCond, Atom.eval] <;> cases s.last.echoOk <;> cases s.last.status200 <;> cases s.last.parses <;> rfl

omit hB in
theorem refine_sound {ρ : Role} {k : Know} {s : St} (hp : B.Pend ρ s.tr s.last) (hk : trueOf k s.last)
    (he : s.errv = false) (a : Atom) (v : Bool) (hv : a.eval s.last = v) : K.γ B (refine good ρ k a v) s := by
  unfold refine
  split
  · rename_i hc
    have := has_eval hk hc
    rw [hv] at this; cases v <;> cases this
  · refine mkP_sound hgood hp ?_ he
    split
    · exact hk
    · intro a' v' hm
      rcases List.mem_cons.mp hm with h1 | h1
      · cases h1; exact hv
      · exact hk a' v' h1

omit hB in
theorem kSplit_sound (c : Cond) (x : K) (env : Env) (s : St) (h : K.γ B x s) :
    (evalCond c env s = true → K.γ B (kSplit good c x).1 s) ∧
    (evalCond c env s = false → K.γ B (kSplit good c x).2 s) := by
  fun_induction kSplit good c x with
  | case1 c x ih => simp only [evalCond, Bool.not_eq_true', Bool.not_eq_false']; exact ⟨(ih h).2, (ih h).1⟩
  | case2 x => exact ⟨fun he => (by simp [evalCond] at he), fun _ => h⟩
  | case3 ρ k =>
    -- a function that returns error values has come back: the error, or the reply with no error pending
    simp only [evalCond]
    rcases h with h | h
    · exact ⟨fun he => (by rw [h.2.2] at he; cases he), fun _ => mkP_sound hgood h.1 h.2.1 h.2.2⟩
    · exact ⟨fun _ => h, fun he => by rw [h.2] at he; cases he⟩
  | case4 ρ k => exact ⟨fun he => (by simp only [evalCond] at he; rw [h.2.2] at he; cases he), fun _ => h⟩
  | case5 => exact ⟨fun _ => h, fun he => by simp only [evalCond] at he; rw [h.2] at he; cases he⟩
  | case6 => exact ⟨fun _ => h, fun he => h.2 (by simpa [evalCond] using he)⟩
  | case7 c ρ k _ _ _ a v hl =>
    have := condLit_sound hl env s
    refine ⟨fun he => refine_sound hgood h.1 h.2.1 h.2.2 a v ?_, fun he => refine_sound hgood h.1 h.2.1 h.2.2 a (!v) ?_⟩
    · rw [this] at he; simpa using he
    · rw [this] at he; cases v <;> simp_all
  | case8 | case9 => exact ⟨fun _ => h, fun _ => h⟩

variable {ev : Sess → K → Option (Ends K)} {wide : K → K}
  (hev : ∀ p, isLeaf p = true → ∀ c o, ev p c = some o → ∀ env s, s.mode = .run → K.γ B c s →
    K.γ B (o.at (exec p env s).mode) (exec p env s))
  (hwide : ∀ c : K, c.le (wide c) = true)
include hev hwide

omit hgood hwide in
theorem kLeaf_sound (p : Sess) (hl : isLeaf p = true) (c : K) (o : Ends K) (h : kLeaf ev p c = some o) (env : Env) (s : St)
    (hm : s.mode = .run) (hc : K.γ B c s) : K.γ B (o.at (exec p env s).mode) (exec p env s) := by
  cases p <;> try cases hl
  case skip | setCtr | decCtr | setPlan | assumeBanner =>
    simp only [kLeaf] at h
    cases h; simp only [sess_run, hm, if_true]; rw [← hm, at1_at]; exact K.γ_congr _ (s := s) rfl rfl rfl hc
  case cont =>
    simp only [kLeaf] at h
    cases h; simp only [sess_run, hm, if_true, at1_at]; exact K.γ_congr _ (s := s) rfl rfl rfl hc
  case recvMore q =>
    -- the error value is set anew: what does not speak of it stays
    simp only [kLeaf] at h
    cases h; simp only [sess_run, hm, if_true]; rw [← hm, at1_at]
    split
    · cases c <;> first | exact hc | exact False.elim hc | (rename_i hk; cases hk)
    · exact K.γ_T hB (s := s) hc
  case ret v l =>
    simp only [kLeaf] at h
    cases h; rw [exec_ret _ _ _ _ hm]; simp only [at1_at]
    cases c <;> cases v <;> simp only [K.leA, if_true, Bool.false_eq_true, if_false] <;>
      first
      | exact False.elim hc
      | exact K.γ_congr _ (s := s) rfl rfl rfl hc
      | exact ⟨K.γ_T hB (s := s) hc, rfl⟩                     -- an error is returned: class `X`
      | exact K.γ_T hB (s := s) hc                             -- nil after a possible error: only `top` is left
      | exact ⟨hc.1, hc.2.1, rfl⟩                               -- nil with the reply pending
      | exact ⟨K.γ_T hB (s := s) hc, fun he => by cases he⟩    -- an error is returned from `E` / `top`
      | exact ⟨hc.1, hc.2⟩
      | exact hc
  all_goals exact hev _ rfl c o (by simpa [kLeaf] using h) env s hm hc

theorem KD_ok : (KD good ev wide).OK fun a _ _ s => K.γ B a s where
  mode {a _ _ s} _ h := K.γ_congr _ (s := s) (c := a) rfl rfl rfl h
  cur _ := Iff.rfl
  dead {a _ _ _} hd h := by
    have : a = .bot := by simpa [KD] using hd
    subst this; exact h
  joinL {a b' _ _ _} h := K.γ_le hB (K.le_joinL a b') h
  joinR {a b' _ _ _} h := K.γ_le hB (K.le_joinR a b') h
  le hle h := K.γ_le hB hle h
  split c _ h := kSplit_sound hgood c _ _ _ h
  leaf hl h env s0 s hm hx := kLeaf_sound hB hev _ hl _ _ h env s hm hx
  blk h := by cases h
  inv {a _ _ _} h := K.γ_le hB (hwide a) h

def leEnds (o o' : Ends K) : Bool :=
  o.run.le o'.run && o.ret.le o'.ret && o.cont.le o'.cont && o.panic.le o'.panic && o.div.le o'.div

omit hgood hev hwide in
theorem leEnds_at {o o' : Ends K} (h : leEnds o o' = true) (m : Mode) {s : St} (g : K.γ B (o.at m) s) :
    K.γ B (o'.at m) s := by
  simp only [leEnds, Bool.and_eq_true] at h
  obtain ⟨⟨⟨⟨h1, h2⟩, h3⟩, h4⟩, h5⟩ := h
  cases m
  · exact K.γ_le hB h1 g
  · exact K.γ_le hB h4 g
  · exact K.γ_le hB h2 g
  · exact K.γ_le hB h3 g
  · exact K.γ_le hB h5 g

theorem KD_sound (p : Sess) (c : K) (o o' : Ends K) (h : ai (KD good ev wide) p c = some o)
    (hle : leEnds o o' = true) (env : Env) (s : St) (hm : s.mode = .run) (hc : K.γ B c s) :
    K.γ B (o'.at (exec p env s).mode) (exec p env s) :=
  leEnds_at hB hle _ (ai_sound (KD_ok hB hgood hev hwide) p c o h env s s hm hc)

end

variable (bad : Role → Reply → Bool)

/-- The base of the invariant.  `A`: no bad reply seen; `top`: no change command or save follows a bad reply; a reply is
pending (`Pd` without the mode) if all replies before it are good. -/
def invBase : Base where
  A tr := safe bad tr = true ∧ faulted bad tr = false
  T tr := safe bad tr = true
  Pend ρ tr r := ∃ tr0, tr = tr0 ++ [.got ρ r] ∧ safe bad tr0 = true ∧ faulted bad tr0 = false

theorem invBase_ok : (invBase bad).OK where
  A_T h := h.1
  Pend_T := fun ⟨_, he, hs, _⟩ => he ▸ safe_snoc_quiet bad _ _ hs rfl

/-- The literals `k` show that a reply read under role `ρ` is no failure: `badChecked b ρ`, disjunct by disjunct, on what
is known. -/
def good (b : Backend) (ρ : Role) (k : Know) : Bool :=
  has k .arrives true
  && (Backend.isConsole b || (has k .s200 true && (has k .parses true || !bodyMatters b ρ)))
  && (!(Backend.isConsole b && ρ == .change)
      || (has k .echo true && (has k .outText false || has k .outNone true || has k .outWarn true)))
  && (ρ != .probe || ((!Backend.isConsole b || has k .echo true) && has k (.flag .status0) true))
  && (ρ != .save || b == .linux ||
      [Flag.okMark, .overwrite, .openFailed, .pend, .jobOk, .noChanges, .msgEmpty].any fun f => has k (.flag f) true)

theorem good_sound (b : Backend) (ρ : Role) (k : Know) (r : Reply) (hg : good b ρ k = true) (h : trueOf k r) :
    badChecked b ρ r = false := by
  simp only [good, Bool.and_eq_true] at hg
  obtain ⟨⟨⟨⟨harr, hhttp⟩, hchange⟩, hprobe⟩, hsave⟩ := hg
  have ha : promptArrives r = true := has_eval h harr
  -- the five disjuncts of `badChecked`
  have d2 : (!Backend.isConsole b && promptArrives r && (!r.status200 || (!r.parses && bodyMatters b ρ))) = false := by
    cases hc : Backend.isConsole b
    · simp only [hc, Bool.false_or, Bool.and_eq_true, Bool.or_eq_true, Bool.not_eq_true'] at hhttp
      have h200 : r.status200 = true := has_eval h hhttp.1
      rcases hhttp.2 with hp | hp
      · have : r.parses = true := has_eval h hp
        simp [h200, this]
      · simp [h200, hp]
    · rfl
  have d3 : (Backend.isConsole b && (ρ == .change) && (!r.echoOk || r.out == .text)) = false := by
    cases hc : (Backend.isConsole b && ρ == .change)
    · rfl
    · simp only [hc, Bool.not_true, Bool.false_or, Bool.and_eq_true, Bool.or_eq_true] at hchange
      have he : r.echoOk = true := has_eval h hchange.1
      have ho : (r.out == Out.text) = false := by
        rcases hchange.2 with (ho | ho) | ho <;> have := has_eval h ho <;> simp only [Atom.eval] at this
        · exact this
        · cases hr : r.out <;> simp_all
        · cases hr : r.out <;> simp_all
      simp [he, ho]
  have d4 : (ρ == .probe && promptArrives r && ((Backend.isConsole b && !r.echoOk) || !r.flags.contains .status0)) = false := by
    cases hρ : (ρ == Role.probe)
    · rfl
    · simp only [bne, hρ, Bool.not_true, Bool.false_or, Bool.and_eq_true, Bool.or_eq_true, Bool.not_eq_true'] at hprobe
      have h0 : r.flags.contains Flag.status0 = true := has_eval h hprobe.2
      have he : (Backend.isConsole b && !r.echoOk) = false := by
        rcases hprobe.1 with hc | he
        · rw [hc]; rfl
        · rw [show r.echoOk = true from has_eval h he]; exact Bool.and_false _
      rw [he, h0]; simp
  have d5 : (ρ == .save && b != .linux && promptArrives r && !saveContent r) = false := by
    cases hρ : (ρ == Role.save)
    · rfl
    · cases hb : (b == Backend.linux)
      · simp only [bne, hρ, hb, Bool.not_true, Bool.false_or, List.any_eq_true] at hsave
        obtain ⟨f, hf, hk⟩ := hsave
        have hfl : r.flags.contains f = true := has_eval h hk
        have : saveContent r = true := by
          refine List.any_eq_true.mpr ⟨f, by simpa using hfl, ?_⟩
          simp only [List.mem_cons, List.mem_nil_iff, or_false] at hf
          rcases hf with rfl | rfl | rfl | rfl | rfl | rfl | rfl <;> rfl
        simp [this]
      · simp [bne, hb]
  unfold badChecked
  rw [d2, d3, d4, d5, ha]; rfl

theorem invGood (b : Backend) {ρ : Role} {k : Know} {tr : List Ev} {r : Reply} (h : (invBase (badChecked b)).Pend ρ tr r)
    (hk : trueOf k r) (hg : good b ρ k = true) : (invBase (badChecked b)).A tr := by
  obtain ⟨tr0, rfl, hs, hf⟩ := h
  exact clean_snoc _ _ hs hf (good_sound b ρ k r hg hk)

def quietRole : Role → Bool
  | .change | .save => false
  | _ => true

def markOk : Ev → Bool
  | .got _ _ => false
  | _ => true

/-- What the constructs that talk do to a class of the invariant.  `rep ρ`: a connection closed under role `ρ` is not a
failure the code can see (net/http replays the request). -/
def evInv (rep : Role → Bool) (p : Sess) (c : K) : Option (Ends K) :=
  match p with
  | .warn _ => if c.pend then none else some (at1 .run c)
  | .send ρ _ => if c.pend then none else if quietRole ρ || c.leA then some (at1 .run c) else none
  | .mark e => if c.pend then none else if markOk e && (!isChangeOrSave e || c.leA) then some (at1 .run c) else none
  | .abort _ => some (at1 .panic .top)
  -- once only safety is left to keep, a reply may be anything
  | .recv ρ q => match c with
      | .top => some (at1 .run .top)
      | .A => some (at1 .run (.H ρ (matchLits q)))
      | _ => none
  | .roundTrip ρ _ r => match c with
      | .top => if quietRole ρ then some (at1 .run .top) else none
      | .A => if !r || rep ρ then some (at1 .run (.H ρ (matchLits .http))) else none
      | _ => none
  | _ => none

theorem K.γ_snoc {c : K} {s s' : St} (e : Ev) (hp : c.pend = false) (ht : s'.tr = s.tr ++ [e]) (he : s'.errv = s.errv)
    (hq : isChangeOrSave e = false ∨ c.leA = true) (hb : isBadGot bad e = false) (h : K.γ (invBase bad) c s) :
    K.γ (invBase bad) c s' := by
  have hf : faulted bad s'.tr = faulted bad s.tr := by rw [ht, faulted_snoc, hb, Bool.or_false]
  have hs : safe bad s'.tr = true := by
    rw [ht]
    rcases hq with hq | hq
    · exact safe_snoc_quiet bad _ _ (K.γ_T (invBase_ok bad) h) hq
    · cases c with
      | bot => exact False.elim h
      | A => exact safe_snoc_of_not_faulted bad _ _ h.1 h.2
      | _ => cases hq
  cases c with
  | bot => exact False.elim h
  | A => exact ⟨hs, by rw [hf]; exact h.2⟩
  | E => exact ⟨hs, fun he' => ⟨hs, by rw [hf]; exact (h.2 (he ▸ he')).2⟩⟩
  | top => exact hs
  | _ => cases hp

theorem recv_sound (ρ : Role) (p : Pat) (env : Env) (s : St) (hm : s.mode = .run)
    (hc : safe bad s.tr = true ∧ faulted bad s.tr = false) :
    K.γ (invBase bad) (.H ρ (matchLits p)) (exec (.recv ρ p) env s) := by
  simp only [sess_run, hm, if_true]
  cases recvLoop_waited bad env.dev ρ p _ s hm hc.1 hc.2 with
  | nothing hc' he _ => exact .inr ⟨hc'.1, he⟩
  | got h he =>
    cases hmt : p.matches _ with
    | false => exact .inr ⟨h.safe, by rw [he, hmt]; rfl⟩
    | true =>
      exact .inl ⟨h.split, matchLits_true p _ hmt, by rw [he, hmt]; rfl⟩

theorem roundTrip_sound (ρ : Role) (t : Txt) (r : Bool)
    (hrep : r = true → ∀ x : Reply, x.arr = .closed → bad ρ x = false) (env : Env) (s : St) (hm : s.mode = .run)
    (hc : safe bad s.tr = true ∧ faulted bad s.tr = false) :
    K.γ (invBase bad) (.H ρ (matchLits .http)) (exec (.roundTrip ρ t r) env s) := by
  cases roundTrip_spec bad ρ t r hrep env s (jv_of_clean bad hc).toJ hm with
  | err hs he _ => exact .inr ⟨hs, he⟩
  | ok h hk he =>
    exact .inl ⟨h.split, matchLits_true .http _ (by simpa [Pat.matches] using hk), he⟩

theorem evInv_sound (rep : Role → Bool) (hrep : ∀ ρ, rep ρ = true → ∀ x : Reply, x.arr = .closed → bad ρ x = false)
    (p : Sess) (c : K) (o : Ends K) (h : evInv rep p c = some o) (env : Env) (s : St)
    (hm : s.mode = .run) (hc : K.γ (invBase bad) c s) : K.γ (invBase bad) (o.at (exec p env s).mode) (exec p env s) := by
  cases p <;> simp only [evInv, reduceCtorEq] at h
  case abort l =>
    cases h; rw [exec_abort _ _ _ hm]; simp only [at1_at]
    exact (jv_abort _ (K.γ_T (invBase_ok bad) hc) s.errv).safe
  case recv ρ q =>
    cases c <;> simp only [Option.some.injEq, reduceCtorEq] at h <;> subst h <;> rw [exec_recv_mode _ _ _ _ hm, at1_at]
    · exact recv_sound _ ρ q env s hm hc
    · exact quiet_safe _ _ rfl env s hc
  case roundTrip ρ t r =>
    have hmode := exec_roundTrip_mode env s ρ t r hm
    cases c <;> simp only [reduceCtorEq] at h
    · split at h
      · rename_i hr; cases h; rw [hmode, at1_at]
        refine roundTrip_sound _ ρ t r (fun h1 => hrep ρ ?_) env s hm hc
        simpa [h1] using hr
      · cases h
    · split at h
      · rename_i hq; cases h; rw [hmode, at1_at]
        exact quiet_safe _ _ (by cases ρ <;> first | rfl | cases hq) env s hc
      · cases h
  case warn l =>
    split at h
    · cases h
    · rename_i hp; cases h; simp only [sess_run, hm, if_true]; rw [← hm, at1_at]
      exact K.γ_snoc _ .logWarn (by simpa using hp) rfl rfl (.inl rfl) rfl hc
  case send ρ t =>
    split at h
    · cases h
    · rename_i hp
      split at h
      · rename_i hq; cases h
        simp only [sess_run, hm, if_true]; rw [← hm, at1_at]
        refine K.γ_snoc _ (.sent ρ (t.lines env)) (by simpa using hp) rfl rfl ?_ rfl hc
        simp only [Bool.or_eq_true] at hq
        rcases hq with hq | hq
        · left; cases ρ <;> simp_all [quietRole, isChangeOrSave]
        · exact .inr hq
      · cases h
  case mark e =>
    split at h
    · cases h
    · rename_i hp
      split at h
      · rename_i hq; cases h
        simp only [Bool.and_eq_true, Bool.or_eq_true, Bool.not_eq_true'] at hq
        simp only [sess_run, hm, if_true]; rw [← hm, at1_at]
        exact K.γ_snoc _ e (by simpa using hp) rfl rfl hq.2 (by cases e <;> simp_all [markOk, isBadGot]) hc
      · cases h

/-- `Jv`, mode by mode: a function that aborts on failure -/
def endsV : Ends K := ⟨.A, .A, .A, .top, .top⟩

theorem Jv_of_endsV {s : St} (h : K.γ (invBase bad) (endsV.at s.mode) s) : Jv bad s := by
  cases hm : s.mode <;> rw [hm] at h <;> simp only [endsV, Ends.at, K.γ, invBase] at h <;> constructor <;> simp_all

/-- the requests net/http replays: every PAN-OS request is a GET, of NSX the reading ones -/
def repOf (b : Backend) (ρ : Role) : Bool := b == .panos || (b == .nsx && ρ == .read)

theorem repOf_sound (b : Backend) (ρ : Role) (h : repOf b ρ = true) (x : Reply) (hx : x.arr = .closed) :
    badChecked b ρ x = false := by
  have hp : promptArrives x = false := by simp [promptArrives, hx]
  have hc : Backend.isConsole b = false := by
    cases b <;> first | rfl | simp [repOf] at h
  have hr : replayed b ρ x = true := by simpa [replayed, hx, repOf] using h
  simp [badChecked, hp, hc, hr]

abbrev invD (b : Backend) : Dom K := KD (good b) (evInv (repOf b)) id

theorem invD_sound (b : Backend) (p : Sess) (c : K) (o o' : Ends K) (h : ai (invD b) p c = some o)
    (hle : leEnds o o' = true) (env : Env) (s : St) (hm : s.mode = .run) (hc : K.γ (invBase (badChecked b)) c s) :
    K.γ (invBase (badChecked b)) (o'.at (exec p env s).mode) (exec p env s) :=
  KD_sound (invBase_ok _) (invGood b) (fun p _ => evInv_sound _ _ (repOf_sound b) p) K.le_refl p c o o' h hle env s hm hc

/-- `chk b p`: `p`, a program of backend `b` whose functions abort on failure, never returns normally after a bad reply -/
def chk (b : Backend) (p : Sess) : Bool :=
  match ai (invD b) p .A with
  | some o => leEnds o endsV
  | none => false

theorem chk_sound (b : Backend) : ∀ p, chk b p = true → PresV (badChecked b) p := by
  intro p h env s hj hm
  unfold chk at h
  split at h
  · rename_i o ho
    exact Jv_of_endsV _ (invD_sound b p .A o _ ho h env s hm ⟨hj.safe, hj.run hm⟩)
  · cases h

/-- `stepC b p c = some (r, t)`: started in class `c`, a program `p` of backend `b` whose functions return error values
ends normally in class `r` and returns in class `t` (and says `continue` only in class `A`) -/
def stepC (b : Backend) (p : Sess) (c : K) : Option (K × K) :=
  match ai (invD b) p c with
  | some o => if o.cont.le .A then some (o.run, o.ret) else none
  | none => none

theorem stepC_sound (b : Backend) (p : Sess) (c r t : K) (h : stepC b p c = some (r, t)) (env : Env) (s : St)
    (hm : s.mode = .run) (hc : K.γ (invBase (badChecked b)) c s) :
    K.γ (invBase (badChecked b)) ((⟨r, t, .A, .top, .top⟩ : Ends K).at (exec p env s).mode) (exec p env s) := by
  unfold stepC at h
  split at h
  · rename_i o ho
    split at h
    · rename_i hcont
      cases h
      refine invD_sound b p c o _ ho ?_ env s hm hc
      simp only [leEnds, Bool.and_eq_true]
      exact ⟨⟨⟨⟨K.le_refl _, K.le_refl _⟩, hcont⟩, by cases o.panic <;> rfl⟩, by cases o.div <;> rfl⟩
    · cases h
  · cases h

theorem stepC_presV (b : Backend) (p : Sess) (h : stepC b p .A = some (.bot, .A)) : PresV (badChecked b) p := by
  intro env s hj hm
  have := stepC_sound b p .A .bot .A h env s hm ⟨hj.safe, hj.run hm⟩
  exact Jv_of_endsV _ (leEnds_at (invBase_ok _) (o := ⟨.bot, .A, .A, .top, .top⟩) (by decide) _ this)

theorem presV_run_asa : PresV (badChecked .asa) (approveOrCompareBody .asa) := chk_sound .asa _ (by decide +kernel)
theorem presV_run_ios : PresV (badChecked .ios) (approveOrCompareBody .ios) := chk_sound .ios _ (by decide +kernel)
theorem presV_run_linux : PresV (badChecked .linux) (approveOrCompareBody .linux) := chk_sound .linux _ (by decide +kernel)
theorem presV_run_panos : PresV (badChecked .panos) (approveOrCompareBody .panos) :=
  stepC_presV .panos _ (by decide +kernel)
theorem presV_run_nsx : PresV (badChecked .nsx) (approveOrCompareBody .nsx) := stepC_presV .nsx _ (by decide +kernel)

end NA.C09
