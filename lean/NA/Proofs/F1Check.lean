import NA.Proofs.F1Sem
/-!
# F1: the decidable classes of the end-to-end theorems (definitions only; evaluated by the driver on every case)

* Class K2, `k2Check`: the predicate mirrors the control flow of the engine and checks, at every call, the side condition that the
  proof of that call needs (the state at the call is the engine's own state).  Its parts: `transferCheck`, `aclStepCheck`,
  `pairCheck`, `routesCheck`; the access-group part as a list of operations (`BOp`, `applyOp`, `bindOps`, `opsEnd`, `opCheck`,
  `opsCheck`, `bindsCheck`) — this operation view of `diffBinds` is also what the proofs run over (NA/Proofs/F1Ops.lean: `diffBinds` is the fold of these
  operations; NA/Proofs/F1Binds.lean: each operation on the strict device).
* Class ISO, `isoCheck` (static: the engine is not evaluated), with `pureEq`, `bij`, `aclIso`, `RGof`, `isoPairs`, `routesSame`.
* Diagnostics `k2Why` / `isoWhy` (first failing conjunct; used by no theorem).
* `routeShapeCheck`, `routesInputOK`: the phase shape of the route commands of a printed script.
-/
namespace NA.F1
open NA.Acl (Range)

/-- Side condition of a transfer: the target ACL is not empty and its printed texts modulo log are pairwise
different. -/
def transferCheck (e : Env) (st : St) (bN : Name) : Bool :=
  st.aReady.contains bN ||
    (!(e.bLines bN).isEmpty && decide ((e.bLines bN).map fun l => (resolveB st l).mkey).Nodup)

/-- Side condition of `diffAcl e st aN bN` (same case distinction as the engine). -/
def aclStepCheck (e : Env) (st : St) (aN bN : Name) : Bool :=
  if st.aNeeded.contains aN then transferCheck e (st.hit "acl:device-acl-needed") bN
  else if st.aReady.contains bN then true
  else
    let rs := lookupD e.sc.acl (aN, bN)
    if !(rs.any (·.isEqual)) then transferCheck e (markDeletedAcl e (st.hit "acl:no-parts-equal") aN) bN
    else
      scriptOK ((e.aLines aN).map (·.body)) ((e.bLines bN).map (·.body)) rs 0 0 &&
      planCheck e (({ st with aName := (bN, aN) :: st.aName }.hit "acl:incremental").hit (planCheck e st aN bN rs)) aN bN rs == "hyp:ok" &&
      refsMatchBodyB (e.aLines aN) && refsMatchBodyB (e.bLines bN)

/-- Side condition of `makeEqualBind e st i b`. -/
def pairCheck (e : Env) (st : St) (i : Nat) (b : Bind) : Bool :=
  let a := e.a.binds.getD i default
  a.dir == b.dir && a.intf == b.intf && (e.a.acls.map (·.1)).contains a.acl && (e.b.acls.map (·.1)).contains b.acl &&
  e.a.intfs.contains b.intf &&
  aclStepCheck e { st with bNeeded := makeEqualBind.addSet' i st.bNeeded } a.acl b.acl

/-- The run over the pairs of access-group commands, each checked in the engine's own state. -/
def runCheck (e : Env) : St → List (Nat × Bind) → Bool
  | _, [] => true
  | st, p :: ps => pairCheck e st p.1 p.2 && runCheck e (makeEqualBind e st p.1 p.2) ps

/-- The pairs of access-group commands that `diffBinds` equalises (kept ranges of `diffUnordered`). -/
def bindPairs (al : List Nat) (bl : List Bind) (diff : List Range) : List (Nat × Bind) :=
  diff.flatMap fun r => (slice al r.lowA r.highA).zip (slice bl r.lowB r.highB)

/-- Routes: side conditions of `diffRoutes` (decidable).  Device routes have pairwise different destinations
(`dst`), target routes pairwise different `routeDst` keys of the strict device; equal device keys imply equal
`dst`; the lists read off the `diffUnordered` script are the routes missing on the other side. -/
def routesCheck (al bl : List Route) (dels : List (Nat × Route)) (inss : List Route) : Bool :=
  decide (al.map (·.text)).Nodup && decide (bl.map (·.text)).Nodup && decide (al.map (·.dst)).Nodup &&
  decide (bl.map fun r => NA.AsaDev.routeDst r.text).Nodup &&
  (al.all fun a => bl.all fun r => !(NA.AsaDev.routeDst a.text == NA.AsaDev.routeDst r.text) || a.dst == r.dst) &&
  decide (dels.map (·.2) = al.filter fun a => !(bl.map (·.text)).contains a.text) &&
  decide (dels.map (·.1)).Nodup &&
  decide (inss = bl.filter fun r => !(al.map (·.text)).contains r.text)

/-- The route lists as `diffRoutes` reads them off `diffUnordered` (no script if the device has no route). -/
def routeDelsOf (al bl : List Route) : List (Nat × Route) :=
  if al.isEmpty then [] else
  (diffUnordered (al.map (·.text)) (bl.map (·.text))).flatMap fun r =>
    if r.isDelete then (List.range (r.highA - r.lowA)).map fun i => (r.lowA + i, al.getD (r.lowA + i) default) else []

def routeInssOf (al bl : List Route) : List Route :=
  if al.isEmpty then bl else
  (diffUnordered (al.map (·.text)) (bl.map (·.text))).flatMap fun r => if r.isInsert then slice bl r.lowB r.highB else []

abbrev BKey := String × Name
def keyOf (e : Env) (i : Nat) : BKey := ((e.a.binds.getD i default).dir, (e.a.binds.getD i default).intf)
def aclOfI (e : Env) (i : Nat) : Name := (e.a.binds.getD i default).acl

/-! ### The access-group commands as a list of operations (deleted slices, then added and equalised commands) -/

inductive BOp
  | delGroup (idx : List Nat)     -- `delCmds` of a slice of device commands
  | add (b : Bind)                -- `addCmds` of one target command
  | eq (i : Nat) (b : Bind)       -- `makeEqual` of a kept pair
  deriving Repr

/-- One round of the loop in `addBinds`. -/
def addOne (e : Env) (st : St) (b : Bind) : St :=
  let st := transferAcl e st b.acl
  { (st.emit (.bind (printBind st b))) with mode := "" }.hit "bind:add"

def applyOp (e : Env) (st : St) : BOp → St
  | .delGroup idx => delBinds e st idx
  | .add b => addOne e st b
  | .eq i b => makeEqualBind e st i b

/-- The operations of `diffBinds` (branch "some parts equal") read off the `diffUnordered` script. -/
def bindOps (al : List Nat) (bl : List Bind) (diff : List Range) : List BOp :=
  (diff.flatMap fun r => if r.isDelete then [BOp.delGroup (slice al r.lowA r.highA)] else []) ++
  (diff.flatMap fun r =>
    if r.isInsert then (if r.highB ≤ r.lowB then [] else (slice bl r.lowB r.highB).map BOp.add)
    else if r.isEqual then ((slice al r.lowA r.highA).zip (slice bl r.lowB r.highB)).map fun p => BOp.eq p.1 p.2
    else [])

/-- Device commands still to handle / target commands handled, after the operations. -/
def opsEnd : List Nat → List Bind → List BOp → List Nat × List Bind
  | pend, done, [] => (pend, done)
  | pend, done, .delGroup idx :: ops => opsEnd (pend.filter fun j => !idx.contains j) done ops
  | pend, done, .add b :: ops => opsEnd pend (done ++ [b]) ops
  | pend, done, .eq i b :: ops => opsEnd (pend.filter (· != i)) (done ++ [b]) ops

/-- Side condition of one operation, in the engine's own state. -/
def opCheck (e : Env) (st : St) (pend : List Nat) (done : List Bind) : BOp → Bool
  | .delGroup idx => decide idx.Nodup && idx.all fun i => pend.contains i && !st.bNeeded.contains i
  | .add b =>
    (e.b.acls.map (·.1)).contains b.acl && e.a.intfs.contains b.intf &&
    !(e.a.binds.map fun x => (x.dir, x.intf)).contains (b.dir, b.intf) &&
    !(done.map fun x => (x.dir, x.intf)).contains (b.dir, b.intf) && transferCheck e st b.acl
  | .eq i b => pend.contains i && pairCheck e st i b

def opsCheck (e : Env) : St → List Nat → List Bind → List BOp → Bool
  | _, _, _, [] => true
  | st, pend, done, op :: ops =>
    opCheck e st pend done op &&
    opsCheck e (applyOp e st op) (opsEnd pend done [op]).1 (opsEnd pend done [op]).2 ops

/-- Shape of the comparison of the access-group commands in class ISO: every range of `diffUnordered` keeps
commands (no command is added or deleted), and the first compared command is not `needed`. -/
def bindsShape (e : Env) (st : St) (al : List Nat) (bl : List Bind) : Bool :=
  !(!al.isEmpty && st.bNeeded.contains (al.headD 0)) &&
  (diffUnordered (al.map fun i => (e.a.binds.getD i default).key) (bl.map (·.key))).any (·.isEqual) &&
  (diffUnordered (al.map fun i => (e.a.binds.getD i default).key) (bl.map (·.key))).all
    (fun r => !r.isDelete && !r.isInsert && r.isEqual)

/-- The state in which `addCmds` runs in the branch "no parts equal" of `diffBinds`. -/
def nopartsSt (e : Env) (st : St) (managed : List Nat) : St :=
  if managed.isEmpty then st else markDeletedBinds e (st.hit "bind:no-parts-equal") managed

/-- The access-group part of the class predicate, for the state `st` in which `diffBinds` starts.
Branch "some parts equal": slices of device commands may be removed, target commands added, kept pairs equalised;
afterwards every compared device command is handled and every target command is in place.
Branch "no parts equal": every compared device command is marked (and removed by `deleteUnused`), every target
command is added. -/
def bindsCheck (e : Env) (st : St) (managed : List Nat) : Bool :=
  if managed.isEmpty && e.b.binds.isEmpty then true else
  let diff := diffUnordered (managed.map fun i => (e.a.binds.getD i default).key) (e.b.binds.map (·.key))
  let ops := bindOps managed e.b.binds diff
  !(!managed.isEmpty && st.bNeeded.contains (managed.headD 0)) && decide (managed.map (keyOf e)).Nodup &&
  (if diff.any (·.isEqual) then
    opsCheck e st managed [] ops &&
    (opsEnd managed [] ops).1.isEmpty && e.b.binds.all (fun x => (opsEnd managed [] ops).2.contains x) &&
    (opsEnd managed [] ops).2.all (fun x => e.b.binds.contains x)
  else
    managed.all (fun i => !st.bNeeded.contains i) &&
    opsCheck e (nopartsSt e st managed) managed [] (e.b.binds.map BOp.add))

/-- **The class predicate of the end-to-end theorems** (`asa_F1_converges` and its corollaries). -/
def k2Check (a b : Config) (sc : Scripts) : Bool :=
  match checkInterfaces ⟨a, b, sc⟩ {} with
  | none => false
  | some (st0, managed) =>
    wfB ⟨a, b, sc⟩ && refsClosedA ⟨a, b, sc⟩ && refsClosedB ⟨a, b, sc⟩ &&
    decide (a.acls.map (·.1)).Nodup && decide (a.groups.map (·.1)).Nodup &&
    decide (a.binds.map fun x => (x.dir, x.intf)).Nodup &&
    bindsCheck ⟨a, b, sc⟩ (generateNames ⟨a, b, sc⟩ st0) managed &&
    routesCheck (sortRoutes a.routes) (sortRoutes b.routes)
      (routeDelsOf (sortRoutes a.routes) (sortRoutes b.routes)) (routeInssOf (sortRoutes a.routes) (sortRoutes b.routes))

/-! ## Class ISO: a device that already carries the target (static; the engine is not evaluated) -/

/-- A script that only keeps (no range deletes or inserts). -/
def pureEq (rs : List Range) : Bool := rs.all fun r => r.isEqual && !r.isDelete && !r.isInsert

/-- The pairs form a one-to-one relation. -/
def bij (R : List (Name × Name)) : Bool := R.all fun p => R.all fun q => (p.1 == q.1) == (p.2 == q.2)

/-- The pair of access lists is compared by the script "all lines equal"; paired lines have the same number of
references. -/
def aclIso (e : Env) (aN bN : Name) : Bool :=
  decide (0 < (e.aLines aN).length) && decide ((e.bLines bN).length = (e.aLines aN).length) &&
  decide (lookupD e.sc.acl (aN, bN) = [⟨0, (e.aLines aN).length, 0, (e.aLines aN).length⟩]) &&
  ((e.aLines aN).zip (e.bLines bN)).all fun l => l.1.refs.length == l.2.refs.length

/-- The pairs of object-groups referenced at the same positions of the paired access lists. -/
def RGof (e : Env) (RA : List (Name × Name)) : List (Name × Name) :=
  RA.flatMap fun p => ((e.aLines p.1).zip (e.bLines p.2)).flatMap fun l => l.1.refs.zip l.2.refs

/-- The pairs of compared access-group commands. -/
def isoPairs (e : Env) (managed : List Nat) : List (Nat × Bind) :=
  if managed.isEmpty && e.b.binds.isEmpty then [] else
  bindPairs managed e.b.binds
    (diffUnordered (managed.map fun i => (e.a.binds.getD i default).key) (e.b.binds.map (·.key)))

def isoRA (e : Env) (managed : List Nat) : List (Name × Name) :=
  (isoPairs e managed).map fun p => (aclOfI e p.1, p.2.acl)

/-- The target specifies no routes, or: same routes on both sides (as sets); the lists read off the `diffUnordered` script are the routes missing
on the other side (validity of that script). -/
def routesSame (al bl : List Route) : Bool :=
  bl.isEmpty ||
  decide ((routeDelsOf al bl).map (·.2) = al.filter fun a => !(bl.map (·.text)).contains a.text) &&
  decide (routeInssOf al bl = bl.filter fun r => !(al.map (·.text)).contains r.text) &&
  al.all (fun a => (bl.map (·.text)).contains a.text) && bl.all (fun r => (al.map (·.text)).contains r.text)

/-- **Class ISO** (hypothesis of `asa_F1_idempotent_partial`). -/
def isoCheck (a b : Config) (sc : Scripts) : Bool :=
  match checkInterfaces ⟨a, b, sc⟩ {} with
  | none => false
  | some (st0, managed) =>
    let e : Env := ⟨a, b, sc⟩
    ((managed.isEmpty && b.binds.isEmpty) ||
      (bindsShape e (generateNames e st0) managed b.binds && decide ((isoPairs e managed).map (·.1) = managed))) &&
    bij (isoRA e managed) && bij (RGof e (isoRA e managed)) &&
    (isoRA e managed).all (fun p => !st0.aNeeded.contains p.1 && aclIso e p.1 p.2) &&
    (RGof e (isoRA e managed)).all (fun p => !st0.gNeeded.contains p.1 && pureEq (lookupD sc.grp p)) &&
    routesSame (sortRoutes a.routes) (sortRoutes b.routes) &&
    (a.acls.map (·.1)).all (fun n => !isTagged n || st0.aNeeded.contains n || ((isoRA e managed).map (·.1)).contains n) &&
    (a.groups.map (·.1)).all (fun g => !isTagged g || st0.gNeeded.contains g ||
      ((isoRA e managed).flatMap fun p => (e.aLines p.1).flatMap (·.refs)).contains g)

/-! ## Diagnostics for the measured distribution (not used by any theorem) -/

def aclStepWhy (e : Env) (st : St) (aN bN : Name) : String :=
  if st.aNeeded.contains aN then
    (if transferCheck e (st.hit "acl:device-acl-needed") bN then "" else "transfer(empty-or-duplicate-text)")
  else if st.aReady.contains bN then ""
  else
    let rs := lookupD e.sc.acl (aN, bN)
    if !(rs.any (·.isEqual)) then
      (if transferCheck e (markDeletedAcl e (st.hit "acl:no-parts-equal") aN) bN then "" else "transfer(empty-or-duplicate-text)")
    else if !scriptOK ((e.aLines aN).map (·.body)) ((e.bLines bN).map (·.body)) rs 0 0 then "acl-script"
    else if planCheck e (({ st with aName := (bN, aN) :: st.aName }.hit "acl:incremental").hit (planCheck e st aN bN rs)) aN bN rs != "hyp:ok"
      then planCheck e (({ st with aName := (bN, aN) :: st.aName }.hit "acl:incremental").hit (planCheck e st aN bN rs)) aN bN rs
    else if !(refsMatchBodyB (e.aLines aN) && refsMatchBodyB (e.bLines bN)) then "refs-vs-body"
    else ""

def runWhy (e : Env) : St → List (Nat × Bind) → String
  | _, [] => ""
  | st, p :: ps =>
    if pairCheck e st p.1 p.2 then runWhy e (makeEqualBind e st p.1 p.2) ps
    else
      let a := e.a.binds.getD p.1 default
      let w := aclStepWhy e { st with bNeeded := makeEqualBind.addSet' p.1 st.bNeeded } a.acl p.2.acl
      if w == "" then "pair-static" else w

def opsWhy (e : Env) : St → List Nat → List Bind → List BOp → String
  | _, _, _, [] => ""
  | st, pend, done, op :: ops =>
    if opCheck e st pend done op then opsWhy e (applyOp e st op) (opsEnd pend done [op]).1 (opsEnd pend done [op]).2 ops
    else match op with
      | .delGroup _ => "bind-del-static"
      | .add b => if transferCheck e st b.acl then "bind-add-static" else "transfer(empty-or-duplicate-text)"
      | .eq i b =>
        let a := e.a.binds.getD i default
        let w := aclStepWhy e { st with bNeeded := makeEqualBind.addSet' i st.bNeeded } a.acl b.acl
        if w == "" then "pair-static" else w

/-- Why a case is outside class K2 (first failing conjunct). -/
def k2Why (a b : Config) (sc : Scripts) : String :=
  match checkInterfaces ⟨a, b, sc⟩ {} with
  | none => "rejected"
  | some (st0, managed) =>
    let e : Env := ⟨a, b, sc⟩
    let st := generateNames e st0
    if !wfB e then "wf"
    else if !(refsClosedA e && refsClosedB e) then "refs-closed"
    else if !(decide (a.acls.map (·.1)).Nodup && decide (a.groups.map (·.1)).Nodup) then "names"
    else if !decide (a.binds.map fun x => (x.dir, x.intf)).Nodup then "bind-keys"
    else if !bindsCheck e st managed then
      (let diff := diffUnordered (managed.map fun i => (e.a.binds.getD i default).key) (b.binds.map (·.key))
       if !(diff.any (·.isEqual)) then
         (let w := opsWhy e (nopartsSt e st managed) managed [] (b.binds.map BOp.add)
          if w == "" then "bind-no-parts-equal" else w)
       else
         let w := opsWhy e st managed [] (bindOps managed b.binds diff)
         if w == "" then "bind-cover" else w)
    else if !routesCheck (sortRoutes a.routes) (sortRoutes b.routes)
        (routeDelsOf (sortRoutes a.routes) (sortRoutes b.routes)) (routeInssOf (sortRoutes a.routes) (sortRoutes b.routes)) then "routes"
    else "?"

/-- Why a case is outside class ISO (first failing conjunct). -/
def isoWhy (a b : Config) (sc : Scripts) : String :=
  match checkInterfaces ⟨a, b, sc⟩ {} with
  | none => "rejected"
  | some (st0, managed) =>
    let e : Env := ⟨a, b, sc⟩
    if !((managed.isEmpty && b.binds.isEmpty) ||
      (bindsShape e (generateNames e st0) managed b.binds && decide ((isoPairs e managed).map (·.1) = managed))) then "bind-shape"
    else if !bij (isoRA e managed) then "acl-pairing-not-1:1"
    else if !bij (RGof e (isoRA e managed)) then "group-pairing-not-1:1"
    else if !(isoRA e managed).all (fun p => !st0.aNeeded.contains p.1) then "acl-used-by-unknown-interface"
    else if !(isoRA e managed).all (fun p => aclIso e p.1 p.2) then "acl-script-not-identity"
    else if !(RGof e (isoRA e managed)).all (fun p => !st0.gNeeded.contains p.1) then "group-used-by-unknown-interface"
    else if !(RGof e (isoRA e managed)).all (fun p => pureEq (lookupD sc.grp p)) then "group-script-not-identity"
    else if !routesSame (sortRoutes a.routes) (sortRoutes b.routes) then "routes"
    else if !(a.acls.map (·.1)).all (fun n => !isTagged n || st0.aNeeded.contains n || ((isoRA e managed).map (·.1)).contains n) then "leftover-acl"
    else if !(a.groups.map (·.1)).all (fun g => !isTagged g || st0.gNeeded.contains g ||
      ((isoRA e managed).flatMap fun p => (e.aLines p.1).flatMap (·.refs)).contains g) then "leftover-group"
    else "?"

/-! ## Phase shape of the route commands of a printed script (hypotheses of `NA.Route.routes_covered`) -/

def isRouteCmd : Chg → Bool
  | .route _ => true
  | .noRoute _ => true
  | .join (.noRoute _) (.route _) => true
  | _ => false

def isPlainNoRoute : Chg → Bool
  | .noRoute _ => true
  | _ => false

/-- Checked on the route commands of a script, in their printed order: first only additions and replacements of
a route by one to the SAME destination (one joined line); then only deletions of routes the target does not
contain; after the first phase every target route is on the device. -/
def routeShapeCheck (a b : Config) (script : List Chg) : Bool :=
  let U := a.routes ++ b.routes
  let dstOf := fun (t : String) => (U.find? (·.text == t)).map (·.dst)
  let rc := script.filter isRouteCmd
  let opsA := rc.takeWhile (fun c => !isPlainNoRoute c)
  let opsB := rc.dropWhile (fun c => !isPlainNoRoute c)
  let afterA := opsA.foldl (fun (s : List String) c =>
    match c with
    | .route t => s ++ [t]
    | .join (.noRoute o) (.route n) => s.filter (· != o) ++ [n]
    | _ => s) (a.routes.map (·.text))
  opsA.all (fun c => match c with
    | .route _ => true
    | .join (.noRoute o) (.route n) => (dstOf o).isSome && dstOf o == dstOf n
    | _ => false) &&
  opsB.all (fun c => match c with
    | .noRoute t => !(b.routes.map (·.text)).contains t
    | _ => false) &&
  (b.routes.isEmpty || b.routes.all (fun r => afterA.contains r.text))

/-- Hypotheses of `asa_routes_covered_every_step` on the input (decidable form). -/
def routesInputOK (a b : Config) : Bool :=
  decide (a.routes.map (·.text)).Nodup &&
  (a.routes ++ b.routes).all fun r => (a.routes ++ b.routes).all fun r' => !(r.text == r'.text) || r == r'

end NA.F1
