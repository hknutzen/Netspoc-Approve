import NA.Proofs.C19Frame
import NA.Proofs.C19Dom
/-!
# C19 — the event system, and the soundness of an annotated program for one event

What one event may do to a state is said once, as the relation `Core`; what an event preserves is then
proved by cases on it (`Core.global` for the database, `Core.annotated` for "every live process has the
facts of its annotation", which is what a successful `check` gives).  `step_cases`: what the orphan
mechanism of `step` adds to `stepCore`.
-/
namespace NA.C19

def UniquePids (ps : List Proc) : Prop := ∀ p ∈ ps, ∀ q ∈ ps, p.pid = q.pid → p = q

theorem findProc_some {ps : List Proc} {pid : Nat} {p : Proc} (h : findProc ps pid = some p) :
    p ∈ ps ∧ p.pid = pid :=
  ⟨List.mem_of_find?_eq_some h, by simpa using List.find?_some h⟩

theorem mem_replaceProc {ps : List Proc} {p' q : Proc} (h : q ∈ replaceProc ps p') :
    (q = p' ∧ ∃ q0 ∈ ps, q0.pid = p'.pid) ∨ (q ∈ ps ∧ q.pid ≠ p'.pid) := by
  unfold replaceProc at h
  rw [List.mem_map] at h
  obtain ⟨q0, hq0, hq⟩ := h
  by_cases hp : q0.pid = p'.pid
  · simp [hp] at hq; exact Or.inl ⟨hq.symm, q0, hq0, hp⟩
  · simp [hp] at hq; subst hq; exact Or.inr ⟨hq0, hp⟩

theorem unique_replaceProc {ps : List Proc} {p' : Proc} (hu : UniquePids ps) :
    UniquePids (replaceProc ps p') := by
  intro a ha b hb hab
  rcases mem_replaceProc ha with ⟨rfl, _⟩ | ⟨ha1, ha2⟩ <;> rcases mem_replaceProc hb with ⟨rfl, _⟩ | ⟨hb1, hb2⟩
  · rfl
  · exact absurd hab.symm hb2
  · exact absurd hab ha2
  · exact hu a ha1 b hb1 hab

theorem mem_replaceProc_of {ps : List Proc} {q p' : Proc} (hq : q ∈ ps) :
    (if q.pid = p'.pid then p' else q) ∈ replaceProc ps p' := by
  unfold replaceProc
  exact List.mem_map.mpr ⟨q, hq, rfl⟩

theorem findProc_replace {ps : List Proc} {pid : Nat} {p p' : Proc} (hf : findProc ps pid = some p)
    (hp : p'.pid = pid) : findProc (replaceProc ps p') pid = some p' := by
  unfold findProc replaceProc at *
  induction ps with
  | nil => simp at hf
  | cons q qs ih =>
    simp only [List.map_cons, List.find?_cons] at hf ⊢
    by_cases hq : q.pid = pid
    · simp [hq, hp]
    · have hq' : (q.pid == pid) = false := by simpa using hq
      rw [hq'] at hf
      have hne : ¬ q.pid = p'.pid := by rw [hp]; exact hq
      simp only [hne, if_false, hq']
      exact ih hf

theorem findProc_append_new {ps : List Proc} {n : Nat} {p : Proc} (hfresh : ∀ q ∈ ps, q.pid < n) (hp : p.pid = n) :
    findProc (ps ++ [p]) n = some p := by
  have hnone : ps.find? (·.pid == n) = none :=
    List.find?_eq_none.mpr fun q hq h => absurd (hfresh q hq) (by simp at h; omega)
  simp [findProc, List.find?_append, hnone, hp]

@[simp] theorem exec_pid (c : Cmd) (g : G) (p : Proc) : (exec c g p).2.1.pid = p.pid := (frame c g p).pid

theorem exec_lock (c : Cmd) (g : G) (p : Proc) :
    (exec c g p).1.lock = g.lock ∨ (g.lock = none ∧ (exec c g p).1.lock = some p.pid) := (frame c g p).lock

theorem exec_lock_other {c : Cmd} {g : G} {p q : Proc} (h : g.lock = some q.pid) : (exec c g p).1.lock = some q.pid := by
  rcases exec_lock c g p with h1 | ⟨h0, _⟩
  · rw [h1, h]
  · rw [h0] at h; cases h

theorem exec_lock_own {c : Cmd} {g : G} {p : Proc} (h : g.lock = some p.pid) :
    (exec c g p).1.lock = some (exec c g p).2.1.pid := by
  rw [exec_pid]; exact exec_lock_other h

@[elab_as_elim] theorem release_ind {motive : G → Prop} (g : G) (pid : Nat) (h : motive g)
    (h' : g.lock = some pid → motive { g with lock := none }) : motive (release g pid) := by
  unfold release; split
  · exact h' ‹_›
  · exact h

theorem newest_release {g : G} {pid : Nat} : (release g pid).newest = g.newest := by
  unfold release; split <;> rfl

theorem not_holder {g : G} {q : Proc} {pid : Nat} (hl : g.lock = some pid) (hne : q.pid ≠ pid) :
    g.lock = some q.pid → False :=
  fun h1 => hne (Option.some.inj (h1.symm.trans hl))

/-- The process after one non-exit command. -/
def after (i : Instr) (g : G) (p : Proc) : Proc :=
  { (exec i.cmd g p).2.1 with pc := if (exec i.cmd g p).2.2 then i.ok else i.fail,
                               touched := (exec i.cmd g p).2.1.touched || i.cmd.mutating }

theorem stepProc_nonexit {prog : Prog} {g : G} {p : Proc} {i : Instr} (hi : instrAt prog p.pc = some i)
    (hne : ∀ n, i.cmd ≠ .exit n) : stepProc prog g p = ((exec i.cmd g p).1, after i g p) := by
  unfold stepProc after
  simp only [hi]     -- the side condition of the default alternative is discharged by `hne`

theorem stepProc_none {prog : Prog} {g : G} {p : Proc} (hi : instrAt prog p.pc = none) :
    stepProc prog g p = (release g p.pid, { p with alive := false, exit := some 0 }) := by
  unfold stepProc
  simp only [hi]

theorem stepProc_exit {prog : Prog} {g : G} {p : Proc} {i : Instr} {n : Nat} (hi : instrAt prog p.pc = some i)
    (hc : i.cmd = .exit n) : stepProc prog g p = (release g p.pid, { p with alive := false, exit := some n }) := by
  unfold stepProc
  simp only [hi, hc]

theorem after_pid (i : Instr) (g : G) (p : Proc) : (after i g p).pid = p.pid := exec_pid i.cmd g p

theorem after_alive (i : Instr) (g : G) (p : Proc) : (after i g p).alive = p.alive := (frame i.cmd g p).alive

theorem exec_lock_after {i : Instr} {g : G} {p : Proc} (h : g.lock = some p.pid) :
    (exec i.cmd g p).1.lock = some (after i g p).pid := exec_lock_own h

/-- What one event (without the orphan mechanism) MAY do: an over-approximation of `stepCore`, made for
proofs of preservation.  `idle` (meant for an event that names no live process, and for `killDuring`) and
`gone` (a live process is killed, runs off the end of the script or executes `exit`) hold of EVERY event,
`gone` of every exit status: `core_stepCore` is the only direction, and a proof that needs what the step of
a live process DOES (progress: `calm_step`) opens `stepCore` itself. -/
inductive Core (prog : Prog) (s : State) : Event → State → Prop
  | idle (e : Event) : Core prog s e s
  | commit (good : Bool) (pol : Option Nat) (email : Bool) : Core prog s (.commit good pol email)
      { s with g := { applyCommit s.g good pol email with raced := s.g.raced || pushPending s.procs } }
  | spawn : Core prog s .spawn { s with procs := s.procs ++ [{ pid := s.npid }], npid := s.npid + 1 }
  | gone (e : Event) (p : Proc) (x : Option Nat) : findProc s.procs p.pid = some p → p.alive = true →
      Core prog s e { s with g := release s.g p.pid, procs := replaceProc s.procs { p with alive := false, exit := x } }
  | cmd (p : Proc) (i : Instr) : findProc s.procs p.pid = some p → p.alive = true → instrAt prog p.pc = some i →
      (∀ n, i.cmd ≠ .exit n) →
      Core prog s (.step p.pid) { s with g := (exec i.cmd s.g p).1, procs := replaceProc s.procs (after i s.g p) }

/-- Users take `Core prog s e s'` for an arbitrary `s'`: `cases` needs the successor state to be a variable. -/
theorem core_stepCore (prog : Prog) (s : State) (e : Event) : Core prog s e (stepCore prog s e) := by
  have found : ∀ {pid p}, findProc s.procs pid = some p → findProc s.procs p.pid = some p ∧ pid = p.pid :=
    fun hf => by rw [(findProc_some hf).2]; exact ⟨hf, rfl⟩
  cases e with
  | commit good pol email => exact .commit good pol email
  | spawn => exact .spawn
  | killDuring pid => exact .idle _
  | kill pid =>
    simp only [stepCore]
    cases hf : findProc s.procs pid with
    | none => exact .idle _
    | some p =>
      obtain ⟨hf', rfl⟩ := found hf
      by_cases hal : p.alive = true
      · simp only [hal, if_true]; exact .gone _ p none hf' hal
      · simp only [hal]; exact .idle _
  | step pid =>
    simp only [stepCore]
    cases hf : findProc s.procs pid with
    | none => exact .idle _
    | some p =>
      obtain ⟨hf', rfl⟩ := found hf
      by_cases hal : p.alive = true
      · simp only [hal, if_true]
        cases hi : instrAt prog p.pc with
        | none => rw [stepProc_none hi]; exact .gone _ p (some 0) hf' hal
        | some i =>
          by_cases hex : ∃ n, i.cmd = .exit n
          · obtain ⟨n, hn⟩ := hex
            rw [stepProc_exit hi hn]; exact .gone _ p (some n) hf' hal
          · have hne : ∀ n, i.cmd ≠ .exit n := fun n h => hex ⟨n, h⟩
            rw [stepProc_nonexit hi hne]; exact .cmd p i hf' hal hi hne
      · simp only [hal]; exact .idle _

/-! Every invariant of `NA/Proofs/C19*.lean` has a part about the database alone and a part that gives
every live process the facts its program point is annotated with.  The five cases of `Core` are walked
here, once; a domain supplies what happens to its facts under a user commit, a release of the lock, the
own command and a command of another process. -/

def Annotated {D : Dom} (Γ : D.F → G → Proc → Prop) (ann : Ann D) (s : State) : Prop :=
  ∀ p ∈ s.procs, p.alive = true → ∃ a, D.at ann p.pc = some a ∧ Γ a s.g p

section
variable {prog : Prog} {s s' : State} {e : Event}

theorem Core.global {I : G → Prop} (hs : Core prog s e s') (h : I s.g)
    (hcommit : ∀ good pol email r, I { applyCommit s.g good pol email with raced := r })
    (hrel : ∀ pid, I (release s.g pid))
    (hexec : ∀ p i, findProc s.procs p.pid = some p → p.alive = true → instrAt prog p.pc = some i →
      (∀ n, i.cmd ≠ .exit n) → e = .step p.pid → I (exec i.cmd s.g p).1) : I s'.g := by
  cases hs with
  | idle => exact h
  | commit => exact hcommit ..
  | spawn => exact h
  | gone => exact hrel _
  | cmd p i hf hal hi hne => exact hexec p i hf hal hi hne rfl

/-- The ghosts are never reset; so the guards of the numbering and git layers (`quiet`, `Qs`) are closed
backwards along a history. -/
theorem Core.ghosts (hs : Core prog s e s') :
    (s'.g.trouble = false → s.g.trouble = false) ∧ (s'.g.edited = false → s.g.edited = false) ∧
    (s'.g.raced = false → s.g.raced = false) := by
  cases hs with
  | idle => exact ⟨id, id, id⟩
  | spawn => exact ⟨id, id, id⟩
  | commit good pol email =>
    exact ⟨id, fun h => (Bool.or_eq_false_iff.mp (h : (s.g.edited || pol.isSome) = false)).1,
      fun h => (Bool.or_eq_false_iff.mp (h : (s.g.raced || pushPending s.procs) = false)).1⟩
  | gone _ p x =>
    exact release_ind (motive := fun g => (g.trouble = false → s.g.trouble = false) ∧ (g.edited = false → s.g.edited = false) ∧
      (g.raced = false → s.g.raced = false)) s.g p.pid ⟨id, id, id⟩ fun _ => ⟨id, id, id⟩
  | cmd p i => exact ⟨(frame i.cmd s.g p).trouble, (frame i.cmd s.g p).edited, fun h => (frame i.cmd s.g p).raced ▸ h⟩

theorem Core.annotated {D : Dom} {Γ : D.F → G → Proc → Prop} {ann : Ann D} (hs : Core prog s e s')
    (hc : check D prog ann = true) (mono : ∀ {a b g p}, Γ a g p → D.le a b = true → Γ b g p)
    (h : Annotated Γ ann s)
    (hentry : Γ D.entry s.g { pid := s.npid })
    (hcommit : ∀ good pol email,
      s'.g = { applyCommit s.g good pol email with raced := s.g.raced || pushPending s.procs } →
      ∀ p ∈ s.procs, p.alive = true → ∀ b, Γ b s.g p → Γ b s'.g p)
    (hrel : ∀ pid, ∀ q ∈ s.procs, q.pid ≠ pid → ∀ b, Γ b s.g q → Γ b (release s.g pid) q)
    (hown : ∀ p ∈ s.procs, p.alive = true → ∀ i a, instrAt prog p.pc = some i → (∀ n, i.cmd ≠ .exit n) →
      s'.g = (exec i.cmd s.g p).1 → D.at ann p.pc = some a → Γ a s.g p → D.req i.cmd a = true →
      ∃ x, D.tf i.cmd a (exec i.cmd s.g p).2.2 = some x ∧ Γ x (exec i.cmd s.g p).1 (after i s.g p))
    (hother : ∀ p ∈ s.procs, p.alive = true → ∀ i, instrAt prog p.pc = some i → ∀ q ∈ s.procs, q.pid ≠ p.pid →
      ∀ b, Γ b s.g q → Γ b (exec i.cmd s.g p).1 q) :
    Annotated Γ ann s' := by
  cases hs with
  | idle => exact h
  | commit good pol email =>
    intro p hp ha
    obtain ⟨a, h1, h2⟩ := h p hp ha
    exact ⟨a, h1, hcommit _ _ _ rfl p hp ha a h2⟩
  | spawn =>
    intro p hp ha
    rcases List.mem_append.mp hp with hp | hp
    · exact h p hp ha
    · obtain rfl := List.mem_singleton.mp hp
      obtain ⟨a, h1, h2⟩ := check_entry hc
      exact ⟨a, h1, mono hentry h2⟩
  | gone _ p x =>
    intro q hq hqa
    rcases mem_replaceProc hq with ⟨rfl, _⟩ | ⟨hq1, hq2⟩
    · cases hqa
    · obtain ⟨b, h1, h2⟩ := h q hq1 hqa
      exact ⟨b, h1, hrel _ q hq1 hq2 b h2⟩
  | cmd p i hf hal hi hne =>
    have hpm := (findProc_some hf).1
    obtain ⟨a, ha, hΓ⟩ := h p hpm hal
    obtain ⟨hreq, hedge⟩ := check_step hc hi ha
    intro q hq hqa
    rcases mem_replaceProc hq with ⟨rfl, _⟩ | ⟨hq1, hq2⟩
    · -- the process that moved: its new facts are below those of the annotation it arrives at
      obtain ⟨x, hx, hΓ'⟩ := hown p hpm hal i a hi hne rfl ha hΓ hreq
      obtain ⟨b, hb1, hb2⟩ := hedge _ x hx
      exact ⟨b, hb1, mono hΓ' hb2⟩
    · obtain ⟨b, h1, h2⟩ := h q hq1 hqa
      rw [after_pid] at hq2
      exact ⟨b, h1, hother p hpm hal i hi q hq1 hq2 b h2⟩

end

theorem inh_of_ok {prog : Prog} (h : inhOK prog = true) {pc : Nat} {i : Instr} (hi : instrAt prog pc = some i)
    (he : i.cmd.external = true) : i.inh = true := by
  simp only [inhOK, List.all_eq_true] at h
  simpa [he] using h i (List.mem_of_getElem? hi)

/-- What `step` adds to `stepCore` (for programs whose children all inherit fd 9): an event is one core
event (a `killDuring` that hits no running child is a `kill`); or the killed shell is only remembered;
or a remembered invocation finishes its command and is gone. -/
theorem step_cases {prog : Prog} (hinh : inhOK prog = true) (s : State) (e : Event) :
    (∃ e', step prog s e = stepCore prog s e' ∧ (e' = e ∨ ∃ pid, e = .killDuring pid ∧ e' = .kill pid)) ∨
    (∃ pid p, e = .killDuring pid ∧ findProc s.procs pid = some p ∧ step prog s e = { s with dying := pid :: s.dying }) ∨
    (∃ pid, e = .step pid ∧ step prog s e = stepCore prog
        { stepCore prog s (.step pid) with dying := (stepCore prog s (.step pid)).dying.filter (· != pid) } (.kill pid)) := by
  cases e with
  | killDuring pid =>
    cases hf : findProc s.procs pid with
    | none => exact Or.inl ⟨_, (by simp only [step, hf]; rfl), Or.inl rfl⟩
    | some p =>
      cases hi : instrAt prog p.pc with
      | none => exact Or.inl ⟨.kill pid, (by simp only [step, hf, hi]), Or.inr ⟨pid, rfl, rfl⟩⟩
      | some i =>
        by_cases hc : (p.alive && i.cmd.external) = true
        · have he : i.cmd.external = true := by simp at hc; exact hc.2
          exact Or.inr (Or.inl ⟨pid, p, rfl, hf, by simp only [step, hf, hi, hc, if_true, inh_of_ok hinh hi he]⟩)
        · have hc' : (p.alive && i.cmd.external) = false := by simpa using hc
          exact Or.inl ⟨.kill pid, (by simp only [step, hf, hi, hc', Bool.false_eq_true, if_false]), Or.inr ⟨pid, rfl, rfl⟩⟩
  | step pid =>
    by_cases hd : s.dying.contains pid = true
    · exact Or.inr (Or.inr ⟨pid, rfl, by simp only [step, hd, if_true]⟩)
    · exact Or.inl ⟨_, (by simp only [step, hd]; rfl), Or.inl rfl⟩
  | commit good pol email => exact Or.inl ⟨_, rfl, Or.inl rfl⟩
  | spawn => exact Or.inl ⟨_, rfl, Or.inl rfl⟩
  | kill pid => exact Or.inl ⟨_, rfl, Or.inl rfl⟩

theorem step_lift {prog : Prog} (hinh : inhOK prog = true) {P : State → Prop}
    (hcore : ∀ s e, P s → P (stepCore prog s e))
    (hdy : ∀ s d, P s → P { s with dying := d }) (s : State) (e : Event) (h : P s) : P (step prog s e) := by
  rcases step_cases hinh s e with ⟨e', he, _⟩ | ⟨pid, p, _, _, he⟩ | ⟨pid, _, he⟩ <;> rw [he]
  · exact hcore _ _ h
  · exact hdy _ _ h
  · exact hcore _ _ (hdy _ _ (hcore _ _ h))

end NA.C19
