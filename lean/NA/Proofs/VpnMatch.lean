import NA.Proofs.VpnSeq
/-!
`matchCryptoMap`: the i-th call of the matching loop in closed form (`matchLoop_at`; which target numbers the
earlier entries consumed is `matchLoop_done_eq`), and the fresh-number loop as `freshSeqs` (`freshLoop_eq`).
-/
namespace NA.Vpn

theorem mem_insSorted (x y : Int) (l : List Int) : y ∈ insSorted x l ↔ y = x ∨ y ∈ l := by
  induction l with
  | nil => simp [insSorted]
  | cons z zs ih =>
    unfold insSorted
    by_cases h1 : x < z
    · rw [if_pos h1, List.mem_cons]
    · by_cases h2 : x = z
      · rw [if_neg h1, if_pos h2, h2, List.mem_cons, or_self_left]
      · rw [if_neg h1, if_neg h2, List.mem_cons, ih, List.mem_cons, or_left_comm]

theorem insSorted_sorted (x : Int) (l : List Int) (h : l.Pairwise (· < ·)) : (insSorted x l).Pairwise (· < ·) := by
  induction l with
  | nil => simp [insSorted]
  | cons z zs ih =>
    unfold insSorted
    have hz := List.pairwise_cons.1 h
    by_cases h1 : x < z
    · rw [if_pos h1]
      refine List.Pairwise.cons (fun y hy => ?_) h
      cases hy with
      | head => exact h1
      | tail _ hy => exact Int.lt_trans h1 (hz.1 y hy)
    · by_cases h2 : x = z
      · rw [if_neg h1, if_pos h2]
        exact h
      · rw [if_neg h1, if_neg h2]
        refine List.Pairwise.cons (fun y hy => ?_) (ih hz.2)
        rcases (mem_insSorted x y zs).1 hy with h' | h'
        · exact h' ▸ (Int.lt_or_lt_of_ne h2).resolve_left h1
        · exact hz.1 y h'

theorem sortedKeys_cons (x : Int) (xs : List Int) : sortedKeys (x :: xs) = insSorted x (sortedKeys xs) := rfl

theorem mem_sortedKeys (y : Int) (l : List Int) : y ∈ sortedKeys l ↔ y ∈ l := by
  induction l with
  | nil => simp [sortedKeys]
  | cons x xs ih => rw [sortedKeys_cons, mem_insSorted, ih, List.mem_cons]

theorem sortedKeys_sorted (l : List Int) : (sortedKeys l).Pairwise (· < ·) := by
  induction l with
  | nil => simp [sortedKeys]
  | cons x xs ih => exact insSorted_sorted x _ ih

theorem seqKeys_sorted (l : List Cmd) : (seqKeys l).Pairwise (· < ·) := sortedKeys_sorted _

theorem mem_seqKeys (l : List Cmd) (s : Int) : s ∈ seqKeys l ↔ ∃ c ∈ l, c.seq = s := by
  unfold seqKeys
  rw [mem_sortedKeys]
  simp [List.mem_map]

theorem entry_ne_nil (l : List Cmd) (s : Int) (h : s ∈ seqKeys l) : entry l s ≠ [] := by
  obtain ⟨c, hc, hs⟩ := (mem_seqKeys l s).1 h
  have : c ∈ entry l s := by
    unfold entry
    exact List.mem_filter.2 ⟨hc, by simp [hs]⟩
  exact List.ne_nil_of_mem this

theorem entry_seq (l : List Cmd) (s : Int) : ∀ c ∈ entry l s, c.seq = s := by
  intro c hc
  unfold entry at hc
  have := (List.mem_filter.1 hc).2
  simpa using this

theorem peerSeq_eq_find? (l : List Cmd) (p : Peer) (keys : List Int) :
    peerSeq l keys p = keys.find? fun s => decide (getPeer (entry l s) = some p) := by
  induction keys with
  | nil => rfl
  | cons k ks ih =>
    rw [peerSeq, List.find?_cons, ih]
    by_cases h : getPeer (entry l k) = some p
    · rw [if_pos h, decide_eq_true h]
    · rw [if_neg h, decide_eq_false h]

theorem peerSeq_none (l : List Cmd) (p : Peer) : ∀ (keys : List Int), peerSeq l keys p = none →
    ∀ t ∈ keys, getPeer (entry l t) ≠ some p := by
  intro keys h t ht
  rw [peerSeq_eq_find?, List.find?_eq_none] at h
  exact of_decide_eq_false (Bool.eq_false_iff.2 (h t ht))

theorem peerSeq_lowest (l : List Cmd) (p : Peer) (keys : List Int) (hs : keys.Pairwise (· < ·)) (t : Int)
    (h : peerSeq l keys p = some t) :
    t ∈ keys ∧ getPeer (entry l t) = some p ∧ ∀ t' ∈ keys, getPeer (entry l t') = some p → t ≤ t' := by
  rw [peerSeq_eq_find?, List.find?_eq_some_iff_append] at h
  obtain ⟨h2, pre, post, rfl, h3⟩ := h
  refine ⟨List.mem_append_right _ List.mem_cons_self, of_decide_eq_true h2, fun t' ht' hp' => ?_⟩
  rcases List.mem_append.1 ht' with h' | h'
  · have := h3 t' h'
    rw [decide_eq_true hp'] at this
    cases this
  · cases h' with
    | head => exact Int.le_refl _
    | tail _ h' => exact Int.le_of_lt ((List.pairwise_cons.1 (List.pairwise_append.1 hs).2.1).1 t' h')

theorem peerSeq_isSome (l : List Cmd) (p : Peer) (keys : List Int) (t : Int) (ht : t ∈ keys)
    (hp : getPeer (entry l t) = some p) : ∃ t0, peerSeq l keys p = some t0 :=
  match h : peerSeq l keys p with
  | some t0 => ⟨t0, rfl⟩
  | none => absurd hp (peerSeq_none l p keys h t ht)

/-- the target entry a device entry is compared with, if the target's entry is still there -/
def tgtOf (al bl : List Cmd) (bKeys : List Int) (s : Int) : Option Int :=
  (getPeer (entry al s)).bind (peerSeq bl bKeys)

theorem tgtOf_of_peer {al : List Cmd} {s : Int} {p : Peer} (hp : getPeer (entry al s) = some p)
    (bl : List Cmd) (bKeys : List Int) : tgtOf al bl bKeys s = peerSeq bl bKeys p := by
  unfold tgtOf
  rw [hp]
  rfl

theorem matchLoop_cons (al bl : List Cmd) (bKeys : List Int) (s : Int) (rest done : List Int) :
    matchLoop al bl bKeys (s :: rest) done =
      match tgtOf al bl bKeys s with
      | some t => (⟨entry al s, if t ∈ done then [] else entry bl t⟩ :: (matchLoop al bl bKeys rest (t :: done)).1,
                    (matchLoop al bl bKeys rest (t :: done)).2)
      | none => (⟨entry al s, []⟩ :: (matchLoop al bl bKeys rest done).1, (matchLoop al bl bKeys rest done).2) := by
  unfold tgtOf
  rw [matchLoop]
  cases (getPeer (entry al s)).bind (peerSeq bl bKeys) <;> rfl

theorem matchLoop_a (al bl : List Cmd) (bKeys keys done : List Int) :
    (matchLoop al bl bKeys keys done).1.map (·.a) = keys.map (entry al) := by
  induction keys generalizing done with
  | nil => rfl
  | cons s rest ih =>
    rw [matchLoop_cons]
    cases tgtOf al bl bKeys s with
    | some t => simp [ih]
    | none => simp [ih]

theorem matchLoop_length (al bl : List Cmd) (bKeys keys done : List Int) :
    (matchLoop al bl bKeys keys done).1.length = keys.length := by
  rw [← List.length_map (f := (·.a)), matchLoop_a, List.length_map]

theorem matchLoop_append (al bl : List Cmd) (bKeys pre rest done : List Int) :
    (matchLoop al bl bKeys (pre ++ rest) done).1 =
      (matchLoop al bl bKeys pre done).1 ++ (matchLoop al bl bKeys rest (matchLoop al bl bKeys pre done).2).1 := by
  induction pre generalizing done with
  | nil => rfl
  | cons s pre ih =>
    rw [List.cons_append, matchLoop_cons, matchLoop_cons]
    cases tgtOf al bl bKeys s with
    | some t => simp [ih]
    | none => simp [ih]

theorem matchLoop_done_eq (al bl : List Cmd) (bKeys pre done : List Int) :
    (matchLoop al bl bKeys pre done).2 = (pre.filterMap (tgtOf al bl bKeys)).reverse ++ done := by
  induction pre generalizing done with
  | nil => rfl
  | cons s pre ih =>
    rw [matchLoop_cons]
    cases h : tgtOf al bl bKeys s with
    | some t0 => simp [ih, h]
    | none => simp [ih, h]

theorem matchLoop_done (al bl : List Cmd) (bKeys : List Int) (pre done : List Int) (t : Int) :
    t ∈ (matchLoop al bl bKeys pre done).2 ↔ t ∈ done ∨ ∃ s ∈ pre, tgtOf al bl bKeys s = some t := by
  rw [matchLoop_done_eq, List.mem_append, List.mem_reverse, List.mem_filterMap, or_comm]

theorem matchLoop_at (al bl : List Cmd) (bKeys : List Int) (pre post : List Int) (s : Int) :
    (matchLoop al bl bKeys (pre ++ s :: post) []).1[pre.length]? =
      some ⟨entry al s, match tgtOf al bl bKeys s with
        | some t => if t ∈ (matchLoop al bl bKeys pre []).2 then [] else entry bl t
        | none => []⟩ := by
  rw [matchLoop_append]
  rw [List.getElem?_append_right (by rw [matchLoop_length]; exact Nat.le_refl _)]
  rw [matchLoop_length, Nat.sub_self, matchLoop_cons]
  cases tgtOf al bl bKeys s <;> rfl

def kindsOf (bl : List Cmd) (rest : List Int) : List Bool := rest.map fun t => isStaticEntry (entry bl t)

theorem freshLoop_eq (al bl : List Cmd) (used : List Int) (rest : List Int) (st dy : Int) :
    freshLoop al bl used rest st dy =
      List.zipWith (fun t s => (⟨[], (entry bl t).map (renumber al s)⟩ : Call)) rest
        (freshSeqs used (kindsOf bl rest) st dy) := by
  induction rest generalizing st dy with
  | nil => rfl
  | cons t rest ih =>
    unfold freshLoop kindsOf
    cases h : isStaticEntry (entry bl t) with
    | true =>
      simp only [if_true, List.map_cons, h, freshSeqs, List.zipWith_cons_cons]
      rw [ih]; rfl
    | false =>
      simp only [Bool.false_eq_true, if_false, List.map_cons, h, freshSeqs, List.zipWith_cons_cons]
      rw [ih]; rfl

end NA.Vpn
