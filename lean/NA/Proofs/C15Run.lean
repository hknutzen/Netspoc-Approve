import NA.Proofs.C15Loop
/-!
# C15: the change loop against the scripted device, and its specification

`specTrace`, `specWarns`, `specOk`, `firstBad` are functions of the script alone: what the loop sends,
warns about and returns, written down without the session monad (of the model only `validOutput`, `oneMinute`).  One step is an equation (`cmd_chg`: `cmd` on a script
element returns `Chg.res` in the state `Chg.post`); `loop_spec` proves that the model's loop does exactly what the
specification says; banner invariance is then a comparison of the specification of a script with that of its
`plain` version (`specTrace_plain` …).
-/
namespace NA.Ios

structure ChangeCmd (c : Str) : Prop where
  clean : CleanCmd c
  change : isChange c = true

def validOut (o : Str) : Bool := (validOutput (splitOnNL o)).2

/-- the state in which `cmd` is entered -/
structure Ready (st : St SimSt) : Prop where
  pend : st.pend = []
  active : st.reloadActive = true
  parts : st.dev.parts = []

theorem checkRes_valid (ci out R : Str) (need : Bool) (h : validOut out = true) :
    checkRes ci out R need = .ok need := if_pos h

theorem checkRes_invalid (ci out R : Str) (need : Bool) (h : validOut out = false) :
    checkRes ci out R need = .abort (.unexpectedOutput ci R) := if_neg (ne_true_of_eq_false h)

/-- one element of a change script together with what the device does on each of its lines -/
inductive Chg where
  | one (c : Str) (b : Behav)
  | two (c1 c2 : Str) (b1 b2 : Behav)

def Chg.cmd : Chg → Str
  | .one c _ => c
  | .two c1 c2 _ _ => c1 ++ '\n' :: c2

def Chg.behavs : Chg → List Behav
  | .one _ b => [b]
  | .two _ _ b1 b2 => [b1, b2]

def Chg.valid : Chg → Bool
  | .one _ b => validOut b.out
  | .two _ _ b1 b2 => validOut b1.out && validOut b2.out

/-- some line of the command was answered with a one-minute banner -/
def Chg.need : Chg → Bool
  | .one _ b => needOf b
  | .two _ _ b1 b2 => needOf b1 || needOf b2

def Chg.warns : Chg → List (Str × Str)
  | .one c b => warnsOf c b.out
  | .two c1 c2 b1 b2 => warnsOf c1 b1.out ++ (if validOut b1.out then warnsOf c2 b2.out else [])

def Chg.bad : Chg → Option (Str × Str)
  | .one c b => if validOut b.out then none else some (c, b.out)
  | .two c1 c2 b1 b2 =>
    if !validOut b1.out then some (c1, b1.out)
    else if !validOut b2.out then some (c2, b2.out) else none

def plainB (b : Behav) : Behav := { out := b.out }

def Chg.plain : Chg → Chg
  | .one c b => .one c (plainB b)
  | .two c1 c2 b1 b2 => .two c1 c2 (plainB b1) (plainB b2)

structure Chg.Clean (g : Chg) : Prop where
  cmds : match g with
    | .one c _ => ChangeCmd c
    | .two c1 c2 _ _ => ChangeCmd c1 ∧ ChangeCmd c2
  behavs : ∀ b ∈ g.behavs, CleanBehav b

/-- no probing placement in the first half of a joined line (complement of F-C15b) -/
def Chg.NoProbeFirst : Chg → Prop
  | .one _ _ => True
  | .two c1 _ b1 _ => probing c1 b1 = false

def specTrace (na : Bool) : List Chg → List Str
  | [] => []
  | g :: gs => g.cmd :: (if g.valid then (if g.need then rearmLines na else []) ++ specTrace na gs else [])

def specWarns : List Chg → List (Str × Str)
  | [] => []
  | g :: gs => g.warns ++ (if g.valid then specWarns gs else [])

def specOk (gs : List Chg) : Bool := gs.all Chg.valid

def firstBad : List Chg → Option (Str × Str)
  | [] => none
  | g :: gs => match g.bad with
    | some x => some x
    | none => firstBad gs

theorem Chg.bad_none_of_valid (g : Chg) (h : g.valid = true) : g.bad = none := by
  cases g with
  | one c b => simp [Chg.bad, Chg.valid] at *; simp [h]
  | two c1 c2 b1 b2 => simp [Chg.bad, Chg.valid] at *; simp [h.1, h.2]

/-- what `cmd` leaves in the buffer: the answer to the second half, if the first half is rejected -/
def Chg.leftover : Chg → Str
  | .two _ c2 b1 b2 => if validOut b1.out then [] else replyFor c2 b2
  | .one _ _ => []

/-- `q`: what the device's queue holds behind the behaviours of `g` -/
def Chg.post (na : Bool) (g : Chg) (q : List Behav) (st : St SimSt) : St SimSt :=
  { dev := { st.dev with queue := q }, pend := g.leftover, reloadActive := true,
    trace := st.trace ++ g.cmd :: (if g.valid && g.need then rearmLines na else []),
    warns := st.warns ++ g.warns }

/-- `R`: the rejected output as the client read it -/
def Chg.res (g : Chg) (R : Str) : Res Unit :=
  match g.bad with
  | none => .ok ()
  | some (ci, _) => .abort (.unexpectedOutput ci R)

theorem Chg.leftover_of_valid (g : Chg) (h : g.valid = true) : g.leftover = [] := by
  cases g with
  | one c b => rfl
  | two c1 c2 b1 b2 => simp only [Chg.valid, Bool.and_eq_true] at h; simp [Chg.leftover, h.1]

theorem Chg.bad_of_invalid (g : Chg) (h : g.valid = false) : ∃ ci out, g.bad = some (ci, out) := by
  cases g with
  | one c b => exact ⟨c, b.out, by simp [Chg.bad, Chg.valid] at *; simp [h]⟩
  | two c1 c2 b1 b2 =>
    cases hv1 : validOut b1.out with
    | false => exact ⟨c1, b1.out, by simp [Chg.bad, hv1]⟩
    | true => exact ⟨c2, b2.out, by simp [Chg.valid, hv1] at h; simp [Chg.bad, hv1, h]⟩

attribute [local simp] Chg.res Chg.post Chg.bad Chg.valid Chg.need Chg.leftover Chg.warns Chg.cmd addWarns setPend in
theorem cmd_one (na : Bool) (st : St SimSt) (c : Str) (b : Behav) (q : List Behav) (hr : Ready st)
    (hq : st.dev.queue = b :: q) (hc : ChangeCmd c) (hb : CleanBehav b) :
    ∃ R, (∀ ci out, (Chg.one c b).bad = some (ci, out) → neLines R = neLines out) ∧
      cmd (simDevice [] na) true c st = ((Chg.one c b).res R, (Chg.one c b).post na q st) := by
  have hsplit : splitOnNL c = [c] := splitOnNL_no_nl c hc.clean.noNL
  have hstep : (simDevice [] na).step st.dev c = ({ st.dev with queue := q }, replyFor c b) := by
    simp [simDevice, hsplit, simLines, simLine_change na st.dev c b q hr.parts hq hc.change]
  let st1 : St SimSt := { st with dev := { st.dev with queue := q }, pend := replyFor c b, trace := st.trace ++ [c] }
  have hsend : send (simDevice [] na) c st = (.ok (), st1) := by
    unfold send; simp [hstep, hr.pend, st1]
  obtain ⟨R, hR, hck⟩ := check_reply st1 c b [] hc.clean hb (by simp [st1]) hr.active rfl (fun _ => rfl)
  refine ⟨R, fun ci out h => by simp only [Chg.bad] at h; split at h <;> cases h; exact hR, ?_⟩
  rw [cmd_single (simDevice [] na) true c st st1 _ _ (cutNL_no_nl c hc.clean.noNL) hsend hck]
  cases hv : validOut b.out with
  | false =>
    rw [checkRes_invalid _ _ _ _ hv]
    simp [hv, st1, hr.active]
  | true =>
    rw [checkRes_valid _ _ _ _ hv]
    cases hn : needOf b with
    | false =>
      simp [hv, hn, st1, hr.active]
    | true =>
      simp only [if_true]
      rw [extendReload_sim na (addWarns (setPend st1 []) (warnsOf c b.out)) rfl hr.parts]
      simp [hv, hn, st1]

attribute [local simp] Chg.res Chg.post Chg.bad Chg.valid Chg.need Chg.leftover Chg.warns Chg.cmd addWarns setPend in
theorem cmd_two (na : Bool) (st : St SimSt) (c1 c2 : Str) (b1 b2 : Behav) (q : List Behav) (hr : Ready st)
    (hq : st.dev.queue = b1 :: b2 :: q) (hc1 : ChangeCmd c1) (hc2 : ChangeCmd c2)
    (hb1 : CleanBehav b1) (hb2 : CleanBehav b2) (hnp : probing c1 b1 = false) :
    ∃ R, (∀ ci out, (Chg.two c1 c2 b1 b2).bad = some (ci, out) → neLines R = neLines out) ∧
      cmd (simDevice [] na) true (c1 ++ '\n' :: c2) st =
        ((Chg.two c1 c2 b1 b2).res R, (Chg.two c1 c2 b1 b2).post na q st) := by
  have hsplit : splitOnNL (c1 ++ '\n' :: c2) = [c1, c2] := by
    rw [splitOnNL_append_nl, splitOnNL_no_nl c1 hc1.clean.noNL, splitOnNL_no_nl c2 hc2.clean.noNL]; rfl
  have hl1 := simLine_change na st.dev c1 b1 (b2 :: q) hr.parts hq hc1.change
  have hl2 := simLine_change na { st.dev with queue := b2 :: q } c2 b2 q hr.parts rfl hc2.change
  have hstep : (simDevice [] na).step st.dev (c1 ++ '\n' :: c2) =
      ({ st.dev with queue := q }, replyFor c1 b1 ++ replyFor c2 b2) := by
    simp [simDevice, hsplit, simLines, hl1, hl2]
  let st1 : St SimSt := { st with dev := { st.dev with queue := q }, pend := replyFor c1 b1 ++ replyFor c2 b2,
                                  trace := st.trace ++ [c1 ++ '\n' :: c2] }
  have hsend : send (simDevice [] na) (c1 ++ '\n' :: c2) st = (.ok (), st1) := by
    unfold send; simp [hstep, hr.pend, st1]
  have hrun2 : runNoHash (replyFor c2 b2) = true := by simpa using runNoHash_reply c2 b2 hc2.clean hb2 []
  -- the answer to the second half is in the buffer behind the first: no probing placement on the first
  obtain ⟨R1, hR1, hck1⟩ := check_reply st1 c1 b1 (replyFor c2 b2) hc1.clean hb1 (by simp [st1]) hr.active
    hrun2 (fun h => by rw [hnp] at h; cases h)
  let st2 : St SimSt := addWarns (setPend st1 (replyFor c2 b2)) (warnsOf c1 b1.out)
  obtain ⟨R2, hR2, hck2⟩ := check_reply st2 c2 b2 [] hc2.clean hb2 (by simp [st2]) (by simpa [st2] using hr.active)
    rfl (fun _ => rfl)
  rw [cmd_joined (simDevice [] na) _ c1 c2 st st1 _ _ _ _ (cutNL_joined c1 c2 hc1.clean.noNL)
    (List.isEmpty_eq_false_iff.2 hc2.clean.ne) hsend hck1 hck2]
  cases hv1 : validOut b1.out with
  | false =>
    rw [checkRes_invalid _ _ _ _ hv1]
    exact ⟨R1, by simp [Chg.bad, hv1, hR1],
      by simp [hv1, st1, hr.active]⟩
  | true =>
    rw [checkRes_valid _ _ _ _ hv1]
    refine ⟨R2, fun ci out h => by
      simp only [Chg.bad, hv1, Bool.not_true, Bool.false_eq_true, if_false] at h
      split at h <;> cases h; exact hR2, ?_⟩
    cases hv2 : validOut b2.out with
    | false =>
      rw [checkRes_invalid _ _ _ _ hv2]
      simp [hv1, hv2, st2, st1, hr.active]
    | true =>
      rw [checkRes_valid _ _ _ _ hv2]
      simp only
      cases hn : (needOf b1 || needOf b2) with
      | false =>
        simp [hv1, hv2, hn, st2, st1, hr.active]
      | true =>
        simp only [if_true]
        rw [extendReload_sim na (addWarns (setPend st2 []) (warnsOf c2 b2.out)) rfl hr.parts]
        simp [hv1, hv2, hn, st2, st1]

theorem cmd_chg (na : Bool) (g : Chg) (st : St SimSt) (q : List Behav) (hr : Ready st)
    (hq : st.dev.queue = g.behavs ++ q) (hc : g.Clean) (hn : g.NoProbeFirst) :
    ∃ R, (∀ ci out, g.bad = some (ci, out) → neLines R = neLines out) ∧
      cmd (simDevice [] na) true g.cmd st = (g.res R, g.post na q st) := by
  cases g with
  | one c b => exact cmd_one na st c b q hr hq hc.cmds (hc.behavs b (by simp [Chg.behavs]))
  | two c1 c2 b1 b2 =>
    exact cmd_two na st c1 c2 b1 b2 q hr hq hc.cmds.1 hc.cmds.2
      (hc.behavs b1 (by simp [Chg.behavs])) (hc.behavs b2 (by simp [Chg.behavs])) hn

theorem loop_spec (na : Bool) (gs : List Chg) (st : St SimSt) (q : List Behav) (hr : Ready st)
    (hq : st.dev.queue = gs.flatMap Chg.behavs ++ q) (hc : ∀ g ∈ gs, g.Clean ∧ g.NoProbeFirst) :
    let o := changeLoop (simDevice [] na) true (gs.map Chg.cmd) st
    o.2.trace = st.trace ++ specTrace na gs ∧
    o.2.warns = st.warns ++ specWarns gs ∧
    (specOk gs = true → o.1 = .ok () ∧ Ready o.2 ∧ o.2.dev.queue = q) ∧
    (specOk gs = false → ∃ ci R out, o.1 = .abort (.unexpectedOutput ci R) ∧
        firstBad gs = some (ci, out) ∧ neLines R = neLines out) ∧
    (o.2.dev.parts = [] ∧ o.2.reloadActive = true ∧ o.2.dev.occ = st.dev.occ) := by
  induction gs generalizing st with
  | nil =>
    refine ⟨by simp [changeLoop, forEach, pureM, specTrace], by simp [changeLoop, forEach, pureM, specWarns],
      fun _ => ⟨rfl, hr, by simpa [changeLoop, forEach, pureM] using hq⟩, ?_, ⟨hr.parts, hr.active, rfl⟩⟩
    intro h; cases h
  | cons g gs ih =>
    intro o
    have hg := hc g (by simp)
    obtain ⟨R, hR, he⟩ := cmd_chg na g st (gs.flatMap Chg.behavs ++ q) hr (by rw [hq]; simp) hg.1 hg.2
    have ho : o = bindM (cmd (simDevice [] na) true g.cmd)
        (fun _ => changeLoop (simDevice [] na) true (gs.map Chg.cmd)) st := rfl
    cases hv : g.valid with
    | true =>
      have hb := Chg.bad_none_of_valid g hv
      rw [bindM_snd_of_ok _ _ _ () (by rw [he]; simp [Chg.res, hb]), he] at ho
      obtain ⟨h1, h2, h3, h4, h5, h6, h7⟩ := ih (g.post na (gs.flatMap Chg.behavs ++ q) st) ⟨Chg.leftover_of_valid g hv, rfl, hr.parts⟩ rfl
        (fun x hx => hc x (by simp [hx]))
      rw [ho, show specOk (g :: gs) = specOk gs by simp [specOk, hv]]
      refine ⟨by rw [h1]; simp [Chg.post, specTrace, hv], by rw [h2]; simp [Chg.post, specWarns, hv], h3, ?_, h5, h6, h7⟩
      intro hs
      obtain ⟨ci, R', out, e1, e2, e3⟩ := h4 hs
      exact ⟨ci, R', out, e1, by simp [firstBad, hb, e2], e3⟩
    | false =>
      obtain ⟨ci, out, hbad⟩ := Chg.bad_of_invalid g hv
      have hab : (cmd (simDevice [] na) true g.cmd st).1 = .abort (.unexpectedOutput ci R) := by
        rw [he]; simp [Chg.res, hbad]
      rw [bindM_of_abort _ _ _ _ hab, he] at ho
      rw [ho]
      exact ⟨by simp [Chg.post, specTrace, hv], by simp [Chg.post, specWarns, hv], fun hs => by simp [specOk, hv] at hs,
        fun _ => ⟨ci, R, out, rfl, by simp [firstBad, hbad], hR ci out hbad⟩, hr.parts, rfl, rfl⟩

/-- a `Send` that is not part of a re-arm exchange -/
def notRearm (s : Str) : Bool := !(s == doReloadCmd || s == lit "n" || s.isEmpty)

theorem cleanBehav_plain (b : Behav) (h : CleanBehav b) : CleanBehav (plainB b) :=
  ⟨h.out, fun hf => absurd rfl hf⟩

theorem probing_plain (c : Str) (b : Behav) : probing c (plainB b) = false := rfl
theorem needOf_plain (b : Behav) : needOf (plainB b) = false := rfl

theorem Chg.plain_clean (g : Chg) (h : g.Clean) : g.plain.Clean := by
  cases g with
  | one c b =>
    exact ⟨h.cmds, fun x hx => by
      simp [Chg.plain, Chg.behavs] at hx; subst hx
      exact cleanBehav_plain b (h.behavs b (by simp [Chg.behavs]))⟩
  | two c1 c2 b1 b2 =>
    exact ⟨h.cmds, fun x hx => by
      simp [Chg.plain, Chg.behavs] at hx
      rcases hx with rfl | rfl
      · exact cleanBehav_plain b1 (h.behavs b1 (by simp [Chg.behavs]))
      · exact cleanBehav_plain b2 (h.behavs b2 (by simp [Chg.behavs]))⟩

theorem Chg.plain_noProbe (g : Chg) : g.plain.NoProbeFirst := by
  cases g with
  | one c b => trivial
  | two c1 c2 b1 b2 => exact probing_plain c1 b1

theorem plain_script_clean (gs : List Chg) (hc : ∀ g ∈ gs, g.Clean ∧ g.NoProbeFirst) :
    ∀ g ∈ gs.map Chg.plain, g.Clean ∧ g.NoProbeFirst := by
  intro g hg
  obtain ⟨g', hg', rfl⟩ := List.mem_map.1 hg
  exact ⟨Chg.plain_clean g' (hc g' hg').1, Chg.plain_noProbe g'⟩

@[simp] theorem Chg.plain_cmd (g : Chg) : g.plain.cmd = g.cmd := by cases g <;> rfl
@[simp] theorem Chg.plain_valid (g : Chg) : g.plain.valid = g.valid := by cases g <;> rfl
@[simp] theorem Chg.plain_warns (g : Chg) : g.plain.warns = g.warns := by cases g <;> rfl
@[simp] theorem Chg.plain_bad (g : Chg) : g.plain.bad = g.bad := by cases g <;> rfl
@[simp] theorem Chg.plain_need (g : Chg) : g.plain.need = false := by cases g <;> rfl

theorem specOk_plain (gs : List Chg) : specOk (gs.map Chg.plain) = specOk gs := by
  simp [specOk, List.all_map, Function.comp_def]

theorem specWarns_plain (gs : List Chg) : specWarns (gs.map Chg.plain) = specWarns gs := by
  induction gs with
  | nil => rfl
  | cons g gs ih => simp [specWarns, ih]

theorem firstBad_plain (gs : List Chg) : firstBad (gs.map Chg.plain) = firstBad gs := by
  induction gs with
  | nil => rfl
  | cons g gs ih => simp [firstBad, ih]

theorem Chg.cmd_ne_fixed (g : Chg) (h : g.Clean) (k : Str) (hk : k ∈ fixedLines) : (g.cmd == k) = false := by
  cases g with
  | one c b => exact change_ne_fixed c k h.cmds.change hk
  | two c1 c2 b1 b2 => exact joined_ne_fixed c1 c2 k hk

theorem Chg.notRearm_cmd (g : Chg) (h : g.Clean) : notRearm g.cmd = true := by
  have h1 := g.cmd_ne_fixed h doReloadCmd (by simp [fixedLines])
  have h2 := g.cmd_ne_fixed h (lit "n") (by simp [fixedLines])
  have h3 := g.cmd_ne_fixed h [] (by simp [fixedLines])
  simp [notRearm, h1, h2, beq_eq_false_iff_ne.1 h3]

theorem filter_rearmLines (na : Bool) : (rearmLines na).filter notRearm = [] := by
  cases na <;> decide_lit [c15_vocab, notRearm]

theorem specTrace_plain (na : Bool) (gs : List Chg) (hc : ∀ g ∈ gs, g.Clean) :
    specTrace na (gs.map Chg.plain) = (specTrace na gs).filter notRearm := by
  induction gs with
  | nil => rfl
  | cons g gs ih =>
    have hg := Chg.notRearm_cmd g (hc g (by simp))
    have ih' := ih (fun x hx => hc x (by simp [hx]))
    simp only [List.map_cons, specTrace, Chg.plain_cmd, Chg.plain_valid, Chg.plain_need,
      Bool.false_eq_true, if_false, List.nil_append, List.filter_cons, hg, if_true]
    cases hv : g.valid with
    | false => simp
    | true =>
      cases hn : g.need with
      | false => simp [ih']
      | true => simp [ih', List.filter_append, filter_rearmLines]

theorem specTrace_append_ok (na : Bool) (pre post : List Chg) (h : specOk pre = true) :
    specTrace na (pre ++ post) =
      (pre.flatMap fun g => g.cmd :: (if g.need then rearmLines na else [])) ++ specTrace na post := by
  induction pre with
  | nil => rfl
  | cons g pre ih =>
    simp only [specOk, List.all_cons, Bool.and_eq_true] at h
    have := ih (by simpa [specOk] using h.2)
    simp [specTrace, h.1, this]

end NA.Ios
