import NA.Model.IosTiming
import NA.Proofs.C15Full
/-!
# C15: timings other than the fast device

Reads are independent of how the bytes are cut into pieces (`StableAt`).  The device whose second prompt arrives late
(`lateDevice`) follows the scripted device up to the change loop.
-/
namespace NA.Ios

/-- the pattern fires exactly when `A` has arrived completely, whatever (good) bytes follow -/
structure StableAt (m : Str → Option Nat) (A : Str) (good : Str → Prop) : Prop where
  early : ∀ b x, A = b ++ x → x ≠ [] → m b = none
  hit : ∀ v, good v → m (A ++ v) = some A.length

theorem expectChunks_stable (m : Str → Option Nat) (A : Str) (good : Str → Prop)
    (hgood : ∀ a b, good (a ++ b) → good a)
    (hs : StableAt m A good) (v buf : Str) (chunks : List Str) (hv : good v)
    (hsplit : buf ++ chunks.flatten = A ++ v) :
    ∃ rest cs, expectChunks m buf chunks = some (A, rest, cs) ∧ rest ++ cs.flatten = v := by
  induction chunks generalizing buf with
  | nil =>
    simp only [List.flatten_nil, List.append_nil] at hsplit
    subst hsplit
    refine ⟨v, [], ?_, by simp⟩
    simp [expectChunks, hs.hit v hv]
  | cons c cs ih =>
    rcases List.append_eq_append_iff.1 hsplit with ⟨a', hA, hw⟩ | ⟨c', hbuf, hvv⟩
    · -- buf is a prefix of A
      by_cases ha : a' = []
      · subst ha
        simp only [List.append_nil] at hA
        subst hA
        refine ⟨[], c :: cs, ?_, by simpa using hw⟩
        have := hs.hit [] (hgood [] v (by simpa using hv))
        simp only [List.append_nil] at this
        simp [expectChunks, this]
      · have hnone : m buf = none := hs.early buf a' hA ha
        obtain ⟨rest, cs', h1, h2⟩ :=
          ih (buf ++ c) (by simp only [List.flatten_cons] at hsplit; simpa [List.append_assoc] using hsplit)
        exact ⟨rest, cs', by simp [expectChunks, hnone, h1], h2⟩
    · -- A has arrived completely
      subst hbuf
      have hg : good c' := hgood c' _ (by rw [← hvv]; exact hv)
      refine ⟨c', c :: cs, ?_, hvv.symm⟩
      simp [expectChunks, hs.hit c' hg]

def promptFull : Str := promptHead ++ ['#']

def properPrefixes : Str → List Str
  | [] => []
  | c :: s => [] :: (properPrefixes s).map (c :: ·)

theorem promptFull_prefixes : ∀ p ∈ properPrefixes promptFull, promptFind p = none ∧ (p = [] ∨ p.head? = some '\n') := by
  decide +kernel

theorem promptFind_incomplete (u p : Str) (hu : noPH u = true) (hp : p ∈ properPrefixes promptFull) :
    promptFind (u ++ p) = none := by
  rw [promptFind_skip u p hu (promptFull_prefixes p hp).2, (promptFull_prefixes p hp).1]
  rfl

theorem mem_properPrefixes (A b x : Str) (h : A = b ++ x) (hx : x ≠ []) : b ∈ properPrefixes A := by
  subst h
  induction b with
  | nil =>
    cases x with
    | nil => exact absurd rfl hx
    | cons y x => simp [properPrefixes]
  | cons c b ih =>
    simp only [List.cons_append, properPrefixes, List.mem_cons, List.mem_map]
    exact .inr ⟨b, ih, rfl⟩

theorem prompt_stable (u : Str) (hu : noPH u = true) :
    StableAt promptEnd (u ++ promptFull) (fun v => runNoHash v = true) := by
  constructor
  · intro b x hA hx
    -- b is a proper prefix of u ++ promptFull
    unfold promptEnd
    rcases List.append_eq_append_iff.1 hA.symm with ⟨a', hu', _⟩ | ⟨c', hb, hpf⟩
    · -- b is a prefix of u
      have hnb : noPH b = true := noPH_append_left b a' (by rw [← hu']; exact hu)
      have := promptFind_incomplete b [] hnb (by decide +kernel)
      simp only [List.append_nil] at this
      simp [this]
    · -- b = u ++ c', c' a proper prefix of promptFull
      have : promptFind b = none := by
        rw [hb]
        exact promptFind_incomplete u c' hu (mem_properPrefixes promptFull c' x hpf hx)
      simp [this]
  · intro v hv
    unfold promptEnd promptFull
    have e : u ++ (promptHead ++ ['#']) ++ v = u ++ promptHead ++ '#' :: v := by simp
    rw [e, promptFind_at u v hu hv]
    simp [promptHead_len]

theorem endsWithHash_false_of_no_hash (b : Str) (h : '#' ∉ b) : endsWithHash b = false := by
  have hr : '#' ∉ b.reverse := by simpa using h
  unfold endsWithHash
  split
  · rename_i heq; rw [heq] at hr; exact absurd List.mem_cons_self hr
  · rename_i heq; rw [heq] at hr; exact absurd (List.mem_cons_of_mem _ List.mem_cons_self) hr
  · rfl

theorem hashEnd_stable (w : Str) (hw : '#' ∉ w) :
    StableAt hashEnd (w ++ ['#']) (fun v => v = []) := by
  constructor
  · intro b x hA hx
    have hb : '#' ∉ b := by
      intro hm
      rcases List.append_eq_append_iff.1 hA.symm with ⟨a', hw', _⟩ | ⟨c', hb', hxx⟩
      · exact hw (by rw [hw']; exact List.mem_append_left _ hm)
      · -- b = w ++ c' with c' ++ x = ['#'], x ≠ [] ⇒ c' = []
        cases c' with
        | nil => rw [hb', List.append_nil] at hm; exact hw hm
        | cons y c' =>
          exact hx (List.append_eq_nil_iff.1 (List.cons.inj hxx).2.symm).2
    simp [hashEnd, endsWithHash_false_of_no_hash b hb]
  · intro v hv
    subst hv
    simp [hashEnd, endsWithHash_append]

theorem lines_snoc_noPH (Y u : Str) (hY : Y = u ++ ['\n']) (hn : noPH Y = true) : noPH u = true :=
  noPH_drop_last u (hY ▸ hn)

theorem reply_split (ci : Str) (b : Behav) (rest : Str) (hc : CleanCmd ci) (hb : CleanBehav b) :
    ∃ u, replyFor ci b ++ rest = u ++ promptFull ++ replyTail ci b rest ∧ noPH u = true := by
  obtain ⟨u, _, h, hn, _⟩ := reply_anatomy ci b rest hc hb
  exact ⟨u, by rw [h]; simp [promptFull], hn⟩

/-- `h`: the answer does not end in two prompts -/
theorem follows_late (na : Bool) (d : SimSt) (s : Str)
    (h : splitLate ((simDevice [] na).step d s).2 = (((simDevice [] na).step d s).2, [])) :
    Follows (lateDevice (simDevice [] na)) na (fun d => (d, [])) d s := by
  simp [Follows, lateDevice, h]

/-- no answer of the fixed dialogue in front of the change loop ends in two prompts -/
theorem followsPrelude_late (na : Bool) (d : SimSt) (hparts : d.parts = []) :
    FollowsPrelude (lateDevice (simDevice [] na)) na (fun d => (d, [])) d := by
  refine ⟨fun l hl => follows_late na d l ?_, follows_late na d _ ?_, fun l p ps hl h => follows_late na _ l ?_⟩
  · rcases prep_plain_facts na l hl with hc | ⟨hs, -⟩
    · subst hc
      rw [simStep_conf na d hparts]
      decide_lit [c15_vocab, splitLate, confReply]
    · rw [simStep_plain na d l hparts hs (fixed_not_change l (prep_fixed hl)) (splitOnNL_prep l hl)]
      have key : ∀ l ∈ prepCmds, splitLate (l ++ ['\n'] ++ prompt) = (l ++ ['\n'] ++ prompt, []) := by
        decide_lit [c15_vocab, splitLate]
      exact key l hl
  · have hm : reloadCmd ∈ fixedLines := by simp [fixedLines]
    cases na
    · rw [simStep_std false d reloadCmd _ _ hparts (stdReplyV_reload false false) (fixed_single _ hm)]
      decide_lit [c15_vocab, splitLate]
    · rw [simStep_std true d reloadCmd _ _ hparts (stdReplyV_reload true false) (fixed_single _ hm)]
      decide_lit [c15_vocab, splitLate]
  · rw [simStep_part na _ l p ps rfl (fixed_single l (by rcases hl with rfl | rfl <;> simp [fixedLines]))]
    have key : ∀ l ∈ [lit "n", []], ∀ p ∈ (reloadParts false).tail ++ (reloadPartsNA false).tail,
        splitLate (l ++ ['\n'] ++ p) = (l ++ ['\n'] ++ p, []) := by
      decide_lit [c15_vocab, splitLate]
    exact key l (by rcases hl with rfl | rfl <;> simp) p (by cases na <;> simp_all)

end NA.Ios
