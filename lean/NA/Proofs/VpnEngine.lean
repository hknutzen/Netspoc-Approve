import NA.Proofs.VpnUnordered
/-!
What one `diffCmds` call for a matched crypto map entry can print is followed through `Emits`: the output grows by
lines with a property (here: every `crypto map NAME SEQ …` line carries the device's name and sequence number).
-/
namespace NA.Vpn

/-- `Emits` looks at `out` only: a state that differs from `st` in marks (`st.modA …`, `st.modBTS …`) may
stand for `st` on either side, by unfolding. -/
def Emits (P : Chg → Prop) (st st' : St) : Prop := ∃ e, st'.out = st.out ++ e ∧ ∀ c ∈ e, P c

theorem Emits.of_out_eq {P : Chg → Prop} {st st' : St} (h : st'.out = st.out) : Emits P st st' :=
  ⟨[], by rw [h, List.append_nil], fun _ hc => nomatch hc⟩

theorem Emits.refl (P : Chg → Prop) (st : St) : Emits P st st := Emits.of_out_eq rfl

theorem Emits.trans {P : Chg → Prop} {s1 s2 s3 : St} (h1 : Emits P s1 s2) (h2 : Emits P s2 s3) : Emits P s1 s3 := by
  obtain ⟨e1, h11, h12⟩ := h1
  obtain ⟨e2, h21, h22⟩ := h2
  exact ⟨e1 ++ e2, by rw [h21, h11, List.append_assoc], List.forall_mem_append.2 ⟨h12, h22⟩⟩

theorem Emits.mono {P Q : Chg → Prop} {s1 s2 : St} (hpq : ∀ c, P c → Q c) (h : Emits P s1 s2) : Emits Q s1 s2 := by
  obtain ⟨e, h1, h2⟩ := h
  exact ⟨e, h1, fun c hc => hpq c (h2 c hc)⟩

theorem Emits.emit {P : Chg → Prop} (st : St) (c : Chg) (h : P c) : Emits P st (st.emit c) :=
  ⟨[c], rfl, by intro c' hc'; cases hc' with | head => exact h | tail _ h' => cases h'⟩

theorem Emits.foldl_mem {α : Type} {P : Chg → Prop} (f : St → α → St) (l : List α)
    (h : ∀ st x, x ∈ l → Emits P st (f st x)) (st : St) : Emits P st (l.foldl f st) :=
  (ListFacts.foldl_inv_rel (P := fun _ => True) (Emits.refl P) (fun _ _ _ => Emits.trans) (fun x hx s _ => ⟨trivial, h s x hx⟩) trivial).2

theorem Emits.foldl {α : Type} {P : Chg → Prop} (f : St → α → St) (h : ∀ st x, Emits P st (f st x))
    (l : List α) (st : St) : Emits P st (l.foldl f st) :=
  Emits.foldl_mem f l (fun st x _ => h st x) st

def IsTS : Chg → Prop
  | .ts _ _ _ => True
  | _ => False

theorem addTS_emits (st : St) (b : String) : Emits IsTS st (addTS st b) := by
  unfold addTS
  cases st.bts.find? (fun t => t.name == b) with
  | none => exact Emits.refl _ _
  | some t =>
    dsimp only
    by_cases hr : t.ready = true
    · rw [if_pos hr]
      exact Emits.refl _ _
    · rw [if_neg hr]
      cases findSimple (st.modBTS b fun t => { t with ready := true }).ats t.content with
      | some n => exact Emits.of_out_eq rfl
      | none => exact Emits.emit (st.modBTS b fun t => { t with ready := true }) _ trivial

theorem diffTS_emits (st : St) (a b : String) : Emits IsTS st (diffTS st a b).1 := by
  unfold diffTS
  cases st.ats.find? (fun t => t.name == a) with
  | none => exact Emits.refl _ _
  | some ta =>
    cases st.bts.find? (fun t => t.name == b) with
    | none => exact Emits.refl _ _
    | some tb =>
      dsimp only
      by_cases h1 : ta.needed = true
      · rw [if_pos h1]
        exact addTS_emits st b
      · rw [if_neg h1]
        by_cases h2 : tb.ready = true
        · rw [if_pos h2]
          exact Emits.refl _ _
        · rw [if_neg h2]
          by_cases h3 : (ta.content == tb.content) = true
          · rw [if_pos h3]
            exact Emits.of_out_eq rfl
          · rw [if_neg h3]
            cases findSimple (st.modATS a fun t => { t with toDelete := true }).ats tb.content with
            | some n => exact Emits.of_out_eq rfl
            | none => exact addTS_emits (st.modATS a fun t => { t with toDelete := true }) b

theorem findSimple_sound (ats : List DevTS) (content n : String) (h : findSimple ats content = some n) :
    ∃ t ∈ ats, t.name = n ∧ t.content = content := by
  unfold findSimple at h
  have hp := List.find?_some h
  cases hf : ats.find? (fun t => t.name == n) with
  | none => simp [hf] at hp
  | some t =>
    simp only [hf] at hp
    refine ⟨t, List.mem_of_find?_eq_some hf, ?_, by simpa using hp⟩
    have := List.find?_some hf
    simpa using this

/-- the command addresses entry (name `n`, sequence number `s`), or is no `crypto map NAME SEQ` line -/
def AddrOK (n : String) (s : Int) : Chg → Prop
  | .add c _ => c.name = n ∧ c.seq = s
  | .del c _ => c.name = n ∧ c.seq = s
  | _ => True

theorem IsTS.addrOK {n : String} {s : Int} : ∀ c, IsTS c → AddrOK n s c
  | .ts _ _ _, _ => trivial
  | .add _ _, h => by cases h
  | .del _ _, h => by cases h
  | .bind _ _ _, h => by cases h

theorem addOne_emits (st : St) (m : String) (n : String) (s : Int) (id : Nat) :
    Emits (AddrOK n s) st (addOne st m (some (n, s)) id) := by
  unfold addOne
  cases st.bCmd m id with
  | none => exact Emits.refl _ _
  | some b =>
    refine Emits.trans (Emits.mono IsTS.addrOK (Emits.foldl addTS addTS_emits b.c.refs st)) ?_
    exact Emits.emit _ _ ⟨rfl, rfl⟩

theorem addEntry_emits (st : St) (m : String) (ids : List Nat) (n : String) (s : Int) :
    Emits (AddrOK n s) st (addEntry st m ids (some (n, s))) := by
  unfold addEntry
  cases ids with
  | nil => exact Emits.refl _ _
  | cons i0 is =>
    dsimp only
    cases st.bCmd m i0 with
    | none => exact Emits.refl _ _
    | some b0 =>
      dsimp only
      by_cases hr : b0.ready = true
      · rw [if_pos hr]
        exact Emits.refl _ _
      · rw [if_neg hr]
        exact Emits.foldl _ (fun st i => addOne_emits st m n s i) _ (st.modB m i0 fun b => { b with ready := true })

theorem foldl_out {α : Type} (f : St → α → St) (h : ∀ st x, (f st x).out = st.out)
    (l : List α) (st : St) : (l.foldl f st).out = st.out := by
  induction l generalizing st with
  | nil => rfl
  | cons x xs ih => rw [List.foldl_cons, ih, h]

theorem Emits.of_foldl_out {α : Type} {P : Chg → Prop} (f : St → α → St) (h : ∀ st x, (f st x).out = st.out)
    (l : List α) (st : St) : Emits P st (l.foldl f st) := Emits.of_out_eq (foldl_out f h l st)

theorem markDelA_out (st : St) (m : String) (ids : List Nat) : (markDelA st m ids).out = st.out := by
  unfold markDelA
  apply foldl_out
  intro st i
  cases st.aCmd m i with
  | none => rfl
  | some a =>
    simp only
    cases a.toDelete with
    | true => rfl
    | false =>
      simp only [Bool.false_eq_true, if_false]
      rw [foldl_out]
      · rfl
      · intro st r; rfl

theorem delOne_emits (st : St) (m : String) (a0 : ACmd) :
    Emits (AddrOK a0.c.name a0.c.seq) st (delOne st m a0) := by
  unfold delOne
  cases st.aCmd m a0.c.id with
  | none => exact Emits.refl _ _
  | some a =>
    dsimp only
    by_cases hn : a.needed = true
    · rw [if_pos hn]
      exact Emits.refl _ _
    · rw [if_neg hn]
      exact Emits.emit (st.modA m a0.c.id fun a => { a with needed := true }) _ ⟨rfl, rfl⟩

theorem makeEqualOne_emits (st : St) (ma mb : String) (a : ACmd) (ib : Nat) :
    Emits (AddrOK a.c.name a.c.seq) st (makeEqualOne st ma mb a ib) := by
  unfold makeEqualOne
  cases st.bCmd mb ib with
  | none => exact Emits.refl _ _
  | some b =>
    dsimp only
    -- the fold over the references only prints transform-set lines
    have hfold : ∀ (l : List (String × String)) (acc : St × Bool),
        Emits (AddrOK a.c.name a.c.seq) acc.1
          (l.foldl (fun (acc : St × Bool) p => ((diffTS acc.1 p.1 p.2).1, acc.2 || (diffTS acc.1 p.1 p.2).2 != p.1)) acc).1 := by
      intro l
      induction l with
      | nil => intro acc; exact Emits.refl _ _
      | cons p ps ih =>
        intro acc
        rw [List.foldl_cons]
        exact (Emits.mono IsTS.addrOK (diffTS_emits acc.1 p.1 p.2)).trans (ih _)
    have h := hfold (a.c.refs.zip b.c.refs)
      (((st.modA ma a.c.id fun x => { x with needed := true }).modB mb ib fun x =>
        { x with ready := true, c := { x.c with name := a.c.name, seq := a.c.seq } }), false)
    generalize ((a.c.refs.zip b.c.refs).foldl (fun (acc : St × Bool) p =>
      ((diffTS acc.1 p.1 p.2).1, acc.2 || (diffTS acc.1 p.1 p.2).2 != p.1)) _) = r at h ⊢
    refine Emits.trans h ?_
    by_cases hr : r.2 = true
    · rw [if_pos hr]
      by_cases hk : (a.c.key.startsWith "set ikev") = true
      · rw [if_pos hk]
        exact (Emits.emit _ _ ⟨rfl, rfl⟩).trans (Emits.emit _ _ ⟨rfl, rfl⟩)
      · rw [if_neg hk]
        exact Emits.emit _ _ ⟨rfl, rfl⟩
    · rw [if_neg hr]
      exact Emits.refl _ _

theorem diffEntry_addresses_device (st : St) (ma mb : String) (aIds bIds : List Nat) (a0 : ACmd) (rest : List ACmd)
    (hA : aIds.filterMap (st.aCmd ma) = a0 :: rest)
    (hsame : ∀ a ∈ a0 :: rest, a.c.name = a0.c.name ∧ a.c.seq = a0.c.seq)
    (hn : a0.needed = false)
    (hEq : (unorderedA ((bIds.filterMap (st.bCmd mb)).map (·.c.key)) ((a0 :: rest).map (·.c.key)) 0 []).1.isEmpty = false) :
    Emits (AddrOK a0.c.name a0.c.seq) st (diffEntry st ma mb aIds bIds) := by
  unfold diffEntry
  simp only [hA, hn, Bool.false_eq_true, if_false]
  cases firstReady (bIds.filterMap (st.bCmd mb)) with
  | true => exact Emits.refl _ _
  | false =>
    rw [hEq]
    -- adoption, deletes, equal pairs, inserts
    refine Emits.trans ?_ (Emits.foldl _ (fun st run => addEntry_emits st mb _ a0.c.name a0.c.seq) _ _)
    refine Emits.trans ?_ (Emits.foldl_mem _ _ ?_ _)
    · refine Emits.trans ?_ (Emits.of_out_eq (markDelA_out _ _ _))
      refine Emits.trans ?_ (Emits.foldl_mem _ _ ?_ _)
      · apply Emits.of_foldl_out
        intro st j; rfl
      intro st' a ha
      have hmem : a ∈ a0 :: rest := by
        obtain ⟨i, _, hi⟩ := List.mem_filterMap.1 ha
        exact List.mem_of_getElem? hi
      have := hsame a hmem
      rw [← this.1, ← this.2]
      exact delOne_emits st' ma a
    · intro st' p hp
      obtain ⟨q, _, hq⟩ := List.mem_filterMap.1 hp
      cases hg : (a0 :: rest)[q.1]? with
      | none => simp [hg] at hq
      | some a =>
        simp only [hg, Option.map_some] at hq
        have hmem : a ∈ a0 :: rest := List.mem_of_getElem? hg
        have := hsame a hmem
        cases hq
        rw [← this.1, ← this.2]
        exact makeEqualOne_emits st' ma mb a _

theorem unorderedA_hasEq (bKeys : List String) : ∀ (aKeys : List String) (i : Nat) (used : List String),
    (∃ k ∈ aKeys, k ∈ bKeys ∧ used.contains k = false) → (unorderedA bKeys aKeys i used).1.isEmpty = false := by
  intro aKeys
  induction aKeys with
  | nil =>
    intro _ _ h
    obtain ⟨k, hk, _⟩ := h
    cases hk
  | cons x xs ih =>
    intro i used h
    cases hm : (if used.contains x then none else lastIdx bKeys x) with
    | some j => rw [unorderedA_cons_some hm]; rfl
    | none =>
      rw [unorderedA_cons_none hm]
      apply ih
      obtain ⟨k, hk, hkb, hku⟩ := h
      cases hk with
      | head =>
        rw [hku, if_neg Bool.false_ne_true] at hm
        have := (lastIdx_isSome_iff bKeys x).2 hkb
        rw [hm] at this
        cases this
      | tail _ hk => exact ⟨k, hk, hkb, hku⟩

end NA.Vpn
