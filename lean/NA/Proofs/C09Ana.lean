import NA.Proofs.C09Flow
/-!
# C09: what holds when a run ends normally — an analysis of the session programs, proved sound

`ana sim cmp p a`: started in a running state where the facts `a` hold (`a.f0` if no error value is
pending, `a.f1` if one is), program `p` ends in normal mode with the facts `(…).run` and returns with
the facts `(…).ret`.  Facts are established by a few blocks (the loop over the change script, the
save steps) proved separately, and by tests that show there is nothing to do.
-/
namespace NA.C09
open NA.Sess NA.Apply NA.Spec.C09

structure AS where
  f0 : Facts
  f1 : Facts
  deriving DecidableEq, Repr

def AS.top : AS := ⟨.top, .top⟩
def AS.bot : AS := ⟨.bot, .bot⟩
def AS.meet (a b : AS) : AS := ⟨a.f0.meet b.f0, a.f1.meet b.f1⟩
/-- what is known whatever the error value is -/
def AS.kill (a : AS) : AS := ⟨a.f0.meet a.f1, a.f0.meet a.f1⟩
def AS.gain (x : Facts) (a : AS) : AS := ⟨a.f0.join x, a.f1.join x⟩

structure Res where
  run : AS
  ret : AS
  deriving DecidableEq, Repr

structure Sat (a : AS) (s : St) : Prop where
  h0 : s.errv = false → Holds a.f0 s
  h1 : s.errv = true → Holds a.f1 s

theorem Sat.meet_left {a b : AS} {s : St} (h : Sat a s) : Sat (a.meet b) s :=
  ⟨fun e => (h.h0 e).meet_left, fun e => (h.h1 e).meet_left⟩
theorem Sat.meet_right {a b : AS} {s : St} (h : Sat b s) : Sat (a.meet b) s :=
  ⟨fun e => (h.h0 e).meet_right, fun e => (h.h1 e).meet_right⟩

theorem Sat.killed {a : AS} {s : St} (h : Sat a s) : Holds (a.f0.meet a.f1) s := by
  cases he : s.errv with
  | false => exact (h.h0 he).meet_left
  | true => exact (h.h1 he).meet_right

theorem Sat.of_holds {g : Facts} {s : St} (h : Holds g s) : Sat ⟨g, g⟩ s := ⟨fun _ => h, fun _ => h⟩

theorem Sat.kill_stable {a : AS} {s s' : St} (h : Sat a s) (hx : SExt s s') : Sat a.kill s' :=
  Sat.of_holds (h.killed.stable hx)

theorem Sat.stable_errv {a : AS} {s s' : St} (h : Sat a s) (hx : SExt s s') (he : s'.errv = s.errv) : Sat a s' :=
  ⟨fun e => (h.h0 (he ▸ e)).stable hx, fun e => (h.h1 (he ▸ e)).stable hx⟩

theorem Sat.gain {a : AS} {x : Facts} {s : St} (h : Sat a s) (hx : Holds x s) : Sat (a.gain x) s :=
  ⟨fun e => (h.h0 e).join hx, fun e => (h.h1 e).join hx⟩

def fR : Facts := ⟨false, false, true, false, false, false⟩
def fT : Facts := ⟨false, false, false, true, false, false⟩
def fS : Facts := ⟨true, false, false, false, false, false⟩
def fV : Facts := ⟨false, true, false, false, false, false⟩
def fC : Facts := ⟨false, false, false, false, true, false⟩
def fM : Facts := ⟨false, false, false, false, false, true⟩
/-- what the absence of an iptables change gives -/
def fTM : Facts := ⟨false, false, false, true, false, true⟩

/-- facts in the then- and in the else-branch of a test; `sim`, `cmp`: the values of
`env.simulated` and `env.compare` -/
def split (sim cmp : Bool) : Cond → AS → Option AS × Option AS
  | .err, a => (some ⟨.top, a.f1⟩, some ⟨a.f0, .top⟩)
  | .not c, a => ((split sim cmp c a).2, (split sim cmp c a).1)
  | .hasChanges, a => (some a, some (a.gain .top))
  | .planNonEmpty, a => (some a, some (a.gain fR))
  | .ipt, a => (some a, some (a.gain fTM))
  | .simulated, a => if sim then (some a, none) else (none, some a)
  | .isCompare, a => if cmp then (some a, none) else (none, some a)
  | .never, a => (none, some a)
  | _, a => (some a, some a)

/-- `none`: the branch is not taken -/
def SatO (o : Option AS) (s : St) : Prop := ∃ x, o = some x ∧ Sat x s

theorem split_sound (sim cmp : Bool) (env : Env) (hs : env.simulated = sim) (hc : env.compare = cmp) (s : St) :
    ∀ (c : Cond) (a : AS), Sat a s →
      (evalCond c env s = true → SatO (split sim cmp c a).1 s) ∧ (evalCond c env s = false → SatO (split sim cmp c a).2 s) := by
  intro c a h
  induction c generalizing a with
  | err =>
    simp only [evalCond, split]
    exact ⟨fun e => ⟨_, rfl, ⟨fun e0 => (by rw [e] at e0; cases e0), h.h1⟩⟩,
           fun e => ⟨_, rfl, ⟨h.h0, fun e1 => (by rw [e] at e1; cases e1)⟩⟩⟩
  | not c ih =>
    simp only [evalCond, split, Bool.not_eq_true', Bool.not_eq_false']
    exact ⟨(ih a h).2, (ih a h).1⟩
  | hasChanges =>
    simp only [evalCond, split]
    refine ⟨fun _ => ⟨_, rfl, h⟩, fun e => ⟨_, rfl, h.gain ?_⟩⟩
    simp only [Bool.or_eq_false_iff, Bool.not_eq_false'] at e
    exact Holds.nothing _ s e.1 e.2
  | planNonEmpty =>
    simp only [evalCond, split]
    refine ⟨fun _ => ⟨_, rfl, h⟩, fun e => ⟨_, rfl, h.gain ?_⟩⟩
    simp only [Bool.not_eq_false'] at e
    exact ⟨nofun, nofun, fun _ => by unfold SavedR; rw [e]; simp, nofun, nofun, nofun⟩
  | ipt =>
    simp only [evalCond, split]
    refine ⟨fun _ => ⟨_, rfl, h⟩, fun e => ⟨_, rfl, h.gain ?_⟩⟩
    exact ⟨nofun, nofun, nofun, fun _ => by unfold SavedT; rw [e]; simp, nofun,
      fun _ => by unfold MvSent; rw [e]; simp⟩
  | simulated =>
    simp only [evalCond, split, hs]
    cases sim
    · exact ⟨fun e => (by cases e), fun _ => ⟨_, rfl, h⟩⟩
    · exact ⟨fun _ => ⟨_, rfl, h⟩, fun e => (by cases e)⟩
  | isCompare =>
    simp only [evalCond, split, hc]
    cases cmp
    · exact ⟨fun e => (by cases e), fun _ => ⟨_, rfl, h⟩⟩
    · exact ⟨fun _ => ⟨_, rfl, h⟩, fun e => (by cases e)⟩
  | never =>
    simp only [evalCond, split]
    exact ⟨fun e => (by cases e), fun _ => ⟨_, rfl, h⟩⟩
  | _ =>
    simp only [split]
    exact ⟨fun _ => ⟨_, rfl, h⟩, fun _ => ⟨_, rfl, h⟩⟩

theorem Sat.bot (s : St) : Sat AS.bot s := ⟨fun _ => Holds.bot s, fun _ => Holds.bot s⟩

theorem Sat.congr {a : AS} {s s' : St} (h : Sat a s) (ht : s'.tr = s.tr) (hp : s'.plan = s.plan) (hi : s'.ipt = s.ipt)
    (he : s'.errv = s.errv) : Sat a s' :=
  h.stable_errv ⟨hp, hi, [], by simp [ht]⟩ he

inductive Gain
  | gainRun (x : Facts)   -- ends in normal mode only with the fact
  | gainF0 (x : Facts)    -- ends in normal mode without a pending error only with the fact
  deriving DecidableEq, Repr

def saveBlocks : List (Sess × Gain) := [
  (asaSaveBlock, .gainRun fV), (iosWriteMem, .gainRun fV), (panosCommit, .gainF0 fV),
  (scpBlock "iptables", .gainRun fT), (scpBlock "routing", .gainRun fR),
  (.ite .hasChanges "" (.mark .logChanged) .skip, .gainRun fC),
  (linuxCmd .change (.lit "mv -f /etc/network/packet-filter.new /etc/network/packet-filter") ["_"], .gainRun fM) ]

def sendLoops : List Sess := [
  .forEach (asaCmd .change .cur ["_"]), .forEach (iosCmd .change .cur ["_"]), .forEach (linuxCmd .change .cur ["_"]),
  .forEach nsxChangeStep,
  .forEach panosChangeStep ]

def lookupBlk (p : Sess) : Option Gain := lookup saveBlocks p

def Gain.res (k : Gain) (a : AS) : Res :=
  match k with
  | .gainRun x => ⟨a.kill.gain x, .top⟩
  | .gainF0 x => ⟨⟨(a.f0.meet a.f1).join x, a.f0.meet a.f1⟩, .top⟩

def ana (sim cmp : Bool) : Sess → AS → Res
  | .skip, a | .send _ _, a | .warn _, a | .mark _, a | .setCtr _, a | .decCtr, a | .assumeBanner, a => ⟨a, .top⟩
  | .setPlan, _ => ⟨.bot, .top⟩
  | .abort _, _ => ⟨.top, .top⟩
  | .cont, _ => ⟨.top, .top⟩
  | .recv _ _, a | .recvMore _, a | .roundTrip _ _ _, a => ⟨a.kill, .top⟩
  | .ret v _, a =>
    ⟨.top, match v with
      | .nil => ⟨a.f0.meet a.f1, .top⟩
      | .err => ⟨.top, a.f0.meet a.f1⟩
      | _ => a⟩
  | .ite c l t e, a =>
    match lookupBlk (.ite c l t e) with
    | some k => k.res a
    | none =>
    let rt : Res := match (split sim cmp c a).1 with | some x => ana sim cmp t x | none => ⟨.top, .top⟩
    let re : Res := match (split sim cmp c a).2 with | some x => ana sim cmp e x | none => ⟨.top, .top⟩
    ⟨rt.run.meet re.run, rt.ret.meet re.ret⟩
  | .seq x y, a =>
    match lookupBlk (.seq x y) with
    | some k => k.res a
    | none =>
      let r1 := ana sim cmp x a
      let r2 := ana sim cmp y r1.run
      ⟨r2.run, r1.ret.meet r2.ret⟩
  | .forEach b, a =>
    if noSetPlan b then
      ⟨if sendLoops.contains (.forEach b) then a.kill.gain fS else a.kill, (ana sim cmp b a.kill).ret⟩
    else ⟨.bot, .bot⟩
  | .loopN _ b, a | .loopFuel b, a => if noSetPlan b then ⟨.top, (ana sim cmp b a.kill).ret⟩ else ⟨.bot, .bot⟩
  | .call n l b, a =>
    match lookupBlk (.call n l b) with
    | some k => k.res a
    | none => ⟨(ana sim cmp b a).run.meet (ana sim cmp b a).ret, .top⟩
  | .defer c b, a =>
    if noSetPlan c && noRet c then ⟨(ana sim cmp b a).run.kill, (ana sim cmp b a).ret.kill⟩ else ⟨.bot, .bot⟩
  | .scope _ b, a => ana sim cmp b a
  | .when c b, a =>
    let rt : Res := match (split sim cmp c a).1 with | some x => ana sim cmp b x | none => ⟨.top, .top⟩
    ⟨rt.run.meet ((split sim cmp c a).2.getD .top), rt.ret⟩

structure GainOK (q : Sess) (k : Gain) : Prop where
  nsp : noSetPlan q = true
  nret : noRet q = true
  est : ∀ env s, s.mode = .run → (exec q env s).mode = .run →
    match k with
    | .gainRun x => Holds x (exec q env s)
    | .gainF0 x => (exec q env s).errv = false → Holds x (exec q env s)

theorem holds_fV {s : St} (h : saveConfirmed s.tr = true) : Holds fV s :=
  ⟨nofun, fun _ _ => h, nofun, nofun, nofun, nofun⟩

theorem scp_confirmed_if_completes (w : String) (env : Env) (s : St) (hm : s.mode = .run)
    (hend : (exec (scpBlock w) env s).mode = .run) : scpConfirmed w (exec (scpBlock w) env s).tr := by
  unfold scpBlock at *
  simp only [sess_run, hm, if_true] at hend ⊢
  generalize (linesSent (s.tr ++ [Ev.sent .save (Txt.lines (.lit ("scp " ++ w)) env)]) + 1 -
      repliesRead (s.tr ++ [Ev.sent .save (Txt.lines (.lit ("scp " ++ w)) env)])) = n at hend ⊢
  cases n with
  | zero => simp [recvLoop] at hend
  | succ n =>
    simp only [recvLoop, Pat.matches, Pat.skips, Bool.false_and, Bool.false_eq_true, if_false, beq_iff_eq] at hend ⊢
    by_cases ha : (env.dev (s.tr ++ [Ev.sent .save (Txt.lines (.lit ("scp " ++ w)) env)])).arr = .full
    · simp only [ha, if_true] at hend ⊢
      simp
      exact ⟨s.tr, _, [], by simp [Txt.lines], ha⟩
    · simp [ha] at hend

theorem saveBlocks_ok : ∀ q k, (q, k) ∈ saveBlocks → GainOK q k := by
  intro q k h
  simp only [saveBlocks, List.mem_cons, List.mem_nil_iff, or_false, Prod.mk.injEq] at h
  rcases h with ⟨rfl, rfl⟩ | ⟨rfl, rfl⟩ | ⟨rfl, rfl⟩ | ⟨rfl, rfl⟩ | ⟨rfl, rfl⟩ | ⟨rfl, rfl⟩ | ⟨rfl, rfl⟩
  · exact ⟨by decide, by decide +kernel, fun env s hm he => holds_fV (asa_saved_if_completes env s hm he)⟩
  · exact ⟨by decide, by decide +kernel, fun env s hm he => holds_fV (ios_saved_if_completes env s hm he)⟩
  · exact ⟨by decide, by decide +kernel, fun env s hm he herr => holds_fV (panos_saved_if_commit_returns_nil env s hm he herr)⟩
  · exact ⟨by decide, by decide +kernel, fun env s hm he =>
      ⟨nofun, nofun, nofun, fun _ _ => scp_confirmed_if_completes "iptables" env s hm he, nofun, nofun⟩⟩
  · exact ⟨by decide, by decide +kernel, fun env s hm he =>
      ⟨nofun, nofun, fun _ _ => scp_confirmed_if_completes "routing" env s hm he, nofun, nofun, nofun⟩⟩
  · refine ⟨by decide, by decide +kernel, fun env s hm _ => ⟨nofun, nofun, nofun, nofun, fun _ => ?_, nofun⟩⟩
    unfold ChangedLogged
    by_cases hc : (!s.plan.isEmpty || s.ipt) = true
    · simp [sess_run, hm, hc]
    · simp [sess_run, hm, hc]
  · refine ⟨by decide, by decide +kernel, fun env s hm _ => ⟨nofun, nofun, nofun, nofun, nofun, fun _ _ => ?_⟩⟩
    rw [cs_linux_lit, if_pos hm]
    simp

theorem lookupBlk_ok {p : Sess} {k : Gain} (h : lookupBlk p = some k) : GainOK p k :=
  saveBlocks_ok _ _ (mem_of_lookup h)

theorem sendLoops_ok : ∀ q ∈ sendLoops, ∀ env s, s.mode = .run → (exec q env s).mode = .run →
    Holds fS (exec q env s) := by
  intro q hq env s hm he
  have key : ∀ (h : (exec q env s).plan = s.plan),
      (∃ new, changeSends (exec q env s).tr = changeSends s.tr ++ new ∧ s.plan.Sublist new) → Holds fS (exec q env s) := by
    intro hp ⟨new, hc, hsub⟩
    refine ⟨fun _ => ?_, nofun, nofun, nofun, nofun, nofun⟩
    unfold SentAll
    rw [hp, hc]
    exact hsub.trans (List.sublist_append_right _ _)
  simp only [sendLoops, List.mem_cons, List.mem_nil_iff, or_false] at hq
  rcases hq with rfl | rfl | rfl | rfl | rfl
  · exact key (exec_stable _ (by decide) env s).1 ⟨_, foreach_sends_all_asa env s hm he, List.Sublist.refl _⟩
  · exact key (exec_stable _ (by decide) env s).1 ⟨_, foreach_sends_all_ios env s hm he, List.Sublist.refl _⟩
  · exact key (exec_stable _ (by decide) env s).1 ⟨_, foreach_sends_all_linux env s hm he, List.Sublist.refl _⟩
  · exact key (exec_stable _ (by decide) env s).1 ⟨_, foreach_sends_all_nsx env s hm he, List.Sublist.refl _⟩
  · exact key (exec_stable _ (by decide) env s).1 (foreach_sends_all_panos env s hm he)


theorem Holds.moved {f : Facts} (s s' : St) (h : Holds f s) (ht : s'.tr = s.tr) (hp : s'.plan = s.plan)
    (hi : s'.ipt = s.ipt) : Holds f s' :=
  h.stable ⟨hp, hi, [], by simp [ht]⟩


def Post (r : Res) (s' : St) : Prop := (s'.mode = .run → Sat r.run s') ∧ (s'.mode = .ret → Sat r.ret s')

theorem Post.of_run {r : Res} {s' : St} (hm : s'.mode = .run) (h : Sat r.run s') : Post r s' :=
  ⟨fun _ => h, fun h' => by rw [hm] at h'; cases h'⟩

theorem Post.of_other {r : Res} {s' : St} (h1 : s'.mode ≠ .run) (h2 : s'.mode ≠ .ret) : Post r s' :=
  ⟨fun h => absurd h h1, fun h => absurd h h2⟩

theorem blk_post (q : Sess) (k : Gain) (hk : GainOK q k) (a : AS) (env : Env) (s : St) (hm : s.mode = .run) (ha : Sat a s) :
    Post (k.res a) (exec q env s) := by
  refine ⟨fun hr => ?_, fun hr => absurd hr (noRet_mode q hk.nret env s (by rw [hm]; decide))⟩
  have hkill := ha.killed.stable (exec_stable q hk.nsp env s)
  cases k with
  | gainRun x =>
    exact (Sat.of_holds hkill).gain (hk.est env s hm hr)
  | gainF0 x =>
    exact ⟨fun e => hkill.join (hk.est env s hm hr e), fun _ => hkill⟩

theorem iter_post (f : St → St) (g : Facts) (R : AS)
    (hf : ∀ st, st.mode = .run → Holds g st → SExt st (f st) ∧ ((f st).mode = .ret → Sat R (f st))) :
    ∀ (n : Nat) (st : St), st.mode = .run → Holds g st →
      (iter n f st).mode ≠ .run ∧ ((iter n f st).mode = .ret → Sat R (iter n f st)) :=
  iter_inv (I := Holds g) (Q := fun s' => s'.mode ≠ .run ∧ (s'.mode = .ret → Sat R s')) f
    (fun st hm hg => ⟨fun _ => hg.stable (hf st hm hg).1,
      fun _ => (hg.stable (hf st hm hg).1).moved _ _ rfl rfl rfl,
      fun h _ => ⟨h, (hf st hm hg).2⟩⟩)
    (fun _ _ _ => ⟨by simp, by simp⟩)

theorem ana_sound (sim cmp : Bool) (p : Sess) :
    ∀ (a : AS) (env : Env) (s : St), env.simulated = sim → env.compare = cmp → s.mode = .run → Sat a s →
      Post (ana sim cmp p a) (exec p env s) := by
  intro a env s hs hc hm ha
  induction p generalizing a env s with
  | skip => simp only [sess_run, ana]; exact Post.of_run hm ha
  | send _ _ | warn _ | mark _ =>
    simp only [sess_run, hm, if_true, ana]
    exact Post.of_run rfl (ha.stable_errv ⟨rfl, rfl, _, rfl⟩ rfl)
  | setCtr _ | decCtr | assumeBanner =>
    simp only [sess_run, hm, if_true, ana]
    exact Post.of_run rfl (ha.congr rfl rfl rfl rfl)
  | setPlan =>
    simp only [sess_run, hm, if_true, ana]
    exact Post.of_run rfl (Sat.bot _)
  | abort _ | cont =>
    simp only [sess_run, hm, if_true, ana]
    exact ⟨fun h => (by cases h), fun h => (by cases h)⟩
  | recv ρ p =>
    have hx := exec_stable (.recv ρ p) rfl env s
    simp only [ana]
    exact Post.of_run (exec_recv_mode _ _ _ _ hm) (ha.kill_stable hx)
  | recvMore p =>
    simp only [sess_run, hm, if_true, ana]
    exact Post.of_run rfl (ha.kill_stable ⟨rfl, rfl, [], by simp⟩)
  | roundTrip ρ t r =>
    have hx := exec_stable (.roundTrip ρ t r) rfl env s
    simp only [ana]
    exact Post.of_run (exec_roundTrip_mode _ _ _ _ _ hm) (ha.kill_stable hx)
  | ret v l =>
    cases v with
    | nil =>
      simp only [sess_run, hm, if_true, ana]
      exact ⟨fun h => (by cases h), fun _ => ⟨fun _ => Holds.moved s _ ha.killed rfl rfl rfl, fun e => (by cases e)⟩⟩
    | err =>
      simp only [sess_run, hm, if_true, ana]
      exact ⟨fun h => (by cases h), fun _ => ⟨fun e => (by cases e), fun _ => Holds.moved s _ ha.killed rfl rfl rfl⟩⟩
    | none | keep =>
      simp only [sess_run, hm, if_true, ana]
      exact ⟨fun h => (by cases h), fun _ => ha.congr rfl rfl rfl rfl⟩
  | ite c l t e iht ihe =>
    simp only [ana]
    split
    · rename_i k hk
      exact blk_post _ k (lookupBlk_ok hk) a env s hm ha
    have hsp := split_sound sim cmp env hs hc s c a ha
    simp only [sess_run, hm, if_true]
    by_cases hcond : evalCond c env s = true
    · obtain ⟨x, hx, hsat⟩ := hsp.1 hcond
      have := iht x env s hs hc hm hsat
      simp only [hcond, if_true, hx]
      exact ⟨fun h => (this.1 h).meet_left, fun h => (this.2 h).meet_left⟩
    · have hcf : evalCond c env s = false := by simpa using hcond
      obtain ⟨x, hx, hsat⟩ := hsp.2 hcf
      have := ihe x env s hs hc hm hsat
      simp only [hcf, Bool.false_eq_true, if_false, hx]
      exact ⟨fun h => (this.1 h).meet_right, fun h => (this.2 h).meet_right⟩
  | seq x y ihx ihy =>
    simp only [ana]
    split
    · rename_i k hk
      exact blk_post _ k (lookupBlk_ok hk) a env s hm ha
    · have h1 := ihx a env s hs hc hm ha
      simp only [sess_run]
      by_cases hm1 : (exec x env s).mode = .run
      · have h2 := ihy _ env _ hs hc hm1 (h1.1 hm1)
        exact ⟨h2.1, fun h => (h2.2 h).meet_right⟩
      · rw [exec_nonrun _ _ _ hm1]
        exact ⟨fun h => absurd h hm1, fun h => (h1.2 h).meet_left⟩
  | forEach b ih =>
    simp only [ana]
    split
    · rename_i hnsp
      -- every round starts in a state where the error-insensitive facts hold
      have hfin := each_inv (I := fun st => (st.mode = .run → Holds (a.f0.meet a.f1) st) ∧
          (st.mode = .ret → Sat (ana sim cmp b a.kill).ret st)) (fun pk st => exec b { env with cur := pk } st)
        (fun pk st ⟨h1, h2⟩ => by
          by_cases hst : st.mode = .run
          · exact ⟨fun _ => (h1 hst).stable (exec_stable b hnsp { env with cur := pk } st),
              (ih a.kill { env with cur := pk } st hs hc hst (Sat.of_holds (h1 hst))).2⟩
          · rw [exec_nonrun _ _ _ hst]; exact ⟨h1, h2⟩)
        s.plan s ⟨fun _ => ha.killed, fun h => by rw [hm] at h; cases h⟩
      have hexec := exec_forEach b env s hm
      rw [hexec]
      refine ⟨fun hr => ?_, hfin.2⟩
      split
      · rename_i hloop
        have hS := sendLoops_ok _ (by simpa using hloop) env s hm (by rw [hexec]; exact hr)
        rw [hexec] at hS
        exact (Sat.of_holds (hfin.1 hr)).gain hS
      · exact Sat.of_holds (hfin.1 hr)
    · exact ⟨fun _ => Sat.bot _, fun _ => Sat.bot _⟩
  | loopN _ b ih | loopFuel b ih =>
    simp only [ana]
    split
    · rename_i hnsp
      have := fun n => iter_post (exec b env) (a.f0.meet a.f1) (ana sim cmp b a.kill).ret
        (fun st hst hg => ⟨exec_stable b hnsp env st, (ih a.kill env st hs hc hst (Sat.of_holds hg)).2⟩) n s hm ha.killed
      simp only [sess_run]
      exact ⟨fun h => absurd h (this _).1, (this _).2⟩
    · exact ⟨fun _ => Sat.bot _, fun _ => Sat.bot _⟩
  | call n l b ih =>
    simp only [ana]
    split
    · rename_i k hk
      exact blk_post _ k (lookupBlk_ok hk) a env s hm ha
    · have h1 := ih a env s hs hc hm ha
      simp only [sess_run, hm, if_true]
      split
      · rename_i hr
        exact ⟨fun _ => Sat.meet_right ((h1.2 hr).congr rfl rfl rfl rfl), fun h => (by cases h)⟩
      · rename_i hr
        exact ⟨fun h => (h1.1 h).meet_left, fun h => absurd h hr⟩
  | defer c b _ ihb =>
    simp only [ana]
    split
    · rename_i hcond
      simp only [Bool.and_eq_true] at hcond
      have h1 := ihb a env s hs hc hm ha
      simp only [sess_run, hm, if_true]
      split
      · rename_i hd
        exact Post.of_other (by rw [hd]; decide) (by rw [hd]; decide)
      · have hx := exec_stable c hcond.1 env { exec b env s with mode := Mode.run }
        split
        · -- the clean-up ran through: the mode of the body is restored
          exact ⟨fun hr => (h1.1 hr).kill_stable hx, fun hr => (h1.2 hr).kill_stable hx⟩
        · rename_i hnrun
          exact Post.of_other hnrun (noRet_mode c hcond.2 env { exec b env s with mode := Mode.run } (by simp))
    · exact ⟨fun _ => Sat.bot _, fun _ => Sat.bot _⟩
  | scope x b ih =>
    simp only [sess_run, ana]
    exact ih a env s hs hc hm ha
  | «when» c b ih =>
    have hsp := split_sound sim cmp env hs hc s c a ha
    simp only [sess_run, hm, if_true, ana]
    by_cases hcond : evalCond c env s = true
    · obtain ⟨x, hx, hsat⟩ := hsp.1 hcond
      have := ih x env s hs hc hm hsat
      simp only [hcond, if_true, hx]
      exact ⟨fun h => (this.1 h).meet_left, this.2⟩
    · have hcf : evalCond c env s = false := by simpa using hcond
      obtain ⟨x, hx, hsat⟩ := hsp.2 hcf
      simp only [hcf, Bool.false_eq_true, if_false, hx, Option.getD_some]
      exact ⟨fun _ => hsat.meet_right, fun h => (by rw [hm] at h; cases h)⟩

end NA.C09
