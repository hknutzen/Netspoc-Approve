import NA.Model.VpnGraphDev
import NA.Proofs.VpnGraphBasic
/-!
# The recursion bound `fuel` = 4 of the graph model is no restriction for graphs whose references respect the kind rank

`addAny`, `diffAny`, `markDel` recurse along references; the Go code recurses without a bound.  The command templates fix
the kind a reference goes to (username / tunnel-group → group-policy / aaa-server → access-list / pool), so a chain of
references has at most three objects.  Here: for graphs with that property (`Ranked`, part of `WF`) every bound above the
rank of the object gives the same result, hence the whole run is the same for every bound from 3 on.
-/
namespace NA.Vpn.G

def Ranked (objs : List Obj) : Prop := ∀ o ∈ objs, ∀ x ∈ o.refs, rk x.1 < rk o.kind

def Ranked.decB (objs : List Obj) : Bool := objs.all fun o => o.refs.all fun x => decide (rk x.1 < rk o.kind)

theorem ranked_of_decB (objs : List Obj) (h : Ranked.decB objs = true) : Ranked objs := by
  intro o ho x hx
  have := (List.all_eq_true.1 ((List.all_eq_true.1 h) o ho)) x hx
  simpa using this

def AB (a b : List Obj) (st : St) : Prop := st.a = a ∧ st.b = b

variable {a b : List Obj}

theorem AB.emit {st : St} (h : AB a b st) (c : Chg) : AB a b (st.emit c) := h
theorem AB.setMode {st : St} (h : AB a b st) (k : Kind) (n hd : String) : AB a b (st.setMode k n hd) := by
  unfold St.setMode
  split
  · exact h
  · dsimp only
    split <;> exact h
theorem AB.markNeeded {st : St} (h : AB a b st) (r : Ref) : AB a b (st.markNeeded r) := by
  unfold St.markNeeded
  split <;> exact h
theorem AB.setReady {st : St} (h : AB a b st) (r : Ref) (n : String) : AB a b (st.setReady r n) := h

/-- the same result, and that result satisfies `P` (here: it still holds the two configurations) -/
structure Agree {σ : Type} (P : σ → Prop) (o o' : Option σ) : Prop where
  eq : o = o'
  holds : ∀ s, o = some s → P s

theorem Agree.some {σ : Type} {P : σ → Prop} {s : σ} (h : P s) : Agree P (some s) (some s) :=
  ⟨rfl, fun _ e => by cases e; exact h⟩

theorem Agree.map {σ τ : Type} {P : σ → Prop} {Q : τ → Prop} {o o' : Option σ} {F : σ → τ} (h : Agree P o o')
    (hF : ∀ s, P s → Q (F s)) : Agree Q (o.map F) (o'.map F) := by
  refine ⟨by rw [h.eq], fun t e => ?_⟩
  obtain ⟨s, hs, rfl⟩ := Option.map_eq_some_iff.1 e
  exact hF s (h.holds s hs)

theorem Agree.bind {σ τ : Type} {P : σ → Prop} {Q : τ → Prop} {o o' : Option σ} {k k' : σ → Option τ} (h : Agree P o o')
    (hk : ∀ s, P s → Agree Q (k s) (k' s)) : Agree Q (o.bind k) (o'.bind k') := by
  rw [← h.eq]
  cases o with
  | none => exact ⟨rfl, fun _ e => nomatch e⟩
  | some s => exact hk s (h.holds s rfl)

theorem Agree.foldl {σ α : Type} {P : σ → Prop} {g g' : σ → α → Option σ} : ∀ {l : List α} {o o' : Option σ},
    (∀ x ∈ l, ∀ s, P s → Agree P (g s x) (g' s x)) → Agree P o o' →
    Agree P (l.foldl (fun (acc : Option σ) x => acc.bind fun s => g s x) o) (l.foldl (fun (acc : Option σ) x => acc.bind fun s => g' s x) o')
  | [], _, _, _, h => h
  | x :: xs, _, _, hg, h =>
    Agree.foldl (l := xs) (fun y hy => hg y (List.mem_cons_of_mem _ hy)) (h.bind (hg x List.mem_cons_self))

theorem foldl_congr {α : Type} {P : St → Prop} {g g' : St → α → St} : ∀ {l : List α} {st : St},
    (∀ x ∈ l, ∀ st, P st → g st x = g' st x ∧ P (g st x)) → P st →
    l.foldl g st = l.foldl g' st ∧ P (l.foldl g st)
  | [], _, _, hp => ⟨rfl, hp⟩
  | x :: xs, st, hg, hp => by
    have hx := hg x List.mem_cons_self st hp
    simp only [List.foldl_cons]
    rw [← hx.1]
    exact foldl_congr (fun y hy => hg y (List.mem_cons_of_mem _ hy)) hx.2

/-! The higher-order pieces give the same result for functions that agree on references of rank below `m`. -/

def AddEq (a b : List Obj) (m : Nat) (add add' : St → Ref → Option St) : Prop :=
  ∀ st x, AB a b st → rk x.1 < m → Agree (AB a b) (add st x) (add' st x)
def DiffEq (a b : List Obj) (m : Nat) (diff diff' : St → Ref → Ref → Option (St × String)) : Prop :=
  ∀ st xa xb, AB a b st → rk xa.1 < m → rk xb.1 < m → Agree (fun r => AB a b r.1) (diff st xa xb) (diff' st xa xb)
def MarkEq (a b : List Obj) (m : Nat) (mark mark' : St → Ref → St) : Prop :=
  ∀ st x, AB a b st → rk x.1 < m → mark st x = mark' st x ∧ AB a b (mark st x)
def SubsLt (m : Nat) (subs : List Sub) : Prop := ∀ s ∈ subs, ∀ x, s.ref = some x → rk x.1 < m

theorem SubsLt.sub {m : Nat} {l : List Sub} (h : SubsLt m l) (idx : List Nat) : SubsLt m (idx.filterMap fun i => l[i]?) :=
  fun s hm x hx => h s (mem_of_filterMap_get l idx s hm) x hx

theorem addRef_eq {add add' : St → Ref → Option St} {m : Nat} (hadd : AddEq a b m add add') {s : Sub}
    (hs : ∀ x, s.ref = some x → rk x.1 < m) {st : St} (h : AB a b st) :
    Agree (AB a b) (match s.ref with | some x => add st x | none => some st) (match s.ref with | some x => add' st x | none => some st) := by
  cases hr : s.ref with
  | none => exact Agree.some h
  | some x => exact hadd st x h (hs x hr)

theorem followSubs_eq {add add' : St → Ref → Option St} {m : Nat} (hadd : AddEq a b m add add') (subs : List Sub)
    (hs : SubsLt m subs) (st : St) (h : AB a b st) : Agree (AB a b) (followSubs add st subs) (followSubs add' st subs) :=
  Agree.foldl (fun s hsm _ hp => addRef_eq hadd (hs s hsm) hp) (Agree.some h)

theorem addSec_AB {st : St} (h : AB a b st) (k : Kind) (n : String) (sec : Sec) : AB a b (addSec st k n sec) :=
  foldl_inv (P := AB a b) (fun _ _ _ hp => hp.emit _) h

theorem addSecs_eq {add add' : St → Ref → Option St} {m : Nat} (hadd : AddEq a b m add add') (k : Kind) (n : String)
    (secs : List Sec) (hs : ∀ sec ∈ secs, SubsLt m sec.subs) (st : St) (h : AB a b st) :
    Agree (AB a b) (addSecs add st k n secs) (addSecs add' st k n secs) :=
  Agree.foldl (fun sec hsec st hp => (followSubs_eq hadd sec.subs (hs sec hsec) st hp).map fun _ hs' => addSec_AB hs' k n sec)
    (Agree.some h)

theorem addSubs_eq {add add' : St → Ref → Option St} {m : Nat} (hadd : AddEq a b m add add') (k : Kind) (n hd : String)
    (l : List Sub) (hs : SubsLt m l) (st : St) (h : AB a b st) :
    Agree (AB a b) (addSubs add st k n hd l) (addSubs add' st k n hd l) :=
  Agree.foldl (fun s hsm _ hp => (addRef_eq hadd (hs s hsm) hp).map fun _ hs' => (hs'.setMode k n hd).emit _) (Agree.some h)

theorem foldl_mark_eq {mark mark' : St → Ref → St} {m : Nat} (hmark : MarkEq a b m mark mark') (l : List Sub) (hs : SubsLt m l)
    (st : St) (h : AB a b st) :
    (l.filterMap (·.ref)).foldl mark st = (l.filterMap (·.ref)).foldl mark' st ∧ AB a b ((l.filterMap (·.ref)).foldl mark st) := by
  refine foldl_congr (P := AB a b) ?_ h
  intro x hx st hp
  obtain ⟨s, hsm, hsr⟩ := List.mem_filterMap.1 hx
  exact hmark st x hp (hs s hsm x hsr)

theorem delSubs_eq {mark mark' : St → Ref → St} {m : Nat} (hmark : MarkEq a b m mark mark') (k : Kind) (n hd : String)
    (l : List Sub) (hs : SubsLt m l) (st : St) (h : AB a b st) :
    delSubs mark st k n hd l = delSubs mark' st k n hd l ∧ AB a b (delSubs mark st k n hd l) :=
  foldl_mark_eq hmark l hs _ (foldl_inv (P := AB a b) (fun _ _ _ hp => (hp.setMode k n hd).emit _) h)

theorem equalSubs_eq {diff diff' : St → Ref → Ref → Option (St × String)} {m : Nat} (hdiff : DiffEq a b m diff diff')
    (k : Kind) (n hd : String) (pairs : List (Sub × Sub))
    (hs : ∀ q ∈ pairs, (∀ x, q.1.ref = some x → rk x.1 < m) ∧ (∀ x, q.2.ref = some x → rk x.1 < m)) (st : St) (h : AB a b st) :
    Agree (AB a b) (equalSubs diff st k n hd pairs) (equalSubs diff' st k n hd pairs) := by
  refine Agree.foldl ?_ (Agree.some h)
  intro q hq st hp
  cases h1 : q.1.ref with
  | none => exact Agree.some hp
  | some xa =>
    cases h2 : q.2.ref with
    | none => exact Agree.some hp
    | some xb =>
      refine (hdiff st xa xb hp ((hs q hq).1 xa h1) ((hs q hq).2 xb h2)).map fun r hr => ?_
      split
      · exact (hr.setMode k n hd).emit _
      · exact hr

theorem diffSubs_eq {add add' : St → Ref → Option St} {diff diff' : St → Ref → Ref → Option (St × String)}
    {mark mark' : St → Ref → St} {m : Nat}
    (hadd : AddEq a b m add add') (hdiff : DiffEq a b m diff diff') (hmark : MarkEq a b m mark mark')
    (k : Kind) (n hd : String) (sa sb : List Sub) (hsa : SubsLt m sa) (hsb : SubsLt m sb) (st : St) (h : AB a b st) :
    Agree (AB a b) (diffSubs add diff mark st k n hd sa sb) (diffSubs add' diff' mark' st k n hd sa sb) := by
  unfold diffSubs
  -- the conditions are named and rewritten with: `split` would simplify the whole unfolded body on both sides
  by_cases h0 : (sa.isEmpty && sb.isEmpty) = true
  · rw [if_pos h0, if_pos h0]; exact Agree.some h
  · rw [if_neg h0, if_neg h0]
    dsimp only
    by_cases hv : (NA.Vpn.unorderedA (keysOf sb) (keysOf sa) 0 []).1.isEmpty = true
    · -- no sub-command in common
      rw [if_pos hv, if_pos hv]
      have hd1 : (if sa.isEmpty = true then st else delSubs mark st k n hd sa) =
          (if sa.isEmpty = true then st else delSubs mark' st k n hd sa) ∧
          AB a b (if sa.isEmpty = true then st else delSubs mark st k n hd sa) := by
        split
        · exact ⟨rfl, h⟩
        · exact delSubs_eq hmark k n hd sa hsa st h
      rw [← hd1.1]
      split
      · exact Agree.some hd1.2
      · exact addSubs_eq hadd k n hd sb hsb _ hd1.2
    · rw [if_neg hv, if_neg hv]
      have hd1 := delSubs_eq hmark k n hd _ (hsa.sub (NA.Vpn.unorderedA (keysOf sb) (keysOf sa) 0 []).2.1) st h
      rw [← hd1.1]
      refine Agree.foldl (fun (run : List Nat) _ st hp => addSubs_eq hadd k n hd _ (hsb.sub run) st hp) ?_
      refine equalSubs_eq hdiff k n hd _ ?_ _ hd1.2
      intro q hq
      obtain ⟨hma, hmb, _⟩ := pairsOf_keys (fun (s : Sub) => s.key) sa sb q hq
      exact ⟨hsa q.1 hma, hsb q.2 hmb⟩

theorem delSecs_eq {mark mark' : St → Ref → St} {m : Nat} (hmark : MarkEq a b m mark mark') (k : Kind) (n : String)
    (secs : List Sec) (hs : ∀ sec ∈ secs, SubsLt m sec.subs) (st : St) (h : AB a b st) :
    delSecs mark st k n secs = delSecs mark' st k n secs ∧ AB a b (delSecs mark st k n secs) :=
  foldl_congr (P := AB a b) (fun sec hsec _ hp => foldl_mark_eq hmark sec.subs (hs sec hsec) _ hp) h

theorem diffSecs_eq {add add' : St → Ref → Option St} {diff diff' : St → Ref → Ref → Option (St × String)}
    {mark mark' : St → Ref → St} {m : Nat}
    (hadd : AddEq a b m add add') (hdiff : DiffEq a b m diff diff') (hmark : MarkEq a b m mark mark')
    (k : Kind) (n : String) (sa sb : List Sec) (hsa : ∀ sec ∈ sa, SubsLt m sec.subs) (hsb : ∀ sec ∈ sb, SubsLt m sec.subs)
    (u : List (Nat × Nat) × List Nat × List String) (st : St) (h : AB a b st) :
    Agree (AB a b) (diffSecs add diff mark st k n sa sb u) (diffSecs add' diff' mark' st k n sa sb u) := by
  unfold diffSecs
  have hd1 := delSecs_eq hmark k n (u.2.1.filterMap fun i => sa[i]?)
    (fun sec hsec => hsa sec (mem_of_filterMap_get sa _ sec hsec)) st h
  rw [← hd1.1]
  refine Agree.bind (Agree.foldl ?_ (Agree.some hd1.2))
    (fun s1 h1 => addSecs_eq hadd k n _ (fun sec hsec => hsb sec (mem_of_filterMap_get sb _ sec hsec)) s1 h1)
  intro p hp st hst
  exact diffSubs_eq hadd hdiff hmark k n p.2.head p.1.subs p.2.subs (hsa p.1 (pairsOf_mem hp).1) (hsb p.2 (pairsOf_mem hp).2) st hst

theorem markDel_fuel (hra : Ranked a) : ∀ (f g : Nat) (st : St) (r : Ref), AB a b st → rk r.1 < f → rk r.1 < g →
    markDel f st r = markDel g st r ∧ AB a b (markDel f st r)
  | 0, _, _, _, _, hf, _ => by omega
  | _ + 1, 0, _, _, _, _, hg => by omega
  | f + 1, g + 1, st, r, hab, hf, hg => by
    rw [markDel_succ, markDel_succ]
    split
    · exact ⟨rfl, hab⟩
    · cases ho : st.aObj r with
      | none => exact ⟨rfl, hab⟩
      | some o =>
        dsimp only
        split
        · exact ⟨rfl, hab⟩
        · have hom := aObj_mem hab.1 ho
          refine foldl_congr (P := AB a b) ?_ hab
          intro x hx st hp
          have := hra o hom.1 x hx
          rw [show o.kind = r.1 from congrArg Prod.fst hom.2] at this
          exact markDel_fuel hra f g st x hp (by omega) (by omega)

theorem secs_subsLt {objs : List Obj} (hr : Ranked objs) {o : Obj} (ho : o ∈ objs) {m : Nat} (hm : rk o.kind ≤ m) :
    ∀ sec ∈ o.secs, SubsLt m sec.subs := by
  intro sec hsec s hs x hx
  have := hr o ho x (ref_mem_refs o sec s x hsec hs hx)
  omega

theorem addAny_fuel (hrb : Ranked b) : ∀ (f g : Nat) (st : St) (r : Ref), AB a b st → rk r.1 < f → rk r.1 < g →
    Agree (AB a b) (addAny f st r) (addAny g st r)
  | 0, _, _, _, _, hf, _ => by omega
  | _ + 1, 0, _, _, _, _, hg => by omega
  | f + 1, g + 1, st, r, hab, hf, hg => by
    by_cases hk : r.1 = .aaa
    · rw [addAny_aaa f st hk, addAny_aaa g st hk]
      split
      · exact Agree.some ((hab.markNeeded r).setReady r r.2)
      · exact ⟨rfl, fun _ e => nomatch e⟩
    cases hb : st.bObj r with
    | none => rw [addAny_done f hk (Or.inl hb), addAny_done g hk (Or.inl hb)]; exact Agree.some hab
    | some o =>
    cases hr : st.isReady r with
    | true => rw [addAny_done f hk (Or.inr hr), addAny_done g hk (Or.inr hr)]; exact Agree.some hab
    | false =>
    rcases Kind.shape r.1 with hk' | hk' | hk' | hk'
    · exact absurd hk' hk
    · rw [addAny_acl f hk' hb hr, addAny_acl g hk' hb hr]
      exact Agree.some (foldl_inv (P := AB a b) (fun _ _ _ hp => hp.emit _) (hab.setReady r _))
    · rw [addAny_pool f hk' hb hr, addAny_pool g hk' hb hr]
      split
      · exact Agree.some (((hab.setReady r _).markNeeded _).setReady r _)
      · exact Agree.some hab
    · rw [addAny_sec f hk' hb hr, addAny_sec g hk' hb hr]
      have hom := bObj_mem hab.2 hb
      have hadd : AddEq a b (rk r.1) (addAny f) (addAny g) := fun st x hp hx =>
        addAny_fuel hrb f g st x hp (by omega) (by omega)
      exact addSecs_eq hadd r.1 (st.cur r) o.secs (secs_subsLt hrb hom.1 (Nat.le_of_eq (congrArg (fun x => rk x.1) hom.2))) _ (hab.setReady r _)

theorem diffAny_fuel (hra : Ranked a) (hrb : Ranked b) : ∀ (f g : Nat) (st : St) (ra rb : Ref), AB a b st →
    rk ra.1 < f → rk rb.1 < f → rk ra.1 < g → rk rb.1 < g →
    Agree (fun r => AB a b r.1) (diffAny f st ra rb) (diffAny g st ra rb)
  | 0, _, _, _, _, _, hf, _, _, _ => by omega
  | _ + 1, 0, _, _, _, _, _, _, hg, _ => by omega
  | f + 1, g + 1, st, ra, rb, hab, hfa, hfb, hga, hgb => by
    -- the branches that end with a transfer of the target object
    have viaAdd : ∀ {s : St} {F : St → St × String}, (∀ s, (F s).1 = s) → AB a b s →
        Agree (fun r => AB a b r.1) ((addAny (f + 1) s rb).map F) ((addAny (g + 1) s rb).map F) :=
      fun hF hs => (addAny_fuel hrb (f + 1) (g + 1) _ rb hs hfb hgb).map fun s1 h1 => by rw [hF]; exact h1
    have keep : AB a b ((st.markNeeded ra).setReady rb ra.2) := (hab.markNeeded ra).setReady rb ra.2
    cases hoa : st.aObj ra with
    | none => rw [diffAny_missing f (Or.inl hoa), diffAny_missing g (Or.inl hoa)]; exact Agree.some hab
    | some oa =>
    cases hob : st.bObj rb with
    | none => rw [diffAny_missing f (Or.inr hob), diffAny_missing g (Or.inr hob)]; exact Agree.some hab
    | some ob =>
    by_cases hk : ra.1 = .aaa
    · rw [diffAny_aaa f hk hoa hob, diffAny_aaa g hk hoa hob]
      split
      · exact viaAdd (fun _ => rfl) hab
      · exact Agree.some keep
    cases hn : st.isNeeded ra with
    | true => rw [diffAny_needed f hk hoa hob hn, diffAny_needed g hk hoa hob hn]; exact viaAdd (fun _ => rfl) hab
    | false =>
    cases hr : st.isReady rb with
    | true => rw [diffAny_ready f hk hoa hob hn hr, diffAny_ready g hk hoa hob hn hr]; exact Agree.some hab
    | false =>
    have hm : ∀ {s : St}, AB a b s → markDel (f + 1) s ra = markDel (g + 1) s ra ∧ AB a b (markDel (f + 1) s ra) :=
      fun hs => markDel_fuel (b := b) hra (f + 1) (g + 1) _ ra hs hfa hga
    rcases Kind.shape ra.1 with hk' | hk' | hk' | hk'
    · exact absurd hk' hk
    · by_cases hl : oa.lines = ob.lines
      · rw [diffAny_same f (Or.inl hk') hoa hob hn hr hl, diffAny_same g (Or.inl hk') hoa hob hn hr hl]; exact Agree.some keep
      · rw [diffAny_acl f hk' hoa hob hn hr hl, diffAny_acl g hk' hoa hob hn hr hl]
        have h0 : AB a b (if oa.lines.any (fun l => ob.lines.contains l) then { st with outside := true } else st) := by
          split <;> exact hab
        rw [← (hm h0).1]
        exact viaAdd (fun _ => rfl) (hm h0).2
    · by_cases hl : oa.lines = ob.lines
      · rw [diffAny_same f (Or.inr hk') hoa hob hn hr hl, diffAny_same g (Or.inr hk') hoa hob hn hr hl]; exact Agree.some keep
      · rw [diffAny_pool f hk' hoa hob hn hr hl, diffAny_pool g hk' hoa hob hn hr hl, ← (hm hab).1]
        split
        · exact Agree.some (((hm hab).2.markNeeded _).setReady rb _)
        · exact viaAdd (fun _ => rfl) (hm hab).2
    · rw [diffAny_sec f hk' hoa hob hn hr, diffAny_sec g hk' hoa hob hn hr]
      split
      · rw [← (hm hab).1]
        exact viaAdd (fun _ => rfl) (hm hab).2
      · have hma := aObj_mem hab.1 hoa
        have hmb := bObj_mem hab.2 hob
        have hka : oa.kind = ra.1 := congrArg Prod.fst hma.2
        have hkb : ob.kind = rb.1 := congrArg Prod.fst hmb.2
        have hadd : AddEq a b (min f g) (addAny f) (addAny g) := fun st x hp hx =>
          addAny_fuel hrb f g st x hp (by omega) (by omega)
        have hdiff : DiffEq a b (min f g) (diffAny f) (diffAny g) := fun st xa xb hp hxa hxb =>
          diffAny_fuel hra hrb f g st xa xb hp (by omega) (by omega) (by omega) (by omega)
        have hmark : MarkEq a b (min f g) (markDel f) (markDel g) := fun st x hp hx =>
          markDel_fuel hra f g st x hp (by omega) (by omega)
        have hd := diffSecs_eq hadd hdiff hmark ra.1 ra.2 oa.secs ob.secs
          (secs_subsLt hra hma.1 (by rw [hka]; omega)) (secs_subsLt hrb hmb.1 (by rw [hkb]; omega))
          (NA.Vpn.unorderedA (ob.secs.map (·.head)) (oa.secs.map (·.head)) 0 []) _ keep
        exact hd.map (Q := fun r => AB a b r.1) (F := fun s => (s, ra.2)) fun _ h1 => h1

def diffAnchorsF (f : Nat) (st : St) (k : Kind) : Option St :=
  let aN := sortS ((st.a.filter fun o => o.kind == k && o.anchor).map (·.name))
  let bN := sortS ((st.b.filter fun o => o.kind == k && o.anchor).map (·.name))
  let st? := aN.foldl (fun (acc : Option St) n =>
    acc.bind fun st =>
      if bN.contains n then (diffAny f st (k, n) (k, n)).map (·.1)
      else some (markDel f st (k, n))) (some st)
  bN.foldl (fun (acc : Option St) n =>
    acc.bind fun st => if aN.contains n then some st else addAny f st (k, n)) st?

def stillSetF (f : Nat) (st : St) : List Ref :=
  (st.a.filter fun o => !st.isNeeded o.id && !eligible st o).foldl (fun acc o => stillFrom f st acc o.id) []

def pendingDelF (f : Nat) (st : St) : List DelObj :=
  ((st.a.filter fun o => eligible st o && !(stillSetF f st).contains o.id).map fun o =>
    ({ id := o.id, lines := delLines o, refs := o.refs } : DelObj)).foldr insertD []

def deleteUnusedF (f : Nat) (st : St) : St :=
  let objs := pendingDelF f st
  let st := if !objs.isEmpty && st.mode.isSome then st.emit .exit else st
  { st with out := st.out ++ delRounds (objs.length + 1) objs, mode := if objs.isEmpty then st.mode else none }

/-- the model with recursion bound `f` everywhere -/
def runF (f : Nat) (a b : List Obj) : Option St :=
  ((diffAnchorsF f (initSt a b) .tg).bind fun st => diffAnchorsF f st .user).map (deleteUnusedF f)

def engineF (f : Nat) (a b : List Obj) : Option (List Chg) := (runF f a b).map (·.out)

theorem runF_fuel (a b : List Obj) : runF fuel a b = run a b := rfl

theorem diffAnchorsF_eq (hra : Ranked a) (hrb : Ranked b) (f g : Nat) (hf : 3 ≤ f) (hg : 3 ≤ g) (k : Kind) (st : St) (hab : AB a b st) :
    Agree (AB a b) (diffAnchorsF f st k) (diffAnchorsF g st k) := by
  have hk := rk_le_two k
  have hkf : rk k < f := by omega
  have hkg : rk k < g := by omega
  unfold diffAnchorsF
  refine Agree.foldl ?_ (Agree.foldl ?_ (Agree.some hab))
  · intro n _ s hs
    split
    · exact Agree.some hs
    · exact addAny_fuel hrb f g s (k, n) hs hkf hkg
  · intro n _ s hs
    split
    · exact (diffAny_fuel hra hrb f g s (k, n) (k, n) hs hkf hkf hkg hkg).map (Q := AB a b) (F := (·.1)) fun _ hr => hr
    · have hm := markDel_fuel (b := b) hra f g s (k, n) hs hkf hkg
      rw [← hm.1]
      exact Agree.some hm.2

theorem mem_stillSetF (f : Nat) (st : St) (r : Ref) :
    r ∈ stillSetF f st ↔
      ∃ k ∈ st.a, (!st.isNeeded k.id && !eligible st k) = true ∧ ∃ n, n < f ∧ Chain st (n + 1) k.id r := by
  unfold stillSetF
  rw [mem_foldl_iff (fun acc (o : Obj) => mem_stillFrom st r f acc o.id), or_iff_right List.not_mem_nil]
  simp only [List.mem_filter, and_assoc]

theorem Chain.rank (hra : Ranked a) {st : St} (hsa : st.a = a) : ∀ {n : Nat} {r0 r : Ref},
    Chain st n r0 r → rk r.1 + n ≤ rk r0.1
  | _, _, _, .nil _ => Nat.le_refl _
  | _, _, _, .cons n r0 x r o ho hx _ _ hr => by
    have hom := aObj_mem hsa ho
    have h1 := hra o hom.1 x hx
    rw [show o.kind = r0.1 from congrArg Prod.fst hom.2] at h1
    have := Chain.rank hra hsa hr
    omega

theorem deleteUnusedF_eq (hra : Ranked a) (st : St) (hab : AB a b st) (f g : Nat) (hf : 3 ≤ f) (hg : 3 ≤ g) :
    deleteUnusedF f st = deleteUnusedF g st := by
  -- the pending deletions read the protected set through `contains` only
  have : pendingDelF f st = pendingDelF g st := by
    unfold pendingDelF
    refine congrArg (fun l => (List.map _ l).foldr insertD []) (List.filter_congr fun o _ => ?_)
    refine congrArg (fun c => eligible st o && !c) (Bool.eq_iff_iff.2 ?_)
    rw [List.contains_iff_mem, List.contains_iff_mem, mem_stillSetF, mem_stillSetF]
    refine exists_congr fun k => and_congr_right fun _ => and_congr_right fun _ => exists_congr fun n => and_congr_left fun hch => ?_
    -- a chain in a ranked configuration has at most two references
    have := Chain.rank hra hab.1 hch
    have := rk_le_two k.id.1
    omega
  unfold deleteUnusedF
  rw [this]

theorem runF_eq (a b : List Obj) (hra : Ranked a) (hrb : Ranked b) (f g : Nat) (hf : 3 ≤ f) (hg : 3 ≤ g) :
    runF f a b = runF g a b := by
  unfold runF
  have h := ((diffAnchorsF_eq hra hrb f g hf hg .tg (initSt a b) ⟨rfl, rfl⟩).bind
    (fun s1 h1 => diffAnchorsF_eq hra hrb f g hf hg .user s1 h1))
  rw [← h.eq]
  cases hd : (diffAnchorsF f (initSt a b) .tg).bind fun st => diffAnchorsF f st .user with
  | none => rfl
  | some s2 => rw [Option.map_some, Option.map_some, deleteUnusedF_eq hra s2 (h.holds s2 hd) f g hf hg]

theorem content_fuel (objs : List Obj) (hr : Ranked objs) : ∀ (f g : Nat) (r : Ref), rk r.1 < f → rk r.1 < g →
    content f objs r = content g objs r
  | 0, _, _, hf, _ => by omega
  | _ + 1, 0, _, _, hg => by omega
  | f + 1, g + 1, r, hf, hg => by
    unfold content
    cases ho : objs.find? (fun o => o.id == r) with
    | none => rfl
    | some o =>
      have hom := find_id objs r o ho
      have hk : o.kind = r.1 := by rw [← hom.2]; rfl
      cases hkk : r.1 <;> simp only
      all_goals
        refine congrArg _ (congrArg _ (List.map_congr_left ?_))
        intro s hs
        have hs' := (List.mem_filter.1 hs).1
        refine congrArg (fun t => s.head ++ "(" ++ "; ".intercalate (sortS t) ++ ")") (List.map_congr_left ?_)
        intro x hx
        cases hxr : x.ref with
        | none => rfl
        | some y =>
          have := hr o hom.1 y (ref_mem_refs o s x y hs' hx hxr)
          rw [hk] at this
          simp only
          rw [content_fuel objs hr f g y (by omega) (by omega)]

theorem reach_fuel (objs : List Obj) (hr : Ranked objs) : ∀ (f g : Nat) (acc : List Ref) (r : Ref), rk r.1 < f → rk r.1 < g →
    reach f objs acc r = reach g objs acc r
  | 0, _, _, _, hf, _ => by omega
  | _ + 1, 0, _, _, _, hg => by omega
  | f + 1, g + 1, acc, r, hf, hg => by
    unfold reach
    split
    · rfl
    · cases ho : objs.find? (fun o => o.id == r) with
      | none => rfl
      | some o =>
        have hom := find_id objs r o ho
        have hk : o.kind = r.1 := by rw [← hom.2]; rfl
        apply ListFacts.foldl_ext_mem
        intro acc x hx
        have := hr o hom.1 x hx
        rw [hk] at this
        exact reach_fuel objs hr f g acc x (by omega) (by omega)

def viewF (f : Nat) (objs : List Obj) : List String :=
  sortS ((objs.filter (·.anchor)).map fun o => o.kind.word ++ " " ++ o.name ++ ": " ++ content f objs o.id)

theorem viewF_eq (objs : List Obj) (hr : Ranked objs) (f g : Nat) (hf : 3 ≤ f) (hg : 3 ≤ g) : viewF f objs = viewF g objs := by
  unfold viewF
  refine congrArg _ (List.map_congr_left ?_)
  intro o _
  have := rk_le_two o.id.1
  rw [content_fuel objs hr f g o.id (by omega) (by omega)]

end NA.Vpn.G
