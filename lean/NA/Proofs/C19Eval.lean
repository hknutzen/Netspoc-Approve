import NA.Proofs.C19Dom
import NA.Core.ListFacts
/-!
# C19 — `infer` on a binary trie

`infer` keeps the annotation in a list and writes it with `List.set`; evaluated by the kernel, every
`set` costs a walk along the list, for every later read again.  Here the same propagation runs on a
binary trie indexed by the bits of the program counter (a read or write touches one path), and
`infer_eq` says that `infer` yields the list of the trie's entries.  `NA/Props/C19.lean` rewrites
with it before it evaluates `check`.
-/
namespace NA.C19

/-- Binary trie over the bits of the key, least significant first; what is left of the key at a
`tip` is looked up in a function, so depth only matters for speed. -/
inductive Tr (α : Type) where
  | tip (f : Nat → Option α)
  | node (l r : Tr α)

namespace Tr
variable {α : Type}

def empty : Nat → Tr α
  | 0 => tip fun _ => none
  | d + 1 => node (empty d) (empty d)

def get : Tr α → Nat → Option α
  | tip f, k => f k
  | node l r, k => if k % 2 = 0 then l.get (k / 2) else r.get (k / 2)

def set : Tr α → Nat → Option α → Tr α
  | tip f, k, v => tip fun j => if j = k then v else f j
  | node l r, k, v => if k % 2 = 0 then node (l.set (k / 2) v) r else node l (r.set (k / 2) v)

theorem get_empty (d k : Nat) : (empty d : Tr α).get k = none := by
  induction d generalizing k with
  | zero => rfl
  | succ d ih => simp [empty, get, ih]

theorem get_set (t : Tr α) (k j : Nat) (v : Option α) : (t.set k v).get j = if j = k then v else t.get j := by
  induction t generalizing k j with
  | tip f => rfl
  | node l r ihl ihr =>
    -- `j = k` iff the halves and the last bits agree
    by_cases hk : k % 2 = 0 <;> by_cases hj : j % 2 = 0 <;> simp only [set, get, hk, hj, if_true, if_false, ihl, ihr]
    · by_cases h : j / 2 = k / 2 <;> by_cases h' : j = k <;> simp [h, h'] <;> omega
    · have : j ≠ k := by omega
      simp [this]
    · have : j ≠ k := by omega
      simp [this]
    · by_cases h : j / 2 = k / 2 <;> by_cases h' : j = k <;> simp [h, h'] <;> omega

end Tr

/-- `List.set` writes nothing beyond the end of the list. -/
def setT {D : Dom} (n : Nat) (t : Tr D.F) (i : Nat) (v : Option D.F) : Tr D.F :=
  if i < n then t.set i v else t

def joinIntoT (D : Dom) (n : Nat) (t : Tr D.F) (pc : Nat) (x : D.F) : Tr D.F :=
  match t.get pc with
  | none => setT n t pc (some x)
  | some b => setT n t pc (some (D.meet x b))

def propagateT (D : Dom) (prog : Prog) (t : Tr D.F) (pc : Nat) : Tr D.F :=
  match prog[pc]?, t.get pc with
  | some i, some a =>
    let t := match D.tf i.cmd a true with
      | some x => joinIntoT D prog.length t i.ok x
      | none => t
    match D.tf i.cmd a false with
    | some x => joinIntoT D prog.length t i.fail x
    | none => t
  | _, _ => t

def inferLoopT (D : Dom) (prog : Prog) : Nat → Tr D.F → Tr D.F
  | 0, t => t
  | n + 1, t => inferLoopT D prog n ((List.range prog.length).foldl (propagateT D prog) t)

def inferT (D : Dom) (prog : Prog) (rounds : Nat) : Tr D.F :=
  inferLoopT D prog rounds (setT prog.length (Tr.empty (Nat.log2 prog.length + 1)) 0 (some D.entry))

def Same {D : Dom} (n : Nat) (l : Ann D) (t : Tr D.F) : Prop := l.length = n ∧ ∀ j, D.at l j = t.get j

section
variable {D : Dom} {n : Nat} {l : Ann D} {t : Tr D.F}

theorem Same.set (h : Same n l t) (i : Nat) (v : Option D.F) : Same n (l.set i v) (setT n t i v) := by
  refine ⟨by rw [List.length_set]; exact h.1, fun j => ?_⟩
  unfold setT
  by_cases hi : i < n
  · simp only [hi, if_true, Tr.get_set, ← h.2]
    exact ListFacts.getD_set_of_lt j v none (h.1 ▸ hi)
  · have := h.1
    simp only [hi, if_false, ← h.2]
    rw [List.set_eq_of_length_le (by omega)]

theorem Same.joinInto (h : Same n l t) (pc : Nat) (x : D.F) :
    Same n (joinInto D l pc x) (joinIntoT D n t pc x) := by
  unfold NA.C19.joinInto joinIntoT
  rw [h.2 pc]
  cases t.get pc <;> exact h.set _ _

theorem Same.propagate {prog : Prog} (h : Same prog.length l t) (pc : Nat) :
    Same prog.length (propagate D prog l pc) (propagateT D prog t pc) := by
  unfold NA.C19.propagate propagateT
  rw [h.2 pc]
  cases prog[pc]? with
  | none => exact h
  | some i =>
    cases t.get pc with
    | none => exact h
    | some a =>
      dsimp only
      cases D.tf i.cmd a true <;> cases D.tf i.cmd a false
      · exact h
      · exact h.joinInto _ _
      · exact h.joinInto _ _
      · exact (h.joinInto _ _).joinInto _ _

theorem Same.foldl {prog : Prog} (pcs : List Nat) (h : Same prog.length l t) :
    Same prog.length (pcs.foldl (NA.C19.propagate D prog) l) (pcs.foldl (propagateT D prog) t) := by
  induction pcs generalizing l t with
  | nil => exact h
  | cons pc pcs ih => exact ih (h.propagate pc)

theorem Same.inferLoop {prog : Prog} (r : Nat) (h : Same prog.length l t) :
    Same prog.length (NA.C19.inferLoop D prog r l) (inferLoopT D prog r t) := by
  induction r generalizing l t with
  | zero => exact h
  | succ r ih => exact ih (h.foldl _)

theorem Same.eq (h : Same n l t) : l = (List.range n).map t.get := by
  rw [← h.1, ← funext h.2]
  exact (ListFacts.range_map_getD none l).symm

end

theorem infer_eq (D : Dom) (prog : Prog) (rounds : Nat) :
    infer D prog rounds = (List.range prog.length).map (inferT D prog rounds).get := by
  refine (Same.inferLoop rounds (Same.set ⟨by simp, fun j => ?_⟩ 0 _)).eq
  rw [Tr.get_empty]
  simp only [Dom.at, List.getD, List.getElem?_replicate]
  split <;> rfl

end NA.C19
