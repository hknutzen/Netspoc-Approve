import NA.Proofs.C03Sim
import NA.Proofs.C03AlPlan
import NA.Proofs.C03Sort
/-
C03 on the strict device: the member-list requests of one list of one rule, and of one pair of an equal range.  The
device's list is the planner's list only up to order (the planner sorts its own copy), so everything is stated up to
`SameMem`.  Core Lean only.
-/
namespace NA.PanOs

theorem SameMem.filter_ne {l l' : List String} (h : SameMem l l') (m : String) :
    SameMem (l.filter (· != m)) (l'.filter (· != m)) := by
  intro x
  simp only [List.mem_filter]
  rw [h x]

theorem SameMem.merge {l l' : List String} (h : SameMem l l') (ms : List String) :
    SameMem (mergeMembers l ms) (mergeMembers l' ms) := by
  intro x
  rw [mem_mergeMembers, mem_mergeMembers, h x]

theorem runMem_sameMem : ∀ (ops : List MemOp) (l l' r : List String), SameMem l l' →
    runMem l ops = some r → ∃ r', runMem l' ops = some r' ∧ SameMem r r' := by
  intro ops
  induction ops with
  | nil => intro l l' r h hr; simp only [runMem, Option.some.injEq] at hr; subst hr; exact ⟨l', rfl, h⟩
  | cons o ops ih =>
    intro l l' r h hr
    simp only [runMem] at hr ⊢
    cases o with
    | del m =>
      simp only [applyMem] at hr ⊢
      split at hr
      · rename_i hc
        have hc' : l'.contains m = true := by
          have : m ∈ l := by simpa using hc
          simpa using (h m).mp this
        simp only [hc', if_true, Option.bind_some] at hr ⊢
        exact ih _ _ r (h.filter_ne m) hr
      · simp at hr
    | add ms =>
      simp only [applyMem, Option.bind_some] at hr ⊢
      exact ih _ _ r (h.merge ms) hr
    | edit ms =>
      simp only [applyMem, Option.bind_some] at hr ⊢
      exact ih _ _ r (SameMem.refl ms) hr

def OnField (n : String) (f : Fld) (cs : List Cmd) : Prop :=
  ∀ c ∈ cs, (∃ m, c = .delMem n f m) ∨ (∃ ms, c = .addMem n f ms) ∨ (∃ ms, c = .editList n f ms)

def addedBy : Cmd → List String
  | .addMem _ _ ms => ms
  | .editList _ _ ms => ms
  | .setRule r => r.src ++ r.dst ++ r.srv
  | _ => []

theorem Rule.get_set_same (r : Rule) (f : Fld) (l : List String) : (r.set f l).get f = l := by
  cases f <;> rfl

theorem Rule.set_set (r : Rule) (f : Fld) (l l' : List String) : (r.set f l).set f l' = r.set f l' := by
  cases f <;> rfl

theorem Rule.set_get (r : Rule) (f : Fld) : r.set f (r.get f) = r := by
  cases f <;> rfl

theorem OnField.keys {n : String} {f : Fld} {cs : List Cmd} (h : OnField n f cs) :
    ∀ c ∈ cs, c.onRules = true ∧ c.ruleKey = some n := by
  intro c hc
  rcases h c hc with ⟨_, rfl⟩ | ⟨_, rfl⟩ | ⟨_, rfl⟩ <;> exact ⟨rfl, rfl⟩

/-- What else the requests leave alone is read off them: `OnField.keys`, `Runs.frame`. -/
theorem runs_onField (sh : Shared) (n : String) (f : Fld) :
    ∀ (cs : List Cmd) (v : Vsys) (r0 : Rule) (l' : List String), OnField n f cs →
      findRule v.rules n = some r0 →
      runMem (r0.get f) (cs.filterMap memOf) = some l' →
      (∀ c ∈ cs, ∀ m ∈ addedBy c, refOk sh v f m = true) →
      ∃ w, Runs sh v cs w ∧ findRule w.rules n = some (r0.set f l') := by
  intro cs
  induction cs with
  | nil =>
    intro v r0 l' _ hf hr _
    cases hr
    exact ⟨v, Runs.nil sh v, by rw [hf, Rule.set_get]⟩
  | cons c cs ih =>
    intro v r0 l' hon hf hr href
    have hc := hon c List.mem_cons_self
    have hon' : OnField n f cs := fun c' hc' => hon c' (List.mem_cons_of_mem _ hc')
    -- what is common to the three kinds of request
    have tail : ∀ (v1 : Vsys) (l1 : List String) (op : MemOp), exec sh v c = .ok v1 → memOf c = some op →
        applyMem (r0.get f) op = some l1 → ruleEffect c n (some r0) = some (r0.set f l1) →
        ∃ w, Runs sh v (c :: cs) w ∧ findRule w.rules n = some (r0.set f l') := by
      intro v1 l1 op hv1 hmem happ hself
      have hr' : runMem ((r0.set f l1).get f) (cs.filterMap memOf) = some l' := by
        simp only [List.filterMap_cons, hmem, runMem, happ, Option.bind_some] at hr
        rw [Rule.get_set_same]
        exact hr
      obtain ⟨w, hw, hfw⟩ := ih v1 (r0.set f l1) l' hon' (by rw [exec_findRule hv1 n, hf, hself]) hr' (by
        intro c' hc' m hm
        rw [(exec_onRules_static hv1 (hon.keys c List.mem_cons_self).1).refOk]
        exact href c' (List.mem_cons_of_mem _ hc') m hm)
      exact ⟨w, Runs.cons hv1 hw, by rw [hfw, Rule.set_set]⟩
    rcases hc with ⟨m, rfl⟩ | ⟨ms, rfl⟩ | ⟨ms, rfl⟩
    · have hcm : (r0.get f).contains m = true := by
        simp only [List.filterMap_cons, memOf, runMem, applyMem] at hr
        split at hr
        · assumption
        · cases hr
      obtain ⟨v1, hv1⟩ := exec_delMem_ok sh v n f m r0 hf (List.contains_iff_mem.mp hcm)
      exact tail v1 ((r0.get f).filter (· != m)) (.del m) hv1 rfl (if_pos hcm) (if_pos (beq_self_eq_true n))
    · obtain ⟨v1, hv1⟩ := exec_addMem_ok sh v n f ms (by rw [hf]; rfl)
        (fun m hm => href (.addMem n f ms) List.mem_cons_self m hm)
      exact tail v1 _ (.add ms) hv1 rfl rfl (if_pos (beq_self_eq_true n))
    · obtain ⟨v1, hv1⟩ := exec_editList_ok sh v n f ms (by rw [hf]; rfl)
        (fun m hm => href (.editList n f ms) List.mem_cons_self m hm)
      exact tail v1 _ (.edit ms) hv1 rfl rfl (if_pos (beq_self_eq_true n))

theorem insertedOf_mem {eq : Nat → Nat → Bool} {la : List String} (lb : List String) {rs : List Range}
    (h : validFrom eq la.length lb.length 0 0 rs = true) {x : String} (hx : x ∈ insertedOf lb rs) : x ∈ lb :=
  (insertedOf_sublist la lb rs 0 0 h).subset hx

theorem onField_listCmds (n : String) (f : Fld) (la lb : List String) (rs : List Range) :
    OnField n f (listCmds (.rule n f) la lb rs) := fun _ hc =>
  (mem_listCmds hc).imp id fun e => .inl ⟨_, e⟩

theorem mem_fieldCmds {diff : Differ} {n : String} {f : Fld} {la lb : List String} {c : Cmd}
    (h : c ∈ fieldCmds diff n f la lb) :
    (∃ m, c = .delMem n f m) ∨ (∃ ms, c = .addMem n f ms) ∨ c = .editList n f lb := by
  unfold fieldCmds at h
  split at h
  · exact .inr (.inr (List.mem_singleton.mp h))
  · exact (mem_listCmds h).imp id fun e => .inl ⟨_, e⟩

theorem onField_fieldCmds (diff : Differ) (n : String) (f : Fld) (la lb : List String) :
    OnField n f (fieldCmds diff n f la lb) := fun _ hc =>
  (mem_fieldCmds hc).imp id (.imp id fun e => ⟨_, e⟩)

theorem fieldCmds_onRules (diff : Differ) (n : String) (f : Fld) (la lb : List String) :
    ∀ c ∈ fieldCmds diff n f la lb, c.onRules = true := fun c hc =>
  ((onField_fieldCmds diff n f la lb).keys c hc).1

theorem fieldCmds_static {sh : Shared} {diff : Differ} {n : String} {f : Fld} {la lb : List String} {v w : Vsys}
    (h : Runs sh v (fieldCmds diff n f la lb) w) : SameTables v w :=
  (h.frame (fieldCmds_onRules diff n f la lb)).1

theorem runs_fieldCmds (sh : Shared) (diff : Differ) (hd : GoodDiffer diff) (n : String) (f : Fld)
    (la lb : List String) (v : Vsys) (r0 : Rule)
    (hf : findRule v.rules n = some r0) (hsame : SameMem (r0.get f) la) (hla : la.Nodup) (hlb : lb.Nodup)
    (href : ∀ m ∈ lb, refOk sh v f m = true) :
    ∃ w l', Runs sh v (fieldCmds diff n f la lb) w ∧ findRule w.rules n = some (r0.set f l') ∧ SameMem l' lb := by
  unfold fieldCmds
  cases hrep : replaceInstead la.length (deletedCount (diff la.length lb.length (nameEq la lb)))
  · -- incremental
    simp only [Bool.false_eq_true, if_false]
    have hvf := validScript_incremental (hd la.length lb.length (nameEq la lb)).1 hrep
    obtain ⟨hrun, hperm⟩ := members_incremental la lb (nameEq la lb)
      (fun i j _ _ h => by simpa [nameEq] using h) _ hvf hla hlb
    obtain ⟨r', hr', hsm⟩ := runMem_sameMem _ la (r0.get f) _ hsame.symm hrun
    obtain ⟨w, hw, hfw⟩ := runs_onField sh n f
      (listCmds (.rule n f) la lb (diff la.length lb.length (nameEq la lb))) v r0 r'
      (onField_listCmds n f la lb _) hf (by rw [listCmds_memOf]; exact hr')
      (by
        intro c hc m hm
        rcases mem_listCmds hc with ⟨x, rfl⟩ | rfl
        · cases hm
        · exact href m (insertedOf_mem lb hvf hm))
    exact ⟨w, r', hw, hfw, hsm.symm.trans (SameMem.of_perm hperm)⟩
  · -- replace
    simp only [if_true]
    obtain ⟨w, hw, hfw⟩ := runs_onField sh n f [.editList n f lb] v r0 lb
      (fun c hc => by cases List.mem_singleton.mp hc; exact Or.inr (Or.inr ⟨lb, rfl⟩)) hf rfl
      (fun c hc m hm => by cases List.mem_singleton.mp hc; exact href m hm)
    exact ⟨w, lb, hw, hfw, SameMem.refl lb⟩

def GoodRule (r : Rule) (n : String) (rb : Rule) : Prop :=
  r.name = n ∧ r.hdr = rb.hdr ∧ SameMem r.src rb.src ∧ SameMem r.dst rb.dst ∧ SameMem r.srv rb.srv

theorem Rule.set_name' (r : Rule) (f : Fld) (l : List String) : (r.set f l).name = r.name := Rule.set_name r f l
theorem Rule.set_hdr (r : Rule) (f : Fld) (l : List String) : (r.set f l).hdr = r.hdr := by cases f <;> rfl

/-- `a`: the planner's (sorted) copy of the device rule `r0`. -/
def Copy (r0 a : Rule) : Prop :=
  a.hdr = r0.hdr ∧ SameMem r0.src a.src ∧ SameMem r0.dst a.dst ∧ SameMem r0.srv a.srv ∧ a.src.Nodup ∧ a.dst.Nodup

def RuleOk (sh : Shared) (v : Vsys) (rb : Rule) : Prop :=
  rb.src.Nodup ∧ rb.dst.Nodup ∧ (∀ m ∈ rb.src, refOk sh v .src m = true) ∧
    (∀ m ∈ rb.dst, refOk sh v .dst m = true) ∧ (∀ m ∈ rb.srv, refOk sh v .srv m = true)

theorem RuleOk.congr {sh : Shared} {v v' : Vsys} {rb : Rule} (h : RuleOk sh v rb) (hs : SameTables v v') :
    RuleOk sh v' rb := by
  obtain ⟨a, b, c, d, e⟩ := h
  exact ⟨a, b, fun m hm => by rw [hs.refOk]; exact c m hm, fun m hm => by rw [hs.refOk]; exact d m hm,
    fun m hm => by rw [hs.refOk]; exact e m hm⟩

theorem runs_eqCmds (sh : Shared) (diff : Differ) (hd : GoodDiffer diff) (ra rb : Rule) (v : Vsys) (r0 : Rule)
    (hf : findRule v.rules ra.name = some r0) (hc : Copy r0 ra) (hh : ra.hdr = rb.hdr) (ht : RuleOk sh v rb) :
    ∃ w r', Runs sh v (eqCmds diff ra rb) w ∧ findRule w.rules ra.name = some r' ∧ GoodRule r' ra.name rb := by
  obtain ⟨c1, hsrc, hdst, hsrv, hna⟩ := hc
  obtain ⟨hnb1, hnb2, hrs, hrd, hrv⟩ := ht
  have hhdr : r0.hdr = rb.hdr := c1.symm.trans hh
  have hname := (findRule_name hf).1
  unfold eqCmds
  obtain ⟨w1, l1, hw1, hf1, hs1⟩ :=
    runs_fieldCmds sh diff hd ra.name .src ra.src rb.src v r0 hf hsrc hna.1 hnb1 hrs
  have a1 := fieldCmds_static hw1
  obtain ⟨w2, l2, hw2, hf2, hs2⟩ :=
    runs_fieldCmds sh diff hd ra.name .dst ra.dst rb.dst w1 (r0.set .src l1) hf1 hdst hna.2 hnb2
      (fun m hm => by rw [a1.refOk]; exact hrd m hm)
  by_cases hsv : (ra.srv != rb.srv) = true
  · rw [if_pos hsv]
    have b1 := fieldCmds_static hw2
    obtain ⟨w3, hw3, hf3⟩ := runs_onField sh ra.name .srv [.editList ra.name .srv rb.srv] w2
      ((r0.set .src l1).set .dst l2) rb.srv
      (fun c hc => by cases List.mem_singleton.mp hc; exact Or.inr (Or.inr ⟨_, rfl⟩)) hf2 rfl
      (fun c hc m hm => by cases List.mem_singleton.mp hc; rw [(a1.trans b1).refOk]; exact hrv m hm)
    exact ⟨w3, _, (hw1.append hw2).append hw3, hf3, hname, hhdr, hs1, hs2, SameMem.refl _⟩
  · rw [if_neg hsv, List.append_nil]
    have hsv' : ra.srv = rb.srv := by simpa using hsv
    exact ⟨w2, _, hw1.append hw2, hf2, hname, hhdr, hs1, hs2, hsv' ▸ hsrv⟩

theorem mem_eqCmds {diff : Differ} {ra rb : Rule} {c : Cmd} (h : c ∈ eqCmds diff ra rb) :
    ∃ f, (∃ m, c = .delMem ra.name f m) ∨ (∃ ms, c = .addMem ra.name f ms) ∨ c = .editList ra.name f (rb.get f) := by
  unfold eqCmds at h
  rcases List.mem_append.mp h with h | h
  · rcases List.mem_append.mp h with h | h
    · exact ⟨.src, mem_fieldCmds h⟩
    · exact ⟨.dst, mem_fieldCmds h⟩
  · split at h
    · exact ⟨.srv, .inr (.inr (List.mem_singleton.mp h))⟩
    · cases h

theorem eqCmds_keys (diff : Differ) (ra rb : Rule) :
    ∀ c ∈ eqCmds diff ra rb, c.onRules = true ∧ c.ruleKey = some ra.name := fun c hc => by
  obtain ⟨f, ⟨_, rfl⟩ | ⟨_, rfl⟩ | rfl⟩ := mem_eqCmds hc <;> exact ⟨rfl, rfl⟩

theorem fieldCmds_same (diff : Differ) (hid : IdentityDiffer diff) (n : String) (f : Fld) (l : List String) :
    fieldCmds diff n f l l = [] := by
  have hd : diff l.length l.length (nameEq l l) = [⟨0, l.length, 0, l.length⟩] :=
    hid _ _ (fun i _ => by simp [nameEq])
  obtain ⟨h1, h2⟩ := identity_listCmds (.rule n f) l
  unfold fieldCmds
  rw [hd, h2, h1]
  simp [replaceInstead]

theorem eqCmds_ordOf (diff : Differ) (ra rb : Rule) : (eqCmds diff ra rb).filterMap ordOf = [] :=
  List.filterMap_eq_nil_iff.mpr fun c hc => by
    obtain ⟨f, ⟨_, rfl⟩ | ⟨_, rfl⟩ | rfl⟩ := mem_eqCmds hc <;> rfl

end NA.PanOs
