import NA.Model.AsaEngine
/-!
# F1: `generateNamesForTransfer` — freshness and injectivity of `<name>-DRC-<n>`
-/
namespace NA.F1

theorem toString_nat_inj {a b : Nat} (h : toString a = toString b) : a = b := by
  rw [Nat.toString_eq_repr, Nat.toString_eq_repr] at h
  have h' : a.repr.toList = b.repr.toList := by rw [h]
  have := congrArg (fun l => Nat.ofDigitChars 10 l 0) h'
  simpa [Nat.ofDigitChars_ten_toDigits] using this

theorem drcName_toList (base : Name) (n : Nat) :
    (drcName base n).toList = base.toList ++ ("-DRC-".toList ++ Nat.toDigits 10 n) := by
  simp [drcName, String.toList_append, Nat.toString_eq_repr, Nat.toList_repr]

theorem drcName_inj_idx (base : Name) {a b : Nat} (h : drcName base a = drcName base b) : a = b := by
  have h' := congrArg String.toList h
  simp only [drcName, String.toList_append] at h'
  exact toString_nat_inj (String.toList_inj.mp (List.append_cancel_left h'))

/-- The tail of digits of a generated name determines where the base name ends: the last
character of `-DRC-` is not a digit. -/
theorem strip_digits (l : List Char) (ds : List Char) (hd : ∀ c ∈ ds, c.isDigit = true) :
    ((l ++ ("-DRC-".toList ++ ds)).reverse.dropWhile Char.isDigit) = "-CRD-".toList ++ l.reverse := by
  have hr : (l ++ ("-DRC-".toList ++ ds)).reverse = ds.reverse ++ ("-CRD-".toList ++ l.reverse) := by
    simp [List.reverse_append]
  rw [hr, List.dropWhile_append_of_pos (fun c hc => hd c (List.mem_reverse.mp hc))]
  rfl

theorem drcName_inj_base {b₁ b₂ : Name} {n₁ n₂ : Nat} (h : drcName b₁ n₁ = drcName b₂ n₂) : b₁ = b₂ := by
  have h' := congrArg String.toList h
  rw [drcName_toList, drcName_toList] at h'
  have hd : ∀ n, ∀ c ∈ Nat.toDigits 10 n, c.isDigit = true :=
    fun n c hc => Nat.isDigit_of_mem_toDigits (by decide) (by decide) hc
  have e1 := strip_digits b₁.toList _ (hd n₁)
  have e2 := strip_digits b₂.toList _ (hd n₂)
  rw [h'] at e1
  rw [e1] at e2
  have := List.append_cancel_left e2
  exact String.toList_inj.mp (List.reverse_inj.mp this)

/-- `orig` is the device's list, `dev` what is left of it after the names met so far were erased. -/
theorem firstFree_spec (base : Name) : ∀ (fuel : Nat) (dev : List Name) (n : Nat) (orig : List Name),
    dev.length < fuel → (∀ k, n ≤ k → (drcName base k ∈ orig ↔ drcName base k ∈ dev)) →
    drcName base (firstFree base fuel dev n) ∉ orig ∧
    ∀ k, n ≤ k → k < firstFree base fuel dev n → drcName base k ∈ orig := by
  intro fuel
  induction fuel with
  | zero => intro dev n orig h; omega
  | succ fuel ih =>
    intro dev n orig hl hk
    unfold firstFree
    by_cases hc : dev.contains (drcName base n) = true
    · rw [if_pos hc]
      have hm : drcName base n ∈ dev := by simpa using hc
      obtain ⟨i1, i2⟩ := ih (dev.erase (drcName base n)) (n + 1) orig
        (by rw [List.length_erase_of_mem hm]; have := List.length_pos_of_mem hm; omega)
        (fun k hk' => by
          rw [hk k (by omega)]
          exact (List.mem_erase_of_ne fun e => by have := drcName_inj_idx base e; omega).symm)
      refine ⟨i1, fun k h1 h2 => ?_⟩
      by_cases hkn : k = n
      · subst hkn; exact (hk k (Nat.le_refl k)).mpr hm
      · exact i2 k (by omega) h2
    · rw [if_neg hc]
      exact ⟨fun h => hc (by simpa using (hk n (Nat.le_refl n)).mp h), fun k h1 h2 => by omega⟩

theorem genName_fresh (base : Name) (dev : List Name) : genName base dev ∉ dev :=
  (firstFree_spec base _ dev 0 dev (Nat.lt_succ_self _) (fun _ _ => Iff.rfl)).1

/-- No hypothesis on `-DRC-` inside the target names is needed. -/
theorem genName_injective {b₁ b₂ : Name} {d₁ d₂ : List Name} (h : genName b₁ d₁ = genName b₂ d₂) : b₁ = b₂ :=
  drcName_inj_base h

theorem genName_least (base : Name) (dev : List Name) (k : Nat)
    (h : k < firstFree base (dev.length + 1) dev 0) : drcName base k ∈ dev :=
  (firstFree_spec base _ dev 0 dev (Nat.lt_succ_self _) (fun _ _ => Iff.rfl)).2 k (Nat.zero_le k) h

theorem isInfixL_append (p l r : List Char) : isInfixL p (l ++ (p ++ r)) = true := by
  induction l with
  | nil =>
    cases h : p ++ r with
    | nil => simp at h; simp [isInfixL, h.1]
    | cons c cs =>
      have : p.isPrefixOf (c :: cs) = true := by rw [← h]; simp
      simp [isInfixL, this]
  | cons c l ih => simp [isInfixL, ih]

/-- Generated names carry the tag that `deleteUnused` looks for. -/
theorem genName_tagged (base : Name) (dev : List Name) : isTagged (genName base dev) = true := by
  unfold isTagged genName
  rw [drcName_toList]
  exact isInfixL_append _ _ _

end NA.F1
