import NA.Spec.AclDev
/-
The strict ASA `line N` device of `NA.Spec.AclDev` by itself.  It never creates two lines with the same
`mkey`, so every state an interrupted run leaves behind meets the `Nodup` hypothesis of the convergence
theorem again (`asa_resume_converges`, Props/AsaAcl.lean).
-/
namespace NA.Acl

theorem asaTrace_nil {s : List Line} {tr : List (List Line)} (h : asaTrace s [] = some tr) :
    tr = [] :=
  (Option.some.inj h).symm

theorem asaTrace_cons {s : List Line} {op : Op} {ops : List Op} {tr : List (List Line)} :
    asaTrace s (op :: ops) = some tr ↔
      ∃ s' rest, asaExec1 s op = some s' ∧ asaTrace s' ops = some rest ∧ tr = s' :: rest := by
  simp only [asaTrace, Option.bind_eq_bind, Option.bind_eq_some_iff, Option.pure_def,
    Option.some.injEq, eq_comm (a := tr)]
  exact ⟨fun ⟨s', h1, rest, h2, e⟩ => ⟨s', rest, h1, h2, e⟩,
    fun ⟨s', rest, h1, h2, e⟩ => ⟨s', h1, rest, h2, e⟩⟩

theorem asaExec_cons {s s' : List Line} {op : Op} (ops : List Op) (h : asaExec1 s op = some s') :
    asaExec s (op :: ops) = asaExec s' ops := by
  rw [asaExec, List.foldlM_cons, h]; rfl

theorem asaExec_of_trace (s : List Line) (ops : List Op) (tr : List (List Line))
    (h : asaTrace s ops = some tr) : asaExec s ops = some (tr.getLast?.getD s) := by
  induction ops generalizing s tr with
  | nil => rw [asaTrace_nil h]; rfl
  | cons op ops ih =>
    obtain ⟨s', rest, h1, h2, rfl⟩ := asaTrace_cons.1 h
    rw [asaExec_cons ops h1, ih s' rest h2]
    cases rest with
    | nil => rfl
    | cons r rest =>
      rw [List.getLast?_cons_cons]
      cases hz : (r :: rest).getLast? with
      | none => simp at hz
      | some z => rfl

theorem asaTrace_length (s : List Line) (ops : List Op) (tr : List (List Line))
    (h : asaTrace s ops = some tr) : tr.length = ops.length := by
  induction ops generalizing s tr with
  | nil => rw [asaTrace_nil h]; rfl
  | cons op ops ih =>
    obtain ⟨s', rest, _, h2, rfl⟩ := asaTrace_cons.1 h
    exact congrArg (· + 1) (ih s' rest h2)

theorem asaTrace_take (s : List Line) (ops : List Op) (tr : List (List Line))
    (h : asaTrace s ops = some tr) (k : Nat) (t : List Line) (hk : tr[k]? = some t) :
    asaExec s (ops.take (k + 1)) = some t := by
  induction ops generalizing s tr k with
  | nil => rw [asaTrace_nil h] at hk; cases hk
  | cons op ops ih =>
    obtain ⟨s', rest, h1, h2, rfl⟩ := asaTrace_cons.1 h
    rw [List.take_succ_cons, asaExec_cons _ h1]
    cases k with
    | zero => exact congrArg some (Option.some.inj hk)
    | succ k => exact ih s' rest h2 k hk

theorem nodup_map_insertIdx {α β} (f : α → β) (s : List α) (p : Nat) (l : α)
    (hp : p ≤ s.length) (hl : f l ∉ s.map f) (h : (s.map f).Nodup) :
    ((s.insertIdx p l).map f).Nodup :=
  ((List.perm_insertIdx l s hp).map f).nodup_iff.2 (List.nodup_cons.2 ⟨hl, h⟩)

theorem asaExec1_nodup (s s' : List Line) (op : Op) (h : (s.map (·.mkey)).Nodup)
    (he : asaExec1 s op = some s') : (s'.map (·.mkey)).Nodup := by
  have hany : ∀ (t : List Line) (l : Line), (t.any fun x => x.mkey == l.mkey) = false →
      l.mkey ∉ t.map (·.mkey) := by
    intro t l ha hm
    obtain ⟨y, hy, e⟩ := List.mem_map.1 hm
    have : (t.any fun x => x.mkey == l.mkey) = true :=
      List.any_eq_true.2 ⟨y, hy, by simpa using e⟩
    rw [ha] at this; cases this
  cases op with
  | add p l =>
    simp only [asaExec1] at he
    by_cases hc : (decide (p ≤ s.length) && !(s.any fun x => x.mkey == l.mkey)) = true
    · simp only [hc, if_true, Option.some.injEq] at he
      simp only [Bool.and_eq_true, decide_eq_true_eq, Bool.not_eq_true'] at hc
      subst he
      exact nodup_map_insertIdx _ s p l hc.1 (hany s l hc.2) h
    · simp [hc] at he
  | del p l =>
    simp only [asaExec1] at he
    by_cases hc : (s[p]? == some l) = true
    · simp only [hc, if_true, Option.some.injEq] at he
      subst he
      exact h.sublist ((List.eraseIdx_sublist ..).map _)
    · simp [hc] at he
  | move dp a ap b =>
    simp only [asaExec1] at he
    by_cases hc : (s[dp]? == some a) = true
    · simp only [hc, if_true] at he
      by_cases hc2 : (decide (ap ≤ (s.eraseIdx dp).length) &&
          !((s.eraseIdx dp).any fun x => x.mkey == b.mkey)) = true
      · simp only [hc2, if_true, Option.some.injEq] at he
        simp only [Bool.and_eq_true, decide_eq_true_eq, Bool.not_eq_true'] at hc2
        subst he
        exact nodup_map_insertIdx _ _ ap b hc2.1 (hany _ b hc2.2) (h.sublist ((List.eraseIdx_sublist ..).map _))
      · simp [hc2] at he
    · simp [hc] at he
  | bad => simp [asaExec1] at he

theorem asaTrace_nodup (s : List Line) (ops : List Op) (tr : List (List Line))
    (h : (s.map (·.mkey)).Nodup) (he : asaTrace s ops = some tr) :
    ∀ t, t ∈ tr → (t.map (·.mkey)).Nodup := by
  induction ops generalizing s tr with
  | nil => rw [asaTrace_nil he]; exact fun _ ht => absurd ht List.not_mem_nil
  | cons op ops ih =>
    obtain ⟨s', rest, h1, h2, rfl⟩ := asaTrace_cons.1 he
    have hs' := asaExec1_nodup s s' op h h1
    exact List.forall_mem_cons.2 ⟨hs', ih s' rest hs' h2⟩

end NA.Acl
