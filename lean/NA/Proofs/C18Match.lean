import NA.Model.MergeCisco
import NA.Core.ListFacts
/-! Lemmas about the model of `matchCryptoMap` in `NA/Model/MergeCisco.lean` (C18, general cisco model): one invariant per
loop, `FInv` for `mapPeerToSeq` and `MInv` for the loop over the device entries; the loop over the entries of `b` left
without partner is `freshFold_spec` (`FreshCall`). -/
namespace NA.C18.G

theorem mem_insSeq (k x : Nat) (l : List Nat) : x ∈ insSeq k l ↔ x = k ∨ x ∈ l := by
  induction l with
  | nil => simp [insSeq]
  | cons y ys ih =>
    unfold insSeq
    split
    · simp
    · split
      · rename_i h; have : k = y := by simpa using h
        subst this; simp
      · simp only [List.mem_cons, ih]
        exact or_left_comm

theorem insSeq_sorted (k : Nat) (l : List Nat) (h : l.Pairwise (· < ·)) : (insSeq k l).Pairwise (· < ·) := by
  induction l with
  | nil => simp [insSeq]
  | cons y ys ih =>
    unfold insSeq
    have hy := (List.pairwise_cons.mp h).1
    split
    · rename_i hk
      refine List.pairwise_cons.mpr ⟨fun z hz => ?_, h⟩
      rcases List.mem_cons.mp hz with rfl | hz'
      · exact hk
      · exact Nat.lt_trans hk (hy z hz')
    · split
      · exact h
      · rename_i h1 h2
        have hne : ¬ k = y := by simpa using h2
        refine List.pairwise_cons.mpr ⟨fun z hz => ?_, ih (List.pairwise_cons.mp h).2⟩
        rcases (mem_insSeq k z ys).mp hz with rfl | hz'
        · omega
        · exact hy z hz'

theorem seqsOf_sorted (l : List Cmd) : (seqsOf l).Pairwise (· < ·) :=
  ListFacts.foldl_inv (fun c _ acc h => insSeq_sorted c.seq acc h) List.Pairwise.nil

theorem mem_seqsOf (l : List Cmd) (s : Nat) : s ∈ seqsOf l ↔ ∃ c ∈ l, c.seq = s := by
  unfold seqsOf
  rw [ListFacts.mem_foldl_iff (Q := (·.seq = s)) (fun _ _ => by rw [mem_insSeq, or_comm, eq_comm]) l []]
  simp

theorem seqsOf_nodup (l : List Cmd) : (seqsOf l).Nodup :=
  (seqsOf_sorted l).imp (fun h => Nat.ne_of_lt h)

theorem mem_idxFrom (s : Nat) : ∀ (l : List Cmd) (k i : Nat),
    i ∈ idxFrom s k l ↔ ∃ j c, i = k + j ∧ l[j]? = some c ∧ c.seq = s := by
  intro l
  induction l with
  | nil => intro k i; simp [idxFrom]
  | cons c cs ih =>
    intro k i
    unfold idxFrom
    rw [List.mem_append, ih]
    constructor
    · rintro (h | ⟨j, d, rfl, h2, h3⟩)
      · split at h
        · rename_i hc; exact ⟨0, c, by simpa using h, rfl, by simpa using hc⟩
        · cases h
      · exact ⟨j + 1, d, by omega, h2, h3⟩
    · rintro ⟨j, d, rfl, h2, h3⟩
      cases j with
      | zero =>
        simp only [List.getElem?_cons_zero, Option.some.injEq] at h2
        subst h2
        left; simp [h3]
      | succ j => exact Or.inr ⟨j, d, by omega, h2, h3⟩

theorem idxFrom_sorted (s : Nat) : ∀ (l : List Cmd) (k : Nat), (idxFrom s k l).Pairwise (· < ·) := by
  intro l
  induction l with
  | nil => intro k; simp [idxFrom]
  | cons c cs ih =>
    intro k
    unfold idxFrom
    rw [List.pairwise_append]
    refine ⟨by split <;> simp, ih (k + 1), fun a ha b hb => ?_⟩
    obtain ⟨j, _, rfl, _⟩ := (mem_idxFrom s cs (k + 1) b).mp hb
    split at ha
    · have : a = k := by simpa using ha
      omega
    · cases ha

/-- Invariant of `mapPeerToSeq` over the processed prefix `pre` of the ascending numbers. -/
structure FInv (bl : List Cmd) (pre : List Nat) (acc : List (String × Nat)) : Prop where
  mem  : ∀ x ∈ acc, x.2 ∈ pre ∧ peerD (grp bl x.2) = x.1
  low  : ∀ x ∈ acc, ∀ t ∈ pre, peerD (grp bl t) = x.1 → x.2 ≤ t
  full : ∀ t ∈ pre, ∃ x ∈ acc, x.1 = peerD (grp bl t)

theorem firstSeqs_fold_low (bl : List Cmd) : ∀ (l pre : List Nat) (acc : List (String × Nat)),
    (pre ++ l).Pairwise (· < ·) → FInv bl pre acc →
    FInv bl (pre ++ l) (l.foldl (fun acc s =>
      let p := peerD (grp bl s)
      if acc.any (fun q => q.1 == p) then acc else acc ++ [(p, s)]) acc) := by
  intro l
  induction l with
  | nil => intro pre acc _ h; simpa using h
  | cons s ss ih =>
    intro pre acc hs h
    simp only [List.foldl_cons]
    have hpre : ∀ t ∈ pre, t < s := fun t ht => (List.pairwise_append.mp hs).2.2 t ht s List.mem_cons_self
    rw [List.append_cons] at hs ⊢
    have hstep : FInv bl (pre ++ [s]) (if acc.any (fun q => q.1 == peerD (grp bl s)) then acc
        else acc ++ [(peerD (grp bl s), s)]) := by
      -- what is known of the members of `acc` stays true with `s` added to the prefix
      have hmem : ∀ x ∈ acc, x.2 ∈ pre ++ [s] ∧ peerD (grp bl x.2) = x.1 :=
        fun x hx => ⟨List.mem_append_left _ (h.mem x hx).1, (h.mem x hx).2⟩
      have hlow : ∀ x ∈ acc, ∀ t ∈ pre ++ [s], peerD (grp bl t) = x.1 → x.2 ≤ t := by
        intro x hx t ht hp
        rcases List.mem_append.mp ht with ht | ht
        · exact h.low x hx t ht hp
        · rw [List.mem_singleton.mp ht]; exact Nat.le_of_lt (hpre _ (h.mem x hx).1)
      split
      · rename_i hany
        obtain ⟨y, hy, hye⟩ := List.any_eq_true.mp hany
        refine ⟨hmem, hlow, fun t ht => ?_⟩
        rcases List.mem_append.mp ht with ht | ht
        · exact h.full t ht
        · rw [List.mem_singleton.mp ht]; exact ⟨y, hy, by simpa using hye⟩
      · rename_i hany
        refine ⟨fun x hx => ?_, fun x hx t ht hp => ?_, fun t ht => ?_⟩
        · rcases List.mem_append.mp hx with hx | hx
          · exact hmem x hx
          · rw [List.mem_singleton.mp hx]; exact ⟨by simp, rfl⟩
        · rcases List.mem_append.mp hx with hx | hx
          · exact hlow x hx t ht hp
          · rw [List.mem_singleton.mp hx] at hp ⊢
            rcases List.mem_append.mp ht with ht | ht
            · obtain ⟨y, hy, hye⟩ := h.full t ht
              exact absurd (List.any_eq_true.mpr ⟨y, hy, by simp [hye, hp]⟩) hany
            · rw [List.mem_singleton.mp ht]; exact Nat.le_refl _
        · rcases List.mem_append.mp ht with ht | ht
          · obtain ⟨x, hx, hxe⟩ := h.full t ht
            exact ⟨x, List.mem_append_left _ hx, hxe⟩
          · exact ⟨_, List.mem_append_right _ List.mem_cons_self, by rw [List.mem_singleton.mp ht]⟩
    exact ih (pre ++ [s]) _ hs hstep

theorem firstSeqs_inv (bl : List Cmd) : FInv bl (seqsOf bl) (firstSeqs bl) :=
  firstSeqs_fold_low bl (seqsOf bl) [] [] (seqsOf_sorted bl)
    ⟨(fun _ hx => nomatch hx), (fun _ hx => nomatch hx), (fun _ ht => nomatch ht)⟩

/-- Every call of the first loop belongs to one entry of `a`; a partner from `b` has the same peer
and is the lowest entry of `b` with that peer. -/
def PeerCall (al bl : List Cmd) (l : List Nat) (c : Call) : Prop :=
  ∃ s ∈ l, c.aIdx = idxFrom s 0 al ∧
    ∀ q, c.bSeq = some q → q ∈ seqsOf bl ∧ peerD (grp bl q) = peerD (grp al s) ∧
      ∀ t ∈ seqsOf bl, peerD (grp bl t) = peerD (grp al s) → q ≤ t

theorem matchStep_cases (al bl : List Cmd) (bp : List (String × Nat)) (acc : List Call × List Nat) (s : Nat) :
    ((∀ q, bp.find? (fun q => q.1 == peerD (grp al s)) = some q → q.2 ∉ acc.2) ∧
      matchStep al bl bp acc s = (acc.1 ++ [{ aIdx := idxFrom s 0 al, bl := [] }], acc.2)) ∨
    ∃ q, bp.find? (fun q => q.1 == peerD (grp al s)) = some q ∧ q.2 ∈ acc.2 ∧
      matchStep al bl bp acc s =
        (acc.1 ++ [{ aIdx := idxFrom s 0 al, bl := grp bl q.2, bSeq := some q.2 }], acc.2.filter (· != q.2)) := by
  unfold matchStep
  split
  · rename_i q hq
    split
    · rename_i hc; exact Or.inr ⟨q, hq, by simpa using hc, rfl⟩
    · rename_i hc; exact Or.inl ⟨fun q' h' => (by cases hq.symm.trans h'; simpa using hc), rfl⟩
  · rename_i hq; exact Or.inl ⟨fun q' h' => (by rw [hq] at h'; cases h'), rfl⟩

/-- What the first loop knows after the entries `pre` of `a`: one call per entry, in order; each call is the one of its
entry (`PeerCall`); the entries of `b` handed over are exactly those no longer in `acc.2`, each once and whole. -/
structure MInv (al bl : List Cmd) (pre : List Nat) (acc : List Call × List Nat) : Prop where
  shape : acc.1.map (·.aIdx) = pre.map (fun s => idxFrom s 0 al)
  peer  : ∀ c ∈ acc.1, PeerCall al bl pre c
  sub   : acc.2.Sublist (seqsOf bl)
  nodup : (acc.1.filterMap (·.bSeq)).Nodup
  used  : ∀ q, q ∈ acc.1.filterMap (·.bSeq) ↔ q ∈ seqsOf bl ∧ q ∉ acc.2
  grpOk : ∀ c ∈ acc.1, (c.bSeq = none ∧ c.bl = []) ∨ ∃ q, c.bSeq = some q ∧ c.bl = grp bl q

theorem MInv.init (al bl : List Cmd) : MInv al bl [] ([], seqsOf bl) :=
  ⟨rfl, nofun, List.Sublist.refl _, by simp, fun q => by simp, nofun⟩

theorem matchStep_minv (al bl : List Cmd) (pre : List Nat) (acc : List Call × List Nat) (s : Nat)
    (h : MInv al bl pre acc) : MInv al bl (pre ++ [s]) (matchStep al bl (firstSeqs bl) acc s) := by
  have hpeer : ∀ c ∈ acc.1, PeerCall al bl (pre ++ [s]) c := fun c hc =>
    let ⟨t, ht, h'⟩ := h.peer c hc; ⟨t, List.mem_append_left _ ht, h'⟩
  rcases matchStep_cases al bl (firstSeqs bl) acc s with ⟨_, e⟩ | ⟨q, hfind, hqm, e⟩ <;> rw [e]
  · refine ⟨by simp [h.shape], ?_, h.sub, by simpa [List.filterMap_append] using h.nodup,
      fun q => by simpa [List.filterMap_append] using h.used q, ?_⟩ <;>
      (intro c hc; rcases List.mem_append.mp hc with hc | hc)
    · exact hpeer c hc
    · cases List.mem_singleton.mp hc; exact ⟨s, by simp, rfl, nofun⟩
    · exact h.grpOk c hc
    · cases List.mem_singleton.mp hc; exact Or.inl ⟨rfl, rfl⟩
  · have hq := (firstSeqs_inv bl).mem q (List.mem_of_find?_eq_some hfind)
    have hqp : q.1 = peerD (grp al s) := by simpa using List.find?_some hfind
    refine ⟨by simp [h.shape], ?_, (List.filter_sublist).trans h.sub, ?_, fun x => ?_, ?_⟩
    · intro c hc
      rcases List.mem_append.mp hc with hc | hc
      · exact hpeer c hc
      · cases List.mem_singleton.mp hc
        exact ⟨s, by simp, rfl, fun q' hq' => by
          cases hq'
          exact ⟨hq.1, by rw [hq.2, hqp], fun t ht hp =>
            (firstSeqs_inv bl).low q (List.mem_of_find?_eq_some hfind) t ht (by rw [hp, hqp])⟩⟩
    · simp only [List.filterMap_append, List.filterMap_cons, List.filterMap_nil]
      rw [List.nodup_append]
      refine ⟨h.nodup, by simp, fun a ha b hb => ?_⟩
      cases List.mem_singleton.mp hb
      intro hab; rw [hab] at ha
      exact ((h.used _).mp ha).2 hqm
    · simp only [List.filterMap_append, List.filterMap_cons, List.filterMap_nil, List.mem_append, List.mem_singleton,
        List.mem_filter]
      constructor
      · rintro (hx | hx)
        · have := (h.used x).mp hx
          exact ⟨this.1, fun hh => this.2 hh.1⟩
        · subst hx; exact ⟨h.sub.subset hqm, fun hh => by simp at hh⟩
      · rintro ⟨hx1, hx2⟩
        by_cases hxq : x = q.2
        · exact Or.inr hxq
        · exact Or.inl ((h.used x).mpr ⟨hx1, fun hh => hx2 ⟨hh, by simpa using hxq⟩⟩)
    · intro c hc
      rcases List.mem_append.mp hc with hc | hc
      · exact h.grpOk c hc
      · cases List.mem_singleton.mp hc; exact Or.inr ⟨q.2, rfl, rfl⟩

theorem matchFold_minv (al bl : List Cmd) : ∀ (l pre : List Nat) (acc : List Call × List Nat),
    MInv al bl pre acc → MInv al bl (pre ++ l) (l.foldl (matchStep al bl (firstSeqs bl)) acc)
  | [], pre, acc, h => by simpa using h
  | s :: ss, pre, acc, h => by
    simpa using matchFold_minv al bl ss (pre ++ [s]) _ (matchStep_minv al bl pre acc s h)

theorem matchLoop_minv (al bl : List Cmd) : MInv al bl (seqsOf al) (matchLoop al bl) :=
  matchFold_minv al bl (seqsOf al) [] _ (MInv.init al bl)

theorem matchFold_appends (al bl : List Cmd) (bp : List (String × Nat)) : ∀ (l : List Nat) (acc : List Call × List Nat),
    ∃ cs, (l.foldl (matchStep al bl bp) acc).1 = acc.1 ++ cs
  | [], acc => ⟨[], by simp⟩
  | s :: ss, acc => by
    obtain ⟨cs, h⟩ := matchFold_appends al bl bp ss (matchStep al bl bp acc s)
    rcases matchStep_cases al bl bp acc s with ⟨_, e⟩ | ⟨_, _, _, e⟩ <;>
      exact ⟨_ :: cs, by rw [List.foldl_cons, h, e, List.append_assoc]; rfl⟩

/-- Every call of the second loop: no device commands, and all its commands carry one number handed
out by `freeSeq` over the device's numbers, and the name of the device's map. -/
def FreshCall (al bl : List Cmd) (c : Call) : Prop :=
  c.aIdx = [] ∧ ∃ s, c.bSeq = some s ∧ c.bl.length = (grp bl s).length ∧
    (∃ st start, ∀ d ∈ c.bl, d.seq = freeSeq (seqsOf al) st 70000 start) ∧
    (∀ a0, al.head? = some a0 → ∀ d ∈ c.bl, d.name = a0.name)

theorem freeSeq_free (used : List Nat) (static : Bool) : ∀ (fuel s : Nat),
    freeSeq used static fuel s ∉ used ∨ ∀ k, k < fuel → (if static then s + k else s - k) ∈ used := by
  intro fuel
  induction fuel with
  | zero => intro s; right; intro k hk; omega
  | succ n ih =>
    intro s
    unfold freeSeq
    by_cases hc : used.contains s = true
    · rw [if_pos hc]
      refine (ih _).imp id fun h k hk => ?_
      cases k with
      | zero => cases static <;> simpa using hc
      | succ j =>
        have := h j (by omega)
        cases static
        · simpa [Nat.sub_sub, Nat.add_comm 1 j] using this
        · simpa [Nat.add_assoc, Nat.add_comm 1 j] using this
    · left
      rw [if_neg hc]
      simpa using hc

theorem freeSeq_ge (used : List Nat) : ∀ (fuel s : Nat), s ≤ freeSeq used true fuel s := by
  intro fuel
  induction fuel with
  | zero => intro s; simp [freeSeq]
  | succ n ih =>
    intro s
    unfold freeSeq
    split
    · simp only [if_true]; exact Nat.le_trans (Nat.le_succ s) (ih (s + 1))
    · exact Nat.le_refl _

/-- The entry of `b` behind a call has a static peer (`set peer …`). -/
def StaticCall (bl : List Cmd) (c : Call) : Prop :=
  ∃ s, c.bSeq = some s ∧ startsWith (peerD (grp bl s)) "peer " = true

theorem freshStep_spec (al bl : List Cmd) (acc : List Call × Nat × Nat) (s : Nat) :
    ∃ c : Call, (freshStep al bl acc s).1 = acc.1 ++ [c] ∧ c.bSeq = some s ∧ FreshCall al bl c ∧
      acc.2.1 ≤ (freshStep al bl acc s).2.1 ∧
      (startsWith (peerD (grp bl s)) "peer " = true →
        ∀ d ∈ c.bl, acc.2.1 ≤ d.seq ∧ d.seq < (freshStep al bl acc s).2.1) := by
  unfold freshStep
  by_cases hs : startsWith (peerD (grp bl s)) "peer " = true
  · simp only [hs, if_true]
    refine ⟨_, rfl, rfl, ⟨rfl, s, rfl, by simp, ⟨true, acc.2.1, fun d hd => ?_⟩, fun a0 ha d hd => ?_⟩,
      Nat.le_trans (freeSeq_ge (seqsOf al) 70000 acc.2.1) (Nat.le_succ _), fun _ d hd => ?_⟩ <;>
      (obtain ⟨e, _, rfl⟩ := List.mem_map.mp hd)
    · cases al.head? <;> rfl
    · simp [ha]
    · cases al.head? <;> exact ⟨freeSeq_ge _ _ _, Nat.lt_succ_self _⟩
  · have hs' : startsWith (peerD (grp bl s)) "peer " = false := by simpa using hs
    simp only [hs', Bool.false_eq_true, if_false]
    refine ⟨_, rfl, rfl, ⟨rfl, s, rfl, by simp, ⟨false, acc.2.2, fun d hd => ?_⟩, fun a0 ha d hd => ?_⟩,
      Nat.le_refl _, nofun⟩ <;> (obtain ⟨e, _, rfl⟩ := List.mem_map.mp hd)
    · cases al.head? <;> rfl
    · simp [ha]

theorem freshFold_spec (al bl : List Cmd) : ∀ (l : List Nat) (acc : List Call × Nat × Nat),
    ∃ cs : List Call, (l.foldl (freshStep al bl) acc).1 = acc.1 ++ cs ∧ cs.map (·.bSeq) = l.map some ∧
      (∀ c ∈ cs, FreshCall al bl c) ∧ acc.2.1 ≤ (l.foldl (freshStep al bl) acc).2.1 ∧
      (∀ c ∈ cs, StaticCall bl c → ∀ d ∈ c.bl, acc.2.1 ≤ d.seq) ∧
      cs.Pairwise (fun c1 c2 => StaticCall bl c1 → StaticCall bl c2 →
        ∀ d1 ∈ c1.bl, ∀ d2 ∈ c2.bl, d1.seq < d2.seq)
  | [], acc => ⟨[], by simp, rfl, nofun, Nat.le_refl _, nofun, List.Pairwise.nil⟩
  | s :: ss, acc => by
    obtain ⟨c, h1, h2, hf, h3, h4⟩ := freshStep_spec al bl acc s
    obtain ⟨cs, i1, i2, i3, i4, i5, i6⟩ := freshFold_spec al bl ss (freshStep al bl acc s)
    -- a static call for `s` is the call of this step
    have hst : StaticCall bl c → startsWith (peerD (grp bl s)) "peer " = true := fun ⟨s', hs1, hs2⟩ => by
      cases h2.symm.trans hs1; exact hs2
    refine ⟨c :: cs, by rw [List.foldl_cons, i1, h1]; simp, by simp [h2, i2], List.forall_mem_cons.mpr ⟨hf, i3⟩,
      Nat.le_trans h3 i4, List.forall_mem_cons.mpr ⟨fun h d hd => (h4 (hst h) d hd).1,
        fun x hx h d hd => Nat.le_trans h3 (i5 x hx h d hd)⟩,
      List.pairwise_cons.mpr ⟨fun c2 hc2 h1' h2' d1 hd1 d2 hd2 =>
        Nat.lt_of_lt_of_le (h4 (hst h1') d1 hd1).2 (i5 c2 hc2 h2' d2 hd2), i6⟩⟩

end NA.C18.G
