import NA.Proofs.C15Full
import NA.Proofs.C15Guard
/-!
# C15: facts about whole transcripts: the re-arm exchanges counted, no `write memory` in a failed run
-/
namespace NA.Ios

theorem rearms_append (a b : List Str) : rearms (a ++ b) = rearms a + rearms b := by
  simp [rearms, List.filter_append]

theorem rearms_linesOf_append (a b : List Str) :
    rearms (linesOf (a ++ b)) = rearms (linesOf a) + rearms (linesOf b) := by
  rw [linesOf_append, rearms_append]

theorem rearms_rearmLines (na : Bool) : rearms (linesOf (rearmLines na)) = 1 := by
  cases na <;> decide_lit [c15_vocab, rearms]

theorem Chg.lines_cmd (g : Chg) (h : g.Clean) : ∀ x ∈ splitOnNL g.cmd, ChangeCmd x := by
  cases g with
  | one c b =>
    rw [Chg.cmd, splitOnNL_no_nl c h.cmds.clean.noNL]
    intro x hx
    rw [List.mem_singleton.1 hx]; exact h.cmds
  | two c1 c2 b1 b2 =>
    rw [Chg.cmd, splitOnNL_append_nl, splitOnNL_no_nl c1 h.cmds.1.clean.noNL, splitOnNL_no_nl c2 h.cmds.2.clean.noNL]
    intro x hx
    rcases List.mem_cons.1 hx with rfl | hx
    · exact h.cmds.1
    · rw [List.mem_singleton.1 hx]; exact h.cmds.2

theorem Chg.rearms_cmd (g : Chg) (h : g.Clean) : rearms (linesOf [g.cmd]) = 0 := by
  simp only [rearms, linesOf, List.flatMap_cons, List.flatMap_nil, List.append_nil, List.length_eq_zero_iff,
    List.filter_eq_nil_iff]
  intro x hx
  rw [change_ne_fixed x doReloadCmd (g.lines_cmd h x hx).change (by simp [fixedLines])]
  exact Bool.false_ne_true

/-- number of script elements whose answer carried a one-minute warning -/
def needCount (gs : List Chg) : Nat := (gs.filter Chg.need).length

theorem rearms_specTrace (na : Bool) (gs : List Chg) (hc : ∀ g ∈ gs, g.Clean) (hok : specOk gs = true) :
    rearms (linesOf (specTrace na gs)) = needCount gs := by
  induction gs with
  | nil => rfl
  | cons g gs ih =>
    simp only [specOk, List.all_cons, Bool.and_eq_true] at hok
    have ih' := ih (fun x hx => hc x (by simp [hx])) (by simpa [specOk] using hok.2)
    have e : specTrace na (g :: gs) = [g.cmd] ++ ((if g.need then rearmLines na else []) ++ specTrace na gs) := by
      simp [specTrace, hok.1]
    rw [e, rearms_linesOf_append, rearms_linesOf_append, Chg.rearms_cmd g (hc g (by simp)), ih']
    cases hn : g.need with
    | false => simp [needCount, hn, linesOf, rearms]
    | true => simp [needCount, hn, rearms_rearmLines]; omega

theorem rearms_fullTrace (na : Bool) (gs : List Chg) (hc : ∀ g ∈ gs, g.Clean) (hok : specOk gs = true) :
    rearms (linesOf (fullTrace na gs)) = needCount gs := by
  have hpre : rearms (linesOf (prepCmds ++ schedLines na ++ [confCmd])) = 0 := by
    cases na <;> decide_lit [c15_vocab, rearms]
  have hsuf : rearms (linesOf ([endCmd] ++ [cancelCmd, []] ++ [writeCmd])) = 0 := by
    decide_lit [c15_vocab, rearms]
  have e : fullTrace na gs = (prepCmds ++ schedLines na ++ [confCmd]) ++ (specTrace na gs ++
      ([endCmd] ++ [cancelCmd, []] ++ [writeCmd])) := by simp [fullTrace]
  rw [e, rearms_linesOf_append (prepCmds ++ schedLines na ++ [confCmd]),
    rearms_linesOf_append (specTrace na gs), hpre, hsuf, rearms_specTrace na gs hc hok]
  omega

theorem rearms_run (na : Bool) (gs : List Chg) (q : List Behav) (st0 : St SimSt)
    (hp : st0.pend = []) (ht : st0.trace = []) (hparts : st0.dev.parts = [])
    (hq : st0.dev.queue = gs.flatMap Chg.behavs ++ q) (hc : ∀ g ∈ gs, g.Clean ∧ g.NoProbeFirst)
    (hok : specOk gs = true) :
    rearms (linesOf (applyCommands (simDevice [] na) true (gs.map Chg.cmd) st0).2.trace) = needCount gs := by
  rw [(apply_sim_ok na gs q st0 hp ht hparts hq hc hok).2.1]
  exact rearms_fullTrace na gs (fun g hg => (hc g hg).1) hok

theorem mem_specTrace (na : Bool) (gs : List Chg) (s : Str) (h : s ∈ specTrace na gs) :
    s ∈ gs.map Chg.cmd ∨ s ∈ rearmLines na := by
  induction gs with
  | nil => cases h
  | cons g gs ih =>
    simp only [specTrace, List.mem_cons] at h
    rcases h with rfl | h
    · exact .inl (by simp)
    · cases hv : g.valid with
      | false => rw [hv] at h; simp at h
      | true =>
        rw [hv] at h
        simp only [if_true, List.mem_append] at h
        rcases h with h | h
        · cases hn : g.need with
          | false => rw [hn] at h; simp at h
          | true => rw [hn] at h; exact .inr (by simpa using h)
        · rcases ih h with h | h
          · exact .inl (by simp [h])
          · exact .inr h

theorem noWrite_failTrace (na : Bool) (gs : List Chg) (hcs : ∀ c ∈ gs.map Chg.cmd, OKsend c) :
    writeCmd ∉ linesOf (failTrace na gs) := by
  refine noW_lines _ fun s hs => ?_
  have hconst : ∀ s ∈ prepCmds ++ schedLines na ++ [confCmd] ++ ([endCmd] ++ [cancelCmd, []]) ++ rearmLines na,
      writeCmd ∉ splitOnNL s := by
    cases na <;>
      decide_lit [c15_vocab]
  simp only [failTrace, List.mem_append] at hs
  rcases hs with ((((hs | hs) | hs) | hs) | hs) | hs
  · exact hconst s (by simp [hs])
  · exact hconst s (by simp [hs])
  · exact hconst s (by simp at hs; simp [hs])
  · rcases mem_specTrace na gs s hs with h1 | h1
    · exact noW_of_ok s (hcs s h1)
    · exact hconst s (by simp [h1])
  · exact hconst s (by simp at hs; simp [hs])
  · exact hconst s (by simp at hs; rcases hs with rfl | rfl <;> simp)

end NA.Ios
