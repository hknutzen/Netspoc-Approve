import NA.Proofs.Masks
import NA.Proofs.AsaDevice
/-
`MaskRun M μ ops μ'`: `ops` is what one obtains by switching cells of `M` on / off one after the other
from presence mask `μ` to `μ'`, where EVERY command addresses exactly the index `cnt ν idx` that the
touched cell has in the then-current list `masked M ν`.  Each such command is accepted by the strict
device and switches the one cell (`exec1_add`, `exec1_del`, `exec1_move`).  `SRun`: a run of the
device itself through masked forms of `M`.
-/
namespace NA.Acl

inductive MaskRun (M : List Cell) : List Bool → List Op → List Bool → Prop
  | nil (μ : List Bool) : MaskRun M μ [] μ
  | add (μ : List Bool) (j : Nat) (ops : List Op) (μ' : List Bool) :
      j < M.length → μ.length = M.length → μ.getD j false = false →
      (M.getD j default).new = true →
      (∀ x, x < M.length → μ.getD x false = true →
        (M.getD x default).line.mkey ≠ (M.getD j default).line.mkey) →
      MaskRun M (μ.set j true) ops μ' →
      MaskRun M μ (Op.add (cnt μ j) (M.getD j default).line :: ops) μ'
  | del (μ : List Bool) (i : Nat) (ops : List Op) (μ' : List Bool) :
      i < M.length → μ.length = M.length → μ.getD i false = true →
      MaskRun M (μ.set i false) ops μ' →
      MaskRun M μ (Op.del (cnt μ i) (M.getD i default).line :: ops) μ'
  | move (μ : List Bool) (i j : Nat) (ops : List Op) (μ' : List Bool) :
      i < M.length → j < M.length → μ.length = M.length → μ.getD i false = true →
      (μ.set i false).getD j false = false →
      (M.getD j default).new = true →
      (∀ x, x < M.length → (μ.set i false).getD x false = true →
        (M.getD x default).line.mkey ≠ (M.getD j default).line.mkey) →
      MaskRun M ((μ.set i false).set j true) ops μ' →
      MaskRun M μ (Op.move (cnt μ i) (M.getD i default).line
                     (cnt (μ.set i false) j) (M.getD j default).line :: ops) μ'

theorem MaskRun.append {M : List Cell} {μ μ1 μ2 : List Bool} {ops1 ops2 : List Op}
    (h1 : MaskRun M μ ops1 μ1) (h2 : MaskRun M μ1 ops2 μ2) : MaskRun M μ (ops1 ++ ops2) μ2 := by
  induction h1 with
  | nil μ => simpa using h2
  | add μ j ops μ' a b c d e _ ih => exact MaskRun.add μ j _ μ2 a b c d e (ih h2)
  | del μ i ops μ' a b c _ ih => exact MaskRun.del μ i _ μ2 a b c (ih h2)
  | move μ i j ops μ' a b c d e f g _ ih => exact MaskRun.move μ i j _ μ2 a b c d e f g (ih h2)

theorem exec1_add (M : List Cell) (μ : List Bool) (j : Nat)
    (hj : j < M.length) (hl : μ.length = M.length) (hμ : μ.getD j false = false)
    (hk : ∀ x, x < M.length → μ.getD x false = true →
        (M.getD x default).line.mkey ≠ (M.getD j default).line.mkey) :
    asaExec1 (masked M μ) (Op.add (cnt μ j) (M.getD j default).line)
      = some (masked M (μ.set j true)) := by
  have h1 : cnt μ j ≤ (masked M μ).length := cnt_le_length M μ j (Nat.le_of_lt hj)
  have h2 : (masked M μ).any (fun x => x.mkey == (M.getD j default).line.mkey) = false :=
    Bool.eq_false_iff.2 fun h =>
      let ⟨l, hm, he⟩ := List.any_eq_true.1 h
      let ⟨x, hx, hp, hline⟩ := masked_mem M μ l hm
      hk x hx hp (hline ▸ eq_of_beq he)
  simp only [asaExec1, h2, decide_eq_true h1, Bool.not_false, Bool.and_self, if_true]
  rw [masked_insert M μ j hj hμ (hl.symm ▸ hj)]

theorem exec1_del (M : List Cell) (μ : List Bool) (i : Nat)
    (hi : i < M.length) (hμ : μ.getD i false = true) :
    asaExec1 (masked M μ) (Op.del (cnt μ i) (M.getD i default).line)
      = some (masked M (μ.set i false)) := by
  simp only [asaExec1]
  rw [masked_get M μ i hi hμ, masked_erase M μ i hi hμ]
  simp

theorem exec1_move (M : List Cell) (μ : List Bool) (i j : Nat)
    (hi : i < M.length) (hj : j < M.length) (hl : μ.length = M.length)
    (hμi : μ.getD i false = true) (hμj : (μ.set i false).getD j false = false)
    (hk : ∀ x, x < M.length → (μ.set i false).getD x false = true →
        (M.getD x default).line.mkey ≠ (M.getD j default).line.mkey) :
    asaExec1 (masked M μ) (Op.move (cnt μ i) (M.getD i default).line
        (cnt (μ.set i false) j) (M.getD j default).line)
      = some (masked M ((μ.set i false).set j true)) := by
  have ha := exec1_add M (μ.set i false) j hj ((List.length_set ..).trans hl) hμj hk
  simp only [asaExec1] at ha ⊢
  rw [masked_get M μ i hi hμi, masked_erase M μ i hi hμi]
  simp only [beq_self_eq_true, if_true]
  exact ha

theorem MaskRun.length_eq {M : List Cell} {μ μ' : List Bool} {ops : List Op}
    (h : MaskRun M μ ops μ') (hl : μ.length = M.length) : μ'.length = M.length := by
  induction h with
  | nil μ => exact hl
  | add μ j ops μ' _ _ _ _ _ _ ih => exact ih ((List.length_set ..).trans hl)
  | del μ i ops μ' _ _ _ _ ih => exact ih ((List.length_set ..).trans hl)
  | move μ i j ops μ' _ _ _ _ _ _ _ _ ih =>
    exact ih ((List.length_set ..).trans ((List.length_set ..).trans hl))

/-- A run of the strict device through masked forms of `M` whose masks (after each command) satisfy
`P`. -/
inductive SRun (M : List Cell) (P : List Bool → Prop) : List Bool → List Op → List Bool → Prop
  | nil (μ : List Bool) : SRun M P μ [] μ
  | step (μ μ1 : List Bool) (op : Op) (ops : List Op) (μ' : List Bool) :
      asaExec1 (masked M μ) op = some (masked M μ1) → P μ1 → SRun M P μ1 ops μ' →
      SRun M P μ (op :: ops) μ'

theorem SRun.append {M : List Cell} {P : List Bool → Prop} {μ μ1 μ2 : List Bool}
    {ops1 ops2 : List Op} (h1 : SRun M P μ ops1 μ1) (h2 : SRun M P μ1 ops2 μ2) :
    SRun M P μ (ops1 ++ ops2) μ2 := by
  induction h1 with
  | nil μ => simpa using h2
  | step μ ν op ops μ' he hp _ ih => exact SRun.step μ ν op _ μ2 he hp (ih h2)

theorem SRun.trace {M : List Cell} {P : List Bool → Prop} {μ μ' : List Bool} {ops : List Op}
    (h : SRun M P μ ops μ') :
    ∃ tr, asaTrace (masked M μ) ops = some tr ∧ ∀ s, s ∈ tr → ∃ ν, P ν ∧ s = masked M ν := by
  induction h with
  | nil μ => exact ⟨[], rfl, fun _ hs => absurd hs List.not_mem_nil⟩
  | step μ ν op ops μ' he hp _ ih =>
    obtain ⟨tr, htr, hall⟩ := ih
    exact ⟨masked M ν :: tr, asaTrace_cons.2 ⟨_, _, he, htr, rfl⟩, List.forall_mem_cons.2 ⟨⟨ν, hp, rfl⟩, hall⟩⟩

theorem SRun.exec {M : List Cell} {P : List Bool → Prop} {μ μ' : List Bool} {ops : List Op}
    (h : SRun M P μ ops μ') : asaExec (masked M μ) ops = some (masked M μ') := by
  induction h with
  | nil μ => rfl
  | step μ ν op ops μ' he _ _ ih => exact (asaExec_cons ops he).trans ih

end NA.Acl
