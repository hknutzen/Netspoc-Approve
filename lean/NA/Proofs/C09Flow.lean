import NA.Proofs.C09Saved
import NA.Proofs.C09Sends
/-!
# C09: facts about a run that stay true once established

`SExt s s'`: `s'` has the same change script (and iptables flag) as `s` and a trace that extends the
trace of `s`.  Every program without `setPlan` only does that (`exec_stable`), and the facts
`Holds f` survive it (`Holds.stable`).
-/
namespace NA.C09
open NA.Sess NA.Apply NA.Spec.C09

def noSetPlan : Sess → Bool := allLeaves fun
  | .setPlan => false
  | _ => true

def SExt (s s' : St) : Prop := s'.plan = s.plan ∧ s'.ipt = s.ipt ∧ ∃ l, s'.tr = s.tr ++ l

theorem exec_stable (p : Sess) (hq : noSetPlan p = true) (env : Env) (s : St) : SExt s (exec p env s) := by
  obtain ⟨⟨l, hl, _⟩, hp⟩ := exec_frame (R := Grows (fun _ => True) false) Grows.frame (fun p hl hok env s hm =>
    (leaf_grows p hl env s hm).mono (fun _ _ => trivial) fun _ => by cases p <;> first | rfl | cases hok) p hq env s
  exact ⟨(hp rfl).1, (hp rfl).2, l, hl⟩

/-- the start-up file `w` was copied and the copy succeeded -/
def scpConfirmed (w : String) (tr : List Ev) : Prop :=
  ∃ pre r post, tr = pre ++ Ev.sent .save ["scp " ++ w] :: Ev.got .save r :: post ∧ r.arr = .full

/-- every command of the change script is on the wire, in order -/
def SentAll (s : St) : Prop := s.plan.Sublist (changeSends s.tr)
/-- if there is anything to change, the device confirmed the save / commit -/
def SavedV (s : St) : Prop := (!s.plan.isEmpty || s.ipt) = true → saveConfirmed s.tr = true
/-- Linux: if routes changed, the routing start-up file was copied successfully -/
def SavedR (s : St) : Prop := s.plan.isEmpty = false → scpConfirmed "routing" s.tr
/-- Linux: if iptables changed, the packet-filter start-up file was copied successfully -/
def SavedT (s : St) : Prop := s.ipt = true → scpConfirmed "iptables" s.tr
/-- Linux: if iptables changed, the last activation command (`mv` of the new packet-filter file) was sent -/
def MvSent (s : St) : Prop :=
  s.ipt = true → ["mv -f /etc/network/packet-filter.new /etc/network/packet-filter"] ∈ changeSends s.tr
/-- compare: if a difference was computed, `comp: *** device changed ***` is in the log -/
def ChangedLogged (s : St) : Prop := (!s.plan.isEmpty || s.ipt) = true → s.tr.contains Ev.logChanged = true

structure Facts where
  S : Bool
  V : Bool
  R : Bool
  T : Bool
  C : Bool
  M : Bool
  deriving DecidableEq, Repr

def Facts.top : Facts := ⟨true, true, true, true, true, true⟩
def Facts.bot : Facts := ⟨false, false, false, false, false, false⟩
def Facts.meet (a b : Facts) : Facts := ⟨a.S && b.S, a.V && b.V, a.R && b.R, a.T && b.T, a.C && b.C, a.M && b.M⟩
def Facts.join (a b : Facts) : Facts := ⟨a.S || b.S, a.V || b.V, a.R || b.R, a.T || b.T, a.C || b.C, a.M || b.M⟩
def Facts.le (need have_ : Facts) : Bool :=
  (!need.S || have_.S) && (!need.V || have_.V) && (!need.R || have_.R) && (!need.T || have_.T) && (!need.C || have_.C) && (!need.M || have_.M)

structure Holds (f : Facts) (st : St) : Prop where
  hS : f.S = true → SentAll st
  hV : f.V = true → SavedV st
  hR : f.R = true → SavedR st
  hT : f.T = true → SavedT st
  hC : f.C = true → ChangedLogged st
  hM : f.M = true → MvSent st

theorem Holds.bot (s : St) : Holds Facts.bot s :=
  ⟨nofun, nofun, nofun, nofun, nofun, nofun⟩

theorem Holds.join {a b : Facts} {s : St} (ha : Holds a s) (hb : Holds b s) : Holds (a.join b) s :=
  ⟨fun x => (Bool.or_eq_true_iff.mp x).elim ha.hS hb.hS, fun x => (Bool.or_eq_true_iff.mp x).elim ha.hV hb.hV,
   fun x => (Bool.or_eq_true_iff.mp x).elim ha.hR hb.hR, fun x => (Bool.or_eq_true_iff.mp x).elim ha.hT hb.hT,
   fun x => (Bool.or_eq_true_iff.mp x).elim ha.hC hb.hC, fun x => (Bool.or_eq_true_iff.mp x).elim ha.hM hb.hM⟩

theorem Holds.of_le {need have_ : Facts} {s : St} (hle : Facts.le need have_ = true) (h : Holds have_ s) : Holds need s := by
  simp only [Facts.le, Bool.and_eq_true, Bool.or_eq_true, Bool.not_eq_true'] at hle
  obtain ⟨⟨⟨⟨⟨h1, h2⟩, h3⟩, h4⟩, h5⟩, h6⟩ := hle
  have k : ∀ {x y : Bool}, x = false ∨ y = true → x = true → y = true := by decide
  exact ⟨fun x => h.hS (k h1 x), fun x => h.hV (k h2 x), fun x => h.hR (k h3 x), fun x => h.hT (k h4 x),
    fun x => h.hC (k h5 x), fun x => h.hM (k h6 x)⟩

theorem Holds.meet_left {a b : Facts} {s : St} (h : Holds a s) : Holds (a.meet b) s := by
  have k : ∀ x y : Bool, (!(x && y) || x) = true := by decide
  exact h.of_le (by simp only [Facts.le, Facts.meet, k, Bool.and_self])

theorem Holds.meet_right {a b : Facts} {s : St} (h : Holds b s) : Holds (a.meet b) s := by
  have k : ∀ x y : Bool, (!(x && y) || y) = true := by decide
  exact h.of_le (by simp only [Facts.le, Facts.meet, k, Bool.and_self])


theorem scpConfirmed_append (w : String) (a l : List Ev) (h : scpConfirmed w a) : scpConfirmed w (a ++ l) := by
  obtain ⟨pre, r, post, he, hr⟩ := h
  exact ⟨pre, r, post ++ l, by rw [he]; simp, hr⟩

theorem Holds.stable {f : Facts} {s s' : St} (hx : SExt s s') (h : Holds f s) : Holds f s' := by
  obtain ⟨hp, hi, l, ht⟩ := hx
  refine ⟨fun x => ?_, fun x => ?_, fun x => ?_, fun x => ?_, fun x => ?_, fun x => ?_⟩
  · have := h.hS x
    unfold SentAll at *
    rw [hp, ht, changeSends_append]
    exact this.trans (List.sublist_append_left _ _)
  · have := h.hV x
    unfold SavedV at *
    rw [hp, hi, ht]
    intro hc
    exact saveConfirmed_append _ _ (this hc)
  · have := h.hR x
    unfold SavedR at *
    rw [hp, ht]
    intro hc
    exact scpConfirmed_append _ _ _ (this hc)
  · have := h.hT x
    unfold SavedT at *
    rw [hi, ht]
    intro hc
    exact scpConfirmed_append _ _ _ (this hc)
  · have := h.hC x
    unfold ChangedLogged at *
    rw [hp, hi, ht]
    intro hc
    have h1 := this hc
    simp only [List.contains_iff_mem, List.mem_append] at h1 ⊢
    exact Or.inl h1
  · have := h.hM x
    unfold MvSent at *
    rw [hi, ht, changeSends_append]
    intro hc
    exact List.mem_append_left _ (this hc)

theorem Holds.nothing (f : Facts) (s : St) (hp : s.plan.isEmpty = true) (hi : s.ipt = false) : Holds f s := by
  have hnil : s.plan = [] := by simpa using hp
  refine ⟨fun _ => ?_, fun _ => ?_, fun _ => ?_, fun _ => ?_, fun _ => ?_, fun _ => ?_⟩
  · unfold SentAll; rw [hnil]; exact List.nil_sublist _
  · unfold SavedV; rw [hp, hi]; simp
  · unfold SavedR; rw [hp]; simp
  · unfold SavedT; rw [hi]; simp
  · unfold ChangedLogged; rw [hp, hi]; simp
  · unfold MvSent; rw [hi]; simp

end NA.C09
