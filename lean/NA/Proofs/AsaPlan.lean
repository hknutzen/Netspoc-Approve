import NA.Proofs.AsaMaskRun
import NA.Proofs.CellPlanSafe
/-
ASA `line N` planner: `planASA M` is the cell plan `cplan M` with every cell addressed by its
position `cnt μ i` in the then-current list (`planASA_render`).  The two loops of `diffASAACLs` are
walked along a legal run of the cell plan, which supplies what holds of the masks; what is left to
track is the Go map `pos` (`PosInv`: `pos[x] = cnt μ x` for every present old cell and every pending
new cell) and that a cell whose `needed` flag is set is absent.
-/
namespace NA.Acl

attribute [-simp] List.getD_eq_getElem?_getD

def asaOp (M : List Cell) (μ : List Bool) : COp → Op
  | .add j => Op.add (cnt μ j) (M.getD j default).line
  | .del i => Op.del (cnt μ i) (M.getD i default).line
  | .move i j =>
    Op.move (cnt μ i) (M.getD i default).line (cnt (μ.set i false) j) (M.getD j default).line

def asaRender (M : List Cell) : List Bool → List COp → List Op
  | _, [] => []
  | μ, c :: cs => asaOp M μ c :: asaRender M (c.apply μ) cs

theorem CRun.asaRender_append {M : List Cell} {P : List Bool → Prop} {μ μ1 : List Bool}
    {a : List COp} (h : CRun M P μ a μ1) (b : List COp) :
    asaRender M μ (a ++ b) = asaRender M μ a ++ asaRender M μ1 b := by
  induction h with
  | nil μ => rfl
  | step μ c cs μ' _ _ _ ih => exact congrArg (asaOp M μ c :: ·) ih

theorem mem_asaRender (M : List Cell) (cs : List COp) (μ : List Bool) (op : Op)
    (h : op ∈ asaRender M μ cs) : ∃ c ν, c ∈ cs ∧ op = asaOp M ν c := by
  induction cs generalizing μ with
  | nil => cases h
  | cons c cs ih =>
    rcases List.mem_cons.1 h with e | h
    · exact ⟨c, μ, List.mem_cons_self, e⟩
    · obtain ⟨c', ν, hc, e⟩ := ih _ h
      exact ⟨c', ν, List.mem_cons_of_mem _ hc, e⟩

theorem CRun.maskRun {M : List Cell} {P : List Bool → Prop} {μ μ' : List Bool} {cs : List COp}
    (h : CRun M P μ cs μ') (hl : μ.length = M.length) : MaskRun M μ (asaRender M μ cs) μ' := by
  induction h with
  | nil μ => exact MaskRun.nil μ
  | step μ c cs μ' hok _ _ ih =>
    have ih' := ih ((COp.apply_length μ c).trans hl)
    cases c with
    | add j =>
      obtain ⟨hj, hf, hn, hfr⟩ := hok
      exact MaskRun.add μ j _ μ' hj hl hf hn hfr ih'
    | del i => exact MaskRun.del μ i _ μ' hok.1 hl hok.2 ih'
    | move i j =>
      obtain ⟨hi, hj, ht, hf, hn, hfr⟩ := hok
      exact MaskRun.move μ i j _ μ' hi hj hl ht hf hn hfr ih'

theorem CRun.sRun {M : List Cell} {P : List Bool → Prop} {μ μ' : List Bool} {cs : List COp}
    (h : CRun M P μ cs μ') (hl : μ.length = M.length) : SRun M P μ (asaRender M μ cs) μ' := by
  induction h with
  | nil μ => exact SRun.nil μ
  | step μ c cs μ' hok hp _ ih =>
    have ih' := ih ((COp.apply_length μ c).trans hl)
    cases c with
    | add j =>
      obtain ⟨hj, hf, -, hfr⟩ := hok
      exact SRun.step μ _ _ _ μ' (exec1_add M μ j hj hl hf hfr) hp ih'
    | del i => exact SRun.step μ _ _ _ μ' (exec1_del M μ i hok.1 hok.2) hp ih'
    | move i j =>
      obtain ⟨hi, hj, ht, hf, -, hfr⟩ := hok
      exact SRun.step μ _ _ _ μ' (exec1_move M μ i j hi hj hl ht hf hfr) hp ih'

/-- `pos` is `cnt μ` on the present old cells and on the new-only cells `js` still to be added
(ascending); the cells in `needed` are old and absent. -/
structure PosInv (M : List Cell) (μ : List Bool) (js pos needed : List Nat) : Prop where
  lμ : μ.length = M.length
  lpos : pos.length = M.length
  jsp : js.Pairwise (· < ·)
  jsn : ∀ j, j ∈ js → j < M.length ∧ (M.getD j default).old = false
  posI : ∀ x, x < M.length →
    ((M.getD x default).old = true ∧ μ.getD x false = true) ∨ x ∈ js → pos.getD x 0 = cnt μ x
  nd : ∀ x, x ∈ needed → (M.getD x default).old = true ∧ μ.getD x false = false

section
variable {M : List Cell} {μ : List Bool} {js pos needed : List Nat}

/-- `delACL` of a present old cell `i`. -/
theorem PosInv.del (h : PosInv M μ js pos needed) (i : Nat) (hi : i < M.length)
    (ho : (M.getD i default).old = true) (hμi : μ.getD i false = true) :
    PosInv M (μ.set i false) js (pos.map fun q => if q > cnt μ i then q - 1 else q)
      (i :: needed) := by
  have hiμ : i < μ.length := h.lμ.symm ▸ hi
  refine ⟨(List.length_set ..).trans h.lμ, (List.length_map ..).trans h.lpos, h.jsp, h.jsn,
    fun x hx hc => ?_, fun x hx => ?_⟩
  · have hxi : x ≠ i := by
      rintro rfl
      rcases hc with hc | hc
      · rw [getD_set_self μ false hiμ] at hc; cases hc.2
      · have := (h.jsn x hc).2; rw [ho] at this; cases this
    rw [getD_set_ne μ false hxi] at hc
    rw [ListFacts.getD_map _ 0 0 (h.lpos.symm ▸ hx), h.posI x hx hc]
    have hs := cnt_set_false μ i x hμi
    by_cases hlt : i < x
    · rw [if_pos hlt] at hs
      rw [if_pos (cnt_lt μ i x hlt hμi), ← hs]; rfl
    · rw [if_neg hlt] at hs
      rw [if_neg (Nat.not_lt.2 (cnt_mono μ x i (Nat.le_of_not_lt hlt)))]; exact hs.symm
  · by_cases e : x = i
    · rw [e]; exact ⟨ho, getD_set_self μ false hiμ⟩
    · have := h.nd x ((List.mem_cons.1 hx).resolve_left e)
      exact ⟨this.1, (getD_set_ne μ false e).trans this.2⟩

/-- `addACL` of the first pending new-only cell. -/
theorem PosInv.add {j : Nat} (h : PosInv M μ (j :: js) pos needed) (hμj : μ.getD j false = false) :
    PosInv M (μ.set j true) js (pos.map fun q => if q ≥ cnt μ j then q + 1 else q) needed := by
  obtain ⟨hj, hjo⟩ := h.jsn j List.mem_cons_self
  have hjμ : j < μ.length := h.lμ.symm ▸ hj
  obtain ⟨hlt, hp⟩ := List.pairwise_cons.1 h.jsp
  refine ⟨(List.length_set ..).trans h.lμ, (List.length_map ..).trans h.lpos, hp,
    fun x hx => h.jsn x (List.mem_cons_of_mem _ hx), fun x hx hc => ?_, fun x hx => ?_⟩
  · have hxj : x ≠ j := by
      rintro rfl
      rcases hc with hc | hc
      · rw [hjo] at hc; cases hc.1
      · exact Nat.lt_irrefl x (hlt x hc)
    rw [getD_set_ne μ true hxj] at hc
    rw [ListFacts.getD_map _ 0 0 (h.lpos.symm ▸ hx),
      h.posI x hx (hc.imp_right (List.mem_cons_of_mem _)), cnt_set_true μ j x hμj hjμ]
    by_cases hjx : j < x
    · rw [if_pos hjx, if_pos (cnt_mono μ j x (Nat.le_of_lt hjx))]
    · -- a cell before `j` that still matters is present: the pending ones lie behind `j`
      have hμx : μ.getD x false = true := hc.elim And.right fun m => absurd (hlt x m) hjx
      have hxlt : x < j := Nat.lt_of_le_of_ne (Nat.le_of_not_lt hjx) hxj
      rw [if_neg hjx, if_neg (Nat.not_le.2 (cnt_lt μ x j hxlt hμx))]; rfl
  · have hx' := h.nd x hx
    have e : x ≠ j := fun e => by rw [e, hjo] at hx'; cases hx'.1
    exact ⟨hx'.1, (getD_set_ne μ true e).trans hx'.2⟩

end

theorem PosInv.init (M : List Cell) : PosInv M (oldMask M) (addIdx M) (pos0 M) [] := by
  refine ⟨by simp [oldMask], by simp [pos0], (CInv.init M).jsp, fun j hj => ?_, fun x hx _ => ?_,
    fun _ hx => absurd hx List.not_mem_nil⟩
  · obtain ⟨h1, h2, _⟩ := (mem_addIdx M j).1 hj
    exact ⟨h1, h2⟩
  · unfold pos0
    rw [ListFacts.getD_map (countOld M) 0 0 (by simpa using hx), countOld_eq_cnt]
    congr 1
    simp [List.getD_eq_getElem?_getD, hx]

theorem asaDelStep_skip (M : List Cell) (st : AsaSt) (i : Nat) (h : i ∈ st.needed) :
    asaDelStep M st i = st := by
  simp [asaDelStep, h]

theorem asaDelStep_del (M : List Cell) (pos needed : List Nat) (ops : List Op) (i : Nat)
    (h : i ∉ needed) :
    asaDelStep M ⟨pos, needed, ops⟩ i =
      ⟨pos.map (fun q => if q > pos.getD i 0 then q - 1 else q), i :: needed,
        Op.del (pos.getD i 0) (M.getD i default).line :: ops⟩ := by
  have hc : needed.contains i = false := by simpa using h
  simp only [asaDelStep, asaDelACL, hc]
  rfl

theorem asaAddStep_eq (M : List Cell) {μ : List Bool} {js pos needed : List Nat} {j : Nat}
    (ops : List Op) (h : PosInv M μ (j :: js) pos needed) (hok : (cellOp M j).ok M μ) :
    ∃ pos1, asaAddStep M ⟨pos, needed, ops⟩ j =
        ⟨pos1, (delLookup M (M.getD j default).line.mkey).toList ++ needed,
          asaOp M μ (cellOp M j) :: ops⟩ ∧
      PosInv M ((cellOp M j).apply μ) js pos1
        ((delLookup M (M.getD j default).line.mkey).toList ++ needed) := by
  obtain ⟨hj, -⟩ := h.jsn j List.mem_cons_self
  unfold cellOp at hok ⊢
  cases hd : delLookup M (M.getD j default).line.mkey with
  | none =>
    rw [hd] at hok
    refine ⟨_, ?_, h.add hok.2.1⟩
    simp only [asaAddStep, hd, asaAddACL, h.posI j hj (Or.inr List.mem_cons_self)]
    rfl
  | some i =>
    rw [hd] at hok
    obtain ⟨hi, -, hμi, hμj, -, -⟩ := hok
    have hio := (delLookup_some M _ i hd).2.1
    have hc : needed.contains i = false := Bool.eq_false_iff.2 fun hc => by
      rw [(h.nd i (List.contains_iff_mem.1 hc)).2] at hμi; cases hμi
    have h1 := h.del i hi hio hμi
    refine ⟨_, ?_, h1.add hμj⟩
    simp only [asaAddStep, hd, asaDelACL, asaAddACL, hc, h.posI i hi (Or.inl ⟨hio, hμi⟩),
      h1.posI j hj (Or.inr List.mem_cons_self)]
    rfl

theorem asa_add_loop (M : List Cell) {P : List Bool → Prop} {μ1 : List Bool} (js : List Nat) :
    ∀ (μ : List Bool) (pos needed : List Nat) (ops : List Op),
      CRun M P μ (js.map (cellOp M)) μ1 → PosInv M μ js pos needed →
      ∃ pos1, js.foldl (asaAddStep M) ⟨pos, needed, ops⟩ =
          ⟨pos1, (js.filterMap fun j => delLookup M (M.getD j default).line.mkey).reverse ++ needed,
            (asaRender M μ (js.map (cellOp M))).reverse ++ ops⟩ ∧
        PosInv M μ1 [] pos1
          ((js.filterMap fun j => delLookup M (M.getD j default).line.mkey).reverse ++ needed) := by
  induction js with
  | nil =>
    intro μ pos needed ops hrun h
    cases hrun
    exact ⟨pos, rfl, h⟩
  | cons j js ih =>
    intro μ pos needed ops hrun h
    obtain ⟨hok, -, hrun'⟩ := CRun.cons_inv hrun
    obtain ⟨pos1, he, h1⟩ := asaAddStep_eq M ops h hok
    obtain ⟨pos2, he2, h2⟩ := ih _ pos1 _ (asaOp M μ (cellOp M j) :: ops) hrun' h1
    have hnd : (List.filterMap (fun j => delLookup M (M.getD j default).line.mkey) (j :: js)).reverse
        ++ needed = (js.filterMap fun j => delLookup M (M.getD j default).line.mkey).reverse ++
          ((delLookup M (M.getD j default).line.mkey).toList ++ needed) := by
      rw [List.filterMap_cons]
      cases delLookup M (M.getD j default).line.mkey with
      | none => rfl
      | some i => rw [List.reverse_cons, List.append_assoc]; rfl
    refine ⟨pos2, ?_, hnd ▸ h2⟩
    rw [List.foldl_cons, he, he2, hnd, List.map_cons, asaRender, List.reverse_cons,
      List.append_assoc]
    rfl

theorem asa_del_loop (M : List Cell) {P : List Bool → Prop} {μ1 : List Bool} (ds : List Nat) :
    ∀ (μ : List Bool) (pos needed : List Nat) (ops : List Op),
      CRun M P μ ((ds.filter fun i => !needed.contains i).map COp.del) μ1 →
      PosInv M μ [] pos needed → ds.Nodup →
      (∀ i, i ∈ ds → i < M.length ∧ (M.getD i default).old = true) →
      (ds.foldl (asaDelStep M) ⟨pos, needed, ops⟩).ops =
        (asaRender M μ ((ds.filter fun i => !needed.contains i).map COp.del)).reverse ++ ops := by
  induction ds with
  | nil => intro μ pos needed ops _ _ _ _; rfl
  | cons i ds ih =>
    intro μ pos needed ops hrun h hnd hds
    obtain ⟨hi, hio⟩ := hds i List.mem_cons_self
    obtain ⟨hids, hnd'⟩ := List.nodup_cons.1 hnd
    have hds' : ∀ x, x ∈ ds → x < M.length ∧ (M.getD x default).old = true :=
      fun x hx => hds x (List.mem_cons_of_mem _ hx)
    by_cases hm : i ∈ needed
    · rw [List.filter_cons_of_neg (by simpa using hm)] at hrun ⊢
      rw [List.foldl_cons, asaDelStep_skip M _ i hm]
      exact ih μ pos needed ops hrun h hnd' hds'
    · rw [List.filter_cons_of_pos (by simpa using hm), List.map_cons] at hrun ⊢
      -- the flag of `i` is tested for no later cell
      have hfil : (ds.filter fun x => !(i :: needed).contains x) =
          ds.filter fun x => !needed.contains x :=
        List.filter_congr fun x hx => by
          have hxi : x ≠ i := fun e => hids (e ▸ hx)
          rw [List.contains_cons, beq_false_of_ne hxi, Bool.false_or]
      obtain ⟨⟨-, hμi⟩, -, hrun'⟩ := CRun.cons_inv hrun
      have hpi : pos.getD i 0 = cnt μ i := h.posI i hi (Or.inl ⟨hio, hμi⟩)
      rw [List.foldl_cons, asaDelStep_del M pos needed ops i hm, hpi,
        ih (μ.set i false) _ (i :: needed) _ (hfil ▸ hrun') (h.del i hi hio hμi) hnd' hds', hfil,
        asaRender, List.reverse_cons, List.append_assoc]
      rfl

theorem planASA_render_of_run (M : List Cell) {P : List Bool → Prop} {μ' : List Bool}
    (hrun : CRun M P (oldMask M) (cplan M) μ') :
    planASA M = asaRender M (oldMask M) (cplan M) := by
  obtain ⟨μ1, hr1, hr2⟩ := CRun.append_inv hrun
  obtain ⟨pos1, he, h1⟩ := asa_add_loop M (addIdx M) (oldMask M) (pos0 M) [] [] hr1 (PosInv.init M)
  rw [List.append_nil, List.append_nil] at he
  rw [List.append_nil] at h1
  have hfil : ((delIdx M).reverse.filter fun i => !(lookups M).reverse.contains i) = cdels M :=
    List.filter_congr fun x _ => by rw [List.contains_reverse]
  have hnd : (delIdx M).reverse.Nodup := by
    unfold delIdx
    exact (List.pairwise_reverse.2 (List.Pairwise.filter _ List.pairwise_lt_range)).imp
      fun h => Nat.ne_of_gt h
  have hd := asa_del_loop M (delIdx M).reverse μ1 pos1 (lookups M).reverse
    (asaRender M (oldMask M) ((addIdx M).map (cellOp M))).reverse (hfil ▸ hr2) h1 hnd fun i hi =>
    let ⟨a, b, _⟩ := (mem_delIdx M i).1 (List.mem_reverse.1 hi)
    ⟨a, b⟩
  unfold planASA
  rw [he]
  show ((delIdx M).reverse.foldl (asaDelStep M) ⟨pos1, (lookups M).reverse, _⟩).ops.reverse = _
  rw [hd, hfil, List.reverse_append, List.reverse_reverse, List.reverse_reverse, cplan,
    hr1.asaRender_append]

theorem planASA_render (M : List Cell) (hN1 : NewInj M) (hN2 : OldInj M) :
    planASA M = asaRender M (oldMask M) (cplan M) :=
  planASA_render_of_run M (cplan_run_shape M hN1 hN2)

theorem planASA_maskRun (M : List Cell) (hN1 : NewInj M) (hN2 : OldInj M) :
    MaskRun M (oldMask M) (planASA M) (newMask M) := by
  rw [planASA_render M hN1 hN2]
  exact (cplan_run_shape M hN1 hN2).maskRun (List.length_map ..)

theorem planASA_srunP (M : List Cell) (hN1 : NewInj M) (hN2 : OldInj M) {P : List Bool → Prop}
    (hA : ∀ μ needed js, CInv M μ needed js → AddX M needed js → P μ)
    (hD : ∀ μ needed, CInv M μ needed [] → DelX M needed → P μ) :
    SRun M P (oldMask M) (planASA M) (newMask M) := by
  rw [planASA_render M hN1 hN2]
  exact (cplan_run M hN1 hN2 hA hD).sRun (List.length_map ..)

theorem planASA_srun (M : List Cell) (hN1 : NewInj M) (hN2 : OldInj M) :
    SRun M (Shape M) (oldMask M) (planASA M) (newMask M) :=
  planASA_srunP M hN1 hN2 (fun _ _ _ => shape_of_add) (fun _ _ => shape_of_del)

theorem planASA_old_or_new (M : List Cell) (hold : ((olds M).map (·.mkey)).Nodup)
    (hnew : ((news M).map (·.mkey)).Nodup) (hcross : CrossOK M) (hsem : SemOK M) :
    ∃ tr, asaTrace (olds M) (planASA M) = some tr ∧
      ∀ s, s ∈ tr → ∀ p, eval s p = eval (olds M) p ∨ eval s p = eval (news M) p := by
  obtain ⟨tr, htr, hall⟩ :=
    (planASA_srun M (newInj_of_nodup M hnew) (oldInj_of_nodup M hold)).trace
  rw [masked_old] at htr
  refine ⟨tr, htr, fun s hs p => ?_⟩
  obtain ⟨ν, hν, rfl⟩ := hall s hs
  exact hν.old_or_new hcross hsem p

/-- An added line belongs to a new-only cell, a deleted line to an old-only cell; the code's
`bad` (corrupted bookkeeping) does not occur. -/
def OpKind (M : List Cell) : Op → Prop
  | .add _ l => ∃ j, j ∈ addIdx M ∧ l = (M.getD j default).line
  | .del _ l => ∃ i, i ∈ delIdx M ∧ l = (M.getD i default).line
  | .move _ a _ b => (∃ i, i ∈ delIdx M ∧ a = (M.getD i default).line) ∧
      (∃ j, j ∈ addIdx M ∧ b = (M.getD j default).line)
  | .bad => False

theorem planASA_opKind (M : List Cell) (hN1 : NewInj M) (hN2 : OldInj M) :
    ∀ op, op ∈ planASA M → OpKind M op := by
  intro op hop
  rw [planASA_render M hN1 hN2] at hop
  obtain ⟨c, ν, hc, rfl⟩ := mem_asaRender M _ _ op hop
  rcases List.mem_append.1 hc with hc | hc
  · obtain ⟨j, hj, rfl⟩ := List.mem_map.1 hc
    unfold cellOp
    cases hd : delLookup M (M.getD j default).line.mkey with
    | none => exact ⟨j, hj, rfl⟩
    | some d => exact ⟨⟨d, (delLookup_someI hd).1, rfl⟩, ⟨j, hj, rfl⟩⟩
  · obtain ⟨i, hi, rfl⟩ := List.mem_map.1 hc
    exact ⟨i, List.mem_reverse.1 (List.mem_filter.1 hi).1, rfl⟩

end NA.Acl
