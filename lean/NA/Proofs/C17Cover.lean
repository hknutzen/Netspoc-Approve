import NA.Gen.Sinks
import NA.Model.MaskFlow
/-!
# C17: which lemma covers which sink call site

`NA.Gen.Sinks.sites` is regenerated from `/repo` on every run by `translate/sinks` (typed call
resolution; EVERY sink call of the module, with its sink kind).  The id of a site hashes its PACKAGE,
its sink kind, its taint CLASS (raw / masked secrets with the failure KIND they came through) and its
ordinal among the sites of that package with the same kind and class (interchangeable) — no function
name, no argument text, no local names, no positions, no ids of clean error sources.  The table below
is written by hand: it maps the id of every site that receives a secret, raw or through a redaction step,
to the reason why that site cannot reveal it — or to the known finding F-C17; a site into which no secret
flows needs no entry (`siteOk`).  A new sink call that receives a secret, or a changed taint class of an
existing one (e.g. a mask removed), gives an id that is not in the table or a class the entry does not admit,
and `all_sink_sites_covered` (NA/Props/C17Sites.lean) no longer checks.  A changed argument text or function
name with the same package, kind and taint class does not change the id: such sites are interchangeable.
-/
namespace NA.C17
open NA.Gen.Sinks

inductive Cover where
  /-- no secret flows into the arguments -/
  | clean
  /-- argument went through `passRE` (keygen URL): `mask_uri_independent` -/
  | maskUri
  /-- argument went through `keyRE` (keygen response): `mask_body_independent` -/
  | maskBody
  /-- error text went through `passRE`: `mask_error_independent` -/
  | maskError
  /-- NSX login form logged with `j_password=xxx`: `nsx_login_log_independent` -/
  | nsxLogin
  /-- `console.Conn`: device output / regex / command of the change script, never what `Send` got:
      `ssh_log_is_device_output_only` -/
  | deviceOutput
  /-- do-approve copies a run-log line to stdout / history: `allSinks` -/
  | copyOfRunLog
  /-- a primitive write inside a sink wrapper of the module (`errlog.*`, `logHistory`, `abort`, `warn`,
      `logString`): its arguments are the wrapper's parameters, accounted for at every call of the wrapper -/
  | wrapper
  /-- finding F-C17: the unmasked error of a PAN-OS request after login -/
  | fc17
  deriving DecidableEq, Repr

def cover : List (Nat × Cover) := [
  (2492921266, .maskUri),    -- panos, session, M:passRE            #1  (getAPIKey: DoLog(loggedURI))
  (797694342, .maskBody),    -- panos, session, M:keyRE             #1  (getAPIKey: DoLog(loggedBody))
  (3243825016, .maskError),  -- httpdevice, runlog, M:passRE@http.Client.Get[T:key+T:pass] #1 (TryReachableHTTPLogin: Warning(err))
  (3659553034, .fc17)        -- device, runlog, T:key@http.Client.Get[T:key+T:pass]        #1 (ApproveOrCompare: Abort(err))
]

def lookup (id : Nat) : List (Nat × Cover) → Option Cover
  | [] => none
  | (i, c) :: r => if i = id then some c else lookup id r

/-- Is the class the table gives compatible with the taint the translator computed? -/
def compatible (taintCode : Nat) : Cover → Bool
  | .fc17 => taintCode == 9
  | .maskUri | .maskBody | .maskError => taintCode == 1
  | .clean | .nsxLogin | .deviceOutput | .copyOfRunLog | .wrapper => taintCode == 0

/-- A site into which no secret flows (taintCode 0) needs no entry: whatever it writes — a new message,
a renamed local, device output — is independent of the secrets.  A site that receives a secret, raw or
through a redaction step, must be in the table with a compatible class. -/
def siteOk (s : Site) : Bool :=
  match lookup s.id cover with
  | none => s.taintCode == 0
  | some c => compatible s.taintCode c

/-- Sites without a (compatible) entry. -/
def uncovered : List Nat := (sites.filter fun s => !siteOk s).map (·.id)

/-- Sites into which a raw secret flows, as computed from the source. -/
def taintedSites : List Nat := (sites.filter fun s => s.taintCode == 9).map (·.id)

/-- Sites the table attributes to F-C17. -/
def fc17Sites : List Nat := (cover.filter fun p => p.2 == .fc17).map (·.1)

/-! ## failure kinds: calls whose error text embeds the request URL -/

/-- The failure kinds of the run model the generated error sources correspond to. -/
inductive FailureKind where
  /-- `panos.httpGet`: `Reply.terr` of the keygen request (`keygen`) and of every later request (`prefixGet`) -/
  | panosGet
  /-- `url.Parse(addr)` in `getAPIKey`: the device address of the info file, no secret -/
  | panosAddrParse
  /-- NSX session-create `PostForm`: `NsxLogin.terr` -/
  | nsxLoginPost
  /-- NSX `http.NewRequest` / `client.Do`: `Reply.terr` of `nsxReqErr` -/
  | nsxRequest
  deriving DecidableEq, Repr

/-- Hand-written: failure kinds whose URL carries secrets (id = hash of API and URL taint class).
A failure kind with a clean URL needs no entry, wherever the call stands. -/
def sourceKinds : List (Nat × FailureKind) := [
  (197749963, .panosGet)     -- http.Client.Get[T:key+T:pass]  (panos.State.httpGet)
]

def sourceKind (id : Nat) : List (Nat × FailureKind) → Option FailureKind
  | [] => none
  | (i, k) :: r => if i = id then some k else sourceKind id r

/-- Only the URL of the PAN-OS requests may carry secrets. -/
def sourceOk (s : ErrSource) : Bool :=
  s.urlCode == 0 || sourceKind s.id sourceKinds == some .panosGet

def unclassifiedSources : List Nat := (errSources.filter fun s => !sourceOk s).map (·.id)

/-- Flows whose error text still shows a secret at the sink. -/
def rawFlows : List (Nat × Nat) := (errFlows.filter fun f => f.raw).map fun f => (f.source, f.site)

/-! ## where a password can enter -/

/-- What enters at a place where the program reads from outside. -/
inductive InputKind
  | passwordTerminal  -- `term.ReadPassword` in `askPassword` (drc -u USER)
  | passwordFile      -- the credentials file read by `getSystemPassword`
  | flag              -- a command line flag: none takes a password
  | environment       -- an environment variable: none holds a password
  | arguments         -- `os.Args` (usage text, logging of the command line)
  | terminalHandle    -- `os.Stdin` as file descriptor for `term.ReadPassword`
  | dataFile          -- configuration, code, info, status files
  deriving DecidableEq, Repr

def InputKind.isPassword : InputKind → Bool
  | .passwordTerminal | .passwordFile => true
  | _ => false

/-- Hand-written: every regenerated input place (id = hash of package, API, literal name, ordinal). -/
def inputKinds : List (Nat × InputKind) := [
  (2880949429, .dataFile),   -- codefiles.LoadInfoFile: os.Open 
  (518516805, .environment),   -- mytime.Now: os.Getenv TEST_TIME
  (664981419, .dataFile),   -- program.LoadConfig: os.ReadFile 
  (2758447557, .terminalHandle),   -- program.Config.askPassword: os.Stdin 
  (3900004185, .passwordTerminal),   -- program.Config.askPassword: term.ReadPassword 
  (1574504650, .passwordFile),   -- program.Config.getSystemPassword: os.ReadFile 
  (566236935, .dataFile),   -- status.Read: os.ReadFile 
  (3486749826, .environment),   -- httpdevice.GetHTTPClient: os.Getenv SIMULATE_ROUTER
  (1643354683, .environment),   -- panos.State.ApplyCommands$commit: os.Getenv SIMULATE_ROUTER
  (755359375, .environment),   -- console.GetSSHConn: os.Getenv SIMULATE_ROUTER
  (854868184, .environment),   -- linux.State.putScp: os.Getenv SIMULATE_ROUTER
  (3452394867, .dataFile),   -- device.state.loadSpocFile: os.ReadFile 
  (40856948, .arguments),   -- doapprove.Main: os.Args 
  (91189805, .arguments),   -- doapprove.Main$lit1: os.Args 
  (2864344731, .flag),   -- doapprove.Main: flag.BoolP brief
  (299519941, .dataFile),   -- doapprove.Main: os.ReadFile 
  (4229746743, .arguments),   -- drc.Main: os.Args 
  (4246524362, .arguments),   -- drc.Main$lit1: os.Args 
  (963564687, .flag),   -- drc.Main: flag.BoolP compare
  (2287372896, .flag),   -- drc.Main: flag.StringP logdir
  (787952699, .flag),   -- drc.Main: flag.StringP LOGFILE
  (2729896706, .flag),   -- drc.Main: flag.StringP user
  (2186645204, .flag),   -- drc.Main: flag.BoolP quiet
  (391612072, .flag)   -- drc.Main: flag.BoolP version
]

def inputKind (id : Nat) : List (Nat × InputKind) → Option InputKind
  | [] => none
  | (i, k) :: r => if i = id then some k else inputKind id r

/-- Input places the table does not know: a new way for data (a password?) to enter. -/
def unclassifiedInputs : List Nat :=
  (inputs.filter fun i => (inputKind i.id inputKinds).isNone).map (·.id)

/-- Password inputs (by the table) that the taint analysis does not seed. -/
def unseededPasswordInputs : List Nat :=
  (inputs.filter fun i => ((inputKind i.id inputKinds).map (·.isPassword)) == some true && !i.seeded).map (·.id)

/-- Seeded inputs, as the translator sees them. -/
def seededInputs : List Nat := (inputs.filter (·.seeded)).map (·.id)

/-- Flags and environment variables by name. -/
def inputNames (api : String) : List String := (inputs.filter fun i => i.api == api).map (·.lit)

/-! ## runs derived from the regenerated steps -/

open NA.Mask in
/-- A regenerated event as a step of the derived run model: raw secrets keep their label, everything
else (configuration, device output, redacted values) is label 0. -/
def stepOf (e : Event) : NA.Mask.Step :=
  { isSink := e.kind == 0, site := e.site, deps := 0 :: e.secrets }

/-- The steps of a group of packages (1 nsx, 2 ssh back ends + console, 3 panos, 4 the rest). -/
def stepsOf (grp : Nat) : List NA.Mask.Step := (events.filter fun e => e.grp == grp).map stepOf

/-- Is a value carrying exactly these raw secrets transmitted to the device somewhere in the group? -/
def transmits (grp : Nat) (secrets : List Nat) : Bool :=
  events.any fun e => e.grp == grp && e.kind == 1 && e.secrets == secrets

/-- Sink kinds that occur (kindCode of `Site`). -/
def kindsPresent : List Nat := [1, 2, 3, 4, 5, 6].filter fun k => sites.any fun s => s.kindCode == k

end NA.C17
