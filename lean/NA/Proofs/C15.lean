import NA.Model.IosSession
import NA.Core.Literal
import NA.Core.SimpSets
/-!
# C15: what is sent, in which order (arbitrary device)

`Ext op P`: `op` extends the trace by some list `l` with `P result l`; `Sends S op`: every element of `l` is in `S`.
They compose along `bindM`, `finally_` (`Ext`) and `forEach` (`Sends`), so the facts about `ApplyCommands` follow the shape of the model and
never look at what the device answers.  Also here, since the scripted-device modules from `C15Loop` on import this one too:
the lines of the fixed dialogue with their table `fixedLines_facts`, and the simp set `c15_vocab`.
-/
namespace NA.Ios

variable {σ α β : Type}

-- here: the one module both branches of the family import
theorem lit_ofList (l : List Char) : lit (String.ofList l) = l := String.toList_ofList

-- the definitions that hold the literals: a closed fact about them is evaluated by `decide_lit [c15_vocab]`, which
-- unfolds them and writes the literals out, so that the kernel decodes none
attribute [c15_vocab] lit_ofList reloadCmd doReloadCmd cancelCmd writeCmd confCmd endCmd prepCmds isReloadIn reserved plainVocab
  isChange stdReply stdReplyV reloadParts reloadPartsNA prompt bannerText replyFor simLine

theorem bindM_ok_iff (m : M σ α) (f : α → M σ β) (st : St σ) (b : β) :
    (bindM m f st).1 = .ok b ↔ ∃ a, (m st).1 = .ok a ∧ (f a (m st).2).1 = .ok b := by
  unfold bindM
  cases h : m st with
  | mk r st' =>
    cases r with
    | ok a => simp
    | abort e => simp

theorem bindM_snd_of_ok (m : M σ α) (f : α → M σ β) (st : St σ) (a : α) (h : (m st).1 = .ok a) :
    bindM m f st = f a (m st).2 := by
  unfold bindM
  cases h' : m st with
  | mk r st' => rw [h'] at h; simp at h; subst h; rfl

theorem bindM_of_abort (m : M σ α) (f : α → M σ β) (st : St σ) (e : Abort) (h : (m st).1 = .abort e) :
    bindM m f st = (.abort e, (m st).2) := by
  unfold bindM
  cases h' : m st with
  | mk r st' => rw [h'] at h; simp at h; subst h; rfl

theorem res_cases (r : Res α) : (∃ a, r = .ok a) ∨ (∃ e, r = .abort e) := by
  cases r with
  | ok a => exact .inl ⟨a, rfl⟩
  | abort e => exact .inr ⟨e, rfl⟩

def Ext (op : M σ α) (P : Res α → List Str → Prop) : Prop :=
  ∀ st, ∃ l, (op st).2.trace = st.trace ++ l ∧ P (op st).1 l

theorem Ext.mono {op : M σ α} {P Q : Res α → List Str → Prop} (h : Ext op P)
    (hpq : ∀ r l, P r l → Q r l) : Ext op Q := by
  intro st; obtain ⟨l, h1, h2⟩ := h st; exact ⟨l, h1, hpq _ _ h2⟩

def Silent (op : M σ α) : Prop := ∀ st, (op st).2.trace = st.trace

theorem Silent.ext {op : M σ α} (h : Silent op) : Ext op (fun _ l => l = []) := by
  intro st; exact ⟨[], by simp [h st], rfl⟩

theorem silent_pure (a : α) : Silent (pureM a : M σ α) := fun _ => rfl
theorem silent_abort (e : Abort) : Silent (abortM e : M σ α) := fun _ => rfl

theorem silent_bind {m : M σ α} {f : α → M σ β} (hm : Silent m) (hf : ∀ a, Silent (f a)) :
    Silent (bindM m f) := by
  intro st
  rcases res_cases (m st).1 with ⟨a, h⟩ | ⟨e, h⟩
  · rw [bindM_snd_of_ok _ _ _ _ h, hf a, hm st]
  · rw [bindM_of_abort _ _ _ _ h]; exact hm st

theorem silent_expectEnd (n : String) (m : Str → Option Nat) : Silent (expectEnd (σ := σ) n m) := by
  intro st; unfold expectEnd; split <;> rfl

theorem silent_waitPrompt : Silent (waitPrompt (σ := σ)) := silent_expectEnd _ _
theorem silent_waitHashEnd : Silent (waitHashEnd (σ := σ)) := silent_expectEnd _ _
theorem silent_tryPrompt : Silent (tryPrompt (σ := σ)) := by
  intro st; unfold tryPrompt; split <;> rfl
theorem silent_stripStdPrompt (s : Str) : Silent (stripStdPrompt (σ := σ) s) := by
  intro st; unfold stripStdPrompt; cases promptFind s <;> rfl
theorem silent_stripEcho (c s : Str) : Silent (stripEcho (σ := σ) c s) := by
  intro st; unfold stripEcho; split <;> rfl
theorem silent_setActive (b : Bool) : Silent (setActive (σ := σ) b) := fun _ => rfl
theorem silent_getActive : Silent (getActive (σ := σ)) := fun _ => rfl
theorem silent_warn (c l : Str) : Silent (warn (σ := σ) c l) := fun _ => rfl

theorem silent_getOutput : Silent (getOutput (σ := σ)) :=
  silent_bind silent_waitPrompt (fun _ => silent_stripStdPrompt _)

theorem silent_forEach {f : α → M σ Unit} (hf : ∀ a, Silent (f a)) (l : List α) :
    Silent (forEach f l) := by
  induction l with
  | nil => exact silent_pure _
  | cons a as ih => exact silent_bind (hf a) (fun _ => ih)

theorem silent_stripProbe (pre post : Str) : Silent (stripProbe (σ := σ) pre post) := by
  unfold stripProbe
  split
  · exact silent_bind silent_waitHashEnd (fun _ => silent_stripStdPrompt _)
  · split
    · exact silent_bind silent_tryPrompt (fun _ => silent_pure _)
    · exact silent_pure _

theorem silent_stripReloadBanner (out : Str) : Silent (stripReloadBanner (σ := σ) out) := by
  unfold stripReloadBanner
  refine silent_bind silent_getActive (fun act => ?_)
  cases act
  · exact silent_pure _
  · simp only [if_true]
    cases bannerFind out with
    | none => exact silent_pure _
    | some r => exact silent_bind (silent_stripProbe _ _) (fun _ => silent_pure _)

theorem silent_checkOutput (ci o : Str) : Silent (checkOutput (σ := σ) ci o) := by
  unfold checkOutput
  split
  · exact silent_pure _
  · refine silent_bind (silent_forEach (fun _ => silent_warn _ _) _) (fun _ => ?_)
    split
    · exact silent_pure _
    · exact silent_abort _

theorem silent_check (ci : Str) : Silent (check (σ := σ) ci) := by
  unfold check
  refine silent_bind silent_getOutput (fun out => ?_)
  refine silent_bind (silent_stripReloadBanner _) (fun p => ?_)
  refine silent_bind (silent_stripEcho _ _) (fun o2 => ?_)
  exact silent_bind (silent_checkOutput _ _) (fun _ => silent_pure _)

theorem ext_bind {m : M σ α} {f : α → M σ β} {P : Res α → List Str → Prop}
    {Q : α → Res β → List Str → Prop} (hm : Ext m P) (hf : ∀ a, Ext (f a) (Q a)) :
    Ext (bindM m f) (fun r l =>
      (∃ e, r = .abort e ∧ P (.abort e) l) ∨
      (∃ a l1 l2, l = l1 ++ l2 ∧ P (.ok a) l1 ∧ Q a r l2)) := by
  intro st
  obtain ⟨l1, h1, hp⟩ := hm st
  rcases res_cases (m st).1 with ⟨a, h⟩ | ⟨e, h⟩
  · rw [bindM_snd_of_ok _ _ _ _ h]
    obtain ⟨l2, h2, hq⟩ := hf a (m st).2
    refine ⟨l1 ++ l2, by rw [h2, h1, List.append_assoc], .inr ⟨a, l1, l2, rfl, ?_, hq⟩⟩
    rw [← h]; exact hp
  · rw [bindM_of_abort _ _ _ _ h]
    exact ⟨l1, h1, .inl ⟨e, rfl, by rw [← h]; exact hp⟩⟩

def finRes (rb : Res α) (rf : Res Unit) : Res α :=
  match rf with
  | .ok _ => rb
  | .abort e => .abort e

theorem finally_eq (body : M σ α) (fin : M σ Unit) (st : St σ) :
    finally_ body fin st = (finRes (body st).1 (fin (body st).2).1, (fin (body st).2).2) := by
  unfold finally_ finRes
  cases hb : body st with
  | mk r st' =>
    simp only
    cases hf : fin st' with
    | mk rf st'' => cases rf <;> rfl

theorem finRes_ok {α} (rb : Res α) (rf : Res Unit) (a : α) (h : finRes rb rf = .ok a) :
    rb = .ok a ∧ rf = .ok () := by
  cases rf with
  | ok u => cases u; exact ⟨h, rfl⟩
  | abort e => cases h

theorem ext_finally {body : M σ α} {fin : M σ Unit} {P : Res α → List Str → Prop}
    {Q : Res Unit → List Str → Prop} (hb : Ext body P) (hf : Ext fin Q) :
    Ext (finally_ body fin) (fun r l =>
      ∃ rb rf l1 l2, l = l1 ++ l2 ∧ P rb l1 ∧ Q rf l2 ∧ r = finRes rb rf) := by
  intro st
  rw [finally_eq]
  obtain ⟨l1, h1, hp⟩ := hb st
  obtain ⟨l2, h2, hq⟩ := hf (body st).2
  exact ⟨l1 ++ l2, by simp only [h2, h1, List.append_assoc], _, _, l1, l2, rfl, hp, hq, rfl⟩

variable (D : Device σ)

theorem ext_send (s : Str) : Ext (send D s) (fun r l => r = .ok () ∧ l = [s]) := by
  intro st; exact ⟨[s], rfl, rfl, rfl⟩

theorem ext_sendCmd (s : Str) : Ext (sendCmd D s) (fun _ l => l = [s]) := by
  unfold sendCmd
  refine (ext_bind (ext_send D s) (fun _ => (silent_bind silent_waitPrompt (fun _ => silent_pure _)).ext)).mono ?_
  intro r l h
  rcases h with ⟨e, _, h, _⟩ | ⟨a, l1, l2, rfl, ⟨_, rfl⟩, rfl⟩
  · cases h
  · simp

theorem ext_issueCmd (s : Str) (n : String) (alts : List (Str × Bool)) :
    Ext (issueCmd D s n alts) (fun _ l => l = [s]) := by
  unfold issueCmd
  refine (ext_bind (ext_send D s) (fun _ => (silent_expectEnd _ _).ext)).mono ?_
  intro r l h
  rcases h with ⟨e, _, h, _⟩ | ⟨a, l1, l2, rfl, ⟨_, rfl⟩, rfl⟩
  · cases h
  · simp

def Sends (S : Str → Prop) (op : M σ α) : Prop := Ext op (fun _ l => ∀ s ∈ l, S s)

theorem Silent.sends {S : Str → Prop} {op : M σ α} (h : Silent op) : Sends S op :=
  h.ext.mono (by intro r l hl; subst hl; simp)

theorem sends_bind {S : Str → Prop} {m : M σ α} {f : α → M σ β} (hm : Sends S m)
    (hf : ∀ a, Sends S (f a)) : Sends S (bindM m f) := by
  refine (ext_bind hm hf).mono ?_
  intro r l h
  rcases h with ⟨e, _, h⟩ | ⟨a, l1, l2, rfl, h1, h2⟩
  · exact h
  · intro s hs; rcases List.mem_append.1 hs with h | h
    · exact h1 s h
    · exact h2 s h

theorem sends_forEach {S : Str → Prop} {f : α → M σ Unit} (l : List α) (hf : ∀ a ∈ l, Sends S (f a)) :
    Sends S (forEach f l) := by
  induction l with
  | nil => exact (silent_pure ()).sends
  | cons a as ih =>
    exact sends_bind (hf a (by simp)) (fun _ => ih (fun b hb => hf b (by simp [hb])))

theorem sends_sendCmd {S : Str → Prop} (s : Str) (h : S s) : Sends S (sendCmd D s) :=
  (ext_sendCmd D s).mono (by intro r l hl; subst hl; simpa using h)

theorem sends_issueCmd {S : Str → Prop} (s : Str) (n : String) (alts : List (Str × Bool)) (h : S s) :
    Sends S (issueCmd D s n alts) :=
  (ext_issueCmd D s n alts).mono (by intro r l hl; subst hl; simpa using h)

theorem sends_send {S : Str → Prop} (s : Str) (h : S s) : Sends S (send D s) :=
  (ext_send D s).mono (by intro r l ⟨_, hl⟩; subst hl; simpa using h)

def reloadVocab (s : Str) : Prop := s = reloadCmd ∨ s = doReloadCmd ∨ s = lit "n" ∨ s = []

theorem sends_sendReloadCmd (b : Bool) : Sends reloadVocab (sendReloadCmd D b) := by
  unfold sendReloadCmd
  refine sends_bind (sends_issueCmd D _ _ _ (by cases b <;> simp [reloadVocab])) (fun out => ?_)
  refine sends_bind ?_ (fun _ => sends_bind (silent_setActive _).sends
    (fun _ => sends_sendCmd D _ (by simp [reloadVocab])))
  split
  · exact sends_bind (sends_issueCmd D _ _ _ (by simp [reloadVocab])) (fun _ => (silent_pure _).sends)
  · exact (silent_pure _).sends

theorem ext_cmd (fixed : Bool) (c : Str) :
    Ext (cmd D fixed c) (fun _ l => ∃ rest, l = c :: rest ∧ ∀ s ∈ rest, reloadVocab s) := by
  unfold cmd
  refine (ext_bind (ext_send D c) (fun _ => (?_ : Sends reloadVocab _))).mono ?_
  · refine sends_bind (silent_check _).sends (fun n1 => sends_bind ?_ (fun need => ?_))
    · split
      · exact (silent_pure _).sends
      · exact sends_bind (silent_check _).sends (fun _ => (silent_pure _).sends)
    · split
      · exact sends_sendReloadCmd D true
      · exact (silent_pure _).sends
  · intro r l h
    rcases h with ⟨e, _, h, _⟩ | ⟨a, l1, l2, rfl, ⟨_, rfl⟩, h2⟩
    · cases h
    · exact ⟨l2, rfl, h2⟩

def SentAll (S : Str → Prop) (cs : List Str) (r : Res Unit) (l : List Str) : Prop :=
  (∀ s ∈ l, s ∈ cs ∨ S s) ∧ (r = .ok () → ∀ c ∈ cs, c ∈ l)

theorem ext_changeLoop (fixed : Bool) (cs : List Str) : Ext (changeLoop D fixed cs) (SentAll reloadVocab cs) := by
  unfold changeLoop
  induction cs with
  | nil => exact (silent_pure ()).ext.mono (by rintro r l rfl; exact ⟨nofun, fun _ => nofun⟩)
  | cons c cs ih =>
    refine (ext_bind (ext_cmd D fixed c) (fun _ => ih)).mono ?_
    have hc : ∀ rest : List Str, (∀ s ∈ rest, reloadVocab s) → ∀ s ∈ c :: rest, s ∈ c :: cs ∨ reloadVocab s :=
      fun rest h s hs => (List.mem_cons.1 hs).elim (fun e => .inl (by simp [e])) (fun hs => .inr (h s hs))
    rintro r l (⟨e, rfl, rest, rfl, h⟩ | ⟨a, l1, l2, rfl, ⟨rest, rfl, h⟩, h2⟩)
    · exact ⟨hc rest h, nofun⟩
    · refine ⟨fun s hs => ?_, fun hr x hx => ?_⟩
      · rcases List.mem_append.1 hs with hs | hs
        · exact hc rest h s hs
        · exact (h2.1 s hs).imp_left (List.mem_cons_of_mem c)
      · rcases List.mem_cons.1 hx with rfl | hx
        · simp
        · exact List.mem_append_right _ (h2.2 hr x hx)

theorem ext_guardedBody (fixed : Bool) (cs : List Str) :
    Ext (guardedBody D fixed cs) (SentAll (fun s => reloadVocab s ∨ s = confCmd ∨ s = endCmd) cs) := by
  unfold guardedBody
  refine (ext_bind (ext_sendCmd D confCmd) (fun _ =>
    ext_finally (ext_changeLoop D fixed cs) (ext_sendCmd D endCmd))).mono ?_
  rintro r l (⟨e, rfl, rfl⟩ | ⟨a, _, _, rfl, rfl, rb, rf, l1, _, rfl, h, rfl, rfl⟩)
  · exact ⟨by simp, nofun⟩
  · refine ⟨fun s hs => ?_, fun hr c hc => ?_⟩
    · simp only [List.mem_append, List.mem_cons, List.not_mem_nil, or_false] at hs
      rcases hs with rfl | hs | rfl
      · simp
      · exact (h.1 s hs).imp_right .inl
      · simp
    · exact List.mem_append_right _ (List.mem_append_left _ (h.2 (finRes_ok _ _ _ hr).1 c hc))

theorem sends_guardedBody (fixed : Bool) (cs : List Str) :
    Sends (fun s => s ∈ cs ∨ reloadVocab s ∨ s = confCmd ∨ s = endCmd) (guardedBody D fixed cs) :=
  (ext_guardedBody D fixed cs).mono fun _ _ h => h.1

theorem guarded_ok_loop (fixed : Bool) (cs : List Str) (s : St σ)
    (h : (guarded D fixed cs s).1 = .ok ()) :
    (changeLoop D fixed cs (sendCmd D confCmd (scheduleReload D s).2).2).1 = .ok () := by
  obtain ⟨_, _, hf⟩ := (bindM_ok_iff (scheduleReload D) _ s ()).1 h
  rw [finally_eq] at hf
  obtain ⟨_, _, hf2⟩ := (bindM_ok_iff (sendCmd D confCmd) _ (scheduleReload D s).2 ()).1 (finRes_ok _ _ _ hf).1
  rw [finally_eq] at hf2
  exact (finRes_ok _ _ _ hf2).1

def fixedLines : List Str := [reloadCmd, doReloadCmd, cancelCmd, writeCmd, [], lit "n"] ++ prepCmds

theorem fixedLines_facts : ∀ l ∈ fixedLines, '\n' ∉ l ∧ splitOnNL l = [l] ∧ isChange l = false := by
  decide_lit [c15_vocab, fixedLines]

theorem prep_fixed {c : Str} (hc : c ∈ prepCmds) : c ∈ fixedLines := List.mem_append_right _ hc

theorem fixed_single (l : Str) (h : l ∈ fixedLines) : splitOnNL l = [l] := (fixedLines_facts l h).2.1

theorem fixed_not_change (l : Str) (h : l ∈ fixedLines) : isChange l = false := (fixedLines_facts l h).2.2

theorem splitOnNL_prep (c : Str) (hc : c ∈ prepCmds) : splitOnNL c = [c] := fixed_single c (prep_fixed hc)

theorem sends_prepareDevice : Sends (fun s => s ∈ prepCmds) (prepareDevice D) := by
  unfold prepareDevice
  exact sends_forEach _ (fun c hc => sends_sendCmd D c hc)

theorem sends_writeMemRound : Sends (fun s => s = writeCmd ∨ s = []) (writeMemRound D) := by
  unfold writeMemRound
  refine sends_bind (sends_issueCmd D _ _ _ (by simp)) (fun out => ?_)
  refine sends_bind ?_ (fun o => ?_)
  · split
    · exact sends_bind (sends_send D _ (by simp)) (fun _ =>
        (silent_bind silent_getOutput (fun _ => silent_stripEcho _ _)).sends)
    · exact (silent_pure _).sends
  · split
    · exact (silent_pure _).sends
    · split
      · exact (silent_pure _).sends
      · exact (silent_abort _).sends

theorem sends_writeMem (n : Nat) : Sends (fun s => s = writeCmd ∨ s = []) (writeMem D n) := by
  induction n with
  | zero =>
    unfold writeMem
    refine sends_bind (sends_writeMemRound D) (fun r => ?_)
    cases r
    · exact (silent_pure _).sends
    · exact (silent_abort _).sends
  | succ n ih =>
    unfold writeMem
    refine sends_bind (sends_writeMemRound D) (fun r => ?_)
    cases r
    · exact (silent_pure _).sends
    · exact ih

end NA.Ios
