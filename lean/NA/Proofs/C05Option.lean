import NA.Proofs.C05Values
/-!
C05: the round trip `target → device → iptables-save → compare`, option by option.  The user's and the kernel's spelling of a
well formed option (an explicit `-m` aside) have the same normalised entry, `(nk a, nv cfg a)`; it is a fixed point of the rewriting, and what the
option means is a function of it.
-/
namespace NA.C05
open NA.Linux NA.Linux.Spec

/-- Entry-level view of `normalizeIPTables`; `d` = "the `-m` entry names the protocol". -/
def nEntry (d : Bool) (e : Str × Str) : Option (Str × Str) :=
  if e.1 = kM ∧ d = true then none
  else if e.1 = kXmark ∧ xConvV e.2 = true then some (kMark, normVal kMark e.2)
  else some (e.1, normVal e.1 e.2)

theorem nEntry_eq_some {d : Bool} {k v k' v' : Str} : nEntry d (k, v) = some (k', v') ↔
    ¬ (k = kM ∧ d = true) ∧
      (if k = kXmark ∧ xConvV v = true then (kMark, normVal kMark v) else (k, normVal k v)) = (k', v') := by
  unfold nEntry
  by_cases hd : k = kM ∧ d = true
  · simp [hd]
  · rw [if_neg hd]
    split <;> simp [hd]

theorem b2neg_isNeg (b : Bool) : (b2neg b).isNeg = b := by cases b <;> rfl

theorem join1 (x : Str) : joinWith [' '] [x] = x := rfl

theorem normVal_s (v : Str) : normVal (s "-s") v = normAddr v := by
  unfold normVal; simp -index only [s_ofList]; simp
theorem normVal_d (v : Str) : normVal (s "-d") v = normAddr v := by
  unfold normVal; simp -index only [s_ofList]; simp
theorem normVal_p (v : Str) : normVal (s "-p") v = normProto v := by
  unfold normVal; simp -index only [s_ofList]; simp
theorem normVal_sport (v : Str) : normVal (s "--sport") v = normPort v := by
  unfold normVal; simp -index only [s_ofList]; simp
theorem normVal_dport (v : Str) : normVal (s "--dport") v = normPort v := by
  unfold normVal; simp -index only [s_ofList]; simp
theorem normVal_state (v : Str) : normVal (s "--state") v = normState v := by
  unfold normVal; simp -index only [s_ofList]; simp
theorem normVal_mark (v : Str) : normVal kMark v = normMark v := by
  unfold normVal kMark; simp -index only [s_ofList]; simp
theorem normVal_log (v : Str) : normVal (s "--log-level") v = normLog v := by
  unfold normVal; simp -index only [s_ofList]; simp
/-- keys of the grammar whose values are not rewritten -/
def otherKeys : List Str := [s "-i", s "--syn", s "--icmp-type", s "-m", s "-j", s "-g", s "--to-source"]

theorem otherKeys_spec : ∀ k ∈ otherKeys, k ∉ [s "-s", s "-d", s "-p", s "--sport", s "--dport", s "--state",
    s "--set-mark", s "--log-level"] := by
  unfold otherKeys
  decide_lit [s_ofList]

theorem normVal_other {k : Str} (h : k ∈ otherKeys) (v : Str) : normVal k v = v := by
  have h := otherKeys_spec k h
  simp only [List.mem_cons, List.not_mem_nil, or_false, not_or] at h
  obtain ⟨h1, h2, h3, h4, h5, h6, h7, h8⟩ := h
  unfold normVal
  rw [if_neg (by simp [h1, h2]), if_neg h3, if_neg (by simp [h4, h5]), if_neg h6, if_neg h7, if_neg h8]

theorem pkv_plain (n : Neg) (k : Str) (args : List Str) (h : k ≠ s "--tcp-flags") :
    pkv ⟨n, k, args⟩ = (k, (OptW.mk n k args).value) := by
  unfold pkv fixSyn; rw [if_neg (fun hc => h hc.1)]; rfl

theorem nEntry_plain (d : Bool) (k v : Str) (h1 : k ≠ kM) (h2 : k ≠ kXmark) :
    nEntry d (k, v) = some (k, normVal k v) := by
  unfold nEntry; rw [if_neg (fun hc => h1 hc.1), if_neg (fun hc => h2 hc.1)]

/-- The keys that neither the parser (`--tcp-flags`) nor `normalizeIPTables` (`-m`, `--set-xmark`)
treats in a way of its own. -/
def plainKeys : List Str :=
  [s "-s", s "-d", s "-i", s "-p", s "--sport", s "--dport", s "--syn", s "--icmp-type", s "--state", s "-j", s "-g",
   s "--log-level", s "--set-mark", s "--to-source"]

theorem plainKeys_spec : ∀ k ∈ plainKeys, k ≠ s "--tcp-flags" ∧ k ≠ kM ∧ k ≠ kXmark := by
  unfold plainKeys kM kXmark
  decide_lit [s_ofList]

theorem nEntry_pkv_plain (d : Bool) (n : Neg) {k : Str} (args : List Str) (h : k ∈ plainKeys) :
    nEntry d (pkv ⟨n, k, args⟩) = some (k, normVal k (OptW.mk n k args).value) := by
  obtain ⟨h1, h2, h3⟩ := plainKeys_spec k h
  rw [pkv_plain _ _ _ h1, nEntry_plain _ _ _ h2 h3]

theorem value_no (k : Str) (args : List Str) : (OptW.mk .no k args).value = joinWith [' '] args := by
  simp [OptW.value, Neg.isNeg]

theorem value_neg (n : Neg) (k : Str) (x : Str) : (OptW.mk n k [x]).value = negPre n.isNeg ++ x := rfl

theorem value_negPre (n : Neg) (k x : Str) :
    (OptW.mk (b2neg n.isNeg) k [x]).value = negPre n.isNeg ++ x := by
  rw [value_neg, b2neg_isNeg]

theorem nEntry_m (d : Bool) (v : Str) : nEntry d (kM, v) = if d = true then none else some (kM, v) := by
  unfold nEntry
  by_cases hd : d = true
  · rw [if_pos ⟨rfl, hd⟩, if_pos hd]
  · rw [if_neg fun h => hd h.2, if_neg fun h => kX_ne_kM h.1.symm, if_neg hd]
    exact congrArg (fun x => some (kM, x)) (normVal_other (k := s "-m") (by simp [otherKeys]) v)

theorem pkv_m (v : Str) : pkv ⟨.no, s "-m", [v]⟩ = (kM, v) := by
  rw [pkv_plain _ _ _ (by decide_lit [s_ofList]), value_no, join1]; rfl

theorem nEntry_xmark (d : Bool) {v : Str} (h : xConvV v = true) :
    nEntry d (pkv ⟨.no, s "--set-xmark", [v]⟩) = some (kMark, normMark v) := by
  rw [pkv_plain _ _ _ (by decide_lit [s_ofList]), value_no, join1]
  unfold nEntry
  rw [if_neg fun hc => kX_ne_kM hc.1, if_pos ⟨rfl, h⟩, normVal_mark]

/-- key and value of the normalised kernel entry of an option -/
def nk : AOpt → Str
  | .src .. => s "-s" | .dst .. => s "-d" | .inIf .. => s "-i" | .proto .. => s "-p"
  | .sport .. => s "--sport" | .dport .. => s "--dport" | .syn .. => s "--syn" | .icmpType .. => s "--icmp-type"
  | .mExplicit .. => s "-m" | .state .. => s "--state" | .jump .. => s "-j" | .goto .. => s "-g"
  | .logLevel .. => s "--log-level" | .setMark .. => s "--set-mark" | .toSource .. => s "--to-source"

def nv (cfg : KCfg) : AOpt → Str
  | .src n ip len _ => normAddr (negPre n.isNeg ++ (ip ++ ['/'] ++ len))
  | .dst n ip len _ => normAddr (negPre n.isNeg ++ (ip ++ ['/'] ++ len))
  | .inIf n name => negPre n.isNeg ++ name
  | .proto n p _ _ => normProto (negPre n.isNeg ++ p.kname cfg.protoNames)
  | .sport ps _ _ => normPort ps.kernel
  | .dport ps _ _ => normPort ps.kernel
  | .syn n _ => negPre n
  | .icmpType t => t
  | .mExplicit n => lower n
  | .state l => normState (joinWith [','] ((kStates l).map Spec.St.name))
  | .jump t => t
  | .goto t => t
  | .logLevel lvl _ => normLog lvl
  | .setMark hex mask _ _ => normMark (s "0x" ++ hex ++ s "/0x" ++ mask)
  | .toSource ip => ip

def isM : AOpt → Bool
  | .mExplicit _ => true
  | _ => false

def tag : AOpt → Nat
  | .src .. => 0
  | .dst .. => 1
  | .inIf .. => 2
  | .proto .. => 3
  | .sport .. => 4
  | .dport .. => 5
  | .syn .. => 6
  | .icmpType .. => 7
  | .mExplicit .. => 8
  | .state .. => 9
  | .jump .. => 10
  | .goto .. => 11
  | .logLevel .. => 12
  | .setMark .. => 13
  | .toSource .. => 14

/-- the keys of the normalised entries, in the order of the constructors -/
def nkeys : List Str :=
  [s "-s", s "-d", s "-i", s "-p", s "--sport", s "--dport", s "--syn", s "--icmp-type", s "-m", s "--state", s "-j",
   s "-g", s "--log-level", s "--set-mark", s "--to-source"]

theorem nkeys_nodup : nkeys.Nodup ∧ kXmark ∉ nkeys := by
  unfold nkeys kXmark
  decide_lit [s_ofList]

theorem nk_tag (a : AOpt) : nkeys[tag a]? = some (nk a) := by cases a <;> rfl

theorem tag_lt (a : AOpt) : tag a < nkeys.length := (List.getElem?_eq_some_iff.mp (nk_tag a)).1

theorem nk_ne_nil (a : AOpt) : nk a ≠ [] := fun e =>
  (by unfold nkeys; decide_lit [s_ofList] : [] ∉ nkeys) (e ▸ List.mem_of_getElem? (nk_tag a))

theorem tag_of_nk {a1 a2 : AOpt} (h : nk a1 = nk a2) : tag a1 = tag a2 :=
  (List.getElem?_inj (tag_lt a1) nkeys_nodup.1).mp (by rw [nk_tag, nk_tag, h])

theorem nk_cases {a : AOpt} :
    (nk a = kP → ∃ n P u m, a = .proto n P u m) ∧ (nk a = kM → ∃ n, a = .mExplicit n) ∧
    (nk a = kMark → ∃ hex mask x v, a = .setMark hex mask x v) ∧ nk a ≠ kXmark := by
  refine ⟨fun h => ?_, fun h => ?_, fun h => ?_, fun h => ?_⟩
  · have := tag_of_nk (a2 := .proto .no .tcp false false) h
    cases a <;> simp [tag] at this; exact ⟨_, _, _, _, rfl⟩
  · have := tag_of_nk (a2 := .mExplicit []) h
    cases a <;> simp [tag] at this; exact ⟨_, rfl⟩
  · have := tag_of_nk (a2 := .setMark [] [] false []) h
    cases a <;> simp [tag] at this; exact ⟨_, _, _, _, rfl⟩
  · exact nkeys_nodup.2 (h ▸ List.mem_of_getElem? (nk_tag a))

theorem nEntry_pkv_syn (d : Bool) (n : Neg) :
    nEntry d (pkv ⟨n, s "--tcp-flags", synFlags⟩) = some (s "--syn", negPre n.isNeg) := by
  have hp : pkv ⟨n, s "--tcp-flags", synFlags⟩ = (s "--syn", negPre n.isNeg) := by
    have hj : joinWith [' '] synFlags = s "FIN,SYN,RST,ACK SYN" := by decide
    unfold pkv fixSyn; rw [if_pos ⟨rfl, hj⟩]; rfl
  obtain ⟨_, h2, h3⟩ := plainKeys_spec (s "--syn") (by simp [plainKeys])
  rw [hp, nEntry_plain _ _ _ h2 h3, normVal_other (by simp [otherKeys]) _]

/-- The rewriting that `normVal` applies under the key of an option. -/
def nf : AOpt → Str → Str
  | .src .. | .dst .. => normAddr
  | .proto .. => normProto
  | .sport .. | .dport .. => normPort
  | .state .. => normState
  | .logLevel .. => normLog
  | .setMark .. => normMark
  | _ => id

theorem normVal_nk (a : AOpt) (v : Str) : normVal (nk a) v = nf a v := by
  cases a with
  | src => exact normVal_s v
  | dst => exact normVal_d v
  | proto => exact normVal_p v
  | sport => exact normVal_sport v
  | dport => exact normVal_dport v
  | state => exact normVal_state v
  | logLevel => exact normVal_log v
  | setMark => exact normVal_mark v
  | inIf | syn | icmpType | mExplicit | jump | goto | toSource =>
    show normVal (nk _) v = v
    exact normVal_other (by unfold nk; simp [otherKeys]) v

theorem nk_plain (a : AOpt) (h : isM a = false) : nk a ∈ plainKeys := by
  have closed : ∀ k ∈ nkeys, k ≠ kM → k ∈ plainKeys := by
    unfold nkeys kM plainKeys
    decide_lit [s_ofList]
  refine closed _ (List.mem_of_getElem? (nk_tag a)) fun e => ?_
  obtain ⟨n, rfl⟩ := nk_cases.2.1 e
  cases h

theorem nEntry_one (d : Bool) (n : Neg) (a : AOpt) (hm : isM a = false) (x : Str) :
    nEntry d (pkv ⟨n, nk a, [x]⟩) = some (nk a, nf a (negPre n.isNeg ++ x)) := by
  rw [nEntry_pkv_plain _ _ _ (nk_plain a hm), value_neg, normVal_nk]

theorem nEntry_one_b (d b : Bool) (a : AOpt) (hm : isM a = false) (x : Str) :
    nEntry d (pkv ⟨b2neg b, nk a, [x]⟩) = some (nk a, nf a (negPre b ++ x)) := by
  rw [nEntry_one d _ a hm, b2neg_isNeg]

theorem kentry_eq (cfg : KCfg) (a : AOpt) (hwf : a.wf = true) (d : Bool) :
    nEntry d (pkv (a.kernel cfg)) = if isM a = true ∧ d = true then none else some (nk a, nv cfg a) := by
  have one := fun hm n x => nEntry_one d n a hm x
  have oneb := fun hm b x => nEntry_one_b d b a hm x
  cases a with
  | src | dst | inIf | proto => exact oneb rfl _ _
  | sport | dport | icmpType | jump | goto | toSource | state | logLevel => exact one rfl .no _
  | syn n f =>
    show nEntry d (pkv ⟨b2neg n, s "--tcp-flags", synFlags⟩) = some (s "--syn", negPre n)
    rw [nEntry_pkv_syn, b2neg_isNeg]
  | mExplicit name =>
    exact (congrArg _ (pkv_m _)).trans ((nEntry_m d _).trans (by cases d <;> rfl))
  | setMark hex mask x v =>
    have w := wf_setMark hwf
    obtain rfl := w.hmask
    exact nEntry_xmark d (kmark_text hex ▸ xConvV_kernel hex (hex_noslash w.hhex))

/-- The normalised entry of the user's spelling is the same (an explicit `-m` aside, which the user
may write in any case and which is dropped or kept as a whole). -/
theorem uentry_eq (cfg : KCfg) (a : AOpt) (hwf : a.wf = true) (hnm : ∀ n, a ≠ .mExplicit n) (d : Bool) :
    nEntry d (pkv a.user) = some (nk a, nv cfg a) := by
  have one := fun hm n x => nEntry_one d n a hm x
  cases a with
  | mExplicit n => exact absurd rfl (hnm n)
  | src n ip len h =>
    exact (one rfl n _).trans
      (congrArg _ (congrArg _ (addr_roundtrip _ ip len h (negPre_noslash _) (ipTok_noslash (wf_src hwf).1))))
  | dst n ip len h =>
    exact (one rfl n _).trans
      (congrArg _ (congrArg _ (addr_roundtrip _ ip len h (negPre_noslash _) (ipTok_noslash (wf_dst hwf).1))))
  | inIf n name => exact one rfl n _
  | proto n p u num =>
    exact (one rfl n _).trans
      (congrArg _ (congrArg _ (proto_roundtrip cfg n p u num hwf)))
  | sport ps z o | dport ps z o =>
    exact (one rfl .no _).trans
      (congrArg _ (congrArg _ (port_roundtrip ps z o hwf)))
  | syn n f =>
    cases f with
    | true => exact kentry_eq cfg (.syn n true) hwf d
    | false =>
      show nEntry d (pkv ⟨b2neg n, s "--syn", []⟩) = some (s "--syn", negPre n)
      rw [nEntry_pkv_plain _ _ _ (by simp [plainKeys]), normVal_other (by simp [otherKeys]) _]
      simp [OptW.value, b2neg_isNeg, joinWith, negPre]
  | icmpType | jump | goto | toSource => exact kentry_eq cfg _ hwf d
  | state l =>
    exact (one rfl .no _).trans
      (congrArg _ (congrArg _ (state_roundtrip l (wf_state hwf).1 (wf_state hwf).2)))
  | logLevel lvl dbg =>
    refine (one rfl .no _).trans ?_
    split
    · rename_i hc; rw [hc.2]; rfl
    · rfl
  | setMark hex mask x v =>
    obtain ⟨n, hn, hv⟩ := mark_num hwf
    show _ = some (kMark, normMark (s "0x" ++ hex ++ s "/0x" ++ mask))
    rw [normMark_of_markNorm _ _ hn, ← normMark_of_markNorm _ _ hv]
    cases x with
    | false => exact one rfl .no v
    | true => exact nEntry_xmark d ((wf_setMark hwf).hconv rfl)

theorem opt_roundtrip (cfg : KCfg) (a : AOpt) (hwf : a.wf = true) (hnm : ∀ n, a ≠ .mExplicit n) (d1 d2 : Bool) :
    nEntry d1 (pkv a.user) = nEntry d2 (pkv (a.kernel cfg)) := by
  rw [uentry_eq cfg a hwf hnm, kentry_eq cfg a hwf, if_neg]
  intro hc
  cases a <;> first | exact absurd hc.1 Bool.false_ne_true | exact hnm _ rfl

theorem nv_fixed (cfg : KCfg) (a : AOpt) (w : a.wf = true) : normVal (nk a) (nv cfg a) = nv cfg a := by
  have addr : ∀ (n : Neg) {ip len : Str}, ipTok ip = true ∧ canonNum len = true →
      normAddr (normAddr (negPre n.isNeg ++ (ip ++ ['/'] ++ len))) = normAddr (negPre n.isNeg ++ (ip ++ ['/'] ++ len)) :=
    fun n _ _ w => normAddr_fixed _ _ _ (negPre_noslash _) (ipTok_noslash w.1)
      (digits_nochar (canonNum_digits w.2) '/' (by decide_lit [s_ofList]))
  rw [normVal_nk]
  cases a with
  | src n ip len h => exact addr n (wf_src w)
  | dst n ip len h => exact addr n (wf_dst w)
  | proto n P u m => exact normProto_fixed cfg n P u m w
  | sport ps z o | dport ps z o => exact normPort_fixed ps w
  | state l => exact normState_fixed l (wf_state w).1
  | inIf | syn | icmpType | mExplicit | jump | goto | toSource => rfl
  | logLevel lvl d =>
    show normLog (normLog lvl) = normLog lvl
    rw [normLog_canon w, normLog_canon w]
  | setMark hex mask x v =>
    obtain ⟨n, hn, -⟩ := mark_num w
    exact normMark_fixed _ n hn

/-- The meaning of an option, from the constructor (`tag`) and the value of its canonical entry: the value put
back into the kernel's spelling, under the key the kernel prints. -/
def semOf (names : Bool) : Nat → Str → Str × Str
  | 0, v => (s "-s", denormAddr v)
  | 1, v => (s "-d", denormAddr v)
  | 2, v => (s "-i", v)
  | 3, v => (s "-p", denormProto names v)
  | 4, v => (s "--sport", denormPort v)
  | 5, v => (s "--dport", denormPort v)
  | 6, v => (s "--tcp-flags", v ++ joinWith [' '] synFlags)
  | 7, v => (s "--icmp-type", v)
  | 8, v => (s "-m", v)
  | 9, v => (s "--state", denormState v)
  | 10, v => (s "-j", v)
  | 11, v => (s "-g", v)
  | 12, v => (s "--log-level", v)
  | 13, v => (s "--set-xmark", v)
  | _, v => (s "--to-source", v)

/-- The meaning of a mark is the normal form of what the kernel prints for it. -/
theorem semEntry_setMark (cfg : KCfg) {hex mask v : Str} {x : Bool} (w : (AOpt.setMark hex mask x v).wf = true) :
    semEntry cfg (.setMark hex mask x v) = (s "--set-xmark", normMark (s "0x" ++ hex ++ s "/0x" ++ mask)) := by
  obtain ⟨n, hn, -⟩ := mark_num w
  show (s "--set-xmark", match markNorm (s "0x" ++ hex ++ s "/0x" ++ mask) with
    | some n => intToStr n
    | none => s "0x" ++ hex ++ s "/0x" ++ mask) = _
  rw [hn, normMark_of_markNorm _ _ hn]

/-- **The normalisation has a left inverse on the kernel's entries**: what a well formed option means can be
read off its canonical entry. -/
theorem semEntry_eq (cfg : KCfg) (a : AOpt) (w : a.wf = true) :
    semEntry cfg a = semOf cfg.protoNames (tag a) (nv cfg a) := by
  have addr : ∀ (n : Neg) {ip len : Str}, ipTok ip = true ∧ canonNum len = true →
      negPre n.isNeg ++ (ip ++ ['/'] ++ len) = denormAddr (normAddr (negPre n.isNeg ++ (ip ++ ['/'] ++ len))) :=
    fun n _ _ w => (denormAddr_normAddr _ _ _ (negPre_noslash _) (ipTok_noslash w.1)
      (digits_nochar (canonNum_digits w.2) '/' (by decide))).symm
  cases a with
  | src n ip len h => exact congrArg (Prod.mk _) ((value_negPre ..).trans (addr n (wf_src w)))
  | dst n ip len h => exact congrArg (Prod.mk _) ((value_negPre ..).trans (addr n (wf_dst w)))
  | inIf n name => exact congrArg (Prod.mk _) (value_negPre ..)
  | proto n P u m => exact congrArg (Prod.mk _) ((value_negPre ..).trans (denormProto_normProto cfg n P u m w).symm)
  | sport ps z o | dport ps z o => exact congrArg (Prod.mk _) (denormPort_normPort ps w).symm
  | syn n f => exact congrArg (Prod.mk _) (congrArg (· ++ _) (congrArg negPre (b2neg_isNeg n)))
  | icmpType | jump | goto | toSource | mExplicit => rfl
  | state l => exact congrArg (Prod.mk _) (denormState_normState l (wf_state w).1).symm
  | logLevel lvl d => exact congrArg (Prod.mk _) (normLog_canon w).symm
  | setMark hex mask x v => exact semEntry_setMark cfg w

theorem kentry_inj (cfg : KCfg) (a1 a2 : AOpt) (w1 : a1.wf = true) (w2 : a2.wf = true)
    (hk : nk a1 = nk a2) (hv : nv cfg a1 = nv cfg a2) : semEntry cfg a1 = semEntry cfg a2 := by
  rw [semEntry_eq cfg a1 w1, semEntry_eq cfg a2 w2, tag_of_nk hk, hv]

end NA.C05
