import NA.Spec.AclDev
/-!
Helper lemmas for C14: first-match evaluation over the states of an incremental ACL change.

`addPhase M j`  – device list while lines are being added top-down: every old line is still
                  present, and the new-only lines of the first `j` cells have been added;
`delPhase M i`  – device list while lines are being deleted bottom-up: every new line is
                  present, and the old-only lines of the first `i` cells are still there.
-/
namespace NA.Acl

def addPhase : List Cell → Nat → List Line
  | [], _ => []
  | c :: M, 0 => if c.old then c.line :: addPhase M 0 else addPhase M 0
  | c :: M, j + 1 => if c.old || c.new then c.line :: addPhase M j else addPhase M j

def delPhase : List Cell → Nat → List Line
  | [], _ => []
  | c :: M, 0 => if c.new then c.line :: delPhase M 0 else delPhase M 0
  | c :: M, i + 1 => if c.old || c.new then c.line :: delPhase M i else delPhase M i

theorem addPhase_zero (M : List Cell) : addPhase M 0 = olds M := by
  induction M with
  | nil => rfl
  | cons c M ih => rw [olds_cons]; simp [addPhase, ih]

/-- All adds done = nothing deleted yet: the union of both lists. -/
theorem addPhase_all_eq_delPhase_all (M : List Cell) : addPhase M M.length = delPhase M M.length := by
  induction M with
  | nil => rfl
  | cons c M ih => simp [addPhase, delPhase, ih]

theorem addPhase_old_or_new (M : List Cell) (j p : Nat) :
    eval (addPhase M j) p = eval (olds M) p ∨ eval (addPhase M j) p = eval (news M) p := by
  induction M generalizing j with
  | nil => simp [addPhase, olds, news]
  | cons c M ih =>
    cases j with
    | zero => left; rw [addPhase_zero]
    | succ j =>
      rw [olds_cons, news_cons]
      cases ho : c.old <;> cases hn : c.new <;> simp only [addPhase, ho, hn, Bool.or_self, Bool.or_true,
        Bool.true_or, if_true, if_false, Bool.false_eq_true] <;>
        (try exact ih j) <;>
        (simp only [eval]; cases c.line.hits p <;> simp <;> exact ih j)

/-! ### The deleting phase is the adding phase of the change read backwards -/

def Cell.swap (c : Cell) : Cell := ⟨c.line, c.new, c.old⟩

theorem olds_swap (M : List Cell) : olds (M.map Cell.swap) = news M := by
  simp [olds, news, List.filter_map, Function.comp_def, Cell.swap]

theorem news_swap (M : List Cell) : news (M.map Cell.swap) = olds M := by
  simp [olds, news, List.filter_map, Function.comp_def, Cell.swap]

theorem addPhase_swap (M : List Cell) (i : Nat) : addPhase (M.map Cell.swap) i = delPhase M i := by
  induction M generalizing i with
  | nil => rfl
  | cons c M ih => cases i <;> simp [addPhase, delPhase, Cell.swap, ih, Bool.or_comm]

theorem delPhase_zero (M : List Cell) : delPhase M 0 = news M := by
  rw [← addPhase_swap, addPhase_zero, olds_swap]

theorem delPhase_old_or_new (M : List Cell) (i p : Nat) :
    eval (delPhase M i) p = eval (olds M) p ∨ eval (delPhase M i) p = eval (news M) p := by
  rw [← addPhase_swap, ← news_swap M, ← olds_swap M]
  exact (addPhase_old_or_new _ i p).symm

/-- Two lines commute for packet `p` if they do not both match it with different actions. -/
def commutes (x y : Line) (p : Nat) : Bool := !(x.hits p && y.hits p) || x.permit == y.permit

theorem eval_append (s t : List Line) (p : Nat) :
    eval (s ++ t) p = if s.any (·.hits p) then eval s p else eval t p := by
  induction s with
  | nil => simp
  | cons l s ih =>
    simp only [List.cons_append, eval, List.any_cons]
    by_cases hl : l.hits p = true
    · simp [hl]
    · simp [hl, ih]

theorem eval_move_down (s1 mid s2 : List Line) (x : Line) (p : Nat)
    (h : ∀ y ∈ mid, commutes x y p = true) :
    eval (s1 ++ mid ++ x :: s2) p = eval (s1 ++ x :: mid ++ s2) p := by
  rw [List.append_assoc, List.append_assoc, eval_append, eval_append s1]
  congr 1
  induction mid with
  | nil => simp
  | cons y mid ih =>
    have hy := h y (List.mem_cons_self)
    have ih' := ih (fun z hz => h z (List.mem_cons_of_mem _ hz))
    simp only [List.cons_append, eval] at ih' ⊢
    simp only [commutes] at hy
    cases hx : x.hits p <;> cases hyh : y.hits p <;> simp_all

/-- Replacing a line by one with the same match and action (e.g. only `log` differs) keeps the verdict. -/
theorem eval_replace_same (s1 s2 : List Line) (x y : Line) (p : Nat)
    (hh : x.hits p = y.hits p) (hp : x.permit = y.permit) :
    eval (s1 ++ x :: s2) p = eval (s1 ++ y :: s2) p := by
  rw [eval_append, eval_append s1]; simp [eval, hh, hp]

end NA.Acl
