import NA.Proofs.C05Map
/-!
C05, iptables: loading the file printed by `getIPTablesConfig` with `iptables-restore` (Spec) gives,
for every table of the target, exactly the target's chains (sorted by name), policies and rule
lines in order; tables the target does not have stay as they are.
-/
namespace NA.C05
open NA.Linux NA.Linux.Spec

def toRLn : FLine → RLn
  | .table n => .table n
  | .chain n p => .chain n p
  | .rule c o => .rule c o
  | .commit => .commit

def chainOf (cm : Chains) (c : Str) : Chain := (getA c cm).getD default

/-- The chains the kernel holds for a table after loading the target's file. -/
def expChains (cm : Chains) : List KChain :=
  (sortStrs (keysA cm)).map fun c =>
    { name := c, policy := (chainOf cm c).policy, rules := (chainOf cm c).rules.map (·.orig) }

def expTable (t : Str) (cm : Chains) : KTable := { name := t, chains := expChains cm }

def appendTo (cs : List KChain) (c : Str) (text : Str) : List KChain :=
  cs.map fun k => if k.name = c then { k with rules := k.rules ++ [text] } else k

theorem addRule_eq (cs : List KChain) (c text : Str) (hn : (cs.map (·.name)).Nodup)
    (hc : c ∈ cs.map (·.name)) : addRule cs c text = some (appendTo cs c text) := by
  induction cs with
  | nil => simp at hc
  | cons k ks ih =>
    simp only [List.map_cons, List.nodup_cons] at hn
    by_cases hk : k.name = c
    · have hrest : ∀ x ∈ ks, ¬ x.name = c := by
        intro x hx he
        exact hn.1 (by rw [hk, ← he]; exact List.mem_map_of_mem hx)
      have : ks.map (fun x => if x.name = c then { x with rules := x.rules ++ [text] } else x) = ks :=
        ListFacts.map_eq_self fun x hx => by simp [hrest x hx]
      simp [addRule, appendTo, hk, this]
    · have hc' : c ∈ ks.map (·.name) := (List.mem_cons.mp hc).resolve_left fun h => hk h.symm
      simp [addRule, appendTo, hk, ih hn.2 hc']

theorem appendTo_names (cs : List KChain) (c text : Str) :
    (appendTo cs c text).map (·.name) = cs.map (·.name) := by
  simp only [appendTo, List.map_map]
  apply List.map_congr_left
  intro k _
  simp only [Function.comp]
  split <;> rfl

def addAll (cs : List KChain) (rs : List (Str × Str)) : List KChain :=
  rs.foldl (fun cs p => appendTo cs p.1 p.2) cs

theorem addAll_names (cs : List KChain) (rs : List (Str × Str)) :
    (addAll cs rs).map (·.name) = cs.map (·.name) := by
  induction rs generalizing cs with
  | nil => rfl
  | cons p rs ih => simp only [addAll, List.foldl_cons] at ih ⊢; rw [ih, appendTo_names]

theorem addAll_eq (cs : List KChain) (rs : List (Str × Str)) :
    addAll cs rs = cs.map fun k =>
      { k with rules := k.rules ++ (rs.filter (fun p => p.1 = k.name)).map (·.2) } := by
  induction rs generalizing cs with
  | nil => simp [addAll]
  | cons p rs ih =>
    simp only [addAll, List.foldl_cons] at ih ⊢
    rw [ih, appendTo, List.map_map]
    apply List.map_congr_left
    intro k _
    simp only [Function.comp]
    by_cases h : k.name = p.1
    · simp [h]
    · simp [h, Ne.symm h]

theorem loadTable_decls (pol : Str → Str) : ∀ (names : List Str) (rest : List RLn) (cs : List KChain),
    names.Nodup → (∀ n ∈ names, n ∉ cs.map (·.name)) →
    loadTable (names.map (fun c => RLn.chain c (pol c)) ++ rest) cs =
      loadTable rest (cs ++ names.map fun c => { name := c, policy := pol c, rules := [] }) := by
  intro names
  induction names with
  | nil => intro rest cs _ _; simp
  | cons n ns ih =>
    intro rest cs hnd hdis
    simp only [List.nodup_cons] at hnd
    obtain ⟨hdn, hdis⟩ := List.forall_mem_cons.1 hdis
    have hn : ¬ (cs.any (·.name = n)) = true := by
      intro h
      obtain ⟨x, hx, he⟩ := List.any_eq_true.mp h
      exact hdn (by simp at he; rw [← he]; exact List.mem_map_of_mem hx)
    simp only [List.map_cons, List.cons_append, loadTable, hn, Bool.false_eq_true, ↓reduceIte]
    rw [ih rest _ hnd.2]
    · simp
    · intro m hm
      simp only [List.map_append, List.map_cons, List.map_nil, List.mem_append, List.mem_singleton, not_or]
      exact ⟨hdis m hm, fun e => hnd.1 (e ▸ hm)⟩

theorem loadTable_rules : ∀ (rs : List (Str × Str)) (rest : List RLn) (cs : List KChain),
    (cs.map (·.name)).Nodup → (∀ p ∈ rs, p.1 ∈ cs.map (·.name)) →
    loadTable (rs.map (fun p => RLn.rule p.1 p.2) ++ rest) cs = loadTable rest (addAll cs rs) := by
  intro rs
  induction rs with
  | nil => intro rest cs _ _; simp [addAll]
  | cons p rs ih =>
    intro rest cs hnd hin
    obtain ⟨hp, hin⟩ := List.forall_mem_cons.1 hin
    simp only [List.map_cons, List.cons_append, loadTable]
    rw [addRule_eq cs p.1 p.2 hnd hp]
    simp only
    rw [ih rest _ (by rw [appendTo_names]; exact hnd) (by rw [appendTo_names]; exact hin)]
    simp [addAll]

def rulePairs (cm : Chains) (names : List Str) : List (Str × Str) :=
  names.flatMap fun c => ((chainOf cm c).rules.map (·.orig)).map fun x => (c, x)

theorem tableLines_toRLn (t : Str) (cm : Chains) :
    (tableLines t cm).map toRLn = RLn.table t ::
      ((sortStrs (keysA cm)).map (fun c => RLn.chain c (chainOf cm c).policy) ++
       ((rulePairs cm (sortStrs (keysA cm))).map (fun p => RLn.rule p.1 p.2) ++ [RLn.commit])) := by
  simp only [tableLines, rulePairs, chainOf, List.map_append, List.map_cons, List.map_nil, toRLn, List.map_map,
    List.map_flatMap, List.cons_append, List.nil_append, List.append_assoc]
  rfl

theorem loadTable_block (cm : Chains) (t : Str) (hk : (keysA cm).Nodup) (rest : List RLn) :
    loadTable (((tableLines t cm).map toRLn).tail ++ rest) [] = some (expChains cm, rest) := by
  have hnd := sortStrs_nodup _ hk
  rw [tableLines_toRLn, List.tail_cons, List.append_assoc, List.append_assoc,
    loadTable_decls _ _ _ _ hnd (by simp)]
  simp only [List.nil_append]
  rw [loadTable_rules]
  · simp only [List.singleton_append, loadTable, addAll_eq, List.map_map, expChains]
    congr 2
    apply List.map_congr_left
    intro c hc
    simp only [Function.comp, List.nil_append, rulePairs]
    have hf := filter_flatMap_key id (fun c => (chainOf cm c).rules.map (·.orig)) _ c (by simpa using hnd) hc
    simp only [id] at hf
    rw [hf]
  · simpa [List.map_map, Function.comp_def] using hnd
  · refine List.forall_mem_flatMap.2 fun c hc => List.forall_mem_map.2 fun x _ => ?_
    simp only [List.map_map, List.mem_map, Function.comp]
    exact ⟨c, hc, rfl⟩

def loadAll (tb : Tables) (st : KState) (ts : List Str) : KState :=
  ts.foldl (fun st t => replaceTable st (expTable t ((getA t tb).getD []))) st

theorem tableLines_length_pos (t : Str) (cm : Chains) : 0 < ((tableLines t cm).map toRLn).length := by
  simp [tableLines]

theorem restoreAux_all (tb : Tables) (hc : ∀ t cm, getA t tb = some cm → (keysA cm).Nodup) :
    ∀ (ts : List Str) (st : KState) (fuel : Nat),
    (∀ t ∈ ts, hasA t tb = true) →
    ((ts.flatMap fun t => tableLines t ((getA t tb).getD [])).map toRLn).length ≤ fuel →
    restoreAux fuel st ((ts.flatMap fun t => tableLines t ((getA t tb).getD [])).map toRLn) =
      some (loadAll tb st ts) := by
  intro ts
  induction ts with
  | nil => intro st fuel _ _; cases fuel <;> simp [restoreAux, loadAll]
  | cons t ts ih =>
    intro st fuel hin hf
    obtain ⟨ht, hin⟩ := List.forall_mem_cons.1 hin
    obtain ⟨cm, hcm⟩ := (hasA_iff t tb).mp ht
    simp only [List.flatMap_cons, List.map_append] at hf ⊢
    have hhead : (tableLines t ((getA t tb).getD [])).map toRLn =
        RLn.table t :: ((tableLines t cm).map toRLn).tail := by
      simp [hcm, tableLines, toRLn]
    rw [hhead] at hf ⊢
    cases fuel with
    | zero => simp at hf
    | succ fuel =>
      simp only [List.cons_append, restoreAux]
      rw [loadTable_block cm t (hc t cm hcm)]
      simp only
      rw [ih _ fuel hin (by
        simp only [List.cons_append, List.length_cons, List.length_append] at hf; omega)]
      simp [loadAll, hcm, expTable]

theorem replaceTable_get (st : KState) (x : KTable) (t : Str) :
    (replaceTable st x).get t = if x.name = t then some x else st.get t := by
  unfold replaceTable KState.get
  split
  · rename_i hany
    -- a replaced entry keeps its name, so the search finds the entry at the same place
    have hname : ∀ z : KTable, (if z.name = x.name then x else z).name = z.name := fun z => by
      split
      · rename_i h; exact h.symm
      · rfl
    rw [List.find?_map]
    simp only [Function.comp_def, hname]
    cases hf : st.find? (fun z => decide (z.name = t)) with
    | none =>
      obtain ⟨y, hy, hyn⟩ := List.any_eq_true.mp hany
      rw [if_neg fun e => by simpa [← e, hyn] using List.find?_eq_none.mp hf y hy]
      rfl
    | some y =>
      have hy : y.name = t := by simpa using List.find?_some hf
      by_cases hxt : x.name = t
      · simp [hxt, hy]
      · have hne : ¬ y.name = x.name := fun e => hxt (e ▸ hy)
        simp [hxt, hne]
  · rename_i hany
    simp only [List.find?_append]
    have hnone : ∀ y ∈ st, ¬ y.name = x.name := by
      intro y hy he
      exact hany (List.any_eq_true.mpr ⟨y, hy, by simpa using he⟩)
    by_cases hxt : x.name = t
    · have : st.find? (fun z => decide (z.name = t)) = none := by
        apply List.find?_eq_none.mpr
        intro y hy; simpa [← hxt] using hnone y hy
      simp [this, hxt]
    · simp [hxt]

theorem loadAll_get (tb : Tables) : ∀ (ts : List Str) (st : KState) (t : Str),
    (loadAll tb st ts).get t =
      if t ∈ ts then some (expTable t ((getA t tb).getD [])) else st.get t := by
  intro ts
  induction ts with
  | nil => intro st t; simp [loadAll]
  | cons x xs ih =>
    intro st t
    simp only [loadAll, List.foldl_cons] at ih ⊢
    rw [ih]
    by_cases h : t ∈ xs
    · simp [h]
    · simp only [h, ↓reduceIte, replaceTable_get, expTable, List.mem_cons, or_false]
      by_cases hx : x = t
      · subst hx; simp
      · simp [hx, Ne.symm hx]

theorem restore_target (tb : Tables) (st : KState)
    (hc : ∀ t cm, getA t tb = some cm → (keysA cm).Nodup) :
    ∃ st', restore st ((getIPTablesConfig tb).map toRLn) = some st' ∧
      (∀ t cm, getA t tb = some cm → st'.get t = some (expTable t cm)) ∧
      (∀ t, getA t tb = none → st'.get t = st.get t) := by
  refine ⟨loadAll tb st (sortStrs (keysA tb)), ?_, ?_, ?_⟩
  · unfold restore getIPTablesConfig
    exact restoreAux_all tb hc _ st _ (fun t ht => (mem_keysA t tb).mp ((mem_sortStrs t _).mp ht)) (Nat.le_refl _)
  · intro t cm h
    rw [loadAll_get, if_pos ((mem_sortStrs t _).mpr (mem_keysA_of_getA h)), h]
    rfl
  · intro t h
    rw [loadAll_get, if_neg fun hm => by simpa [hasA, h] using (mem_keysA t tb).mp ((mem_sortStrs t _).mp hm)]

end NA.C05
