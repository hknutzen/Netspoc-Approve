import NA.Spec.PanOsOrder
/-
C03 / C07 / C08 / C10, specification side: facts about the strict candidate tree itself.  One inversion lemma per
request (`exec_X_iff`); from them what a request leaves alone (C07: `exec_frame`) and its effect on the order of the
rule names (`exec_ord`).  Further: no refusal for a reason of the rule order while the order operations run
(`exec_order_error`, `execAll_no_order_error`), prefixes of an accepted script are accepted (`execAll_prefix`: C08 ⇒
every cut of C10 is reachable), and the frame of a whole device (`execDev_frame`).  Core Lean only.
-/
namespace NA.PanOs

theorem ruleNames_filter (rs : List Rule) (n : String) :
    ruleNames (rs.filter (·.name != n)) = (ruleNames rs).filter (· != n) := by
  induction rs with
  | nil => rfl
  | cons r rs ih =>
    simp only [List.filter_cons, ruleNames, List.map_cons] at ih ⊢
    split <;> simp [ih]

theorem ruleNames_insertBefore (d : String) (r : Rule) (rs : List Rule) :
    ruleNames (insertBefore d r rs) = insertBeforeName d r.name (ruleNames rs) := by
  induction rs with
  | nil => rfl
  | cons x xs ih =>
    simp only [insertBefore, insertBeforeName, ruleNames, List.map_cons] at ih ⊢
    split <;> simp [ih]

theorem ruleNames_modifyRule (rs : List Rule) (n : String) (f : Rule → Rule)
    (hf : ∀ r, (f r).name = r.name) : ruleNames (modifyRule rs n f) = ruleNames rs := by
  induction rs with
  | nil => rfl
  | cons x xs ih =>
    simp only [modifyRule, ruleNames, List.map_cons] at ih ⊢
    rw [ih]
    split <;> simp [hf]

theorem Rule.set_name (r : Rule) (f : Fld) (l : List String) : (r.set f l).name = r.name := by
  cases f <;> rfl

theorem findRule_name {rs : List Rule} {n : String} {r : Rule} (h : findRule rs n = some r) :
    r.name = n ∧ (ruleNames rs).contains n = true := by
  unfold findRule at h
  have h1 := List.find?_some h
  have h2 := List.mem_of_find?_eq_some h
  have hn : r.name = n := by simpa using h1
  refine ⟨hn, ?_⟩
  simp only [List.contains_iff_mem, ruleNames, List.mem_map]
  exact ⟨r, h2, hn⟩

theorem findRule_none_iff (rs : List Rule) (n : String) :
    findRule rs n = none ↔ (ruleNames rs).contains n = false := by
  unfold findRule ruleNames
  rw [List.find?_eq_none]
  simp only [Bool.eq_false_iff, ne_eq, List.contains_iff_mem, List.mem_map, not_exists, not_and]
  constructor
  · intro h r hr hn; exact h r hr (by simp [hn])
  · intro h r hr hn; exact h r hr (by simpa using hn)

section
variable {sh : Shared} {v v' : Vsys}

theorem ok_eq_ok_iff {w : Vsys} : (Except.ok w : Except String Vsys) = .ok v' ↔ v' = w := by
  rw [Except.ok.injEq]; exact eq_comm

theorem ite_error_eq_ok_iff {c : Prop} [Decidable c] {e : String} {x : Except String Vsys} :
    (if c then .error e else x) = .ok v' ↔ ¬ c ∧ x = .ok v' := by
  split <;> simp [*]

theorem ite_ok_eq_ok_iff {c : Prop} [Decidable c] {e : String} {w : Vsys} :
    (if c then .ok w else .error e : Except String Vsys) = .ok v' ↔ c ∧ v' = w := by
  split <;> simp [*, eq_comm]

theorem exec_setAddr_iff {n val : String} : exec sh v (.setAddr n val) = .ok v' ↔
    (∃ o, v.addrs.find? (·.name == n) = some o ∧ o.val = val ∧ v' = v) ∨
      (v.addrs.find? (·.name == n) = none ∧ v' = { v with addrs := v.addrs ++ [⟨n, val⟩] }) := by
  unfold exec
  dsimp only
  cases v.addrs.find? (·.name == n) with
  | none => simp only [ok_eq_ok_iff, reduceCtorEq, false_and, exists_false, true_and, false_or]
  | some o => simp only [ite_ok_eq_ok_iff, beq_iff_eq, Option.some.injEq, exists_eq_left', reduceCtorEq, false_and, or_false]

theorem exec_setSvc_iff {n val : String} : exec sh v (.setSvc n val) = .ok v' ↔
    (∃ o, v.svcs.find? (·.name == n) = some o ∧ o.val = val ∧ v' = v) ∨
      (v.svcs.find? (·.name == n) = none ∧ v' = { v with svcs := v.svcs ++ [⟨n, val⟩] }) := by
  unfold exec
  dsimp only
  cases v.svcs.find? (·.name == n) with
  | none => simp only [ok_eq_ok_iff, reduceCtorEq, false_and, exists_false, true_and, false_or]
  | some o => simp only [ite_ok_eq_ok_iff, beq_iff_eq, Option.some.injEq, exists_eq_left', reduceCtorEq, false_and, or_false]

theorem exec_editAddr_iff {n val : String} : exec sh v (.editAddr n val) = .ok v' ↔
    v.addrs.any (·.name == n) = true ∧ v' = { v with addrs := setVal v.addrs n val } := by
  unfold exec
  exact ite_ok_eq_ok_iff

theorem exec_editSvc_iff {n val : String} : exec sh v (.editSvc n val) = .ok v' ↔
    v.svcs.any (·.name == n) = true ∧ v' = { v with svcs := setVal v.svcs n val } := by
  unfold exec
  exact ite_ok_eq_ok_iff

theorem exec_setGrp_iff {n : String} {ms : List String} : exec sh v (.setGrp n ms) = .ok v' ↔
    ms.all (addrRefOk sh v) = true ∧
      v' = { v with groups := if v.groups.any (·.name == n) then modifyGrp v.groups n (fun old => mergeMembers old ms)
                              else v.groups ++ [⟨n, mergeMembers [] ms⟩] } := by
  unfold exec
  rw [ite_error_eq_ok_iff, Bool.not_eq_true, Bool.not_eq_false']
  cases v.groups.any (·.name == n) <;> simp only [ok_eq_ok_iff, if_true, Bool.false_eq_true, if_false]

theorem exec_setSGrp_iff {n : String} {ms : List String} : exec sh v (.setSGrp n ms) = .ok v' ↔
    ms.all (srvRefOk sh v) = true ∧
      v' = { v with sgroups := if v.sgroups.any (·.name == n) then modifyGrp v.sgroups n (fun old => mergeMembers old ms)
                               else v.sgroups ++ [⟨n, mergeMembers [] ms⟩] } := by
  unfold exec
  rw [ite_error_eq_ok_iff, Bool.not_eq_true, Bool.not_eq_false']
  cases v.sgroups.any (·.name == n) <;> simp only [ok_eq_ok_iff, if_true, Bool.false_eq_true, if_false]

theorem exec_delRule_iff {n : String} : exec sh v (.delRule n) = .ok v' ↔
    (ruleNames v.rules).contains n = true ∧ v' = { v with rules := v.rules.filter (·.name != n) } := by
  unfold exec
  exact ite_ok_eq_ok_iff

theorem exec_setRule_iff {r : Rule} : exec sh v (.setRule r) = .ok v' ↔
    (ruleNames v.rules).contains r.name = false ∧
      (r.src.all (addrRefOk sh v) && r.dst.all (addrRefOk sh v)) = true ∧ r.srv.all (srvRefOk sh v) = true ∧
      v' = { v with rules := v.rules ++ [r] } := by
  unfold exec
  simp only [ite_error_eq_ok_iff, ok_eq_ok_iff, Bool.not_eq_true, Bool.not_eq_false']

theorem exec_move_iff {n d : String} : exec sh v (.move n d) = .ok v' ↔
    ∃ r, findRule v.rules n = some r ∧ n ≠ d ∧ (ruleNames v.rules).contains d = true ∧
      v' = { v with rules := insertBefore d r (v.rules.filter (·.name != n)) } := by
  unfold exec
  dsimp only
  cases findRule v.rules n with
  | none => simp only [reduceCtorEq, false_and, exists_false]
  | some r =>
    simp only [ite_error_eq_ok_iff, ok_eq_ok_iff, Bool.not_eq_true, Bool.not_eq_false', beq_eq_false_iff_ne,
      Option.some.injEq, exists_eq_left']

theorem exec_delMem_iff {n : String} {f : Fld} {m : String} : exec sh v (.delMem n f m) = .ok v' ↔
    ∃ r, findRule v.rules n = some r ∧ (r.get f).contains m = true ∧
      v' = { v with rules := modifyRule v.rules n (fun r => r.set f ((r.get f).filter (· != m))) } := by
  unfold exec
  dsimp only
  cases findRule v.rules n with
  | none => simp only [reduceCtorEq, false_and, exists_false]
  | some r => simp only [ite_ok_eq_ok_iff, Option.some.injEq, exists_eq_left']

theorem exec_addMem_iff {n : String} {f : Fld} {ms : List String} : exec sh v (.addMem n f ms) = .ok v' ↔
    (ruleNames v.rules).contains n = true ∧ ms.all (refOk sh v f) = true ∧
      v' = { v with rules := modifyRule v.rules n (fun r => r.set f (mergeMembers (r.get f) ms)) } := by
  unfold exec
  simp only [ite_error_eq_ok_iff, ok_eq_ok_iff, Bool.not_eq_true, Bool.not_eq_false']

theorem exec_editList_iff {n : String} {f : Fld} {ms : List String} : exec sh v (.editList n f ms) = .ok v' ↔
    (ruleNames v.rules).contains n = true ∧ ms.all (refOk sh v f) = true ∧
      v' = { v with rules := modifyRule v.rules n (fun r => r.set f ms) } := by
  unfold exec
  simp only [ite_error_eq_ok_iff, ok_eq_ok_iff, Bool.not_eq_true, Bool.not_eq_false']

theorem exec_delGMem_iff {g m : String} : exec sh v (.delGMem g m) = .ok v' ↔
    ∃ gr, v.groups.find? (·.name == g) = some gr ∧ gr.members.contains m = true ∧
      v' = { v with groups := modifyGrp v.groups g (fun old => old.filter (· != m)) } := by
  unfold exec
  dsimp only
  cases v.groups.find? (·.name == g) with
  | none => simp only [reduceCtorEq, false_and, exists_false]
  | some gr => simp only [ite_ok_eq_ok_iff, Option.some.injEq, exists_eq_left']

theorem exec_delGrp_iff {n : String} : exec sh v (.delGrp n) = .ok v' ↔
    v.groups.any (·.name == n) = true ∧ addrUsed { v with groups := v.groups.filter (·.name != n) } n = false ∧
      v' = { v with groups := v.groups.filter (·.name != n) } := by
  unfold exec
  simp only [ite_error_eq_ok_iff, ok_eq_ok_iff, Bool.not_eq_true, Bool.not_eq_false']

theorem exec_delAddr_iff {n : String} : exec sh v (.delAddr n) = .ok v' ↔
    v.addrs.any (·.name == n) = true ∧ addrUsed v n = false ∧ v' = { v with addrs := v.addrs.filter (·.name != n) } := by
  unfold exec
  simp only [ite_error_eq_ok_iff, ok_eq_ok_iff, Bool.not_eq_true, Bool.not_eq_false']

theorem exec_delSGrp_iff {n : String} : exec sh v (.delSGrp n) = .ok v' ↔
    v.sgroups.any (·.name == n) = true ∧ srvUsed { v with sgroups := v.sgroups.filter (·.name != n) } n = false ∧
      v' = { v with sgroups := v.sgroups.filter (·.name != n) } := by
  unfold exec
  simp only [ite_error_eq_ok_iff, ok_eq_ok_iff, Bool.not_eq_true, Bool.not_eq_false']

theorem exec_delSvc_iff {n : String} : exec sh v (.delSvc n) = .ok v' ↔
    v.svcs.any (·.name == n) = true ∧ srvUsed v n = false ∧ v' = { v with svcs := v.svcs.filter (·.name != n) } := by
  unfold exec
  simp only [ite_error_eq_ok_iff, ok_eq_ok_iff, Bool.not_eq_true, Bool.not_eq_false']

theorem exec_bad_ne_ok {why : String} : exec sh v (.bad why) ≠ .ok v' := by
  unfold exec; exact fun h => nomatch h

end

def Cmd.onRules : Cmd → Bool
  | .delRule .. | .setRule .. | .move .. | .delMem .. | .addMem .. | .editList .. => true
  | _ => false

theorem exec_frame {sh : Shared} {v v' : Vsys} {c : Cmd} (h : exec sh v c = .ok v') :
    v'.name = v.name ∧
      (c.onRules = true →
        v'.addrs = v.addrs ∧ v'.svcs = v.svcs ∧ v'.groups = v.groups ∧ v'.sgroups = v.sgroups) ∧
      (c.onRules = false → v'.rules = v.rules) := by
  cases c with
  | setAddr n val =>
    rcases exec_setAddr_iff.mp h with ⟨_, _, _, rfl⟩ | ⟨_, rfl⟩ <;> exact ⟨rfl, nofun, fun _ => rfl⟩
  | setSvc n val =>
    rcases exec_setSvc_iff.mp h with ⟨_, _, _, rfl⟩ | ⟨_, rfl⟩ <;> exact ⟨rfl, nofun, fun _ => rfl⟩
  | editAddr n val => obtain ⟨_, rfl⟩ := exec_editAddr_iff.mp h; exact ⟨rfl, nofun, fun _ => rfl⟩
  | editSvc n val => obtain ⟨_, rfl⟩ := exec_editSvc_iff.mp h; exact ⟨rfl, nofun, fun _ => rfl⟩
  | setGrp n ms => obtain ⟨_, rfl⟩ := exec_setGrp_iff.mp h; exact ⟨rfl, nofun, fun _ => rfl⟩
  | setSGrp n ms => obtain ⟨_, rfl⟩ := exec_setSGrp_iff.mp h; exact ⟨rfl, nofun, fun _ => rfl⟩
  | delGMem g m => obtain ⟨_, _, _, rfl⟩ := exec_delGMem_iff.mp h; exact ⟨rfl, nofun, fun _ => rfl⟩
  | delGrp n => obtain ⟨_, _, rfl⟩ := exec_delGrp_iff.mp h; exact ⟨rfl, nofun, fun _ => rfl⟩
  | delAddr n => obtain ⟨_, _, rfl⟩ := exec_delAddr_iff.mp h; exact ⟨rfl, nofun, fun _ => rfl⟩
  | delSGrp n => obtain ⟨_, _, rfl⟩ := exec_delSGrp_iff.mp h; exact ⟨rfl, nofun, fun _ => rfl⟩
  | delSvc n => obtain ⟨_, _, rfl⟩ := exec_delSvc_iff.mp h; exact ⟨rfl, nofun, fun _ => rfl⟩
  | delRule n => obtain ⟨_, rfl⟩ := exec_delRule_iff.mp h; exact ⟨rfl, fun _ => ⟨rfl, rfl, rfl, rfl⟩, nofun⟩
  | setRule r => obtain ⟨_, _, _, rfl⟩ := exec_setRule_iff.mp h; exact ⟨rfl, fun _ => ⟨rfl, rfl, rfl, rfl⟩, nofun⟩
  | move n d => obtain ⟨_, _, _, _, rfl⟩ := exec_move_iff.mp h; exact ⟨rfl, fun _ => ⟨rfl, rfl, rfl, rfl⟩, nofun⟩
  | delMem n f m => obtain ⟨_, _, _, rfl⟩ := exec_delMem_iff.mp h; exact ⟨rfl, fun _ => ⟨rfl, rfl, rfl, rfl⟩, nofun⟩
  | addMem n f ms => obtain ⟨_, _, rfl⟩ := exec_addMem_iff.mp h; exact ⟨rfl, fun _ => ⟨rfl, rfl, rfl, rfl⟩, nofun⟩
  | editList n f ms => obtain ⟨_, _, rfl⟩ := exec_editList_iff.mp h; exact ⟨rfl, fun _ => ⟨rfl, rfl, rfl, rfl⟩, nofun⟩
  | bad why => exact absurd h exec_bad_ne_ok

structure SameTables (v w : Vsys) : Prop where
  addrs : w.addrs = v.addrs
  svcs : w.svcs = v.svcs
  groups : w.groups = v.groups
  sgroups : w.sgroups = v.sgroups
  name : w.name = v.name

theorem SameTables.refl (v : Vsys) : SameTables v v := ⟨rfl, rfl, rfl, rfl, rfl⟩

theorem SameTables.trans {u v w : Vsys} (h₁ : SameTables u v) (h₂ : SameTables v w) : SameTables u w :=
  ⟨h₂.addrs.trans h₁.addrs, h₂.svcs.trans h₁.svcs, h₂.groups.trans h₁.groups, h₂.sgroups.trans h₁.sgroups,
    h₂.name.trans h₁.name⟩

theorem exec_onRules_static {sh : Shared} {v v' : Vsys} {c : Cmd} (h : exec sh v c = .ok v')
    (hc : c.onRules = true) : SameTables v v' :=
  let ⟨h1, h2, h3, h4⟩ := (exec_frame h).2.1 hc
  ⟨h1, h2, h3, h4, (exec_frame h).1⟩

theorem ruleNames_length (rs : List Rule) : (ruleNames rs).length = rs.length := List.length_map _

theorem runOrd_append (l : List String) (o₁ o₂ : List OrdOp) :
    runOrd l (o₁ ++ o₂) = (runOrd l o₁).bind (fun l' => runOrd l' o₂) := by
  induction o₁ generalizing l with
  | nil => rfl
  | cons o os ih =>
    simp only [List.cons_append, runOrd]
    cases applyOrd l o with
    | none => rfl
    | some l' => exact ih l'

theorem exec_ord {sh : Shared} {v v' : Vsys} {c : Cmd} (h : exec sh v c = .ok v') :
    runOrd (ruleNames v.rules) ([c].filterMap ordOf) = some (ruleNames v'.rules) := by
  cases c with
  | delRule n =>
    obtain ⟨hc, rfl⟩ := exec_delRule_iff.mp h
    simp only [List.filterMap_cons, List.filterMap_nil, ordOf, runOrd, applyOrd, hc, if_true, ruleNames_filter,
      Option.bind_some]
  | setRule r =>
    obtain ⟨hc, _, _, rfl⟩ := exec_setRule_iff.mp h
    simp only [List.filterMap_cons, List.filterMap_nil, ordOf, runOrd, applyOrd, hc, Bool.false_eq_true, if_false,
      Option.bind_some]
    simp only [ruleNames, List.map_append, List.map_cons, List.map_nil]
  | move n dst =>
    obtain ⟨r, hf, hne, hd, rfl⟩ := exec_move_iff.mp h
    obtain ⟨hrn, hcn⟩ := findRule_name hf
    have hne' : (n == dst) = false := by simpa using hne
    simp only [List.filterMap_cons, List.filterMap_nil, ordOf, runOrd, applyOrd, hcn, hne', hd, Bool.not_true,
      Bool.false_eq_true, if_false, Option.bind_some, ruleNames_insertBefore, ruleNames_filter, hrn]
  | delMem n f m =>
    obtain ⟨_, _, _, rfl⟩ := exec_delMem_iff.mp h
    exact congrArg some (ruleNames_modifyRule _ _ _ (fun r => Rule.set_name r f _)).symm
  | addMem n f ms =>
    obtain ⟨_, _, rfl⟩ := exec_addMem_iff.mp h
    exact congrArg some (ruleNames_modifyRule _ _ _ (fun r => Rule.set_name r f _)).symm
  | editList n f ms =>
    obtain ⟨_, _, rfl⟩ := exec_editList_iff.mp h
    exact congrArg some (ruleNames_modifyRule _ _ _ (fun r => Rule.set_name r f _)).symm
  | setAddr _ _ | editAddr _ _ | setSvc _ _ | editSvc _ _ | setGrp _ _ | setSGrp _ _ | delGMem _ _
  | delGrp _ | delAddr _ | delSGrp _ | delSvc _ | bad _ =>
    exact congrArg (fun rs => some (ruleNames rs)) ((exec_frame h).2.2 rfl).symm

def orderError (e : String) : Bool :=
  e == "delete-missing-rule" || e == "set-existing-rule" || e == "move-missing-rule" ||
  e == "move-before-itself" || e == "move-missing-destination"

theorem exec_order_error {sh : Shared} {v : Vsys} {c : Cmd} {e : String}
    (h : exec sh v c = .error e) (he : orderError e = true) :
    ∃ o, ordOf c = some o ∧ applyOrd (ruleNames v.rules) o = none := by
  cases c with
  | delRule n =>
    simp only [exec] at h
    split at h
    · simp at h
    · rename_i hc
      simp only [Bool.not_eq_true] at hc
      exact ⟨_, rfl, by simp only [applyOrd, hc, Bool.false_eq_true, if_false]⟩
  | setRule r =>
    simp only [exec] at h
    split at h
    · rename_i hc
      exact ⟨_, rfl, by simp only [applyOrd, hc, if_true]⟩
    · split at h
      · simp only [Except.error.injEq] at h; subst h; simp [orderError] at he
      · split at h
        · simp only [Except.error.injEq] at h; subst h; simp [orderError] at he
        · simp at h
  | move n dst =>
    simp only [exec] at h
    split at h
    · rename_i hf
      refine ⟨_, rfl, ?_⟩
      simp only [applyOrd, (findRule_none_iff _ _).mp hf, Bool.not_false, if_true]
    · rename_i r hf
      obtain ⟨_, hcn⟩ := findRule_name hf
      split at h
      · rename_i hnd
        exact ⟨_, rfl, by simp only [applyOrd, hcn, hnd, Bool.not_true, Bool.false_eq_true, if_false, if_true]⟩
      · rename_i hnd
        split at h
        · rename_i hd
          refine ⟨_, rfl, ?_⟩
          simp only [Bool.not_eq_true', Bool.not_eq_true] at hd hnd
          simp only [applyOrd, hcn, hnd, hd, Bool.not_true, Bool.not_false, Bool.false_eq_true, if_false, if_true]
        · simp at h
  | setAddr n val | setSvc n val =>
    simp only [exec] at h
    split at h
    · split at h
      · simp at h
      · simp only [Except.error.injEq] at h; subst h; simp [orderError] at he
    · simp at h
  | editAddr n val | editSvc n val =>
    simp only [exec] at h
    split at h
    · simp at h
    · simp only [Except.error.injEq] at h; subst h; simp [orderError] at he
  | setGrp n ms | setSGrp n ms =>
    simp only [exec] at h
    split at h
    · simp only [Except.error.injEq] at h; subst h; simp [orderError] at he
    · split at h <;> simp at h
  | delMem n f m | delGMem g m =>
    simp only [exec] at h
    split at h
    · simp only [Except.error.injEq] at h; subst h; simp [orderError] at he
    · split at h
      · simp at h
      · simp only [Except.error.injEq] at h; subst h; simp [orderError] at he
  | addMem n f ms | editList n f ms | delGrp n | delAddr n | delSGrp n | delSvc n =>
    simp only [exec] at h
    split at h
    · simp only [Except.error.injEq] at h; subst h; simp [orderError] at he
    · split at h
      · simp only [Except.error.injEq] at h; subst h; simp [orderError] at he
      · simp at h
  | bad w =>
    simp only [exec, Except.error.injEq] at h
    subst h
    exfalso
    have : orderError ("malformed-request " ++ w) = false := by
      simp only [orderError, Bool.or_eq_false_iff, beq_eq_false_iff_ne, ne_eq]
      refine ⟨⟨⟨⟨?_, ?_⟩, ?_⟩, ?_⟩, ?_⟩ <;>
      · intro hh
        have := congrArg (fun s => s.toList.take 4) hh
        simp at this
    simp [this] at he


theorem execAll_cons_ok {sh : Shared} {v v' : Vsys} {c : Cmd} {cs : List Cmd} (h : exec sh v c = .ok v') :
    execAll sh v (c :: cs) = ((execAll sh v' cs).1, (execAll sh v' cs).2.1 + 1, (execAll sh v' cs).2.2) := by
  simp [execAll, h]

theorem execAll_cons_err {sh : Shared} {v : Vsys} {c : Cmd} {cs : List Cmd} {e : String}
    (h : exec sh v c = .error e) : execAll sh v (c :: cs) = (v, 0, some e) := by
  simp [execAll, h]

theorem execAll_count (sh : Shared) : ∀ (cs : List Cmd) (v : Vsys),
    (execAll sh v cs).2.1 ≤ cs.length ∧
      ((execAll sh v cs).2.2 = none ↔ (execAll sh v cs).2.1 = cs.length) := by
  intro cs
  induction cs with
  | nil => intro v; simp [execAll]
  | cons c cs ih =>
    intro v
    cases h : exec sh v c with
    | error e => rw [execAll_cons_err h]; simp
    | ok v' =>
      rw [execAll_cons_ok h]
      have := ih v'
      simp only [List.length_cons]
      constructor
      · omega
      · rw [this.2]; omega

theorem execAll_prefix (sh : Shared) : ∀ (cs : List Cmd) (v : Vsys) (j : Nat),
    j ≤ (execAll sh v cs).2.1 →
      (execAll sh v (cs.take j)).2.1 = j ∧ (execAll sh v (cs.take j)).2.2 = none := by
  intro cs
  induction cs with
  | nil => intro v j hj; simp [execAll] at hj ⊢; simp [hj]
  | cons c cs ih =>
    intro v j hj
    cases j with
    | zero => simp [execAll]
    | succ j =>
      cases h : exec sh v c with
      | error e => rw [execAll_cons_err h] at hj; simp at hj
      | ok v' =>
        rw [execAll_cons_ok h] at hj
        simp only [List.take_succ_cons]
        rw [execAll_cons_ok h]
        have := ih v' j (by simpa using hj)
        simp [this.1, this.2]

theorem execAll_ord (sh : Shared) : ∀ (cs : List Cmd) (v : Vsys),
    runOrd (ruleNames v.rules) ((cs.take (execAll sh v cs).2.1).filterMap ordOf) =
      some (ruleNames (execAll sh v cs).1.rules) := by
  intro cs
  induction cs with
  | nil => intro v; rfl
  | cons c cs ih =>
    intro v
    cases h : exec sh v c with
    | error e => rw [execAll_cons_err h]; rfl
    | ok v' =>
      rw [execAll_cons_ok h, List.take_succ_cons, ← List.singleton_append, List.filterMap_append, runOrd_append,
        exec_ord h]
      exact ih v'

theorem runOrd_some_prefix : ∀ (xs : List OrdOp) (l : List String) (o : OrdOp) (ys : List OrdOp) (t : List String),
    runOrd l (xs ++ o :: ys) = some t → ∃ l', runOrd l xs = some l' ∧ applyOrd l' o ≠ none := by
  intro xs
  induction xs with
  | nil =>
    intro l o ys t h
    refine ⟨l, rfl, ?_⟩
    intro hn
    simp [runOrd, hn] at h
  | cons x xs ih =>
    intro l o ys t h
    simp only [List.cons_append, runOrd] at h ⊢
    cases hx : applyOrd l x with
    | none => simp [hx] at h
    | some l1 =>
      simp only [hx, Option.bind_some] at h ⊢
      exact ih l1 o ys t h

/-- **No refusal for a reason of the rule order (C08, rules).**  If the order operations of a
script are applicable in sequence to the device's rule names, the strict device never refuses a
request of that script because the rule to delete or to move is missing, a rule name is taken, a rule is
moved before itself, or a move destination is missing (`orderError`) — whatever else happens. -/
theorem execAll_no_order_error (sh : Shared) (cs : List Cmd) (v : Vsys) (t : List String)
    (hrun : runOrd (ruleNames v.rules) (cs.filterMap ordOf) = some t)
    (e : String) (he : (execAll sh v cs).2.2 = some e) : orderError e = false := by
  induction cs generalizing v with
  | nil => simp [execAll] at he
  | cons c cs ih =>
    cases h : exec sh v c with
    | error e' =>
      rw [execAll_cons_err h] at he
      simp only [Option.some.injEq] at he
      subst he
      cases hoe : orderError e' with
      | false => rfl
      | true =>
        obtain ⟨o, ho, hap⟩ := exec_order_error h hoe
        simp only [List.filterMap_cons, ho, runOrd, hap, Option.bind_none] at hrun
        cases hrun
    | ok v' =>
      rw [execAll_cons_ok h] at he
      rw [← List.singleton_append, List.filterMap_append, runOrd_append, exec_ord h] at hrun
      exact ih v' hrun he

theorem execDev_frame {sh : Shared} {d d' : Device} {vs : String} {c : Cmd}
    (h : execDev sh d vs c = .ok d') :
    d'.length = d.length ∧ ∀ (i : Nat) (v : Vsys), d[i]? = some v → v.name ≠ vs → d'[i]? = some v := by
  unfold execDev at h
  split at h
  · simp at h
  · rename_i hfind
    clear hfind
    induction d generalizing d' with
    | nil =>
      simp only [List.mapM_nil] at h
      cases h
      simp
    | cons x xs ih =>
      simp only [List.mapM_cons, bind, Except.bind, pure, Except.pure] at h
      cases hx : (if x.name == vs then exec sh x c else Except.ok x) with
      | error e => rw [hx] at h; cases h
      | ok x' =>
        rw [hx] at h
        cases hxs : List.mapM (fun v => if v.name == vs then exec sh v c else Except.ok v) xs with
        | error e => rw [hxs] at h; cases h
        | ok xs' =>
          rw [hxs] at h
          simp only [Except.ok.injEq] at h
          subst h
          obtain ⟨hl, hf⟩ := ih hxs
          refine ⟨by simp [hl], ?_⟩
          intro i v hi hne
          cases i with
          | zero =>
            simp only [List.getElem?_cons_zero, Option.some.injEq] at hi ⊢
            subst hi
            have : (x.name == vs) = false := by simpa using hne
            simp only [this, Bool.false_eq_true, if_false, Except.ok.injEq] at hx
            exact hx.symm
          | succ i =>
            simp only [List.getElem?_cons_succ] at hi ⊢
            exact hf i v hi hne

end NA.PanOs
