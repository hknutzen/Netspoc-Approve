import NA.Proofs.Masks
/-!
Sequence numbers of the IOS planner.  `numOf M i`: the number cell `i` of the merged list has on the
device after `ip access-list resequence NAME 10000 10000` (old / both cells) or gets from the planner
(new-only cells: `before*10000 + offset + 1`).  Strictly increasing along `M` if no run of new-only
cells reaches 10000 AND every cell is old or new (`noJunk`: a cell that is neither restarts the offset
without moving the count).  The device list is `numbered M μ`, a sublist by presence mask (`pick`);
inserting / deleting by number sets / clears one bit.
-/
namespace NA.Acl

def Cell.newOnly (c : Cell) : Bool := c.new && !c.old

/-- Every cell stands for a device line, a target line or both (what `cellsOf` produces). -/
def noJunk (M : List Cell) : Bool := M.all fun c => c.old || c.new

/-- Number of consecutive new-only cells immediately before index `i`
(= offset of cell `i` inside its maximal run of new-only cells, if it is one). -/
def runOff (M : List Cell) : Nat → Nat
  | 0 => 0
  | k + 1 => if (M.getD k default).newOnly then runOff M k + 1 else 0

def numOf (M : List Cell) (i : Nat) : Nat :=
  if (M.getD i default).old then (countOld M i + 1) * 10000
  else countOld M i * 10000 + runOff M i + 1

/-- Every maximal run of new-only cells is shorter than 10000 (`runOff M i` is the length of the
run that ends just before `i`). The real code aborts otherwise. -/
def runsShort (M : List Cell) : Prop := ∀ i, i ≤ M.length → runOff M i < 10000

def runsShortB (M : List Cell) : Bool := (List.range (M.length + 1)).all fun i => runOff M i < 10000

theorem runsShortB_iff (M : List Cell) : runsShortB M = true ↔ runsShort M := by
  simp only [runsShortB, List.all_eq_true, List.mem_range, decide_eq_true_eq, runsShort]
  exact ⟨fun h i hi => h i (by omega), fun h i hi => h i (by omega)⟩

theorem noJunk_getD {M : List Cell} (h : noJunk M = true) {i : Nat} (hi : i < M.length) :
    (M.getD i default).old = true ∨ (M.getD i default).new = true := by
  simpa using List.all_eq_true.mp h _ (ListFacts.getD_mem hi)

theorem numOf_lt_succ (M : List Cell) (hs : runsShort M) (i : Nat) (hi : i + 1 < M.length)
    (hj : noJunk M = true) : numOf M i < numOf M (i + 1) := by
  have hi' : i < M.length := by omega
  have hjunk := noJunk_getD hj hi'
  have hr := hs (i + 1) (by omega)
  unfold numOf
  rw [countOld_succ M i hi']
  simp only [runOff] at hr ⊢
  unfold Cell.newOnly at hr ⊢
  generalize M.getD i default = c at *
  generalize M.getD (i + 1) default = c' at *
  cases ho : c.old <;> cases ho' : c'.old <;> simp [ho] at hjunk <;> simp [ho, hjunk] at hr ⊢ <;>
    omega

theorem numOf_strictMono (M : List Cell) (hj : noJunk M = true) (hs : runsShort M) {i j : Nat}
    (hij : i < j) (hjl : j < M.length) : numOf M i < numOf M j := by
  induction j with
  | zero => omega
  | succ j ih =>
    have h1 := numOf_lt_succ M hs j hjl hj
    by_cases h : i = j
    · subst h; exact h1
    · exact Nat.lt_trans (ih (by omega) (by omega)) h1

theorem numOf_inj (M : List Cell) (hj : noJunk M = true) (hs : runsShort M) {i j : Nat}
    (hi : i < M.length) (hjl : j < M.length) (h : numOf M i = numOf M j) : i = j := by
  rcases Nat.lt_trichotomy i j with hlt | heq | hgt
  · have := numOf_strictMono M hj hs hlt hjl; omega
  · exact heq
  · have := numOf_strictMono M hj hs hgt hi; omega

theorem numOf_old (M : List Cell) (i : Nat) (ho : (M.getD i default).old = true) :
    numOf M i = (countOld M i + 1) * 10000 := by rw [numOf, if_pos ho]

def pick {α : Type} : List α → List Bool → List α
  | x :: xs, true :: μ => x :: pick xs μ
  | _ :: xs, _ :: μ => pick xs μ
  | _, _ => []

@[simp] theorem pick_nil {α : Type} (μ : List Bool) : pick ([] : List α) μ = [] := rfl

@[simp] theorem pick_nil_mask {α : Type} (L : List α) : pick L [] = [] := by cases L <;> rfl

@[simp] theorem pick_cons_true {α : Type} (x : α) (xs : List α) (μ : List Bool) :
    pick (x :: xs) (true :: μ) = x :: pick xs μ := rfl

@[simp] theorem pick_cons_false {α : Type} (x : α) (xs : List α) (μ : List Bool) :
    pick (x :: xs) (false :: μ) = pick xs μ := rfl

theorem pick_map {α β : Type} (f : α → β) (L : List α) (μ : List Bool) :
    (pick L μ).map f = pick (L.map f) μ := by
  induction L generalizing μ with
  | nil => simp
  | cons x xs ih =>
    match μ with
    | [] => simp
    | true :: μ => simp [ih]
    | false :: μ => simp [ih]

theorem masked_eq_pick (M : List Cell) (μ : List Bool) : masked M μ = pick (M.map (·.line)) μ := by
  induction M generalizing μ with
  | nil => cases μ <;> rfl
  | cons x xs ih =>
    match μ with
    | [] => rfl
    | true :: μ => exact congrArg (x.line :: ·) (ih μ)
    | false :: μ => exact ih μ

theorem pick_mem_iff {α : Type} (L : List α) (μ : List Bool) (e : α) :
    e ∈ pick L μ ↔ ∃ i, μ.getD i false = true ∧ L[i]? = some e := by
  induction L generalizing μ with
  | nil => simp
  | cons x xs ih =>
    match μ with
    | [] => simp
    | m :: μ =>
      constructor
      · intro h
        have tail : e ∈ pick xs μ → ∃ i, (m :: μ).getD i false = true ∧ (x :: xs)[i]? = some e :=
          fun h => let ⟨i, hm, he⟩ := (ih μ).mp h; ⟨i + 1, hm, he⟩
        cases m with
        | false => exact tail h
        | true =>
          rcases List.mem_cons.mp h with rfl | h
          · exact ⟨0, rfl, rfl⟩
          · exact tail h
      · rintro ⟨i, hm, he⟩
        cases i with
        | zero =>
          have hm : m = true := hm
          have he : x = e := Option.some.inj he
          subst hm he
          exact List.mem_cons_self
        | succ i =>
          have := (ih μ).mpr ⟨i, hm, he⟩
          cases m with
          | false => exact this
          | true => exact List.mem_cons_of_mem _ this

theorem pick_subset {α : Type} (L : List α) (μ : List Bool) (e : α) (h : e ∈ pick L μ) : e ∈ L := by
  obtain ⟨i, _, he⟩ := (pick_mem_iff L μ e).mp h
  exact List.mem_of_getElem? he

def SortedNum (L : IosAcl) : Prop := L.Pairwise fun a b => a.1 < b.1

theorem iosInsert_lt_all (s : IosAcl) (n : Nat) (l : Line) (h : ∀ e ∈ s, n < e.1) :
    iosInsert s n l = (n, l) :: s := by
  cases s with
  | nil => rfl
  | cons e s => obtain ⟨m, x⟩ := e; simp [iosInsert, h (m, x) (List.mem_cons_self)]

theorem pick_insert (L : IosAcl) (hs : SortedNum L) (μ : List Bool) (j : Nat) (hj : j < L.length)
    (hl : μ.length = L.length) (hf : μ.getD j false = false) :
    iosInsert (pick L μ) L[j].1 L[j].2 = pick L (μ.set j true) := by
  induction L generalizing μ j with
  | nil => simp at hj
  | cons x xs ih =>
    obtain ⟨hx, hxs⟩ := List.pairwise_cons.mp hs
    obtain _ | ⟨m, μ⟩ := μ
    · simp at hl
    cases j with
    | zero =>
      have hm : m = false := hf
      subst hm
      exact iosInsert_lt_all _ _ _ fun e he => hx e (pick_subset _ _ _ he)
    | succ j =>
      have hj' : j < xs.length := Nat.lt_of_succ_lt_succ hj
      have ih' := ih hxs μ j hj' (Nat.succ.inj hl) hf
      cases m with
      | false => exact ih'
      | true =>
        have hlt : x.1 < xs[j].1 := hx _ (List.getElem_mem _)
        obtain ⟨n, y⟩ := x
        show iosInsert ((n, y) :: pick xs μ) xs[j].1 xs[j].2 = (n, y) :: pick xs (μ.set j true)
        rw [iosInsert, if_neg (Nat.lt_asymm hlt), ih']

theorem pick_delete (L : IosAcl) (hs : SortedNum L) (μ : List Bool) (j : Nat) (hj : j < L.length)
    (hl : μ.length = L.length) :
    (pick L μ).filter (fun e => e.1 != L[j].1) = pick L (μ.set j false) := by
  induction L generalizing μ j with
  | nil => simp at hj
  | cons x xs ih =>
    obtain ⟨hx, hxs⟩ := List.pairwise_cons.mp hs
    obtain _ | ⟨m, μ⟩ := μ
    · simp at hl
    cases j with
    | zero =>
      have hrest : (pick xs μ).filter (fun e => e.1 != x.1) = pick xs μ :=
        List.filter_eq_self.mpr fun e he =>
          bne_iff_ne.mpr (Nat.ne_of_gt (hx e (pick_subset _ _ _ he)))
      cases m with
      | false => exact hrest
      | true => exact (List.filter_cons_of_neg (by simp)).trans hrest
    | succ j =>
      have hj' : j < xs.length := Nat.lt_of_succ_lt_succ hj
      have ih' := ih hxs μ j hj' (Nat.succ.inj hl)
      cases m with
      | false => exact ih'
      | true =>
        have hlt : x.1 < xs[j].1 := hx _ (List.getElem_mem _)
        show (x :: pick xs μ).filter (fun e => e.1 != xs[j].1) = x :: pick xs (μ.set j false)
        rw [← ih']
        exact List.filter_cons_of_pos (bne_iff_ne.mpr (Nat.ne_of_lt hlt))

def allNum (M : List Cell) : IosAcl :=
  (List.range M.length).map fun i => (numOf M i, (M.getD i default).line)

def numbered (M : List Cell) (μ : List Bool) : IosAcl := pick (allNum M) μ

theorem allNum_length (M : List Cell) : (allNum M).length = M.length := by simp [allNum]

theorem allNum_getElem (M : List Cell) (i : Nat) (h : i < (allNum M).length) :
    (allNum M)[i] = (numOf M i, (M.getD i default).line) := by simp [allNum]

theorem allNum_sorted (M : List Cell) (hj : noJunk M = true) (hs : runsShort M) : SortedNum (allNum M) := by
  unfold SortedNum allNum
  rw [List.pairwise_map]
  refine List.Pairwise.imp_of_mem ?_ (List.pairwise_lt_range (n := M.length))
  intro a b _ hb hab
  exact numOf_strictMono M hj hs hab (List.mem_range.mp hb)

theorem allNum_lines (M : List Cell) : (allNum M).map (·.2) = M.map (·.line) := by
  rw [allNum, List.map_map]
  exact ListFacts.range_map_getD_map M (·.line)

theorem numbered_lines (M : List Cell) (μ : List Bool) : iosLines (numbered M μ) = masked M μ := by
  rw [iosLines, numbered, pick_map, allNum_lines, masked_eq_pick]

end NA.Acl
