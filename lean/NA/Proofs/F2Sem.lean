import NA.Proofs.F2Dev
import NA.Proofs.F2Shape
import NA.Proofs.F1Names
/-!
# F2: the decisions of the engine executed on the strict device — invariant and primitive steps

The walk over the engine maintains `SemN` (second half of the file); `Sem` (what the end-to-end theorem reads) is its view
(`SemN.toSem`).

`Sem e P d0 st d σ π`: the decisions taken so far (`st.acts`), executed from `d0`, are all accepted and
lead to `d`; the marks of `st` describe `d`:
* a device ACL that is not `needed` still has its original lines;
* a `ready` target ACL exists on the device under its current name with lines equivalent to the
  target's, and that name is a `needed` device ACL or a generated (fresh) name;
* a target ACL that is not `ready` has its generated name, which does not exist yet;
* the slots (interface, direction) are as the ghost status `σ` says;
* `needed` sub-commands are among the processed ones (`π`).
-/
namespace NA.F2
open NA.ListFacts
open NA.IosDev2
open NA.Acl (BlockEqG LineEqv)
open NA.F1 (genName lookupD addSet)

def actsRun (d : Dev) (acts : List MA) : Option Dev := evsRun d (acts.flatMap expand)

theorem actsRun_snoc (d : Dev) (acts : List MA) (a : MA) :
    actsRun d (acts ++ [a]) = (actsRun d acts).bind fun d' => evsRun d' (expand a) := by
  simp [actsRun, List.flatMap_append, evsRun_append]

/-- Equivalent as filters: block-equivalent modulo `log` (swaps inside runs of equal action,
replacement by a line equal modulo `log`), stated on the numeric encoding of the two lists
(`al`: further lines that take part in the numbering). -/
def AclEqv (x y : List ALine) : Prop := ∃ al, BlockEqG LineEqv (x.map (encP al y)) (y.map (encP al y))

theorem AclEqv_typed (y : List ALine) : AclEqv (y.map typed) y := by
  refine ⟨[], ?_⟩
  rw [List.map_map]
  exact (List.map_congr_left fun l _ => rfl) ▸ BlockEqG.refl _

theorem AclEqv_nil : AclEqv [] [] := ⟨[], BlockEqG.refl _⟩

/-- Exactly equal (under the numeric encoding of the two lists): same texts, same texts without `log`,
same actions, line by line. -/
def ExactEq (x y : List ALine) : Prop := ∃ al, x.map (encP al y) = y.map (encP al y)

theorem ExactEq_typed (y : List ALine) : ExactEq (y.map typed) y := by
  refine ⟨[], ?_⟩
  rw [List.map_map]
  exact List.map_congr_left fun l _ => rfl

theorem ExactEq_nil : ExactEq [] [] := ⟨[], rfl⟩

/-- The pairs of access lists the engine can compare: bound in the same direction to interfaces of
the same name. -/
def Cmp (e : Env) (aN bN : Name) : Prop :=
  ∃ ai ∈ e.a.intfs, ∃ bi ∈ e.b.intfs, ai.name = bi.name ∧
    ∃ ba ∈ ai.binds, ∃ bb ∈ bi.binds, ba.dir = bb.dir ∧ ba.acl = aN ∧ bb.acl = bN

theorem cmp_iff_mem_cmpPairs {e : Env} {aN bN : Name} : Cmp e aN bN ↔ (aN, bN) ∈ cmpPairs e.a e.b := mem_cmpPairs.symm

/-- Some pair the engine may compare for target ACL `bN` has a plan with a suppressed move. -/
def SupprT (e : Env) (bN : Name) : Prop :=
  ∃ aN, Cmp e aN bN ∧ noSupprPair (e.a.lines aN) (e.b.lines bN) (lookupD e.sc.acl (aN, bN)) = false

/-- What the run establishes for a `ready` target ACL: block-equivalent modulo `log`, and exactly equal
unless a move was suppressed. -/
def AclRel (e : Env) (bN : Name) (x y : List ALine) : Prop := AclEqv x y ∧ (ExactEq x y ∨ SupprT e bN)

/-- Static hypotheses on the pairs of access lists (decidable; evaluated by the driver). -/
structure WFE (e : Env) : Prop where
  pairs : ∀ aN bN, Cmp e aN bN → pairOK (e.a.lines aN) (e.b.lines bN) (lookupD e.sc.acl (aN, bN)) = true
  appendB : ∀ bN, e.b.hasAcl bN = true → appendOKFrom [] (e.b.lines bN) = true

inductive Status
  | orig
  | settled (bN : Name)
  | cleared

def SlotOK (d0 d : Dev) (st : St) (x dir : String) : Status → Prop
  | .orig => slotOf d x dir = slotOf d0 x dir
  | .settled bN => bN ∈ st.aReady ∧ slotOf d x dir = some (st.nameOf bN)
  | .cleared => slotOf d x dir = none

structure Sem (e : Env) (P : List Name) (d0 : Dev) (st : St) (d : Dev) (σ : String → String → Status) (π : List (Nat × Nat)) : Prop where
  run : actsRun d0 st.acts = some d
  prot : ∀ n, e.a.hasAcl n = true → n ∈ P → n ∈ st.aNeeded ∧ entriesOf d n = entriesOf d0 n
  mode : d.mode = none
  namesNd : (aclNames d).Nodup
  intfs : d.intfs.map (·.name) = d0.intfs.map (·.name)
  routes : d.routes = d0.routes
  aHas : ∀ n, e.a.hasAcl n = true → hasAcl d n = true
  aKeep : ∀ n, e.a.hasAcl n = true → n ∉ st.aNeeded → (entriesOf d n).map (·.2) = e.a.lines n
  ready : ∀ bN ∈ st.aReady, e.b.hasAcl bN = true ∧ hasAcl d (st.nameOf bN) = true ∧
    AclRel e bN (linesOf d (st.nameOf bN)) (e.b.lines bN) ∧
    (st.nameOf bN ∈ st.aNeeded ∨ e.a.hasAcl (st.nameOf bN) = false)
  fresh : ∀ bN, e.b.hasAcl bN = true → bN ∉ st.aReady →
    st.nameOf bN = genName bN (e.a.acls.map (·.1)) ∧ hasAcl d (st.nameOf bN) = false
  slots : ∀ x dir, isDir dir = true → SlotOK d0 d st x dir (σ x dir)
  bNeeded : ∀ p ∈ st.bNeeded, p ∈ π

theorem run_edit {e : Env} (hwf : WFE e) (aN bN : Name) (hcmp : Cmp e aN bN) (d : Dev) (hhas : hasAcl d aN = true)
    (hmode : d.mode = none) (hnd : (aclNames d).Nodup) (hlines : (entriesOf d aN).map (·.2) = e.a.lines aN) :
    ∃ esF, evsRun d (expand (.edit aN (e.a.lines aN) (e.b.lines bN) (lookupD e.sc.acl (aN, bN)))) =
        some (putAcl d aN esF) ∧ AclRel e bN (esF.map (·.2)) (e.b.lines bN) := by
  have hp := hwf.pairs aN bN hcmp
  simp only [pairOK, Bool.or_eq_true] at hp
  rcases hp with hp | hp
  · obtain ⟨esF, h1, h2, h3⟩ := edit_incremental aN _ _ _ hp d hhas hmode hnd hlines
    refine ⟨esF, h1, ⟨_, h2⟩, ?_⟩
    by_cases hns : noSupprPair (e.a.lines aN) (e.b.lines bN) (lookupD e.sc.acl (aN, bN)) = true
    · exact Or.inl ⟨_, h3 hns⟩
    · exact Or.inr ⟨aN, hcmp, by simpa using hns⟩
  · obtain ⟨esF, h1, h2⟩ := edit_replace aN _ _ _ hp d hhas hmode hnd hlines
    exact ⟨esF, h1, by rw [h2]; exact ⟨AclEqv_typed _, Or.inl (ExactEq_typed _)⟩⟩

def updσ (σ : String → String → Status) (x dir : String) (s : Status) : String → String → Status :=
  fun y d' => if y = x ∧ d' = dir then s else σ y d'

/-! ## The relation the walk maintains

`SemN` is `Sem` with the bookkeeping of names inside: which `ready` target ACL carries which name (injective; an adopted
device ACL or the generated name; every `needed` device ACL protected from the start or adopted), and that every
ACL of the device is a device ACL or the current name of a `ready` target ACL.  Its facts about ACL objects (`AclInv`) read
the ACL table of the device and the marks `needed`, `ready`, names; its facts about slots read the interfaces.  A step of
the engine changes one of the two: a transfer or an adoption makes one target ACL `ready` (`AclInv.ready_step`), a bind or
unbind sets one slot (`sem_setSlot`).  `Sem` is a view (`SemN.toSem`). -/

def BoundB (e : Env) (bN : Name) : Prop := ∃ bi ∈ e.b.intfs, ∃ bd ∈ bi.binds, bd.acl = bN

/-- How a `ready` target ACL got its name: a device ACL was adopted (then it is `needed` and not protected), or
the generated name. -/
def NameKind (e : Env) (P : List Name) (st : St) (bN : Name) : Prop :=
  (e.a.hasAcl (st.nameOf bN) = true ∧ st.nameOf bN ∈ st.aNeeded ∧ st.nameOf bN ∉ P) ∨
    st.nameOf bN = genName bN (e.a.acls.map (·.1))

/-- The ACL objects of the device against the marks.  Reads `d.acls` and `aNeeded`, `aReady`, `aName`. -/
structure AclInv (e : Env) (P : List Name) (d0 : Dev) (st : St) (d : Dev) : Prop where
  namesNd : (aclNames d).Nodup
  prot : ∀ n, e.a.hasAcl n = true → n ∈ P → entriesOf d n = entriesOf d0 n
  aHas : ∀ n, e.a.hasAcl n = true → hasAcl d n = true
  aKeep : ∀ n, e.a.hasAcl n = true → n ∉ st.aNeeded → (entriesOf d n).map (·.2) = e.a.lines n
  ready : ∀ bN ∈ st.aReady, e.b.hasAcl bN = true ∧ BoundB e bN ∧ hasAcl d (st.nameOf bN) = true ∧
    AclRel e bN (linesOf d (st.nameOf bN)) (e.b.lines bN) ∧ NameKind e P st bN
  inj : ∀ b1 ∈ st.aReady, ∀ b2 ∈ st.aReady, st.nameOf b1 = st.nameOf b2 → b1 = b2
  fresh : ∀ bN, e.b.hasAcl bN = true → bN ∉ st.aReady →
    st.nameOf bN = genName bN (e.a.acls.map (·.1)) ∧ hasAcl d (st.nameOf bN) = false
  needed : ∀ n ∈ st.aNeeded, n ∈ P ∨ ∃ bN ∈ st.aReady, n = st.nameOf bN
  pNeeded : ∀ n ∈ P, n ∈ st.aNeeded
  origin : ∀ x, hasAcl d x = true → e.a.hasAcl x = true ∨ ∃ bN ∈ st.aReady, x = st.nameOf bN

theorem AclInv.congr {e : Env} {P : List Name} {d0 : Dev} {st st' : St} {d d' : Dev} (h : AclInv e P d0 st d)
    (hd : d'.acls = d.acls) (hN : st'.aNeeded = st.aNeeded) (hR : st'.aReady = st.aReady) (hA : st'.aName = st.aName) :
    AclInv e P d0 st' d' := by
  cases st; cases st'; cases d; cases d'
  subst hd hN hR hA
  exact ⟨h.namesNd, h.prot, h.aHas, h.aKeep, h.ready, h.inj, h.fresh, h.needed, h.pNeeded, h.origin⟩

/-- A target ACL `bN` becomes `ready` under the name `g`; on the device only the ACL `g` changes (adoption of the
device ACL `g`, which becomes `needed`) or appears (transfer under the generated name). -/
theorem AclInv.ready_step {e : Env} {P : List Name} {d0 : Dev} {st st' : St} {d d' : Dev} (h : AclInv e P d0 st d)
    {bN g : Name} (hb : e.b.hasAcl bN = true) (hbd : BoundB e bN) (hnr : bN ∉ st.aReady)
    (hR : st'.aReady = bN :: st.aReady) (hg : st'.nameOf bN = g) (hname : ∀ x, x ≠ bN → st'.nameOf x = st.nameOf x)
    (hkind : (e.a.hasAcl g = true ∧ g ∉ st.aNeeded ∧ ∀ n, n ∈ st'.aNeeded ↔ n = g ∨ n ∈ st.aNeeded) ∨
      (g = genName bN (e.a.acls.map (·.1)) ∧ hasAcl d g = false ∧ st'.aNeeded = st.aNeeded))
    (hnd : (aclNames d').Nodup) (hhas : ∀ x, hasAcl d' x = (hasAcl d x || x == g))
    (hent : ∀ x, x ≠ g → entriesOf d' x = entriesOf d x)
    (hrel : AclRel e bN (linesOf d' g) (e.b.lines bN)) : AclInv e P d0 st' d' := by
  have hne : ∀ y ∈ st.aReady, y ≠ bN := fun y hy hc => hnr (hc ▸ hy)
  have hmem : ∀ y ∈ st.aReady, y ∈ st'.aReady := fun y hy => hR ▸ List.mem_cons_of_mem _ hy
  have hself : bN ∈ st'.aReady := hR ▸ List.mem_cons_self ..
  have hmono : ∀ n ∈ st.aNeeded, n ∈ st'.aNeeded := fun n hn => by
    rcases hkind with ⟨_, _, k⟩ | ⟨_, _, k⟩
    · exact (k n).mpr (Or.inr hn)
    · rw [k]; exact hn
  -- a device ACL other than an adopted one is not `g`
  have hdev : ∀ n, e.a.hasAcl n = true → (n ∈ st.aNeeded ∨ n ∉ st'.aNeeded) → n ≠ g := by
    intro n hn hc heq
    rcases hkind with ⟨_, k2, k3⟩ | ⟨_, k2, _⟩
    · rcases hc with hc | hc
      · exact k2 (heq ▸ hc)
      · exact hc ((k3 n).mpr (Or.inl heq))
    · rw [← heq, h.aHas n hn] at k2; cases k2
  -- no `ready` ACL has the name `g`
  have hdiff : ∀ y ∈ st.aReady, st.nameOf y ≠ g := by
    intro y hy heq
    obtain ⟨_, _, j3, _, j5⟩ := h.ready y hy
    rcases hkind with ⟨k1, k2, _⟩ | ⟨_, k2, _⟩
    · rcases j5 with ⟨_, j, _⟩ | j
      · exact k2 (heq ▸ j)
      · rw [← heq, j, genName_not_hasAcl] at k1; cases k1
    · rw [heq, k2] at j3; cases j3
  have hkeepLines : ∀ y ∈ st.aReady, linesOf d' (st.nameOf y) = linesOf d (st.nameOf y) := fun y hy => by
    simp only [linesOf, hent _ (hdiff y hy)]
  -- a name of a `ready` ACL stays one; `g` is one now
  have hex : ∀ n, (∃ y ∈ st.aReady, n = st.nameOf y) → ∃ y ∈ st'.aReady, n = st'.nameOf y := fun n ⟨y, k1, k2⟩ =>
    ⟨y, hmem y k1, by rw [hname y (hne y k1)]; exact k2⟩
  have hgex : ∃ y ∈ st'.aReady, g = st'.nameOf y := ⟨bN, hself, hg.symm⟩
  constructor
  · exact hnd
  · intro n hn hp
    rw [hent n (hdev n hn (Or.inl (h.pNeeded n hp)))]
    exact h.prot n hn hp
  · intro n hn; rw [hhas, h.aHas n hn]; rfl
  · intro n hn hnn
    rw [hent n (hdev n hn (Or.inr hnn))]
    exact h.aKeep n hn fun hc => hnn (hmono n hc)
  · intro x hx
    rw [hR] at hx
    rcases List.mem_cons.mp hx with rfl | hx'
    · refine ⟨hb, hbd, by rw [hg, hhas, beq_self_eq_true, Bool.or_true], by rw [hg]; exact hrel, ?_⟩
      unfold NameKind
      rw [hg]
      rcases hkind with ⟨k1, k2, k3⟩ | ⟨k1, _, _⟩
      · exact Or.inl ⟨k1, (k3 g).mpr (Or.inl rfl), fun hc => k2 (h.pNeeded g hc)⟩
      · exact Or.inr k1
    · obtain ⟨j1, j2, j3, j4, j5⟩ := h.ready x hx'
      unfold NameKind at j5 ⊢
      rw [hname x (hne x hx')]
      exact ⟨j1, j2, by rw [hhas, j3]; rfl, by rw [hkeepLines x hx']; exact j4,
        j5.imp (fun ⟨k1, k2, k3⟩ => ⟨k1, hmono _ k2, k3⟩) id⟩
  · intro b1 hb1 b2 hb2 hh
    rw [hR] at hb1 hb2
    rcases List.mem_cons.mp hb1 with rfl | hb1' <;> rcases List.mem_cons.mp hb2 with rfl | hb2'
    · rfl
    · rw [hg, hname b2 (hne b2 hb2')] at hh; exact absurd hh.symm (hdiff b2 hb2')
    · rw [hg, hname b1 (hne b1 hb1')] at hh; exact absurd hh (hdiff b1 hb1')
    · rw [hname b1 (hne b1 hb1'), hname b2 (hne b2 hb2')] at hh; exact h.inj b1 hb1' b2 hb2' hh
  · intro x hxb hx
    have hxne : x ≠ bN := fun hc => hx (hc ▸ hself)
    obtain ⟨k1, k2⟩ := h.fresh x hxb fun hc => hx (hmem x hc)
    rw [hname x hxne]
    refine ⟨k1, ?_⟩
    rw [hhas, k2, Bool.false_or, Bool.eq_false_iff]
    intro hc
    have heq : st.nameOf x = g := beq_iff_eq.mp hc
    rcases hkind with ⟨j1, _, _⟩ | ⟨j1, _, _⟩
    · rw [← heq, k1, genName_not_hasAcl] at j1; cases j1
    · rw [k1, j1] at heq; exact hxne (NA.F1.genName_injective heq)
  · intro n hn
    rcases hkind with ⟨_, _, k⟩ | ⟨_, _, k⟩
    · rcases (k n).mp hn with rfl | hn'
      · exact Or.inr hgex
      · exact (h.needed n hn').imp id (hex n)
    · exact (h.needed n (k ▸ hn)).imp id (hex n)
  · exact fun n hn => hmono n (h.pNeeded n hn)
  · intro x hx
    rw [hhas, Bool.or_eq_true, beq_iff_eq] at hx
    rcases hx with hx | rfl
    · exact (h.origin x hx).imp id (hex x)
    · exact Or.inr hgex

theorem noRoute_snoc {acts : List MA} (h : ∀ act ∈ acts, isRouteAct act = false) {a : MA} (ha : isRouteAct a = false) :
    ∀ act ∈ acts ++ [a], isRouteAct act = false := fun act hact =>
  (List.mem_append.mp hact).elim (h act) fun k => List.mem_singleton.mp k ▸ ha

structure SemN (e : Env) (P : List Name) (d0 : Dev) (st : St) (d : Dev) (σ : String → String → Status) : Prop where
  run : actsRun d0 st.acts = some d
  acts : ∀ act ∈ st.acts, isRouteAct act = false
  mode : d.mode = none
  intfs : d.intfs.map (·.name) = d0.intfs.map (·.name)
  routes : d.routes = d0.routes
  acls : AclInv e P d0 st d
  slots : ∀ x dir, isDir dir = true → SlotOK d0 d st x dir (σ x dir)

/-- `Sem` is a view (its second ghost, the processed sub-commands, are the `needed` ones). -/
theorem SemN.toSem {e : Env} {P : List Name} {d0 : Dev} {st : St} {d : Dev} {σ : String → String → Status}
    (h : SemN e P d0 st d σ) : Sem e P d0 st d σ st.bNeeded :=
  ⟨h.run, fun n hn hp => ⟨h.acls.pNeeded n hp, h.acls.prot n hn hp⟩, h.mode, h.acls.namesNd, h.intfs, h.routes, h.acls.aHas, h.acls.aKeep,
    fun bN hbN => by
      obtain ⟨j1, _, j3, j4, j5⟩ := h.acls.ready bN hbN
      exact ⟨j1, j3, j4, j5.elim (fun k => Or.inl k.2.1) fun k => Or.inr (k ▸ genName_not_hasAcl e.a bN)⟩,
    h.acls.fresh, h.slots, fun _ hp => hp⟩

/-- The facts about the marks alone as one record (nothing builds it: the walk keeps the first six as fields of `AclInv`,
where `after_of_core` reads them, and the last as `SemN.acts`): the name function is injective on the
`ready` target ACLs; a `ready` target ACL is bound by a target interface; its name is an adopted device ACL (then `needed`,
not protected) or the generated name; every `needed` device ACL is protected from the start or adopted; every ACL created
by a decision is the name of a `ready` target ACL; the interface phase decides no route command. -/
structure NInv (e : Env) (P : List Name) (st : St) : Prop where
  inj : ∀ b1 ∈ st.aReady, ∀ b2 ∈ st.aReady, st.nameOf b1 = st.nameOf b2 → b1 = b2
  bound : ∀ bN ∈ st.aReady, e.b.hasAcl bN = true ∧ BoundB e bN
  kind : ∀ bN ∈ st.aReady,
    (e.a.hasAcl (st.nameOf bN) = true ∧ st.nameOf bN ∈ st.aNeeded ∧ st.nameOf bN ∉ P) ∨
      st.nameOf bN = genName bN (e.a.acls.map (·.1))
  fresh : ∀ bN, e.b.hasAcl bN = true → bN ∉ st.aReady → st.nameOf bN = genName bN (e.a.acls.map (·.1))
  needed : ∀ n ∈ st.aNeeded, n ∈ P ∨ ∃ bN ∈ st.aReady, n = st.nameOf bN
  pNeeded : ∀ n ∈ P, n ∈ st.aNeeded
  acts : ∀ act ∈ st.acts, (∀ n ls, act = .transfer n ls → ∃ bN ∈ st.aReady, n = st.nameOf bN) ∧
    (∀ aN al bl rs, act = .edit aN al bl rs → e.a.hasAcl aN = true)
  noRoute : ∀ act ∈ st.acts, isRouteAct act = false

theorem slotOK_mono {d0 d d' : Dev} {st st' : St} {x dir : String} {s : Status} (h : SlotOK d0 d st x dir s)
    (hs : slotOf d' x dir = slotOf d x dir) (hR : ∀ y ∈ st.aReady, y ∈ st'.aReady ∧ st'.nameOf y = st.nameOf y) :
    SlotOK d0 d' st' x dir s := by
  cases s with
  | orig => exact hs.trans h
  | settled y => exact ⟨(hR y h.1).1, by rw [hs, (hR y h.1).2]; exact h.2⟩
  | cleared => exact hs.trans h

theorem SemN.congr {e : Env} {P : List Name} {d0 : Dev} {st st' : St} {d : Dev} {σ : String → String → Status}
    (h : SemN e P d0 st d σ) (hacts : st'.acts = st.acts) (hN : st'.aNeeded = st.aNeeded)
    (hR : st'.aReady = st.aReady) (hA : st'.aName = st.aName) : SemN e P d0 st' d σ := by
  have hname : ∀ y, st'.nameOf y = st.nameOf y := fun y => by simp only [St.nameOf, hA]
  exact ⟨hacts ▸ h.run, hacts ▸ h.acts, h.mode, h.intfs, h.routes, h.acls.congr rfl hN hR hA,
    fun x dir hd => slotOK_mono (h.slots x dir hd) rfl fun y hy => ⟨hR ▸ hy, hname y⟩⟩

theorem sem_transfer {e : Env} (hwf : WFE e) {P : List Name} {d0 : Dev} {st : St} {d : Dev} {σ : String → String → Status}
    (h : SemN e P d0 st d σ) (bN : Name) (hb : e.b.hasAcl bN = true) (hbd : BoundB e bN) :
    ∃ d', SemN e P d0 (transferAcl e st bN) d' σ ∧ bN ∈ (transferAcl e st bN).aReady ∧
      (transferAcl e st bN).bNeeded = st.bNeeded := by
  unfold transferAcl
  by_cases hr : st.aReady.contains bN = true
  · rw [if_pos hr]
    exact ⟨d, h, List.contains_iff_mem.mp hr, rfl⟩
  · rw [if_neg hr]
    have hnr : bN ∉ st.aReady := fun hc => hr (List.contains_iff_mem.mpr hc)
    obtain ⟨hg, hgd⟩ := h.acls.fresh bN hb hnr
    obtain ⟨es, hrun, hes⟩ := run_transfer d (st.nameOf bN) (e.b.lines bN) hgd h.acls.namesNd (hwf.appendB bN hb)
    refine ⟨addAcl d (st.nameOf bN) es, ?_, List.mem_cons_self .., rfl⟩
    refine ⟨?_, noRoute_snoc h.acts rfl, rfl, h.intfs, h.routes, ?_,
      fun x dir hd => slotOK_mono (h.slots x dir hd) rfl fun y hy => ⟨List.mem_cons_of_mem _ hy, rfl⟩⟩
    · show actsRun d0 (st.acts ++ [_]) = _
      rw [actsRun_snoc, h.run, Option.bind_some, hrun]
    · refine h.acls.ready_step (g := st.nameOf bN) hb hbd hnr rfl rfl (fun _ _ => rfl) (Or.inr ⟨hg, hgd, rfl⟩)
        (nodup_aclNames_addAcl d _ es h.acls.namesNd hgd) (fun x => hasAcl_addAcl d _ x es)
        (fun x hx => by rw [entriesOf_addAcl d _ x es hgd, if_neg (by simpa using hx)]) ?_
      have : linesOf (addAcl d (st.nameOf bN) es) (st.nameOf bN) = (e.b.lines bN).map typed := by
        simp only [linesOf, entriesOf_addAcl d _ _ es hgd, beq_self_eq_true, ↓reduceIte]; exact hes
      rw [this]; exact ⟨AclEqv_typed _, Or.inl (ExactEq_typed _)⟩

theorem sem_diffAcl {e : Env} (hwf : WFE e) {P : List Name} {d0 : Dev} {st : St} {d : Dev} {σ : String → String → Status}
    (h : SemN e P d0 st d σ) (aN bN : Name) (ha : e.a.hasAcl aN = true)
    (hb : e.b.hasAcl bN = true) (hcmp : Cmp e aN bN) :
    ∃ d', SemN e P d0 (diffAcl e st aN bN).1 d' σ ∧ bN ∈ (diffAcl e st aN bN).1.aReady ∧
      (diffAcl e st aN bN).2 = (diffAcl e st aN bN).1.nameOf bN ∧
      (diffAcl e st aN bN).1.bNeeded = st.bNeeded := by
  have hbd : BoundB e bN := by
    obtain ⟨_, _, bi, hbi, _, _, _, bb, hbb, _, _, hbN⟩ := hcmp
    exact ⟨bi, hbi, bb, hbb, hbN⟩
  rcases diffAcl_cases e st aN bN with ⟨_, hd⟩ | ⟨_, hr', hd⟩ | ⟨hnn, hnr, hd⟩ <;> rw [hd]
  · have h' : SemN e P d0 (st.hit "acl:device-acl-needed") d σ := h.congr rfl rfl rfl rfl
    obtain ⟨d', hs, hr, hbn⟩ := sem_transfer hwf h' bN hb hbd
    exact ⟨d', hs, hr, rfl, hbn⟩
  · exact ⟨d, h.congr rfl rfl rfl rfl, hr', rfl, rfl⟩
  · have hkeep := h.acls.aKeep aN ha hnn
    have hhas := h.acls.aHas aN ha
    obtain ⟨f1, f2, f3, f4, _, _, facts⟩ := adopt_marks e st aN bN
    obtain ⟨hname_bN, hname_other⟩ := nameOf_adopted f2
    obtain ⟨esF, hrun', hnoR, heqv⟩ : ∃ esF, actsRun d0 (diffLines e (adoptSt st aN bN) aN bN).acts = some (putAcl d aN esF) ∧
        (∀ act ∈ (diffLines e (adoptSt st aN bN) aN bN).acts, isRouteAct act = false) ∧
        AclRel e bN (esF.map (·.2)) (e.b.lines bN) := by
      by_cases hemp : ((e.a.lines aN).isEmpty && (e.b.lines bN).isEmpty) = true
      · rw [if_pos hemp] at facts
        refine ⟨entriesOf d aN, by rw [facts, putAcl_self d aN h.mode h.acls.namesNd]; exact h.run,
          facts ▸ h.acts, ?_⟩
        simp only [Bool.and_eq_true, List.isEmpty_iff] at hemp
        rw [hkeep, hemp.1, hemp.2]; exact ⟨AclEqv_nil, Or.inl ExactEq_nil⟩
      · rw [if_neg hemp] at facts
        obtain ⟨esF, h1, h2⟩ := run_edit hwf aN bN hcmp d hhas h.mode h.acls.namesNd hkeep
        exact ⟨esF, by rw [facts, actsRun_snoc, h.run, Option.bind_some, h1], facts ▸ noRoute_snoc h.acts rfl, h2⟩
    generalize diffLines e (adoptSt st aN bN) aN bN = st' at f1 f2 f3 f4 hname_bN hname_other hrun' hnoR
    refine ⟨putAcl d aN esF, ?_, by rw [f3]; exact List.mem_cons_self .., hname_bN.symm, f4⟩
    refine ⟨hrun', hnoR, rfl, h.intfs, h.routes, ?_, fun x dir hd => slotOK_mono (h.slots x dir hd) rfl fun y hy =>
      ⟨by rw [f3]; exact List.mem_cons_of_mem _ hy, hname_other y fun hc => hnr (hc ▸ hy)⟩⟩
    refine h.acls.ready_step hb hbd hnr f3 hname_bN hname_other (Or.inl ⟨ha, hnn, fun n => by rw [f1, List.mem_cons]⟩)
      (by rw [names_putAcl]; exact h.acls.namesNd) (fun x => ?_) (fun x hx => entriesOf_putAcl_other d aN x esF hx) ?_
    · rw [hasAcl_putAcl]
      by_cases hx : x = aN
      · rw [hx, hhas]; rfl
      · rw [beq_false_of_ne hx, Bool.or_false]
    · simp only [linesOf, entriesOf_putAcl_self d aN esF hhas]
      exact heqv

/-- A change of one slot: the ACL objects are framed (`AclInv.congr`), only the slots are looked at. -/
theorem sem_setSlot {e : Env} {P : List Name} {d0 : Dev} {st st' : St} {d : Dev} {σ : String → String → Status}
    (h : SemN e P d0 st d σ) (x dir : String) (v : Option Name) (s : Status)
    (hd : isDir dir = true) (hrun : actsRun d0 st'.acts = some (strip (setSlot d x dir v)))
    (hnoR : ∀ act ∈ st'.acts, isRouteAct act = false)
    (hN : st'.aNeeded = st.aNeeded) (hR : st'.aReady = st.aReady) (hA : st'.aName = st.aName)
    (hs : SlotOK d0 (strip (setSlot d x dir v)) st' x dir s) :
    SemN e P d0 st' (strip (setSlot d x dir v)) (updσ σ x dir s) := by
  have hname : ∀ y, st'.nameOf y = st.nameOf y := fun y => by simp only [St.nameOf, hA]
  refine ⟨hrun, hnoR, rfl, (intfNames_setSlot d x dir v).trans h.intfs, h.routes, h.acls.congr rfl hN hR hA, ?_⟩
  intro y dir' hd'
  unfold updσ
  by_cases hc : y = x ∧ dir' = dir
  · rw [if_pos hc]; obtain ⟨rfl, rfl⟩ := hc; exact hs
  · rw [if_neg hc]
    have hslot : slotOf (strip (setSlot d x dir v)) y dir' = slotOf d y dir' := by
      rw [slotOf_strip]
      by_cases hy : y = x
      · subst hy
        exact slotOf_setSlot_otherDir d y dir dir' v hd hd' fun hc' => hc ⟨rfl, hc'⟩
      · exact slotOf_setSlot_otherIntf d x y dir dir' v hy
    exact slotOK_mono (h.slots y dir' hd') hslot fun z hz => ⟨hR ▸ hz, hname z⟩

/-! ## steps on the `ip access-group` sub-commands of one interface

The walk carries, beside the relation, that every `needed` sub-command of the device is one whose slot has been
processed (`Logged`): so a sub-command whose slot is untouched is not `needed` yet.  The steps of the folds (`sem_delBind1`,
`sem_addBind1`, `sem_makeEqualBind`) take and give `Walk`; `sem_transfer`, `sem_diffAcl`, `sem_setSlot`, `sem_bind` are about
`SemN` with its device and hand back the next device, because they are also applied between marking a sub-command and
setting its slot, where `Logged` does not hold. -/

def slotKey (e : Env) (i k : Nat) : String × String :=
  ((e.a.intfs.getD i default).name, ((e.a.intfs.getD i default).binds.getD k default).dir)

def Logged (e : Env) (st : St) (σ : String → String → Status) : Prop :=
  ∀ p ∈ st.bNeeded, σ (slotKey e p.1 p.2).1 (slotKey e p.1 p.2).2 ≠ .orig

def Walk (e : Env) (P : List Name) (d0 : Dev) (st : St) (σ : String → String → Status) : Prop :=
  (∃ d, SemN e P d0 st d σ) ∧ Logged e st σ

theorem Logged.upd {e : Env} {st st' : St} {σ : String → String → Status} (h : Logged e st σ) {x dir : String} {s : Status}
    (hs : s ≠ .orig) (hB : ∀ p ∈ st'.bNeeded, p ∈ st.bNeeded ∨ slotKey e p.1 p.2 = (x, dir)) :
    Logged e st' (updσ σ x dir s) := by
  intro p hp
  unfold updσ
  split
  · exact hs
  · rename_i hc
    rcases hB p hp with k | k
    · exact h p k
    · exact absurd ⟨congrArg Prod.fst k, congrArg Prod.snd k⟩ hc

theorem Walk.congr {e : Env} {P : List Name} {d0 : Dev} {st st' : St} {σ : String → String → Status} (h : Walk e P d0 st σ)
    (hacts : st'.acts = st.acts) (hN : st'.aNeeded = st.aNeeded) (hR : st'.aReady = st.aReady) (hA : st'.aName = st.aName)
    (hB : st'.bNeeded = st.bNeeded) : Walk e P d0 st' σ :=
  ⟨h.1.imp fun _ hd => hd.congr hacts hN hR hA, fun p hp => h.2 p (hB ▸ hp)⟩

theorem sem_delBind1 {e : Env} {P : List Name} {d0 : Dev} {st : St} {σ : String → String → Status}
    (h : Walk e P d0 st σ) (i : Nat) (x : String) (al : List Bind) (k : Nat)
    (hkey : slotKey e i k = (x, (al.getD k default).dir)) (hd : isDir (al.getD k default).dir = true)
    (hx : hasIntf d0 x = true) (hσ : σ x (al.getD k default).dir = .orig)
    (h0 : slotOf d0 x (al.getD k default).dir = some (al.getD k default).acl) :
    Walk e P d0 (delBind1 e i x al st k) (updσ σ x (al.getD k default).dir .cleared) := by
  obtain ⟨⟨d, h⟩, hL⟩ := h
  have hnb : st.bNeeded.contains (i, k) = false := by
    rw [Bool.eq_false_iff]; intro hc
    have := hL (i, k) (List.contains_iff_mem.mp hc)
    rw [hkey] at this
    exact this hσ
  have hxd : hasIntf d x = true := by rw [hasIntf_of_names h.intfs]; exact hx
  have hslot : slotOf d x (al.getD k default).dir = some (al.getD k default).acl := by
    have := h.slots x _ hd
    rw [hσ] at this
    exact this.trans h0
  -- the mark and the decision first; the `toDelete` mark on the ACL is not read
  have h1 : Walk e P d0 (({ st with bNeeded := (i, k) :: st.bNeeded } : St).act
      (.unbind x (al.getD k default).acl (al.getD k default).dir) |>.hit "bind:del")
      (updσ σ x (al.getD k default).dir .cleared) := by
    refine ⟨⟨_, sem_setSlot h x _ none .cleared hd ?_ (noRoute_snoc h.acts rfl) rfl rfl rfl
      (by show slotOf (strip _) _ _ = none; rw [slotOf_strip]; exact slotOf_setSlot_same d x _ none hxd)⟩,
      hL.upd (fun hc => nomatch hc) fun p hp => (List.mem_cons.mp hp).elim (fun k => Or.inr (k ▸ hkey)) Or.inl⟩
    show actsRun d0 (st.acts ++ [_]) = _
    rw [actsRun_snoc, h.run, Option.bind_some, run_unbind d x _ _ hxd hslot]
  unfold delBind1
  simp only [hnb, Bool.false_eq_true, ↓reduceIte]
  generalize (({ st with bNeeded := (i, k) :: st.bNeeded } : St).act
      (.unbind x (al.getD k default).acl (al.getD k default).dir) |>.hit "bind:del") = st1 at h1 ⊢
  split
  · exact h1.congr rfl rfl rfl rfl rfl
  · exact h1

theorem sem_bind {e : Env} {P : List Name} {d0 : Dev} {st : St} {d : Dev} {σ : String → String → Status}
    (h : SemN e P d0 st d σ) (x : String) (b : Bind) (hr : b.acl ∈ st.aReady)
    (hd : isDir b.dir = true) (hx : hasIntf d0 x = true) (s : String) :
    ∃ d', SemN e P d0 ((st.act (.bind x (st.nameOf b.acl) b.dir)).hit s) d' (updσ σ x b.dir (.settled b.acl)) := by
  have hxd : hasIntf d x = true := by rw [hasIntf_of_names h.intfs]; exact hx
  obtain ⟨_, _, hhas, _, _⟩ := h.acls.ready b.acl hr
  refine ⟨_, sem_setSlot h x b.dir (some (st.nameOf b.acl)) (.settled b.acl) hd ?_ (noRoute_snoc h.acts rfl)
    rfl rfl rfl ⟨hr, by rw [slotOf_strip]; exact slotOf_setSlot_same d x b.dir _ hxd⟩⟩
  show actsRun d0 (st.acts ++ [_]) = _
  rw [actsRun_snoc, h.run, Option.bind_some, run_bind d x _ b.dir hxd hhas]

theorem sem_addBind1 {e : Env} (hwf : WFE e) {P : List Name} {d0 : Dev} {st : St} {σ : String → String → Status}
    (h : Walk e P d0 st σ) (x : String) (b : Bind)
    (hb : e.b.hasAcl b.acl = true) (hbd : BoundB e b.acl) (hd : isDir b.dir = true) (hx : hasIntf d0 x = true) :
    Walk e P d0 (addBind1 e x st b) (updσ σ x b.dir (.settled b.acl)) := by
  obtain ⟨⟨d, h⟩, hL⟩ := h
  obtain ⟨d1, h1, hr, hbn⟩ := sem_transfer hwf h b.acl hb hbd
  unfold addBind1
  simp only [hb, ↓reduceIte]
  generalize transferAcl e st b.acl = st1 at h1 hr hbn ⊢
  exact ⟨sem_bind h1 x b hr hd hx _, hL.upd (fun hc => nomatch hc) fun p hp => Or.inl (hbn ▸ hp)⟩

theorem sem_makeEqualBind {e : Env} (hwf : WFE e) {P : List Name} {d0 : Dev} {st : St} {σ : String → String → Status}
    (h : Walk e P d0 st σ) (i k : Nat) (x : String) (a b : Bind) (hkey : slotKey e i k = (x, b.dir))
    (ha : e.a.hasAcl a.acl = true) (hb : e.b.hasAcl b.acl = true) (hcmp : Cmp e a.acl b.acl)
    (hd : isDir b.dir = true) (hx : hasIntf d0 x = true)
    (hσ : σ x b.dir = .orig) (h0 : slotOf d0 x b.dir = some a.acl) :
    Walk e P d0 (makeEqualBind e st i k x a b) (updσ σ x b.dir (.settled b.acl)) := by
  obtain ⟨⟨d, h⟩, hL⟩ := h
  obtain ⟨d1, h1, hr, href, hbn⟩ := sem_diffAcl hwf
    (h.congr (st' := { st with bNeeded := (i, k) :: st.bNeeded }) rfl rfl rfl rfl) a.acl b.acl ha hb hcmp
  unfold makeEqualBind
  simp only [ha, hb, Bool.and_self, ↓reduceIte]
  generalize diffAcl e { st with bNeeded := (i, k) :: st.bNeeded } a.acl b.acl = r at h1 hr href hbn ⊢
  obtain ⟨st1, ref⟩ := r
  simp only at h1 hr href hbn ⊢
  have hlog : Logged e st1 (updσ σ x b.dir (.settled b.acl)) :=
    hL.upd (fun hc => nomatch hc) fun p hp => (List.mem_cons.mp (show p ∈ (i, k) :: st.bNeeded from hbn ▸ hp)).elim (fun k => Or.inr (k ▸ hkey)) Or.inl
  by_cases hne : (ref != a.acl) = true
  · simp only [hne, ↓reduceIte]
    exact ⟨sem_bind h1 x b hr hd hx _, hlog⟩
  · simp only [hne, Bool.false_eq_true, ↓reduceIte]
    have heq : ref = a.acl := by simpa using hne
    -- nothing is sent: the slot already holds the right name
    have hslot : slotOf d1 x b.dir = some a.acl := by
      have := h1.slots x b.dir hd
      rw [hσ] at this
      exact this.trans h0
    refine ⟨⟨d1, { h1 with slots := ?_ }⟩, hlog⟩
    intro y dir' hd'
    unfold updσ
    by_cases hc : y = x ∧ dir' = b.dir
    · simp only [hc, and_self, ↓reduceIte]
      exact ⟨hr, by rw [hslot]; exact congrArg some (heq.symm.trans href)⟩
    · simp only [hc, ↓reduceIte]
      exact h1.slots y dir' hd'

end NA.F2
