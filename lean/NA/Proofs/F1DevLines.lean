import NA.Proofs.F1Sem
import NA.Proofs.F1DevAcl
/-!
# F1: the second phase of `diffASAACLs` on the strict device

The planned line operations (with the transfers of referenced groups in front of each added line) are
accepted; the device's access list follows the presence masks of `NA.Acl.MaskRun`.
-/
namespace NA.F1
open NA.AsaDev
open NA.Acl (MaskRun masked cnt)

structure AStep (e : Env) (st : St) (d : Dev) (st' : St) (d' : Dev) (aN : Name) : Prop where
  sem : Sem e st' d'
  out : ∃ cs, st'.out = st.out ++ cs ∧ exec d cs = some d'
  stable : ∀ x, hasGroup d x = true → Frozen e st x → membersOf d' x = membersOf d x
  hasMono : ∀ x, hasGroup d x = true → hasGroup d' x = true
  grow : ∀ x ∈ st.gNeeded, x ∈ st'.gNeeded
  readyMono : ∀ g ∈ st.gReady, g ∈ st'.gReady
  others : ∀ n', n' ≠ aN → linesOf d' n' = linesOf d n'
  binds : d'.binds = d.binds
  routes : d'.routes = d.routes
  intfs : d'.intfs = d.intfs
  gName : st'.gName = st.gName
  aclKeys : d'.acls.map (·.1) = d.acls.map (·.1)

theorem AStep.silent {e : Env} {st st' : St} {d : Dev} (h : Sem e st' d) (ho : st'.out = st.out)
    (hn : st'.gNeeded = st.gNeeded) (hr : st'.gReady = st.gReady) (hg : st'.gName = st.gName) (aN : Name) :
    AStep e st d st' d aN :=
  ⟨h, out_refl d ho, fun _ _ _ => rfl, fun _ hx => hx, fun _ hx => by rw [hn]; exact hx,
    fun _ hx => by rw [hr]; exact hx, fun _ _ => rfl, rfl, rfl, rfl, hg, rfl⟩

theorem AStep.refl {e : Env} {st : St} {d : Dev} (h : Sem e st d) (aN : Name) : AStep e st d st d aN :=
  AStep.silent h rfl rfl rfl rfl aN

theorem AStep.trans {e : Env} {s1 s2 s3 : St} {d1 d2 d3 : Dev} {aN : Name}
    (h1 : AStep e s1 d1 s2 d2 aN) (h2 : AStep e s2 d2 s3 d3 aN) : AStep e s1 d1 s3 d3 aN := by
  refine ⟨h2.sem, out_trans h1.out h2.out, ?_, ?_, ?_, ?_, ?_,
    h2.binds.trans h1.binds, h2.routes.trans h1.routes, h2.intfs.trans h1.intfs, h2.gName.trans h1.gName,
    h2.aclKeys.trans h1.aclKeys⟩
  · intro x hx hf
    rw [h2.stable x (h1.hasMono x hx) (hf.mono h1.grow), h1.stable x hx hf]
  · exact fun x hx => h2.hasMono x (h1.hasMono x hx)
  · exact fun x hx => h2.grow x (h1.grow x hx)
  · exact fun x hx => h2.readyMono x (h1.readyMono x hx)
  · exact fun n' hn => (h2.others n' hn).trans (h1.others n' hn)

theorem astep_hit {e : Env} {st st' : St} {d d' : Dev} {aN : Name} (h : AStep e st d st' d' aN) (x : String) :
    AStep e st d (st'.hit x) d' aN :=
  ⟨⟨h.sem.mode, h.sem.dev, h.sem.untouched, h.sem.ready, h.sem.unready⟩, h.out, h.stable, h.hasMono, h.grow,
   h.readyMono, h.others, h.binds, h.routes, h.intfs, h.gName, h.aclKeys⟩

theorem GStep.lines {e : Env} {st st' : St} {d d' : Dev} (h : GStep e st d st' d') (n : Name) : linesOf d' n = linesOf d n := by
  simp [linesOf, h.acls]

theorem GStep.toAStep {e : Env} {st st' : St} {d d' : Dev} (h : GStep e st d st' d') (hn : st'.gName = st.gName) (aN : Name) :
    AStep e st d st' d' aN :=
  ⟨h.sem, h.out, h.stable, h.hasMono, h.grow, h.readyMono, fun n' _ => h.lines n', h.binds, h.routes, h.intfs, hn,
   by rw [h.acls]⟩

theorem transferRefs_gstep (e : Env) (hw : WF e) : ∀ (refs : List Name) (st : St) (d : Dev), Sem e st d →
    (∀ g ∈ refs, g ∈ BNames e) →
    ∃ d', GStep e st d (refs.foldl (transferGroup e) st) d' ∧
      (∀ g ∈ refs, g ∈ (refs.foldl (transferGroup e) st).gReady) ∧
      (refs.foldl (transferGroup e) st).gName = st.gName ∧
      (∀ g ∈ st.gReady, g ∈ (refs.foldl (transferGroup e) st).gReady) := by
  intro refs st d h hb
  obtain ⟨d', g⟩ := foldl_inv (P := fun s => ∃ d', GStep e st d s d') (l := refs) (f := transferGroup e)
    (fun g hg s ⟨d1, g1⟩ => (transferGroup_gstep e hw s d1 g1.sem g (hb g hg)).imp fun _ g2 => g1.trans g2) ⟨d, GStep.refl h⟩
  exact ⟨d', g, (transferRefs_ready e refs st).1, transferRefs_gName e refs st, (transferRefs_ready e refs st).2⟩

theorem Sem.transport {e : Env} {st st' : St} {d d' : Dev} (h : Sem e st d) (hgr : d'.groups = d.groups)
    (hm : ModeRel st' d') (h1 : st'.gNeeded = st.gNeeded) (h2 : st'.gReady = st.gReady) (h3 : st'.gName = st.gName) :
    Sem e st' d' := by
  have hh : ∀ g, hasGroup d' g = hasGroup d g := fun g => by simp [hasGroup, hgr]
  have hmm : ∀ g, membersOf d' g = membersOf d g := fun g => by simp [membersOf, hgr]
  have hn : ∀ g, st'.gNameOf g = st.gNameOf g := fun g => by simp [St.gNameOf, h3]
  refine ⟨hm, fun g hg => by rw [hh]; exact h.dev g hg, ?_, ?_, ?_⟩
  · intro g hg hn'; rw [hmm]; exact h.untouched g hg (by rw [← h1]; exact hn')
  · intro g hg
    rw [h2] at hg
    obtain ⟨r1, r2, r3⟩ := h.ready g hg
    rw [hn, hh, hmm]
    exact ⟨r1, r2, r3.mono fun y hy => by rw [h1]; exact hy⟩
  · intro g hgB hg
    rw [h2] at hg
    obtain ⟨u1, u2⟩ := h.unready g hgB hg
    rw [hn, hh]; exact ⟨u1, u2⟩

theorem sem_marks {e : Env} {st st' : St} {d : Dev} (h : Sem e st d) (hm : st'.mode = st.mode)
    (h1 : st'.gNeeded = st.gNeeded) (h2 : st'.gReady = st.gReady) (h3 : st'.gName = st.gName) : Sem e st' d :=
  h.transport rfl (by unfold ModeRel; rw [hm]; exact h.mode) h1 h2 h3

theorem lineCmd_astep {e : Env} {st1 st2 : St} {d1 d2 : Dev} {aN : Name} (h1 : Sem e st1 d1) (c : Chg)
    (hex : exec1 d1 c = .ok d2) (ho : OnlyAcl d1 d2 aN)
    (hout : st2.out = st1.out ++ [c]) (hmode : st2.mode = "") (hn : st2.gNeeded = st1.gNeeded)
    (hr : st2.gReady = st1.gReady) (hg : st2.gName = st1.gName) : AStep e st1 d1 st2 d2 aN := by
  have hh : ∀ g, hasGroup d2 g = hasGroup d1 g := fun g => by simp [hasGroup, ho.groups]
  have hmm : ∀ g, membersOf d2 g = membersOf d1 g := fun g => by simp [membersOf, ho.groups]
  refine ⟨h1.transport ho.groups ?_ hn hr hg, ⟨[c], hout, exec_single hex⟩, fun x _ _ => hmm x,
    fun x hx => by rw [hh]; exact hx, fun x hx => by rw [hn]; exact hx, fun x hx => by rw [hr]; exact hx,
    ho.others, ho.binds, ho.routes, ho.intfs, hg, ho.keys⟩
  unfold ModeRel
  rw [hmode, ho.mode]; rfl

theorem markDeletedLines_astep {e : Env} {st : St} {d : Dev} (h : Sem e st d) (ls : List Line) (aN : Name) :
    AStep e st d (markDeletedLines st ls) d aN :=
  AStep.silent (st := st) (st' := markDeletedLines st ls) (sem_marks h rfl rfl rfl rfl) rfl rfl rfl rfl aN

theorem resolveB_congr {st st' : St} (h : st'.gName = st.gName) (l : Line) : resolveB st' l = resolveB st l := by
  unfold resolveB
  congr 1
  apply List.map_congr_left
  intro g _
  simp [St.gNameOf, h]

/-- Printed lines of the cells (fixed when the plan is made). -/
def rlOf (st0 : St) (al bl : List Line) (cells : List MCell) : List RLine := cells.map (cellRLine st0 al bl)
def mkeysOf (st0 : St) (al bl : List Line) (cells : List MCell) : List String := (rlOf st0 al bl cells).map (·.mkey)
/-- Decoding of an abstract line (its `key` is the index of its cell). -/
def decOf (st0 : St) (al bl : List Line) (cells : List MCell) (x : NA.Acl.Line) : RLine :=
  (rlOf st0 al bl cells).getD x.key default

theorem mkeysOf_length (st0 : St) (al bl : List Line) (cells : List MCell) :
    (mkeysOf st0 al bl cells).length = cells.length := by simp [mkeysOf, rlOf]

theorem dec_line (st0 : St) (al bl : List Line) (cells : List MCell) (mk : List String) (j : Nat) (hj : j < cells.length) :
    decOf st0 al bl cells (encCell cells mk j).line = cellRLine st0 al bl (cells.getD j default) :=
  ListFacts.getD_map (cellRLine st0 al bl) default default hj

theorem mkeysOf_getD (st0 : St) (al bl : List Line) (cells : List MCell) (j : Nat) (hj : j < cells.length) :
    (mkeysOf st0 al bl cells).getD j "" = (cellRLine st0 al bl (cells.getD j default)).mkey := by
  unfold mkeysOf rlOf
  rw [List.map_map]
  exact ListFacts.getD_map _ "" default hj

/-- Access list `aN` of the device consists of the printed lines of the cells that the mask `μ` marks as present. -/
def LinesAt (st0 : St) (al bl : List Line) (cells : List MCell) (d : Dev) (aN : Name) (μ : List Bool) : Prop :=
  linesOf d aN = (masked (encodeCells cells (mkeysOf st0 al bl cells)) μ).map (decOf st0 al bl cells)

theorem LinesAt.of_acls {st0 : St} {al bl : List Line} {cells : List MCell} {d d1 : Dev} {aN : Name} {μ : List Bool}
    (h : LinesAt st0 al bl cells d aN μ) (hacl : d1.acls = d.acls) : LinesAt st0 al bl cells d1 aN μ := by
  unfold LinesAt linesOf at h ⊢
  rw [hacl]; exact h

/-- Codes of printed texts are equal exactly if the texts are. -/
theorem code_eq (st0 : St) (al bl : List Line) (cells : List MCell) (i j : Nat) (hi : i < cells.length) (hj : j < cells.length) :
    ((decOf st0 al bl cells (encCell cells (mkeysOf st0 al bl cells) i).line).mkey ==
      (decOf st0 al bl cells (encCell cells (mkeysOf st0 al bl cells) j).line).mkey) =
    ((encCell cells (mkeysOf st0 al bl cells) i).line.mkey == (encCell cells (mkeysOf st0 al bl cells) j).line.mkey) := by
  rw [dec_line _ _ _ _ _ i hi, dec_line _ _ _ _ _ j hj, ← mkeysOf_getD _ _ _ _ i hi, ← mkeysOf_getD _ _ _ _ j hj]
  show _ = ((mkeysOf st0 al bl cells).idxOf ((mkeysOf st0 al bl cells).getD i "") ==
    (mkeysOf st0 al bl cells).idxOf ((mkeysOf st0 al bl cells).getD j ""))
  have mem : ∀ x, x < cells.length → (mkeysOf st0 al bl cells).getD x "" ∈ mkeysOf st0 al bl cells :=
    fun x hx => ListFacts.getD_mem (by rw [mkeysOf_length]; exact hx)
  by_cases h : (mkeysOf st0 al bl cells).getD i "" = (mkeysOf st0 al bl cells).getD j ""
  · rw [h, beq_self_eq_true, beq_self_eq_true]
  · have h2 : (mkeysOf st0 al bl cells).idxOf ((mkeysOf st0 al bl cells).getD i "") ≠
        (mkeysOf st0 al bl cells).idxOf ((mkeysOf st0 al bl cells).getD j "") :=
      fun e => h (ListFacts.idxOf_inj (mem i hi) e)
    rw [beq_eq_false_iff_ne.mpr h, beq_eq_false_iff_ne.mpr h2]

theorem masked_mem_enc (cells : List MCell) (mk : List String) (μ : List Bool) (x : NA.Acl.Line)
    (h : x ∈ masked (encodeCells cells mk) μ) : ∃ i, i < cells.length ∧ x = (encCell cells mk i).line := by
  obtain ⟨i, hi, -, hl⟩ := NA.Acl.masked_mem _ μ x h
  rw [encodeCells_length] at hi
  rw [encodeCells_getD cells mk i hi] at hl
  exact ⟨i, hi, hl.symm⟩

theorem emitLine_astep (e : Env) (hw : WF e) (aN : Name) (st : St) (d : Dev) (h : Sem e st d) (b : Line)
    (hb : ∀ g ∈ b.refs, g ∈ BNames e) (mk : RLine → Chg) (P : Dev → Prop)
    (hstep : ∀ (d1 : Dev), d1.acls = d.acls → d1.binds = d.binds → (∀ g ∈ (resolveB st b).names, hasGroup d1 g = true) →
      ∃ d2, exec1 d1 (mk (resolveB st b)) = .ok d2 ∧ OnlyAcl d1 d2 aN ∧ P d2) :
    ∃ d', AStep e st d (emitLine e st mk b) d' aN ∧ P d' ∧ ∀ g ∈ b.refs, g ∈ (emitLine e st mk b).gReady := by
  unfold emitLine
  simp only []
  obtain ⟨d1, g1, r1, n1, _⟩ := transferRefs_gstep e hw b.refs st d h hb
  generalize b.refs.foldl (transferGroup e) st = st1 at g1 r1 n1
  have hres : resolveB st1 b = resolveB st b := resolveB_congr n1 b
  have hgroups : ∀ g ∈ (resolveB st b).names, hasGroup d1 g = true := by
    intro g hg
    rw [← hres] at hg
    simp only [resolveB, List.mem_map] at hg
    obtain ⟨r, hr, rfl⟩ := hg
    exact (g1.sem.ready r (r1 r hr)).1
  obtain ⟨d2, hex, ho, hp⟩ := hstep d1 g1.acls g1.binds hgroups
  rw [hres]
  refine ⟨d2, (g1.toAStep n1 aN).trans (lineCmd_astep g1.sem _ hex ho rfl rfl rfl rfl rfl), hp, r1⟩

theorem masked_ne_nil (cells : List MCell) (mk : List String) (μ : List Bool) (k : Nat) (hk : k < cells.length)
    (hp : μ.getD k false = true) : masked (encodeCells cells mk) μ ≠ [] := by
  intro h
  have := NA.Acl.masked_get (encodeCells cells mk) μ k (by rw [encodeCells_length]; exact hk) hp
  rw [h] at this
  simp at this

theorem encCell_key (cells : List MCell) (mk : List String) (j : Nat) : (encCell cells mk j).line.key = j := rfl

/-- The groups of every added line that is present are `ready`. -/
def InsReady (cells : List MCell) (bl : List Line) (st : St) (μ : List Bool) : Prop :=
  ∀ j bi, j < cells.length → μ.getD j false = true → cells.getD j default = .ins bi →
    ∀ g ∈ (bl.getD bi default).refs, g ∈ st.gReady

theorem InsReady.astep {cells : List MCell} {bl : List Line} {e : Env} {st st' : St} {d d' : Dev} {aN : Name} {μ : List Bool}
    (h : InsReady cells bl st μ) (a : AStep e st d st' d' aN) : InsReady cells bl st' μ :=
  fun j bi hj hp hc g hg => a.readyMono g (h j bi hj hp hc g hg)

theorem InsReady.set_false {cells : List MCell} {bl : List Line} {st : St} {μ : List Bool} (h : InsReady cells bl st μ)
    {i : Nat} (hi : i < μ.length) : InsReady cells bl st (μ.set i false) := by
  intro x bx hx hpx hcx
  rw [NA.ListFacts.getD_set_of_lt x false false hi] at hpx
  by_cases exi : x = i
  · rw [if_pos exi] at hpx; exact absurd hpx Bool.false_ne_true
  · rw [if_neg exi] at hpx; exact h x bx hx hpx hcx

theorem InsReady.set_true {cells : List MCell} {bl : List Line} {st : St} {μ : List Bool} (h : InsReady cells bl st μ)
    {j bi : Nat} (hj : j < μ.length) (hcell : cells.getD j default = .ins bi)
    (hr : ∀ g ∈ (bl.getD bi default).refs, g ∈ st.gReady) : InsReady cells bl st (μ.set j true) := by
  intro x bx hx hpx hcx
  by_cases exj : x = j
  · rw [exj, hcell] at hcx
    simp only [MCell.ins.injEq] at hcx
    subst hcx
    exact hr
  · rw [NA.ListFacts.getD_set_of_lt x true false hj, if_neg exj] at hpx
    exact h x bx hx hpx hcx

theorem mask_set_true_keeps (μ : List Bool) (j k : Nat) (hj : j < μ.length) (h : μ.getD k false = true) :
    (μ.set j true).getD k false = true := by
  rw [NA.ListFacts.getD_set_of_lt k true false hj]
  split
  · rfl
  · exact h

section
variable (st0 : St) (al bl : List Line) (cells : List MCell) (aN : Name)

theorem delCell_dev {d : Dev} {μ : List Bool} {i ai : Nat} (hS : LinesAt st0 al bl cells d aN μ)
    (hi : i < cells.length) (hμ : μ.getD i false = true) (hcell : cells.getD i default = .del ai)
    (hne : masked (encodeCells cells (mkeysOf st0 al bl cells)) (μ.set i false) ≠ []) :
    ∃ d2, exec1 d (.noAcl aN (cnt μ i + 1) (resolveA (al.getD ai default))) = .ok d2 ∧ OnlyAcl d d2 aN ∧
      LinesAt st0 al bl cells d2 aN (μ.set i false) := by
  have hi' : i < (encodeCells cells (mkeysOf st0 al bl cells)).length := by rw [encodeCells_length]; exact hi
  have hx := NA.Acl.exec1_del _ μ i hi' hμ
  rw [encodeCells_getD cells _ i hi] at hx
  obtain ⟨d2, e2, l2, o2⟩ := refine_del d aN _ (decOf st0 al bl cells) _ _ _ hS hx hne
  rw [dec_line _ _ _ _ _ i hi, hcell] at e2
  exact ⟨d2, e2, o2, l2⟩

theorem addCell_dev {st : St} {d : Dev} {μ : List Bool} {j bi : Nat} (hS : LinesAt st0 al bl cells d aN μ)
    (hgn : st.gName = st0.gName) (hj : j < cells.length)
    (hl : μ.length = (encodeCells cells (mkeysOf st0 al bl cells)).length) (hμ : μ.getD j false = false)
    (hdist : ∀ x, x < (encodeCells cells (mkeysOf st0 al bl cells)).length → μ.getD x false = true →
      ((encodeCells cells (mkeysOf st0 al bl cells)).getD x default).line.mkey ≠
        ((encodeCells cells (mkeysOf st0 al bl cells)).getD j default).line.mkey)
    (hcell : cells.getD j default = .ins bi)
    (hne : masked (encodeCells cells (mkeysOf st0 al bl cells)) μ ≠ [])
    (hg : ∀ g ∈ (resolveB st (bl.getD bi default)).names, hasGroup d g = true) :
    ∃ d2, exec1 d (.acl aN (some (cnt μ j + 1)) (resolveB st (bl.getD bi default))) = .ok d2 ∧ OnlyAcl d d2 aN ∧
      LinesAt st0 al bl cells d2 aN (μ.set j true) := by
  have hj' : j < (encodeCells cells (mkeysOf st0 al bl cells)).length := by rw [encodeCells_length]; exact hj
  have hdec : decOf st0 al bl cells (encCell cells (mkeysOf st0 al bl cells) j).line = resolveB st (bl.getD bi default) := by
    rw [dec_line _ _ _ _ _ j hj, hcell]
    exact (resolveB_congr hgn _).symm
  have hx := NA.Acl.exec1_add _ μ j hj' hl hμ hdist
  rw [encodeCells_getD cells _ j hj] at hx
  rw [← hdec] at hg ⊢
  obtain ⟨d2, e2, l2, o2⟩ := refine_add d aN _ (decOf st0 al bl cells) _ _ _ hS hne hx hg (by
    intro x hxm
    obtain ⟨i, hi, rfl⟩ := masked_mem_enc _ _ _ _ hxm
    exact code_eq st0 al bl cells i j hi hj)
  exact ⟨d2, e2, o2, l2⟩
end

/-- The second phase of `diffASAACLs` on the strict device, by induction on the mask-level run.  A move is the
deletion followed by the addition: `MaskRun.move μ i j` has the side conditions of `del μ i` and
`add (μ.set i false) j`, and on the device the joined command is the sequence of its two parts.  `k` is a kept cell: it is
present in every mask of the run, so the access list never becomes empty (the strict device refuses to delete the last line of a bound
list, F-C08a; `planCheck` answers `hyp:no-kept-line` where there is no such cell). -/
theorem opsFold_astep (e : Env) (hw : WF e) (aN : Name) (st0 : St) (al bl : List Line) (cells : List MCell)
    (hB : ∀ bi, ∀ g ∈ (bl.getD bi default).refs, g ∈ BNames e)
    (k : Nat) (hk : k < cells.length) (hkeep : ∃ a b, cells.getD k default = .keep a b) :
    ∀ {μ : List Bool} {ops : List NA.Acl.Op} {μ' : List Bool},
      MaskRun (encodeCells cells (mkeysOf st0 al bl cells)) μ ops μ' →
      (∀ op ∈ ops, NA.Acl.OpKind (encodeCells cells (mkeysOf st0 al bl cells)) op) →
      ∀ (st : St) (d : Dev), Sem e st d → st.gName = st0.gName →
        LinesAt st0 al bl cells d aN μ →
        μ.getD k false = true → InsReady cells bl st μ →
        ∃ d', AStep e st d (ops.foldl (emitOp e aN al bl cells) st) d' aN ∧
          LinesAt st0 al bl cells d' aN μ' ∧
          InsReady cells bl (ops.foldl (emitOp e aN al bl cells) st) μ' := by
  obtain ⟨ka, kb, hkc⟩ := hkeep
  -- the kept cell stays present when an old-only cell goes
  have keepK : ∀ (μ : List Bool) (i ai : Nat), cells.getD i default = .del ai → μ.getD k false = true →
      (μ.set i false).getD k false = true := fun μ i ai hc hp =>
    (NA.Acl.getD_set_ne μ false fun e1 => by rw [e1, hc] at hkc; exact MCell.noConfusion hkc).trans hp
  intro μ ops μ' hrun
  induction hrun with
  | nil μ => intro _ st d h _ hS _ hir; exact ⟨d, AStep.refl h aN, hS, hir⟩
  | add μ j ops μ' hj hl hμ hnew hdist _ ih =>
    intro hshape st d h hgn hS hpk hir
    have hjc : j < cells.length := by rw [encodeCells_length] at hj; exact hj
    have hjμ : j < μ.length := by rw [hl]; exact hj
    obtain ⟨bi, hcell⟩ := opKind_ins hjc (hshape _ List.mem_cons_self)
    obtain ⟨d1, a1, l1, r1⟩ := emitLine_astep e hw aN st d h (bl.getD bi default) (hB bi)
      (Chg.acl aN (some (cnt μ j + 1))) (fun d2 => LinesAt st0 al bl cells d2 aN (μ.set j true))
      (fun d1 hacl _ hgrp => addCell_dev st0 al bl cells aN (hS.of_acls hacl) hgn hjc hl hμ hdist hcell
        (masked_ne_nil cells _ _ k hk hpk) hgrp)
    have a1' := astep_hit a1 "line:add"
    obtain ⟨d2, a2, l2, i2⟩ := ih (fun op hop => hshape op (List.mem_cons_of_mem _ hop)) _ d1 a1'.sem
      (a1'.gName.trans hgn) l1 (mask_set_true_keeps μ j k hjμ hpk) ((hir.astep a1').set_true hjμ hcell r1)
    have : emitOp e aN al bl cells st (.add (cnt μ j) ((encodeCells cells (mkeysOf st0 al bl cells)).getD j default).line) =
        (emitLine e st (Chg.acl aN (some (cnt μ j + 1))) (bl.getD bi default)).hit "line:add" := by
      unfold emitOp
      simp only [encodeCells_getD cells _ j hjc, encCell_key, hcell]
    rw [List.foldl_cons, this]
    exact ⟨d2, a1'.trans a2, l2, i2⟩
  | del μ i ops μ' hi hl hμ _ ih =>
    intro hshape st d h hgn hS hpk hir
    have hic : i < cells.length := by rw [encodeCells_length] at hi; exact hi
    have hiμ : i < μ.length := by rw [hl]; exact hi
    obtain ⟨ai, hcell⟩ := opKind_del hic (hshape _ List.mem_cons_self)
    have hpk' := keepK μ i ai hcell hpk
    obtain ⟨d1, e1, o1, l1⟩ := delCell_dev st0 al bl cells aN hS hic hμ hcell (masked_ne_nil cells _ _ k hk hpk')
    have a1 := astep_hit (lineCmd_astep
      (st2 := markDeletedLines { (st.emit (.noAcl aN (cnt μ i + 1) (resolveA (al.getD ai default)))) with mode := "" } [al.getD ai default])
      h _ e1 o1 rfl rfl rfl rfl rfl) "line:del"
    obtain ⟨d2, a2, l2, i2⟩ := ih (fun op hop => hshape op (List.mem_cons_of_mem _ hop)) _ d1 a1.sem
      (a1.gName.trans hgn) l1 hpk' ((hir.astep a1).set_false hiμ)
    have : emitOp e aN al bl cells st (.del (cnt μ i) ((encodeCells cells (mkeysOf st0 al bl cells)).getD i default).line) =
        (markDeletedLines { (st.emit (.noAcl aN (cnt μ i + 1) (resolveA (al.getD ai default)))) with mode := "" }
          [al.getD ai default]).hit "line:del" := by
      unfold emitOp
      simp only [encodeCells_getD cells _ i hic, encCell_key, hcell]
    rw [List.foldl_cons, this]
    exact ⟨d2, a1.trans a2, l2, i2⟩
  | move μ i j ops μ' hi hj hl hμi hμj hnew hdist _ ih =>
    intro hshape st d h hgn hS hpk hir
    have hic : i < cells.length := by rw [encodeCells_length] at hi; exact hi
    have hjc : j < cells.length := by rw [encodeCells_length] at hj; exact hj
    have hiμ : i < μ.length := by rw [hl]; exact hi
    have hjμ : j < (μ.set i false).length := by rw [List.length_set, hl]; exact hj
    obtain ⟨ai, hcelli⟩ := opKind_del hic (hshape _ List.mem_cons_self).1
    obtain ⟨bi, hcellj⟩ := opKind_ins hjc (hshape _ List.mem_cons_self).2
    have hpk' := keepK μ i ai hcelli hpk
    have hne := masked_ne_nil cells (mkeysOf st0 al bl cells) _ k hk hpk'
    have a0 := markDeletedLines_astep h [al.getD ai default] aN
    -- on the device the joined command is the deletion followed by the addition
    obtain ⟨d1, a1, l1, r1⟩ := emitLine_astep e hw aN (markDeletedLines st [al.getD ai default]) d a0.sem (bl.getD bi default) (hB bi)
      (fun r => .join (.noAcl aN (cnt μ i + 1) (resolveA (al.getD ai default))) (.acl aN (some (cnt (μ.set i false) j + 1)) r))
      (fun d2 => LinesAt st0 al bl cells d2 aN ((μ.set i false).set j true))
      (fun d1 hacl _ hgrp => by
        obtain ⟨d2, e2, o2, l2⟩ := delCell_dev st0 al bl cells aN (hS.of_acls hacl) hic hμi hcelli hne
        obtain ⟨d3, e3, o3, l3⟩ := addCell_dev st0 al bl cells aN (st := markDeletedLines st [al.getD ai default]) l2 hgn hjc
          (by rw [List.length_set]; exact hl) hμj hdist hcellj hne
          (fun g hg => by rw [show hasGroup d2 g = hasGroup d1 g by simp [hasGroup, o2.groups]]; exact hgrp g hg)
        refine ⟨d3, ?_, o2.trans o3, l3⟩
        show (match exec1 d1 (.noAcl aN (cnt μ i + 1) (resolveA (al.getD ai default))) with
          | .ok d' => exec1 d' _
          | .error e => .error e) = .ok d3
        rw [e2]; exact e3)
    have a1' := astep_hit (a0.trans a1) "line:move"
    obtain ⟨d2, a2, l2, i2⟩ := ih (fun op hop => hshape op (List.mem_cons_of_mem _ hop)) _ d1 a1'.sem
      (a1'.gName.trans hgn) l1 (mask_set_true_keeps _ j k hjμ hpk')
      (((hir.astep a1').set_false hiμ).set_true hjμ hcellj r1)
    have : emitOp e aN al bl cells st (.move (cnt μ i) ((encodeCells cells (mkeysOf st0 al bl cells)).getD i default).line
          (cnt (μ.set i false) j) ((encodeCells cells (mkeysOf st0 al bl cells)).getD j default).line) =
        (emitLine e (markDeletedLines st [al.getD ai default])
          (fun r => .join (.noAcl aN (cnt μ i + 1) (resolveA (al.getD ai default))) (.acl aN (some (cnt (μ.set i false) j + 1)) r))
          (bl.getD bi default)).hit "line:move" := by
      unfold emitOp
      simp only [encodeCells_getD cells _ i hic, encodeCells_getD cells _ j hjc, encCell_key, hcelli, hcellj]
    rw [List.foldl_cons, this]
    exact ⟨d2, a1'.trans a2, l2, i2⟩

end NA.F1
