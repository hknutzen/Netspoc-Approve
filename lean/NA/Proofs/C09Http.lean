import NA.Proofs.C09Console
/-!
# C09: one HTTP request (PAN-OS, NSX)

Functions return error values here: an exchange may end with an error pending in a state that still
runs (`HttpOut.err`), and every call is followed by `if err != nil { return … }`.
-/
namespace NA.C09
open NA.Sess NA.Apply NA.Spec.C09

/-- one element of the change script -/
def panosChangeStep : Sess := panosDoCmd .change .cur ;; .ite .err "err != nil" (.ret .err ["_"]) .skip
def nsxChangeStep : Sess := nsxSendRequest .change .cur ;; .ite .err "err != nil" (.ret .keep ["err"]) .skip

/-- one round of the PAN-OS job poll (the body of the `for { … }` in `commit`) -/
def panosPollRound : Sess :=
  panosDoCmd .save (.lit "show jobs") ;;
  .ite .err "err != nil" (.ret .keep ["err"]) .skip ;;
  xmlUnmarshal ;;
  .ite .err "err != nil" (.ret .keep ["err"]) .skip ;;
  .ite (.flag .pend) "¬$v.Result != \"PEND\"" .cont
    (.ite (.flag .jobOk) "¬$v.Result != \"OK\"" (.ret .nil ["nil"]) (.ret .err ["_"]))

/-- the commit request and the inspection of its answer -/
def panosCommitHead : Sess :=
  panosDoCmd .save (.lit "commit") ;;
  .ite .err "err != nil" (.ret .keep ["err"]) .skip ;;
  .ite (.flag .noChanges)
    "strings.Contains($doCmd.1, \"There are no changes to commit\") || strings.Contains($doCmd.1, \"The result of this commit would be the same\")"
    (.ret .nil ["nil"]) .skip ;;
  .ite (.not (.flag .msgEmpty)) "$doCmd.1 != \"\"" (.ret .err ["_"]) .skip

variable (bad : Role → Reply → Bool)

/-- outcome of one HTTP exchange (and of the functions wrapped around it): the reply is there
and has property `K`, or an error is pending -/
inductive HttpOut (ρ : Role) (K : Reply → Prop) (s' : St) : Prop
  | ok (h : Pd bad ρ s') (hk : K s'.last) (he : s'.errv = false)
  | err (hs : safe bad s'.tr = true) (he : s'.errv = true) (hm : s'.mode = .run)

theorem HttpOut.mode {ρ : Role} {K : Reply → Prop} {s' : St} (h : HttpOut bad ρ K s') : s'.mode = .run := by
  cases h with
  | ok h _ _ => exact h.mode
  | err _ _ hm => exact hm

theorem HttpOut.weaken {ρ : Role} {K K' : Reply → Prop} {s' : St} (h : HttpOut bad ρ K s') (hk : ∀ r, K r → K' r) :
    HttpOut bad ρ K' s' := by
  cases h with
  | ok h k he => exact .ok h (hk _ k) he
  | err hs he hm => exact .err hs he hm

theorem recvLoop_one (dev : Dev) (ρ : Role) (s : St) :
    recvLoop dev ρ .http 1 s =
      if (dev s.tr).arr = .full then
        { s with tr := s.tr ++ [.got ρ (dev s.tr)], last := dev s.tr, errv := false,
                 banner := s.banner || (ρ == .login && (dev s.tr).flags.contains .bannerOk) }
      else { s with tr := s.tr ++ [.got ρ (dev s.tr)], last := dev s.tr, errv := true } := by
  simp only [recvLoop, Pat.matches, Pat.skips, Bool.false_and, Bool.false_eq_true, if_false, beq_iff_eq]

/-- one request: the reply arrived completely, or an error is pending; a closed reused
connection is retried once (and that closed reply is not a failure the code can see) -/
theorem roundTrip_spec (ρ : Role) (t : Txt) (replay : Bool)
    (hrep : replay = true → ∀ r : Reply, r.arr = .closed → bad ρ r = false)
    (env : Env) (s : St) (hj : J bad s) (hm : s.mode = .run) :
    HttpOut bad ρ (fun r => r.arr = .full) (exec (.roundTrip ρ t replay) env s) := by
  have hcl := j_clean bad hj hm
  have hc0 := clean_snoc bad (Ev.sent ρ (t.lines env)) hcl.1 hcl.2 rfl
  simp only [sess_run, hm, if_true, recvLoop_one]
  generalize hr1 : env.dev (s.tr ++ [Ev.sent ρ (t.lines env)]) = r1
  by_cases ha1 : r1.arr = .full
  · simp only [ha1, if_true, Bool.and_eq_true, beq_iff_eq]
    have : ¬ (Arr.full = Arr.closed) := by decide
    simp only [this, and_false, false_and, if_false]
    exact .ok ⟨rfl, _, rfl, hc0.1, hc0.2⟩ ha1 rfl
  · simp only [ha1, if_false, Bool.and_eq_true, beq_iff_eq]
    split
    · rename_i hcond
      obtain ⟨⟨hrp, hclosed⟩, _⟩ := hcond
      -- the closed reply is passed over, the request is replayed
      have hc1 := clean_snoc bad (Ev.got ρ r1) hc0.1 hc0.2 (hrep hrp r1 hclosed)
      have hc2 := clean_snoc bad (Ev.sent ρ (t.lines env)) hc1.1 hc1.2 rfl
      generalize env.dev (s.tr ++ [Ev.sent ρ (t.lines env)] ++ [Ev.got ρ r1] ++ [Ev.sent ρ (t.lines env)]) = r2
      by_cases ha2 : r2.arr = .full
      · simp only [ha2, if_true]
        exact .ok ⟨rfl, _, rfl, hc2.1, hc2.2⟩ ha2 rfl
      · simp only [ha2, if_false]
        exact .err (safe_snoc_quiet bad _ _ hc2.1 rfl) rfl rfl
    · exact .err (safe_snoc_quiet bad _ _ hc0.1 rfl) rfl rfl


theorem pd_err_safe {ρ : Role} {s1 : St} (h : Pd bad ρ s1) : safe bad s1.tr = true := h.safe

end NA.C09
