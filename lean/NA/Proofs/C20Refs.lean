import NA.Proofs.C20Shape
import NA.Model.CursorRefs
import NA.Core.ListFacts
/-!
The line loop of `ParseConfig` keeps every command it has collected `TopOK`.  From that: the lists of the lookup map are not
empty, and `c.typ.ref[i]` of `checkReferences` is in range because the references fit the registered prefixes (`RefsFit`).
At the end the index searches of `mergeASAACLs` / `mergeIOSACLs` (`appendPos_spec`).
-/
namespace NA.C20
open Res

def SubOK (subs : List (List Str × Bool)) (sc : Cmd) : Prop :=
  ∃ s ∈ indexed subs, sc.descr = s.1 ∧ s.2.1.length ≤ (fields sc.parsed).length ∧
    sc.ref.length = s.2.1.count refTok

def TopOK (ds : List Descr) (c : Cmd) : Prop :=
  ∃ d ∈ indexed ds, c.descr = d.1 ∧
    (fields d.2.pre).length + d.2.template.length ≤ (fields c.parsed).length ∧
    c.ref.length = d.2.template.count refTok ∧ ∀ sc ∈ c.sub, SubOK d.2.sub sc

theorem prefixOf_eq (ds : List Descr) (c : Cmd) (d : Nat × Descr) (hd : d ∈ indexed ds) (hdi : c.descr = d.1) :
    prefixOf ds c = d.2.pre := by
  unfold prefixOf
  rw [hdi, indexed_getD ds noDescr d hd]

theorem subOK_of_cmdFrom (subs : List (List Str × Bool)) (sc : Cmd)
    (h : ∃ e ∈ (indexed subs).map fun x => (x.1, x.2.1, x.2.2), sc.descr = e.1 ∧ CmdFrom [] e.2.1 sc) : SubOK subs sc := by
  obtain ⟨e, he, hei, hlen, hrefs, _⟩ := h
  obtain ⟨x, hx, rfl⟩ := List.mem_map.1 he
  exact ⟨x, hx, hei, by simpa [fields] using hlen, hrefs⟩

theorem matchCmd_subOK (subs : List (List Str × Bool)) (hc : ∀ s ∈ subs, CleanTemplate s.1) (body : Str) (sc : Cmd)
    (h : matchCmd [] (fields body) ((indexed subs).map fun x => (x.1, x.2.1, x.2.2)) = .ok (some sc)) :
    SubOK subs sc :=
  subOK_of_cmdFrom subs sc ((matchCmd_spec ..).ok h sc rfl (fields_lastNonblank body)
    (List.forall_mem_map.2 fun x hx => hc x.2 (mem_indexed hx)))

theorem subIndent_spec (st : LoopSt) (pc : Cmd) (s : Str) (h : trimRight s ≠ []) :
    Spec (fun r => r.1 < (trimRight s).length) (· = badIndent st.firstSub (trimRight s)) (fun _ => False)
      (subIndent true st pc (trimRight s)) := by
  obtain ⟨k, hk, hlt⟩ := getIndent_trimRight s h
  fun_cases subIndent true st pc (trimRight s)
  case case1 k' hk' => rw [hk] at hk'; cases hk'; exact hlt
  case case2 hn => rw [hk] at hn; cases hn
  case case3 => exact rfl
  case case4 hf _ _ _ | case5 hf _ => exact absurd rfl hf
  case case6 bad hbad => show st.indent < _; simp [bad, hk] at hbad; omega

def LoopInv (ds : List Descr) (st : LoopSt) : Prop := CleanTop ds → CleanSubs ds → ∀ c ∈ st.cmds, TopOK ds c

theorem subBody_spec (ds : List Descr) (st : LoopSt) (pc : Cmd) (others : List Cmd) (line : Str)
    (i : Nat) (f : Str) (hi : i < line.length) (hst : st.cmds = pc :: others) :
    Spec (fun st' => LoopInv ds st → LoopInv ds st') (fun _ => False) (· = incompleteString)
      (subBody ds st pc others line i f) := by
  fun_cases subBody ds st pc others line i f
  -- `line[indent:]` and its first byte exist
  case case1 hd => exact absurd (List.drop_eq_nil_iff.1 hd) (Nat.not_le_of_lt hi)
  case case4 h => omega
  case case2 => exact id
  -- the words of the sub command come from `strings.Fields`
  case case3 =>
    refine ((matchCmd_spec ..).weaken (fun _ h => h) fun p hp =>
      hp.2 (fields_mem_ne_nil _)).bind fun oc hoc => ?_
    cases oc with
    | none => exact id
    | some sc =>
      -- the parent with one more sub command, in front of the other commands
      intro hinv hct hcs
      obtain ⟨⟨dd, hdd, hdi, hlen, hrefs, hsubs⟩, hoth⟩ := List.forall_mem_cons.1 (hst ▸ hinv hct hcs)
      refine List.forall_mem_cons.2 ⟨⟨dd, hdd, hdi, hlen, hrefs,
        List.forall_mem_append.2 ⟨hsubs, List.forall_mem_singleton.2 ?_⟩⟩, hoth⟩
      have hd : (ds.getD pc.descr noDescr).sub = dd.2.sub := by rw [hdi, indexed_getD ds _ dd hdd]
      exact hd ▸ subOK_of_cmdFrom _ sc (hoc sc rfl (fields_lastNonblank _)
        (List.forall_mem_map.2 fun x hx => hcs dd.2 (mem_indexed hdd) x.2 (hd ▸ mem_indexed hx)))

theorem parseLine_spec (ds : List Descr) (isRaw : Bool) (st : LoopSt) (raw : Str) :
    Spec (fun st' => LoopInv ds st → LoopInv ds st') (fun m => Names m (trimRight raw)) (fun p => NoQuoteTop ds → p = incompleteString)
      (parseLine true ds isRaw st raw) := by
  fun_cases parseLine true ds isRaw st raw
  -- a top-level command: what `lookupCmd` found is pushed; "Unexpected command"
  case case4 line c cs hline _ _ _ =>
    have hne : trimRight raw ≠ [] := by rw [show trimRight raw = c :: cs from hline]; simp
    refine ((lookupCmd_spec ds line).weaken (fun _ h => h.elim) fun _ h hq => (h hq).elim).bind fun oc hoc => ?_
    cases oc with
    | none => dsimp only; split; exact names_mid _ _ _; exact id
    | some c =>
      intro hinv hct hcs
      obtain ⟨d, hd, hdi, hlen, hrefs, hsub⟩ := hoc c rfl (splitSp_trimRight_lastNonblank raw hne) hct
      exact List.forall_mem_cons.2 ⟨⟨d, hd, hdi, hlen, hrefs, by simp [hsub]⟩, hinv hct hcs⟩
  -- a sub command: "Bad indentation"
  case case7 line c cs hline _ _ _ _ pc others hcm =>
    have hne : trimRight raw ≠ [] := by rw [show trimRight raw = c :: cs from hline]; simp
    exact ((subIndent_spec st pc raw hne).weaken (fun _ h => h ▸ names_mid _ _ _) fun _ h => h.elim).bind
      fun r hr => (subBody_spec ds st pc others _ r.1 r.2 hr hcm).weaken (fun _ h => h.elim) fun _ h _ => h
  all_goals exact id

theorem parseLine_panicOnly (ds : List Descr) (hq : NoQuoteTop ds) (isRaw : Bool) (st : LoopSt) (raw : Str) :
    PanicOnly incompleteString (parseLine true ds isRaw st raw) := fun _ e => (parseLine_spec ds isRaw st raw).panic e hq

theorem parseLines_spec (ds : List Descr) (isRaw : Bool) : ∀ (ls : List Str) (st : LoopSt),
    Spec (fun st' => LoopInv ds st → LoopInv ds st') (fun m => ∃ l ∈ ls, Names m (trimRight l))
      (fun p => NoQuoteTop ds → p = incompleteString) (parseLines true ds isRaw st ls)
  | [], _ => id
  | l :: ls, st =>
    ((parseLine_spec ds isRaw st l).weaken (fun _ h => ⟨l, List.mem_cons_self .., h⟩) fun _ h => h).bind
      fun st' h' => (parseLines_spec ds isRaw ls st').mono (fun _ h hi => h (h' hi))
        (fun _ ⟨x, hx, hn⟩ => ⟨x, List.mem_cons_of_mem _ hx, hn⟩) fun _ h => h

theorem parseConfig_spec (ds : List Descr) (isRaw : Bool) (data : Str) :
    Spec (fun cmds => CleanTop ds → CleanSubs ds → ∀ c ∈ cmds, TopOK ds c)
      (fun m => ∃ l ∈ splitLines data, Names m (trimRight l)) (fun p => NoQuoteTop ds → p = incompleteString)
      (parseConfig true ds isRaw data) :=
  (parseLines_spec ds isRaw _ initSt).bind fun _ h hct hcs c hc =>
    h (fun _ _ _ h => nomatch h) hct hcs c (List.mem_reverse.1 hc)

def keyOf (ds : List Descr) (c : Cmd) : Str × Str := (prefixOf ds c, c.name)

def LookupOK (ds : List Descr) (P : Cmd → Prop) (lk : Lookup) : Prop :=
  ∀ g ∈ lk, g.2 ≠ [] ∧ ∀ x ∈ g.2, P x ∧ keyOf ds x = g.1

theorem insertCmd_ok (ds : List Descr) (P : Cmd → Prop) (c : Cmd) (hc : P c) :
    ∀ lk : Lookup, LookupOK ds P lk → LookupOK ds P (insertCmd lk (keyOf ds c) c)
  | [], _ => List.forall_mem_singleton.2 ⟨by simp, List.forall_mem_singleton.2 ⟨hc, rfl⟩⟩
  | (k', l) :: rest, h => by
    obtain ⟨h1, hrest⟩ := List.forall_mem_cons.1 h
    unfold insertCmd
    split
    · rename_i hk
      exact List.forall_mem_cons.2
        ⟨⟨by simp, List.forall_mem_append.2 ⟨h1.2, List.forall_mem_singleton.2 ⟨hc, hk.symm⟩⟩⟩, hrest⟩
    · exact List.forall_mem_cons.2 ⟨h1, insertCmd_ok ds P c hc rest hrest⟩

/-- `m[c.name] = append(m[c.name], c)`: a key is only created by `append`, so `l[0]`, `acls[name][0]`, `ab.bCmds[0]` exist. -/
theorem buildLookup_ok (ds : List Descr) (P : Cmd → Prop) (cmds : List Cmd) (hp : ∀ c ∈ cmds, P c) :
    LookupOK ds P (buildLookup ds cmds) :=
  ListFacts.foldl_inv (fun c hc lk h => insertCmd_ok ds P c (hp c hc) lk h) (fun _ hg => nomatch hg)

/-- `aaaGroup_noPanic` with its hypotheses derived from the parser model; `hmin`, `hsub` are decided on the regenerated
tables in Props/C20.lean. -/
theorem aaaGroup_derived (ds : List Descr) (hct : CleanTop ds) (hcs : CleanSubs ds) (isRaw : Bool)
    (data : Str) (cmds : List Cmd) (h : parseConfig true ds isRaw data = .ok cmds)
    (hmin : ∀ d ∈ ds, d.pre = lit "aaa-server" → 3 ≤ (fields d.pre).length + d.template.length)
    (hsub : ∀ d ∈ ds, d.pre = lit "aaa-server" → ∀ s ∈ d.sub, 1 ≤ s.1.count refTok) :
    ∀ g ∈ buildLookup ds cmds, g.1.1 = lit "aaa-server" → NoPanic (aaaGroup true g.1.2 g.2) := by
  intro g hg hpre
  obtain ⟨hne, hmem⟩ := buildLookup_ok ds (TopOK ds) cmds ((parseConfig_spec ds isRaw data).ok h hct hcs) g hg
  have key : ∀ c ∈ g.2, AaaOK c := by
    intro c hc
    obtain ⟨⟨d, hd, hdi, hlen, _, hsubs⟩, hk⟩ := hmem c hc
    have hp : d.2.pre = lit "aaa-server" := by rw [← prefixOf_eq ds c d hd hdi, ← hpre, ← hk]; rfl
    refine ⟨Nat.le_trans (hmin d.2 (mem_indexed hd) hp) hlen, fun sc hsc => ?_⟩
    obtain ⟨s, hs, _, _, hr⟩ := hsubs sc hsc
    exact List.ne_nil_of_length_pos (hr ▸ hsub d.2 (mem_indexed hd) hp s.2 (mem_indexed hs))
  exact aaaGroup_noPanic g.1.2 g.2 hne (fun c hc => (key c hc).1) (fun c hc => (key c hc).2)

theorem checkRefs_spec (lk : Lookup) (isRaw : Bool) (orig : Str) (typRef refs : List Str) :
    Spec (fun _ => True) (fun m => Names m orig ∧ ∃ p ∈ typRef, ∃ n ∈ refs, Names m p ∧ Names m n)
      (fun _ => typRef.length < refs.length) (checkRefs lk isRaw orig typRef refs) := by
  fun_induction checkRefs lk isRaw orig typRef refs
  case case2 => exact Nat.succ_pos _
  case case3 ih =>
    exact ih.weaken
      (fun _ ⟨h1, q, hq, x, hx, h2⟩ => ⟨h1, q, List.mem_cons_of_mem _ hq, x, List.mem_cons_of_mem _ hx, h2⟩)
      fun _ h => Nat.succ_lt_succ h
  case case5 p _ n _ _ _ =>
    -- the message is put together from its parts by appending on the right
    exact ⟨((((names_mid _ orig _).append _).append _).append _).append _, p, List.mem_cons_self ..,
      n, List.mem_cons_self .., (((names_end _ p).append _).append _).append _, names_mid _ n _⟩
  all_goals trivial

theorem checkRefs_noPanic (lk : Lookup) (isRaw : Bool) (orig : Str) (typRef refs : List Str)
    (h : refs.length ≤ typRef.length) : NoPanic (checkRefs lk isRaw orig typRef refs) :=
  fun _ e => Nat.not_le_of_lt ((checkRefs_spec lk isRaw orig typRef refs).panic e) h

def RefsFit (fixed : Bool) (ds : List Descr) (c : Cmd) : Prop :=
  c.ref.length ≤ (typRefTop ds c).length ∧
  ∀ sc ∈ c.sub, sc.ref.length ≤ (typRefSub fixed ds c sc).length

theorem checkSubs_noPanic (fixed : Bool) (ds : List Descr) (lk : Lookup) (isRaw : Bool) (pc : Cmd) :
    ∀ scs : List Cmd, (∀ sc ∈ scs, sc.ref.length ≤ (typRefSub fixed ds pc sc).length) →
    NoPanic (checkSubs fixed ds lk isRaw pc scs)
  | [], _ => noPanic_ok
  | _ :: scs, h =>
    have ⟨h1, ht⟩ := List.forall_mem_cons.1 h
    NoPanic.bind (checkRefs_noPanic lk isRaw _ _ _ h1) fun _ => checkSubs_noPanic fixed ds lk isRaw pc scs ht

theorem checkCmds_noPanic (fixed : Bool) (ds : List Descr) (lk : Lookup) (isRaw : Bool) :
    ∀ cs : List Cmd, (∀ c ∈ cs, RefsFit fixed ds c) → NoPanic (checkCmds fixed ds lk isRaw cs)
  | [], _ => noPanic_ok
  | c :: cs, h =>
    have ⟨⟨h1, h2⟩, ht⟩ := List.forall_mem_cons.1 h
    NoPanic.bind (checkRefs_noPanic lk isRaw _ _ _ h1) fun _ =>
      NoPanic.bind (checkSubs_noPanic fixed ds lk isRaw c c.sub h2) fun _ => checkCmds_noPanic fixed ds lk isRaw cs ht

theorem checkEntries_noPanic (fixed : Bool) (ds : List Descr) (lk : Lookup) (isRaw : Bool) :
    ∀ gs : Lookup, (∀ g ∈ gs, ∀ c ∈ g.2, RefsFit fixed ds c) → NoPanic (checkEntries fixed ds lk isRaw gs)
  | [], _ => noPanic_ok
  | g :: gs, h =>
    have ⟨h1, ht⟩ := List.forall_mem_cons.1 h
    NoPanic.bind (checkCmds_noPanic fixed ds lk isRaw g.2 h1) fun _ => checkEntries_noPanic fixed ds lk isRaw gs ht

theorem insertSorted_eq (g : (Str × Str) × List Cmd) : ∀ l : Lookup,
    insertSorted g l = ListFacts.insertBy (fun a b => keyLt a.1 b.1) g l
  | [] => rfl
  | h :: t => by rw [insertSorted, ListFacts.insertBy, insertSorted_eq g t]

theorem mem_sortLookup (x : (Str × Str) × List Cmd) (lk : Lookup) (h : x ∈ sortLookup lk) : x ∈ lk := by
  have e : sortLookup lk = ListFacts.isort (fun a b => keyLt a.1 b.1) lk :=
    congrArg (fun f => lk.foldr f []) (funext fun g => funext (insertSorted_eq g))
  exact ListFacts.mem_isort.mp (e ▸ h)

theorem checkReferences_noPanic (fixed : Bool) (ds : List Descr) (lk : Lookup) (isRaw : Bool)
    (h : ∀ g ∈ lk, ∀ c ∈ g.2, RefsFit fixed ds c) : NoPanic (checkReferences fixed ds lk isRaw) :=
  checkEntries_noPanic fixed ds lk isRaw _ fun g hg => h g (mem_sortLookup g lk hg)

def RefsDeclared (ds : List Descr) : Prop :=
  ∀ d ∈ ds, d.refs.length = d.template.count refTok ∧
    ∀ s ∈ indexed d.sub, (d.subRefs.getD s.1 []).length = s.2.1.count refTok

def MaxRefs5 (ds : List Descr) : Prop :=
  ∀ d ∈ ds, d.template.count refTok ≤ 5 ∧ ∀ s ∈ d.sub, s.1.count refTok ≤ 5

theorem fiveGroups_length : fiveGroups.length = 5 := by simp [fiveGroups]

/-- before `postprocessParsed` adds references; afterwards: `postGroup_fit` (C20Post). -/
theorem refsFit_of_topOK (fixed : Bool) (ds : List Descr) (hdecl : RefsDeclared ds) (hmax : MaxRefs5 ds)
    (c : Cmd) (h : TopOK ds c) : RefsFit fixed ds c := by
  obtain ⟨d, hd, hdi, _, hrefs, hsubs⟩ := h
  have hget := indexed_getD ds noDescr d hd
  rw [← hdi] at hget
  obtain ⟨hdr, hds⟩ := hdecl d.2 (mem_indexed hd)
  obtain ⟨hm1, hm2⟩ := hmax d.2 (mem_indexed hd)
  constructor
  · unfold typRefTop
    simp only [hget]
    split
    · rw [fiveGroups_length]; omega
    · split
      · split
        · simp; omega
        · omega
      · omega
  · intro sc hsc
    obtain ⟨s, hs, hsi, _, hr⟩ := hsubs sc hsc
    unfold typRefSub
    simp only [hget]
    split
    · rw [fiveGroups_length]
      have := hm2 s.2 (mem_indexed hs)
      omega
    · rw [hsi, hds s hs, hr]
      exact Nat.le_refl _

theorem checkReferences_parsed_noPanic (ds : List Descr) (hct : CleanTop ds) (hcs : CleanSubs ds)
    (hdecl : RefsDeclared ds) (hmax : MaxRefs5 ds) (isRaw : Bool) (data : Str) (cmds : List Cmd)
    (h : parseConfig true ds isRaw data = .ok cmds) :
    NoPanic (checkReferences true ds (buildLookup ds cmds) isRaw) :=
  checkReferences_noPanic true ds _ isRaw fun g hg c hc =>
    refsFit_of_topOK true ds hdecl hmax c
      ((buildLookup_ok ds (TopOK ds) cmds ((parseConfig_spec ds isRaw data).ok h hct hcs) g hg).2 c hc).1

theorem appendPos_spec (permits : List Bool) (nPre : Nat) (i : Nat) (hi : i ≤ permits.length) :
    Spec (· ≤ i) (fun _ => True) (fun _ => False) (appendPos permits nPre i) := by
  fun_induction appendPos permits nPre i
  case case2 hn => exact absurd (List.getElem?_eq_none_iff.1 hn) (Nat.not_le_of_lt hi)
  case case4 ih => exact (ih (Nat.le_of_succ_le hi)).imp fun k h => Nat.le_succ_of_le h
  all_goals exact Nat.le_refl _

theorem insertAt_noPanic (acl app : List AclLine) (f : AclLine → Bool) (n : Nat) :
    NoPanic ((appendPos (acl.map f) n acl.length).bind fun i =>
      if i ≤ acl.length then Res.ok (acl.take i ++ app ++ acl.drop i)
      else Res.panic (.slice "slices.Insert(acl, i, …)")) :=
  ((appendPos_spec (acl.map f) n acl.length (by simp)).bind (Q := fun _ => True) fun i hi => by
    rw [if_pos hi]; trivial).noPanic

theorem mergeASAACL_noPanic (a b : List AclLine) : NoPanic (mergeASAACL a b) := by
  unfold mergeASAACL
  simp only
  refine NoPanic.bind ?_ fun x => ?_
  · split
    · exact noPanic_ok
    · rename_i last hl
      rw [if_pos (Nat.sub_lt (List.length_pos_of_mem (List.mem_of_getLast? hl)) Nat.one_pos)]
      split <;> exact noPanic_ok
  · obtain ⟨pre, acl⟩ := x
    split
    · exact noPanic_ok
    · exact insertAt_noPanic _ _ _ _

/-- `hne`: `buildLookup_ok` gives it for every list stored in the lookup map. -/
theorem mergeIOSACL_noPanic (aSub : List AclLine) (bCmds : List (List AclLine)) (hne : bCmds ≠ []) :
    NoPanic (mergeIOSACL aSub bCmds) := by
  cases bCmds with
  | nil => exact absurd rfl hne
  | cons x xs =>
    simp only [mergeIOSACL]
    split
    · exact noPanic_ok
    · exact insertAt_noPanic _ _ _ _

end NA.C20
