import NA.Proofs.C20Http
import NA.Model.CursorCycle
/-!
If the depth-first search of `checkGroupCycle` finishes without reporting a cycle, the order in which the groups finished is
a rank function (`Ranked`, the hypothesis of `objListType_noPanic` and `markAddresses_noPanic`): every finished group's
members that are groups finished before it (`ClosedR`).
-/
namespace NA.C20.PanOs
open NA.C20 NA.C20.Res

/-- the finished groups, newest first (`done.reverse`). -/
inductive ClosedR (G : Str → Option (List Str)) : List Str → Prop
  | nil : ClosedR G []
  | cons (n : Str) (ms r : List Str) : ClosedR G r → G n = some ms → n ∉ r →
      (∀ m ∈ ms, G m = none ∨ m ∈ r) → ClosedR G (n :: r)

def rkR (x : Str) : List Str → Nat
  | [] => 0
  | y :: ys => if x = y then ys.length + 1 else rkR x ys

theorem rkR_le (x : Str) : ∀ r : List Str, rkR x r ≤ r.length
  | [] => Nat.le_refl 0
  | y :: ys => by
    unfold rkR
    split
    · exact Nat.le_refl _
    · exact Nat.le_succ_of_le (rkR_le x ys)

theorem closedR_member {G : Str → Option (List Str)} {r : List Str} (hc : ClosedR G r) :
    ∀ n ∈ r, ∀ ms, G n = some ms → ∀ m ∈ ms, G m = none ∨ m ∈ r := by
  induction hc with
  | nil => intro n hn; cases hn
  | cons n0 ms0 r _ hg _ hmem ih =>
    intro n hn ms hgn m hm
    refine (?_ : G m = none ∨ m ∈ r).imp_right (List.mem_cons_of_mem _)
    rcases List.mem_cons.1 hn with rfl | hn
    · rw [hg] at hgn; cases hgn; exact hmem m hm
    · exact ih n hn ms hgn m hm

theorem closedR_ranked {G : Str → Option (List Str)} {r : List Str} (hc : ClosedR G r) :
    ∀ n ∈ r, ∀ ms, G n = some ms → ∀ m ∈ ms, rkR m r < rkR n r := by
  induction hc with
  | nil => intro n hn; cases hn
  | cons n0 ms0 r hr hg hnot hmem ih =>
    intro n hn ms hgn m hm
    -- a member is not the newest entry `n0`, which is a group and was not finished before
    have hmr : G m = none ∨ m ∈ r := by
      rcases List.mem_cons.1 hn with rfl | hn
      · rw [hg] at hgn; cases hgn; exact hmem m hm
      · exact closedR_member hr n hn ms hgn m hm
    have hne : m ≠ n0 := by
      rintro rfl
      rcases hmr with h | h
      · rw [hg] at h; cases h
      · exact hnot h
    rw [rkR, if_neg hne]
    rcases List.mem_cons.1 hn with rfl | hn
    · have := rkR_le m r
      simp [rkR]; omega
    · rw [rkR, if_neg (ne_of_mem_of_not_mem hn hnot)]
      exact ih n hn ms hgn m hm

/-- `x ∉ stack`: a group whose visit is in progress is not finished by a visit below it; this gives `n ∉ d'` when `visit`
appends `n`. -/
def Post (G : Str → Option (List Str)) (stack dn d : List Str) : Prop :=
  ∃ ext, d = dn ++ ext ∧ (∀ x ∈ ext, x ∉ stack) ∧ ClosedR G d.reverse

theorem visitAll_post (G : Str → Option (List Str)) (f : Str → List Str → Res (List Str)) (stack : List Str)
    (hv : ∀ n dn d, ClosedR G dn.reverse → f n dn = .ok d → Post G stack dn d ∧ (G n = none ∨ n ∈ d)) :
    ∀ (ms dn d : List Str), ClosedR G dn.reverse → visitAllWith f ms dn = .ok d →
      Post G stack dn d ∧ ∀ m ∈ ms, G m = none ∨ m ∈ d
  | [], dn, d, hc, h => by
    rw [visitAllWith] at h
    cases h
    exact ⟨⟨[], by simp, by simp, hc⟩, by simp⟩
  | m :: ms, dn, d, hc, h => by
    rw [visitAllWith] at h
    obtain ⟨d1, h1, h2⟩ := res_bind_ok h
    obtain ⟨⟨e1, he1, hd1, hc1⟩, hm1⟩ := hv m dn d1 hc h1
    obtain ⟨⟨e2, he2, hd2, hc2⟩, hm2⟩ := visitAll_post G f stack hv ms d1 d hc1 h2
    refine ⟨⟨e1 ++ e2, by rw [he2, he1]; simp, ?_, hc2⟩, ?_⟩
    · exact List.forall_mem_append.2 ⟨hd1, hd2⟩
    · exact List.forall_mem_cons.2 ⟨hm1.imp_right fun h' => he2 ▸ List.mem_append_left _ h', hm2⟩

theorem visit_post (G : Str → Option (List Str)) : ∀ (fuel : Nat) (n : Str) (stack dn d : List Str),
    ClosedR G dn.reverse → visit G fuel n stack dn = .ok d →
    Post G stack dn d ∧ (G n = none ∨ n ∈ d)
  | 0, n, stack, dn, d, _, h => by rw [visit] at h; cases h
  | fuel + 1, n, stack, dn, d, hc, h => by
    rw [visit] at h
    split at h
    · rename_i hg
      cases h
      exact ⟨⟨[], by simp, by simp, hc⟩, Or.inl hg⟩
    · rename_i ms hg
      split at h
      · rename_i hin
        cases h
        exact ⟨⟨[], by simp, by simp, hc⟩, Or.inr hin⟩
      · rename_i hnd
        split at h
        · cases h
        · rename_i hns
          obtain ⟨d', h1, h2⟩ := res_bind_ok h
          cases h2
          obtain ⟨⟨ext, he, hdis, hcl⟩, hmem⟩ :=
            visitAll_post G _ (n :: stack) (fun m => visit_post G fuel m (n :: stack)) ms dn d' hc h1
          have hnot : n ∉ d' := by
            rw [he]
            exact fun hx => (List.mem_append.1 hx).elim hnd fun hx => hdis n hx (List.mem_cons_self ..)
          refine ⟨⟨ext ++ [n], by rw [he]; simp, ?_, ?_⟩, Or.inr (by simp)⟩
          · exact List.forall_mem_append.2
              ⟨fun x hx hs => hdis x hx (List.mem_cons_of_mem _ hs), List.forall_mem_singleton.2 hns⟩
          · rw [List.reverse_concat]
            exact ClosedR.cons n ms _ hcl hg (mt List.mem_reverse.1 hnot) fun m hm =>
              (hmem m hm).imp_right List.mem_reverse.2

theorem checkGroupCycle_ranked (G : Str → Option (List Str)) (fuel : Nat) (names d : List Str)
    (hall : ∀ n, G n ≠ none → n ∈ names) (h : checkGroupCycle G fuel names = .ok d) :
    Ranked G (fun x => rkR x d.reverse) := by
  unfold checkGroupCycle at h
  obtain ⟨⟨_, _, _, hcl⟩, hmem⟩ :=
    visitAll_post G _ [] (fun m => visit_post G (fuel + 1) m []) names [] d .nil h
  intro n ms hg m hm
  have hne : G n ≠ none := hg ▸ Option.some_ne_none ms
  exact closedR_ranked hcl n (List.mem_reverse.2 ((hmem n (hall n hne)).resolve_left hne)) ms hg m hm

/-- the rank is bounded by the number of finished groups `d.length`, so `rk e + 1 < d.length + 3`: the stack that
`no_overflow_after_cycleCheck` (Props/C20.lean) grants is deep enough. -/
theorem rank_le_groups (x : Str) (d : List Str) : rkR x d.reverse ≤ d.length := by
  simpa using rkR_le x d.reverse

end NA.C20.PanOs
