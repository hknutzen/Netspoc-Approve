import NA.Proofs.C15Full
import NA.Proofs.C15Dec
/-!
# C15: banners on the fixed dialogue (`wideDevice`)

Change lines, `do reload in 2`, `n`, the empty command and `write memory` pass through to
`simDevice [] na` (`PassThru`), so the change loop is the one of `loop_spec`; only the second
`configure terminal`, the deferred `end` and `reload cancel` are evaluated anew.  On these three the armed
device answers `replyFor s (keyBehav fb s)`: the standard answer is the answer of form `Form.none`
(`simStep_key`), so a line with a banner and a line without are one case.
-/
namespace NA.Ios

variable (na : Bool) (fb : Str → Option Behav)

/-- lines the widened device passes through to `simDevice [] na` -/
def PassThru (s : Str) : Prop := (s == reloadCmd) = false ∧ isKey s = false

theorem wide_step_pass (d : SimSt) (s : Str) (h : PassThru s) :
    (wideDevice na fb).step d s = (simDevice [] na).step d s := by
  simp [wideDevice, beq_eq_false_iff_ne.1 h.1, h.2]

theorem send_wide (s : Str) (h : PassThru s) : send (wideDevice na fb) s = send (simDevice [] na) s := by
  funext st
  simp [send, wide_step_pass na fb st.dev s h]

theorem sendCmd_wide (s : Str) (h : PassThru s) :
    sendCmd (wideDevice na fb) s = sendCmd (simDevice [] na) s := by
  unfold sendCmd; rw [send_wide na fb s h]

theorem issueCmd_wide (s : Str) (n : String) (alts : List (Str × Bool)) (h : PassThru s) :
    issueCmd (wideDevice na fb) s n alts = issueCmd (simDevice [] na) s n alts := by
  unfold issueCmd; rw [send_wide na fb s h]

theorem pass_fixed : ∀ l ∈ [doReloadCmd, lit "n", [], writeCmd], PassThru l := by
  decide_lit [c15_vocab, PassThru, isKey]

theorem extendReload_wide : extendReload (wideDevice na fb) = extendReload (simDevice [] na) := by
  unfold extendReload sendReloadCmd
  simp only [if_true]
  rw [issueCmd_wide na fb _ _ _ (pass_fixed _ (by simp)), issueCmd_wide na fb _ _ _ (pass_fixed _ (by simp)),
    sendCmd_wide na fb _ (pass_fixed _ (by simp))]

theorem Chg.pass (g : Chg) (h : g.Clean) : PassThru g.cmd := by
  have hk : ∀ k ∈ [reloadCmd, confCmd, endCmd, cancelCmd], (g.cmd == k) = false :=
    fun k hk => g.cmd_ne_fixed h k (by
      simp only [List.mem_cons, List.not_mem_nil, or_false] at hk
      rcases hk with rfl | rfl | rfl | rfl <;> simp [fixedLines, prepCmds])
  simp [PassThru, isKey, hk]

theorem cmd_wide (fixed : Bool) (c : Str) (h : PassThru c) :
    cmd (wideDevice na fb) fixed c = cmd (simDevice [] na) fixed c := by
  unfold cmd
  rw [send_wide na fb c h, extendReload_wide]

theorem changeLoop_wide (fixed : Bool) (cs : List Str) (h : ∀ c ∈ cs, PassThru c) :
    changeLoop (wideDevice na fb) fixed cs = changeLoop (simDevice [] na) fixed cs := by
  unfold changeLoop
  induction cs with
  | nil => simp only [forEach]
  | cons c cs ih =>
    simp only [forEach]
    rw [cmd_wide na fb fixed c (h c (by simp)), ih (fun x hx => h x (by simp [hx]))]

theorem writeMem_wide (n : Nat) : writeMem (wideDevice na fb) n = writeMem (simDevice [] na) n := by
  have hr : writeMemRound (wideDevice na fb) = writeMemRound (simDevice [] na) := by
    unfold writeMemRound
    rw [issueCmd_wide na fb _ _ _ (pass_fixed _ (by simp)), send_wide na fb _ (pass_fixed _ (by simp))]
  induction n with
  | zero => unfold writeMem; rw [hr]
  | succ n ih => unfold writeMem; rw [hr, ih]

theorem wide_step_unarmed (d : SimSt) (s : Str) (hs : (s == reloadCmd) = false) (hocc : d.occ = []) :
    (wideDevice na fb).step d s = (simDevice [] na).step d s := by
  simp [wideDevice, beq_eq_false_iff_ne.1 hs, hocc, armedMark]

/-- the preparation commands: the device is not armed yet -/
theorem prepare_wide (st : St SimSt) (hp : st.pend = []) (hparts : st.dev.parts = []) (hocc : st.dev.occ = []) :
    prepareDevice (wideDevice na fb) st = (.ok (), { st with pend := [], trace := st.trace ++ prepCmds }) :=
  prepare_follows _ na id st hp hparts fun l hl => wide_step_unarmed na fb st.dev l
    ((by decide_lit [c15_vocab] : ∀ c ∈ prepCmds, (c == reloadCmd) = false) l hl) hocc

theorem wide_step_reload (d : SimSt) :
    (wideDevice na fb).step d reloadCmd =
      ({ ((simDevice [] na).step d reloadCmd).1 with occ := armedMark }, ((simDevice [] na).step d reloadCmd).2) := by
  simp [wideDevice]

/-- the schedule exchange arms the device -/
theorem schedule_wide (st : St SimSt) (hp : st.pend = []) (hparts : st.dev.parts = []) :
    scheduleReload (wideDevice na fb) st =
      (.ok (), { st with dev := { st.dev with occ := armedMark }, pend := [], reloadActive := true,
                         trace := st.trace ++ schedLines na }) := by
  have := sendReloadCmd_played (wideDevice na fb) na false st
    (fun ps => { st.dev with parts := ps, occ := armedMark }) hp
    (fun p ps h => by
      show (wideDevice na fb).step st.dev reloadCmd = _
      rw [wide_step_reload, simStep_std na st.dev reloadCmd p ps hparts (by rw [← h]; exact stdReplyV_reload na false)
        (fixed_single _ (by simp [fixedLines]))])
    (fun l p ps hl _ => by
      rw [wide_step_pass na fb _ l (pass_fixed l (by rcases hl with rfl | rfl <;> simp))]
      exact simStep_part na _ l p ps rfl (fixed_single l (by rcases hl with rfl | rfl <;> simp [fixedLines])))
  unfold scheduleReload
  rw [this]
  cases hd : st.dev with
  | mk pa qu oc => rw [hd] at hparts; simp at hparts; cases na <;> simp [hparts, schedLines]

/-- banner placements that leave ONE prompt in the answer -/
def singlePrompt (f : Form) : Bool :=
  match f with
  | .before _ => false
  | .afterPrompt _ => false
  | _ => true

theorem replyTail_single (ci : Str) (b : Behav) (h : singlePrompt b.form = true) : replyTail ci b [] = [] := by
  unfold replyTail
  cases hf : b.form <;> simp_all [singlePrompt]

theorem isKey_ne_reload (s : Str) (h : isKey s = true) : s ≠ reloadCmd := by
  unfold isKey at h
  simp only [Bool.or_eq_true, beq_iff_eq] at h
  rcases h with (rfl | rfl) | rfl <;> decide_lit [c15_vocab]

/-- what the armed device does on a fixed line: the banner `fb` puts on it (none: `Form.none`) around the
line's standard output -/
def keyBehav (fb : Str → Option Behav) (s : Str) : Behav := { (fb s).getD {} with out := stdOutOf s }

theorem wide_step_key (d : SimSt) (s : Str) (hk : isKey s = true) (hparts : d.parts = []) (hocc : d.occ = armedMark) :
    (wideDevice na fb).step d s = (d, replyFor s (keyBehav fb s)) := by
  have h1 := isKey_ne_reload s hk
  have h2 := simStep_key na d s hk hparts
  unfold keyBehav
  cases hb : fb s <;> simp [wideDevice, h1, hocc, hk, hb, h2]

theorem cleanCmd_conf : CleanCmd confCmd := cleanCmd_of_B confCmd (by unfold confCmd; decide_lit [lit_ofList])
theorem cleanOut_conf : CleanOut confOut := cleanOut_of_B confOut (by unfold confOut; decide_lit [lit_ofList])

theorem cleanBehav_key (s : Str) (ho : CleanOut (stdOutOf s)) (hfb : ∀ b, fb s = some b → b.form ≠ .none → CleanMsg b.msg) :
    CleanBehav (keyBehav fb s) := by
  refine ⟨ho, ?_⟩
  unfold keyBehav
  cases hb : fb s with
  | none => exact fun h => absurd rfl h
  | some b => exact hfb b hb

theorem conf_wide (st : St SimSt) (hp : st.pend = []) (hparts : st.dev.parts = []) (hocc : st.dev.occ = armedMark)
    (hfb : ∀ b, fb confCmd = some b → singlePrompt b.form = true ∧ (b.form ≠ .none → CleanMsg b.msg)) :
    sendCmd (wideDevice na fb) confCmd st = (.ok (), { st with pend := [], trace := st.trace ++ [confCmd] }) := by
  have hcb : CleanBehav (keyBehav fb confCmd) :=
    cleanBehav_key fb confCmd (by rw [show stdOutOf confCmd = confOut by simp [stdOutOf]]; exact cleanOut_conf)
      (fun b hb => (hfb b hb).2)
  have hsp : singlePrompt (keyBehav fb confCmd).form = true := by
    unfold keyBehav
    cases hb : fb confCmd with
    | none => rfl
    | some b => exact (hfb b hb).1
  obtain ⟨u, _, hu, hnu, _⟩ := reply_anatomy confCmd (keyBehav fb confCmd) [] cleanCmd_conf hcb
  rw [replyTail_single confCmd _ hsp, List.append_nil] at hu
  refine sendCmd_eval (wideDevice na fb) st confCmd _ st.dev u.length
    (wide_step_key na fb _ _ (by simp [isKey]) hparts hocc) hp ?_
  rw [hu, promptFind_at u [] hnu rfl]
  simp [promptHead_len]

theorem cleanCmd_end : CleanCmd endCmd := cleanCmd_of_B endCmd (by unfold endCmd; decide_lit [lit_ofList])
theorem cleanCmd_cancel : CleanCmd cancelCmd := cleanCmd_of_B cancelCmd (by unfold cancelCmd; decide_lit [lit_ofList])
theorem cleanOut_cancel : CleanOut cancelOut := cleanOut_of_B cancelOut (by unfold cancelOut; decide_lit [lit_ofList])

theorem end_wide (st : St SimSt) (hparts : st.dev.parts = []) (hocc : st.dev.occ = armedMark)
    (hfb : ∀ b, fb endCmd = some b → (b.form ≠ .none → CleanMsg b.msg)) :
    ∃ L', sendCmd (wideDevice na fb) endCmd st =
      (.ok (), { st with pend := L', trace := st.trace ++ [endCmd] }) := by
  have hcb : CleanBehav (keyBehav fb endCmd) :=
    cleanBehav_key fb endCmd (by
      rw [show stdOutOf endCmd = [] by decide_lit [c15_vocab, stdOutOf]]; exact ⟨by decide +kernel, .inl rfl, by decide +kernel⟩) hfb
  obtain ⟨u, _, hu, _⟩ := reply_anatomy endCmd (keyBehav fb endCmd) [] cleanCmd_end hcb
  rw [List.append_nil] at hu
  exact sendCmd_leftover _ st endCmd u _ st.dev (by rw [wide_step_key na fb _ _ (by simp [isKey]) hparts hocc, hu])

theorem reply_holds_out (ci o : Str) (b : Behav) (h : b.out = o ++ ['\n']) :
    ∃ a c, replyFor ci b = a ++ o ++ c ++ ['#'] := by
  have hd : dropLastNL (ci ++ ['\n'] ++ b.out) = ci ++ ['\n'] ++ o := by
    rw [h, ← List.append_assoc]; exact dropLastNL_snoc _
  unfold replyFor
  rw [hd, h, prompt_eq]
  cases b.form with
  | none => exact ⟨ci ++ ['\n'], ['\n'] ++ routerName, by simp⟩
  | before pad => exact ⟨nls pad ++ bannerText b.msg ++ ['\n'] ++ routerName ++ ['#'] ++ ci ++ ['\n'], ['\n'] ++ routerName, by simp⟩
  | inside off => exact ⟨ci.take off ++ bannerText b.msg ++ ci.drop off ++ ['\n'], ['\n'] ++ routerName, by simp⟩
  | afterPrompt pad =>
    exact ⟨ci ++ ['\n'], nls pad ++ bannerText b.msg ++ ['\n'] ++ routerName ++ ['#'] ++ ['\n'] ++ routerName, by simp⟩
  | after => exact ⟨ci ++ ['\n'], bannerText b.msg ++ ['\n'] ++ routerName, by simp⟩
  | afterLine pre post => exact ⟨ci ++ ['\n'], ['\n'] ++ nls pre ++ bannerText b.msg ++ nls post ++ routerName, by simp⟩

/-- with a banner of any form on its line the answer still contains the `SHUTDOWN ABORTED` text and ends in `#` -/
theorem cancel_wide (st : St SimSt) (hparts : st.dev.parts = []) (hocc : st.dev.occ = armedMark) :
    cancelReload (wideDevice na fb) st =
      (.ok (), { st with pend := [], reloadActive := false, trace := st.trace ++ [cancelCmd, []] }) := by
  obtain ⟨a, c, h⟩ := reply_holds_out cancelCmd (lit "\n\n***\n*** " ++ abortLit ++ lit "\n***") (keyBehav fb cancelCmd)
    (by unfold keyBehav stdOutOf cancelOut abortLit cancelCmd confCmd; decide_lit [lit_ofList])
  exact cancelReload_leftover (wideDevice na fb) st (a ++ lit "\n\n***\n*** ") (lit "\n***" ++ c)
    ([] ++ ['\n'] ++ prompt) st.dev st.dev 0
    (by rw [wide_step_key na fb _ _ (by simp [isKey]) hparts hocc, h]; simp)
    (by rw [wide_step_pass na fb _ _ (pass_fixed _ (by simp))]
        exact simStep_empty na st.dev hparts)
    (by decide +kernel)

/-- admissible banners on the fixed lines: any form on `end` and `reload cancel`; on the second
`configure terminal` the forms that leave one prompt (the others are finding F-C15e) -/
structure FbOK (fb : Str → Option Behav) : Prop where
  conf : ∀ b, fb confCmd = some b → singlePrompt b.form = true ∧ (b.form ≠ .none → CleanMsg b.msg)
  endc : ∀ b, fb endCmd = some b → (b.form ≠ .none → CleanMsg b.msg)

theorem apply_wide (gs : List Chg) (q : List Behav) (st0 : St SimSt) (hfb : FbOK fb)
    (hp : st0.pend = []) (ht : st0.trace = []) (hparts : st0.dev.parts = []) (hocc : st0.dev.occ = [])
    (hq : st0.dev.queue = gs.flatMap Chg.behavs ++ q) (hc : ∀ g ∈ gs, g.Clean ∧ g.NoProbeFirst) :
    let o := applyCommands (wideDevice na fb) true (gs.map Chg.cmd) st0
    (specOk gs = true → o.1 = .ok () ∧ o.2.trace = fullTrace na gs) ∧
    (specOk gs = false → (∃ ci R out, o.1 = .abort (.unexpectedOutput ci R) ∧ firstBad gs = some (ci, out) ∧
        neLines R = neLines out) ∧ o.2.trace = failTrace na gs) ∧
    o.2.warns = st0.warns ++ specWarns gs ∧ o.2.reloadActive = false ∧ o.2.pend = [] := by
  intro o
  let D := wideDevice na fb
  let s1 : St SimSt := { st0 with pend := [], trace := st0.trace ++ prepCmds }
  let s2 : St SimSt := { s1 with dev := { s1.dev with occ := armedMark }, pend := [], reloadActive := true,
                                  trace := s1.trace ++ schedLines na }
  let s3 : St SimSt := { s2 with pend := [], trace := s2.trace ++ [confCmd] }
  have hpass : ∀ c ∈ gs.map Chg.cmd, PassThru c := by
    intro c hcm
    obtain ⟨g, hg, rfl⟩ := List.mem_map.1 hcm
    exact Chg.pass g (hc g hg).1
  -- the change loop is that of the scripted device
  obtain ⟨hl1, hl2, hl3, hl4, hl5⟩ := loop_spec na gs s3 q ⟨rfl, rfl, hparts⟩ hq hc
  rw [← changeLoop_wide na fb true _ hpass] at hl1 hl2 hl3 hl4 hl5
  let s4 := (changeLoop D true (gs.map Chg.cmd) s3).2
  obtain ⟨L', e4⟩ := end_wide na fb s4 hl5.1 hl5.2.2 hfb.endc
  let s6 : St SimSt := { s4 with pend := [], reloadActive := false, trace := s4.trace ++ [endCmd] ++ [cancelCmd, []] }
  have ho : o = _ := applyCommands_frame D true (gs.map Chg.cmd) st0 s1 s2 s3 _ s6
    (prepare_wide na fb st0 hp hparts hocc) (schedule_wide na fb s1 rfl hparts)
    (conf_wide na fb s2 rfl hparts rfl hfb.conf) e4 (cancel_wide na fb _ hl5.1 hl5.2.2)
  have htr6 : s6.trace = failTrace na gs := by
    show (changeLoop D true (gs.map Chg.cmd) s3).2.trace ++ [endCmd] ++ [cancelCmd, []] = _
    rw [hl1]; simp [s3, s2, s1, ht, failTrace]
  have hw6 : s6.warns = st0.warns ++ specWarns gs := hl2
  rw [ho]
  cases hs : specOk gs with
  | true =>
    rw [(hl3 hs).1]
    simp only
    rw [writeMem_wide, write_sim na s6 rfl hl5.1 2]
    refine ⟨fun _ => ⟨rfl, ?_⟩, fun h => (by cases h), hw6, rfl, rfl⟩
    show s6.trace ++ [writeCmd] = _
    rw [htr6]; rfl
  | false =>
    obtain ⟨ci, R, out, hab, hfbad, hne⟩ := hl4 hs
    rw [hab]
    exact ⟨fun h => (by cases h), fun _ => ⟨⟨ci, R, out, rfl, hfbad, hne⟩, htr6⟩, hw6, rfl, rfl⟩

end NA.Ios
