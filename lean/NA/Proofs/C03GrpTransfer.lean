import NA.Proofs.C03GrpPlan
/-
C03, pairs with address-groups, on the strict device: the transfer phase:
addresses, then the groups that are transferred under their new names, then services.
Core Lean only.
-/
namespace NA.PanOs

structure AddrSumR (R : String → Prop) (a b : Vsys) (st : St) : Prop where
  bdefs : st.bAddr.map (·.o) = b.addrs
  adefs : st.aAddr.map (·.o) = a.addrs
  editHas : ∀ ob ∈ st.bAddr, ob.edit = true → ob.o.name ∈ a.addrs.map (·.name)
  setLacks : ∀ ob ∈ st.bAddr, ob.needed = true → ob.o.name ∉ a.addrs.map (·.name)
  covered : ∀ x, R x → x ∈ b.addrs.map (·.name) → ∃ ob ∈ st.bAddr, ob.o.name = x ∧
    ((x ∈ a.addrs.map (·.name) ∧ (lookupObj a.addrs x = some ob.o.val ∨ ob.edit = true)) ∨
      (x ∉ a.addrs.map (·.name) ∧ ob.needed = true))
  marked : ∀ x, R x → x ∈ b.addrs.map (·.name) → ∀ oa ∈ st.aAddr, oa.o.name = x → oa.needed = true

theorem addrSumR_of (R : String → Prop) {a b : Vsys} {st : St}
    (hb : st.bAddr.map (·.o) = b.addrs) (hadef : st.aAddr.map (·.o) = a.addrs) (hs : FlagSound st)
    (hc : ∀ x, R x → x ∈ b.addrs.map (·.name) → Covered st x ∧ Marked st x)
    (ha : (a.addrs.map (·.name)).Nodup) : AddrSumR R a b st :=
  have ⟨s1, s2, s3, s4⟩ := objSummary hb hadef hs hc ha
  ⟨hb, hadef, s1, s2, s3, s4⟩

def grpTransfer (gs : List BGrp) : List Cmd :=
  gs.filterMap (fun g => if g.needed then some (.setGrp g.newName g.g.members) else none)

def newGroups (gs : List BGrp) : List Grp :=
  (gs.filter (·.needed)).map (fun g => ⟨g.newName, g.g.members⟩)

theorem lookupGrp_newGroups {gs : List BGrp} {n : String} {ms : List String}
    (h : lookupGrp (newGroups gs) n = some ms) :
    ∃ gb ∈ gs, gb.needed = true ∧ gb.newName = n ∧ gb.g.members = ms := by
  obtain ⟨gr, hf, hm⟩ := lookupGrp_some h
  have hmem := List.mem_of_find?_eq_some hf
  have hname : gr.name = n := by simpa using List.find?_some hf
  unfold newGroups at hmem
  simp only [List.mem_map, List.mem_filter] at hmem
  obtain ⟨gb, ⟨hgb, hn⟩, e⟩ := hmem
  refine ⟨gb, hgb, hn, ?_, ?_⟩
  · rw [← hname, ← e]
  · rw [← hm, ← e]

theorem lookupGrp_newGroups_of {gs : List BGrp} (hnd : ((gs.filter (·.needed)).map (·.newName)).Nodup)
    {gb : BGrp} (hgb : gb ∈ gs) (hn : gb.needed = true) :
    lookupGrp (newGroups gs) gb.newName = some gb.g.members := by
  have hmem : (⟨gb.newName, gb.g.members⟩ : Grp) ∈ newGroups gs := by
    unfold newGroups
    exact List.mem_map.mpr ⟨gb, List.mem_filter.mpr ⟨hgb, hn⟩, rfl⟩
  have hnd' : ((newGroups gs).map (·.name)).Nodup := by
    unfold newGroups
    simpa [List.map_map, Function.comp_def] using hnd
  exact lookupGrp_of_mem hnd' hmem

theorem runs_grpTransfer (sh : Shared) : ∀ (gs : List BGrp) (v : Vsys),
    ((gs.filter (·.needed)).map (·.newName)).Nodup →
    (∀ g ∈ gs, g.needed = true → g.newName ∉ v.groups.map (·.name)) →
    (∀ g ∈ gs, g.needed = true → g.g.members.Nodup ∧ ∀ m ∈ g.g.members, v.addrs.any (·.name == m) = true) →
    Runs sh v (grpTransfer gs) { v with groups := v.groups ++ newGroups gs } := by
  intro gs
  induction gs with
  | nil =>
    intro v _ _ _
    rw [show newGroups [] = [] from rfl, List.append_nil]
    exact Runs.nil sh v
  | cons g gs ih =>
    intro v hnd hfresh hmem
    cases hn : g.needed with
    | false =>
      have e1 : grpTransfer (g :: gs) = grpTransfer gs := by simp [grpTransfer, hn]
      have e2 : newGroups (g :: gs) = newGroups gs := by simp [newGroups, hn]
      rw [e1, e2]
      exact ih v (by simpa [hn] using hnd) (fun g' hg' => hfresh g' (List.mem_cons_of_mem _ hg'))
        (fun g' hg' => hmem g' (List.mem_cons_of_mem _ hg'))
    | true =>
      have e1 : grpTransfer (g :: gs) = .setGrp g.newName g.g.members :: grpTransfer gs := by
        simp [grpTransfer, hn]
      have e2 : newGroups (g :: gs) = ⟨g.newName, g.g.members⟩ :: newGroups gs := by simp [newGroups, hn]
      obtain ⟨hmnd, hmex⟩ := hmem g (by simp) hn
      have hnot : v.groups.any (·.name == g.newName) = false :=
        Bool.eq_false_iff.mpr fun hany => hfresh g (by simp) hn ((isGrpOf_iff v g.newName).mp hany)
      have hall : g.g.members.all (addrRefOk sh v) = true := by
        rw [List.all_eq_true]
        intro m hm
        simp [addrRefOk, hmex m hm]
      have hexec : exec sh v (.setGrp g.newName g.g.members) =
          .ok { v with groups := v.groups ++ [⟨g.newName, g.g.members⟩] } := by
        refine exec_setGrp_iff.mpr ⟨hall, ?_⟩
        rw [hnot, mergeMembers_disjoint [] _ hmnd]
        rfl
      have hnd' : ((gs.filter (·.needed)).map (·.newName)).Nodup ∧ g.newName ∉ (gs.filter (·.needed)).map (·.newName) := by
        simp only [List.filter_cons, hn, if_true, List.map_cons, List.nodup_cons] at hnd
        exact ⟨hnd.2, hnd.1⟩
      have hw := ih { v with groups := v.groups ++ [⟨g.newName, g.g.members⟩] } hnd'.1
        (by
          intro g' hg' hn'
          simp only [List.map_append, List.map_cons, List.map_nil, List.mem_append, List.mem_singleton, not_or]
          refine ⟨hfresh g' (List.mem_cons_of_mem _ hg') hn', ?_⟩
          intro e
          apply hnd'.2
          rw [← e]
          exact List.mem_map_of_mem (List.mem_filter.mpr ⟨hg', by simpa using hn'⟩))
        (fun g' hg' hn' => hmem g' (List.mem_cons_of_mem _ hg') hn')
      rw [e1, e2]
      simp only [List.append_assoc, List.singleton_append] at hw
      exact Runs.cons hexec hw

theorem svcSummary_direct {a b : Vsys} {st : St}
    (hb : st.bSvc.map (·.o) = b.svcs) (hadef : st.aSvc.map (·.o) = a.svcs) (hs : SFlagSound st)
    (hc : ∀ x, RefSvc b x → x ∈ b.svcs.map (·.name) → SCovered st x ∧ SMarked st x)
    (ha : (a.svcs.map (·.name)).Nodup) : SvcSummary a b st :=
  have ⟨s1, s2, s3, s4⟩ := objSummary hb hadef hs hc ha
  ⟨hb, hadef, s1, s2, s3, s4⟩

theorem transferCmds_grp (st : St) (hbSG : st.bSG = []) :
    transferCmds st = addrTransfer st.bAddr ++ grpTransfer st.bGrp ++ svcTransfer st.bSvc := by
  simp [transferCmds, addrTransfer, svcTransfer, objTransfer, grpTransfer, hbSG]

/-- What the rule phase finds on the device after the transfer phase (with address-groups). -/
structure AfterTransferG (R : String → Prop) (a b : Vsys) (st : St) (a1 : Vsys) : Prop where
  rules : a1.rules = a.rules
  groups : a1.groups = a.groups ++ newGroups st.bGrp
  sgroups : a1.sgroups = a.sgroups
  name : a1.name = a.name
  addrRef : ∀ x, R x → x ∈ b.addrs.map (·.name) → lookupObj a1.addrs x = lookupObj b.addrs x
  addrOther : ∀ n, n ∉ b.addrs.map (·.name) → lookupObj a1.addrs n = lookupObj a.addrs n
  addrNames : ∀ n ∈ a1.addrs.map (·.name), n ∈ a.addrs.map (·.name) ∨ ∃ ob ∈ st.bAddr, ob.flagged = true ∧ ob.o.name = n
  addrKeep : ∀ n, n ∈ a.addrs.map (·.name) → n ∈ a1.addrs.map (·.name)
  svcRef : ∀ x, RefSvc b x → x ∈ b.svcs.map (·.name) → lookupObj a1.svcs x = lookupObj b.svcs x
  svcOther : ∀ n, n ∉ b.svcs.map (·.name) → lookupObj a1.svcs n = lookupObj a.svcs n
  svcNames : ∀ n ∈ a1.svcs.map (·.name), n ∈ a.svcs.map (·.name) ∨ ∃ ob ∈ st.bSvc, ob.flagged = true ∧ ob.o.name = n
  svcKeep : ∀ n, n ∈ a.svcs.map (·.name) → n ∈ a1.svcs.map (·.name)

theorem runs_transferG (sh : Shared) (R : String → Prop) (a b : Vsys) (st : St)
    (hA : AddrSumR R a b st) (hS : SvcSummary a b st) (hbSG : st.bSG = [])
    (hbn : (b.addrs.map (·.name)).Nodup) (hsn : (b.svcs.map (·.name)).Nodup)
    (hgn : ((st.bGrp.filter (·.needed)).map (·.newName)).Nodup)
    (hgf : ∀ g ∈ st.bGrp, g.needed = true → g.newName ∉ a.groups.map (·.name))
    (hgm : ∀ g ∈ st.bGrp, g.needed = true → g.g.members.Nodup ∧
      ∀ m ∈ g.g.members, R m ∧ m ∈ b.addrs.map (·.name)) :
    ∃ a1, Runs sh a (transferCmds st) a1 ∧ AfterTransferG R a b st a1 := by
  rw [transferCmds_grp st hbSG]
  obtain ⟨os1, hv1, p1, p2, p3⟩ := runs_objTransfer addrKind sh st.bAddr a (by rw [map_o_name hA.bdefs]; exact hbn)
    hA.editHas (fun o ho _ hn => hA.setLacks o ho hn)
  obtain ⟨addrRef1, A2, A4⟩ := transferred_table hA.bdefs hbn p1 p2 p3 hA.covered
  have hv2 := runs_grpTransfer sh st.bGrp (addrKind.put a os1) hgn hgf fun g hg hn =>
    ⟨(hgm g hg hn).1, fun m hmm => by
      obtain ⟨hr, hb⟩ := (hgm g hg hn).2 m hmm
      have hl := addrRef1 m hr hb
      obtain ⟨val, hval⟩ := lookupObj_isSome_of_mem hb
      rw [hval] at hl
      exact lookupObj_some_any hl⟩
  obtain ⟨os3, hv3, q1, q2, q3⟩ := runs_objTransfer svcKind sh st.bSvc
    { a with addrs := os1, groups := a.groups ++ newGroups st.bGrp } (by rw [map_o_name hS.bdefs]; exact hsn)
    hS.editHas (fun o ho _ hn => hS.setLacks o ho hn)
  obtain ⟨S1, S2, S4⟩ := transferred_table hS.bdefs hsn q1 q2 q3 hS.covered
  exact ⟨_, (hv1.append hv2).append hv3, rfl, rfl, rfl, rfl, addrRef1, A2, fun n hn => (p3 n).mp hn, A4, S1, S2,
    fun n hn => (q3 n).mp hn, S4⟩

end NA.PanOs
