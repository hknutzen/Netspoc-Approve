import NA.Proofs.C03Members
import NA.Proofs.C03Out
/-
C03: the two loops of `diffRules` as loops over the alignment the script describes (`alStep`, `alInsert`), and the
requests they amount to when no address-group is involved, as functions of the alignment.  Planner side only.
Core Lean only.
-/
namespace NA.PanOs

def NoGrp (st : St) : Prop := st.aGrp = [] ∧ st.bGrp = []

theorem NoGrp.aIdx {st : St} (h : NoGrp st) (x : String) : st.aGrpIdx x = none := by
  simp [St.aGrpIdx, h.1, lastIdx, lastIdxFrom]

theorem NoGrp.bIdx {st : St} (h : NoGrp st) (x : String) : st.bGrpIdx x = none := by
  simp [St.bGrpIdx, h.2, lastIdx, lastIdxFrom]

def fieldCmds (diff : Differ) (n : String) (f : Fld) (la lb : List String) : List Cmd :=
  if replaceInstead la.length (deletedCount (diff la.length lb.length (nameEq la lb)))
  then [.editList n f lb]
  else listCmds (.rule n f) la lb (diff la.length lb.length (nameEq la lb))

def eqCmds (diff : Differ) (ra rb : Rule) : List Cmd :=
  fieldCmds diff ra.name .src ra.src rb.src ++ fieldCmds diff ra.name .dst ra.dst rb.dst ++
    (if ra.srv != rb.srv then [.editList ra.name .srv rb.srv] else [])

def Al.cmds1 (diff : Differ) : List (Al Rule Rule) → List Cmd
  | [] => []
  | .del a :: l => Cmd.delRule a.name :: cmds1 diff l
  | .ins _ :: l => cmds1 diff l
  | .eq a b :: l => eqCmds diff a b ++ cmds1 diff l

def Al.cmds2 : List (Al Rule Rule) → List Cmd
  | [] => []
  | .ins b :: l =>
    Cmd.setRule b :: (match (Al.kept l).head? with | some d => [Cmd.move b.name d.name] | none => []) ++ cmds2 l
  | _ :: l => cmds2 l

/-- That `diffRules` appends exactly these when no group is involved: `diffRules_noGrp`, `NA/Proofs/C03GrpRule.lean`. -/
def plainRuleCmds (diff : Differ) (aRules bRules : List Rule) (rs : List Range) : List Cmd :=
  Al.cmds1 diff (align aRules bRules rs) ++ Al.cmds2 (align aRules bRules rs)

def alStep (diff : Differ) (fuel : Nat) (st : St) : Al Rule Rule → St
  | .del a => st.emitAll [.delRule a.name]
  | .ins _ => st
  | .eq a b => equalize diff fuel st a b

def alInsert : St → List (Al Rule Rule) → St
  | st, [] => st
  | st, .ins b :: l => alInsert (insertRule ((Al.kept l).head?.map (·.name)) st b) l
  | st, _ :: l => alInsert st l

theorem Al.mem_bs {α β : Type} {b : β} {l : List (Al α β)} (h : b ∈ Al.bs l) : b ∈ Al.inss l ∨ ∃ a, Al.eq a b ∈ l := by
  induction l with
  | nil => cases h
  | cons x l ih =>
    cases x with
    | del _ => exact (ih h).imp id fun ⟨a, ha⟩ => ⟨a, List.mem_cons_of_mem _ ha⟩
    | ins b' =>
      rcases List.mem_cons.mp h with rfl | h
      · exact Or.inl List.mem_cons_self
      · exact (ih h).imp (List.mem_cons_of_mem _) fun ⟨a, ha⟩ => ⟨a, List.mem_cons_of_mem _ ha⟩
    | eq a b' =>
      rcases List.mem_cons.mp h with rfl | h
      · exact Or.inr ⟨a, List.mem_cons_self⟩
      · exact (ih h).imp id fun ⟨a, ha⟩ => ⟨a, List.mem_cons_of_mem _ ha⟩

theorem foldl_alStep_dels (diff : Differ) (fuel : Nat) (xs : List Rule) (st : St) :
    (xs.map .del).foldl (alStep diff fuel) st = st.emitAll (xs.map (fun ru => Cmd.delRule ru.name)) := by
  induction xs generalizing st with
  | nil => exact (emitAll_nil st).symm
  | cons x xs ih => rw [List.map_cons, List.foldl_cons, ih, alStep, emitAll_emitAll]; rfl

theorem foldl_alStep_inss (diff : Differ) (fuel : Nat) (ys : List Rule) (st : St) :
    (ys.map .ins).foldl (alStep diff fuel) st = st := by
  induction ys with | nil => rfl | cons y ys ih => exact ih

theorem foldl_alStep_pairs (diff : Differ) (fuel : Nat) (A B : List Rule) :
    ∀ (n lo lo' : Nat) (st : St), lo + n ≤ A.length → lo' + n ≤ B.length →
      (List.zipWith .eq ((A.drop lo).take n) ((B.drop lo').take n)).foldl (alStep diff fuel) st =
        (List.range n).foldl (fun st k =>
          equalize diff fuel st (A.getD (lo + k) default) (B.getD (lo' + k) default)) st := by
  intro n
  induction n with
  | zero => intro _ _ _ _ _; rfl
  | succ n ih =>
    intro lo lo' st hA hB
    have hlo : lo < A.length := Nat.lt_of_lt_of_le (Nat.lt_add_of_pos_right (Nat.succ_pos n)) hA
    have hlo' : lo' < B.length := Nat.lt_of_lt_of_le (Nat.lt_add_of_pos_right (Nat.succ_pos n)) hB
    rw [List.drop_eq_getElem_cons hlo, List.drop_eq_getElem_cons hlo', List.take_succ_cons, List.take_succ_cons,
      List.zipWith_cons_cons, List.range_succ_eq_map, List.foldl_cons, List.foldl_cons, List.foldl_map,
      ih (lo + 1) (lo' + 1) _ (by rw [Nat.add_assoc, Nat.add_comm 1]; exact hA)
        (by rw [Nat.add_assoc, Nat.add_comm 1]; exact hB)]
    simp only [alStep, Nat.add_zero, List.getD_eq_getElem?_getD, List.getElem?_eq_getElem hlo,
      List.getElem?_eq_getElem hlo', Option.getD_some, Nat.add_assoc, Nat.add_comm 1]

theorem rulePhase1_align {eq : Nat → Nat → Bool} (diff : Differ) (fuel : Nat) (A B : List Rule) :
    ∀ (rs : List Range) (x y : Nat) (st : St) (d : Nat) (ins : List InsGroup),
      validFrom eq A.length B.length x y rs = true →
      ∃ d', rs.foldl (phase1Step diff fuel A B) (st, d, ins) =
        ((align A B rs).foldl (alStep diff fuel) st, d', ins ++ insGroupsFrom (ruleNames A) d rs) := by
  intro rs
  induction rs with
  | nil => intro _ _ st d ins _; exact ⟨d, by simp only [List.foldl_nil, align, insGroupsFrom, List.append_nil]⟩
  | cons r rs ih =>
    intro x y st d ins h
    obtain ⟨_, _, h3, h4, h5, h6, h7⟩ := validFrom_cons h
    cases hk : r.kind with
    | del =>
      obtain ⟨d', e⟩ := ih r.highA r.highB (st.emitAll ((A.extract r.lowA r.highA).map (fun ru => Cmd.delRule ru.name)))
        r.highA ins h7
      exact ⟨d', by simp only [List.foldl_cons, phase1Step_del _ _ _ _ _ _ _ _ hk, e, align, hk, List.foldl_append,
        foldl_alStep_dels, insGroupsFrom]⟩
    | ins =>
      obtain ⟨d', e⟩ := ih r.highA r.highB st d (ins ++ [⟨(A[max r.lowA d]?).map (·.name), r.lowB, r.highB⟩]) h7
      exact ⟨d', by simp only [List.foldl_cons, phase1Step_ins _ _ _ _ _ _ _ _ hk, e, align, hk, List.foldl_append,
        foldl_alStep_inss, insGroupsFrom, ruleNames, List.getElem?_map, List.append_assoc, List.singleton_append]⟩
    | eq =>
      have hl := (kind_eq_len h hk).1
      obtain ⟨d', e⟩ := ih r.highA r.highB ((List.range (r.highA - r.lowA)).foldl (fun st k =>
        equalize diff fuel st (A.getD (r.lowA + k) default) (B.getD (r.lowB + k) default)) st) d ins h7
      refine ⟨d', ?_⟩
      simp only [List.foldl_cons, phase1Step_eq _ _ _ _ _ _ _ _ hk, e, align, hk, List.foldl_append, insGroupsFrom,
        List.extract, hl]
      rw [foldl_alStep_pairs diff fuel A B _ _ _ _ (by rw [Nat.add_sub_cancel' h3]; exact h5)
        (by rw [← hl, Nat.add_sub_cancel' h4]; exact h6)]

theorem alInsert_dels (st : St) (xs : List Rule) (l : List (Al Rule Rule)) :
    alInsert st (xs.map .del ++ l) = alInsert st l := by
  induction xs with | nil => rfl | cons x xs ih => exact ih

theorem alInsert_pairs (st : St) (xs : List Rule) : ∀ (ys : List Rule) (l : List (Al Rule Rule)),
    alInsert st (List.zipWith .eq xs ys ++ l) = alInsert st l := by
  induction xs with
  | nil => intro _ _; rw [List.zipWith_nil_left]; rfl
  | cons _ xs ih => intro ys l; cases ys with | nil => rfl | cons _ ys => exact ih ys l

theorem alInsert_inss (ys : List Rule) (l : List (Al Rule Rule)) : ∀ st : St,
    alInsert st (ys.map .ins ++ l) =
      alInsert (ys.foldl (insertRule ((Al.kept l).head?.map (·.name))) st) l := by
  induction ys with
  | nil => intro _; rfl
  | cons y ys ih =>
    intro st
    simp only [List.map_cons, List.cons_append, alInsert, List.foldl_cons, Al.kept_append,
      (Al.of_inss (α := Rule) ys).2.2.2.1, List.nil_append, ih]

theorem rulePhase2_align {eq : Nat → Nat → Bool} (A B : List Rule) :
    ∀ (rs : List Range) (x y d : Nat) (st : St), validFrom eq A.length B.length x y rs = true →
      normalised rs = true → d ≤ x →
      rulePhase2 st B (insGroupsFrom (ruleNames A) d rs) = alInsert st (align A B rs) := by
  intro rs
  induction rs with
  | nil => intro _ _ _ _ _ _ _; rfl
  | cons r rs ih =>
    intro x y d st h hn hd
    obtain ⟨h1, _, h3, _, _, _, h7⟩ := validFrom_cons h
    subst h1
    have hn' := normalised_tail hn
    cases hk : r.kind with
    | del =>
      simp only [insGroupsFrom, align, hk, alInsert_dels]
      exact ih r.highA r.highB r.highA st h7 hn' (Nat.le_refl _)
    | eq =>
      simp only [insGroupsFrom, align, hk, alInsert_pairs]
      exact ih r.highA r.highB d st h7 hn' (Nat.le_trans hd h3)
    | ins =>
      simp only [insGroupsFrom, align, hk, Nat.max_eq_left hd, rulePhase2, List.foldl_cons, insertGroup,
        alInsert_inss, align_anchor A B h hn hk, ruleNames, List.getElem?_map]
      exact ih r.highA r.highB d _ h7 hn' (Nat.le_trans hd h3)

theorem diffRules_align {eq : Nat → Nat → Bool} (diff : Differ) (fuel : Nat) (st : St) (a b : Vsys) (A B : List Rule)
    {rs : List Range}
    (hrs : diff A.length B.length (fun i j => ruleEqual a b (A.getD i default) (B.getD j default)) = rs)
    (hv : validScript eq A.length B.length rs = true) (hn : normalised rs = true) :
    diffRules diff fuel st a b A B = alInsert ((align A B rs).foldl (alStep diff fuel) st) (align A B rs) := by
  unfold diffRules rulePhase1
  simp only [hrs]
  rcases validScript_cases hv with hv | ⟨_, hm, rfl⟩
  · obtain ⟨d', e⟩ := rulePhase1_align diff fuel A B rs 0 0 st 0 [] hv
    rw [e]
    exact rulePhase2_align A B rs 0 0 0 _ hv hn (Nat.le_refl _)
  · have e := alInsert_inss B []
    simp only [List.append_nil] at e
    rw [align_nothingCommon A B hm, List.foldl_append, foldl_alStep_dels, foldl_alStep_inss, alInsert_dels, e]
    simp only [nothingCommon, List.foldl_cons, List.foldl_nil, phase1Step_del _ _ _ _ _ _ _ _ kind_del_of,
      phase1Step_ins _ _ _ _ _ _ _ _ (kind_ins_of hm), rulePhase2, insertGroup, extract_all, List.nil_append,
      Nat.max_eq_right (Nat.zero_le _), Al.kept, List.head?_nil, Option.map_none]
    rw [List.getElem?_eq_none (Nat.le_refl _)]
    rfl

end NA.PanOs
