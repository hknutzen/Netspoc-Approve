import NA.Proofs.F1Ops
import NA.Proofs.F1Routes
import NA.Proofs.F1Lines
/-!
# F1: a comparison of a device that already carries the target prints nothing (class ISO)

The class is static (it does not evaluate the engine): the compared access-group commands sit at the same
places; the bound access lists are paired one to one, their passed scripts are one "equal" range over all
lines; the object-groups referenced at the same positions are paired one to one, their passed scripts keep
every member; the routes are the same; no generated (`-DRC-`) object is unused.
The invariant `Quiet` is one of the engine's state alone: no device occurs in this file.
-/
namespace NA.F1
open NA.Acl (Range)
open NA.ListFacts

theorem bij_iff {R : List (Name × Name)} (h : bij R = true) {p q : Name × Name} (hp : p ∈ R) (hq : q ∈ R) :
    p.1 = q.1 ↔ p.2 = q.2 := by
  have h1 := List.all_eq_true.mp (List.all_eq_true.mp h p hp) q hq
  by_cases e1 : p.1 = q.1 <;> by_cases e2 : p.2 = q.2 <;> simp_all

theorem pureEq_spec (aN : Name) (la lb : List String) : ∀ (rs : List Range), pureEq rs = true →
    isIdentity rs = true ∧ scriptStat rs = (0, 0) ∧ ∀ st, editMembers st aN la lb rs = st := by
  intro rs
  induction rs with
  | nil => intro _; exact ⟨rfl, rfl, fun _ => rfl⟩
  | cons r rs ih =>
    intro h
    simp only [pureEq, List.all_cons, Bool.and_eq_true, Bool.not_eq_true'] at h
    obtain ⟨⟨⟨h1, h2⟩, h3⟩, h4⟩ := h
    obtain ⟨i1, i2, i3⟩ := ih h4
    refine ⟨?_, ?_, fun st => ?_⟩
    · unfold isIdentity
      rw [List.all_cons, h1]
      exact i1
    · unfold scriptStat
      rw [i2]
      simp [h2, h3]
    · unfold editMembers
      simp only [h2, h3, Bool.false_eq_true, if_false]
      exact i3 st

/-- Marking the two sides of one pair of a one-to-one relation keeps "needed on the left iff ready on the right, and
a ready right side carries the left side's name". -/
theorem paired_marks_step {R : List (Name × Name)} (hb : bij R = true) {a b : Name} (hp : (a, b) ∈ R)
    {needed ready : List Name} {names : List (Name × Name)}
    (h : ∀ q ∈ R, (q.1 ∈ needed ↔ q.2 ∈ ready) ∧ (q.2 ∈ ready → (names.lookup q.2).getD q.2 = q.1)) :
    ∀ q ∈ R, (q.1 ∈ addSet a needed ↔ q.2 ∈ addSet b ready) ∧
      (q.2 ∈ addSet b ready → (((b, a) :: names).lookup q.2).getD q.2 = q.1) := by
  intro q hqR
  obtain ⟨q1, q2⟩ := h q hqR
  have hbi := bij_iff hb hqR hp
  rw [mem_addSet, mem_addSet]
  by_cases e1 : q.1 = a
  · have e2 : q.2 = b := hbi.mp e1
    refine ⟨⟨fun _ => Or.inl e2, fun _ => Or.inl e1⟩, fun _ => ?_⟩
    rw [e2, e1]; simp [List.lookup]
  · have e2 : q.2 ≠ b := fun h => e1 (hbi.mpr h)
    rw [or_iff_right e1, or_iff_right e2]
    refine ⟨q1, fun h => ?_⟩
    have hbq : (q.2 == b) = false := by simpa using e2
    simp only [List.lookup, hbq]
    exact q2 h

/-- The invariant of a run that prints nothing: nothing printed, no sub-mode open, no `toDelete` mark, and the
marks of the paired groups move together. -/
structure QuietG (RG : List (Name × Name)) (st : St) : Prop where
  out : st.out = []
  mode : st.mode = ""
  gToDel : st.gToDel = []
  grp : ∀ p ∈ RG, (p.1 ∈ st.gNeeded ↔ p.2 ∈ st.gReady) ∧ (p.2 ∈ st.gReady → st.gNameOf p.2 = p.1)

theorem QuietG.of_eq {RG : List (Name × Name)} {st st' : St} (h : QuietG RG st) (ho : st'.out = st.out)
    (hm : st'.mode = st.mode) (hd : st'.gToDel = st.gToDel) (hn : st'.gNeeded = st.gNeeded)
    (hr : st'.gReady = st.gReady) (hnm : st'.gName = st.gName) : QuietG RG st' := by
  refine ⟨ho.trans h.out, hm.trans h.mode, hd.trans h.gToDel, ?_⟩
  unfold St.gNameOf
  rw [hn, hr, hnm]
  exact h.grp

theorem QuietG.hit {RG : List (Name × Name)} {st : St} (h : QuietG RG st) (x : String) : QuietG RG (st.hit x) :=
  h.of_eq rfl rfl rfl rfl rfl rfl

theorem equalizedGroups_quiet (e : Env) (RG : List (Name × Name)) (hb : bij RG = true) (st : St) (hq : QuietG RG st)
    (aG bG : Name) (hp : (aG, bG) ∈ RG) (hs : pureEq (lookupD e.sc.grp (aG, bG)) = true)
    (r : St × Bool) (hr : r = equalizedGroups e st aG bG) :
    r.2 = true ∧ QuietG RG r.1 ∧ aG ∈ r.1.gNeeded ∧ (∀ x ∈ st.gNeeded, x ∈ r.1.gNeeded) := by
  subst hr
  obtain ⟨g1, g2⟩ := hq.grp (aG, bG) hp
  obtain ⟨hid, hstat, hedit⟩ := pureEq_spec aG (e.aMembers aG) (e.bMembers bG) _ hs
  refine equalizedGroups_cases e st aG bG (fun r => r.2 = true ∧ QuietG RG r.1 ∧ aG ∈ r.1.gNeeded ∧
    ∀ x ∈ st.gNeeded, x ∈ r.1.gNeeded) ?_ ?_ (fun _ h => absurd hid (h ▸ Bool.false_ne_true)) ?_ ?_
  · intro hn _
    have hn' : aG ∈ st.gNeeded := List.contains_iff_mem.mp hn
    exact ⟨by simp [g2 (g1.mp hn')], hq.hit _, hn', fun x hx => hx⟩
  · intro hn hr
    exact absurd (List.contains_iff_mem.mpr (g1.mp (List.contains_iff_mem.mp hn))) hr
  · intro _ h
    rw [hstat] at h
    exact absurd h (Nat.not_lt_zero _)
  · intro _ _ st2 hst2 _
    rw [hedit] at hst2
    subst hst2
    exact ⟨rfl, ⟨hq.out, hq.mode, hq.gToDel, paired_marks_step hb hp hq.grp⟩, mem_addSet.mpr (Or.inl rfl),
      fun x hx => mem_addSet.mpr (Or.inr hx)⟩

theorem equalizePair_quiet (e : Env) (RG : List (Name × Name)) (hb : bij RG = true)
    (hs : ∀ p ∈ RG, pureEq (lookupD e.sc.grp p) = true) (st : St) (hq : QuietG RG st) (a b : Line)
    (hp : ∀ p ∈ a.refs.zip b.refs, p ∈ RG) (r : St × Bool) (hr : r = equalizePair e st a b) :
    r.2 = true ∧ QuietG RG r.1 ∧ (∀ p ∈ a.refs.zip b.refs, p.1 ∈ r.1.gNeeded) ∧ (∀ x ∈ st.gNeeded, x ∈ r.1.gNeeded) := by
  subst hr
  refine equalizePair_rec e (fun done s ok => ok = true ∧ QuietG RG s ∧ (∀ p ∈ done, p.1 ∈ s.gNeeded) ∧
    ∀ x ∈ st.gNeeded, x ∈ s.gNeeded) a b st ⟨rfl, hq, fun _ h => (nomatch h), fun _ hx => hx⟩ ?_
  rintro done s ok p hpz ⟨h2, h3, h4, h5⟩
  obtain ⟨r1, r2, r3, r4⟩ := equalizedGroups_quiet e RG hb s h3 p.1 p.2 (hp p hpz) (hs _ (hp p hpz)) _ rfl
  refine ⟨by rw [h2, r1]; rfl, r2, fun x hx => ?_, fun x hx => r4 x (h5 x hx)⟩
  rcases List.mem_append.mp hx with e1 | e1
  · exact r4 _ (h4 x e1)
  · rw [List.mem_singleton.mp e1]; exact r3

theorem equalizeRange_quiet (e : Env) (RG : List (Name × Name)) (hb : bij RG = true)
    (hs : ∀ p ∈ RG, pureEq (lookupD e.sc.grp p) = true) (al bl : List Line) (lowA lowB : Nat) :
    ∀ (n : Nat) (st : St) (acc : List MCell), QuietG RG st → (∀ c ∈ acc, cellKeep c = true) →
    (∀ k, k < n → ∀ p ∈ (al.getD (lowA + k) default).refs.zip (bl.getD (lowB + k) default).refs, p ∈ RG) →
    ∀ r, r = equalizeRange e al bl lowA lowB n st acc →
    QuietG RG r.1 ∧ (∀ c ∈ r.2, cellKeep c = true) ∧
    (∀ k, k < n → ∀ p ∈ (al.getD (lowA + k) default).refs.zip (bl.getD (lowB + k) default).refs, p.1 ∈ r.1.gNeeded) ∧
    (∀ x ∈ st.gNeeded, x ∈ r.1.gNeeded) := by
  intro n st acc h1 h2 h3 r hr
  subst hr
  refine equalizeRange_rec e al bl lowA lowB (fun k s c => QuietG RG s ∧ (∀ x ∈ c, cellKeep x = true) ∧
    (∀ j, j < k → ∀ p ∈ (al.getD (lowA + j) default).refs.zip (bl.getD (lowB + j) default).refs, p.1 ∈ s.gNeeded) ∧
    ∀ x ∈ st.gNeeded, x ∈ s.gNeeded) st acc ⟨h1, h2, fun _ hk => absurd hk (Nat.not_lt_zero _), fun _ hx => hx⟩ n ?_
  intro k hk s c ⟨i1, i2, i3, i4⟩ s' ok hq
  obtain ⟨p1, p2, p3, p4⟩ := equalizePair_quiet e RG hb hs s i1 _ _ (h3 k hk) (s', ok) hq.symm
  subst p1
  refine ⟨p2, ?_, ?_, fun x hx => p4 x (i4 x hx)⟩
  · exact List.forall_mem_append.mpr ⟨i2, List.forall_mem_singleton.mpr rfl⟩
  · intro j hj p hp
    rcases Nat.lt_succ_iff_lt_or_eq.mp hj with h | h
    · exact p4 _ (i3 j h p hp)
    · subst h; exact p3 p hp

theorem diffASAACLs_quiet (e : Env) (RG : List (Name × Name)) (hb : bij RG = true)
    (hs : ∀ p ∈ RG, pureEq (lookupD e.sc.grp p) = true) (st : St) (hq : QuietG RG st) (aN bN : Name) (n : Nat)
    (hn : 0 < n)
    (hp : ∀ k, k < n → ∀ p ∈ ((e.aLines aN).getD k default).refs.zip ((e.bLines bN).getD k default).refs, p ∈ RG)
    (r : St) (hr : r = diffASAACLs e st aN bN [⟨0, n, 0, n⟩]) :
    QuietG RG r ∧
    (∀ k, k < n → ∀ p ∈ ((e.aLines aN).getD k default).refs.zip ((e.bLines bN).getD k default).refs, p.1 ∈ r.gNeeded) ∧
    (∀ x ∈ st.gNeeded, x ∈ r.gNeeded) := by
  rw [hr]
  have hne : n ≠ 0 := Nat.pos_iff_ne_zero.mp hn
  have r1 : (⟨0, n, 0, n⟩ : Range).isInsert = false := beq_eq_false_iff_ne.mpr (Ne.symm hne)
  have r2 : (⟨0, n, 0, n⟩ : Range).isDelete = false := beq_eq_false_iff_ne.mpr (Ne.symm hne)
  have r3 : (⟨0, n, 0, n⟩ : Range).isEqual = true := beq_self_eq_true (n - 0)
  have hearly : earlyFind e (e.bLines bN) [⟨0, n, 0, n⟩] st = st := by
    simp [earlyFind, r1]
  obtain ⟨i1, i2, i3, i4⟩ := equalizeRange_quiet e RG hb hs (e.aLines aN) (e.bLines bN) 0 0 n st [] hq
    (fun c hc => by simp at hc) (fun k hk => by rw [Nat.zero_add]; exact hp k hk) _ rfl
  unfold diffASAACLs
  simp only [hearly]
  unfold cellsPhase
  simp only [r1, r2, r3, Bool.false_eq_true, if_false, if_true, Nat.sub_zero]
  generalize equalizeRange e (e.aLines aN) (e.bLines bN) 0 0 n st [] = r at i1 i2 i3 i4
  obtain ⟨st1, cells⟩ := r
  simp only [cellsPhase]
  rw [planASA_allKeep cells _ i2]
  exact ⟨i1, fun k hk p hp' => i3 k hk p (by rw [Nat.zero_add]; exact hp'), i4⟩

structure Quiet (e : Env) (RA RG : List (Name × Name)) (st : St) : Prop where
  g : QuietG RG st
  aToDel : st.aToDel = []
  acl : ∀ p ∈ RA, (p.1 ∈ st.aNeeded ↔ p.2 ∈ st.aReady) ∧ (p.2 ∈ st.aReady → st.aNameOf p.2 = p.1)
  refsNeeded : ∀ p ∈ RA, p.1 ∈ st.aNeeded → ∀ l ∈ e.aLines p.1, ∀ x ∈ l.refs, x ∈ st.gNeeded

theorem mem_RGof {e : Env} {RA : List (Name × Name)} {p : Name × Name} (hp : p ∈ RA) {l : Line × Line}
    (hl : l ∈ (e.aLines p.1).zip (e.bLines p.2)) {q : Name × Name} (hq : q ∈ l.1.refs.zip l.2.refs) : q ∈ RGof e RA :=
  List.mem_flatMap.mpr ⟨p, hp, List.mem_flatMap.mpr ⟨l, hl, hq⟩⟩

theorem diffAcl_quiet (e : Env) (RA : List (Name × Name)) (hbA : bij RA = true) (hbG : bij (RGof e RA) = true)
    (hs : ∀ p ∈ RGof e RA, pureEq (lookupD e.sc.grp p) = true) (st : St) (hq : Quiet e RA (RGof e RA) st)
    (aN bN : Name) (hp : (aN, bN) ∈ RA) (hiso : aclIso e aN bN = true) (r : St × Name) (hr : diffAcl e st aN bN = r) :
    Quiet e RA (RGof e RA) r.1 ∧ r.2 = aN ∧ aN ∈ r.1.aNeeded ∧
    (∀ x ∈ st.aNeeded, x ∈ r.1.aNeeded) ∧ (∀ x ∈ st.gNeeded, x ∈ r.1.gNeeded) ∧ r.1.bNeeded = st.bNeeded := by
  obtain ⟨a1, a2⟩ := hq.acl (aN, bN) hp
  unfold aclIso at hiso
  simp only [Bool.and_eq_true, decide_eq_true_eq] at hiso
  obtain ⟨⟨⟨i1, i2⟩, i3⟩, i4⟩ := hiso
  generalize hnn : (e.aLines aN).length = n at i1 i2 i3
  apply diffAcl_cases e st aN bN hr
  · intro hn st' hst'
    have hn' : aN ∈ st.aNeeded := List.contains_iff_mem.mp hn
    have ht : st' = st.hit "acl:device-acl-needed" := by
      rw [hst']; unfold transferAcl; exact if_pos (List.contains_iff_mem.mpr (a1.mp hn'))
    subst ht
    exact ⟨⟨hq.g.hit _, hq.aToDel, hq.acl, hq.refsNeeded⟩, a2 (a1.mp hn'), hn', fun x hx => hx, fun x hx => hx, rfl⟩
  · intro hn hr
    exact absurd (List.contains_iff_mem.mpr (a1.mpr (List.contains_iff_mem.mp hr))) hn
  · intro _ _ hany
    rw [i3] at hany
    simp only [List.any_cons, List.any_nil, Range.isEqual, beq_self_eq_true, Bool.or_false, Bool.true_eq_false] at hany
  · intro _ _ _ st3 hst3
    rw [i3] at hst3
    generalize planCheck e st aN bN [⟨0, n, 0, n⟩] = check at hst3
    have hq2 := ((hq.g.of_eq rfl rfl rfl rfl rfl rfl :
      QuietG (RGof e RA) { st with aName := (bN, aN) :: st.aName }).hit "acl:incremental").hit check
    have hm := (hit_marks { st with aName := (bN, aN) :: st.aName } "acl:incremental").trans (hit_marks _ check)
    generalize ({ st with aName := (bN, aN) :: st.aName }.hit "acl:incremental").hit check = st2 at hst3 hq2 hm
    have hzip : ∀ k, k < n → ((e.aLines aN).getD k default, (e.bLines bN).getD k default) ∈ (e.aLines aN).zip (e.bLines bN) := by
      intro k hk
      have h1 : k < (e.aLines aN).length := by rw [hnn]; exact hk
      have h2 : k < (e.bLines bN).length := by rw [i2]; exact hk
      rw [getD_of_lt default h1, getD_of_lt default h2]
      exact mem_zip_of_getElem _ _ k h1 h2
    obtain ⟨d1, d2, d3⟩ := diffASAACLs_quiet e (RGof e RA) hbG hs st2 hq2 aN bN n i1
      (fun k hk p hpz => mem_RGof hp (hzip k hk) hpz) st3 hst3
    have hfr := hm.toAcl.trans (diffASAACLs_aclMarks e st2 aN bN [⟨0, n, 0, n⟩])
    rw [← hst3] at hfr
    have h3N : st3.aNeeded = st.aNeeded := hfr.aNeeded
    have hmono : ∀ x ∈ st.gNeeded, x ∈ st3.gNeeded := fun x hx => d3 x (by rw [hm.gNeeded]; exact hx)
    refine ⟨⟨d1.of_eq rfl rfl rfl rfl rfl rfl, hfr.aToDel.trans hq.aToDel, ?_, ?_⟩, rfl,
      mem_addSet.mpr (Or.inl rfl), fun x hx => mem_addSet.mpr (Or.inr (by rw [h3N]; exact hx)), hmono, hfr.bNeeded⟩
    · intro q hqR
      show (q.1 ∈ addSet aN st3.aNeeded ↔ q.2 ∈ addSet bN st3.aReady) ∧
        (q.2 ∈ addSet bN st3.aReady → (st3.aName.lookup q.2).getD q.2 = q.1)
      rw [hfr.aNeeded, hfr.aReady, hfr.aName]
      exact paired_marks_step hbA hp hq.acl q hqR
    · intro q hqR hqn l hl x hx
      have hqn' : q.1 ∈ addSet aN st3.aNeeded := hqn
      rw [mem_addSet, h3N] at hqn'
      rcases hqn' with e1 | e1
      · -- the access list just handled: every line is a kept line
        rw [e1] at hl
        obtain ⟨k, hk, hlk⟩ := List.getElem_of_mem hl
        have hkn : k < n := by rw [← hnn]; exact hk
        have hk2 : k < (e.bLines bN).length := by rw [i2]; exact hkn
        have hlen := List.all_eq_true.mp i4 _ (mem_zip_of_getElem _ _ k hk hk2)
        simp only [beq_iff_eq] at hlen
        rw [hlk] at hlen
        obtain ⟨j, hj, hxj⟩ := List.getElem_of_mem hx
        have hy := mem_zip_of_getElem l.refs ((e.bLines bN)[k]).refs j hj (by rw [← hlen]; exact hj)
        rw [hxj] at hy
        exact d2 k hkn (x, _) (by
          rw [getD_of_lt default hk, getD_of_lt default hk2, hlk]; exact hy)
      · exact hmono x (hq.refsNeeded q hqR e1 l hl x hx)

theorem makeEqualBind_quiet (e : Env) (RA : List (Name × Name)) (hbA : bij RA = true) (hbG : bij (RGof e RA) = true)
    (hs : ∀ p ∈ RGof e RA, pureEq (lookupD e.sc.grp p) = true) (st : St) (hq : Quiet e RA (RGof e RA) st)
    (i : Nat) (b : Bind) (hp : (aclOfI e i, b.acl) ∈ RA) (hiso : aclIso e (aclOfI e i) b.acl = true)
    (r : St) (hr : r = makeEqualBind e st i b) :
    Quiet e RA (RGof e RA) r ∧ i ∈ r.bNeeded ∧ aclOfI e i ∈ r.aNeeded ∧
    (∀ x ∈ st.aNeeded, x ∈ r.aNeeded) ∧ (∀ x ∈ st.gNeeded, x ∈ r.gNeeded) ∧ (∀ x ∈ st.bNeeded, x ∈ r.bNeeded) := by
  subst hr
  generalize hst1 : ({ st with bNeeded := makeEqualBind.addSet' i st.bNeeded } : St) = st1
  have hq1 : Quiet e RA (RGof e RA) st1 := by
    rw [← hst1]; exact ⟨hq.g.of_eq rfl rfl rfl rfl rfl rfl, hq.aToDel, hq.acl, hq.refsNeeded⟩
  have hb1 : ∀ x, x ∈ st1.bNeeded ↔ x = i ∨ x ∈ st.bNeeded := fun x => by rw [← hst1]; exact mem_addSet'
  unfold makeEqualBind
  simp only []
  rw [hst1]
  generalize hq2 : diffAcl e st1 (e.a.binds.getD i default).acl b.acl = q
  obtain ⟨d1, d2, d3, d4, d5, d6⟩ := diffAcl_quiet e RA hbA hbG hs st1 hq1 (aclOfI e i) b.acl hp hiso q hq2
  obtain ⟨st2, refName⟩ := q
  simp only at d1 d2 d3 d4 d5 d6 ⊢
  have : (refName != (e.a.binds.getD i default).acl) = false := by rw [d2]; exact bne_self_eq_false _
  simp only [this, Bool.false_eq_true, if_false]
  refine ⟨d1, by rw [d6]; exact (hb1 i).mpr (Or.inl rfl), d3, fun x hx => d4 x (by rw [← hst1]; exact hx),
    fun x hx => d5 x (by rw [← hst1]; exact hx), fun x hx => by rw [d6]; exact (hb1 x).mpr (Or.inr hx)⟩

theorem pairsFold_quiet (e : Env) (RA : List (Name × Name)) (hbA : bij RA = true) (hbG : bij (RGof e RA) = true)
    (hs : ∀ p ∈ RGof e RA, pureEq (lookupD e.sc.grp p) = true) :
    ∀ (ps : List (Nat × Bind)) (st : St), Quiet e RA (RGof e RA) st →
    (∀ p ∈ ps, (aclOfI e p.1, p.2.acl) ∈ RA ∧ aclIso e (aclOfI e p.1) p.2.acl = true) →
    ∀ r, r = ps.foldl (fun st p => makeEqualBind e st p.1 p.2) st →
    Quiet e RA (RGof e RA) r ∧ (∀ p ∈ ps, p.1 ∈ r.bNeeded ∧ aclOfI e p.1 ∈ r.aNeeded) ∧
    (∀ x ∈ st.aNeeded, x ∈ r.aNeeded) ∧ (∀ x ∈ st.gNeeded, x ∈ r.gNeeded) ∧ (∀ x ∈ st.bNeeded, x ∈ r.bNeeded) := by
  intro ps
  induction ps with
  | nil =>
    intro st hq _ r hr
    subst hr
    exact ⟨hq, fun p hp => by simp at hp, fun x hx => hx, fun x hx => hx, fun x hx => hx⟩
  | cons p ps ih =>
    intro st hq hps r hr
    obtain ⟨h1, h2⟩ := hps p List.mem_cons_self
    obtain ⟨m1, m2, m3, m4, m5, m6⟩ := makeEqualBind_quiet e RA hbA hbG hs st hq p.1 p.2 h1 h2 _ rfl
    obtain ⟨i1, i2, i3, i4, i5⟩ := ih (makeEqualBind e st p.1 p.2) m1 (fun q hq' => hps q (List.mem_cons_of_mem _ hq')) r hr
    exact ⟨i1, List.forall_mem_cons.mpr ⟨⟨i5 _ m2, i3 _ m3⟩, i2⟩, fun x hx => i3 x (m4 x hx), fun x hx => i4 x (m5 x hx),
      fun x hx => i5 x (m6 x hx)⟩

theorem diffRoutes_quiet (st : St) (al bl : List Route) (h : routesSame al bl = true) :
    RouteFrame st (diffRoutes st al bl) [] := by
  unfold routesSame at h
  have key : routeInssOf al bl = [] ∧ routeOps bl (routeDelsOf al bl) [] = [] := by
    by_cases hbl : bl.isEmpty = true
    · have hb : bl = [] := by simpa using hbl
      subst hb
      refine ⟨?_, by simp [routeOps, routeAddOps]⟩
      unfold routeInssOf
      split
      · rfl
      · apply List.flatMap_eq_nil_iff.mpr
        intro r _
        split
        · simp [slice]
        · rfl
    · simp only [hbl, Bool.false_or, Bool.and_eq_true, decide_eq_true_eq] at h
      obtain ⟨⟨⟨h0, h1⟩, h2⟩, h3⟩ := h
      have hd : routeDelsOf al bl = [] := by
        have h4 : (routeDelsOf al bl).map (·.2) = [] := by
          rw [h0]
          apply List.filter_eq_nil_iff.mpr
          intro a ha
          rw [List.all_eq_true.mp h2 a ha]; decide
        simpa using h4
      refine ⟨?_, by rw [hd]; simp [routeOps, routeAddOps]⟩
      rw [h1]
      apply List.filter_eq_nil_iff.mpr
      intro r hr
      rw [List.all_eq_true.mp h3 r hr]; decide
  have := diffRoutes_frame_ops st al bl
  unfold routeOpsOf at this
  rw [key.1, key.2] at this
  exact this

theorem duPending_none (e : Env) (st : St) (managed : List Nat) (hb : ∀ i ∈ managed, i ∈ st.bNeeded)
    (ha : st.aToDel = []) (hg : st.gToDel = [])
    (hA : ∀ n ∈ A0 e, isTagged n = true → n ∈ st.aNeeded) (hG : ∀ g ∈ D0 e, isTagged g = true → g ∈ st.gNeeded) :
    (duPending e st managed).1.isEmpty = true := by
  unfold duPending
  have hB0 : (managed.filter fun i => !st.bNeeded.contains i && st.bToDel.contains i) = [] := by
    apply List.filter_eq_nil_iff.mpr
    intro i hi
    simp [hb i hi]
  have tagged : ∀ (l needed : List Name), (∀ n ∈ l, isTagged n = true → n ∈ needed) →
      (l.filter fun n => !needed.contains n && (([] : List Name).contains n || isTagged n)) = [] := by
    intro l needed hl
    apply List.filter_eq_nil_iff.mpr
    intro n hn
    cases ht : isTagged n
    · simp
    · simp [hl n hn ht]
  rw [ha, hg]
  simp only [hB0, tagged (e.a.acls.map (·.1)) _ hA, tagged (e.a.groups.map (·.1)) _ hG, List.filter_nil]
  rfl

theorem afterBinds_eq_pairs (e : Env) (st0 : St) (managed : List Nat)
    (hshape : (managed.isEmpty && e.b.binds.isEmpty) = true ∨
      bindsShape e (generateNames e st0) managed e.b.binds = true) :
    afterBinds e st0 managed =
      (isoPairs e managed).foldl (fun st p => makeEqualBind e st p.1 p.2) (generateNames e st0) := by
  unfold afterBinds isoPairs
  by_cases h0 : (managed.isEmpty && e.b.binds.isEmpty) = true
  · rw [if_pos h0, if_pos h0]; rfl
  · rw [if_neg h0, if_neg h0]
    rcases hshape with h | h
    · exact absurd h h0
    · exact diffBinds_eq_pairs e _ managed e.b.binds h

theorem iso_core (e : Env) (st0 : St) (managed : List Nat) (hci : checkInterfaces e {} = some (st0, managed))
    (hshape : (managed.isEmpty && e.b.binds.isEmpty) = true ∨
      (bindsShape e (generateNames e st0) managed e.b.binds = true ∧ (isoPairs e managed).map (·.1) = managed))
    (hbA : bij (isoRA e managed) = true) (hbG : bij (RGof e (isoRA e managed)) = true)
    (hRA : ∀ p ∈ isoRA e managed, p.1 ∉ st0.aNeeded ∧ aclIso e p.1 p.2 = true)
    (hRG : ∀ p ∈ RGof e (isoRA e managed), p.1 ∉ st0.gNeeded ∧ pureEq (lookupD e.sc.grp p) = true)
    (hroutes : routesSame (sortRoutes e.a.routes) (sortRoutes e.b.routes) = true)
    (hcA : ∀ n ∈ A0 e, isTagged n = true → n ∈ st0.aNeeded ∨ n ∈ (isoRA e managed).map (·.1))
    (hcG : ∀ g ∈ D0 e, isTagged g = true → g ∈ st0.gNeeded ∨
      g ∈ (isoRA e managed).flatMap fun p => (e.aLines p.1).flatMap (·.refs)) :
    (finalSt e st0 managed).out = [] := by
  obtain ⟨o1, o2, _, c1, c2, c3⟩ := checkInterfaces_init e st0 managed hci
  obtain ⟨m1, _, _⟩ := checkInterfaces_marks e st0 managed hci
  have fresh : ∀ (R : List (Name × Name)) (needed ready : List Name) (C : Name × Name → Prop),
      (∀ p ∈ R, p.1 ∉ needed) → ready = [] → ∀ p ∈ R, (p.1 ∈ needed ↔ p.2 ∈ ready) ∧ (p.2 ∈ ready → C p) := by
    intro R needed ready C h1 h2 p hp
    subst h2
    exact ⟨⟨fun h => absurd h (h1 p hp), fun h => nomatch h⟩, fun h => nomatch h⟩
  have hq0 : Quiet e (isoRA e managed) (RGof e (isoRA e managed)) (generateNames e st0) :=
    ⟨⟨o1, c1, c3, fresh _ _ _ _ (fun p hp => (hRG p hp).1) o2⟩, c2, fresh _ _ _ _ (fun p hp => (hRA p hp).1) m1.aReady,
      fun p hp h => absurd h (hRA p hp).1⟩
  have hpairs := afterBinds_eq_pairs e st0 managed (hshape.imp_right And.left)
  obtain ⟨q1, q2, q3, q4, _⟩ := pairsFold_quiet e (isoRA e managed) hbA hbG (fun p hp => (hRG p hp).2)
    (isoPairs e managed) (generateNames e st0) hq0 (by
      intro p hp
      have hm : (aclOfI e p.1, p.2.acl) ∈ isoRA e managed := List.mem_map.mpr ⟨p, hp, rfl⟩
      exact ⟨hm, (hRA _ hm).2⟩) _ hpairs
  have hmanaged : ∀ i ∈ managed, i ∈ (afterBinds e st0 managed).bNeeded := by
    rcases hshape with h | h
    · simp only [Bool.and_eq_true, List.isEmpty_iff] at h
      intro i hi; rw [h.1] at hi; simp at hi
    · intro i hi
      rw [← h.2] at hi
      obtain ⟨p, hp, rfl⟩ := List.mem_map.mp hi
      exact (q2 p hp).1
  unfold finalSt
  generalize afterBinds e st0 managed = stB at q1 q2 q3 q4 hmanaged ⊢
  have fr := diffRoutes_quiet stB (sortRoutes e.a.routes) (sortRoutes e.b.routes) hroutes
  generalize diffRoutes stB (sortRoutes e.a.routes) (sortRoutes e.b.routes) = stR at fr ⊢
  have hp := duPending_none e stR managed (fun i hi => by rw [fr.bNeeded]; exact hmanaged i hi)
    (by rw [fr.aToDel]; exact q1.aToDel) (by rw [fr.gToDel]; exact q1.g.gToDel)
    (by
      intro n hn ht
      rw [fr.aNeeded]
      rcases hcA n hn ht with h | h
      · exact q3 n h
      · obtain ⟨p, hp, rfl⟩ := List.mem_map.mp h
        obtain ⟨p0, hp0, rfl⟩ := List.mem_map.mp hp
        exact (q2 p0 hp0).2)
    (by
      intro g hg ht
      rw [fr.gNeeded]
      rcases hcG g hg ht with h | h
      · exact q4 g h
      · obtain ⟨p, hp, hgp⟩ := List.mem_flatMap.mp h
        obtain ⟨l, hl, hgl⟩ := List.mem_flatMap.mp hgp
        have hpn : p.1 ∈ stB.aNeeded := by
          obtain ⟨p0, hp0, rfl⟩ := List.mem_map.mp hp
          exact (q2 p0 hp0).2
        exact q1.refsNeeded p hp hpn l hl g hgl)
  rw [deleteUnused_nothing (sr := (duPending e stR managed).2) rfl hp, fr.out, q1.g.out]
  rfl

/-- **`asa_F1_iso_quiet`**: a comparison in class ISO prints nothing — ONE decidable, static hypothesis. -/
theorem iso_quiet (a b : Config) (sc : Scripts) (hc : isoCheck a b sc = true) :
    (engine a b sc).map (·.script) = some [] := by
  unfold isoCheck at hc
  split at hc
  · exact absurd hc (by decide)
  · rename_i st0 managed hci
    simp only [Bool.and_eq_true, Bool.or_eq_true, decide_eq_true_eq] at hc
    obtain ⟨⟨⟨⟨⟨⟨⟨c1, c2⟩, c3⟩, c4⟩, c5⟩, c6⟩, c7⟩, c8⟩ := hc
    rw [engine_eq a b sc st0 managed hci]
    refine congrArg some ?_
    apply iso_core ⟨a, b, sc⟩ st0 managed hci (by
      rcases c1 with h | h
      · exact Or.inl (by simp [h.1, h.2])
      · exact Or.inr h) c2 c3
    · intro p hp
      simpa only [Bool.and_eq_true, Bool.not_eq_true', List.contains_eq_mem, decide_eq_false_iff_not] using List.all_eq_true.mp c4 p hp
    · intro p hp
      simpa only [Bool.and_eq_true, Bool.not_eq_true', List.contains_eq_mem, decide_eq_false_iff_not] using List.all_eq_true.mp c5 p hp
    · exact c6
    · intro n hn ht
      simpa only [ht, Bool.not_true, Bool.false_or, Bool.or_eq_true, List.contains_eq_mem, decide_eq_true_eq] using List.all_eq_true.mp c7 n hn
    · intro g hg ht
      simpa only [ht, Bool.not_true, Bool.false_or, Bool.or_eq_true, List.contains_eq_mem, decide_eq_true_eq] using List.all_eq_true.mp c8 g hg

end NA.F1
