import NA.Proofs.C19Calm
import NA.Proofs.C19Inv
/-!
# C19 — calm domain: an undisturbed run from a good start ends with the newest revision current

`promotes_quiet`: the solo run from any quiescent state with the invariant and quiet ghosts.  A reachable
state may have unquiet ghosts; but `exec` does not read them (`exec_core`), so `promotes_of_checks` does the
run on the state with the ghosts reset (`G.reset`) and carries the result back (`Sim`).
-/
namespace NA.C19

theorem own3 {i : Instr} {a : F3} {g : G} {p : Proc}
    (hΓ : Γ3 a g p) (hgi : GI1 g) (hgi4 : GI4 g) (hdh : DirsInHist g) (hvg : VG g) (hvp : VP g p)
    (hN : quiet g → N g) (hreq : req3 i.cmd a = true) :
    ∃ x, tf3 i.cmd a (exec i.cmd g p).2.2 = some x ∧ Γ3 x (exec i.cmd g p).1 (after i g p) := by
  obtain ⟨xc, htc, hc⟩ := ownc i.cmd hΓ hvg hgi hgi4 hdh
  obtain ⟨xn, hxn⟩ := tf2_total i.cmd a.n (exec i.cmd g p).2.2
  obtain ⟨xs, hxs⟩ : ∃ xs, tf1 i.cmd a.s (exec i.cmd g p).2.2 = some xs := ⟨_, rfl⟩
  have hr1 : req1 i.cmd a.s = true := by
    simp only [req3, Bool.and_eq_true] at hreq; exact hreq.1
  obtain ⟨xk, hxk⟩ := tf4_feasible (c := i.cmd) hΓ.k
  refine ⟨⟨xn, xs, xk, xc⟩, by simp [tf3, hxn, hxs, hxk, htc], ?_, ?_, (own4 hΓ.k hvg hvp hgi4.hpos hxk).upd, hc.upd⟩
  · exact own1 hΓ.s hr1 hxs
  · intro hq
    have hq' : quiet (exec i.cmd g p).1 := hc.quietF hq
    exact (own2 (hΓ.n (tfc_quiet htc hq)) (hN (quiet_exec hq')) hvg hvp hq' hxn).upd

/-- Every edge the analysis considers possible goes forward (so a run that follows them terminates). -/
def forward (D : Dom) (prog : Prog) (ann : Ann D) : Bool :=
  (List.range prog.length).all fun pc =>
    match prog[pc]?, D.at ann pc with
    | some i, some a =>
      (match i.cmd with
       | .exit _ => true
       | _ => false) ||
      (((D.tf i.cmd a true).isNone || decide (pc < i.ok)) && ((D.tf i.cmd a false).isNone || decide (pc < i.fail)))
    | _, _ => true

theorem forward_at {D : Dom} {prog : Prog} {ann : Ann D} (h : forward D prog ann = true) {pc : Nat} {i : Instr}
    {a : D.F} (hi : instrAt prog pc = some i) (ha : D.at ann pc = some a) (hne : ∀ n, i.cmd ≠ .exit n)
    (ok : Bool) {x : D.F} (hx : D.tf i.cmd a ok = some x) : pc < (if ok then i.ok else i.fail) := by
  simp only [forward, List.all_eq_true, List.mem_range] at h
  have := h pc (List.getElem?_eq_some_iff.mp hi).1
  rw [show prog[pc]? = some i from hi] at this
  -- `hne` discharges the side condition of the default alternative of the `match` on `i.cmd`
  simp only [ha, Bool.and_eq_true, Bool.or_eq_true, decide_eq_true_eq, Bool.false_eq_true, false_or] at this
  cases ok
  · exact this.2.resolve_left (by simp [hx])
  · exact this.1.resolve_left (by simp [hx])

/-- State of an invocation that runs alone. -/
structure CalmSt (ann : Ann calm) (s : State) (pid : Nat) : Prop where
  others : ∀ q ∈ s.procs, q.pid ≠ pid → q.alive = false
  me : ∃ p, findProc s.procs pid = some p ∧
        ((p.alive = true ∧ ∃ a, calm.at ann p.pc = some a ∧ Γ3 a s.g p) ∨
         (p.alive = false ∧ p.exit = some 0 ∧ s.g.newest = true))

/-- `runAlone` without the orphan mechanism (the invocation that runs alone was never hit by `killDuring`). -/
def runAloneC (prog : Prog) : Nat → State → Nat → State
  | 0, s, _ => s
  | fuel + 1, s, pid =>
    match findProc s.procs pid with
    | some p => if p.alive then runAloneC prog fuel (stepCore prog s (.step pid)) pid else s
    | none => s

theorem stepCore_step_dying {prog : Prog} (s : State) (pid : Nat) : (stepCore prog s (.step pid)).dying = s.dying := by
  simp only [stepCore]
  split
  · split <;> rfl
  · rfl

theorem runAlone_eq {prog : Prog} (pid : Nat) : ∀ (n : Nat) (s : State), s.dying.contains pid = false →
    runAlone prog n s pid = runAloneC prog n s pid := by
  intro n
  induction n with
  | zero => intro s _; rfl
  | succ n ih =>
    intro s hd
    have hst : step prog s (.step pid) = stepCore prog s (.step pid) := by
      simp only [step, hd]; rfl
    cases hf : findProc s.procs pid with
    | none => simp [runAlone, runAloneC, hf]
    | some p =>
      by_cases hal : p.alive = true
      · simp only [runAlone, runAloneC, hf, hal, if_true, hst]
        exact ih _ (by rw [stepCore_step_dying]; exact hd)
      · simp [runAlone, runAloneC, hf, hal]

theorem calm_step {prog : Prog} {a1 : Ann safety} {a2 : Ann numbering} {a4 : Ann code} {ann : Ann calm}
    (hc : check calm prog ann = true) (hfw : forward calm prog ann = true)
    {s : State} {pid : Nat} (h : Inv a1 a2 a4 s) (hcs : CalmSt ann s pid)
    {p : Proc} (hf : findProc s.procs pid = some p) (hal : p.alive = true) :
    CalmSt ann (stepCore prog s (.step pid)) pid ∧
    ∃ p', findProc (stepCore prog s (.step pid)).procs pid = some p' ∧ (p'.alive = true → p.pc < p'.pc) := by
  obtain ⟨hoth, p0, hf0, hme⟩ := hcs
  rw [hf] at hf0; injection hf0 with hf0; subst hf0
  obtain ⟨hpm, hpp⟩ := findProc_some hf
  obtain ⟨a, ha, hΓ⟩ : ∃ a, calm.at ann p.pc = some a ∧ Γ3 a s.g p := by
    rcases hme with ⟨_, a, ha, hΓ⟩ | ⟨hd, _⟩
    · exact ⟨a, ha, hΓ⟩
    · rw [hal] at hd; cases hd
  obtain ⟨i, hi⟩ := check_instr hc ha
  obtain ⟨hreq, hedge⟩ := check_step hc hi ha
  have hoth' : ∀ p' : Proc, p'.pid = pid → ∀ q ∈ replaceProc s.procs p', q.pid ≠ pid → q.alive = false := by
    intro p' hp' q hq hqp
    rcases mem_replaceProc hq with ⟨rfl, _⟩ | ⟨hq1, _⟩
    · exact absurd hp' hqp
    · exact hoth q hq1 hqp
  simp only [stepCore, hf, hal, if_true]
  by_cases hex : ∃ n, i.cmd = .exit n
  · obtain ⟨n, hn⟩ := hex
    rw [stepProc_exit hi hn]
    have hr : req3 i.cmd a = true := hreq
    rw [hn] at hr
    have hn0 : n = 0 ∧ a.c.newestF = true := by
      cases n with
      | zero => simp [req3] at hr; exact ⟨rfl, hr.2⟩
      | succ m => simp [req3] at hr
    obtain ⟨hn0, hnew⟩ := hn0
    subst hn0
    have hfp := findProc_replace (p' := { p with alive := false, exit := some 0 }) hf hpp
    refine ⟨⟨hoth' _ hpp, _, hfp, Or.inr ⟨rfl, rfl, ?_⟩⟩, _, hfp, fun h => by simp at h⟩
    rw [newest_release]; exact hΓ.c.newestF hnew
  · have hne : ∀ n, i.cmd ≠ .exit n := fun n h => hex ⟨n, h⟩
    rw [stepProc_nonexit hi hne]
    obtain ⟨x, hx, hΓ'⟩ := own3 (i := i) hΓ h.i1.gi h.i4.gi h.i2.dh h.i2.vg (h.i2.vp p hpm) h.i2.n hreq
    have hpid : (after i s.g p).pid = pid := by rw [after_pid]; exact hpp
    have hfp := findProc_replace (p' := after i s.g p) hf hpid
    have hal' : (after i s.g p).alive = true := (after_alive i s.g p).trans hal
    obtain ⟨b, hb1, hb2⟩ := hedge _ x hx
    exact ⟨⟨hoth' _ hpid, _, hfp, Or.inl ⟨hal', b, hb1, hΓ'.mono hb2⟩⟩, _, hfp, fun _ => forward_at hfw hi ha hne _ hx⟩

theorem runAloneC_dead {prog : Prog} {s : State} {pid : Nat} {p : Proc} (hf : findProc s.procs pid = some p)
    (hd : p.alive = false) (n : Nat) : runAloneC prog n s pid = s := by
  cases n <;> simp [runAloneC, hf, hd]

/-- The invocation that runs alone terminates with exit status 0 and the newest revision current:
every step moves it forward in the program, so `n` steps are enough. -/
theorem calm_run {prog : Prog} {a1 : Ann safety} {a2 : Ann numbering} {a4 : Ann code} {ann : Ann calm} (C : Checked prog a1 a2 a4)
    (hc : check calm prog ann = true) (hfw : forward calm prog ann = true) (pid : Nat) (n : Nat) (s : State)
    (h : Inv a1 a2 a4 s) (hcs : CalmSt ann s pid)
    (hm : ∀ p, findProc s.procs pid = some p → p.alive = true → prog.length - p.pc < n) :
    Inv a1 a2 a4 (runAloneC prog n s pid) ∧
    ∃ p, findProc (runAloneC prog n s pid).procs pid = some p ∧ p.alive = false ∧ p.exit = some 0 ∧
      (runAloneC prog n s pid).g.newest = true ∧
      (∀ q ∈ (runAloneC prog n s pid).procs, q.pid ≠ pid → q.alive = false) := by
  induction n generalizing s with
  | zero =>
    obtain ⟨hoth, p, hf, ⟨hal, _⟩ | ⟨hd, he, hn⟩⟩ := hcs
    · exact absurd (hm p hf hal) (Nat.not_lt_zero _)
    · exact ⟨h, p, hf, hd, he, hn, hoth⟩
  | succ n ih =>
    obtain ⟨hoth, p, hf, ⟨hal, a, ha, hΓ⟩ | ⟨hd, he, hn⟩⟩ := hcs
    · obtain ⟨hcs', p', hf', hpc⟩ := calm_step hc hfw h ⟨hoth, p, hf, Or.inl ⟨hal, a, ha, hΓ⟩⟩ hf hal
      have e : runAloneC prog (n + 1) s pid = runAloneC prog n (stepCore prog s (.step pid)) pid := by
        simp [runAloneC, hf, hal]
      rw [e]
      apply ih _ (inv_stepCore C h _) hcs'
      intro q hq hqa
      rw [hf'] at hq; injection hq with hq; subst hq
      have hlt := check_lt hc ha
      have := hpc hqa
      have := hm p hf hal
      omega
    · rw [runAloneC_dead hf hd]; exact ⟨h, p, hf, hd, he, hn, hoth⟩

/-- Exit status of invocation `pid` (none = still running, killed or unknown). -/
def exitOf (s : State) (pid : Nat) : Option Nat := (findProc s.procs pid).bind (·.exit)

/-- A state with the ghost components (`hist`, `trouble`, `edited`, `raced`) blanked. -/
def G.core (g : G) : G := { g with hist := [], trouble := false, edited := false, raced := false }

@[simp] theorem core_store (g : G) : g.core.store = g.store := rfl
@[simp] theorem core_remote (g : G) : g.core.remote = g.remote := rfl
@[simp] theorem core_next (g : G) : g.core.next = g.next := rfl
@[simp] theorem core_dirs (g : G) : g.core.dirs = g.dirs := rfl
@[simp] theorem core_current (g : G) : g.core.current = g.current := rfl
@[simp] theorem core_lock (g : G) : g.core.lock = g.lock := rfl
@[simp] theorem core_sysEmail (g : G) : g.core.sysEmail = g.sysEmail := rfl
@[simp] theorem core_nextHead (g : G) : g.core.nextHead = g.nextHead := rfl
@[simp] theorem core_nextTree (g : G) : g.core.nextTree = g.nextTree := rfl
@[simp] theorem core_uptodateDir (g : G) : g.core.uptodateDir = g.uptodateDir := rfl
theorem core_snh (g : G) (h : Nat) : (g.setNextHead h).core = g.core.setNextHead h := by
  unfold G.setNextHead; cases hn : g.next <;> simp [hn, G.core]

theorem exec_core_pull (g : G) (p : Proc) :
    (exec .gitPullMerge g p).1.core = (exec .gitPullMerge g.core p).1.core ∧
    (exec .gitPullMerge g p).2 = (exec .gitPullMerge g.core p).2 := by
  simp only [exec, core_store, core_remote, core_sysEmail, core_nextHead]
  cases hh : g.nextHead with
  | none => exact ⟨rfl, rfl⟩
  | some h =>
    by_cases h1 : g.remote = p.base
    · simp [h1]; rfl
    · by_cases h2 : h = p.base
      · simp [h1, h2, core_snh]; rfl
      · by_cases h3 : ((commitAt g.store g.remote).pol != (commitAt g.store p.base).pol &&
            (commitAt g.store h).pol != (commitAt g.store p.base).pol &&
            (commitAt g.store g.remote).pol != (commitAt g.store h).pol) = true
        · simp [h1, h2, h3]; rfl
        · simp [h1, h2, h3, core_snh]; rfl

theorem exec_core (c : Cmd) (g : G) (p : Proc) :
    (exec c g p).1.core = (exec c g.core p).1.core ∧ (exec c g p).2 = (exec c g.core p).2 := by
  by_cases hc : c = .gitPullMerge
  · subst hc; exact exec_core_pull g p
  cases c <;> (try (exact absurd rfl hc)) <;>
    simp only [exec, core_remote, core_next, core_dirs, core_current, core_lock,
      core_nextHead, core_nextTree, core_uptodateDir] <;>
    (repeat' split) <;> first | exact ⟨rfl, rfl⟩ | (simp_all [G.core]; done) | skip
  all_goals (simp only [*, core_snh]; simp [G.core])

theorem core_release (g : G) (pid : Nat) : (release g pid).core = (release g.core pid).core := by
  by_cases h : g.lock = some pid <;> simp [release, G.core, h]

theorem exec_sim {c : Cmd} {g1 g2 : G} {p : Proc} (h : g1.core = g2.core) :
    (exec c g1 p).1.core = (exec c g2 p).1.core ∧ (exec c g1 p).2 = (exec c g2 p).2 := by
  obtain ⟨a1, a2⟩ := exec_core c g1 p
  obtain ⟨b1, b2⟩ := exec_core c g2 p
  rw [a1, a2, b1, b2, h]; exact ⟨rfl, rfl⟩

theorem stepProc_sim {prog : Prog} {g1 g2 : G} {p : Proc} (h : g1.core = g2.core) :
    (stepProc prog g1 p).1.core = (stepProc prog g2 p).1.core ∧ (stepProc prog g1 p).2 = (stepProc prog g2 p).2 := by
  have hrel : (release g1 p.pid).core = (release g2 p.pid).core := by
    rw [core_release g1, core_release g2, h]
  cases hi : instrAt prog p.pc with
  | none => rw [stepProc_none (g := g1) hi, stepProc_none (g := g2) hi]; exact ⟨hrel, rfl⟩
  | some i =>
    by_cases hex : ∃ n, i.cmd = .exit n
    · obtain ⟨n, hn⟩ := hex
      rw [stepProc_exit (g := g1) hi hn, stepProc_exit (g := g2) hi hn]; exact ⟨hrel, rfl⟩
    · have hne : ∀ n, i.cmd ≠ .exit n := fun n h => hex ⟨n, h⟩
      obtain ⟨e1, e2⟩ := exec_sim (c := i.cmd) (p := p) h
      rw [stepProc_nonexit (g := g1) hi hne, stepProc_nonexit (g := g2) hi hne]
      refine ⟨e1, ?_⟩
      simp only [after]; rw [e2]

/-- Two states that differ only in the ghosts and in `dying`. -/
def Sim (s t : State) : Prop := s.g.core = t.g.core ∧ s.procs = t.procs ∧ s.npid = t.npid

theorem sim_stepCore {prog : Prog} {s t : State} (h : Sim s t) (pid : Nat) :
    Sim (stepCore prog s (.step pid)) (stepCore prog t (.step pid)) := by
  obtain ⟨hg, hp, hn⟩ := h
  simp only [stepCore, ← hp]
  cases hf : findProc s.procs pid with
  | none => exact ⟨hg, hp, hn⟩
  | some p =>
    by_cases hal : p.alive = true
    · simp only [hal, if_true]
      obtain ⟨e1, e2⟩ := stepProc_sim (prog := prog) (p := p) hg
      exact ⟨e1, by simp only [e2], hn⟩
    · simp only [hal]; exact ⟨hg, hp, hn⟩

theorem sim_runAloneC {prog : Prog} (pid : Nat) : ∀ (n : Nat) (s t : State), Sim s t →
    Sim (runAloneC prog n s pid) (runAloneC prog n t pid) := by
  intro n
  induction n with
  | zero => intro s t h; exact h
  | succ n ih =>
    intro s t h
    simp only [runAloneC, ← h.2.1]
    cases hf : findProc s.procs pid with
    | none => exact h
    | some p =>
      by_cases hal : p.alive = true
      · simp only [hal, if_true]; exact ih _ _ (sim_stepCore h pid)
      · simp only [hal]; exact h

theorem newest_core (g : G) : g.newest = g.core.newest := rfl

/-- The ghosts replaced by values that make the numbering invariant true: every number up to
max(POLICY file, link), newest first. -/
def G.reset (g : G) : G :=
  { g with trouble := false, edited := false, raced := false, hist := (List.range (max (Rg g) (Lk g) + 1)).reverse }

theorem reset_core (g : G) : g.reset.core = g.core := rfl

section
variable {prog : Prog} {a1 : Ann safety} {a2 : Ann numbering} {a4 : Ann code} {ann : Ann calm}

theorem promotes_quiet (C : Checked prog a1 a2 a4) (hc : check calm prog ann = true) (hfw : forward calm prog ann = true)
    {t : State} (h : Inv a1 a2 a4 t) (hq : quiescent t = true) (hqu : quiet t.g)
    (hgood : (commitAt t.g.store t.g.remote).good = true) (hstale : t.g.staleNext = false) :
    quiescent (runAloneC prog (prog.length + 1) (stepCore prog t .spawn) t.npid) = true ∧
    exitOf (runAloneC prog (prog.length + 1) (stepCore prog t .spawn) t.npid) t.npid = some 0 ∧
    (runAloneC prog (prog.length + 1) (stepCore prog t .spawn) t.npid).g.newest = true := by
  have hdead : ∀ q ∈ t.procs, q.alive = false := fun q hq' => by
    simp only [quiescent, List.all_eq_true] at hq
    simpa using hq q hq'
  have hfnew : findProc (stepCore prog t .spawn).procs t.npid = some { pid := t.npid } := by
    simp only [stepCore]; exact findProc_append_new h.i1.fresh rfl
  obtain ⟨a, ha, hle⟩ := check_entry hc
  have hΓ0 : Γ3 calm.entry (stepCore prog t .spawn).g { pid := t.npid } := by
    refine ⟨Γ1_entry _ _ rfl, fun _ => Γ2_entry _ _, Γ4_entry _ _, ?_⟩
    constructor <;> intro hf <;> simp [calm] at hf
    · exact Or.inl (lock_none_of_quiescent (s := t) h.lock hq)
    · exact hstale
    · exact hgood
    · exact hqu
  have hcs : CalmSt ann (stepCore prog t .spawn) t.npid := by
    refine ⟨fun q hq' hqp => ?_, _, hfnew, Or.inl ⟨rfl, a, ha, hΓ0.mono hle⟩⟩
    rcases List.mem_append.mp hq' with hq' | hq'
    · exact hdead q hq'
    · exact absurd (List.mem_singleton.mp hq' ▸ rfl) hqp
  obtain ⟨hinvF, p, hfp, hd, hex, hnew, hoth⟩ :=
    calm_run C hc hfw t.npid (prog.length + 1) _ (inv_stepCore C h .spawn) hcs (by intro p _ _; omega)
  refine ⟨?_, by simp [exitOf, hfp, hex], hnew⟩
  simp only [quiescent, List.all_eq_true]
  intro q hq'
  by_cases hqp : q.pid = t.npid
  · obtain ⟨hpm, hpp⟩ := findProc_some hfp
    have : q = p := hinvF.i1.uniq q hq' p hpm (by rw [hqp, hpp])
    simp [this, hd]
  · simp [hoth q hq' hqp]

/-- The `_partial` promotion theorem, generic in the program: `promotes_quiet` on the state with the
ghosts reset (`G.reset`; the hypothesis `numbersCovered` makes the numbering invariant true of it), and the
ghosts do not influence the run (`sim_runAloneC`). -/
theorem promotes_of_checks (C : Checked prog a1 a2 a4)
    (hc : check calm prog ann = true) (hfw : forward calm prog ann = true)
    (se : Bool) (es : List Event)
    (hq : quiescent (run prog se es) = true)
    (hgood : (commitAt (run prog se es).g.store (run prog se es).g.remote).good = true)
    (hstale : (run prog se es).g.staleNext = false)
    (hcov : (run prog se es).g.numbersCovered = true) :
    quiescent (runNew prog (prog.length + 1) (run prog se es)) = true ∧
    exitOf (runNew prog (prog.length + 1) (run prog se es)) (run prog se es).npid = some 0 ∧
    (runNew prog (prog.length + 1) (run prog se es)).g.newest = true := by
  obtain ⟨h1, h2, h4, hlock, hdy⟩ := inv_run C se es
  generalize run prog se es = s at *
  have dead : ∀ {p}, p ∈ s.procs → p.alive = true → False := fun hp ha => by
    simp only [quiescent, List.all_eq_true] at hq
    simpa [ha] using hq _ hp
  -- the same state with harmless ghosts
  let t : State := { s with g := s.g.reset }
  have hM : ∀ x, x ∈ (List.range (max (Rg s.g) (Lk s.g) + 1)).reverse ↔ x ≤ max (Rg s.g) (Lk s.g) := by
    intro x; rw [List.mem_reverse, List.mem_range]; omega
  have t2 : Inv2 a2 t := by
    refine ⟨?_, ⟨h2.vg.remote, h2.vg.head⟩, fun p hp => ⟨(h2.vp p hp).base, (h2.vp p hp).hash⟩, fun _ => ⟨?_, ?_⟩,
      fun _ p hp ha => (dead hp ha).elim⟩
    · intro n d hd
      show n ∈ (List.range (max (Rg s.g) (Lk s.g) + 1)).reverse
      rw [hM]
      have := lookupDir_mem hd
      simp only [G.numbersCovered, List.all_eq_true] at hcov
      simpa [Rg, polOf, Lk] using hcov (n, d) this
    · intro x hx
      exact (hM x).mp hx
    · show ((List.range (max (Rg s.g) (Lk s.g) + 1)).reverse).Pairwise (· > ·)
      rw [List.pairwise_reverse]; exact List.pairwise_lt_range
  have ht : Inv a1 a2 a4 t :=
    ⟨⟨⟨h1.gi.dirs, h1.gi.cur⟩, h1.uniq, h1.fresh, fun p hp ha => (dead hp ha).elim⟩, t2,
     ⟨⟨h4.gi.dirs, h4.gi.rpos, h4.gi.hpos⟩, fun p hp ha => (dead hp ha).elim⟩, hlock, hdy⟩
  obtain ⟨r1, r2, r3⟩ := promotes_quiet C hc hfw ht hq ⟨rfl, rfl⟩ hgood hstale
  -- back to the real state: same processes, same database
  obtain ⟨sg, sp, _⟩ : Sim (runAloneC prog (prog.length + 1) (stepCore prog s .spawn) s.npid)
      (runAloneC prog (prog.length + 1) (stepCore prog t .spawn) s.npid) :=
    sim_runAloneC s.npid _ _ _ ⟨rfl, rfl, rfl⟩
  have hrun : runNew prog (prog.length + 1) s = runAloneC prog (prog.length + 1) (stepCore prog s .spawn) s.npid := by
    refine runAlone_eq (s := step prog s .spawn) s.npid _ ?_
    show s.dying.contains s.npid = false
    cases hcn : s.dying.contains s.npid with
    | false => rfl
    | true => exact absurd (hdy s.npid (by simpa using hcn)) (Nat.lt_irrefl _)
  rw [hrun]
  exact ⟨by simpa only [quiescent, sp] using r1, by simpa only [exitOf, sp] using r2, by rw [newest_core, sg, ← newest_core]; exact r3⟩

end

end NA.C19
