import NA.Proofs.F2RouteSteps
import NA.Proofs.F2Resume
/-!
# F2: the route commands of the printed script are the route plan; coverage after every printed command
-/
namespace NA.F2
open NA.ListFacts
open NA.IosDev2
open NA.F1 (genName lookupD addSet sortS isTagged)

def evRouteOp : Ev → List MA
  | .top c => chgRouteOp c
  | .exitTop c => chgRouteOp c
  | _ => []

theorem renderEv_routeOps (m : Option Mode) (ev : Ev) (hwf : wfEv ev = true) :
    (renderEv m ev).1.flatMap chgRouteOp = evRouteOp ev := by
  cases ev with
  | top c => simp [renderEv, evRouteOp]
  | openAcl n => simp [renderEv, evRouteOp, chgRouteOp]
  | reset => simp [renderEv, evRouteOp]
  | exitTop c =>
    simp only [renderEv, evRouteOp]
    cases m <;> simp [chgRouteOp]
  | sub p c =>
    have hc : chgRouteOp c = [] := by
      cases p with
      | acl n =>
        simp only [wfEv] at hwf
        cases c <;> simp [isEntryCmd] at hwf <;> rfl
      | intf i =>
        simp only [wfEv] at hwf
        cases c <;> simp [isBindCmd] at hwf <;> rfl
    have hp : chgRouteOp p.line = [] := by cases p <;> rfl
    simp only [renderEv, evRouteOp]
    split
    · simp [hc]
    · cases m
      · simp only [Option.isSome_none, Bool.false_eq_true, ↓reduceIte, List.nil_append, List.flatMap_cons, List.flatMap_nil,
          hc, hp, List.append_nil]
      · simp only [Option.isSome_some, ↓reduceIte, List.cons_append, List.nil_append, List.flatMap_cons, List.flatMap_nil,
          hc, hp, List.append_nil]
        rfl

theorem render_routeOps (evs : List Ev) (m : Option Mode) (hwf : ∀ e ∈ evs, wfEv e = true) :
    (render m evs).flatMap chgRouteOp = evs.flatMap evRouteOp := by
  induction evs generalizing m with
  | nil => rfl
  | cons e es ih =>
    simp only [render, List.flatMap_append, List.flatMap_cons]
    rw [renderEv_routeOps m e (hwf e (List.mem_cons_self ..)), ih _ (fun e' he' => hwf e' (List.mem_cons_of_mem _ he'))]

theorem expand_routeOps (act : MA) : (expand act).flatMap evRouteOp = if isRouteAct act then [act] else [] := by
  cases act with
  | transfer n ls => exact List.flatMap_eq_nil_iff.mpr (List.forall_mem_cons.mpr ⟨rfl, List.forall_mem_map.mpr fun _ _ => rfl⟩)
  | edit aN al bl rs =>
    exact List.flatMap_eq_nil_iff.mpr (editEvents_all aN al bl rs (fun _ _ => rfl) (fun _ _ => rfl) rfl rfl)
  | cleanup ns =>
    cases ns with
    | nil => rfl
    | cons n ns => exact List.flatMap_eq_nil_iff.mpr (List.forall_mem_cons.mpr ⟨rfl, List.forall_mem_map.mpr fun _ _ => rfl⟩)
  | _ => rfl

theorem acts_routeOps (acts : List MA) : (acts.flatMap expand).flatMap evRouteOp = acts.filter isRouteAct := by
  induction acts with
  | nil => rfl
  | cons a acts ih =>
    simp only [List.flatMap_cons, List.flatMap_append, ih, expand_routeOps, List.filter_cons]
    split <;> rfl

theorem script_routeOps (acts : List MA) : (scriptOf acts).flatMap chgRouteOp = acts.filter isRouteAct := by
  unfold scriptOf
  rw [render_routeOps _ none (acts_wf acts), acts_routeOps]

theorem engine_routeOps (a0 b : Config) (sc : Scripts) (hw : WF a0 b sc) (hok : (engine a0 b sc).ok = true) :
    (engine a0 b sc).script.flatMap chgRouteOp = (routePlan (sortRoutes (aOf a0 b).routes) (sortRoutes b.routes)).1 := by
  obtain ⟨d1, σ1, π1, d3, p, _, hs⟩ := F2_core a0 b sc hw hok (ofConfig a0) (reads_ofConfig a0)
  obtain ⟨hacts, hscript⟩ := engine_acts a0 b sc hok
  -- the interface phase decides no route command, the clean-up neither
  rw [hscript, script_routeOps, hacts, List.filter_append, List.filter_append,
    List.filter_eq_nil_iff.mpr (fun a ha => by rw [hs.acts a ha]; exact Bool.false_ne_true),
    List.filter_eq_self.mpr (routePlan_isRoute _ _), List.nil_append]
  unfold cleanupActs
  split <;> simp [isRouteAct]

/-- **Coverage after every printed command** of the whole script (a joined replacement is one
command), sent to any device that reads as `a0`: every destination that has a route on the device before and after the script has one after
each command. -/
theorem script_routes_covered (a0 b : Config) (sc : Scripts) (hw : WF a0 b sc) (hok : (engine a0 b sc).ok = true)
    (d0 : Dev) (hr : Reads d0 a0) (keyOf : String → String × String) (hkey : ∀ r ∈ a0.routes ++ b.routes, keyOf r.text = r.key) :
    ∃ dfin, exec d0 (engine a0 b sc).script = some dfin ∧
      ∀ k, ∃ dk, exec d0 ((engine a0 b sc).script.take k) = some dk ∧
        ∀ t0 ∈ a0.routes.map (·.text), (∃ t ∈ dfin.routes, keyOf t = keyOf t0) → ∃ t ∈ dk.routes, keyOf t = keyOf t0 := by
  obtain ⟨dstrip, hfull, _⟩ := F2_end_to_end_from a0 b sc hw hok d0 hr
  obtain ⟨dfin, hfin, _⟩ := Option.map_eq_some_iff.mp hfull
  have hrwf := routesWF_of_WF hw
  have hkey' : ∀ r ∈ sortRoutes (aOf a0 b).routes ++ sortRoutes b.routes, keyOf r.text = r.key := by
    intro r hr
    apply hkey
    rcases List.mem_append.mp hr with k | k
    · have := (perm_sortRoutes _).mem_iff.mp k
      obtain ⟨_, _, ⟨pR, hpR⟩, _⟩ := alignVRFs_config a0 b {}
      have hpR' : (aOf a0 b).routes = a0.routes.filter pR := hpR
      rw [hpR'] at this
      exact List.mem_append_left _ (List.mem_filter.mp this).1
    · exact List.mem_append_right _ ((perm_sortRoutes _).mem_iff.mp k)
  obtain ⟨R', pa, pb, _, hrunR, _, _, _, hsteps⟩ := routes_covered_every_step _ _ _ keyOf hrwf hkey'
  have hops := engine_routeOps a0 b sc hw hok
  -- the route table after a piece of the script is what its route commands give
  have hroutes : ∀ {cs : List Chg} {dx : Dev} {Rx : List String}, exec d0 cs = some dx →
      rRun (a0.routes.map (·.text)) (cs.flatMap chgRouteOp) = some Rx → dx.routes = Rx := fun hx hR => by
    have := (exec_frame _ _ _ hx).2
    rw [hr.routes, hR] at this
    exact (Option.some.inj this).symm
  refine ⟨dfin, hfin, ?_⟩
  intro k
  obtain ⟨dk, hdk⟩ := exec_take _ _ _ hfin k
  refine ⟨dk, hdk, ?_⟩
  obtain ⟨j, hj⟩ := flatMap_take_prefix chgRouteOp (engine a0 b sc).script k
  obtain ⟨Rj, hRj, hcov⟩ := hsteps j
  rw [hroutes hdk (by rw [hj, hops]; exact hRj), hroutes hfin (by rw [hops]; exact hrunR)]
  exact hcov

end NA.F2
