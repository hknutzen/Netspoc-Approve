import NA.Model.AsaEngine
import NA.Core.ListFacts
/-!
# F1: the case distinctions and loops of the engine as elimination rules

Every invariant is carried through the same branches and loops; they are stated once here (for `equalizedGroups` in
NA/Proofs/F1Frame.lean).  The result of an inner call of the engine is a VARIABLE with a defining equation: a projection of an
engine call in a goal makes the unifier evaluate the engine symbolically.
-/
namespace NA.F1
open NA.Acl (Range)
export NA.ListFacts (foldl_inv mem_of_lookup lookup_map_gen map_insertIdx map_eraseIdx zip_map_self mem_zip_of_getElem mem_filter_ne range_map_getD_map)

theorem emitOp_cases (e : Env) (aclName : Name) (al bl : List Line) (cells : List MCell) (st : St) (P : St → Prop)
    (add : ∀ p bi, P ((emitLine e st (Chg.acl aclName (some (p + 1))) (bl.getD bi default)).hit "line:add"))
    (del : ∀ p ai, P ((markDeletedLines { (st.emit (.noAcl aclName (p + 1) (resolveA (al.getD ai default)))) with mode := "" }
      [al.getD ai default]).hit "line:del"))
    (move : ∀ dp ap ai bi, P ((emitLine e (markDeletedLines st [al.getD ai default])
      (fun r => .join (.noAcl aclName (dp + 1) (resolveA (al.getD ai default))) (.acl aclName (some (ap + 1)) r))
      (bl.getD bi default)).hit "line:move"))
    (bad : P (st.emit .bad)) (corrupted : P ((st.emit .bad).hit "line:corrupted")) :
    ∀ op, P (emitOp e aclName al bl cells st op) := by
  intro op
  unfold emitOp
  cases op with
  | add p l =>
    simp only
    split
    · exact add p _
    · exact bad
  | del p l =>
    simp only
    split
    · exact del p _
    · exact bad
  | move dp la ap lb =>
    simp only
    split
    · exact move dp ap _ _
    · exact bad
  | bad => exact corrupted

theorem equalizeRange_rec (e : Env) (al bl : List Line) (lowA lowB : Nat) (P : Nat → St → List MCell → Prop)
    (st : St) (acc : List MCell) (h0 : P 0 st acc) : ∀ n,
    (∀ k, k < n → ∀ s c, P k s c → ∀ s' ok,
      equalizePair e s (al.getD (lowA + k) default) (bl.getD (lowB + k) default) = (s', ok) →
      P (k + 1) (if ok then s' else s'.hit "line:changed-ref")
        (c ++ if ok then [MCell.keep (lowA + k) (lowB + k)] else [MCell.ins (lowB + k), MCell.del (lowA + k)])) →
    P n (equalizeRange e al bl lowA lowB n st acc).1 (equalizeRange e al bl lowA lowB n st acc).2 := by
  intro n
  induction n with
  | zero => intro _; exact h0
  | succ n ih =>
    intro hstep
    have h1 := ih fun k hk => hstep k (Nat.lt_succ_of_lt hk)
    unfold equalizeRange
    generalize equalizeRange e al bl lowA lowB n st acc = r at h1
    obtain ⟨s1, c1⟩ := r
    have h2 := hstep n (Nat.lt_succ_self n) s1 c1 h1
    simp only []
    generalize equalizePair e s1 (al.getD (lowA + n) default) (bl.getD (lowB + n) default) = q at h2
    obtain ⟨s2, ok⟩ := q
    have h3 := h2 s2 ok rfl
    cases ok <;> exact h3

/-- `P` sees the rest of the script, so that facts about the position in a valid script can be carried along. -/
theorem cellsPhase_rec (e : Env) (al bl : List Line) (P : List Range → St → List MCell → Prop)
    (ins : ∀ r rs st acc, r.isInsert = true → P (r :: rs) st acc →
      P rs st (acc ++ (List.range (r.highB - r.lowB)).map fun i => MCell.ins (r.lowB + i)))
    (del : ∀ r rs st acc, ¬ r.isInsert = true → r.isDelete = true → P (r :: rs) st acc →
      P rs st (acc ++ (List.range (r.highA - r.lowA)).map fun i => MCell.del (r.lowA + i)))
    (eq : ∀ r rs st acc, ¬ r.isInsert = true → ¬ r.isDelete = true → r.isEqual = true → P (r :: rs) st acc →
      P rs (equalizeRange e al bl r.lowA r.lowB (r.highA - r.lowA) st acc).1
        (equalizeRange e al bl r.lowA r.lowB (r.highA - r.lowA) st acc).2)
    (skip : ∀ r rs st acc, ¬ r.isInsert = true → ¬ r.isDelete = true → ¬ r.isEqual = true → P (r :: rs) st acc → P rs st acc) :
    ∀ rs st acc, P rs st acc → P [] (cellsPhase e al bl rs st acc).1 (cellsPhase e al bl rs st acc).2 := by
  intro rs
  induction rs with
  | nil => intro st acc h; exact h
  | cons r rs ih =>
    intro st acc h
    unfold cellsPhase
    by_cases hi : r.isInsert = true
    · rw [if_pos hi]; exact ih _ _ (ins r rs st acc hi h)
    · rw [if_neg hi]
      by_cases hd : r.isDelete = true
      · rw [if_pos hd]; exact ih _ _ (del r rs st acc hi hd h)
      · rw [if_neg hd]
        by_cases he : r.isEqual = true
        · rw [if_pos he]
          have h1 := eq r rs st acc hi hd he h
          generalize equalizeRange e al bl r.lowA r.lowB (r.highA - r.lowA) st acc = q at h1
          exact ih _ _ h1
        · rw [if_neg he]; exact ih _ _ (skip r rs st acc hi hd he h)

theorem equalizePair_rec (e : Env) (P : List (Name × Name) → St → Bool → Prop) (a b : Line) (st : St) (h0 : P [] st true)
    (step : ∀ done s ok p, p ∈ a.refs.zip b.refs → P done s ok →
      P (done ++ [p]) (equalizedGroups e s p.1 p.2).1 (ok && (equalizedGroups e s p.1 p.2).2)) :
    P (a.refs.zip b.refs) (equalizePair e st a b).1 (equalizePair e st a b).2 := by
  have key : ∀ (l done : List (Name × Name)) (s : St × Bool), (∀ p ∈ l, p ∈ a.refs.zip b.refs) → P done s.1 s.2 →
      P (done ++ l) (l.foldl (fun (s : St × Bool) p =>
        let (st', ok) := equalizedGroups e s.1 p.1 p.2
        (st', s.2 && ok)) s).1 (l.foldl (fun (s : St × Bool) p =>
        let (st', ok) := equalizedGroups e s.1 p.1 p.2
        (st', s.2 && ok)) s).2 := by
    intro l
    induction l with
    | nil => intro done s _ hs; rw [List.append_nil]; exact hs
    | cons p ps ih =>
      intro done s hl hs
      have := ih (done ++ [p]) ((equalizedGroups e s.1 p.1 p.2).1, s.2 && (equalizedGroups e s.1 p.1 p.2).2)
        (fun q hq => hl q (List.mem_cons_of_mem _ hq)) (step done s.1 s.2 p (hl p List.mem_cons_self) hs)
      rwa [List.append_assoc] at this
  exact key _ [] (st, true) (fun _ hp => hp) h0

theorem equalizePair_preserves (e : Env) (P : St → Prop) (Q : Name → Prop)
    (heq : ∀ st a b, Q a → P st → P (equalizedGroups e st a b).1)
    (a b : Line) (ha : ∀ g ∈ a.refs, Q g) (st : St) (h : P st) : P (equalizePair e st a b).1 :=
  equalizePair_rec e (fun _ s _ => P s) a b st h fun _ s _ p hp hs => heq s p.1 p.2 (ha p.1 (List.of_mem_zip hp).1) hs

theorem cellsPhase_preserves (e : Env) (P : St → Prop) (Q : Name → Prop) (al bl : List Line)
    (hQ : ∀ i, ∀ g ∈ (al.getD i default).refs, Q g)
    (hfind : ∀ st g, P st → P (findGroup e st g))
    (heq : ∀ st a b, Q a → P st → P (equalizedGroups e st a b).1)
    (hhit : ∀ st x, P st → P (st.hit x))
    (rs : List Range) {st : St} (h : P st) (acc : List MCell) :
    P (cellsPhase e al bl rs (earlyFind e bl rs st) acc).1 := by
  refine cellsPhase_rec e al bl (fun _ s _ => P s) (fun _ _ _ _ _ h => h) (fun _ _ _ _ _ _ h => h)
    (fun r _ s c _ _ _ h => equalizeRange_rec e al bl r.lowA r.lowB (fun _ s _ => P s) s c h _ fun k _ s1 _ h1 s' ok hq => ?_)
    (fun _ _ _ _ _ _ _ h => h) rs _ acc (foldl_inv (fun r _ s hs => ?_) h)
  · have h2 := equalizePair_preserves e P Q heq _ (bl.getD (r.lowB + k) default) (hQ (r.lowA + k)) s1 h1
    rw [hq] at h2
    cases ok
    · exact hhit _ _ h2
    · exact h2
  · split
    · exact foldl_inv (fun g _ s' hs' => hfind s' g hs') hs
    · exact hs

theorem diffASAACLs_preserves (e : Env) (P : St → Prop) (Q : Name → Prop) (aN bN : Name) (rs : List Range)
    (hQ : ∀ i, ∀ g ∈ ((e.aLines aN).getD i default).refs, Q g)
    (hfind : ∀ st g, P st → P (findGroup e st g))
    (heq : ∀ st a b, Q a → P st → P (equalizedGroups e st a b).1)
    (hhit : ∀ st x, P st → P (st.hit x))
    (hop : ∀ st cells op, P st → P (emitOp e aN (e.aLines aN) (e.bLines bN) cells st op))
    {st : St} (h : P st) : P (diffASAACLs e st aN bN rs) := by
  have h1 := cellsPhase_preserves e P Q (e.aLines aN) (e.bLines bN) hQ hfind heq hhit rs h []
  unfold diffASAACLs
  simp only []
  generalize cellsPhase e (e.aLines aN) (e.bLines bN) rs (earlyFind e (e.bLines bN) rs st) [] = q at h1
  obtain ⟨st1, cells⟩ := q
  exact foldl_inv (fun op _ s hs => hop s cells op hs) h1

/-- The result is a variable, so that `apply diffAcl_cases e st aN bN hr` reads the motive off the goal. -/
theorem diffAcl_cases (e : Env) (st : St) (aN bN : Name) {P : St × Name → Prop} {r : St × Name} (hr : diffAcl e st aN bN = r)
    (needed : st.aNeeded.contains aN = true →
      ∀ st', st' = transferAcl e (st.hit "acl:device-acl-needed") bN → P (st', st'.aNameOf bN))
    (ready : ¬ st.aNeeded.contains aN = true → st.aReady.contains bN = true →
      P (st.hit "acl:target-acl-ready", st.aNameOf bN))
    (replaced : ¬ st.aNeeded.contains aN = true → ¬ st.aReady.contains bN = true →
      (lookupD e.sc.acl (aN, bN)).any (·.isEqual) = false →
      ∀ st', st' = transferAcl e (markDeletedAcl e (st.hit "acl:no-parts-equal") aN) bN → P (st', st'.aNameOf bN))
    (incremental : ¬ st.aNeeded.contains aN = true → ¬ st.aReady.contains bN = true →
      (lookupD e.sc.acl (aN, bN)).any (·.isEqual) = true →
      ∀ st', st' = diffASAACLs e (({ st with aName := (bN, aN) :: st.aName }.hit "acl:incremental").hit
          (planCheck e st aN bN (lookupD e.sc.acl (aN, bN)))) aN bN (lookupD e.sc.acl (aN, bN)) →
      P ({ st' with aNeeded := addSet aN st'.aNeeded, aReady := addSet bN st'.aReady }, aN)) : P r := by
  subst hr
  unfold diffAcl
  by_cases h1 : st.aNeeded.contains aN = true
  · rw [if_pos h1]; exact needed h1 _ rfl
  · rw [if_neg h1]
    by_cases h2 : st.aReady.contains bN = true
    · rw [if_pos h2]; exact ready h1 h2
    · rw [if_neg h2]
      show P (if _ then _ else _)
      cases h3 : (lookupD e.sc.acl (aN, bN)).any (·.isEqual) with
      | false => rw [if_pos (by decide)]; exact replaced h1 h2 h3 _ rfl
      | true => rw [if_neg (by decide)]; exact incremental h1 h2 h3 _ rfl

theorem diffBinds_preserves (e : Env) (P : St → Prop)
    (hhit : ∀ st x, P st → P (st.hit x))
    (hmark : ∀ st idx, P st → P (markDeletedBinds e st idx))
    (hadd : ∀ st bs, P st → P (addBinds e st bs))
    (hdel : ∀ st idx, P st → P (delBinds e st idx))
    (heq : ∀ st i b, P st → P (makeEqualBind e st i b))
    {st : St} (h : P st) (al : List Nat) (bl : List Bind) : P (diffBinds e st al bl) := by
  unfold diffBinds
  -- the branches are taken by `rw`: `split` on this goal re-abstracts the two nested folds at every level
  by_cases h1 : (!al.isEmpty && st.bNeeded.contains (al.headD 0)) = true
  · rw [if_pos h1]
    split
    · exact h
    · exact hadd _ bl (hhit _ _ h)
  · rw [if_neg h1]
    simp only []
    generalize diffUnordered (al.map fun i => (e.a.binds.getD i default).key) (bl.map (·.key)) = diff
    cases h2 : diff.any (·.isEqual) with
    | false =>
      rw [if_pos (by decide)]
      have h1 : P (if al.isEmpty then st else markDeletedBinds e (st.hit "bind:no-parts-equal") al) := by
        split
        · exact h
        · exact hmark _ al (hhit _ _ h)
      split
      · exact h1
      · exact hadd _ bl h1
    | true =>
      rw [if_neg (by decide)]
      refine foldl_inv (fun r _ s hs => ?_) (foldl_inv (fun r _ s hs => ?_) h)
      · split
        · split
          · exact hs
          · exact hadd _ _ hs
        · split
          · exact foldl_inv (fun p _ s' hs' => heq s' p.1 p.2 hs') hs
          · exact hs
      · split
        · exact hdel _ _ hs
        · exact hs

theorem bindsWalk_preserves (e : Env) (P : St → Prop) (C : Chg → Prop)
    (hbind : ∀ b, C (.bind b)) (hnoBind : ∀ b, C (.noBind b))
    (hmarks : ∀ st st' : St, st'.out = st.out → st'.mode = st.mode → st'.gReady = st.gReady → st'.gName = st.gName →
      P st → P st')
    (hcmd : ∀ (st st' : St) (c : Chg), C c → st'.out = st.out ++ [c] → st'.mode = "" → st'.gReady = st.gReady →
      st'.gName = st.gName → P st → P st')
    (hline : ∀ st n l, P st → P (emitLine e st (Chg.acl n none) l))
    (hasa : ∀ st aN bN rs, P st → P (diffASAACLs e st aN bN rs))
    {st : St} (h : P st) (al : List Nat) (bl : List Bind) : P (diffBinds e st al bl) := by
  have hhit : ∀ st x, P st → P (st.hit x) := fun st x => hmarks st _ rfl rfl rfl rfl
  have transfer : ∀ st bN, P st → P (transferAcl e st bN) := by
    intro st bN h
    unfold transferAcl
    split
    · exact h
    · exact foldl_inv (fun l _ s hs => hline s _ l hs) (hmarks st _ rfl rfl rfl rfl h)
  have markAcl : ∀ st aN, P st → P (markDeletedAcl e st aN) := by
    intro st aN h
    unfold markDeletedAcl
    split
    · exact h
    · exact hmarks st _ rfl rfl rfl rfl h
  have acl : ∀ st aN bN, P st → P (diffAcl e st aN bN).1 := by
    intro st aN bN h
    refine diffAcl_cases e st aN bN (P := fun r => P r.1) rfl ?_ ?_ ?_ ?_
    · rintro _ _ rfl; exact transfer _ bN (hhit _ _ h)
    · exact fun _ _ => hhit _ _ h
    · rintro _ _ _ _ rfl; exact transfer _ bN (markAcl _ aN (hhit _ _ h))
    · intro _ _ _ st' hst'
      have h1 : P st' := by
        rw [hst']
        exact hasa _ aN bN _ (hhit _ _ (hhit _ _ (hmarks st { st with aName := (bN, aN) :: st.aName } rfl rfl rfl rfl h)))
      exact hmarks st' _ rfl rfl rfl rfl h1
  have markBinds : ∀ st idx, P st → P (markDeletedBinds e st idx) := by
    intro st idx h
    unfold markDeletedBinds
    refine foldl_inv (fun i _ s hs => ?_) h
    split
    · exact hs
    · exact markAcl _ _ (hmarks s { s with bToDel := i :: s.bToDel } rfl rfl rfl rfl hs)
  refine diffBinds_preserves e P hhit markBinds ?_ ?_ ?_ h al bl
  · intro st bs h
    unfold addBinds
    refine foldl_inv (fun b _ s hs => ?_) h
    have h1 := transfer s b.acl hs
    generalize transferAcl e s b.acl = s1 at h1
    exact hcmd s1 _ _ (hbind _) rfl rfl rfl rfl h1
  · intro st idx h
    have rest : ∀ s1, P s1 → P (if idx.isEmpty then s1 else markDeletedBinds e s1 idx) := by
      intro s1 h1
      split
      · exact h1
      · exact markBinds _ idx h1
    unfold delBinds
    refine rest _ (foldl_inv (fun i _ s hs => ?_) h)
    split
    · exact hs
    · exact hcmd s _ _ (hnoBind _) rfl rfl rfl rfl hs
  · intro st i b h
    unfold makeEqualBind
    simp only []
    have h1 := acl { st with bNeeded := makeEqualBind.addSet' i st.bNeeded } (e.a.binds.getD i default).acl b.acl
      (hmarks st _ rfl rfl rfl rfl h)
    generalize diffAcl e { st with bNeeded := makeEqualBind.addSet' i st.bNeeded } (e.a.binds.getD i default).acl b.acl = q at h1
    obtain ⟨st1, refName⟩ := q
    simp only at h1 ⊢
    split
    · exact hcmd st1 _ _ (hbind _) rfl rfl rfl rfl h1
    · exact h1

theorem deleteUnused_cases (e : Env) (st : St) (managed : List Nat) (P : St → Prop)
    (h : ∀ st1 p n, st1.out = st.out → st1.mode = st.mode →
      P st1 ∧ ((st1.mode != "") = true → P (duRounds e n ((st1.emit .exit).hit "du:exit") p)) ∧
      (¬ (st1.mode != "") = true → P (duRounds e n st1 p))) :
    P (deleteUnused e st managed) := by
  unfold deleteUnused
  generalize duPending e st managed = q
  obtain ⟨p, sr⟩ := q
  simp only []
  generalize hst1 : (if sr = true then st.hit "du:still-referenced" else st) = st1
  have ho : st1.out = st.out := by subst hst1; cases sr <;> rfl
  have hm : st1.mode = st.mode := by subst hst1; cases sr <;> rfl
  obtain ⟨h1, h2, h3⟩ := h st1 p (e.a.acls.length + e.a.groups.length + 2) ho hm
  by_cases hp : p.isEmpty = true
  · rw [if_pos hp]; exact h1
  · rw [if_neg hp]
    by_cases hx : (st1.mode != "") = true
    · rw [if_pos hx]; exact h2 hx
    · rw [if_neg hx]; exact h3 hx

theorem deleteUnused_nothing {e : Env} {st : St} {managed : List Nat} {p : Pending} {sr : Bool}
    (hp : duPending e st managed = (p, sr)) (hE : p.isEmpty = true) : (deleteUnused e st managed).out = st.out := by
  unfold deleteUnused
  rw [hp]
  simp only [hE, if_true]
  split <;> rfl

theorem foldl_emit_out {α : Type} (g : St → α → St) (f : α → Chg) (hg : ∀ s x, (g s x).out = s.out ++ [f x])
    (l : List α) (st : St) : (l.foldl g st).out = st.out ++ l.map f := by
  induction l generalizing st with
  | nil => simp
  | cons x xs ih => rw [List.foldl_cons, ih, hg]; simp

theorem duRound_out (e : Env) (st : St) (p : Pending) :
    (duRound e st p).1.out = st.out ++ ((p.binds.map fun i => Chg.noBind (e.a.binds.getD i default)) ++
      ((p.acls.filter fun n => !(p.binds.map fun i => (e.a.binds.getD i default).acl).contains n).map Chg.clearAcl ++
       (p.grps.filter fun g => !(p.acls.flatMap fun n => (e.aLines n).flatMap (·.refs)).contains g).map Chg.noGrp)) ∧
    (duRound e st p).2 = ⟨[], p.acls.filter (p.binds.map fun i => (e.a.binds.getD i default).acl).contains,
      p.grps.filter (p.acls.flatMap fun n => (e.aLines n).flatMap (·.refs)).contains⟩ := by
  unfold duRound
  simp only [and_true]
  rw [foldl_emit_out _ Chg.noGrp (fun s x => rfl), foldl_emit_out _ Chg.clearAcl (fun s x => rfl),
    foldl_emit_out _ (fun i => Chg.noBind (e.a.binds.getD i default)) (fun s x => rfl)]
  simp only [List.append_assoc]

theorem checkInterfaces_preserves (e : Env) (P : St → Prop) (h0 : P {})
    (hstep : ∀ s i, P s → P ((markNeededBind e s i).hit "intf:unmanaged-binding"))
    {st : St} {managed : List Nat} (h : checkInterfaces e {} = some (st, managed)) : P st := by
  unfold checkInterfaces at h
  simp only [] at h
  split at h
  · simp only [Option.some.injEq, Prod.mk.injEq] at h
    rw [← h.1]
    exact foldl_inv (fun i _ s hs => hstep s i hs) h0
  · exact absurd h (by simp)

theorem checkInterfaces_init (e : Env) (st : St) (managed : List Nat) (h : checkInterfaces e {} = some (st, managed)) :
    st.out = [] ∧ st.gReady = [] ∧ st.gName = [] ∧ st.mode = "" ∧ st.aToDel = [] ∧ st.gToDel = [] :=
  checkInterfaces_preserves e (fun s => s.out = [] ∧ s.gReady = [] ∧ s.gName = [] ∧ s.mode = "" ∧ s.aToDel = [] ∧ s.gToDel = [])
    ⟨rfl, rfl, rfl, rfl, rfl, rfl⟩ (fun _ _ hs => hs) h

theorem engine_cases {a b : Config} {sc : Scripts} {r : Result} (h : engine a b sc = some r) :
    ∃ st0 managed st1 st2, checkInterfaces ⟨a, b, sc⟩ {} = some (st0, managed) ∧
      st1 = (if managed.isEmpty && b.binds.isEmpty then generateNames ⟨a, b, sc⟩ st0
             else diffBinds ⟨a, b, sc⟩ (generateNames ⟨a, b, sc⟩ st0) managed b.binds) ∧
      st2 = diffRoutes st1 (sortRoutes a.routes) (sortRoutes b.routes) ∧
      r.script = (deleteUnused ⟨a, b, sc⟩ st2 managed).out := by
  unfold engine at h
  simp only [] at h
  split at h
  · exact absurd h (by simp)
  · rename_i st0 managed hci
    simp only [Option.some.injEq] at h
    exact ⟨st0, managed, _, _, hci, rfl, rfl, by rw [← h]⟩

end NA.F1
