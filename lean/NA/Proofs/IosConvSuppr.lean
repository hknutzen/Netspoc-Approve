import NA.Proofs.IosConvBlockIds
import NA.Proofs.IosConvMove
import NA.Proofs.IosConvRun
/-!
For ACLs without remark lines every move that `planIOS` suppresses is harmless (`SupprOK`): the
suppression test names a device line next to the insert position with the block id of the kept line,
equal ids mean one stretch of one action (`Good`, NA/Proofs/IosConvBlockIds.lean), hence every cell
between the two positions has the action of the kept line.
-/
namespace NA.Acl

attribute [-simp] List.getD_eq_getElem?_getD

theorem insertRuns_head_idx (M : List Cell) (hj : noJunk M = true) (idx b : Nat)
    (r : Nat × Nat × List Line) (rest : List (Nat × Nat × List Line))
    (h : insertRuns M idx b = r :: rest) (hb : r.1 = b) : r.2.1 = idx := by
  cases M with
  | nil => simp [insertRuns] at h
  | cons c M =>
    cases hc : c.newOnly with
    | true =>
      obtain ⟨ls, rest', heq, -, -⟩ := insertRuns_cons_newOnly c M idx b hc
      rw [heq] at h
      rw [← (List.cons.inj h).1]
    | false =>
      -- a cell that is not new-only is old, so `before` has grown
      have hco : c.old = true := by
        have h1 : (c.old || c.new) = true := (List.all_eq_true.mp hj) c List.mem_cons_self
        cases ho : c.old with
        | true => rfl
        | false =>
          rw [ho, Bool.false_or] at h1
          simp [Cell.newOnly, ho, h1] at hc
      rw [insertRuns_cons_other c M idx b hc, if_pos hco] at h
      have := (insertRuns_ge M (idx + 1) (b + 1) r (by rw [h]; exact List.mem_cons_self)).2
      omega

theorem insertRuns_before_sorted (M : List Cell) (hj : noJunk M = true) (idx b : Nat) :
    (insertRuns M idx b).Pairwise fun r r' => r.1 < r'.1 := by
  induction M generalizing idx b with
  | nil => simp [insertRuns]
  | cons c M ih =>
    have hj' : noJunk M = true := by
      simp only [noJunk, List.all_cons, Bool.and_eq_true] at hj; exact hj.2
    cases hc : c.newOnly with
    | false => rw [insertRuns_cons_other c M idx b hc]; exact ih hj' _ _
    | true =>
      obtain ⟨ls, rest, heq, -, hrest⟩ := insertRuns_cons_newOnly c M idx b hc
      have hp := ih hj' (idx + 1) b
      rw [heq]
      rcases hrest with hR | ⟨-, rfl, hhead⟩
      · rw [hR] at hp
        exact List.pairwise_cons.mpr (List.pairwise_cons.mp hp)
      · refine List.pairwise_cons.mpr ⟨?_, hp⟩
        -- the next run has a larger `before`, or it would start at `idx + 1`
        cases hR : insertRuns M (idx + 1) b with
        | nil => simp
        | cons r0 rest0 =>
          rw [hR] at hp
          have hge := (insertRuns_ge M (idx + 1) b r0 (by rw [hR]; exact List.mem_cons_self)).2
          have hne : r0.1 ≠ b := fun e =>
            hhead r0 rest0 hR ⟨e, insertRuns_head_idx M hj' (idx + 1) b _ _ hR e⟩
          have hlt : b < r0.1 := Nat.lt_of_le_of_ne hge (Ne.symm hne)
          exact List.forall_mem_cons.mpr ⟨hlt, fun r hr => Nat.lt_trans hlt ((List.pairwise_cons.mp hp).1 r hr)⟩

theorem cell_in_run (M : List Cell) {k : Nat} (hk : k ∈ addIdx M) :
    ∃ r ∈ insertRuns M 0 0, r.1 = countOld M k ∧ k = r.2.1 + runOff M k ∧
      r.2.2[runOff M k]? = some (M.getD k default).line := by
  have : item4 M k ∈ flat4 (insertRuns M 0 0) := by
    rw [insertRuns_items]; exact List.mem_map.mpr ⟨k, hk, rfl⟩
  simp only [flat4, List.mem_flatMap] at this
  obtain ⟨r, hr, hx⟩ := this
  obtain ⟨i, h1, h2, h3, h4⟩ := (mem_itemsFrom4 _ _ _ _ _).mp hx
  simp only [item4, Nat.zero_add] at h1 h2 h3 h4
  refine ⟨r, hr, h3.symm, by omega, ?_⟩
  rw [h4]; exact h1

theorem run_cell (M : List Cell) {r : Nat × Nat × List Line} (hr : r ∈ insertRuns M 0 0) {i : Nat}
    {b : Line} (h : r.2.2[i]? = some b) :
    r.2.1 + i ∈ addIdx M ∧ countOld M (r.2.1 + i) = r.1 ∧ runOff M (r.2.1 + i) = i ∧
      (M.getD (r.2.1 + i) default).line = b := by
  have h1 : (r.2.1 + i, r.1, 0 + i, b) ∈ itemsFrom4 r.1 r.2.1 0 r.2.2 :=
    (mem_itemsFrom4 _ _ _ _ _).mpr ⟨i, h, rfl, rfl, rfl⟩
  have h2 : (r.2.1 + i, r.1, 0 + i, b) ∈ flat4 (insertRuns M 0 0) := by
    simp only [flat4, List.mem_flatMap]; exact ⟨r, hr, h1⟩
  rw [insertRuns_items] at h2
  obtain ⟨j, hj, he⟩ := List.mem_map.mp h2
  simp only [item4, Prod.mk.injEq, Nat.zero_add] at he
  obtain ⟨rfl, e2, e3, e4⟩ := he
  exact ⟨hj, e2, e3, e4⟩

/-- The suppression test names a device line `c` directly above or directly below the insert
position that carries the block id of the looked-up line; below only for a run of one action. -/
theorem blkCond_anchor {blk : List Nat} {before : Nat} {sameAct : Bool} {ai : Nat}
    (h : blkCond blk before sameAct ai = true) :
    ∃ c, blk.getD c 0 = blk.getD ai 0 ∧
      (c + 1 = before ∨ c = before ∧ c < blk.length ∧ sameAct = true) := by
  simp only [blkCond, Bool.or_eq_true, Bool.and_eq_true, decide_eq_true_eq, beq_iff_eq] at h
  rcases h with ⟨hpos, hcls⟩ | ⟨⟨hsa, hblt⟩, hcls⟩
  · exact ⟨before - 1, hcls, Or.inl (by omega)⟩
  · exact ⟨before, hcls, Or.inr ⟨rfl, hblt, hsa⟩⟩

/-- The block-id test behind a suppressed move names a device line `c` next to the insert position
with the id of the looked-up line `d`.  A cell strictly between `j` and `d` is a device line between
`c` and `d`, or a line of a run inserted strictly inside that stretch, or it stands in the run of
`j` itself, where `moveOK` (cells above `j`) or `sameAct` (anchor below the run) speaks for it. -/
theorem suppr_between_act (M : List Cell) (hjunk : noJunk M = true) (hruns : runsShort M)
    (blk : List Nat) (mx : Nat) (hgood : Good (olds M) blk mx (insertRuns M 0 0).reverse)
    {j d : Nat} (hj : j ∈ addIdx M) (hd : d ∈ delIdx M)
    (hline : (M.getD j default).line.act = (M.getD d default).line.act)
    (hlk : iosDelLookup M (M.getD j default).line.mkey = some (countOld M d))
    (r : Nat × Nat × List Line) (hr : r ∈ insertRuns M 0 0) (hrsn : RunRsn M blk r (newItem M j)) :
    ∀ k, k < M.length → (j < k ∧ k < d ∨ d < k ∧ k < j) →
      (M.getD k default).line.act = (M.getD d default).line.act := by
  obtain ⟨i, b, ai, h1, h2, h3, h4, h5⟩ := hrsn
  obtain ⟨hdl, hdo, -⟩ := (mem_delIdx M d).1 hd
  simp only [newItem, Prod.mk.injEq] at h2
  obtain ⟨hnum, rfl⟩ := h2
  -- position `i` of run `r` is cell `j`
  obtain ⟨hj'mem, hco', hoff', -⟩ := run_cell M hr h1
  obtain ⟨hj'l, hj'o, -⟩ := (mem_addIdx M _).1 hj'mem
  -- `RunRsn` names the item by its number (the walk of the code is over items, not cells); the cell
  -- is found again because numbers do not collide: the only use of `hruns` here
  have hjj : r.2.1 + i = j := numOf_inj M hjunk hruns hj'l ((mem_addIdx M j).1 hj).1
    (by rw [hnum]; simp [numOf, hj'o, hco', hoff'])
  subst hjj
  have hai : ai = countOld M d := by rw [hlk] at h4; exact (Option.some.inj h4).symm
  subst hai
  obtain ⟨hail, hald⟩ := olds_getD M d hdl hdo
  obtain ⟨c, hcA, hcB⟩ := blkCond_anchor h5
  have hc : c < (olds M).length := by
    have := countOld_le_olds M (r.2.1 + i) (Nat.le_of_lt hj'l)
    have := hgood.len
    omega
  -- lines of the run that the planner compared with its first line
  have hhead : ∀ l, l ∈ r.2.2.take (i + 1) ∨ c = r.1 ∧ l ∈ r.2.2 →
      l.act = (r.2.2.headD default).act := by
    rintro l (hl | ⟨hcr, hl⟩)
    · exact (beq_iff_eq.mp (List.all_eq_true.mp h3 l hl)).symm
    · rcases hcB with hcB | ⟨-, -, hsa⟩
      · omega
      · exact beq_iff_eq.mp (List.all_eq_true.mp hsa l hl)
  have hjhead : (M.getD (r.2.1 + i) default).line.act = (r.2.2.headD default).act :=
    hhead _ (Or.inl (List.mem_of_getElem? (i := i) (by rw [List.getElem?_take]; simp [h1])))
  have hcr : c ≤ r.1 ∧ r.1 ≤ c + 1 := by omega
  intro k hk hbetween
  rw [← hald]
  by_cases hko : (M.getD k default).old = true
  · -- a device line between `c` and `d`
    obtain ⟨-, hkline⟩ := olds_getD M k hk hko
    rw [← hkline]
    refine hgood.act_between hcA hc hail ?_
    rcases hbetween with ⟨hjk, hkd⟩ | ⟨hdk, hkj⟩
    · have h1 : r.1 ≤ countOld M k := hco' ▸ countOld_mono M (Nat.le_of_lt hjk)
      exact Or.inl ⟨Nat.le_trans hcr.1 h1, Nat.le_of_lt (countOld_lt M hkd hk hko)⟩
    · have h1 : countOld M k < r.1 := hco' ▸ countOld_lt M hkj hk hko
      exact Or.inr ⟨Nat.le_of_lt (countOld_lt M hdk hdl hdo),
        Nat.le_of_lt_succ (Nat.lt_of_lt_of_le h1 hcr.2)⟩
  · have hkn : k ∈ addIdx M := by
      simp only [Bool.not_eq_true] at hko
      exact (mem_addIdx M k).2 ⟨hk, hko, by simpa [hko] using noJunk_getD hjunk hk⟩
    obtain ⟨rk, hrk, hrkb, hrki, hrkl⟩ := cell_in_run M hkn
    have hlmem : (M.getD k default).line ∈ rk.2.2 := List.mem_of_getElem? hrkl
    have hbetween' : r.1 ≤ rk.1 ∧ rk.1 ≤ countOld M d ∧ r.2.1 + i < k ∨
        countOld M d < rk.1 ∧ rk.1 ≤ r.1 ∧ k < r.2.1 + i := by
      rw [hrkb, ← hco']
      rcases hbetween with ⟨hjk, hkd⟩ | ⟨hdk, hkj⟩
      · exact Or.inl ⟨countOld_mono M (Nat.le_of_lt hjk), countOld_mono M (Nat.le_of_lt hkd), hjk⟩
      · exact Or.inr ⟨countOld_lt M hdk hdl hdo, countOld_mono M (Nat.le_of_lt hkj), hkj⟩
    have hrun := hgood.run_between hcA hc hail (List.mem_reverse.mpr hrk) (l := (M.getD k default).line)
    by_cases hsr : rk.1 = r.1
    · -- the run of `j`
      have hsame : rk = r := ListFacts.eq_of_nodup_map (f := (·.1))
        (List.pairwise_map.2 ((insertRuns_before_sorted M hjunk 0 0).imp Nat.ne_of_lt)) hrk hr hsr
      subst hsame
      rcases hcB with hcB | ⟨hcB, -, -⟩
      · rcases hbetween' with ⟨-, h2, -⟩ | ⟨-, -, hkj⟩
        · exact hrun (Or.inl ⟨hcB ▸ Nat.lt_succ_self c, h2⟩) hlmem
        · rw [hald, ← hline, hjhead]
          refine hhead _ (Or.inl (List.mem_of_getElem? (i := runOff M k) ?_))
          have hlt : runOff M k < i + 1 :=
            Nat.lt_succ_of_lt (Nat.lt_of_add_lt_add_left (hrki ▸ hkj))
          rw [List.getElem?_take, if_pos hlt]
          exact hrkl
      · rw [hald, ← hline, hjhead]
        exact hhead _ (Or.inr ⟨hcB, hlmem⟩)
    · -- a run inserted strictly between `c` and `d`
      rcases hbetween' with ⟨h1, h2, -⟩ | ⟨h1, h2, -⟩
      · exact hrun (Or.inl ⟨Nat.lt_of_le_of_lt hcr.1 (Nat.lt_of_le_of_ne h1 (Ne.symm hsr)), h2⟩) hlmem
      · exact hrun (Or.inr ⟨h1,
          Nat.le_of_lt_succ (Nat.lt_of_lt_of_le (Nat.lt_of_le_of_ne h2 hsr) hcr.2)⟩) hlmem

theorem supprOK_noremark (E : Line → Line → Prop) (hEact : ∀ a b, E a b → a.act = b.act)
    (M : List Cell) (hjunk : noJunk M = true) (hruns : runsShort M)
    (hnr : ∀ c ∈ M, c.line.remark = false)
    (hsame : ∀ i ∈ delIdx M, ∀ j ∈ addIdx M,
      (M.getD i default).line.mkey = (M.getD j default).line.mkey →
      E (M.getD i default).line (M.getD j default).line)
    (g : Nat → Bool)
    (hg : ∀ j ∈ addIdx M, g j = true → ∃ r ∈ insertRuns M 0 0, RunRsn M
      (blockPass (olds M) (insertRuns M 0 0) (blocksOf (olds M)) (maxBlock (olds M))).1 r
      (newItem M j)) :
    SupprOK E M ((addIdx M).filter (supprAt M g)) := by
  have hnro : noRemark (olds M) := by
    intro l hl
    simp only [olds, List.mem_map, List.mem_filter] at hl
    obtain ⟨c, ⟨hc, _⟩, rfl⟩ := hl
    exact hnr c hc
  have hgood := good_blockPass (olds M) hnro (insertRuns M 0 0)
  have hrem : ∀ k, k < M.length → (M.getD k default).line.remark = false :=
    fun k hk => hnr _ (ListFacts.getD_mem hk)
  intro j hjS
  obtain ⟨hj, hsup⟩ := List.mem_filter.mp hjS
  simp only [supprAt, Bool.and_eq_true] at hsup
  obtain ⟨hgj, hsome⟩ := hsup
  cases hl : delLookup M (M.getD j default).line.mkey with
  | none => rw [hl] at hsome; exact absurd hsome (by simp)
  | some d =>
    obtain ⟨hd, hdm⟩ := delLookup_someI hl
    have hline := hsame d hd j hj hdm
    refine ⟨d, hd, hdm, hline, ?_⟩
    intro k hk hb _
    obtain ⟨r, hr, hrsn⟩ := hg j hj hgj
    have hact := suppr_between_act M hjunk hruns _ _ hgood hj hd (hEact _ _ hline).symm
      (by simp [iosDelLookup, hl]) r hr hrsn k hk hb
    exact Or.inr (Or.inr (act_eq_permit (hrem d ((mem_delIdx M d).1 hd).1) (hrem k hk) hact.symm))

end NA.Acl

namespace NA.Acl.IosAclProps
open NA.Acl

/-- Without remark lines, whatever moves the planner suppresses, the strict device accepts the plan and
ends block-equivalent to the target modulo any `E` that preserves action and swappability. -/
theorem ios_plan_block_equiv_mod (E : Line → Line → Prop)
    (hEsw : ∀ a b c, E a b → swappable a c → swappable b c) (hEact : ∀ a b, E a b → a.act = b.act)
    (M : List Cell)
    (hboth : (M.any fun c => c.old && c.new) = true) (hjunk : noJunk M = true)
    (hruns : runsShort M)
    (hno : ((olds M).map (·.mkey)).Nodup) (hnn : ((news M).map (·.mkey)).Nodup)
    (hnr : ∀ c ∈ M, c.line.remark = false)
    (hE : ∀ i ∈ delIdx M, ∀ j ∈ addIdx M,
      (M.getD i default).line.mkey = (M.getD j default).line.mkey →
      E (M.getD i default).line (M.getD j default).line)
    (dev : IosAcl) (hdev : iosLines dev = olds M) :
    ∃ tr s, iosTrace (iosReseq dev 10000 10000) (planIOS M) = some tr ∧
      (iosReseq dev 10000 10000 :: tr).getLast? = some s ∧ BlockEqG E (iosLines s) (news M) := by
  obtain ⟨g, -, hg, hrun⟩ := IosSafe.planIOS_run M hboth hjunk hruns hno hnn dev hdev
  obtain ⟨tr, ht, -, hl⟩ := hrun.trace
  refine ⟨tr, _, ht, hl, ?_⟩
  rw [numbered_lines]
  exact finalMask_blockEq E hEsw M hno hnn _ (mem_addIdx_of_suppr M g) (suppr_nodup M g)
    (supprOK_noremark E hEact M hjunk hruns hnr hE g hg)

end NA.Acl.IosAclProps
