import NA.Proofs.F1Binds
import NA.Proofs.F1Routes
import NA.Proofs.F1TailBinds
/-!
# F1: the whole engine on the strict device, class K2

Several access-group commands (in and out, known and unknown interfaces), shared and unshared
object-groups, all four branches of `diffAcl`, routes, `deleteUnused`.
-/
namespace NA.F1
open NA.AsaDev
open NA.Acl (Range)
open NA.ListFacts

theorem full_init (a b : Config) (sc : Scripts) (st : St) (managed : List Nat)
    (h : checkInterfaces ⟨a, b, sc⟩ {} = some (st, managed)) (hAclNames : (a.acls.map (·.1)).Nodup) :
    Full ⟨a, b, sc⟩ (generateNames ⟨a, b, sc⟩ st) (ofConfig a) := by
  obtain ⟨hm, _, _⟩ := checkInterfaces_marks _ st managed h
  have hkeys := aclKeys_ofConfig a
  refine ⟨sem_init a b sc st managed h, by rw [hkeys]; exact hAclNames, ?_, ?_, ?_, ?_, ?_⟩
  · intro n hn
    apply (hasAcl_iff_keys _ n).mpr
    rw [hkeys]; exact hn
  · intro n _ _
    rw [linesOf_ofConfig]; rfl
  · intro bN hbN
    have : (generateNames ⟨a, b, sc⟩ st).aReady = st.aReady := rfl
    rw [this, hm.aReady] at hbN; simp at hbN
  · intro bN hbN _
    have hn : (generateNames ⟨a, b, sc⟩ st).aNameOf bN = genName bN (a.acls.map (·.1)) := by
      unfold St.aNameOf generateNames
      rw [lookup_map_gen (fun n => genName n (a.acls.map (·.1))) bN b.acls hbN]
      rfl
    refine ⟨hn, ?_⟩
    cases hh : hasAcl (ofConfig a) (genName bN (A0 ⟨a, b, sc⟩))
    · rfl
    · have := (hasAcl_iff_keys _ _).mp hh
      rw [hkeys] at this
      exact absurd this (genName_fresh bN _)
  · intro X hX hf l hl x hx
    have hXA : X ∈ a.acls.map (·.1) := by
      have := (hasAcl_iff_keys _ _).mp hX
      rw [hkeys] at this; exact this
    rcases hf with hf | hf
    · rw [linesOf_ofConfig] at hl
      obtain ⟨l0, hl0, rfl⟩ := List.mem_map.mp hl
      left
      exact hm.closed X hf l0 hl0 x hx
    · exact absurd hXA hf

theorem mem_ofConfig_binds (e : Env) (p : BKey × Name) :
    p ∈ (ofConfig e.a).binds ↔ ∃ i, i < e.a.binds.length ∧ p = (keyOf e i, aclOfI e i) := by
  simp only [ofConfig, List.mem_map]
  constructor
  · rintro ⟨x, hx, rfl⟩
    obtain ⟨i, hi, rfl⟩ := exists_getD_of_mem default hx
    exact ⟨i, hi, rfl⟩
  · rintro ⟨i, hi, rfl⟩
    exact ⟨_, getD_mem hi, rfl⟩

theorem binv_init (a b : Config) (sc : Scripts) (st : St) (managed : List Nat)
    (h : checkInterfaces ⟨a, b, sc⟩ {} = some (st, managed)) (hAclNames : (a.acls.map (·.1)).Nodup)
    (hkeys : (a.binds.map fun x => (x.dir, x.intf)).Nodup)
    (hmk : (managed.map (keyOf ⟨a, b, sc⟩)).Nodup) :
    BInv ⟨a, b, sc⟩ managed (generateNames ⟨a, b, sc⟩ st) (ofConfig a) managed [] := by
  obtain ⟨_, hm2, hm3⟩ := checkInterfaces_marks _ st managed h
  have hbk : ((ofConfig a).binds.map (·.1)).Nodup := by
    simpa [ofConfig, List.map_map, Function.comp_def] using hkeys
  refine ⟨full_init a b sc st managed h hAclNames, rfl, hbk, ?_, hmk, hm3, ?_, ?_, fun b hb => (nomatch hb),
    fun b hb => (nomatch hb), rfl⟩
  · exact fun i hi => (lookup_eq_some_iff_mem hbk).mpr ((mem_ofConfig_binds ⟨a, b, sc⟩ _).mpr ⟨i, hm3 i hi, rfl⟩)
  · intro p hp
    obtain ⟨i, hi, rfl⟩ := (mem_ofConfig_binds ⟨a, b, sc⟩ p).mp hp
    exact (hm2 i hi).elim (fun h1 => Or.inr ⟨i, h1, rfl⟩) (fun h1 => Or.inl (Or.inl h1))
  · intro p hp
    obtain ⟨i, hi, rfl⟩ := (mem_ofConfig_binds ⟨a, b, sc⟩ p).mp hp
    by_cases hmm : i ∈ managed
    · exact Or.inl ⟨i, hmm, rfl⟩
    · exact Or.inr (Or.inr ⟨i, hi, hmm, rfl⟩)

/-- Final equivalence of a device line and a target line: same text up to group names; each referenced
device group exists and has the target group's members. -/
def LineEquiv (e : Env) (d : Dev) (l : RLine) (b : Line) : Prop :=
  l.body = b.body ∧ ∀ q ∈ l.names.zip b.refs, hasGroup d q.1 = true ∧ (membersOf d q.1).Perm (lookupD e.b.groups q.2)

def AclEquiv (e : Env) (d : Dev) (ls : List RLine) (bl : List Line) : Prop :=
  ls.length = bl.length ∧ ∀ p ∈ ls.zip bl, LineEquiv e d p.1 p.2

/-- **The device carries the target** (fragment F1): same interfaces; an access-group command only at a place the
target names or at a place of an interface unknown to the target (where the device had one);
at every place named by the target an access list equivalent to the target's one is bound;
the routes are the target's routes (or, if the target has none, the old ones). -/
structure Converged (e : Env) (d' : Dev) : Prop where
  intfs : d'.intfs = e.a.intfs
  bindsFrom : ∀ p ∈ d'.binds, (∃ x ∈ e.b.binds, p.1 = (x.dir, x.intf)) ∨
    (∃ y ∈ e.a.binds, p.1 = (y.dir, y.intf) ∧ y.intf ∉ e.b.binds.map (·.intf))
  binds : ∀ x ∈ e.b.binds, ∃ X, d'.binds.lookup (x.dir, x.intf) = some X ∧
    AclEquiv e d' (linesOf d' X) (e.bLines x.acl)
  routes : e.b.routes ≠ [] → ∀ r, r ∈ d'.routes ↔ r ∈ e.b.routes.map (·.text)
  routesKept : e.b.routes = [] → d'.routes = e.a.routes.map (·.text)

theorem diffRoutes_full (e : Env) (st : St) (d : Dev) (hF : Full e st d) (hr : d.routes = e.a.routes.map (·.text))
    (hc : routesCheck (sortRoutes e.a.routes) (sortRoutes e.b.routes)
      (routeDelsOf (sortRoutes e.a.routes) (sortRoutes e.b.routes))
      (routeInssOf (sortRoutes e.a.routes) (sortRoutes e.b.routes)) = true) :
    ∃ d' cs, RouteFrame st (diffRoutes st (sortRoutes e.a.routes) (sortRoutes e.b.routes)) cs ∧ exec d cs = some d' ∧
      Full e (diffRoutes st (sortRoutes e.a.routes) (sortRoutes e.b.routes)) d' ∧
      d'.binds = d.binds ∧ d'.intfs = d.intfs ∧
      (e.b.routes ≠ [] → ∀ x, x ∈ d'.routes ↔ x ∈ e.b.routes.map (·.text)) ∧
      (e.b.routes = [] → d'.routes = d.routes) := by
  have hrc := RC.of_check hc
  generalize hal : sortRoutes e.a.routes = al at hrc ⊢
  generalize hbl : sortRoutes e.b.routes = bl at hrc ⊢
  have hR0 : ∀ x, x ∈ d.routes ↔ x ∈ al.map (·.text) := by
    intro x
    rw [hr, ← hal]
    exact (mem_texts_sortRoutes _ x).symm
  have hblmem : ∀ x, x ∈ bl.map (·.text) ↔ x ∈ e.b.routes.map (·.text) := by
    intro x
    rw [← hbl]
    exact mem_texts_sortRoutes _ x
  have hblnil : bl = [] ↔ e.b.routes = [] := by
    rw [← hbl, List.eq_nil_iff_forall_not_mem, List.eq_nil_iff_forall_not_mem]
    exact forall_congr' fun y => not_congr (mem_sortRoutes y _)
  have hframe := diffRoutes_frame_ops st al bl
  unfold routeOpsOf at hframe
  obtain ⟨R', he, hconv, hnil⟩ := routeOps_converges hrc d.routes hR0
  obtain ⟨d', hex, hro, hg, ha, hb, hi, hm⟩ := roRun_dev _ d R' he
  generalize routeOps bl (routeDelsOf al bl) (routeInssOf al bl) = ops at hframe hex hm hnil he
  refine ⟨d', ops.map RO.toChg, hframe, hex, ?_, hb, hi, ?_, ?_⟩
  · apply hF.of_dev hg ha ?_ hframe.gNeeded hframe.gReady hframe.gName hframe.aNeeded hframe.aReady hframe.aName
    unfold ModeRel
    rw [hframe.mode, hm, List.isEmpty_map]
    split
    · exact hF.sem.mode
    · rfl
  · intro hne x
    rw [hro, hconv (fun h0 => hne (hblnil.mp h0)) x, hblmem]
  · intro h0
    have := hnil (hblnil.mpr h0)
    subst this
    rw [hro]
    simpa [roRun] using he.symm

theorem binds_run (e : Env) (hw : WF e) (hA : RefsClosedA e) (hB : RefsClosedB e) (st0 : St) (managed : List Nat)
    (hI0 : (managed.map (keyOf e)).Nodup → BInv e managed (generateNames e st0) (ofConfig e.a) managed [])
    (hc : bindsCheck e (generateNames e st0) managed = true) :
    ∃ d1 pend dn, Step e (generateNames e st0) (ofConfig e.a) (afterBinds e st0 managed) d1 ∧
      BInv e managed (afterBinds e st0 managed) d1 pend dn ∧ (∀ x ∈ e.b.binds, x ∈ dn) ∧ (∀ x ∈ dn, x ∈ e.b.binds) ∧
      (managed.map (keyOf e)).Nodup ∧
      (∀ i ∈ managed, i ∈ (afterBinds e st0 managed).bNeeded ∨ i ∈ pend) ∧
      (∀ i ∈ pend, i ∈ managed ∧ i ∉ (afterBinds e st0 managed).bNeeded ∧ i ∈ (afterBinds e st0 managed).bToDel) := by
  unfold bindsCheck at hc
  unfold afterBinds
  by_cases h0 : (managed.isEmpty && e.b.binds.isEmpty) = true
  · rw [if_pos h0]
    simp only [Bool.and_eq_true, List.isEmpty_iff] at h0
    obtain ⟨m0, b0⟩ := h0
    subst m0
    exact ⟨_, [], [], Step.refl _ _ _, hI0 (by simp), fun x hx => by rw [b0] at hx; simp at hx, fun x hx => by simp at hx,
      by simp, fun i hi => by simp at hi, fun i hi => by simp at hi⟩
  · rw [if_neg h0] at hc ⊢
    simp only [Bool.and_eq_true, decide_eq_true_eq, Bool.not_eq_true'] at hc
    obtain ⟨⟨c1, c3⟩, hc⟩ := hc
    by_cases h2 : (diffUnordered (managed.map fun i => (e.a.binds.getD i default).key) (e.b.binds.map (·.key))).any (·.isEqual) = true
    · rw [if_pos h2] at hc
      simp only [Bool.and_eq_true, List.isEmpty_iff] at hc
      obtain ⟨⟨⟨c4, c5⟩, c6⟩, c7⟩ := hc
      rw [diffBinds_eq_ops e _ managed e.b.binds c1 h2]
      generalize bindOps managed e.b.binds
        (diffUnordered (managed.map fun i => (e.a.binds.getD i default).key) (e.b.binds.map (·.key))) = ops at c4 c5 c6 c7 ⊢
      obtain ⟨d1, s1, i1, k1, _⟩ := bindOps_full e managed hw hA hB ops (generateNames e st0) (ofConfig e.a) managed [] (hI0 c3) c4
      rw [c5] at i1 k1
      refine ⟨d1, [], _, s1, i1, ?_, ?_, c3, ?_, fun i hi => by simp at hi⟩
      · intro x hx
        simpa using List.all_eq_true.mp c6 x hx
      · intro x hx
        simpa using List.all_eq_true.mp c7 x hx
      · intro i hi
        rcases k1 i hi with h | h
        · simp at h
        · exact Or.inl h
    · rw [if_neg h2] at hc
      simp only [Bool.and_eq_true] at hc
      obtain ⟨c4, c5⟩ := hc
      rw [diffBinds_noparts e _ managed e.b.binds c1 (Bool.eq_false_iff.mpr h2)]
      -- marking keeps the invariant
      have hcore : Core (generateNames e st0) (nopartsSt e (generateNames e st0) managed) := by
        unfold nopartsSt
        split
        · exact Core.refl _
        · exact (Core.hit _ "bind:no-parts-equal").trans
            (markDeletedBinds_core e _ managed)
      have htoDel : ∀ i ∈ managed, i ∈ (nopartsSt e (generateNames e st0) managed).bToDel := by
        intro i hi
        unfold nopartsSt
        split
        · rename_i hm
          have : managed = [] := by simpa using hm
          rw [this] at hi; simp at hi
        · exact (markDeletedBinds_toDel e managed _).1 i hi
      have hI1 := (hI0 c3).of_core hcore
      generalize nopartsSt e (generateNames e st0) managed = st1 at c5 hcore htoDel hI1 ⊢
      obtain ⟨d1, s1, i1, _, _⟩ := bindOps_full e managed hw hA hB (e.b.binds.map BOp.add) st1 (ofConfig e.a) managed [] hI1 c5
      rw [opsEnd_adds] at i1
      obtain ⟨hn, ht⟩ := adds_bmarks e e.b.binds st1
      refine ⟨d1, managed, e.b.binds, (Step.of_core hcore).trans s1, i1, fun x hx => hx, fun x hx => hx, c3, fun i hi => Or.inr hi, ?_⟩
      intro i hi
      refine ⟨hi, ?_, by rw [ht]; exact htoDel i hi⟩
      rw [hn, hcore.bNeeded]
      simpa using List.all_eq_true.mp c4 i hi

/-- What the run leaves on the device, given the state `stB`, the device `d1`, the pending device commands and the
handled target commands at the end of the access-group part. -/
structure Final (e : Env) (stB : St) (d1 : Dev) (pend : List Nat) (dn : List Bind) (d' : Dev) : Prop where
  intfs : d'.intfs = e.a.intfs
  binds : d'.binds = d1.binds.filter fun p => !(pend.map (keyOf e)).contains p.1
  done : ∀ x ∈ dn, d'.binds.lookup (x.dir, x.intf) = some (stB.aNameOf x.acl) ∧
    AclEquiv e d' (linesOf d' (stB.aNameOf x.acl)) (e.bLines x.acl)
  routes : e.b.routes ≠ [] → ∀ r, r ∈ d'.routes ↔ r ∈ e.b.routes.map (·.text)
  routesKept : e.b.routes = [] → d'.routes = e.a.routes.map (·.text)

/-- **Routes and `deleteUnused` behind ANY access-group part that ends in `BInv`**: accepted, and the device ends as
`Final` says.  The class K2 reaches `BInv` through `binds_run`, the class K1 through one `makeEqualBind_full`. -/
theorem run_tail (e : Env) (managed : List Nat) (hAclNames : (A0 e).Nodup) (hGrpNames : (D0 e).Nodup)
    (stB : St) (d1 : Dev) (pend : List Nat) (dn : List Bind) (he1 : exec (ofConfig e.a) stB.out = some d1)
    (i1 : BInv e managed stB d1 pend dn) (hmk : (managed.map (keyOf e)).Nodup)
    (hbn : ∀ i ∈ managed, i ∈ stB.bNeeded ∨ i ∈ pend)
    (hpend : ∀ i ∈ pend, i ∈ managed ∧ i ∉ stB.bNeeded ∧ i ∈ stB.bToDel)
    (hcr : routesCheck (sortRoutes e.a.routes) (sortRoutes e.b.routes)
      (routeDelsOf (sortRoutes e.a.routes) (sortRoutes e.b.routes))
      (routeInssOf (sortRoutes e.a.routes) (sortRoutes e.b.routes)) = true) :
    ∃ d', exec (ofConfig e.a)
        (deleteUnused e (diffRoutes stB (sortRoutes e.a.routes) (sortRoutes e.b.routes)) managed).out = some d' ∧
      Final e stB d1 pend dn d' := by
  obtain ⟨d2, cs2, fr, he2, f2, b2, n2, ro2, rk2⟩ := diffRoutes_full e stB d1 i1.full i1.routes hcr
  generalize hstR : diffRoutes stB (sortRoutes e.a.routes) (sortRoutes e.b.routes) = stR at fr f2 ⊢
  -- what is pending
  obtain ⟨pa, pg, pan, pgn⟩ := duPending_spec e stR managed
  have pb : (duPending e stR managed).1.binds =
      managed.filter fun i => !stR.bNeeded.contains i && stR.bToDel.contains i := rfl
  have hPB : ∀ i, i ∈ (duPending e stR managed).1.binds ↔ i ∈ pend := by
    intro i
    rw [pb, List.mem_filter, fr.bNeeded, fr.bToDel]
    simp only [Bool.and_eq_true, Bool.not_eq_true', List.contains_eq_mem, decide_eq_false_iff_not, decide_eq_true_eq]
    exact ⟨fun ⟨h1, h2, _⟩ => (hbn i h1).resolve_left h2, hpend i⟩
  have hfrozenB : ∀ p ∈ d1.binds, p.1 ∉ (duPending e stR managed).1.binds.map (keyOf e) → FrozenAcl e stR p.2 := by
    intro p hp hk
    rcases i1.frozenVals p hp with h | ⟨j, hj, h3⟩
    · exact h.mono (fun y hy => by rw [fr.aNeeded]; exact hy)
    · exact absurd (List.mem_map.mpr ⟨j, (hPB j).mpr hj, h3.symm⟩) hk
  have hnotpendA : ∀ X, FrozenAcl e stR X → X ∉ (duPending e stR managed).1.acls := by
    intro X hf hx
    obtain ⟨m1, m2⟩ := pa X hx
    rcases hf with hf | hf
    · exact m2 hf
    · exact hf m1
  have hnotpendG : ∀ x, Frozen e stR x → x ∉ (duPending e stR managed).1.grps := by
    intro x hf hx
    obtain ⟨g1, g2', _⟩ := pg x hx
    rcases hf with hf | hf
    · exact g2' hf
    · exact hf g1
  have hlinesOf : ∀ p ∈ d2.acls, linesOf d2 p.1 = p.2 := by
    intro p hp
    unfold linesOf
    rw [(lookup_eq_some_iff_mem f2.keysNodup).mpr hp]; rfl
  obtain ⟨tail, d3, hot, het, ⟨hacl3, hgrp3, hb3, hr3, hi3⟩⟩ := deleteUnused_exec e stR managed d2 f2.sem.mode ⟨
    (by
      rw [pb]
      exact List.Nodup.sublist (List.filter_sublist.map _) hmk),
    (by
      intro i hi
      rw [b2]; exact i1.pendOrig i ((hPB i).mp hi)),
    pan hAclNames, pgn hGrpNames,
    (by
      intro m hm
      obtain ⟨m1, m2⟩ := pa m hm
      refine ⟨f2.devAcls m m1, ?_⟩
      intro p hp hk e1
      rw [b2] at hp
      exact hnotpendA m (e1 ▸ hfrozenB p hp hk) hm),
    (by
      intro p hp hpA _
      obtain ⟨m1, m2⟩ := pa p.1 hpA
      rw [← hlinesOf p hp]
      exact f2.untouched p.1 m1 m2),
    (by
      intro g hg
      obtain ⟨g1, g2', g3⟩ := pg g hg
      refine ⟨f2.sem.dev g g1, ?_⟩
      intro p hp hpA l hl hgl
      have hpl := hlinesOf p hp
      have hX : hasAcl d2 p.1 = true := (hasAcl_iff_keys d2 p.1).mpr (List.mem_map.mpr ⟨p, hp, rfl⟩)
      by_cases hf : FrozenAcl e stR p.1
      · exact hnotpendG g (f2.frozenLines p.1 hX hf l (by rw [hpl]; exact hl) g hgl) hg
      · have hnn : p.1 ∉ stR.aNeeded := fun hx => hf (Or.inl hx)
        have hin : p.1 ∈ A0 e := Decidable.of_not_not fun hx => hf (Or.inr hx)
        have hun := f2.untouched p.1 hin hnn
        rw [hpl] at hun
        rw [hun] at hl
        obtain ⟨l0, hl0, rfl⟩ := List.mem_map.mp hl
        exact g3 p.1 hin hnn hpA l0 hl0 hgl)⟩
  have hkeepB : ∀ x ∈ dn, (fun (k : BKey) => !((duPending e stR managed).1.binds.map (keyOf e)).contains k) (x.dir, x.intf) = true := by
    intro x hx
    simp only [Bool.not_eq_true', List.contains_eq_mem, decide_eq_false_iff_not, List.mem_map]
    rintro ⟨i, hi, hik⟩
    exact i1.doneDisj x hx i ((hPB i).mp hi) hik.symm
  have hfilt : d1.binds.filter (fun p => !((duPending e stR managed).1.binds.map (keyOf e)).contains p.1) =
      d1.binds.filter (fun p => !(pend.map (keyOf e)).contains p.1) :=
    List.filter_congr fun p _ => by simp only [List.contains_eq_mem, List.mem_map, hPB]
  refine ⟨d3, ?_, by rw [hi3, n2]; exact i1.intfs, by rw [hb3, b2]; exact hfilt, ?_,
    fun hne r => by rw [hr3]; exact ro2 hne r, fun hnil => by rw [hr3, rk2 hnil]; exact i1.routes⟩
  · rw [hot, fr.out]
    exact exec_append_some (exec_append_some he1 he2) het
  · intro x hx
    obtain ⟨q1, q2⟩ := i1.doneOK x hx
    have hname : stR.aNameOf x.acl = stB.aNameOf x.acl := by unfold St.aNameOf; rw [fr.aName]
    obtain ⟨r1, r2, r3⟩ := f2.ready x.acl (by rw [fr.aReady]; exact q1)
    rw [hname] at r1 r2 r3
    refine ⟨?_, ?_⟩
    · rw [hb3, b2, lookup_filter_keep (fun (k : BKey) => !((duPending e stR managed).1.binds.map (keyOf e)).contains k) (x.dir, x.intf) (hkeepB x hx)]; exact q2
    have hkeep : (fun (n : Name) => !(duPending e stR managed).1.acls.contains n) (stB.aNameOf x.acl) = true := by
      simp only [Bool.not_eq_true', List.contains_eq_mem, decide_eq_false_iff_not]
      exact hnotpendA _ r3
    have hl3 : linesOf d3 (stB.aNameOf x.acl) = linesOf d2 (stB.aNameOf x.acl) := by
      unfold linesOf
      rw [hacl3, lookup_filter_keep (fun n => !(duPending e stR managed).1.acls.contains n) _ hkeep]
    rw [hl3]
    refine ⟨r2.1, ?_⟩
    intro p hp
    obtain ⟨hbody', _, hnames⟩ := r2.2 p hp
    refine ⟨hbody', ?_⟩
    intro q hq
    obtain ⟨k1, k2, k3⟩ := hnames q hq
    obtain ⟨j1, j2⟩ := hgrp3 q.1 (hnotpendG q.1 k3)
    refine ⟨?_, ?_⟩
    · unfold hasGroup at k1 ⊢; rw [j2]; exact k1
    · unfold membersOf at k2 ⊢; rw [j1]; exact k2

theorem k2_core (e : Env) (hw : WF e) (hA : RefsClosedA e) (hB : RefsClosedB e) (st0 : St) (managed : List Nat)
    (hci : checkInterfaces e {} = some (st0, managed))
    (hAclNames : (A0 e).Nodup) (hGrpNames : (D0 e).Nodup)
    (hkeys : (e.a.binds.map fun x => (x.dir, x.intf)).Nodup)
    (hcb : bindsCheck e (generateNames e st0) managed = true)
    (hcr : routesCheck (sortRoutes e.a.routes) (sortRoutes e.b.routes)
      (routeDelsOf (sortRoutes e.a.routes) (sortRoutes e.b.routes))
      (routeInssOf (sortRoutes e.a.routes) (sortRoutes e.b.routes)) = true) :
    ∃ d', exec (ofConfig e.a) (finalSt e st0 managed).out = some d' ∧ Converged e d' := by
  obtain ⟨d1, pend, dn, s1, i1, hcov, hsub, hmk, hbn, hpend⟩ := binds_run e hw hA hB st0 managed
    (fun hmk => binv_init e.a e.b e.sc st0 managed hci hAclNames hkeys hmk) hcb
  obtain ⟨cs1, ho1, he1⟩ := s1.out
  have hout0 : (generateNames e st0).out = [] := (checkInterfaces_init e st0 managed hci).1
  rw [hout0, List.nil_append] at ho1
  obtain ⟨d', hex, f⟩ := run_tail e managed hAclNames hGrpNames _ d1 pend dn (ho1 ▸ he1) i1 hmk hbn hpend hcr
  refine ⟨d', hex, f.intfs, ?_, fun x hx => ⟨_, f.done x (hcov x hx)⟩, f.routes, f.routesKept⟩
  intro p hp
  rw [f.binds] at hp
  obtain ⟨hp1, hp2⟩ := List.mem_filter.mp hp
  rcases i1.keysFrom p hp1 with ⟨j, hj, h3⟩ | ⟨x, hx, h3⟩ | ⟨j, hj, hjm, h3⟩
  · exfalso
    have : p.1 ∈ pend.map (keyOf e) := List.mem_map.mpr ⟨j, hj, h3.symm⟩
    simp [this] at hp2
  · exact Or.inl ⟨x, hsub x hx, h3⟩
  · right
    exact ⟨e.a.binds.getD j default, getD_mem hj, h3, unmanaged_intf e st0 managed hci j hj hjm⟩

/-- **`asa_F1_converges`** with ONE decidable hypothesis, evaluated by the driver on every generated case. -/
theorem k2_converges (a b : Config) (sc : Scripts) (hc : k2Check a b sc = true) :
    ∃ script d', (engine a b sc).map (·.script) = some script ∧ exec (ofConfig a) script = some d' ∧
      Converged ⟨a, b, sc⟩ d' := by
  unfold k2Check at hc
  split at hc
  · exact absurd hc (by decide)
  · rename_i st0 managed hci
    simp only [Bool.and_eq_true, decide_eq_true_eq] at hc
    obtain ⟨⟨⟨⟨⟨⟨⟨c1, c2⟩, c3⟩, c4⟩, c5⟩, c6⟩, c7⟩, c8⟩ := hc
    obtain ⟨d', h1, h2⟩ := k2_core ⟨a, b, sc⟩ (WF.of_check c1) (RefsClosedA.of_check c2) (RefsClosedB.of_check c3)
      st0 managed hci c4 c5 c6 c7 c8
    exact ⟨_, d', engine_eq a b sc st0 managed hci, h1, h2⟩

end NA.F1
