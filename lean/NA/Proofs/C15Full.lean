import NA.Proofs.C15Run
/-!
# C15: the whole of `ApplyCommands` against the scripted device
(the fixed dialogue before and after the change loop), and against devices that follow it on that dialogue
-/
namespace NA.Ios

variable {σ : Type}

theorem forEach_sendCmd_eval (D : Device σ) (ls : List Str) (st : St σ) (d : σ) (hd : st.dev = d) (hp : st.pend = [])
    (hl : ∀ l ∈ ls, ∃ reply k, D.step d l = (d, reply) ∧ promptFind reply = some (k, reply.length)) :
    forEach (sendCmd D) ls st = (.ok (), { st with pend := [], trace := st.trace ++ ls }) := by
  induction ls generalizing st with
  | nil =>
    cases st; simp_all [forEach, pureM]
  | cons l ls ih =>
    obtain ⟨reply, k, hstep, hprompt⟩ := hl l (by simp)
    unfold forEach bindM
    rw [sendCmd_eval D st l reply st.dev k (by rw [hd]; exact hstep) hp hprompt]
    simp only
    rw [ih { st with pend := [], trace := st.trace ++ [l] } hd rfl (fun x hx => hl x (by simp [hx]))]
    simp

theorem writeMem_eval (D : Device σ) (st : St σ) (r0 : Str) (d1 : σ) (n : Nat)
    (hp : st.pend = [])
    (h1 : D.step st.dev writeCmd = (d1, r0))
    (a1 : altFind [(lit "#", true), (lit "[confirm]", false)] r0 = some r0.length)
    (c1 : containsLit (lit "Overwrite the previous NVRAM configuration") r0 = false)
    (c2 : containsLit (lit "[OK]") r0 = true) :
    writeMem D n st = (.ok (), { st with dev := d1, pend := [], trace := st.trace ++ [writeCmd] }) := by
  have hr : writeMemRound D st = (.ok .done, { st with dev := d1, pend := [], trace := st.trace ++ [writeCmd] }) := by
    unfold writeMemRound issueCmd bindM send pureM
    simp [expectEnd, hp, h1, a1, c1, c2]
  cases n with
  | zero | succ n => unfold writeMem bindM; rw [hr]; rfl

theorem applyCommands_prepared (D : Device σ) (fixed : Bool) (cs : List Str) (st0 s1 : St σ)
    (e1 : prepareDevice D st0 = (.ok (), s1)) :
    applyCommands D fixed cs st0 = bindM (guarded D fixed cs) (fun _ => writeMem D 2) s1 := by
  unfold applyCommands bindM; rw [e1]

theorem applyCommands_scheduled (D : Device σ) (fixed : Bool) (cs : List Str) (st0 s1 s2 : St σ)
    (e1 : prepareDevice D st0 = (.ok (), s1)) (e2 : scheduleReload D s1 = (.ok (), s2)) :
    applyCommands D fixed cs st0 =
      bindM (finally_ (guardedBody D fixed cs) (cancelReload D)) (fun _ => writeMem D 2) s2 := by
  unfold applyCommands guarded bindM; rw [e1]; simp only; rw [e2]

theorem applyCommands_frame (D : Device σ) (fixed : Bool) (cs : List Str) (st0 s1 s2 s3 s5 s6 : St σ)
    (e1 : prepareDevice D st0 = (.ok (), s1)) (e2 : scheduleReload D s1 = (.ok (), s2))
    (e3 : sendCmd D confCmd s2 = (.ok (), s3))
    (e4 : sendCmd D endCmd (changeLoop D fixed cs s3).2 = (.ok (), s5))
    (e5 : cancelReload D s5 = (.ok (), s6)) :
    applyCommands D fixed cs st0 =
      match (changeLoop D fixed cs s3).1 with
      | .ok _ => writeMem D 2 s6
      | .abort e => (.abort e, s6) := by
  have hb : guardedBody D fixed cs s2 = ((changeLoop D fixed cs s3).1, s5) := by
    unfold guardedBody bindM; rw [e3]; simp only; rw [finally_eq, e4]; rfl
  rw [applyCommands_scheduled D fixed cs st0 s1 s2 e1 e2]
  unfold bindM; rw [finally_eq, hb, e5]
  cases (changeLoop D fixed cs s3).1 <;> rfl

theorem prep_plain_facts (na : Bool) : ∀ l ∈ prepCmds, l = confCmd ∨
    (stdReplyV na l = none ∧
     promptFind (l ++ ['\n'] ++ prompt) = some (l.length, (l ++ ['\n'] ++ prompt).length)) := by
  cases na <;>
    decide_lit [c15_vocab]

theorem promptFind_confReply : promptFind confReply = some (confReply.length - 8, confReply.length) := by
  unfold confReply prompt; decide_lit [lit_ofList]

theorem prepare_follows (D : Device σ) (na : Bool) (e : SimSt → σ) (st : St SimSt) (hp : st.pend = [])
    (hparts : st.dev.parts = []) (hF : ∀ l ∈ prepCmds, Follows D na e st.dev l) :
    prepareDevice D (st.onDev e) = (.ok (), St.onDev e { st with pend := [], trace := st.trace ++ prepCmds }) := by
  unfold prepareDevice
  refine forEach_sendCmd_eval D prepCmds (st.onDev e) (e st.dev) rfl hp ?_
  intro l hl
  rcases prep_plain_facts na l hl with hc | ⟨hs, hpf⟩
  · subst hc
    refine ⟨confReply, confReply.length - 8, ?_, promptFind_confReply⟩
    rw [hF _ hl, simStep_conf na st.dev hparts]
  · refine ⟨l ++ ['\n'] ++ prompt, l.length, ?_, hpf⟩
    rw [hF l hl, simStep_plain na st.dev l hparts hs (fixed_not_change l (prep_fixed hl)) (splitOnNL_prep l hl)]

theorem prepare_sim (na : Bool) (st : St SimSt) (hp : st.pend = []) (hparts : st.dev.parts = []) :
    prepareDevice (simDevice [] na) st = (.ok (), { st with pend := [], trace := st.trace ++ prepCmds }) :=
  prepare_follows _ na id st hp hparts (fun _ _ => rfl)

/-- the lines of the schedule exchange in the two dialogue variants -/
def schedLines (na : Bool) : List Str := if na then [reloadCmd, []] else [reloadCmd, lit "n", []]

attribute [c15_vocab] schedLines

theorem schedule_sim (na : Bool) (st : St SimSt) (hp : st.pend = []) (hparts : st.dev.parts = []) :
    scheduleReload (simDevice [] na) st =
      (.ok (), { st with pend := [], reloadActive := true, trace := st.trace ++ schedLines na }) := by
  unfold scheduleReload
  rw [sendReloadCmd_sim na false st hp hparts]
  cases na <;> rfl

theorem conf_follows (D : Device σ) (na : Bool) (e : SimSt → σ) (st : St SimSt) (hp : st.pend = [])
    (hparts : st.dev.parts = []) (hF : Follows D na e st.dev confCmd) :
    sendCmd D confCmd (st.onDev e) = (.ok (), St.onDev e { st with pend := [], trace := st.trace ++ [confCmd] }) :=
  sendCmd_eval D (st.onDev e) confCmd confReply _ (confReply.length - 8)
    (by show D.step (e st.dev) _ = _
        rw [hF, simStep_conf na st.dev hparts])
    hp promptFind_confReply

theorem conf_sim (na : Bool) (st : St SimSt) (hp : st.pend = []) (hparts : st.dev.parts = []) :
    sendCmd (simDevice [] na) confCmd st = (.ok (), { st with pend := [], trace := st.trace ++ [confCmd] }) :=
  conf_follows _ na id st hp hparts rfl

theorem write_sim (na : Bool) (st : St SimSt) (hp : st.pend = []) (hparts : st.dev.parts = []) (n : Nat) :
    writeMem (simDevice [] na) n st = (.ok (), { st with pend := [], trace := st.trace ++ [writeCmd] }) := by
  rw [writeMem_eval (simDevice [] na) st writeReply _ n hp (simStep_write na st.dev hparts) (by unfold writeReply prompt; decide_lit [lit_ofList])
    (by unfold writeReply prompt; decide_lit [lit_ofList]) (by unfold writeReply prompt; decide_lit [lit_ofList])]

theorem sendCmd_leftover (D : Device σ) (st : St σ) (l u v : Str) (d1 : σ)
    (hstep : D.step st.dev l = (d1, u ++ promptHead ++ '#' :: v)) :
    ∃ L', sendCmd D l st = (.ok (), { st with dev := d1, pend := L', trace := st.trace ++ [l] }) := by
  obtain ⟨r, hr⟩ := promptFind_exists (st.pend ++ u) v
  refine ⟨(st.pend ++ (u ++ promptHead ++ '#' :: v)).drop r.2, ?_⟩
  have e : st.pend ++ (u ++ promptHead ++ '#' :: v) = (st.pend ++ u) ++ promptHead ++ '#' :: v := by simp
  unfold sendCmd bindM send waitPrompt expectEnd pureM
  simp only [hstep, e, hr, Option.map_some]

theorem end_sim_leftover (na : Bool) (st : St SimSt) (hparts : st.dev.parts = []) :
    ∃ L', sendCmd (simDevice [] na) endCmd st =
      (.ok (), { st with pend := L', trace := st.trace ++ [endCmd] }) := by
  have hstep := simStep_end na st.dev hparts
  rw [show endCmd ++ ['\n'] ++ prompt = endCmd ++ promptHead ++ '#' :: [] by rw [prompt_eq, promptHead_eq]; simp] at hstep
  exact sendCmd_leftover (simDevice [] na) st endCmd endCmd [] st.dev hstep

theorem cancelReload_eval_any (D : Device σ) (st : St σ) (r0 r2 : Str) (d1 d2 : σ) (e k : Nat)
    (h1 : D.step st.dev cancelCmd = (d1, r0))
    (a1 : altFind [(lit "--- SHUTDOWN ABORTED ---", false)] (st.pend ++ r0) = some e)
    (a2 : endsWithHash ((st.pend ++ r0).drop e) = true)
    (h3 : D.step d1 [] = (d2, r2))
    (a3 : promptFind r2 = some (k, r2.length)) :
    cancelReload D st =
      (.ok (), { st with dev := d2, pend := [], reloadActive := false,
                         trace := st.trace ++ [cancelCmd, []] }) := by
  unfold cancelReload issueCmd sendCmd bindM send waitHashEnd waitPrompt setActive pureM
  simp only [expectEnd, h1, a1, a2, h3, a3, if_true, List.take_length, List.drop_length,
    List.nil_append, Option.map_some, List.append_assoc]
  simp

def abortLit : Str := lit "--- SHUTDOWN ABORTED ---"

/-- whatever is left in the buffer: `IssueCmd` finds the `SHUTDOWN ABORTED` text at the latest in the device's answer,
`WaitShort("[#] ?$")` swallows everything up to the final `#`, the empty command re-synchronises -/
theorem cancelReload_leftover (D : Device σ) (st : St σ) (a c r2 : Str) (d1 d2 : σ) (k : Nat)
    (h1 : D.step st.dev cancelCmd = (d1, a ++ abortLit ++ c ++ ['#']))
    (h3 : D.step d1 [] = (d2, r2)) (a3 : promptFind r2 = some (k, r2.length)) :
    cancelReload D st =
      (.ok (), { st with dev := d2, pend := [], reloadActive := false, trace := st.trace ++ [cancelCmd, []] }) := by
  have hfind0 : altFind [(abortLit, false)] (abortLit ++ (c ++ ['#'])) = some abortLit.length :=
    altFind_prefix abortLit _ (by decide_lit [abortLit, lit_ofList])
  obtain ⟨e, hfind, hle⟩ := altFind_append_exists abortLit (st.pend ++ a) (abortLit ++ (c ++ ['#'])) _ hfind0
  have heq : st.pend ++ (a ++ abortLit ++ c ++ ['#']) = (st.pend ++ a) ++ (abortLit ++ (c ++ ['#'])) := by simp
  have heq2 : st.pend ++ (a ++ abortLit ++ c ++ ['#']) = (st.pend ++ a ++ abortLit ++ c) ++ ['#'] := by simp
  have he' : e ≤ (st.pend ++ a ++ abortLit ++ c).length := by
    simp only [List.length_append] at hle ⊢; omega
  exact cancelReload_eval_any D st _ r2 d1 d2 e k h1 (by rw [heq]; exact hfind)
    (by rw [heq2]; exact endsWithHash_drop _ e he') h3 a3

theorem cancel_sim_leftover (na : Bool) (st : St SimSt) (hparts : st.dev.parts = []) :
    cancelReload (simDevice [] na) st =
      (.ok (), { st with pend := [], reloadActive := false, trace := st.trace ++ [cancelCmd, []] }) := by
  have h1 := simStep_cancel na st.dev hparts
  rw [show cancelReply = lit "reload cancel\n\n\n***\n*** " ++ abortLit ++ lit "\n***\nrouter" ++ ['#'] by
      unfold cancelReply abortLit prompt; decide_lit [lit_ofList]] at h1
  exact cancelReload_leftover (simDevice [] na) st _ _ _ _ _ 0 h1
    (simStep_empty na st.dev hparts) (by decide +kernel)

def loopStart (na : Bool) (st0 : St SimSt) : St SimSt :=
  { st0 with pend := [], reloadActive := true, trace := st0.trace ++ prepCmds ++ schedLines na ++ [confCmd] }

theorem ready_loopStart (na : Bool) (st0 : St SimSt) (hparts : st0.dev.parts = []) : Ready (loopStart na st0) :=
  ⟨rfl, rfl, hparts⟩

/-- what a device has to do to be led up to the change loop like the scripted one -/
structure FollowsPrelude (D : Device σ) (na : Bool) (e : SimSt → σ) (d : SimSt) : Prop where
  prep : ∀ l ∈ prepCmds, Follows D na e d l
  reload : Follows D na e d reloadCmd
  parts : ∀ l p ps, l = lit "n" ∨ l = [] → p ∈ (if na then reloadPartsNA false else reloadParts false).tail →
    Follows D na e { d with parts := p :: ps } l

theorem apply_follows_loop (D : Device σ) (na fixed : Bool) (e : SimSt → σ) (cs : List Str) (st0 : St SimSt)
    (hp : st0.pend = []) (hparts : st0.dev.parts = []) (hF : FollowsPrelude D na e st0.dev) :
    applyCommands D fixed cs (st0.onDev e) =
      bindM (finally_ (finally_ (changeLoop D fixed cs) (sendCmd D endCmd)) (cancelReload D))
        (fun _ => writeMem D 2) ((loopStart na st0).onDev e) := by
  let s1 : St SimSt := { st0 with pend := [], trace := st0.trace ++ prepCmds }
  let s2 : St SimSt := { s1 with pend := [], reloadActive := true, trace := s1.trace ++ schedLines na }
  have e2 : scheduleReload D (s1.onDev e) = (.ok (), s2.onDev e) := by
    unfold scheduleReload
    rw [sendReloadCmd_follows D na false e s1 rfl hparts hF.reload hF.parts]
    cases na <;> rfl
  rw [applyCommands_scheduled D fixed cs _ _ _ (prepare_follows D na e st0 hp hparts hF.prep) e2]
  unfold guardedBody bindM
  rw [finally_eq, conf_follows D na e s2 rfl hparts (hF.prep _ (by simp [prepCmds]))]
  simp only [finally_eq]
  rfl

theorem simLines_unscripted (sp : List (Str × List (List Str))) (na : Bool) (ls : List Str)
    (h : ∀ l ∈ ls, sp.find? (·.1 == l) = none) (d : SimSt) : simLines sp na d ls = simLines [] na d ls := by
  induction ls generalizing d with
  | nil => rfl
  | cons l ls ih =>
    have hl : simLine sp na d l = simLine [] na d l := by
      unfold simLine; rw [h l (by simp)]; rfl
    simp only [simLines, hl, ih (fun x hx => h x (by simp [hx]))]

theorem follows_unscripted (sp : List (Str × List (List Str))) (na : Bool) (d : SimSt) (s : Str)
    (h : ∀ l ∈ splitOnNL s, sp.find? (·.1 == l) = none) : Follows (simDevice sp na) na id d s := by
  show simLines sp na d (splitOnNL s) = _
  rw [simLines_unscripted sp na _ h]; rfl

theorem followsPrelude_unscripted (sp : List (Str × List (List Str))) (na : Bool) (d : SimSt)
    (h : ∀ s ∈ prepCmds ++ [reloadCmd, lit "n", []], ∀ l ∈ splitOnNL s, sp.find? (·.1 == l) = none) :
    FollowsPrelude (simDevice sp na) na id d :=
  ⟨fun l hl => follows_unscripted sp na d l (h l (by simp [hl])),
   follows_unscripted sp na d _ (h _ (by simp)),
   fun l _ _ hl _ => follows_unscripted sp na _ l (h l (by rcases hl with rfl | rfl <;> simp))⟩

theorem apply_sim (na fixed : Bool) (cs : List Str) (st0 : St SimSt)
    (hp : st0.pend = []) (hparts : st0.dev.parts = [])
    (hl : (changeLoop (simDevice [] na) fixed cs (loopStart na st0)).2.dev.parts = []) :
    applyCommands (simDevice [] na) fixed cs st0 =
      let l := changeLoop (simDevice [] na) fixed cs (loopStart na st0)
      (l.1, { l.2 with pend := [], reloadActive := false,
                       trace := l.2.trace ++ [endCmd, cancelCmd, []] ++
                         match l.1 with | .ok _ => [writeCmd] | .abort _ => [] }) := by
  let s1 : St SimSt := { st0 with pend := [], trace := st0.trace ++ prepCmds }
  let s2 : St SimSt := { s1 with pend := [], reloadActive := true, trace := s1.trace ++ schedLines na }
  have e := applyCommands_frame (simDevice [] na) fixed cs st0 s1 s2 (loopStart na st0)
  cases hloop : changeLoop (simDevice [] na) fixed cs (loopStart na st0) with
  | mk r s4 =>
    rw [hloop] at hl e
    simp only at hl e ⊢
    obtain ⟨L', e4⟩ := end_sim_leftover na s4 hl
    rw [e _ _ (prepare_sim na st0 hp hparts) (schedule_sim na s1 rfl hparts) (conf_sim na s2 rfl hparts) e4
      (cancel_sim_leftover na _ hl)]
    cases r with
    | ok u =>
      exact (write_sim na { s4 with pend := [], reloadActive := false,
                                    trace := s4.trace ++ [endCmd] ++ [cancelCmd, []] } rfl hl 2).trans (by simp)
    | abort e => simp

theorem apply_sim_run (P : Res Unit → List Str → Prop) (na fixed : Bool) (cs : List Str) (st0 : St SimSt)
    (hp : st0.pend = []) (hparts : st0.dev.parts = [])
    (h : let l := changeLoop (simDevice [] na) fixed cs (loopStart na st0)
      l.2.dev.parts = [] ∧ P l.1 (l.2.trace ++ [endCmd, cancelCmd, []] ++ match l.1 with | .ok _ => [writeCmd] | .abort _ => [])) :
    P (applyCommands (simDevice [] na) fixed cs st0).1 (applyCommands (simDevice [] na) fixed cs st0).2.trace := by
  rw [apply_sim na fixed cs st0 hp hparts h.1]; exact h.2

def fullTrace (na : Bool) (gs : List Chg) : List Str :=
  prepCmds ++ schedLines na ++ [confCmd] ++ specTrace na gs ++ [endCmd] ++ [cancelCmd, []] ++ [writeCmd]

theorem apply_sim_ok (na : Bool) (gs : List Chg) (q : List Behav) (st0 : St SimSt)
    (hp : st0.pend = []) (ht : st0.trace = []) (hparts : st0.dev.parts = [])
    (hq : st0.dev.queue = gs.flatMap Chg.behavs ++ q) (hc : ∀ g ∈ gs, g.Clean ∧ g.NoProbeFirst)
    (hok : specOk gs = true) :
    let o := applyCommands (simDevice [] na) true (gs.map Chg.cmd) st0
    o.1 = .ok () ∧ o.2.trace = fullTrace na gs ∧ o.2.warns = st0.warns ++ specWarns gs ∧
    o.2.reloadActive = false ∧ o.2.pend = [] := by
  obtain ⟨hl1, hl2, hl3, -, hl5⟩ := loop_spec na gs (loopStart na st0) q (ready_loopStart na st0 hparts) hq hc
  simp only [apply_sim na true _ st0 hp hparts hl5.1, hl1, hl2, (hl3 hok).1]
  exact ⟨trivial, by simp [loopStart, ht, fullTrace], rfl, trivial, trivial⟩

def failTrace (na : Bool) (gs : List Chg) : List Str :=
  prepCmds ++ schedLines na ++ [confCmd] ++ specTrace na gs ++ [endCmd] ++ [cancelCmd, []]

theorem apply_sim_rejected (na : Bool) (gs : List Chg) (q : List Behav) (st0 : St SimSt)
    (hp : st0.pend = []) (ht : st0.trace = []) (hparts : st0.dev.parts = [])
    (hq : st0.dev.queue = gs.flatMap Chg.behavs ++ q) (hc : ∀ g ∈ gs, g.Clean ∧ g.NoProbeFirst)
    (hbad : specOk gs = false) :
    let o := applyCommands (simDevice [] na) true (gs.map Chg.cmd) st0
    (∃ ci R out, o.1 = .abort (.unexpectedOutput ci R) ∧ firstBad gs = some (ci, out) ∧
        neLines R = neLines out) ∧
    o.2.trace = failTrace na gs ∧ o.2.warns = st0.warns ++ specWarns gs ∧
    o.2.reloadActive = false ∧ o.2.pend = [] := by
  obtain ⟨hl1, hl2, -, hl4, hl5⟩ := loop_spec na gs (loopStart na st0) q (ready_loopStart na st0 hparts) hq hc
  obtain ⟨ci, R, out, hab, hfb, hne⟩ := hl4 hbad
  simp only [apply_sim na true _ st0 hp hparts hl5.1, hl1, hl2, hab]
  exact ⟨⟨ci, R, out, rfl, hfb, hne⟩, by simp [loopStart, ht, failTrace], rfl, trivial, trivial⟩

end NA.Ios
