import NA.Proofs.C03Order
import NA.Core.ListFacts
/-
C03, member lists: both branches of the heuristic of `hasEqualizedLists` reach the target list.
Incremental branch: one `delete` per dropped member, then one `set` with all new members
(merge) — the list ends as kept ++ inserted, a permutation of the target list.  Replace branch:
one `edit` with the target list.  For every valid script, any length, lists without repetition whose `Equal` means
equal names.  Then what `hasEqualizedLists` / `equalizeList` emit when no name of either list is a group
(`adaptGroups_plain`, `rangeStep_plain`, `hasEqLists_plain`, `equalizeList_same`).  Core Lean only.
-/
namespace NA.PanOs

export NA.ListFacts (getD_mem)

inductive MemOp
  | del (m : String)
  | add (ms : List String)
  | edit (ms : List String)
  deriving DecidableEq, Repr

/-- `none`: refused (`delete` of a member that is not there). -/
def applyMem (l : List String) : MemOp → Option (List String)
  | .del m => if l.contains m then some (l.filter (· != m)) else none
  | .add ms => some (mergeMembers l ms)
  | .edit ms => some ms

def runMem (l : List String) : List MemOp → Option (List String)
  | [] => some l
  | o :: os => (applyMem l o).bind (fun l' => runMem l' os)

def memOf : Cmd → Option MemOp
  | .delMem _ _ m => some (.del m)
  | .addMem _ _ ms => some (.add ms)
  | .editList _ _ ms => some (.edit ms)
  | .delGMem _ m => some (.del m)
  | .setGrp _ ms => some (.add ms)
  | _ => none

theorem runMem_append (l : List String) (o₁ o₂ : List MemOp) :
    runMem l (o₁ ++ o₂) = (runMem l o₁).bind (fun l' => runMem l' o₂) := by
  induction o₁ generalizing l with
  | nil => simp [runMem]
  | cons o os ih =>
    simp only [List.cons_append, runMem]
    cases applyMem l o with
    | none => simp
    | some l' => simp [ih]

theorem runMem_dels_eq_runOrd (l ms : List String) :
    runMem l (ms.map MemOp.del) = runOrd l (ms.map OrdOp.del) := by
  induction ms generalizing l with
  | nil => rfl
  | cons m ms ih =>
    simp only [List.map_cons, runMem, runOrd, applyMem, applyOrd]
    split
    · simp [ih]
    · simp

theorem mergeMembers_disjoint (old new : List String) (h : (old ++ new).Nodup) :
    mergeMembers old new = old ++ new := by
  unfold mergeMembers
  induction new generalizing old with
  | nil => simp
  | cons x xs ih =>
    have hx : old.contains x = false := by
      obtain ⟨hx, _⟩ := List.nodup_cons.mp (List.perm_middle.nodup_iff.mp h)
      simpa using fun hm => hx (List.mem_append_left _ hm)
    simp only [List.foldl_cons, hx, Bool.false_eq_true, if_false]
    rw [ih (old ++ [x]) (by simpa [List.append_assoc] using h)]
    simp [List.append_assoc]

/-- `Equal` of the list pair when no group is involved. -/
def nameEq (la lb : List String) (i j : Nat) : Bool := la.getD i "" == lb.getD j ""

theorem members_incremental (la lb : List String) (eq : Nat → Nat → Bool)
    (heq : ∀ i j, i < la.length → j < lb.length → eq i j = true → la.getD i "" = lb.getD j "")
    (rs : List Range) (hv : validFrom eq la.length lb.length 0 0 rs = true)
    (hla : la.Nodup) (hlb : lb.Nodup) :
    runMem la ((delNamesOf la rs).map MemOp.del ++
        (if (insertedOf lb rs).isEmpty then [] else [MemOp.add (insertedOf lb rs)])) =
      some (survivors la rs ++ insertedOf lb rs) ∧
    (survivors la rs ++ insertedOf lb rs).Perm lb := by
  obtain ⟨e1, e2, e3, _⟩ := align_spec la lb rs 0 0 hv
  obtain ⟨s1, s2⟩ := align_sides0 (validScript_of_validFrom hv)
  -- the pairs of the alignment are pairs of equal names, so kept ++ inserted is a permutation of the target side
  have hperm : (survivors la rs ++ insertedOf lb rs).Perm lb := by
    have := Al.kept_inss_perm (align la lb rs) fun a b hm => by
      obtain ⟨i, j, hij, ha, hb⟩ := align_pairs la lb rs 0 0 hv a b hm
      have := heq i j (List.getElem?_eq_some_iff.mp ha).1 (List.getElem?_eq_some_iff.mp hb).1 hij
      rwa [List.getD_eq_getElem?_getD, List.getD_eq_getElem?_getD, ha, hb] at this
    rwa [s2, ← e2, ← e3] at this
  refine ⟨?_, hperm⟩
  have h1 := Al.run_dels (align la lb rs) [] (by rw [s1]; exact hla)
  rw [s1, List.nil_append, List.nil_append, ← e1, ← e2] at h1
  rw [runMem_append, runMem_dels_eq_runOrd, h1]
  simp only [Option.bind_some]
  split
  · rename_i he
    have : insertedOf lb rs = [] := by simpa using he
    simp [runMem, this]
  · simp only [runMem, applyMem, Option.bind_some]
    rw [mergeMembers_disjoint _ _ (hperm.nodup_iff.mpr hlb)]

theorem members_replace (la ms : List String) : runMem la [MemOp.edit ms] = some ms := rfl

theorem emitAll_emitAll (s : St) (xs ys : List Cmd) : (s.emitAll xs).emitAll ys = s.emitAll (xs ++ ys) := by
  simp [St.emitAll, List.append_assoc]

theorem emitAll_nil (s : St) : s.emitAll [] = s := by simp [St.emitAll]

theorem adaptGroups_plain (st : St) : ∀ (l : List String), (∀ y ∈ l, st.bGrpIdx y = none) →
    adaptGroups st l = (l, st) := by
  intro l h
  unfold adaptGroups
  suffices hs : ∀ (l res : List String), (∀ y ∈ l, st.bGrpIdx y = none) →
      l.foldl adaptStep (res, st) = (res ++ l, st) by
    have := hs l [] h
    rw [List.nil_append] at this
    exact this
  intro l
  induction l with
  | nil => intro res _; simp
  | cons x xs ih =>
    intro res h
    have hx := h x (by simp)
    have hstep : adaptStep (res, st) x = (res ++ [x], st) := by
      unfold adaptStep; simp only [hx]
    simp only [List.foldl_cons, hstep]
    rw [ih (res ++ [x]) (fun y hy => h y (List.mem_cons_of_mem _ hy))]
    simp

def listCmds (path : MPath) (la lb : List String) (rs : List Range) : List Cmd :=
  (delNamesOf la rs).map path.delCmd ++
    (if (insertedOf lb rs).isEmpty then [] else [path.addCmd (insertedOf lb rs)])

theorem mem_listCmds {path : MPath} {la lb : List String} {rs : List Range} {c : Cmd}
    (h : c ∈ listCmds path la lb rs) : (∃ m, c = path.delCmd m) ∨ c = path.addCmd (insertedOf lb rs) := by
  rcases List.mem_append.mp h with h | h
  · obtain ⟨m, _, rfl⟩ := List.mem_map.mp h
    exact .inl ⟨m, rfl⟩
  · split at h
    · cases h
    · exact .inr (List.mem_singleton.mp h)

theorem pairStep_plain (recur : St → List String → List String → MPath → Bool × St)
    (la lb : List String) (r : Range) (s : St) (ins : List String)
    (hsA : ∀ x ∈ la, s.aGrpIdx x = none) :
    ∀ (ks : List Nat), (∀ k ∈ ks, r.lowA + k < la.length) →
      ks.foldl (pairStep recur la lb r) (true, s, ins) = (true, s, ins) := by
  intro ks hks
  refine ListFacts.foldl_inv (P := (· = (true, s, ins))) (fun k hk t ht => ?_) rfl
  subst ht
  have hk0 := hsA _ (getD_mem (d := "") (hks k hk))
  unfold pairStep; simp only [hk0, Bool.not_true, Bool.false_eq_true, if_false]

theorem rangeStep_plain (recur : St → List String → List String → MPath → Bool × St)
    (la lb : List String) (path : MPath) :
    ∀ (rs : List Range) (s : St) (ins : List String),
      (∀ r ∈ rs, r.highA ≤ la.length) →
      (∀ x ∈ la, s.aGrpIdx x = none) → (∀ y ∈ lb, s.bGrpIdx y = none) →
      rs.foldl (rangeStep recur la lb path) (true, s, ins) =
        (true, s.emitAll ((delNamesOf la rs).map path.delCmd), ins ++ insertedOf lb rs) := by
  intro rs
  induction rs with
  | nil => intro s ins _ _ _; simp [delNamesOf, insertedOf, emitAll_nil]
  | cons r rs ih =>
    intro s ins hb hsA hsB
    simp only [List.foldl_cons]
    cases hk : r.kind with
    | del =>
      have hstep : rangeStep recur la lb path (true, s, ins) r =
          (true, s.emitAll ((la.extract r.lowA r.highA).map path.delCmd), ins) := by
        unfold rangeStep; simp only [hk, Bool.not_true, Bool.false_eq_true, if_false]
      rw [hstep, ih (s.emitAll ((la.extract r.lowA r.highA).map path.delCmd)) ins
        (fun r' hr' => hb r' (List.mem_cons_of_mem _ hr')) hsA hsB]
      simp [delNamesOf, insertedOf, hk, emitAll_emitAll]
    | ins =>
      have hstep : rangeStep recur la lb path (true, s, ins) r =
          (true, s, ins ++ lb.extract r.lowB r.highB) := by
        unfold rangeStep
        simp only [hk, Bool.not_true, Bool.false_eq_true, if_false,
          adaptGroups_plain s _ (fun y hy => hsB y (List.mem_of_mem_drop (List.mem_of_mem_take hy)))]
      rw [hstep, ih _ _ (fun r' hr' => hb r' (List.mem_cons_of_mem _ hr')) hsA hsB]
      simp [delNamesOf, insertedOf, hk, List.append_assoc]
    | eq =>
      have hstep : rangeStep recur la lb path (true, s, ins) r = (true, s, ins) := by
        unfold rangeStep
        simp only [hk, Bool.not_true, Bool.false_eq_true, if_false]
        exact pairStep_plain recur la lb r s ins hsA _ (by
          intro k hk'
          have := hb r (by simp)
          simp only [List.mem_range] at hk'
          omega)
      rw [hstep, ih _ _ (fun r' hr' => hb r' (List.mem_cons_of_mem _ hr')) hsA hsB]
      simp [delNamesOf, insertedOf, hk]

theorem hasEqLists_plain (diff : Differ) (fuel : Nat) (st : St) (la lb : List String) (path : MPath)
    (hA : ∀ x ∈ la, st.aGrpIdx x = none) (hB : ∀ y ∈ lb, st.bGrpIdx y = none)
    (hbound : ∀ r ∈ diff la.length lb.length (fun i j => memberEq st (la.getD i "") (lb.getD j "")),
      r.highA ≤ la.length) :
    hasEqLists diff (fuel + 1) st la lb path =
       if replaceInstead la.length (deletedCount
           (diff la.length lb.length (fun i j => memberEq st (la.getD i "") (lb.getD j ""))))
       then (false, st)
       else (true, st.emitAll (listCmds path la lb
           (diff la.length lb.length (fun i j => memberEq st (la.getD i "") (lb.getD j ""))))) := by
  rw [hasEqLists]
  generalize diff la.length lb.length (fun i j => memberEq st (la.getD i "") (lb.getD j "")) = rs at hbound ⊢
  split
  · rfl
  · rw [rangeStep_plain (hasEqLists diff fuel) la lb path rs st [] hbound hA hB]
    simp only [List.nil_append]
    split
    · rename_i he
      simp at he
    · split
      · rename_i he
        simp [listCmds, he]
      · rename_i he
        simp only [Bool.not_eq_true] at he
        simp [listCmds, he, St.emit, St.emitAll, List.append_assoc]

theorem validFrom_bounds {eq : Nat → Nat → Bool} {n m : Nat} :
    ∀ (rs : List Range) (x y : Nat), validFrom eq n m x y rs = true → ∀ r ∈ rs, r.highA ≤ n := by
  intro rs
  induction rs with
  | nil => intro x y _ r hr; cases hr
  | cons r0 rs ih =>
    intro x y h r hr
    obtain ⟨_, _, _, _, h5, _, h7⟩ := validFrom_cons h
    rcases List.mem_cons.mp hr with rfl | hr
    · exact h5
    · exact ih _ _ h7 r hr

theorem validScript_bounds {eq : Nat → Nat → Bool} {n m : Nat} {rs : List Range}
    (h : validScript eq n m rs = true) : ∀ r ∈ rs, r.highA ≤ n := by
  rcases validScript_cases h with h | ⟨_, _, rfl⟩
  · exact validFrom_bounds rs 0 0 h
  · intro r hr
    simp only [nothingCommon, List.mem_cons, List.not_mem_nil, or_false] at hr
    rcases hr with rfl | rfl
    · exact Nat.le_refl n
    · exact Nat.zero_le n

theorem nothingCommon_replace (n m : Nat) (hn : 0 < n) :
    replaceInstead n (deletedCount (nothingCommon n m)) = true := by
  simp [nothingCommon, deletedCount, Range.isDelete, replaceInstead]
  omega

theorem validScript_incremental {eq : Nat → Nat → Bool} {n m : Nat} {rs : List Range}
    (h : validScript eq n m rs = true) (hr : replaceInstead n (deletedCount rs) = false) :
    validFrom eq n m 0 0 rs = true := by
  rcases validScript_cases h with h | ⟨hn, _, rfl⟩
  · exact h
  · rw [nothingCommon_replace n m hn] at hr
    cases hr

theorem memberEq_plain (st : St) (la lb : List String)
    (hA : ∀ x ∈ la, st.aGrpIdx x = none) (hB : ∀ y ∈ lb, st.bGrpIdx y = none) :
    ∀ i j, i < la.length → j < lb.length →
      memberEq st (la.getD i "") (lb.getD j "") = true → la.getD i "" = lb.getD j "" := by
  intro i j hi hj h
  unfold memberEq at h
  rw [hA _ (getD_mem hi), hB _ (getD_mem hj)] at h
  simpa using h

theorem memOf_delCmd (p : MPath) (m : String) : memOf (p.delCmd m) = some (.del m) := by
  cases p <;> rfl

theorem memOf_addCmd (p : MPath) (ms : List String) : memOf (p.addCmd ms) = some (.add ms) := by
  cases p <;> rfl

theorem listCmds_memOf (path : MPath) (la lb : List String) (rs : List Range) :
    (listCmds path la lb rs).filterMap memOf =
      (delNamesOf la rs).map MemOp.del ++
        (if (insertedOf lb rs).isEmpty then [] else [MemOp.add (insertedOf lb rs)]) := by
  unfold listCmds
  rw [List.filterMap_append]
  congr 1
  · generalize delNamesOf la rs = l
    induction l with
    | nil => rfl
    | cons x xs ih => simp [memOf_delCmd, ih]
  · split <;> simp [memOf_addCmd]

theorem identity_listCmds (path : MPath) (la : List String) :
    listCmds path la la [⟨0, la.length, 0, la.length⟩] = [] ∧
      deletedCount [⟨0, la.length, 0, la.length⟩] = 0 := by
  cases hl : la.length with
  | zero =>
    have : la = [] := List.eq_nil_of_length_eq_zero hl
    subst this
    simp [listCmds, delNamesOf, insertedOf, Range.kind, Range.isDelete, deletedCount, List.extract]
  | succ n =>
    have h1 : (0 == n + 1) = false := by simp
    simp [listCmds, delNamesOf, insertedOf, Range.kind, Range.isDelete, Range.isInsert, deletedCount, h1]

theorem identity_memberEq {diff : Differ} (hid : IdentityDiffer diff) (st : St) (l : List String)
    (hA : ∀ x ∈ l, st.aGrpIdx x = none) (hB : ∀ y ∈ l, st.bGrpIdx y = none) :
    diff l.length l.length (fun i j => memberEq st (l.getD i "") (l.getD j "")) = [⟨0, l.length, 0, l.length⟩] := by
  apply hid
  intro i hi
  unfold memberEq
  rw [hA _ (getD_mem hi), hB _ (getD_mem hi)]
  simp

theorem equalizeList_same (diff : Differ) (hid : IdentityDiffer diff) (fuel : Nat) (st : St)
    (la : List String) (n : String) (f : Fld)
    (hA : ∀ x ∈ la, st.aGrpIdx x = none) (hB : ∀ y ∈ la, st.bGrpIdx y = none) :
    equalizeList diff (fuel + 1) st la la n f = st := by
  have hd := identity_memberEq hid st la hA hB
  unfold equalizeList
  rw [hasEqLists_plain diff fuel st la la (.rule n f) hA hB (by rw [hd]; simp)]
  obtain ⟨h1, h2⟩ := identity_listCmds (.rule n f) la
  rw [hd, h1, h2]
  simp [replaceInstead, emitAll_nil]

end NA.PanOs
