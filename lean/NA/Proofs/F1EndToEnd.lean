import NA.Proofs.F1K2
/-!
# F1: end-to-end convergence for the class K1 (one managed binding whose ACL is updated incrementally)

The class is an instance of the machinery of class K2: the one pair of access-group commands goes through
`makeEqualBind_full` (incremental branch: neither the interface list of the device nor the target's list of access
lists is consulted, which is why `k1Check` need not ask for them), the rest of the run is `run_tail`.
-/
namespace NA.F1
open NA.AsaDev
open NA.Acl (Range)

theorem diffUnordered_single (k : String) : diffUnordered [k] [k] = [⟨0, 1, 0, 1⟩] := by
  simp [diffUnordered, duStepA, duStepB, lastIdx, List.range, List.range.loop]

theorem checkInterfaces_K1 {a b : Config} {sc : Scripts} {aAcl bAcl dir intf : Name} (h : K1 a b sc aAcl bAcl dir intf) :
    checkInterfaces ⟨a, b, sc⟩ {} = some ({}, [0]) := by
  unfold checkInterfaces
  simp only [h.abind, h.bbind, List.map_cons, List.map_nil]
  have hun : ((a.intfs.filter fun n => !([intf] : List Name).contains n).flatMap
      (bindsOf [(⟨aAcl, dir, intf⟩ : Bind)])) = [] := by
    apply List.flatMap_eq_nil_iff.mpr
    intro n hn
    have hne : n ≠ intf := by
      have := (List.mem_filter.mp hn).2
      simpa using this
    unfold bindsOf
    apply List.filter_eq_nil_iff.mpr
    intro i hi
    have hi0 : i = 0 := by simpa using hi
    subst hi0
    have : (intf == n) = false := by rw [beq_eq_false_iff_ne]; exact fun e => hne e.symm
    simp [this]
  simp only [hun, List.eraseDups_nil, List.foldl_nil]
  simp

theorem diffBinds_K1 {a b : Config} {sc : Scripts} {aAcl bAcl dir intf : Name} (h : K1 a b sc aAcl bAcl dir intf)
    (st0 : St) (hb : st0.bNeeded = []) :
    diffBinds ⟨a, b, sc⟩ st0 [0] b.binds = makeEqualBind ⟨a, b, sc⟩ st0 0 ⟨bAcl, dir, intf⟩ := by
  unfold diffBinds
  have hkey : (([0] : List Nat).map fun i => ((⟨a, b, sc⟩ : Env).a.binds.getD i default).key) = [dir ++ " interface " ++ intf] := by
    show [(a.binds.getD 0 default).key] = _
    rw [h.abind]; rfl
  have hkeyb : b.binds.map (·.key) = [dir ++ " interface " ++ intf] := by rw [h.bbind]; rfl
  simp only [hb, hkey, hkeyb, diffUnordered_single]
  simp only [List.isEmpty_cons, Bool.not_false, List.contains_nil, Bool.and_false, Bool.false_eq_true, if_false,
    List.any_cons, List.any_nil, Range.isEqual, Range.isDelete, Range.isInsert, List.foldl_cons, List.foldl_nil]
  simp only [h.bbind, slice, List.drop_zero, List.take, List.zip_cons_cons, List.zip_nil_right, List.foldl_cons,
    List.foldl_nil]
  simp

/-- **`asa_F1_converges_partial` (class K1)** with ONE decidable hypothesis, evaluated by the driver on every generated case. -/
theorem k1_converges_checked (a b : Config) (sc : Scripts) (hc : k1Check a b sc = true) :
    ∃ aAcl bAcl script d', a.binds.map (·.acl) = [aAcl] ∧ b.binds.map (·.acl) = [bAcl] ∧
      (engine a b sc).map (·.script) = some script ∧ exec (ofConfig a) script = some d' ∧
      d'.binds = (ofConfig a).binds ∧ d'.routes = (ofConfig a).routes ∧
      (linesOf d' aAcl).length = ((⟨a, b, sc⟩ : Env).bLines bAcl).length ∧
      ∀ p ∈ (linesOf d' aAcl).zip ((⟨a, b, sc⟩ : Env).bLines bAcl), LineEquiv ⟨a, b, sc⟩ d' p.1 p.2 := by
  unfold k1Check at hc
  split at hc
  · rename_i x y hx hy
    simp only [Bool.and_eq_true, beq_iff_eq, List.isEmpty_iff, decide_eq_true_eq] at hc
    obtain ⟨⟨⟨⟨⟨⟨⟨⟨⟨⟨⟨⟨⟨⟨c1, c2⟩, c3⟩, c4⟩, c5⟩, c6⟩, c7⟩, c8⟩, c9⟩, c10⟩, c11⟩, c12⟩, c13⟩, c14⟩, c15⟩ := hc
    have hK : K1 a b sc x.acl y.acl x.dir x.intf := ⟨by rw [hx], by rw [hy, c1, c2], c3, c4, c5⟩
    have hci := checkInterfaces_K1 hK
    have hmk : (([0] : List Nat).map (keyOf ⟨a, b, sc⟩)).Nodup := List.nodup_cons.mpr ⟨List.not_mem_nil, List.nodup_nil⟩
    have hI := binv_init a b sc {} [0] hci c9 (by rw [hx]; exact List.nodup_cons.mpr ⟨List.not_mem_nil, List.nodup_nil⟩) hmk
    have hx0 : (⟨a, b, sc⟩ : Env).a.binds.getD 0 default = x := by show a.binds.getD 0 default = x; rw [hx]; rfl
    -- the one pair
    have hinc : Incr ⟨a, b, sc⟩ { generateNames ⟨a, b, sc⟩ {} with
          bNeeded := makeEqualBind.addSet' 0 (generateNames ⟨a, b, sc⟩ {}).bNeeded }
        ((⟨a, b, sc⟩ : Env).a.binds.getD 0 default).acl y.acl := by
      rw [hx0]; exact ⟨rfl, rfl, c5⟩
    have hpair : PairOK ⟨a, b, sc⟩ (generateNames ⟨a, b, sc⟩ {}) 0 y := by
      refine ⟨by unfold keyOf; rw [hx0, c1, c2], by rw [hx0]; exact List.contains_iff_mem.mp c13, ?_,
        fun h => absurd (diffAcl_incr hinc) h, fun h => absurd hinc h⟩
      unfold aclStepCheck
      rw [if_neg (by rw [hinc.1]; decide), if_neg (by rw [hinc.2.1]; decide), if_neg (by rw [hinc.2.2]; decide), hx0]
      simp only [Bool.and_eq_true, beq_iff_eq]
      exact ⟨⟨⟨c14, c15⟩, c11⟩, c12⟩
    obtain ⟨d1, s1, i1, bn1, hb1⟩ := makeEqualBind_full ⟨a, b, sc⟩ [0] (WF.of_check c6) (RefsClosedA.of_check c7)
      (RefsClosedB.of_check c8) _ _ 0 [0] [] y hI List.mem_cons_self hpair
    have hst : afterBinds ⟨a, b, sc⟩ {} [0] = makeEqualBind ⟨a, b, sc⟩ (generateNames ⟨a, b, sc⟩ {}) 0 y := by
      unfold afterBinds
      rw [if_neg (by simp)]
      show diffBinds ⟨a, b, sc⟩ _ [0] b.binds = _
      rw [diffBinds_K1 hK (generateNames ⟨a, b, sc⟩ {}) rfl, c1, c2]
    obtain ⟨cs1, ho1, he1⟩ := s1.out
    have hout0 : (generateNames ⟨a, b, sc⟩ {}).out = [] := rfl
    rw [hout0, List.nil_append] at ho1
    obtain ⟨d', hex, f⟩ := run_tail ⟨a, b, sc⟩ [0] c9 c10 _ d1 _ _ (ho1 ▸ he1) i1 hmk
      (fun i hi => Or.inl ((bn1 i).mpr (Or.inl (List.mem_singleton.mp hi)))) (fun i hi => by simp at hi)
      (by show routesCheck (sortRoutes a.routes) (sortRoutes b.routes) _ _ = true; rw [c3, c4]; decide)
    have hbd : d'.binds = (ofConfig a).binds := by
      rw [f.binds, List.filter_eq_self.mpr (fun _ _ => by simp), hb1 (diffAcl_incr hinc)]
    obtain ⟨q1, q2⟩ := f.done y (by simp)
    have hname : (makeEqualBind ⟨a, b, sc⟩ (generateNames ⟨a, b, sc⟩ {}) 0 y).aNameOf y.acl = x.acl := by
      rw [hbd] at q1
      have : (ofConfig a).binds.lookup (y.dir, y.intf) = some x.acl := by simp [ofConfig, hx, c1, c2]
      exact (Option.some.inj (q1.symm.trans this))
    rw [hname] at q2
    refine ⟨x.acl, y.acl, _, d', by rw [hx]; rfl, by rw [hy]; rfl, ?_, hex, hbd, f.routesKept c4, q2.1, q2.2⟩
    rw [engine_eq a b sc {} [0] hci]
    unfold finalSt
    rw [hst]
  · exact absurd hc (by decide)

end NA.F1
