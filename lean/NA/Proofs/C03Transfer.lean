import NA.Proofs.C03Sim
import NA.Model.PanOs
import NA.Core.ListFacts
/-
C03, objects of one kind on the strict device: `transferNeededObjects` (`runs_objTransfer`) and
`removeUnneededObjects` (`runs_delObjs`), each once for an `ObjKind`; addresses and services are the two kinds.
Core Lean only.
-/
namespace NA.PanOs

def lookupObj (l : List Obj) (n : String) : Option String := (l.find? (·.name == n)).map (·.val)

theorem lookupObj_append_single (l : List Obj) (o : Obj) (n : String) :
    lookupObj (l ++ [o]) n = match lookupObj l n with
      | some v => some v
      | none => if o.name == n then some o.val else none := by
  unfold lookupObj
  rw [List.find?_append]
  cases h : l.find? (·.name == n) with
  | some x => simp
  | none => cases hb : (o.name == n) <;> simp [hb]

theorem lookupObj_setVal (l : List Obj) (m v n : String) :
    lookupObj (setVal l m v) n = if n == m then (lookupObj l n).map (fun _ => v) else lookupObj l n := by
  unfold lookupObj setVal
  rw [find?_key_modify Obj.name (fun o => { o with val := v }) (fun _ => rfl)]
  split
  · rw [Option.map_map, Option.map_map]; rfl
  · rfl

theorem setVal_names (l : List Obj) (m v : String) : (setVal l m v).map (·.name) = l.map (·.name) := by
  unfold setVal
  induction l with
  | nil => rfl
  | cons x xs ih =>
    simp only [List.map_cons, ih]
    split <;> rfl

theorem lookupObj_none_iff (l : List Obj) (n : String) : lookupObj l n = none ↔ n ∉ l.map (·.name) := by
  unfold lookupObj
  simp only [Option.map_eq_none_iff, List.find?_eq_none, List.mem_map, not_exists, not_and]
  constructor
  · intro h o ho hn; exact h o ho (by simp [hn])
  · intro h o ho hn; exact h o ho (by simpa using hn)

theorem lookupObj_of_mem {l : List Obj} (hnd : (l.map (·.name)).Nodup) {o : Obj} (ho : o ∈ l) :
    lookupObj l o.name = some o.val := by
  rw [lookupObj, ListFacts.find?_key_of_mem (key := (·.name)) hnd ho]; rfl

theorem lookupObj_some_any {l : List Obj} {n v : String} (h : lookupObj l n = some v) :
    l.any (·.name == n) = true := by
  obtain ⟨o, hf, _⟩ := Option.map_eq_some_iff.mp h
  simp only [List.any_eq_true]
  exact ⟨o, List.mem_of_find?_eq_some hf, by simpa using List.find?_some hf⟩

theorem lookupObj_isSome_of_mem {l : List Obj} {n : String} (h : n ∈ l.map (·.name)) :
    ∃ v, lookupObj l n = some v := by
  cases hl : lookupObj l n with
  | none => exact absurd h ((lookupObj_none_iff l n).mp hl)
  | some v => exact ⟨v, rfl⟩

/-- The requests of `transferNeededObjects` for one kind of object (`editC`, `setC`: the `edit`
and the `set` request of that kind). -/
def objTransfer (editC setC : String → String → Cmd) (bs : List BObj) : List Cmd :=
  bs.filterMap (fun o =>
    if o.edit then some (editC o.o.name o.o.val)
    else if o.needed then some (setC o.o.name o.o.val) else none)

def addrTransfer (bs : List BObj) : List Cmd := objTransfer .editAddr .setAddr bs

def svcTransfer (bs : List BObj) : List Cmd := objTransfer .editSvc .setSvc bs

def BObj.flagged (o : BObj) : Bool := o.edit || o.needed

/-- One kind of object of a vsys — addresses, or services: where its table stands in the vsys, its three requests, and
the device's reference check. -/
structure ObjKind where
  get : Vsys → List Obj
  put : Vsys → List Obj → Vsys
  editC : String → String → Cmd
  setC : String → String → Cmd
  delC : String → Cmd
  used : Vsys → String → Bool
  get_put : ∀ v os, get (put v os) = os
  put_put : ∀ v os os', put (put v os) os' = put v os'
  put_get : ∀ v, put v (get v) = v
  used_put : ∀ v os x, used (put v os) x = used v x
  exec_edit : ∀ sh v n val, (get v).any (·.name == n) = true →
    exec sh v (editC n val) = .ok (put v (setVal (get v) n val))
  exec_set : ∀ sh v n val, (get v).find? (·.name == n) = none → exec sh v (setC n val) = .ok (put v (get v ++ [⟨n, val⟩]))
  exec_del : ∀ sh v x, (get v).any (·.name == x) = true → used v x = false →
    exec sh v (delC x) = .ok (put v ((get v).filter (·.name != x)))

def addrKind : ObjKind where
  get := (·.addrs)
  put v os := { v with addrs := os }
  editC := .editAddr
  setC := .setAddr
  delC := .delAddr
  used := addrUsed
  get_put _ _ := rfl
  put_put _ _ _ := rfl
  put_get _ := rfl
  used_put _ _ _ := rfl
  exec_edit _ _ _ _ h := exec_editAddr_iff.mpr ⟨h, rfl⟩
  exec_set _ _ _ _ h := exec_setAddr_iff.mpr (.inr ⟨h, rfl⟩)
  exec_del _ _ _ h hu := exec_delAddr_iff.mpr ⟨h, hu, rfl⟩

def svcKind : ObjKind where
  get := (·.svcs)
  put v os := { v with svcs := os }
  editC := .editSvc
  setC := .setSvc
  delC := .delSvc
  used := srvUsed
  get_put _ _ := rfl
  put_put _ _ _ := rfl
  put_get _ := rfl
  used_put _ _ _ := rfl
  exec_edit _ _ _ _ h := exec_editSvc_iff.mpr ⟨h, rfl⟩
  exec_set _ _ _ _ h := exec_setSvc_iff.mpr (.inr ⟨h, rfl⟩)
  exec_del _ _ _ h hu := exec_delSvc_iff.mpr ⟨h, hu, rfl⟩

theorem runs_objTransfer (K : ObjKind) (sh : Shared) : ∀ (bs : List BObj) (v : Vsys),
    (bs.map (·.o.name)).Nodup →
    (∀ o ∈ bs, o.edit = true → o.o.name ∈ (K.get v).map (·.name)) →
    (∀ o ∈ bs, o.edit = false → o.needed = true → o.o.name ∉ (K.get v).map (·.name)) →
    ∃ os, Runs sh v (objTransfer K.editC K.setC bs) (K.put v os) ∧
      (∀ o ∈ bs, o.flagged = true → lookupObj os o.o.name = some o.o.val) ∧
      (∀ n, (∀ o ∈ bs, o.flagged = true → o.o.name ≠ n) → lookupObj os n = lookupObj (K.get v) n) ∧
      (∀ n, n ∈ os.map (·.name) ↔
        n ∈ (K.get v).map (·.name) ∨ ∃ o ∈ bs, o.flagged = true ∧ o.o.name = n) := by
  intro bs
  induction bs with
  | nil =>
    intro v _ _ _
    exact ⟨K.get v, by rw [K.put_get]; exact Runs.nil sh v, by simp, by simp, by simp⟩
  | cons o bs ih =>
    intro v hnd he hs
    simp only [List.map_cons, List.nodup_cons] at hnd
    have hne : ∀ o' ∈ bs, o'.o.name ≠ o.o.name := fun o' ho' e => hnd.1 (e ▸ List.mem_map_of_mem ho')
    by_cases hedit : o.edit = true
    · -- edit
      have hex := he o (by simp) hedit
      have hany : (K.get v).any (·.name == o.o.name) = true := by
        simp only [List.any_eq_true, beq_iff_eq]
        obtain ⟨x, hx, hxn⟩ := List.mem_map.mp hex
        exact ⟨x, hx, hxn⟩
      obtain ⟨os, hw, p1, p2, p3⟩ := ih (K.put v (setVal (K.get v) o.o.name o.o.val)) hnd.2
        (fun o' ho' h' => by
          simp only [K.get_put, setVal_names]
          exact he o' (List.mem_cons_of_mem _ ho') h')
        (fun o' ho' h1 h2 => by
          simp only [K.get_put, setVal_names]
          exact hs o' (List.mem_cons_of_mem _ ho') h1 h2)
      rw [K.put_put] at hw
      simp only [K.get_put] at p2 p3
      have hcmds : objTransfer K.editC K.setC (o :: bs) = K.editC o.o.name o.o.val :: objTransfer K.editC K.setC bs := by
        simp [objTransfer, hedit]
      refine ⟨os, by rw [hcmds]; exact Runs.cons (K.exec_edit sh _ _ _ hany) hw, ?_, ?_, ?_⟩
      · intro o' ho' hf
        rcases List.mem_cons.mp ho' with rfl | ho'
        · rw [p2 _ (fun o'' ho'' _ => hne o'' ho'')]
          simp only [lookupObj_setVal, beq_self_eq_true, if_true]
          obtain ⟨x, hl⟩ := lookupObj_isSome_of_mem hex
          rw [hl, Option.map_some]
        · exact p1 o' ho' hf
      · intro n hn
        rw [p2 n (fun o' ho' hf => hn o' (List.mem_cons_of_mem _ ho') hf)]
        have : o.o.name ≠ n := hn o (by simp) (by simp [BObj.flagged, hedit])
        have hb : (n == o.o.name) = false := by simpa using (Ne.symm this)
        simp [lookupObj_setVal, hb]
      · intro n
        rw [p3 n]
        simp only [setVal_names, List.mem_cons, exists_eq_or_imp]
        constructor
        · rintro (h | ⟨o', ho', hf, hn⟩)
          · exact Or.inl h
          · exact Or.inr (Or.inr ⟨o', ho', hf, hn⟩)
        · rintro (h | ⟨_, hn⟩ | ⟨o', ho', hf, hn⟩)
          · exact Or.inl h
          · exact Or.inl (hn ▸ hex)
          · exact Or.inr ⟨o', ho', hf, hn⟩
    · have hedit' : o.edit = false := by simpa using hedit
      by_cases hneed : o.needed = true
      · -- set
        have hnot := hs o (by simp) hedit' hneed
        have hfind : (K.get v).find? (·.name == o.o.name) = none := by
          rw [List.find?_eq_none]
          intro x hx hxn
          exact hnot (List.mem_map.mpr ⟨x, hx, by simpa using hxn⟩)
        obtain ⟨os, hw, p1, p2, p3⟩ := ih (K.put v (K.get v ++ [⟨o.o.name, o.o.val⟩])) hnd.2
          (fun o' ho' h' => by
            simp only [K.get_put, List.map_append, List.mem_append]
            exact Or.inl (he o' (List.mem_cons_of_mem _ ho') h'))
          (fun o' ho' h1 h2 => by
            simp only [K.get_put, List.map_append, List.mem_append, List.map_cons, List.map_nil, List.mem_cons,
              List.not_mem_nil, or_false, not_or]
            exact ⟨hs o' (List.mem_cons_of_mem _ ho') h1 h2, hne o' ho'⟩)
        rw [K.put_put] at hw
        simp only [K.get_put] at p2 p3
        have hcmds : objTransfer K.editC K.setC (o :: bs) = K.setC o.o.name o.o.val :: objTransfer K.editC K.setC bs := by
          simp [objTransfer, hedit', hneed]
        refine ⟨os, by rw [hcmds]; exact Runs.cons (K.exec_set sh _ _ _ hfind) hw, ?_, ?_, ?_⟩
        · intro o' ho' hf
          rcases List.mem_cons.mp ho' with rfl | ho'
          · rw [p2 _ (fun o'' ho'' _ => hne o'' ho'')]
            simp only [lookupObj_append_single]
            have : lookupObj (K.get v) o'.o.name = none := (lookupObj_none_iff _ _).mpr hnot
            simp [this]
          · exact p1 o' ho' hf
        · intro n hn
          rw [p2 n (fun o' ho' hf => hn o' (List.mem_cons_of_mem _ ho') hf)]
          have : o.o.name ≠ n := hn o (by simp) (by simp [BObj.flagged, hneed])
          have hb : (o.o.name == n) = false := by simpa using this
          simp only [lookupObj_append_single, hb, Bool.false_eq_true, if_false]
          cases lookupObj (K.get v) n <;> rfl
        · intro n
          rw [p3 n]
          simp only [List.map_append, List.mem_append, List.map_cons, List.map_nil, List.mem_cons,
            List.not_mem_nil, or_false, exists_eq_or_imp]
          constructor
          · rintro ((h | h) | ⟨o', ho', hf, hn⟩)
            · exact Or.inl h
            · exact Or.inr (Or.inl ⟨by simp [BObj.flagged, hneed], h.symm⟩)
            · exact Or.inr (Or.inr ⟨o', ho', hf, hn⟩)
          · rintro (h | ⟨_, hn⟩ | ⟨o', ho', hf, hn⟩)
            · exact Or.inl (Or.inl h)
            · exact Or.inl (Or.inr hn.symm)
            · exact Or.inr ⟨o', ho', hf, hn⟩
      · -- nothing to do for this entry
        have hneed' : o.needed = false := by simpa using hneed
        obtain ⟨os, hw, p1, p2, p3⟩ := ih v hnd.2
          (fun o' ho' h' => he o' (List.mem_cons_of_mem _ ho') h')
          (fun o' ho' h1 h2 => hs o' (List.mem_cons_of_mem _ ho') h1 h2)
        have hcmds : objTransfer K.editC K.setC (o :: bs) = objTransfer K.editC K.setC bs := by
          simp [objTransfer, hedit', hneed']
        have hnf : o.flagged = false := by simp [BObj.flagged, hedit', hneed']
        refine ⟨os, by rw [hcmds]; exact hw, ?_, ?_, ?_⟩
        · intro o' ho' hf
          rcases List.mem_cons.mp ho' with rfl | ho'
          · rw [hnf] at hf; cases hf
          · exact p1 o' ho' hf
        · intro n hn
          exact p2 n (fun o' ho' hf => hn o' (List.mem_cons_of_mem _ ho') hf)
        · intro n
          rw [p3 n]
          simp only [List.mem_cons, exists_eq_or_imp, hnf, Bool.false_eq_true, false_and, false_or]

theorem lookupObj_filter (l : List Obj) (x n : String) (h : n ≠ x) :
    lookupObj (l.filter (·.name != x)) n = lookupObj l n := by
  unfold lookupObj
  rw [find?_key_filter_ne Obj.name, if_neg (by simpa using h)]

theorem runs_delObjs (K : ObjKind) (sh : Shared) : ∀ (xs : List String) (v : Vsys), xs.Nodup →
    (∀ x ∈ xs, x ∈ (K.get v).map (·.name)) → (∀ x ∈ xs, K.used v x = false) →
    ∃ os, Runs sh v (xs.map K.delC) (K.put v os) ∧
      (∀ n, n ∉ xs → lookupObj os n = lookupObj (K.get v) n) ∧
      (∀ n, n ∈ xs → lookupObj os n = none) := by
  intro xs
  induction xs with
  | nil =>
    intro v _ _ _
    exact ⟨K.get v, by rw [K.put_get]; exact Runs.nil sh v, fun _ _ => rfl, fun _ h => by cases h⟩
  | cons x xs ih =>
    intro v hnd hmem hused
    rw [List.nodup_cons] at hnd
    have hany : (K.get v).any (·.name == x) = true := by
      obtain ⟨o, ho, hn⟩ := List.mem_map.mp (hmem x (by simp))
      simp only [List.any_eq_true, beq_iff_eq]
      exact ⟨o, ho, hn⟩
    obtain ⟨os, hw, p, pg⟩ := ih (K.put v ((K.get v).filter (·.name != x))) hnd.2
      (by
        intro y hy
        obtain ⟨o, ho, hn⟩ := List.mem_map.mp (hmem y (List.mem_cons_of_mem _ hy))
        rw [K.get_put]
        refine List.mem_map.mpr ⟨o, List.mem_filter.mpr ⟨ho, ?_⟩, hn⟩
        have : o.name ≠ x := fun e => hnd.1 (by rw [← e, hn]; exact hy)
        simpa using this)
      (fun y hy => by rw [K.used_put]; exact hused y (List.mem_cons_of_mem _ hy))
    rw [K.put_put] at hw
    simp only [K.get_put] at p
    refine ⟨os, Runs.cons (K.exec_del sh v x hany (hused x (by simp))) hw, ?_, ?_⟩
    · intro n hn
      simp only [List.mem_cons, not_or] at hn
      rw [p n hn.2]
      exact lookupObj_filter _ _ _ hn.1
    · intro n hn
      rcases List.mem_cons.mp hn with hn | hn
      · subst hn
        rw [p n hnd.1, lookupObj, find?_key_filter_ne Obj.name, if_pos (beq_self_eq_true n), Option.map_none]
      · exact pg n hn


end NA.PanOs
