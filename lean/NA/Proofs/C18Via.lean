import NA.Model.MergeCisco
import NA.Proofs.C18
/-! `mergeVia`: the list merges of `NA/Model/Merge.lean` run on position tags; every law about the tag lists
carries over to the tagged elements (ACL lines of the general model). -/
namespace NA.C18.G

variable {α : Type} (kind : α → Kind) (app : α → Bool)

/-- The placement law on arbitrary elements (`qk` on the kind: "is a trailing deny/drop line"). -/
def PlacedL (qk : Kind → Bool) (top net app r : List α) : Prop :=
  ∃ pre post, net = pre ++ post ∧ r = top ++ pre ++ app ++ post ∧
    (∀ y ∈ post, qk (kind y) = true) ∧ (pre = [] ∨ ∃ init y, pre = init ++ [y] ∧ qk (kind y) = false)

/-- It is `Placed` with the test taken on the kind, so `Placed.perm`, `Placed.sub_top`, … apply to it as they stand. -/
theorem placedL_iff (qk : Kind → Bool) (top net ap r : List α) :
    PlacedL kind qk top net ap r ↔ Placed (fun y => qk (kind y)) top net ap r := Iff.rfl

/-- A tag that names an element of `all` with the same kind and APPEND mark. -/
def Valid (all : List α) (e : Entry) : Prop := ∃ y, all[e.id]? = some y ∧ kind y = e.kind ∧ app y = e.app

theorem pick_append (all : List α) (e1 e2 : List Entry) : pick all (e1 ++ e2) = pick all e1 ++ pick all e2 := by
  simp [pick]

theorem pick_single (all : List α) (e : Entry) (h : Valid kind app all e) :
    ∃ y, pick all [e] = [y] ∧ kind y = e.kind := by
  obtain ⟨y, hy, hk, -⟩ := h
  exact ⟨y, by simp [pick, hy], hk⟩

theorem mem_pick (all : List α) (es : List Entry) (y : α) (h : y ∈ pick all es) :
    ∃ e ∈ es, all[e.id]? = some y :=
  List.mem_filterMap.mp h

theorem tag_valid (pre l post : List α) :
    ∀ e ∈ tagList kind app pre.length l, Valid kind app (pre ++ l ++ post) e := by
  induction l generalizing pre with
  | nil => intro e he; cases he
  | cons x xs ih =>
    intro e he
    unfold tagList at he
    rcases List.mem_cons.mp he with rfl | he'
    · exact ⟨x, by simp, rfl, rfl⟩
    · simpa using ih (pre ++ [x]) e (by simpa using he')

theorem pick_tag_filter (p : Bool → Bool) (pre l post : List α) :
    pick (pre ++ l ++ post) ((tagList kind app pre.length l).filter (fun e => p e.app)) = l.filter (fun y => p (app y)) := by
  induction l generalizing pre with
  | nil => rfl
  | cons x xs ih =>
    unfold tagList
    have h1 : (pre ++ x :: xs ++ post)[pre.length]? = some x := by simp
    have h2 := ih (pre ++ [x])
    simp only [List.length_append, List.length_singleton, List.append_assoc, List.singleton_append] at h2
    simp only [pick] at h2 ⊢
    simp only [List.append_assoc] at h1 ⊢
    by_cases hp : p (app x) = true
    · simp only [List.filter_cons, hp, if_true, List.filterMap_cons, h1]
      rw [h2]
    · simp only [List.filter_cons, hp, Bool.false_eq_true, if_false]
      exact h2

theorem pick_tag (pre l post : List α) : pick (pre ++ l ++ post) (tagList kind app pre.length l) = l := by
  have h := pick_tag_filter kind app (fun _ => true) pre l post
  rwa [List.filter_eq_self.mpr fun _ _ => rfl, List.filter_eq_self.mpr fun _ _ => rfl] at h

theorem placed_transfer (all : List α) (q : Entry → Bool) (qk : Kind → Bool) (hq : ∀ e, q e = qk e.kind)
    (top net ap r : List Entry) (hv : ∀ e ∈ net, Valid kind app all e) (h : Placed q top net ap r) :
    PlacedL kind qk (pick all top) (pick all net) (pick all ap) (pick all r) := by
  obtain ⟨pre, post, hn, hr, hpost, hpre⟩ := h
  refine ⟨pick all pre, pick all post, by rw [hn, pick_append], by rw [hr]; simp [pick_append], ?_, ?_⟩
  · intro y hy
    obtain ⟨e, he, hey⟩ := mem_pick all post y hy
    obtain ⟨y', hy', hk, _⟩ := hv e (by rw [hn]; exact List.mem_append_right _ he)
    rw [hey] at hy'
    cases hy'
    rw [hk, ← hq]; exact hpost e he
  · rcases hpre with h0 | ⟨init, x, hx, hqx⟩
    · left; rw [h0]; rfl
    · right
      obtain ⟨y, hy, hk⟩ := pick_single kind app all x (hv x (by rw [hn, hx]; simp))
      exact ⟨pick all init, y, by rw [hx, pick_append, hy], by rw [hk, ← hq]; exact hqx⟩

def notPermitK (k : Kind) : Bool := !(k == .permit)

theorem notPermit_eq (e : Entry) : e.notPermit = notPermitK e.kind := rfl

theorem tag_valid_left (al bl : List α) : ∀ e ∈ tagList kind app 0 al, Valid kind app (al ++ bl) e :=
  tag_valid kind app [] al bl

theorem tag_valid_right (al bl : List α) : ∀ e ∈ tagList kind app al.length bl, Valid kind app (al ++ bl) e := by
  simpa using tag_valid kind app al bl []

theorem pick_left (al bl : List α) : pick (al ++ bl) (tagList kind app 0 al) = al :=
  pick_tag kind app [] al bl

theorem pick_nonApp (al bl : List α) :
    pick (al ++ bl) (nonApp (tagList kind app al.length bl)) = bl.filter (fun y => !app y) := by
  simpa [nonApp] using pick_tag_filter kind app (fun b => !b) al bl []

theorem pick_appPart (al bl : List α) :
    pick (al ++ bl) (appPart (tagList kind app al.length bl)) = bl.filter (fun y => app y) := by
  simpa [appPart] using pick_tag_filter kind app (fun b => b) al bl []

/-- The merge "non-APPEND part on top, APPEND part in front of the trailing `q`-lines" (IOS: `q` = not a
permit line; Linux: `q` = DROP rule), run on tagged elements, obeys the placement law. -/
theorem mergeVia_insert_placed (q : Entry → Bool) (qk : Kind → Bool) (hq : ∀ e, q e = qk e.kind) (al bl : List α) :
    PlacedL kind qk (bl.filter (fun y => !app y)) al (bl.filter (fun y => app y))
      (mergeVia (fun a b => nonApp b ++ insertBeforeTrailing q a (appPart b)) kind app al bl) := by
  have ht := placed_transfer kind app (al ++ bl) q qk hq _ _ _ _ (tag_valid_left kind app al bl)
    (placed_insert q (nonApp (tagList kind app al.length bl)) (tagList kind app 0 al)
      (appPart (tagList kind app al.length bl)))
  rwa [pick_left, pick_nonApp, pick_appPart] at ht

theorem mergeVia_ios_placed (al bl : List α) :
    PlacedL kind notPermitK (bl.filter (fun y => !app y)) al (bl.filter (fun y => app y))
      (mergeVia mergeIOS kind app al bl) :=
  mergeVia_insert_placed kind app Entry.notPermit notPermitK notPermit_eq al bl

/-- **ASA ACL lines of the general model**: the same with the documented exception for a terminating
`deny ip any6 any6` of the non-APPEND part. -/
theorem mergeVia_asa_placed (al bl : List α) :
    ∃ topL netL, PlacedL kind notPermitK topL netL (bl.filter (fun y => app y)) (mergeVia mergeASA kind app al bl) ∧
      ((topL = bl.filter (fun y => !app y) ∧ netL = al) ∨
       ∃ x, kind x = .any6 ∧ bl.filter (fun y => !app y) = topL ++ [x] ∧ netL = al ++ [x]) := by
  unfold mergeVia
  have hv0 := tag_valid_left kind app al bl
  have hvb := tag_valid_right kind app al bl
  have hp : Placed Entry.notPermit (asaSplit (tagList kind app 0 al) (tagList kind app al.length bl)).1
      (asaSplit (tagList kind app 0 al) (tagList kind app al.length bl)).2 (appPart (tagList kind app al.length bl))
      (mergeASA (tagList kind app 0 al) (tagList kind app al.length bl)) := placed_insert _ _ _ _
  rcases asaSplit_cases (tagList kind app 0 al) (tagList kind app al.length bl) with hs | ⟨init, x, hx6, hnon, hs⟩
  · rw [hs] at hp
    have ht := placed_transfer kind app (al ++ bl) Entry.notPermit notPermitK notPermit_eq _ _ _ _ hv0 hp
    rw [pick_left, pick_nonApp, pick_appPart] at ht
    exact ⟨_, _, ht, Or.inl ⟨rfl, rfl⟩⟩
  · rw [hs] at hp
    have hxmem : x ∈ tagList kind app al.length bl := by
      have : x ∈ nonApp (tagList kind app al.length bl) := by rw [hnon]; simp
      exact (List.mem_filter.mp this).1
    have hvn : ∀ e ∈ tagList kind app 0 al ++ [x], Valid kind app (al ++ bl) e := by
      intro e he
      rcases List.mem_append.mp he with h | h
      · exact hv0 e h
      · exact List.mem_singleton.mp h ▸ hvb x hxmem
    have ht := placed_transfer kind app (al ++ bl) Entry.notPermit notPermitK notPermit_eq _ _ _ _ hvn hp
    obtain ⟨y, hy, hk⟩ := pick_single kind app (al ++ bl) x (hvb x hxmem)
    rw [pick_append, pick_left, hy, pick_appPart] at ht
    refine ⟨_, _, ht, Or.inr ⟨y, ?_, ?_, rfl⟩⟩
    · rw [hk]
      unfold Entry.isAny6 at hx6
      simpa using hx6
    · rw [← pick_nonApp kind app al bl, hnon, pick_append, hy]

end NA.C18.G
