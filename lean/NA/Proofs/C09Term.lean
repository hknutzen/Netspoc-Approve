import NA.Proofs.C09Struct
import NA.Proofs.C09Console
/-!
# C09: termination of the IOS `write memory` retry loop (`retries := 2; for { … }`)
-/
namespace NA.C09
open NA.Sess NA.Apply NA.Spec.C09

theorem iosTail_cont (env : Env) (s : St) (hm : s.mode = .run) (hc : (exec iosWriteMemTail env s).mode = .cont) :
    s.ctr > 0 ∧ (exec iosWriteMemTail env s).ctr = s.ctr - 1 := by
  rw [exec_iosWriteMemTail _ _ hm] at hc ⊢
  split at hc
  · cases hc
  · split at hc
    · rename_i hok hof; rw [if_neg hok, if_pos hof]; exact ⟨hof.2, rfl⟩
    · cases hc

def noCtr : Sess → Bool := allLeaves fun
  | .setCtr _ | .decCtr => false
  | _ => true

theorem noCtr_ctr (p : Sess) (hq : noCtr p = true) (env : Env) (s : St) : (exec p env s).ctr = s.ctr := by
  refine exec_frame (R := fun s s' => s'.ctr = s.ctr) ⟨fun _ => rfl, fun h1 h2 => h2.trans h1, fun _ _ => rfl⟩
    (fun p hl hok env s hm => ?_) p hq env s
  cases p <;> first | exact Bool.noConfusion hl | exact Bool.noConfusion hok | skip
  case recv ρ q => simp only [sess_run, hm, if_true]; exact (recvLoop_got ..).2.1
  case roundTrip ρ t r =>
    simp only [sess_run, if_pos hm]
    split
    · exact ((recvLoop_got ..).2.1).trans (recvLoop_got ..).2.1
    · exact (recvLoop_got ..).2.1
  all_goals simp [sess_run, hm]

/-- what a round of IOS `writeMem` does before its tail: `write memory`, and the confirmation if the device asks -/
def iosWriteMemHead : Sess :=
  IssueCmd .save (.lit "write memory") (.stdOr [.confirm]) ["write memory", "#[ ]?|\\[confirm\\]"] ;;
  .ite (.flag .overwrite) "strings.Contains($IssueCmd, \"Overwrite the previous NVRAM configuration\")"
    (GetCmdOutput .save (.lit "") [""]) .skip

/-- the head of the round leaves the counter alone and does not say `continue` itself, so the tail decides -/
theorem iosRound_cont (env : Env) (s : St) (hs : s.mode = .run) (hc : (exec iosWriteMemRound env s).mode = .cont) :
    s.ctr > 0 ∧ (exec iosWriteMemRound env s).ctr = s.ctr - 1 := by
  have he : exec iosWriteMemRound env s = exec iosWriteMemTail env (exec iosWriteMemHead env s) := rfl
  rw [he] at hc ⊢
  by_cases hm : (exec iosWriteMemHead env s).mode = .run
  · rw [← noCtr_ctr iosWriteMemHead (by decide) env s]; exact iosTail_cont env _ hm hc
  · rw [exec_nonrun _ _ _ hm] at hc
    exact absurd hc (noCont_mode iosWriteMemHead (by decide +kernel) env s (by rw [hs]; decide))

theorem iosRound_mode (env : Env) (s : St) (hs : s.mode = .run) :
    (exec iosWriteMemRound env s).mode ≠ .run ∧ (exec iosWriteMemRound env s).mode ≠ .diverge :=
  ⟨leaves_mode _ (by decide +kernel) env s hs, noLoop_mode _ (by decide +kernel) env s (by rw [hs]; decide)⟩

/-- with `retries = n` the loop needs at most `n + 1` rounds -/
theorem iosLoop_terminates (env : Env) : ∀ (n : Nat) (s : St), s.mode = .run → s.ctr = n →
    (iter (n + 1) (exec iosWriteMemRound env) s).mode ≠ .diverge := by
  intro n
  induction n with
  | zero =>
    intro s hs hc
    simp only [iter, hs, if_true]
    split
    · rename_i hcont
      have := (iosRound_cont env s hs hcont).1
      omega
    · rename_i hr; exact absurd hr (iosRound_mode env s hs).1
    · exact (iosRound_mode env s hs).2
  | succ n ih =>
    intro s hs hc
    rw [iter]
    simp only [hs, if_true]
    split
    · rename_i hcont
      have h2 := (iosRound_cont env s hs hcont).2
      exact ih _ rfl (by simp only []; omega)
    · rename_i hr; exact absurd hr (iosRound_mode env s hs).1
    · exact (iosRound_mode env s hs).2

theorem iosWriteMem_terminates (env : Env) (s : St) (hs : s.mode ≠ .diverge) :
    (exec iosWriteMem env s).mode ≠ .diverge := by
  by_cases hm : s.mode = .run
  · have hm' : (exec (.setCtr 2) env s).mode = .run := by simp [sess_run, hm]
    have hc' : (exec (.setCtr 2) env s).ctr = 2 := by simp [sess_run, hm]
    rw [iosWriteMem, iosWriteMemBody_eq, exec_call _ _ _ _ _ hm, exec_seq, exec_loopN]
    generalize exec (.setCtr 2) env s = s0 at hm' hc'
    split
    · simp
    · exact iosLoop_terminates env 2 s0 hm' hc'
  · rw [exec_nonrun _ _ _ hm]; exact hs

end NA.C09
