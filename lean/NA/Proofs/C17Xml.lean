import NA.Model.MaskXml
import NA.Proofs.C17Sinks
/-!
# Lemmas for C17: the modelled `parseAPIKey` returns the key of a PAN-OS keygen answer

`parseAPIKeyM (stdKeygen …) = .ok k` for every layout of white space, either quote, every key made
of plain bytes and everything that may follow the root element.
-/
namespace NA.Mask

def PWs (w : Str) : Prop := ∀ c ∈ w, c = ' ' ∨ c = '\t' ∨ c = '\n'

def Plain (s : Str) : Prop := ∀ c ∈ s, plainChar c = true

theorem PWs.plain {w : Str} (h : PWs w) : Plain w := by
  intro c hc
  rcases h c hc with rfl | rfl | rfl <;> decide

theorem plainChar_ne {c : Char} (h : plainChar c = true) : c ≠ '<' ∧ c ≠ '&' ∧ c ≠ ']' := by
  refine ⟨?_, ?_, ?_⟩ <;> (intro hc; subst hc; revert h; decide)

theorem lexText_plain {s : Str} (hs : Plain s) (r : Str) :
    lexText (s ++ '<' :: r) = .ok (s, '<' :: r) := by
  unfold lexText
  induction s with
  | nil => simp [lexTextA]
  | cons c cs ih =>
    have hc := hs c (by simp)
    obtain ⟨h1, h2, h3⟩ := plainChar_ne hc
    simp only [List.cons_append, lexTextA, h1, h2, h3, hc, if_false, if_true, consOk,
      ih fun d hd => hs d (by simp [hd])]

theorem skipWs_pws {w : Str} (hw : PWs w) (c : Char) (hc : isWs c = false) (r : Str) :
    skipWs (w ++ c :: r) = c :: r := by
  induction w with
  | nil => simp [skipWs, hc]
  | cons d ds ih =>
    have hd : isWs d = true := by
      rcases hw d (by simp) with rfl | rfl | rfl <;> decide
    simp only [List.cons_append, skipWs, hd, if_true]
    exact ih (fun e he => hw e (by simp [he]))

theorem lexF_step (n : Nat) {s : Str} (hs : Plain s) (r : Str) (tg : Tok) (rest : Str)
    (ht : lexTag r = .ok tg rest) :
    lexF (n + 1) (s ++ '<' :: r) = .text s :: tg :: lexF n rest := by
  simp only [lexF, lexText_plain hs, ht]

theorem scanQuoted_success (q : Char) (hq : q = '"' ∨ q = '\'') (r : Str) :
    scanQuoted q (sSuccess ++ q :: r) = some (.ok (sSuccess, r)) := by
  rcases hq with rfl | rfl <;> simp [scanQuoted, sSuccess, plainChar]

theorem lexTag_eq_open (c : Char) (r : Str) (h1 : c ≠ '/') (h2 : c ≠ '?') (h3 : c ≠ '!') :
    lexTag (c :: r) = lexOpen (c :: r) := by
  simp [lexTag, h1, h2, h3]

theorem scanName_all (l : Str) (hl : ∀ d ∈ l, nameChar d = true) (c : Char) (hc : nameChar c = false) (r : Str) :
    scanName (l ++ c :: r) = (l, c :: r) := by
  induction l with
  | nil => simp [scanName, hc]
  | cons d ds ih =>
    simp [scanName, hl d (by simp), ih fun e he => hl e (by simp [he])]

theorem lexTag_response {w1 w2 w3 : Str} (h1 : PWs w1) (h2 : PWs w2) (h3 : PWs w3) (q : Char)
    (hq : q = '"' ∨ q = '\'') (r : Str) :
    lexTag (sResp ++ ' ' :: (sStatus ++ (w1 ++ '=' :: (w2 ++ q :: (sSuccess ++ q :: (w3 ++ '>' :: r)))))) =
      .ok (.start sResp [(sStatus, sSuccess)] false) r := by
  have hqw : isWs q = false := by rcases hq with rfl | rfl <;> decide
  -- the attribute name ends at white space or `=`
  have e3 : ∀ x : Str, scanName (sStatus ++ (w1 ++ '=' :: x)) = (sStatus, w1 ++ '=' :: x) := by
    intro x
    cases w1 with
    | nil => exact scanName_all sStatus (by decide) '=' (by decide) x
    | cons d ds =>
      have : nameChar d = false := by
        rcases h1 d (by simp) with rfl | rfl | rfl <;> decide
      exact scanName_all sStatus (by decide) d this _
  have hno : ∀ x : Str, nameOk sStatus (w1 ++ '=' :: x) = some true := by
    intro x
    cases w1 with
    | nil => simp [nameOk, sStatus, nameStart]
    | cons d ds =>
      rcases h1 d (by simp) with rfl | rfl | rfl <;> simp [nameOk, sStatus, nameStart]
  have hopen : sResp ++ ' ' :: (sStatus ++ (w1 ++ '=' :: (w2 ++ q :: (sSuccess ++ q :: (w3 ++ '>' :: r))))) =
      'r' :: (['e', 's', 'p', 'o', 'n', 's', 'e'] ++ ' ' :: (sStatus ++ (w1 ++ '=' :: (w2 ++ q :: (sSuccess ++ q :: (w3 ++ '>' :: r)))))) := by
    simp [sResp]
  have hattr : scanAttr (sStatus ++ (w1 ++ '=' :: (w2 ++ q :: (sSuccess ++ q :: (w3 ++ '>' :: r))))) =
      .ok (sStatus, sSuccess, w3 ++ '>' :: r) := by
    unfold scanAttr
    rw [e3]
    simp only [hno]
    rw [skipWs_pws h1 '=' (by decide)]
    simp only []
    rw [skipWs_pws h2 q hqw]
    simp only [hq, if_true]
    rw [scanQuoted_success q hq]
  rw [hopen, lexTag_eq_open _ _ (by decide) (by decide) (by decide), ← hopen]
  unfold lexOpen
  rw [scanName_all sResp (by decide) ' ' (by decide)]
  have hn : ∀ x : Str, nameOk sResp (' ' :: x) = some true := by intro x; simp [nameOk, sResp, nameStart]
  simp only [hn]
  -- one attribute, then `>`
  obtain ⟨m, hm⟩ : ∃ m, (' ' :: (sStatus ++ (w1 ++ '=' :: (w2 ++ q :: (sSuccess ++ q :: (w3 ++ '>' :: r)))))).length + 1 = m + 2 :=
    ⟨(sStatus ++ (w1 ++ '=' :: (w2 ++ q :: (sSuccess ++ q :: (w3 ++ '>' :: r))))).length, by simp only [List.length_cons]⟩
  rw [hm]
  have sk1 : skipWs (' ' :: (sStatus ++ (w1 ++ '=' :: (w2 ++ q :: (sSuccess ++ q :: (w3 ++ '>' :: r)))))) =
      's' :: (['t', 'a', 't', 'u', 's'] ++ (w1 ++ '=' :: (w2 ++ q :: (sSuccess ++ q :: (w3 ++ '>' :: r))))) := by
    simp [skipWs, isWs, sStatus]
  have back : 's' :: (['t', 'a', 't', 'u', 's'] ++ (w1 ++ '=' :: (w2 ++ q :: (sSuccess ++ q :: (w3 ++ '>' :: r))))) =
      sStatus ++ (w1 ++ '=' :: (w2 ++ q :: (sSuccess ++ q :: (w3 ++ '>' :: r)))) := by simp [sStatus]
  rw [scanAttrs, sk1]
  have c1 : ('s' = '/') = False := by decide
  have c2 : ('s' = '>') = False := by decide
  simp only [c1, c2, if_false]
  rw [back, hattr]
  simp only []
  rw [scanAttrs, skipWs_pws h3 '>' (by decide)]
  simp

/-- A name the lexer takes as an element name as it stands. -/
def GoodName (name : Str) : Prop :=
  (∀ c ∈ name, nameChar c = true) ∧ (∃ c cs, name = c :: cs ∧ nameStart c = true) ∧
    (name.head? ≠ some '/' ∧ name.head? ≠ some '?' ∧ name.head? ≠ some '!')

theorem goodName_resp : GoodName sResp := ⟨by decide, ⟨'r', _, rfl, by decide⟩, by decide⟩
theorem goodName_result : GoodName sResult := ⟨by decide, ⟨'r', _, rfl, by decide⟩, by decide⟩
theorem goodName_key : GoodName sKeyN := ⟨by decide, ⟨'k', _, rfl, by decide⟩, by decide⟩

theorem lexTag_open {name : Str} (h : GoodName name) (r : Str) :
    lexTag (name ++ '>' :: r) = .ok (.start name [] false) r := by
  obtain ⟨hn, ⟨c, cs, rfl, hc⟩, hnp⟩ := h
  simp only [List.head?_cons, ne_eq, Option.some.injEq] at hnp
  rw [List.cons_append, lexTag_eq_open _ _ hnp.1 hnp.2.1 hnp.2.2, ← List.cons_append]
  unfold lexOpen
  rw [scanName_all (c :: cs) hn '>' (by decide)]
  simp [nameOk, hc, scanAttrs, skipWs, isWs]

theorem lexTag_close {name : Str} (h : GoodName name) (r : Str) :
    lexTag ('/' :: (name ++ '>' :: r)) = .ok (.stop name) r := by
  obtain ⟨hn, ⟨c, cs, rfl, hc⟩, _⟩ := h
  simp only [lexTag, if_true]
  unfold lexClose
  rw [scanName_all (c :: cs) hn '>' (by decide)]
  simp [nameOk, hc, skipWs, isWs]

theorem parseAPIKeyM_stdKeygen {w0 w1 w2 w3 w4 w5 w6 w7 : Str} (q : Char) {k : Str} (tail : Str)
    (h0 : PWs w0) (h1 : PWs w1) (h2 : PWs w2) (h3 : PWs w3) (h4 : PWs w4) (h5 : PWs w5) (h6 : PWs w6) (h7 : PWs w7)
    (hq : q = '"' ∨ q = '\'') (hk : Plain k) :
    parseAPIKeyM (stdKeygen w0 w1 w2 q w3 w4 w5 k w6 w7 tail) = .ok k := by
  -- the answer, cut at its six `<`
  have shape : stdKeygen w0 w1 w2 q w3 w4 w5 k w6 w7 tail =
      w0 ++ '<' :: (sResp ++ ' ' :: (sStatus ++ (w1 ++ '=' :: (w2 ++ q :: (sSuccess ++ q :: (w3 ++ '>' ::
        (w4 ++ '<' :: (sResult ++ '>' :: (w5 ++ '<' :: (sKeyN ++ '>' :: (k ++ '<' :: ('/' :: (sKeyN ++ '>' ::
          (w6 ++ '<' :: ('/' :: (sResult ++ '>' :: (w7 ++ '<' :: ('/' :: (sResp ++ '>' :: tail))))))))))))))))))) := by
    have a1 : "<response status".toList = '<' :: (sResp ++ ' ' :: sStatus) := by decide_lit
    have a2 : "success".toList = sSuccess := by decide_lit
    have a3 : "<result>".toList = '<' :: (sResult ++ ['>']) := by decide_lit
    have a4 : "</result>".toList = '<' :: '/' :: (sResult ++ ['>']) := by decide_lit
    have a5 : "</response>".toList = '<' :: '/' :: (sResp ++ ['>']) := by decide_lit
    have a6 : litOpen = '<' :: (sKeyN ++ ['>']) := by decide
    have a7 : litClose = '<' :: '/' :: (sKeyN ++ ['>']) := by decide
    unfold stdKeygen
    rw [a1, a2, a3, a4, a5, a6, a7]
    simp only [List.cons_append, List.append_assoc, List.nil_append]
  obtain ⟨m, hm⟩ : ∃ m, (stdKeygen w0 w1 w2 q w3 w4 w5 k w6 w7 tail).length + 1 = m + 6 := by
    refine ⟨(stdKeygen w0 w1 w2 q w3 w4 w5 k w6 w7 tail).length - 5, ?_⟩
    have : 5 ≤ (stdKeygen w0 w1 w2 q w3 w4 w5 k w6 w7 tail).length := by
      rw [shape]; simp [sResp]; omega
    omega
  unfold parseAPIKeyM lex
  rw [hm, shape]
  rw [lexF_step _ h0.plain _ _ _ (lexTag_response h1 h2 h3 q hq _)]
  rw [lexF_step _ h4.plain _ _ _ (lexTag_open goodName_result _)]
  rw [lexF_step _ h5.plain _ _ _ (lexTag_open goodName_key _)]
  rw [lexF_step _ hk _ _ _ (lexTag_close goodName_key _)]
  rw [lexF_step _ h6.plain _ _ _ (lexTag_close goodName_result _)]
  rw [lexF_step _ h7.plain _ _ _ (lexTag_close goodName_resp _)]
  simp only [rootOf, inside, addKid, ne_eq, not_true_eq_false, if_false, List.reverse_cons, List.reverse_nil,
    List.nil_append, List.cons_append, Bool.false_eq_true]
  simp [keyOfRoot, lastAttr, lastChild, directText]

theorem stdKeygen_keyBody (w0 w1 w2 : Str) (q : Char) (w3 w4 w5 w6 w7 tail : Str) :
    ∃ pre post, ∀ k' : Str, stdKeygen w0 w1 w2 q w3 w4 w5 k' w6 w7 tail = keyBody pre k' post :=
  ⟨w0 ++ ("<response status".toList ++ (w1 ++ ('=' :: (w2 ++ (q :: ("success".toList ++ (q :: (w3 ++ ('>' :: (w4 ++
      ("<result>".toList ++ w5))))))))))),
    w6 ++ ("</result>".toList ++ (w7 ++ ("</response>".toList ++ tail))),
    fun k' => by simp only [stdKeygen, keyBody, List.append_assoc, List.cons_append]⟩

end NA.Mask
