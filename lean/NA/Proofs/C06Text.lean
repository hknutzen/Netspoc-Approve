import NA.Model.GateText
import NA.Spec.Gate
/-
C06: the text functions the marker checks use (`strings.Contains`, the `checkbanner` regexp on a plain word,
`grep` on `/etc/issue`) characterised as statements about lists of characters; `strings.HasPrefix` decided on
the UTF-8 bytes, for kernel evaluation.
-/
namespace NA.Gate
open NA.Gate.Spec

/-- `hasPrefix` decided on the UTF-8 bytes (UTF-8 is prefix-free).  For facts the kernel evaluates
on long literals: it gets the bytes of a literal in linear time, while `String.toList` decodes them
with an index into the byte array and an `Array.push` per character, which is quadratic there. -/
theorem hasPrefix_eq_bytes (s pre : String) :
    hasPrefix s pre = pre.toByteArray.data.toList.isPrefixOf s.toByteArray.data.toList := by
  rw [hasPrefix, Bool.eq_iff_iff, List.isPrefixOf_iff_prefix, List.isPrefixOf_iff_prefix]
  constructor
  · rintro ⟨t, ht⟩
    refine ⟨(String.ofList t).toByteArray.data.toList, ?_⟩
    rw [← ByteArray.toList_data_append, ← String.toByteArray_append, ← String.toList_inj.mp
      (show (pre ++ String.ofList t).toList = s.toList by rw [String.toList_append, String.toList_ofList, ht])]
  · rintro ⟨r, hr⟩
    apply List.isPrefix_of_utf8Encode_append_eq_utf8Encode r.toByteArray
    rw [String.utf8Encode_toList, String.utf8Encode_toList]
    apply ByteArray.ext
    rw [← Array.toList_inj, ByteArray.toList_data_append, List.data_toByteArray, hr]

/-! `goQuote` on a literal.  A literal is `String.ofList` of its characters at no cost to the kernel, while
evaluating `goQuote` decodes it (`String.toList`) and joins the pieces from the left, which is quadratic: facts
that quote long literals rewrite with `goQuote_ofList` first and evaluate afterwards. -/

def goQuoteL (c : Char) : List Char :=
  if c == '\n' then ['\\', 'n'] else if c == '\t' then ['\\', 't'] else if c == '\r' then ['\\', 'r']
  else if c == '"' then ['\\', '"'] else if c == '\\' then ['\\', '\\'] else [c]

theorem goQuoteC_eq (c : Char) : goQuoteC c = String.ofList (goQuoteL c) := by
  simp only [goQuoteC, goQuoteL, apply_ite String.ofList]
  rfl

theorem join_ofList (l : List (List Char)) (acc : List Char) :
    List.foldl (fun r s => r ++ s) (String.ofList acc) (l.map String.ofList) = String.ofList (acc ++ l.flatten) := by
  induction l generalizing acc with
  | nil => simp
  | cons a l ih => simp [← String.ofList_append, ih]

theorem goQuote_ofList (l : List Char) :
    goQuote (String.ofList l) = String.ofList ('"' :: l.flatMap goQuoteL ++ ['"']) := by
  have h : String.join (l.map goQuoteC) = String.ofList (l.flatMap goQuoteL) := by
    unfold String.join
    rw [funext goQuoteC_eq]
    simpa [List.flatMap, Function.comp_def] using join_ofList (l.map goQuoteL) []
  unfold goQuote
  rw [String.toList_ofList, h, ← String.toList_inj]
  simp

/-- `strings.Contains(s, p)` -/
theorem infixL_iff (s p : List Char) : infixL s p = true ↔ ∃ x y, s = x ++ p ++ y := by
  simp only [eq_comm (a := s)]
  show infixL s p = true ↔ p <:+: s
  induction s with
  | nil => simp only [infixL, List.isEmpty_iff, List.infix_nil]
  | cons c cs ih => simp only [infixL, Bool.or_eq_true, List.isPrefixOf_iff_prefix, ih, List.infix_cons_iff]

theorem m_ofWord (w : List Char) : ∀ (st : Bool) (s : List Char),
    Rx.m (Rx.ofWord w) st s (fun _ _ => true) = w.isPrefixOf s := by
  induction w with
  | nil => intro st s; simp [Rx.ofWord, Rx.m]
  | cons c w ih =>
    intro st s
    cases s with
    | nil => simp [Rx.ofWord, Rx.m]
    | cons x s =>
      simp only [Rx.ofWord, Rx.m, List.isPrefixOf]
      rw [ih false s, Bool.beq_comm]

theorem searchFrom_ofWord (w : List Char) : ∀ (st : Bool) (s : List Char),
    Rx.searchFrom (Rx.ofWord w) st s = infixL s w := by
  intro st s
  induction s generalizing st with
  | nil =>
    cases w <;> rfl
  | cons c cs ih => simp [Rx.searchFrom, infixL, m_ofWord, ih]

/-- **A `checkbanner` that is a plain word is looked for as a substring.** -/
theorem search_ofWord (w s : List Char) : Rx.search (Rx.ofWord w) s = infixL s w :=
  searchFrom_ofWord w true s

def Rx.never : Rx := .cls false false []

theorem search_never (s : List Char) : Rx.search Rx.never s = false := by
  unfold Rx.search Rx.never
  generalize true = st
  induction s generalizing st with
  | nil => simp [Rx.searchFrom, Rx.m]
  | cons c cs ih => simp [Rx.searchFrom, Rx.m, Rx.inRanges, ih]

theorem grepOut_nil_iff (r : Rx) (issue : List Char) :
    grepOut r issue = [] ↔ ∀ l ∈ splitLines issue, l = [] ∨ r.search l = false := by
  unfold grepOut
  simp only [List.flatMap_eq_nil_iff, List.mem_filter, Bool.and_eq_true, Bool.not_eq_true',
    List.append_eq_nil_iff, List.cons_ne_self, and_false, imp_false, not_and, Bool.not_eq_true,
    List.isEmpty_eq_false_iff, Decidable.or_iff_not_imp_left]

end NA.Gate
