import NA.Proofs.C03GrpFinal
import NA.Proofs.C03RulePhase
/-
C03, pairs with address-groups, on the strict device: the transfer phase and the rule phase.  The group-member requests
interleaved with the rule requests are run first on the group table (`Step.elim`), the rule requests then go through
`rulePhase_generic`; afterwards rules and groups of the device are `Like` the target (`after_rulePhase`).  Core Lean only.
-/
namespace NA.PanOs

theorem simG_init (sh : Shared) (a b : Vsys) (hP : GenPair sh a b) (vg : Vsys) (extra : List Grp)
    (hg : vg.groups = a.groups ++ extra)
    (haddr : ∀ m, RefAddrN b m → m ∈ b.addrs.map (·.name) → vg.addrs.any (·.name == m) = true) :
    SimG sh (RefAddr b) (markedState a b) vg := by
  refine ⟨?_, ?_, ?_⟩
  · intro ga hga _
    obtain ⟨gr, hgr, e, _⟩ := markedState_aGrp_mem a b hga
    refine ⟨gr.members, ?_, ?_⟩
    · rw [hg, e, lookupGrp_append_left (List.mem_map_of_mem hgr)]
      exact lookupGrp_of_mem hP.agn hgr
    · rw [e]; exact sortStrings_sameMem _
  · intro gb hgb ga hga he
    obtain ⟨_, _, _, _, hon⟩ := markedState_bGrp_mem a b hgb
    obtain ⟨gr, hgr, e, _⟩ := markedState_aGrp_mem a b hga
    rw [hon, e] at he
    exact absurd he.symm (hP.aName gr.name (List.mem_map_of_mem hgr)).1
  · intro gb hgb href m hm
    obtain ⟨gr, hgr, e, _, _⟩ := markedState_bGrp_mem a b hgb
    rw [e] at hm href
    obtain ⟨hmb, hR⟩ := ref_group_members sh a b hP gr hgr href m ((mem_sortStrings m _).mp hm)
    simp [addrRefOk, haddr m hR hmb]


/-- **Planner facts about the final state.**  The planner does not see the device, but `GInv` and `GMono` of the
state after `diffRules` only come out of the simulation `diffRules_sim` together with `SimG` and `Step`, and the
device the rule phase really meets — the one after the transfer — cannot be described before these facts are
known (which groups are still `needed` decides what is transferred).  So the simulation is run here on a
made-up device that has every address of both sides; only the planner half of its conclusion is kept.
`grp_rulePhase` runs it again on the real device.  (What is needed BEFORE the transfer is `GMono` alone:
`planState_newNames_nodup` and `fin_groups` read nothing else, `grp_transfer` besides it `fresh` and `bmemnd`, which are
`GStatic` and follow from `GMono` by `GStatic.mono`.  Of the `GInv` returned here the claims `c0` … `c5` are read only by
`after_rulePhase`, when the real simulation has run; `grp_rulePhase` reads those of its own simulation.) -/
theorem grp_fin_facts (sh : Shared) (diff : Differ) (hd : GoodDiffer diff) (a b : Vsys)
    (hid : a.groups ≠ [] → IdentityDiffer diff)
    (hP : GenPair sh a b) :
    GMono (markedState a b) (planState diff a b) ∧ GInv (RefAddr b) (planState diff a b) := by
  have hI := markedState_ginv sh a b hP
  obtain ⟨hAr, hBr⟩ := markedState_shapes sh a b hid hP
  have hS := simG_init sh a b hP { a with addrs := a.addrs ++ b.addrs } [] (by simp)
    (by
      intro m _ hm
      obtain ⟨o, ho, e⟩ := List.mem_map.mp hm
      simp only [List.any_append, Bool.or_eq_true, List.any_eq_true, beq_iff_eq]
      exact Or.inr ⟨o, ho, e⟩)
  obtain ⟨fin, vg', e, _, step⟩ := diffRules_sim diff hd (fuelOf a b) (sortVsys a) (sortVsys b)
    (sortVsys a).rules (bRulesOf a b) ⟨hI, hS⟩ hAr hBr
  rw [planState_def, e]
  exact ⟨step.mono, step.fits.inv⟩

theorem grp_summaries (sh : Shared) (diff : Differ) (a b : Vsys) (hP : GenPair sh a b) :
    AddrSumR (RefAddrN b) a b (planState diff a b) ∧ SvcSummary a b (planState diff a b) ∧
    (planState diff a b).aSG = [] ∧ (planState diff a b).bSG = [] := by
  have hobjs := planState_objs_marked diff a b
  obtain ⟨e1, e2, e3, e4, e5, e6⟩ := objs_fields hobjs
  obtain ⟨af1, af2, af3, af4⟩ := markedState_addrFlags a b hP.bgn
  obtain ⟨sf1, sf2, sf3, sf4⟩ := markedState_svcFlags a b hP.bsg
  refine ⟨?_, ?_, by rw [e5]; exact (markedState_sg_nil a b hP.asg hP.bsg).1, by rw [e6]; exact (markedState_sg_nil a b hP.asg hP.bsg).2⟩
  · exact addrSumR_of (RefAddrN b) (by rw [e2]; exact af3) (by rw [e1]; exact af2) (af1.of_objs hobjs)
      (fun x hx hxb => by
        obtain ⟨c, m⟩ := af4 x hx.1 hx.2 hxb
        exact ⟨c.of_objs hobjs, m.of_objs hobjs⟩) hP.aan
  · exact svcSummary_direct (by rw [e4]; exact sf3) (by rw [e3]; exact sf2) (sf1.of_objs hobjs)
      (fun x hx hxb => by
        obtain ⟨c, m⟩ := sf4 x hx hxb
        exact ⟨c.of_objs hobjs, m.of_objs hobjs⟩) hP.asn

theorem planState_newNames_nodup (sh : Shared) (diff : Differ) (hd : GoodDiffer diff) (a b : Vsys)
    (hid : a.groups ≠ [] → IdentityDiffer diff) (hP : GenPair sh a b) :
    (((planState diff a b).bGrp.filter (·.needed)).map (·.newName)).Nodup := by
  obtain ⟨hmono, _⟩ := grp_fin_facts sh diff hd a b hid hP
  have h1 := congrArg (List.map (fun p : Grp × String => p.2)) hmono.bg
  have h2 := congrArg (List.map (fun p : Grp × String × String => p.2.1)) (markedState_gmark a b).bg
  simp only [List.map_map, Function.comp_def] at h1 h2
  have hall : (planState diff a b).bGrp.map (·.newName) = newGroupNames a b := by rw [h1, h2, st0_newNames]
  obtain ⟨_, hnnd, _⟩ := groupNamesFor_spec suffixInj (sortVsys a) (sortVsys b)
    (by rw [sortVsys_groups_names]; exact hP.bgn)
  exact (List.Sublist.map _ List.filter_sublist).nodup (by rw [hall]; exact hnnd)

theorem fin_groups (sh : Shared) (diff : Differ) (hd : GoodDiffer diff) (a b : Vsys)
    (hid : a.groups ≠ [] → IdentityDiffer diff)
    (hP : GenPair sh a b) :
    (planState diff a b).aGrp.map (·.g.name) = a.groups.map (·.name) ∧
    (∀ ga ∈ (planState diff a b).aGrp, ∃ gr ∈ a.groups, ga.g = { gr with members := sortStrings gr.members }) ∧
    (∀ gb ∈ (planState diff a b).bGrp, ∃ gr ∈ b.groups, gb.g = { gr with members := sortStrings gr.members } ∧
      gb.newName ∈ newGroupNames a b) ∧
    (∀ gb ∈ (planState diff a b).bGrp, gb.needed = true → RefAddr b gb.g.name) := by
  obtain ⟨hmono, _⟩ := grp_fin_facts sh diff hd a b hid hP
  have hprov := markedState_gprov sh a b hP
  refine ⟨by rw [hmono.anames, markedState_aGrp_names], ?_, ?_, ?_⟩
  · intro ga hga
    obtain ⟨ga0, hga0, e⟩ := hmono.amem hga
    obtain ⟨gr, hgr, e0, _⟩ := markedState_aGrp_mem a b hga0
    exact ⟨gr, hgr, by rw [← e, e0]⟩
  · intro gb hgb
    obtain ⟨gb0, hgb0, e, en⟩ := hmono.bmem hgb
    obtain ⟨gr, hgr, e0, hn, _⟩ := markedState_bGrp_mem a b hgb0
    exact ⟨gr, hgr, by rw [← e, e0], by rw [← en]; exact hn⟩
  · intro gb hgb hn
    obtain ⟨i, hi⟩ := List.getElem?_of_mem hgb
    obtain ⟨gb0, hgb0, eg, _⟩ := hmono.bget' hi
    have hn0 : gb0.needed = true := hmono.bn i gb0 gb hgb0 hi hn
    rw [eg]
    exact hprov gb0 (List.mem_of_getElem? hgb0) hn0

theorem grp_transfer (sh : Shared) (diff : Differ) (hd : GoodDiffer diff) (a b : Vsys)
    (hid : a.groups ≠ [] → IdentityDiffer diff)
    (hP : GenPair sh a b) :
    ∃ a1, Runs sh a (transferCmds (planState diff a b)) a1 ∧
      AfterTransferG (RefAddrN b) a b (planState diff a b) a1 := by
  obtain ⟨hmono, hIfin⟩ := grp_fin_facts sh diff hd a b hid hP
  obtain ⟨_, _, hfbG, hfprov⟩ := fin_groups sh diff hd a b hid hP
  obtain ⟨hA, hS, _, hbSG⟩ := grp_summaries sh diff a b hP
  have hgn := planState_newNames_nodup sh diff hd a b hid hP
  have hgf : ∀ g ∈ (planState diff a b).bGrp, g.needed = true → g.newName ∉ a.groups.map (·.name) := by
    intro g hg _
    have := (hIfin.fresh g hg).2
    rw [hmono.anames, markedState_aGrp_names] at this
    exact this
  have hgm : ∀ g ∈ (planState diff a b).bGrp, g.needed = true → g.g.members.Nodup ∧
      ∀ m ∈ g.g.members, RefAddrN b m ∧ m ∈ b.addrs.map (·.name) := by
    intro g hg hn
    refine ⟨hIfin.bmemnd g hg, fun m hm => ?_⟩
    obtain ⟨gr, hgr, e, _⟩ := hfbG g hg
    have href := hfprov g hg hn
    rw [e] at hm href
    exact (ref_group_members sh a b hP gr hgr href m ((mem_sortStrings m _).mp hm)).symm
  exact runs_transferG sh (RefAddrN b) a b _ hA hS hbSG hP.ban hP.bsn hgn hgf hgm

theorem onDev_group {sh : Shared} {Ref : String → Prop} {st : St} {vg : Vsys} (hI : GInv Ref st)
    (hS : SimG sh Ref st vg)
    (hother : ∀ n, n ∉ st.aGrp.map (·.g.name) → lookupGrp vg.groups n = lookupGrp (newGroups st.bGrp) n)
    (hnd : ((st.bGrp.filter (·.needed)).map (·.newName)).Nodup) {gb : BGrp} (hgb : gb ∈ st.bGrp)
    (hne : gb.onDev ≠ "") :
    gb.onDev ∉ (st.aGrp.filter (fun g => !g.needed)).map (·.g.name) ∧
    ∃ ms, lookupGrp vg.groups gb.onDev = some ms ∧ SameMem ms gb.g.members := by
  rcases hI.c3 gb hgb with h | h | h
  · exact absurd h hne
  · -- transferred under its new name
    have hya : gb.onDev ∉ st.aGrp.map (·.g.name) := by rw [h]; exact (hI.fresh gb hgb).2
    refine ⟨?_, gb.g.members, ?_, SameMem.refl _⟩
    · intro hx
      obtain ⟨ga, hga, e⟩ := List.mem_map.mp hx
      exact hya (by rw [← e]; exact List.mem_map_of_mem (List.mem_filter.mp hga).1)
    · rw [hother _ hya, h]
      exact lookupGrp_newGroups_of hnd hgb (hI.c1 gb hgb h)
  · -- a claimed device group
    obtain ⟨ga, hga, hgan⟩ := List.mem_map.mp h
    have hgan' : gb.onDev = ga.g.name := hgan.symm
    obtain ⟨ms, hms, hsm⟩ := hS.K gb hgb ga hga hgan'
    refine ⟨?_, ms, by rw [hgan']; exact hms, hsm⟩
    intro hx
    obtain ⟨ga', hga', e⟩ := List.mem_map.mp hx
    obtain ⟨hgam', hn'⟩ := List.mem_filter.mp hga'
    have : ga' = ga := ListFacts.eq_of_nodup_map hI.anodup hgam' hga (e.trans hgan')
    subst this
    rw [hI.c2 gb hgb ga' hga hgan'] at hn'; cases hn'

theorem device_group {sh : Shared} {Ref : String → Prop} {st : St} {vg : Vsys} (hI : GInv Ref st)
    (hS : SimG sh Ref st vg)
    (hother : ∀ n, n ∉ st.aGrp.map (·.g.name) → lookupGrp vg.groups n = lookupGrp (newGroups st.bGrp) n)
    (hnd : (vg.groups.map (·.name)).Nodup) (hprov : ∀ gb ∈ st.bGrp, gb.needed = true → Ref gb.g.name)
    {g : Grp} (hg : g ∈ vg.groups) :
    (∃ ga ∈ st.aGrp, ga.g.name = g.name ∧ ga.needed = false ∧ SameMem g.members ga.g.members) ∨
    (∃ gb ∈ st.bGrp, Ref gb.g.name ∧ SameMem g.members gb.g.members) := by
  have hlk := lookupGrp_of_mem hnd hg
  by_cases hna : g.name ∈ st.aGrp.map (·.g.name)
  · obtain ⟨ga, hga, hgan⟩ := List.mem_map.mp hna
    cases hn : ga.needed with
    | false =>
      obtain ⟨ms, hms, hsame⟩ := hS.U ga hga hn
      rw [hgan, hlk] at hms
      cases hms
      exact Or.inl ⟨ga, hga, hgan, hn, hsame⟩
    | true =>
      obtain ⟨gb, hgb, hon⟩ := hI.c4 ga hga hn
      obtain ⟨ms, hms, hsame⟩ := hS.K gb hgb ga hga hon
      rw [hgan, hlk] at hms
      cases hms
      exact Or.inr ⟨gb, hgb, hI.c5 gb hgb (by rw [hon]; exact hI.ane ga hga), hsame⟩
  · rw [hother g.name hna] at hlk
    obtain ⟨gb, hgb, hn, _, hmm⟩ := lookupGrp_newGroups hlk
    exact Or.inr ⟨gb, hgb, hprov gb hgb hn, by rw [hmm]; exact SameMem.refl _⟩

theorem device_rule_at {a b : Vsys} {st : St} {rules : List Rule} (hlen : rules.length = b.rules.length)
    (hlike : ∀ (t : Nat) (r : Rule), rules[t]? = some r → RuleLike r (adaptRule st ((bRulesOf a b).getD t default)))
    (t : Nat) (d : Rule) (hd : rules[t]? = some d) :
    ∃ rb r0, rb ∈ bRulesOf a b ∧ r0 ∈ b.rules ∧
      b.rules[t]? = some r0 ∧ rb.src = sortStrings r0.src ∧ rb.dst = sortStrings r0.dst ∧
      rb.srv = sortStrings r0.srv ∧ d.hdr = r0.hdr ∧
      SameMem d.src (adaptL st rb.src) ∧ SameMem d.dst (adaptL st rb.dst) ∧ SameMem d.srv rb.srv := by
  have htlt : t < b.rules.length := by rw [← hlen]; exact (List.getElem?_eq_some_iff.mp hd).1
  obtain ⟨l0, l1, l2, l3⟩ := hlike t d hd
  obtain ⟨g1, g2, g3, g4⟩ := bRulesOf_getD a b t htlt
  have hr0 := getElem?_of_lt b.rules t htlt
  have hrbmem : (bRulesOf a b).getD t default ∈ bRulesOf a b :=
    getD_mem (by rw [bRulesOf_length]; exact htlt)
  exact ⟨_, _, hrbmem, List.mem_of_getElem? hr0, hr0, g2, g3, g4, by rw [l0, adaptRule_hdr, g1], l1, l2, l3⟩

theorem adaptL_cases {st : St} {b : Vsys} (hbn : st.bGrp.map (·.g.name) = b.groups.map (·.name)) {l : List String}
    (hshape : ListShapeW False b l) (hs : GSettled st (sortStrings l)) :
    (l.Nodup ∧ (∀ y ∈ l, y ∉ b.groups.map (·.name)) ∧ adaptL st (sortStrings l) = sortStrings l) ∨
    (∃ g gb, l = [g] ∧ gb ∈ st.bGrp ∧ gb.g.name = g ∧ gb.onDev ≠ "" ∧
      adaptL st (sortStrings l) = [gb.onDev]) := by
  rcases hshape.2 with ⟨hng, hnd⟩ | hsg
  · have hnog : ∀ y ∈ l, y ∉ b.groups.map (·.name) := fun y hy h => by
      have := hng y hy
      rw [(isGrpOf_iff b y).mpr h] at this; cases this
    have hidx : ∀ y ∈ sortStrings l, st.bGrpIdx y = none := fun y hy =>
      lastIdx_none_of_not_mem (by rw [hbn]; exact hnog y ((mem_sortStrings y l).mp hy))
    exact Or.inl ⟨hnd, hnog, adaptL_plain _ _ hidx⟩
  · obtain ⟨g, rfl, hg⟩ := singleGrp_spec hsg
    rw [sortStrings_single] at hs ⊢
    have hgb := (isGrpOf_iff b g).mp hg
    obtain ⟨gbi, hgbi⟩ := Option.isSome_iff_exists.mp
      (lastIdx_isSome_of_mem (names := st.bGrp.map (·.g.name)) (n := g) (by rw [hbn]; exact hgb))
    obtain ⟨gb, hgbe, hne⟩ := hs g (by simp) gbi hgbi
    obtain ⟨gb', hgb', hnm⟩ := bGrp_of_idx hgbi
    rw [hgbe] at hgb'; cases hgb'
    exact Or.inr ⟨g, gb, rfl, List.mem_of_getElem? hgbe, hnm, hne, by
      simp only [adaptL, List.map_cons, List.map_nil, adapt1_of_idx hgbi hgbe]⟩

theorem grp_rulePhase (sh : Shared) (diff : Differ) (hd : GoodDiffer diff) (a b : Vsys)
    (hid : a.groups ≠ [] → IdentityDiffer diff)
    (hP : GenPair sh a b) (a1 : Vsys)
    (hT : AfterTransferG (RefAddrN b) a b (planState diff a b) a1) :
    ∃ w2 vg', Runs sh a1 (planState diff a b).out w2 ∧
      w2.addrs = a1.addrs ∧ w2.svcs = a1.svcs ∧ w2.sgroups = a1.sgroups ∧ w2.name = a1.name ∧
      w2.groups = vg'.groups ∧ vg'.groups.map (·.name) = a1.groups.map (·.name) ∧
      SimG sh (RefAddr b) (planState diff a b) vg' ∧
      (∀ n, n ∉ (planState diff a b).aGrp.map (·.g.name) →
        lookupGrp vg'.groups n = lookupGrp (newGroups (planState diff a b).bGrp) n) ∧
      w2.rules.length = b.rules.length ∧ (ruleNames w2.rules).Nodup ∧
      (∀ (t : Nat) (r : Rule), w2.rules[t]? = some r →
        RuleLike r (adaptRule (planState diff a b) ((bRulesOf a b).getD t default))) ∧
      (∀ rb ∈ bRulesOf a b, GSettled (planState diff a b) rb.src ∧ GSettled (planState diff a b) rb.dst) := by
  have hI := markedState_ginv sh a b hP
  obtain ⟨hAr, hBr⟩ := markedState_shapes sh a b hid hP
  -- lookups of what the rules use, on the device after the transfer
  have haddrAny : ∀ m, RefAddrN b m → m ∈ b.addrs.map (·.name) → a1.addrs.any (·.name == m) = true := by
    intro m hR hm
    have hl := hT.addrRef m hR hm
    obtain ⟨val, hval⟩ := lookupObj_isSome_of_mem hm
    rw [hval] at hl
    exact lookupObj_some_any hl
  have hS := simG_init sh a b hP a1 (newGroups (planState diff a b).bGrp) hT.groups haddrAny
  obtain ⟨fin, vg', e, hsettled, gstep⟩ := diffRules_sim diff hd (fuelOf a b)
    (sortVsys a) (sortVsys b) (sortVsys a).rules (bRulesOf a b) ⟨hI, hS⟩ hAr hBr
  have hfin : fin = planState diff a b := by rw [planState_def]; exact e.symm
  subst hfin
  obtain ⟨step, i2, s2⟩ := gstep
  have m2 := step.mono
  -- the script
  generalize hrs : diff (sortVsys a).rules.length (bRulesOf a b).length
    (fun i j => ruleEqual (sortVsys a) (sortVsys b) ((sortVsys a).rules.getD i default)
      ((bRulesOf a b).getD j default)) = rs at step
  have hv := (hd (sortVsys a).rules.length (bRulesOf a b).length
    (fun i j => ruleEqual (sortVsys a) (sortVsys b) ((sortVsys a).rules.getD i default)
      ((bRulesOf a b).getD j default))).1
  rw [hrs] at hv
  change Step sh _ _ _ _ (plainRuleCmds diff (sortVsys a).rules ((bRulesOf a b).map (adaptRule (planState diff a b))) rs)
    at step
  -- the requests of the rule phase, seen from the device
  obtain ⟨cs, ho, hother0, hrun⟩ := step.elim (fun x hx => by
    rw [markedState_aGrp_names] at hx
    rw [hT.groups, List.map_append]
    exact List.mem_append_left _ hx)
  have hout : (planState diff a b).out = cs := by rw [ho, markedState_out]; rfl
  have hgn1 : vg'.groups.map (·.name) = a1.groups.map (·.name) := step.gnames
  have hnewlook : ∀ n, n ∉ (planState diff a b).aGrp.map (·.g.name) →
      lookupGrp vg'.groups n = lookupGrp (newGroups (planState diff a b).bGrp) n := by
    intro n hn
    rw [m2.anames] at hn
    rw [hother0 n hn, hT.groups, lookupGrp_append_right (markedState_aGrp_names a b ▸ hn)]
  have hnewnd := planState_newNames_nodup sh diff hd a b hid hP
  -- the target with its groups called by their names on the device
  have htg : TargetOk sh vg' ((bRulesOf a b).map (adaptRule (planState diff a b))) := by
    intro rb' hrb'
    obtain ⟨rb, hrb, rfl⟩ := List.mem_map.mp hrb'
    obtain ⟨r, hr, es, ed, ev⟩ := bRulesOf_mem a b hrb
    obtain ⟨set1, set2⟩ := hsettled rb hrb
    -- one source / destination list
    have field : ∀ (l : List String), (l = r.src ∨ l = r.dst) → ListShapeW False b l →
        GSettled (planState diff a b) (sortStrings l) →
        (adaptL (planState diff a b) (sortStrings l)).Nodup ∧
          ∀ m ∈ adaptL (planState diff a b) (sortStrings l), addrRefOk sh vg' m = true := by
      intro l hl hshape hset
      rcases adaptL_cases (by rw [m2.bnames, markedState_bGrp_names]) hshape hset with
        ⟨hnd, hnog, e⟩ | ⟨g, gb, rfl, hgbmem, _, hne, e⟩ <;> rw [e]
      · refine ⟨sortStrings_nodup hnd, ?_⟩
        intro m hm
        have hml : m ∈ l := (mem_sortStrings m l).mp hm
        rcases (hP.br r hr).1 m (by rcases hl with rfl | rfl <;> simp [hml]) with h | h | h | h
        · simp [addrRefOk, h]
        · simp [addrRefOk, h]
        · have hR : RefAddrN b m :=
            ⟨⟨r, hr, Or.inl (by rcases hl with rfl | rfl; exact Or.inl hml; exact Or.inr hml)⟩, hnog m hml⟩
          have := haddrAny m hR h
          rw [← step.addrs] at this
          simp [addrRefOk, this]
        · exact absurd h (hnog m hml)
      · refine ⟨by simp, ?_⟩
        intro m hm
        rw [List.mem_singleton.mp hm]
        -- the group stands on the device under its name there
        obtain ⟨_, ms, hms, _⟩ := onDev_group i2 s2 hnewlook hnewnd hgbmem hne
        simp [addrRefOk, lookupGrp_some_any hms]
    obtain ⟨n1, r1⟩ := field r.src (Or.inl rfl) (hP.bl r hr).1 (by rw [← es]; exact set1)
    obtain ⟨n2, r2⟩ := field r.dst (Or.inr rfl) (hP.bl r hr).2 (by rw [← ed]; exact set2)
    refine ⟨by simp only [adaptRule]; rw [es]; exact n1, by simp only [adaptRule]; rw [ed]; exact n2, ?_, ?_, ?_⟩
    · intro m hm
      simp only [adaptRule] at hm
      rw [es] at hm
      exact r1 m hm
    · intro m hm
      simp only [adaptRule] at hm
      rw [ed] at hm
      exact r2 m hm
    · intro m hm
      rw [adaptRule_srv, ev] at hm
      have hmr : m ∈ r.srv := (mem_sortStrings m _).mp hm
      rcases (hP.br r hr).2 m hmr with h | h | h | h
      · simp [refOk, srvRefOk, h]
      · simp [refOk, srvRefOk, h]
      · simp [refOk, srvRefOk, h]
      · have hl := hT.svcRef m ⟨r, hr, hmr⟩ h
        obtain ⟨val, hval⟩ := lookupObj_isSome_of_mem h
        rw [hval] at hl
        have := lookupObj_some_any hl
        rw [← step.svcs] at this
        simp [refOk, srvRefOk, this]
  -- the rule phase for the alignment the script describes, on the device after the group-member requests
  have hal' : ∀ r ∈ a.rules, r.src.Nodup ∧ r.dst.Nodup :=
    fun r hr => ⟨listShape_nodup (hP.al r hr).1, listShape_nodup (hP.al r hr).2⟩
  have hv' := (List.length_map (as := bRulesOf a b) (adaptRule (planState diff a b))).symm ▸ hv
  obtain ⟨hasA, hbsB⟩ := align_sides0 (A := (sortVsys a).rules) hv'
  obtain ⟨w2, hw2, ⟨u1, u2, u3, u4, u5⟩, hnd, hlen, hlike⟩ := rulePhase_generic sh diff hd
    (align (sortVsys a).rules ((bRulesOf a b).map (adaptRule (planState diff a b))) rs) vg'
    (by rw [hasA, step.rules, hT.rules]; exact (sortVsys_ruleNames a).symm)
    (by
      rw [hasA, hbsB]
      show (ruleNames _ ++ ruleNames _).Nodup
      rw [ruleNames_map_adapt, sortVsys_ruleNames, bRulesOf_names]
      exact uniqNames_nodup_append suffixInj _ _ hP.arn hP.brn)
    (by rw [hasA, step.rules, hT.rules]; exact sortVsys_copy hP.arn hal')
    (fun ra rb hm => by
      obtain ⟨i, j, h, ha, hb⟩ := align_pairs0 hv' hm
      rw [← getD_of_getElem? ha, ← getD_of_getElem? hb, getD_map_adapt, adaptRule_hdr]
      unfold ruleEqual at h
      simp only [Bool.and_eq_true, beq_iff_eq] at h
      exact h.1.1.1)
    (by rw [hbsB]; exact htg)
  rw [hbsB] at hlen hlike
  exact ⟨w2, vg', hout ▸ hrun w2 hw2, u1.trans step.addrs, u2.trans step.svcs, u4.trans step.sgroups, u5.trans step.name, u3,
    hgn1, s2, hnewlook, by rw [hlen]; simp [bRulesOf_length], hnd,
    fun t r hr => getD_map_adapt _ _ t ▸ hlike t r hr, hsettled⟩

def unneededGrps (st : St) : List String := (st.aGrp.filter (fun g => !g.needed)).map (·.g.name)

theorem after_rulePhase (sh : Shared) (diff : Differ) (hd : GoodDiffer diff) (a b : Vsys)
    (hid : a.groups ≠ [] → IdentityDiffer diff) (hP : GenPair sh a b) (a1 : Vsys)
    (hT : AfterTransferG (RefAddrN b) a b (planState diff a b) a1) :
    ∃ w2, Runs sh a1 (planState diff a b).out w2 ∧
      w2.addrs = a1.addrs ∧ w2.svcs = a1.svcs ∧ w2.sgroups = a1.sgroups ∧ w2.name = a1.name ∧
      (ruleNames w2.rules).Nodup ∧ Like (unneededGrps (planState diff a b)) w2 b ∧
      (∀ x ∈ unneededGrps (planState diff a b), x ∈ w2.groups.map (·.name)) ∧
      (∀ x ∈ w2.groups.map (·.name), x ∉ a.addrs.map (·.name)) := by
  obtain ⟨w2, vg', hw2, s1, s2, s3, s4, s5, hgn, hS, hnewlook, hlen, hnd, hlike, hset⟩ :=
    grp_rulePhase sh diff hd a b hid hP a1 hT
  obtain ⟨hmono, hI⟩ := grp_fin_facts sh diff hd a b hid hP
  obtain ⟨hfa, hfaG, hfbG, hfprov⟩ := fin_groups sh diff hd a b hid hP
  have hrefmem := ref_group_members sh a b hP
  have hnewnd := planState_newNames_nodup sh diff hd a b hid hP
  -- names of the groups on the device after the rule phase: the device's and the new ones; no address names
  have hvgnames : vg'.groups.map (·.name) =
      a.groups.map (·.name) ++ ((planState diff a b).bGrp.filter (·.needed)).map (·.newName) := by
    rw [hgn, hT.groups]
    simp [newGroups, List.map_map, Function.comp_def]
  have hvgnd : (vg'.groups.map (·.name)).Nodup := by
    rw [hvgnames, List.nodup_append]
    refine ⟨hP.agn, hnewnd, ?_⟩
    intro x hx y hy e
    obtain ⟨gb, hgb, rfl⟩ := List.mem_map.mp hy
    have := (hI.fresh gb (List.mem_filter.mp hgb).1).2
    rw [hfa] at this
    exact this (e ▸ hx)
  have hvgname : ∀ x ∈ w2.groups.map (·.name), x ≠ "any" ∧ x ∉ sh ∧ x ∉ a.addrs.map (·.name) ∧
      x ∉ b.addrs.map (·.name) := by
    intro x hx
    rw [s5, hvgnames, List.mem_append] at hx
    rcases hx with h | h
    · exact (hP.aName x h).2
    · obtain ⟨gb, hgb, rfl⟩ := List.mem_map.mp h
      exact (hP.nName _ (hfbG gb (List.mem_filter.mp hgb).1).choose_spec.2.2).2
  -- a group of the device: a device group that is not needed, or one that holds the members of a target group
  have hgroup : ∀ g ∈ w2.groups,
      (g.name ∈ unneededGrps (planState diff a b) ∧ ∀ m ∈ g.members, m ∈ a.addrs.map (·.name)) ∨
      ∃ gr ∈ b.groups, RefAddr b gr.name ∧ SameMem g.members gr.members := by
    intro g hg
    rcases device_group hI hS hnewlook hvgnd hfprov (s5 ▸ hg) with ⟨ga, hga, hgan, hn, hsame⟩ | ⟨gb, hgb, href, hsame⟩
    · obtain ⟨gr, hgr, e⟩ := hfaG ga hga
      rw [e] at hsame
      exact Or.inl ⟨List.mem_map.mpr ⟨ga, List.mem_filter.mpr ⟨hga, by simp [hn]⟩, hgan⟩,
        fun m hm => (hP.agm gr hgr).2 m ((mem_sortStrings m _).mp ((hsame m).mp hm))⟩
    · obtain ⟨gr, hgr, e, _⟩ := hfbG gb hgb
      rw [e] at href hsame
      exact Or.inr ⟨gr, hgr, href, fun m => (hsame m).trans (mem_sortStrings m _)⟩
  -- one source / destination list
  have hfield : ∀ (r0 : Rule) (ld l0 : List String), r0 ∈ b.rules → (∀ x ∈ l0, x ∈ r0.src ++ r0.dst) →
      GSettled (planState diff a b) (sortStrings l0) → ListShapeW False b l0 →
      SameMem ld (adaptL (planState diff a b) (sortStrings l0)) →
      ListLike (unneededGrps (planState diff a b)) w2 b ld l0 := by
    intro r0 ld l0 hr0 hin hlb hshape hsame
    rcases adaptL_cases (by rw [hmono.bnames, markedState_bGrp_names]) hshape hlb with
      ⟨_, hxng, e⟩ | ⟨g, gb, rfl, hgbm, hgbn, hne', e⟩ <;> rw [e] at hsame
    · refine Or.inl ⟨hsame.trans (sortStrings_sameMem l0).symm, fun x hx => ⟨fun hn => ?_, hxng x hx⟩⟩
      obtain ⟨p2, p3, _, p5⟩ := hvgname x hn
      rcases (hP.br r0 hr0).1 x (hin x hx) with h | h | h | h
      · exact p2 h
      · exact p3 h
      · exact p5 h
      · exact hxng x hx h
    · obtain ⟨hnx, ms, hms, hsm⟩ := onDev_group hI hS hnewlook hnewnd hgbm hne'
      obtain ⟨gr, hgr, egb, _⟩ := hfbG gb hgbm
      have hgrn : gr.name = g := by rw [← hgbn, egb]
      rw [egb] at hsm
      exact Or.inr ⟨gb.onDev, g, ms, gr.members, hsame, rfl, hnx, s5 ▸ hms, hgrn ▸ lookupGrp_of_mem hP.bgn hgr,
        fun m => (hsm m).trans (mem_sortStrings m _)⟩
  refine ⟨w2, hw2, s1, s2, s3, s4, hnd, ⟨hlen, fun t d r0 hd hr0 => ?_, fun g hg => (hgroup g hg).imp_left (·.1),
    fun g hg m hm hn => ?_⟩, fun x hx => ?_, fun x hx => (hvgname x hx).2.2.1⟩
  · obtain ⟨rb, r0', hrb, hr0m, hr0t, es, ed, ev, h0, q1, q2, q3⟩ := device_rule_at (a := a) hlen hlike t d hd
    cases hr0t.symm.trans hr0
    rw [ev] at q3
    exact ⟨h0, fun x => (q3 x).trans (mem_sortStrings x _),
      hfield r0 d.src r0.src hr0m (fun x hx => List.mem_append_left _ hx) (es ▸ (hset rb hrb).1) (hP.bl r0 hr0m).1 (es ▸ q1),
      hfield r0 d.dst r0.dst hr0m (fun x hx => List.mem_append_right _ hx) (ed ▸ (hset rb hrb).2) (hP.bl r0 hr0m).2 (ed ▸ q2)⟩
  · -- members are addresses of one side, names of groups are not
    obtain ⟨_, _, p4, p5⟩ := hvgname m hn
    rcases hgroup g hg with ⟨_, hma⟩ | ⟨gr, hgr, href, hsame⟩
    · exact p4 (hma m hm)
    · exact p5 (hrefmem gr hgr href m ((hsame m).mp hm)).1
  · obtain ⟨ga, hga, rfl⟩ := List.mem_map.mp hx
    rw [s5, hvgnames, ← hfa]
    exact List.mem_append_left _ (List.mem_map_of_mem (List.mem_filter.mp hga).1)

end NA.PanOs
