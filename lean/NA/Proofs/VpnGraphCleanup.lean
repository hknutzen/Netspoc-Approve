import NA.Proofs.VpnGraphFrame
import NA.Core.ListFacts
/-!
`deleteUnused` on the strict device: the rounds of `delRounds` delete an object only when no pending
object references it any more, so every `clear configure …` / `no ip local pool …` is accepted as
long as the objects to delete are referenced by nothing but each other.
-/
namespace NA.Vpn.G

theorem execAll_append : ∀ (l1 l2 : List Chg) (d : Dev),
    execAll d (l1 ++ l2) = (execAll d l1).bind fun d' => execAll d' l2
  | [], _, _ => rfl
  | c :: cs, l2, d => by
    show (exec1 d c).bind _ = ((exec1 d c).bind _).bind _
    cases exec1 d c with
    | none => rfl
    | some d' => exact execAll_append cs l2 d'

theorem referenced_filter (d : Dev) (q : Obj → Bool) (mode : Mode) (x : Ref) (h : d.referenced x = false) :
    ({ objs := d.objs.filter q, mode := mode } : Dev).referenced x = false :=
  List.any_eq_false.2 fun o ho => List.any_eq_false.1 h o (List.mem_filter.1 ho).1

def Shape (d : Dev) (p : DelObj) : Prop :=
  (p.id.1 ≠ .pool ∧ p.id.1 ≠ .aaa ∧ p.lines = [.clear p.id.1 p.id.2] ∧ (d.obj p.id).isSome = true) ∨
  (∃ c, p.id.1 = .pool ∧ p.lines = [.pool true p.id.2 c] ∧ (d.obj p.id).any (fun o => o.lines == [c]) = true)

theorem Shape.of_obj_eq {d d' : Dev} {p : DelObj} (h : d'.obj p.id = d.obj p.id) (hs : Shape d p) : Shape d' p := by
  unfold Shape
  rw [h]
  exact hs

/-- an object the device can delete now: it exists in the shape the command names, nothing references it -/
def Deletable (d : Dev) (p : DelObj) : Prop := d.referenced p.id = false ∧ Shape d p

theorem exec_deletable (d : Dev) (p : DelObj) (h : Deletable d p) :
    execAll d p.lines = some { objs := d.objs.filter fun o => o.id != p.id, mode := none } := by
  obtain ⟨hr, ⟨_, h2, hl, he⟩ | ⟨c, h1, hl, he⟩⟩ := h
  · have hid : (p.id.1, p.id.2) = p.id := rfl
    rw [hl]
    simp only [execAll, exec1, hid, he, hr, bne_iff_ne.2 h2, Bool.not_false, Bool.and_self, if_true, Option.bind_some]
  · have hid : (Kind.pool, p.id.2) = p.id := by rw [← h1]
    rw [hl]
    simp only [execAll, exec1, hid, he, hr, Bool.not_false, Bool.and_self, if_true, Option.bind_some]

theorem round_accepted : ∀ (now : List DelObj) (d : Dev),
    (∀ p ∈ now, Deletable d p) → now.Pairwise (fun p q => p.id ≠ q.id) →
    ∃ d1, execAll d (now.flatMap (·.lines)) = some d1 ∧ d1.objs = d.objs.filter fun o => now.all fun p => o.id != p.id
  | [], d, _, _ => ⟨d, rfl, (List.filter_eq_self.2 fun _ _ => rfl).symm⟩
  | p :: ps, d, h, hn => by
    have hn' := List.pairwise_cons.1 hn
    -- after `p` is gone the others are still deletable
    let d1 : Dev := { objs := d.objs.filter fun o => o.id != p.id, mode := none }
    have hps : ∀ q ∈ ps, Deletable d1 q := fun q hq =>
      have hq' := h q (List.mem_cons_of_mem _ hq)
      ⟨referenced_filter d _ none q.id hq'.1,
        hq'.2.of_obj_eq (obj_remove d p.id none q.id fun e => hn'.1 q hq (Option.some.inj e))⟩
    obtain ⟨d2, hex, hobjs⟩ := round_accepted ps d1 hps hn'.2
    refine ⟨d2, ?_, ?_⟩
    · rw [List.flatMap_cons, execAll_append, exec_deletable d p (h p List.mem_cons_self)]
      exact hex
    · rw [hobjs, List.filter_filter]
      exact List.filter_congr fun o _ => by rw [List.all_cons, Bool.and_comm]

/-- what a round of `delRounds` deletes: the pending objects that no pending object references … -/
def roundNow (objs : List DelObj) : List DelObj := objs.filter fun o => !objs.any fun x => x.refs.contains o.id
/-- … and what it leaves to the later rounds -/
def roundLater (objs : List DelObj) : List DelObj := objs.filter fun o => objs.any fun x => x.refs.contains o.id

theorem delRounds_succ (f : Nat) (objs : List DelObj) :
    delRounds (f + 1) objs = (roundNow objs).flatMap (·.lines) ++ delRounds f (roundLater objs) := by
  cases objs with
  | nil => cases f <;> rfl
  | cons _ _ => rfl

theorem roundNow_sub {objs : List DelObj} {p : DelObj} (h : p ∈ roundNow objs) : p ∈ objs := (List.mem_filter.1 h).1
theorem roundLater_sub {objs : List DelObj} {p : DelObj} (h : p ∈ roundLater objs) : p ∈ objs := (List.mem_filter.1 h).1

theorem mem_delRounds : ∀ (f : Nat) (objs : List DelObj) (c : Chg), c ∈ delRounds f objs → ∃ p ∈ objs, c ∈ p.lines
  | 0, _, _, h => nomatch h
  | f + 1, objs, c, h => by
    rw [delRounds_succ] at h
    rcases List.mem_append.1 h with h | h
    · obtain ⟨p, hp, hc⟩ := List.mem_flatMap.1 h
      exact ⟨p, roundNow_sub hp, hc⟩
    · obtain ⟨p, hp, hc⟩ := mem_delRounds f _ c h
      exact ⟨p, roundLater_sub hp, hc⟩

theorem mem_roundNow_or_roundLater {objs : List DelObj} {p : DelObj} (h : p ∈ objs) : p ∈ roundNow objs ∨ p ∈ roundLater objs := by
  cases hir : (objs.any fun x => x.refs.contains p.id) with
  | true => exact Or.inr (List.mem_filter.2 ⟨h, hir⟩)
  | false => exact Or.inl (List.mem_filter.2 ⟨h, by rw [hir]; rfl⟩)

/-- whether an object waits depends on its name alone -/
theorem roundNow_ne_roundLater {objs : List DelObj} : ∀ p ∈ roundNow objs, ∀ q ∈ roundLater objs, p.id ≠ q.id := by
  intro p hp q hq e
  have hp' := (List.mem_filter.1 hp).2
  rw [e, (List.mem_filter.1 hq).2] at hp'
  cases hp'

/-- what `delRounds_accepted` assumes of the pending deletions `objs` on the device `d`; every round leaves it true
of the later rounds on the new device (`round_step`) -/
structure Pending (d : Dev) (objs : List DelObj) : Prop where
  distinct : objs.Pairwise fun p q => p.id ≠ q.id
  shape : ∀ p ∈ objs, Shape d p
  refs : ∀ p ∈ objs, ∀ x ∈ d.objs, x.refs.contains p.id = true → ∃ q ∈ objs, q.id = x.id ∧ q.refs = x.refs

theorem round_step {d : Dev} {objs : List DelObj} (h : Pending d objs) :
    ∃ d1, execAll d ((roundNow objs).flatMap (·.lines)) = some d1 ∧ Pending d1 (roundLater objs) ∧
      (∀ r, (∀ p ∈ roundNow objs, p.id ≠ r) → d1.obj r = d.obj r) ∧ ∀ p ∈ roundNow objs, d1.obj p.id = none := by
  -- whatever on the device references an object of this round would be pending, and no pending object does
  have hnow : ∀ p ∈ roundNow objs, Deletable d p := by
    intro p hp
    obtain ⟨hpo, hnr⟩ := List.mem_filter.1 hp
    refine ⟨List.any_eq_false.2 fun x hx hxr => ?_, h.shape p hpo⟩
    obtain ⟨q, hq, _, hqr⟩ := h.refs p hpo x hx hxr
    rw [List.any_eq_true.2 ⟨q, hq, by rw [hqr]; exact hxr⟩] at hnr
    cases hnr
  obtain ⟨d1, hex, hobjs⟩ := round_accepted _ d hnow (h.distinct.filter _)
  have hmem : ∀ x ∈ d1.objs, x ∈ d.objs ∧ ∀ p ∈ roundNow objs, x.id ≠ p.id := by
    intro x hx
    rw [hobjs] at hx
    obtain ⟨hxd, hall⟩ := List.mem_filter.1 hx
    exact ⟨hxd, fun p hp => bne_iff_ne.1 (List.all_eq_true.1 hall p hp)⟩
  have hkeep : ∀ r, (∀ p ∈ roundNow objs, p.id ≠ r) → d1.obj r = d.obj r := by
    intro r hr
    unfold Dev.obj
    rw [hobjs]
    exact ListFacts.find?_filter_of_imp _ _ _ fun o _ e =>
      List.all_eq_true.2 fun p hp => bne_iff_ne.2 (by rw [eq_of_beq e]; exact fun e' => hr p hp e'.symm)
  refine ⟨d1, hex, ⟨h.distinct.filter _, ?_, ?_⟩, hkeep, ?_⟩
  · intro q hq
    exact (h.shape q (roundLater_sub hq)).of_obj_eq (hkeep q.id fun p hp => roundNow_ne_roundLater p hp q hq)
  · intro q hq x hx hxr
    obtain ⟨q', hq', hid, hrefs⟩ := h.refs q (roundLater_sub hq) x (hmem x hx).1 hxr
    rcases mem_roundNow_or_roundLater hq' with hn | hl
    · exact absurd hid.symm ((hmem x hx).2 q' hn)
    · exact ⟨q', hl, hid, hrefs⟩
  · intro p hp
    exact List.find?_eq_none.2 fun x hx e => (hmem x hx).2 p hp (eq_of_beq e)

/-- the pending objects that are still there after `f` rounds -/
def leftAfter : Nat → List DelObj → List DelObj
  | 0, objs => objs
  | f + 1, objs => leftAfter f (roundLater objs)

/-- the common form of `delRounds_accepted` and `delRounds_removes`, for any number of rounds -/
theorem delRounds_run : ∀ (f : Nat) (objs : List DelObj) (d : Dev), Pending d objs →
    ∃ d', execAll d (delRounds f objs) = some d' ∧ (∀ r, (∀ p ∈ objs, p.id ≠ r) → d'.obj r = d.obj r) ∧
      ∀ p ∈ objs, p ∉ leftAfter f objs → d'.obj p.id = none
  | 0, _, d, _ => ⟨d, rfl, fun _ _ => rfl, fun _ hp hl => absurd hp hl⟩
  | f + 1, objs, d, h => by
    obtain ⟨d1, hex1, h1, hkeep1, hgone1⟩ := round_step h
    obtain ⟨d', hex, hkeep, hgone⟩ := delRounds_run f (roundLater objs) d1 h1
    refine ⟨d', ?_, ?_, ?_⟩
    · rw [delRounds_succ, execAll_append, hex1]
      exact hex
    · intro r hr
      rw [hkeep r fun p hp => hr p (roundLater_sub hp), hkeep1 r fun p hp => hr p (roundNow_sub hp)]
    · intro p hp hl
      rcases mem_roundNow_or_roundLater hp with hn | hlater
      · rw [hkeep p.id fun q hq e => roundNow_ne_roundLater p hn q hq e.symm]
        exact hgone1 p hn
      · exact hgone p hlater hl

/-- C08, acceptance alone: it needs no rank and no bound on the rounds -/
theorem delRounds_accepted : ∀ (f : Nat) (objs : List DelObj) (d : Dev),
    objs.Pairwise (fun p q => p.id ≠ q.id) →
    (∀ p ∈ objs, Shape d p) →
    (∀ p ∈ objs, ∀ x ∈ d.objs, x.refs.contains p.id = true → ∃ q ∈ objs, q.id = x.id ∧ q.refs = x.refs) →
    ∃ d', execAll d (delRounds f objs) = some d' ∧ ∀ r, (∀ p ∈ objs, p.id ≠ r) → d'.obj r = d.obj r
  | f, objs, d, hn, hs, hr =>
    let ⟨d', hex, hkeep, _⟩ := delRounds_run f objs d ⟨hn, hs, hr⟩
    ⟨d', hex, hkeep⟩

theorem exists_max_rank (rank : Ref → Nat) : ∀ (l : List DelObj), l ≠ [] → ∃ p ∈ l, ∀ q ∈ l, rank q.id ≤ rank p.id
  | [], h => absurd rfl h
  | [x], _ => ⟨x, List.mem_cons_self, List.forall_mem_cons.2 ⟨Nat.le_refl _, fun _ h => nomatch h⟩⟩
  | x :: y :: ys, _ => by
    obtain ⟨p, hp, hmax⟩ := exists_max_rank rank (y :: ys) (List.cons_ne_nil _ _)
    rcases Nat.le_total (rank p.id) (rank x.id) with hx | hx
    · exact ⟨x, List.mem_cons_self, List.forall_mem_cons.2 ⟨Nat.le_refl _, fun q hq => Nat.le_trans (hmax q hq) hx⟩⟩
    · exact ⟨p, List.mem_cons_of_mem _ hp, List.forall_mem_cons.2 ⟨hx, hmax⟩⟩

/-- without reference cycles a pending object of highest rank is referenced by no pending object -/
theorem exists_unreferenced (rank : Ref → Nat) (objs : List DelObj) (hne : objs ≠ [])
    (hrk : ∀ p ∈ objs, ∀ q ∈ objs, p.refs.contains q.id = true → rank q.id < rank p.id) :
    ∃ p ∈ objs, (objs.any fun x => x.refs.contains p.id) = false := by
  obtain ⟨pm, hpm, hmax⟩ := exists_max_rank rank objs hne
  refine ⟨pm, hpm, Bool.eq_false_iff.2 fun hir => ?_⟩
  obtain ⟨x, hx, hxr⟩ := List.any_eq_true.1 hir
  exact Nat.lt_irrefl _ (Nat.lt_of_lt_of_le (hrk x hx pm hpm hxr) (hmax x hx))

theorem roundLater_length_lt (rank : Ref → Nat) (objs : List DelObj) (hne : objs ≠ [])
    (hrk : ∀ p ∈ objs, ∀ q ∈ objs, p.refs.contains q.id = true → rank q.id < rank p.id) :
    (roundLater objs).length < objs.length := by
  obtain ⟨pm, hpm, hno⟩ := exists_unreferenced rank objs hne hrk
  exact List.length_filter_lt_length_iff_exists.2 ⟨pm, hpm, fun hir => absurd (hno.symm.trans hir) Bool.false_ne_true⟩

theorem delRounds_ne (rank : Ref → Nat) (f : Nat) (objs : List DelObj) (hne : objs ≠ [])
    (hrk : ∀ p ∈ objs, ∀ q ∈ objs, p.refs.contains q.id = true → rank q.id < rank p.id)
    (hl : ∀ p ∈ objs, p.lines ≠ []) : delRounds (f + 1) objs ≠ [] := by
  obtain ⟨pm, hpm, hno⟩ := exists_unreferenced rank objs hne hrk
  have hpn : pm ∈ roundNow objs := List.mem_filter.2 ⟨hpm, by rw [hno]; rfl⟩
  rw [delRounds_succ]
  intro h
  exact hl pm hpm (List.flatMap_eq_nil_iff.1 (List.append_eq_nil_iff.1 h).1 pm hpn)

theorem leftAfter_eq_nil (rank : Ref → Nat) : ∀ (f : Nat) (objs : List DelObj),
    (∀ p ∈ objs, ∀ q ∈ objs, p.refs.contains q.id = true → rank q.id < rank p.id) → objs.length ≤ f →
    leftAfter f objs = []
  | 0, _, _, hf => List.eq_nil_of_length_eq_zero (Nat.le_zero.1 hf)
  | f + 1, objs, hrk, hf => by
    apply leftAfter_eq_nil rank f (roundLater objs) fun p hp q hq => hrk p (roundLater_sub hp) q (roundLater_sub hq)
    cases objs with
    | nil => exact Nat.zero_le f
    | cons o os =>
      exact Nat.le_of_lt_succ (Nat.lt_of_lt_of_le (roundLater_length_lt rank (o :: os) (List.cons_ne_nil _ _) hrk) hf)

/-- C08 with completeness (`graph_cleanup_accepted`): `rank` rules out reference cycles among the pending objects; in
fragment G it is the rank of the kind -/
theorem delRounds_removes (rank : Ref → Nat) : ∀ (f : Nat) (objs : List DelObj) (d : Dev),
    objs.Pairwise (fun p q => p.id ≠ q.id) →
    (∀ p ∈ objs, Shape d p) →
    (∀ p ∈ objs, ∀ x ∈ d.objs, x.refs.contains p.id = true → ∃ q ∈ objs, q.id = x.id ∧ q.refs = x.refs) →
    (∀ p ∈ objs, ∀ q ∈ objs, p.refs.contains q.id = true → rank q.id < rank p.id) →
    objs.length ≤ f →
    ∃ d', execAll d (delRounds f objs) = some d' ∧ (∀ r, (∀ p ∈ objs, p.id ≠ r) → d'.obj r = d.obj r) ∧
      ∀ p ∈ objs, d'.obj p.id = none
  | f, objs, d, hn, hs, hr, hrk, hf => by
    obtain ⟨d', hex, hkeep, hgone⟩ := delRounds_run f objs d ⟨hn, hs, hr⟩
    rw [leftAfter_eq_nil rank f objs hrk hf] at hgone
    exact ⟨d', hex, hkeep, fun p hp => hgone p hp List.not_mem_nil⟩

end NA.Vpn.G
