import NA.Proofs.F1Groups
import NA.Proofs.F1Cases
import NA.Props.AsaAcl
/-!
# F1: `diffASAACLs` with object-groups reduces to the line planner on a merged list

A kept pair whose object-group reference changed is represented as a new-only cell (the target
line, re-added under the new group name) followed by an old-only cell (the device line, deleted);
`NA.Acl.asa_plan_converges` holds for ALL merged lists, hence also for these.
-/
namespace NA.F1
open NA.Acl (Range)

def cellA : MCell → Option Nat | .ins _ => none | .del a => some a | .keep a _ => some a
def cellB : MCell → Option Nat | .ins b => some b | .del _ => none | .keep _ b => some b


def encCell (cells : List MCell) (mkeys : List String) (i : Nat) : NA.Acl.Cell :=
  ⟨{ key := i, mkey := mkeys.idxOf (mkeys.getD i ""), permit := true },
    cellOld (cells.getD i default), cellNew (cells.getD i default)⟩

theorem encodeCells_eq_map (cells : List MCell) (mkeys : List String) :
    encodeCells cells mkeys = (List.range cells.length).map (encCell cells mkeys) := by
  unfold encodeCells
  apply List.map_congr_left
  intro i _
  unfold encCell
  cases cells.getD i default <;> rfl

theorem encodeCells_length (cells : List MCell) (mkeys : List String) :
    (encodeCells cells mkeys).length = cells.length := by
  rw [encodeCells_eq_map]; simp

theorem encodeCells_getD (cells : List MCell) (mkeys : List String) (i : Nat) (hi : i < cells.length) :
    (encodeCells cells mkeys).getD i default = encCell cells mkeys i := by
  rw [encodeCells_eq_map, List.getD_eq_getElem?_getD, List.getElem?_map, List.getElem?_range hi]
  rfl

theorem oldMask_enc (cells : List MCell) (mkeys : List String) {i : Nat} (hi : i < cells.length) :
    (NA.Acl.oldMask (encodeCells cells mkeys)).getD i false = cellOld (cells.getD i default) := by
  rw [NA.Acl.oldMask_getD _ i (by rw [encodeCells_length]; exact hi), encodeCells_getD _ _ i hi]; rfl

theorem newMask_enc (cells : List MCell) (mkeys : List String) {i : Nat} (hi : i < cells.length) :
    (NA.Acl.newMask (encodeCells cells mkeys)).getD i false = cellNew (cells.getD i default) := by
  rw [NA.Acl.newMask_getD _ i (by rw [encodeCells_length]; exact hi), encodeCells_getD _ _ i hi]; rfl

/-- Pairwise different printed texts (without log) among the cells selected by `sel`. -/
def DistinctOn (cells : List MCell) (mkeys : List String) (sel : MCell → Bool) : Prop :=
  ∀ i j, i < cells.length → j < cells.length → sel (cells.getD i default) = true →
    sel (cells.getD j default) = true → mkeys.getD i "" = mkeys.getD j "" → i = j

/-- `p` on the encoded cell is `sel` on the merged cell (`old` and `cellOld`, `new` and `cellNew`). -/
theorem mkeys_nodup_side (cells : List MCell) (mkeys : List String) (hlen : mkeys.length = cells.length)
    (p : NA.Acl.Cell → Bool) (sel : MCell → Bool) (hp : ∀ i, p (encCell cells mkeys i) = sel (cells.getD i default))
    (h : DistinctOn cells mkeys sel) :
    ((((encodeCells cells mkeys).filter p).map (·.line)).map (·.mkey)).Nodup := by
  have hps : (p ∘ encCell cells mkeys) = fun i => sel (cells.getD i default) := funext hp
  rw [encodeCells_eq_map, List.filter_map, List.map_map, List.map_map, hps]
  apply ListFacts.nodup_map_of_inj_on
  · exact List.Nodup.sublist List.filter_sublist List.nodup_range
  · intro x hx y hy hxy
    simp only [List.mem_filter, List.mem_range] at hx hy
    exact h x y hx.1 hy.1 hx.2 hy.2 (ListFacts.idxOf_inj (ListFacts.getD_mem (by omega)) hxy)

theorem lines_with_groups_converge (cells : List MCell) (mkeys : List String)
    (hlen : mkeys.length = cells.length)
    (hold : DistinctOn cells mkeys cellOld) (hnew : DistinctOn cells mkeys cellNew) :
    NA.Acl.asaExec (NA.Acl.olds (encodeCells cells mkeys)) (NA.Acl.planASA (encodeCells cells mkeys))
      = some (NA.Acl.news (encodeCells cells mkeys)) := by
  apply NA.Acl.asa_plan_converges
  · exact mkeys_nodup_side cells mkeys hlen (·.old) cellOld (fun _ => rfl) hold
  · exact mkeys_nodup_side cells mkeys hlen (·.new) cellNew (fun _ => rfl) hnew

theorem ins_cells_proj (lowB k : Nat) :
    ((List.range k).map fun i => MCell.ins (lowB + i)).filterMap cellA = [] ∧
    ((List.range k).map fun i => MCell.ins (lowB + i)).filterMap cellB = List.range' lowB k := by
  constructor
  · rw [List.filterMap_eq_nil_iff]; intro a ha
    obtain ⟨i, _, rfl⟩ := List.mem_map.mp ha; rfl
  · rw [List.filterMap_map, List.range'_eq_map_range]
    exact congrFun List.filterMap_eq_map _

theorem del_cells_proj (lowA k : Nat) :
    ((List.range k).map fun i => MCell.del (lowA + i)).filterMap cellA = List.range' lowA k ∧
    ((List.range k).map fun i => MCell.del (lowA + i)).filterMap cellB = [] := by
  constructor
  · rw [List.filterMap_map, List.range'_eq_map_range]
    exact congrFun List.filterMap_eq_map _
  · rw [List.filterMap_eq_nil_iff]; intro a ha
    obtain ⟨i, _, rfl⟩ := List.mem_map.mp ha; rfl

theorem range'_glue {a h : Nat} (h1 : a ≤ h) : List.range' 0 a ++ List.range' a (h - a) = List.range' 0 h := by
  have := List.range'_append (s := 0) (m := a) (n := h - a) (step := 1)
  rw [Nat.one_mul, Nat.zero_add, Nat.add_sub_cancel' h1] at this
  exact this

theorem range'_snoc (n : Nat) : List.range' 0 n ++ [n] = List.range' 0 (n + 1) := by
  rw [List.range'_concat]; simp

theorem keep_mem_append_ins {acc : List MCell} {ai bi lowB k : Nat}
    (h : MCell.keep ai bi ∈ acc ++ (List.range k).map (fun i => MCell.ins (lowB + i))) : MCell.keep ai bi ∈ acc := by
  rcases List.mem_append.mp h with h | h
  · exact h
  · obtain ⟨i, _, hi⟩ := List.mem_map.mp h
    exact MCell.noConfusion hi

theorem keep_mem_append_del {acc : List MCell} {ai bi lowA k : Nat}
    (h : MCell.keep ai bi ∈ acc ++ (List.range k).map (fun i => MCell.del (lowA + i))) : MCell.keep ai bi ∈ acc := by
  rcases List.mem_append.mp h with h | h
  · exact h
  · obtain ⟨i, _, hi⟩ := List.mem_map.mp h
    exact MCell.noConfusion hi

def KeepBody (al bl : List Line) (cells : List MCell) : Prop :=
  ∀ ai bi, MCell.keep ai bi ∈ cells → (al.getD ai default).body = (bl.getD bi default).body

theorem KeepBody.append {al bl : List Line} {acc ext : List MCell} (h1 : KeepBody al bl acc) (h2 : KeepBody al bl ext) :
    KeepBody al bl (acc ++ ext) := fun ai bi hm => (List.mem_append.mp hm).elim (h1 ai bi) (h2 ai bi)

theorem slice_getD {α : Type} (l : List α) (lo hi i : Nat) (dflt : α) (hi1 : i < hi - lo) :
    (slice l lo hi).getD i dflt = l.getD (lo + i) dflt := by
  unfold slice
  simp only [List.getD_eq_getElem?_getD]
  rw [List.getElem?_take_of_lt hi1, List.getElem?_drop]

theorem getD_map_body (l : List Line) (k : Nat) : (l.map (·.body)).getD k default = (l.getD k default).body := by
  simp only [List.getD_eq_getElem?_getD, List.getElem?_map]
  cases l[k]? <;> rfl

theorem equal_range_bodies (al bl : List Line) (r : Range) (heq : r.isEqual = true)
    (hs : slice (al.map (·.body)) r.lowA r.highA = slice (bl.map (·.body)) r.lowB r.highB)
    (i : Nat) (hi : i < r.highA - r.lowA) :
    (al.getD (r.lowA + i) default).body = (bl.getD (r.lowB + i) default).body := by
  have hlen : r.highB - r.lowB = r.highA - r.lowA := by
    simp only [Range.isEqual, beq_iff_eq] at heq; exact heq
  rw [← getD_map_body, ← getD_map_body, ← slice_getD _ r.lowA r.highA i default hi,
    ← slice_getD _ r.lowB r.highB i default (by rw [hlen]; exact hi), hs]

/-- The cells built so far list the device lines `0 … ia-1` and the target lines `0 … ib-1`, where `(ia, ib)` is
the position at which the rest `rs` of a valid script starts; kept pairs have equal bodies. -/
def CellsAt (al bl : List Line) (rs : List Range) (acc : List MCell) : Prop :=
  ∃ ia ib, scriptOK (al.map (·.body)) (bl.map (·.body)) rs ia ib = true ∧
    acc.filterMap cellA = List.range' 0 ia ∧ acc.filterMap cellB = List.range' 0 ib ∧ KeepBody al bl acc

theorem cellsPhase_cellsAt (e : Env) (al bl : List Line) (rs : List Range) (st : St)
    (h : scriptOK (al.map (·.body)) (bl.map (·.body)) rs 0 0 = true) :
    CellsAt al bl [] (cellsPhase e al bl rs st []).2 := by
  refine cellsPhase_rec e al bl (fun rs _ acc => CellsAt al bl rs acc) ?_ ?_ ?_ ?_ rs st []
    ⟨0, 0, h, rfl, rfl, fun _ _ hm => nomatch hm⟩
  · rintro r rs _ acc hi ⟨ia, ib, hs, pa, pb, kb⟩
    obtain ⟨⟨⟨⟨⟨⟨⟨hla, hlb⟩, _⟩, h2⟩, _⟩, _⟩, _⟩, hrest⟩ := scriptOK_cons hs
    obtain ⟨qa, qb⟩ := ins_cells_proj r.lowB (r.highB - r.lowB)
    refine ⟨_, _, hrest, ?_, ?_, fun ai bi hm => kb ai bi (keep_mem_append_ins hm)⟩
    · rw [List.filterMap_append, qa, List.append_nil, pa, ← (eq_of_beq hi : r.lowA = r.highA), hla]
    · rw [List.filterMap_append, qb, pb, hlb, range'_glue h2]
  · rintro r rs _ acc _ hd ⟨ia, ib, hs, pa, pb, kb⟩
    obtain ⟨⟨⟨⟨⟨⟨⟨hla, hlb⟩, h1⟩, _⟩, _⟩, _⟩, _⟩, hrest⟩ := scriptOK_cons hs
    obtain ⟨qa, qb⟩ := del_cells_proj r.lowA (r.highA - r.lowA)
    refine ⟨_, _, hrest, ?_, ?_, fun ai bi hm => kb ai bi (keep_mem_append_del hm)⟩
    · rw [List.filterMap_append, qa, pa, hla, range'_glue h1]
    · rw [List.filterMap_append, qb, List.append_nil, pb, ← (eq_of_beq hd : r.lowB = r.highB), hlb]
  · rintro r rs st acc hi hd he ⟨ia, ib, hs, pa, pb, kb⟩
    obtain ⟨⟨⟨⟨⟨⟨⟨hla, hlb⟩, h1⟩, h2⟩, _⟩, _⟩, hk⟩, hrest⟩ := scriptOK_cons hs
    subst hla hlb
    have hsl : slice (al.map (·.body)) r.lowA r.highA = slice (bl.map (·.body)) r.lowB r.highB :=
      hk.elim (fun h => h.elim (fun h => absurd h hd) (fun h => absurd h hi)) (·.2)
    have hlen : r.highB - r.lowB = r.highA - r.lowA := eq_of_beq he
    -- after `k` pairs the cells list the lines up to `r.lowA + k` resp. `r.lowB + k`
    have key := equalizeRange_rec e al bl r.lowA r.lowB
      (fun k _ c => c.filterMap cellA = List.range' 0 (r.lowA + k) ∧ c.filterMap cellB = List.range' 0 (r.lowB + k) ∧
        KeepBody al bl c) st acc ⟨pa, pb, kb⟩ (r.highA - r.lowA) (by
      rintro k hk _ c ⟨ca, cb, ck⟩ _ ok _
      cases ok
      · refine ⟨?_, ?_, ck.append fun _ _ hm => by simp at hm⟩ <;>
          simp only [Bool.false_eq_true, if_false, List.filterMap_append, List.filterMap_cons, List.filterMap_nil,
            cellA, cellB, ca, cb, range'_snoc, Nat.add_assoc]
      · refine ⟨?_, ?_, ck.append fun ai bi hm => ?_⟩
        · simp only [if_true, List.filterMap_append, List.filterMap_cons, List.filterMap_nil, cellA, ca, range'_snoc, Nat.add_assoc]
        · simp only [if_true, List.filterMap_append, List.filterMap_cons, List.filterMap_nil, cellB, cb, range'_snoc, Nat.add_assoc]
        · simp only [if_true, List.mem_singleton, MCell.keep.injEq] at hm
          rw [hm.1, hm.2]; exact equal_range_bodies al bl r he hsl k hk)
    refine ⟨_, _, hrest, ?_, ?_, key.2.2⟩
    · rw [key.1, Nat.add_sub_cancel' h1]
    · rw [key.2.1, ← hlen, Nat.add_sub_cancel' h2]
  · rintro r rs _ acc hi hd he ⟨ia, ib, hs, _⟩
    obtain ⟨⟨_, hk⟩, _⟩ := scriptOK_cons hs
    exact absurd (hk.elim (fun h => h.elim (fun h => absurd h hd) (fun h => absurd h hi)) (·.1)) he

/-! Which cell of the plan an operation names is `NA.Acl.planASA_opKind`; here: what kind of merged cell that is. -/

theorem mem_addIdx (cells : List MCell) (mkeys : List String) (j : Nat) (h : j ∈ NA.Acl.addIdx (encodeCells cells mkeys)) :
    j < cells.length ∧ ∃ bi, cells.getD j default = .ins bi := by
  obtain ⟨hj, ho, hn⟩ := (NA.Acl.mem_addIdx _ j).1 h
  rw [encodeCells_length] at hj
  rw [encodeCells_getD cells mkeys j hj, encCell] at ho hn
  refine ⟨hj, ?_⟩
  cases hc : cells.getD j default with
  | ins bi => exact ⟨bi, rfl⟩
  | del ai => rw [hc] at hn; cases hn
  | keep ai bi => rw [hc] at ho; cases ho

theorem mem_delIdx (cells : List MCell) (mkeys : List String) (i : Nat) (h : i ∈ NA.Acl.delIdx (encodeCells cells mkeys)) :
    i < cells.length ∧ ∃ ai, cells.getD i default = .del ai := by
  obtain ⟨hi, ho, hn⟩ := (NA.Acl.mem_delIdx _ i).1 h
  rw [encodeCells_length] at hi
  rw [encodeCells_getD cells mkeys i hi, encCell] at ho hn
  refine ⟨hi, ?_⟩
  cases hc : cells.getD i default with
  | ins bi => rw [hc] at ho; cases ho
  | del ai => exact ⟨ai, rfl⟩
  | keep ai bi => rw [hc] at hn; cases hn

theorem opKind_ins {cells : List MCell} {mk : List String} {j : Nat} (hj : j < cells.length)
    (h : ∃ j', j' ∈ NA.Acl.addIdx (encodeCells cells mk) ∧
      ((encodeCells cells mk).getD j default).line = ((encodeCells cells mk).getD j' default).line) :
    ∃ bi, cells.getD j default = .ins bi := by
  obtain ⟨j', hj', hline⟩ := h
  obtain ⟨hl, hc⟩ := mem_addIdx cells mk j' hj'
  rw [encodeCells_getD cells mk j hj, encodeCells_getD cells mk j' hl] at hline
  obtain rfl : j = j' := congrArg (fun (x : NA.Acl.Line) => x.key) hline
  exact hc

theorem opKind_del {cells : List MCell} {mk : List String} {i : Nat} (hi : i < cells.length)
    (h : ∃ i', i' ∈ NA.Acl.delIdx (encodeCells cells mk) ∧
      ((encodeCells cells mk).getD i default).line = ((encodeCells cells mk).getD i' default).line) :
    ∃ ai, cells.getD i default = .del ai := by
  obtain ⟨i', hi', hline⟩ := h
  obtain ⟨hl, hc⟩ := mem_delIdx cells mk i' hi'
  rw [encodeCells_getD cells mk i hi, encodeCells_getD cells mk i' hl] at hline
  obtain rfl : i = i' := congrArg (fun (x : NA.Acl.Line) => x.key) hline
  exact hc

theorem planASA_allKeep (cells : List MCell) (mkeys : List String) (h : ∀ c ∈ cells, cellKeep c = true) :
    NA.Acl.planASA (encodeCells cells mkeys) = [] := by
  have hcell : ∀ i ∈ List.range (encodeCells cells mkeys).length, ((encodeCells cells mkeys).getD i default).old = true ∧
      ((encodeCells cells mkeys).getD i default).new = true := by
    intro i hi
    have hi : i < cells.length := encodeCells_length cells mkeys ▸ List.mem_range.mp hi
    have hc := h (cells.getD i default) (ListFacts.getD_mem hi)
    rw [encodeCells_getD cells mkeys i hi, encCell]
    cases hcc : cells.getD i default with
    | keep a b => exact ⟨rfl, rfl⟩
    | ins b => rw [hcc] at hc; simp [cellKeep] at hc
    | del a => rw [hcc] at hc; simp [cellKeep] at hc
  have ha : NA.Acl.addIdx (encodeCells cells mkeys) = [] :=
    List.filter_eq_nil_iff.mpr fun i hi => by rw [(hcell i hi).1, (hcell i hi).2]; decide
  have hd : NA.Acl.delIdx (encodeCells cells mkeys) = [] :=
    List.filter_eq_nil_iff.mpr fun i hi => by rw [(hcell i hi).1, (hcell i hi).2]; decide
  unfold NA.Acl.planASA
  simp only [ha, hd, List.reverse_nil, List.foldl_nil]

end NA.F1
