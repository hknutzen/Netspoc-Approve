import NA.Model.VpnGraphDev
import NA.Core.ListFacts
/-!
Frame (C07), device side: which object a command of the change list modifies is determined by the
list alone (`targets`: the mode a sub-command lands in is the one opened by the preceding top-level
command); a strict device that accepts the list leaves every other object as it was.
-/
namespace NA.Vpn.G

/-- the mode after a command (what `exec1` does to `mode`, when it accepts) -/
def modeStep (m : Mode) : Chg → Mode
  | .exit => none
  | .sec false k n h md => if md then some (k, n, h) else none
  | .sec true _ _ _ _ => none
  | .sub _ _ _ _ _ => m
  | .line _ _ => none
  | .pool _ _ _ => none
  | .clear _ _ => none

/-- the object a command defines, changes or removes -/
def targetOf (m : Mode) : Chg → Option Ref
  | .exit => none
  | .sec _ k n _ _ => some (k, n)
  | .sub _ _ _ _ _ => m.map fun x => (x.1, x.2.1)
  | .line n _ => some (.acl, n)
  | .pool _ n _ => some (.pool, n)
  | .clear k n => some (k, n)

def modeAfter : Mode → List Chg → Mode
  | m, [] => m
  | m, c :: cs => modeAfter (modeStep m c) cs

def targets : Mode → List Chg → List Ref
  | _, [] => []
  | m, c :: cs => (targetOf m c).toList ++ targets (modeStep m c) cs

theorem modeAfter_append : ∀ (l1 l2 : List Chg) (m : Mode), modeAfter m (l1 ++ l2) = modeAfter (modeAfter m l1) l2
  | [], _, _ => rfl
  | c :: cs, l2, m => modeAfter_append cs l2 (modeStep m c)

theorem targets_append : ∀ (l1 l2 : List Chg) (m : Mode),
    targets m (l1 ++ l2) = targets m l1 ++ targets (modeAfter m l1) l2
  | [], _, _ => rfl
  | c :: cs, l2, m => by
    simp only [List.cons_append, targets, modeAfter, targets_append cs l2, List.append_assoc]

/-! The three ways `exec1` changes the objects, each with target `r0`; the hypothesis has the form `targetOf` gives it. -/

theorem find?_map_id (g : Obj → Obj) (r : Ref) (hid : ∀ o, (g o).id = o.id) (hfix : ∀ o, o.id = r → g o = o) :
    ∀ objs : List Obj, (objs.map g).find? (fun o => o.id == r) = objs.find? (fun o => o.id == r)
  | [] => rfl
  | o :: os => by
    rw [List.map_cons, List.find?_cons, List.find?_cons, hid, find?_map_id g r hid hfix os]
    cases h : o.id == r with
    | true => rw [hfix o (eq_of_beq h)]
    | false => rfl

theorem obj_modObj (d : Dev) (r0 : Ref) (f : Obj → Obj) (hf : ∀ o, (f o).id = o.id) (r : Ref) (h : some r0 ≠ some r) :
    (d.modObj r0 f).obj r = d.obj r :=
  find?_map_id _ r (fun o => by show (if o.id == r0 then f o else o).id = o.id; split; exact hf o; rfl)
    (fun o e => if_neg fun hb => h (congrArg some ((eq_of_beq hb).symm.trans e))) d.objs

theorem obj_append (d : Dev) (o : Obj) (m : Mode) (r : Ref) (h : some o.id ≠ some r) :
    ({ objs := d.objs ++ [o], mode := m } : Dev).obj r = d.obj r := by
  have : [o].find? (fun x => x.id == r) = none := List.find?_cons_of_neg fun hb => h (congrArg some (eq_of_beq hb))
  show (d.objs ++ [o]).find? _ = _
  rw [List.find?_append, this, Option.or_none]
  rfl

theorem obj_remove (d : Dev) (r0 : Ref) (m : Mode) (r : Ref) (h : some r0 ≠ some r) :
    ({ objs := d.objs.filter fun o => o.id != r0, mode := m } : Dev).obj r = d.obj r :=
  ListFacts.find?_filter_of_imp _ _ d.objs fun o _ e => by
    rw [eq_of_beq e]; exact bne_iff_ne.2 fun e' => h (congrArg some e'.symm)

theorem exec1_exit_iff {d d' : Dev} : exec1 d .exit = some d' ↔ d.mode.isSome = true ∧ { d with mode := none } = d' := by
  simp only [exec1, Option.ite_none_right_eq_some, Option.some.injEq]

/-- Most conditions of `exec1` only refuse: `Option.ite_none_left_eq_some` / `Option.ite_none_right_eq_some` read the
accepted result off `h` without a case split. -/
theorem exec1_frame (d d' : Dev) (c : Chg) (h : exec1 d c = some d') :
    d'.mode = modeStep d.mode c ∧ ∀ r, targetOf d.mode c ≠ some r → d'.obj r = d.obj r := by
  cases c with
  | exit =>
    obtain ⟨_, rfl⟩ := exec1_exit_iff.1 h
    exact ⟨rfl, fun _ _ => rfl⟩
  | sec no k n hd md =>
    cases no with
    | false =>
      cases hdef : defining k hd with
      | true =>
        cases hobj : d.obj (k, n) with
        | none =>
          simp only [exec1, hdef, hobj, if_true, Option.some.injEq] at h
          subst h
          exact ⟨rfl, obj_append d (newSecObj k n hd md) _⟩
        | some o =>
          simp only [exec1, hdef, hobj, if_true, Option.ite_none_left_eq_some] at h
          obtain ⟨_, h⟩ := h
          by_cases hsec : (o.secs.any fun s => s.head == hd) = true
          · rw [if_pos hsec, Option.some.injEq] at h
            subst h
            exact ⟨rfl, fun _ _ => rfl⟩
          · rw [if_neg hsec, Option.ite_none_left_eq_some, Option.some.injEq] at h
            obtain ⟨_, rfl⟩ := h
            exact ⟨rfl, obj_modObj d (k, n) _ fun _ => rfl⟩
      | false =>
        simp only [exec1, hdef, Bool.false_eq_true, if_false, Option.ite_none_left_eq_some, Option.some.injEq] at h
        obtain ⟨_, rfl⟩ := h
        refine ⟨rfl, fun r hr => ?_⟩
        split
        · rfl
        · refine obj_modObj d (k, n) _ ?_ r hr
          exact fun _ => rfl
    | true =>
      simp only [exec1, Option.ite_none_left_eq_some, Option.ite_none_right_eq_some, Option.some.injEq] at h
      obtain ⟨_, _, rfl⟩ := h
      exact ⟨rfl, obj_modObj d (k, n) _ fun _ => rfl⟩
  | sub no t ref key body =>
    cases hm : d.mode with
    | none => cases no <;> simp only [exec1, hm, reduceCtorEq] at h
    | some m =>
      obtain ⟨k, n, hd⟩ := m
      -- added or removed, the sub-command changes the object of the open mode
      cases no <;>
      · simp only [exec1, hm, Option.ite_none_right_eq_some, Option.some.injEq] at h
        obtain ⟨_, rfl⟩ := h
        exact ⟨hm, obj_modObj d (k, n) _ fun _ => rfl⟩
  | line n t =>
    cases hobj : d.obj (.acl, n) with
    | none =>
      simp only [exec1, hobj, Option.some.injEq] at h
      subst h
      exact ⟨rfl, obj_append d (newLeaf .acl n t) _⟩
    | some o =>
      simp only [exec1, hobj, Option.ite_none_left_eq_some, Option.some.injEq] at h
      obtain ⟨_, rfl⟩ := h
      exact ⟨rfl, obj_modObj d (.acl, n) _ fun _ => rfl⟩
  | pool no n c =>
    cases no with
    | false =>
      simp only [exec1, Option.ite_none_left_eq_some, Option.some.injEq] at h
      obtain ⟨_, rfl⟩ := h
      exact ⟨rfl, obj_append d (newLeaf .pool n c) _⟩
    | true =>
      simp only [exec1, Option.ite_none_right_eq_some, Option.some.injEq] at h
      obtain ⟨_, rfl⟩ := h
      exact ⟨rfl, obj_remove d (.pool, n) _⟩
  | clear k n =>
    simp only [exec1, Option.ite_none_right_eq_some, Option.some.injEq] at h
    obtain ⟨_, rfl⟩ := h
    exact ⟨rfl, obj_remove d (k, n) _⟩

theorem execAll_frame : ∀ (l : List Chg) (d d' : Dev), execAll d l = some d' →
    d'.mode = modeAfter d.mode l ∧ ∀ r, r ∉ targets d.mode l → d'.obj r = d.obj r
  | [], d, d', h => by cases h; exact ⟨rfl, fun _ _ => rfl⟩
  | c :: cs, d, d', h => by
    obtain ⟨d1, h1, h2⟩ := Option.bind_eq_some_iff.1 h
    obtain ⟨m1, o1⟩ := exec1_frame d d1 c h1
    obtain ⟨m2, o2⟩ := execAll_frame cs d1 d' h2
    rw [m1] at m2 o2
    refine ⟨m2, fun r hr => ?_⟩
    rw [o2 r fun hm => hr (List.mem_append_right _ hm)]
    exact o1 r fun e => hr (List.mem_append_left _ (Option.mem_toList.2 e))

end NA.Vpn.G
