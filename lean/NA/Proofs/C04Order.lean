import NA.Model.NsxDiff
import NA.Core.ListFacts
/-!
`sortRules` is a sort by a linear order on rule KEYS (attributes, service, and for source / destination either the
text or the sorted address list of the group it names), so two rule lists with the same multiset of keys sort to the
same sequence of keys.  The order is the lexicographic order of a tuple of standard types (`RKey.tuple`), so that
transitivity, totality and "equal in the order is equal" come from core's instances for products.
-/
namespace NA.Nsx

open Std

def leOf {α : Type} (cmp : α → α → Ordering) (a b : α) : Bool := cmp a b != .gt

theorem leOf_isLE {α : Type} (cmp : α → α → Ordering) (a b : α) : leOf cmp a b = (cmp a b).isLE := by
  unfold leOf; cases cmp a b <;> rfl

theorem leOf_total {α : Type} (cmp : α → α → Ordering) [OrientedCmp cmp] (a b : α) (h : leOf cmp a b = false) :
    leOf cmp b a = true := by
  rw [leOf_isLE] at *
  have := OrientedCmp.eq_swap (cmp := cmp) (a := b) (b := a)
  rw [this]
  cases hc : cmp a b <;> simp_all [Ordering.swap, Ordering.isLE]

theorem insertBy_eq {α : Type} (le : α → α → Bool) (x : α) (l : List α) : insertBy le x l = ListFacts.insertBy le x l := by
  induction l with
  | nil => rfl
  | cons y ys ih => rw [insertBy, ListFacts.insertBy, ih]

theorem isort_eq {α : Type} (le : α → α → Bool) (l : List α) : isort le l = ListFacts.isort le l := by
  induction l with
  | nil => rfl
  | cons x xs ih => rw [isort, ListFacts.isort_cons, ih, insertBy_eq]

theorem isort_unique {α : Type} (cmp : α → α → Ordering) [TransCmp cmp] [LawfulEqCmp cmp] {l1 l2 : List α}
    (hp : l1.Perm l2) : isort (leOf cmp) l1 = isort (leOf cmp) l2 := by
  rw [isort_eq, isort_eq]
  refine ListFacts.isort_eq_of_perm (fun a b c h1 h2 => ?_)
    (fun a b => (Bool.eq_false_or_eq_true (leOf cmp a b)).imp_right (leOf_total cmp a b)) (fun a b _ _ h1 h2 => ?_) hp
  · rw [leOf_isLE] at *
    exact TransCmp.isLE_trans h1 h2
  · -- `a ≤ b` and `b ≤ a`: the comparator says `eq`, and it is lawful
    rw [leOf_isLE] at h1 h2
    cases hc : cmp a b with
    | eq => exact LawfulEqCmp.eq_of_compare hc
    | lt => rw [OrientedCmp.gt_iff_lt.mpr hc] at h2; cases h2
    | gt => rw [hc] at h1; cases h1

theorem isort_map {α β : Type} (leA : α → α → Bool) (leB : β → β → Bool) (k : α → β)
    (h : ∀ a b, leA a b = leB (k a) (k b)) (l : List α) : (isort leA l).map k = isort leB (l.map k) := by
  rw [isort_eq, isort_eq]
  exact ListFacts.isort_map leA leB k h l

theorem sortAddrs_eq_of_mem {l1 l2 : List String} (h1 : l1.Nodup) (h2 : l2.Nodup) (h : ∀ x, x ∈ l1 ↔ x ∈ l2) :
    sortAddrs l1 = sortAddrs l2 :=
  isort_unique compare ((List.perm_ext_iff_of_nodup h1 h2).mpr h)

/-- What `sortRules` sees of a source / destination entry: the sorted addresses of the group it
names, or its text. -/
inductive EPKey
  | grp (addrs : List String)
  | lit (s : String)
  deriving DecidableEq, Repr

def epKey (gm : String → Option Group) (p : String) : EPKey :=
  match gm p with
  | some g => .grp g.addrs
  | none => .lit p

theorem epKey_some {gm : String → Option Group} {p : String} {g : Group} (h : gm p = some g) :
    epKey gm p = .grp g.addrs := by rw [epKey, h]

theorem epKey_none {gm : String → Option Group} {p : String} (h : gm p = none) : epKey gm p = .lit p := by
  rw [epKey, h]

structure RKey where
  attrs : Attrs
  service : String
  src : EPKey
  dst : EPKey
  deriving DecidableEq

def ruleKey (gm : String → Option Group) (r : Rule) : RKey := ⟨r.attrs, r.service, epKey gm r.src, epKey gm r.dst⟩

def EPKey.kind : EPKey → Nat
  | .grp _ => 0
  | .lit _ => 1
def EPKey.first : EPKey → String
  | .grp a => a.headD ""
  | .lit s => s
def EPKey.full : EPKey → List String
  | .grp a => a
  | .lit s => [s]

/- Products are compared lexicographically (core's `lexOrd`, with its `TransOrd` and `LawfulEqOrd` instances). -/
attribute [local instance] lexOrd

theorem compare_pair {α β : Type} [Ord α] [Ord β] (a c : α) (b d : β) :
    compare (a, b) (c, d) = (compare a c).then (compare b d) := rfl

/-- What `elementCmp` compares of an entry: known groups first, then the first address resp. the text. -/
def EPKey.first2 (k : EPKey) : Nat × String := (k.kind, k.first)
def EPKey.full2 (k : EPKey) : Nat × List String := (k.kind, k.full)

theorem EPKey.full2_inj {x y : EPKey} (h : EPKey.full2 x = EPKey.full2 y) : x = y := by
  cases x <;> cases y <;> simp_all [EPKey.full2, EPKey.kind, EPKey.full]

/-- first-element comparison of `elementCmp`, on keys -/
def EPKey.cmpFirst (x y : EPKey) : Ordering := compare x.first2 y.first2
/-- tie-breaker `groupCmp`, on keys -/
def EPKey.cmpTie : EPKey → EPKey → Ordering
  | .grp a, .grp b => cmpList a b
  | _, _ => .eq
/-- a total version of the tie-breaker (agrees with `EPKey.cmpTie` whenever `EPKey.cmpFirst` ties) -/
def EPKey.cmpFull (x y : EPKey) : Ordering := compare x.full2 y.full2

theorem cmpList_eq_compare : ∀ (a b : List String), cmpList a b = compare a b
  | [], [] => by simp [cmpList]
  | [], _ :: _ => by simp [cmpList, List.compare_nil_cons]
  | _ :: _, [] => by simp [cmpList, List.compare_cons_nil]
  | x :: xs, y :: ys => by simp [cmpList, List.compare_cons_cons, cmpList_eq_compare xs ys]

theorem boolCmp_eq (a b : Bool) : boolCmp a b = compare (!a) (!b) := by
  cases a <;> cases b <;> decide

theorem elementCmp_key (gm : String → Option Group) (x y : String) :
    elementCmp gm x y = EPKey.cmpFirst (epKey gm x) (epKey gm y) := by
  unfold elementCmp epKey EPKey.cmpFirst EPKey.first2
  cases gm x <;> cases gm y <;> simp [compare_pair, EPKey.kind, EPKey.first, firstAddr, Ordering.then] <;> rfl

theorem groupCmp_key (gm : String → Option Group) (x y : String) :
    groupCmp gm x y = EPKey.cmpTie (epKey gm x) (epKey gm y) := by
  unfold groupCmp epKey EPKey.cmpTie
  cases gm x <;> cases gm y <;> rfl

theorem EPKey.cmpTie_eq_cmpFull {x y : EPKey} (h : EPKey.cmpFirst x y = .eq) : EPKey.cmpTie x y = EPKey.cmpFull x y := by
  unfold EPKey.cmpFirst EPKey.first2 at h
  rw [compare_pair, Ordering.then_eq_eq] at h
  cases x <;> cases y
  · simp [EPKey.cmpTie, EPKey.cmpFull, EPKey.full2, compare_pair, EPKey.kind, EPKey.full, cmpList_eq_compare]
  · simp [EPKey.kind] at h
  · simp [EPKey.kind] at h
  · rename_i s t
    have : s = t := LawfulEqCmp.eq_of_compare (cmp := (compare : String → String → Ordering)) h.2
    subst this
    simp [EPKey.cmpTie, EPKey.cmpFull, EPKey.full2, EPKey.kind, EPKey.full]

theorem tieBreak_total (s1 s2 d1 d2 : EPKey) :
    (EPKey.cmpFirst s1 s2).then ((EPKey.cmpFirst d1 d2).then ((EPKey.cmpTie s1 s2).then (EPKey.cmpTie d1 d2))) =
    (EPKey.cmpFirst s1 s2).then ((EPKey.cmpFirst d1 d2).then ((EPKey.cmpFull s1 s2).then (EPKey.cmpFull d1 d2))) := by
  cases hs : EPKey.cmpFirst s1 s2 with
  | lt => rfl
  | gt => rfl
  | eq =>
    cases hd : EPKey.cmpFirst d1 d2 with
    | lt => rfl
    | gt => rfl
    | eq => rw [EPKey.cmpTie_eq_cmpFull hs, EPKey.cmpTie_eq_cmpFull hd]

/-- The criteria of `sortRules` in their order (`boolCmp` puts `true` first, hence the negations). -/
def RKey.tuple (k : RKey) :=
  (k.attrs.direction, k.attrs.seq, k.attrs.action, !k.attrs.logged, k.attrs.tag, !k.attrs.disabled, !k.attrs.dstExcl,
    !k.attrs.srcExcl, k.attrs.svcEntries, k.attrs.ipProto, k.attrs.profiles, k.attrs.scope, k.service,
    k.src.first2, k.dst.first2, k.src.full2, k.dst.full2)

theorem RKey.tuple_inj {a b : RKey} (h : RKey.tuple a = RKey.tuple b) : a = b := by
  obtain ⟨⟨a1, a2, a3, a4, a5, a6, a7, a8, a9, a10, a11, a12⟩, asv, asrc, adst⟩ := a
  obtain ⟨⟨b1, b2, b3, b4, b5, b6, b7, b8, b9, b10, b11, b12⟩, bsv, bsrc, bdst⟩ := b
  simp only [RKey.tuple, Prod.mk.injEq] at h
  obtain ⟨h1, h2, h3, h4, h5, h6, h7, h8, h9, h10, h11, h12, h13, _, _, h16, h17⟩ := h
  rw [h1, h2, h3, Bool.not_inj h4, h5, Bool.not_inj h6, Bool.not_inj h7, Bool.not_inj h8, h9, h10, h11, h12, h13,
    EPKey.full2_inj h16, EPKey.full2_inj h17]

def cmpT (a b : RKey) : Ordering := compare a.tuple b.tuple

instance : TransCmp cmpT := inferInstanceAs (TransCmp (compareOn RKey.tuple))

instance : LawfulEqCmp cmpT where
  compare_self := ReflCmp.compare_self (cmp := compare)
  eq_of_compare h := RKey.tuple_inj (LawfulEqCmp.eq_of_compare (cmp := compare) h)

/-- The comparator of `sortRules` is that order on the keys: criterion by criterion, the tie-breaker `groupCmp`
being the total `EPKey.cmpFull` wherever it is consulted (`tieBreak_total`). -/
theorem cmpRules_tuple (gm : String → Option Group) (a b : Rule) :
    cmpRules gm a b = cmpT (ruleKey gm a) (ruleKey gm b) := by
  unfold cmpRules cmpT RKey.tuple ruleKey
  simp only [elementCmp_key, groupCmp_key, compare_pair, boolCmp_eq, cmpList_eq_compare, tieBreak_total]
  rfl

theorem sortRules_keys (gmA gmB : String → Option Group) (la lb : List Rule)
    (hp : (la.map (ruleKey gmA)).Perm (lb.map (ruleKey gmB))) :
    (sortRules gmA la).map (ruleKey gmA) = (sortRules gmB lb).map (ruleKey gmB) := by
  have hk : ∀ gm (a b : Rule), (cmpRules gm a b != .gt) = leOf cmpT (ruleKey gm a) (ruleKey gm b) := by
    intro gm a b; rw [cmpRules_tuple]; rfl
  unfold sortRules
  rw [isort_map _ (leOf cmpT) (ruleKey gmA) (hk gmA), isort_map _ (leOf cmpT) (ruleKey gmB) (hk gmB)]
  exact isort_unique cmpT hp

end NA.Nsx
