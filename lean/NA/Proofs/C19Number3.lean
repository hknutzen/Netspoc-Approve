import NA.Proofs.C19Number2
import NA.Proofs.C19Safety
/-! # C19 — numbering: the invariant (`N`: the numbers ever given are bounded by the POLICY file and the link and increase;
ids in range; every policy directory got its number by a recorded `mv`) through one event, on top of the safety layer -/
namespace NA.C19
variable {a b : F2} {g g' : G} {p q : Proc}

theorem N.mono (hN : N g) (hH : g'.hist = g.hist) (hb : max (Rg g) (Lk g) ≤ max (Rg g') (Lk g')) : N g' :=
  ⟨fun x hx => Nat.le_trans (hN.bound x (hH ▸ hx)) hb, hH ▸ hN.incr⟩

theorem N_exec {c : Cmd} (hN : N g) (hΓ : Γ2 a g p) (hreq : req2 c a = true) (hvg : VG g)
    (hq : quiet (exec c g p).1) : N (exec c g p).1 := by
  have dflt : c.wRemote = false → c.wCurrent = false → c.wHist = false → N (exec c g p).1 := fun w1 w2 w3 =>
    hN.mono ((frame c g p).hist w3) (by rw [Rg_exec c w1 hvg.remote, Lk_exec c w2]; exact Nat.le_refl _)
  cases c
  case gitPush =>
    -- what is pushed carries a number that is not below the remote's
    obtain ⟨h, hh, f4, hpol, f1, _, _⟩ := push_form hq.1
    have hR : Rg g ≤ Rg (exec Cmd.gitPush g p).1 := by
      simp only [req2, Bool.or_eq_true, Bool.and_eq_true] at hreq
      have : Rg (exec Cmd.gitPush g p).1 = (polOf g h).getD 0 := by
        simp [Rg, hpol, f1]
      rw [this]
      rcases hreq with hr | ⟨hr1, hr2⟩
      · obtain ⟨_, h', hh', he⟩ := hΓ.hEqR hr
        rw [hh] at hh'; injection hh' with hh'; subst hh'
        simp [Rg, he]
      · obtain ⟨_, h', hh', he⟩ := hΓ.hPol hr1
        rw [hh] at hh'; injection hh' with hh'; subst hh'
        have := (hΓ.polGt hr2).2.1
        simp [he]; omega
    have hL : Lk (exec Cmd.gitPush g p).1 = Lk g := Lk_exec _ rfl
    exact hN.mono ((frame _ g p).hist rfl) (by omega)
  case rmCurrent =>
    -- the link goes: the bound is the remote's number, which `$POLICY` has reached
    simp only [req2, Bool.and_eq_true] at hreq
    obtain ⟨_, hp⟩ := hΓ.pushed hreq.1
    obtain ⟨_, hf⟩ := hΓ.histLe hreq.2
    have hR : Rg (exec Cmd.rmCurrent g p).1 = Rg g := Rg_exec _ rfl hvg.remote
    have hH : (exec Cmd.rmCurrent g p).1.hist = g.hist := (frame _ g p).hist rfl
    exact ⟨fun x hx => by have := hf x (hH ▸ hx); omega, hH ▸ hN.incr⟩
  case lnCurrent =>
    have hR : Rg (exec Cmd.lnCurrent g p).1 = Rg g := Rg_exec _ rfl hvg.remote
    cases hc : g.current with
    | some k =>
      have e : (exec Cmd.lnCurrent g p).1 = g := by simp [exec, hc]
      rw [e]; exact hN
    | none =>
      have e0 : Lk g = 0 := by simp [Lk, hc]
      exact hN.mono ((frame _ g p).hist rfl) (by omega)
  case mvNextTo =>
    simp only [req2, Bool.and_eq_true] at hreq
    obtain ⟨_, hp⟩ := hΓ.pushed hreq.1
    obtain ⟨_, hf⟩ := hΓ.fresh hreq.2
    have hR : Rg (exec Cmd.mvNextTo g p).1 = Rg g := Rg_exec _ rfl hvg.remote
    have hL : Lk (exec Cmd.mvNextTo g p).1 = Lk g := Lk_exec _ rfl
    rcases (frame .mvNextTo g p).histFrom with hH | hH
    · exact hN.mono hH (by omega)
    · -- the new number is above all earlier ones and not above the remote's
      refine ⟨fun x hx => ?_, hH ▸ List.pairwise_cons.mpr ⟨hf, hN.incr⟩⟩
      rcases List.mem_cons.mp (hH ▸ hx) with hx | hx
      · omega
      · have := hN.bound x hx; omega
  all_goals exact dflt rfl rfl rfl

theorem N_commit {good email r : Bool} (hN : N g) : N { applyCommit g good none email with raced := r } := by
  have hR : Rg { applyCommit g good none email with raced := r } = Rg g := by
    simp [Rg, polOf, applyCommit, commitAt_new]
  exact ⟨by rw [hR]; exact hN.bound, hN.incr⟩

theorem N_release {pid : Nat} (hN : N g) : N (release g pid) :=
  release_ind g pid hN fun _ => ⟨hN.bound, hN.incr⟩

theorem hist_exec {c : Cmd} {g : G} {p : Proc} {n : Nat} (h : n ∈ g.hist) : n ∈ (exec c g p).1.hist := by
  rcases (frame c g p).histFrom with e | e <;> rw [e]
  · exact h
  · exact List.mem_cons_of_mem _ h

theorem dh_exec {c : Cmd} {g : G} {p : Proc} (h : DirsInHist g) : DirsInHist (exec c g p).1 := by
  intro n d hd
  rcases dirs_exec hd with ⟨x0, h0, _⟩ | ⟨_, rfl, _, hh⟩
  · exact hist_exec (h n x0 h0)
  · rw [hh]; exact List.mem_cons_self

structure Inv2 (ann : Ann numbering) (s : State) : Prop where
  dh    : DirsInHist s.g
  vg    : VG s.g
  vp    : ∀ p ∈ s.procs, VP s.g p
  n     : quiet s.g → N s.g
  procs : quiet s.g → ∀ p ∈ s.procs, p.alive = true → ∃ b, numbering.at ann p.pc = some b ∧ Γ2 b s.g p

theorem Γ2_entry (g : G) (p : Proc) : Γ2 numbering.entry g p := by
  constructor <;> intro h <;> cases h

theorem VG_release {pid : Nat} (h : VG g) : VG (release g pid) :=
  release_ind g pid h fun _ => ⟨h.remote, h.head⟩

theorem dh_release {pid : Nat} (h : DirsInHist g) : DirsInHist (release g pid) :=
  release_ind g pid h fun _ => h

theorem inv2_init {ann : Ann numbering} (se : Bool) : Inv2 ann (init se) := by
  refine ⟨fun n d h => by simp [init, lookupDir] at h, ⟨by simp [init], fun h hh => by simp [init, G.nextHead] at hh⟩, fun p hp => by simp [init] at hp,
    fun _ => ⟨fun h hh => by simp [init] at hh, by simp [init]⟩, fun _ p hp => by simp [init] at hp⟩

theorem inv2_stepCore {prog : Prog} {ann1 : Ann safety} {ann : Ann numbering}
    (hc1 : check safety prog ann1 = true) (hc : check numbering prog ann = true) {s : State}
    (hinv1 : Inv1 ann1 s) (hinv : Inv2 ann s) (e : Event) : Inv2 ann (stepCore prog s e) := by
  obtain ⟨hdh, hvg, hvp, hn, hprocs⟩ := hinv
  have hq0 : quiet (stepCore prog s e).g → quiet s.g := quiet_stepCore s e
  have hs := core_stepCore prog s e
  generalize stepCore prog s e = s' at hs hq0 ⊢
  have hlen : s.g.store.length ≤ s'.g.store.length :=
    hs.global (I := fun g => s.g.store.length ≤ g.store.length) (Nat.le_refl _)
      (fun _ _ _ _ => by simp [applyCommit])
      (fun pid => release_ind s.g pid (Nat.le_refl _) fun _ => Nat.le_refl _) (fun p i _ _ _ _ _ => len_exec i.cmd)
  have vp_mono : ∀ p, VP s.g p → VP s'.g p := fun p h =>
    ⟨Nat.le_trans h.base hlen, Nat.le_trans h.hash hlen⟩
  refine ⟨?_, ?_, ?_, fun hqu => ?_, fun hqu => ?_⟩
  · exact hs.global hdh (fun _ _ _ _ => hdh) (fun _ => dh_release hdh) (fun _ _ _ _ _ _ _ => dh_exec hdh)
  · refine hs.global hvg (fun _ _ _ _ => ?_) (fun _ => VG_release hvg)
      (fun p _ hf _ _ _ _ => VG_exec hvg (hvp p (findProc_some hf).1))
    exact ⟨by simp [applyCommit], fun h hh => Nat.le_trans (hvg.head h hh) (by simp [applyCommit])⟩
  · -- processes that stay are in range as before; the one that ran a command by `VP_exec_own`
    cases hs with
    | idle => exact hvp
    | commit => exact fun q hq => vp_mono q (hvp q hq)
    | spawn =>
      intro q hq
      rcases List.mem_append.mp hq with hq | hq
      · exact hvp q hq
      · obtain rfl := List.mem_singleton.mp hq; exact ⟨Nat.zero_le _, Nat.zero_le _⟩
    | gone _ p x hf =>
      intro q hq
      rcases mem_replaceProc hq with ⟨rfl, _⟩ | ⟨hq1, _⟩
      · exact vp_mono _ ⟨(hvp p (findProc_some hf).1).base, (hvp p (findProc_some hf).1).hash⟩
      · exact vp_mono q (hvp q hq1)
    | cmd p i hf =>
      intro q hq
      rcases mem_replaceProc hq with ⟨rfl, _⟩ | ⟨hq1, _⟩
      · exact VP_exec_own hvg (hvp p (findProc_some hf).1)
      · exact vp_mono q (hvp q hq1)
  · refine hs.global (I := fun g => quiet g → N g) hn (fun _ pol _ _ hqu => ?_)
      (fun _ hqu => N_release (hn (quiet_release.mp hqu))) (fun p i hf hal hi hne _ hqu => ?_) hqu
    · obtain ⟨hq0, rfl⟩ := quiet_commit (pol := pol) hqu
      exact N_commit (hn hq0)
    · have hq0 := quiet_exec hqu
      obtain ⟨a, ha, hΓ⟩ := hprocs hq0 p (findProc_some hf).1 hal
      exact N_exec (hn hq0) hΓ (check_step hc hi ha).1 hvg hqu
  · have hq0 := hq0 hqu
    refine hs.annotated (D := numbering) (Γ := Γ2) hc Γ2.mono (hprocs hq0) (Γ2_entry _ _)
      (fun _ pol _ hg p hp _ b h => ?_) (fun pid q _ hne b h => h.release hne)
      (fun p hp hal i a hi hne hg ha hΓ hreq => ?_)
      (fun p hp hal i hi q hq hne b h => other2 h hvg (hvp q hq) hne (hinv1.mut_holds hc1 hp hal hi))
    · -- the commit left the database quiet, so it did not touch POLICY
      rw [hg] at hqu ⊢
      obtain ⟨_, rfl⟩ := quiet_commit (pol := pol) hqu
      exact h.commit_raced hvg (hvp p hp)
    · obtain ⟨x, hx⟩ := tf2_total i.cmd a (exec i.cmd s.g p).2.2
      exact ⟨x, hx, (own2 hΓ (hn hq0) hvg (hvp p hp) (hg ▸ hqu) hx).upd⟩

theorem strictlyDecreasing_of_pairwise (l : List Nat) (h : l.Pairwise (· > ·)) : strictlyDecreasing l = true := by
  induction l with
  | nil => rfl
  | cons a l ih =>
    cases l with
    | nil => rfl
    | cons b rest =>
      have h1 := List.pairwise_cons.mp h
      simp only [strictlyDecreasing, Bool.and_eq_true, decide_eq_true_eq]
      exact ⟨h1.1 b List.mem_cons_self, ih h1.2⟩

theorem Inv2.hist_decreasing {ann : Ann numbering} {s : State} (h : Inv2 ann s) (hq : quiet s.g) :
    strictlyDecreasing s.g.hist = true :=
  strictlyDecreasing_of_pairwise _ (h.n hq).incr

theorem Inv2.dying {ann : Ann numbering} {s : State} {d : List Nat} (h : Inv2 ann s) : Inv2 ann { s with dying := d } :=
  ⟨h.dh, h.vg, h.vp, h.n, h.procs⟩

theorem inv2_step {prog : Prog} {ann1 : Ann safety} {ann : Ann numbering} (hinh : inhOK prog = true)
    (hc1 : check safety prog ann1 = true) (hc : check numbering prog ann = true) {s : State}
    (hinv1 : Inv1 ann1 s) (hinv : Inv2 ann s) (e : Event) : Inv2 ann (step prog s e) :=
  (step_lift hinh (P := fun s => Inv1 ann1 s ∧ Inv2 ann s)
    (fun _ e h => ⟨inv1_stepCore hc1 h.1 e, inv2_stepCore hc1 hc h.1 h.2 e⟩)
    (fun _ _ h => ⟨h.1.dying, h.2.dying⟩) s e ⟨hinv1, hinv⟩).2

end NA.C19
