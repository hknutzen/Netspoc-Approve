import NA.Proofs.C04Inv
/-!
The rules of one policy while `stepItems` walks the edit script.  The policy id the rule calls carry is a parameter
`pid` throughout: `diffRules` walks with `{ ctx with pid := a.id }`, and neither `adaptGroup` nor `equalize` reads that
field, so all facts about groups stay facts about `ctx`.
-/

namespace NA.Nsx

/-- A rule on the manager realises a target rule: same attributes (inline service entries up to
white space), same service, and each entry realises the target's entry. -/
def RuleReal (ctx : Ctx) (nod : List (String × String)) (rS rB : Rule) : Prop :=
  compactAttrs rS.attrs = compactAttrs rB.attrs ∧ rS.service = rB.service ∧
  EPreal ctx nod rS.src rB.src ∧ EPreal ctx nod rS.dst rB.dst

theorem RuleReal.mono {ctx : Ctx} {st st' : PSt} (hm : Mono st st') {rS rB : Rule}
    (h : RuleReal ctx st.nod rS rB) : RuleReal ctx st'.nod rS rB := by
  obtain ⟨h1, h2, h3, h4⟩ := h
  exact ⟨h1, h2, EPreal.mono hm h3, EPreal.mono hm h4⟩

/-- How the items of an edit script consume the device rules and the target rules. -/
def Walk (ctx : Ctx) : List Item → List Rule → List Rule → Prop
  | [], a, b => a = [] ∧ b = []
  | .del ra :: its, a, b => ∃ a', a = ra :: a' ∧ Walk ctx its a' b
  | .ins rb :: its, a, b => ∃ b', b = rb :: b' ∧ Walk ctx its a b'
  | .eq ra rb :: its, a, b =>
    ∃ a' b', a = ra :: a' ∧ b = rb :: b' ∧ ruleEqual ctx.gma ctx.gmb ra rb = true ∧ Walk ctx its a' b'

/-- What a target rule may refer to besides groups the target defines. -/
def BRefs (ctx : Ctx) (S : Store) (rb : Rule) : Prop :=
  svcOk S rb.service = true ∧ (ctx.gmb rb.src = none → epOk S rb.src = true) ∧
  (ctx.gmb rb.dst = none → epOk S rb.dst = true)

def AExt (ctx : Ctx) (ra : Rule) : Prop :=
  (ctx.gma ra.src = none → ctx.gmb ra.src = none) ∧ (ctx.gma ra.dst = none → ctx.gmb ra.dst = none)

/-- The rules of policy `pid` during the walk: `D` are the rules dealt with so far (kept, patched or inserted), each
realising its target rule in `BD`; `aRest` / `bRest` are what the script has still to consume.  The manager lists rules
in its own order, so the policy is known up to a permutation only. -/
structure PInv (ctx : Ctx) (pid : String) (G0 : List Group) (S : Store) (st : PSt) (D BD aRest bRest : List Rule) : Prop where
  ginv : GInv ctx G0 S.groups st
  pol : ∃ p, findPolicy S.policies pid = some p ∧ p.rules.Perm (D ++ aRest)
  real : Forall2 (RuleReal ctx st.nod) D BD
  ids : (rids (D ++ aRest) ++ rids bRest).Nodup
  aRefs : ∀ ra ∈ aRest, refsOk S ra = true ∧ AExt ctx ra
  bRefs : ∀ rb ∈ bRest, BRefs ctx S rb

theorem BRefs.congr {ctx : Ctx} {S S' : Store} (hg : S'.groups = S.groups) (hs : S'.services = S.services)
    (rb : Rule) : BRefs ctx S' rb ↔ BRefs ctx S rb := by
  rw [BRefs, BRefs, svcOk_of_services hs, epOk_congr hg, epOk_congr hg]

theorem Ran.brefs {ctx : Ctx} {G0 : List Group} {U : String → Prop} {S S' : Store} {st st' : PSt} {cs : List Call}
    (h : Ran ctx G0 U S st cs S' st') {rb : Rule} (hb : BRefs ctx S rb) : BRefs ctx S' rb :=
  ⟨(h.svcOk _).trans hb.1, fun hn => h.epOk (hb.2.1 hn), fun hn => h.epOk (hb.2.2 hn)⟩

theorem PInv.ran {ctx : Ctx} {pid : String} {G0 : List Group} {U : String → Prop} {S S' : Store} {st st' : PSt} {cs : List Call}
    {D BD a b : List Rule} (h : PInv ctx pid G0 S st D BD a b) (r : Ran ctx G0 U S st cs S' st')
    (hp : S'.policies = S.policies) : PInv ctx pid G0 S' st' D BD a b :=
  { ginv := r.ginv, pol := by rw [hp]; exact h.pol, real := h.real.imp fun _ _ hr => hr.mono r.mono, ids := h.ids,
    aRefs := fun x hx => ⟨r.refsOk (h.aRefs x hx).1, (h.aRefs x hx).2⟩, bRefs := fun x hx => r.brefs (h.bRefs x hx) }

/-- A call on the policy: the caller says what the policy holds now and what is left to do. -/
theorem PInv.call {ctx : Ctx} {pid : String} {G0 : List Group} {S S' : Store} {st : PSt} {D BD a b D' BD' a' b' : List Rule}
    (h : PInv ctx pid G0 S st D BD a b) (hg : S'.groups = S.groups) (hs : S'.services = S.services)
    (pol : ∃ p, findPolicy S'.policies pid = some p ∧ p.rules.Perm (D' ++ a'))
    (real : Forall2 (RuleReal ctx st.nod) D' BD') (ids : (rids (D' ++ a') ++ rids b').Nodup)
    (ha : ∀ r ∈ a', r ∈ a) (hb : ∀ r ∈ b', r ∈ b) : PInv ctx pid G0 S' st D' BD' a' b' :=
  { ginv := hg ▸ h.ginv, pol := pol, real := real, ids := ids,
    aRefs := fun r hr => ⟨(refsOk_congr hg hs r).trans (h.aRefs r (ha r hr)).1, (h.aRefs r (ha r hr)).2⟩,
    bRefs := fun r hr => (BRefs.congr hg hs r).mpr (h.bRefs r (hb r hr)) }

theorem head_not_mem {D R : List Rule} {ra : Rule} (h : (rids (D ++ ra :: R)).Nodup) :
    ra.id ∉ rids D ∧ ra.id ∉ rids R := by
  have h' : (rids D ++ ra.id :: rids R).Nodup := by simpa [rids] using h
  obtain ⟨_, h2, h3⟩ := List.nodup_append.mp h'
  exact ⟨fun hm => h3 _ hm _ List.mem_cons_self rfl, (List.nodup_cons.mp h2).1⟩

theorem filter_head (D R : List Rule) (ra : Rule) (h : (rids (D ++ ra :: R)).Nodup) :
    (D ++ ra :: R).filter (·.id != ra.id) = D ++ R := by
  obtain ⟨hD, hR⟩ := head_not_mem h
  simp only [List.filter_append, List.filter_cons, bne_self_eq_false, Bool.false_eq_true, if_false]
  rw [filter_ne_of_not_mem D _ hD, filter_ne_of_not_mem R _ hR]

theorem map_head (D R : List Rule) (ra : Rule) (f : Rule → Rule) (h : (rids (D ++ ra :: R)).Nodup) :
    (D ++ ra :: R).map (fun x => if x.id == ra.id then f x else x) = D ++ f ra :: R := by
  obtain ⟨hD, hR⟩ := head_not_mem h
  simp only [List.map_append, List.map_cons, beq_self_eq_true, if_true]
  rw [map_if_of_not_mem D _ f hD, map_if_of_not_mem R _ f hR]

theorem mem_rids_head {L D R : List Rule} {ra : Rule} (h : L.Perm (D ++ ra :: R)) : ra.id ∈ rids L := by
  rw [rids, (h.map (·.id)).mem_iff]; simp

theorem step_del {ctx : Ctx} {pid : String} {G0 : List Group} {U : String → Prop} {S : Store} {st : PSt} {D BD a' b : List Rule} {ra : Rule}
    (h : PInv ctx pid G0 S st D BD (ra :: a') b) :
    ∃ S', Ran ctx G0 U S st [.deleteRule pid ra.id] S' st ∧ PInv ctx pid G0 S' st D BD a' b ∧
      ∃ F, S'.policies = setRules S.policies pid F := by
  obtain ⟨p, hp, hrules⟩ := h.pol
  have hnd : (rids (D ++ ra :: a')).Nodup := (List.nodup_append.mp h.ids).1
  let S1 : Store := { S with policies := setRules S.policies pid fun rs => rs.filter (·.id != ra.id) }
  refine ⟨S1, .call h.ginv (exec_of_step (.deleteRule hp (mem_rids_head hrules))) rfl rfl, ?_, _, rfl⟩
  refine h.call (S' := S1) rfl rfl ⟨{ p with rules := p.rules.filter (·.id != ra.id) }, ?_, ?_⟩ h.real ?_
    (fun r hr => List.mem_cons_of_mem _ hr) fun _ hr => hr
  · show findPolicy (setRules S.policies pid _) pid = _
    rw [findPolicy_setRules, hp]; rfl
  · show (p.rules.filter (·.id != ra.id)).Perm _
    rw [← filter_head D a' ra hnd]
    exact hrules.filter _
  · exact ((((List.sublist_cons_self ra a').append_left D).map Rule.id).append_right (rids b)).nodup h.ids

theorem step_ins {ctx : Ctx} {pid : String} {G0 : List Group} {U : String → Prop} (hc : CtxOK ctx G0) {S : Store} {st : PSt}
    {D BD a b' : List Rule} {rb : Rule} (h : PInv ctx pid G0 S st D BD a (rb :: b'))
    (hu : ∀ k, RefsKey rb k → U k) :
    ∃ S' r', Ran ctx G0 U S st (stepItem { ctx with pid := pid } st (.ins rb)).2 S' (stepItem { ctx with pid := pid } st (.ins rb)).1 ∧
      PInv ctx pid G0 S' (stepItem { ctx with pid := pid } st (.ins rb)).1 (r' :: D) (rb :: BD) a b' ∧
      ∃ F, S'.policies = setRules S.policies pid F := by
  obtain ⟨hsvc, hsrc, hdst⟩ := h.bRefs rb List.mem_cons_self
  rcases hA1 : adaptGroup ctx st rb.src with ⟨st1, src, c1⟩
  obtain ⟨S1, r1, hpol1, hreal1, hep1⟩ := adaptGroup_spec hc S hA1 h.ginv hsrc fun k hk => hu k (Or.inl hk)
  rcases hA2 : adaptGroup ctx st1 rb.dst with ⟨st2, dst, c2⟩
  obtain ⟨S2, r2, hpol2, hreal2, hep2⟩ := adaptGroup_spec hc S1 hA2 r1.ginv (fun hn => r1.epOk (hdst hn))
    fun k hk => hu k (Or.inr hk)
  rw [stepItem_ins pid hA1 hA2]
  -- after the group calls the policy is as it was; then the rule is PUT
  have r12 := r1.append r2
  have h2 := h.ran r12 (hpol2.trans hpol1)
  obtain ⟨p, hp2, hrules⟩ := h2.pol
  have hidn : rb.id ∉ rids p.rules := by
    rw [rids, (hrules.map (·.id)).mem_iff]
    intro hm
    exact (List.nodup_append.mp h.ids).2.2 _ hm _ (by simp [rids]) rfl
  have hrefs : refsOk S2 (ruleBody rb src dst) = true :=
    refsOk_iff.mpr ⟨r2.epOk hep1, hep2, (r12.svcOk _).trans hsvc⟩
  let r' : Rule := { ruleBody rb src dst with id := rb.id, rev := 0 }
  let S3 : Store := { S2 with policies := setRules S2.policies pid fun rs => rs ++ [r'] }
  have hS3 : S3.policies = setRules S2.policies pid fun rs => rs ++ [r'] := rfl
  refine ⟨S3, r', r12.append (.call r2.ginv (exec_of_step (.putRule hp2 hidn hrefs)) rfl rfl), ?_,
    _, by rw [hS3, hpol2, hpol1]⟩
  refine h2.call (S' := S3) rfl rfl ⟨{ p with rules := p.rules ++ [r'] }, ?_, ?_⟩
    (.cons ⟨compactAttrs_idem _, rfl, hreal1.mono r2.mono, hreal2⟩ h2.real) ?_ (fun _ hr => hr)
    fun r hr => List.mem_cons_of_mem _ hr
  · rw [hS3, findPolicy_setRules, hp2]; rfl
  · show (p.rules ++ [r']).Perm (r' :: (D ++ a))
    exact (hrules.append_right _).trans (List.perm_append_singleton _ _)
  · have e1 : (rids (r' :: D ++ a) ++ rids b').Perm (rids (D ++ a) ++ rids (rb :: b')) := by
      simp only [rids, List.map_cons, List.map_append, List.cons_append]
      exact List.perm_middle.symm
    exact e1.nodup_iff.mpr h.ids

theorem ruleEqual_facts {gma gmb : String → Option Group} {ra rb : Rule} (h : ruleEqual gma gmb ra rb = true) :
    ra.attrs = rb.attrs ∧ ra.service = rb.service ∧ (gma ra.src = none → ra.src = rb.src) ∧
    (gma ra.dst = none → ra.dst = rb.dst) := by
  unfold ruleEqual at h
  simp only [Bool.and_eq_true, beq_iff_eq] at h
  obtain ⟨⟨⟨h1, h2⟩, h3⟩, h4⟩ := h
  refine ⟨h1, h2, ?_, ?_⟩
  · intro hn; simpa [hn] using h3
  · intro hn; simpa [hn] using h4

theorem step_eq {ctx : Ctx} {pid : String} {G0 : List Group} {U : String → Prop} (hc : CtxOK ctx G0)
    (hdiff : ∀ n m eq, validScript n m eq (ctx.diff n m eq) = true) {S : Store} {st : PSt}
    {D BD a' b' : List Rule} {ra rb : Rule} (h : PInv ctx pid G0 S st D BD (ra :: a') (rb :: b'))
    (heq : ruleEqual ctx.gma ctx.gmb ra rb = true) (habort : (stepItem { ctx with pid := pid } st (.eq ra rb)).1.abort = none)
    (hu : ∀ k, RefsKey rb k → U k) :
    ∃ S' ra', Ran ctx G0 U S st (stepItem { ctx with pid := pid } st (.eq ra rb)).2 S' (stepItem { ctx with pid := pid } st (.eq ra rb)).1 ∧
      PInv ctx pid G0 S' (stepItem { ctx with pid := pid } st (.eq ra rb)).1 (ra' :: D) (rb :: BD) a' b' ∧
      ∃ F, S'.policies = setRules S.policies pid F := by
  obtain ⟨hrefsA, hext⟩ := h.aRefs ra List.mem_cons_self
  obtain ⟨hattrs, hsvcEq, hsrcEq, hdstEq⟩ := ruleEqual_facts heq
  obtain ⟨hAsrc, hAdst, hAsvc⟩ := refsOk_iff.mp hrefsA
  rcases hE1 : equalize ctx st ra.src rb.src with ⟨st1, src, ch1, c1⟩
  rcases hE2 : equalize ctx st1 ra.dst rb.dst with ⟨st2, dst, ch2, c2⟩
  rw [stepItem_eq pid hE1 hE2] at habort ⊢
  obtain ⟨S1, r1, hpol1, hreal1, hsame1, hep1⟩ :=
    equalize_ran hc hdiff S hE1 h.ginv (equalize_abort hE2 habort) hAsrc hext.1 hsrcEq fun k hk => hu k (Or.inl hk)
  obtain ⟨S2, r2, hpol2, hrealD, hsame2, hep2⟩ :=
    equalize_ran hc hdiff S1 hE2 r1.ginv habort (r1.epOk hAdst) hext.2 hdstEq fun k hk => hu k (Or.inr hk)
  have hrealS := hreal1.mono r2.mono
  -- after the group calls the policy is as it was
  have r12 := r1.append r2
  have h2 := h.ran r12 (hpol2.trans hpol1)
  obtain ⟨p, hp2, hrules⟩ := h2.pol
  have hnd : (rids (D ++ ra :: a')).Nodup := (List.nodup_append.mp h.ids).1
  have hidsNew : ∀ r : Rule, r.id = ra.id → (rids (r :: D ++ a') ++ rids b').Nodup := by
    intro r hr
    have e : (rids (r :: D ++ a')).Perm (rids (D ++ ra :: a')) := by
      simp only [rids, List.map_cons, List.map_append, List.cons_append, hr]
      exact List.perm_middle.symm
    exact (e.append_right _).nodup_iff.mpr ((((List.sublist_cons_self rb b').map Rule.id).append_left _).nodup h.ids)
  have hmemA : ∀ r ∈ a', r ∈ ra :: a' := fun r hr => List.mem_cons_of_mem _ hr
  have hmemB : ∀ r ∈ b', r ∈ rb :: b' := fun r hr => List.mem_cons_of_mem _ hr
  cases hch : (ch1 || ch2) with
  | false =>
    -- the rule itself is not touched
    rw [Bool.or_eq_false_iff] at hch
    have e1 : src = ra.src := hsame1 hch.1
    have e2 : dst = ra.dst := hsame2 hch.2
    refine ⟨S2, ra, by simpa using r12, ?_, fun rs => rs, by rw [hpol2, hpol1]; simp [setRules]⟩
    exact h2.call rfl rfl ⟨p, hp2, hrules.trans List.perm_middle⟩
      (.cons ⟨by rw [hattrs], hsvcEq, e1 ▸ hrealS, e2 ▸ hrealD⟩ h2.real) (hidsNew ra rfl) hmemA hmemB
  | true =>
    have hrefs : refsOk S2 (ruleBody ra src dst) = true :=
      refsOk_iff.mpr ⟨r2.epOk hep1, hep2, (r12.svcOk _).trans hAsvc⟩
    let ra' : Rule := { ruleBody ra src dst with id := ra.id, rev := ra.rev + 1 }
    let fp : List Rule → List Rule := fun rs =>
      rs.map (fun x => if x.id == ra.id then { ruleBody ra src dst with id := ra.id, rev := x.rev + 1 } else x)
    let S3 : Store := { S2 with policies := setRules S2.policies pid fp }
    have hS3 : S3.policies = setRules S2.policies pid fp := rfl
    refine ⟨S3, ra', ?_, ?_, _, by rw [hS3, hpol2, hpol1]⟩
    · simp only [if_true]
      exact r12.append (.call r2.ginv (exec_of_step (.patchRule hp2 (mem_rids_head hrules) hrefs)) rfl rfl)
    · refine h2.call (S' := S3) rfl rfl ⟨_, by rw [hS3, findPolicy_setRules, hp2]; rfl, ?_⟩
        (.cons ⟨?_, hsvcEq, hrealS, hrealD⟩ h2.real) (hidsNew ra' rfl) hmemA hmemB
      · show (p.rules.map (fun x => if x.id == ra.id then
          { ruleBody ra src dst with id := ra.id, rev := x.rev + 1 } else x)).Perm _
        refine (hrules.map _).trans ?_
        rw [map_head D a' ra _ hnd]
        exact List.perm_middle
      · show compactAttrs (compactAttrs ra.attrs) = _
        rw [compactAttrs_idem, hattrs]

theorem stepItems_spec {ctx : Ctx} {pid : String} {G0 : List Group} {U : String → Prop} (hc : CtxOK ctx G0)
    (hdiff : ∀ n m eq, validScript n m eq (ctx.diff n m eq) = true) :
    ∀ (items : List Item) (S : Store) (st : PSt) (D BD a b : List Rule),
      Walk ctx items a b → PInv ctx pid G0 S st D BD a b → (∀ rb ∈ b, ∀ k, RefsKey rb k → U k) →
      (stepItems { ctx with pid := pid } st items).1.abort = none →
      ∃ S' D' BD', Ran ctx G0 U S st (stepItems { ctx with pid := pid } st items).2 S' (stepItems { ctx with pid := pid } st items).1 ∧
        PInv ctx pid G0 S' (stepItems { ctx with pid := pid } st items).1 D' BD' [] [] ∧
        BD'.Perm (BD ++ b) ∧ ∃ F, S'.policies = setRules S.policies pid F := by
  intro items
  induction items with
  | nil =>
    intro S st D BD a b hw hinv _ _
    obtain ⟨rfl, rfl⟩ := hw
    exact ⟨S, D, BD, .nil hinv.ginv, hinv, by simp, fun rs => rs, by simp [setRules]⟩
  | cons it rest ih =>
    intro S st D BD a b hw hinv hu habort
    rcases hst : stepItem { ctx with pid := pid } st it with ⟨st1, c1⟩
    rw [stepItems_cons hst] at habort ⊢
    have hab1 : (stepItem { ctx with pid := pid } st it).1.abort = none := by rw [hst]; exact stepItems_abort habort
    -- the first item
    have hstep : ∃ S1 D1 BD1 a1 b1, Ran ctx G0 U S st c1 S1 st1 ∧ Walk ctx rest a1 b1 ∧
        PInv ctx pid G0 S1 st1 D1 BD1 a1 b1 ∧ (BD1 ++ b1).Perm (BD ++ b) ∧
        (∀ rb ∈ b1, ∀ k, RefsKey rb k → U k) ∧ ∃ F, S1.policies = setRules S.policies pid F := by
      have hu' : ∀ {rb b'}, b = rb :: b' → ∀ x ∈ b', ∀ k, RefsKey x k → U k :=
        fun e x hx => hu x (e ▸ List.mem_cons_of_mem _ hx)
      cases it with
      | del ra =>
        obtain ⟨a', rfl, hw'⟩ := hw
        obtain ⟨S1, r1, hinv1, hF⟩ := step_del hinv
        cases hst
        exact ⟨S1, D, BD, a', b, r1, hw', hinv1, List.Perm.refl _, hu, hF⟩
      | ins rb =>
        obtain ⟨b', rfl, hw'⟩ := hw
        obtain ⟨S1, r', r1, hinv1, hF⟩ := step_ins hc hinv (hu rb List.mem_cons_self)
        rw [hst] at r1 hinv1
        exact ⟨S1, r' :: D, rb :: BD, a, b', r1, hw', hinv1, List.perm_middle.symm, hu' rfl, hF⟩
      | eq ra rb =>
        obtain ⟨a', b', rfl, rfl, heq, hw'⟩ := hw
        obtain ⟨S1, ra', r1, hinv1, hF⟩ := step_eq hc hdiff hinv heq hab1 (hu rb List.mem_cons_self)
        rw [hst] at r1 hinv1
        exact ⟨S1, ra' :: D, rb :: BD, a', b', r1, hw', hinv1, List.perm_middle.symm, hu' rfl, hF⟩
    obtain ⟨S1, D1, BD1, a1, b1, r1, hw1, hinv1, hperm1, hu1, F1, hF1⟩ := hstep
    obtain ⟨S', D', BD', r, hinv', hperm, F, hF⟩ := ih S1 st1 D1 BD1 a1 b1 hw1 hinv1 hu1 habort
    exact ⟨S', D', BD', r1.append r, hinv', hperm.trans hperm1, F ∘ F1, by rw [hF, hF1, setRules_comp]⟩

end NA.Nsx
