import NA.Proofs.C05Str
/-!
C05, routes: the script of `diffRoutes` on the strict kernel route table.
Loop invariant `St`: the device table is the disjoint union of `am` (the not yet handled keys of
the device, Go: `aMap`) and `P` (the already handled keys of the target).
-/
namespace NA.C05
open NA.Linux NA.Linux.Spec

/-- The commands of one script line (one packet). -/
def cmdsOf : RLine → List RCmd
  | .add r => [.add r.key]
  | .repl o n => [.del o.key, .add n.key]
  | .del r => [.del r.key]

/-- `Spec.RKey` and the model's `RKey` abbreviate the same type. -/
def keys (l : List Route) : List Spec.RKey := l.map Route.key

def OneHop (l : List Route) : Prop := ∀ r1 ∈ l, ∀ r2 ∈ l, r1.dst = r2.dst → r1.key = r2.key

theorem nodup_keys_cons {r : Route} {l : List Route} : (keys (r :: l)).Nodup ↔ r.key ∉ keys l ∧ (keys l).Nodup :=
  List.nodup_cons

theorem mem_keys_cons {k : Spec.RKey} {r : Route} {l : List Route} : k ∈ keys (r :: l) ↔ k = r.key ∨ k ∈ keys l :=
  List.mem_cons

theorem dstOf_key (r : Route) : dstOf r.key = r.dst := rfl

/-- Not `Spec.St` (the connection states of the rule grammar).  `cov` is what keeps every destination that device and target
both reach routed: its device key is still to be handled, or a handled target key has its destination, or all of the target is
handled.  `cross` is for one hop per destination: no key still to be handled shares its destination with a handled one. -/
structure St (a b : List Route) (T : RTable) (am P : List Spec.RKey) : Prop where
  mem : ∀ k, k ∈ T ↔ k ∈ am ∨ k ∈ P
  disj : ∀ k, k ∈ am → k ∉ P
  sub : ∀ k, k ∈ am → k ∈ keys a
  nodup : T.Nodup
  psub : ∀ k, k ∈ P → k ∈ keys b
  cov : ∀ ka, ka ∈ keys a →
    ka ∈ am ∨ (∃ k, k ∈ P ∧ dstOf k = dstOf ka) ∨ (∀ kb, kb ∈ keys b → kb ∈ P)
  cross : OneHop a → ∀ k ∈ am, ∀ k' ∈ P, dstOf k ≠ dstOf k'

theorem lastWithDst_some {a : List Route} {d : RDst} {r : Route} (h : lastWithDst a d = some r) :
    r ∈ a ∧ r.dst = d := by
  unfold lastWithDst at h
  exact ⟨by simpa using List.mem_of_find?_eq_some h, by simpa using List.find?_some h⟩

theorem lastWithDst_none {a : List Route} {d : RDst} (h : lastWithDst a d = none) :
    ∀ r ∈ a, r.dst ≠ d := by
  unfold lastWithDst at h
  intro r hr
  simpa using List.find?_eq_none.mp h r (by simpa using hr)

theorem mem_filter_ne {k k0 : Spec.RKey} {l : List Spec.RKey} :
    k ∈ l.filter (· ≠ k0) ↔ k ∈ l ∧ k ≠ k0 := by
  simp [List.mem_filter]

theorem execTrace_cons_some {T : RTable} {l : List RCmd} {ls : List (List RCmd)} {tr : List RTable}
    (h : execTrace T (l :: ls) = some tr) :
    ∃ T1 tr', execLine T l = some T1 ∧ execTrace T1 ls = some tr' ∧ tr = T1 :: tr' := by
  simp only [execTrace] at h
  cases hl : execLine T l with
  | none => simp [hl] at h
  | some T1 =>
    simp only [hl] at h
    obtain ⟨tr', hr, rfl⟩ := Option.map_eq_some_iff.mp h
    exact ⟨T1, tr', rfl, hr, rfl⟩

theorem execTrace_append (T : RTable) (l1 l2 : List (List RCmd)) (tr1 : List RTable)
    (h1 : execTrace T l1 = some tr1) :
    execTrace T (l1 ++ l2) = (execTrace (tr1.getLastD T) l2).map (tr1 ++ ·) := by
  induction l1 generalizing T tr1 with
  | nil =>
    cases h1
    exact Option.map_id'.symm
  | cons l ls ih =>
    obtain ⟨T1, tr, hl, hr, rfl⟩ := execTrace_cons_some h1
    simp only [List.cons_append, execTrace, hl, ih T1 tr hr, List.getLastD_cons]
    exact Option.map_map ..

theorem execScript_of_trace (T : RTable) (l : List (List RCmd)) (tr : List RTable)
    (h : execTrace T l = some tr) : execScript T l = some (tr.getLastD T) := by
  induction l generalizing T tr with
  | nil => cases h; rfl
  | cons c cs ih =>
    obtain ⟨T1, tr', hl, hr, rfl⟩ := execTrace_cons_some h
    simp only [execScript, hl, ih T1 tr' hr, List.getLastD_cons]

theorem execLine_append (t : RTable) (a b : List RCmd) :
    execLine t (a ++ b) = (execLine t a).bind (fun t' => execLine t' b) := by
  induction a generalizing t with
  | nil => rfl
  | cons c cs ih =>
    simp only [List.cons_append, execLine]
    cases stepCmd t c with
    | none => rfl
    | some t' => exact ih t'

theorem execScript_flatten (t : RTable) (l : List (List RCmd)) : execScript t l = execLine t l.flatten := by
  induction l generalizing t with
  | nil => rfl
  | cons x xs ih =>
    simp only [execScript, List.flatten_cons, execLine_append]
    cases execLine t x with
    | none => rfl
    | some t' => exact ih t'

theorem stepCmd_nodup {t t' : RTable} {c : RCmd} (h : stepCmd t c = some t') (hn : t.Nodup) : t'.Nodup := by
  cases c with
  | add k =>
    simp only [stepCmd] at h
    split at h
    · cases h
    · next hk => cases h; exact ListFacts.nodup_snoc hn hk
  | del k =>
    simp only [stepCmd] at h
    split at h
    · cases h; exact hn.filter _
    · cases h

theorem loop_keep {a : List Route} {r : Route} {rest : List Route} {am : List Spec.RKey} (hmem : r.key ∈ am) :
    diffRoutesLoop a (r :: rest) am = diffRoutesLoop a rest (am.filter (· ≠ r.key)) := by
  simp only [diffRoutesLoop, if_pos hmem]

theorem loop_add {a : List Route} {r : Route} {rest : List Route} {am : List Spec.RKey}
    (hmem : r.key ∉ am) (h : ∀ r2, lastWithDst a r.dst = some r2 → r2.key ∉ am) :
    diffRoutesLoop a (r :: rest) am =
      (.add r :: (diffRoutesLoop a rest am).1, (diffRoutesLoop a rest am).2) := by
  cases hl : lastWithDst a r.dst with
  | none => simp only [diffRoutesLoop, if_neg hmem, hl]
  | some r2 => simp only [diffRoutesLoop, if_neg hmem, hl, if_neg (h r2 hl)]

theorem loop_repl {a : List Route} {r r2 : Route} {rest : List Route} {am : List Spec.RKey}
    (hmem : r.key ∉ am) (hl : lastWithDst a r.dst = some r2) (h2m : r2.key ∈ am) :
    diffRoutesLoop a (r :: rest) am =
      (.repl r2 r :: (diffRoutesLoop a rest (am.filter (· ≠ r2.key))).1,
       (diffRoutesLoop a rest (am.filter (· ≠ r2.key))).2) := by
  simp only [diffRoutesLoop, if_neg hmem, hl, if_pos h2m]

theorem execTrace_cons {T T' : RTable} {l : List RCmd} {ls : List (List RCmd)} {tr : List RTable}
    (hl : execLine T l = some T') (hr : execTrace T' ls = some tr) : execTrace T (l :: ls) = some (T' :: tr) := by
  simp only [execTrace, hl, hr, Option.map_some]

theorem exec_repl (T : RTable) (k2 k : Spec.RKey) (h2 : k2 ∈ T) (h : k ∉ T.filter (· ≠ k2)) :
    execLine T [.del k2, .add k] = some (T.filter (· ≠ k2) ++ [k]) := by
  simp only [execLine, stepCmd, if_pos h2, if_neg h]

section steps
variable {a b : List Route} {T : RTable} {am P : List Spec.RKey} {r : Route}

theorem mem_snoc_keys (hst : St a b T am P) (hrb : r ∈ b) : ∀ k, k ∈ P ++ [r.key] → k ∈ keys b :=
  List.forall_mem_append.2 ⟨hst.psub, List.forall_mem_singleton.2 (List.mem_map_of_mem hrb)⟩

theorem cov_snoc (hst : St a b T am P) (am' : List Spec.RKey)
    (h : ∀ ka, ka ∈ am → ka ∈ am' ∨ dstOf r.key = dstOf ka) :
    ∀ ka, ka ∈ keys a → ka ∈ am' ∨ (∃ k, k ∈ P ++ [r.key] ∧ dstOf k = dstOf ka) ∨ (∀ kb, kb ∈ keys b → kb ∈ P ++ [r.key]) := by
  intro ka hka
  rcases hst.cov ka hka with h1 | ⟨k, hk, hd⟩ | h1
  · rcases h ka h1 with h2 | h2
    · exact Or.inl h2
    · exact Or.inr (Or.inl ⟨r.key, by simp, h2⟩)
  · exact Or.inr (Or.inl ⟨k, by simp [hk], hd⟩)
  · exact Or.inr (Or.inr fun kb hkb => by simp [h1 kb hkb])

theorem St.am_key_of_dst (hst : St a b T am P) (hone : OneHop a) {k k' : Spec.RKey} (hk : k ∈ am)
    (hk' : k' ∈ keys a) (hd : dstOf k = dstOf k') : k = k' := by
  obtain ⟨ra, hra, rfl⟩ := List.mem_map.mp (hst.sub k hk)
  obtain ⟨r2, hr2, rfl⟩ := List.mem_map.mp hk'
  exact hone ra hra r2 hr2 hd

theorem St.keep (hst : St a b T am P) (hrb : r ∈ b) (hmem : r.key ∈ am) :
    St a b T (am.filter (· ≠ r.key)) (P ++ [r.key]) := by
  refine ⟨?_, ?_, fun k hk => hst.sub k (mem_filter_ne.mp hk).1, hst.nodup, mem_snoc_keys hst hrb,
    cov_snoc hst _ ?_, ?_⟩
  · intro k
    rw [hst.mem k, mem_filter_ne]
    by_cases hk : k = r.key
    · subst hk; simp [hmem]
    · simp [hk]
  · intro k hk
    rw [mem_filter_ne] at hk
    simp [hst.disj k hk.1, hk.2]
  · intro ka h
    by_cases hk : ka = r.key
    · right; rw [hk]
    · left; exact mem_filter_ne.mpr ⟨h, hk⟩
  · intro hone k hk
    rw [mem_filter_ne] at hk
    exact List.forall_mem_append.2 ⟨hst.cross hone k hk.1,
      List.forall_mem_singleton.2 fun hd => hk.2 (hst.am_key_of_dst hone hk.1 (hst.sub _ hmem) hd)⟩

/-- a new route is added; no route of the device that is still to be handled goes to its destination -/
theorem St.add (hst : St a b T am P) (hrb : r ∈ b) (hmem : r.key ∉ am) (hrT : r.key ∉ T)
    (hx : OneHop a → ∀ k ∈ am, dstOf k ≠ dstOf r.key) : St a b (T ++ [r.key]) am (P ++ [r.key]) := by
  refine ⟨?_, ?_, hst.sub, ?_, mem_snoc_keys hst hrb, cov_snoc hst _ (fun _ => Or.inl), ?_⟩
  · intro k; simp [hst.mem k, or_assoc]
  · intro k hk
    simp only [List.mem_append, List.mem_singleton, not_or]
    exact ⟨hst.disj k hk, fun he => hmem (he ▸ hk)⟩
  · exact ListFacts.nodup_snoc hst.nodup hrT
  · exact fun hone k hk => List.forall_mem_append.2 ⟨hst.cross hone k hk, List.forall_mem_singleton.2 (hx hone k hk)⟩

theorem St.repl {r2 : Route} (hst : St a b T am P) (hrb : r ∈ b) (hmem : r.key ∉ am) (hrT : r.key ∉ T)
    (hr2a : r2 ∈ a) (hr2d : r2.dst = r.dst) (h2m : r2.key ∈ am) :
    St a b (T.filter (· ≠ r2.key) ++ [r.key]) (am.filter (· ≠ r2.key)) (P ++ [r.key]) := by
  refine ⟨?_, ?_, fun k hk => hst.sub k (mem_filter_ne.mp hk).1, ?_, mem_snoc_keys hst hrb, cov_snoc hst _ ?_, ?_⟩
  · intro k
    simp only [List.mem_append, List.mem_singleton, mem_filter_ne, hst.mem k]
    by_cases hk : k = r2.key
    · subst hk; simp [hst.disj _ h2m]
    · simp [hk, or_assoc]
  · intro k hk
    rw [mem_filter_ne] at hk
    simp only [List.mem_append, List.mem_singleton, not_or]
    exact ⟨hst.disj k hk.1, fun he => hmem (he ▸ hk.1)⟩
  · exact ListFacts.nodup_snoc (hst.nodup.filter _) fun h => hrT (mem_filter_ne.mp h).1
  · intro ka h
    by_cases hk : ka = r2.key
    · right; rw [hk, dstOf_key, dstOf_key, hr2d]
    · left; exact mem_filter_ne.mpr ⟨h, hk⟩
  · intro hone k hk
    rw [mem_filter_ne] at hk
    exact List.forall_mem_append.2 ⟨hst.cross hone k hk.1, List.forall_mem_singleton.2 fun hd =>
      hk.2 (hst.am_key_of_dst hone hk.1 (List.mem_map_of_mem hr2a) (hd.trans hr2d.symm))⟩

theorem St.del (hst : St a b T am P) (hall : ∀ kb, kb ∈ keys b → kb ∈ P) (hr : r.key ∈ am) :
    St a b (T.filter (· ≠ r.key)) (am.filter (· ≠ r.key)) P := by
  refine ⟨?_, ?_, ?_, hst.nodup.filter _, hst.psub, ?_, ?_⟩
  · intro k
    simp only [mem_filter_ne, hst.mem k]
    by_cases hk : k = r.key
    · subst hk; simp [hst.disj _ hr]
    · simp [hk]
  · intro k hk; exact hst.disj k (mem_filter_ne.mp hk).1
  · intro k hk; exact hst.sub k (mem_filter_ne.mp hk).1
  · intro ka _; right; right; exact hall
  · exact fun hone k hk => hst.cross hone k (mem_filter_ne.mp hk).1

end steps

theorem loop_ok (a b : List Route) : ∀ (rest : List Route) (T : RTable) (am P : List Spec.RKey),
    St a b T am P → (∀ r ∈ rest, r ∈ b) → (keys rest).Nodup → (∀ r ∈ rest, r.key ∉ P) →
    ∃ tr, execTrace T ((diffRoutesLoop a rest am).1.map cmdsOf) = some tr ∧
      St a b (tr.getLastD T) (diffRoutesLoop a rest am).2 (P ++ keys rest) ∧
      ∀ t ∈ tr, ∃ am' P', St a b t am' P' := by
  intro rest
  induction rest with
  | nil =>
    intro T am P hst _ _ _
    exact ⟨[], rfl, by simpa [diffRoutesLoop, keys] using hst, by simp⟩
  | cons r rest ih =>
    intro T am P hst hb hnd hP
    obtain ⟨hrb, hb'⟩ := List.forall_mem_cons.1 hb
    obtain ⟨hrP, hPr⟩ := List.forall_mem_cons.1 hP
    rw [nodup_keys_cons] at hnd
    have hkeys : P ++ keys (r :: rest) = (P ++ [r.key]) ++ keys rest := List.append_cons ..
    have hP' : ∀ r' ∈ rest, r'.key ∉ P ++ [r.key] := by
      intro r' hr'
      simp only [List.mem_append, List.mem_singleton, not_or]
      exact ⟨hPr r' hr', fun he => hnd.1 (he ▸ List.mem_map_of_mem hr')⟩
    -- one line `l` leading from `T` to `T'`, then the rest of the loop from `T'`
    have step : ∀ (l : RLine) (T' : RTable) (am' : List Spec.RKey), St a b T' am' (P ++ [r.key]) →
        execLine T (cmdsOf l) = some T' →
        diffRoutesLoop a (r :: rest) am = (l :: (diffRoutesLoop a rest am').1, (diffRoutesLoop a rest am').2) →
        ∃ tr, execTrace T ((diffRoutesLoop a (r :: rest) am).1.map cmdsOf) = some tr ∧
          St a b (tr.getLastD T) (diffRoutesLoop a (r :: rest) am).2 (P ++ keys (r :: rest)) ∧
          ∀ t ∈ tr, ∃ am' P', St a b t am' P' := by
      intro l T' am' hst' hex heq
      obtain ⟨tr, h1, h2, h3⟩ := ih T' am' _ hst' hb' hnd.2 hP'
      rw [heq, hkeys]
      refine ⟨T' :: tr, execTrace_cons hex h1, ?_, List.forall_mem_cons.2 ⟨⟨_, _, hst'⟩, h3⟩⟩
      rw [List.getLastD_cons]; exact h2
    by_cases hmem : r.key ∈ am
    · -- the route exists: nothing to do
      rw [loop_keep hmem, hkeys]
      exact ih T _ _ (hst.keep hrb hmem) hb' hnd.2 hP'
    · have hrT : r.key ∉ T := by rw [hst.mem]; simp [hmem, hrP]
      by_cases hrep : ∃ r2, lastWithDst a r.dst = some r2 ∧ r2.key ∈ am
      · -- delete the old route to the destination and add the new one in one packet
        obtain ⟨r2, hl, h2m⟩ := hrep
        obtain ⟨hr2a, hr2d⟩ := lastWithDst_some hl
        exact step (.repl r2 r) _ _ (hst.repl hrb hmem hrT hr2a hr2d h2m)
          (exec_repl T _ _ ((hst.mem _).mpr (Or.inl h2m)) (fun h => hrT (mem_filter_ne.mp h).1))
          (loop_repl hmem hl h2m)
      · -- no route to that destination is left to be handled (none at all, or the one there is is kept
        -- by another target route or already replaced)
        have hno : ∀ r2, lastWithDst a r.dst = some r2 → r2.key ∉ am := fun r2 hl h2m => hrep ⟨r2, hl, h2m⟩
        refine step (.add r) _ _ (hst.add hrb hmem hrT ?_)
          (by simp only [cmdsOf, execLine, stepCmd, if_neg hrT]) (loop_add hmem hno)
        intro hone k hk hd
        cases hl : lastWithDst a r.dst with
        | none =>
          obtain ⟨ra, hra, rfl⟩ := List.mem_map.mp (hst.sub k hk)
          exact lastWithDst_none hl ra hra hd
        | some r2 =>
          obtain ⟨hr2a, hr2d⟩ := lastWithDst_some hl
          exact hno r2 hl (hst.am_key_of_dst hone hk (List.mem_map_of_mem hr2a) (hd.trans hr2d.symm) ▸ hk)

theorem dels_ok (a b : List Route) : ∀ (l : List Route) (T : RTable) (am P : List Spec.RKey),
    St a b T am P → (∀ kb, kb ∈ keys b → kb ∈ P) → (keys l).Nodup → (∀ r ∈ l, r.key ∈ am) →
    ∃ tr am'', execTrace T ((l.map RLine.del).map cmdsOf) = some tr ∧
      St a b (tr.getLastD T) am'' P ∧ (∀ k, k ∈ am'' ↔ k ∈ am ∧ k ∉ keys l) ∧
      ∀ t ∈ tr, ∃ am' P', St a b t am' P' := by
  intro l
  induction l with
  | nil =>
    intro T am P hst _ _ _
    exact ⟨[], am, rfl, hst, by simp [keys], by simp⟩
  | cons r l ih =>
    intro T am P hst hall hnd ham
    obtain ⟨hr, hamr⟩ := List.forall_mem_cons.1 ham
    obtain ⟨hrl, hnd'⟩ := nodup_keys_cons.mp hnd
    have hst' := hst.del hall hr
    have ham' : ∀ r' ∈ l, r'.key ∈ am.filter (· ≠ r.key) := by
      intro r' hr'
      exact mem_filter_ne.mpr ⟨hamr r' hr', fun he => hrl (he ▸ List.mem_map_of_mem hr')⟩
    obtain ⟨tr, am'', h1, h2, h3, h4⟩ := ih _ _ _ hst' hall hnd' ham'
    refine ⟨(T.filter (· ≠ r.key)) :: tr, am'', ?_, ?_, ?_, ?_⟩
    · exact execTrace_cons (by simp only [cmdsOf, execLine, stepCmd, if_pos ((hst.mem _).mpr (Or.inl hr))]) h1
    · rw [List.getLastD_cons]; exact h2
    · intro k
      rw [h3 k, mem_filter_ne]
      simp only [mem_keys_cons, not_or]
      exact and_assoc
    · exact List.forall_mem_cons.2 ⟨⟨_, _, hst'⟩, h4⟩

/-- The whole script of `diffRoutesCore` for any order `b'` of the target's routes. -/
theorem core_ok (a b b' : List Route) (ha : (keys a).Nodup) (hb : (keys b').Nodup)
    (hsub : ∀ r, r ∈ b' → r ∈ b) (hkb : ∀ k, k ∈ keys b' ↔ k ∈ keys b) :
    ∃ tr, execTrace (keys a) ((diffRoutesCore a b').map cmdsOf) = some tr ∧
      (tr.getLastD (keys a)).Nodup ∧ (∀ k, k ∈ tr.getLastD (keys a) ↔ k ∈ keys b) ∧
      ∀ t ∈ tr, ∃ am' P', St a b t am' P' := by
  have hst0 : St a b (keys a) (keys a) [] := by
    exact ⟨by simp, by simp, fun _ h => h, ha, by simp, fun _ => Or.inl, by simp⟩
  obtain ⟨tr1, h1, hst1, ht1⟩ := loop_ok a b b' (keys a) (keys a) [] hst0
    hsub hb (by simp)
  obtain ⟨tr2, am'', h2, hst2, ham, ht2⟩ := dels_ok a b (a.filter fun r => r.key ∈ (diffRoutesLoop a b' (keys a)).2) _ _ _
    hst1 (fun kb => (hkb kb).mpr) (ListFacts.nodup_map_filter _ _ ha) (by intro r hr; simpa using (List.mem_filter.mp hr).2)
  have hempty : ∀ k, k ∉ am'' := by
    intro k hk
    obtain ⟨hk1, hk2⟩ := (ham k).mp hk
    obtain ⟨ra, hra, rfl⟩ := List.mem_map.mp (hst1.sub k hk1)
    exact hk2 (List.mem_map_of_mem (List.mem_filter.mpr ⟨hra, decide_eq_true hk1⟩))
  refine ⟨tr1 ++ tr2, ?_, ?_, ?_, ?_⟩
  · show execTrace (keys a) (((diffRoutesLoop a b' (keys a)).1 ++
      (a.filter (fun r => r.key ∈ (diffRoutesLoop a b' (keys a)).2)).map RLine.del).map cmdsOf) = _
    rw [List.map_append, execTrace_append _ _ _ tr1 h1, h2]; rfl
  · rw [getLastD_append]; exact hst2.nodup
  · rw [getLastD_append]
    intro k
    rw [hst2.mem k, ← hkb k]
    exact or_iff_right (hempty k)
  · exact List.forall_mem_append.2 ⟨ht1, ht2⟩

theorem sortRoutes_mem (b : List Route) (r : Route) : r ∈ sortRoutes b ↔ r ∈ b :=
  (isort_perm _ b).mem_iff

theorem sortRoutes_nodup (b : List Route) (h : (keys b).Nodup) : (keys (sortRoutes b)).Nodup :=
  ((isort_perm _ b).map Route.key).nodup_iff.mpr h

theorem dedup_spec (l : List Route) (seen : List Spec.RKey) :
    (keys (dedupRoutes l seen)).Nodup ∧
    (∀ r, r ∈ dedupRoutes l seen → r ∈ l ∧ r.key ∉ seen) ∧
    (∀ r, r ∈ l → r.key ∉ seen → r.key ∈ keys (dedupRoutes l seen)) := by
  fun_induction dedupRoutes l seen with
  | case1 => simp [keys]
  | case2 x xs seen hx ih =>
    obtain ⟨h1, h2, h3⟩ := ih
    exact ⟨h1, fun r hr => ⟨by simp [(h2 r hr).1], (h2 r hr).2⟩, List.forall_mem_cons.2 ⟨fun hns => absurd hx hns, h3⟩⟩
  | case3 x xs seen hx ih =>
    obtain ⟨h1, h2, h3⟩ := ih
    refine ⟨?_, ?_, ?_⟩
    · refine nodup_keys_cons.mpr ⟨?_, h1⟩
      intro hm
      obtain ⟨r, hr, hk⟩ := List.mem_map.mp hm
      exact (h2 r hr).2 (by simp [hk])
    · exact List.forall_mem_cons.2 ⟨⟨by simp, hx⟩, fun r hr' =>
        ⟨by simp [(h2 r hr').1], fun hs => (h2 r hr').2 (by simp [hs])⟩⟩
    · refine List.forall_mem_cons.2 ⟨fun _ => mem_keys_cons.mpr (Or.inl rfl), fun r hr' hns => ?_⟩
      by_cases hk : r.key = x.key
      · exact mem_keys_cons.mpr (Or.inl hk)
      · exact mem_keys_cons.mpr (Or.inr (h3 r hr' (by simp [hk, hns])))

theorem target_spec (b : List Route) :
    (keys (dedupRoutes (sortRoutes b) [])).Nodup ∧
    (∀ r, r ∈ dedupRoutes (sortRoutes b) [] → r ∈ b) ∧
    (∀ k, k ∈ keys (dedupRoutes (sortRoutes b) []) ↔ k ∈ keys b) := by
  obtain ⟨h1, h2, h3⟩ := dedup_spec (sortRoutes b) []
  refine ⟨h1, fun r hr => (sortRoutes_mem b r).mp (h2 r hr).1, ?_⟩
  intro k
  constructor
  · intro hk
    obtain ⟨r, hr, rfl⟩ := List.mem_map.mp hk
    exact List.mem_map_of_mem ((sortRoutes_mem b r).mp (h2 r hr).1)
  · intro hk
    obtain ⟨r, hr, rfl⟩ := List.mem_map.mp hk
    exact h3 r ((sortRoutes_mem b r).mpr hr) (by simp)

/-- **The script of `diffRoutes` on the strict table**: it runs, ends in exactly the target's routes, and
every table on the way satisfies the loop invariant.  The route theorems of C05, C10 and C14 are read off this. -/
theorem diffRoutes_ok (a b : List Route) (ha : (keys a).Nodup) :
    ∃ tr, execTrace (keys a) ((diffRoutes a b).map cmdsOf) = some tr ∧
      (tr.getLastD (keys a)).Nodup ∧ (∀ k, k ∈ tr.getLastD (keys a) ↔ k ∈ keys b) ∧
      ∀ t ∈ tr, ∃ am' P', St a b t am' P' := by
  obtain ⟨hn, hs, hk⟩ := target_spec b
  exact core_ok a b _ ha hn hs hk

theorem diffRoutes_converge (a b : List Route) (ha : (keys a).Nodup) :
    ∃ t, execScript (keys a) ((diffRoutes a b).map cmdsOf) = some t ∧ t.Nodup ∧ ∀ k, k ∈ t ↔ k ∈ keys b := by
  obtain ⟨tr, h1, h2, h3, _⟩ := diffRoutes_ok a b ha
  exact ⟨_, execScript_of_trace _ _ _ h1, h2, h3⟩

theorem loop_same (a : List Route) : ∀ (rest : List Route) (am : List Spec.RKey), (keys rest).Nodup →
    (∀ r ∈ rest, r.key ∈ am) →
    diffRoutesLoop a rest am = ([], am.filter (fun k => k ∉ keys rest)) := by
  intro rest
  induction rest with
  | nil =>
    intro am _ _
    simp only [diffRoutesLoop, keys, List.map_nil, List.not_mem_nil, not_false_eq_true, decide_true]
    congr 1
    exact (List.filter_eq_self.mpr (fun _ _ => rfl)).symm
  | cons r rest ih =>
    intro am hnd hall
    obtain ⟨hr, hallr⟩ := List.forall_mem_cons.1 hall
    rw [nodup_keys_cons] at hnd
    rw [loop_keep hr, ih _ hnd.2 (by
      intro r' hr'
      exact mem_filter_ne.mpr ⟨hallr r' hr', fun e => hnd.1 (e ▸ List.mem_map_of_mem hr')⟩)]
    simp only [List.filter_filter, keys, List.map_cons, List.mem_cons, not_or, Bool.decide_and, ne_eq,
      Bool.and_comm]
    rfl

theorem routes_same_no_change (a b : List Route) (h : ∀ k, k ∈ keys a ↔ k ∈ keys b) : diffRoutes a b = [] := by
  obtain ⟨hn, _, hk⟩ := target_spec b
  unfold diffRoutes diffRoutesCore
  rw [show a.map Route.key = keys a from rfl, loop_same a _ (keys a) hn (by
    intro r hr
    rw [h r.key, ← hk]
    exact List.mem_map_of_mem hr)]
  simp only [List.nil_append, List.map_eq_nil_iff, List.filter_eq_nil_iff, List.mem_filter, decide_eq_true_eq]
  intro r hr hc
  exact hc.2 ((hk r.key).mpr ((h r.key).mp (List.mem_map_of_mem hr)))

theorem St.oneHop {a b : List Route} {T : RTable} {am P : List Spec.RKey} (h : St a b T am P)
    (ha : OneHop a) (hb : OneHop b) : oneHopPerDst T := by
  intro k1 h1 k2 h2 hd
  rw [h.mem] at h1 h2
  rcases h1 with h1 | h1 <;> rcases h2 with h2 | h2
  · exact h.am_key_of_dst ha h1 (h.sub k2 h2) hd
  · exact absurd hd (h.cross ha k1 h1 k2 h2)
  · exact absurd hd.symm (h.cross ha k2 h2 k1 h1)
  · obtain ⟨r1, hr1, rfl⟩ := List.mem_map.mp (h.psub k1 h1)
    obtain ⟨r2, hr2, rfl⟩ := List.mem_map.mp (h.psub k2 h2)
    exact hb r1 hr1 r2 hr2 hd

theorem covered_iff (t : RTable) (d : Str × Int) : covered t d = true ↔ ∃ k, k ∈ t ∧ dstOf k = d := by
  simp only [covered, List.any_eq_true, beq_iff_eq]

/-- For ANY notion of "destination `d` covers address `x`": an address covered by a route of the device
and by a route of the target is covered in every state. -/
theorem St.coversAddr {α : Type} {a b : List Route} {T : RTable} {am P : List Spec.RKey} (h : St a b T am P)
    (cov : Str × Int → α → Bool) (x : α)
    (ha : ∃ ka, ka ∈ keys a ∧ cov (dstOf ka) x = true) (hb : ∃ kb, kb ∈ keys b ∧ cov (dstOf kb) x = true) :
    ∃ k, k ∈ T ∧ cov (dstOf k) x = true := by
  obtain ⟨ka, hka, hca⟩ := ha
  obtain ⟨kb, hkb, hcb⟩ := hb
  rcases h.cov ka hka with h1 | ⟨k, hk, hd⟩ | h1
  · exact ⟨ka, (h.mem ka).mpr (Or.inl h1), hca⟩
  · exact ⟨k, (h.mem k).mpr (Or.inr hk), by rw [hd]; exact hca⟩
  · exact ⟨kb, (h.mem kb).mpr (Or.inr (h1 kb hkb)), hcb⟩

/-- … in particular a destination itself. -/
theorem St.covers {a b : List Route} {T : RTable} {am P : List Spec.RKey} (h : St a b T am P)
    (d : Str × Int) (ha : covered (keys a) d = true) (hb : covered (keys b) d = true) :
    covered T d = true := by
  simp only [covered, List.any_eq_true] at ha hb ⊢
  exact h.coversAddr (· == ·) d ha hb

theorem lineK_of_line (T T' : RTable) (l : RLine) (h : execLine T (cmdsOf l) = some T')
    (hone : oneHopPerDst T') : execLineK T (cmdsOf l) = some T' := by
  have addK : ∀ (U : RTable) (k : Spec.RKey), k ∉ U → oneHopPerDst (U ++ [k]) → covered U (dstOf k) = false := by
    intro U k hk ho
    refine Bool.eq_false_iff.mpr fun hc => ?_
    obtain ⟨k', hk', hd⟩ := (covered_iff U _).mp hc
    exact hk (ho k' (by simp [hk']) k (by simp) hd ▸ hk')
  cases l with
  | add r =>
    simp only [cmdsOf, execLine, stepCmd] at h
    by_cases hk : r.key ∈ T
    · simp [hk] at h
    · simp only [if_neg hk] at h
      cases h
      simp [cmdsOf, execLineK, stepCmdK, addK T r.key hk hone]
  | del r => exact h
  | repl o n =>
    simp only [cmdsOf, execLine, stepCmd] at h
    by_cases hk : o.key ∈ T
    · simp only [if_pos hk] at h
      by_cases hn : n.key ∈ T.filter (· ≠ o.key)
      · simp only [if_pos hn] at h; cases h
      · simp only [if_neg hn] at h
        cases h
        simp only [cmdsOf, execLineK, stepCmdK, if_pos hk, addK _ n.key hn hone]
        simp
    · simp [hk] at h

theorem scriptK_of_trace (T : RTable) (ls : List RLine) (tr : List RTable)
    (h : execTrace T (ls.map cmdsOf) = some tr) (hone : ∀ t ∈ tr, oneHopPerDst t) :
    execScriptK T (ls.map cmdsOf) = some (tr.getLastD T) := by
  induction ls generalizing T tr with
  | nil => cases h; rfl
  | cons l ls ih =>
    obtain ⟨T1, tr', hl, hr, rfl⟩ := execTrace_cons_some h
    obtain ⟨hone1, honer⟩ := List.forall_mem_cons.1 hone
    simp only [List.map_cons, execScriptK, lineK_of_line T T1 l hl hone1, ih T1 tr' hr honer, List.getLastD_cons]

end NA.C05
