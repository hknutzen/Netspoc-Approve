import NA.Proofs.C19Inv
/-!
# C19 — no git command of the script fails unless a user commit races with pull…push

`trouble` (ghost) is set when `git clone`, `git commit`, `git pull --no-rebase` of the script fail
or when a `git push` is rejected while HEAD carries another POLICY file than the remote head.
`raced` (ghost) is set when a user commit lands while some live invocation stands between its
`git pull --no-rebase` and the following `git push`; `edited` when POLICY is rewritten by hand.
Domain `gitd` = numbering × code × one more fact (`synced`: we have pulled, nobody pushed since);
requirements: `git clone` only into an empty fresh `next`; `git commit` only with POLICY staged and
different from HEAD's; `git pull --no-rebase` only when origin/master and the remote head carry the
same POLICY; `git push` either with HEAD's POLICY equal to the remote's or right after the pull.
Theorem: in every history with `raced = false` and `edited = false`, `trouble = false`.
-/
namespace NA.C19

structure F5 where
  n : F2
  k : F4
  synced : Bool

def tfSy (c : Cmd) (a : F5) (ok : Bool) : Bool :=
  match c with
  | .gitPullMerge => ok && a.k.holds
  | .gitPush | .gitClone => false
  | _ => a.synced && !c.wBase && !c.wRemote

/-- `git pull --no-rebase` cannot fail when origin/master and the remote head carry the same
POLICY file (no conflict possible) and next/src has a HEAD. -/
def pullCannotFail (c : Cmd) (a : F5) (ok : Bool) : Bool :=
  c == .gitPullMerge && !ok && a.n.baseR && a.n.hPol

def tf5 (c : Cmd) (a : F5) (ok : Bool) : Option F5 :=
  if pullCannotFail c a ok then none else
  match tf2 c a.n ok, tf4 c a.k ok with
  | some n, some k => some ⟨n, k, tfSy c a ok⟩
  | _, _ => none

def req5 (c : Cmd) (a : F5) : Bool :=
  match c with
  | .gitClone => a.k.nextEmpty
  | .gitCommitPolicy => a.n.sOk && a.n.hEqR && a.n.polGt
  | .gitPullMerge => a.n.baseR && a.n.hPol
  | .gitPush => a.n.hEqR || (a.n.hPol && a.synced)
  | _ => true

def gitd : Dom where
  F := F5
  le a b := numbering.le a.n b.n && code.le a.k b.k && (!b.synced || a.synced)
  meet a b := ⟨numbering.meet a.n b.n, code.meet a.k b.k, a.synced && b.synced⟩
  entry := ⟨numbering.entry, code.entry, false⟩
  tf := tf5
  req := req5

/-- we have pulled and nobody has pushed since: our `git push` will be a fast-forward -/
def Sy (b : Bool) (g : G) (p : Proc) : Prop :=
  b = true → g.lock = some p.pid ∧ p.fetched = true ∧ p.base = g.remote

structure Γ5 (a : F5) (g : G) (p : Proc) : Prop where
  n : Γ2 a.n g p
  k : Γ4 a.k g p
  s : Sy a.synced g p

theorem Γ5.mono {a b : F5} {g : G} {p : Proc} (h : Γ5 a g p) (hle : gitd.le a b = true) : Γ5 b g p := by
  simp only [gitd, Bool.and_eq_true] at hle
  obtain ⟨⟨h1, h2⟩, h3⟩ := hle
  exact ⟨h.n.mono h1, h.k.mono h2, fun hb => h.s (bit_of_le h3 hb)⟩

theorem pull_clean {a : F5} {g : G} {p : Proc} (hΓ : Γ5 a g p) (l1 : a.n.baseR = true) (l2 : a.n.hPol = true) :
    (exec .gitPullMerge g p).2.2 = true ∧ (exec .gitPullMerge g p).1.trouble = g.trouble := by
  obtain ⟨_, hb⟩ := hΓ.n.baseR l1
  obtain ⟨_, h, hh, _⟩ := hΓ.n.hPol l2
  have hb' : (commitAt g.store p.base).pol = (commitAt g.store g.remote).pol := hb
  simp only [exec, hh]
  split
  · exact ⟨rfl, rfl⟩
  · split
    · exact ⟨rfl, by simp⟩
    · split
      · next hc => simp [hb'] at hc
      · exact ⟨rfl, by simp⟩

/-- A git command whose `gitd` requirement is met does not set `trouble`. -/
theorem no_trouble_exec {c : Cmd} {a : F5} {g : G} {p : Proc} (hΓ : Γ5 a g p) (hreq : req5 c a = true) :
    (exec c g p).1.trouble = g.trouble := by
  by_cases hw : c.wGhost = false
  · exact ((frame c g p).ghost hw).1
  · cases c <;> simp [Cmd.wGhost] at hw
    · -- git clone
      obtain ⟨_, d, hn, hh⟩ := hΓ.k.nextEmpty hreq
      simp [exec, hn, hh]
    · -- git commit
      simp only [req5, Bool.and_eq_true] at hreq
      obtain ⟨⟨l3, l4⟩, l5⟩ := hreq
      have hs := hΓ.n.sOk l3
      obtain ⟨_, h, hh, he⟩ := hΓ.n.hEqR l4
      obtain ⟨_, hgt, _⟩ := hΓ.n.polGt l5
      have hne := pol_ne_of_polGt he hgt
      simp [exec, hh, hs, hne]
    · -- git pull --no-rebase
      simp only [req5, Bool.and_eq_true] at hreq
      exact (pull_clean hΓ hreq.1 hreq.2).2
    · -- git push
      simp only [req5, Bool.or_eq_true, Bool.and_eq_true] at hreq
      rcases hreq with l | ⟨l1, l2⟩
      · obtain ⟨_, h, hh, he⟩ := hΓ.n.hEqR l
        have he' : (commitAt g.store h).pol = (commitAt g.store g.remote).pol := he
        simp only [exec, hh]
        split
        · rfl
        · simp [he']
      · obtain ⟨_, h, hh, _⟩ := hΓ.n.hPol l1
        obtain ⟨_, _, hb⟩ := hΓ.s l2
        simp [exec, hh, hb]
    · -- git revert
      simp only [exec]
      (repeat' split) <;> simp

theorem ownSy {c : Cmd} {a : F5} {g : G} {p : Proc} (hΓ : Γ5 a g p) :
    Sy (tfSy c a (exec c g p).2.2) (exec c g p).1 (exec c g p).2.1 := by
  by_cases c1 : c = .gitPullMerge
  · subst c1
    intro hf
    simp [tfSy] at hf
    refine ⟨exec_lock_own (hΓ.k.holds hf.2), ?_⟩
    have hok := hf.1
    revert hok
    simp only [exec]
    (repeat' split) <;> simp_all
  by_cases c2 : c = .gitPush
  · subst c2; intro hf; cases hf
  by_cases c3 : c = .gitClone
  · subst c3; intro hf; cases hf
  · intro hf
    have hx : tfSy c a (exec c g p).2.2 = (a.synced && !c.wBase && !c.wRemote) := by
      cases c <;> first | rfl | exact absurd rfl c1 | exact absurd rfl c2 | exact absurd rfl c3
    rw [hx] at hf
    simp only [Bool.and_eq_true, Bool.not_eq_true'] at hf
    obtain ⟨⟨h1, h2⟩, h3⟩ := hf
    obtain ⟨hL, hfe, hb⟩ := hΓ.s h1
    refine ⟨exec_lock_own hL, ?_, ?_⟩
    · rw [(frame c g p).fetched h2]; exact hfe
    · rw [(frame c g p).base h2, (frame c g p).remote h3]; exact hb

theorem Sy.vacuous {b : Bool} {g g' : G} {q : Proc} {pid : Nat} (h : Sy b g q) (hl : g.lock = some pid)
    (hne : q.pid ≠ pid) : Sy b g' q :=
  fun hb => (not_holder hl hne (h hb).1).elim

theorem Sy.release {b : Bool} {g : G} {q : Proc} {pid : Nat} (h : Sy b g q) (hne : q.pid ≠ pid) :
    Sy b (release g pid) q :=
  release_ind g pid h fun hl => h.vacuous hl hne

theorem otherSy {c : Cmd} {b : Bool} {g : G} {p q : Proc} (h : Sy b g q) (hne : q.pid ≠ p.pid)
    (hmut : c.mutating = true → g.lock = some p.pid) : Sy b (exec c g p).1 q := by
  cases hm : c.mutating
  · obtain ⟨_, w2, _, _, _⟩ := nonmut_writes hm
    intro hb
    obtain ⟨hL, hf, hbase⟩ := h hb
    exact ⟨exec_lock_other hL, hf, by rw [(frame c g p).remote w2]; exact hbase⟩
  · exact h.vacuous (hmut hm) hne

/-- The guard of the git layer, on the schedule and the users' input only: no user commit has raced with a
pull…push, nobody has rewritten POLICY. -/
def Qs (s : State) : Prop := s.g.raced = false ∧ s.g.edited = false

structure Inv5 (ann : Ann gitd) (s : State) : Prop where
  noTrouble : s.g.trouble = false
  procs : ∀ p ∈ s.procs, p.alive = true → ∃ a, gitd.at ann p.pc = some a ∧ Γ5 a s.g p

theorem pullCannotFail_false {c : Cmd} {a : F5} {g : G} {p : Proc} (hΓ : Γ5 a g p) :
    pullCannotFail c a (exec c g p).2.2 = false := by
  cases hpc : pullCannotFail c a (exec c g p).2.2 with
  | false => rfl
  | true =>
    exfalso
    simp only [pullCannotFail, Bool.and_eq_true, beq_iff_eq] at hpc
    obtain ⟨⟨⟨hc, hok⟩, l1⟩, l2⟩ := hpc
    subst hc
    rw [(pull_clean hΓ l1 l2).1] at hok; cases hok

theorem tf5_feasible {c : Cmd} {a : F5} {g : G} {p : Proc} (hΓ : Γ5 a g p) :
    ∃ x, tf5 c a (exec c g p).2.2 = some x := by
  obtain ⟨xn, hxn⟩ := tf2_total c a.n (exec c g p).2.2
  obtain ⟨xk, hxk⟩ := tf4_feasible (c := c) hΓ.k
  exact ⟨⟨xn, xk, tfSy c a (exec c g p).2.2⟩, by simp [tf5, pullCannotFail_false hΓ, hxn, hxk]⟩

theorem tf5_some {c : Cmd} {a x : F5} {ok : Bool} (h : tf5 c a ok = some x) :
    tf2 c a.n ok = some x.n ∧ tf4 c a.k ok = some x.k ∧ x.synced = tfSy c a ok := by
  unfold tf5 at h
  split at h
  · cases h
  · split at h
    · next hn hk => cases h; exact ⟨hn, hk, rfl⟩
    · cases h

theorem not_pending {ps : List Proc} (h : pushPending ps = false) {p : Proc} (hp : p ∈ ps) (ha : p.alive = true) :
    p.fetched = false := by
  simp only [pushPending, List.any_eq_false] at h
  simpa [ha] using h p hp

theorem Γ5_entry (g : G) (p : Proc) : Γ5 gitd.entry g p :=
  ⟨Γ2_entry g p, Γ4_entry g p, fun h => nomatch h⟩

theorem inv5_stepCore {prog : Prog} {ann1 : Ann safety} {ann2 : Ann numbering} {ann4 : Ann code} {ann : Ann gitd}
    (hc1 : check safety prog ann1 = true) (hc : check gitd prog ann = true) {s : State}
    (h1 : Inv1 ann1 s) (h2 : Inv2 ann2 s) (h4 : Inv4 ann4 s) (h5 : Qs s → Inv5 ann s) (e : Event)
    (hq' : Qs (stepCore prog s e)) : Inv5 ann (stepCore prog s e) := by
  have hs := core_stepCore prog s e
  have hq : Qs s := ⟨hs.ghosts.2.2 hq'.1, hs.ghosts.2.1 hq'.2⟩
  obtain ⟨hnt, hprocs⟩ := h5 hq
  have hvg := h2.vg
  have htr : ∀ p ∈ s.procs, p.alive = true → ∀ i, instrAt prog p.pc = some i → (exec i.cmd s.g p).1.trouble = false := by
    intro p hp hal i hi
    obtain ⟨a, ha, hΓ⟩ := hprocs p hp hal
    rw [no_trouble_exec hΓ (check_step hc hi ha).1]; exact hnt
  refine ⟨hs.global (I := fun g => g.trouble = false) hnt (fun _ _ _ _ => hnt)
      (fun pid => release_ind s.g pid hnt fun _ => hnt) (fun p i hf hal hi _ _ => htr p (findProc_some hf).1 hal i hi), ?_⟩
  refine hs.annotated (D := gitd) (Γ := Γ5) hc Γ5.mono hprocs (Γ5_entry _ _)
    (fun _ pol _ hg p hp ha b h => ?_)
    (fun pid q _ hne b h => ⟨h.n.release hne, h.k.release hne, h.s.release hne⟩)
    (fun p hp hal i a hi hne hg ha hΓ hreq => ?_)
    (fun p hp hal i hi q hq hne b h =>
      have hmut := h1.mut_holds hc1 hp hal hi
      ⟨other2 h.n hvg (h2.vp q hq) hne hmut, other4 h.k hvg (h2.vp q hq) hne hmut, otherSy h.s hne hmut⟩)
  · -- a user commit: it does not touch POLICY, and nobody stands between pull and push
    obtain ⟨hr, hed⟩ := hq'
    rw [hg] at hr hed ⊢
    have hpend : pushPending s.procs = false := (Bool.or_eq_false_iff.mp hr).2
    obtain rfl : pol = none := by
      have : (s.g.edited || pol.isSome) = false := hed
      cases pol <;> simp_all
    refine ⟨h.n.commit_raced hvg (h2.vp p hp), h.k.grow hvg (h2.vp p hp) id rfl ⟨_, rfl⟩, fun hb => ?_⟩
    have := (h.s hb).2.1
    rw [not_pending hpend hp ha] at this; cases this
  · have hqg : quiet (exec i.cmd s.g p).1 := ⟨htr p hp hal i hi, hg ▸ hq'.2⟩
    obtain ⟨x, hx⟩ := tf5_feasible (c := i.cmd) hΓ
    obtain ⟨hxn, hxk, hxs⟩ := tf5_some hx
    exact ⟨x, hx, (own2 hΓ.n (h2.n ⟨hnt, hq.2⟩) hvg (h2.vp p hp) hqg hxn).upd,
      (own4 hΓ.k hvg (h2.vp p hp) h4.gi.hpos hxk).upd, hxs ▸ ownSy hΓ⟩

section
variable {prog : Prog} {a1 : Ann safety} {a2 : Ann numbering} {a4 : Ann code} {ann : Ann gitd} {s : State}

/-- The git layer on top of `Inv` (its guard `Qs` is why it is not a field of `Inv`). -/
theorem inv5_step (C : Checked prog a1 a2 a4) (hc : check gitd prog ann = true) (h : Inv a1 a2 a4 s ∧ (Qs s → Inv5 ann s)) (e : Event) :
    Inv a1 a2 a4 (step prog s e) ∧ (Qs (step prog s e) → Inv5 ann (step prog s e)) := by
  refine ⟨inv_step C h.1 e, ?_⟩
  have core : ∀ {s : State} (e : Event), Inv a1 a2 a4 s → (Qs s → Inv5 ann s) → Qs (stepCore prog s e) → Inv5 ann (stepCore prog s e) :=
    fun e h h5 => inv5_stepCore C.c1 hc h.i1 h.i2 h.i4 h5 e
  rcases step_cases C.inh s e with ⟨e', he, _⟩ | ⟨pid, p, _, _, he⟩ | ⟨pid, _, he⟩ <;> rw [he]
  · exact core _ h.1 h.2
  · exact fun hq => ⟨(h.2 hq).noTrouble, (h.2 hq).procs⟩
  · have h' := inv_stepCore C h.1 (.step pid)
    exact core _ (h'.setDying fun x hx => h'.dying x (List.mem_filter.mp hx).1)
      fun hq => ⟨(core _ h.1 h.2 hq).noTrouble, (core _ h.1 h.2 hq).procs⟩

theorem no_trouble_of_race_free (C : Checked prog a1 a2 a4) (hc : check gitd prog ann = true) (se : Bool) (es : List Event)
    (hr : (run prog se es).g.raced = false) (he : (run prog se es).g.edited = false) : (run prog se es).g.trouble = false :=
  ((ListFacts.foldl_inv (l := es) (P := fun s => Inv a1 a2 a4 s ∧ (Qs s → Inv5 ann s)) (fun e _ _ h => inv5_step C hc h e)
    ⟨inv_init se, fun _ => ⟨rfl, fun _ hp => nomatch hp⟩⟩).2 ⟨hr, he⟩).noTrouble

end

end NA.C19
