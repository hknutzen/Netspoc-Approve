import NA.Proofs.F2Sem
/-!
# F2: `AclEqv` (block equivalence on the numeric encoding) implies the table-free `BlockEquivA`
-/
namespace NA.F2
open NA.ListFacts
open NA.IosDev2
open NA.Acl (Line BlockEqG LineEqv swappable Act)

def stepN (l : Line) (T : List (Bool × List Nat)) : List (Bool × List Nat) :=
  if l.remark then T else
  match T with
  | (p, ks) :: rest => if p == l.permit then (p, l.mkey :: ks) :: rest else (l.permit, [l.mkey]) :: (p, ks) :: rest
  | [] => [(l.permit, [l.mkey])]

def blockListN : List Line → List (Bool × List Nat)
  | [] => []
  | l :: ls => stepN l (blockListN ls)

inductive BlocksPermN : List (Bool × List Nat) → List (Bool × List Nat) → Prop
  | nil : BlocksPermN [] []
  | cons (p : Bool) {ks ks' : List Nat} {r r' : List (Bool × List Nat)} :
      ks.Perm ks' → BlocksPermN r r' → BlocksPermN ((p, ks) :: r) ((p, ks') :: r')

theorem BlocksPermN.refl (l : List (Bool × List Nat)) : BlocksPermN l l := by
  induction l with
  | nil => exact .nil
  | cons x xs ih => obtain ⟨p, ks⟩ := x; exact .cons p (List.Perm.refl _) ih

theorem BlocksPermN.trans {a b c : List (Bool × List Nat)} (h1 : BlocksPermN a b) (h2 : BlocksPermN b c) :
    BlocksPermN a c := by
  induction h1 generalizing c with
  | nil => exact h2
  | cons p hp _ ih =>
    cases h2 with
    | cons _ hp' hr' => exact .cons p (hp.trans hp') (ih hr')

theorem stepN_perm (l : Line) {U V : List (Bool × List Nat)} (h : BlocksPermN U V) :
    BlocksPermN (stepN l U) (stepN l V) := by
  unfold stepN
  cases l.remark with
  | true => simpa using h
  | false =>
    cases h with
    | nil => exact BlocksPermN.refl _
    | cons p hp hr =>
      by_cases hq : p == l.permit
      · simp only [hq, ↓reduceIte]
        exact .cons p (List.Perm.cons _ hp) hr
      · simp only [hq, Bool.false_eq_true, ↓reduceIte]
        exact .cons _ (List.Perm.refl _) (.cons p hp hr)

theorem blocksN_prefix (s : List Line) {u v : List Line} (h : BlocksPermN (blockListN u) (blockListN v)) :
    BlocksPermN (blockListN (s ++ u)) (blockListN (s ++ v)) := by
  induction s with
  | nil => exact h
  | cons l s ih => exact stepN_perm l ih

theorem blocksN_swap (a b : Line) (s2 : List Line) (h : swappable a b) :
    BlocksPermN (blockListN (a :: b :: s2)) (blockListN (b :: a :: s2)) := by
  simp only [blockListN, stepN]
  cases ha : a.remark with
  | true =>
    cases hb : b.remark <;> simp only [Bool.false_eq_true, ↓reduceIte] <;> exact BlocksPermN.refl _
  | false =>
    cases hb : b.remark with
    | true => exact BlocksPermN.refl _
    | false =>
      have hp : a.permit = b.permit := by
        rcases h with h | h | h
        · rw [ha] at h; cases h
        · rw [hb] at h; cases h
        · exact h
      simp only [Bool.false_eq_true, ↓reduceIte]
      cases hT : blockListN s2 with
      | nil =>
        simp only [hp, beq_self_eq_true, ↓reduceIte]
        exact .cons _ (List.Perm.swap _ _ _) .nil
      | cons t rest =>
        obtain ⟨q, ks⟩ := t
        by_cases hq : q == b.permit
        · simp only [hq, ↓reduceIte, hp]
          exact .cons _ (List.Perm.swap _ _ _) (BlocksPermN.refl _)
        · simp only [hq, Bool.false_eq_true, ↓reduceIte, hp, beq_self_eq_true]
          exact .cons _ (List.Perm.swap _ _ _) (BlocksPermN.refl _)

theorem blocksN_repl (a b : Line) (s2 : List Line) (h : LineEqv a b) :
    blockListN (a :: s2) = blockListN (b :: s2) := by
  obtain ⟨h1, h2, h3, _⟩ := h
  simp only [blockListN, stepN, h1, h2, h3]

theorem blockEqG_blocksN {x y : List Line} (h : BlockEqG LineEqv x y) : BlocksPermN (blockListN x) (blockListN y) := by
  induction h with
  | refl x => exact BlocksPermN.refl _
  | swap s1 s2 a b h => exact blocksN_prefix s1 (blocksN_swap a b s2 h)
  | repl s1 s2 a b h => exact blocksN_prefix s1 (by rw [blocksN_repl a b s2 h]; exact BlocksPermN.refl _)
  | trans _ _ ih1 ih2 => exact ih1.trans ih2

def encBlock (mk : List String) (p : Act × List String) : Bool × List Nat := (p.1 == .permit, p.2.map (mk.idxOf ·))

theorem blockList_blocks (x : List ALine) :
    ∀ p ∈ blockList x, p.1 ≠ .remark ∧ ∀ k ∈ p.2, ∃ l ∈ x, l.nolog = k := by
  induction x with
  | nil => intro p hp; cases hp
  | cons l ls ih =>
    have old : ∀ p ∈ blockList ls, p.1 ≠ .remark ∧ ∀ k ∈ p.2, ∃ l' ∈ l :: ls, l'.nolog = k := fun p hp =>
      ⟨(ih p hp).1, fun k hk => let ⟨l', h1, h2⟩ := (ih p hp).2 k hk; ⟨l', List.mem_cons_of_mem _ h1, h2⟩⟩
    have self : ∀ k ∈ [l.nolog], ∃ l' ∈ l :: ls, l'.nolog = k := fun k hk =>
      ⟨l, List.mem_cons_self .., (List.mem_singleton.mp hk).symm⟩
    intro p hp
    simp only [blockList] at hp
    split at hp
    · exact old p hp
    · rename_i hr
      have hl : l.act ≠ .remark := by simpa using hr
      split at hp
      · rename_i a ks rest hT
        rw [hT] at old
        split at hp
        · rcases List.mem_cons.mp hp with rfl | hp'
          · have hold := old (a, ks) (List.mem_cons_self ..)
            refine ⟨hold.1, fun k hk => ?_⟩
            rcases List.mem_cons.mp hk with rfl | hk'
            · exact self _ (List.mem_singleton_self _)
            · exact hold.2 k hk'
          · exact old p (List.mem_cons_of_mem _ hp')
        · exact List.forall_mem_cons.mpr ⟨⟨hl, self⟩, old⟩ p hp
      · rw [List.mem_singleton.mp hp]; exact ⟨hl, self⟩

theorem act_test {a b : Act} (ha : a ≠ .remark) (hb : b ≠ .remark) : ((a == Act.permit) == (b == Act.permit)) = (a == b) := by
  cases a <;> cases b <;> first | rfl | exact absurd rfl ha | exact absurd rfl hb

theorem blockListN_enc (tk mk : List String) (x : List ALine) :
    blockListN (x.map (encLine tk mk)) = (blockList x).map (encBlock mk) := by
  induction x with
  | nil => rfl
  | cons l ls ih =>
    simp only [List.map_cons, blockListN, stepN, blockList, ih]
    by_cases hr : l.act == Act.remark
    · simp [encLine, hr]
    · have hl : l.act ≠ .remark := by simpa using hr
      simp only [encLine, hr, Bool.false_eq_true, ↓reduceIte]
      cases hT : blockList ls with
      | nil => simp [encBlock]
      | cons t rest =>
        obtain ⟨a, ks⟩ := t
        have ha : a ≠ .remark := (blockList_blocks ls (a, ks) (by rw [hT]; exact List.mem_cons_self ..)).1
        simp only [List.map_cons, encBlock, act_test ha hl]
        by_cases hq : a == l.act
        · simp [hq, encBlock]
        · simp [hq, encBlock]

theorem BlocksPermN_cons_inv {p p' : Bool} {ks ks' : List Nat} {r r' : List (Bool × List Nat)}
    (h : BlocksPermN ((p, ks) :: r) ((p', ks') :: r')) : p = p' ∧ ks.Perm ks' ∧ BlocksPermN r r' := by
  cases h with
  | cons _ hp hr => exact ⟨rfl, hp, hr⟩

theorem getD_idxOf {l : List String} {x : String} (h : x ∈ l) : l.getD (l.idxOf x) "" = x :=
  have hlt := List.idxOf_lt_length_iff.mpr h
  (getD_of_lt "" hlt).trans (List.getElem_idxOf hlt)

theorem perm_of_map_idx (mk : List String) (ks ks' : List String) (hk' : ∀ k ∈ ks', k ∈ mk)
    (h : (ks.map (mk.idxOf ·)).Perm (ks'.map (mk.idxOf ·))) : ks.Perm ks' := by
  have hk : ∀ k ∈ ks, k ∈ mk := by
    intro k hk
    have : mk.idxOf k ∈ ks'.map (mk.idxOf ·) := h.mem_iff.mp (List.mem_map_of_mem (f := (mk.idxOf ·)) hk)
    obtain ⟨k', hk'm, hkk⟩ := List.mem_map.mp this
    have hlt : mk.idxOf k' < mk.length := List.idxOf_lt_length_iff.mpr (hk' k' hk'm)
    rw [hkk] at hlt
    exact List.idxOf_lt_length_iff.mp hlt
  have back : ∀ l : List String, (∀ k ∈ l, k ∈ mk) → (l.map (mk.idxOf ·)).map (fun i => mk.getD i "") = l := fun l hl => by
    rw [List.map_map]
    exact map_eq_self fun k hkm => getD_idxOf (hl k hkm)
  have h2 := h.map (fun i => mk.getD i "")
  rwa [back ks hk, back ks' hk'] at h2

theorem act_of_permit {a b : Act} (ha : a ≠ .remark) (hb : b ≠ .remark) (h : (a == Act.permit) = (b == Act.permit)) : a = b :=
  eq_of_beq ((act_test ha hb).symm.trans (beq_iff_eq.mpr h))

theorem act_of_flags (a a' : NA.Acl.Act) (h1 : (a == .permit) = (a' == .permit)) (h2 : (a == .remark) = (a' == .remark)) :
    a = a' := by
  cases a <;> cases a' <;> first | rfl | (exfalso; revert h1 h2; decide)

theorem decode_blocks (mk : List String) (L L' : List (Act × List String))
    (hL : ∀ p ∈ L, p.1 ≠ .remark) (hL' : ∀ p ∈ L', p.1 ≠ .remark) (hmem : ∀ p ∈ L', ∀ k ∈ p.2, k ∈ mk)
    (h : BlocksPermN (L.map (encBlock mk)) (L'.map (encBlock mk))) : BlocksPerm L L' := by
  induction L generalizing L' with
  | nil =>
    cases L' with
    | nil => exact .nil
    | cons t r => exact nomatch h
  | cons t r ih =>
    cases L' with
    | nil => exact nomatch h
    | cons t' r' =>
      obtain ⟨a, ks⟩ := t
      obtain ⟨a', ks'⟩ := t'
      simp only [List.map_cons, encBlock] at h
      obtain ⟨h1, h2, h3⟩ := BlocksPermN_cons_inv h
      have haa : a = a' := act_of_permit (hL _ (List.mem_cons_self ..)) (hL' _ (List.mem_cons_self ..)) h1
      subst haa
      exact .cons a (perm_of_map_idx mk ks ks' (hmem _ (List.mem_cons_self ..)) h2)
        (ih r' (fun p hp => hL p (List.mem_cons_of_mem _ hp)) (fun p hp => hL' p (List.mem_cons_of_mem _ hp))
          (fun p hp => hmem p (List.mem_cons_of_mem _ hp)) h3)

/-- `AclEqv` in table-free form: same sequence of actions and, block by block, the same lines modulo
`log` up to order (remark lines ignored). -/
theorem AclEqv.blockEquivA {x y : List ALine} (h : AclEqv x y) : BlockEquivA x y := by
  obtain ⟨al, hb⟩ := h
  have hN := blockEqG_blocksN hb
  simp only [encP] at hN
  rw [blockListN_enc, blockListN_enc] at hN
  apply decode_blocks (mkOf al y) _ _ (fun p hp => (blockList_blocks x p hp).1) (fun p hp => (blockList_blocks y p hp).1) _ hN
  intro p hp k hk
  obtain ⟨l, hl, rfl⟩ := (blockList_blocks y p hp).2 k hk
  exact List.mem_map_of_mem (f := (·.nolog)) (List.mem_append_right al hl)

theorem linesEq_of_exact {x y : List ALine} (h : ExactEq x y) : linesEqB x y = true := by
  obtain ⟨al, h⟩ := h
  unfold linesEqB
  rw [beq_iff_eq]
  have hgen : ∀ (x' y' : List ALine), (∀ l ∈ y', l ∈ y) → x'.map (encP al y) = y'.map (encP al y) →
      (x'.map fun l => (l.text, l.nolog, l.act)) = (y'.map fun l => (l.text, l.nolog, l.act)) := by
    intro x'
    induction x' with
    | nil =>
      intro y' _ he
      cases y' with
      | nil => rfl
      | cons _ _ => cases he
    | cons lx xs ih =>
      intro y' hsub he
      cases y' with
      | nil => cases he
      | cons ly ys =>
        simp only [List.map_cons, List.cons.injEq] at he ⊢
        obtain ⟨he1, he2⟩ := he
        have hly : ly ∈ y := hsub ly (List.mem_cons_self ..)
        have ht : lx.text = ly.text := by
          refine (idxOf_inj (l := tkOf al y) ?_ (congrArg NA.Acl.Line.key he1).symm).symm
          exact List.mem_map.mpr ⟨ly, List.mem_append_right _ hly, rfl⟩
        have hn : lx.nolog = ly.nolog := by
          refine (idxOf_inj (l := mkOf al y) ?_ (congrArg NA.Acl.Line.mkey he1).symm).symm
          exact List.mem_map.mpr ⟨ly, List.mem_append_right _ hly, rfl⟩
        have ha : lx.act = ly.act :=
          act_of_flags _ _ (congrArg NA.Acl.Line.permit he1) (congrArg NA.Acl.Line.remark he1)
        refine ⟨by rw [ht, hn, ha], ih ys (fun l hl => hsub l (List.mem_cons_of_mem _ hl)) he2⟩
  exact hgen x y (fun _ hl => hl) h

end NA.F2
