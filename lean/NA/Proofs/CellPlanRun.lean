import NA.Proofs.CellPlan
/-
The cell plan is legal: if the old lines, and the new lines, of `M` have pairwise different `mkey`s,
`cplan M` is a run of legal cell operations from the old mask to the new mask (`cplan_run`), and every
state on the way has the `Shape` from which "each packet gets the old or the new verdict" follows.
One walk along the two halves of `cplan M`; no position, no number, no planner code.
-/
namespace NA.Acl

attribute [-simp] List.getD_eq_getElem?_getD

/-- What the mask is while the plan runs.  `js`: new-only cells still to be switched on;
`needed`: old-only cells already switched off.  Kept cells are present, junk cells never. -/
def expect (M : List Cell) (needed js : List Nat) (x : Nat) : Bool :=
  if (M.getD x default).new then (M.getD x default).old || !js.contains x
  else (M.getD x default).old && !needed.contains x

structure CInv (M : List Cell) (μ : List Bool) (needed js : List Nat) : Prop where
  lμ : μ.length = M.length
  mask : ∀ x, x < M.length → μ.getD x false = expect M needed js x
  jsp : js.Pairwise (· < ·)
  jsn : ∀ j, j ∈ js → j < M.length ∧ (M.getD j default).old = false ∧ (M.getD j default).new = true

section
variable {M : List Cell} {μ : List Bool} {needed js : List Nat}

theorem CInv.both (h : CInv M μ needed js) (x : Nat) (hx : x < M.length)
    (hO : (M.getD x default).old = true) (hN : (M.getD x default).new = true) :
    μ.getD x false = true := by
  rw [h.mask x hx, expect, hN, hO]; rfl

theorem CInv.newo (h : CInv M μ needed js) (x : Nat) (hx : x < M.length)
    (hO : (M.getD x default).old = false) (hN : (M.getD x default).new = true) :
    μ.getD x false = true ↔ x ∉ js := by
  rw [h.mask x hx, expect, hN, hO]; simp

theorem CInv.oldo (h : CInv M μ needed js) (x : Nat) (hx : x < M.length)
    (hO : (M.getD x default).old = true) (hN : (M.getD x default).new = false) :
    μ.getD x false = true ↔ x ∉ needed := by
  rw [h.mask x hx, expect, hN, hO]; simp

theorem CInv.none (h : CInv M μ needed js) (x : Nat) (hx : x < M.length)
    (hO : (M.getD x default).old = false) (hN : (M.getD x default).new = false) :
    μ.getD x false = false := by
  rw [h.mask x hx, expect, hN, hO]; rfl

theorem CInv.del (h : CInv M μ needed js) (i : Nat) (hn : (M.getD i default).new = false) :
    CInv M (μ.set i false) (i :: needed) js := by
  refine ⟨(List.length_set ..).trans h.lμ, fun x hx => ?_, h.jsp, h.jsn⟩
  by_cases e : x = i
  · subst e
    rw [getD_set_self μ false (h.lμ.symm ▸ hx), expect, hn]; simp
  · rw [getD_set_ne μ false e, h.mask x hx, expect, expect, List.contains_cons,
      beq_false_of_ne e, Bool.false_or]

theorem CInv.add {j : Nat} (h : CInv M μ needed (j :: js)) : CInv M (μ.set j true) needed js := by
  obtain ⟨hj, hjo, hjn⟩ := h.jsn j List.mem_cons_self
  obtain ⟨hlt, hp⟩ := List.pairwise_cons.1 h.jsp
  refine ⟨(List.length_set ..).trans h.lμ, fun x hx => ?_, hp,
    fun x hx => h.jsn x (List.mem_cons_of_mem _ hx)⟩
  by_cases e : x = j
  · subst e
    have : x ∉ js := fun hm => Nat.lt_irrefl x (hlt x hm)
    rw [getD_set_self μ true (h.lμ.symm ▸ hx), expect, hjn]; simp [this]
  · rw [getD_set_ne μ true e, h.mask x hx, expect, expect, List.contains_cons,
      beq_false_of_ne e, Bool.false_or]

theorem CInv.fresh {j : Nat} (h : CInv M μ needed (j :: js)) (hN1 : NewInj M)
    (hdel : ∀ x, x < M.length → (M.getD x default).old = true → (M.getD x default).new = false →
      μ.getD x false = true → (M.getD x default).line.mkey ≠ (M.getD j default).line.mkey) :
    Fresh M μ j := by
  obtain ⟨hj, hjo, hjn⟩ := h.jsn j List.mem_cons_self
  intro x hx hμx
  cases hN : (M.getD x default).new with
  | true =>
    intro e
    have := hN1 x j hx hj hN hjn e
    subst this
    exact (h.newo x hx hjo hjn).1 hμx List.mem_cons_self
  | false =>
    cases hO : (M.getD x default).old with
    | true => exact hdel x hx hO hN hμx
    | false => rw [h.none x hx hO hN] at hμx; cases hμx

end

/-- Ghost facts of the add phase: `needed` holds exactly the cells looked up by the new-only cells
already processed, and these lie before the pending ones. -/
structure AddX (M : List Cell) (needed js : List Nat) : Prop where
  moved : ∀ x, x ∈ needed →
    ∃ j, j ∈ addIdx M ∧ j ∉ js ∧ delLookup M (M.getD j default).line.mkey = some x
  cov : ∀ j, j ∈ addIdx M → j ∉ js → ∀ x, delLookup M (M.getD j default).line.mkey = some x →
    x ∈ needed
  order : ∀ y, y ∈ js → ∀ f, f ∈ addIdx M → f ∉ js → f < y

/-- Ghost fact of the delete phase: a cell in `needed` was moved, or lies behind all old-only
cells that are still present. -/
def DelX (M : List Cell) (needed : List Nat) : Prop :=
  ∀ x, x ∈ needed →
    (∃ j, j ∈ addIdx M ∧ delLookup M (M.getD j default).line.mkey = some x) ∨
    ∀ f, f ∈ delIdx M → f ∉ needed → f < x

theorem cellOp_step (M : List Cell) (hN1 : NewInj M) (hN2 : OldInj M)
    {μ : List Bool} {needed js : List Nat} {j : Nat}
    (h : CInv M μ needed (j :: js)) (hx : AddX M needed (j :: js)) :
    (cellOp M j).ok M μ ∧
      CInv M ((cellOp M j).apply μ)
        ((delLookup M (M.getD j default).line.mkey).toList ++ needed) js ∧
      AddX M ((delLookup M (M.getD j default).line.mkey).toList ++ needed) js := by
  obtain ⟨hj, hjo, hjn⟩ := h.jsn j List.mem_cons_self
  have hja : j ∈ addIdx M := (mem_addIdx M j).2 ⟨hj, hjo, hjn⟩
  have hlt : ∀ x, x ∈ js → j < x := (List.pairwise_cons.1 h.jsp).1
  have hjjs : j ∉ js := fun hm => Nat.lt_irrefl j (hlt j hm)
  have hpend : ∀ {f}, f ∉ js → f ≠ j → f ∉ j :: js := fun hfjs e hm =>
    (List.mem_cons.1 hm).elim e hfjs
  have ghost : AddX M ((delLookup M (M.getD j default).line.mkey).toList ++ needed) js := by
    refine ⟨fun x hxm => ?_, fun f hf hfjs x hd => ?_, fun y hy f hf hfjs => ?_⟩
    · rcases List.mem_append.1 hxm with hm | hm
      · exact ⟨j, hja, hjjs, Option.mem_toList.1 hm⟩
      · obtain ⟨j', hj', hjs', hd'⟩ := hx.moved x hm
        exact ⟨j', hj', fun hm' => hjs' (List.mem_cons_of_mem _ hm'), hd'⟩
    · by_cases e : f = j
      · subst e; exact List.mem_append_left _ (Option.mem_toList.2 hd)
      · exact List.mem_append_right _ (hx.cov f hf (hpend hfjs e) x hd)
    · by_cases e : f = j
      · subst e; exact hlt y hy
      · exact hx.order y (List.mem_cons_of_mem _ hy) f hf (hpend hfjs e)
  suffices main : (cellOp M j).ok M μ ∧ CInv M ((cellOp M j).apply μ)
      ((delLookup M (M.getD j default).line.mkey).toList ++ needed) js from ⟨main.1, main.2, ghost⟩
  unfold cellOp
  cases hd : delLookup M (M.getD j default).line.mkey with
  | none =>
    have hμj : μ.getD j false = false :=
      Bool.eq_false_iff.2 fun hb => (h.newo j hj hjo hjn).1 hb List.mem_cons_self
    exact ⟨⟨hj, hμj, hjn, h.fresh hN1 fun x hx hO hN _ => delLookup_none M _ hd x hx hO hN⟩, h.add⟩
  | some i =>
    obtain ⟨hi, hio, hin, hik⟩ := delLookup_some M _ i hd
    -- `i` is still there: a cell that looked it up before would have the `mkey` of `j`, so be `j`
    have hnd : i ∉ needed := fun hm => by
      obtain ⟨j', hj', hjs', hd'⟩ := hx.moved i hm
      obtain ⟨hj'l, -, hj'n⟩ := (mem_addIdx M j').1 hj'
      have e := hN1 j' j hj'l hj hj'n hjn ((delLookup_some M _ i hd').2.2.2.symm.trans hik)
      exact hjs' (e ▸ List.mem_cons_self)
    have hμi : μ.getD i false = true := (h.oldo i hi hio hin).2 hnd
    have h1 := h.del i hin
    have hμj : (μ.set i false).getD j false = false :=
      Bool.eq_false_iff.2 fun hb => (h1.newo j hj hjo hjn).1 hb List.mem_cons_self
    refine ⟨⟨hi, hj, hμi, hμj, hjn, h1.fresh hN1 fun x hx hO _ hμx e => ?_⟩, h1.add⟩
    -- the only old line with that `mkey` is the one just switched off
    have := hN2 x i hx hi hO hio (e.trans hik.symm)
    subst this
    rw [getD_set_self μ false (h.lμ.symm ▸ hx)] at hμx
    cases hμx

theorem add_phase (M : List Cell) (hN1 : NewInj M) (hN2 : OldInj M) {P : List Bool → Prop}
    (hP : ∀ μ needed js, CInv M μ needed js → AddX M needed js → P μ) (js : List Nat) :
    ∀ (μ : List Bool) (needed : List Nat), CInv M μ needed js → AddX M needed js →
      ∃ μ' needed', CInv M μ' needed' [] ∧ AddX M needed' [] ∧
        CRun M P μ (js.map (cellOp M)) μ' := by
  induction js with
  | nil => intro μ needed h hx; exact ⟨μ, needed, h, hx, CRun.nil μ⟩
  | cons j js ih =>
    intro μ needed h hx
    obtain ⟨hok, h1, hx1⟩ := cellOp_step M hN1 hN2 h hx
    obtain ⟨μ', needed', h', hx', hr'⟩ := ih _ _ h1 hx1
    exact ⟨μ', needed', h', hx', CRun.step μ _ _ μ' hok (hP _ _ _ h1 hx1) hr'⟩

theorem del_phase (M : List Cell) {P : List Bool → Prop}
    (hP : ∀ μ needed, CInv M μ needed [] → DelX M needed → P μ) (ds : List Nat) :
    ∀ (μ : List Bool) (needed : List Nat),
      CInv M μ needed [] → DelX M needed → ds.Pairwise (· > ·) →
      (∀ i, i ∈ ds → i ∈ delIdx M ∧ i ∉ needed) → (∀ f, f ∈ delIdx M → f ∉ needed → f ∈ ds) →
      ∃ μ' needed', CInv M μ' needed' [] ∧ (∀ f, f ∈ delIdx M → f ∈ needed') ∧
        CRun M P μ (ds.map COp.del) μ' := by
  induction ds with
  | nil =>
    intro μ needed h _ _ _ hcov
    exact ⟨μ, needed, h, fun f hf => Decidable.byContradiction fun hin =>
      List.not_mem_nil (hcov f hf hin), CRun.nil μ⟩
  | cons i ds ih =>
    intro μ needed h hx hp hds hcov
    obtain ⟨hid, hnd⟩ := hds i List.mem_cons_self
    obtain ⟨hi, ho, hn⟩ := (mem_delIdx M i).1 hid
    obtain ⟨hgt, hp'⟩ := List.pairwise_cons.1 hp
    have hμi : μ.getD i false = true := (h.oldo i hi ho hn).2 hnd
    have h1 := h.del i hn
    have hcov' : ∀ f, f ∈ delIdx M → f ∉ i :: needed → f ∈ ds := fun f hf hfn =>
      (List.mem_cons.1 (hcov f hf fun hm => hfn (List.mem_cons_of_mem _ hm))).resolve_left
        fun e => hfn (e ▸ List.mem_cons_self)
    have hds' : ∀ x, x ∈ ds → x ∈ delIdx M ∧ x ∉ i :: needed := fun x hxm =>
      have hx' := hds x (List.mem_cons_of_mem _ hxm)
      ⟨hx'.1, fun hm => (List.mem_cons.1 hm).elim
        (fun e => Nat.lt_irrefl i (e ▸ hgt x hxm)) hx'.2⟩
    have hx1 : DelX M (i :: needed) := by
      intro x hxm
      rcases List.mem_cons.1 hxm with e | hm
      · subst e
        exact Or.inr fun f hf hfn => hgt f (hcov' f hf hfn)
      · exact (hx x hm).imp_right fun hb f hf hfn =>
          hb f hf fun hm' => hfn (List.mem_cons_of_mem _ hm')
    obtain ⟨μ', needed', h', hall, hr'⟩ := ih _ (i :: needed) h1 hx1 hp' hds' hcov'
    exact ⟨μ', needed', h', hall, CRun.step μ (.del i) _ μ' ⟨hi, hμi⟩ (hP _ _ h1 hx1) hr'⟩

theorem CInv.init (M : List Cell) : CInv M (oldMask M) [] (addIdx M) := by
  refine ⟨by simp [oldMask], fun x hx => ?_, ?_, fun j hj => (mem_addIdx M j).1 hj⟩
  · rw [oldMask_getD M x hx, expect]
    cases hO : (M.getD x default).old <;> cases hN : (M.getD x default).new <;>
      simp [(mem_addIdx M x), hx, hO, hN]
  · unfold addIdx
    exact List.Pairwise.filter _ List.pairwise_lt_range

theorem CInv.final (M : List Cell) (μ : List Bool) (needed : List Nat)
    (h : CInv M μ needed []) (hall : ∀ i, i ∈ delIdx M → i ∈ needed) : μ = newMask M := by
  refine ListFacts.ext_getD false (h.lμ.trans (by simp [newMask])) fun x hx => ?_
  rw [h.lμ] at hx
  rw [newMask_getD M x hx, h.mask x hx, expect]
  cases hO : (M.getD x default).old <;> cases hN : (M.getD x default).new <;> simp
  exact hall x ((mem_delIdx M x).2 ⟨hx, hO, hN⟩)

/-- The cell plan is a legal run from the old mask to the new mask; its states satisfy every
predicate that follows from the invariants of the two phases. -/
theorem cplan_run (M : List Cell) (hN1 : NewInj M) (hN2 : OldInj M) {P : List Bool → Prop}
    (hA : ∀ μ needed js, CInv M μ needed js → AddX M needed js → P μ)
    (hD : ∀ μ needed, CInv M μ needed [] → DelX M needed → P μ) :
    CRun M P (oldMask M) (cplan M) (newMask M) := by
  have hx0 : AddX M [] (addIdx M) :=
    ⟨fun _ hx => absurd hx List.not_mem_nil, fun j hj hjn => absurd hj hjn,
      fun y _ f hf hfn => absurd hf hfn⟩
  obtain ⟨μ1, needed1, h1, hx1, hr1⟩ :=
    add_phase M hN1 hN2 hA (addIdx M) (oldMask M) [] (CInv.init M) hx0
  have hdx : DelX M needed1 := fun x hx =>
    let ⟨j, hj, _, hd⟩ := hx1.moved x hx
    Or.inl ⟨j, hj, hd⟩
  have hlk : ∀ x, x ∈ lookups M ↔ x ∈ needed1 := fun x => mem_lookups.trans
    ⟨fun ⟨j, hj, hd⟩ => hx1.cov j hj List.not_mem_nil x hd,
      fun hx => let ⟨j, hj, _, hd⟩ := hx1.moved x hx; ⟨j, hj, hd⟩⟩
  have hpw : (cdels M).Pairwise (· > ·) := by
    unfold cdels delIdx
    exact (List.pairwise_reverse.2 (List.Pairwise.filter _ List.pairwise_lt_range)).filter _
  have hmem : ∀ i, i ∈ cdels M ↔ i ∈ delIdx M ∧ i ∉ needed1 := fun i => by
    rw [cdels, List.mem_filter, List.mem_reverse, Bool.not_eq_true', ← hlk,
      ← Bool.not_eq_true, List.contains_iff_mem]
  obtain ⟨μ2, needed2, h2, hall, hr2⟩ :=
    del_phase M hD (cdels M) μ1 needed1 h1 hdx hpw (fun i hi => (hmem i).1 hi)
      (fun f hf hfn => (hmem f).2 ⟨hf, hfn⟩)
  rw [← CInv.final M μ2 needed2 h2 hall]
  exact hr1.append hr2

def NewBefore (M : List Cell) (μ : List Bool) (f : Nat) : Prop :=
  ∀ y, y < f → y ∈ addIdx M → μ.getD y false = true

/-- Cell `x` has been re-added: a present new-only cell `j` was matched to it by `delLookup`. -/
def Moved (M : List Cell) (μ : List Bool) (x : Nat) : Prop :=
  ∃ j, j ∈ addIdx M ∧ μ.getD j false = true ∧ delLookup M (M.getD j default).line.mkey = some x

def OldBefore (M : List Cell) (μ : List Bool) (f : Nat) : Prop :=
  ∀ x, x < f → x ∈ delIdx M → μ.getD x false = false → Moved M μ x

structure Shape (M : List Cell) (μ : List Bool) : Prop where
  both : ∀ x, x < M.length → (M.getD x default).old = true → (M.getD x default).new = true →
    μ.getD x false = true
  cell : ∀ f, f < M.length → μ.getD f false = true →
    ((M.getD f default).new = true ∧ NewBefore M μ f) ∨
    ((M.getD f default).old = true ∧ OldBefore M μ f)
  all : NewBefore M μ M.length ∨ OldBefore M μ M.length

theorem CInv.absent_needed {M : List Cell} {μ : List Bool} {needed js : List Nat}
    (h : CInv M μ needed js) {x : Nat} (hxd : x ∈ delIdx M) (hμ : μ.getD x false = false) :
    x ∈ needed := by
  obtain ⟨hxl, hxo, hxn⟩ := (mem_delIdx M x).1 hxd
  apply Decidable.byContradiction
  intro hin
  rw [(h.oldo x hxl hxo hxn).2 hin] at hμ
  cases hμ

theorem shape_of_add {M : List Cell} {μ : List Bool} {needed js : List Nat}
    (h : CInv M μ needed js) (hx : AddX M needed js) : Shape M μ := by
  have hB : ∀ f, OldBefore M μ f := by
    intro f x _ hxd hμ
    obtain ⟨j, hj, hjs, hd⟩ := hx.moved x (h.absent_needed hxd hμ)
    obtain ⟨hjl, hjo, hjn⟩ := (mem_addIdx M j).1 hj
    exact ⟨j, hj, (h.newo j hjl hjo hjn).2 hjs, hd⟩
  refine ⟨h.both, fun f hf hμf => ?_, Or.inr (hB _)⟩
  cases ho : (M.getD f default).old with
  | true => exact Or.inr ⟨rfl, hB f⟩
  | false =>
    cases hn : (M.getD f default).new with
    | false => rw [h.none f hf ho hn] at hμf; cases hμf
    | true =>
      left
      refine ⟨rfl, fun y hy hya => ?_⟩
      obtain ⟨hyl, hyo, hyn⟩ := (mem_addIdx M y).1 hya
      apply (h.newo y hyl hyo hyn).2
      intro hyjs
      have hfjs : f ∉ js := (h.newo f hf ho hn).1 hμf
      exact Nat.lt_asymm hy (hx.order y hyjs f ((mem_addIdx M f).2 ⟨hf, ho, hn⟩) hfjs)

theorem shape_of_del {M : List Cell} {μ : List Bool} {needed : List Nat}
    (h : CInv M μ needed []) (hx : DelX M needed) : Shape M μ := by
  have hA : ∀ f, NewBefore M μ f := by
    intro f y _ hya
    obtain ⟨hyl, hyo, hyn⟩ := (mem_addIdx M y).1 hya
    exact (h.newo y hyl hyo hyn).2 List.not_mem_nil
  refine ⟨h.both, fun f hf hμf => ?_, Or.inl (hA _)⟩
  cases hn : (M.getD f default).new with
  | true => exact Or.inl ⟨rfl, hA f⟩
  | false =>
    cases ho : (M.getD f default).old with
    | false => rw [h.none f hf ho hn] at hμf; cases hμf
    | true =>
      right
      refine ⟨rfl, fun x hxf hxd hμ => ?_⟩
      rcases hx x (h.absent_needed hxd hμ) with ⟨j, hj, hd⟩ | hbehind
      · obtain ⟨hjl, hjo, hjn⟩ := (mem_addIdx M j).1 hj
        exact ⟨j, hj, (h.newo j hjl hjo hjn).2 List.not_mem_nil, hd⟩
      · exact absurd (hbehind f ((mem_delIdx M f).2 ⟨hf, ho, hn⟩) ((h.oldo f hf ho hn).1 hμf))
          (Nat.lt_asymm hxf)

theorem cplan_run_shape (M : List Cell) (hN1 : NewInj M) (hN2 : OldInj M) :
    CRun M (Shape M) (oldMask M) (cplan M) (newMask M) :=
  cplan_run M hN1 hN2 (fun _ _ _ => shape_of_add) (fun _ _ => shape_of_del)

end NA.Acl
