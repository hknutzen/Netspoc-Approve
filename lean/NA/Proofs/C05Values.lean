import NA.Proofs.C05Int
import NA.Proofs.C05Norm
/-!
C05: the values of the options, type by type.  For each type the closed normal form that the per-key rewriting gives to
what the kernel prints and to every spelling of the user, and that it is a fixed point.  For addresses, ports, protocols and
state sets also a function that undoes the rewriting on what the kernel prints (a mark means its normal form, a log level
is not rewritten).
-/
namespace NA.C05
open NA.Linux NA.Linux.Spec

def negPre (b : Bool) : Str := if b = true then ['!'] else []

theorem negPre_cases (b : Bool) : negPre b = [] ∨ negPre b = ['!'] := by cases b <;> simp [negPre]

theorem negPre_noslash (b : Bool) : '/' ∉ negPre b := by
  cases b <;> simp [negPre]

theorem negS_cases (n : Neg) : (if n.isNeg = true then ['!'] else ([] : Str)) = [] ∨
    (if n.isNeg = true then ['!'] else ([] : Str)) = ['!'] := negPre_cases n.isNeg

theorem canonNum_head {d : Str} (h : canonNum d = true) (h0 : d ≠ ['0']) : d.head? ≠ some '0' := by
  simp only [canonNum, Bool.and_eq_true, Bool.or_eq_true, beq_iff_eq, bne_iff_ne] at h
  exact h.2.resolve_left h0

theorem canonNum_ne_nil {d : Str} (h : canonNum d = true) : d ≠ [] := by
  intro e; subst e; simp [canonNum] at h

theorem canonNum_digits {d : Str} (h : canonNum d = true) : d.all isDigit = true := by
  simp only [canonNum, Bool.and_eq_true] at h; exact h.1.2

theorem digits_nochar {d : Str} (h : d.all isDigit = true) (c : Char) (hc : isDigit c = false) : c ∉ d :=
  fun hm => ne_of_isDigit (List.all_eq_true.mp h c hm) hc rfl

theorem wf_range {lo hi : Str} (w : (Ports.range lo hi).wf = true) : canonNum lo = true ∧ canonNum hi = true := by
  simp only [Ports.wf, Bool.and_eq_true] at w; exact w.1.1

theorem wf_num {n : Neg} {d : Str} {u m : Bool} (w : (AOpt.proto n (.num d) u m).wf = true) :
    canonNum d = true ∧ ([s "1", s "6", s "17", s "58", s "112"].contains d) = false := by
  simp only [AOpt.wf, Bool.and_eq_true, Bool.not_eq_eq_eq_not, Bool.not_true] at w
  exact ⟨w.1.1, w.2⟩

theorem wf_src {n : Neg} {ip len : Str} {h : Bool} (w : (AOpt.src n ip len h).wf = true) :
    ipTok ip = true ∧ canonNum len = true := by
  simpa only [AOpt.wf, Bool.and_eq_true] using w

theorem wf_dst {n : Neg} {ip len : Str} {h : Bool} (w : (AOpt.dst n ip len h).wf = true) :
    ipTok ip = true ∧ canonNum len = true := by
  simpa only [AOpt.wf, Bool.and_eq_true] using w

theorem wf_state {l : List Spec.St} (w : (AOpt.state l).wf = true) : l ≠ [] ∧ l.Nodup := by
  simpa only [AOpt.wf, Bool.and_eq_true, Bool.not_eq_eq_eq_not, Bool.not_true, List.isEmpty_eq_false_iff,
    decide_eq_true_eq] using w

theorem wf_icmp {t : Str} (w : (AOpt.icmpType t).wf = true) : plainTok t = true := by
  simp only [AOpt.wf, Bool.and_eq_true] at w; exact w.1

theorem mname_cases {n : Str} (h : (AOpt.mExplicit n).wf = true) :
    lower n = s "state" ∨ lower n = s "tcp" ∨ lower n = s "udp" ∨ lower n = s "icmp" := by
  simp only [AOpt.wf, Bool.or_eq_true, decide_eq_true_eq, or_assoc] at h
  exact h.imp_left fun e => by subst e; decide

structure MarkWF (hex mask : Str) (x : Bool) (v : Str) : Prop where
  hmask : mask = s "ffffffff"
  hhex : hex.all (fun c => isDigit c || ('a' ≤ c && c ≤ 'f')) = true
  hplain : plainTok v = true
  hsome : (markNorm v).isSome = true
  heq : markNorm v = markNorm (s "0x" ++ hex ++ s "/0xffffffff")
  hconv : x = true → xConvV v = true

theorem wf_setMark {hex mask v : Str} {x : Bool} (w : (AOpt.setMark hex mask x v).wf = true) : MarkWF hex mask x v := by
  simp only [AOpt.wf, Bool.and_eq_true, Bool.or_eq_true, Bool.not_eq_eq_eq_not, Bool.not_true, beq_iff_eq] at w
  obtain ⟨⟨⟨⟨⟨hp, hhex⟩, hsome⟩, heq⟩, hx⟩, hmask⟩ := w
  refine ⟨hmask, hhex, hp, hsome, heq, fun hxt => ?_⟩
  rcases hx with h | h
  · rw [hxt] at h; cases h
  · unfold xConvV; simpa using h

theorem ipTok_noslash {ip : Str} (h : ipTok ip = true) : '/' ∉ ip := by
  simp only [ipTok, Bool.and_eq_true, List.all_eq_true, Bool.or_eq_true, beq_iff_eq] at h
  intro hm
  rcases h.2 '/' hm with h1 | h1
  · simp [isDigit] at h1
  · simp at h1

theorem normAddr_noslash (x : Str) (h : '/' ∉ x) : normAddr x = x := by
  unfold normAddr
  rw [cutSuffix_none_of_not_mem x (s "/32") '/' (by decide) h]; rfl

theorem addr_val (pre ip len : Str) (hlen : '/' ∉ len) :
    normAddr (pre ++ (ip ++ ['/'] ++ len)) =
      if len = s "32" then pre ++ ip else pre ++ (ip ++ ['/'] ++ len) := by
  unfold normAddr
  by_cases h : len = s "32"
  · have e : pre ++ (ip ++ ['/'] ++ s "32") = (pre ++ ip) ++ s "/32" := by simp [s]
    rw [if_pos h, h, e, cutSuffix_append]; rfl
  · have e : pre ++ (ip ++ ['/'] ++ len) = (pre ++ ip) ++ '/' :: len := by simp
    rw [if_neg h, e, show s "/32" = '/' :: s "32" from rfl, cutSuffix_sep_none '/' _ len (s "32") hlen (by decide) h]
    rfl

theorem addr_roundtrip (pre ip len : Str) (h : Bool) (hpre : '/' ∉ pre) (hip : '/' ∉ ip) :
    normAddr (pre ++ (if len = s "32" ∧ !h then ip else ip ++ ['/'] ++ len)) = normAddr (pre ++ (ip ++ ['/'] ++ len)) := by
  split
  · rename_i hc
    rw [hc.1, addr_val pre ip _ (by decide), if_pos rfl]
    exact normAddr_noslash _ (by simp [hpre, hip])
  · rfl

/-- Undoes `normAddr` on the kernel's spelling of an address: the prefix length is always printed. -/
def denormAddr (x : Str) : Str := if '/' ∈ x then x else x ++ s "/32"

theorem denormAddr_normAddr (pre ip len : Str) (hpre : '/' ∉ pre) (hip : '/' ∉ ip) (hlen : '/' ∉ len) :
    denormAddr (normAddr (pre ++ (ip ++ ['/'] ++ len))) = pre ++ (ip ++ ['/'] ++ len) := by
  rw [addr_val pre ip len hlen]
  unfold denormAddr
  by_cases h : len = s "32"
  · rw [if_pos h, if_neg (by simp [hpre, hip]), h, List.append_assoc, List.append_assoc]; rfl
  · rw [if_neg h, if_pos (by simp)]

theorem normAddr_fixed (pre ip len : Str) (hpre : '/' ∉ pre) (hip : '/' ∉ ip) (hlen : '/' ∉ len) :
    normAddr (normAddr (pre ++ (ip ++ ['/'] ++ len))) = normAddr (pre ++ (ip ++ ['/'] ++ len)) := by
  rw [addr_val pre ip len hlen]
  by_cases h : len = s "32"
  · rw [if_pos h, normAddr_noslash _ (by simp [hpre, hip])]
  · rw [if_neg h, addr_val pre ip len hlen, if_neg h]

theorem trim0_canon_append {p : Str} (h : canonNum p = true) (x : Str) (hx : x.head? ≠ some '0') :
    trimLeft0 (p ++ x) = (if p = ['0'] then [] else p) ++ x := by
  by_cases h0 : p = ['0']
  · rw [if_pos h0, h0]
    exact trimLeft0_of_head hx
  · rw [if_neg h0]
    exact trimLeft0_of_head (by rw [head_append_of_ne_nil (canonNum_ne_nil h)]; exact canonNum_head h h0)

theorem trim0_canon {p : Str} (h : canonNum p = true) : trimLeft0 p = if p = ['0'] then [] else p := by
  simpa only [List.append_nil] using trim0_canon_append h [] nofun

/-- The second step of `normPort`: the default upper bound is cut off. -/
def cut5 (v : Str) : Str :=
  match cutSuffix v (s ":65535") with
  | some b => b ++ [':']
  | none => v

theorem normPort_eq (v : Str) : normPort v = cut5 (trimLeft0 v) := rfl

theorem cut5_nocolon {x : Str} (h : ':' ∉ x) : cut5 x = x := by
  unfold cut5; rw [cutSuffix_none_of_not_mem x (s ":65535") ':' (by decide) h]

theorem cut5_colon (L H : Str) (hH : ':' ∉ H) :
    cut5 (L ++ ':' :: H) = L ++ ':' :: (if H = s "65535" then [] else H) := by
  unfold cut5
  by_cases h5 : H = s "65535"
  · rw [if_pos h5, h5, show L ++ ':' :: s "65535" = L ++ s ":65535" from rfl, cutSuffix_append]
  · rw [if_neg h5, show s ":65535" = ':' :: s "65535" from rfl, cutSuffix_sep_none ':' L H (s "65535") hH (by decide) h5]

/-- The normal form of a port or a range: no leading zeros, the default bounds `0` and `65535` left out. -/
def cPort : Ports → Str
  | .one p => if p = ['0'] then [] else p
  | .range lo hi => (if lo = ['0'] then [] else lo) ++ ':' :: (if hi = s "65535" then [] else hi)

theorem canon_nocolon {d : Str} (h : canonNum d = true) : ':' ∉ d := digits_nochar (canonNum_digits h) ':' (by decide)

theorem ite_nil_nocolon (c : Prop) [Decidable c] {d : Str} (h : ':' ∉ d) : ':' ∉ (if c then ([] : Str) else d) := by
  split
  · simp
  · exact h

theorem normPort_user (ps : Ports) (z : Nat) (o : Bool) (w : ps.wf = true) : normPort (ps.user z o) = cPort ps := by
  rw [normPort_eq]
  cases ps with
  | one p =>
    show cut5 (trimLeft0 (zeros z ++ p)) = _
    rw [trimLeft0_zeros]
    exact (congrArg cut5 (trim0_canon w)).trans (cut5_nocolon (ite_nil_nocolon _ (canon_nocolon w)))
  | range lo hi =>
    obtain ⟨hlo, hhi⟩ := wf_range w
    -- the text in front of the colon trims to the lower bound without its default, whether or not it was left out
    have hL : ∀ H : Str, trimLeft0 ((if (o && lo = ['0']) = true then [] else zeros z ++ lo) ++ [':'] ++ H) =
        (if lo = ['0'] then [] else lo) ++ ':' :: H := by
      intro H
      split
      · rename_i h
        simp only [Bool.and_eq_true, decide_eq_true_eq] at h
        rw [if_pos h.2]; rfl
      · rw [List.append_assoc, List.append_assoc, trimLeft0_zeros, trim0_canon_append hlo _ (by simp)]
        rfl
    show cut5 (trimLeft0 (_ ++ [':'] ++ _)) = _
    rw [hL, cut5_colon _ _ (ite_nil_nocolon _ (canon_nocolon hhi))]
    by_cases h5 : hi = s "65535" <;> simp [cPort, h5]

theorem normPort_kernel (ps : Ports) (w : ps.wf = true) : normPort ps.kernel = cPort ps := by
  have e : ps.kernel = ps.user 0 false := by cases ps <;> rfl
  rw [e, normPort_user ps 0 false w]

theorem normPort_cPort (ps : Ports) (w : ps.wf = true) : normPort (cPort ps) = cPort ps := by
  cases ps with
  | one p =>
    rw [normPort_eq]
    have h : trimLeft0 (if p = ['0'] then [] else p) = if p = ['0'] then [] else p := by
      split
      · rfl
      · exact trimLeft0_of_head (canonNum_head w ‹_›)
    exact (congrArg cut5 h).trans (cut5_nocolon (ite_nil_nocolon _ (canon_nocolon w)))
  | range lo hi =>
    have e : cPort (.range lo hi) = (Ports.range lo hi).user 0 true := by simp [cPort, Ports.user, zeros]
    exact (congrArg normPort e).trans (normPort_user _ 0 true w)

/-- Undoes `normPort` on what the kernel prints for a port or a range: the bounds that were cut off
(`0` in front, `65535` behind) are put back. -/
def denormPort (x : Str) : Str :=
  match cutChar x ':' with
  | (lo, hi, true) => (if lo = [] then ['0'] else lo) ++ [':'] ++ (if hi = [] then s "65535" else hi)
  | _ => if x = [] then ['0'] else x

theorem untrim (d z : Str) (hd : d ≠ []) :
    (if (if d = z then ([] : Str) else d) = [] then z else (if d = z then [] else d)) = d := by
  by_cases h : d = z
  · simp [h]
  · simp [h, hd]

theorem denormPort_cPort (ps : Ports) (w : ps.wf = true) : denormPort (cPort ps) = ps.kernel := by
  unfold denormPort
  cases ps with
  | one p =>
    show (match cutChar (if p = ['0'] then [] else p) ':' with | (lo, hi, true) => _ | _ => _) = p
    rw [cutChar_no _ ':' (ite_nil_nocolon _ (canon_nocolon w))]
    exact untrim p ['0'] (canonNum_ne_nil w)
  | range lo hi =>
    obtain ⟨hlo, hhi⟩ := wf_range w
    show (match cutChar (_ ++ ':' :: _) ':' with | (lo, hi, true) => _ | _ => _) = lo ++ [':'] ++ hi
    rw [cutChar_at _ _ ':' (ite_nil_nocolon _ (canon_nocolon hlo))]
    simp only
    rw [untrim lo ['0'] (canonNum_ne_nil hlo), untrim hi (s "65535") (canonNum_ne_nil hhi)]

theorem port_roundtrip (ps : Ports) (z : Nat) (o : Bool) (hwf : ps.wf = true) :
    normPort (ps.user z o) = normPort ps.kernel :=
  (normPort_user ps z o hwf).trans (normPort_kernel ps hwf).symm

theorem normPort_fixed (ps : Ports) (w : ps.wf = true) : normPort (normPort ps.kernel) = normPort ps.kernel := by
  rw [normPort_kernel ps w, normPort_cPort ps w]

theorem denormPort_normPort (ps : Ports) (h : ps.wf = true) : denormPort (normPort ps.kernel) = ps.kernel := by
  rw [normPort_kernel ps h, denormPort_cPort ps h]

theorem neg_digits {pre d : Str} (hd : d.all isDigit = true) (hpre : pre = [] ∨ pre = ['!']) :
    lower (pre ++ d) = pre ++ d ∧ ∀ (x : Char) (t : Str), isDigit x = false → x ≠ '!' → x ∈ t → pre ++ d ≠ t := by
  refine ⟨?_, fun x t hx hb hm e => ?_⟩
  · rw [lower_append, lower_digits hd]
    rcases hpre with e | e <;> subst e <;> rfl
  · rcases List.mem_append.mp (e ▸ hm) with h | h
    · rcases hpre with e' | e' <;> subst e' <;> simp [hb] at h
    · exact digits_nochar hd x hx h

theorem normProto_digits (pre d : Str) (hd : d.all isDigit = true) (hpre : pre = [] ∨ pre = ['!']) :
    normProto (pre ++ d) = pre ++ d := by
  obtain ⟨hl, hne⟩ := neg_digits hd hpre
  unfold normProto
  simp only [hl]
  -- each of the two names has a letter in it
  rw [if_neg (hne 'v' _ (by decide) (by decide) (by decide)), if_neg (hne 'i' _ (by decide) (by decide) (by decide))]

theorem uname_num (d : Str) (u num : Bool) (hd : d.all isDigit = true) : (Proto.num d).uname u num = d := by
  unfold Proto.uname Proto.kname
  cases u <;> simp [upper_digits hd]

/-- **The normal form of a `-p` value**, whichever way a well formed option spells it: lower case,
and the number for the two protocols (112, 58) that a device may print by name. -/
theorem normProto_spellings (cfg : KCfg) (n : Neg) (P : Proto) (u m : Bool) (w : (AOpt.proto n P u m).wf = true) :
    normProto (negPre n.isNeg ++ P.uname u m) = negPre n.isNeg ++ P.kname false ∧
    normProto (negPre n.isNeg ++ P.kname cfg.protoNames) = negPre n.isNeg ++ P.kname false := by
  cases P with
  | num d =>
    have hd := canonNum_digits (wf_num w).1
    rw [uname_num d u m hd]
    have h := normProto_digits _ d hd (negPre_cases n.isNeg)
    exact ⟨h, h⟩
  | tcp | udp | icmp =>
    obtain ⟨names⟩ := cfg
    cases n <;> cases u <;> cases m <;> cases names <;> decide
  | vrrp | ipv6icmp =>
    -- these two are not negated in the grammar
    have hn : n = .no := by cases n <;> first | rfl | exact absurd w Bool.false_ne_true
    subst hn
    obtain ⟨names⟩ := cfg
    cases names <;> cases u <;> cases m <;> decide

theorem proto_roundtrip (cfg : KCfg) (n : Neg) (p : Proto) (u num : Bool)
    (hwf : (AOpt.proto n p u num).wf = true) :
    normProto (negPre n.isNeg ++ p.uname u num) = normProto (negPre n.isNeg ++ p.kname cfg.protoNames) :=
  (normProto_spellings cfg n p u num hwf).1.trans (normProto_spellings cfg n p u num hwf).2.symm

/-- Undoes `normProto` on what the kernel prints behind `-p`: a device whose /etc/protocols names
112 and 58 prints `vrrp` and `ipv6-icmp`. -/
def denormProto (names : Bool) (x : Str) : Str :=
  if names = true then (if x = s "112" then s "vrrp" else if x = s "58" then s "ipv6-icmp" else x) else x

theorem denormProto_normProto (cfg : KCfg) (n : Neg) (P : Proto) (u m : Bool) (w : (AOpt.proto n P u m).wf = true) :
    denormProto cfg.protoNames (normProto (negPre n.isNeg ++ P.kname cfg.protoNames)) =
      negPre n.isNeg ++ P.kname cfg.protoNames := by
  rw [(normProto_spellings cfg n P u m w).2]
  obtain ⟨names⟩ := cfg
  cases P with
  | num d =>
    -- the numbers that have names are not in the grammar
    have hw := (wf_num w).2
    show denormProto names (negPre n.isNeg ++ d) = negPre n.isNeg ++ d
    have hne : ∀ x ∈ [s "58", s "112"], negPre n.isNeg ++ d ≠ x := by
      intro x hx e
      simp only [List.mem_cons, List.not_mem_nil, or_false] at hx
      cases n with
      | no =>
        have hd : d = x := e
        rw [hd] at hw
        rcases hx with hx | hx <;> subst hx <;> exact absurd hw (by decide)
      | before | after =>
        have hh : some '!' = x.head? := congrArg List.head? e
        rcases hx with hx | hx <;> subst hx <;> exact absurd hh (by decide)
    unfold denormProto
    rw [if_neg (hne _ (by simp)), if_neg (hne _ (by simp))]
    exact ite_self _
  | tcp | udp | icmp => cases n <;> cases names <;> decide
  | vrrp | ipv6icmp =>
    have hn : n = .no := by cases n <;> first | rfl | exact absurd w Bool.false_ne_true
    subst hn
    cases names <;> decide

theorem normProto_fixed (cfg : KCfg) (n : Neg) (P : Proto) (u m : Bool) (w : (AOpt.proto n P u m).wf = true) :
    normProto (normProto (negPre n.isNeg ++ P.kname cfg.protoNames)) = normProto (negPre n.isNeg ++ P.kname cfg.protoNames) := by
  rw [(normProto_spellings cfg n P u m w).2]
  exact (normProto_spellings { protoNames := false } n P u m w).2

theorem protoOf_mem (cfg : KCfg) (r : ARule) (p : Str) (h : protoOf cfg r = some p) :
    ∃ P u num, AOpt.proto .no P u num ∈ r ∧ P.kname cfg.protoNames = p := by
  fun_induction protoOf cfg r with
  | case1 => cases h
  | case2 => exact ⟨_, _, _, List.mem_cons_self, Option.some.inj h⟩
  | case3 _ _ _ ih =>
    obtain ⟨P', u', num', hm, hp⟩ := ih h
    exact ⟨P', u', num', List.mem_cons_of_mem _ hm, hp⟩

theorem not_state_of_normProto {x : Str} (h : equalFold (s "state") (normProto x) = false) :
    equalFold (s "state") x = false := by
  cases hx : equalFold (s "state") x with
  | false => rfl
  | true =>
    have e : lower x = s "state" := by
      simp only [equalFold, beq_iff_eq] at hx; rw [← hx]; decide
    have : normProto x = s "state" := by
      unfold normProto
      simp only [e]
      decide
    rw [this] at h
    exact absurd h (by decide_lit [s_ofList])

theorem proto_nf_not_state (n : Neg) (P : Proto) (u m : Bool) (w : (AOpt.proto n P u m).wf = true) :
    equalFold (s "state") (negPre n.isNeg ++ P.kname false) = false := by
  cases P with
  | num d =>
    obtain ⟨hl, hne⟩ := neg_digits (canonNum_digits (wf_num w).1) (negPre_cases n.isNeg)
    show (lower (s "state") == lower (negPre n.isNeg ++ d)) = false
    rw [hl]
    exact beq_eq_false_iff_ne.mpr (hne 's' _ (by decide) (by decide) (by decide)).symm
  | tcp | udp | icmp | vrrp | ipv6icmp => cases n <;> decide

theorem proto_not_state (cfg : KCfg) (n : Neg) (P : Proto) (u num : Bool) (hwf : (AOpt.proto n P u num).wf = true) :
    equalFold (s "state") ((if n.isNeg = true then ['!'] else []) ++ P.uname u num) = false ∧
    equalFold (s "state") ((if n.isNeg = true then ['!'] else []) ++ P.kname cfg.protoNames) = false := by
  obtain ⟨h1, h2⟩ := normProto_spellings cfg n P u num hwf
  exact ⟨not_state_of_normProto (h1 ▸ proto_nf_not_state n P u num hwf),
    not_state_of_normProto (h2 ▸ proto_nf_not_state n P u num hwf)⟩

theorem normProto_not_state (cfg : KCfg) (n : Neg) (P : Proto) (u m : Bool) (w : (AOpt.proto n P u m).wf = true) :
    equalFold (s "state") (normProto (negPre n.isNeg ++ P.kname cfg.protoNames)) = false := by
  rw [(normProto_spellings cfg n P u m w).2]
  exact proto_nf_not_state n P u m w

def kStates (l : List Spec.St) : List Spec.St := kernelStateOrder.filter (· ∈ l)

theorem stName_nocomma (x : Spec.St) : ',' ∉ x.name := by cases x <;> decide

theorem stName_inj (a b : Spec.St) (h : a.name = b.name) : a = b := by
  cases a <;> cases b <;> first | rfl | (exfalso; revert h; decide)

theorem mem_kStates (l : List Spec.St) (x : Spec.St) : x ∈ kStates l ↔ x ∈ l := by
  have : x ∈ kernelStateOrder := by cases x <;> decide
  simp [kStates, List.mem_filter, this]

theorem st_perm (l : List Spec.St) (h : l.Nodup) : (kernelStateOrder.filter (· ∈ l)).Perm l :=
  have hk : kernelStateOrder.Nodup := by decide
  (List.perm_ext_iff_of_nodup (hk.sublist List.filter_sublist) h).mpr (mem_kStates l)

theorem st_filter_ne (l : List Spec.St) (hne : l ≠ []) : kernelStateOrder.filter (· ∈ l) ≠ [] :=
  have ⟨x, hx⟩ := List.exists_mem_of_ne_nil l hne
  List.ne_nil_of_mem ((mem_kStates l x).mpr hx)

theorem split_names {L : List Str} {X : List Spec.St} (hp : L.Perm (X.map Spec.St.name)) (hne : X ≠ []) :
    splitChar (joinWith [','] L) ',' = L := by
  refine splitChar_join ',' L (fun e => hne (List.map_eq_nil_iff.mp (e ▸ hp).symm.eq_nil)) fun x hx => ?_
  obtain ⟨y, _, e⟩ := List.mem_map.mp (hp.mem_iff.mp hx)
  rw [← e]; exact stName_nocomma y

theorem normState_names {L : List Str} {X : List Spec.St} (hp : L.Perm (X.map Spec.St.name)) (hne : X ≠ []) :
    normState (joinWith [','] L) = joinWith [','] (sortStrs (X.map Spec.St.name)) := by
  unfold normState
  rw [split_names hp hne, sortStrs_perm_eq hp]

theorem state_roundtrip (l : List Spec.St) (hne : l ≠ []) (h : l.Nodup) :
    normState (joinWith [','] (l.map Spec.St.name)) =
    normState (joinWith [','] ((kernelStateOrder.filter (· ∈ l)).map Spec.St.name)) :=
  (normState_names (.refl _) hne).trans (normState_names ((st_perm l h).map Spec.St.name) hne).symm

theorem normState_fixed (l : List Spec.St) (hne : l ≠ []) :
    normState (normState (joinWith [','] ((kStates l).map Spec.St.name))) =
      normState (joinWith [','] ((kStates l).map Spec.St.name)) := by
  have k1 : kStates l ≠ [] := st_filter_ne l hne
  rw [normState_names (.refl _) k1]
  exact normState_names (isort_perm strLe _) k1

/-- Undoes `normState` on what the kernel prints: the names in the kernel's order. -/
def denormState (v : Str) : Str :=
  joinWith [','] ((kernelStateOrder.filter fun x => x.name ∈ splitChar v ',').map Spec.St.name)

theorem denormState_normState (l : List Spec.St) (hne : l ≠ []) :
    denormState (normState (joinWith [','] ((kStates l).map Spec.St.name))) =
      joinWith [','] ((kStates l).map Spec.St.name) := by
  have k1 : kStates l ≠ [] := st_filter_ne l hne
  rw [normState_names (.refl _) k1]
  unfold denormState
  rw [split_names (L := sortStrs _) (isort_perm strLe _) k1]
  -- a name is in the sorted list iff its state is in `l`
  refine congrArg (fun X => joinWith [','] (List.map Spec.St.name X)) (List.filter_congr fun x _ => ?_)
  refine decide_eq_decide.mpr ?_
  rw [mem_sortStrs, ← mem_kStates l x]
  exact ⟨fun hx => by obtain ⟨y, hy, e⟩ := List.mem_map.mp hx; rw [← stName_inj _ _ e]; exact hy,
    List.mem_map_of_mem⟩

theorem hex_noslash {hex : Str} (h : hex.all (fun c => isDigit c || ('a' ≤ c && c ≤ 'f')) = true) : '/' ∉ hex :=
  fun hm => absurd (List.all_eq_true.mp h '/' hm) (by decide)

theorem xConvV_kernel (hex : Str) (h : '/' ∉ hex) : xConvV (s "0x" ++ hex ++ s "/0xffffffff") = true := by
  have e : s "0x" ++ hex ++ s "/0xffffffff" = (s "0x" ++ hex) ++ '/' :: s "0xffffffff" := by simp [s]
  unfold xConvV
  rw [e, cutChar_at _ _ '/' (by simp [s, h])]
  show ((!true || decide (lower (s "0xffffffff") = s "0xffffffff")) = true)
  decide

/-- `AOpt.kernel` builds the text as `… ++ "/0x" ++ mask`, `AOpt.wf` compares with the one literal `"/0xffffffff"`. -/
theorem kmark_text (hex : Str) : s "0x" ++ hex ++ s "/0x" ++ s "ffffffff" = s "0x" ++ hex ++ s "/0xffffffff" := by
  rw [List.append_assoc (s "0x" ++ hex)]; rfl

theorem mark_num {hex mask v : Str} {x : Bool} (w : (AOpt.setMark hex mask x v).wf = true) :
    ∃ n, markNorm (s "0x" ++ hex ++ s "/0x" ++ mask) = some n ∧ markNorm v = some n := by
  have w := wf_setMark w
  obtain rfl := w.hmask
  obtain ⟨n, hn⟩ := Option.isSome_iff_exists.mp w.hsome
  exact ⟨n, by rw [kmark_text, ← w.heq, hn], hn⟩

theorem normMark_of_markNorm (t : Str) (n : Int) (h : markNorm t = some n) : normMark t = intToStr n := by
  unfold markNorm at h
  unfold normMark
  simp only at h ⊢
  rw [h]

theorem normMark_fixed (t : Str) (n : Int) (h : markNorm t = some n) : normMark (normMark t) = normMark t := by
  rw [normMark_of_markNorm t n h]
  have hr : -2147483648 ≤ n ∧ n < 2147483648 := by
    unfold markNorm at h; exact parseInt32_range h
  have hp := parseInt32_intToStr n hr.1 hr.2
  -- the decimal text has no upper case letters and no slash
  have hchars : ∀ c ∈ intToStr n, isDigit c = true ∨ c = '-' := by
    intro c hc
    unfold intToStr at hc
    split at hc
    · exact (List.mem_cons.mp hc).symm.imp_left (List.all_eq_true.mp (natToStr_digits _) c)
    · exact .inl (List.all_eq_true.mp (natToStr_digits _) c hc)
  have hlow : lower (intToStr n) = intToStr n :=
    ListFacts.map_eq_self fun c hc => by
      rcases hchars c hc with h1 | h1
      · exact lowerC_of_digit h1
      · subst h1; rfl
  have hns : '/' ∉ intToStr n := by
    intro hm
    rcases hchars '/' hm with h1 | h1
    · simp [isDigit] at h1
    · exact absurd h1 (by decide_lit [s_ofList])
  apply normMark_of_markNorm
  unfold markNorm
  simp only [hlow, cutSuffix_none_of_not_mem (intToStr n) (s "/0xffffffff") '/' (by decide_lit [s_ofList]) hns, Option.getD_none]
  exact hp

theorem normLog_canon {lvl : Str} (h : canonNum lvl = true) : normLog lvl = lvl := by
  unfold normLog
  rw [if_neg]
  intro e; rw [e] at h; exact absurd h (by decide)

end NA.C05
