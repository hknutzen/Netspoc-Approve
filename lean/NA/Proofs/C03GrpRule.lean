import NA.Proofs.C03GrpField
import NA.Proofs.C03AlPlan
/-
C03, pairs with address-groups: one matched rule (`equalize`), the first
and the second loop of `diffRules`.  The rule requests the planner appends are those of the
plan for a target in which every group is called by its final name on the device; without groups they are
`plainRuleCmds` of the target itself (`diffRules_noGrp`).  Core Lean only.
-/
namespace NA.PanOs

def adaptRule (st : St) (rb : Rule) : Rule := { rb with src := adaptL st rb.src, dst := adaptL st rb.dst }

theorem adaptRule_name (st : St) (rb : Rule) : (adaptRule st rb).name = rb.name := rfl
theorem adaptRule_hdr (st : St) (rb : Rule) : (adaptRule st rb).hdr = rb.hdr := rfl
theorem adaptRule_srv (st : St) (rb : Rule) : (adaptRule st rb).srv = rb.srv := rfl

theorem ruleNames_map_adapt (st : St) (B : List Rule) : ruleNames (B.map (adaptRule st)) = ruleNames B := by
  simp [ruleNames, List.map_map, Function.comp_def, adaptRule_name]

theorem eqCmds_onRules (diff : Differ) (ra rb : Rule) : ∀ c ∈ eqCmds diff ra rb, c.onRules = true :=
  fun c hc => (eqCmds_keys diff ra rb c hc).1

theorem equalize_sim {sh : Shared} {Ref : String → Prop} {N : Prop} (diff : Differ) (hd : GoodDiffer diff)
    (fuel : Nat) {st : St} {vg : Vsys} (ra rb : Rule) (h : Fits sh Ref st vg)
    (hA1 : AShape (IdentityDiffer diff) N st ra.src) (hA2 : AShape (IdentityDiffer diff) N st ra.dst)
    (hB1 : BShape Ref N st rb.src) (hB2 : BShape Ref N st rb.dst) :
    ∃ st' vg', equalize diff (fuel + 2) st ra rb = st' ∧ GSettled st' rb.src ∧ GSettled st' rb.dst ∧
      GStep sh Ref st vg st' vg' (eqCmds diff ra (adaptRule st' rb)) := by
  obtain ⟨st1, vg1, e1, step1, set1⟩ := equalizeList_sim diff hd fuel ra.src rb.src ra.name .src h hA1 hB1
  obtain ⟨st2, vg2, e2, step2, set2⟩ := equalizeList_sim diff hd fuel ra.dst rb.dst ra.name .dst step1.fits
    (hA2.mono step1.mono) (hB2.mono step1.mono)
  -- the services: at most one more rule request, which changes the output only
  obtain ⟨st3, e3, step3, hsame⟩ : ∃ st3, (if ra.srv != rb.srv then st2.emit (.editList ra.name .srv rb.srv) else st2) = st3 ∧
      GStep sh Ref st2 vg2 st3 vg2 (if ra.srv != rb.srv then [.editList ra.name .srv rb.srv] else []) ∧
      ∀ l, adaptL st3 l = adaptL st2 l ∧ (GSettled st2 l → GSettled st3 l) := by
    split
    · exact ⟨_, rfl, .ruleCmd step2.fits rfl, fun _ => ⟨rfl, id⟩⟩
    · exact ⟨_, rfl, .refl step2.fits, fun _ => ⟨rfl, id⟩⟩
  refine ⟨st3, vg2, by unfold equalize; simp only [e1, e2, e3], (hsame _).2 (set1.mono step2.mono), (hsame _).2 set2, ?_⟩
  have hclosed : eqCmds diff ra (adaptRule st3 rb) =
      (fieldCmds diff ra.name .src ra.src (adaptL st1 rb.src) ++ fieldCmds diff ra.name .dst ra.dst (adaptL st2 rb.dst)) ++
        (if ra.srv != rb.srv then [.editList ra.name .srv rb.srv] else []) := by
    unfold eqCmds adaptRule
    simp only [(hsame _).1]
    rw [adaptL_mono step2.mono set1]
  rw [hclosed]
  exact (step1.trans step2).trans step3

theorem adaptRule_mono {st st' : St} (hm : GMono st st') {rb : Rule} (h1 : GSettled st rb.src) (h2 : GSettled st rb.dst) :
    adaptRule st' rb = adaptRule st rb := by
  unfold adaptRule
  rw [adaptL_mono hm h1, adaptL_mono hm h2]

theorem adaptRule_default (st : St) : adaptRule st default = default := rfl

theorem getD_map_adapt (st : St) (B : List Rule) (j : Nat) :
    (B.map (adaptRule st)).getD j default = adaptRule st (B.getD j default) := by
  simp only [List.getD_eq_getElem?_getD, List.getElem?_map]
  cases B[j]? <;> rfl

theorem alPhase1_sim {sh : Shared} {Ref : String → Prop} {N : Prop} (diff : Differ) (hd : GoodDiffer diff)
    (fuel : Nat) :
    ∀ (l : List (Al Rule Rule)) {st : St} {vg : Vsys}, Fits sh Ref st vg →
      (∀ ra ∈ Al.as l, AShape (IdentityDiffer diff) N st ra.src ∧ AShape (IdentityDiffer diff) N st ra.dst) →
      (∀ rb ∈ Al.bs l, BShape Ref N st rb.src ∧ BShape Ref N st rb.dst) →
      ∃ st' vg', l.foldl (alStep diff (fuel + 2)) st = st' ∧
        (∀ ra rb, Al.eq ra rb ∈ l → GSettled st' rb.src ∧ GSettled st' rb.dst) ∧
        ∀ fin, GMono st' fin → GStep sh Ref st vg st' vg' (Al.cmds1 diff (l.map (Al.map id (adaptRule fin)))) := by
  intro l
  induction l with
  | nil => exact fun h _ _ => ⟨_, _, rfl, (fun _ _ h => nomatch h), fun _ _ => .refl h⟩
  | cons x l ih =>
    intro st vg h hAr hBr
    -- the shapes of the rest, after a step
    have rest : ∀ {st1 : St}, GMono st st1 →
        (∀ ra ∈ Al.as l, AShape (IdentityDiffer diff) N st1 ra.src ∧ AShape (IdentityDiffer diff) N st1 ra.dst) ∧
        (∀ rb ∈ Al.bs l, BShape Ref N st1 rb.src ∧ BShape Ref N st1 rb.dst) := fun m =>
      ⟨fun r hr => have q := hAr r (by cases x <;> simp [Al.as, hr]); ⟨q.1.mono m, q.2.mono m⟩,
        fun r hr => have q := hBr r (by cases x <;> simp [Al.bs, hr]); ⟨q.1.mono m, q.2.mono m⟩⟩
    cases x with
    | del ra =>
      have step1 := GStep.ruleCmd h (c := .delRule ra.name) rfl
      obtain ⟨st', vg', e, hset, hfin⟩ := ih step1.fits (rest step1.mono).1 (rest step1.mono).2
      exact ⟨st', vg', e, fun a b h => hset a b ((List.mem_cons.mp h).resolve_left nofun),
        fun fin hmf => step1.trans (hfin fin hmf)⟩
    | ins rb =>
      obtain ⟨st', vg', e, hset, hfin⟩ := ih h (rest (GMono.refl st)).1 (rest (GMono.refl st)).2
      exact ⟨st', vg', e, fun a b h => hset a b ((List.mem_cons.mp h).resolve_left nofun), hfin⟩
    | eq ra rb =>
      obtain ⟨st1, vg1, e1, set1, set2, step1⟩ := equalize_sim diff hd fuel ra rb h
        (hAr ra List.mem_cons_self).1 (hAr ra List.mem_cons_self).2 (hBr rb List.mem_cons_self).1 (hBr rb List.mem_cons_self).2
      obtain ⟨st', vg', e, hset, hfin⟩ := ih step1.fits (rest step1.mono).1 (rest step1.mono).2
      refine ⟨st', vg', by rw [List.foldl_cons, alStep, e1, e], fun a b h => ?_, fun fin hmf => ?_⟩
      · have m2 := (hfin st' (GMono.refl st')).mono
        rcases List.mem_cons.mp h with h | h
        · cases h; exact ⟨set1.mono m2, set2.mono m2⟩
        · exact hset a b h
      · have := step1.trans (hfin fin hmf)
        rw [← adaptRule_mono ((hfin st' (GMono.refl st')).mono.trans hmf) set1 set2] at this
        exact this

theorem insertRule_sim {sh : Shared} {Ref : String → Prop} {N : Prop} (anchor : Option String) {st : St} {vg : Vsys}
    (ru : Rule) (h : Fits sh Ref st vg) (hB1 : BShape Ref N st ru.src) (hB2 : BShape Ref N st ru.dst) :
    ∃ st', insertRule anchor st ru = st' ∧ GSettled st' ru.src ∧ GSettled st' ru.dst ∧
      GStep sh Ref st vg st' vg (Cmd.setRule (adaptRule st' ru) ::
        (match anchor with | some d => [Cmd.move ru.name d] | none => [])) := by
  have href : ∀ {st : St} {l : List String}, BShape Ref N st l → ∀ x ∈ l, (st.bGrpIdx x).isSome → Ref x := by
    intro st l h x hx hsome
    rcases h.shape with h1 | ⟨g, e, _, hr, _⟩
    · rw [h1 x hx] at hsome; cases hsome
    · subst e
      simp only [List.mem_singleton] at hx
      subst hx; exact hr
  obtain ⟨st1, e1, step1, set1⟩ := adaptGroups_sim' ru.src h (href hB1)
  obtain ⟨st2, e2, step2, set2⟩ := adaptGroups_sim' ru.dst step1.fits (href (hB2.mono step1.mono))
  have hru : ({ ru with src := adaptL st1 ru.src, dst := adaptL st2 ru.dst } : Rule) = adaptRule st2 ru := by
    unfold adaptRule
    rw [adaptL_mono step2.mono set1]
  generalize hcs : (Cmd.setRule (adaptRule st2 ru) ::
    (match anchor with | some d => [Cmd.move ru.name d] | none => [])) = cs
  have hon : ∀ c ∈ cs, c.onRules = true := by
    intro c hc
    rw [← hcs] at hc
    rcases List.mem_cons.mp hc with rfl | hc
    · rfl
    · cases anchor with
      | none => cases hc
      | some d => simp only [List.mem_singleton] at hc; subst hc; rfl
  have heq : insertRule anchor st ru = st2.emitAll cs := by
    unfold insertRule
    simp only [e1, e2, hru]
    rw [← hcs]
    cases anchor <;> simp [St.emit, St.emitAll, List.append_assoc]
  refine ⟨st2.emitAll cs, heq, set1.mono step2.mono, set2, ?_⟩
  have : adaptRule (st2.emitAll cs) ru = adaptRule st2 ru := rfl
  rw [this, hcs]
  exact (step1.trans step2).trans (.ruleCmds step2.fits cs hon)

theorem alInsert_sim {sh : Shared} {Ref : String → Prop} {N : Prop} {vg : Vsys} :
    ∀ (l : List (Al Rule Rule)) {st : St}, Fits sh Ref st vg →
      (∀ rb ∈ Al.inss l, BShape Ref N st rb.src ∧ BShape Ref N st rb.dst) →
      ∃ st', alInsert st l = st' ∧ (∀ rb ∈ Al.inss l, GSettled st' rb.src ∧ GSettled st' rb.dst) ∧
        ∀ fin, GMono st' fin → GStep sh Ref st vg st' vg (Al.cmds2 (l.map (Al.map id (adaptRule fin)))) := by
  intro l
  induction l with
  | nil => exact fun h _ => ⟨_, rfl, (fun _ h => nomatch h), fun _ _ => .refl h⟩
  | cons x l ih =>
    intro st h hBr
    cases x with
    | del _ => exact ih h hBr
    | eq _ _ => exact ih h hBr
    | ins rb =>
      obtain ⟨st1, e1, set1, set2, step1⟩ := insertRule_sim ((Al.kept l).head?.map (·.name)) rb h
        (hBr rb List.mem_cons_self).1 (hBr rb List.mem_cons_self).2
      obtain ⟨st', e, hset, hfin⟩ := ih step1.fits (fun r hr =>
        ⟨(hBr r (List.mem_cons_of_mem _ hr)).1.mono step1.mono, (hBr r (List.mem_cons_of_mem _ hr)).2.mono step1.mono⟩)
      have m2 := (hfin st' (GMono.refl st')).mono
      refine ⟨st', by rw [alInsert, e1, e], fun r hr => ?_, fun fin hmf => ?_⟩
      · rcases List.mem_cons.mp hr with rfl | hr
        · exact ⟨set1.mono m2, set2.mono m2⟩
        · exact hset r hr
      · have := step1.trans (hfin fin hmf)
        rw [← adaptRule_mono (m2.trans hmf) set1 set2] at this
        simp only [List.map_cons, Al.map, Al.cmds2, Al.kept_image, List.map_id]
        cases hk : (Al.kept l).head? <;> rw [hk] at this <;> exact this

theorem diffRules_sim {sh : Shared} {Ref : String → Prop} {N : Prop} (diff : Differ) (hd : GoodDiffer diff)
    (fuel : Nat) (a b : Vsys) (A B : List Rule) {st : St} {vg : Vsys} (h : Fits sh Ref st vg)
    (hAr : ∀ ra ∈ A, AShape (IdentityDiffer diff) N st ra.src ∧ AShape (IdentityDiffer diff) N st ra.dst)
    (hBr : ∀ rb ∈ B, BShape Ref N st rb.src ∧ BShape Ref N st rb.dst) :
    ∃ fin vg', diffRules diff (fuel + 2) st a b A B = fin ∧
      (∀ rb ∈ B, GSettled fin rb.src ∧ GSettled fin rb.dst) ∧
      GStep sh Ref st vg fin vg'
        (Al.cmds1 diff (align A (B.map (adaptRule fin))
            (diff A.length B.length (fun i j => ruleEqual a b (A.getD i default) (B.getD j default)))) ++
          Al.cmds2 (align A (B.map (adaptRule fin))
            (diff A.length B.length (fun i j => ruleEqual a b (A.getD i default) (B.getD j default))))) := by
  obtain ⟨hv, hn⟩ := hd A.length B.length (fun i j => ruleEqual a b (A.getD i default) (B.getD j default))
  rw [diffRules_align diff (fuel + 2) st a b A B rfl hv hn]
  generalize diff A.length B.length _ = rs at hv hn ⊢
  obtain ⟨hasA, hbsB⟩ := align_sides0 hv
  obtain ⟨st1, vg1, e1, hset1, hfin1⟩ := alPhase1_sim diff hd fuel (align A B rs) h
    (fun r hr => hAr r (hasA ▸ hr)) (fun r hr => hBr r (hbsB ▸ hr))
  have step1 := hfin1 st1 (GMono.refl st1)
  have hinss : ∀ rb ∈ Al.inss (align A B rs), rb ∈ B := fun rb h => hbsB ▸ (Al.inss_sublist _).subset h
  obtain ⟨fin, e2, hset2, hfin2⟩ := alInsert_sim (align A B rs) step1.fits
    (fun rb h => ⟨(hBr rb (hinss rb h)).1.mono step1.mono, (hBr rb (hinss rb h)).2.mono step1.mono⟩)
  have step2 := hfin2 fin (GMono.refl fin)
  refine ⟨fin, vg1, by rw [e1, e2], fun rb hrb => ?_, ?_⟩
  · rcases Al.mem_bs (hbsB ▸ hrb) with h | ⟨ra, h⟩
    · exact hset2 rb h
    · exact ⟨(hset1 ra rb h).1.mono step2.mono, (hset1 ra rb h).2.mono step2.mono⟩
  · have e : align A (B.map (adaptRule fin)) rs = (align A B rs).map (Al.map id (adaptRule fin)) := by
      have := align_map id (adaptRule fin) A B rs
      rwa [List.map_id] at this
    rw [e]
    exact (hfin1 fin step2.mono).trans step2

/-! ### Without groups

A planner state that knows no group satisfies both invariants and all shapes, nothing is renamed and
no group-member request is appended: `diffRules` only appends `plainRuleCmds`. -/

theorem Fits.of_noGrp (sh : Shared) (Ref : String → Prop) {st : St} (h : NoGrp st) (vg : Vsys) : Fits sh Ref st vg := by
  obtain ⟨ha, hb⟩ := h
  have a0 : ∀ {P : AGrp → Prop}, ∀ ga ∈ st.aGrp, P ga := fun ga hga => by rw [ha] at hga; cases hga
  have b0 : ∀ {P : BGrp → Prop}, ∀ gb ∈ st.bGrp, P gb := fun gb hgb => by rw [hb] at hgb; cases hgb
  exact ⟨⟨⟨by simp [ha], a0, b0, a0, b0, a0, b0, b0⟩, b0, b0, b0, b0, a0, b0⟩, a0, b0, b0⟩

theorem GMono.noGrp {st st' : St} (hm : GMono st st') (h : NoGrp st) : NoGrp st' :=
  ⟨List.map_eq_nil_iff.mp (by rw [hm.ag, h.1]; rfl), List.map_eq_nil_iff.mp (by rw [hm.bg, h.2]; rfl)⟩

theorem adaptRule_noGrp {st : St} (h : NoGrp st) (rb : Rule) : adaptRule st rb = rb := by
  unfold adaptRule
  rw [adaptL_plain _ _ (fun y _ => h.bIdx y), adaptL_plain _ _ (fun y _ => h.bIdx y)]

theorem diffRules_noGrp (diff : Differ) (hd : GoodDiffer diff) (fuel : Nat) (st : St) (hst : NoGrp st)
    (a b : Vsys) (aRules bRules : List Rule) :
    diffRules diff (fuel + 2) st a b aRules bRules =
      st.emitAll (plainRuleCmds diff aRules bRules
        (diff aRules.length bRules.length
          (fun i j => ruleEqual a b (aRules.getD i default) (bRules.getD j default)))) := by
  unfold plainRuleCmds
  have ash : ∀ l, AShape (IdentityDiffer diff) False st l := fun l =>
    ⟨False.elim, Or.inl (fun x _ => hst.aIdx x), fun x _ _ gb hgb => by rw [hst.2] at hgb; cases hgb⟩
  have bsh : ∀ l, BShape (fun _ => True) False st l := fun l =>
    ⟨Or.inl (fun x _ => hst.bIdx x), fun x _ _ ga hga => by rw [hst.1] at hga; cases hga⟩
  obtain ⟨fin, _, e, _, step⟩ := diffRules_sim diff hd fuel a b aRules bRules
    (.of_noGrp [] _ hst default) (fun _ _ => ⟨ash _, ash _⟩) (fun _ _ => ⟨bsh _, bsh _⟩)
  rw [e]
  obtain ⟨cs, ho, hf, _, hk⟩ := step.ex
  have m := step.mono
  have hfin := m.noGrp hst
  -- no group, no group-member request; no group, no renaming
  have hcs : cs.filter (fun c => !c.isGrpMem) = cs := List.filter_eq_self.mpr (fun c hc => by
    rcases hk c hc with ⟨_, h2⟩ | h2
    · rw [hst.1] at h2; cases h2
    · rw [onRules_not_grpMem h2]; rfl)
  have hB : bRules.map (adaptRule fin) = bRules := by
    rw [List.map_congr_left (g := id) (fun rb _ => adaptRule_noGrp hfin rb), List.map_id]
  rw [← hf.symm.trans hcs, hB] at ho
  have hobjs := m.objs
  simp only [St.objs, Prod.mk.injEq] at hobjs
  obtain ⟨e1, e2, e3, e4, e5, e6⟩ := hobjs
  cases fin; cases st
  simp only [St.emitAll] at *
  simp only [NoGrp] at hst hfin
  obtain ⟨rfl, rfl⟩ := hst
  obtain ⟨rfl, rfl⟩ := hfin
  subst e1 e2 e3 e4 e5 e6 ho
  rfl

end NA.PanOs
