import NA.Proofs.C15
/-!
# C15: the guard monitor along the trace of `ApplyCommands`

The monitor `Guard` of `NA/Spec/IosDev.lean` is `Idle` up to `reload in 2`, `Armed` from the
confirmation of the schedule exchange on — every send that spells neither `reload cancel` nor
`write memory` (`OKsend`) keeps it so — and `Idle` again behind the cancel exchange.  Beside the monitor, `ext_guarded_sent`: what the guarded block sends.
-/
namespace NA.Ios

variable {σ α β : Type}

def G (t : List Str) : Guard := Guard.run (linesOf t)

theorem linesOf_append (t l : List Str) : linesOf (t ++ l) = linesOf t ++ linesOf l := by
  simp [linesOf]

theorem G_append (t l : List Str) : G (t ++ l) = (linesOf l).foldl Guard.step (G t) := by
  simp [G, Guard.run, linesOf_append, List.foldl_append]

theorem mem_linesOf (x : Str) (l : List Str) : x ∈ linesOf l ↔ ∃ s ∈ l, x ∈ splitOnNL s := by
  simp [linesOf]

def Armed (g : Guard) : Prop := g.pending = true ∧ g.violated = false
def Idle (g : Guard) : Prop := g.pending = false ∧ g.violated = false ∧ g.asked = false

/-! The vocabulary is written out in the goal first, so that the tests of `Guard.step` are decided on letters and the
kernel decodes no literal. -/

theorem step_reload (g : Guard) : g.step reloadCmd = { g with asked := true } := by
  simp -index only [c15_vocab, Guard.step]; rw [if_pos (by decide)]
theorem step_cancel (g : Guard) : g.step cancelCmd = { g with pending := false, asked := false } := by
  simp -index only [c15_vocab, Guard.step]
  rw [if_neg (by decide), if_pos (by decide)]
theorem step_write (g : Guard) :
    g.step writeCmd = { g with violated := g.violated || g.pending, asked := false } := by
  simp -index only [c15_vocab, Guard.step]
  rw [if_neg (by decide), if_neg (by decide), if_pos (by decide)]
theorem step_empty (g : Guard) :
    g.step [] = if g.asked then { g with pending := true, asked := false } else g := by
  simp -index only [c15_vocab, Guard.step]
  rw [if_neg (by decide), if_neg (by decide), if_neg (by decide), if_pos (by decide)]
theorem step_n (g : Guard) : g.step (lit "n") = g := by
  simp -index only [c15_vocab, Guard.step]
  rw [if_neg (by decide), if_neg (by decide), if_neg (by decide), if_neg (by decide), if_pos (by decide)]

theorem step_prep (g : Guard) (c : Str) (hc : c ∈ prepCmds) : g.step c = { g with asked := false } := by
  have h : isReloadIn c = false ∧ (c == cancelCmd) = false ∧ (c == writeCmd) = false ∧ c.isEmpty = false ∧
      (c == lit "n") = false ∧ plainVocab c = true := by
    revert c
    decide_lit [c15_vocab]
  unfold Guard.step
  simp [h]

theorem armed_step (g : Guard) (l : Str) (h : Armed g) (h1 : l ≠ cancelCmd) (h2 : l ≠ writeCmd) :
    Armed (g.step l) := by
  obtain ⟨hp, hv⟩ := h
  have e1 : (l == cancelCmd) = false := by simpa using h1
  have e2 : (l == writeCmd) = false := by simpa using h2
  unfold Guard.step Armed
  simp only [e1, e2]
  split
  · exact ⟨hp, hv⟩
  · simp only [Bool.false_eq_true, if_false]
    split
    · split
      · exact ⟨rfl, hv⟩
      · exact ⟨hp, hv⟩
    · split
      · exact ⟨hp, hv⟩
      · split
        · exact ⟨hp, hv⟩
        · simp [hp, hv]

def OKsend (s : Str) : Prop := ∀ x ∈ splitOnNL s, x ≠ cancelCmd ∧ x ≠ writeCmd

theorem G_inv (P : Guard → Prop) (t l : List Str) (h : P (G t))
    (hl : ∀ s ∈ l, ∀ x ∈ splitOnNL s, ∀ g, P g → P (g.step x)) : P (G (t ++ l)) := by
  rw [G_append]
  exact List.foldlRecOn _ _ h fun g hg x hx => by
    obtain ⟨s, hs, hxs⟩ := (mem_linesOf x l).1 hx
    exact hl s hs x hxs g hg

theorem armed_sends (t l : List Str) (h : Armed (G t)) (hl : ∀ s ∈ l, OKsend s) : Armed (G (t ++ l)) :=
  G_inv Armed t l h fun s hs x hx g hg => armed_step g x hg (hl s hs x hx).1 (hl s hs x hx).2

theorem idle_prep (t l : List Str) (h : Idle (G t)) (hl : ∀ s ∈ l, s ∈ prepCmds) : Idle (G (t ++ l)) :=
  G_inv Idle t l h fun s hs x hx g hg => by
    rw [splitOnNL_prep s (hl s hs), List.mem_singleton] at hx
    rw [hx, step_prep g s (hl s hs)]
    exact ⟨hg.1, hg.2.1, rfl⟩

theorem idle_write (t l : List Str) (h : Idle (G t)) (hl : ∀ s ∈ l, s = writeCmd ∨ s = []) :
    Idle (G (t ++ l)) :=
  G_inv Idle t l h fun s hs x hx g hg => by
    obtain ⟨hp, hv, ha⟩ := hg
    rcases hl s hs with rfl | rfl
    · rw [fixed_single writeCmd (by simp [fixedLines]), List.mem_singleton] at hx
      rw [hx, step_write]; exact ⟨hp, by simp [hv, hp], rfl⟩
    · rw [List.mem_singleton.1 hx, step_empty]; simp [ha]; exact ⟨hp, hv, ha⟩

variable (D : Device σ)

def ReloadShape (c : Str) (r : Res Unit) (l : List Str) : Prop :=
  (l = [c] ∨ l = [c, lit "n"] ∨ l = [c, []] ∨ l = [c, lit "n", []]) ∧
  (r = .ok () → l = [c, []] ∨ l = [c, lit "n", []])

theorem ext_sendReloadCmd (b : Bool) :
    Ext (sendReloadCmd D b) (ReloadShape (if b then doReloadCmd else reloadCmd)) := by
  unfold sendReloadCmd
  refine (ext_bind (ext_issueCmd D _ _ _) (fun out =>
    ext_bind (P := fun _ l => l = [] ∨ l = [lit "n"]) ?_ (fun _ =>
      ext_bind (silent_setActive true).ext (fun _ => ext_sendCmd D [])))).mono ?_
  · split
    · refine (ext_bind (ext_issueCmd D _ _ _) (fun _ => (silent_pure ()).ext)).mono ?_
      rintro r l (⟨e, _, h⟩ | ⟨_, _, _, rfl, rfl, rfl⟩)
      · exact .inr h
      · exact .inr rfl
    · exact (silent_pure ()).ext.mono (fun _ _ h => .inl h)
  · rintro r l (⟨e, rfl, rfl⟩ | ⟨_, _, _, rfl, rfl, ⟨e, rfl, hn⟩ | ⟨_, ln, _, rfl, hn, ⟨e, rfl, rfl⟩ | ⟨_, _, _, rfl, rfl, rfl⟩⟩⟩)
    · exact ⟨.inl rfl, nofun⟩
    · rcases hn with rfl | rfl
      · exact ⟨.inl rfl, nofun⟩
      · exact ⟨.inr (.inl rfl), nofun⟩
    · rcases hn with rfl | rfl
      · exact ⟨.inl rfl, nofun⟩
      · exact ⟨.inr (.inl rfl), nofun⟩
    · rcases hn with rfl | rfl
      · exact ⟨.inr (.inr (.inl rfl)), fun _ => .inl rfl⟩
      · exact ⟨.inr (.inr (.inr rfl)), fun _ => .inr rfl⟩

theorem ext_cancelReload :
    Ext (cancelReload D) (fun _ l => l = [cancelCmd] ∨ l = [cancelCmd, []]) := by
  unfold cancelReload
  refine (ext_bind (ext_issueCmd D _ _ _) (fun _ =>
    ext_bind silent_waitHashEnd.ext (fun _ =>
      ext_bind (ext_sendCmd D []) (fun _ => (silent_setActive false).ext)))).mono ?_
  rintro r l (⟨e, _, hl⟩ | ⟨_, _, _, rfl, rfl, ⟨e, _, rfl⟩ | ⟨_, _, _, rfl, rfl, ⟨e, _, rfl⟩ | ⟨_, _, _, rfl, rfl, rfl⟩⟩⟩)
  · exact .inl hl
  · exact .inl rfl
  · exact .inr rfl
  · exact .inr rfl

theorem sched_effect (t l : List Str) (r : Res Unit) (h : Idle (G t)) (hs : ReloadShape reloadCmd r l) :
    (G (t ++ l)).violated = false ∧ (r = .ok () → Armed (G (t ++ l))) := by
  rw [G_append]
  generalize G t = g at h
  obtain ⟨hp, hv, ha⟩ := h
  have hsplit : splitOnNL reloadCmd = [reloadCmd] := fixed_single _ (by simp [fixedLines])
  have hn : splitOnNL (lit "n") = [lit "n"] := fixed_single _ (by simp [fixedLines])
  have he : splitOnNL ([] : Str) = [[]] := rfl
  obtain ⟨hshape, hok⟩ := hs
  have key : ∀ l, (l = [reloadCmd] ∨ l = [reloadCmd, lit "n"]) →
      ((linesOf l).foldl Guard.step g).violated = false := by
    intro l hl
    rcases hl with rfl | rfl
    · simp [linesOf, hsplit, step_reload, hv]
    · simp [linesOf, hsplit, hn, step_reload, step_n, hv]
  have key2 : ∀ l, (l = [reloadCmd, []] ∨ l = [reloadCmd, lit "n", []]) →
      Armed ((linesOf l).foldl Guard.step g) := by
    intro l hl
    rcases hl with rfl | rfl
    · simp [linesOf, hsplit, he, step_reload, step_empty, Armed, hv]
    · simp [linesOf, hsplit, hn, he, step_reload, step_n, step_empty, Armed, hv]
  constructor
  · rcases hshape with h | h | h | h
    · exact key l (.inl h)
    · exact key l (.inr h)
    · exact (key2 l (.inl h)).2
    · exact (key2 l (.inr h)).2
  · intro hr; exact key2 l (hok hr)

theorem cancel_effect (t l : List Str) (hv : (G t).violated = false)
    (hl : l = [cancelCmd] ∨ l = [cancelCmd, []]) : Idle (G (t ++ l)) := by
  rw [G_append]
  generalize G t = g at hv
  have hc : splitOnNL cancelCmd = [cancelCmd] := fixed_single _ (by simp [fixedLines])
  have he : splitOnNL ([] : Str) = [[]] := rfl
  rcases hl with rfl | rfl
  · simp [linesOf, hc, step_cancel, Idle, hv]
  · simp [linesOf, hc, he, step_cancel, step_empty, Idle, hv]

theorem okSend_vocab (s : Str) (h : reloadVocab s ∨ s = confCmd ∨ s = endCmd) : OKsend s := by
  have : ∀ s ∈ [reloadCmd, doReloadCmd, lit "n", [], confCmd, endCmd],
      ∀ x ∈ splitOnNL s, x ≠ cancelCmd ∧ x ≠ writeCmd := by
    decide_lit [c15_vocab]
  apply this
  rcases h with (h | h | h | h) | h | h <;> simp [h]

theorem guarded_monitor (fixed : Bool) (cs : List Str) (hcs : ∀ c ∈ cs, OKsend c) (st : St σ)
    (hI : Idle (G st.trace)) :
    (G (guarded D fixed cs st).2.trace).violated = false ∧
    ((scheduleReload D st).1 = .ok () → Idle (G (guarded D fixed cs st).2.trace)) ∧
    (∀ e, (scheduleReload D st).1 = .abort e → (guarded D fixed cs st).1 = .abort e) := by
  obtain ⟨l0, ht0, hs0⟩ := ext_sendReloadCmd D false st
  have eff := sched_effect st.trace l0 _ hI hs0
  rw [← ht0] at eff
  rcases res_cases (scheduleReload D st).1 with ⟨a, hok⟩ | ⟨e, hab⟩
  · -- the guard is armed; body keeps it armed; the deferred cancel disarms
    have harm : Armed (G (scheduleReload D st).2.trace) := eff.2 (by cases a; exact hok)
    have hg : guarded D fixed cs st =
        finally_ (guardedBody D fixed cs) (cancelReload D) (scheduleReload D st).2 := by
      unfold guarded; exact bindM_snd_of_ok _ _ _ _ hok
    obtain ⟨l1, ht1, hs1⟩ := sends_guardedBody D fixed cs (scheduleReload D st).2
    have harm1 : Armed (G (guardedBody D fixed cs (scheduleReload D st).2).2.trace) := by
      rw [ht1]
      refine armed_sends _ _ harm (fun s hs => ?_)
      rcases hs1 s hs with h | h
      · exact hcs s h
      · exact okSend_vocab s h
    obtain ⟨l2, ht2, hs2⟩ := ext_cancelReload D (guardedBody D fixed cs (scheduleReload D st).2).2
    have hidle : Idle (G (guarded D fixed cs st).2.trace) := by
      rw [hg, finally_eq]; simp only
      rw [ht2]
      exact cancel_effect _ _ harm1.2 hs2
    exact ⟨hidle.2.1, fun _ => hidle, fun e he => by rw [hok] at he; cases he⟩
  · have hg : guarded D fixed cs st = (.abort e, (scheduleReload D st).2) := by
      unfold guarded; exact bindM_of_abort _ _ _ _ hab
    refine ⟨?_, ?_, ?_⟩
    · rw [hg]; exact eff.1
    · intro h; rw [hab] at h; cases h
    · intro e' he'; rw [hab] at he'; cases he'; rw [hg]

def NoW (s : Str) : Prop := writeCmd ∉ splitOnNL s

theorem noW_of_ok (s : Str) (h : OKsend s) : NoW s := fun hm => (h _ hm).2 rfl

theorem noW_lines (l : List Str) (h : ∀ s ∈ l, NoW s) : writeCmd ∉ linesOf l := fun hm => by
  obtain ⟨s, hs, hx⟩ := (mem_linesOf _ _).1 hm
  exact h s hs hx

theorem ext_guarded_sent (fixed : Bool) (cs : List Str) (hcs : ∀ c ∈ cs, OKsend c) :
    Ext (guarded D fixed cs) (fun r l => (∀ s ∈ l, NoW s) ∧ (r = .ok () → ∀ c ∈ cs, c ∈ l)) := by
  have hvoc : ∀ s, reloadVocab s ∨ s = confCmd ∨ s = endCmd → NoW s := fun s h => noW_of_ok s (okSend_vocab s h)
  have hcan : ∀ s ∈ [cancelCmd, []], writeCmd ∉ splitOnNL s := by decide_lit [c15_vocab]
  unfold guarded
  refine (ext_bind (sends_sendReloadCmd D false) (fun _ =>
    ext_finally (ext_guardedBody D fixed cs) (ext_cancelReload D))).mono ?_
  rintro r l (⟨e, rfl, hl⟩ | ⟨a, l1, _, rfl, h1, rb, rf, l3, l4, rfl, h3, h4, rfl⟩)
  · exact ⟨fun s hs => hvoc s (.inl (hl s hs)), nofun⟩
  · refine ⟨fun s hs => ?_, fun hok c hc => ?_⟩
    · simp only [List.mem_append] at hs
      rcases hs with hs | hs | hs
      · exact hvoc s (.inl (h1 s hs))
      · exact (h3.1 s hs).elim (fun h => noW_of_ok s (hcs s h)) (hvoc s)
      · rcases h4 with rfl | rfl
        · exact hcan s (List.mem_cons.2 (.inl (List.mem_singleton.1 hs)))
        · exact hcan s hs
    · exact List.mem_append_right _ (List.mem_append_left _ (h3.2 (finRes_ok _ _ _ hok).1 c hc))

end NA.Ios
