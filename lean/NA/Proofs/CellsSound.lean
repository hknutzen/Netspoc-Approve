import NA.Core.Cells
import NA.Core.ListFacts
/-
Bridge from edit scripts (ranges of `github.com/pkg/diff`) to merged lists: whenever `cellsOf a b rs`
accepts a script, the merged list `M` it returns has `olds M = a` and `news M = b`.
-/
namespace NA.Acl

theorem olds_map_mk (l : List Line) (o n : Bool) :
    olds (l.map fun x => (⟨x, o, n⟩ : Cell)) = if o then l else [] := by
  cases o <;> simp [olds, List.filter_map, Function.comp_def]

theorem news_map_mk (l : List Line) (o n : Bool) :
    news (l.map fun x => (⟨x, o, n⟩ : Cell)) = if n then l else [] := by
  cases n <;> simp [news, List.filter_map, Function.comp_def]

theorem cellsFrom_sound (a b : List Line) (rs : List Range) (ia ib : Nat) (M : List Cell)
    (h : cellsFrom a b rs ia ib = some M) : olds M = a.drop ia ∧ news M = b.drop ib := by
  fun_induction cellsFrom a b rs ia ib generalizing M
  case case1 hc =>
    simp only [Bool.and_eq_true, beq_iff_eq] at hc
    cases h
    rw [hc.1, hc.2, List.drop_length, List.drop_length]
    exact ⟨rfl, rfl⟩
  case case2 | case3 | case7 => cases h
  -- an insert, delete or equal range: a stretch of cells in front of the rest of the script
  case case4 r rs ia ib hb hk ih =>
    obtain ⟨M', hM', rfl⟩ := Option.map_eq_some_iff.1 h
    simp only [Bool.or_eq_true, bne_iff_ne, ne_eq, decide_eq_true_eq, not_or, Decidable.not_not,
      Nat.not_lt, Range.isInsert, beq_iff_eq] at hb hk
    rw [olds_append, news_append, olds_map_mk, news_map_mk, (ih M' hM').1, (ih M' hM').2,
      ← hk, hb.1.1.1.1.1]
    exact ⟨rfl, (ListFacts.drop_split b hb.1.1.2).symm⟩
  case case5 r rs ia ib hb _ hk ih =>
    obtain ⟨M', hM', rfl⟩ := Option.map_eq_some_iff.1 h
    simp only [Bool.or_eq_true, bne_iff_ne, ne_eq, decide_eq_true_eq, not_or, Decidable.not_not,
      Nat.not_lt, Range.isDelete, beq_iff_eq] at hb hk
    rw [olds_append, news_append, olds_map_mk, news_map_mk, (ih M' hM').1, (ih M' hM').2,
      ← hk, hb.1.1.1.1.2]
    exact ⟨(ListFacts.drop_split a hb.1.1.1.2).symm, rfl⟩
  case case6 r rs ia ib hb _ _ hk ih =>
    obtain ⟨M', hM', rfl⟩ := Option.map_eq_some_iff.1 h
    simp only [Bool.or_eq_true, bne_iff_ne, ne_eq, decide_eq_true_eq, not_or, Decidable.not_not,
      Nat.not_lt, Bool.and_eq_true, beq_iff_eq] at hb hk
    rw [olds_append, news_append, olds_map_mk, news_map_mk, (ih M' hM').1, (ih M' hM').2]
    exact ⟨(ListFacts.drop_split a hb.1.1.1.2).symm, hk.2 ▸ (ListFacts.drop_split b hb.1.1.2).symm⟩

theorem cellsOf_sound (a b : List Line) (rs : List Range) (M : List Cell)
    (h : cellsOf a b rs = some M) : olds M = a ∧ news M = b := by
  have hfrom : cellsFrom a b rs 0 0 = some M → olds M = a ∧ news M = b :=
    cellsFrom_sound a b rs 0 0 M
  unfold cellsOf at h
  split at h
  · split at h
    · -- the form "no line in common": all of `a` deleted, then all of `b` inserted
      cases h
      rw [olds_append, news_append, olds_map_mk, olds_map_mk, news_map_mk, news_map_mk]
      exact ⟨List.append_nil a, List.nil_append b⟩
    · exact hfrom h
  · exact hfrom h

end NA.Acl
