import NA.Proofs.F1DevPhase1
import NA.Proofs.F1DevLines
/-!
# F1: `diffASAACLs` converges on the strict device (one access-list pair, arbitrary group sharing)
-/
namespace NA.F1
open NA.AsaDev
open NA.Acl (Range MaskRun masked)
open NA.ListFacts

theorem side_dec (st0 : St) (al bl : List Line) (cells : List MCell) (mk : List String) (p : NA.Acl.Cell → Bool)
    (sel : MCell → Bool) (hp : ∀ i, p (encCell cells mk i) = sel (cells.getD i default)) :
    (((encodeCells cells mk).filter p).map (·.line)).map (decOf st0 al bl cells) =
      (cells.filter sel).map (cellRLine st0 al bl) := by
  have hps : (p ∘ encCell cells mk) = fun i => sel (cells.getD i default) := funext hp
  rw [encodeCells_eq_map, List.filter_map, List.map_map, List.map_map, hps,
    ← filter_map_index default cells sel (cellRLine st0 al bl)]
  apply List.map_congr_left
  intro i hi
  have hi' : i < cells.length := by simpa using (List.mem_filter.mp hi).1
  exact dec_line st0 al bl cells mk i hi'

theorem old_cells_lines (st0 : St) (al bl : List Line) : ∀ (cells : List MCell),
    (cells.filter cellOld).map (cellRLine st0 al bl) = (cells.filterMap cellA).map (fun ai => resolveA (al.getD ai default)) := by
  intro cells
  induction cells with
  | nil => rfl
  | cons c cs ih =>
    cases c <;>
      simp only [List.filter_cons, List.filterMap_cons, cellOld, cellA, cellRLine, ih, List.map_cons, Bool.false_eq_true, if_false, if_true]

/-- State and merged list after the first phase of `diffASAACLs`. -/
def planOf (e : Env) (st : St) (aN bN : Name) (rs : List Range) : St × List MCell :=
  cellsPhase e (e.aLines aN) (e.bLines bN) rs (earlyFind e (e.bLines bN) rs st) []

theorem diffASAACLs_eq {e : Env} {st st1 : St} {aN bN : Name} {rs : List Range} {cells : List MCell}
    (hq : planOf e st aN bN rs = (st1, cells)) :
    diffASAACLs e st aN bN rs =
      (NA.Acl.planASA (encodeCells cells (mkeysOf st1 (e.aLines aN) (e.bLines bN) cells))).foldl
        (emitOp e aN (e.aLines aN) (e.bLines bN) cells) st1 := by
  unfold planOf at hq
  unfold diffASAACLs
  simp only [hq, mkeysOf, rlOf, List.map_map]
  rfl

theorem planOf_cells {e : Env} {st st1 : St} {aN bN : Name} {rs : List Range} {cells : List MCell}
    (hq : planOf e st aN bN rs = (st1, cells))
    (h : scriptOK ((e.aLines aN).map (·.body)) ((e.bLines bN).map (·.body)) rs 0 0 = true) :
    cells.filterMap cellA = List.range (e.aLines aN).length ∧ cells.filterMap cellB = List.range (e.bLines bN).length ∧
    KeepBody (e.aLines aN) (e.bLines bN) cells := by
  obtain ⟨ia, ib, hs, pa, pb, kb⟩ := cellsPhase_cellsAt e (e.aLines aN) (e.bLines bN) rs (earlyFind e (e.bLines bN) rs st) h
  rw [show cellsPhase e (e.aLines aN) (e.bLines bN) rs (earlyFind e (e.bLines bN) rs st) [] = (st1, cells) from hq] at pa pb kb
  simp only [scriptOK, Bool.and_eq_true, beq_iff_eq, List.length_map] at hs
  rw [hs.1, ← List.range_eq_range'] at pa
  rw [hs.2, ← List.range_eq_range'] at pb
  exact ⟨pa, pb, kb⟩

theorem GoodFrozen.astep {e : Env} {st st' : St} {d d' : Dev} {x bN aN : Name} (h : GoodFrozen e st d x bN)
    (g : AStep e st d st' d' aN) : GoodFrozen e st' d' x bN :=
  ⟨g.hasMono x h.1, by rw [g.stable x h.1 h.2.2]; exact h.2.1, h.2.2.mono g.grow⟩

theorem KeepGood.astep {e : Env} {st st' : St} {d d' : Dev} {al bl : List Line} {cells : List MCell} {aN : Name}
    (h : KeepGood e st d al bl cells) (g : AStep e st d st' d' aN) : KeepGood e st' d' al bl cells :=
  fun ai bi hm p hp => (h ai bi hm p hp).astep g

/-- A step of the engine that touches object-groups and the lines of access list `aN` (target groups may be
renamed). -/
structure LStep (e : Env) (st : St) (d : Dev) (st' : St) (d' : Dev) (aN : Name) : Prop where
  sem : Sem e st' d'
  out : ∃ cs, st'.out = st.out ++ cs ∧ exec d cs = some d'
  stable : ∀ x, hasGroup d x = true → Frozen e st x → membersOf d' x = membersOf d x
  hasMono : ∀ x, hasGroup d x = true → hasGroup d' x = true
  grow : ∀ x ∈ st.gNeeded, x ∈ st'.gNeeded
  readyMono : ∀ g ∈ st.gReady, g ∈ st'.gReady
  others : ∀ n', n' ≠ aN → linesOf d' n' = linesOf d n'
  binds : d'.binds = d.binds
  routes : d'.routes = d.routes
  intfs : d'.intfs = d.intfs
  aclKeys : d'.acls.map (·.1) = d.acls.map (·.1)

theorem LStep.of_gstep_astep {e : Env} {s1 s2 s3 : St} {d1 d2 d3 : Dev} {aN : Name}
    (g : GStep e s1 d1 s2 d2) (a : AStep e s2 d2 s3 d3 aN) : LStep e s1 d1 s3 d3 aN := by
  refine ⟨a.sem, out_trans g.out a.out, ?_, ?_, ?_, ?_, ?_,
    a.binds.trans g.binds, a.routes.trans g.routes, a.intfs.trans g.intfs, by rw [a.aclKeys, g.acls]⟩
  · intro x hx hf
    rw [a.stable x (g.hasMono x hx) (hf.mono g.grow), g.stable x hx hf]
  · exact fun x hx => a.hasMono x (g.hasMono x hx)
  · exact fun x hx => a.grow x (g.grow x hx)
  · exact fun x hx => a.readyMono x (g.readyMono x hx)
  · exact fun n' hn => (a.others n' hn).trans (g.lines n')

/-- The decidable properties of the plan that the driver checks on every generated case (`planCheck … = "hyp:ok"`):
the printed texts modulo log are pairwise different among the device's lines and among the target's lines when the
plan is made, and at least one kept line keeps its references. -/
structure PlanOK (st1 : St) (al bl : List Line) (cells : List MCell) : Prop where
  old : DistinctOn cells (mkeysOf st1 al bl cells) cellOld
  new : DistinctOn cells (mkeysOf st1 al bl cells) cellNew
  keep : ∃ k a b, k < cells.length ∧ cells.getD k default = .keep a b

theorem diffASAACLs_astep (e : Env) (hw : WF e) (hA : RefsClosedA e) (hB : RefsClosedB e) (st : St) (d : Dev)
    (h : Sem e st d) (aN bN : Name) (rs : List Range) {st1 : St} {cells : List MCell}
    (hq : planOf e st aN bN rs = (st1, cells))
    (hal : linesOf d aN = (e.aLines aN).map resolveA)
    (hscript : scriptOK ((e.aLines aN).map (·.body)) ((e.bLines bN).map (·.body)) rs 0 0 = true)
    (hok : PlanOK st1 (e.aLines aN) (e.bLines bN) cells) :
    ∃ d', LStep e st d (diffASAACLs e st aN bN rs) d' aN ∧
      linesOf d' aN = (cells.filter cellNew).map (cellRLine st1 (e.aLines aN) (e.bLines bN)) ∧
      KeepGood e (diffASAACLs e st aN bN rs) d' (e.aLines aN) (e.bLines bN) cells ∧
      (∀ bi, MCell.ins bi ∈ cells → ∀ g ∈ ((e.bLines bN).getD bi default).refs, g ∈ (diffASAACLs e st aN bN rs).gReady) ∧
      (diffASAACLs e st aN bN rs).gName = st1.gName := by
  rw [diffASAACLs_eq hq]
  have hbl := bLines_getD_refs e hB bN
  obtain ⟨d1, g01, k1⟩ := cellsPhase_gstep e hw hA aN (e.bLines bN) hbl rs st d h hq
  have hproj := planOf_cells hq hscript
  -- the device's access list is the old side of the merged list
  have hlines1 : LinesAt st1 (e.aLines aN) (e.bLines bN) cells d1 aN
      (NA.Acl.oldMask (encodeCells cells (mkeysOf st1 (e.aLines aN) (e.bLines bN) cells))) := by
    unfold LinesAt
    rw [g01.lines, hal, NA.Acl.masked_old, NA.Acl.olds, side_dec st1 _ _ cells _ (·.old) cellOld fun _ => rfl, old_cells_lines,
      hproj.1]
    exact (range_map_getD_map (e.aLines aN) resolveA).symm
  -- the mask-level run of the plan
  have hlen := mkeysOf_length st1 (e.aLines aN) (e.bLines bN) cells
  have hO := mkeys_nodup_side cells _ hlen (·.old) cellOld (fun _ => rfl) hok.old
  have hN := mkeys_nodup_side cells _ hlen (·.new) cellNew (fun _ => rfl) hok.new
  have hrun : MaskRun (encodeCells cells (mkeysOf st1 (e.aLines aN) (e.bLines bN) cells))
      (NA.Acl.oldMask _) (NA.Acl.planASA _) (NA.Acl.newMask _) :=
    NA.Acl.asa_pos_refines _ hO hN
  obtain ⟨k, ka, kb, hk, hkc⟩ := hok.keep
  obtain ⟨d2, a2, l2, i2⟩ := opsFold_astep e hw aN st1 (e.aLines aN) (e.bLines bN) cells
    hbl
    k hk ⟨ka, kb, hkc⟩ hrun (NA.Acl.planASA_opKind _ (NA.Acl.newInj_of_nodup _ hN) (NA.Acl.oldInj_of_nodup _ hO)) st1 d1 g01.sem rfl hlines1
    (by rw [oldMask_enc _ _ hk, hkc]; rfl)
    (fun j bi hj hp hc => by rw [oldMask_enc _ _ hj, hc] at hp; exact absurd hp Bool.false_ne_true)
  refine ⟨d2, LStep.of_gstep_astep g01 a2, ?_, k1.astep a2, ?_, a2.gName⟩
  · rw [l2, NA.Acl.masked_new, NA.Acl.news, side_dec st1 _ _ cells _ (·.new) cellNew fun _ => rfl]
  · intro bi hm g hg
    obtain ⟨j, hj, hjc⟩ := List.getElem_of_mem hm
    have hcj : cells.getD j default = .ins bi := (getD_of_lt default hj).trans hjc
    exact i2 j bi hj (by rw [newMask_enc _ _ hj, hcj]; rfl) hcj g hg

/-- A device line and a target line: same text up to group names, and the groups match. -/
def LineOK (e : Env) (st : St) (d : Dev) (l : RLine) (b : Line) : Prop :=
  l.body = b.body ∧ l.names.length = b.refs.length ∧ ∀ p ∈ l.names.zip b.refs, GoodFrozen e st d p.1 p.2

theorem lineOK_of_ready {e : Env} {st : St} {d : Dev} (hs : Sem e st d) (l : Line)
    (hr : ∀ g ∈ l.refs, g ∈ st.gReady) : LineOK e st d (resolveB st l) l ∧ ∀ x ∈ (resolveB st l).names, Frozen e st x := by
  refine ⟨⟨rfl, by simp [resolveB], ?_⟩, ?_⟩
  · intro p hp
    simp only [resolveB] at hp
    rw [zip_map_self] at hp
    obtain ⟨g, hg, rfl⟩ := List.mem_map.mp hp
    exact hs.ready g (hr g hg)
  · intro x hx
    simp only [resolveB, List.mem_map] at hx
    obtain ⟨g, hg, rfl⟩ := hx
    exact (hs.ready g (hr g hg)).2.2

def bIdx : MCell → Nat
  | .ins b => b
  | .keep _ b => b
  | .del _ => 0

theorem new_cells_b : ∀ (cells : List MCell), cells.filterMap cellB = (cells.filter cellNew).map bIdx := by
  intro cells
  induction cells with
  | nil => rfl
  | cons c cs ih =>
    cases c <;>
      simp only [List.filter_cons, List.filterMap_cons, cellNew, cellB, bIdx, ih, List.map_cons, Bool.false_eq_true, if_false, if_true]

/-- **Convergence of one access-list pair**, from any engine state with `Sem` and under any sharing of groups:
`asa_acl_pair_converges_partial` (NA/Props/F1.lean) with the run hypotheses as `PlanOK`. -/
theorem acl_pair_converges (e : Env) (hw : WF e) (hA : RefsClosedA e) (hB : RefsClosedB e) (st : St) (d : Dev)
    (h : Sem e st d) (aN bN : Name) (rs : List Range) {st1 : St} {cells : List MCell}
    (hq : planOf e st aN bN rs = (st1, cells))
    (hal : linesOf d aN = (e.aLines aN).map resolveA)
    (hscript : scriptOK ((e.aLines aN).map (·.body)) ((e.bLines bN).map (·.body)) rs 0 0 = true)
    (hok : PlanOK st1 (e.aLines aN) (e.bLines bN) cells)
    (hlenA : RefsMatchBody (e.aLines aN)) (hlenB : RefsMatchBody (e.bLines bN)) :
    ∃ d', LStep e st d (diffASAACLs e st aN bN rs) d' aN ∧
      (linesOf d' aN).length = (e.bLines bN).length ∧
      ∀ p ∈ (linesOf d' aN).zip (e.bLines bN), LineOK e (diffASAACLs e st aN bN rs) d' p.1 p.2 := by
  obtain ⟨d', l1, hlines, hkg, hir, hgn⟩ := diffASAACLs_astep e hw hA hB st d h aN bN rs hq hal hscript hok
  obtain ⟨hpa, hpb, hkb⟩ := planOf_cells hq hscript
  -- the target's lines, listed along the new cells
  have hbl : e.bLines bN = (cells.filter cellNew).map (fun c => (e.bLines bN).getD (bIdx c) default) := by
    have h2 := range_map_getD default (e.bLines bN)
    rw [← hpb, new_cells_b, List.map_map] at h2
    exact h2.symm
  refine ⟨d', l1, ?_, ?_⟩
  · rw [hlines, List.length_map]
    conv => rhs; rw [hbl, List.length_map]
  · intro p hp
    rw [hlines] at hp
    have hz : ∀ (bl' : List Line) (f : MCell → RLine) (g : MCell → Line), bl' = (cells.filter cellNew).map g →
        ((cells.filter cellNew).map f).zip bl' = (cells.filter cellNew).map (fun c => (f c, g c)) := by
      intro bl' f g hh; rw [hh, List.zip_map']
    rw [hz _ _ _ hbl] at hp
    obtain ⟨c, hc, rfl⟩ := List.mem_map.mp hp
    obtain ⟨hcm, hcn⟩ := List.mem_filter.mp hc
    cases c with
    | del ai => exact absurd hcn Bool.false_ne_true
    | ins bi =>
      have := (lineOK_of_ready l1.sem _ (hir bi hcm)).1
      rwa [resolveB_congr hgn] at this
    | keep ai bi =>
      refine ⟨hkb ai bi hcm, ?_, ?_⟩
      · -- both lines are real lines of their lists (indices from the projections)
        have hai : ai ∈ cells.filterMap cellA := List.mem_filterMap.mpr ⟨_, hcm, rfl⟩
        have hbi : bi ∈ cells.filterMap cellB := List.mem_filterMap.mpr ⟨_, hcm, rfl⟩
        rw [hpa, List.mem_range] at hai
        rw [hpb, List.mem_range] at hbi
        have e1 := hlenA _ (getD_mem (d := default) hai)
        have e2 := hlenB _ (getD_mem (d := default) hbi)
        rw [hkb ai bi hcm] at e1
        show ((e.aLines aN).getD ai default).refs.length = ((e.bLines bN).getD bi default).refs.length
        exact Nat.add_right_cancel (e1.trans e2.symm)
      · intro x hx
        exact hkg ai bi hcm x hx

theorem distinctOnB_sound {cells : List MCell} {mkeys : List String} {sel : MCell → Bool}
    (h : distinctOnB cells mkeys sel = true) : DistinctOn cells mkeys sel := by
  intro i j hi hj si sj e1
  unfold distinctOnB at h
  have h2 := List.all_eq_true.mp (List.all_eq_true.mp h i (List.mem_range.mpr hi)) j (List.mem_range.mpr hj)
  simp only [Bool.or_eq_true, beq_iff_eq, Bool.not_eq_true', Bool.and_eq_false_iff] at h2
  rcases h2 with h2 | (h2 | h2) | h2
  · exact h2
  · rw [si] at h2; exact absurd h2 (by simp)
  · rw [sj] at h2; exact absurd h2 (by simp)
  · rw [e1] at h2; simp at h2

theorem planCheck_ok {e : Env} {st st1 : St} {aN bN : Name} {rs : List Range} {cells : List MCell}
    (hq : planOf e st aN bN rs = (st1, cells)) (h : planCheck e st aN bN rs = "hyp:ok") :
    PlanOK st1 (e.aLines aN) (e.bLines bN) cells := by
  unfold planCheck at h
  unfold planOf at hq
  simp only [hq] at h
  split at h
  · exact absurd h (by simp only [String.reduceEq, not_false_eq_true])
  · rename_i hk
    split at h
    · exact absurd h (by simp only [String.reduceEq, not_false_eq_true])
    · rename_i hd
      simp only [Bool.not_eq_true', Bool.and_eq_false_iff, not_or, Bool.not_eq_false] at hd hk
      refine ⟨distinctOnB_sound hd.1, distinctOnB_sound hd.2, ?_⟩
      obtain ⟨c, hc, hck⟩ := List.any_eq_true.mp hk
      obtain ⟨k, hk', hkc⟩ := List.getElem_of_mem hc
      cases c with
      | keep a b =>
        exact ⟨k, a, b, hk', (getD_of_lt default hk').trans hkc⟩
      | ins _ => simp [cellKeep] at hck
      | del _ => simp [cellKeep] at hck

theorem acl_pair_converges_checked (e : Env) (hw : WF e) (hA : RefsClosedA e) (hB : RefsClosedB e) (st : St) (d : Dev)
    (h : Sem e st d) (aN bN : Name) (rs : List Range)
    (hal : linesOf d aN = (e.aLines aN).map resolveA)
    (hscript : scriptOK ((e.aLines aN).map (·.body)) ((e.bLines bN).map (·.body)) rs 0 0 = true)
    (hcheck : planCheck e st aN bN rs = "hyp:ok")
    (hlenA : RefsMatchBody (e.aLines aN)) (hlenB : RefsMatchBody (e.bLines bN)) :
    ∃ d', LStep e st d (diffASAACLs e st aN bN rs) d' aN ∧
      (linesOf d' aN).length = (e.bLines bN).length ∧
      ∀ p ∈ (linesOf d' aN).zip (e.bLines bN), LineOK e (diffASAACLs e st aN bN rs) d' p.1 p.2 :=
  acl_pair_converges e hw hA hB st d h aN bN rs rfl hal hscript (planCheck_ok rfl hcheck) hlenA hlenB

end NA.F1
