import NA.Proofs.C15Run
/-!
# C15: decidable versions of the hypotheses of the banner theorems
(for the `example`s / counterexamples, and for the driver, which classifies generated cases with them)
-/
namespace NA.Ios

def cleanCmdB (c : Str) : Bool :=
  !c.contains '\n' && !c.contains '\x07' && !c.contains '#' &&
  (match c.getLast? with
   | some x => !isUniSpace x
   | none => false) &&
  (List.range (c.length + 1)).all (fun n => !routerName.isPrefixOf (c.drop n))

theorem cleanCmd_of_B (c : Str) (h : cleanCmdB c = true) : CleanCmd c := by
  unfold cleanCmdB at h
  simp only [Bool.and_eq_true, Bool.not_eq_true', List.all_eq_true, List.mem_range] at h
  obtain ⟨⟨⟨⟨h1, h2⟩, h3⟩, h4⟩, h5⟩ := h
  refine ⟨by simpa using h1, by simpa using h2, by simpa using h3, ?_, ?_⟩
  · cases hl : c.getLast? with
    | none => rw [hl] at h4; cases h4
    | some x =>
      rw [hl] at h4
      obtain ⟨ys, hys⟩ := List.getLast?_eq_some_iff.1 hl
      exact ⟨ys, x, hys, by simpa using h4⟩
  · intro n
    by_cases hn : n < c.length + 1
    · exact h5 n hn
    · rw [List.drop_eq_nil_of_le (by omega)]; decide_lit [routerName, lit_ofList]

def cleanOutB (o : Str) : Bool :=
  !o.contains '\x07' && (o.isEmpty || o.getLast? == some '\n') && noPH ('\n' :: o)

theorem cleanOut_of_B (o : Str) (h : cleanOutB o = true) : CleanOut o := by
  unfold cleanOutB at h
  simp only [Bool.and_eq_true, Bool.not_eq_true', Bool.or_eq_true] at h
  obtain ⟨⟨h1, h2⟩, h3⟩ := h
  refine ⟨by simpa using h1, ?_, h3⟩
  exact h2.imp List.isEmpty_iff.1 fun h2 => List.getLast?_eq_some_iff.1 (by simpa using h2)

def cleanMsgB (m : Str) : Bool := !m.isEmpty && !m.contains '\n'

theorem cleanMsg_of_B (m : Str) (h : cleanMsgB m = true) : CleanMsg m := by
  unfold cleanMsgB at h
  simp only [Bool.and_eq_true, Bool.not_eq_true'] at h
  exact ⟨List.isEmpty_eq_false_iff.1 h.1, by simpa using h.2⟩

def cleanBehavB (b : Behav) : Bool := cleanOutB b.out && (b.form == .none || cleanMsgB b.msg)

theorem cleanBehav_of_B (b : Behav) (h : cleanBehavB b = true) : CleanBehav b := by
  unfold cleanBehavB at h
  simp only [Bool.and_eq_true, Bool.or_eq_true] at h
  refine ⟨cleanOut_of_B _ h.1, fun hf => ?_⟩
  rcases h.2 with h2 | h2
  · exact absurd (by simpa using h2) hf
  · exact cleanMsg_of_B _ h2

def changeCmdB (c : Str) : Bool := cleanCmdB c && isChange c

theorem changeCmd_of_B (c : Str) (h : changeCmdB c = true) : ChangeCmd c := by
  unfold changeCmdB at h
  simp only [Bool.and_eq_true] at h
  exact ⟨cleanCmd_of_B c h.1, h.2⟩

/-- the change commands of the examples and counterexamples (checked once, not in each of them) -/
theorem changeCmdB_route1 : changeCmdB (lit "ip route 10.1.0.0 255.255.0.0 10.9.1.1") = true := by
  decide_lit [c15_vocab, changeCmdB, cleanCmdB, routerName]
theorem changeCmdB_routeMove : changeCmdB (lit "no ip route 10.2.0.0 255.255.0.0 10.8.2.1") = true ∧
    changeCmdB (lit "ip route 10.2.0.0 255.255.0.0 10.9.2.2") = true := by
  decide_lit [c15_vocab, changeCmdB, cleanCmdB, routerName]

def Chg.cleanB : Chg → Bool
  | .one c b => changeCmdB c && cleanBehavB b
  | .two c1 c2 b1 b2 => changeCmdB c1 && changeCmdB c2 && cleanBehavB b1 && cleanBehavB b2

theorem Chg.clean_of_B (g : Chg) (h : g.cleanB = true) : g.Clean := by
  cases g with
  | one c b =>
    simp only [Chg.cleanB, Bool.and_eq_true] at h
    exact ⟨changeCmd_of_B c h.1, fun x hx => by
      simp [Chg.behavs] at hx; subst hx; exact cleanBehav_of_B _ h.2⟩
  | two c1 c2 b1 b2 =>
    simp only [Chg.cleanB, Bool.and_eq_true] at h
    exact ⟨⟨changeCmd_of_B c1 h.1.1.1, changeCmd_of_B c2 h.1.1.2⟩, fun x hx => by
      simp [Chg.behavs] at hx
      rcases hx with rfl | rfl
      · exact cleanBehav_of_B _ h.1.2
      · exact cleanBehav_of_B _ h.2⟩

def Chg.noProbeFirstB : Chg → Bool
  | .one _ _ => true
  | .two c1 _ b1 _ => !probing c1 b1

theorem Chg.noProbe_of_B (g : Chg) (h : g.noProbeFirstB = true) : g.NoProbeFirst := by
  cases g with
  | one c b => trivial
  | two c1 c2 b1 b2 => simpa [Chg.noProbeFirstB, Chg.NoProbeFirst] using h

/-! When the kernel evaluates a run against the scripted device, most of its work is decoding the literals of the device's
vocabulary (`isChange` alone holds 158 characters).  They sit in `simLine`, which `simLines` calls by recursion over the lines
of a packet, where no rewriting reaches it.  `simDevice_fold` shows the device with the line function as an ARGUMENT of
a generic loop: after `rw [simDevice_fold]` the list of `decide_lit` can name `simLine` and what it calls, and
`lit_ofList` writes their literals out. -/

/-- the loop of `simLines` for any line function -/
def foldLines (f : SimSt → Str → SimSt × Str) (st : SimSt) : List Str → SimSt × Str
  | [] => (st, [])
  | l :: ls => ((foldLines f (f st l).1 ls).1, (f st l).2 ++ (foldLines f (f st l).1 ls).2)

theorem simLines_fold (sp : List (Str × List (List Str))) (na : Bool) (st : SimSt) (ls : List Str) :
    simLines sp na st ls = foldLines (fun st l => simLine sp na st l) st ls := by
  induction ls generalizing st with
  | nil => rfl
  | cons l ls ih => simp only [simLines, foldLines, ih]

theorem simDevice_fold (sp : List (Str × List (List Str))) (na : Bool) :
    simDevice sp na = { step := fun st s => foldLines (fun st l => simLine sp na st l) st (splitOnNL s) } := by
  unfold simDevice; congr; funext st s; exact simLines_fold sp na st _

instance (r : Res Unit) : Decidable (∃ e, r = .abort e) :=
  match r with
  | .abort e => isTrue ⟨e, rfl⟩
  | .ok _ => isFalse fun ⟨_, h⟩ => by cases h

instance (c : Str) (r : Res Unit) : Decidable (∃ s, r = .abort (.unexpectedEcho c s)) :=
  match r with
  | .abort (.unexpectedEcho c' s) =>
    if h : c' = c then isTrue ⟨s, by rw [h]⟩ else isFalse fun ⟨_, hs⟩ => by cases hs; exact h rfl
  | .ok _ | .abort (.timeout _) | .abort (.missingPrompt _) | .abort (.unexpectedOutput _ _)
  | .abort (.writeMemUnexpected _) | .abort .writeMemGiveUp | .abort (.loginFailed _)
  | .abort .indexPanic => isFalse fun ⟨_, hs⟩ => by cases hs

end NA.Ios
