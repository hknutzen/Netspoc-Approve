import NA.Proofs.C09Ana
import NA.Proofs.C09Cls
/-!
# C09: the whole run — the invariant at its end (exit status, status file, history) and the
composition: a run that ends OK has sent everything, seen only good replies, and saved
-/
namespace NA.C09
open NA.Sess NA.Apply NA.Spec.C09

theorem J_init (bad : Role → Reply → Bool) : J bad ({} : St) :=
  ⟨rfl, fun _ => rfl, fun _ => rfl, fun _ h => by cases h⟩

/-- **The invariant at the end of every run** (`env.dev` is an arbitrary function of the history), in the form `Jv`: a
run that ends by `return` has seen no bad reply. -/
theorem run_inv (b : Backend) (env : Env) : Jv (badChecked b) (runProg b env) := by
  unfold runProg
  cases b with
  | asa => exact presV_run_asa env _ (J_init _) rfl
  | ios => exact presV_run_ios env _ (J_init _) rfl
  | linux => exact presV_run_linux env _ (J_init _) rfl
  | panos => exact presV_run_panos env _ (J_init _) rfl
  | nsx => exact presV_run_nsx env _ (J_init _) rfl

/-- **exit_nonzero**: after a failure the code inspects, the run does not end normally -/
theorem exit_of_faulted (b : Backend) (env : Env) (hf : faulted (badChecked b) (runProg b env).tr = true) :
    (runProg b env).mode = .panic ∨ (runProg b env).mode = .diverge := by
  have hj := run_inv b env
  cases hm : (runProg b env).mode with
  | run => have := hj.run hm; rw [hf] at this; cases this
  | cont => have := hj.cont hm; rw [hf] at this; cases this
  | ret => have := hj.ret hm; rw [hf] at this; cases this
  | panic => exact Or.inl rfl
  | diverge => exact Or.inr rfl

theorem doApprove_failed_exit (isCompare : Bool) (prev : Status) (policy : String) (now : Nat) (tr : List Ev) :
    (doApprove isCompare prev policy now tr 1).exit = 1 ∧ (doApprove isCompare prev policy now tr 1).endMsg = "FAILED" := by
  simp [doApprove]

theorem doApprove_failed_approve (prev : Status) (policy : String) (now : Nat) (tr : List Ev) :
    (doApprove false prev policy now tr 1).status.approve.result = "FAILED" := by
  simp [doApprove, setApprove]

theorem doApprove_failed_compare (prev : Status) (policy : String) (now : Nat) (tr : List Ev) :
    (doApprove true prev policy now tr 1).status.compare.result = "DIFF" := by
  simp only [doApprove, setCompare]
  simp
  split
  · rfl
  · rename_i h
    simp only [not_or, Decidable.not_not] at h
    exact h.1

/-- compare: UPTODATE is recorded exactly when the run exited 0 and the log has neither
`comp: *** device changed ***` nor `ERROR>>>` -/
theorem doApprove_uptodate_iff (prev : Status) (policy : String) (now : Nat) (tr : List Ev) (stat : Nat) :
    (doApprove true prev policy now tr stat).status.compare.result = "UPTODATE"
      ↔ stat = 0 ∧ tr.contains .logChanged = false ∧ tr.contains .logErr = false := by
  simp only [doApprove, if_true]
  -- the flag handed to `SetCompare`
  generalize hch : (tr.contains Ev.logChanged || (stat != 0 || tr.contains Ev.logErr)) = changed
  have hflag : changed = false ↔ stat = 0 ∧ tr.contains .logChanged = false ∧ tr.contains .logErr = false := by
    rw [← hch]; simp [Bool.or_eq_false_iff, and_left_comm]
  rw [← hflag]
  cases changed with
  | false => simp [setCompare]
  | true =>
    -- DIFF is written, or the record is left alone because it says DIFF already
    simp only [setCompare, Bool.not_true, Bool.false_eq_true, if_false]
    split
    · simp
    · rename_i h
      simp only [Bool.or_eq_true, bne_iff_ne, ne_eq, not_or, Decidable.not_not] at h
      simp [h.1]

theorem doApprove_ok_iff (isCompare : Bool) (prev : Status) (policy : String) (now : Nat) (tr : List Ev) (stat : Nat) :
    (doApprove isCompare prev policy now tr stat).exit = 0 ↔ stat = 0 := by
  simp [doApprove]


/-- what a normal end of an approve run guarantees, per backend -/
def needFacts : Backend → Facts
  | .asa | .ios | .panos => ⟨true, true, false, false, false, false⟩
  | .linux => ⟨true, false, true, true, false, true⟩
  | .nsx => ⟨true, false, false, false, false, false⟩

theorem needFacts_le (b : Backend) (sim : Bool) (h : b = .linux → sim = false) :
    Facts.le (needFacts b) ((ana sim false (approveOrCompareBody b) AS.bot).ret.f0.meet
      (ana sim false (approveOrCompareBody b) AS.bot).ret.f1) = true := by
  revert sim b; exact forall_backend (by decide +kernel)

/-- **Composition.**  For every backend, every device and every change script: if an approve run
ends by `return` (not by abort, not by looping for ever), then no inspected reply was bad, every
command of the script was put on the wire in order, and the save / commit / copy of the start-up
files (Linux: `hsim`, not simulated) was confirmed by the device. -/
theorem run_ok_facts (b : Backend) (env : Env) (hc : env.compare = false)
    (hsim : b = .linux → env.simulated = false) (hok : (runProg b env).mode = .ret) :
    faulted (badChecked b) (runProg b env).tr = false ∧ Holds (needFacts b) (runProg b env) :=
  ⟨(run_inv b env).ret hok,
   -- whatever the error value of the returned state is: what `ana` knows in both cases
   Holds.of_le (needFacts_le b env.simulated hsim)
    ((ana_sound env.simulated false (approveOrCompareBody b) AS.bot env ({} : St) rfl hc rfl (Sat.bot _)).2 hok).killed⟩

/-- The modes a whole run can end in, for the five backends in one evaluation: never normal mode or `continue`;
only the IOS and PAN-OS programs contain a loop whose end is not evident from the program text. -/
theorem run_ends (b : Backend) :
    (ai (Reach []) (approveOrCompareBody b) true).map (fun o => (o.run, o.cont, o.div))
      = some (false, false, b == .ios || b == .panos) := by
  revert b; exact forall_backend (by decide +kernel)

theorem run_mode_ne (b : Backend) (env : Env) (m : Mode)
    (hm : m = .run ∨ m = .cont ∨ (m = .diverge ∧ b ≠ .ios ∧ b ≠ .panos)) : (runProg b env).mode ≠ m := by
  have h := run_ends b
  simp only [Option.map_eq_some_iff, Prod.mk.injEq] at h
  obtain ⟨o, ho, h1, h2, h3⟩ := h
  have := reach_sound [] (by simp) _ o ho env {} rfl
  intro he
  rw [show exec (approveOrCompareBody b) env {} = runProg b env from rfl, he] at this
  rcases hm with rfl | rfl | ⟨rfl, hi, hp⟩
  · rw [show o.at .run = o.run from rfl, h1] at this; cases this
  · rw [show o.at .cont = o.cont from rfl, h2] at this; cases this
  · rw [show o.at .diverge = o.div from rfl, h3] at this
    cases b <;> simp_all

theorem run_mode_cases (b : Backend) (env : Env) :
    (runProg b env).mode = .ret ∨ (runProg b env).mode = .panic ∨ (runProg b env).mode = .diverge := by
  cases hm : (runProg b env).mode with
  | run => exact absurd hm (run_mode_ne b env .run (.inl rfl))
  | cont => exact absurd hm (run_mode_ne b env .cont (.inr (.inl rfl)))
  | ret => exact Or.inl rfl
  | panic => exact Or.inr (Or.inl rfl)
  | diverge => exact Or.inr (Or.inr rfl)


theorem compareFacts_le (b : Backend) (sim : Bool) :
    Facts.le fC ((ana sim true (approveOrCompareBody b) AS.bot).ret.f0.meet
      (ana sim true (approveOrCompareBody b) AS.bot).ret.f1) = true := by
  revert sim b; exact forall_backend (by decide +kernel)

/-- A compare run that ends by `return` has seen only good replies, and if a difference was
computed, `comp: *** device changed ***` is in the log. -/
theorem compare_ok_facts (b : Backend) (env : Env) (hc : env.compare = true) (hok : (runProg b env).mode = .ret) :
    faulted (badChecked b) (runProg b env).tr = false ∧ ChangedLogged (runProg b env) :=
  ⟨(run_inv b env).ret hok,
   (Holds.of_le (compareFacts_le b env.simulated)
    ((ana_sound env.simulated true (approveOrCompareBody b) AS.bot env ({} : St) rfl hc rfl (Sat.bot _)).2 hok).killed).hC rfl⟩

end NA.C09
