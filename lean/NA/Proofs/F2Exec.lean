import NA.Proofs.F2Mode
import NA.Core.ListFacts
/-!
# F2: executing the printed script on the strict device = mode-free semantics of the events

`exec_render`: if the engine's `subCmdOf` (`m`) and the device agree (`ModeInv`), executing
`render m evs` command by command on the strict device gives exactly `evsRun` (the events applied
without any mode), for every list of well-formed events.  This is the semantic half of
`ios_confmode_tracks`: no command is refused because of the configuration mode.
-/
namespace NA.F2
open NA.ListFacts
open NA.IosDev2

/-- The engine's `subCmdOf` (`m`), when set, is the mode of the device; the ACL or interface of the device's mode exists. -/
def ModeInv (m : Option Mode) (d : Dev) : Prop :=
  (∀ p, m = some p → d.mode = some p) ∧
  (∀ n, d.mode = some (.acl n) → hasAcl d n = true) ∧
  (∀ i, d.mode = some (.intf i) → hasIntf d i = true)

theorem exec_nil (d : Dev) : exec d [] = some d := rfl

theorem exec_cons (d : Dev) (c : Chg) (cs : List Chg) :
    exec d (c :: cs) = (toOpt (exec1 d c)).bind fun d' => exec d' cs := by
  simp only [exec, List.foldlM_cons]
  cases exec1 d c <;> rfl

theorem exec_cons_some {d d' : Dev} {c : Chg} {cs : List Chg} (h : exec d (c :: cs) = some d') :
    ∃ d1, exec1 d c = .ok d1 ∧ exec d1 cs = some d' := by
  rw [exec_cons] at h
  cases h1 : exec1 d c with
  | error e => rw [h1] at h; cases h
  | ok d1 => rw [h1] at h; exact ⟨d1, rfl, h⟩

theorem exec_append (d : Dev) (a b : List Chg) :
    exec d (a ++ b) = (exec d a).bind fun d' => exec d' b :=
  List.foldlM_append ..

theorem toOpt_ite {α : Type} (p : Prop) [Decidable p] (a : α) (e : String) :
    toOpt (if p then .ok a else .error e) = if p then some a else none := by
  split <;> rfl

@[simp] theorem hasAcl_strip (d : Dev) (n : Name) : hasAcl (strip d) n = hasAcl d n := rfl
@[simp] theorem hasIntf_strip (d : Dev) (n : String) : hasIntf (strip d) n = hasIntf d n := rfl
@[simp] theorem entriesOf_strip (d : Dev) (n : Name) : entriesOf (strip d) n = entriesOf d n := rfl
@[simp] theorem slotOf_strip (d : Dev) (i dir : String) : slotOf (strip d) i dir = slotOf d i dir := rfl
@[simp] theorem aclBound_strip (d : Dev) (n : Name) : aclBound (strip d) n = aclBound d n := rfl
@[simp] theorem strip_strip (d : Dev) : strip (strip d) = strip d := rfl
@[simp] theorem strip_setAcl (d : Dev) (n : Name) (es : Entries) : strip (setAcl d n es) = setAcl (strip d) n es := rfl
@[simp] theorem strip_setSlot (d : Dev) (i dir : String) (v : Option Name) :
    strip (setSlot d i dir v) = setSlot (strip d) i dir v := rfl
@[simp] theorem strip_ensureAcl (d : Dev) (n : Name) : strip (ensureAcl d n) = ensureAcl (strip d) n := by
  unfold ensureAcl
  rw [hasAcl_strip]
  split <;> rfl
@[simp] theorem strip_mode (d : Dev) : (strip d).mode = none := rfl

theorem execTop_strip (d : Dev) (c : Chg) : execTop (strip d) c = execTop d c := by
  cases c <;> rfl

theorem evRun_strip (d : Dev) (e : Ev) : evRun (strip d) e = evRun d e := by
  cases e with
  | top c => simp only [evRun, execTop_strip]
  | exitTop c => simp only [evRun, execTop_strip]
  | openAcl n => simp only [evRun, ← strip_ensureAcl, strip_strip]
  | reset => rfl
  | sub p c =>
    cases p with
    | acl n => simp only [evRun, ← strip_ensureAcl, entriesOf_strip, ← strip_setAcl, strip_strip]
    | intf i => rfl

theorem evsRun_cons (d : Dev) (e : Ev) (es : List Ev) :
    evsRun d (e :: es) = (evRun d e).bind fun d' => evsRun d' es := rfl

theorem evsRun_append (d : Dev) (a b : List Ev) :
    evsRun d (a ++ b) = (evsRun d a).bind fun d' => evsRun d' b :=
  List.foldlM_append ..

theorem evsRun_single (d : Dev) (e : Ev) : evsRun d [e] = evRun d e := by
  rw [evsRun_cons]
  cases evRun d e <;> rfl

theorem evsRun_strip_map (d : Dev) (evs : List Ev) :
    (evsRun (strip d) evs).map strip = (evsRun d evs).map strip := by
  cases evs with
  | nil => rfl
  | cons e es => rw [evsRun_cons, evsRun_cons, evRun_strip]

theorem exec1_top {c : Chg} (h : isTopCmd c = true) (d : Dev) : toOpt (exec1 d c) = toOpt (execTop d c) := by
  cases c <;> first | contradiction | rfl

theorem exec1_aclMode (d : Dev) (n : Name) : exec1 d (.aclMode n) = execTop d (.aclMode n) := rfl

theorem exec1_intfMode (d : Dev) (n : String) : exec1 d (.intfMode n) = execTop d (.intfMode n) := rfl

theorem exec1_exit (d : Dev) (h : d.mode.isSome = true) : exec1 d .exit = .ok (strip d) := by
  obtain ⟨_, _, _, _ | p⟩ := d
  · contradiction
  · rfl

theorem exec1_entry {c : Chg} (h : isEntryCmd c = true) (d : Dev) (n : Name) (hm : d.mode = some (.acl n)) :
    toOpt (exec1 d c) = (toOpt (execEntry (entriesOf d n) c)).map (setAcl d n) := by
  unfold exec1
  split
  · contradiction
  · contradiction
  · simp only [h, if_true, hm]
    cases execEntry (entriesOf d n) c <;> rfl

theorem exec1_bindCmd (d : Dev) (i : String) (a dir : String) (hm : d.mode = some (.intf i)) :
    toOpt (exec1 d (.bind a dir)) = if hasAcl d a then some (setSlot d i dir (some a)) else none := by
  -- once the mode is a constructor, `exec1` computes to its `if`
  obtain ⟨_, _, _, _⟩ := d
  subst hm
  exact toOpt_ite ..

theorem exec1_noBindCmd (d : Dev) (i : String) (a dir : String) (hm : d.mode = some (.intf i)) :
    toOpt (exec1 d (.noBind a dir)) = if slotOf d i dir == some a then some (setSlot d i dir none) else none := by
  obtain ⟨_, _, _, _⟩ := d
  subst hm
  exact toOpt_ite ..

/-- What an outcome accepts satisfies `Q`.  With the rules below a fact about every accepted
outcome of a command is proved along the `if`s of its definition. -/
def OkSat (Q : Dev → Prop) (r : Except String Dev) : Prop := ∀ d', r = .ok d' → Q d'

theorem OkSat.error {Q : Dev → Prop} {e : String} : OkSat Q (.error e) := fun _ h => nomatch h
theorem OkSat.ok {Q : Dev → Prop} {d : Dev} (h : Q d) : OkSat Q (.ok d) := fun _ h' => by cases h'; exact h
theorem OkSat.iteH {Q : Dev → Prop} {p : Prop} [Decidable p] {a b : Except String Dev} (ha : p → OkSat Q a)
    (hb : ¬ p → OkSat Q b) : OkSat Q (if p then a else b) := by
  split
  · exact ha ‹_›
  · exact hb ‹_›
theorem OkSat.ite {Q : Dev → Prop} {p : Prop} [Decidable p] {a b : Except String Dev} (ha : OkSat Q a)
    (hb : OkSat Q b) : OkSat Q (if p then a else b) := .iteH (fun _ => ha) (fun _ => hb)

theorem execTop_atTop {c : Chg} (h : isTopCmd c = true) (d : Dev) :
    OkSat (fun d' => d'.mode = none) (execTop d c) := by
  cases c with
  | reseq n s t => exact .ite (.ok rfl) .error
  | noAcl n => exact .ite .error (.ite .error (.ok rfl))
  | route r => exact .ite .error (.ok rfl)
  | noRoute r => exact .ite (.ok rfl) .error
  | replRoute o n => exact .ite .error (.ite .error (.ok rfl))
  | bad => exact .error
  | _ => contradiction

/-- `setAcl` is `ListFacts.mapSet` on the ACL table. -/
theorem hasAcl_setAcl (d : Dev) (n x : Name) (es : Entries) : hasAcl (setAcl d n es) x = hasAcl d x := by
  show (mapSet d.acls n es).any _ = d.acls.any _
  rw [anyKey_eq_lookup, anyKey_eq_lookup, lookup_mapSet]
  split
  · cases d.acls.lookup x <;> rfl
  · rfl

theorem hasAcl_ensure_self (d : Dev) (n : Name) : hasAcl (ensureAcl d n) n = true := by
  unfold ensureAcl
  by_cases h : hasAcl d n = true
  · simp [h]
  · rw [if_neg h]; simp [hasAcl]

theorem ensureAcl_of_has {d : Dev} {n : Name} (h : hasAcl d n = true) : ensureAcl d n = d := if_pos h

@[simp] theorem hasIntf_setAcl (d : Dev) (n : Name) (es : Entries) (i : String) :
    hasIntf (setAcl d n es) i = hasIntf d i := rfl

/-- `setSlot` on one interface; the name stays. -/
def updIntf (x dir : String) (v : Option Name) (i : DIntf) : DIntf :=
  if i.name == x then (if dir == "out" then { i with outB := v } else { i with inB := v }) else i

theorem updIntf_name (x dir : String) (v : Option Name) (i : DIntf) : (updIntf x dir v i).name = i.name := by
  unfold updIntf
  repeat' split
  all_goals rfl

theorem hasIntf_setSlot (d : Dev) (i dir : String) (v : Option Name) (x : String) :
    hasIntf (setSlot d i dir v) x = hasIntf d x := by
  show (d.intfs.map (updIntf i dir v)).any _ = _
  rw [List.any_map]
  exact congrArg (d.intfs.any ·) (funext fun j => congrArg (· == x) (updIntf_name i dir v j))

@[simp] theorem hasAcl_setSlot (d : Dev) (i dir : String) (v : Option Name) (x : Name) :
    hasAcl (setSlot d i dir v) x = hasAcl d x := rfl

theorem modeInv_of_mode_none {d : Dev} (h : d.mode = none) : ModeInv none d := by
  refine ⟨fun p hp => ?_, fun n hn => ?_, fun i hn => ?_⟩
  · cases hp
  · rw [h] at hn; cases hn
  · rw [h] at hn; cases hn

theorem modeInv_none {m : Option Mode} {d : Dev} (h : ModeInv m d) : ModeInv none d := by
  refine ⟨?_, h.2.1, h.2.2⟩
  intro p hp; cases hp

theorem modeInv_acl {d : Dev} {n : Name} (hmode : d.mode = some (.acl n)) (hhas : hasAcl d n = true) :
    ModeInv (some (.acl n)) d := by
  refine ⟨fun p h => ?_, fun n' h => ?_, fun i h => ?_⟩
  · cases h; exact hmode
  · rw [hmode] at h; cases h; exact hhas
  · rw [hmode] at h; cases h

theorem modeInv_intf {d : Dev} {i : String} (hmode : d.mode = some (.intf i)) (hhas : hasIntf d i = true) :
    ModeInv (some (.intf i)) d := by
  refine ⟨fun p h => ?_, fun n h => ?_, fun i' h => ?_⟩
  · cases h; exact hmode
  · rw [hmode] at h; cases h
  · rw [hmode] at h; cases h; exact hhas

/-- Outcome of one event on the real device: refused iff the mode-free semantics refuses; otherwise
the same state up to the mode, and the modes of engine and device agree again. -/
def StepOK (r : Option Dev) (cs : List Chg) (d : Dev) (m' : Option Mode) : Prop :=
  match r with
  | none => exec d cs = none
  | some d1 => ∃ d', exec d cs = some d' ∧ strip d' = strip d1 ∧ ModeInv m' d'

theorem StepOK_append {r : Option Dev} {pre cs : List Chg} {d d0 : Dev} {m' : Option Mode}
    (hpre : exec d pre = some d0) (h : StepOK r cs d0 m') : StepOK r (pre ++ cs) d m' := by
  unfold StepOK at h ⊢
  simp only [exec_append, hpre, Option.bind_some]
  exact h

/-- The optional `exit` in front: what follows may find the device in its mode or at top level. -/
theorem StepOK_exit {m : Option Mode} {d : Dev} (hm : ∀ p, m = some p → d.mode = some p) (e : Ev)
    (cs : List Chg) (m' : Option Mode) (h : ∀ d0, strip d0 = strip d → StepOK (evRun d0 e) cs d0 m') :
    StepOK (evRun d e) ((if m.isSome then [Chg.exit] else []) ++ cs) d m' := by
  cases m with
  | none => exact h d rfl
  | some q =>
    have hx : exec d [Chg.exit] = some (strip d) := by
      rw [exec_cons, exec1_exit d (by rw [hm q rfl]; rfl)]; rfl
    exact StepOK_append hx (evRun_strip d e ▸ h (strip d) rfl)

theorem step_topcmd {c : Chg} (ht : isTopCmd c = true) (d : Dev) :
    StepOK ((toOpt (execTop d c)).map strip) [c] d none := by
  unfold StepOK
  simp only [exec_cons, exec_nil, exec1_top ht]
  cases hx : execTop d c with
  | error e => rfl
  | ok d' => exact ⟨d', rfl, rfl, modeInv_of_mode_none (execTop_atTop ht d d' hx)⟩

theorem exec_aclLine (d : Dev) (n : Name) :
    exec d [.aclMode n] = some { ensureAcl d n with mode := some (.acl n) } := by
  show some { d with acls := if hasAcl d n then d.acls else d.acls ++ [(n, [])], mode := some (.acl n) } = _
  unfold ensureAcl
  split <;> rfl

theorem step_entry {c : Chg} (hc : isEntryCmd c = true) (n : Name) (d : Dev)
    (hmode : d.mode = some (.acl n)) (hhas : hasAcl d n = true) :
    StepOK (evRun d (.sub (.acl n) c)) [c] d (some (.acl n)) := by
  unfold StepOK
  simp only [evRun, hc, ↓reduceIte, ensureAcl_of_has hhas, exec_cons, exec_nil, exec1_entry hc d n hmode]
  cases execEntry (entriesOf d n) c with
  | error e => rfl
  | ok es => exact ⟨_, rfl, rfl, modeInv_acl hmode (by rw [hasAcl_setAcl]; exact hhas)⟩

/-- The mode line of an access list creates it if need be, as the event does by itself. -/
theorem evRun_aclLine (d : Dev) (n : Name) (c : Chg) :
    evRun { ensureAcl d n with mode := some (.acl n) } (.sub (.acl n) c) = evRun d (.sub (.acl n) c) := by
  have h : ensureAcl { ensureAcl d n with mode := some (.acl n) } n = { ensureAcl d n with mode := some (.acl n) } :=
    ensureAcl_of_has (hasAcl_ensure_self d n)
  simp only [evRun, h]
  rfl

theorem step_bindcmd {c : Chg} (hc : isBindCmd c = true) (i : String) (d : Dev)
    (hmode : d.mode = some (.intf i)) (hhas : hasIntf d i = true) :
    StepOK (evRun d (.sub (.intf i) c)) [c] d (some (.intf i)) := by
  -- both commands set a slot if a condition `b` holds and are refused otherwise
  have key : ∀ (b : Bool) (v : Option Name) (dir : String),
      toOpt (exec1 d c) = (if b then some (setSlot d i dir v) else none) →
      StepOK (if b then some (strip (setSlot d i dir v)) else none) [c] d (some (.intf i)) := by
    intro b v dir h
    unfold StepOK
    rw [exec_cons, h]
    cases b with
    | false => rfl
    | true => exact ⟨_, rfl, rfl, modeInv_intf hmode (by rw [hasIntf_setSlot]; exact hhas)⟩
  cases c with
  | bind a dir =>
    simp only [evRun, hhas, Bool.not_true, Bool.false_eq_true, ↓reduceIte]
    exact key (hasAcl d a) _ _ (exec1_bindCmd d i a dir hmode)
  | noBind a dir =>
    simp only [evRun, hhas, Bool.not_true, Bool.false_eq_true, ↓reduceIte]
    exact key (slotOf d i dir == some a) _ _ (exec1_noBindCmd d i a dir hmode)
  | _ => contradiction

theorem exec_intfLine (d : Dev) (i : String) (cs : List Chg) :
    exec d (.intfMode i :: cs) = if hasIntf d i then exec { d with mode := some (.intf i) } cs else none := by
  rw [exec_cons, exec1_intfMode]
  show (toOpt (if _ then _ else _)).bind _ = _
  split <;> rfl

theorem step_render (e : Ev) (m : Option Mode) (d : Dev) (hinv : ModeInv m d) (hwf : wfEv e = true) :
    StepOK (evRun d e) (renderEv m e).1 d (renderEv m e).2 := by
  obtain ⟨hm1, hm2, hm3⟩ := hinv
  cases e with
  | reset => exact ⟨d, rfl, rfl, modeInv_none ⟨hm1, hm2, hm3⟩⟩
  | top c => exact step_topcmd hwf d
  | exitTop c => exact StepOK_exit hm1 _ [c] none fun d0 _ => step_topcmd hwf d0
  | openAcl n =>
    exact ⟨_, exec_aclLine d n, rfl, modeInv_acl rfl (hasAcl_ensure_self d n)⟩
  | sub p c =>
    cases hb : m == some p with
    | true =>
      have hd := hm1 p (eq_of_beq hb)
      simp only [renderEv, hb, ↓reduceIte]
      rw [eq_of_beq hb]
      cases p with
      | acl n => exact step_entry hwf n d hd (hm2 n hd)
      | intf i => exact step_bindcmd hwf i d hd (hm3 i hd)
    | false =>
      simp only [renderEv, hb, Bool.false_eq_true, ↓reduceIte]
      refine StepOK_exit hm1 _ _ _ fun d0 _ => ?_
      cases p with
      | acl n =>
        refine StepOK_append (exec_aclLine d0 n) ?_
        rw [← evRun_aclLine]
        exact step_entry hwf n _ rfl (hasAcl_ensure_self d0 n)
      | intf i =>
        by_cases hhi : hasIntf d0 i = true
        · refine StepOK_append (pre := [.intfMode i]) (by rw [exec_intfLine, if_pos hhi]; rfl) ?_
          exact step_bindcmd (d := { d0 with mode := some (.intf i) }) hwf i rfl hhi
        · have hev : evRun d0 (.sub (.intf i) c) = none := by simp only [evRun, hhi]; rfl
          rw [hev]
          show exec d0 (.intfMode i :: [c]) = none
          rw [exec_intfLine, if_neg hhi]

/-- `ios_confmode_tracks`, semantic form: executing the printed script on the strict device is the
mode-free semantics of the events. -/
theorem exec_render (evs : List Ev) (m : Option Mode) (d : Dev) (hinv : ModeInv m d)
    (hwf : ∀ e ∈ evs, wfEv e = true) :
    (exec d (render m evs)).map strip = (evsRun d evs).map strip := by
  induction evs generalizing m d with
  | nil => rfl
  | cons e es ih =>
    have hwe := hwf e (List.mem_cons_self ..)
    have hwes : ∀ e' ∈ es, wfEv e' = true := fun e' h => hwf e' (List.mem_cons_of_mem _ h)
    have hs := step_render e m d hinv hwe
    simp only [render, exec_append, evsRun_cons]
    unfold StepOK at hs
    cases hr : evRun d e with
    | none =>
      rw [hr] at hs
      rw [hs]
      rfl
    | some d1 =>
      rw [hr] at hs
      obtain ⟨d', hex, hst, hinv'⟩ := hs
      simp only [hex, Option.bind_some]
      rw [ih _ d' hinv' hwes, ← evsRun_strip_map d', hst, evsRun_strip_map]

theorem exec_script (acts : List MA) (d : Dev) (hmode : d.mode = none) :
    (exec d (scriptOf acts)).map strip = (evsRun d (acts.flatMap expand)).map strip :=
  exec_render _ none d (modeInv_of_mode_none hmode) (acts_wf acts)

end NA.F2
