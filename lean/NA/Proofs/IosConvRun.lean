import NA.Proofs.IosConvExec
import NA.Proofs.IosConvPlan
import NA.Proofs.CellPlanRun
/-!
A suppressed move leaves the device line of old-only cell `d` where it is and never inserts the
new-only cell `j`: `keepCells M S` re-labels the cells accordingly (`d` a kept cell, `j` a cell that
never exists; lines, old flags and therefore all device states are unchanged, and
`news (keepCells M S)` is the FINAL device list).  The plan of the code with suppression decisions
`g` is the plain cell plan of the re-labelled list with every cell addressed by its number
(`cplan_kc_render`), so its run is an instance of `cplan_run`.
(`keepCells` and the statements about runs stand in namespace `NA.IosSafe` beside `IRun`; the
convergence theorems of `NA.Props.IosAcl` rest on them as much as the step-safety theorems.)
-/

namespace NA.IosSafe
open NA.Acl

attribute [-simp] List.getD_eq_getElem?_getD

/-- Some suppressed new-only cell has the `mkey` of cell `i`. -/
def hasSuppr (M : List Cell) (S : List Nat) (i : Nat) : Bool :=
  S.any fun j => (M.getD j default).line.mkey == (M.getD i default).line.mkey

/-- Cell `i` as the executed plan treats it, `S` being the new-only cells whose move is suppressed:
such a cell never exists, and the old-only cell with its `mkey` is kept.  The new flag is written as
the bit of `finalMask M S` (NA/Proofs/IosConvExec.lean), so the target of the re-labelled list is the
final device list by construction (`newMask_kc`). -/
def keepCell (M : List Cell) (S : List Nat) (i : Nat) : Cell :=
  ⟨(M.getD i default).line, (M.getD i default).old,
    if (M.getD i default).new then (M.getD i default).old || !S.contains i
    else (M.getD i default).old && hasSuppr M S i⟩

def keepCells (M : List Cell) (S : List Nat) : List Cell := (List.range M.length).map (keepCell M S)

theorem hasSuppr_iff (M : List Cell) (S : List Nat) (i : Nat) :
    hasSuppr M S i = true ↔ ∃ j ∈ S, (M.getD j default).line.mkey = (M.getD i default).line.mkey := by
  simp [hasSuppr, List.any_eq_true]

theorem kc_length (M : List Cell) (S : List Nat) : (keepCells M S).length = M.length := by
  simp [keepCells]

theorem kc_getD (M : List Cell) (S : List Nat) (i : Nat) (hi : i < M.length) :
    (keepCells M S).getD i default = keepCell M S i := by
  simp [keepCells, List.getD_eq_getElem?_getD, hi]

theorem kc_line (M : List Cell) (S : List Nat) (i : Nat) (hi : i < M.length) :
    ((keepCells M S).getD i default).line = (M.getD i default).line :=
  show _ = (keepCell M S i).line from congrArg Cell.line (kc_getD M S i hi)

theorem kc_old (M : List Cell) (S : List Nat) (i : Nat) (hi : i < M.length) :
    ((keepCells M S).getD i default).old = (M.getD i default).old :=
  show _ = (keepCell M S i).old from congrArg Cell.old (kc_getD M S i hi)

theorem kc_new (M : List Cell) (S : List Nat) (i : Nat) (hi : i < M.length) :
    ((keepCells M S).getD i default).new =
      if (M.getD i default).new then (M.getD i default).old || !S.contains i
      else (M.getD i default).old && hasSuppr M S i :=
  show _ = (keepCell M S i).new from congrArg Cell.new (kc_getD M S i hi)

theorem kc_lines (M : List Cell) (S : List Nat) : (keepCells M S).map (·.line) = M.map (·.line) := by
  rw [keepCells, List.map_map]
  exact ListFacts.range_map_getD_map M (·.line)

theorem masked_kc (M : List Cell) (S : List Nat) (μ : List Bool) :
    masked (keepCells M S) μ = masked M μ := by
  rw [masked_eq_pick, masked_eq_pick, kc_lines]

theorem oldMask_kc (M : List Cell) (S : List Nat) : oldMask (keepCells M S) = oldMask M := by
  rw [oldMask, keepCells, List.map_map]
  exact ListFacts.range_map_getD_map M (·.old)

theorem olds_kc (M : List Cell) (S : List Nat) : olds (keepCells M S) = olds M := by
  rw [← masked_old, ← masked_old M, masked_kc, oldMask_kc M S]

theorem not_old_of_suppr {M : List Cell} {S : List Nat} (hS : ∀ j ∈ S, j ∈ addIdx M) {i : Nat}
    (hc : S.contains i = true) : (M.getD i default).old = false ∧ (M.getD i default).new = true :=
  ((mem_addIdx M i).1 (hS i (List.contains_iff_mem.1 hc))).2

theorem newMask_kc (M : List Cell) (S : List Nat) : newMask (keepCells M S) = finalMask M S := by
  rw [newMask, keepCells, List.map_map]
  rfl

theorem news_kc (M : List Cell) (S : List Nat) : news (keepCells M S) = masked M (finalMask M S) := by
  rw [← masked_new, masked_kc, newMask_kc M S]

theorem addIdx_kc (M : List Cell) (S : List Nat) :
    addIdx (keepCells M S) = (addIdx M).filter fun j => !S.contains j := by
  have key : ∀ o n c h : Bool, ((if n then o || !c else o && h) && !o) = (!c && (n && !o)) := by
    decide
  rw [addIdx, addIdx, kc_length, List.filter_filter]
  refine List.filter_congr fun i hi => ?_
  rw [kc_new M S i (List.mem_range.1 hi), kc_old M S i (List.mem_range.1 hi)]
  exact key ..

theorem delIdx_kc (M : List Cell) (S : List Nat) :
    delIdx (keepCells M S) = (delIdx M).filter fun i => !hasSuppr M S i := by
  have key : ∀ o n c h : Bool, (o && !(if n then o || !c else o && h)) = (!h && (o && !n)) := by
    decide
  rw [delIdx, delIdx, kc_length, List.filter_filter]
  refine List.filter_congr fun i hi => ?_
  rw [kc_new M S i (List.mem_range.1 hi), kc_old M S i (List.mem_range.1 hi)]
  exact key ..

theorem mem_addIdx_kc (M : List Cell) (S : List Nat) (j : Nat) :
    j ∈ addIdx (keepCells M S) ↔ j ∈ addIdx M ∧ j ∉ S := by
  rw [addIdx_kc, List.mem_filter, Bool.not_eq_true', ← Bool.not_eq_true, List.contains_iff_mem]

theorem mem_delIdx_kc (M : List Cell) (S : List Nat) (i : Nat) :
    i ∈ delIdx (keepCells M S) ↔ i ∈ delIdx M ∧ hasSuppr M S i = false := by
  rw [delIdx_kc M S, List.mem_filter, Bool.not_eq_true']

theorem delLookup_of_kc (M : List Cell) (S : List Nat)
    (hno : ((olds M).map (·.mkey)).Nodup) {i j : Nat} (hj : j < M.length)
    (hd : delLookup (keepCells M S) ((keepCells M S).getD j default).line.mkey = some i) :
    delLookup M (M.getD j default).line.mkey = some i := by
  obtain ⟨hil, hio, hin, hik⟩ := delLookup_some _ _ i hd
  have hid := ((mem_delIdx_kc M S i).1 ((mem_delIdx _ i).2 ⟨hil, hio, hin⟩)).1
  rw [kc_length] at hil
  rw [kc_line M S i hil, kc_line M S j hj] at hik
  rw [← hik]
  exact delLookup_of M hno hid

theorem delLookup_kc (M : List Cell) (S : List Nat) (hS : ∀ j ∈ S, j ∈ addIdx M)
    (hno : ((olds M).map (·.mkey)).Nodup) (hnn : ((news M).map (·.mkey)).Nodup) {j : Nat}
    (hj : j ∈ addIdx M) (hjS : j ∉ S) :
    delLookup (keepCells M S) ((keepCells M S).getD j default).line.mkey =
      delLookup M (M.getD j default).line.mkey := by
  obtain ⟨hjl, -, hjn⟩ := (mem_addIdx M j).1 hj
  rw [kc_line M S j hjl]
  cases hl : delLookup M (M.getD j default).line.mkey with
  | none =>
    cases hk : delLookup (keepCells M S) (M.getD j default).line.mkey with
    | none => rfl
    | some d =>
      rw [← kc_line M S j hjl] at hk
      exact nomatch hl.symm.trans (delLookup_of_kc M S hno hjl hk)
  | some d =>
    obtain ⟨hd, hdm⟩ := delLookup_someI hl
    have hdk : d ∈ delIdx (keepCells M S) := by
      refine (mem_delIdx_kc M S d).2 ⟨hd, Bool.eq_false_iff.2 fun hh => ?_⟩
      -- a suppressed cell with the `mkey` of `d` would be `j`
      obtain ⟨j0, hj0, hk0⟩ := (hasSuppr_iff M S d).1 hh
      obtain ⟨hj0l, -, hj0n⟩ := (mem_addIdx M j0).1 (hS j0 hj0)
      exact hjS (newInj_of_nodup M hnn _ _ hj0l hjl hj0n hjn (hk0.trans hdm) ▸ hj0)
    have := delLookup_of (keepCells M S) (by rw [olds_kc M S]; exact hno) hdk
    rwa [kc_line M S d ((mem_delIdx M d).1 hd).1, hdm] at this

theorem kc_partner (M : List Cell) (g : Nat → Bool)
    (hplan : planIOS M = (addIdx M).flatMap (cellOpsG M g) ++ delsOf M)
    (hno : ((olds M).map (·.mkey)).Nodup) {i j : Nat}
    (hj : j ∈ addIdx (keepCells M ((addIdx M).filter (supprAt M g))))
    (hd : delLookup (keepCells M ((addIdx M).filter (supprAt M g)))
      ((keepCells M ((addIdx M).filter (supprAt M g))).getD j default).line.mkey = some i) :
    j ∈ addIdx M ∧ i < M.length ∧ delLookup M (M.getD j default).line.mkey = some i ∧
      IOp.move (numOf M i) (numOf M j) (M.getD j default).line ∈ planIOS M := by
  obtain ⟨hjM, hjS⟩ := (mem_addIdx_kc M _ j).1 hj
  have hl := delLookup_of_kc M _ hno ((mem_addIdx M j).1 hjM).1 hd
  -- `j` is not suppressed, so the plan holds its move
  have hg : g j = false := Bool.eq_false_iff.2 fun hg =>
    hjS (List.mem_filter.2 ⟨hjM, by rw [supprAt, hl, hg]; rfl⟩)
  refine ⟨hjM, (delLookup_some M _ i hl).1, hl, ?_⟩
  rw [hplan]
  refine List.mem_append_left _ (List.mem_flatMap.2 ⟨j, hjM, ?_⟩)
  rw [cellOpsG_of_some M g hl, hg]
  exact List.mem_singleton.2 rfl

end NA.IosSafe

namespace NA.Acl
open NA.IosSafe

attribute [-simp] List.getD_eq_getElem?_getD

theorem oldInj_kc (M : List Cell) (S : List Nat) (hno : ((olds M).map (·.mkey)).Nodup) :
    OldInj (keepCells M S) :=
  oldInj_of_nodup _ (by rw [olds_kc M S]; exact hno)

theorem kc_new_true (M : List Cell) (S : List Nat) (hS : ∀ j ∈ S, j ∈ addIdx M) {x : Nat}
    (hx : x < M.length) (h : ((keepCells M S).getD x default).new = true) :
    x ∉ S ∧ ((M.getD x default).new = true ∨ ((M.getD x default).old = true ∧
      ∃ j ∈ S, (M.getD j default).line.mkey = (M.getD x default).line.mkey)) := by
  rw [kc_new M S x hx] at h
  refine ⟨fun hm => ?_, ?_⟩
  · have hc := List.contains_iff_mem.2 hm
    rw [(not_old_of_suppr hS hc).2, (not_old_of_suppr hS hc).1, hc] at h; cases h
  · cases hn : (M.getD x default).new with
    | true => exact Or.inl rfl
    | false =>
      rw [hn, if_neg Bool.false_ne_true, Bool.and_eq_true, hasSuppr_iff] at h
      exact Or.inr h

theorem newInj_kc (M : List Cell) (S : List Nat) (hS : ∀ j ∈ S, j ∈ addIdx M)
    (hno : ((olds M).map (·.mkey)).Nodup) (hnn : ((news M).map (·.mkey)).Nodup) :
    NewInj (keepCells M S) := by
  intro x y hx hy px py e
  rw [kc_length] at hx hy
  rw [kc_line M S x hx, kc_line M S y hy] at e
  obtain ⟨hxS, hx'⟩ := kc_new_true M S hS hx px
  obtain ⟨hyS, hy'⟩ := kc_new_true M S hS hy py
  -- a new cell of `M` outside `S` and the old copy of a suppressed cell have different keys
  have mixed : ∀ a b, a < M.length → a ∉ S → (M.getD a default).new = true →
      (∃ j ∈ S, (M.getD j default).line.mkey = (M.getD b default).line.mkey) →
      (M.getD a default).line.mkey = (M.getD b default).line.mkey → False := by
    intro a b ha haS han ⟨j0, hj0, hk⟩ hab
    obtain ⟨hj0l, _, hj0n⟩ := (mem_addIdx M j0).1 (hS j0 hj0)
    exact haS (newInj_of_nodup M hnn _ _ ha hj0l han hj0n (hab.trans hk.symm) ▸ hj0)
  rcases hx' with hxn | ⟨hxo, hxs⟩ <;> rcases hy' with hyn | ⟨hyo, hys⟩
  · exact newInj_of_nodup M hnn _ _ hx hy hxn hyn e
  · exact (mixed x y hx hxS hxn hys e).elim
  · exact (mixed y x hy hyS hyn hxs e.symm).elim
  · exact oldInj_of_nodup M hno _ _ hx hy hxo hyo e

theorem flatMap_ite_singleton {α β : Type} (l : List α) (p : α → Bool) (f : α → β) :
    (l.flatMap fun a => if p a then [f a] else []) = (l.filter p).map f := by
  induction l with
  | nil => rfl
  | cons a l ih =>
    rw [List.flatMap_cons, ih, List.filter_cons]
    cases p a <;> rfl

theorem cellOpsG_kc (M : List Cell) (hno : ((olds M).map (·.mkey)).Nodup)
    (hnn : ((news M).map (·.mkey)).Nodup) (g : Nat → Bool) {j : Nat} (hj : j ∈ addIdx M) :
    cellOpsG M g j = if !((addIdx M).filter (supprAt M g)).contains j then
      [iosRender M (cellOp (keepCells M ((addIdx M).filter (supprAt M g))) j)] else [] := by
  have hS := mem_addIdx_of_suppr M g
  cases hsup : supprAt M g j with
  | true =>
    rw [List.contains_iff_mem.2 (List.mem_filter.2 ⟨hj, hsup⟩)]
    simp only [supprAt, Bool.and_eq_true, Option.isSome_iff_exists] at hsup
    obtain ⟨hg, d, hl⟩ := hsup
    rw [cellOpsG_of_some M g hl, hg]
    rfl
  | false =>
    have hjS : j ∉ (addIdx M).filter (supprAt M g) := fun hm => by
      rw [(List.mem_filter.1 hm).2] at hsup; cases hsup
    rw [Bool.eq_false_iff.2 fun hc => hjS (List.contains_iff_mem.1 hc)]
    unfold cellOp
    rw [delLookup_kc M _ hS hno hnn hj hjS]
    cases hl : delLookup M (M.getD j default).line.mkey with
    | none => rw [cellOpsG_of_none M g hl]; rfl
    | some d =>
      rw [supprAt, hl, Option.isSome_some, Bool.and_true] at hsup
      rw [cellOpsG_of_some M g hl, hsup]; rfl

/-- The old-only cells left for the delete phase are the same in both lists. -/
theorem cdel_kc_iff (M : List Cell) (hno : ((olds M).map (·.mkey)).Nodup)
    (hnn : ((news M).map (·.mkey)).Nodup) (S : List Nat) (hS : ∀ j ∈ S, j ∈ addIdx M) {i : Nat}
    (hd : i ∈ delIdx M) :
    (hasSuppr M S i = false ∧ i ∉ lookups (keepCells M S)) ↔ countOld M i ∉ movedOf M := by
  rw [moved_iff M hno hd]
  constructor
  · rintro ⟨hh, hnl⟩ ⟨j, hj, hkey⟩
    by_cases hjS : j ∈ S
    · rw [(hasSuppr_iff M S i).2 ⟨j, hjS, hkey⟩] at hh; cases hh
    · refine hnl (mem_lookups.2 ⟨j, (mem_addIdx_kc M S j).2 ⟨hj, hjS⟩, ?_⟩)
      rw [delLookup_kc M S hS hno hnn hj hjS, hkey]
      exact delLookup_of M hno hd
  · refine fun hnm => ⟨Bool.eq_false_iff.2 fun hh => ?_, fun hl => ?_⟩
    · obtain ⟨j, hj, hkey⟩ := (hasSuppr_iff M S i).1 hh
      exact hnm ⟨j, hS j hj, hkey⟩
    · obtain ⟨j, hj, hlk⟩ := mem_lookups.1 hl
      obtain ⟨hjM, hjS⟩ := (mem_addIdx_kc M S j).1 hj
      rw [delLookup_kc M S hS hno hnn hjM hjS] at hlk
      exact hnm ⟨j, hjM, (delLookup_someI hlk).2.symm⟩

theorem cplan_kc_render (M : List Cell) (hno : ((olds M).map (·.mkey)).Nodup)
    (hnn : ((news M).map (·.mkey)).Nodup) (g : Nat → Bool) :
    (cplan (keepCells M ((addIdx M).filter (supprAt M g)))).map (iosRender M) =
      (addIdx M).flatMap (cellOpsG M g) ++ delsOf M := by
  have hS := mem_addIdx_of_suppr M g
  have key : ∀ a b c : Bool, ((b = false ∧ a = false) ↔ c = false) → (!a && !b) = !c := by decide
  rw [cplan, List.map_append, List.map_map, List.map_map, addIdx_kc, ← flatMap_ite_singleton,
    delsOf_eq, cdels, delIdx_kc M _, ← List.filter_reverse, List.filter_filter]
  refine congr (congrArg _ (ListFacts.flatMap_congr fun j hj => (cellOpsG_kc M hno hnn g hj).symm))
    (congrArg _ (List.filter_congr fun i hi => key _ _ _ ?_))
  have h := cdel_kc_iff M hno hnn _ hS (List.mem_reverse.1 hi)
  rwa [← Bool.not_eq_true (List.contains _ _), ← Bool.not_eq_true (List.contains _ _),
    List.contains_iff_mem, List.contains_iff_mem]

/-- For ANY suppression flags `g`, not only those of the code. -/
theorem plan_run (M : List Cell) (hjunk : noJunk M = true) (hruns : runsShort M)
    (hno : ((olds M).map (·.mkey)).Nodup) (hnn : ((news M).map (·.mkey)).Nodup)
    (g : Nat → Bool) {P : List Bool → Prop}
    (hA : ∀ μ needed js, CInv (keepCells M ((addIdx M).filter (supprAt M g))) μ needed js →
      AddX (keepCells M ((addIdx M).filter (supprAt M g))) needed js → P μ)
    (hD : ∀ μ needed, CInv (keepCells M ((addIdx M).filter (supprAt M g))) μ needed [] →
      DelX (keepCells M ((addIdx M).filter (supprAt M g))) needed → P μ) :
    IRun (fun s => ∃ ν, s = numbered M ν ∧ P ν) (numbered M (oldMask M))
      ((addIdx M).flatMap (cellOpsG M g) ++ delsOf M)
      (numbered M (finalMask M ((addIdx M).filter (supprAt M g)))) := by
  have hS := mem_addIdx_of_suppr M g
  have h := (cplan_run _ (newInj_kc M _ hS hno hnn) (oldInj_kc M _ hno) hA hD).iRun
    (kc_length M _) (fun i hi => kc_line M _ i hi) (allNum_sorted M hjunk hruns)
    ((congrArg _ (oldMask_kc M _)).trans (List.length_map ..))
  rwa [cplan_kc_render M hno hnn g, oldMask_kc M _, newMask_kc M _] at h

end NA.Acl

namespace NA.IosSafe
open NA.Acl

/-- `shape_of_add` / `shape_of_del` at the re-labelled list. -/
theorem shape_of_addSt (M : List Cell) (S : List Nat) {μ : List Bool} {needed js : List Nat}
    (h : CInv (keepCells M S) μ needed js) (hx : AddX (keepCells M S) needed js) :
    Shape (keepCells M S) μ :=
  shape_of_add h hx

theorem shape_of_delSt (M : List Cell) (S : List Nat) {μ : List Bool} {needed : List Nat}
    (h : CInv (keepCells M S) μ needed []) (hx : DelX (keepCells M S) needed) :
    Shape (keepCells M S) μ :=
  shape_of_del h hx

theorem plan_run_shape (M : List Cell) (hjunk : noJunk M = true) (hruns : runsShort M)
    (hno : ((olds M).map (·.mkey)).Nodup) (hnn : ((news M).map (·.mkey)).Nodup)
    (g : Nat → Bool) :
    IRun (fun s => ∃ ν, s = numbered M ν ∧
        Shape (keepCells M ((addIdx M).filter (supprAt M g))) ν)
      (numbered M (oldMask M)) ((addIdx M).flatMap (cellOpsG M g) ++ delsOf M)
      (numbered M (finalMask M ((addIdx M).filter (supprAt M g)))) :=
  plan_run M hjunk hruns hno hnn g (fun _ _ _ => shape_of_addSt M _) (fun _ _ => shape_of_delSt M _)

/-- The theorems of `NA.Props.IosAcl` on the final state and of `NA.Props.IosSafe` on the states in
between start from this statement. -/
theorem planIOS_run (M : List Cell) (hboth : (M.any fun c => c.old && c.new) = true)
    (hjunk : noJunk M = true) (hruns : runsShort M)
    (hno : ((olds M).map (·.mkey)).Nodup) (hnn : ((news M).map (·.mkey)).Nodup)
    (dev : IosAcl) (hdev : iosLines dev = olds M) :
    ∃ g : Nat → Bool, planIOS M = (addIdx M).flatMap (cellOpsG M g) ++ delsOf M ∧
      (∀ j ∈ addIdx M, g j = true → ∃ r ∈ insertRuns M 0 0, RunRsn M
        (blockPass (olds M) (insertRuns M 0 0) (blocksOf (olds M)) (maxBlock (olds M))).1 r
        (newItem M j)) ∧
      IRun (fun s => ∃ ν, s = numbered M ν ∧
          Shape (keepCells M ((addIdx M).filter (supprAt M g))) ν)
        (iosReseq dev 10000 10000) (planIOS M)
        (numbered M (finalMask M ((addIdx M).filter (supprAt M g)))) := by
  obtain ⟨g, hplan, hg⟩ := plan_general M hboth hnn
  refine ⟨g, hplan, hg, ?_⟩
  rw [hplan, reseq_numbered M dev hdev]
  exact plan_run_shape M hjunk hruns hno hnn g

theorem plan_irun (M : List Cell) (hjunk : noJunk M = true) (hruns : runsShort M)
    (hno : ((olds M).map (·.mkey)).Nodup) (hnn : ((news M).map (·.mkey)).Nodup)
    (g : Nat → Bool) :
    ∃ s', IRun (fun s => ∃ ν, s = numbered M ν ∧
        Shape (keepCells M ((addIdx M).filter (supprAt M g))) ν)
      (numbered M (oldMask M)) ((addIdx M).flatMap (cellOpsG M g) ++ delsOf M) s' :=
  ⟨_, plan_run_shape M hjunk hruns hno hnn g⟩

end NA.IosSafe
