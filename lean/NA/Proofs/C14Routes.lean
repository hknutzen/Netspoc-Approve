import NA.Model.Routes
namespace NA.Route

theorem covered_append (s t : List Route) (v d : Nat) : covered (s ++ t) v d = (covered s v d || covered t v d) := by
  simp [covered]

theorem rtrace_inv {P : List Route → Prop} {ok : ROp → Bool}
    (hstep : ∀ s op, ok op = true → P s → P (rexec1 s op)) (s : List Route) (ops : List ROp)
    (hops : ops.all ok = true) (h : P s) : ∀ t ∈ rtrace s ops, P t := by
  induction ops generalizing s with
  | nil => exact fun _ ht => nomatch ht
  | cons op ops ih =>
    rw [List.all_cons, Bool.and_eq_true] at hops
    have hs := hstep s op hops.1 h
    exact List.forall_mem_cons.2 ⟨hs, ih _ hops.2 hs⟩

theorem phaseA_step (s : List Route) (op : ROp) (v d : Nat) (hop : phaseA [op] = true)
    (h : covered s v d = true) : covered (rexec1 s op) v d = true := by
  cases op with
  | add r => simp [rexec1, covered_append, h]
  | del r => simp [phaseA] at hop
  | repl o n =>
    simp only [phaseA, List.all_cons, List.all_nil, Bool.and_true, Bool.and_eq_true, beq_iff_eq] at hop
    simp only [rexec1, covered_append]
    -- either the witness survives the filter, or it is `o` and then `n` covers the same destination
    simp only [covered, Bool.or_eq_true, List.any_eq_true, Bool.and_eq_true, beq_iff_eq] at h ⊢
    obtain ⟨r, hr, hv, hd⟩ := h
    by_cases hro : r = o
    · subst hro
      right; exact ⟨n, by simp, by omega, by omega⟩
    · left; exact ⟨r, by simp [List.mem_filter, hr, hro], hv, hd⟩

theorem phaseA_trace (s : List Route) (ops : List ROp) (v d : Nat) (hops : phaseA ops = true)
    (h : covered s v d = true) : ∀ t ∈ rtrace s ops, covered t v d = true :=
  rtrace_inv (fun s op hop => phaseA_step s op v d (by rw [phaseA, List.all_cons, hop]; rfl)) s ops
    hops h

theorem phaseB_step (new s : List Route) (op : ROp) (hop : phaseB new [op] = true)
    (h : ∀ r ∈ new, r ∈ s) : ∀ r ∈ new, r ∈ rexec1 s op := by
  cases op with
  | add r => simp [phaseB] at hop
  | repl o n => simp [phaseB] at hop
  | del x =>
    simp only [phaseB, List.all_cons, List.all_nil, Bool.and_true, Bool.not_eq_true',
      List.contains_eq_mem, decide_eq_false_iff_not] at hop
    intro r hr
    simp only [rexec1, List.mem_filter, bne_iff_ne, ne_eq]
    exact ⟨h r hr, fun e => hop (e ▸ hr)⟩

theorem phaseB_trace (new s : List Route) (ops : List ROp) (hops : phaseB new ops = true)
    (h : ∀ r ∈ new, r ∈ s) : ∀ t ∈ rtrace s ops, ∀ r ∈ new, r ∈ t :=
  rtrace_inv (fun s op hop => phaseB_step new s op (by rw [phaseB, List.all_cons, hop]; rfl)) s ops
    hops h

theorem covered_of_subset (new t : List Route) (v d : Nat) (h : ∀ r ∈ new, r ∈ t)
    (hc : covered new v d = true) : covered t v d = true := by
  simp only [covered, List.any_eq_true] at hc ⊢
  obtain ⟨r, hr, hp⟩ := hc
  exact ⟨r, h r hr, hp⟩

theorem covered_both_phases (old new : List Route) (opsA opsB : List ROp) (v d : Nat)
    (hA : phaseA opsA = true) (hB : phaseB new opsB = true)
    (hall : ∀ r ∈ new, r ∈ opsA.foldl rexec1 old)
    (hold : covered old v d = true) (hnew : covered new v d = true) :
    ∀ t ∈ rtrace old opsA ++ rtrace (opsA.foldl rexec1 old) opsB, covered t v d = true := by
  intro t ht
  rcases List.mem_append.mp ht with ht | ht
  · exact phaseA_trace old opsA v d hA hold t ht
  · exact covered_of_subset new t v d (phaseB_trace new _ opsB hB hall t ht) hnew

end NA.Route
