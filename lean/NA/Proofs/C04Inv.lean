import NA.Proofs.C04Addr
import NA.Proofs.C04Planner
/-!
The group invariant `GInv` links the planner state (`needed`, `nameOnDevice`) with the groups on the manager.  `Ran`
is the one shape in which every part of the planner that has a state is specified on the strict store; parts compose
by `Ran.append`.  `adaptGroup` and `equalize`, the two places where groups are named, claimed, created or rewritten,
are the first two parts.
-/
namespace NA.Nsx

/-- Static facts about the planner's context relative to the initial groups `G0` of the manager. -/
structure CtxOK (ctx : Ctx) (G0 : List Group) : Prop where
  g0_nodup : (gids G0).Nodup
  a_of_g0 : ∀ ga ∈ ctx.aGroups, ∃ g0, findGroup G0 ga.id = some g0 ∧ g0.exprId = ga.exprId ∧ g0.addrs.Perm ga.addrs
  a_addrs : ∀ ga ∈ ctx.aGroups, ga.addrs.Nodup
  b_fresh : ∀ k gb, ctx.bmap.lookup k = some gb → gb.id ∉ gids G0
  b_inj : ∀ k1 k2 g1 g2, ctx.bmap.lookup k1 = some g1 → ctx.bmap.lookup k2 = some g2 → g1.id = g2.id → k1 = k2
  b_addrs : ∀ k gb, ctx.bmap.lookup k = some gb → gb.addrs.Nodup
  b_nonempty : ∀ k gb, ctx.bmap.lookup k = some gb → gb.addrs ≠ []

structure GInv (ctx : Ctx) (G0 G : List Group) (st : PSt) : Prop where
  nodup : (gids G).Nodup
  unneeded : ∀ ga ∈ ctx.aGroups, ga.id ∉ st.needed → findGroup G ga.id = findGroup G0 ga.id
  others : ∀ id, id ∈ gids G0 → id ∉ gids ctx.aGroups → findGroup G id = findGroup G0 id
  /-- the group a target group is known under carries the target's addresses -/
  nod : ∀ k n, st.nod.lookup k = some n → ∃ gb g, ctx.bmap.lookup k = some gb ∧ findGroup G n = some g ∧
      (∀ x, x ∈ g.addrs ↔ x ∈ gb.addrs) ∧ ((n ∈ st.needed ∧ n ∈ gids ctx.aGroups) ∨ n = gb.id)
  inj : ∀ k1 k2 n, st.nod.lookup k1 = some n → st.nod.lookup k2 = some n → k1 = k2
  needed_a : ∀ n ∈ st.needed, n ∈ gids ctx.aGroups
  needed_owned : ∀ n ∈ st.needed, ∃ k, st.nod.lookup k = some n
  /-- every group on the manager was there initially or was created for a target group -/
  ids : ∀ id ∈ gids G, id ∈ gids G0 ∨ ∃ k gb, st.nod.lookup k = some id ∧ ctx.bmap.lookup k = some gb ∧ gb.id = id
  grow : ∀ id ∈ gids G0, id ∈ gids G

structure Mono (st st' : PSt) : Prop where
  nod : ∀ k n, st.nod.lookup k = some n → st'.nod.lookup k = some n
  needed : ∀ n ∈ st.needed, n ∈ st'.needed
  abort : st'.abort = none → st.abort = none

theorem Mono.refl (st : PSt) : Mono st st := ⟨fun _ _ h => h, fun _ h => h, fun h => h⟩
theorem Mono.trans {a b c : PSt} (h1 : Mono a b) (h2 : Mono b c) : Mono a c :=
  ⟨fun k n h => h2.nod k n (h1.nod k n h), fun n h => h2.needed n (h1.needed n h), fun h => h1.abort (h2.abort h)⟩

theorem ginv_init {ctx : Ctx} {G0 : List Group} (hc : CtxOK ctx G0) : GInv ctx G0 G0 {} :=
  { nodup := hc.g0_nodup, unneeded := fun _ _ _ => rfl, others := fun _ _ _ => rfl,
    nod := fun k n h => by simp at h, inj := fun k1 k2 n h => by simp at h,
    needed_a := fun n h => by simp at h, needed_owned := fun n h => by simp at h,
    ids := fun id h => Or.inl h, grow := fun id h => h }

/- A target group gets a name on the manager (`nameOnDevice`) only while a target rule that refers to it is
processed: `KeysFrom` is one of the clauses of `Ran` below, proved where a name is given; `plan_converges` uses it
with `TargetKey` for `nsx_no_leftover_unused_group`. -/

def RefsKey (rb : Rule) (k : String) : Prop := groupRef rb.src = some k ∨ groupRef rb.dst = some k

def KeysFrom (st st' : PSt) (P : String → Prop) : Prop :=
  ∀ k n, st'.nod.lookup k = some n → st.nod.lookup k = some n ∨ P k

theorem KeysFrom.refl (st : PSt) (P : String → Prop) : KeysFrom st st P := fun _ _ h => Or.inl h

theorem KeysFrom.trans {a b c : PSt} {P : String → Prop} (h1 : KeysFrom a b P) (h2 : KeysFrom b c P) :
    KeysFrom a c P := by
  intro k n h
  rcases h2 k n h with h' | h'
  · exact h1 k n h'
  · exact Or.inr h'

def TargetKey (T : Config) (k : String) : Prop := ∃ pb ∈ T.policies, ∃ rb ∈ pb.rules, RefsKey rb k

theorem targetKey_of {T : Config} : ∀ pb ∈ T.policies, ∀ rb ∈ pb.rules, ∀ k, RefsKey rb k → TargetKey T k :=
  fun pb hpb rb hrb _ hk => ⟨pb, hpb, rb, hrb, hk⟩

/-- The calls `cs` were planned while the planner's state went from `st` to `st'`; `U` says for which keys a target
group may get a name. -/
structure Ran (ctx : Ctx) (G0 : List Group) (U : String → Prop) (S : Store) (st : PSt) (cs : List Call) (S' : Store) (st' : PSt) :
    Prop where
  run : run S cs = some S'
  ginv : GInv ctx G0 S'.groups st'
  mono : Mono st st'
  services : S'.services = S.services
  groups : GroupsLE S S'
  keys : KeysFrom st st' U

section
variable {ctx : Ctx} {G0 : List Group} {U : String → Prop} {S S1 S2 S' : Store} {st st1 st2 st' : PSt} {c1 c2 cs : List Call}

theorem Ran.nil (h : GInv ctx G0 S.groups st) : Ran ctx G0 U S st [] S st :=
  ⟨rfl, h, Mono.refl _, rfl, GroupsLE.refl _, KeysFrom.refl _ _⟩

theorem Ran.append (h1 : Ran ctx G0 U S st c1 S1 st1) (h2 : Ran ctx G0 U S1 st1 c2 S2 st2) :
    Ran ctx G0 U S st (c1 ++ c2) S2 st2 :=
  ⟨(run_append h1.run).trans h2.run, h2.ginv, h1.mono.trans h2.mono, h2.services.trans h1.services,
    h1.groups.trans h2.groups, h1.keys.trans h2.keys⟩

theorem Ran.call {c : Call} (h : GInv ctx G0 S.groups st) (hex : exec S c = .ok S') (hg : S'.groups = S.groups)
    (hs : S'.services = S.services) : Ran ctx G0 U S st [c] S' st :=
  ⟨run_single hex, hg ▸ h, Mono.refl _, hs, fun _ hid => hg ▸ hid, KeysFrom.refl _ _⟩

theorem Ran.epOk (h : Ran ctx G0 U S st cs S' st') {p : String} (hp : epOk S p = true) : epOk S' p = true :=
  epOk_mono h.groups hp

theorem Ran.svcOk (h : Ran ctx G0 U S st cs S' st') (p : String) : svcOk S' p = svcOk S p :=
  svcOk_of_services h.services p

theorem Ran.refsOk (h : Ran ctx G0 U S st cs S' st') {r : Rule} (hr : refsOk S r = true) : refsOk S' r = true :=
  refsOk_mono h.services h.groups hr

end

/-- A rule entry `pS` on the manager realises the target's entry `pB`. -/
def EPreal (ctx : Ctx) (nod : List (String × String)) (pS pB : String) : Prop :=
  match groupRef pB with
  | some k =>
    match ctx.bmap.lookup k with
    | some _ => ∃ n, nod.lookup k = some n ∧ pS = groupPath n
    | none => pS = pB
  | none => pS = pB

theorem EPreal_iff {ctx : Ctx} {nod : List (String × String)} {pS pB : String} :
    EPreal ctx nod pS pB ↔ (ctx.gmb pB = none ∧ pS = pB) ∨
      ∃ k gb n, groupRef pB = some k ∧ ctx.bmap.lookup k = some gb ∧ nod.lookup k = some n ∧ pS = groupPath n := by
  rw [EPreal, Ctx.gmb]
  cases hr : groupRef pB with
  | none => exact ⟨fun h => Or.inl ⟨rfl, h⟩, fun h => h.elim (·.2) fun ⟨_, _, _, h, _⟩ => nomatch h⟩
  | some k =>
    dsimp only
    cases hb : ctx.bmap.lookup k with
    | none => exact ⟨fun h => Or.inl ⟨rfl, h⟩, fun h => h.elim (·.2) fun ⟨_, _, _, h, hb', _⟩ => by
        cases h; rw [hb] at hb'; cases hb'⟩
    | some gb =>
      exact ⟨fun ⟨n, hn, e⟩ => Or.inr ⟨k, gb, n, rfl, hb, hn, e⟩,
        fun h => h.elim (fun h => nomatch h.1) fun ⟨_, _, n, h, _, hn, e⟩ => by cases h; exact ⟨n, hn, e⟩⟩

/- From here on `EPreal` is used through `EPreal_iff` only.  Left reducible, every term elaborated against an
expected type `EPreal …` makes the elaborator look for a binder in it: it unfolds the definition and
evaluates `hasPrefix gpp pB` on the string literal, which is slow. -/
attribute [irreducible] EPreal

theorem EPreal.mono {ctx : Ctx} {st st' : PSt} {pS pB : String} (hm : Mono st st')
    (h : EPreal ctx st.nod pS pB) : EPreal ctx st'.nod pS pB :=
  EPreal_iff.mpr ((EPreal_iff.mp h).imp id fun ⟨k, gb, n, hr, hb, hn, e⟩ => ⟨k, gb, n, hr, hb, hm.nod k n hn, e⟩)

theorem EPreal_of_gmb_none {ctx : Ctx} {nod : List (String × String)} {pS pB : String}
    (h : ctx.gmb pB = none) (he : pS = pB) : EPreal ctx nod pS pB := EPreal_iff.mpr (Or.inl ⟨h, he⟩)

theorem EPreal_of_lookup {ctx : Ctx} {nod : List (String × String)} {pB k n : String} {gb : Group}
    (hr : groupRef pB = some k) (hb : ctx.bmap.lookup k = some gb) (hn : nod.lookup k = some n) :
    EPreal ctx nod (groupPath n) pB := EPreal_iff.mpr (Or.inr ⟨k, gb, n, hr, hb, hn, rfl⟩)

theorem Mono.cons_nod {st : PSt} {k : String} (hk : st.nod.lookup k = none) (n : String) {needed : List String}
    (hsub : ∀ x ∈ st.needed, x ∈ needed) : Mono st { st with needed := needed, nod := (k, n) :: st.nod } :=
  ⟨fun k' m h => by
      have hne : k' ≠ k := fun e => by rw [e, hk] at h; cases h
      rw [lookup_cons_ne hne]; exact h,
   hsub, fun h => h⟩

theorem KeysFrom.cons_nod {st : PSt} {U : String → Prop} {k : String} (hu : U k) (n : String)
    (needed : List String) : KeysFrom st { st with needed := needed, nod := (k, n) :: st.nod } U :=
  fun k' _ hl => (lookup_cons_cases hl).symm.imp id fun (e : k' = k) => e ▸ hu

theorem aGroup_in_G0 {ctx : Ctx} {G0 : List Group} (hc : CtxOK ctx G0) {ga : Group} (h : ga ∈ ctx.aGroups) :
    ga.id ∈ gids G0 := by
  obtain ⟨g0, hf, _, _⟩ := hc.a_of_g0 ga h
  obtain ⟨hm, hid⟩ := findGroup_some hf
  exact hid ▸ List.mem_map_of_mem (f := (·.id)) hm

theorem put_new_group {ctx : Ctx} {G0 : List Group} {U : String → Prop} (hc : CtxOK ctx G0) (S : Store) (st : PSt) (k : String)
    (gb : Group) (hinv : GInv ctx G0 S.groups st) (hb : ctx.bmap.lookup k = some gb)
    (hk : st.nod.lookup k = none) (hu : U k) :
    ∃ S', Ran ctx G0 U S st [putGroupCall gb] S' { st with nod := (k, gb.id) :: st.nod } ∧
      S'.policies = S.policies ∧ gb.id ∈ gids S'.groups := by
  have hfresh : gb.id ∉ gids S.groups := by
    intro hm
    rcases hinv.ids gb.id hm with h0 | ⟨k', gb', hn, hb', hid⟩
    · exact hc.b_fresh k gb hb h0
    · have := hc.b_inj k' k gb' gb hb' hb hid
      subst this
      rw [hk] at hn; cases hn
  have hmono : Mono st { st with nod := (k, gb.id) :: st.nod } := Mono.cons_nod hk gb.id fun _ h => h
  have hhas : hasGroup S gb.id = false := Bool.eq_false_iff.mpr fun h => hfresh (hasGroup_iff.mp h)
  have hgids : gids (S.groups ++ [gb]) = gids S.groups ++ [gb.id] := by simp [gids]
  refine ⟨{ S with groups := S.groups ++ [gb] },
    ⟨run_single (exec_of_step (.putGroup hhas (hc.b_nonempty k gb hb))), ?_, hmono, rfl,
      fun id h => hgids ▸ List.mem_append_left _ h, KeysFrom.cons_nod hu _ _⟩, rfl, hgids ▸ List.mem_append_right _ List.mem_cons_self⟩
  · show GInv ctx G0 (S.groups ++ [gb]) _
    have hfind : ∀ id, findGroup (S.groups ++ [gb]) id = if id = gb.id then some gb else findGroup S.groups id :=
      fun id => findGroup_append_fresh S.groups gb id hfresh
    refine
      { nodup := ?_, unneeded := ?_, others := ?_, nod := ?_, inj := ?_, needed_a := hinv.needed_a,
        needed_owned := ?_, ids := ?_, grow := ?_ }
    · rw [hgids]; exact ListFacts.nodup_snoc hinv.nodup hfresh
    · intro ga hga hnn
      have hne : ga.id ≠ gb.id := fun e => hc.b_fresh k gb hb (e ▸ aGroup_in_G0 hc hga)
      rw [hfind, if_neg hne]
      exact hinv.unneeded ga hga hnn
    · intro id h0 hna
      have hne : id ≠ gb.id := fun e => hc.b_fresh k gb hb (e ▸ h0)
      rw [hfind, if_neg hne]
      exact hinv.others id h0 hna
    · intro k' n hl
      by_cases hkk : k' = k
      · subst hkk
        rw [show List.lookup k' ((k', gb.id) :: st.nod) = some gb.id from lookup_cons_self] at hl
        cases hl
        exact ⟨gb, gb, hb, by rw [hfind, if_pos rfl], fun _ => Iff.rfl, Or.inr rfl⟩
      · rw [show List.lookup k' ((k, gb.id) :: st.nod) = List.lookup k' st.nod from lookup_cons_ne hkk] at hl
        obtain ⟨gb', g, hb', hf, hm, hor⟩ := hinv.nod k' n hl
        have hne : n ≠ gb.id := fun e => hfresh (e ▸ mem_gids_of_find hf)
        exact ⟨gb', g, hb', by rw [hfind, if_neg hne]; exact hf, hm, hor⟩
    · exact lookup_cons_inj (fun k' h => by
        obtain ⟨_, g, _, hf, _, _⟩ := hinv.nod k' gb.id h
        exact hfresh (mem_gids_of_find hf)) hinv.inj
    · intro n hn
      obtain ⟨k', hk'⟩ := hinv.needed_owned n hn
      exact ⟨k', hmono.nod k' n hk'⟩
    · intro id hid
      rw [hgids, List.mem_append] at hid
      rcases hid with h | h
      · rcases hinv.ids id h with h0 | ⟨k', gb', hn, hb', hid'⟩
        · exact Or.inl h0
        · exact Or.inr ⟨k', gb', hmono.nod k' id hn, hb', hid'⟩
      · simp at h; subst h
        exact Or.inr ⟨k, gb, lookup_cons_self, hb, rfl⟩
    · intro id h0
      rw [hgids, List.mem_append]
      exact Or.inl (hinv.grow id h0)

/-- `f` is what the address update did to the device group (the identity when it is claimed as it is). -/
theorem claim_group {ctx : Ctx} {G0 : List Group} (hc : CtxOK ctx G0) (G : List Group) (st : PSt) (k : String)
    (ga gb g0 : Group) (f : Group → Group) (hinv : GInv ctx G0 G st) (hga : ga ∈ ctx.aGroups)
    (hnn : ga.id ∉ st.needed) (hb : ctx.bmap.lookup k = some gb) (hk : st.nod.lookup k = none)
    (hfind : findGroup G ga.id = some g0) (hf : ∀ g, (f g).id = g.id)
    (hmem : ∀ x, x ∈ (f g0).addrs ↔ x ∈ gb.addrs) :
    GInv ctx G0 (setGroupAddrs G ga.id f) { st with needed := ga.id :: st.needed, nod := (k, ga.id) :: st.nod } ∧
    Mono st { st with needed := ga.id :: st.needed, nod := (k, ga.id) :: st.nod } := by
  have hmono : Mono st { st with needed := ga.id :: st.needed, nod := (k, ga.id) :: st.nod } :=
    Mono.cons_nod hk ga.id fun _ h => List.mem_cons_of_mem _ h
  have hga0 : ga.id ∈ gids G0 := aGroup_in_G0 hc hga
  have hgaA : ga.id ∈ gids ctx.aGroups := List.mem_map_of_mem (f := (·.id)) hga
  -- an old name is never the unneeded device group
  have hold_ne : ∀ k' n, st.nod.lookup k' = some n → n ≠ ga.id := by
    intro k' n hl e
    obtain ⟨gb', _, hb', _, _, hor⟩ := hinv.nod k' n hl
    rcases hor with ⟨hn, _⟩ | hn
    · exact hnn (e ▸ hn)
    · exact hc.b_fresh k' gb' hb' (hn ▸ e ▸ hga0)
  have hgids : gids (setGroupAddrs G ga.id f) = gids G := gids_setGroupAddrs G ga.id f hf
  refine ⟨{ nodup := ?_, unneeded := ?_, others := ?_, nod := ?_, inj := ?_, needed_a := ?_,
            needed_owned := ?_, ids := ?_, grow := ?_ }, hmono⟩
  · rw [hgids]; exact hinv.nodup
  · intro ga' hga' hnn'
    have hne : ga'.id ≠ ga.id := fun e => hnn' (e ▸ List.mem_cons_self)
    rw [findGroup_setGroupAddrs_ne G ga.id ga'.id f hf hne]
    exact hinv.unneeded ga' hga' fun h => hnn' (List.mem_cons_of_mem _ h)
  · intro id h0 hna
    have hne : id ≠ ga.id := fun e => hna (e ▸ hgaA)
    rw [findGroup_setGroupAddrs_ne G ga.id id f hf hne]
    exact hinv.others id h0 hna
  · intro k' n hl
    by_cases hkk : k' = k
    · subst hkk
      rw [show List.lookup k' ((k', ga.id) :: st.nod) = some ga.id from lookup_cons_self] at hl
      cases hl
      refine ⟨gb, f g0, hb, ?_, hmem, Or.inl ⟨List.mem_cons_self, hgaA⟩⟩
      rw [findGroup_setGroupAddrs G ga.id f hf, hfind]; rfl
    · rw [show List.lookup k' ((k, ga.id) :: st.nod) = List.lookup k' st.nod from lookup_cons_ne hkk] at hl
      obtain ⟨gb', g, hb', hfd, hm, hor⟩ := hinv.nod k' n hl
      refine ⟨gb', g, hb', ?_, hm, ?_⟩
      · rw [findGroup_setGroupAddrs_ne G ga.id n f hf (hold_ne k' n hl)]; exact hfd
      · rcases hor with ⟨h1, h2⟩ | h
        · exact Or.inl ⟨List.mem_cons_of_mem _ h1, h2⟩
        · exact Or.inr h
  · exact lookup_cons_inj (fun k' h => hold_ne k' ga.id h rfl) hinv.inj
  · intro n hn
    rcases List.mem_cons.mp hn with h | h
    · exact h ▸ hgaA
    · exact hinv.needed_a n h
  · intro n hn
    rcases List.mem_cons.mp hn with h | h
    · exact ⟨k, h ▸ lookup_cons_self⟩
    · obtain ⟨k', hk'⟩ := hinv.needed_owned n h
      exact ⟨k', hmono.nod k' n hk'⟩
  · intro id hid
    rw [hgids] at hid
    rcases hinv.ids id hid with h0 | ⟨k', gb', hn, hb', hid'⟩
    · exact Or.inl h0
    · exact Or.inr ⟨k', gb', hmono.nod k' id hn, hb', hid'⟩
  · intro id h0
    rw [hgids]; exact hinv.grow id h0

theorem findOnDevice_some {aG : List Group} {needed : List String} {gb ga : Group}
    (h : findOnDevice aG needed gb = some ga) : ga ∈ aG ∧ ga.id ∉ needed ∧ ga.addrs = gb.addrs := by
  unfold findOnDevice at h
  have hm := List.mem_of_find?_eq_some h
  have hp := List.find?_some h
  rw [(isort_perm _ _).mem_iff] at hm
  simp only [Bool.and_eq_true, Bool.not_eq_eq_eq_not, Bool.not_true, beq_iff_eq] at hp
  exact ⟨hm, by simpa using hp.1, hp.2⟩

theorem adaptGroup_spec {ctx : Ctx} {G0 : List Group} {U : String → Prop} (hc : CtxOK ctx G0) (S : Store) {st st' : PSt}
    {p p' : String} {cs : List Call} (h : adaptGroup ctx st p = (st', p', cs))
    (hinv : GInv ctx G0 S.groups st) (hp : ctx.gmb p = none → epOk S p = true)
    (hu : ∀ k, groupRef p = some k → U k) :
    ∃ S', Ran ctx G0 U S st cs S' st' ∧ S'.policies = S.policies ∧ EPreal ctx st'.nod p' p ∧ epOk S' p' = true := by
  cases adaptGroup_cases h with
  | other hn => exact ⟨S, .nil hinv, rfl, EPreal_of_gmb_none hn rfl, hp hn⟩
  | known hr hb hn =>
    obtain ⟨_, g, _, hf, _, _⟩ := hinv.nod _ _ hn
    exact ⟨S, .nil hinv, rfl, EPreal_of_lookup hr hb hn, epOk_groupPath (mem_gids_of_find hf)⟩
  | @claim key gb ga hr hb hn hfd =>
    obtain ⟨hga, hnn, haddr⟩ := findOnDevice_some hfd
    obtain ⟨g0, hf0, _, hperm⟩ := hc.a_of_g0 ga hga
    have hfS : findGroup S.groups ga.id = some g0 := by rw [hinv.unneeded ga hga hnn]; exact hf0
    have hcl := claim_group hc S.groups st key ga gb g0 (fun g => g) hinv hga hnn hb hn hfS (fun _ => rfl)
      (fun x => by rw [hperm.mem_iff, haddr])
    rw [setGroupAddrs_id] at hcl
    exact ⟨S, ⟨rfl, hcl.1, hcl.2, rfl, GroupsLE.refl _, KeysFrom.cons_nod (hu _ hr) _ _⟩, rfl,
      EPreal_of_lookup hr hb lookup_cons_self,
      epOk_groupPath (mem_gids_of_find hfS)⟩
  | @put key gb hr hb hn _ =>
    obtain ⟨S', hran, hpol, hin⟩ := put_new_group hc S st key gb hinv hb hn (hu _ hr)
    exact ⟨S', hran, hpol, EPreal_of_lookup hr hb lookup_cons_self, epOk_groupPath hin⟩

/-- `hext`, `heq`: the comparison of the rules has matched the entry `la` with `lb`, so an entry that is no loaded group
is no target group either and has the same text. -/
theorem equalize_ran {ctx : Ctx} {G0 : List Group} {U : String → Prop} (hc : CtxOK ctx G0)
    (hdiff : ∀ n m eq, validScript n m eq (ctx.diff n m eq) = true)
    (S : Store) {st st' : PSt} {la lb la' : String} {ch : Bool} {cs : List Call}
    (h : equalize ctx st la lb = (st', la', ch, cs)) (hinv : GInv ctx G0 S.groups st)
    (habort : st'.abort = none) (hla : epOk S la = true) (hext : ctx.gma la = none → ctx.gmb la = none)
    (heq : ctx.gma la = none → la = lb) (hu : ∀ k, groupRef lb = some k → U k) :
    ∃ S', Ran ctx G0 U S st cs S' st' ∧ S'.policies = S.policies ∧ EPreal ctx st'.nod la' lb ∧
      (ch = false → la' = la) ∧ epOk S' la' = true := by
  cases equalize_cases h with
  | other hga => exact ⟨S, .nil hinv, rfl, EPreal_of_gmb_none (heq hga ▸ hext hga) (heq hga), fun _ => rfl, hla⟩
  | undefined _ _ => cases habort
  | same hga hr hb hn =>
    refine ⟨S, .nil hinv, rfl, ?_, fun _ => rfl, hla⟩
    rw [(gma_some hga).2]; exact EPreal_of_lookup hr hb hn
  | known hga hr hb hn _ =>
    obtain ⟨_, g, _, hf, _, _⟩ := hinv.nod _ _ hn
    exact ⟨S, .nil hinv, rfl, EPreal_of_lookup hr hb hn, (fun h => nomatch h), epOk_groupPath (mem_gids_of_find hf)⟩
  | @put ga key gb hga hr hb hn _ =>
    obtain ⟨S', hran, hpol, hin⟩ := put_new_group hc S st key gb hinv hb hn (hu _ hr)
    exact ⟨S', hran, hpol, EPreal_of_lookup hr hb lookup_cons_self, (fun h => nomatch h), epOk_groupPath hin⟩
  | @rewrite ga key gb hga hr hb hn hnn =>
    -- the device group is rewritten to carry the target's addresses
    obtain ⟨hgaM, hlaEq⟩ := gma_some hga
    obtain ⟨g0, hf0, he0, hperm⟩ := hc.a_of_g0 ga hgaM
    have hfS : findGroup S.groups ga.id = some g0 := by rw [hinv.unneeded ga hgaM hnn]; exact hf0
    obtain ⟨S', f, hrun, hpol, hsvc, hgr, hfid, hmem⟩ :=
      groupCalls_converges ctx.diff hdiff S ga gb g0 hfS he0 hperm (hc.a_addrs ga hgaM) (hc.b_addrs key gb hb)
        (hc.b_nonempty key gb hb)
    have hcl := claim_group hc S.groups st key ga gb g0 f hinv hgaM hnn hb hn hfS (fun g => (hfid g).1) hmem
    rw [← hgr] at hcl
    have hle : GroupsLE S S' := fun id h => by
      rw [hgr, gids_setGroupAddrs _ _ _ fun g => (hfid g).1]; exact h
    refine ⟨S', ⟨hrun, hcl.1, hcl.2, hsvc, hle, KeysFrom.cons_nod (hu _ hr) _ _⟩, hpol, ?_, fun _ => rfl,
      epOk_mono hle hla⟩
    rw [hlaEq]; exact EPreal_of_lookup hr hb lookup_cons_self

/-- `equalize` of one side of a kept rule, whatever the two entries are: when `la` is no loaded group nothing happens
(the case `equalize_ran` leaves to its hypotheses `hext`, `heq`). -/
theorem equalize_spec {ctx : Ctx} {G0 : List Group} (hc : CtxOK ctx G0)
    (hdiff : ∀ n m eq, validScript n m eq (ctx.diff n m eq) = true)
    (S : Store) (st : PSt) (la lb : String) (hinv : GInv ctx G0 S.groups st)
    (habort : (equalize ctx st la lb).1.abort = none) (hla : epOk S la = true) :
    ∃ S', run S (equalize ctx st la lb).2.2.2 = some S' ∧ S'.policies = S.policies ∧ S'.services = S.services ∧
      GInv ctx G0 S'.groups (equalize ctx st la lb).1 ∧ Mono st (equalize ctx st la lb).1 ∧
      (ctx.gma la ≠ none → EPreal ctx (equalize ctx st la lb).1.nod (equalize ctx st la lb).2.1 lb) ∧
      (ctx.gma la = none → (equalize ctx st la lb).2.1 = la) ∧
      ((equalize ctx st la lb).2.2.1 = false → (equalize ctx st la lb).2.1 = la) ∧
      GroupsLE S S' ∧ epOk S' (equalize ctx st la lb).2.1 = true := by
  rcases h : equalize ctx st la lb with ⟨st', la', ch, cs⟩
  rw [h] at habort
  cases hga : ctx.gma la with
  | none =>
    cases equalize_cases h with
    | other _ =>
      exact ⟨S, rfl, rfl, rfl, hinv, Mono.refl _, fun hne => absurd rfl hne, fun _ => rfl, fun _ => rfl,
        GroupsLE.refl _, hla⟩
    | undefined h1 _ | same h1 _ _ _ | known h1 _ _ _ _ | put h1 _ _ _ _ | rewrite h1 _ _ _ _ =>
      rw [hga] at h1; cases h1
  | some ga =>
    have hne : ctx.gma la = none → False := fun h0 => by rw [hga] at h0; cases h0
    obtain ⟨S', r, hpol, hreal, hsame, hep⟩ := equalize_ran (U := fun _ => True) hc hdiff S h hinv habort hla
      (fun h0 => (hne h0).elim) (fun h0 => (hne h0).elim) fun _ _ => trivial
    exact ⟨S', r.run, hpol, r.services, r.ginv, r.mono, fun _ => hreal, (fun h0 => nomatch h0), hsame, r.groups, hep⟩

end NA.Nsx
