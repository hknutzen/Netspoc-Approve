import NA.Proofs.C03PlanFlags
import NA.Proofs.C03Transfer
/-
C03, one object table through the plan, by name instead of by index: the flags of the final planner state
(`objSummary`), what the table holds after the transfer (`transferred_table`) and after the removal of what is not
needed (`final_table`).  Core Lean only.
-/
namespace NA.PanOs

theorem map_o_name {α : Type} {f : α → Obj} {l : List α} {os : List Obj} (h : l.map f = os) :
    l.map (fun x => (f x).name) = os.map (·.name) := by
  rw [← h, List.map_map]; rfl

def RefAddr (b : Vsys) (x : String) : Prop := ∃ r ∈ b.rules, x ∈ r.src ∨ x ∈ r.dst
def RefSvc (b : Vsys) (x : String) : Prop := ∃ r ∈ b.rules, x ∈ r.srv

structure AddrSummary (a b : Vsys) (st : St) : Prop where
  bdefs : st.bAddr.map (·.o) = b.addrs
  adefs : st.aAddr.map (·.o) = a.addrs
  editHas : ∀ ob ∈ st.bAddr, ob.edit = true → ob.o.name ∈ a.addrs.map (·.name)
  setLacks : ∀ ob ∈ st.bAddr, ob.needed = true → ob.o.name ∉ a.addrs.map (·.name)
  covered : ∀ x, RefAddr b x → x ∈ b.addrs.map (·.name) → ∃ ob ∈ st.bAddr, ob.o.name = x ∧
    ((x ∈ a.addrs.map (·.name) ∧ (lookupObj a.addrs x = some ob.o.val ∨ ob.edit = true)) ∨
      (x ∉ a.addrs.map (·.name) ∧ ob.needed = true))
  marked : ∀ x, RefAddr b x → x ∈ b.addrs.map (·.name) → ∀ oa ∈ st.aAddr, oa.o.name = x → oa.needed = true

structure SvcSummary (a b : Vsys) (st : St) : Prop where
  bdefs : st.bSvc.map (·.o) = b.svcs
  adefs : st.aSvc.map (·.o) = a.svcs
  editHas : ∀ ob ∈ st.bSvc, ob.edit = true → ob.o.name ∈ a.svcs.map (·.name)
  setLacks : ∀ ob ∈ st.bSvc, ob.needed = true → ob.o.name ∉ a.svcs.map (·.name)
  covered : ∀ x, RefSvc b x → x ∈ b.svcs.map (·.name) → ∃ ob ∈ st.bSvc, ob.o.name = x ∧
    ((x ∈ a.svcs.map (·.name) ∧ (lookupObj a.svcs x = some ob.o.val ∨ ob.edit = true)) ∨
      (x ∉ a.svcs.map (·.name) ∧ ob.needed = true))
  marked : ∀ x, RefSvc b x → x ∈ b.svcs.map (·.name) → ∀ oa ∈ st.aSvc, oa.o.name = x → oa.needed = true

/-- `as`, `bs` are the planner's tables of one kind of object, `ta`, `tb` the device's and the target's. -/
theorem objSummary {as : List AObj} {bs : List BObj} {ta tb : List Obj} {R : String → Prop}
    (hb : bs.map (·.o) = tb) (hadef : as.map (·.o) = ta) (hs : ObjFlagSound as bs)
    (hc : ∀ x, R x → x ∈ tb.map (·.name) → ObjCovered as bs x ∧ ObjMarked as x)
    (ha : (ta.map (·.name)).Nodup) :
    (∀ ob ∈ bs, ob.edit = true → ob.o.name ∈ ta.map (·.name)) ∧
    (∀ ob ∈ bs, ob.needed = true → ob.o.name ∉ ta.map (·.name)) ∧
    (∀ x, R x → x ∈ tb.map (·.name) → ∃ ob ∈ bs, ob.o.name = x ∧
      ((x ∈ ta.map (·.name) ∧ (lookupObj ta x = some ob.o.val ∨ ob.edit = true)) ∨
        (x ∉ ta.map (·.name) ∧ ob.needed = true))) ∧
    (∀ x, R x → x ∈ tb.map (·.name) → ∀ oa ∈ as, oa.o.name = x → oa.needed = true) := by
  have hbn := map_o_name hb
  have han := map_o_name hadef
  refine ⟨?_, ?_, ?_, ?_⟩
  · intro ob hob he
    obtain ⟨bi, hbi⟩ := List.getElem?_of_mem hob
    obtain ⟨ai, oa, q1, _, _⟩ := (hs bi ob hbi).2 he
    have := lastIdx_spec q1
    rw [han] at this
    exact List.mem_of_getElem? this
  · intro ob hob hn
    obtain ⟨bi, hbi⟩ := List.getElem?_of_mem hob
    have := (hs bi ob hbi).1 hn
    rw [han] at this
    exact lastIdx_none_not_mem this
  · intro x hrx hxb
    obtain ⟨bi, hbi⟩ : ∃ bi, lastIdx (bs.map (·.o.name)) x = some bi := Option.isSome_iff_exists.mp
      (lastIdx_isSome_of_mem (by rw [hbn]; exact hxb))
    obtain ⟨ob, hob, hcase⟩ := (hc x hrx hxb).1 bi hbi
    have hname : ob.o.name = x := lastIdx_map_name (f := (·.o.name)) hbi hob
    refine ⟨ob, List.mem_of_getElem? hob, hname, ?_⟩
    rcases hcase with ⟨ai, oa, q1, q2, q3⟩ | ⟨q1, q2⟩
    · left
      have hoaname : oa.o.name = x := lastIdx_map_name (f := (·.o.name)) q1 q2
      have hmem : oa.o ∈ ta := by
        rw [← hadef]; exact List.mem_map_of_mem (List.mem_of_getElem? q2)
      refine ⟨by rw [← hoaname]; exact List.mem_map_of_mem hmem, ?_⟩
      rcases q3 with q3 | q3
      · left
        rw [← hoaname, lookupObj_of_mem ha hmem, q3]
      · exact Or.inr q3
    · right
      rw [han] at q1
      exact ⟨lastIdx_none_not_mem q1, q2⟩
  · intro x hrx hxb oa hoa hn
    exact (hc x hrx hxb).2.needed_of_nodup (by rw [han]; exact ha) hoa hn

theorem addrSummary_of_planFlags {a b : Vsys} {st : St} (h : PlanFlags a b st)
    (ha : (a.addrs.map (·.name)).Nodup) : AddrSummary a b st :=
  have ⟨s1, s2, s3, s4⟩ := objSummary (R := RefAddr b) h.bAddr h.aAddr h.sound
    (fun x ⟨r, hr, hx⟩ hxb =>
      ⟨h.covered r hr x hx, h.marked r hr x hx ((List.mem_map.mp hxb).imp fun _ ho => ⟨ho.1, ho.2⟩)⟩) ha
  ⟨h.bAddr, h.aAddr, s1, s2, s3, s4⟩

theorem svcSummary_of_planFlags {a b : Vsys} {st : St} (h : PlanFlags a b st)
    (ha : (a.svcs.map (·.name)).Nodup) : SvcSummary a b st :=
  have ⟨s1, s2, s3, s4⟩ := objSummary (R := RefSvc b) h.bSvc h.aSvc h.ssound
    (fun x ⟨r, hr, hx⟩ hxb =>
      ⟨h.scovered r hr x hx, h.smarked r hr x hx ((List.mem_map.mp hxb).imp fun _ ho => ⟨ho.1, ho.2⟩)⟩) ha
  ⟨h.bSvc, h.aSvc, s1, s2, s3, s4⟩


/-- Names of the device objects of one kind that `removeUnneededObjects` removes. -/
def unneeded (as : List AObj) : List String := (as.filter (fun o => !o.needed)).map (·.o.name)

theorem mem_unneeded {as : List AObj} {x : String} :
    x ∈ unneeded as ↔ ∃ oa ∈ as, oa.o.name = x ∧ oa.needed = false := by
  simp only [unneeded, List.mem_map, List.mem_filter, Bool.not_eq_true']
  exact ⟨fun ⟨oa, ⟨h1, h2⟩, h3⟩ => ⟨oa, h1, h3, h2⟩, fun ⟨oa, h1, h3, h2⟩ => ⟨oa, ⟨h1, h2⟩, h3⟩⟩

theorem unneeded_nodup {as : List AObj} (h : (as.map (·.o.name)).Nodup) : (unneeded as).Nodup :=
  (List.Sublist.map _ List.filter_sublist).nodup h

theorem unneeded_subset {as : List AObj} {ta : List Obj} (hadefs : as.map (·.o) = ta) :
    ∀ x ∈ unneeded as, x ∈ ta.map (·.name) := by
  intro x hx
  obtain ⟨oa, hoa, hname, _⟩ := mem_unneeded.mp hx
  rw [← map_o_name hadefs, ← hname]
  exact List.mem_map_of_mem hoa

theorem map_del_unneeded (del : String → Cmd) (as : List AObj) :
    (as.filter (fun o => !o.needed)).map (fun o => del o.o.name) = (unneeded as).map del := by
  simp [unneeded, List.map_map, Function.comp_def]

theorem unneeded_not_used {as : List AObj} {ta tb : List Obj} {R reserved : String → Prop}
    (hadefs : as.map (·.o) = ta)
    (marked : ∀ x, R x → x ∈ tb.map (·.name) → ∀ oa ∈ as, oa.o.name = x → oa.needed = true)
    (hres : ∀ x ∈ ta.map (·.name), ¬ reserved x) :
    ∀ x ∈ unneeded as, R x → (reserved x ∨ x ∈ tb.map (·.name)) → False := by
  intro x hx href hcase
  obtain ⟨oa, hoa, hname, hneed⟩ := mem_unneeded.mp hx
  rcases hcase with h | h
  · exact hres x (unneeded_subset hadefs x hx) h
  · rw [marked x href h oa hoa hname] at hneed; cases hneed

/-- `t1` is the table after the transfer (`ref`, `other` as the transfer phase gives them), `tw` is `t1` without the
names not needed; `ta`, `tb` are the device's and the target's table, `reserved` the names the device does not define. -/
theorem final_table {as : List AObj} {ta tb t1 tw : List Obj} {R reserved : String → Prop}
    (hadefs : as.map (·.o) = ta)
    (look : ∀ n, n ∉ unneeded as → lookupObj tw n = lookupObj t1 n)
    (gone : ∀ n, n ∈ unneeded as → lookupObj tw n = none)
    (ref : ∀ x, R x → x ∈ tb.map (·.name) → lookupObj t1 x = lookupObj tb x)
    (other : ∀ n, n ∉ tb.map (·.name) → lookupObj t1 n = lookupObj ta n)
    (marked : ∀ x, R x → x ∈ tb.map (·.name) → ∀ oa ∈ as, oa.o.name = x → oa.needed = true)
    (hres : ∀ x ∈ ta.map (·.name), ¬ reserved x) :
    (∀ x, R x → x ∈ tb.map (·.name) → lookupObj tw x = lookupObj tb x) ∧
    (∀ x, reserved x → x ∉ tb.map (·.name) → lookupObj tw x = lookupObj tb x) := by
  constructor
  · intro x href hxb
    rw [look x (fun hx => unneeded_not_used hadefs marked hres x hx href (Or.inr hxb))]
    exact ref x href hxb
  · intro x hr hxb
    rw [(lookupObj_none_iff tb x).mpr hxb]
    by_cases hx : x ∈ unneeded as
    · exact gone x hx
    · rw [look x hx, other x hxb, lookupObj_none_iff]
      exact fun hxa => hres x hxa hr

theorem final_table_names {as : List AObj} {bs : List BObj} {ta t1 tw : List Obj}
    (hadefs : as.map (·.o) = ta)
    (look : ∀ n, n ∉ unneeded as → lookupObj tw n = lookupObj t1 n)
    (gone : ∀ n, n ∈ unneeded as → lookupObj tw n = none)
    (names : ∀ n ∈ t1.map (·.name), n ∈ ta.map (·.name) ∨ ∃ ob ∈ bs, ob.flagged = true ∧ ob.o.name = n) :
    ∀ x ∈ tw.map (·.name), (∃ oa ∈ as, oa.o.name = x ∧ oa.needed = true) ∨ ∃ ob ∈ bs, ob.flagged = true ∧ ob.o.name = x := by
  intro x hx
  have hne : lookupObj tw x ≠ none := fun h => (lookupObj_none_iff _ _).mp h hx
  have hnx : x ∉ unneeded as := fun h => hne (gone x h)
  rw [look x hnx] at hne
  have hx1 : x ∈ t1.map (·.name) := by
    apply Decidable.byContradiction
    intro h; exact hne ((lookupObj_none_iff _ _).mpr h)
  refine (names x hx1).imp_left fun h => ?_
  rw [← map_o_name hadefs] at h
  obtain ⟨oa, hoa, rfl⟩ := List.mem_map.mp h
  cases hq : oa.needed with
  | true => exact ⟨oa, hoa, rfl, hq⟩
  | false => exact absurd (mem_unneeded.mpr ⟨oa, hoa, rfl, hq⟩) hnx

/-- What the rule phase of a pair without address-groups finds on the device after the transfer phase.  (`gen_converges`
goes through `AfterTransferG`, `NA/Proofs/C03GrpTransfer.lean`, which also says which groups were created.) -/
structure AfterTransfer (a b a1 : Vsys) : Prop where
  rules : a1.rules = a.rules
  groups : a1.groups = a.groups
  sgroups : a1.sgroups = a.sgroups
  name : a1.name = a.name
  addrRef : ∀ x, RefAddr b x → x ∈ b.addrs.map (·.name) → lookupObj a1.addrs x = lookupObj b.addrs x
  addrOther : ∀ n, n ∉ b.addrs.map (·.name) → lookupObj a1.addrs n = lookupObj a.addrs n
  addrNames : ∀ n, n ∈ a1.addrs.map (·.name) → n ∈ a.addrs.map (·.name) ∨ n ∈ b.addrs.map (·.name)
  addrKeep : ∀ n, n ∈ a.addrs.map (·.name) → n ∈ a1.addrs.map (·.name)
  svcRef : ∀ x, RefSvc b x → x ∈ b.svcs.map (·.name) → lookupObj a1.svcs x = lookupObj b.svcs x
  svcOther : ∀ n, n ∉ b.svcs.map (·.name) → lookupObj a1.svcs n = lookupObj a.svcs n
  svcNames : ∀ n, n ∈ a1.svcs.map (·.name) → n ∈ a.svcs.map (·.name) ∨ n ∈ b.svcs.map (·.name)
  svcKeep : ∀ n, n ∈ a.svcs.map (·.name) → n ∈ a1.svcs.map (·.name)

/-- `p1`, `p2`, `p3`: as `runs_objTransfer` gives them. -/
theorem transferred_table {bs : List BObj} {ta tb os : List Obj} {R : String → Prop} (hdefs : bs.map (·.o) = tb)
    (hnd : (tb.map (·.name)).Nodup)
    (p1 : ∀ o ∈ bs, o.flagged = true → lookupObj os o.o.name = some o.o.val)
    (p2 : ∀ n, (∀ o ∈ bs, o.flagged = true → o.o.name ≠ n) → lookupObj os n = lookupObj ta n)
    (p3 : ∀ n, n ∈ os.map (·.name) ↔ n ∈ ta.map (·.name) ∨ ∃ o ∈ bs, o.flagged = true ∧ o.o.name = n)
    (covered : ∀ x, R x → x ∈ tb.map (·.name) → ∃ ob ∈ bs, ob.o.name = x ∧
      ((x ∈ ta.map (·.name) ∧ (lookupObj ta x = some ob.o.val ∨ ob.edit = true)) ∨
        (x ∉ ta.map (·.name) ∧ ob.needed = true))) :
    (∀ x, R x → x ∈ tb.map (·.name) → lookupObj os x = lookupObj tb x) ∧
    (∀ n, n ∉ tb.map (·.name) → lookupObj os n = lookupObj ta n) ∧
    (∀ n, n ∈ ta.map (·.name) → n ∈ os.map (·.name)) := by
  have hnames := map_o_name hdefs
  have name_mem : ∀ ob ∈ bs, ob.o.name ∈ tb.map (·.name) := by
    intro ob hob; rw [← hnames]; exact List.mem_map_of_mem hob
  refine ⟨?_, ?_, fun n hn => (p3 n).mpr (Or.inl hn)⟩
  · intro x hx hxb
    obtain ⟨ob, hob, hname, hcase⟩ := covered x hx hxb
    have hbval : lookupObj tb x = some ob.o.val := by
      rw [← hname]
      exact lookupObj_of_mem hnd (by rw [← hdefs]; exact List.mem_map_of_mem hob)
    rw [hbval]
    by_cases hf : ob.flagged = true
    · rw [← hname]; exact p1 ob hob hf
    · have hf' : ob.edit = false ∧ ob.needed = false := by simpa [BObj.flagged] using hf
      rcases hcase with ⟨_, hv | he⟩ | ⟨_, hn⟩
      · rw [p2 x]
        · exact hv
        · -- the only entry of the target named `x` is `ob`, which is not flagged
          intro ob' hob' hf'' hn'
          cases ListFacts.eq_of_nodup_map (f := (·.o.name)) (by rw [hnames]; exact hnd) hob' hob (hn'.trans hname.symm)
          exact hf hf''
      · rw [hf'.1] at he; cases he
      · rw [hf'.2] at hn; cases hn
  · intro n hn
    exact p2 n (fun ob hob _ e => hn (e ▸ name_mem ob hob))

end NA.PanOs
