import NA.Model.VpnGraph
import NA.Proofs.VpnUnordered
import NA.Core.ListFacts
/-!
# The graph engine (fragment G): what every proof about `markDel` / `addAny` / `diffAny` uses

No proof of an invariant (`Inv`, `J`, `K`, the bound) unfolds the three recursions: their branches are stated here as
equations, `Kind.shape` says that the kinds they name are all there are, and each invariant is shown by one case split
along them. What `markDel` does to a state is `Quiet`; what `stillFrom` collects is `mem_stillFrom`.
-/
namespace NA.Vpn.G

/-- rank of the kinds: references go to strictly lower rank -/
def rk : Kind → Nat
  | .aaa => 0 | .acl => 0 | .pool => 0 | .gp => 1 | .tg => 2 | .user => 2 | .certmap => 1

theorem Kind.shape (k : Kind) : k = .aaa ∨ k = .acl ∨ k = .pool ∨ rk k ≠ 0 := by
  cases k <;> simp [rk]

theorem rk_le_two (k : Kind) : rk k ≤ 2 := by cases k <;> decide

theorem rk_lt_fuel (k : Kind) : rk k < fuel := by cases k <;> decide

theorem foldl_opt_none {σ α : Type} (g : σ → α → Option σ) : ∀ (l : List α),
    l.foldl (fun (acc : Option σ) x => acc.bind fun s => g s x) none = none
  | [] => rfl
  | _ :: xs => by rw [List.foldl_cons]; exact foldl_opt_none g xs

theorem foldl_opt_start {σ α : Type} {g : σ → α → Option σ} {l : List α} {o : Option σ} {s' : σ}
    (he : l.foldl (fun (acc : Option σ) x => acc.bind fun s => g s x) o = some s') :
    ∃ s, o = some s ∧ l.foldl (fun (acc : Option σ) x => acc.bind fun s => g s x) (some s) = some s' := by
  cases o with
  | none => rw [foldl_opt_none] at he; cases he
  | some s => exact ⟨s, rfl, he⟩

/-- a fold of steps that may abort, each of which establishes a fact `Q x` about its element that later steps keep -/
theorem foldl_opt_each {σ α : Type} {P : σ → Prop} {M : σ → σ → Prop} {Q : α → σ → Prop} (hrefl : ∀ s, M s s)
    (htrans : ∀ s1 s2 s3, M s1 s2 → M s2 s3 → M s1 s3) (hkeep : ∀ x s s', Q x s → M s s' → Q x s') {g : σ → α → Option σ} :
    ∀ {l : List α} {s s' : σ}, (∀ x ∈ l, ∀ s s', P s → g s x = some s' → P s' ∧ M s s' ∧ Q x s') →
      l.foldl (fun (acc : Option σ) x => acc.bind fun s => g s x) (some s) = some s' → P s → P s' ∧ M s s' ∧ ∀ x ∈ l, Q x s'
  | [], s, _, _, he, hp => by cases he; exact ⟨hp, hrefl s, fun _ hx => nomatch hx⟩
  | x :: xs, s, s', hg, he, hp => by
    rw [List.foldl_cons, Option.bind_some] at he
    obtain ⟨s1, hx, he⟩ := foldl_opt_start he
    have h1 := hg x List.mem_cons_self s s1 hp hx
    have h2 := foldl_opt_each hrefl htrans hkeep (fun y hy => hg y (List.mem_cons_of_mem _ hy)) he h1.1
    exact ⟨h2.1, htrans _ _ _ h1.2.1 h2.2.1, List.forall_mem_cons.2 ⟨hkeep x _ _ h1.2.2 h2.2.1, h2.2.2⟩⟩

theorem foldl_opt_rel {σ α : Type} {P : σ → Prop} {M : σ → σ → Prop} (hrefl : ∀ s, M s s)
    (htrans : ∀ s1 s2 s3, M s1 s2 → M s2 s3 → M s1 s3) {g : σ → α → Option σ} {l : List α} {s s' : σ}
    (hg : ∀ x ∈ l, ∀ s s', P s → g s x = some s' → P s' ∧ M s s')
    (he : l.foldl (fun (acc : Option σ) x => acc.bind fun s => g s x) (some s) = some s') (hp : P s) : P s' ∧ M s s' :=
  have h := foldl_opt_each (Q := fun _ _ => True) hrefl htrans (fun _ _ _ _ _ => trivial)
    (fun x hx s s' hs e => ⟨(hg x hx s s' hs e).1, (hg x hx s s' hs e).2, trivial⟩) he hp
  ⟨h.1, h.2.1⟩

theorem foldl_opt_inv {σ α : Type} {P : σ → Prop} {g : σ → α → Option σ} {l : List α} {s s' : σ}
    (hg : ∀ x ∈ l, ∀ s s', P s → g s x = some s' → P s')
    (he : l.foldl (fun (acc : Option σ) x => acc.bind fun s => g s x) (some s) = some s') (hp : P s) : P s' :=
  (foldl_opt_rel (M := fun _ _ => True) (fun _ => trivial) (fun _ _ _ _ _ => trivial)
    (fun x hx s s' hs e => ⟨hg x hx s s' hs e, trivial⟩) he hp).1

export NA.ListFacts (foldl_inv_rel foldl_inv mem_foldl_iff)

theorem insertS_eq : NA.Vpn.insertS = ListFacts.insertBy (fun a b : String => decide (a ≤ b)) := by
  funext x l
  induction l with
  | nil => rfl
  | cons y ys ih => simp only [NA.Vpn.insertS, ListFacts.insertBy, ih, decide_eq_true_eq]

theorem mem_sortS (x : String) (l : List String) : x ∈ sortS l ↔ x ∈ l := by
  rw [sortS, insertS_eq]; exact ListFacts.mem_isort

theorem find_id (l : List Obj) (x : Ref) (o : Obj) (h : l.find? (fun y => y.id == x) = some o) : o ∈ l ∧ o.id = x :=
  ⟨List.mem_of_find?_eq_some h, by simpa using List.find?_some h⟩

theorem find_isSome (l : List Obj) (o : Obj) (h : o ∈ l) : (l.find? fun y => y.id == o.id).isSome = true := by
  rw [List.find?_isSome]
  exact ⟨o, h, by simp⟩

theorem mem_anchor_names (l : List Obj) (k : Kind) (n : String) :
    n ∈ sortS ((l.filter fun o => o.kind == k && o.anchor).map (·.name)) ↔ ∃ o ∈ l, o.anchor = true ∧ o.id = (k, n) := by
  rw [mem_sortS, List.mem_map]
  constructor
  · rintro ⟨o, ho, hon⟩
    have ho' := List.mem_filter.1 ho
    have hk : o.kind = k ∧ o.anchor = true := by simpa using ho'.2
    exact ⟨o, ho'.1, hk.2, by unfold Obj.id; rw [hk.1, hon]⟩
  · rintro ⟨o, ho, ha, hid⟩
    have h1 : o.kind = k := congrArg Prod.fst hid
    exact ⟨o, List.mem_filter.2 ⟨ho, by simp [h1, ha]⟩, congrArg Prod.snd hid⟩

theorem anchor_names (l : List Obj) (k : Kind) (n : String)
    (h : n ∈ sortS ((l.filter fun o => o.kind == k && o.anchor).map (·.name))) :
    (l.find? fun y => y.id == (k, n)).isSome = true := by
  obtain ⟨o, ho, _, hid⟩ := (mem_anchor_names l k n).1 h
  rw [← hid]; exact find_isSome l o ho

theorem ref_mem_refs (o : Obj) (sec : Sec) (s : Sub) (x : Ref) (h1 : sec ∈ o.secs) (h2 : s ∈ sec.subs) (h3 : s.ref = some x) :
    x ∈ o.refs := by
  unfold Obj.refs
  exact List.mem_flatMap.2 ⟨sec, h1, List.mem_filterMap.2 ⟨s, h2, h3⟩⟩

theorem mem_of_filterMap_get {α : Type} (l : List α) (idx : List Nat) (x : α) (h : x ∈ idx.filterMap fun i => l[i]?) : x ∈ l := by
  obtain ⟨i, _, hi⟩ := List.mem_filterMap.1 h
  exact List.mem_of_getElem? hi

theorem mem_pairsOf {α : Type} (la lb : List α) (idx : List (Nat × Nat)) (q : α × α) (h : q ∈ pairsOf la lb idx) :
    ∃ p ∈ idx, la[p.1]? = some q.1 ∧ lb[p.2]? = some q.2 := by
  unfold pairsOf at h
  obtain ⟨p, hp, hq⟩ := List.mem_filterMap.1 h
  refine ⟨p, hp, ?_⟩
  cases h1 : la[p.1]? with
  | none => simp [h1] at hq
  | some x =>
    cases h2 : lb[p.2]? with
    | none => simp [h1, h2] at hq
    | some y => simp [h1, h2] at hq; rw [← hq]; exact ⟨rfl, rfl⟩

theorem pairsOf_mem {α : Type} {la lb : List α} {idx : List (Nat × Nat)} {q : α × α} (h : q ∈ pairsOf la lb idx) :
    q.1 ∈ la ∧ q.2 ∈ lb := by
  obtain ⟨_, _, h1, h2⟩ := mem_pairsOf la lb idx q h
  exact ⟨List.mem_of_getElem? h1, List.mem_of_getElem? h2⟩

theorem mem_pairsOf_of {α : Type} (la lb : List α) (idx : List (Nat × Nat)) (p j : Nat) (x y : α)
    (hi : (p, j) ∈ idx) (hx : la[p]? = some x) (hy : lb[j]? = some y) : (x, y) ∈ pairsOf la lb idx := by
  unfold pairsOf
  exact List.mem_filterMap.2 ⟨(p, j), hi, by simp [hx, hy]⟩

/-- no assumption on duplicates, unlike `unordered_set_diff` -/
theorem unorderedA_pairs (bKeys : List String) : ∀ (aKeys : List String) (i : Nat) (used : List String) (p j : Nat),
    (p, j) ∈ (NA.Vpn.unorderedA bKeys aKeys i used).1 →
      i ≤ p ∧ ∃ k, aKeys[p - i]? = some k ∧ bKeys[j]? = some k
  | [], _, _, _, _, h => by simp [NA.Vpn.unorderedA] at h
  | x :: xs, i, used, p, j, h => by
    rw [NA.Vpn.idx_cons (fun k => bKeys[j]? = some k)]
    cases hm : (if used.contains x then none else NA.Vpn.lastIdx bKeys x) with
    | none =>
      rw [NA.Vpn.unorderedA_cons_none hm] at h
      exact Or.inr (unorderedA_pairs bKeys xs (i + 1) _ p j h)
    | some j0 =>
      rw [NA.Vpn.unorderedA_cons_some hm] at h
      rcases List.mem_cons.1 h with h | h
      · have hj : NA.Vpn.lastIdx bKeys x = some j0 := by
          split at hm
          · cases hm
          · exact hm
        cases h
        exact Or.inl ⟨rfl, NA.Vpn.lastIdx_spec bKeys x _ hj⟩
      · exact Or.inr (unorderedA_pairs bKeys xs (i + 1) _ p j h)

theorem unorderedA_keys {α β : Type} (ka : α → String) (kb : β → String) (la : List α) (lb : List β) (p : Nat × Nat)
    (hp : p ∈ (NA.Vpn.unorderedA (lb.map kb) (la.map ka) 0 []).1) {x : α} {y : β} (hx : la[p.1]? = some x)
    (hy : lb[p.2]? = some y) : ka x = kb y := by
  obtain ⟨_, k, h1, h2⟩ := unorderedA_pairs (lb.map kb) (la.map ka) 0 [] p.1 p.2 hp
  rw [Nat.sub_zero, List.getElem?_map, hx] at h1
  rw [List.getElem?_map, hy] at h2
  simp only [Option.map_some, Option.some.injEq] at h1 h2
  rw [h1, h2]

theorem pairsOf_keys {α : Type} (key : α → String) (la lb : List α) (q : α × α)
    (h : q ∈ pairsOf la lb (NA.Vpn.unorderedA (lb.map key) (la.map key) 0 []).1) : q.1 ∈ la ∧ q.2 ∈ lb ∧ key q.1 = key q.2 := by
  obtain ⟨p, hp, h1, h2⟩ := mem_pairsOf la lb _ q h
  exact ⟨List.mem_of_getElem? h1, List.mem_of_getElem? h2, unorderedA_keys key key la lb p hp h1 h2⟩

open NA.Vpn in
theorem cover_of_no_del_ins {α : Type} (key : α → String) (la lb : List α)
    (hna : (la.map key).Nodup) (hnb : (lb.map key).Nodup)
    (hdel : (unorderedA (lb.map key) (la.map key) 0 []).2.1.filterMap (fun i => la[i]?) = [])
    (hins : (insertRuns (unorderedA (lb.map key) (la.map key) 0 []).2.2 (lb.map key) 0 []).flatten.filterMap (fun j => lb[j]?) = []) :
    (∀ x ∈ la, ∃ y ∈ lb, key x = key y ∧ (x, y) ∈ pairsOf la lb (unorderedA (lb.map key) (la.map key) 0 []).1) ∧
    (∀ y ∈ lb, ∃ x ∈ la, key x = key y ∧ (x, y) ∈ pairsOf la lb (unorderedA (lb.map key) (la.map key) 0 []).1) := by
  have hf := unordered_set_diff (la.map key) (lb.map key) hna
  rw [List.filterMap_eq_nil_iff] at hdel hins
  have pair : ∀ (p : Nat) (x : α), la[p]? = some x → key x ∈ lb.map key →
      ∃ y ∈ lb, key x = key y ∧ (x, y) ∈ pairsOf la lb (unorderedA (lb.map key) (la.map key) 0 []).1 := by
    intro p x hp hk
    obtain ⟨j, hl⟩ := Option.isSome_iff_exists.1 ((lastIdx_isSome_iff (lb.map key) (key x)).2 hk)
    have hpj : (p, j) ∈ (unorderedA (lb.map key) (la.map key) 0 []).1 :=
      (hf.2.1 p j).2 ⟨key x, by rw [List.getElem?_map, hp]; rfl, hl⟩
    have hbj := lastIdx_spec (lb.map key) (key x) j hl
    rw [List.getElem?_map] at hbj
    obtain ⟨y, hy, hbj⟩ := Option.map_eq_some_iff.1 hbj
    exact ⟨y, List.mem_of_getElem? hy, hbj.symm, mem_pairsOf_of la lb _ p j x y hpj hp hy⟩
  refine ⟨?_, ?_⟩
  · intro x hx
    obtain ⟨p, hp⟩ := List.getElem?_of_mem hx
    by_cases hk : key x ∈ lb.map key
    · exact pair p x hp hk
    · have : p ∈ (unorderedA (lb.map key) (la.map key) 0 []).2.1 :=
        (hf.1 p).2 ⟨key x, by rw [List.getElem?_map, hp]; rfl, hk⟩
      have := hdel p this
      rw [hp] at this; cases this
  · intro y hy
    obtain ⟨q, hq⟩ := List.getElem?_of_mem hy
    by_cases hk : key y ∈ la.map key
    · obtain ⟨x, hx, hxy⟩ := List.mem_map.1 hk
      obtain ⟨p, hp⟩ := List.getElem?_of_mem hx
      obtain ⟨y', hy', hkk, hpr⟩ := pair p x hp (by rw [hxy]; exact List.mem_map.2 ⟨y, hy, rfl⟩)
      have : y' = y := ListFacts.eq_of_nodup_map hnb hy' hy (by rw [← hkk, hxy])
      rw [this] at hpr
      exact ⟨x, hx, hxy, hpr⟩
    · have : q ∈ (insertRuns (unorderedA (lb.map key) (la.map key) 0 []).2.2 (lb.map key) 0 []).flatten :=
        (hf.2.2 q).2 ⟨key y, by rw [List.getElem?_map, hq]; rfl, hk⟩
      have := hins q this
      rw [hq] at this; cases this

/-- the conclusion has the shape of `subsEqv` / `secsEqv` -/
theorem equiv_of_no_del_ins {α : Type} (key : α → String) (e : α → α → Bool) (la lb : List α)
    (hna : (la.map key).Nodup) (hnb : (lb.map key).Nodup)
    (hdel : (NA.Vpn.unorderedA (lb.map key) (la.map key) 0 []).2.1.filterMap (fun i => la[i]?) = [])
    (hins : (NA.Vpn.insertRuns (NA.Vpn.unorderedA (lb.map key) (la.map key) 0 []).2.2 (lb.map key) 0 []).flatten.filterMap
      (fun j => lb[j]?) = [])
    (hrel : ∀ x ∈ la, ∀ y ∈ lb, key x = key y → (x, y) ∈ pairsOf la lb (NA.Vpn.unorderedA (lb.map key) (la.map key) 0 []).1 →
      e x y = true) :
    (la.all (fun x => lb.any fun y => e x y) && lb.all (fun y => la.any fun x => e x y)) = true := by
  have hcov := cover_of_no_del_ins key la lb hna hnb hdel hins
  simp only [Bool.and_eq_true, List.all_eq_true, List.any_eq_true]
  refine ⟨?_, ?_⟩
  · intro x hx
    obtain ⟨y, hy, hkey, hp⟩ := hcov.1 x hx
    exact ⟨y, hy, hrel x hx y hy hkey hp⟩
  · intro y hy
    obtain ⟨x, hx, hkey, hp⟩ := hcov.2 y hy
    exact ⟨x, hx, hrel x hx y hy hkey hp⟩

theorem flatten_filterMap_nil {α : Type} (runs : List (List Nat)) (lb : List α)
    (h : ∀ run ∈ runs, (run.filterMap fun j => lb[j]?) = []) : (runs.flatten.filterMap fun j => lb[j]?) = [] := by
  rw [List.filterMap_eq_nil_iff]
  intro q hq
  obtain ⟨run, hr, hqr⟩ := List.mem_flatten.1 hq
  exact (List.filterMap_eq_nil_iff.1 (h run hr)) q hqr

theorem aObj_eq {st : St} {a : List Obj} (h : st.a = a) (r : Ref) : st.aObj r = a.find? fun o => o.id == r := by rw [← h]; rfl

theorem bObj_eq {st : St} {b : List Obj} (h : st.b = b) (r : Ref) : st.bObj r = b.find? fun o => o.id == r := by rw [← h]; rfl

theorem aObj_mem {st : St} {a : List Obj} (h : st.a = a) {r : Ref} {o : Obj} (ho : st.aObj r = some o) : o ∈ a ∧ o.id = r :=
  find_id a r o ((aObj_eq h r).symm.trans ho)

theorem bObj_mem {st : St} {b : List Obj} (h : st.b = b) {r : Ref} {o : Obj} (ho : st.bObj r = some o) : o ∈ b ∧ o.id = r :=
  find_id b r o ((bObj_eq h r).symm.trans ho)

theorem cur_setReady_self (st : St) (r : Ref) (n : String) : (st.setReady r n).cur r = n := by
  unfold St.setReady St.cur; simp

theorem isReady_setReady_self (st : St) (r : Ref) (n : String) : (st.setReady r n).isReady r = true := by
  unfold St.setReady St.isReady; simp

theorem find_setReady_ne (st : St) (r rb : Ref) (n : String) (h : rb ≠ r) :
    (st.setReady r n).ready.find? (fun p => p.1 == rb) = st.ready.find? (fun p => p.1 == rb) := by
  unfold St.setReady
  have h1 : ((r, n).1 == rb) = false := by simpa using (fun e => h e.symm)
  simp only [List.find?_cons, h1]
  exact ListFacts.find?_filter_of_imp _ _ _ fun p _ e => bne_iff_ne.2 (eq_of_beq e ▸ h)

theorem isReady_eq_find (st : St) (r : Ref) : st.isReady r = (st.ready.find? fun p => p.1 == r).isSome := by
  unfold St.isReady
  rw [Bool.eq_iff_iff, List.any_eq_true, List.find?_isSome]

theorem cur_setReady_ne (st : St) (r rb : Ref) (n : String) (h : rb ≠ r) : (st.setReady r n).cur rb = st.cur rb := by
  unfold St.cur
  rw [find_setReady_ne st r rb n h]
  rfl

theorem isReady_setReady_ne (st : St) (r rb : Ref) (n : String) (h : rb ≠ r) :
    (st.setReady r n).isReady rb = st.isReady rb := by
  rw [isReady_eq_find, isReady_eq_find, find_setReady_ne st r rb n h]

theorem cur_congr (st st' : St) (hr : st'.ready = st.ready) (hg : st'.gen = st.gen) (rb : Ref) : st'.cur rb = st.cur rb := by
  unfold St.cur; rw [hr, hg]

theorem isReady_congr (st st' : St) (hr : st'.ready = st.ready) (rb : Ref) : st'.isReady rb = st.isReady rb := by
  unfold St.isReady; rw [hr]

theorem setMode_mode (st : St) (k : Kind) (n hd : String) : (st.setMode k n hd).mode = some (k, n, hd) := by
  unfold St.setMode
  split
  · rename_i he; simpa using he
  · rfl

theorem setMode_ready (st : St) (k : Kind) (n hd : String) : (st.setMode k n hd).ready = st.ready := by
  unfold St.setMode
  split
  · rfl
  · split <;> rfl

theorem cur_mem_ready (st : St) (r : Ref) (h : st.isReady r = true) : (r, st.cur r) ∈ st.ready := by
  rw [isReady_eq_find] at h
  obtain ⟨p, hf⟩ := Option.isSome_iff_exists.1 h
  have : p.1 = r := by simpa using List.find?_some hf
  rw [St.cur, hf, ← this]
  exact List.mem_of_find?_eq_some hf

theorem mem_setReady {st : St} {r : Ref} {n : String} {p : Ref × String} :
    p ∈ (st.setReady r n).ready ↔ p = (r, n) ∨ (p ∈ st.ready ∧ p.1 ≠ r) := by
  unfold St.setReady
  simp only [List.mem_cons, List.mem_filter, bne_iff_ne, ne_eq]

theorem isReady_setReady_mono (st : St) (r y : Ref) (n : String) (h : st.isReady y = true) : (st.setReady r n).isReady y = true := by
  by_cases e : y = r
  · rw [e]; exact isReady_setReady_self st r n
  · rw [isReady_setReady_ne st r y n e]; exact h

theorem setReady_setReady (st : St) (r p : Ref) (n n' : String) :
    ((st.setReady r n).markNeeded p).setReady r n' = (st.markNeeded p).setReady r n' := by
  have hf : ∀ l : List (Ref × String),
      (((r, n) :: l.filter fun q => q.1 != r).filter fun q => q.1 != r) = l.filter fun q => q.1 != r := by
    intro l
    simp only [List.filter_cons, bne_self_eq_false, Bool.false_eq_true, if_false, List.filter_filter, Bool.and_self]
  unfold St.markNeeded St.setReady
  split <;> simp only [hf]

theorem setReady_out (st : St) (r : Ref) (n : String) : (st.setReady r n).out = st.out := rfl

theorem markNeeded_out (st : St) (r : Ref) : (st.markNeeded r).out = st.out := by
  unfold St.markNeeded
  split <;> rfl
theorem markNeeded_a (st : St) (r : Ref) : (st.markNeeded r).a = st.a := by
  unfold St.markNeeded
  split <;> rfl
theorem markNeeded_b (st : St) (r : Ref) : (st.markNeeded r).b = st.b := by
  unfold St.markNeeded
  split <;> rfl
theorem markNeeded_ready (st : St) (r : Ref) : (st.markNeeded r).ready = st.ready := by
  unfold St.markNeeded
  split <;> rfl

theorem findPool_spec (st : St) (c dn : String) (h : findPool st c = some dn) :
    ∃ o, st.a.find? (fun o => o.id == (Kind.pool, dn)) = some o ∧ o.lines = [c] := by
  unfold findPool at h
  have := List.find?_some h
  cases ho : st.aObj (.pool, dn) with
  | none => simp [ho] at this
  | some o =>
    simp only [ho] at this
    exact ⟨o, ho, by simpa using this⟩

theorem markDel_succ (f : Nat) (st : St) (r : Ref) :
    markDel (f + 1) st r =
      if r.1 == .aaa then st else
      match st.aObj r with
      | none => st
      | some o => if st.toDel.contains r then st else o.refs.foldl (markDel f) { st with toDel := r :: st.toDel } := rfl

/-- the step of `stillFrom` for one reference `x` of the current object -/
def stillStep (f : Nat) (st : St) (acc : List Ref) (x : Ref) : List Ref :=
  if st.isNeeded x || (st.aObj x).isNone then acc
  else stillFrom f st (if acc.contains x then acc else x :: acc) x

theorem stillFrom_succ (f : Nat) (st : St) (acc : List Ref) (r : Ref) :
    stillFrom (f + 1) st acc r = match st.aObj r with
      | none => acc
      | some o => o.refs.foldl (stillStep f st) acc := rfl

/-- a chain of references from `r0` to `r` through objects of the device that are not needed -/
inductive Chain (st : St) : Nat → Ref → Ref → Prop
  | nil (r : Ref) : Chain st 0 r r
  | cons (n : Nat) (r0 x r : Ref) (o : Obj) : st.aObj r0 = some o → x ∈ o.refs → st.isNeeded x = false →
      (st.aObj x).isSome = true → Chain st n x r → Chain st (n + 1) r0 r

theorem chain_succ {st : St} {n : Nat} {r0 r : Ref} : Chain st (n + 1) r0 r ↔
    ∃ o, st.aObj r0 = some o ∧ ∃ x ∈ o.refs, (st.isNeeded x || (st.aObj x).isNone) = false ∧ Chain st n x r := by
  constructor
  · intro h
    cases h with
    | cons _ _ x _ o ho hx hn he hr => exact ⟨o, ho, x, hx, by rw [hn, ← Option.not_isSome, he]; rfl, hr⟩
  · rintro ⟨o, ho, x, hx, hc, hr⟩
    rw [Bool.or_eq_false_iff, ← Option.not_isSome, Bool.not_eq_false'] at hc
    exact .cons n r0 x r o ho hx hc.1 hc.2 hr

theorem mem_stillFrom (st : St) (r : Ref) : ∀ (f : Nat) (acc : List Ref) (r0 : Ref),
    r ∈ stillFrom f st acc r0 ↔ r ∈ acc ∨ ∃ n, n < f ∧ Chain st (n + 1) r0 r
  | 0, acc, r0 => (or_iff_left fun ⟨_, h, _⟩ => Nat.not_lt_zero _ h).symm
  | f + 1, acc, r0 => by
    rw [stillFrom_succ]
    cases ho : st.aObj r0 with
    | none =>
      refine (or_iff_left ?_).symm
      rintro ⟨n, _, hc⟩
      obtain ⟨o, ho', _⟩ := chain_succ.1 hc
      rw [ho] at ho'; cases ho'
    | some o =>
      -- one reference `x` of `o`: nothing if it is needed or missing, else `x` itself and what `x` reaches
      have step : ∀ acc x, r ∈ stillStep f st acc x ↔
          r ∈ acc ∨ ((st.isNeeded x || (st.aObj x).isNone) = false ∧ (r = x ∨ ∃ n, n < f ∧ Chain st (n + 1) x r)) := by
        intro acc x
        unfold stillStep
        cases hc : (st.isNeeded x || (st.aObj x).isNone) with
        | true => simp
        | false =>
          rw [if_neg Bool.false_ne_true, mem_stillFrom st r f _ x, and_iff_right rfl, ← or_assoc]
          refine or_congr_left ?_
          split
          · rename_i hm
            exact ⟨Or.inl, fun h => h.elim id fun e => e ▸ List.contains_iff_mem.1 hm⟩
          · rw [List.mem_cons, or_comm]
      rw [mem_foldl_iff step]
      refine or_congr_right ⟨?_, ?_⟩
      · rintro ⟨x, hx, hc, rfl | ⟨n, hn, hch⟩⟩
        · exact ⟨0, Nat.succ_pos f, chain_succ.2 ⟨o, ho, _, hx, hc, .nil _⟩⟩
        · exact ⟨n + 1, Nat.succ_lt_succ hn, chain_succ.2 ⟨o, ho, x, hx, hc, hch⟩⟩
      · rintro ⟨n, hn, hc⟩
        obtain ⟨o', ho', x, hx, hc', hch⟩ := chain_succ.1 hc
        rw [ho] at ho'; cases ho'
        refine ⟨x, hx, hc', ?_⟩
        cases n with
        | zero => cases hch; exact Or.inl rfl
        | succ n => exact Or.inr ⟨n, Nat.lt_of_succ_lt_succ hn, hch⟩

variable {f : Nat} {st : St} {r ra rb : Ref} {o oa ob : Obj}

theorem addAny_aaa (f : Nat) (st : St) (hk : r.1 = .aaa) :
    addAny (f + 1) st r = if (st.aObj r).isSome then some ((st.markNeeded r).setReady r r.2) else none := by
  rw [addAny, hk]

theorem addAny_done (f : Nat) (hk : r.1 ≠ .aaa) (h : st.bObj r = none ∨ st.isReady r = true) : addAny (f + 1) st r = some st := by
  rw [addAny]
  cases hb : st.bObj r with
  | none => cases hk' : r.1 <;> first | exact absurd hk' hk | rfl
  | some o =>
    have hr : st.isReady r = true := by rcases h with h | h; · rw [hb] at h; cases h
                                        · exact h
    cases hk' : r.1 <;> first | exact absurd hk' hk | simp only [hr, if_true]

theorem addAny_acl (f : Nat) (hk : r.1 = .acl) (hb : st.bObj r = some o) (hr : st.isReady r = false) :
    addAny (f + 1) st r = some { (o.lines.foldl (fun s l => s.emit (.line (st.cur r) l)) (st.setReady r (st.cur r))) with
      mode := if o.lines.isEmpty then (st.setReady r (st.cur r)).mode else none } := by
  rw [addAny, hk]
  simp only [hb, hr, Bool.false_eq_true, if_false]

theorem addAny_pool (f : Nat) (hk : r.1 = .pool) (hb : st.bObj r = some o) (hr : st.isReady r = false) :
    addAny (f + 1) st r =
      match findPool (st.setReady r (st.cur r)) (o.lines.headD "") with
      | some dn => some (((st.setReady r (st.cur r)).markNeeded (.pool, dn)).setReady r dn)
      | none => some { ((st.setReady r (st.cur r)).emit (.pool false (st.cur r) (o.lines.headD ""))) with mode := none } := by
  rw [addAny, hk]
  simp only [hb, hr, Bool.false_eq_true, if_false]
  rfl

theorem addAny_sec (f : Nat) (hk : rk r.1 ≠ 0) (hb : st.bObj r = some o) (hr : st.isReady r = false) :
    addAny (f + 1) st r = addSecs (addAny f) (st.setReady r (st.cur r)) r.1 (st.cur r) o.secs := by
  rw [addAny]
  cases hk' : r.1 <;> simp only [hk', rk, ne_eq, not_true_eq_false] at hk <;> simp only [hb, hr, Bool.false_eq_true, if_false]

theorem diffAny_missing (f : Nat) (h : st.aObj ra = none ∨ st.bObj rb = none) :
    diffAny (f + 1) st ra rb = some (st, st.cur rb) := by
  rw [diffAny]
  rcases h with h | h
  · rw [h]
  · rw [h]; cases st.aObj ra <;> rfl

theorem diffAny_aaa (f : Nat) (hk : ra.1 = .aaa) (hoa : st.aObj ra = some oa) (hob : st.bObj rb = some ob) :
    diffAny (f + 1) st ra rb =
      if ra.2 != rb.2 then (addAny (f + 1) st rb).map fun s => (s, rb.2)
      else some ((st.markNeeded ra).setReady rb ra.2, ra.2) := by
  rw [diffAny, hoa, hob, hk]

theorem diffAny_needed (f : Nat) (hk : ra.1 ≠ .aaa) (hoa : st.aObj ra = some oa) (hob : st.bObj rb = some ob)
    (hn : st.isNeeded ra = true) : diffAny (f + 1) st ra rb = (addAny (f + 1) st rb).map fun s => (s, s.cur rb) := by
  rw [diffAny, hoa, hob]
  cases hk' : ra.1 <;> first | exact absurd hk' hk | simp only [hn, if_true]

theorem diffAny_ready (f : Nat) (hk : ra.1 ≠ .aaa) (hoa : st.aObj ra = some oa) (hob : st.bObj rb = some ob)
    (hn : st.isNeeded ra = false) (hr : st.isReady rb = true) : diffAny (f + 1) st ra rb = some (st, st.cur rb) := by
  rw [diffAny, hoa, hob]
  cases hk' : ra.1 <;> first | exact absurd hk' hk | simp only [hn, hr, Bool.false_eq_true, if_false, if_true]

theorem diffAny_same (f : Nat) (hk : ra.1 = .acl ∨ ra.1 = .pool) (hoa : st.aObj ra = some oa) (hob : st.bObj rb = some ob)
    (hn : st.isNeeded ra = false) (hr : st.isReady rb = false) (hl : oa.lines = ob.lines) :
    diffAny (f + 1) st ra rb = some ((st.markNeeded ra).setReady rb ra.2, ra.2) := by
  rw [diffAny, hoa, hob]
  rcases hk with hk | hk <;> rw [hk] <;> simp only [hn, hr, hl, beq_self_eq_true, Bool.false_eq_true, if_false, if_true]

theorem diffAny_acl (f : Nat) (hk : ra.1 = .acl) (hoa : st.aObj ra = some oa) (hob : st.bObj rb = some ob)
    (hn : st.isNeeded ra = false) (hr : st.isReady rb = false) (hl : oa.lines ≠ ob.lines) :
    diffAny (f + 1) st ra rb =
      (addAny (f + 1) (markDel (f + 1) (if oa.lines.any (fun l => ob.lines.contains l) then { st with outside := true } else st) ra) rb).map
        fun s => (s, s.cur rb) := by
  rw [diffAny, hoa, hob, hk]
  simp only [hn, hr, beq_iff_eq, hl, Bool.false_eq_true, if_false]

theorem diffAny_pool (f : Nat) (hk : ra.1 = .pool) (hoa : st.aObj ra = some oa) (hob : st.bObj rb = some ob)
    (hn : st.isNeeded ra = false) (hr : st.isReady rb = false) (hl : oa.lines ≠ ob.lines) :
    diffAny (f + 1) st ra rb =
      match findPool (markDel (f + 1) st ra) (ob.lines.headD "") with
      | some dn => some (((markDel (f + 1) st ra).markNeeded (.pool, dn)).setReady rb dn, dn)
      | none => (addAny (f + 1) (markDel (f + 1) st ra) rb).map fun s => (s, s.cur rb) := by
  rw [diffAny, hoa, hob, hk]
  simp only [hn, hr, beq_iff_eq, hl, Bool.false_eq_true, if_false]
  rfl

theorem diffAny_sec (f : Nat) (hk : rk ra.1 ≠ 0) (hoa : st.aObj ra = some oa) (hob : st.bObj rb = some ob)
    (hn : st.isNeeded ra = false) (hr : st.isReady rb = false) :
    diffAny (f + 1) st ra rb =
      if (unorderedA (ob.secs.map (·.head)) (oa.secs.map (·.head)) 0 []).1.isEmpty then
        (addAny (f + 1) (markDel (f + 1) st ra) rb).map fun s => (s, s.cur rb)
      else
        (diffSecs (addAny f) (diffAny f) (markDel f) ((st.markNeeded ra).setReady rb ra.2) ra.1 ra.2 oa.secs ob.secs
          (unorderedA (ob.secs.map (·.head)) (oa.secs.map (·.head)) 0 [])).map fun s => (s, ra.2) := by
  rw [diffAny, hoa, hob]
  cases hk' : ra.1 <;> simp only [hk', rk, ne_eq, not_true_eq_false] at hk <;> simp only [hn, hr, Bool.false_eq_true, if_false]

/-- `st'` has the configurations, the ready and needed marks and the output of `st`, and at least its `toDelete` marks
(nothing is said about `outside`, `gen` and `mode`) -/
structure Quiet (st st' : St) : Prop where
  a : st'.a = st.a
  b : st'.b = st.b
  ready : st'.ready = st.ready
  out : st'.out = st.out
  needed : st'.needed = st.needed
  toDel : ∀ r ∈ st.toDel, r ∈ st'.toDel

theorem Quiet.refl (st : St) : Quiet st st := ⟨rfl, rfl, rfl, rfl, rfl, fun _ h => h⟩

theorem Quiet.trans {s1 s2 s3 : St} (h1 : Quiet s1 s2) (h2 : Quiet s2 s3) : Quiet s1 s3 :=
  ⟨h2.a.trans h1.a, h2.b.trans h1.b, h2.ready.trans h1.ready, h2.out.trans h1.out, h2.needed.trans h1.needed,
    fun r hr => h2.toDel r (h1.toDel r hr)⟩

theorem Quiet.outside (st : St) (c : Bool) : Quiet st (if c then { st with outside := true } else st) := by
  cases c
  · exact Quiet.refl st
  · exact ⟨rfl, rfl, rfl, rfl, rfl, fun _ h => h⟩

theorem Quiet.foldl {mark : St → Ref → St} (hm : ∀ st x, Quiet st (mark st x)) : ∀ (l : List Ref) (st : St), Quiet st (l.foldl mark st)
  | [], st => Quiet.refl st
  | x :: xs, st => (hm st x).trans (Quiet.foldl hm xs (mark st x))

theorem markDel_quiet : ∀ (f : Nat) (st : St) (r : Ref), Quiet st (markDel f st r)
  | 0, st, _ => Quiet.refl st
  | f + 1, st, r => by
    rw [markDel_succ]
    split
    · exact Quiet.refl st
    · cases st.aObj r with
      | none => exact Quiet.refl st
      | some o =>
        dsimp only
        split
        · exact Quiet.refl st
        · have h1 : Quiet st { st with toDel := r :: st.toDel } := ⟨rfl, rfl, rfl, rfl, rfl, fun _ h => List.mem_cons_of_mem _ h⟩
          exact h1.trans (Quiet.foldl (markDel_quiet f) o.refs _)

end NA.Vpn.G
