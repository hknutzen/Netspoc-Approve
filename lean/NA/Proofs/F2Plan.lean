import NA.Proofs.F2Acl
import NA.Proofs.F2Equiv
/-!
# F2: when the IOS line planner `planIOS` is quiet

… and why "planning again is quiet" cannot hold for all valid second scripts (`plan_second_script_counterexample`): the
Myers result stays a parameter.
-/
namespace NA.F2
open NA.ListFacts
open NA.Acl

theorem insertRuns_all_both (M : List Cell) (h : ∀ c ∈ M, c.old = true ∧ c.new = true) (idx before : Nat) :
    insertRuns M idx before = [] := by
  induction M generalizing idx before with
  | nil => rfl
  | cons c M ih =>
    obtain ⟨ho, hn⟩ := h c (List.mem_cons_self ..)
    simp only [insertRuns, ho, hn, Bool.not_true, Bool.and_false, Bool.false_eq_true, ↓reduceIte]
    exact ih (fun c' hc' => h c' (List.mem_cons_of_mem _ hc')) _ _

theorem delIdx_all_both (M : List Cell) (h : ∀ c ∈ M, c.old = true ∧ c.new = true) : delIdx M = [] := by
  unfold delIdx
  rw [List.filter_eq_nil_iff]
  intro i hi
  have hlt : i < M.length := List.mem_range.mp hi
  have hm : M.getD i default ∈ M := getD_mem hlt
  rw [(h _ hm).1, (h _ hm).2]; simp

theorem planIOS_all_both (M : List Cell) (h : ∀ c ∈ M, c.old = true ∧ c.new = true) : planIOS M = [] := by
  unfold planIOS planIOS'
  cases M with
  | nil => rfl
  | cons c M' =>
    have hany : ((c :: M').any fun c => c.old && c.new) = true := by
      simp [(h c (List.mem_cons_self ..)).1, (h c (List.mem_cons_self ..)).2]
    simp only [hany, Bool.not_true, Bool.false_eq_true, ↓reduceIte, insertRuns_all_both (c :: M') h 0 0,
      delIdx_all_both (c :: M') h]
    rfl

theorem iosLines_iosReseq (dev : IosAcl) (a b : Nat) : iosLines (iosReseq dev a b) = iosLines dev := by
  simp only [iosLines, iosReseq, List.map_map]
  have : ((fun x : Nat × Line => x.2) ∘ fun p : Nat × Nat × Line => (a + p.1 * b, p.2.2)) =
      (fun x : Nat × Line => x.2) ∘ Prod.snd := rfl
  rw [this, ← List.map_map, List.map_snd_zip]
  simp

/-- An empty plan means: already block-equivalent modulo `log` (for the class of
`ios_plan_block_equiv_partial`). -/
theorem planIOS_empty_blockEquiv (M : List Cell)
    (hboth : (M.any fun c => c.old && c.new) = true) (hjunk : noJunk M = true) (hruns : runsShort M)
    (hno : ((olds M).map (·.mkey)).Nodup) (hnn : ((news M).map (·.mkey)).Nodup)
    (hnr : ∀ c ∈ M, c.line.remark = false)
    (hwf : ∀ i ∈ delIdx M, ∀ j ∈ addIdx M,
      (M.getD i default).line.mkey = (M.getD j default).line.mkey →
      LineEqv (M.getD i default).line (M.getD j default).line)
    (hplan : planIOS M = []) : BlockEqG LineEqv (olds M) (news M) := by
  obtain ⟨tr, s, htr, hlast, hbe, _⟩ :=
    NA.Acl.IosAclProps.ios_plan_block_equiv_partial M hboth hjunk hruns hno hnn hnr hwf
      ((olds M).map fun l => (0, l)) (by simp [iosLines, List.map_map, Function.comp_def])
  rw [hplan] at htr
  simp only [iosTrace, Option.some.injEq] at htr
  subst htr
  simp only [List.getLast?_singleton, Option.some.injEq] at hlast
  subst hlast
  rw [iosLines_iosReseq] at hbe
  simpa [iosLines, List.map_map, Function.comp_def] using hbe

namespace PW
def p1 : Line := { key := 1, mkey := 1, permit := true }
def p2 : Line := { key := 2, mkey := 2, permit := true }
def d1 : Line := { key := 3, mkey := 3, permit := false }
def d2 : Line := { key := 4, mkey := 4, permit := false }
/-- device `[p1, p2, d1, d2]`, target `[p2, p1, d2, d1]`: block-equivalent -/
def devP : List Line := [p1, p2, d1, d2]
def tgtP : List Line := [p2, p1, d2, d1]
/-- valid script keeping `p1` and `d1` -/
def rsA : List Range := [⟨0,0,0,1⟩, ⟨0,1,1,2⟩, ⟨1,2,2,2⟩, ⟨2,2,2,3⟩, ⟨2,3,3,4⟩, ⟨3,4,4,4⟩]
/-- valid script keeping `p2` and `d1` -/
def rsB : List Range := [⟨0,1,0,0⟩, ⟨1,2,0,1⟩, ⟨2,2,1,3⟩, ⟨2,3,3,4⟩, ⟨3,4,4,4⟩]
end PW

open PW in
/-- Two valid, normalised scripts for the same block-equivalent pair: the first is planned as "nothing to
do" (both moves suppressed), the second as a move of `d2` (its insert run mixes permit and deny, so
`moveOK` is off).  "A second compare is empty" therefore cannot be a theorem about all valid scripts. -/
theorem plan_second_script_counterexample :
    blockEquiv devP tgtP = true ∧
    (cellsOf devP tgtP rsA).map (fun M => (normalised M, planIOS M)) = some (true, []) ∧
    (cellsOf devP tgtP rsB).map (fun M => (normalised M, planIOS M)) =
      some (true, [IOp.move 40000 20002 d2]) := by
  refine ⟨by decide +kernel, by decide +kernel, by decide +kernel⟩


open NA.IosDev2 in
theorem quietLines_blockEquivA (al bl : List ALine) (rs : List Range) (hok : incrOK al bl rs = true)
    (hq : quietLines al bl rs = true) : BlockEquivA al bl := by
  obtain ⟨M, hcells, hM⟩ := incrOK_cells hok
  have hplan : planIOS M = [] := by
    simp only [quietLines, hM.nonempty, Bool.false_and, Bool.false_or, Bool.not_false, Bool.true_and, hcells,
      Bool.and_eq_true, List.isEmpty_iff] at hq
    exact hq.2
  have hbe := planIOS_empty_blockEquiv M hM.both hM.junk hM.runs hM.oldsNodup hM.newsNodup hM.noRemark hM.eqv hplan
  rw [hM.olds_eq, hM.news_eq] at hbe
  exact (show AclEqv al bl from ⟨al, hbe⟩).blockEquivA

theorem identityOn_cells {al bl : List ALine} {rs : List Range} (h : identityOn al bl rs = true) :
    (al = [] ∧ bl = []) ∨
      (al.isEmpty = false ∧ ∃ M, pairCells al bl rs = some M ∧ ∀ c ∈ M, c.old = true ∧ c.new = true) := by
  unfold identityOn at h
  rcases Bool.or_eq_true_iff.mp h with h1 | h1
  · simp only [Bool.and_eq_true, List.isEmpty_iff] at h1
    exact Or.inl h1
  · simp only [Bool.and_eq_true, Bool.not_eq_true'] at h1
    obtain ⟨hne, hm⟩ := h1
    cases hc : pairCells al bl rs with
    | none => rw [hc] at hm; cases hm
    | some M =>
      rw [hc] at hm
      exact Or.inr ⟨hne, M, rfl, fun c hcm => by simpa using List.all_eq_true.mp hm c hcm⟩

theorem identityOn_quiet (al bl : List ALine) (rs : List Range) (h : identityOn al bl rs = true) :
    quietLines al bl rs = true := by
  rcases identityOn_cells h with ⟨rfl, rfl⟩ | ⟨hne, M, hc, hall⟩
  · rfl
  · -- `M` is not empty: it carries the lines of the device list, which has entries
    obtain ⟨c, hcm⟩ : ∃ c, c ∈ M := by
      cases M with
      | cons c _ => exact ⟨c, List.mem_cons_self⟩
      | nil =>
        have ho := (NA.Acl.cellsOf_sound _ _ rs [] hc).1
        cases al with
        | nil => cases hne
        | cons x xs => cases ho
    have hany : (M.any fun c => c.old && c.new) = true :=
      List.any_eq_true.mpr ⟨c, hcm, by rw [(hall c hcm).1, (hall c hcm).2]; rfl⟩
    unfold quietLines
    rw [hne, hc]
    simp only [hany, planIOS_all_both M hall, List.isEmpty_nil, Bool.and_self, Bool.not_false, Bool.or_true]

theorem identityOn_equal (al bl : List ALine) (rs : List Range) (h : identityOn al bl rs = true) :
    al.map (encLine ((al ++ bl).map (·.text)) ((al ++ bl).map (·.nolog))) =
      bl.map (encLine ((al ++ bl).map (·.text)) ((al ++ bl).map (·.nolog))) := by
  rcases identityOn_cells h with ⟨rfl, rfl⟩ | ⟨_, M, hc, hall⟩
  · rfl
  · obtain ⟨ho, hn⟩ := NA.Acl.cellsOf_sound _ _ rs M hc
    have e1 : NA.Acl.olds M = M.map (·.line) := by
      unfold NA.Acl.olds
      rw [List.filter_eq_self.mpr (fun c hcm => (hall c hcm).1)]
    have e2 : NA.Acl.news M = M.map (·.line) := by
      unfold NA.Acl.news
      rw [List.filter_eq_self.mpr (fun c hcm => (hall c hcm).2)]
    rw [← ho, ← hn, e1, e2]

end NA.F2
