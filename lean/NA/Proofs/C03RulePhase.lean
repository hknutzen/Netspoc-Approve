import NA.Proofs.C03Block
import NA.Proofs.C03Plan
/-
C03, the rule phase on the strict device.  The two loops of `diffRules` run over the alignment of the planner's copy of
the device rules with the target rules (`runs_phase1`, `runs_phase2`), by induction over the alignment; what the
requests leave alone is read off the requests (`Al.cmds1_keys`, `Al.cmds2_keys`, `Runs.frame`).  `rulePhase_generic`
composes them, for ANY alignment whose target side has fresh names.  Core Lean only.
-/
namespace NA.PanOs

def TargetOk (sh : Shared) (v : Vsys) (B : List Rule) : Prop := ∀ rb ∈ B, RuleOk sh v rb

theorem TargetOk.congr {sh : Shared} {v v' : Vsys} {B : List Rule} (h : TargetOk sh v B)
    (hs : SameTables v v') : TargetOk sh v' B := fun rb hrb => (h rb hrb).congr hs

theorem Al.mem_cmds1 {diff : Differ} {c : Cmd} : ∀ {l : List (Al Rule Rule)}, c ∈ Al.cmds1 diff l →
    ∃ a ∈ Al.as l, c = .delRule a.name ∨ ∃ b ∈ Al.bs l, c ∈ eqCmds diff a b := by
  intro l
  induction l with
  | nil => intro h; cases h
  | cons x l ih =>
    intro h
    cases x with
    | ins b =>
      obtain ⟨a, ha, h⟩ := ih h
      exact ⟨a, ha, h.imp id fun ⟨b', hb', h⟩ => ⟨b', List.mem_cons_of_mem _ hb', h⟩⟩
    | del a =>
      rcases List.mem_cons.mp h with rfl | h
      · exact ⟨a, List.mem_cons_self, .inl rfl⟩
      · obtain ⟨a', ha', h⟩ := ih h
        exact ⟨a', List.mem_cons_of_mem _ ha', h⟩
    | eq a b =>
      rcases List.mem_append.mp h with h | h
      · exact ⟨a, List.mem_cons_self, .inr ⟨b, List.mem_cons_self, h⟩⟩
      · obtain ⟨a', ha', h⟩ := ih h
        exact ⟨a', List.mem_cons_of_mem _ ha', h.imp id fun ⟨b', hb', h⟩ => ⟨b', List.mem_cons_of_mem _ hb', h⟩⟩

theorem Al.cmds1_keys (diff : Differ) (l : List (Al Rule Rule)) : ∀ c ∈ Al.cmds1 diff l,
    c.onRules = true ∧ ∃ a ∈ Al.as l, c.ruleKey = some a.name := fun c hc => by
  obtain ⟨a, ha, rfl | ⟨b, _, h⟩⟩ := Al.mem_cmds1 hc
  · exact ⟨rfl, a, ha, rfl⟩
  · exact ⟨(eqCmds_keys diff a b c h).1, a, ha, (eqCmds_keys diff a b c h).2⟩

theorem Al.cmds1_frame {sh : Shared} {diff : Differ} {l : List (Al Rule Rule)} {v w : Vsys}
    (h : Runs sh v (Al.cmds1 diff l) w) :
    SameTables v w ∧ ∀ n, (∀ a ∈ Al.as l, a.name ≠ n) → findRule w.rules n = findRule v.rules n :=
  have ⟨s, f⟩ := h.frame fun c hc => (Al.cmds1_keys diff l c hc).1
  ⟨s, fun n hn => f n fun c hc e => by
    obtain ⟨_, a, ha, e'⟩ := Al.cmds1_keys diff l c hc
    exact hn a ha (Option.some.inj (e'.symm.trans e))⟩

theorem runs_phase1 (sh : Shared) (diff : Differ) (hd : GoodDiffer diff) :
    ∀ (l : List (Al Rule Rule)) (v : Vsys), ((Al.as l).map (·.name)).Nodup →
      (∀ a ∈ Al.as l, ∃ r0, findRule v.rules a.name = some r0 ∧ Copy r0 a) →
      (∀ a b, Al.eq a b ∈ l → a.hdr = b.hdr) → TargetOk sh v (Al.bs l) →
      ∃ w, Runs sh v (Al.cmds1 diff l) w ∧
        ∀ a b, Al.eq a b ∈ l → ∃ r', findRule w.rules a.name = some r' ∧ GoodRule r' a.name b := by
  intro l
  induction l with
  | nil => intro v _ _ _ _; exact ⟨v, Runs.nil sh v, nofun⟩
  | cons x l ih =>
    intro v hnd hfind hhdr htg
    have hhdr' : ∀ a b, Al.eq a b ∈ l → a.hdr = b.hdr := fun a b h => hhdr a b (List.mem_cons_of_mem _ h)
    cases x with
    | ins b =>
      obtain ⟨w, hw, p1⟩ := ih v hnd hfind hhdr' (fun rb h => htg rb (List.mem_cons_of_mem _ h))
      exact ⟨w, hw, fun a b' h => p1 a b' ((List.mem_cons.mp h).resolve_left nofun)⟩
    | del a =>
      obtain ⟨hna, hnd'⟩ := List.nodup_cons.mp hnd
      obtain ⟨r0, hr0, _⟩ := hfind a List.mem_cons_self
      obtain ⟨v1, hv1⟩ := exec_delRule_ok sh v a.name (by rw [hr0]; rfl)
      obtain ⟨w, hw, p1⟩ := ih v1 hnd'
        (fun a' h => by
          rw [exec_findRule hv1, ruleEffect_other (c := .delRule a.name) fun e =>
            hna (List.mem_map.mpr ⟨a', h, (Option.some.inj e).symm⟩)]
          exact hfind a' (List.mem_cons_of_mem _ h))
        hhdr' (htg.congr (exec_onRules_static hv1 rfl))
      exact ⟨w, Runs.cons hv1 hw, fun a' b h => p1 a' b ((List.mem_cons.mp h).resolve_left nofun)⟩
    | eq a b =>
      obtain ⟨hna, hnd'⟩ := List.nodup_cons.mp hnd
      obtain ⟨r0, hr0, hc⟩ := hfind a List.mem_cons_self
      obtain ⟨w1, r', hw1, hf1, hg1⟩ := runs_eqCmds sh diff hd a b v r0 hr0 hc (hhdr a b List.mem_cons_self)
        (htg b List.mem_cons_self)
      obtain ⟨s1, ho1⟩ := hw1.frame fun c hc => (eqCmds_keys diff a b c hc).1
      have hne : ∀ a' ∈ Al.as l, a'.name ≠ a.name := fun a' h e => hna (List.mem_map.mpr ⟨a', h, e⟩)
      obtain ⟨w, hw, p1⟩ := ih w1 hnd'
        (fun a' h => by
          rw [ho1 _ fun c hc e => hne a' h (Option.some.inj ((eqCmds_keys diff a b c hc).2.symm.trans e)).symm]
          exact hfind a' (List.mem_cons_of_mem _ h))
        hhdr' (fun rb h => (htg.congr s1) rb (List.mem_cons_of_mem _ h))
      refine ⟨w, hw1.append hw, fun a' b' h => ?_⟩
      rcases List.mem_cons.mp h with h | h
      · cases h
        exact ⟨r', by rw [(Al.cmds1_frame hw).2 _ hne]; exact hf1, hg1⟩
      · exact p1 a' b' h

theorem Al.mem_cmds2 {c : Cmd} : ∀ {l : List (Al Rule Rule)}, c ∈ Al.cmds2 l →
    ∃ b ∈ Al.inss l, c = .setRule b ∨ ∃ d, c = .move b.name d := by
  intro l
  induction l with
  | nil => intro h; cases h
  | cons x l ih =>
    intro h
    cases x with
    | del _ => exact ih h
    | eq _ _ => exact ih h
    | ins b =>
      rcases List.mem_cons.mp h with rfl | h
      · exact ⟨b, List.mem_cons_self, .inl rfl⟩
      · rcases List.mem_append.mp h with h | h
        · cases hk : (Al.kept l).head? with
          | none => rw [hk] at h; cases h
          | some d => rw [hk] at h; exact ⟨b, List.mem_cons_self, .inr ⟨_, List.mem_singleton.mp h⟩⟩
        · exact (ih h).imp fun _ => And.imp_left (List.mem_cons_of_mem _)

theorem Al.cmds2_keys (l : List (Al Rule Rule)) : ∀ c ∈ Al.cmds2 l,
    c.onRules = true ∧ ∀ n, c.ruleKey = some n → ∃ b ∈ Al.inss l, n = b.name := fun c hc => by
  obtain ⟨b, hb, rfl | ⟨d, rfl⟩⟩ := Al.mem_cmds2 hc
  · exact ⟨rfl, fun n e => ⟨b, hb, (Option.some.inj e).symm⟩⟩
  · exact ⟨rfl, nofun⟩

theorem Al.cmds2_frame {sh : Shared} {l : List (Al Rule Rule)} {v w : Vsys} (h : Runs sh v (Al.cmds2 l) w) :
    SameTables v w ∧ ∀ n, (∀ b ∈ Al.inss l, b.name ≠ n) → findRule w.rules n = findRule v.rules n :=
  have ⟨s, f⟩ := h.frame fun c hc => (Al.cmds2_keys l c hc).1
  ⟨s, fun n hn => f n fun c hc e => by
    obtain ⟨b, hb, e'⟩ := (Al.cmds2_keys l c hc).2 n e
    exact hn b hb e'.symm⟩

theorem runs_phase2 (sh : Shared) : ∀ (l : List (Al Rule Rule)) (v : Vsys),
      ((Al.kept l).map (·.name) ++ (Al.inss l).map (·.name)).Nodup →
      (∀ a ∈ Al.kept l, (findRule v.rules a.name).isSome) → (∀ b ∈ Al.inss l, findRule v.rules b.name = none) →
      TargetOk sh v (Al.inss l) →
      ∃ w, Runs sh v (Al.cmds2 l) w ∧ ∀ b ∈ Al.inss l, findRule w.rules b.name = some b := by
  intro l
  induction l with
  | nil => intro v _ _ _ _; exact ⟨v, Runs.nil sh v, nofun⟩
  | cons x l ih =>
    intro v hnd hk hi htg
    cases x with
    | del _ => exact ih v hnd hk hi htg
    | eq a _ => exact ih v (List.nodup_cons.mp hnd).2 (fun a' h => hk a' (List.mem_cons_of_mem _ h)) hi htg
    | ins b =>
      obtain ⟨hb, hnd'⟩ := List.nodup_cons.mp (List.perm_middle.nodup_iff.mp hnd)
      have hneK : ∀ a ∈ Al.kept l, b.name ≠ a.name := fun a h e =>
        hb (List.mem_append_left _ (List.mem_map.mpr ⟨a, h, e.symm⟩))
      have hneI : ∀ b' ∈ Al.inss l, b.name ≠ b'.name := fun b' h e =>
        hb (List.mem_append_right _ (List.mem_map.mpr ⟨b', h, e.symm⟩))
      obtain ⟨_, _, t3, t4, t5⟩ := htg b List.mem_cons_self
      obtain ⟨v1, hv1⟩ := exec_setRule_ok sh v b (hi b List.mem_cons_self) t3 t4 t5
      have hl1 : ∀ m, findRule v1.rules m = if b.name == m then some b else findRule v.rules m :=
        fun m => exec_findRule hv1 m
      have hkeep : ∀ m, b.name ≠ m → findRule v1.rules m = findRule v.rules m := fun m h => by
        rw [hl1, if_neg (fun e => h (beq_iff_eq.mp e))]
      -- the `move`, if there is a kept rule to move before
      obtain ⟨v2, hv2, hl2, s2⟩ : ∃ v2, Runs sh v1 (match (Al.kept l).head? with
          | some d => [Cmd.move b.name d.name] | none => []) v2 ∧ (∀ m, findRule v2.rules m = findRule v1.rules m) ∧
          SameTables v1 v2 := by
        cases hd : (Al.kept l).head? with
        | none => exact ⟨v1, Runs.nil sh v1, fun _ => rfl, SameTables.refl v1⟩
        | some d =>
          have hdm : d ∈ Al.kept l := List.mem_of_mem_head? hd
          obtain ⟨v2, hv2⟩ := exec_move_ok sh v1 b.name d.name (by rw [hl1, if_pos (beq_self_eq_true _)]; rfl)
            (by rw [hkeep _ (hneK d hdm)]; exact hk d hdm) (hneK d hdm)
          exact ⟨v2, Runs.single hv2, fun m => exec_findRule hv2 m, exec_onRules_static hv2 rfl⟩
      obtain ⟨w, hw, post⟩ := ih v2 hnd'
        (fun a h => by rw [hl2, hkeep _ (hneK a h)]; exact hk a h)
        (fun b' h => by rw [hl2, hkeep _ (hneI b' h)]; exact hi b' (List.mem_cons_of_mem _ h))
        (fun rb h => (htg.congr ((exec_onRules_static hv1 rfl).trans s2)) rb (List.mem_cons_of_mem _ h))
      refine ⟨w, (Runs.cons hv1 hv2).append hw, fun b' h => ?_⟩
      rcases List.mem_cons.mp h with rfl | h
      · rw [(Al.cmds2_frame hw).2 _ fun b'' hb'' e => hneI b'' hb'' e.symm, hl2, hl1, if_pos (beq_self_eq_true _)]
      · exact post b' h

theorem Al.cmds_ord (diff : Differ) (l : List (Al Rule Rule)) :
    (Al.cmds1 diff l ++ Al.cmds2 l).filterMap ordOf =
      (Al.dels (l.map (Al.map (·.name) (·.name)))).map OrdOp.del ++ Al.insOps (l.map (Al.map (·.name) (·.name))) := by
  rw [List.filterMap_append]
  congr 1
  · induction l with
    | nil => rfl
    | cons x l ih =>
      cases x with
      | del a => exact congrArg (OrdOp.del a.name :: ·) ih
      | ins _ => exact ih
      | eq a b => rw [Al.cmds1, List.filterMap_append, eqCmds_ordOf, List.nil_append]; exact ih
  · induction l with
    | nil => rfl
    | cons x l ih =>
      cases x with
      | del _ => exact ih
      | eq _ _ => exact ih
      | ins b =>
        rw [List.map_cons, Al.map, Al.insOps, Al.kept_image, List.head?_map, Al.cmds2, List.filterMap_append,
          ih]
        cases (Al.kept l).head? <;> rfl

theorem sortVsys_copy {a : Vsys} (hn : (ruleNames a.rules).Nodup) (hl : ∀ r ∈ a.rules, r.src.Nodup ∧ r.dst.Nodup) :
    ∀ ra ∈ (sortVsys a).rules, ∃ r0, findRule a.rules ra.name = some r0 ∧ Copy r0 ra := by
  intro ra hra
  obtain ⟨r, hr, rfl⟩ := List.mem_map.mp hra
  exact ⟨r, ListFacts.find?_key_of_mem hn hr, rfl, sortStrings_sameMem _, sortStrings_sameMem _, sortStrings_sameMem _,
    sortStrings_nodup (hl r hr).1, sortStrings_nodup (hl r hr).2⟩


def RuleLike (r rb : Rule) : Prop :=
  r.hdr = rb.hdr ∧ SameMem r.src rb.src ∧ SameMem r.dst rb.dst ∧ SameMem r.srv rb.srv

def Pos (R : Rule → Rule → Prop) (rs B : List Rule) : Prop :=
  rs.length = B.length ∧ ∀ (t : Nat) (r : Rule), rs[t]? = some r → R r (B.getD t default)

theorem Pos.cons {R : Rule → Rule → Prop} {r b : Rule} {rs B : List Rule} (h : R r b) (t : Pos R rs B) :
    Pos R (r :: rs) (b :: B) :=
  ⟨congrArg (· + 1) t.1, fun
    | 0, _, e => by cases e; exact h
    | k + 1, r', e => t.2 k r' e⟩

theorem Al.like_of_find (F : String → Option Rule) (l : List (Al Rule Rule)) : ∀ rs : List Rule,
    rs.map (·.name) = (Al.target l).map (·.name) → (∀ r ∈ rs, F r.name = some r) →
    (∀ a b, Al.eq a b ∈ l → ∃ r', F a.name = some r' ∧ GoodRule r' a.name b) →
    (∀ b ∈ Al.inss l, F b.name = some b) → Pos RuleLike rs (Al.bs l) := by
  induction l with
  | nil => intro rs hn _ _ _; cases List.map_eq_nil_iff.mp hn; exact ⟨rfl, nofun⟩
  | cons x l ih =>
    intro rs hn hF p1 p2
    have p1' : ∀ a b, Al.eq a b ∈ l → ∃ r', F a.name = some r' ∧ GoodRule r' a.name b :=
      fun a b h => p1 a b (List.mem_cons_of_mem _ h)
    cases x with
    | del _ => exact ih rs hn hF p1' p2
    | ins b =>
      obtain ⟨r, rs', rfl, hr, hn'⟩ := List.map_eq_cons_iff.mp hn
      have e : r = b := Option.some.inj ((hF r List.mem_cons_self).symm.trans (hr ▸ p2 b List.mem_cons_self))
      exact .cons (e ▸ ⟨rfl, SameMem.refl _, SameMem.refl _, SameMem.refl _⟩)
        (ih rs' hn' (fun r h => hF r (List.mem_cons_of_mem _ h)) p1' (fun b h => p2 b (List.mem_cons_of_mem _ h)))
    | eq a b =>
      obtain ⟨r, rs', rfl, hr, hn'⟩ := List.map_eq_cons_iff.mp hn
      obtain ⟨r', hr', _, g⟩ := p1 a b List.mem_cons_self
      have e : r = r' := Option.some.inj ((hF r List.mem_cons_self).symm.trans (hr ▸ hr'))
      exact .cons (e ▸ g) (ih rs' hn' (fun r h => hF r (List.mem_cons_of_mem _ h)) p1' p2)

/-- The target side need not be the planner's copy of the target: for targets with address-groups it is the target
with every group called by its name on the device.  The script enters at the caller, through `align`. -/
theorem rulePhase_generic (sh : Shared) (diff : Differ) (hd : GoodDiffer diff) (l : List (Al Rule Rule)) (v : Vsys)
    (hnames : ruleNames v.rules = (Al.as l).map (·.name))
    (hnd : ((Al.as l).map (·.name) ++ (Al.bs l).map (·.name)).Nodup)
    (hcopy : ∀ a ∈ Al.as l, ∃ r0, findRule v.rules a.name = some r0 ∧ Copy r0 a)
    (hhdr : ∀ a b, Al.eq a b ∈ l → a.hdr = b.hdr) (htg : TargetOk sh v (Al.bs l)) :
    ∃ w2, Runs sh v (Al.cmds1 diff l ++ Al.cmds2 l) w2 ∧ SameTables v w2 ∧ (ruleNames w2.rules).Nodup ∧
      Pos RuleLike w2.rules (Al.bs l) := by
  have hndA : ((Al.as l).map (·.name)).Nodup := (List.sublist_append_left _ _).nodup hnd
  have hdisj : ∀ a ∈ Al.as l, ∀ b ∈ Al.bs l, a.name ≠ b.name := fun a ha b hb =>
    (List.nodup_append.mp hnd).2.2 _ (List.mem_map_of_mem ha) _ (List.mem_map_of_mem hb)
  have hinssB : ∀ b ∈ Al.inss l, b ∈ Al.bs l := fun b h => (Al.inss_sublist l).subset h
  obtain ⟨w1, hw1, e1⟩ := runs_phase1 sh diff hd l v hndA hcopy hhdr htg
  obtain ⟨s1, f1⟩ := Al.cmds1_frame hw1
  obtain ⟨w2, hw2, p2⟩ := runs_phase2 sh l w1
    ((List.Sublist.append ((Al.kept_sublist l).map _) ((Al.inss_sublist l).map _)).nodup hnd)
    (fun a h => by obtain ⟨b, hb⟩ := Al.mem_kept h; obtain ⟨r', hr', _⟩ := e1 a b hb; rw [hr']; rfl)
    (fun b h => by
      rw [f1 _ fun a ha => hdisj a ha b (hinssB b h), findRule_none_iff, hnames]
      exact Bool.eq_false_iff.mpr fun hc => by
        obtain ⟨a, ha, e⟩ := List.mem_map.mp (List.contains_iff_mem.mp hc)
        exact hdisj a ha b (hinssB b h) e)
    (fun rb h => (htg.congr s1) rb (hinssB rb h))
  obtain ⟨s2, f2⟩ := Al.cmds2_frame hw2
  have hruns := hw1.append hw2
  -- the order of the names: the order operations of the alignment of the names
  have hrun := execAll_ord sh (Al.cmds1 diff l ++ Al.cmds2 l) v
  rw [show execAll sh v _ = _ from hruns, List.take_length, Al.cmds_ord, hnames] at hrun
  have hconv := Al.order_converges (l.map (Al.map (·.name) (·.name))) (by
    rw [Al.as_image, Al.inss_image]
    exact (List.Sublist.append (List.Sublist.refl _) ((Al.inss_sublist l).map _)).nodup hnd)
  rw [Al.as_image, hrun, Al.target_map] at hconv
  have hnd2 : (ruleNames w2.rules).Nodup := runOrd_nodup _ _ _ hrun hndA
  refine ⟨w2, hruns, s1.trans s2, hnd2, Al.like_of_find (findRule w2.rules) l w2.rules (Option.some.inj hconv)
    (fun r hr => ListFacts.find?_key_of_mem hnd2 hr)
    (fun a b hm => by
      obtain ⟨r', hr', g⟩ := e1 a b hm
      refine ⟨r', ?_, g⟩
      rw [f2 _ fun b' hb' e => hdisj a (Al.mem_as_of_eq hm) b' (hinssB b' hb') e.symm]
      exact hr')
    p2⟩

end NA.PanOs
