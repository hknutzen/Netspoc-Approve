import NA.Model.CryptoMapEngine
import NA.Core.ListFacts
/-!
`diffUnordered` (model: `unorderedA` + `insertRuns`) is a set difference when the device's keys are
pairwise distinct: a device line is deleted iff its key does not occur in the target, it is paired
with a target line of the SAME key otherwise, and a target line is inserted iff its key does not
occur on the device.
-/
namespace NA.Vpn

/-- the model's loop is the generic one -/
theorem lastIdxFrom_eq (k : String) : ∀ (keys : List String) (i : Nat) (acc : Option Nat),
    lastIdxFrom k keys i acc = ListFacts.lastIdxFrom k keys i acc
  | [], _, _ => rfl
  | _ :: xs, i, _ => lastIdxFrom_eq k xs (i + 1) _

theorem lastIdx_spec (keys : List String) (k : String) (j : Nat) (h : lastIdx keys k = some j) : keys[j]? = some k := by
  rw [lastIdx, lastIdxFrom_eq] at h
  rcases ListFacts.lastIdxFrom_some k keys 0 none j h with h' | ⟨d, h1, h2⟩
  · cases h'
  · rwa [h1, Nat.zero_add]

theorem lastIdx_isSome_iff (keys : List String) (k : String) : (lastIdx keys k).isSome = true ↔ k ∈ keys := by
  rw [lastIdx, lastIdxFrom_eq, ListFacts.lastIdxFrom_isSome]
  simp

/-- Position `p`, counted from `i` at the head of `x :: xs`, is the head or a position of `xs` counted from `i + 1`. -/
theorem idx_cons {α : Type} (P : α → Prop) (x : α) (xs : List α) (i p : Nat) :
    (i ≤ p ∧ ∃ k, (x :: xs)[p - i]? = some k ∧ P k) ↔
      (p = i ∧ P x) ∨ (i + 1 ≤ p ∧ ∃ k, xs[p - (i + 1)]? = some k ∧ P k) := by
  constructor
  · rintro ⟨h1, k, h2, h3⟩
    obtain ⟨d, rfl⟩ := Nat.exists_eq_add_of_le h1
    rw [Nat.add_sub_cancel_left] at h2
    cases d with
    | zero =>
      cases h2
      exact Or.inl ⟨rfl, h3⟩
    | succ d =>
      refine Or.inr ⟨Nat.add_le_add_left (Nat.succ_pos d) i, k, ?_, h3⟩
      rw [Nat.add_sub_add_left]
      exact h2
  · rintro (⟨rfl, h⟩ | ⟨h1, k, h2, h3⟩)
    · exact ⟨Nat.le_refl _, x, by rw [Nat.sub_self]; rfl, h⟩
    · obtain ⟨d, rfl⟩ := Nat.exists_eq_add_of_le h1
      rw [Nat.add_sub_cancel_left] at h2
      refine ⟨Nat.le_trans (Nat.le_succ i) (Nat.le_add_right _ d), k, ?_, h3⟩
      rw [Nat.add_right_comm, Nat.add_assoc, Nat.add_sub_cancel_left]
      exact h2

theorem unorderedA_cons_some {bKeys : List String} {k : String} {used : List String} {j : Nat}
    (h : (if used.contains k then none else lastIdx bKeys k) = some j) (ks : List String) (i : Nat) :
    unorderedA bKeys (k :: ks) i used =
      ((i, j) :: (unorderedA bKeys ks (i + 1) (k :: used)).1, (unorderedA bKeys ks (i + 1) (k :: used)).2) := by
  simp only [unorderedA, h]

theorem unorderedA_cons_none {bKeys : List String} {k : String} {used : List String}
    (h : (if used.contains k then none else lastIdx bKeys k) = none) (ks : List String) (i : Nat) :
    unorderedA bKeys (k :: ks) i used =
      ((unorderedA bKeys ks (i + 1) used).1, i :: (unorderedA bKeys ks (i + 1) used).2.1,
        (unorderedA bKeys ks (i + 1) used).2.2) := by
  simp only [unorderedA, h]

theorem unorderedA_spec (bKeys : List String) : ∀ (aKeys : List String) (i : Nat) (used : List String),
    aKeys.Nodup → (∀ k ∈ aKeys, k ∉ used) →
    (∀ p, p ∈ (unorderedA bKeys aKeys i used).2.1 ↔ i ≤ p ∧ ∃ k, aKeys[p - i]? = some k ∧ k ∉ bKeys) ∧
    (∀ p j, (p, j) ∈ (unorderedA bKeys aKeys i used).1 ↔ i ≤ p ∧ ∃ k, aKeys[p - i]? = some k ∧ lastIdx bKeys k = some j) ∧
    (∀ k, k ∈ (unorderedA bKeys aKeys i used).2.2 ↔ k ∈ used ∨ (k ∈ aKeys ∧ k ∈ bKeys)) := by
  intro aKeys
  induction aKeys with
  | nil =>
    intro i used _ _
    simp [unorderedA]
  | cons x xs ih0 =>
    intro i used hnd hu
    have hnd' := List.nodup_cons.1 hnd
    have hxu : used.contains x = false :=
      Bool.eq_false_iff.2 fun h => hu x List.mem_cons_self (List.contains_iff_mem.1 h)
    cases hl : lastIdx bKeys x with
    | some j0 =>
      have hxb : x ∈ bKeys := (lastIdx_isSome_iff bKeys x).1 (by rw [hl]; rfl)
      have ih := ih0 (i + 1) (x :: used) hnd'.2 (by
        intro k hk hmem
        cases hmem with
        | head => exact hnd'.1 hk
        | tail _ hmem => exact hu k (List.mem_cons_of_mem _ hk) hmem)
      rw [unorderedA_cons_some (by rw [hxu, hl]; rfl)]
      refine ⟨fun p => ?_, fun p j => ?_, fun k => ?_⟩
      · rw [ih.1 p, idx_cons]
        exact ⟨Or.inr, fun h => h.resolve_left fun h' => h'.2 hxb⟩
      · have e : lastIdx bKeys x = some j ↔ j = j0 := by
          rw [hl]
          exact ⟨fun h => (Option.some.inj h).symm, fun h => h ▸ rfl⟩
        rw [List.mem_cons, Prod.mk.injEq, ih.2.1 p j, idx_cons, e]
      · have e : k = x ∧ k ∈ bKeys ↔ k = x := ⟨And.left, fun h => ⟨h, h ▸ hxb⟩⟩
        rw [ih.2.2 k, List.mem_cons, List.mem_cons, or_and_right, e, or_assoc, or_left_comm]
    | none =>
      have hxb : x ∉ bKeys := by
        intro hm
        have := (lastIdx_isSome_iff bKeys x).2 hm
        rw [hl] at this; cases this
      have ih := ih0 (i + 1) used hnd'.2 (fun k hk => hu k (List.mem_cons_of_mem _ hk))
      rw [unorderedA_cons_none (by rw [hxu, hl]; rfl)]
      refine ⟨fun p => ?_, fun p j => ?_, fun k => ?_⟩
      · rw [List.mem_cons, ih.1 p, idx_cons, and_iff_left hxb]
      · rw [ih.2.1 p j, idx_cons, hl]
        exact ⟨Or.inr, fun h => h.resolve_left fun h' => nomatch h'.2⟩
      · have e : ¬ (k = x ∧ k ∈ bKeys) := fun h => hxb (h.1 ▸ h.2)
        rw [ih.2.2 k, List.mem_cons, or_and_right, or_iff_right e]

/-- what `insertRuns` does with the run collected so far when it ends -/
theorem mem_flush (cur : List Nat) (q : Nat) :
    q ∈ (if cur.isEmpty = true then ([] : List (List Nat)) else [cur.reverse]).flatten ↔ q ∈ cur := by
  cases cur with
  | nil => simp
  | cons c cs => simp [or_comm]

theorem insertRuns_spec (used : List String) : ∀ (bKeys : List String) (j : Nat) (cur : List Nat) (q : Nat),
    q ∈ (insertRuns used bKeys j cur).flatten ↔ q ∈ cur ∨ (j ≤ q ∧ ∃ k, bKeys[q - j]? = some k ∧ used.contains k = false)
 := by
  intro bKeys
  induction bKeys with
  | nil =>
    intro j cur q
    rw [insertRuns, mem_flush]
    exact ⟨Or.inl, fun h => h.resolve_right fun ⟨_, _, h2, _⟩ => by simp at h2⟩
  | cons x xs ih =>
    intro j cur q
    rw [insertRuns, idx_cons]
    by_cases hx : used.contains x = true
    · rw [if_pos hx, List.flatten_append, List.mem_append, mem_flush, ih (j + 1) [] q, hx]
      simp only [List.not_mem_nil, Bool.true_eq_false, and_false, false_or]
    · rw [if_neg hx, ih (j + 1) (j :: cur) q, List.mem_cons,
        and_iff_left ((Bool.not_eq_true _).mp hx), or_assoc, or_left_comm]

theorem unordered_set_diff (aKeys bKeys : List String) (hnd : aKeys.Nodup) :
    (∀ p, p ∈ (unorderedA bKeys aKeys 0 []).2.1 ↔ ∃ k, aKeys[p]? = some k ∧ k ∉ bKeys) ∧
    (∀ p j, (p, j) ∈ (unorderedA bKeys aKeys 0 []).1 ↔ ∃ k, aKeys[p]? = some k ∧ lastIdx bKeys k = some j) ∧
    (∀ q, q ∈ (insertRuns (unorderedA bKeys aKeys 0 []).2.2 bKeys 0 []).flatten ↔ ∃ k, bKeys[q]? = some k ∧ k ∉ aKeys) := by
  have h := unorderedA_spec bKeys aKeys 0 [] hnd (fun k _ hk => nomatch hk)
  refine ⟨fun p => ?_, fun p j => ?_, fun q => ?_⟩
  · rw [h.1 p, Nat.sub_zero, and_iff_right (Nat.zero_le p)]
  · rw [h.2.1 p j, Nat.sub_zero, and_iff_right (Nat.zero_le p)]
  · rw [insertRuns_spec, Nat.sub_zero, and_iff_right (Nat.zero_le q), or_iff_right List.not_mem_nil]
    refine exists_congr fun k => and_congr_right fun hk => ?_
    -- the consumed keys are the device keys that occur in the target, and `k` does occur there
    rw [← Bool.not_eq_true, List.contains_iff_mem, h.2.2 k, or_iff_right List.not_mem_nil,
      and_iff_left (List.mem_of_getElem? hk)]

end NA.Vpn
