import NA.Model.IosEngine
import NA.Spec.IosCfgDev
/-!
# F2: `subCmdOf` / `setCmdConfMode` (`render`) against the mode of the strict device

The syntactic half: the device's mode is the last mode line, reset by `exit` and by every other top-level command
(`trackMode`); every sub-command `render` prints arrives in the mode of the parent it was emitted for.  The semantic half is
`exec_render` in F2Exec.
-/
namespace NA.F2
open NA.IosDev2

def isTopCmd : Chg → Bool
  | .reseq .. | .noAcl _ | .route _ | .noRoute _ | .replRoute .. | .bad => true
  | _ => false

def wfEv : Ev → Bool
  | .top c => isTopCmd c
  | .exitTop c => isTopCmd c
  | .sub (.acl _) c => isEntryCmd c
  | .sub (.intf _) c => isBindCmd c
  | _ => true

theorem renderEvP_map (m : Option Mode) (e : Ev) : (renderEvP m e).map (·.2) = (renderEv m e).1 := by
  cases e with
  | sub p c =>
    simp only [renderEvP, renderEv]
    split
    · rfl
    · cases m <;> rfl
  | exitTop c => cases m <;> rfl
  | _ => rfl

theorem renderP_map (m : Option Mode) (evs : List Ev) :
    (renderP m evs).map (·.2) = render m evs := by
  induction evs generalizing m with
  | nil => rfl
  | cons e es ih => simp only [renderP, render, List.map_append, ih, renderEvP_map]

theorem trackMode_exit (dm : Option Mode) : trackMode dm Chg.exit = none := rfl

theorem trackMode_top {c : Chg} (h : isTopCmd c = true) :
    (∀ dm, trackMode dm c = none) ∧ (c != Chg.exit) = true := by
  cases c <;> first | contradiction | exact ⟨fun _ => rfl, rfl⟩

theorem trackMode_sub {p : Mode} {c : Chg} (h : wfEv (.sub p c) = true) :
    (∀ dm, trackMode dm c = dm) ∧ (c != Chg.exit) = true := by
  cases p <;> cases c <;> first | contradiction | exact ⟨fun _ => rfl, rfl⟩

theorem trackMode_line (p : Mode) (dm : Option Mode) : trackMode dm p.line = some p := by
  cases p <;> rfl

theorem line_ne_exit (p : Mode) : (p.line != Chg.exit) = true := by cases p <;> rfl

theorem inModes_top {c : Chg} (h : isTopCmd c = true) (dm : Option Mode) (rest : List (Option Mode × Chg)) :
    inModes dm ((none, c) :: rest) = inModes none rest := by
  simp only [inModes, (trackMode_top h).1, (trackMode_top h).2, Bool.true_or, Bool.true_and]

theorem inModes_line (p : Mode) (dm : Option Mode) (rest : List (Option Mode × Chg)) :
    inModes dm ((none, p.line) :: rest) = inModes (some p) rest := by
  simp only [inModes, trackMode_line, line_ne_exit, Bool.true_or, Bool.true_and]

theorem inModes_sub {p : Mode} {c : Chg} (h : wfEv (.sub p c) = true) (rest : List (Option Mode × Chg)) :
    inModes (some p) ((some p, c) :: rest) = inModes (some p) rest := by
  simp only [inModes, (trackMode_sub h).1, (trackMode_sub h).2, beq_self_eq_true, Bool.true_or, Bool.true_and]

theorem inModes_exit {m dm : Option Mode} (hm : ∀ p, m = some p → dm = some p) (rest : List (Option Mode × Chg))
    (h : ∀ dm', inModes dm' rest = true) :
    inModes dm ((if m.isSome then [(none, Chg.exit)] else []) ++ rest) = true := by
  cases m with
  | none => exact h dm
  | some q => rw [hm q rfl]; exact h none

/-- `ios_confmode_tracks`, core: `m` is the engine's `subCmdOf`, `dm` the device's mode. -/
theorem inModes_render (evs : List Ev) (m dm : Option Mode)
    (hm : ∀ p, m = some p → dm = some p) (hwf : ∀ e ∈ evs, wfEv e = true) :
    inModes dm (renderP m evs) = true := by
  induction evs generalizing m dm with
  | nil => rfl
  | cons e es ih =>
    have hwe := hwf e (List.mem_cons_self ..)
    have hwes : ∀ e' ∈ es, wfEv e' = true := fun e' h => hwf e' (List.mem_cons_of_mem _ h)
    cases e with
    | top c => exact (inModes_top hwe dm _).trans (ih none none (fun _ h => nomatch h) hwes)
    | openAcl n => exact (inModes_line (.acl n) dm _).trans (ih _ _ (fun _ h => h) hwes)
    | reset => exact ih none dm (fun _ h => nomatch h) hwes
    | exitTop c =>
      have h : ∀ dm', inModes dm' ((none, c) :: renderP none es) = true := fun dm' =>
        (inModes_top hwe dm' _).trans (ih none none (fun _ h => nomatch h) hwes)
      cases m with
      | none => exact h dm
      | some p => rw [hm p rfl]; exact h none
    | sub p c =>
      have h : inModes (some p) ((some p, c) :: renderP (some p) es) = true :=
        (inModes_sub hwe _).trans (ih _ _ (fun _ h => h) hwes)
      cases hb : m == some p with
      | true =>
        rw [hm p (eq_of_beq hb)]
        simp only [renderP, renderEvP, renderEv, hb, ↓reduceIte]
        rw [eq_of_beq hb]
        exact h
      | false =>
        simp only [renderP, renderEvP, renderEv, hb, Bool.false_eq_true, ↓reduceIte, List.append_assoc]
        exact inModes_exit hm _ fun dm' => (inModes_line p dm' _).trans h

def AllEv (P : Ev → Prop) (l : List Ev) : Prop := ∀ e ∈ l, P e

theorem AllEv.single {P : Ev → Prop} {e : Ev} (h : P e) : AllEv P [e] := List.forall_mem_singleton.mpr h
theorem AllEv.map {P : Ev → Prop} {α : Type} {f : α → Ev} (h : ∀ x, P (f x)) (l : List α) : AllEv P (l.map f) :=
  List.forall_mem_map.mpr fun x _ => h x
theorem AllEv.append {P : Ev → Prop} {a b : List Ev} (ha : AllEv P a) (hb : AllEv P b) : AllEv P (a ++ b) :=
  List.forall_mem_append.mpr ⟨ha, hb⟩
theorem AllEv.cons {P : Ev → Prop} {e : Ev} {l : List Ev} (he : P e) (hl : AllEv P l) : AllEv P (e :: l) :=
  List.forall_mem_cons.mpr ⟨he, hl⟩
theorem AllEv.ite {P : Ev → Prop} {c : Prop} [Decidable c] {a b : List Ev} (ha : AllEv P a) (hb : AllEv P b) :
    AllEv P (if c then a else b) := by
  split <;> assumption

theorem editEvents_all {P : Ev → Prop} (aN : Name) (al bl : List ALine) (rs : List NA.Acl.Range)
    (hsub : ∀ c, isEntryCmd c = true → P (.sub (.acl aN) c)) (hreseq : ∀ s t, P (.top (.reseq aN s t)))
    (hbad : P (.top .bad)) (hreset : P .reset) : AllEv P (editEvents aN al bl rs) := by
  have hop : ∀ op, P (opEv aN al bl op) := fun op => by
    cases op <;> first | exact hsub _ rfl | exact hbad
  unfold editEvents
  refine .ite (.map (fun _ => hsub _ rfl) _) ?_
  generalize pairCells al bl rs = o
  cases o with
  | none => exact .single hbad
  | some M =>
    exact .ite (.append (.map (fun _ => hsub _ rfl) _) (.map (fun _ => hsub _ rfl) _))
      (.ite (.single hreset) (.append (.cons (hreseq _ _) (.map hop _)) (.single (hreseq _ _))))

abbrev wfEvs : List Ev → Prop := AllEv fun e => wfEv e = true

theorem editEvents_wf (aN : Name) (al bl : List ALine) (rs : List NA.Acl.Range) :
    wfEvs (editEvents aN al bl rs) :=
  editEvents_all aN al bl rs (fun _ h => h) (fun _ _ => rfl) rfl rfl

theorem expand_wf (a : MA) : wfEvs (expand a) := by
  cases a with
  | transfer n ls => exact List.forall_mem_cons.mpr ⟨rfl, List.forall_mem_map.mpr fun _ _ => rfl⟩
  | edit aN al bl rs => exact editEvents_wf aN al bl rs
  | cleanup ns =>
    cases ns with
    | nil => exact fun _ h => nomatch h
    | cons n ns => exact List.forall_mem_cons.mpr ⟨rfl, List.forall_mem_map.mpr fun _ _ => rfl⟩
  | _ => exact .single rfl

theorem acts_wf (acts : List MA) : ∀ e ∈ acts.flatMap expand, wfEv e = true := by
  intro e he
  obtain ⟨a, _, h⟩ := List.mem_flatMap.mp he
  exact expand_wf a e h

end NA.F2
