import NA.Proofs.F1Order
import NA.Proofs.F1Routes
/-!
# F1: sub-commands are issued inside a configuration mode, and the engine's `subCmdOf` is that mode (C08)

`modeRun` replays a script on the mode of the command line only: `object-group network X` opens the sub-mode
of `X`, `network-object` / `no network-object` / `exit` are legal only inside a sub-mode, every other command
leaves it.  Invariant through every function of the engine model (all inputs): the script printed so far is
legal, and whenever the engine believes to be in the sub-mode of `X` (`st.mode = X ≠ ""`), the command line
IS in the sub-mode of `X`.  Member commands for a group `X` are emitted only right behind `setMode st X` or
`object-group network X`, so they reach their own parent.
-/
namespace NA.F1
open NA.Acl (Range)

def modeStep : Option Name → Chg → Option (Option Name)
  | _, .grp n => some (some n)
  | m, .mem _ => if m.isSome then some m else none
  | m, .noMem _ => if m.isSome then some m else none
  | m, .exit => if m.isSome then some none else none
  | m, .join a b => (modeStep m a).bind fun m' => modeStep m' b
  | m, .bad => some m
  | _, _ => some none

def modeRun : Option Name → List Chg → Option (Option Name)
  | m, [] => some m
  | m, c :: cs => (modeStep m c).bind fun m' => modeRun m' cs

theorem modeRun_append : ∀ (xs ys : List Chg) (m : Option Name),
    modeRun m (xs ++ ys) = (modeRun m xs).bind fun m' => modeRun m' ys := by
  intro xs
  induction xs with
  | nil => intro ys m; rfl
  | cons c cs ih =>
    intro ys m
    simp only [List.cons_append, modeRun]
    cases modeStep m c with
    | none => rfl
    | some m' => simp only [Option.bind_some]; exact ih ys m'

/-- Commands of the top level: legal in every mode, leave the sub-mode. -/
def TopCmd (c : Chg) : Prop := ∀ m, modeStep m c = some none

theorem top_acl (n : Name) (k : Option Nat) (l : RLine) : TopCmd (.acl n k l) := fun _ => rfl
theorem top_noAcl (n : Name) (k : Nat) (l : RLine) : TopCmd (.noAcl n k l) := fun _ => rfl
theorem top_bind (b : Bind) : TopCmd (.bind b) := fun _ => rfl
theorem top_noBind (b : Bind) : TopCmd (.noBind b) := fun _ => rfl
theorem top_route (r : String) : TopCmd (.route r) := fun _ => rfl
theorem top_noRoute (r : String) : TopCmd (.noRoute r) := fun _ => rfl
theorem top_join {a b : Chg} (ha : TopCmd a) (hb : TopCmd b) : TopCmd (.join a b) := fun m => by
  simp only [modeStep, ha m, Option.bind_some, hb none]

def T (st : St) : Prop := ∃ m, modeRun none st.out = some m ∧ (st.mode ≠ "" → m = some st.mode)

theorem T.of_eq {st st' : St} (h : T st) (ho : st'.out = st.out) (hm : st'.mode = st.mode) : T st' := by
  obtain ⟨m, h1, h2⟩ := h
  exact ⟨m, by rw [ho]; exact h1, by rw [hm]; exact h2⟩

theorem T.hit {st : St} (h : T st) (x : String) : T (st.hit x) := h.of_eq rfl rfl

/-- Legal so far (the engine's belief about the mode is not tracked behind `deleteUnused`). -/
def Legal (st : St) : Prop := ∃ m, modeRun none st.out = some m

theorem T.legal {st : St} (h : T st) : Legal st := let ⟨m, h1, _⟩ := h; ⟨m, h1⟩

theorem Legal.top {st st' : St} (h : Legal st) (c : Chg) (hc : TopCmd c) (ho : st'.out = st.out ++ [c]) : Legal st' := by
  obtain ⟨m, h1⟩ := h
  refine ⟨none, ?_⟩
  rw [ho, modeRun_append, h1]
  simp only [Option.bind_some, modeRun, hc m]

theorem T.top {st st' : St} (h : T st) (c : Chg) (hc : TopCmd c) (ho : st'.out = st.out ++ [c]) (hm : st'.mode = "") :
    T st' :=
  let ⟨m, h1⟩ := h.legal.top c hc ho
  ⟨m, h1, fun hx => absurd hm hx⟩

theorem T.bad {st : St} (h : T st) : T (st.emit .bad) := by
  obtain ⟨m, h1, h2⟩ := h
  refine ⟨m, ?_, h2⟩
  show modeRun none (st.out ++ [.bad]) = some m
  rw [modeRun_append, h1]
  rfl

theorem findGroup_T (e : Env) {st : St} (h : T st) (bN : Name) : T (findGroup e st bN) := by
  unfold findGroup
  split
  · exact h
  · split
    · exact h.of_eq rfl rfl
    · exact h

theorem modeRun_mems (n : Name) (ms : List String) : modeRun (some n) (ms.map Chg.mem) = some (some n) := by
  induction ms with
  | nil => rfl
  | cons m ms ih => simp only [List.map_cons, modeRun, modeStep, Option.isSome_some, if_true, Option.bind_some]; exact ih

theorem transferGroup_T (e : Env) {st : St} (h : T st) (bN : Name) : T (transferGroup e st bN) := by
  unfold transferGroup
  split
  · exact h
  · obtain ⟨m, h1, _⟩ := h
    refine ⟨some (st.gNameOf bN), ?_, fun _ => rfl⟩
    show modeRun none (st.out ++ (Chg.grp (st.gNameOf bN) :: (e.bMembers bN).map Chg.mem)) = _
    rw [modeRun_append, h1]
    exact modeRun_mems _ _

theorem setMode_T {st : St} (h : T st) (n : Name) : T (setMode st n) ∧ (setMode st n).mode = n := by
  unfold setMode
  by_cases hm : (st.mode == n) = true
  · rw [if_pos hm]
    exact ⟨h, eq_of_beq hm⟩
  · rw [if_neg hm]
    obtain ⟨m, h1, h2⟩ := h
    by_cases he : (st.mode != "") = true
    · simp only [he, if_true]
      have hne : st.mode ≠ "" := bne_iff_ne.mp he
      refine ⟨⟨some n, ?_, fun _ => rfl⟩, trivial⟩
      show modeRun none (st.out ++ [.exit] ++ [.grp n]) = _
      rw [modeRun_append, modeRun_append, h1, h2 hne]
      rfl
    · simp only [he, Bool.false_eq_true, if_false]
      refine ⟨⟨some n, ?_, fun _ => rfl⟩, trivial⟩
      show modeRun none (st.out ++ [.grp n]) = _
      rw [modeRun_append, h1]
      rfl

theorem memberCmd_T {st : St} (h : T st) (n : Name) (hn : n ≠ "") (c : Chg)
    (hc : ∀ x, modeStep (some x) c = some (some x)) : T ((setMode st n).emit c) := by
  have hs := setMode_T h n
  generalize setMode st n = s1 at hs ⊢
  obtain ⟨⟨m, h1, h2⟩, h3⟩ := hs
  subst h3
  refine ⟨some s1.mode, ?_, fun _ => rfl⟩
  show modeRun none (s1.out ++ [c]) = _
  rw [modeRun_append, h1, h2 hn]
  simp only [Option.bind_some, modeRun, hc]

theorem equalizedGroups_T (e : Env) {st : St} (h : T st) (aN bN : Name) (hn : aN ≠ "") :
    T (equalizedGroups e st aN bN).1 := by
  refine equalizedGroups_cases e st aN bN (fun r => T r.1) (fun _ _ => h.hit _) (fun _ _ => (findGroup_T e h bN).hit _)
    (fun _ _ _ => (findGroup_T e h bN).hit _) (fun _ _ => h.hit _) fun _ _ st2 hst2 _ => ?_
  have h3 : T st2 := hst2 ▸ editMembers_preserves T aN (fun _ _ hs => memberCmd_T hs aN hn _ (fun _ => rfl))
    (fun _ _ hs => memberCmd_T hs aN hn _ (fun _ => rfl)) (e.aMembers aN) (e.bMembers bN) (lookupD e.sc.grp (aN, bN)) _
    (h.of_eq rfl rfl)
  exact h3.of_eq rfl rfl

theorem emitLine_T (e : Env) {st : St} (h : T st) (mk : RLine → Chg) (hmk : ∀ r, TopCmd (mk r)) (l : Line) :
    T (emitLine e st mk l) := by
  unfold emitLine
  have h1 : T (l.refs.foldl (transferGroup e) st) := foldl_inv (fun g _ s hs => transferGroup_T e hs g) h
  exact h1.top _ (hmk _) rfl rfl

theorem diffASAACLs_T (e : Env) (hA : RefsClosedA e) (hne : "" ∉ D0 e) {st : St} (h : T st) (aN bN : Name) (rs : List Range) :
    T (diffASAACLs e st aN bN rs) :=
  diffASAACLs_preserves e T (· ≠ "") aN bN rs (fun i g hg e1 => hne (e1 ▸ aLines_getD_refs e hA aN i g hg))
    (fun _ g hs => findGroup_T e hs g) (fun _ a b ha hs => equalizedGroups_T e hs a b ha)
    (fun _ x hs => hs.hit x) (fun s cells op hs => emitOp_cases e aN _ _ cells s T
      (fun _ _ => (emitLine_T e hs _ (fun r => top_acl _ _ r) _).hit _)
      (fun _ _ => hs.top _ (top_noAcl _ _ _) rfl rfl)
      (fun _ _ ai _ => (emitLine_T e (st := markDeletedLines s [(e.aLines aN).getD ai default]) (hs.of_eq rfl rfl) _
        (fun r => top_join (top_noAcl _ _ _) (top_acl _ _ r)) _).hit _)
      hs.bad (hs.bad.hit _) op) h

theorem diffBinds_T (e : Env) (hA : RefsClosedA e) (hne : "" ∉ D0 e) {st : St} (h : T st) (al : List Nat) (bl : List Bind) :
    T (diffBinds e st al bl) :=
  bindsWalk_preserves e T TopCmd top_bind top_noBind (fun _ _ ho hm _ _ hs => hs.of_eq ho hm)
    (fun _ _ c hc ho hm _ _ hs => hs.top c hc ho hm) (fun _ _ l hs => emitLine_T e hs _ (fun r => top_acl _ _ r) l)
    (fun _ aN bN rs hs => diffASAACLs_T e hA hne hs aN bN rs) h al bl

theorem modeRun_tops : ∀ (cs : List Chg), (∀ c ∈ cs, TopCmd c) → ∀ m,
    modeRun m cs = some (if cs.isEmpty then m else none) := by
  intro cs
  induction cs with
  | nil => intro _ m; rfl
  | cons c cs ih =>
    intro h m
    simp only [modeRun, h c List.mem_cons_self m, Option.bind_some, List.isEmpty_cons, Bool.false_eq_true, if_false]
    rw [ih (fun x hx => h x (List.mem_cons_of_mem _ hx)) none]
    split <;> rfl

theorem diffRoutes_T {st : St} (h : T st) (al bl : List Route) : T (diffRoutes st al bl) := by
  have hframe := diffRoutes_frame_ops st al bl
  obtain ⟨m, h1, h2⟩ := h
  have htops : ∀ c ∈ (routeOpsOf al bl).map RO.toChg, TopCmd c := by
    intro c hc
    obtain ⟨o, _, rfl⟩ := List.mem_map.mp hc
    cases o with
    | add r => exact top_route _
    | repl o n => exact top_join (top_noRoute _) (top_route _)
    | del r => exact top_noRoute _
  generalize (routeOpsOf al bl).map RO.toChg = cs at hframe htops
  refine ⟨if cs.isEmpty then m else none, ?_, ?_⟩
  · rw [hframe.out, modeRun_append, h1]
    exact modeRun_tops cs htops m
  · rw [hframe.mode]
    split
    · exact h2
    · intro hx; exact absurd rfl hx

theorem duRounds_legal (e : Env) : ∀ (n : Nat) (st : St) (p : Pending), Legal st → Legal (duRounds e n st p) := by
  intro n
  induction n with
  | zero => intro st p h; exact h
  | succ n ih =>
    intro st p h
    unfold duRounds
    split
    · exact h
    · have h1 : Legal (duRound e st p).1 :=
        foldl_inv (fun n _ s hs => hs.top (.noGrp n) (fun _ => rfl) rfl)
          (foldl_inv (fun n _ s hs => hs.top (.clearAcl n) (fun _ => rfl) rfl)
            (foldl_inv (fun i _ s hs => hs.top _ (top_noBind _) rfl) h))
      generalize duRound e st p = q at h1
      obtain ⟨st1, p1⟩ := q
      exact ih st1 p1 h1

theorem deleteUnused_legal (e : Env) (st : St) (managed : List Nat) (h : T st) : Legal (deleteUnused e st managed) := by
  refine deleteUnused_cases e st managed Legal fun st1 p n ho hm => ?_
  have h1 : T st1 := h.of_eq ho hm
  refine ⟨h1.legal, fun hx => duRounds_legal e n _ p ?_, fun _ => duRounds_legal e n _ p h1.legal⟩
  obtain ⟨m, r1, r2⟩ := h1
  refine ⟨none, ?_⟩
  show modeRun none (st1.out ++ [.exit]) = some none
  rw [modeRun_append, r1, r2 (bne_iff_ne.mp hx)]
  rfl

theorem engine_modes (a b : Config) (sc : Scripts) (r : Result) (hA : RefsClosedA ⟨a, b, sc⟩)
    (hne : "" ∉ a.groups.map (·.1)) (h : engine a b sc = some r) : ∃ m, modeRun none r.script = some m := by
  obtain ⟨st, managed, st1, st2, hci, hst1, hst2, hr⟩ := engine_cases h
  obtain ⟨o1, _, _, hm0, _⟩ := checkInterfaces_init _ st managed hci
  have h0 : T (generateNames ⟨a, b, sc⟩ st) := by
    refine ⟨none, ?_, ?_⟩
    · show modeRun none st.out = some none
      rw [o1]; rfl
    · exact fun hx => absurd hm0 hx
  have h1 : T st1 := by
    rw [hst1]; split
    · exact h0
    · exact diffBinds_T _ hA hne h0 _ _
  have h2 : T st2 := hst2 ▸ diffRoutes_T h1 _ _
  rw [hr]
  exact deleteUnused_legal ⟨a, b, sc⟩ st2 managed h2

/-! The invariant `Inv` of NA/Proofs/F1Order.lean through `diffRoutes` (by its frame: route commands are neutral) and
through the whole engine. -/

section Order
open NA.AsaDev

/-- `objects_before_use` (C08, order part; NA/Props/F1.lean). -/
theorem engine_order (a b : Config) (sc : Scripts) (r : Result) (hA : RefsClosedA ⟨a, b, sc⟩)
    (h : engine a b sc = some r) :
    ∃ body tail, r.script = body ++ tail ∧ createdBeforeUse (a.groups.map (·.1)) r.script = true ∧
      (∀ c ∈ body, removesObject c = false) ∧ (∀ c ∈ tail, TailCmd c) := by
  obtain ⟨st, managed, st1, st2, hci, hst1, hst2, hr⟩ := engine_cases h
  obtain ⟨o1, o2, _⟩ := checkInterfaces_init _ st managed hci
  have h0 : Inv (D0 ⟨a, b, sc⟩) (generateNames ⟨a, b, sc⟩ st) := by
    have ho : (generateNames ⟨a, b, sc⟩ st).out = [] := o1
    have hr0 : (generateNames ⟨a, b, sc⟩ st).gReady = [] := o2
    unfold Inv
    rw [ho, hr0]
    exact ⟨rfl, fun _ hc => (nomatch hc), fun _ hc => (nomatch hc), fun _ hg => (nomatch hg)⟩
  have h1 : Inv (D0 ⟨a, b, sc⟩) st1 := by
    rw [hst1]; split
    · exact h0
    · exact diffBinds_inv _ hA h0 _ _
  -- route commands are neutral
  have h2 : Inv (D0 ⟨a, b, sc⟩) st2 := by
    have hframe := diffRoutes_frame_ops st1 (sortRoutes a.routes) (sortRoutes b.routes)
    rw [← hst2] at hframe
    unfold Inv
    rw [hframe.out, hframe.gReady, hframe.gName]
    refine Inv3.append_neutral h1 _ fun c hc => ?_
    obtain ⟨o, _, rfl⟩ := List.mem_map.mp hc
    cases o with
    | add r => exact neutral_route _
    | repl o n => exact neutral_join (neutral_noRoute _) (neutral_route _)
    | del r => exact neutral_noRoute _
  obtain ⟨tail, e1, _, ht⟩ := deleteUnused_tail ⟨a, b, sc⟩ st2 managed
  rw [hr, e1]
  refine ⟨st2.out, tail, rfl, ?_, h2.norem, ht⟩
  rw [createdBeforeUse_append, h2.ord, Bool.true_and]
  exact tail_uses _ tail ht

end Order

end NA.F1
