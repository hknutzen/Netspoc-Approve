import NA.Model.NewPolicy
/-! # C19 — which command writes what: the frame of `exec` (what a command leaves alone, where what it
writes comes from) -/
namespace NA.C19

def Cmd.wStore : Cmd → Bool
  | .gitCommitPolicy | .gitPullMerge | .gitRevert => true
  | _ => false
def Cmd.wRemote : Cmd → Bool
  | .gitPush => true
  | _ => false
/-- may change HEAD of next/src (or remove / create `next`) -/
def Cmd.wHead : Cmd → Bool
  | .rmrfNext | .mkdirNext | .rmrfNextSrc | .gitClone | .gitCommitPolicy | .gitPullMerge | .gitResetHash | .mvNextTo | .gitRevert
  | .gitPullPlain => true
  | _ => false
def Cmd.wCurrent : Cmd → Bool
  | .rmCurrent | .lnCurrent => true
  | _ => false
def Cmd.wFcount : Cmd → Bool
  | .readPolicyFile | .setReg .fcount _ => true
  | _ => false
def Cmd.wLcount : Cmd → Bool
  | .linkCount | .setReg .lcount _ => true
  | _ => false
def Cmd.wCount : Cmd → Bool
  | .countPick _ | .countAdd _ | .setReg .count _ => true
  | _ => false
def Cmd.wPolicy : Cmd → Bool
  | .policyFromCount => true
  | _ => false
def Cmd.wPrev : Cmd → Bool
  | .readLink => true
  | _ => false
def Cmd.wBase : Cmd → Bool
  | .gitClone | .gitPullMerge | .gitPush | .gitPullPlain => true
  | _ => false
def Cmd.wStaged : Cmd → Bool     -- wpol / spol
  | .gitClone | .writePolicyFile | .gitAdd | .gitCommitPolicy | .gitResetHash => true
  | _ => false
def Cmd.wHash : Cmd → Bool
  | .saveHash => true
  | _ => false
def Cmd.wNext : Cmd → Bool
  | .rmrfNext | .mkdirNext | .rmrfNextSrc | .mkdirNextP | .gitClone | .compile | .gitCommitPolicy | .gitPullMerge | .gitResetHash | .mvNextTo
  | .gitRevert | .gitPullPlain => true
  | _ => false
def Cmd.wDirs : Cmd → Bool
  | .mvNextTo => true
  | _ => false
/-- `mv next pN` is also the one command that records a number in `hist` -/
def Cmd.wHist : Cmd → Bool := Cmd.wDirs
def Cmd.wGhost : Cmd → Bool
  | .gitClone | .gitCommitPolicy | .gitPullMerge | .gitPush | .gitRevert => true
  | _ => false
/-- commands that change the stamp of `next` or whether `next` exists -/
def Cmd.wCode : Cmd → Bool
  | .rmrfNext | .mkdirNext | .mkdirNextP | .compile | .mvNextTo => true
  | _ => false
/-- commands after which `next` need not hold a successful compile any more (as `tf1` in `C19Safety` has it) -/
def Cmd.wBuilt : Cmd → Bool
  | .rmrfNext | .mkdirNext | .gitClone | .compile | .mvNextTo => true
  | _ => false

def NextBuilt (g : G) : Prop := ∃ d, g.next = some d ∧ d.built = true

@[simp] theorem snh_store (g : G) (h : Nat) : (g.setNextHead h).store = g.store := by
  unfold G.setNextHead; cases g.next <;> rfl
@[simp] theorem snh_remote (g : G) (h : Nat) : (g.setNextHead h).remote = g.remote := by
  unfold G.setNextHead; cases g.next <;> rfl
@[simp] theorem snh_hist (g : G) (h : Nat) : (g.setNextHead h).hist = g.hist := by
  unfold G.setNextHead; cases g.next <;> rfl
@[simp] theorem snh_current (g : G) (h : Nat) : (g.setNextHead h).current = g.current := by
  unfold G.setNextHead; cases g.next <;> rfl
@[simp] theorem snh_lock (g : G) (h : Nat) : (g.setNextHead h).lock = g.lock := by
  unfold G.setNextHead; cases g.next <;> rfl
@[simp] theorem snh_trouble (g : G) (h : Nat) : (g.setNextHead h).trouble = g.trouble := by
  unfold G.setNextHead; cases g.next <;> rfl
@[simp] theorem snh_edited (g : G) (h : Nat) : (g.setNextHead h).edited = g.edited := by
  unfold G.setNextHead; cases g.next <;> rfl
@[simp] theorem snh_raced (g : G) (h : Nat) : (g.setNextHead h).raced = g.raced := by
  unfold G.setNextHead; cases g.next <;> rfl
@[simp] theorem snh_dirs (g : G) (h : Nat) : (g.setNextHead h).dirs = g.dirs := by
  unfold G.setNextHead; cases g.next <;> rfl
theorem setNextHead_lockFile {g : G} {h : Nat} : (g.setNextHead h).lockFile = g.lockFile := by
  unfold G.setNextHead; cases g.next <;> rfl
theorem snh_head (g : G) (h : Nat) : (g.setNextHead h).nextHead = if g.next.isSome then some h else none := by
  unfold G.setNextHead G.nextHead; cases hn : g.next <;> simp [hn]
@[simp] theorem snh_code (g : G) (h : Nat) :
    (g.setNextHead h).next.map (fun d => (d.code, d.dirty, d.mixed)) = g.next.map (fun d => (d.code, d.dirty, d.mixed)) := by
  unfold G.setNextHead; cases hn : g.next <;> simp [hn]
@[simp] theorem snh_built (g : G) (h : Nat) :
    (∃ d, (g.setNextHead h).next = some d ∧ d.built = true) ↔ (∃ d, g.next = some d ∧ d.built = true) := by
  unfold G.setNextHead
  cases hn : g.next <;> simp [hn]

theorem nextHead_of_next {g : G} {d : Dir} {h : Nat} (hn : g.next = some d) (hh : d.head = some h) :
    g.nextHead = some h := by simp [G.nextHead, hn, hh]

theorem next_of_head {g : G} {h : Nat} (hh : g.nextHead = some h) : ∃ d, g.next = some d ∧ d.head = some h := by
  unfold G.nextHead at hh
  cases hn : g.next with
  | none => simp [hn] at hh
  | some d => simp [hn] at hh; exact ⟨d, rfl, hh⟩

theorem next_isSome_of_head {g : G} {h : Nat} (hh : g.nextHead = some h) : g.next.isSome = true := by
  obtain ⟨d, hn, _⟩ := next_of_head hh
  rw [hn]; rfl

theorem nextTree_eq {g : G} {h : Nat} (hh : g.nextHead = some h) : g.nextTree = some (commitAt g.store h) := by
  simp [G.nextTree, hh]

theorem commitAt_append {store l : List Commit} {i : Nat} (h : i ≤ store.length) :
    commitAt (store ++ l) i = commitAt store i := by
  unfold commitAt
  by_cases h0 : i = 0
  · simp [h0]
  · simp only [h0, if_false]
    have : i - 1 < store.length := by omega
    simp [List.getD, List.getElem?_append_left this]

theorem commitAt_new {store : List Commit} {c : Commit} : commitAt (store ++ [c]) (store.length + 1) = c := by
  unfold commitAt
  simp [List.getD]

/-- A component that `c` is on no list for is the same after `exec c`.  The `…From` fields say where what it
writes comes from: a revision id in HEAD of next/src, the remote head, origin/master or `$HASH` is one that
stood in another of these places, or the id of the commit just appended. -/
structure Frame (c : Cmd) (g : G) (p : Proc) (r : G × Proc × Bool) : Prop where
  pid     : r.2.1.pid = p.pid
  alive   : r.2.1.alive = p.alive
  touched : r.2.1.touched = p.touched
  fcount  : c.wFcount = false → r.2.1.fcount = p.fcount
  lcount  : c.wLcount = false → r.2.1.lcount = p.lcount
  count   : c.wCount = false → r.2.1.count = p.count
  policy  : c.wPolicy = false → r.2.1.policy = p.policy
  prev    : c.wPrev = false → r.2.1.prev = p.prev
  base    : c.wBase = false → r.2.1.base = p.base
  fetched : c.wBase = false → r.2.1.fetched = p.fetched
  wpol    : c.wStaged = false → r.2.1.wpol = p.wpol
  spol    : c.wStaged = false → r.2.1.spol = p.spol
  hash    : c.wHash = false → r.2.1.hash = p.hash
  store   : c.wStore = false → r.1.store = g.store
  grow    : ∃ l, r.1.store = g.store ++ l
  remote  : c.wRemote = false → r.1.remote = g.remote
  head    : c.wHead = false → r.1.nextHead = g.nextHead
  next    : c.wNext = false → r.1.next = g.next
  code    : c.wCode = false →
              r.1.next.map (fun d => (d.code, d.dirty, d.mixed)) = g.next.map (fun d => (d.code, d.dirty, d.mixed))
  built   : NextBuilt g → c.wBuilt = false → NextBuilt r.1
  dirs    : c.wDirs = false → r.1.dirs = g.dirs
  current : c.wCurrent = false → r.1.current = g.current
  hist    : c.wHist = false → r.1.hist = g.hist
  lock    : r.1.lock = g.lock ∨ (g.lock = none ∧ r.1.lock = some p.pid)
  ghost   : c.wGhost = false → r.1.trouble = g.trouble ∧ r.1.edited = g.edited
  trouble : r.1.trouble = false → g.trouble = false
  edited  : r.1.edited = false → g.edited = false
  raced   : r.1.raced = g.raced
  remoteFrom : r.1.remote = g.remote ∨ g.nextHead = some r.1.remote
  baseFrom : r.2.1.base = p.base ∨ r.2.1.base = g.remote ∨ g.nextHead = some r.2.1.base
  hashFrom : r.2.1.hash = p.hash ∨ r.2.1.hash = g.nextHead.getD 0
  histFrom : r.1.hist = g.hist ∨ r.1.hist = p.policy :: g.hist
  headFrom : ∀ h, r.1.nextHead = some h → g.nextHead = some h ∨ h = g.remote ∨
      (h = g.store.length + 1 ∧ g.store.length + 1 ≤ r.1.store.length) ∨ (h = p.hash ∧ p.hash ≠ 0)

theorem Frame.refl (c : Cmd) (g : G) (p : Proc) (ok : Bool) : Frame c g p (g, p, ok) := by
  constructor <;> intros <;> first | rfl | assumption | exact ⟨[], (List.append_nil _).symm⟩ | exact Or.inl rfl | exact ⟨rfl, rfl⟩ | exact Or.inl ‹_›

theorem frame (c : Cmd) (g : G) (p : Proc) : Frame c g p (exec c g p) := by
  -- one traversal of `exec`: at every leaf the result is an explicit triple.  A field then holds by
  -- `rfl`, or its hypothesis says `true = false` (the command is on the list), or it is a
  -- computation with `setNextHead` / the ghosts that `simp` does (HEAD after `setNextHead` by
  -- `snh_head`, which fires only while `nextHead` is not unfolded: hence the two `simp_all`).
  cases c <;> simp only [exec, Proc.setReg] <;> (repeat' split) <;>
    first
    | exact Frame.refl _ g p _
    | (constructor <;> intros <;> first | rfl | exact Or.inl rfl | exact Or.inl ‹_› | (rename_i h; cases h; done) | (simp_all [G.nextHead, NextBuilt]; done) | (simp_all [snh_head]; done))

theorem flock_ok {g : G} {p : Proc} (h : (exec .flockNB g p).2.2 = true) :
    (exec .flockNB g p).1.lock = some p.pid := by
  simp only [exec] at *
  split <;> simp_all

theorem eq_mvNextTo_of_wDirs {c : Cmd} (h : c.wDirs = true) : c = .mvNextTo := by
  cases c <;> first | rfl | cases h

theorem nonmut_writes {c : Cmd} (h : c.mutating = false) :
    c.wStore = false ∧ c.wRemote = false ∧ c.wHead = false ∧ c.wCurrent = false ∧ c.wHist = false ∧
    c.wNext = false ∧ c.wDirs = false := by
  cases c <;> first | exact ⟨rfl, rfl, rfl, rfl, rfl, rfl, rfl⟩ | cases h

theorem lookupDir_setNested {ds : List (Nat × Dir)} {m n : Nat} :
    (∃ d, lookupDir (setNested ds m) n = some d) ↔ (∃ d, lookupDir ds n = some d) := by
  induction ds with
  | nil => simp [setNested, lookupDir]
  | cons x xs ih =>
    obtain ⟨k, e⟩ := x
    by_cases h1 : k = m <;> by_cases h2 : k = n <;> simp_all [setNested, lookupDir]

theorem lookupDir_setNested_fields {ds : List (Nat × Dir)} {m n : Nat} {d : Dir}
    (h : lookupDir (setNested ds m) n = some d) :
    ∃ d0, lookupDir ds n = some d0 ∧ d0.built = d.built ∧ d0.head = d.head ∧ d0.code = d.code ∧ d0.mixed = d.mixed := by
  induction ds with
  | nil => simp [setNested, lookupDir] at h
  | cons x xs ih =>
    obtain ⟨k, e⟩ := x
    by_cases h1 : k = m <;> by_cases h2 : k = n <;> simp_all [setNested, lookupDir]
    all_goals first | (subst h; simp) | exact ih h

theorem lookupDir_mem {ds : List (Nat × Dir)} {n : Nat} {d : Dir} (h : lookupDir ds n = some d) : (n, d) ∈ ds := by
  induction ds with
  | nil => simp [lookupDir] at h
  | cons x xs ih =>
    obtain ⟨k, e⟩ := x
    by_cases hk : k = n
    · simp [lookupDir, hk] at h; subst h; subst hk; simp
    · simp [lookupDir, hk] at h; exact List.mem_cons_of_mem _ (ih h)

theorem compile_ok {g : G} {p : Proc} (h : (exec .compile g p).2.2 = true) : NextBuilt (exec .compile g p).1 := by
  unfold NextBuilt
  simp only [exec] at *
  (repeat' split) <;> simp_all

theorem mv_dir {g : G} {p : Proc} (h : NextBuilt g) :
    ∃ d, lookupDir (exec .mvNextTo g p).1.dirs p.policy = some d := by
  obtain ⟨d, hd, _⟩ := h
  simp only [exec, hd]
  cases he : lookupDir g.dirs p.policy with
  | none => simp [lookupDir]
  | some e =>
    by_cases hn : e.nested = true
    · simp [hn, he]
    · simp [hn]
      exact lookupDir_setNested.mpr ⟨e, he⟩

/-- Where a policy directory after a command comes from: it was there before (up to the flag
`nested`), or `mv next $POLICY` has just made it out of `next` and recorded its number. -/
theorem dirs_exec {c : Cmd} {g : G} {p : Proc} {n : Nat} {x : Dir} (h : lookupDir (exec c g p).1.dirs n = some x) :
    (∃ x0, lookupDir g.dirs n = some x0 ∧ x0.built = x.built ∧ x0.head = x.head ∧ x0.code = x.code ∧ x0.mixed = x.mixed) ∨
    (c = .mvNextTo ∧ n = p.policy ∧ g.next = some x ∧ (exec c g p).1.hist = p.policy :: g.hist) := by
  cases hw : c.wDirs
  · rw [(frame c g p).dirs hw] at h; exact Or.inl ⟨x, h, rfl, rfl, rfl, rfl⟩
  · obtain rfl := eq_mvNextTo_of_wDirs hw
    simp only [exec] at h
    cases hn : g.next with
    | none => rw [hn] at h; exact Or.inl ⟨x, h, rfl, rfl, rfl, rfl⟩
    | some d0 =>
      rw [hn] at h
      cases he : lookupDir g.dirs p.policy with
      | none =>
        simp only [he, lookupDir] at h
        split at h
        · next hpn => cases h; exact Or.inr ⟨rfl, hpn.symm, rfl, by simp [exec, hn, he]⟩
        · exact Or.inl ⟨x, h, rfl, rfl, rfl, rfl⟩
      | some e =>
        simp only [he] at h
        split at h
        · exact Or.inl ⟨x, h, rfl, rfl, rfl, rfl⟩
        · exact Or.inl (lookupDir_setNested_fields h)

theorem exec_dirs_built {c : Cmd} (g : G) (p : Proc) (hg : ∀ n d, lookupDir g.dirs n = some d → d.built = true)
    (hmv : c = .mvNextTo → NextBuilt g) :
    ∀ n d, lookupDir (exec c g p).1.dirs n = some d → d.built = true := by
  intro n d h
  rcases dirs_exec h with ⟨x0, h0, hb, _⟩ | ⟨hc, _, hx, _⟩
  · rw [← hb]; exact hg n x0 h0
  · obtain ⟨d0, hd0, hb0⟩ := hmv hc
    rw [hx] at hd0; cases hd0; exact hb0

theorem exec_dirs_mono {c : Cmd} (g : G) (p : Proc) {n : Nat} (h : ∃ d, lookupDir g.dirs n = some d) :
    ∃ d, lookupDir (exec c g p).1.dirs n = some d := by
  cases hw : c.wDirs
  · rw [(frame c g p).dirs hw]; exact h
  · obtain rfl := eq_mvNextTo_of_wDirs hw
    simp only [exec]
    cases hn : g.next with
    | none => simpa using h
    | some d0 =>
      cases he : lookupDir g.dirs p.policy with
      | none =>
        simp only [lookupDir]
        by_cases hpn : p.policy = n
        · simp [hpn]
        · simpa [hpn] using h
      | some e =>
        by_cases hne : e.nested = true
        · simpa [hne] using h
        · simp [hne]; exact lookupDir_setNested.mpr h

end NA.C19
