import NA.Proofs.C03Marks
import NA.Proofs.C03Out
import NA.Proofs.C03Sort
/-
C03, vsys pairs with address-groups: the planner state while groups are claimed, and the device's group table beside
it.  Flags of groups only move forward (`GMono`); what the claims mean (`GInv`) and what the group table then looks
like (`SimG`) are kept by the two updates of a target group: a device group is claimed for it (`claimSt`), or it keeps
its new name (`fallSt`).  Core Lean only.
-/
namespace NA.PanOs

def lookupGrp (gs : List Grp) (n : String) : Option (List String) :=
  (gs.find? (·.name == n)).map (·.members)

/-- Between two planner states of one rule phase: the static parts of the group tables and the
object tables are the same; `needed` of a device group only goes up, `needed` of a target group only goes
down (`bn`: what is transferred at the end was `needed` after marking); a target group that has a name on
the device keeps it (and its `needed`). -/
structure GMono (st st' : St) : Prop where
  ag : st'.aGrp.map (·.g) = st.aGrp.map (·.g)
  bg : st'.bGrp.map (fun g => (g.g, g.newName)) = st.bGrp.map (fun g => (g.g, g.newName))
  an : ∀ (i : Nat) (ga ga' : AGrp), st.aGrp[i]? = some ga → st'.aGrp[i]? = some ga' →
    ga.needed = true → ga'.needed = true
  bo : ∀ (i : Nat) (gb gb' : BGrp), st.bGrp[i]? = some gb → st'.bGrp[i]? = some gb' →
    gb.onDev ≠ "" → gb'.onDev = gb.onDev ∧ gb'.needed = gb.needed
  objs : st'.objs = st.objs
  bn : ∀ (i : Nat) (gb gb' : BGrp), st.bGrp[i]? = some gb → st'.bGrp[i]? = some gb' →
    gb'.needed = true → gb.needed = true

theorem GMono.refl (st : St) : GMono st st :=
  ⟨rfl, rfl, fun _ _ _ h h' hn => by rw [h] at h'; cases h'; exact hn,
    fun _ _ _ h h' _ => by rw [h] at h'; cases h'; exact ⟨rfl, rfl⟩, rfl,
    fun _ _ _ h h' hn => by rw [h] at h'; cases h'; exact hn⟩

theorem GMono.aget {st st' : St} (h : GMono st st') {i : Nat} {ga : AGrp} (hi : st.aGrp[i]? = some ga) :
    ∃ ga', st'.aGrp[i]? = some ga' ∧ ga'.g = ga.g :=
  getElem?_of_map_eq h.ag hi

theorem GMono.aget' {st st' : St} (h : GMono st st') {i : Nat} {ga' : AGrp} (hi : st'.aGrp[i]? = some ga') :
    ∃ ga, st.aGrp[i]? = some ga ∧ ga'.g = ga.g := by
  obtain ⟨ga, hga, e⟩ := getElem?_of_map_eq h.ag.symm hi
  exact ⟨ga, hga, e.symm⟩

theorem GMono.bget {st st' : St} (h : GMono st st') {i : Nat} {gb : BGrp} (hi : st.bGrp[i]? = some gb) :
    ∃ gb', st'.bGrp[i]? = some gb' ∧ gb'.g = gb.g ∧ gb'.newName = gb.newName := by
  obtain ⟨gb', hgb', e⟩ := getElem?_of_map_eq h.bg hi
  exact ⟨gb', hgb', (Prod.mk.inj e).1, (Prod.mk.inj e).2⟩

theorem GMono.bget' {st st' : St} (h : GMono st st') {i : Nat} {gb' : BGrp} (hi : st'.bGrp[i]? = some gb') :
    ∃ gb, st.bGrp[i]? = some gb ∧ gb'.g = gb.g ∧ gb'.newName = gb.newName := by
  obtain ⟨gb, hgb, e⟩ := getElem?_of_map_eq h.bg.symm hi
  exact ⟨gb, hgb, (Prod.mk.inj e).1.symm, (Prod.mk.inj e).2.symm⟩

theorem GMono.trans {a b c : St} (h₁ : GMono a b) (h₂ : GMono b c) : GMono a c := by
  refine ⟨h₂.ag.trans h₁.ag, h₂.bg.trans h₁.bg, ?_, ?_, h₂.objs.trans h₁.objs, ?_⟩
  · intro i ga ga'' hi hi'' hn
    obtain ⟨ga', hi', _⟩ := h₁.aget hi
    exact h₂.an i ga' ga'' hi' hi'' (h₁.an i ga ga' hi hi' hn)
  · intro i gb gb'' hi hi'' hne
    obtain ⟨gb', hi', _⟩ := h₁.bget hi
    obtain ⟨e1, e2⟩ := h₁.bo i gb gb' hi hi' hne
    obtain ⟨f1, f2⟩ := h₂.bo i gb' gb'' hi' hi'' (by rw [e1]; exact hne)
    exact ⟨f1.trans e1, f2.trans e2⟩
  · intro i gb gb'' hi hi'' hn
    obtain ⟨gb', hi', _⟩ := h₁.bget hi
    exact h₁.bn i gb gb' hi hi' (h₂.bn i gb' gb'' hi' hi'' hn)

theorem GMono.anames {st st' : St} (h : GMono st st') :
    st'.aGrp.map (·.g.name) = st.aGrp.map (·.g.name) := by
  have := congrArg (List.map (·.name)) h.ag
  simpa [List.map_map, Function.comp_def] using this

theorem GMono.bnames {st st' : St} (h : GMono st st') :
    st'.bGrp.map (·.g.name) = st.bGrp.map (·.g.name) := by
  have := congrArg (List.map (fun p : Grp × String => p.1.name)) h.bg
  simpa [List.map_map, Function.comp_def] using this

theorem GMono.aIdx {st st' : St} (h : GMono st st') (x : String) : st'.aGrpIdx x = st.aGrpIdx x := by
  unfold St.aGrpIdx; rw [h.anames]

theorem GMono.bIdx {st st' : St} (h : GMono st st') (x : String) : st'.bGrpIdx x = st.bGrpIdx x := by
  unfold St.bGrpIdx; rw [h.bnames]

theorem GMono.of_out (st : St) (cs : List Cmd) : GMono st (st.emitAll cs) :=
  let h := GMono.refl st
  ⟨h.ag, h.bg, h.an, h.bo, h.objs, h.bn⟩

theorem GMono.emit (st : St) (c : Cmd) : GMono st (st.emit c) := GMono.of_out st [c]

theorem GMono.update (st : St) (A : List AGrp) (gbi : Nat) (f : BGrp → BGrp)
    (hA : A.map (·.g) = st.aGrp.map (·.g))
    (hAn : Pointwise (fun g g' : AGrp => g.needed = true → g'.needed = true) st.aGrp A)
    (hf : ∀ g, ((f g).g, (f g).newName) = (g.g, g.newName) ∧ ((f g).needed = true → g.needed = true))
    {gb0 : BGrp} (hb : st.bGrp[gbi]? = some gb0) (h0 : gb0.onDev = "") :
    GMono st { st with aGrp := A, bGrp := modAt st.bGrp gbi f } := by
  refine ⟨hA, modAt_map st.bGrp gbi f _ (fun g => (hf g).1), ?_, ?_, rfl, ?_⟩
  · intro j ga ga' hj hj' hn
    obtain ⟨ga'', h, up⟩ := hAn j ga hj
    rw [show A[j]? = some ga' from hj'] at h
    cases h
    exact up hn
  · intro j gb gb' hj hj' hne
    rcases modAt_getElem?_cases hj hj' with ⟨e, _⟩ | e
    · subst e; exact absurd (Option.some.inj (hb.symm.trans hj) ▸ h0) hne
    · subst e; exact ⟨rfl, rfl⟩
  · intro j gb gb' hj hj' hn
    rcases modAt_getElem?_cases hj hj' with ⟨_, e⟩ | e
    · subst e; exact (hf gb).2 hn
    · subst e; exact hn

theorem GMono.claim (st : St) (i gbi : Nat) (name : String)
    {gb0 : BGrp} (hb : st.bGrp[gbi]? = some gb0) (h0 : gb0.onDev = "") :
    GMono st { st with
      aGrp := modAt st.aGrp i (fun g => { g with needed := true }),
      bGrp := modAt st.bGrp gbi (fun g => { g with needed := false, onDev := name }) } :=
  GMono.update st _ gbi _ (modAt_map _ _ _ _ (fun _ => rfl)) (Pointwise.modAt (fun _ => id) _ _ _ (fun _ _ => rfl))
    (fun _ => ⟨rfl, fun h => by cases h⟩) hb h0

theorem GMono.setOnDev (st : St) (gbi : Nat) (name : String)
    {gb0 : BGrp} (hb : st.bGrp[gbi]? = some gb0) (h0 : gb0.onDev = "") :
    GMono st { st with bGrp := modAt st.bGrp gbi (fun g => { g with onDev := name }) } :=
  GMono.update st st.aGrp gbi _ rfl (Pointwise.refl (fun _ => id) _) (fun _ => ⟨rfl, id⟩) hb h0

theorem GMono.amem {st st' : St} (h : GMono st st') {ga' : AGrp} (hx : ga' ∈ st'.aGrp) :
    ∃ ga ∈ st.aGrp, ga.g = ga'.g := mem_of_map_eq h.ag hx

theorem GMono.bmem {st st' : St} (h : GMono st st') {gb' : BGrp} (hx : gb' ∈ st'.bGrp) :
    ∃ gb ∈ st.bGrp, gb.g = gb'.g ∧ gb.newName = gb'.newName := by
  obtain ⟨y, hy, e⟩ := mem_of_map_eq h.bg hx
  simp only [Prod.mk.injEq] at e
  exact ⟨y, hy, e.1, e.2⟩

/-- What the planner state says about the names and members of the groups — no flag, no name on the
device: the part of the invariant that every `GMono` step keeps. -/
structure GStatic (st : St) : Prop where
  anodup : (st.aGrp.map (·.g.name)).Nodup
  ane : ∀ ga ∈ st.aGrp, ga.g.name ≠ ""
  fresh : ∀ gb ∈ st.bGrp, gb.newName ≠ "" ∧ gb.newName ∉ st.aGrp.map (·.g.name)
  aplain : ∀ ga ∈ st.aGrp, ∀ m ∈ ga.g.members, st.aGrpIdx m = none
  bplain : ∀ gb ∈ st.bGrp, ∀ m ∈ gb.g.members, st.bGrpIdx m = none
  amemnd : ∀ ga ∈ st.aGrp, ga.g.members.Nodup
  bmemnd : ∀ gb ∈ st.bGrp, gb.g.members.Nodup
  bne : ∀ gb ∈ st.bGrp, gb.g.name ≠ ""

theorem GStatic.mono {st st' : St} (hm : GMono st st') (h : GStatic st) : GStatic st' := by
  refine ⟨by rw [hm.anames]; exact h.anodup, ?_, ?_, ?_, ?_, ?_, ?_, ?_⟩
  · intro ga' hga'
    obtain ⟨ga, hga, e⟩ := hm.amem hga'
    exact e ▸ h.ane ga hga
  · intro gb' hgb'
    obtain ⟨gb, hgb, _, e⟩ := hm.bmem hgb'
    rw [hm.anames, ← e]; exact h.fresh gb hgb
  · intro ga' hga' m hm'
    obtain ⟨ga, hga, e⟩ := hm.amem hga'
    rw [hm.aIdx]; exact h.aplain ga hga m (e ▸ hm')
  · intro gb' hgb' m hm'
    obtain ⟨gb, hgb, e, _⟩ := hm.bmem hgb'
    rw [hm.bIdx]; exact h.bplain gb hgb m (e ▸ hm')
  · intro ga' hga'
    obtain ⟨ga, hga, e⟩ := hm.amem hga'
    exact e ▸ h.amemnd ga hga
  · intro gb' hgb'
    obtain ⟨gb, hgb, e, _⟩ := hm.bmem hgb'
    exact e ▸ h.bmemnd gb hgb
  · intro gb' hgb'
    obtain ⟨gb, hgb, e, _⟩ := hm.bmem hgb'
    exact e ▸ h.bne gb hgb

/-- What the flags of the groups mean.  `Ref x`: a rule of the target names `x`. -/
structure GInv (Ref : String → Prop) (st : St) : Prop extends GStatic st where
  c0 : ∀ gb ∈ st.bGrp, gb.onDev = "" → Ref gb.g.name → gb.needed = true
  c1 : ∀ gb ∈ st.bGrp, gb.onDev = gb.newName → gb.needed = true
  c2 : ∀ gb ∈ st.bGrp, ∀ ga ∈ st.aGrp, gb.onDev = ga.g.name → ga.needed = true
  c3 : ∀ gb ∈ st.bGrp, gb.onDev = "" ∨ gb.onDev = gb.newName ∨ gb.onDev ∈ st.aGrp.map (·.g.name)
  c4 : ∀ ga ∈ st.aGrp, ga.needed = true → ∃ gb ∈ st.bGrp, gb.onDev = ga.g.name
  c5 : ∀ gb ∈ st.bGrp, gb.onDev ≠ "" → Ref gb.g.name

/-- The group table of the device while the group-member requests are executed. -/
structure SimG (sh : Shared) (Ref : String → Prop) (st : St) (vg : Vsys) : Prop where
  U : ∀ ga ∈ st.aGrp, ga.needed = false →
    ∃ ms, lookupGrp vg.groups ga.g.name = some ms ∧ SameMem ms ga.g.members
  K : ∀ gb ∈ st.bGrp, ∀ ga ∈ st.aGrp, gb.onDev = ga.g.name →
    ∃ ms, lookupGrp vg.groups ga.g.name = some ms ∧ SameMem ms gb.g.members
  mems : ∀ gb ∈ st.bGrp, Ref gb.g.name → ∀ m ∈ gb.g.members, addrRefOk sh vg m = true

theorem GInv.emitAll {Ref : String → Prop} {st : St} (h : GInv Ref st) (cs : List Cmd) : GInv Ref (st.emitAll cs) :=
  ⟨h.toGStatic.mono (GMono.of_out st cs), h.c0, h.c1, h.c2, h.c3, h.c4, h.c5⟩

theorem SimG.emitAll {sh : Shared} {Ref : String → Prop} {st : St} {vg : Vsys} (h : SimG sh Ref st vg) (cs : List Cmd) :
    SimG sh Ref (st.emitAll cs) vg := ⟨h.U, h.K, h.mems⟩

/-- Planner state and the device's group table fit: the invariant of the claims and its simulation. -/
structure Fits (sh : Shared) (Ref : String → Prop) (st : St) (vg : Vsys) : Prop where
  inv : GInv Ref st
  sim : SimG sh Ref st vg

theorem Fits.emitAll {sh : Shared} {Ref : String → Prop} {st : St} {vg : Vsys} (h : Fits sh Ref st vg) (cs : List Cmd) :
    Fits sh Ref (st.emitAll cs) vg := ⟨h.inv.emitAll cs, h.sim.emitAll cs⟩

def claimSt (st : St) (i gbi : Nat) (name : String) : St :=
  { st with
    aGrp := modAt st.aGrp i (fun g => { g with needed := true }),
    bGrp := modAt st.bGrp gbi (fun g => { g with needed := false, onDev := name }) }

theorem claimSt_bIdx (st : St) (i gbi : Nat) (name x : String) : (claimSt st i gbi name).bGrpIdx x = st.bGrpIdx x := by
  unfold St.bGrpIdx claimSt
  rw [modAt_map st.bGrp gbi (fun g => { g with needed := false, onDev := name }) (fun x => x.g.name) (fun _ => rfl)]

theorem claimSt_needed {st : St} (hnd : (st.aGrp.map (·.g.name)).Nodup) {i : Nat} {ga : AGrp} (hi : st.aGrp[i]? = some ga)
    (gbi : Nat) (name : String) {ga' : AGrp} (hga' : ga' ∈ (claimSt st i gbi name).aGrp) (e : ga'.g.name = ga.g.name) :
    ga'.needed = true := by
  obtain ⟨j, hj⟩ := List.getElem?_of_mem hga'
  simp only [claimSt, modAt_getElem?] at hj
  split at hj
  · rename_i e'; subst e'
    rw [hi] at hj; simp only [Option.map_some, Option.some.injEq] at hj
    rw [← hj]
  · have := ListFacts.idx_of_nodup_map hnd hi hj e.symm
    omega

theorem GInv.claim {Ref : String → Prop} {st : St} (h : GInv Ref st) (i gbi : Nat) (ga : AGrp) (gb : BGrp)
    (hi : st.aGrp[i]? = some ga) (hb : st.bGrp[gbi]? = some gb) (h0 : gb.onDev = "") (hr : Ref gb.g.name) :
    GInv Ref (claimSt st i gbi ga.g.name) := by
  have hmono : GMono st (claimSt st i gbi ga.g.name) :=
    GMono.claim st i gbi ga.g.name hb h0
  have hgamem : ga ∈ st.aGrp := List.mem_of_getElem? hi
  have hname_ne : ga.g.name ≠ "" := h.ane ga hgamem
  -- elements of the new tables
  have amem : ∀ ga' ∈ (claimSt st i gbi ga.g.name).aGrp,
      (ga' ∈ st.aGrp) ∨ (ga' = { ga with needed := true }) := fun _ h => mem_modAt_of_getElem? hi h
  have bmem : ∀ gb' ∈ (claimSt st i gbi ga.g.name).bGrp,
      (gb' ∈ st.bGrp) ∨ (gb' = { gb with needed := false, onDev := ga.g.name }) := fun _ h => mem_modAt_of_getElem? hb h
  have hgbmem : gb ∈ st.bGrp := List.mem_of_getElem? hb
  refine ⟨h.toGStatic.mono hmono, ?_, ?_, ?_, ?_, ?_, ?_⟩
  · -- c0
    intro gb' hgb' he hr
    rcases bmem gb' hgb' with h1 | h1
    · exact h.c0 gb' h1 he hr
    · rw [h1] at he; exact absurd he hname_ne
  · -- c1
    intro gb' hgb' he
    rcases bmem gb' hgb' with h1 | h1
    · exact h.c1 gb' h1 he
    · rw [h1] at he
      exact absurd (he ▸ List.mem_map_of_mem hgamem) (h.fresh gb hgbmem).2
  · -- c2
    intro gb' hgb' ga' hga' he
    rcases amem ga' hga' with h2 | h2
    · rcases bmem gb' hgb' with h1 | h1
      · -- both old: the same entries as before the claim
        exact h.c2 gb' h1 ga' h2 he
      · rw [h1] at he
        exact claimSt_needed h.anodup hi gbi _ hga' he.symm
    · rw [h2]
  · -- c3
    intro gb' hgb'
    rw [hmono.anames]
    rcases bmem gb' hgb' with h1 | h1
    · exact h.c3 gb' h1
    · rw [h1]; exact Or.inr (Or.inr (List.mem_map_of_mem hgamem))
  · -- c4
    intro ga' hga' hn'
    have hnew : ({ gb with needed := false, onDev := ga.g.name } : BGrp) ∈ (claimSt st i gbi ga.g.name).bGrp := by
      apply List.mem_of_getElem? (i := gbi)
      simp [claimSt, modAt_getElem?, hb]
    rcases amem ga' hga' with h1 | h1
    · obtain ⟨gb0, hgb0, e0⟩ := h.c4 ga' h1 hn'
      -- the old witness is still there (it is not the entry `gbi`, whose name on the device was empty)
      obtain ⟨j, hj⟩ := List.getElem?_of_mem hgb0
      have hjne : j ≠ gbi := by
        intro e
        subst e
        rw [hb] at hj; cases hj
        rw [h0] at e0
        exact h.ane ga' h1 e0.symm
      exact ⟨gb0, mem_modAt_of_ne hj hjne, e0⟩
    · rw [h1]; exact ⟨_, hnew, rfl⟩
  · -- c5
    intro gb' hgb' hne'
    rcases bmem gb' hgb' with h1 | h1
    · exact h.c5 gb' h1 hne'
    · rw [h1]; exact hr

def fallSt (st : St) (gbi : Nat) (name : String) : St :=
  { st with bGrp := modAt st.bGrp gbi (fun g => { g with onDev := name }) }

theorem fallSt_bIdx (st : St) (gbi : Nat) (name x : String) : (fallSt st gbi name).bGrpIdx x = st.bGrpIdx x := by
  unfold St.bGrpIdx fallSt
  rw [modAt_map st.bGrp gbi (fun g => { g with onDev := name }) (fun x => x.g.name) (fun _ => rfl)]

theorem GInv.fall {Ref : String → Prop} {st : St} (h : GInv Ref st) (gbi : Nat) (gb : BGrp)
    (hb : st.bGrp[gbi]? = some gb) (h0 : gb.onDev = "") (hn : gb.needed = true) (hr : Ref gb.g.name) :
    GInv Ref (fallSt st gbi gb.newName) := by
  have hgbmem : gb ∈ st.bGrp := List.mem_of_getElem? hb
  obtain ⟨hne, hfresh⟩ := h.fresh gb hgbmem
  have bmem : ∀ gb' ∈ (fallSt st gbi gb.newName).bGrp,
      (gb' ∈ st.bGrp) ∨ (gb' = { gb with onDev := gb.newName }) := fun _ h => mem_modAt_of_getElem? hb h
  refine ⟨h.toGStatic.mono (GMono.setOnDev st gbi gb.newName hb h0),
    ?_, ?_, ?_, ?_, ?_, ?_⟩
  · intro gb' hgb' he hr
    rcases bmem gb' hgb' with h1 | h1
    · exact h.c0 gb' h1 he hr
    · rw [h1] at he; exact absurd he hne
  · intro gb' hgb' he
    rcases bmem gb' hgb' with h1 | h1
    · exact h.c1 gb' h1 he
    · rw [h1]; exact hn
  · intro gb' hgb' ga' hga' he
    rcases bmem gb' hgb' with h1 | h1
    · exact h.c2 gb' h1 ga' hga' he
    · rw [h1] at he
      simp only at he
      exact absurd (by rw [he]; exact List.mem_map_of_mem hga') hfresh
  · intro gb' hgb'
    rcases bmem gb' hgb' with h1 | h1
    · exact h.c3 gb' h1
    · rw [h1]; exact Or.inr (Or.inl rfl)
  · intro ga hga hn'
    obtain ⟨gb0, hgb0, e0⟩ := h.c4 ga hga hn'
    obtain ⟨j, hj⟩ := List.getElem?_of_mem hgb0
    have hjne : j ≠ gbi := by
      intro e
      subst e
      rw [hb] at hj; cases hj
      rw [h0] at e0
      exact h.ane ga hga e0.symm
    exact ⟨gb0, mem_modAt_of_ne hj hjne, e0⟩
  · intro gb' hgb' hne'
    rcases bmem gb' hgb' with h1 | h1
    · exact h.c5 gb' h1 hne'
    · rw [h1]; exact hr

theorem SimG.fall {sh : Shared} {Ref : String → Prop} {st : St} {vg : Vsys} (hs : SimG sh Ref st vg) (h : GInv Ref st)
    (gbi : Nat) (gb : BGrp) (hb : st.bGrp[gbi]? = some gb) :
    SimG sh Ref (fallSt st gbi gb.newName) vg := by
  have hgbmem : gb ∈ st.bGrp := List.mem_of_getElem? hb
  have bmem : ∀ gb' ∈ (fallSt st gbi gb.newName).bGrp,
      (gb' ∈ st.bGrp) ∨ (gb' = { gb with onDev := gb.newName }) := fun _ h => mem_modAt_of_getElem? hb h
  refine ⟨hs.U, ?_, ?_⟩
  · intro gb' hgb' ga' hga' he
    rcases bmem gb' hgb' with h1 | h1
    · exact hs.K gb' h1 ga' hga' he
    · rw [h1] at he
      simp only at he
      exact absurd (by rw [he]; exact List.mem_map_of_mem hga') (h.fresh gb hgbmem).2
  · intro gb' hgb' hr m hm
    rcases bmem gb' hgb' with h1 | h1
    · exact hs.mems gb' h1 hr m hm
    · rw [h1] at hm hr; exact hs.mems gb hgbmem hr m hm

theorem SimG.claim {sh : Shared} {Ref : String → Prop} {st : St} {vg vg' : Vsys} (hs : SimG sh Ref st vg) (h : GInv Ref st)
    (i gbi : Nat) (ga : AGrp) (gb : BGrp) (hi : st.aGrp[i]? = some ga) (hb : st.bGrp[gbi]? = some gb)
    (hnn : ga.needed = false)
    (haddr : ∀ m, addrRefOk sh vg' m = addrRefOk sh vg m)
    (hother : ∀ n, n ≠ ga.g.name → lookupGrp vg'.groups n = lookupGrp vg.groups n)
    (hthis : ∃ ms, lookupGrp vg'.groups ga.g.name = some ms ∧ SameMem ms gb.g.members) :
    SimG sh Ref (claimSt st i gbi ga.g.name) vg' := by
  have hgamem : ga ∈ st.aGrp := List.mem_of_getElem? hi
  have hgbmem : gb ∈ st.bGrp := List.mem_of_getElem? hb
  have amem : ∀ ga' ∈ (claimSt st i gbi ga.g.name).aGrp,
      (ga' ∈ st.aGrp) ∨ (ga' = { ga with needed := true }) := fun _ h => mem_modAt_of_getElem? hi h
  have bmem : ∀ gb' ∈ (claimSt st i gbi ga.g.name).bGrp,
      (gb' ∈ st.bGrp) ∨ (gb' = { gb with needed := false, onDev := ga.g.name }) := fun _ h => mem_modAt_of_getElem? hb h
  refine ⟨?_, ?_, ?_⟩
  · intro ga' hga' hn
    have hne : ga'.g.name ≠ ga.g.name := fun e => by
      rw [claimSt_needed h.anodup hi gbi _ hga' e] at hn; cases hn
    rcases amem ga' hga' with h1 | h1
    · rw [hother _ hne]; exact hs.U ga' h1 hn
    · rw [h1] at hn; cases hn
  · intro gb' hgb' ga' hga' he
    by_cases hnm : ga'.g.name = ga.g.name
    · -- the claimed group
      rw [hnm]
      rcases bmem gb' hgb' with h1 | h1
      · -- an old target group with that name on the device: then `ga` was needed already
        have : ga.needed = true := h.c2 gb' h1 ga hgamem (he.trans hnm)
        rw [hnn] at this; cases this
      · rw [h1]; exact hthis
    · rw [hother _ hnm]
      rcases amem ga' hga' with h2 | h2
      · rcases bmem gb' hgb' with h1 | h1
        · exact hs.K gb' h1 ga' h2 he
        · rw [h1] at he; exact absurd he.symm hnm
      · rw [h2] at hnm; exact absurd rfl hnm
  · intro gb' hgb' hr m hm
    rw [haddr]
    rcases bmem gb' hgb' with h1 | h1
    · exact hs.mems gb' h1 hr m hm
    · rw [h1] at hm hr; exact hs.mems gb hgbmem hr m hm

end NA.PanOs
