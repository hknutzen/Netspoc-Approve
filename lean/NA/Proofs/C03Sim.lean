import NA.Proofs.C03Spec
import NA.Core.ListFacts
/-
C03, accepted scripts on the strict device (`Runs`: composition, inversion, what every step
preserves the script preserves), how one accepted request acts on the rule found under a name
(`findRule`, `exec_findRule`), and what a script of requests on rules leaves alone, read off the requests
(`Cmd.ruleKey`, `Runs.frame`).  Facts about the strict device only (`Spec/PanOs.lean`); core Lean only.
-/
namespace NA.PanOs

theorem execAll_append (sh : Shared) : ∀ (cs ds : List Cmd) (v : Vsys),
    (execAll sh v cs).2.2 = none →
    execAll sh v (cs ++ ds) =
      ((execAll sh (execAll sh v cs).1 ds).1, cs.length + (execAll sh (execAll sh v cs).1 ds).2.1,
        (execAll sh (execAll sh v cs).1 ds).2.2) := by
  intro cs
  induction cs with
  | nil => intro ds v _; simp [execAll]
  | cons c cs ih =>
    intro ds v h
    cases hc : exec sh v c with
    | error e => rw [execAll_cons_err hc] at h; cases h
    | ok v' =>
      rw [execAll_cons_ok hc] at h
      simp only [List.cons_append]
      rw [execAll_cons_ok hc, execAll_cons_ok hc, ih ds v' h]
      simp only [List.length_cons]
      congr 2
      omega

def Runs (sh : Shared) (v : Vsys) (cs : List Cmd) (w : Vsys) : Prop :=
  execAll sh v cs = (w, cs.length, none)

theorem Runs.nil (sh : Shared) (v : Vsys) : Runs sh v [] v := rfl

theorem Runs.cons {sh : Shared} {v v' w : Vsys} {c : Cmd} {cs : List Cmd}
    (h : exec sh v c = .ok v') (hr : Runs sh v' cs w) : Runs sh v (c :: cs) w := by
  unfold Runs at hr ⊢
  rw [execAll_cons_ok h, hr]
  rfl

theorem Runs.append {sh : Shared} {v w u : Vsys} {cs ds : List Cmd}
    (h₁ : Runs sh v cs w) (h₂ : Runs sh w ds u) : Runs sh v (cs ++ ds) u := by
  unfold Runs at *
  rw [execAll_append sh cs ds v (by rw [h₁]), h₁, h₂]
  simp

theorem Runs.single {sh : Shared} {v v' : Vsys} {c : Cmd} (h : exec sh v c = .ok v') : Runs sh v [c] v' :=
  Runs.cons h (Runs.nil sh v')

theorem runs_nil_eq {sh : Shared} {v w : Vsys} (h : Runs sh v [] w) : w = v :=
  (congrArg Prod.fst h).symm

theorem Runs.cons_inv {sh : Shared} {v w : Vsys} {c : Cmd} {cs : List Cmd} (h : Runs sh v (c :: cs) w) :
    ∃ v', exec sh v c = .ok v' ∧ Runs sh v' cs w := by
  unfold Runs at h
  cases hx : exec sh v c with
  | error e => rw [execAll_cons_err hx] at h; cases h
  | ok v' =>
    rw [execAll_cons_ok hx] at h
    simp only [Prod.mk.injEq, List.length_cons, Nat.add_right_cancel_iff] at h
    exact ⟨v', rfl, Prod.ext h.1 (Prod.ext h.2.1 h.2.2)⟩

theorem Runs.of_append {sh : Shared} : ∀ (cs ds : List Cmd) (v u : Vsys), Runs sh v (cs ++ ds) u →
    ∃ w, Runs sh v cs w ∧ Runs sh w ds u := by
  intro cs
  induction cs with
  | nil => intro ds v u h; exact ⟨v, Runs.nil sh v, h⟩
  | cons c cs ih =>
    intro ds v u h
    obtain ⟨v', hx, h'⟩ := Runs.cons_inv h
    obtain ⟨w, h1, h2⟩ := ih ds v' u h'
    exact ⟨w, Runs.cons hx h1, h2⟩

theorem Runs.take {sh : Shared} {v w : Vsys} {cs : List Cmd} (h : Runs sh v cs w) (k : Nat) :
    (execAll sh v (cs.take k)).2 = (min k cs.length, none) := by
  rw [← List.take_append_drop k cs] at h
  obtain ⟨u, hu, _⟩ := Runs.of_append _ _ _ _ h
  rw [hu, List.length_take]

theorem Runs.preserves {sh : Shared} {P : Vsys → Prop} {Q : Cmd → Prop}
    (step : ∀ {v v' : Vsys} {c : Cmd}, P v → Q c → exec sh v c = .ok v' → P v') :
    ∀ {cs : List Cmd} {v w : Vsys}, P v → (∀ c ∈ cs, Q c) → Runs sh v cs w → P w := by
  intro cs
  induction cs with
  | nil => intro v w hv _ hr; rw [runs_nil_eq hr]; exact hv
  | cons c cs ih =>
    intro v w hv hq hr
    obtain ⟨v', hx, hr'⟩ := hr.cons_inv
    exact ih (step hv (hq c (List.mem_cons_self ..)) hx) (fun c' hc' => hq c' (List.mem_cons_of_mem _ hc')) hr'

theorem find?_key_filter_ne {α : Type} (key : α → String) (l : List α) (m n : String) :
    (l.filter (fun x => key x != m)).find? (fun x => key x == n) =
      if n == m then none else l.find? (fun x => key x == n) := by
  split
  · rename_i h
    rw [List.find?_eq_none]
    intro x hx
    simpa [beq_iff_eq.mp h] using (List.mem_filter.mp hx).2
  · rename_i h
    exact ListFacts.find?_filter_of_imp _ _ l fun x _ e => by simpa [eq_of_beq e] using h

theorem find?_key_modify {α : Type} (key : α → String) (g : α → α) (hg : ∀ x, key (g x) = key x)
    (l : List α) (m n : String) :
    (l.map (fun x => if key x == m then g x else x)).find? (fun x => key x == n) =
      if n == m then (l.find? (fun x => key x == n)).map g else l.find? (fun x => key x == n) := by
  have hkey : ∀ x, key (if key x == m then g x else x) = key x := fun x => by split <;> simp [hg]
  rw [List.find?_map, show ((fun x => key x == n) ∘ fun x => if key x == m then g x else x) =
    fun x => key x == n from funext fun x => by simp only [Function.comp_apply, hkey]]
  cases hf : l.find? (fun x => key x == n) with
  | none => simp
  | some x =>
    have hx : key x = n := by simpa using List.find?_some hf
    simp only [Option.map_some, hx]
    split <;> rfl

theorem findRule_filter (rs : List Rule) (m n : String) :
    findRule (rs.filter (·.name != m)) n = if n == m then none else findRule rs n :=
  find?_key_filter_ne Rule.name rs m n

theorem findRule_modifyRule (rs : List Rule) (m n : String) (g : Rule → Rule)
    (hg : ∀ r, (g r).name = r.name) :
    findRule (modifyRule rs m g) n = if n == m then (findRule rs n).map g else findRule rs n :=
  find?_key_modify Rule.name g hg rs m n

theorem findRule_append_single (rs : List Rule) (r : Rule) (n : String) :
    findRule (rs ++ [r]) n = (findRule rs n).or (if r.name == n then some r else none) :=
  ListFacts.find?_append_single _ rs r

theorem findRule_insertBefore (d : String) (r : Rule) (rs : List Rule) (n : String)
    (hr : findRule rs r.name = none) :
    findRule (insertBefore d r rs) n = if r.name == n then some r else findRule rs n := by
  unfold findRule at *
  induction rs with
  | nil => cases hb : r.name == n <;> simp [insertBefore, hb]
  | cons x xs ih =>
    rw [List.find?_cons] at hr
    cases hxr : x.name == r.name with
    | true => rw [hxr] at hr; cases hr
    | false =>
      rw [hxr] at hr
      simp only [insertBefore]
      split
      · rw [List.find?_cons]
        cases r.name == n <;> rfl
      · rw [List.find?_cons, List.find?_cons, ih hr]
        cases hxn : x.name == n with
        | false => rfl
        | true =>
          -- `x` is found first; `r` has another name than `x`, so it is not the one asked for
          have hrn : (r.name == n) = false := beq_eq_false_iff_ne.mpr fun e =>
            beq_eq_false_iff_ne.mp hxr ((beq_iff_eq.mp hxn).trans e.symm)
          rw [hrn]
          rfl

theorem findRule_isSome_iff (rs : List Rule) (n : String) :
    (findRule rs n).isSome ↔ (ruleNames rs).contains n = true := by
  cases h : findRule rs n with
  | none =>
    have := (findRule_none_iff rs n).mp h
    simp only [Option.isSome_none, Bool.false_eq_true, this]
  | some r =>
    have := (findRule_name h).2
    simp only [Option.isSome_some, this]

theorem getD_of_getElem? {l : List Rule} {i : Nat} {r : Rule} (h : l[i]? = some r) : l.getD i default = r := by
  simp [List.getD_eq_getElem?_getD, h]

theorem getElem?_of_lt (l : List Rule) (i : Nat) (h : i < l.length) : l[i]? = some (l.getD i default) := by
  simp [List.getD_eq_getElem?_getD, List.getElem?_eq_getElem h]

def ruleEffect (c : Cmd) (n : String) (cur : Option Rule) : Option Rule :=
  match c with
  | .delRule m => if n == m then none else cur
  | .setRule r => if r.name == n then some r else cur
  | .delMem m f x => if n == m then cur.map (fun r => r.set f ((r.get f).filter (· != x))) else cur
  | .addMem m f ms => if n == m then cur.map (fun r => r.set f (mergeMembers (r.get f) ms)) else cur
  | .editList m f ms => if n == m then cur.map (fun r => r.set f ms) else cur
  | _ => cur

theorem exec_findRule {sh : Shared} {v v' : Vsys} {c : Cmd} (h : exec sh v c = .ok v') (n : String) :
    findRule v'.rules n = ruleEffect c n (findRule v.rules n) := by
  cases c with
  | delRule m =>
    obtain ⟨_, rfl⟩ := exec_delRule_iff.mp h
    exact findRule_filter _ _ _
  | setRule r =>
    obtain ⟨hc, _, _, rfl⟩ := exec_setRule_iff.mp h
    have hnone : findRule v.rules r.name = none := (findRule_none_iff _ _).mpr hc
    simp only [ruleEffect, findRule_append_single]
    by_cases hrn : r.name = n
    · subst hrn; simp [hnone]
    · have : (r.name == n) = false := by simpa using hrn
      simp only [this, Bool.false_eq_true, if_false]
      cases findRule v.rules n <;> rfl
  | move m d =>
    obtain ⟨r, hf, _, _, rfl⟩ := exec_move_iff.mp h
    have hrn := (findRule_name hf).1
    simp only [ruleEffect]
    rw [findRule_insertBefore d r _ n (by rw [findRule_filter]; simp [hrn]), findRule_filter]
    by_cases hnm : n = m
    · subst hnm; simp [hrn, hf]
    · have h1 : (r.name == n) = false := by
        have : r.name ≠ n := fun e => hnm (e.symm.trans hrn)
        simpa using this
      have h2 : (n == m) = false := by simpa using hnm
      simp [h1, h2]
  | delMem m f x =>
    obtain ⟨_, _, _, rfl⟩ := exec_delMem_iff.mp h
    exact findRule_modifyRule _ _ _ _ (fun r => Rule.set_name r f _)
  | addMem m f ms =>
    obtain ⟨_, _, rfl⟩ := exec_addMem_iff.mp h
    exact findRule_modifyRule _ _ _ _ (fun r => Rule.set_name r f _)
  | editList m f ms =>
    obtain ⟨_, _, rfl⟩ := exec_editList_iff.mp h
    exact findRule_modifyRule _ _ _ _ (fun r => Rule.set_name r f _)
  | setAddr _ _ | editAddr _ _ | setSvc _ _ | editSvc _ _ | setGrp _ _ | setSGrp _ _ | delGMem _ _
  | delGrp _ | delAddr _ | delSGrp _ | delSvc _ | bad _ =>
    rw [(exec_frame h).2.2 rfl]; rfl

/-- The rule whose entry a request on rules writes (`move` changes the order only). -/
def Cmd.ruleKey : Cmd → Option String
  | .delRule n | .delMem n _ _ | .addMem n _ _ | .editList n _ _ => some n
  | .setRule r => some r.name
  | _ => none

theorem ruleEffect_other {c : Cmd} {n : String} (h : c.ruleKey ≠ some n) (cur : Option Rule) :
    ruleEffect c n cur = cur := by
  cases c with
  | setRule r => exact if_neg fun e => h (congrArg some (beq_iff_eq.mp e))
  | delRule m | delMem m f x | addMem m f ms | editList m f ms =>
    exact if_neg fun e => h (congrArg some (beq_iff_eq.mp e).symm)
  | _ => rfl

theorem Runs.frame {sh : Shared} : ∀ {cs : List Cmd} {v w : Vsys}, Runs sh v cs w → (∀ c ∈ cs, c.onRules = true) →
    SameTables v w ∧ ∀ n, (∀ c ∈ cs, c.ruleKey ≠ some n) → findRule w.rules n = findRule v.rules n := by
  intro cs
  induction cs with
  | nil => intro v w h _; rw [runs_nil_eq h]; exact ⟨SameTables.refl v, fun _ _ => rfl⟩
  | cons c cs ih =>
    intro v w h hon
    obtain ⟨v', hx, h'⟩ := h.cons_inv
    obtain ⟨s, f⟩ := ih h' (fun c' hc' => hon c' (List.mem_cons_of_mem _ hc'))
    refine ⟨(exec_onRules_static hx (hon c List.mem_cons_self)).trans s, fun n hn => ?_⟩
    rw [f n (fun c' hc' => hn c' (List.mem_cons_of_mem _ hc')), exec_findRule hx n,
      ruleEffect_other (hn c List.mem_cons_self)]

theorem SameTables.refOk (sh : Shared) {v w : Vsys} (h : SameTables v w) (f : Fld) (m : String) :
    refOk sh w f m = refOk sh v f m := by
  cases f <;> simp [NA.PanOs.refOk, addrRefOk, srvRefOk, h.addrs, h.svcs, h.groups, h.sgroups]

theorem exec_delRule_ok (sh : Shared) (v : Vsys) (n : String) (h : (findRule v.rules n).isSome) :
    ∃ v', exec sh v (.delRule n) = .ok v' :=
  ⟨_, exec_delRule_iff.mpr ⟨(findRule_isSome_iff v.rules n).mp h, rfl⟩⟩

theorem exec_delMem_ok (sh : Shared) (v : Vsys) (n : String) (f : Fld) (m : String) (r : Rule)
    (h : findRule v.rules n = some r) (hm : m ∈ r.get f) :
    ∃ v', exec sh v (.delMem n f m) = .ok v' :=
  ⟨_, exec_delMem_iff.mpr ⟨r, h, by simpa using hm, rfl⟩⟩

theorem exec_addMem_ok (sh : Shared) (v : Vsys) (n : String) (f : Fld) (ms : List String)
    (h : (findRule v.rules n).isSome) (hr : ∀ m ∈ ms, refOk sh v f m = true) :
    ∃ v', exec sh v (.addMem n f ms) = .ok v' :=
  ⟨_, exec_addMem_iff.mpr ⟨(findRule_isSome_iff v.rules n).mp h, List.all_eq_true.mpr hr, rfl⟩⟩

theorem exec_editList_ok (sh : Shared) (v : Vsys) (n : String) (f : Fld) (ms : List String)
    (h : (findRule v.rules n).isSome) (hr : ∀ m ∈ ms, refOk sh v f m = true) :
    ∃ v', exec sh v (.editList n f ms) = .ok v' :=
  ⟨_, exec_editList_iff.mpr ⟨(findRule_isSome_iff v.rules n).mp h, List.all_eq_true.mpr hr, rfl⟩⟩

theorem exec_setRule_ok (sh : Shared) (v : Vsys) (r : Rule) (h : findRule v.rules r.name = none)
    (hs : ∀ m ∈ r.src, refOk sh v .src m = true) (hd : ∀ m ∈ r.dst, refOk sh v .dst m = true)
    (hv : ∀ m ∈ r.srv, refOk sh v .srv m = true) :
    ∃ v', exec sh v (.setRule r) = .ok v' :=
  ⟨_, exec_setRule_iff.mpr ⟨(findRule_none_iff v.rules r.name).mp h,
    Bool.and_eq_true_iff.mpr ⟨List.all_eq_true.mpr hs, List.all_eq_true.mpr hd⟩, List.all_eq_true.mpr hv, rfl⟩⟩

theorem exec_move_ok (sh : Shared) (v : Vsys) (n d : String) (h : (findRule v.rules n).isSome)
    (hd : (findRule v.rules d).isSome) (hne : n ≠ d) :
    ∃ v', exec sh v (.move n d) = .ok v' := by
  obtain ⟨r, hf⟩ := Option.isSome_iff_exists.mp h
  exact ⟨_, exec_move_iff.mpr ⟨r, hf, hne, (findRule_isSome_iff v.rules d).mp hd, rfl⟩⟩

theorem mem_mergeMembers (old new : List String) (x : String) :
    x ∈ mergeMembers old new ↔ x ∈ old ∨ x ∈ new := by
  unfold mergeMembers
  induction new generalizing old with
  | nil => simp
  | cons y ys ih =>
    rw [List.foldl_cons, ih, List.mem_cons, ← or_assoc]
    split
    · rename_i hc
      rw [or_iff_left_of_imp (a := x ∈ old) (b := x = y) (fun e => e ▸ List.contains_iff_mem.mp hc)]
    · rw [List.mem_append, List.mem_singleton]

end NA.PanOs
