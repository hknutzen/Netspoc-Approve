import NA.Model.NsxDiff
import NA.Proofs.C04Store
/-!
Unique names: `genUniqRuleNames` / `genUniqGroupNames` after the repair f4446e1, both on the loop `renameIds`.
-/
namespace NA.Nsx

theorem freshId_spec {used : List String} {base n : String} (h : freshId used base = some n) : n ∉ used := by
  unfold freshId at h
  have := List.find?_some h
  simpa using this

theorem renameIds_cons {aIds : List String} {id : String} {rest used out : List String}
    (h : renameIds aIds (id :: rest) used = some out) :
    ∃ n out', out = n :: out' ∧
      ((aIds.contains id = true ∧ freshId used id = some n ∧ renameIds aIds rest (n :: used) = some out') ∨
       (aIds.contains id = false ∧ n = id ∧ renameIds aIds rest used = some out')) := by
  rw [renameIds] at h
  by_cases hc : aIds.contains id = true
  · rw [if_pos hc] at h
    cases hf : freshId used id with
    | none => rw [hf] at h; cases h
    | some n =>
      rw [hf] at h
      obtain ⟨out', hr, rfl⟩ := Option.map_eq_some_iff.mp h
      exact ⟨n, out', rfl, Or.inl ⟨hc, rfl, hr⟩⟩
  · rw [if_neg hc] at h
    obtain ⟨out', hr, rfl⟩ := Option.map_eq_some_iff.mp h
    exact ⟨id, out', rfl, Or.inr ⟨Bool.eq_false_iff.mpr hc, rfl, hr⟩⟩

theorem renameIds_spec (aIds : List String) :
    ∀ (ids used out : List String), renameIds aIds ids used = some out →
      (∀ x ∈ aIds, x ∈ used) → (∀ x ∈ ids, x ∈ used) → ids.Nodup →
      out.Nodup ∧ (∀ x ∈ out, x ∉ aIds) ∧ (∀ x ∈ out, x ∈ ids ∨ x ∉ used) := by
  intro ids
  induction ids with
  | nil =>
    intro used out h _ _ _
    cases h; simp
  | cons id rest ih =>
    intro used out h ha hi hn
    obtain ⟨hid, hrest⟩ := List.nodup_cons.mp hn
    obtain ⟨n, out', rfl, ⟨_, hf, hr⟩ | ⟨hc, rfl, hr⟩⟩ := renameIds_cons h
    · have hfresh := freshId_spec hf
      obtain ⟨h2, h3, h4⟩ := ih (n :: used) out' hr
        (fun x hx => List.mem_cons_of_mem _ (ha x hx))
        (fun x hx => List.mem_cons_of_mem _ (hi x (List.mem_cons_of_mem _ hx))) hrest
      refine ⟨List.nodup_cons.mpr ⟨?_, h2⟩, ?_, ?_⟩
      · intro hm
        rcases h4 n hm with h | h
        · exact hfresh (hi n (List.mem_cons_of_mem _ h))
        · exact h List.mem_cons_self
      · intro x hx
        rcases List.mem_cons.mp hx with h | h
        · subst h; exact fun hm => hfresh (ha x hm)
        · exact h3 x h
      · intro x hx
        rcases List.mem_cons.mp hx with h | h
        · subst h; exact Or.inr hfresh
        · rcases h4 x h with h' | h'
          · exact Or.inl (List.mem_cons_of_mem _ h')
          · exact Or.inr fun hm => h' (List.mem_cons_of_mem _ hm)
    · obtain ⟨h2, h3, h4⟩ := ih used out' hr ha (fun x hx => hi x (List.mem_cons_of_mem _ hx)) hrest
      refine ⟨List.nodup_cons.mpr ⟨?_, h2⟩, ?_, ?_⟩
      · intro hm
        rcases h4 n hm with h | h
        · exact hid h
        · exact h (hi n List.mem_cons_self)
      · intro x hx
        rcases List.mem_cons.mp hx with h | h
        · subst h; intro hm; simp [hm] at hc
        · exact h3 x h
      · intro x hx
        rcases List.mem_cons.mp hx with h | h
        · subst h; exact Or.inl List.mem_cons_self
        · rcases h4 x h with h' | h'
          · exact Or.inl (List.mem_cons_of_mem _ h')
          · exact Or.inr h'

theorem renameIds_length (aIds : List String) :
    ∀ (ids used out : List String), renameIds aIds ids used = some out → out.length = ids.length := by
  intro ids
  induction ids with
  | nil => intro used out h; cases h; rfl
  | cons id rest ih =>
    intro used out h
    obtain ⟨n, out', rfl, ⟨_, _, hr⟩ | ⟨_, _, hr⟩⟩ := renameIds_cons h <;>
      rw [List.length_cons, List.length_cons, ih _ _ hr]

/-- The shape `genUniqRules` and `genUniqGroups` share. -/
theorem zipWith_renamed {α : Type} {key : α → String} (set : α → String → α) (hk : ∀ x i, key (set x i) = i)
    {aIds used : List String} {b bR : List α}
    (h : (renameIds aIds (b.map key) used).map (fun ids => List.zipWith set b ids) = some bR) :
    renameIds aIds (b.map key) used = some (bR.map key) ∧ Forall2 (fun x' x => x' = set x (key x')) bR b := by
  obtain ⟨ids, hr, rfl⟩ := Option.map_eq_some_iff.mp h
  obtain ⟨e1, e2⟩ := zipWith_setKey set hk b ids (by simpa using renameIds_length aIds _ _ _ hr)
  rw [e1]
  exact ⟨hr, e2⟩

def SameButId (r' r : Rule) : Prop := r' = { r with id := r'.id }

theorem genUniqRules_same {aIds : List String} {b bR : List Rule} (h : genUniqRules aIds b = some bR) :
    Forall2 SameButId bR b := (zipWith_renamed _ (fun _ _ => rfl) h).2

theorem genUniqRules_spec {aIds : List String} {b bR : List Rule} (h : genUniqRules aIds b = some bR)
    (hb : (rids b).Nodup) :
    (rids bR).Nodup ∧ (∀ x ∈ rids bR, x ∉ aIds) ∧ Forall2 SameButId bR b := by
  obtain ⟨hr, hs⟩ := zipWith_renamed _ (fun _ _ => rfl) h
  obtain ⟨h2, h3, _⟩ := renameIds_spec aIds _ _ _ hr
    (fun x hx => List.mem_append.mpr (Or.inl hx)) (fun x hx => List.mem_append.mpr (Or.inr hx)) hb
  exact ⟨h2, h3, hs⟩

def SameButIdG (g' g : Group) : Prop := g' = { g with id := g'.id }

theorem freshId_managed {used : List String} {base n : String} (h : freshId used base = some n)
    (hb : managed base = true) : managed n = true := by
  unfold freshId at h
  have hm := List.mem_of_find?_eq_some h
  obtain ⟨i, _, e⟩ := List.mem_map.mp hm
  subst e
  unfold managed at *
  rw [String.append_assoc]
  exact hasPrefix_append_right _ hb

theorem renameIds_managed (aIds : List String) :
    ∀ (ids used out : List String), renameIds aIds ids used = some out → (∀ x ∈ ids, managed x = true) →
      ∀ x ∈ out, managed x = true := by
  intro ids
  induction ids with
  | nil => intro used out h _; cases h; exact fun _ hx => nomatch hx
  | cons id rest ih =>
    intro used out h hm
    have hrest := fun y hy => hm y (List.mem_cons_of_mem _ hy)
    obtain ⟨n, out', rfl, ⟨_, hf, hr⟩ | ⟨_, rfl, hr⟩⟩ := renameIds_cons h
    · exact List.forall_mem_cons.mpr ⟨freshId_managed hf (hm id List.mem_cons_self), ih _ _ hr hrest⟩
    · exact List.forall_mem_cons.mpr ⟨hm n List.mem_cons_self, ih _ _ hr hrest⟩

theorem genUniqGroups_spec {aIds : List String} {b bG : List Group} (h : genUniqGroups aIds b = some bG)
    (hb : (gids b).Nodup) (hm : ∀ g ∈ b, managed g.id = true) :
    (gids bG).Nodup ∧ (∀ x ∈ gids bG, x ∉ aIds) ∧ (∀ x ∈ gids bG, managed x = true) ∧ Forall2 SameButIdG bG b := by
  obtain ⟨hr, hs⟩ := zipWith_renamed _ (fun _ _ => rfl) h
  obtain ⟨h2, h3, _⟩ := renameIds_spec aIds _ _ _ hr
    (fun x hx => List.mem_append.mpr (Or.inl hx)) (fun x hx => List.mem_append.mpr (Or.inr hx)) hb
  refine ⟨h2, h3, renameIds_managed aIds _ _ _ hr fun x hx => ?_, hs⟩
  obtain ⟨g, hg, e⟩ := List.mem_map.mp hx
  exact e ▸ hm g hg

end NA.Nsx
