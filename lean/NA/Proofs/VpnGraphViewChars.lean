import NA.Model.VpnGraphDev
/-!
# The content view on lists of characters

`view` builds strings and sorts them.  The order of `String` is that of the character lists, so every comparison of two strings
decodes both of them, which is slow to evaluate in the kernel.  `viewL` is `view` with every string replaced by its list of
characters (the strings of the configuration are decoded once, at the leaves); `toList_view` says that the two agree, and the
concrete test vectors compare views through `view_eq_iff` / `view_beq`.
-/
namespace NA.Vpn.G
open NA.Vpn (insertS interleave)

def insertL (x : List Char) : List (List Char) → List (List Char)
  | [] => [x]
  | y :: ys => if x ≤ y then x :: y :: ys else y :: insertL x ys
def sortL (l : List (List Char)) : List (List Char) := l.foldr insertL []

def interleaveL : List (List Char) → List (List Char) → List Char
  | [], _ => []
  | [p], _ => p
  | p :: ps, [] => p ++ ['$', 'R', 'E', 'F'] ++ interleaveL ps []
  | p :: ps, n :: ns => p ++ n ++ interleaveL ps ns

def contentL : Nat → List Obj → Ref → List Char
  | 0, _, r => r.2.toList
  | f + 1, objs, r =>
    match objs.find? (fun o => o.id == r) with
    | none => ['<', 'm', 'i', 's', 's', 'i', 'n', 'g', ' '] ++ r.2.toList ++ ['>']
    | some o =>
      match r.1 with
      | .aaa => ['a', 'a', 'a', ' '] ++ r.2.toList
      | .acl | .pool => [';', ' '].intercalate (o.lines.map String.toList)
      | _ => [' '].intercalate (sortL ((o.secs.filter fun s => !(s.mode && s.subs.isEmpty)).map fun s =>
          s.head.toList ++ ['('] ++ [';', ' '].intercalate (sortL (s.subs.map fun x =>
            interleaveL (x.body.map String.toList) (match x.ref with | some y => [['{'] ++ contentL f objs y ++ ['}']] | none => []))) ++ [')']))

def viewL (objs : List Obj) : List (List Char) :=
  sortL ((objs.filter (·.anchor)).map fun o => o.kind.word.toList ++ [' '] ++ o.name.toList ++ [':', ' '] ++ contentL fuel objs o.id)

theorem toList_le (x y : String) : x ≤ y ↔ x.toList ≤ y.toList := by
  show ¬ (y < x) ↔ ¬ (y.toList < x.toList)
  rw [String.lt_iff]

theorem toList_insertS (x : String) : ∀ (l : List String), (insertS x l).map String.toList = insertL x.toList (l.map String.toList)
  | [] => rfl
  | y :: ys => by
    unfold insertS insertL
    simp only [List.map_cons, ← toList_le]
    split
    · rfl
    · rw [List.map_cons, toList_insertS x ys]

theorem toList_sortS : ∀ (l : List String), (sortS l).map String.toList = sortL (l.map String.toList)
  | [] => rfl
  | y :: ys => by
    show (insertS y (sortS ys)).map String.toList = insertL y.toList (sortL (ys.map String.toList))
    rw [toList_insertS, toList_sortS ys]

theorem toList_interleave : ∀ (ps ns : List String),
    (interleave ps ns).toList = interleaveL (ps.map String.toList) (ns.map String.toList)
  | [], _ => rfl
  | [p], _ => rfl
  | p :: q :: ps, [] => by
    simp only [interleave, interleaveL, List.map_cons, List.map_nil, String.toList_append, toList_interleave (q :: ps) []]
    rfl
  | p :: q :: ps, n :: ns => by
    simp only [interleave, interleaveL, List.map_cons, String.toList_append, toList_interleave (q :: ps) ns]


theorem toList_content (objs : List Obj) : ∀ (f : Nat) (r : Ref), (content f objs r).toList = contentL f objs r
  | 0, _ => rfl
  | f + 1, r => by
    unfold content contentL
    cases objs.find? (fun o => o.id == r) with
    | none => simp only [String.toList_append]; rfl
    | some o =>
      have sec : (" ".intercalate (sortS ((o.secs.filter fun s => !(s.mode && s.subs.isEmpty)).map fun s =>
            s.head ++ "(" ++ "; ".intercalate (sortS (s.subs.map fun x =>
              interleave x.body (match x.ref with | some y => ["{" ++ content f objs y ++ "}"] | none => []))) ++ ")"))).toList =
          [' '].intercalate (sortL ((o.secs.filter fun s => !(s.mode && s.subs.isEmpty)).map fun s =>
            s.head.toList ++ ['('] ++ [';', ' '].intercalate (sortL (s.subs.map fun x =>
              interleaveL (x.body.map String.toList) (match x.ref with | some y => [['{'] ++ contentL f objs y ++ ['}']] | none => []))) ++ [')'])) := by
        rw [String.toList_intercalate, toList_sortS, List.map_map]
        refine congrArg (fun t => [' '].intercalate (sortL t)) (List.map_congr_left fun s _ => ?_)
        simp only [Function.comp, String.toList_append, String.toList_intercalate, toList_sortS, List.map_map]
        refine congrArg (fun t => s.head.toList ++ ['('] ++ [';', ' '].intercalate (sortL t) ++ [')']) (List.map_congr_left fun x _ => ?_)
        simp only [Function.comp, toList_interleave]
        cases x.ref with
        | none => rfl
        | some y => simp only [List.map_cons, List.map_nil, String.toList_append, toList_content objs f y]; rfl
      cases r.1
      case aaa => simp only [String.toList_append]; rfl
      case acl => simp only [String.toList_intercalate]; rfl
      case pool => simp only [String.toList_intercalate]; rfl
      all_goals exact sec

theorem toList_view (objs : List Obj) : (view objs).map String.toList = viewL objs := by
  unfold view viewL
  rw [toList_sortS, List.map_map]
  refine congrArg sortL (List.map_congr_left fun o _ => ?_)
  simp only [Function.comp, String.toList_append, toList_content]
  rfl

theorem view_eq_iff (x y : List Obj) : view x = view y ↔ viewL x = viewL y := by
  rw [← toList_view, ← toList_view]
  exact (List.map_inj_right fun _ _ e => String.toList_inj.1 e).symm

theorem view_beq (x y : List Obj) : (view x == view y) = (viewL x == viewL y) := by
  rw [Bool.eq_iff_iff, beq_iff_eq, beq_iff_eq, view_eq_iff]

end NA.Vpn.G
