import NA.Proofs.F1Converge
/-!
# F1: the invariant of the whole run on the strict device (object-groups AND access lists)

`Full e st d` extends `Sem` by the access lists: original device ACLs exist; an ACL that is not `needed`
still has its original lines; a `ready` target ACL carries the name of an existing device ACL whose lines
match the target's (`AclOK`) and which nothing edits any more (`FrozenAcl`); a target ACL that is not `ready`
carries its generated name, which does not exist yet; every line of a frozen ACL references frozen groups.

Five step relations; all say that the script grew by commands the strict device accepts and that frozen groups keep existence and
members.  `GStep` (NA/Proofs/F1Sem.lean: only object-groups change), `AStep … aN` (F1DevLines: also the lines of access list `aN`) and
`LStep … aN` (F1Converge: `AStep` without "no target group is renamed") carry `Sem` of their END state and have the rest of the device as
frame.  `StepX … exc` (access list `exc` may be rewritten or created) and `Step` (anything but existing frozen access lists may change)
carry no invariant and say nothing about `gReady`; theorems about them state `d'.binds = d.binds ∧ d'.routes = d.routes` as conjuncts
of their own where they hold.
-/
namespace NA.F1
open NA.AsaDev
open NA.Acl (Range)

def BAcls (e : Env) : List Name := e.b.acls.map (·.1)

def FrozenAcl (e : Env) (st : St) (X : Name) : Prop := X ∈ st.aNeeded ∨ X ∉ A0 e

def AclOK (e : Env) (st : St) (d : Dev) (ls : List RLine) (bl : List Line) : Prop :=
  ls.length = bl.length ∧ ∀ p ∈ ls.zip bl, LineOK e st d p.1 p.2

def NamesFrozen (e : Env) (st : St) (ls : List RLine) : Prop := ∀ l ∈ ls, ∀ x ∈ l.names, Frozen e st x

structure Full (e : Env) (st : St) (d : Dev) : Prop where
  sem : Sem e st d
  keysNodup : (d.acls.map (·.1)).Nodup
  devAcls : ∀ n ∈ A0 e, hasAcl d n = true
  untouched : ∀ n ∈ A0 e, n ∉ st.aNeeded → linesOf d n = (e.aLines n).map resolveA
  ready : ∀ bN ∈ st.aReady, hasAcl d (st.aNameOf bN) = true ∧
    AclOK e st d (linesOf d (st.aNameOf bN)) (e.bLines bN) ∧ FrozenAcl e st (st.aNameOf bN)
  unready : ∀ bN ∈ BAcls e, bN ∉ st.aReady →
    st.aNameOf bN = genName bN (A0 e) ∧ hasAcl d (genName bN (A0 e)) = false
  frozenLines : ∀ X, hasAcl d X = true → FrozenAcl e st X → NamesFrozen e st (linesOf d X)

structure Step (e : Env) (st : St) (d : Dev) (st' : St) (d' : Dev) : Prop where
  out : ∃ cs, st'.out = st.out ++ cs ∧ exec d cs = some d'
  gStable : ∀ x, hasGroup d x = true → Frozen e st x → hasGroup d' x = true ∧ membersOf d' x = membersOf d x
  gGrow : ∀ x ∈ st.gNeeded, x ∈ st'.gNeeded
  aStable : ∀ X, hasAcl d X = true → FrozenAcl e st X → hasAcl d' X = true ∧ linesOf d' X = linesOf d X
  aGrow : ∀ x ∈ st.aNeeded, x ∈ st'.aNeeded
  aReadyMono : ∀ bN ∈ st.aReady, bN ∈ st'.aReady ∧ st'.aNameOf bN = st.aNameOf bN
  intfs : d'.intfs = d.intfs

theorem FrozenAcl.mono {e : Env} {st st' : St} {X : Name} (h : FrozenAcl e st X) (hg : ∀ y ∈ st.aNeeded, y ∈ st'.aNeeded) :
    FrozenAcl e st' X :=
  Or.imp_left (hg X) h

theorem Step.refl (e : Env) (st : St) (d : Dev) : Step e st d st d :=
  ⟨out_refl d rfl, fun _ h _ => ⟨h, rfl⟩, fun _ h => h, fun _ h _ => ⟨h, rfl⟩, fun _ h => h,
   fun _ h => ⟨h, rfl⟩, rfl⟩

theorem Step.trans {e : Env} {s1 s2 s3 : St} {d1 d2 d3 : Dev} (h1 : Step e s1 d1 s2 d2) (h2 : Step e s2 d2 s3 d3) :
    Step e s1 d1 s3 d3 := by
  refine ⟨out_trans h1.out h2.out, ?_, ?_, ?_, ?_, ?_,
    h2.intfs.trans h1.intfs⟩
  · intro x hx hf
    obtain ⟨a1, a2⟩ := h1.gStable x hx hf
    obtain ⟨b1, b2⟩ := h2.gStable x a1 (hf.mono h1.gGrow)
    exact ⟨b1, b2.trans a2⟩
  · exact fun x hx => h2.gGrow x (h1.gGrow x hx)
  · intro X hX hf
    obtain ⟨a1, a2⟩ := h1.aStable X hX hf
    obtain ⟨b1, b2⟩ := h2.aStable X a1 (hf.mono h1.aGrow)
    exact ⟨b1, b2.trans a2⟩
  · exact fun x hx => h2.aGrow x (h1.aGrow x hx)
  · intro bN hb
    obtain ⟨a1, a2⟩ := h1.aReadyMono bN hb
    obtain ⟨b1, b2⟩ := h2.aReadyMono bN a1
    exact ⟨b1, b2.trans a2⟩

theorem GoodFrozen.step {e : Env} {st st' : St} {d d' : Dev} {x bN : Name} (h : GoodFrozen e st d x bN)
    (s : Step e st d st' d') : GoodFrozen e st' d' x bN := by
  obtain ⟨a1, a2⟩ := s.gStable x h.1 h.2.2
  exact ⟨a1, by rw [a2]; exact h.2.1, h.2.2.mono s.gGrow⟩

theorem LineOK.step {e : Env} {st st' : St} {d d' : Dev} {l : RLine} {b : Line} (h : LineOK e st d l b)
    (s : Step e st d st' d') : LineOK e st' d' l b :=
  ⟨h.1, h.2.1, fun p hp => (h.2.2 p hp).step s⟩

theorem AclOK.step {e : Env} {st st' : St} {d d' : Dev} {ls : List RLine} {bl : List Line} (h : AclOK e st d ls bl)
    (s : Step e st d st' d') : AclOK e st' d' ls bl :=
  ⟨h.1, fun p hp => (h.2 p hp).step s⟩

theorem NamesFrozen.mono {e : Env} {st st' : St} {ls : List RLine} (h : NamesFrozen e st ls)
    (hg : ∀ y ∈ st.gNeeded, y ∈ st'.gNeeded) : NamesFrozen e st' ls :=
  fun l hl x hx => (h l hl x hx).mono hg

theorem GStep.toStep {e : Env} {st st' : St} {d d' : Dev} (g : GStep e st d st' d')
    (h1 : st'.aNeeded = st.aNeeded) (h2 : st'.aReady = st.aReady) (h3 : st'.aName = st.aName) : Step e st d st' d' :=
  ⟨g.out, fun x hx hf => ⟨g.hasMono x hx, g.stable x hx hf⟩, g.grow,
   fun X hX _ => ⟨by unfold hasAcl; rw [g.acls]; exact hX, by unfold linesOf; rw [g.acls]⟩,
   fun x hx => by rw [h1]; exact hx, fun bN hb => ⟨by rw [h2]; exact hb, by simp [St.aNameOf, h3]⟩, g.intfs⟩

structure StepX (e : Env) (st : St) (d : Dev) (st' : St) (d' : Dev) (exc : Name) : Prop where
  out : ∃ cs, st'.out = st.out ++ cs ∧ exec d cs = some d'
  gStable : ∀ x, hasGroup d x = true → Frozen e st x → hasGroup d' x = true ∧ membersOf d' x = membersOf d x
  gGrow : ∀ x ∈ st.gNeeded, x ∈ st'.gNeeded
  aStable : ∀ X, X ≠ exc → hasAcl d' X = hasAcl d X ∧ linesOf d' X = linesOf d X
  aGrow : ∀ x ∈ st.aNeeded, x ∈ st'.aNeeded
  aReadyMono : ∀ bN ∈ st.aReady, bN ∈ st'.aReady ∧ st'.aNameOf bN = st.aNameOf bN
  intfs : d'.intfs = d.intfs

theorem StepX.refl (e : Env) (st : St) (d : Dev) (exc : Name) : StepX e st d st d exc :=
  ⟨out_refl d rfl, fun _ h _ => ⟨h, rfl⟩, fun _ h => h, fun _ _ => ⟨rfl, rfl⟩, fun _ h => h,
   fun _ h => ⟨h, rfl⟩, rfl⟩

theorem StepX.trans {e : Env} {s1 s2 s3 : St} {d1 d2 d3 : Dev} {exc : Name}
    (h1 : StepX e s1 d1 s2 d2 exc) (h2 : StepX e s2 d2 s3 d3 exc) : StepX e s1 d1 s3 d3 exc := by
  refine ⟨out_trans h1.out h2.out, ?_, ?_, ?_, ?_, ?_,
    h2.intfs.trans h1.intfs⟩
  · intro x hx hf
    obtain ⟨a1, a2⟩ := h1.gStable x hx hf
    obtain ⟨b1, b2⟩ := h2.gStable x a1 (hf.mono h1.gGrow)
    exact ⟨b1, b2.trans a2⟩
  · exact fun x hx => h2.gGrow x (h1.gGrow x hx)
  · intro X hX
    obtain ⟨a1, a2⟩ := h1.aStable X hX
    obtain ⟨b1, b2⟩ := h2.aStable X hX
    exact ⟨b1.trans a1, b2.trans a2⟩
  · exact fun x hx => h2.aGrow x (h1.aGrow x hx)
  · intro bN hb
    obtain ⟨a1, a2⟩ := h1.aReadyMono bN hb
    obtain ⟨b1, b2⟩ := h2.aReadyMono bN a1
    exact ⟨b1, b2.trans a2⟩

theorem StepX.toStep {e : Env} {st st' : St} {d d' : Dev} {exc : Name} (h : StepX e st d st' d' exc)
    (hx : ¬ (hasAcl d exc = true ∧ FrozenAcl e st exc)) : Step e st d st' d' :=
  ⟨h.out, h.gStable, h.gGrow, fun X hX hf => by
    have hne : X ≠ exc := fun e1 => hx ⟨e1 ▸ hX, e1 ▸ hf⟩
    obtain ⟨a1, a2⟩ := h.aStable X hne
    exact ⟨by rw [a1]; exact hX, a2⟩, h.aGrow, h.aReadyMono, h.intfs⟩

theorem GStep.toStepX {e : Env} {st st' : St} {d d' : Dev} (g : GStep e st d st' d')
    (h1 : st'.aNeeded = st.aNeeded) (h2 : st'.aReady = st.aReady) (h3 : st'.aName = st.aName) (exc : Name) :
    StepX e st d st' d' exc :=
  ⟨g.out, fun x hx hf => ⟨g.hasMono x hx, g.stable x hx hf⟩, g.grow,
   fun X _ => ⟨by unfold hasAcl; rw [g.acls], by unfold linesOf; rw [g.acls]⟩,
   fun x hx => by rw [h1]; exact hx, fun bN hb => ⟨by rw [h2]; exact hb, by simp [St.aNameOf, h3]⟩, g.intfs⟩

/-- Re-establishing `Full` after a step that rewrites or creates ONE access list `X0`, which becomes the
access list of target ACL `bN0`. -/
theorem Full.update {e : Env} {st st' : St} {d d' : Dev} (hF : Full e st d) (s : Step e st d st' d')
    (sem' : Sem e st' d') (X0 bN0 : Name)
    (hkeys : (d'.acls.map (·.1)).Nodup)
    (hothers : ∀ n, n ≠ X0 → hasAcl d' n = hasAcl d n ∧ linesOf d' n = linesOf d n)
    (hX0 : hasAcl d' X0 = true ∧ AclOK e st' d' (linesOf d' X0) (e.bLines bN0) ∧ FrozenAcl e st' X0 ∧
      NamesFrozen e st' (linesOf d' X0))
    (hneeded : ∀ x ∈ st'.aNeeded, x ∈ st.aNeeded ∨ x = X0)
    (hready : ∀ bN, bN ∈ st'.aReady ↔ bN = bN0 ∨ bN ∈ st.aReady)
    (hname0 : st'.aNameOf bN0 = X0)
    (hnames : ∀ bN, bN ≠ bN0 → st'.aNameOf bN = st.aNameOf bN)
    (hfresh : ¬ (hasAcl d X0 = true ∧ FrozenAcl e st X0))
    (hkind : X0 ∈ A0 e ∨ X0 = genName bN0 (A0 e)) : Full e st' d' := by
  refine ⟨sem', hkeys, ?_, ?_, ?_, ?_, ?_⟩
  · intro n hn
    by_cases e1 : n = X0
    · rw [e1]; exact hX0.1
    · rw [(hothers n e1).1]; exact hF.devAcls n hn
  · intro n hn hnn
    have hn0 : n ∉ st.aNeeded := fun hx => hnn (s.aGrow n hx)
    have e1 : n ≠ X0 := by
      intro e1
      rcases hX0.2.2.1 with h1 | h1
      · exact hnn (e1 ▸ h1)
      · exact h1 (e1 ▸ hn)
    rw [(hothers n e1).2]; exact hF.untouched n hn hn0
  · intro bN hb
    by_cases e1 : bN = bN0
    · rw [e1, hname0]; exact ⟨hX0.1, hX0.2.1, hX0.2.2.1⟩
    · have hb0 : bN ∈ st.aReady := ((hready bN).mp hb).resolve_left e1
      obtain ⟨r1, r2, r3⟩ := hF.ready bN hb0
      rw [hnames bN e1]
      have hx : st.aNameOf bN ≠ X0 := fun e2 => hfresh ⟨e2 ▸ r1, e2 ▸ r3⟩
      obtain ⟨o1, o2⟩ := hothers _ hx
      exact ⟨by rw [o1]; exact r1, by rw [o2]; exact r2.step s, r3.mono s.aGrow⟩
  · intro bN hbB hb
    have e1 : bN ≠ bN0 := fun e1 => hb ((hready bN).mpr (Or.inl e1))
    have hb0 : bN ∉ st.aReady := fun hx => hb ((hready bN).mpr (Or.inr hx))
    obtain ⟨u1, u2⟩ := hF.unready bN hbB hb0
    rw [hnames bN e1]
    refine ⟨u1, ?_⟩
    have hx : genName bN (A0 e) ≠ X0 := by
      intro e2
      rcases hkind with h1 | h1
      · exact genName_fresh bN (A0 e) (e2 ▸ h1)
      · exact e1 (genName_injective (e2.trans h1))
    rw [(hothers _ hx).1]; exact u2
  · intro X hX hf
    by_cases e1 : X = X0
    · rw [e1]; exact hX0.2.2.2
    · obtain ⟨o1, o2⟩ := hothers X e1
      rw [o2]
      have hf0 : FrozenAcl e st X := Or.imp_left (fun h1 => (hneeded X h1).resolve_right e1) hf
      exact (hF.frozenLines X (by rw [← o1]; exact hX) hf0).mono s.gGrow

end NA.F1
