import NA.Proofs.F2Dev
import NA.Proofs.F2Shape
/-!
# F2: a device read as a configuration

Every theorem about a run starts from any device that `Reads` as the configuration (whatever its entry numbers), and every
device with the interfaces of `a0` — what a run or a cut leaves — reads as the configuration read back from it
(`reads_reconf`): so runs compose.
-/
namespace NA.F2
open NA.ListFacts
open NA.IosDev2
open NA.F1 (lookupD)

theorem lookup_map_snd {β γ : Type} (l : List (Name × β)) (f : β → γ) (n : Name) :
    (l.map fun p => (p.1, f p.2)).lookup n = (l.lookup n).map f := by
  induction l with
  | nil => rfl
  | cons p l ih =>
    obtain ⟨k, v⟩ := p
    simp only [List.map_cons, List.lookup_cons]
    cases n == k <;> simp [ih]

theorem numberFrom_lines (ls : List ALine) : (numberFrom ls).map (·.2) = ls := by
  simp only [numberFrom, List.map_map]
  have : ((fun x : Nat × ALine => x.2) ∘ fun p : Nat × ALine => (10 * (p.1 + 1), p.2)) = Prod.snd := rfl
  rw [this, List.map_snd_zip]
  simp

theorem entriesOf_ofConfig (c : Config) (n : Name) : (entriesOf (ofConfig c) n).map (·.2) = c.lines n := by
  simp only [entriesOf, ofConfig, Config.lines, lookupD]
  rw [lookup_map_snd c.acls numberFrom n]
  cases c.acls.lookup n with
  | none => rfl
  | some ls => simp [numberFrom_lines]

theorem hasAcl_ofConfig (c : Config) (n : Name) : hasAcl (ofConfig c) n = c.hasAcl n := by
  simp [hasAcl, ofConfig, Config.hasAcl, List.any_map, Function.comp_def]

theorem aclNames_ofConfig (c : Config) : aclNames (ofConfig c) = c.acls.map (·.1) := by
  simp [aclNames, ofConfig, List.map_map, Function.comp_def]

theorem intfNames_ofConfig (c : Config) : (ofConfig c).intfs.map (·.name) = c.intfs.map (·.name) := by
  simp [ofConfig, List.map_map, Function.comp_def]

theorem lastBind_of_mem {binds : List Bind} (hnd : (binds.map (·.dir)).Nodup) {bd : Bind} (h : bd ∈ binds) :
    lastBind binds bd.dir = some bd.acl := by
  unfold lastBind
  have hnd' : (binds.reverse.map (·.dir)).Nodup := by
    rw [List.map_reverse]; exact (List.reverse_perm _).nodup_iff.mpr hnd
  rw [find?_key_of_mem hnd' (List.mem_reverse.mpr h)]; rfl

theorem lastBind_none {binds : List Bind} {dir : String} (h : dir ∉ binds.map (·.dir)) : lastBind binds dir = none := by
  unfold lastBind
  have : binds.reverse.find? (fun b => b.dir == dir) = none := by
    rw [List.find?_eq_none]
    intro b hb hc
    exact h (List.mem_map.mpr ⟨b, List.mem_reverse.mp hb, by simpa using hc⟩)
  rw [this]; rfl

theorem lastBind_some {binds : List Bind} {dir : String} {n : Name} (h : lastBind binds dir = some n) :
    ∃ bd ∈ binds, bd.dir = dir ∧ bd.acl = n := by
  unfold lastBind at h
  obtain ⟨bd, hf, h⟩ := Option.map_eq_some_iff.1 h
  exact ⟨bd, List.mem_reverse.mp (List.mem_of_find?_eq_some hf), by simpa using List.find?_some hf, h⟩

theorem find_map_intf (l : List Intf) (hnd : (l.map (·.name)).Nodup) {i : Intf} (hi : i ∈ l) (f : Intf → DIntf)
    (hf : ∀ j, (f j).name = j.name) : (l.map f).find? (fun d => d.name == i.name) = some (f i) := by
  have hnd' : ((l.map f).map (·.name)).Nodup := by
    rw [List.map_map]; exact (List.map_congr_left fun j _ => hf j) ▸ hnd
  have := find?_key_of_mem hnd' (List.mem_map_of_mem (f := f) hi)
  rw [hf] at this; exact this

theorem slotOf_ofConfig (c : Config) (hnd : (c.intfs.map (·.name)).Nodup) {i : Intf} (hi : i ∈ c.intfs) (dir : String)
    (hd : isDir dir = true) : slotOf (ofConfig c) i.name dir = lastBind i.binds dir := by
  simp only [slotOf, ofConfig]
  rw [find_map_intf c.intfs hnd hi _ (fun _ => rfl)]
  simp only [isDir, Bool.or_eq_true, beq_iff_eq] at hd
  rcases hd with rfl | rfl
  · rfl
  · rfl

theorem hasIntf_ofConfig (c : Config) {i : Intf} (hi : i ∈ c.intfs) : hasIntf (ofConfig c) i.name = true := by
  simp only [hasIntf, ofConfig, List.any_map, List.any_eq_true]
  exact ⟨i, hi, by simp⟩

/-- The device `d0` (top-level mode), read by a compare, is the configuration `a0`: same interfaces and
bindings, same route lines, the same access lists with the same lines — whatever the entry numbers. -/
structure Reads (d0 : Dev) (a0 : Config) : Prop where
  mode : d0.mode = none
  intfs : d0.intfs = (ofConfig a0).intfs
  routes : d0.routes = a0.routes.map (·.text)
  names : aclNames d0 = a0.acls.map (·.1)
  lines : ∀ n, (entriesOf d0 n).map (·.2) = a0.lines n

theorem reads_ofConfig (a0 : Config) : Reads (ofConfig a0) a0 :=
  ⟨rfl, rfl, rfl, aclNames_ofConfig a0, entriesOf_ofConfig a0⟩

theorem Reads.slot {d0 : Dev} {a0 : Config} (h : Reads d0 a0) (x dir : String) :
    slotOf d0 x dir = slotOf (ofConfig a0) x dir := slotOf_congr h.intfs x dir

theorem Reads.hasI {d0 : Dev} {a0 : Config} (h : Reads d0 a0) (x : String) :
    hasIntf d0 x = hasIntf (ofConfig a0) x := by simp only [hasIntf, h.intfs]

theorem Reads.hasA {d0 : Dev} {a0 : Config} (h : Reads d0 a0) (n : Name) : hasAcl d0 n = a0.hasAcl n := by
  have key : ∀ {β : Type} (l : List (Name × β)), l.any (·.1 == n) = (l.map (·.1)).any (· == n) := fun l => by
    rw [List.any_map]; rfl
  show d0.acls.any (·.1 == n) = a0.acls.any (·.1 == n)
  rw [key, key]
  exact congrArg (List.any · (· == n)) h.names

theorem Reads.slot_some {d0 : Dev} {a0 : Config} (h : Reads d0 a0) (hnd : (a0.intfs.map (·.name)).Nodup) {x dir : String}
    {n : Name} (hdir : isDir dir = true) (hs : slotOf d0 x dir = some n) :
    ∃ i ∈ a0.intfs, i.name = x ∧ ∃ bd ∈ i.binds, bd.dir = dir ∧ bd.acl = n := by
  rw [h.slot] at hs
  by_cases hx : x ∈ a0.intfs.map (·.name)
  · obtain ⟨i, hi, rfl⟩ := List.mem_map.mp hx
    rw [slotOf_ofConfig a0 hnd hi dir hdir] at hs
    exact ⟨i, hi, rfl, lastBind_some hs⟩
  · have : (ofConfig a0).intfs.find? (fun i => i.name == x) = none := by
      rw [List.find?_eq_none]
      intro i hi hc
      obtain ⟨j, hj, rfl⟩ := List.mem_map.mp hi
      exact hx (List.mem_map.mpr ⟨j, hj, by simpa using hc⟩)
    rw [slotOf, this] at hs
    cases hs

/-- The `ip access-group` sub-commands of interface `x` as a compare reads them. -/
def bindsOf (d : Dev) (x : String) : List Bind :=
  (match slotOf d x "in" with | some a => [⟨a, "in"⟩] | none => []) ++
  (match slotOf d x "out" with | some a => [⟨a, "out"⟩] | none => [])

def reI (d : Dev) (i : Intf) : Intf := { i with binds := bindsOf d i.name }

theorem reconf_intfs (a0 : Config) (refs : List Route) (d : Dev) : (reconf a0 refs d).intfs = a0.intfs.map (reI d) := rfl

theorem mem_bindsOf {d : Dev} {x : String} {bd : Bind} :
    bd ∈ bindsOf d x ↔ isDir bd.dir = true ∧ slotOf d x bd.dir = some bd.acl := by
  have one : ∀ (o : Option Name) (dir : String),
      bd ∈ (match o with | some a => [(⟨a, dir⟩ : Bind)] | none => []) ↔ o = some bd.acl ∧ bd.dir = dir := by
    intro o dir
    obtain ⟨acl, dir'⟩ := bd
    cases o with
    | none => simp
    | some a => simp only [List.mem_singleton, Bind.mk.injEq, Option.some.injEq]; exact and_congr_left' eq_comm
  rw [bindsOf, List.mem_append, one, one]
  simp only [isDir, Bool.or_eq_true, beq_iff_eq]
  constructor
  · rintro (⟨h, hd⟩ | ⟨h, hd⟩)
    · exact ⟨Or.inl hd, by rw [hd]; exact h⟩
    · exact ⟨Or.inr hd, by rw [hd]; exact h⟩
  · rintro ⟨hd | hd, h⟩
    · exact Or.inl ⟨by rw [← hd]; exact h, hd⟩
    · exact Or.inr ⟨by rw [← hd]; exact h, hd⟩

theorem bindsOf_nodup (d : Dev) (x : String) : ((bindsOf d x).map (·.dir)).Nodup := by
  unfold bindsOf
  cases slotOf d x "in" <;> cases slotOf d x "out" <;> simp

theorem find_text {refs : List Route} {r : Route} (hr : r ∈ refs) :
    ∃ ra, (refs.find? fun x => x.text == r.text) = some ra ∧ ra ∈ refs ∧ ra.text = r.text := by
  cases hf : refs.find? fun x => x.text == r.text with
  | none => exact absurd (beq_self_eq_true _) (List.find?_eq_none.mp hf r hr)
  | some ra => exact ⟨ra, rfl, List.mem_of_find?_eq_some hf, by simpa using List.find?_some hf⟩

theorem map_find_text (refs : List Route) (l : List String) :
    (l.map fun t => (refs.find? fun r => r.text == t).getD ⟨t, "", "", 0⟩).map (·.text) = l := by
  induction l with
  | nil => rfl
  | cons t l ih =>
    simp only [List.map_cons, ih]
    cases hf : refs.find? fun r => r.text == t with
    | none => rfl
    | some r' =>
      have ht' : r'.text = t := by simpa using List.find?_some hf
      simp [ht']

theorem routes_reconf (a0 : Config) (refs : List Route) (d : Dev) : (reconf a0 refs d).routes.map (·.text) = d.routes :=
  map_find_text refs d.routes

theorem hasAcl_reconf (a0 : Config) (refs : List Route) (d : Dev) (n : Name) : (reconf a0 refs d).hasAcl n = hasAcl d n := by
  simp only [Config.hasAcl, reconf, hasAcl, List.any_map]
  rfl

theorem lines_reconf (a0 : Config) (refs : List Route) (d : Dev) (n : Name) : (reconf a0 refs d).lines n = linesOf d n := by
  simp only [Config.lines, lookupD, reconf, linesOf, entriesOf]
  rw [lookup_map_snd d.acls (fun es : Entries => es.map (·.2)) n]
  cases d.acls.lookup n with
  | none => rfl
  | some es => rfl

theorem align_reconf (a0 b : Config) (refs : List Route) (d : Dev) :
    (aOf (reconf a0 refs d) b).intfs = (aOf a0 b).intfs.map (reI d) ∧
    (aOf (reconf a0 refs d) b).acls = (reconf a0 refs d).acls ∧
    (aOf (reconf a0 refs d) b).routes = (if (b.intfs.map (·.vrf) ++ b.routes.map (·.vrf)).isEmpty then (reconf a0 refs d).routes
      else (reconf a0 refs d).routes.filter fun r => (b.intfs.map (·.vrf) ++ b.routes.map (·.vrf)).contains r.vrf) := by
  unfold aOf alignVRFs
  by_cases he : (b.intfs.map (·.vrf) ++ b.routes.map (·.vrf)).isEmpty = true
  · simp only [he, ↓reduceIte]
    exact ⟨rfl, trivial, trivial⟩
  · simp only [he, Bool.false_eq_true, ↓reduceIte]
    refine ⟨?_, trivial, trivial⟩
    rw [reconf_intfs, List.filter_map]
    rfl

theorem engine_ok_reconf (a0 b : Config) (sc sc2 : Scripts) (refs : List Route) (d : Dev) :
    (engine (reconf a0 refs d) b sc2).ok = (engine a0 b sc).ok := by
  rw [engine_ok_eq, engine_ok_eq, checkInterfaces_ok, checkInterfaces_ok, (align_reconf a0 b refs d).1]
  simp only [List.all_map, List.any_map]
  rfl

def skel (d : Dev) : List (String × String) := d.intfs.map fun i => (i.name, i.vrf)

theorem lastBind_bindsOf (d : Dev) (x : String) :
    lastBind (bindsOf d x) "in" = slotOf d x "in" ∧ lastBind (bindsOf d x) "out" = slotOf d x "out" := by
  unfold bindsOf lastBind
  cases slotOf d x "in" <;> cases slotOf d x "out" <;> simp

theorem reads_reconf (a0 : Config) (refs : List Route) (d : Dev) (hnd : (a0.intfs.map (·.name)).Nodup)
    (hsk : skel d = skel (ofConfig a0)) : Reads (strip d) (reconf a0 refs d) := by
  have hnames : d.intfs.map (·.name) = a0.intfs.map (·.name) := by
    have := congrArg (List.map Prod.fst) hsk
    simpa [skel, ofConfig, List.map_map, Function.comp_def] using this
  have hndd : (d.intfs.map (·.name)).Nodup := by rw [hnames]; exact hnd
  refine ⟨rfl, ?_, ?_, ?_, ?_⟩
  · -- interfaces
    show d.intfs = (ofConfig (reconf a0 refs d)).intfs
    have h1 : d.intfs = d.intfs.map fun i => (⟨i.name, i.vrf, slotOf d i.name "in", slotOf d i.name "out"⟩ : DIntf) := by
      refine (map_eq_self fun i hi => ?_).symm
      obtain ⟨k1, k2⟩ := slot_of_mem_intfs d hndd hi
      rw [k1, k2]
    have h2 : (d.intfs.map fun i => (⟨i.name, i.vrf, slotOf d i.name "in", slotOf d i.name "out"⟩ : DIntf)) =
        (skel d).map fun p => (⟨p.1, p.2, slotOf d p.1 "in", slotOf d p.1 "out"⟩ : DIntf) := by
      simp only [skel, List.map_map]; rfl
    rw [h1, h2, hsk]
    simp only [skel, ofConfig, reconf_intfs, List.map_map]
    apply List.map_congr_left
    intro i _
    simp only [Function.comp, reI]
    rw [(lastBind_bindsOf d i.name).1, (lastBind_bindsOf d i.name).2]
  · exact (routes_reconf a0 refs d).symm
  · show aclNames d = (reconf a0 refs d).acls.map (·.1)
    simp only [aclNames, reconf, List.map_map]; rfl
  · intro n
    rw [lines_reconf]; rfl

end NA.F2
