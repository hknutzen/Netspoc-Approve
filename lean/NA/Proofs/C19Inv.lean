import NA.Proofs.C19Number3
import NA.Proofs.C19Code
import NA.Core.ListFacts
/-!
# C19 — one invariant through all schedules, process-group kills included

`Inv` = the three structural layers (`Inv1` safety, `Inv2` numbering, `Inv4` code) with two facts about the
process table, for a program that is `Checked`; ONE induction, over `runG` (`inv_runG`); `run` is `runG` on
the events without group kills.

Group kills (`EventG.killGroup`): only the compile is modelled as stopped half way.  For every other command
the group kill is `kill`, because rename, symlink, mkdir and the update of a git ref are atomic, and a
half-written clone lives below `next`, which the next run removes before it looks at anything (`rm -rf
$NEXT`; `uptodate` is the exception and is what F-C19b is about).
-/
namespace NA.C19

def LockOK (s : State) : Prop := ∀ pid, s.g.lock = some pid → ∃ p ∈ s.procs, p.pid = pid ∧ p.alive = true

theorem lockOK_init (se : Bool) : LockOK (init se) := by intro pid h; simp [init] at h

theorem lockOK_stepCore {prog : Prog} {s : State} (h : LockOK s) (e : Event) : LockOK (stepCore prog s e) := by
  have hs := core_stepCore prog s e
  generalize stepCore prog s e = s' at hs ⊢
  intro pid hl
  cases hs with
  | idle => exact h pid hl
  | commit => exact h pid hl
  | spawn =>
    obtain ⟨q, hq, hq1, hq2⟩ := h pid hl
    exact ⟨q, List.mem_append_left _ hq, hq1, hq2⟩
  | gone _ p x =>
    -- the lock is released: whoever holds it now is somebody else, untouched
    simp only [release] at hl
    split at hl
    · cases hl
    · next hne =>
      obtain ⟨q, hq, hq1, hq2⟩ := h pid hl
      have hqp : q.pid ≠ p.pid := fun heq => hne (by rw [hl, ← hq1, heq])
      have := mem_replaceProc_of (p' := { p with alive := false, exit := x }) hq
      simp [hqp] at this
      exact ⟨q, this, hq1, hq2⟩
  | cmd p i hf hal =>
    have hal' : (after i s.g p).alive = true := (after_alive i s.g p).trans hal
    have hme := mem_replaceProc_of (p' := after i s.g p) (findProc_some hf).1
    simp only [after_pid, if_true] at hme
    rcases exec_lock i.cmd s.g p with h0 | ⟨_, h0⟩ <;> rw [show (_ : State).g.lock = _ from h0] at hl
    · obtain ⟨q, hq, hq1, hq2⟩ := h pid hl
      by_cases hqp : q.pid = p.pid
      · exact ⟨_, hme, by rw [after_pid, ← hqp]; exact hq1, hal'⟩
      · have := mem_replaceProc_of (p' := after i s.g p) hq
        simp [after_pid, hqp] at this
        exact ⟨q, this, hq1, hq2⟩
    · exact ⟨_, hme, by rw [after_pid]; exact (Option.some.inj hl), hal'⟩

theorem lock_none_of_quiescent {s : State} (h : LockOK s) (hq : quiescent s = true) : s.g.lock = none := by
  cases hl : s.g.lock with
  | none => rfl
  | some pid =>
    obtain ⟨p, hp, _, ha⟩ := h pid hl
    simp only [quiescent, List.all_eq_true] at hq
    have := hq p hp
    simp [ha] at this

def DyingOK (s : State) : Prop := ∀ pid ∈ s.dying, pid < s.npid

theorem dyingOK_stepCore {prog : Prog} {s : State} (h : DyingOK s) (e : Event) : DyingOK (stepCore prog s e) := by
  have hs := core_stepCore prog s e
  generalize stepCore prog s e = s' at hs ⊢
  cases hs with
  | spawn => exact fun pid hp => Nat.lt_succ_of_lt (h pid hp)
  | _ => exact h

/-- The program passes the three structural analyses with these annotations, and every command that
runs as a child process hands fd 9 down to it: what every property theorem assumes of the program and
what `NA/Props/C19.lean` evaluates on the regenerated one. -/
structure Checked (prog : Prog) (a1 : Ann safety) (a2 : Ann numbering) (a4 : Ann code) : Prop where
  inh : inhOK prog = true
  c1  : check safety prog a1 = true
  c2  : check numbering prog a2 = true
  c4  : check code prog a4 = true

/-- What holds unconditionally in every reachable state.  The git layer `Inv5` holds only under its guard `Qs`
and stands on top of this; the calm facts hold along a solo run only. -/
structure Inv (a1 : Ann safety) (a2 : Ann numbering) (a4 : Ann code) (s : State) : Prop where
  i1    : Inv1 a1 s
  i2    : Inv2 a2 s
  i4    : Inv4 a4 s
  lock  : LockOK s
  dying : DyingOK s

section
variable {prog : Prog} {a1 : Ann safety} {a2 : Ann numbering} {a4 : Ann code} {s : State}

/-- Which of the three structural layers rests on which is visible here: numbering on safety; code on safety
and on the ids in range of numbering. -/
theorem inv_stepCore (C : Checked prog a1 a2 a4) (h : Inv a1 a2 a4 s) (e : Event) : Inv a1 a2 a4 (stepCore prog s e) :=
  ⟨inv1_stepCore C.c1 h.i1 e, inv2_stepCore C.c1 C.c2 h.i1 h.i2 e, inv4_stepCore C.c1 C.c4 h.i1 h.i2.vg h.i2.vp h.i4 e,
   lockOK_stepCore h.lock e, dyingOK_stepCore h.dying e⟩

/-- The list `dying` is read by `DyingOK` alone. -/
theorem Inv.setDying (h : Inv a1 a2 a4 s) {d : List Nat} (hd : ∀ x ∈ d, x < s.npid) : Inv a1 a2 a4 { s with dying := d } :=
  ⟨h.i1.dying, h.i2.dying, h.i4.dying, h.lock, hd⟩

theorem inv_step (C : Checked prog a1 a2 a4) (h : Inv a1 a2 a4 s) (e : Event) : Inv a1 a2 a4 (step prog s e) := by
  rcases step_cases C.inh s e with ⟨e', he, _⟩ | ⟨pid, p, _, hf, he⟩ | ⟨pid, _, he⟩ <;> rw [he]
  · exact inv_stepCore C h _
  · -- the killed shell is remembered: it exists, so its pid is below `npid`
    refine h.setDying fun x hx => ?_
    rcases List.mem_cons.mp hx with rfl | hx
    · obtain ⟨hpm, hpp⟩ := findProc_some hf
      exact hpp ▸ h.i1.fresh p hpm
    · exact h.dying x hx
  · have h' := inv_stepCore C h (.step pid)
    exact inv_stepCore C (h'.setDying fun x hx => h'.dying x (List.mem_filter.mp hx).1) _

theorem inv_init (se : Bool) : Inv a1 a2 a4 (init se) :=
  ⟨inv1_init se, inv2_init se, inv4_init se, lockOK_init se, fun _ hp => (nomatch hp)⟩

end

@[simp] theorem spoilDir_head (g : G) (d : Dir) : (spoilDir g d).head = d.head := by
  unfold spoilDir; split <;> simp_all

@[simp] theorem spoilG_nextHead (g : G) : (spoilG g).nextHead = g.nextHead := by
  unfold spoilG G.nextHead
  cases g.next <;> simp

theorem groupHits_some {prog : Prog} {s : State} {pid : Nat} {p : Proc} (h : groupHits prog s pid = some p) :
    p ∈ s.procs ∧ p.pid = pid ∧ p.alive = true ∧ s.g.lock = some pid := by
  unfold groupHits at h
  cases hf : findProc s.procs pid with
  | none => simp [hf] at h
  | some q =>
    simp only [hf] at h
    cases hi : instrAt prog q.pc with
    | none => simp [hi] at h
    | some i =>
      simp only [hi] at h
      split at h
      · next hc =>
        injection h with h; subst h
        simp only [Bool.and_eq_true, beq_iff_eq] at hc
        obtain ⟨hm, hq⟩ := findProc_some hf
        exact ⟨hm, hq, hc.1.1.1, hc.1.2⟩
      · cases h

/-! The killed invocation held the lock, so every fact of another invocation that mentions the database
is vacuous (`Γ1.vacuous`, `Γ2.vacuous`, `Γ4.vacuous`); the global parts read `dirs`, `current`, `hist`
and the HEAD of `next`, none of which `spoilG` touches. -/

theorem inv1_group {ann : Ann safety} {s : State} {p : Proc} (hinv : Inv1 ann s)
    (hm : p ∈ s.procs) (hl : s.g.lock = some p.pid) :
    Inv1 ann { s with g := { spoilG s.g with lock := none }, procs := replaceProc s.procs { p with alive := false, exit := none } } := by
  obtain ⟨hgi, huniq, hfresh, hprocs⟩ := hinv
  refine ⟨⟨hgi.dirs, hgi.cur⟩, unique_replaceProc huniq, ?_, ?_⟩
  · intro q hq
    rcases mem_replaceProc hq with ⟨rfl, _⟩ | ⟨hq1, _⟩
    · exact hfresh p hm
    · exact hfresh q hq1
  · intro q hq hqa
    rcases mem_replaceProc hq with ⟨rfl, _⟩ | ⟨hq1, hq2⟩
    · simp at hqa
    · obtain ⟨b, h1, h2⟩ := hprocs q hq1 hqa
      exact ⟨b, h1, h2.vacuous hl hq2⟩

theorem inv2_group {ann : Ann numbering} {s : State} {p : Proc} (hinv : Inv2 ann s)
    (hm : p ∈ s.procs) (hl : s.g.lock = some p.pid) :
    Inv2 ann { s with g := { spoilG s.g with lock := none }, procs := replaceProc s.procs { p with alive := false, exit := none } } := by
  obtain ⟨hdh, hvg, hvp, hn, hprocs⟩ := hinv
  refine ⟨hdh, ⟨hvg.remote, fun x hx => hvg.head x (by rw [← spoilG_nextHead s.g]; exact hx)⟩, ?_,
    fun hq => ?_, ?_⟩
  · intro q hq
    rcases mem_replaceProc hq with ⟨rfl, _⟩ | ⟨hq1, _⟩
    · exact ⟨(hvp p hm).base, (hvp p hm).hash⟩
    · exact ⟨(hvp q hq1).base, (hvp q hq1).hash⟩
  · have h := hn ((quiet_spoil s.g).mp hq)
    exact ⟨h.bound, h.incr⟩
  · intro hqu q hq hqa
    rcases mem_replaceProc hq with ⟨rfl, _⟩ | ⟨hq1, hq2⟩
    · simp at hqa
    · obtain ⟨b, h1, h2⟩ := hprocs ((quiet_spoil s.g).mp hqu) q hq1 hqa
      exact ⟨b, h1, h2.vacuous hl hq2⟩

theorem inv4_group {ann : Ann code} {s : State} {p : Proc} (hinv : Inv4 ann s)
    (hl : s.g.lock = some p.pid) :
    Inv4 ann { s with g := { spoilG s.g with lock := none }, procs := replaceProc s.procs { p with alive := false, exit := none } } := by
  obtain ⟨hgi, hprocs⟩ := hinv
  refine ⟨⟨hgi.dirs, hgi.rpos, fun x hx => hgi.hpos x (by rw [← spoilG_nextHead s.g]; exact hx)⟩, ?_⟩
  intro q hq hqa
  rcases mem_replaceProc hq with ⟨rfl, _⟩ | ⟨hq1, hq2⟩
  · simp at hqa
  · obtain ⟨b, h1, h2⟩ := hprocs q hq1 hqa
    exact ⟨b, h1, h2.vacuous hl hq2⟩

variable {prog : Prog} {a1 : Ann safety} {a2 : Ann numbering} {a4 : Ann code} {s : State}

theorem inv_stepG (C : Checked prog a1 a2 a4) (h : Inv a1 a2 a4 s) (e : EventG) : Inv a1 a2 a4 (stepG prog s e) := by
  cases e with
  | base e => exact inv_step C h e
  | killGroup pid =>
    simp only [stepG]
    cases hg : groupHits prog s pid with
    | none => exact inv_step C h (.kill pid)
    | some p =>
      obtain ⟨hm, rfl, _, hl⟩ := groupHits_some hg
      exact ⟨inv1_group h.i1 hm hl, inv2_group h.i2 hm hl, inv4_group h.i4 hl, fun _ hx => (nomatch hx), h.dying⟩

theorem inv_runG (C : Checked prog a1 a2 a4) (se : Bool) (es : List EventG) : Inv a1 a2 a4 (runG prog se es) :=
  ListFacts.foldl_inv (P := Inv a1 a2 a4) (fun e _ _ h => inv_stepG C h e) (inv_init se)

theorem run_eq_runG (prog : Prog) (se : Bool) (es : List Event) : run prog se es = runG prog se (es.map .base) := by
  simp only [runG, List.foldl_map]; rfl

theorem inv_run (C : Checked prog a1 a2 a4) (se : Bool) (es : List Event) : Inv a1 a2 a4 (run prog se es) :=
  run_eq_runG prog se es ▸ inv_runG C se _

end NA.C19
