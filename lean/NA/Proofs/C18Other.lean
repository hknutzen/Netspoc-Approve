import NA.Model.MergeOther
import NA.Proofs.C18Via
import NA.Core.ListFacts
/-! Lemmas about the ports of the linux, panos and nsx merge code (`NA/Model/MergeOther.lean`). -/
namespace NA.C18

namespace N

/-- All rules stored under policy id `id`, in stored order. -/
def rulesOf (ps : List Policy) (id : String) : List String := (ps.filter (fun p => p.id == id)).flatMap (·.rules)

theorem rulesOf_cons (q : Policy) (qs : List Policy) (id : String) :
    rulesOf (q :: qs) id = (if q.id == id then q.rules else []) ++ rulesOf qs id := by
  unfold rulesOf
  by_cases h : q.id == id <;> simp [h]

theorem rulesOf_nil_of_not_mem (qs : List Policy) (id : String) (h : id ∉ qs.map (·.id)) : rulesOf qs id = [] := by
  unfold rulesOf
  rw [List.filter_eq_nil_iff.mpr fun q hq e => h (List.mem_map.mpr ⟨q, hq, beq_iff_eq.mp e⟩)]
  rfl

theorem ids_addPolicy (ps : List Policy) (p : Policy) :
    (addPolicy ps p).map (·.id) = if p.id ∈ ps.map (·.id) then ps.map (·.id) else ps.map (·.id) ++ [p.id] := by
  induction ps with
  | nil => simp [addPolicy]
  | cons q qs ih =>
    unfold addPolicy
    by_cases hq : p.id = q.id
    · simp [hq]
    · by_cases hm : p.id ∈ qs.map (·.id) <;> simp [hq, hm, ih]

theorem nodup_addPolicy (ps : List Policy) (p : Policy) (h : (ps.map (·.id)).Nodup) :
    ((addPolicy ps p).map (·.id)).Nodup := by
  rw [ids_addPolicy]
  by_cases hm : p.id ∈ ps.map (·.id)
  · rw [if_pos hm]; exact h
  · rw [if_neg hm, List.nodup_append]
    exact ⟨h, by simp, fun a ha b hb e => hm (List.mem_singleton.mp hb ▸ e ▸ ha)⟩

theorem rulesOf_addPolicy (ps : List Policy) (p : Policy) (id : String) (h : (ps.map (·.id)).Nodup) :
    rulesOf (addPolicy ps p) id = rulesOf ps id ++ (if p.id == id then p.rules else []) := by
  induction ps with
  | nil => by_cases hp : p.id == id <;> simp [addPolicy, rulesOf, hp]
  | cons q qs ih =>
    unfold addPolicy
    by_cases hpq : p.id == q.id
    · have e : p.id = q.id := by simpa using hpq
      simp only [hpq, if_true]
      rw [rulesOf_cons, rulesOf_cons]
      by_cases hid : q.id == id
      · have e2 : q.id = id := by simpa using hid
        have hz : rulesOf qs id = [] := rulesOf_nil_of_not_mem qs id (e2 ▸ (List.nodup_cons.mp h).1)
        have hp : (p.id == id) = true := by rw [e]; exact hid
        simp [hid, hz, hp]
      · have hp : (p.id == id) = false := by rw [e]; simpa using hid
        simp [hid, hp]
    · simp only [hpq, Bool.false_eq_true, if_false]
      rw [rulesOf_cons, rulesOf_cons, ih (List.nodup_cons.mp h).2, List.append_assoc]

theorem rulesOf_addPolicy_perm (ps : List Policy) (p : Policy) (id : String) :
    (rulesOf (addPolicy ps p) id).Perm (rulesOf ps id ++ (if p.id == id then p.rules else [])) := by
  induction ps with
  | nil => by_cases hp : p.id == id <;> simp [addPolicy, rulesOf, hp]
  | cons q qs ih =>
    unfold addPolicy
    by_cases hpq : p.id == q.id
    · have e : p.id = q.id := by simpa using hpq
      simp only [hpq, if_true]
      rw [rulesOf_cons, rulesOf_cons]
      by_cases hid : q.id == id
      · have hp : (p.id == id) = true := by rw [e]; exact hid
        simp only [hid, if_true, hp, List.append_assoc]
        exact List.Perm.append_left _ List.perm_append_comm
      · have hp : (p.id == id) = false := by rw [e]; simpa using hid
        simp [hid, hp]
    · simp only [hpq, Bool.false_eq_true, if_false]
      rw [rulesOf_cons, rulesOf_cons, List.append_assoc]
      exact List.Perm.append_left _ ih

theorem rulesOf_foldl (ps2 : List Policy) : ∀ (ps : List Policy) (id : String), (ps.map (·.id)).Nodup →
    rulesOf (ps2.foldl addPolicy ps) id = rulesOf ps id ++ rulesOf ps2 id := by
  induction ps2 with
  | nil => intro ps id _; simp [rulesOf]
  | cons p ps2 ih =>
    intro ps id h
    simp only [List.foldl_cons]
    rw [ih _ id (nodup_addPolicy ps p h), rulesOf_addPolicy ps p id h, rulesOf_cons, List.append_assoc]

theorem rulesOf_foldl_perm (ps2 : List Policy) : ∀ (ps : List Policy) (id : String),
    (rulesOf (ps2.foldl addPolicy ps) id).Perm (rulesOf ps id ++ rulesOf ps2 id) := by
  induction ps2 with
  | nil => intro ps id; simp [rulesOf]
  | cons p ps2 ih =>
    intro ps id
    simp only [List.foldl_cons]
    refine (ih _ id).trans ?_
    rw [rulesOf_cons, ← List.append_assoc]
    exact List.Perm.append_right _ (rulesOf_addPolicy_perm ps p id)

theorem ids_foldl_subset (ps2 : List Policy) : ∀ (ps : List Policy) (i : String),
    (i ∈ ps.map (·.id) ∨ i ∈ ps2.map (·.id)) → i ∈ (ps2.foldl addPolicy ps).map (·.id) := by
  induction ps2 with
  | nil => intro ps i h; rcases h with h | h; exact h; cases h
  | cons p ps2 ih =>
    intro ps i h
    simp only [List.foldl_cons]
    apply ih
    rw [ids_addPolicy]
    rcases h with h | h
    · left; split
      · exact h
      · exact List.mem_append_left _ h
    · rcases List.mem_cons.mp h with h1 | h1
      · left
        subst h1
        by_cases hm : p.id ∈ ps.map (·.id)
        · rw [if_pos hm]; exact hm
        · rw [if_neg hm]; simp
      · exact Or.inr h1

end N

namespace P

theorem clashIn_isSome (typ vn : String) (l1 l2 : List Obj) (o1 o2 : Obj) (h1 : o1 ∈ l1) (h2 : o2 ∈ l2)
    (hn : o1.name = o2.name) (hv : o1.val ≠ o2.val) : (clashIn typ vn l1 l2).isSome = true := by
  unfold clashIn
  refine List.findSome?_isSome_iff.mpr ⟨o2, h2, ?_⟩
  have : l1.any (fun o => o.name == o2.name && o.val != o2.val) = true :=
    List.any_eq_true.mpr ⟨o1, h1, by simp [hn, hv]⟩
  simp [this]

theorem mapE_ok_mem {α β ε : Type} (f : α → Except ε β) : ∀ (l : List α) (l' : List β), mapE f l = .ok l' →
    ∀ x ∈ l, ∃ y ∈ l', f x = .ok y := by
  intro l
  induction l with
  | nil => intro l' _ x hx; cases hx
  | cons a as ih =>
    intro l' h x hx
    unfold mapE at h
    cases ha : f a with
    | error e => rw [ha] at h; cases h
    | ok y =>
      rw [ha] at h
      simp only at h
      cases hr : mapE f as with
      | error e => rw [hr] at h; cases h
      | ok ys =>
        rw [hr] at h
        simp only [Except.ok.injEq] at h
        subst h
        rcases List.mem_cons.mp hx with rfl | hx'
        · exact ⟨y, List.mem_cons_self, ha⟩
        · obtain ⟨y', hy', hf⟩ := ih ys hr x hx'
          exact ⟨y', List.mem_cons_of_mem _ hy', hf⟩

theorem mergeVsys_ok (g : Gen2) (v1 v2 v : Vsys) (h : mergeVsys g v1 v2 = .ok v) :
    v.name = v1.name ∧
    v.rules = (v2.rules.filter (fun r => !r.app)) ++ v1.rules ++ (v2.rules.filter (·.app)).map clearApp ∧
    v.addresses = v1.addresses ++ v2.addresses ∧ v.addressGroups = v1.addressGroups ++ v2.addressGroups ∧
    v.services = v1.services ++ v2.services ∧ v.serviceGroups = v1.serviceGroups ++ v2.serviceGroups := by
  unfold mergeVsys at h
  split at h
  · cases h
  · cases h; exact ⟨rfl, rfl, rfl, rfl, rfl, rfl⟩

theorem lookupLast_of_nodup (l : List Vsys) (v : Vsys) (hv : v ∈ l) (hn : (l.map (·.name)).Nodup) :
    lookupLast l v.name = some v := by
  unfold lookupLast
  have : l.filter (fun w => w.name == v.name) = [v] := by
    induction l with
    | nil => cases hv
    | cons w ws ih =>
      have hw : w.name ∉ ws.map (·.name) := (List.nodup_cons.mp hn).1
      rcases List.mem_cons.mp hv with rfl | hv'
      · have : ws.filter (fun w => w.name == v.name) = [] := by
          rw [List.filter_eq_nil_iff]
          intro x hx hxe
          exact hw (by have : x.name = v.name := by simpa using hxe
                       exact this ▸ List.mem_map.mpr ⟨x, hx, rfl⟩)
        simp [this]
      · have hne : ¬ w.name = v.name := fun e => hw (e ▸ List.mem_map.mpr ⟨v, hv', rfl⟩)
        simp [hne, ih hv' (List.nodup_cons.mp hn).2]
  rw [this]; rfl

end P

namespace L

theorem foldX_eq_foldlM {σ β ε : Type} (f : σ → β → Except ε σ) (s : σ) (l : List β) :
    foldX f s l = l.foldlM f s := by
  induction l generalizing s with
  | nil => rfl
  | cons x xs ih =>
    simp only [foldX, List.foldlM_cons]
    cases f s x with
    | ok s' => exact ih s'
    | error e => rfl

theorem parseLines_eq (g : Gen2) (lines : List Line) : parseLines g lines = lines.foldlM (parseStep g) {} :=
  foldX_eq_foldlM _ _ _

def Line.isTable : Line → Bool
  | .table _ => true
  | _ => false

def ChainInv (t n : String) (st : PSt) : Prop := st.cur = some t ∧ st.chains.any (sameChain t n) = true

theorem any_map_rules (cs : List Chain) (t n : String) (f : Chain → Chain)
    (hf : ∀ c, (f c).table = c.table ∧ (f c).name = c.name) :
    (cs.map f).any (sameChain t n) = cs.any (sameChain t n) := by
  induction cs with
  | nil => rfl
  | cons c cs ih =>
    simp only [List.map_cons, List.any_cons, ih]
    have := hf c
    simp [sameChain, this.1, this.2]

theorem parseStep_spec (g : Gen2) {st st' : PSt} {x : Line} (h : parseStep g st x = .ok st') :
    st'.app = (!x.isTable && (x == .append || st.app)) ∧
    (∀ t ∈ st.tables, t ∈ st'.tables) ∧
    (∀ n, x = .table n → n ∈ st'.tables) ∧
    (∀ n p, x = .chain n p → ∃ t, ChainInv t n st') ∧
    (g = .new → x.isTable = false → ∀ t n, ChainInv t n st → ChainInv t n st') := by
  cases x <;> simp only [parseStep] at h
  case table m =>
    have h5 : Line.isTable (.table m) = false → ∀ t n, ChainInv t n st → ChainInv t n st' := fun hx => nomatch hx
    split at h
    · rename_i hc
      cases g <;> cases h
      exact ⟨rfl, fun _ ht => ht, fun _ e => by cases e; simpa using hc, nofun, fun _ => h5⟩
    · cases h
      exact ⟨rfl, fun _ ht => List.mem_append_left _ ht, fun _ e => by cases e; simp, nofun, fun _ => h5⟩
  case chain m p =>
    split at h
    · cases h
    · rename_i t hcur
      split at h
      · cases g <;> cases h
        exact ⟨rfl, fun _ ht => ht, nofun,
          fun _ _ e => by cases e; exact ⟨t, hcur, by simp [sameChain]⟩, nofun⟩
      · cases h
        exact ⟨rfl, fun _ ht => ht, nofun,
          fun _ _ e => by cases e; exact ⟨t, hcur, by simp [sameChain]⟩,
          fun _ _ t' n ⟨hc, ha⟩ => ⟨hc, by simp [ha]⟩⟩
  case chainShort =>
    split at h <;> cases h
    exact ⟨rfl, fun _ ht => ht, nofun, nofun, fun _ _ _ _ hi => hi⟩
  case rule c tx tg =>
    split at h
    · cases h
    · split at h
      · cases h
        refine ⟨rfl, fun _ ht => ht, nofun, nofun, fun _ _ t' n ⟨hc, ha⟩ => ⟨hc, ?_⟩⟩
        rw [any_map_rules]
        · exact ha
        · intro ch; split <;> exact ⟨rfl, rfl⟩
      · cases h
  case append =>
    cases h
    exact ⟨rfl, fun _ ht => ht, nofun, nofun, fun _ _ _ _ hi => hi⟩
  case commit =>
    cases h
    exact ⟨rfl, fun _ ht => ht, nofun, nofun, fun _ _ _ _ hi => hi⟩
  case other => cases h

theorem dup_table_error (l1 l2 l3 : List Line) (n : String) (s : PSt) :
    ∃ e, (l1 ++ .table n :: (l2 ++ .table n :: l3)).foldlM (parseStep .new) s = .error e :=
  foldlM_error_of_second _ (fun s => n ∈ s.tables) (fun _ => True) _ _
    (fun _ _ h => (parseStep_spec _ h).2.2.1 n rfl) (fun _ _ _ hs _ h => (parseStep_spec _ h).2.1 n hs)
    (fun s hs => ⟨.dupTable n, by simp [parseStep, hs]⟩) l1 l2 l3 (fun _ _ => trivial) s

theorem dup_chain_error (l1 l2 l3 : List Line) (n p p' : String) (s : PSt) (hl2 : ∀ x ∈ l2, x.isTable = false) :
    ∃ e, (l1 ++ .chain n p :: (l2 ++ .chain n p' :: l3)).foldlM (parseStep .new) s = .error e :=
  foldlM_error_of_second _ (fun s => ∃ t, ChainInv t n s) (fun x => x.isTable = false) _ _
    (fun _ _ h => (parseStep_spec _ h).2.2.2.1 n p rfl)
    (fun _ _ _ ⟨t, hs⟩ hq h => ⟨t, (parseStep_spec _ h).2.2.2.2 rfl hq t n hs⟩)
    (fun s ⟨t, hs⟩ => ⟨.dupChain n, by simp [parseStep, hs.1, hs.2]⟩) l1 l2 l3 hl2 s

theorem app_flag_spec (g : Gen2) : ∀ (pre : List Line) (s0 s : PSt), pre.foldlM (parseStep g) s0 = .ok s →
    (s.app = true ↔ (∃ u w, pre = u ++ .append :: w ∧ ∀ x ∈ w, x.isTable = false) ∨
                    (s0.app = true ∧ ∀ x ∈ pre, x.isTable = false)) := by
  intro pre
  induction pre with
  | nil =>
    intro s0 s h
    cases h
    simp
  | cons x xs ih =>
    intro s0 s h
    obtain ⟨s1, hx, h⟩ := (foldlM_cons_ok _).mp h
    -- an `[APPEND]` line of `x :: xs` is `x` itself or one of `xs`
    have hA : (∃ u w, x :: xs = u ++ .append :: w ∧ ∀ y ∈ w, y.isTable = false) ↔
        (∃ u w, xs = u ++ .append :: w ∧ ∀ y ∈ w, y.isTable = false) ∨ (x = .append ∧ ∀ y ∈ xs, y.isTable = false) := by
      constructor
      · rintro ⟨u, w, hu, hw⟩
        rcases List.cons_eq_append_iff.mp hu with ⟨rfl, e⟩ | ⟨u', rfl, e⟩
        · cases e; exact Or.inr ⟨rfl, hw⟩
        · exact Or.inl ⟨u', w, e, hw⟩
      · rintro (⟨u, w, hu, hw⟩ | ⟨rfl, hw⟩)
        · exact ⟨x :: u, w, by rw [hu]; rfl, hw⟩
        · exact ⟨[], xs, rfl, hw⟩
    rw [ih s1 s h, (parseStep_spec g hx).1, hA]
    simp only [Bool.and_eq_true, Bool.or_eq_true, Bool.not_eq_true', beq_iff_eq, List.forall_mem_cons]
    constructor
    · rintro (a | ⟨⟨t, e | f⟩, n⟩)
      · exact Or.inl (Or.inl a)
      · exact Or.inl (Or.inr ⟨e, n⟩)
      · exact Or.inr ⟨f, t, n⟩
    · rintro ((a | ⟨e, n⟩) | ⟨f, t, n⟩)
      · exact Or.inl a
      · exact Or.inr ⟨⟨e ▸ rfl, Or.inl e⟩, n⟩
      · exact Or.inr ⟨⟨t, Or.inr f⟩, n⟩

def isDropK (k : Kind) : Bool := k == .deny

theorem mergeRules_placed (a b : List Rule) :
    G.PlacedL ruleKind isDropK (b.filter (fun r => !r.app)) a (b.filter (fun r => r.app)) (mergeRules a b) :=
  G.mergeVia_insert_placed ruleKind (·.app) Entry.isDrop isDropK (fun _ => rfl) a b

theorem mergeRules_mem (a b : List Rule) (r : Rule) : r ∈ mergeRules a b ↔ r ∈ a ∨ r ∈ b := by
  rw [((G.placedL_iff ..).mp (mergeRules_placed a b)).perm.mem_iff]
  simp only [List.mem_append, List.mem_filter]
  constructor
  · rintro ((⟨h, _⟩ | h) | ⟨h, _⟩)
    · exact Or.inr h
    · exact Or.inl h
    · exact Or.inr h
  · rintro (h | h)
    · exact Or.inl (Or.inr h)
    · by_cases ha : r.app = true
      · exact Or.inr ⟨h, ha⟩
      · exact Or.inl (Or.inl ⟨h, by simpa using ha⟩)

theorem insertChain_eq : insertChain = ListFacts.insertBy chainLe := by
  funext c l
  induction l with
  | nil => rfl
  | cons y ys ih => simp only [insertChain, ListFacts.insertBy, ih]

theorem mem_sortChains (x : Chain) (l : List Chain) : x ∈ sortChains l ↔ x ∈ l := by
  rw [sortChains, insertChain_eq]
  exact ListFacts.mem_isort

/-- Rule `r` is stored in chain `n` of table `t`. -/
def Has (cs : List Chain) (t n : String) (r : Rule) : Prop := ∃ c ∈ cs, c.table = t ∧ c.name = n ∧ r ∈ c.rules

theorem sameChain_iff (t n : String) (c : Chain) : sameChain t n c = true ↔ c.table = t ∧ c.name = n := by
  simp [sameChain]

theorem chainStep_keeps (a0 : List String) (acc acc' : Conf) (cb : Chain) (h : chainStep a0 acc cb = .ok acc') :
    (∀ t n r, Has acc.chains t n r → Has acc'.chains t n r) ∧ (∀ r ∈ cb.rules, Has acc'.chains cb.table cb.name r) := by
  unfold chainStep at h
  split at h
  · cases h
    exact ⟨fun t n r ⟨c, hc, h1⟩ => ⟨c, List.mem_append_left _ hc, h1⟩,
           fun r hr => ⟨cb, by simp, rfl, rfl, hr⟩⟩
  · split at h
    · cases h
      exact ⟨fun t n r ⟨c, hc, h1⟩ => ⟨c, List.mem_append_left _ hc, h1⟩,
             fun r hr => ⟨cb, by simp, rfl, rfl, hr⟩⟩
    · rename_i ca hfind
      split at h
      · cases h
      · cases h
        constructor
        · rintro t n r ⟨c, hc, ht, hn, hr⟩
          by_cases hs : sameChain cb.table cb.name c = true
          · refine ⟨{ c with rules := mergeRules c.rules cb.rules }, ?_, ht, hn, (mergeRules_mem _ _ r).mpr (Or.inl hr)⟩
            exact List.mem_map.mpr ⟨c, hc, by simp [hs]⟩
          · exact ⟨c, List.mem_map.mpr ⟨c, hc, by simp [hs]⟩, ht, hn, hr⟩
        · intro r hr
          have hs : sameChain cb.table cb.name ca = true := List.find?_some hfind
          obtain ⟨h1, h2⟩ := (sameChain_iff _ _ _).mp hs
          exact ⟨{ ca with rules := mergeRules ca.rules cb.rules }, List.mem_map.mpr ⟨ca, List.mem_of_find?_eq_some hfind, by simp [hs]⟩, h1, h2,
            (mergeRules_mem _ _ r).mpr (Or.inr hr)⟩

theorem fold_keeps (a0 : List String) : ∀ (l : List Chain) (acc acc' : Conf), l.foldlM (chainStep a0) acc = .ok acc' →
    (∀ t n r, Has acc.chains t n r → Has acc'.chains t n r) ∧
    (∀ cb ∈ l, ∀ r ∈ cb.rules, Has acc'.chains cb.table cb.name r) := by
  intro l
  induction l with
  | nil => intro acc acc' h; cases h; exact ⟨fun _ _ _ h => h, fun _ h => by cases h⟩
  | cons x xs ih =>
    intro acc acc' h
    obtain ⟨a1, hx, h⟩ := (foldlM_cons_ok _).mp h
    obtain ⟨k1, k2⟩ := chainStep_keeps a0 acc a1 x hx
    obtain ⟨i1, i2⟩ := ih a1 acc' h
    refine ⟨fun t n r hh => i1 t n r (k1 t n r hh), fun cb hcb r hr => ?_⟩
    rcases List.mem_cons.mp hcb with rfl | hcb'
    · exact i1 _ _ r (k2 r hr)
    · exact i2 cb hcb' r hr

end L

end NA.C18
