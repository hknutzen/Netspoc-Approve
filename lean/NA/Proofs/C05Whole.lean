import NA.Proofs.C05File
import NA.Proofs.C05Restore
import NA.Proofs.C05RuleOK
/-!
C05: the whole table.  The target text is parsed, the printed restore file is loaded, the
device then holds the target's rules (chains in name order) and prints them in kernel spelling;
comparing that with the target reports nothing — and it reports nothing ONLY for an equivalent device
(`same_only_if_equiv`).
-/
namespace NA.C05
open NA.Linux NA.Linux.Spec

/-- A target inside the proved class: names are distinct words, every rule satisfies `RuleOK`. -/
structure AStateOK (cfg : KCfg) (a : AState) : Prop where
  tnames : ∀ tbl ∈ a, Tok tbl.name
  tnodup : (a.map (·.name)).Nodup
  chains : ∀ tbl ∈ a, ∀ c ∈ tbl.chains, Tok c.name ∧ Tok c.policy
  cnodup : ∀ tbl ∈ a, (tbl.chains.map (·.name)).Nodup
  rules : ∀ tbl ∈ a, ∀ c ∈ tbl.chains, ∀ r ∈ c.rules, RuleOK cfg r

theorem spell_user (cfg : KCfg) (r : ARule) (h : RuleOK cfg r) : SpellOK userOpts r :=
  ⟨List.forall_mem_map.2 fun a ha => (user_readable a (h.wf a ha)).1,
    List.forall_mem_map.2 fun a ha => (user_readable a (h.wf a ha)).2⟩

theorem kernelOpts_ok (cfg : KCfg) (r : ARule) (hwf : ∀ a ∈ r, a.wf = true) :
    ∀ o ∈ kernelOpts cfg r, OptOK o ∧ ∀ w ∈ o.words, Tok w := by
  intro o ho
  rcases (mem_kernelOpts cfg r o).mp ho with ⟨a, ha, _, rfl⟩ | ⟨p, hp, _, rfl⟩
  · exact kernel_readable cfg a (hwf a ha)
  · exact protoMatch_ok cfg r hwf p hp

theorem spell_kernel (cfg : KCfg) (r : ARule) (h : RuleOK cfg r) : SpellOK (kernelOpts cfg) r :=
  ⟨fun o ho => (kernelOpts_ok cfg r h.wf o ho).1, fun o ho => (kernelOpts_ok cfg r h.wf o ho).2⟩

theorem stateOK_of (cfg : KCfg) (a : AState) (h : AStateOK cfg a) (sp : ARule → List OptW)
    (hsp : ∀ r, RuleOK cfg r → SpellOK sp r) : StateOK sp a :=
  ⟨fun tbl ht => ⟨h.tnames tbl ht, h.chains tbl ht, h.cnodup tbl ht,
    fun c hc r hr => hsp r (h.rules tbl ht c hc r hr)⟩, h.tnodup⟩

theorem userText_eq (a : AState) : userText a = a.flatMap (blockLines [] userOpts) := by
  unfold userText
  congr 1

theorem saveText_eq (cfg : KCfg) (a : AState) :
    saveText cfg a = [s "# Generated by iptables-save v1.8.7 on Tue Sep 30 00:00:00 2026"] ++
      a.flatMap (blockLines [s "[0:0]"] (kernelOpts cfg)) ++ [s "# Completed on Tue Sep 30 00:00:00 2026"] := by
  unfold saveText
  congr 3
  funext tbl
  have hc : ∀ c : AChain, (':' :: c.name ++ [' '] ++ c.policy ++ s " [0:0]") = chainLine [s "[0:0]"] c := by
    intro c; simp [chainLine, joinWith, s]
  simp only [blockLines, hc, wordsOf, kernelWords]

theorem parse_userText (cfg : KCfg) (a : AState) (h : AStateOK cfg a) :
    parseIPTables (userText a) = .ok (mkTables userOpts a) := by
  have := parse_file [] nofun userOpts a (stateOK_of cfg a h userOpts (spell_user cfg)) [] [] nofun nofun
  rw [userText_eq]; simpa using this

/-- The output of `iptables-save`, with any further comment or blank lines behind it. -/
theorem parse_saveText (cfg : KCfg) (a : AState) (h : AStateOK cfg a) (post : List Str) (hpost : ∀ x ∈ post, Ignorable x) :
    parseIPTables (saveText cfg a ++ post) = .ok (mkTables (kernelOpts cfg) a) := by
  rw [saveText_eq, List.append_assoc]
  refine parse_file [s "[0:0]"] ?_ (kernelOpts cfg) a (stateOK_of cfg a h (kernelOpts cfg) (spell_kernel cfg)) _ _ ?_ ?_
  · exact List.forall_mem_singleton.2 (by decide)
  · exact List.forall_mem_singleton.2 (ignorable_hash (by decide_lit [s_ofList]))
  · exact List.forall_mem_cons.2 ⟨ignorable_hash (by decide_lit [s_ofList]), hpost⟩

theorem getA_mkTables_eq (sp : ARule → List OptW) (a : AState) (t : Str) :
    getA t (mkTables sp a) = (a.find? (fun x => x.name = t)).map (mkChains sp) :=
  getA_map_key (fun x : ATable => x.name) (mkChains sp) a t

theorem getA_mkChains_eq (sp : ARule → List OptW) (tbl : ATable) (c : Str) :
    getA c (mkChains sp tbl) = (tbl.chains.find? (fun x => x.name = c)).map fun x =>
      { policy := x.policy, rules := x.rules.map (mkRule sp x.name) } :=
  getA_map_key (fun x : AChain => x.name) _ tbl.chains c

theorem keysA_mkChains (sp : ARule → List OptW) (tbl : ATable) : keysA (mkChains sp tbl) = tbl.chains.map (·.name) := by
  simp [keysA, mkChains, List.map_map, Function.comp_def]

theorem find_of_getA_mkChains (sp : ARule → List OptW) (tbl : ATable) (c : Str) (ch : Chain)
    (h : getA c (mkChains sp tbl) = some ch) :
    ∃ ac, tbl.chains.find? (fun x => x.name = c) = some ac ∧ ac ∈ tbl.chains ∧ ac.name = c ∧
      ch = { policy := ac.policy, rules := ac.rules.map (mkRule sp ac.name) } :=
  find_of_getA_map (fun x : AChain => x.name) _ tbl.chains c ch h

theorem find_of_getA_mkTables (sp : ARule → List OptW) (a : AState) (t : Str) (cm : Chains)
    (h : getA t (mkTables sp a) = some cm) :
    ∃ tbl, a.find? (fun x => x.name = t) = some tbl ∧ tbl ∈ a ∧ tbl.name = t ∧ cm = mkChains sp tbl :=
  find_of_getA_map (fun x : ATable => x.name) (mkChains sp) a t cm h

theorem getA_mkChains (sp : ARule → List OptW) (tbl : ATable) (hn : (tbl.chains.map (·.name)).Nodup)
    (c : AChain) (hc : c ∈ tbl.chains) :
    getA c.name (mkChains sp tbl) = some { policy := c.policy, rules := c.rules.map (mkRule sp c.name) } :=
  getA_map_of_mem (fun x : AChain => x.name) _ tbl.chains hn c hc

theorem getA_mkTables (sp : ARule → List OptW) (a : AState) (hn : (a.map (·.name)).Nodup) (tbl : ATable)
    (h : tbl ∈ a) : getA tbl.name (mkTables sp a) = some (mkChains sp tbl) :=
  getA_map_of_mem (fun x : ATable => x.name) (mkChains sp) a hn tbl h

/-- The device's view of a table: chains in name order (the order in which the file creates them). -/
def sortT (tbl : ATable) : ATable :=
  { tbl with chains := isort (fun a b => strLe a.name b.name) tbl.chains }

def sortS (a : AState) : AState := a.map sortT

theorem sortT_perm (tbl : ATable) : (sortT tbl).chains.Perm tbl.chains := isort_perm _ _

theorem aStateOK_sort (cfg : KCfg) (a : AState) (h : AStateOK cfg a) : AStateOK cfg (sortS a) := by
  refine ⟨?_, ?_, ?_, ?_, ?_⟩
  · exact List.forall_mem_map.2 h.tnames
  · rw [sortS, List.map_map]; exact h.tnodup
  · exact List.forall_mem_map.2 fun tbl ht c hc => h.chains tbl ht c ((sortT_perm tbl).mem_iff.mp hc)
  · exact List.forall_mem_map.2 fun tbl ht => (((sortT_perm tbl).map (·.name)).nodup_iff).mpr (h.cnodup tbl ht)
  · exact List.forall_mem_map.2 fun tbl ht c hc => h.rules tbl ht c ((sortT_perm tbl).mem_iff.mp hc)

theorem neTables_mk (cfg : KCfg) (a : AState) (h : AStateOK cfg a) (sp : ARule → List OptW)
    (hsp : ∀ r, RuleOK cfg r → Canon cfg r (normalize (pairsOf (sp r) []))) : NETables (mkTables sp a) := by
  constructor
  · intro hm
    simp only [mkTables, keysA, List.map_map, List.mem_map, Function.comp] at hm
    obtain ⟨tbl, ht, e⟩ := hm
    exact (h.tnames tbl ht).1 e
  · intro t cm hg
    obtain ⟨tbl, _, htm, _, rfl⟩ := find_of_getA_mkTables sp a t cm hg
    constructor
    · intro hm
      simp only [keysA_mkChains, List.mem_map] at hm
      obtain ⟨c, hc, e⟩ := hm
      exact (h.chains tbl htm c hc).1.1 e
    · intro c ch hgc
      obtain ⟨ac, _, hcm, _, rfl⟩ := find_of_getA_mkChains sp tbl c ch hgc
      exact List.forall_mem_map.2 fun r hr => (hsp r (h.rules tbl htm ac hcm r hr)).ne

/-! For any two spellings whose normal forms hold the canonical entries.  Device against target is the pair `kernelOpts cfg`,
`userOpts`, the only one that is instantiated. -/

section spellings
variable {cfg : KCfg} {sp1 sp2 : ARule → List OptW}
  (h1 : ∀ r, RuleOK cfg r → Canon cfg r (normalize (pairsOf (sp1 r) [])))
  (h2 : ∀ r, RuleOK cfg r → Canon cfg r (normalize (pairsOf (sp2 r) [])))
include h1 h2

theorem rulesEq_roundtrip (cn : Str) : ∀ (rs : List ARule), (∀ r ∈ rs, RuleOK cfg r) →
    RulesEq (rs.map (mkRule sp1 cn)) (rs.map (mkRule sp2 cn)) := by
  intro rs
  induction rs with
  | nil => intro _; trivial
  | cons r rs ih =>
    intro h
    obtain ⟨hr, hrs⟩ := List.forall_mem_cons.1 h
    exact ⟨(h1 r hr).eq (h2 r hr), ih hrs⟩

theorem tablesEq_roundtrip (a : AState) (h : AStateOK cfg a) :
    TablesEq (mkTables sp1 (sortS a)) (mkTables sp2 a) := by
  intro t
  rw [getA_mkTables_eq, getA_mkTables_eq]
  have hf : (sortS a).find? (fun x => x.name = t) = (a.find? (fun x => x.name = t)).map sortT := by
    rw [sortS, List.find?_map]; rfl
  rw [hf]
  cases hfa : a.find? (fun x => x.name = t) with
  | none => simp
  | some tbl =>
    have htm : tbl ∈ a := List.mem_of_find?_eq_some hfa
    intro c
    rw [getA_mkChains_eq, getA_mkChains_eq,
      ← find?_perm (fun x : AChain => x.name) (sortT_perm tbl).symm (h.cnodup tbl htm) c]
    cases hfc : tbl.chains.find? (fun x => x.name = c) with
    | none => simp
    | some ch =>
      exact ⟨rfl, rulesEq_roundtrip h1 h2 ch.name ch.rules (h.rules tbl htm ch (List.mem_of_find?_eq_some hfc))⟩

theorem semEqRules_of (cn : Str) : ∀ (ra rb : List ARule), (∀ r ∈ ra, RuleOK cfg r) → (∀ r ∈ rb, RuleOK cfg r) →
    RulesEq (ra.map (mkRule sp1 cn)) (rb.map (mkRule sp2 cn)) → semEqRules cfg ra rb = true := by
  intro ra
  induction ra with
  | nil => intro rb _ _ h; cases rb with
    | nil => rfl
    | cons b bs => simp [RulesEq] at h
  | cons a as ih =>
    intro rb g1 g2 h
    cases rb with
    | nil => simp [RulesEq] at h
    | cons b bs =>
      obtain ⟨ga, gas⟩ := List.forall_mem_cons.1 g1
      obtain ⟨gb, gbs⟩ := List.forall_mem_cons.1 g2
      simp only [semEqRules, Bool.and_eq_true]
      exact ⟨(h1 a ga).sound ga.wf gb.wf (h2 b gb) h.1, ih bs gas gbs h.2⟩

/-- **No change only for an equivalent device.**  If the compare of two rule sets inside the class reports nothing, they are
equivalent: the same tables and chains, equal policies, and rule by rule the same meaning. -/
theorem same_only_if_equiv (dev tgt : AState) (hd : AStateOK cfg dev) (ht : AStateOK cfg tgt)
    (h : diffIPTables (mkTables sp1 dev) (mkTables sp2 tgt) = .same) :
    semEq cfg dev tgt = true := by
  have hT := (diffIPTables_same _ _ (neTables_mk cfg dev hd sp1 h1)
    (neTables_mk cfg tgt ht sp2 h2)).mp h
  unfold semEq
  rw [Bool.and_eq_true, List.all_eq_true, List.all_eq_true]
  constructor
  · intro ta hta
    have hga := getA_mkTables sp1 dev hd.tnodup ta hta
    have hTt := hT ta.name
    rw [hga] at hTt
    cases hgb : getA ta.name (mkTables sp2 tgt) with
    | none => simp [hgb] at hTt
    | some cmb =>
      simp only [hgb] at hTt
      obtain ⟨tb, hfb, htb, _, ecm⟩ := find_of_getA_mkTables sp2 tgt ta.name cmb hgb
      subst ecm
      simp only [hfb]
      unfold semEqChains
      rw [Bool.and_eq_true, List.all_eq_true, List.all_eq_true]
      constructor
      · intro ca hca
        have hgca := getA_mkChains sp1 ta (hd.cnodup ta hta) ca hca
        have hC := hTt ca.name
        rw [hgca] at hC
        cases hgcb : getA ca.name (mkChains sp2 tb) with
        | none => simp [hgcb] at hC
        | some chb =>
          simp only [hgcb] at hC
          obtain ⟨cb, hfcb, hcb, hnm, ech⟩ := find_of_getA_mkChains sp2 tb ca.name chb hgcb
          subst ech
          simp only [hfcb, Bool.and_eq_true, beq_iff_eq]
          refine ⟨hC.1, ?_⟩
          have hr := hC.2
          simp only [hnm] at hr
          exact semEqRules_of h1 h2 ca.name ca.rules cb.rules (hd.rules ta hta ca hca) (ht.rules tb htb cb hcb) hr
      · intro cb hcb
        have hC := hTt cb.name
        rw [getA_mkChains sp2 tb (ht.cnodup tb htb) cb hcb, getA_mkChains_eq] at hC
        cases hfca : ta.chains.find? (fun x => x.name = cb.name) with
        | none => simp [hfca] at hC
        | some ca => rfl
  · intro tb htb
    have hTt := hT tb.name
    rw [getA_mkTables sp2 tgt ht.tnodup tb htb, getA_mkTables_eq] at hTt
    cases hfa : dev.find? (fun x => x.name = tb.name) with
    | none => simp [hfa] at hTt
    | some ta => rfl

end spellings

theorem diff_sorted_same (cfg : KCfg) (a : AState) (h : AStateOK cfg a) :
    diffIPTables (mkTables (kernelOpts cfg) (sortS a)) (mkTables userOpts a) = .same :=
  (diffIPTables_same _ _ (neTables_mk cfg (sortS a) (aStateOK_sort cfg a h) (kernelOpts cfg) (kernel_centries cfg))
    (neTables_mk cfg a h userOpts (user_centries cfg))).mpr (tablesEq_roundtrip (kernel_centries cfg) (user_centries cfg) a h)

/-- A table of the abstract state as the kernel holds it when loaded with the given spelling. -/
def kTableOf (spell : ARule → List Str) (tbl : ATable) : KTable :=
  { name := tbl.name, chains := tbl.chains.map fun c =>
      { name := c.name, policy := c.policy, rules := c.rules.map fun r => ruleText c.name (spell r) } }

theorem expTable_eq (tbl : ATable) (hn : (tbl.chains.map (·.name)).Nodup) :
    expTable tbl.name (mkChains userOpts tbl) = kTableOf userWords (sortT tbl) := by
  simp only [expTable, kTableOf, expChains]
  rw [keysA_mkChains, sortStrs_map (fun c : AChain => c.name) tbl.chains]
  congr 1
  simp only [sortT, List.map_map]
  apply List.map_congr_left
  intro c hc
  simp only [Function.comp, chainOf, getA_mkChains userOpts tbl hn c ((isort_perm _ _).mem_iff.mp hc),
    Option.getD_some, List.map_map]
  congr 1

/-- **Whole-table idempotence**: parse the target text, load the file printed for it on any device state, print what the
device then holds (kernel spelling, comment lines, counters), parse that, compare with the target: no difference. -/
theorem table_idempotent (cfg : KCfg) (a : AState) (h : AStateOK cfg a) (st : KState) :
    ∃ tb tb' st',
      parseIPTables (userText a) = .ok tb ∧
      restore st ((getIPTablesConfig tb).map toRLn) = some st' ∧
      (∀ tbl ∈ a, st'.get tbl.name = some (kTableOf userWords (sortT tbl))) ∧
      (∀ t, (∀ tbl ∈ a, tbl.name ≠ t) → st'.get t = st.get t) ∧
      parseIPTables (saveText cfg (sortS a)) = .ok tb' ∧
      diffIPTables tb' tb = .same := by
  have hs := aStateOK_sort cfg a h
  have hpU := parse_userText cfg a h
  have hpK : parseIPTables (saveText cfg (sortS a)) = .ok (mkTables (kernelOpts cfg) (sortS a)) := by
    have := parse_saveText cfg (sortS a) hs [] nofun
    rwa [List.append_nil] at this
  obtain ⟨st', hr, h1, h2⟩ := restore_target (mkTables userOpts a) st (parseIPTables_wft _ _ hpU).2
  refine ⟨_, _, st', hpU, hr, ?_, ?_, hpK, ?_⟩
  · intro tbl ht
    rw [h1 tbl.name _ (getA_mkTables userOpts a h.tnodup tbl ht), expTable_eq tbl (h.cnodup tbl ht)]
  · intro t hne
    apply h2
    rw [getA_mkTables_eq]
    cases hf : a.find? (fun x => x.name = t) with
    | none => rfl
    | some tbl =>
      exact absurd (by simpa using List.find?_some hf) (hne tbl (List.mem_of_find?_eq_some hf))
  · exact diff_sorted_same cfg a h

end NA.C05
