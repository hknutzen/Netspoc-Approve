import NA.Proofs.IosConvExec
import NA.Proofs.IosConvPlan
import NA.Proofs.IosConvBlock
/-!
A suppressed move leaves a line at its old position `d` instead of its new position `j`; the kept line
is `E`-related to the line the target has (equal, or equal up to `log`).  If it may be swapped with every
line present between the two positions, the two lists are `BlockEqG E` (`pick_move`); undoing one
suppressed move at a time, the final device list is `BlockEqG E` to the target (`finalMask_blockEq`
under `SupprOK`).
-/
namespace NA.Acl

attribute [-simp] List.getD_eq_getElem?_getD

theorem pick_pull_front (L : List Line) (μ : List Bool) (d : Nat) (hd : d < L.length)
    (ht : μ.getD d false = true)
    (hsw : ∀ k, k < d → μ.getD k false = true → swappable (L.getD d default) (L.getD k default)) :
    BlockEq (pick L μ) (L.getD d default :: pick L (μ.set d false)) := by
  induction L generalizing μ d with
  | nil => simp at hd
  | cons y L ih =>
    obtain _ | ⟨m, ν⟩ := μ
    · simp at ht
    cases d with
    | zero =>
      have hm : m = true := ht
      subst hm
      exact BlockEq.refl _
    | succ e =>
      have ih' : BlockEq (pick L ν) (L.getD e default :: pick L (ν.set e false)) :=
        ih ν e (Nat.lt_of_succ_lt_succ hd) ht fun k hk hp => hsw (k + 1) (Nat.succ_lt_succ hk) hp
      cases m with
      | false => exact ih'
      | true =>
        have hs : swappable (L.getD e default) y := hsw 0 (Nat.succ_pos e) rfl
        exact (ih'.cons y).trans (BlockEq.swap [] _ y (L.getD e default) (swappable_symm hs))

theorem set_self_false (μ : List Bool) (j : Nat) (h : μ.getD j false = false) : μ.set j false = μ := by
  refine ListFacts.ext_getD false (by simp) fun i _ => ?_
  rw [ListFacts.getD_set]
  split
  · rename_i hc
    rw [← hc.1, h]
  · rfl

theorem pick_push_front (L : List Line) (μ : List Bool) (j : Nat) (hj : j < L.length)
    (hl : μ.length = L.length) (hf : μ.getD j false = false)
    (hsw : ∀ k, k < j → μ.getD k false = true → swappable (L.getD j default) (L.getD k default)) :
    BlockEq (L.getD j default :: pick L μ) (pick L (μ.set j true)) := by
  have h := pick_pull_front L (μ.set j true) j hj (by rw [ListFacts.getD_set]; simp [hl, hj])
    (by
      intro k hkj hp
      rw [ListFacts.getD_set, if_neg (by omega)] at hp
      exact hsw k hkj hp)
  rw [List.set_set, set_self_false μ j hf] at h
  exact h.symm

/-- The induction strips the common prefix; at the upper of the two positions the line is pulled to
the front, or pushed down from it. -/
theorem pick_move (E : Line → Line → Prop)
    (hEsw : ∀ a b c, E a b → swappable a c → swappable b c)
    (L : List Line) (μ : List Bool) (j d : Nat) (hj : j < L.length) (hd : d < L.length)
    (hl : μ.length = L.length) (hf : μ.getD j false = false) (ht : μ.getD d false = true)
    (heq : E (L.getD d default) (L.getD j default))
    (hsw : ∀ k, (j < k ∧ k < d ∨ d < k ∧ k < j) → μ.getD k false = true →
      swappable (L.getD d default) (L.getD k default)) :
    BlockEqG E (pick L μ) (pick L ((μ.set d false).set j true)) := by
  induction L generalizing μ j d with
  | nil => simp at hd
  | cons y L ih =>
    obtain _ | ⟨m, ν⟩ := μ
    · simp at ht
    cases j with
    | zero =>
      have hm : m = false := hf
      subst hm
      cases d with
      | zero => exact Bool.noConfusion ht
      | succ e =>
        have hpull : BlockEq (pick L ν) (L.getD e default :: pick L (ν.set e false)) :=
          pick_pull_front L ν e (Nat.lt_of_succ_lt_succ hd) ht fun k hk hp =>
            hsw (k + 1) (Or.inl ⟨Nat.succ_pos k, Nat.succ_lt_succ hk⟩) hp
        exact (hpull.toG E).trans (BlockEqG.repl [] _ (L.getD e default) y heq)
    | succ i =>
      cases d with
      | zero =>
        have hm : m = true := ht
        subst hm
        have hpush : BlockEq (L.getD i default :: pick L ν) (pick L (ν.set i true)) :=
          pick_push_front L ν i (Nat.lt_of_succ_lt_succ hj) (Nat.succ.inj hl) hf fun k hk hp =>
            hEsw _ _ _ heq (hsw (k + 1) (Or.inr ⟨Nat.succ_pos k, Nat.succ_lt_succ hk⟩) hp)
        exact (BlockEqG.repl [] _ y (L.getD i default) heq).trans (hpush.toG E)
      | succ e =>
        have ih' : BlockEqG E (pick L ν) (pick L ((ν.set e false).set i true)) :=
          ih ν i e (Nat.lt_of_succ_lt_succ hj) (Nat.lt_of_succ_lt_succ hd) (Nat.succ.inj hl) hf ht heq
            fun k hk hp => hsw (k + 1) (hk.imp (fun h => ⟨Nat.succ_lt_succ h.1, Nat.succ_lt_succ h.2⟩)
              fun h => ⟨Nat.succ_lt_succ h.1, Nat.succ_lt_succ h.2⟩) hp
        cases m with
        | false => exact ih'
        | true => exact ih'.cons y

theorem getD_map_line (M : List Cell) (k : Nat) :
    (M.map (·.line)).getD k default = (M.getD k default).line := by
  rw [List.getD_eq_getElem?_getD, List.getD_eq_getElem?_getD, List.getElem?_map]
  cases M[k]? <;> rfl

/-- Every suppressed move (new-only `j ∈ S`, deleted partner `d`) keeps an `E`-related line, and every cell
strictly between the two positions that belongs to the target, or is itself kept by a suppressed
move, may be swapped with it. -/
def SupprOK (E : Line → Line → Prop) (M : List Cell) (S : List Nat) : Prop :=
  ∀ j ∈ S, ∃ d ∈ delIdx M, (M.getD d default).line.mkey = (M.getD j default).line.mkey ∧
    E (M.getD d default).line (M.getD j default).line ∧
    ∀ k, k < M.length → (j < k ∧ k < d ∨ d < k ∧ k < j) →
      ((M.getD k default).new = true ∨
        ∃ j' ∈ S, (M.getD j' default).line.mkey = (M.getD k default).line.mkey) →
      swappable (M.getD d default).line (M.getD k default).line

theorem finalMask_present {M : List Cell} {S : List Nat} {k : Nat} (hk : k < M.length)
    (hp : (finalMask M S).getD k false = true) :
    (M.getD k default).new = true ∨
      ∃ j' ∈ S, (M.getD j' default).line.mkey = (M.getD k default).line.mkey := by
  rw [finalMask_getD M S k hk] at hp
  cases hn : (M.getD k default).new with
  | true => exact Or.inl rfl
  | false =>
    right
    simp only [hn, Bool.false_eq_true, if_false, Bool.and_eq_true, List.any_eq_true, beq_iff_eq] at hp
    exact hp.2

theorem finalMask_step (M : List Cell) (hno : ((olds M).map (·.mkey)).Nodup)
    (hnn : ((news M).map (·.mkey)).Nodup) (j : Nat) (S : List Nat) (hj : j ∈ addIdx M)
    (hjS : j ∉ S) (hS : ∀ j' ∈ S, j' ∈ addIdx M) (d : Nat) (hd : d ∈ delIdx M)
    (hm : (M.getD d default).line.mkey = (M.getD j default).line.mkey) :
    finalMask M S = ((finalMask M (j :: S)).set d false).set j true := by
  obtain ⟨hjl, hjo, hjn⟩ := (mem_addIdx M j).1 hj
  obtain ⟨hdl, hdo, hdn⟩ := (mem_delIdx M d).1 hd
  refine ListFacts.ext_getD false (by simp [finalMask_length]) fun i h1 => ?_
  have hi : i < M.length := finalMask_length M S ▸ h1
  rw [ListFacts.getD_set, ListFacts.getD_set, finalMask_getD M S i hi, finalMask_getD M (j :: S) i hi]
  simp only [List.length_set, finalMask_length]
  by_cases hji : j = i
  · subst hji
    simp [hjn, hjl, hjS]
  · simp only [hji, false_and, if_false]
    by_cases hdi : d = i
    · subst hdi
      simp only [hdl, and_self, if_true, hdn, Bool.false_eq_true, if_false, hdo, Bool.true_and]
      rw [List.any_eq_false]
      intro j' hj' hcon
      simp only [beq_iff_eq] at hcon
      obtain ⟨hjl', -, hjn'⟩ := (mem_addIdx M j').1 (hS j' hj')
      have := newInj_of_nodup M hnn _ _ hjl' hjl hjn' hjn (by rw [hcon, hm])
      subst this
      exact hjS hj'
    · simp only [hdi, false_and, if_false]
      cases hn : (M.getD i default).new with
      | true =>
        have : i ≠ j := fun e : i = j => hji e.symm
        simp [this]
      | false =>
        cases ho : (M.getD i default).old with
        | false => simp
        | true =>
          have : ((M.getD j default).line.mkey == (M.getD i default).line.mkey) = false := by
            rw [beq_eq_false_iff_ne]
            intro hcon
            exact hdi (oldInj_of_nodup M hno _ _ hdl hi hdo ho (by rw [hm, hcon]))
          simp [List.any_cons, this]

theorem finalMask_blockEq (E : Line → Line → Prop)
    (hEsw : ∀ a b c, E a b → swappable a c → swappable b c)
    (M : List Cell) (hno : ((olds M).map (·.mkey)).Nodup)
    (hnn : ((news M).map (·.mkey)).Nodup) (S : List Nat) (hS : ∀ j ∈ S, j ∈ addIdx M)
    (hnd : S.Nodup) (hok : SupprOK E M S) :
    BlockEqG E (masked M (finalMask M S)) (news M) := by
  induction S with
  | nil => rw [finalMask_nil, masked_new]; exact BlockEqG.refl _
  | cons j S ih =>
    obtain ⟨hjS, hnd'⟩ := List.nodup_cons.mp hnd
    have hj : j ∈ addIdx M := hS j List.mem_cons_self
    have hS' : ∀ j' ∈ S, j' ∈ addIdx M := fun j' h => hS j' (List.mem_cons_of_mem _ h)
    obtain ⟨d, hd, hm, hline, hsw⟩ := hok j List.mem_cons_self
    obtain ⟨hjl, hjo, hjn⟩ := (mem_addIdx M j).1 hj
    obtain ⟨hdl, hdo, hdn⟩ := (mem_delIdx M d).1 hd
    have hok' : SupprOK E M S := by
      intro j' hj'
      obtain ⟨d', hd', hm', hline', hsw'⟩ := hok j' (List.mem_cons_of_mem _ hj')
      refine ⟨d', hd', hm', hline', ?_⟩
      intro k hk hb hp
      apply hsw' k hk hb
      rcases hp with hp | ⟨j'', hj'', hm''⟩
      · exact Or.inl hp
      · exact Or.inr ⟨j'', List.mem_cons_of_mem _ hj'', hm''⟩
    refine BlockEqG.trans ?_ (ih hS' hnd' hok')
    rw [finalMask_step M hno hnn j S hj hjS hS' d hd hm]
    rw [masked_eq_pick, masked_eq_pick]
    apply pick_move E hEsw _ _ j d (by simpa using hjl) (by simpa using hdl) (by simp [finalMask])
    · rw [finalMask_getD M _ j hjl]
      simp [hjn, hjo]
    · rw [finalMask_getD M _ d hdl]
      simp [hdo, hdn, hm]
    · rw [getD_map_line, getD_map_line]; exact hline
    · intro k hb hp
      have hk : k < M.length := by omega
      rw [getD_map_line, getD_map_line]
      exact hsw k hk hb (finalMask_present hk hp)

end NA.Acl
