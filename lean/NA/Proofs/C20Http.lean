import NA.Proofs.C20
import NA.Model.CursorHttp
/-!
Decoded structures.  NSX: what the checks of `ParseConfig` let through is `Valid`, and on that every accessor path of the diff
code (`x[0]`, field through pointer) is safe.  PAN-OS: `checkRaw`, `MergeSpoc`, `getDevName`; the recursion through
address-groups is bounded on a group graph with a rank function.  Info files: `LoadInfoFile` panics only where the code says `panic(`.
-/
namespace NA.C20.Nsx
open NA.C20 NA.C20.Res

theorem forAll_spec {α : Type} {f : α → Res Unit} {Q : α → Prop} {D : Str → Prop} {N : Panic → Prop} :
    ∀ {l : List α}, (∀ a ∈ l, Spec (fun _ => Q a) D N (f a)) → Spec (fun _ => ∀ a ∈ l, Q a) D N (forAll f l)
  | [], _ => fun _ h => nomatch h
  | a :: _, h =>
    (h a (List.mem_cons_self ..)).bind fun _ ha =>
      (forAll_spec fun b hb => h b (List.mem_cons_of_mem _ hb)).imp fun _ has => List.forall_mem_cons.2 ⟨ha, has⟩

theorem forAll_noPanic {α : Type} {f : α → Res Unit} {l : List α} (h : ∀ a ∈ l, NoPanic (f a)) : NoPanic (forAll f l) :=
  (forAll_spec (Q := fun _ => True) fun a ha => spec_of_noPanic (h a ha)).noPanic

structure NonNull (c : Config) : Prop where
  pol : ∀ p ∈ c.policies, ∃ q, p = some q ∧ ∀ r ∈ q.rules, r ≠ none
  grp : ∀ g ∈ c.groups, ∃ h, g = some h ∧ ∀ e ∈ h.expression, e ≠ none
  srv : ∀ s ∈ c.services, s ≠ none

/-- the statement per element of each loop (`Q` of `forAll_spec`) is found by unification with the fields of `NonNull`. -/
theorem checkNoNull_spec (c : Config) : Spec (fun _ => NonNull c) (fun _ => True) (fun _ => False) (checkNoNull c) := by
  unfold checkNoNull
  refine (forAll_spec fun p _ => ?_).bind fun _ h1 =>
    (forAll_spec fun g _ => ?_).bind fun _ h2 =>
    (forAll_spec fun s _ => ?_).imp fun _ h3 => ⟨h1, h2, h3⟩
  · cases p with
    | none => trivial
    | some p => exact (forAll_spec fun r _ => by cases r; trivial; exact nofun).imp fun _ h => ⟨p, rfl, h⟩
  · cases g with
    | none => trivial
    | some g => exact (forAll_spec fun e _ => by cases e; trivial; exact nofun).imp fun _ h => ⟨g, rfl, h⟩
  · cases s; trivial; exact nofun

theorem checkNoNull_noPanic (c : Config) : NoPanic (checkNoNull c) := (checkNoNull_spec c).noPanic
theorem checkNoNull_ok (c : Config) (h : checkNoNull c = .ok ()) : NonNull c := (checkNoNull_spec c).ok h

theorem checkRaw_noPanic (c : Config) (hn : NonNull c) : NoPanic (checkRaw c) := by
  unfold checkRaw
  refine NoPanic.bind (forAll_noPanic fun p hp => ?_) fun _ =>
    NoPanic.bind (forAll_noPanic fun p hp => ?_) fun _ =>
    NoPanic.bind (forAll_noPanic fun g hg => ?_) fun _ => forAll_noPanic fun s hs => ?_
  · obtain ⟨q, rfl, hr⟩ := hn.pol p hp
    refine forAll_noPanic fun r hrm => ?_
    cases r with
    | none => exact absurd rfl (hr none hrm)
    | some r => exact NoPanic.ite noPanic_diag noPanic_ok
  · obtain ⟨q, rfl, _⟩ := hn.pol p hp
    simp only [deref, Res.bind]
    exact NoPanic.ite noPanic_diag noPanic_ok
  · obtain ⟨q, rfl, _⟩ := hn.grp g hg
    simp only [deref, Res.bind]
    exact NoPanic.ite noPanic_diag (NoPanic.ite noPanic_diag noPanic_ok)
  · cases s with
    | none => exact absurd rfl (hn.srv none hs)
    | some s => simp only [deref, Res.bind]; exact NoPanic.ite noPanic_diag noPanic_ok

structure Valid (c : Config) : Prop where
  nn : NonNull c
  rules : ∀ p ∈ c.policies, ∀ q, p = some q → ∀ r ∈ q.rules, ∀ x, r = some x →
    x.src.length = 1 ∧ x.dst.length = 1 ∧ x.srv.length = 1
  groups : ∀ g ∈ c.groups, ∀ h, g = some h → h.expression.length = 1

theorem checkConfigValidity_spec (c : Config) (hn : NonNull c) :
    Spec (fun _ => Valid c) (fun _ => True) (fun _ => False) (checkConfigValidity c) := by
  unfold checkConfigValidity
  refine (forAll_spec fun p hp => ?_).bind fun _ h1 =>
    (forAll_spec fun g hg => ?_).imp fun _ h2 => ⟨hn, h1, h2⟩
  · obtain ⟨q, rfl, hr⟩ := hn.pol p hp
    refine (forAll_spec (Q := fun r => ∀ x, r = some x → x.src.length = 1 ∧ x.dst.length = 1 ∧ x.srv.length = 1)
      fun r hrm => ?_).imp fun _ h q' e => Option.some.inj e ▸ h
    cases r with
    | none => exact absurd rfl (hr none hrm)
    | some r =>
      simp only [deref, Res.bind]
      split
      · trivial
      · rename_i hne; intro x e; cases e; simpa using hne
  · obtain ⟨q, rfl, _⟩ := hn.grp g hg
    simp only [deref, Res.bind]
    split
    · trivial
    · rename_i hne; intro h e; cases e; simpa using hne

theorem checkConfigValidity_noPanic (c : Config) (hn : NonNull c) : NoPanic (checkConfigValidity c) :=
  (checkConfigValidity_spec c hn).noPanic

theorem validate_spec (isRaw : Bool) (c : Config) :
    Spec (fun _ => Valid c) (fun _ => True) (fun _ => False) (validate true isRaw c) := by
  unfold validate
  refine (checkNoNull_spec c).bind fun _ hn => Spec.bind (P := fun _ => True) ?_ fun _ _ => checkConfigValidity_spec c hn
  split
  · exact spec_of_noPanic (checkRaw_noPanic c hn)
  · trivial

theorem validate_noPanic (isRaw : Bool) (c : Config) : NoPanic (validate true isRaw c) := (validate_spec isRaw c).noPanic
theorem validate_ok (isRaw : Bool) (c : Config) (h : validate true isRaw c = .ok ()) : Valid c := (validate_spec isRaw c).ok h

theorem groupAddrs_noPanic (c : Config) (hv : Valid c) (g : Option Group) (hg : g ∈ c.groups) :
    NoPanic (groupAddrs g) := by
  obtain ⟨q, rfl, he⟩ := hv.nn.grp g hg
  obtain ⟨e, hq⟩ := List.length_eq_one_iff.1 (hv.groups _ hg q rfl)
  unfold groupAddrs
  simp only [deref, Res.bind, hq]
  cases e with
  | none => exact absurd rfl (he none (hq ▸ List.mem_singleton_self _))
  | some e => exact noPanic_ok

theorem sortGroups_noPanic (c : Config) (hv : Valid c) : NoPanic (sortGroups c) :=
  forAll_noPanic fun g hg => NoPanic.bind (groupAddrs_noPanic c hv g hg) fun _ => noPanic_ok

/-- `sortRules` after the fix: a group of a validated configuration may have no address. -/
theorem firstAddr_noPanic (c : Config) (hv : Valid c) (g : Option Group) (hg : g ∈ c.groups) :
    NoPanic (firstAddr true g) := by
  unfold firstAddr
  refine NoPanic.bind (groupAddrs_noPanic c hv g hg) fun l => ?_
  split
  · exact noPanic_ok
  · exact noPanic_ok

theorem mem_allRules {c : Config} {r : Option Rule} (h : r ∈ allRules c) :
    ∃ q, some q ∈ c.policies ∧ r ∈ q.rules := by
  obtain ⟨p, hp, hr⟩ := List.mem_flatMap.1 h
  cases p with
  | none => simp at hr
  | some q => exact ⟨q, hp, hr⟩

theorem ruleKeys_noPanic (c : Config) (hv : Valid c) (r : Option Rule) (hr : r ∈ allRules c) :
    NoPanic (ruleKeys r) := by
  obtain ⟨q, hq, hrq⟩ := mem_allRules hr
  obtain ⟨q', hq', hnn⟩ := hv.nn.pol _ hq
  cases hq'
  cases r with
  | none => exact absurd rfl (hnn none hrq)
  | some x =>
    obtain ⟨h1, h2, h3⟩ := hv.rules _ hq q rfl _ hrq x rfl
    obtain ⟨a, ha⟩ := List.length_eq_one_iff.1 h1
    obtain ⟨b, hb⟩ := List.length_eq_one_iff.1 h2
    obtain ⟨s, hs⟩ := List.length_eq_one_iff.1 h3
    unfold ruleKeys
    simp only [deref, Res.bind, ha, hb, hs]
    exact noPanic_ok

theorem equalizeHead_noPanic (ruleId path : Str) (ga gb : Option Group) :
    NoPanic (equalizeHead true ruleId path ga gb) := by
  unfold equalizeHead
  split
  · exact noPanic_ok
  · split
    · exact noPanic_ok
    · exact noPanic_failAt_fixed _ _

end NA.C20.Nsx

namespace NA.C20.PanOs
open NA.C20 NA.C20.Res

theorem checkRaw_noPanic (c : Config) : NoPanic (checkRaw true c) := by
  unfold checkRaw
  split
  · exact noPanic_ok
  · exact noPanic_ok

theorem addVsys_noPanic (p1 : Config) (v : Vsys) : NoPanic (addVsys true p1 v) := by
  unfold addVsys
  split
  · exact noPanic_ok
  · exact noPanic_ok
  · exact noPanic_ok

theorem mergeNew_noPanic : ∀ (vs : List Vsys) (p1 : Config), NoPanic (mergeNew true p1 vs)
  | [], _ => noPanic_ok
  | v :: vs, p1 => NoPanic.bind (addVsys_noPanic p1 v) (mergeNew_noPanic vs)

theorem mergeSpoc_noPanic (p1 p2 : Config) : NoPanic (mergeSpoc true p1 p2) := by
  unfold mergeSpoc
  split
  · exact noPanic_diag
  · exact mergeNew_noPanic _ _

/-- `GetChanges`: `p1.Devices.Entries[0].Name` is only read for a vsys that was found in the first
device, so the first device exists. -/
theorem devNameFor_noPanic (p1 : Config) (vname : Str) : NoPanic (devNameFor p1 vname) := by
  obtain ⟨_ | _ | _⟩ := p1
  · exact noPanic_ok
  · exact noPanic_ok
  · exact NoPanic.ite noPanic_ok noPanic_ok

theorem getDevName_noPanic (h : Option (List Str)) : NoPanic (getDevName true h) := by
  unfold getDevName
  split <;> exact noPanic_ok

/-- what `checkGroupCycle` establishes before `diffConfig` goes on (`checkGroupCycle_ranked`, C20Cycle). -/
def Ranked (groups : Str → Option (List Str)) (rk : Str → Nat) : Prop :=
  ∀ n ms, groups n = some ms → ∀ m ∈ ms, rk m < rk n

theorem Ranked.members {groups : Str → Option (List Str)} {rk : Str → Nat} (hrk : Ranked groups rk) {e : Str}
    {ms : List Str} (hg : groups e = some ms) {fuel : Nat} (he : rk e + 1 < fuel + 1) :
    (∀ m ∈ ms, rk m + 1 < fuel) ∧ 0 < fuel :=
  ⟨fun m hm => by have := hrk e ms hg m hm; omega, by omega⟩

theorem objListType_noPanic (groups : Str → Option (List Str)) (isAddr : Str → Bool) (rk : Str → Nat)
    (hrk : Ranked groups rk) (fuel : Nat) (l : List Str) (hl : ∀ e ∈ l, rk e + 1 < fuel) (h0 : 0 < fuel) :
    NoPanic (objListType groups isAddr fuel l) := by
  fun_induction objListType groups isAddr fuel l
  case case1 => exact absurd h0 (Nat.lt_irrefl 0)
  case case3 hg ih =>
    obtain ⟨hms, hf⟩ := hrk.members hg (hl _ (List.mem_singleton_self _))
    exact NoPanic.bind (ih hms hf) fun t => noPanic_ok
  all_goals exact noPanic_ok

theorem markAddresses_noPanic (groups : Str → Option (List Str)) (rk : Str → Nat) (hrk : Ranked groups rk)
    (fuel : Nat) (l : List Str) (hl : ∀ e ∈ l, rk e + 1 < fuel) (h0 : 0 < fuel) :
    NoPanic (markAddresses groups fuel l) := by
  fun_induction markAddresses groups fuel l
  case case1 => exact absurd h0 (Nat.lt_irrefl 0)
  case case2 => exact noPanic_ok
  case case3 fuel e rest ihm ihr =>
    refine NoPanic.bind ?_ fun _ => ihr (fun x hx => hl x (List.mem_cons_of_mem _ hx)) h0
    split
    · rename_i ms hg
      obtain ⟨hms, hf⟩ := hrk.members hg (hl e (List.mem_cons_self ..))
      exact ihm ms hms hf
    · exact noPanic_ok

/-- `ch`: a cycle of one-member groups, unrolled. -/
theorem objListType_chain (groups : Str → Option (List Str)) (isAddr : Str → Bool) (ch : Nat → Str)
    (hg : ∀ k, groups (ch k) = some [ch (k + 1)]) (hany : ∀ k, ch k ≠ lit "any") : ∀ fuel k,
    objListType groups isAddr fuel [ch k] = .panic (.explicit "fatal error: stack overflow")
  | 0, _ => rfl
  | fuel + 1, k => by
    unfold objListType
    simp only [hany k, if_false, hg k]
    rw [objListType_chain groups isAddr ch hg hany fuel (k + 1)]
    rfl

theorem objListType_cycle (isAddr : Str → Bool) (fuel : Nat) :
    objListType (fun n => if n = lit "g0" then some [lit "g0"] else none) isAddr fuel [lit "g0"] =
      .panic (.explicit "fatal error: stack overflow") :=
  objListType_chain _ isAddr (fun _ => lit "g0") (fun _ => if_pos rfl)
    (fun _ => by simp -index only [lit_ofList]; decide) fuel 0

theorem objListType_cycle2 (isAddr : Str → Bool) (fuel : Nat) :
    objListType (fun n => if n = lit "g0" then some [lit "g1"] else if n = lit "g1" then some [lit "g0"] else none)
        isAddr fuel [lit "g0"] = .panic (.explicit "fatal error: stack overflow") := by
  have h10 : ¬ (lit "g1" = lit "g0") := by simp -index only [lit_ofList]; decide
  refine objListType_chain _ isAddr (fun k => if k % 2 = 0 then lit "g0" else lit "g1") (fun k => ?_) (fun k => ?_) fuel 0
  · rcases Nat.mod_two_eq_zero_or_one k with h | h <;> simp [h, Nat.add_mod, h10]
  · split <;> (simp -index only [lit_ofList]; decide)

end NA.C20.PanOs

namespace NA.C20.Files
open NA.C20 NA.C20.Res

/-- the two `panic(err)` stay in the code because the suite expects them (drc.t). -/
theorem loadInfoFile_panic (l : List OpenRes) (p : Panic) (h : loadInfoFile true l = .panic p) :
    ∃ o ∈ l, (o = .otherErr ∧ p = .explicit "panic(err) // open") ∨
      ∃ n i, o = .content false n i ∧ p = .explicit "panic(err) // decode" := by
  fun_induction loadInfoFile true l
  case case2 ih | case7 ih => obtain ⟨o, ho, h⟩ := ih h; exact ⟨o, List.mem_cons_of_mem _ ho, h⟩
  case case3 => cases h; exact ⟨_, List.mem_cons_self .., Or.inl ⟨rfl, rfl⟩⟩
  case case4 dec n i _ hd =>
    cases h
    exact ⟨_, List.mem_cons_self .., Or.inr ⟨n, i, Bool.eq_false_iff.2 hd ▸ rfl, rfl⟩⟩
  case case5 hn => exact absurd rfl hn.2
  case case1 | case6 => cases h

theorem loadInfoFile_explicitOnly (l : List OpenRes) (p : Panic) (h : loadInfoFile true l = .panic p) :
    ∃ s, p = .explicit s := by
  obtain ⟨_, _, ⟨_, hp⟩ | ⟨_, _, _, hp⟩⟩ := loadInfoFile_panic l p h <;> exact ⟨_, hp⟩

theorem loadInfoFile_noPanic (l : List OpenRes)
    (h : ∀ o ∈ l, o ≠ .otherErr ∧ ∀ d n i, o = .content d n i → d = true) : NoPanic (loadInfoFile true l) := by
  intro p hp
  obtain ⟨o, ho, ⟨rfl, _⟩ | ⟨n, i, rfl, _⟩⟩ := loadInfoFile_panic l p hp
  · exact (h _ ho).1 rfl
  · cases (h _ ho).2 false n i rfl

end NA.C20.Files
