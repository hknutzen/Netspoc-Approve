import NA.Model.IosRemoveBanner
/-!
# `removeBanner`: a configuration with banner definitions at any positions is cleaned to the
configuration without them
-/
namespace NA.Ios

def IsLine (l : Str) : Prop := ∃ b, l = b ++ ['\n'] ∧ '\n' ∉ b

theorem splitKeepNL_line_append (l rest : Str) (hl : IsLine l) :
    splitKeepNL (l ++ rest) = (l :: (splitKeepNL rest).1, (splitKeepNL rest).2) := by
  obtain ⟨b, rfl, hb⟩ := hl
  induction b with
  | nil =>
    show splitKeepNL ('\n' :: rest) = _
    rw [splitKeepNL]; simp
  | cons c b ih =>
    have hc : (c == '\n') = false := by simp; exact fun e => hb (by simp [e])
    have ih' := ih (fun e => hb (by simp [e]))
    show splitKeepNL (c :: (b ++ ['\n'] ++ rest)) = _
    rw [splitKeepNL]
    simp only [hc, Bool.false_eq_true, if_false, ih']
    rfl

theorem splitKeepNL_tail (t : Str) (h : '\n' ∉ t) : splitKeepNL t = ([], t) := by
  induction t with
  | nil => rfl
  | cons c t ih =>
    have hc : (c == '\n') = false := by simp; exact fun e => h (by simp [e])
    rw [splitKeepNL]
    simp [hc, ih (fun e => h (by simp [e]))]

/-- pieces of a configuration text -/
inductive Seg where
  /-- a line that does not start a banner -/
  | plain (l : Str)
  /-- a banner definition: start line, body lines, end line -/
  | banner (start : Str) (body : List Str) (endl : Str)

def Seg.lines : Seg → List Str
  | .plain l => [l]
  | .banner s b e => s :: b ++ [e]

def Seg.kept : Seg → List Str
  | .plain l => [l]
  | .banner _ _ _ => []

def Seg.Valid : Seg → Prop
  | .plain l => IsLine l ∧ bannerStart l = none
  | .banner s b e => IsLine s ∧ IsLine e ∧ (∀ l ∈ b, IsLine l) ∧
      ∃ d, bannerStart s = some d ∧ (∀ l ∈ b, l.head? ≠ some d) ∧ e.head? = some d

theorem rbLines_body (d : Char) (b : List Str) (e : Str) (rest : List Str)
    (hb : ∀ l ∈ b, l.head? ≠ some d) (he : e.head? = some d) :
    rbLines (some d) (b ++ e :: rest) = rbLines none rest := by
  induction b with
  | nil => simp [rbLines, he]
  | cons l b ih =>
    have hl : (l.head? == some d) = false := beq_eq_false_iff_ne.2 (hb l (by simp))
    show rbLines (some d) (l :: (b ++ e :: rest)) = _
    rw [rbLines]
    simp only [hl, Bool.false_eq_true, if_false]
    exact ih (fun x hx => hb x (by simp [hx]))

theorem rbLines_segs (segs : List Seg) (hv : ∀ s ∈ segs, s.Valid) :
    rbLines none (segs.flatMap Seg.lines) = (segs.flatMap Seg.kept).flatten := by
  induction segs with
  | nil => rfl
  | cons s segs ih =>
    have ih' := ih (fun x hx => hv x (by simp [hx]))
    have hs := hv s (by simp)
    cases s with
    | plain l =>
      obtain ⟨_, hn⟩ := hs
      simp only [List.flatMap_cons, Seg.lines, Seg.kept, List.singleton_append, List.flatten_cons]
      rw [rbLines]
      simp only [hn]
      rw [ih']
    | banner st b e =>
      obtain ⟨_, _, _, d, hd, hb, he⟩ := hs
      simp only [List.flatMap_cons, Seg.lines, Seg.kept, List.nil_append, List.cons_append, List.append_assoc]
      rw [rbLines]
      simp only [hd]
      rw [rbLines_body d b e _ hb he, ih']

theorem splitKeepNL_lines (ls : List Str) (t : Str) (hl : ∀ l ∈ ls, IsLine l) (ht : '\n' ∉ t) :
    splitKeepNL (ls.flatten ++ t) = (ls, t) := by
  induction ls with
  | nil => simpa using splitKeepNL_tail t ht
  | cons l ls ih =>
    rw [List.flatten_cons, List.append_assoc, splitKeepNL_line_append l (ls.flatten ++ t) (hl l (by simp)),
      ih (fun x hx => hl x (by simp [hx]))]

theorem Seg.lines_isLine (s : Seg) (h : s.Valid) : ∀ l ∈ s.lines, IsLine l := by
  cases s with
  | plain l => intro x hx; simp [Seg.lines] at hx; subst hx; exact h.1
  | banner st b e =>
    intro x hx
    simp [Seg.lines] at hx
    rcases hx with rfl | hx | rfl
    · exact h.1
    · exact h.2.2.1 x hx
    · exact h.2.1

theorem removeBanner_clean (segs : List Seg) (t : Str) (hv : ∀ s ∈ segs, s.Valid) (ht : '\n' ∉ t) :
    removeBanner ((segs.flatMap Seg.lines).flatten ++ t) = (segs.flatMap Seg.kept).flatten ++ t := by
  have hl : ∀ l ∈ segs.flatMap Seg.lines, IsLine l := by
    intro l hl
    obtain ⟨s, hs, hls⟩ := List.mem_flatMap.1 hl
    exact Seg.lines_isLine s (hv s hs) l hls
  unfold removeBanner
  rw [splitKeepNL_lines _ t hl ht]
  simp only
  rw [rbLines_segs segs hv]

/-- a text without banner start lines is returned unchanged -/
theorem removeBanner_id (ls : List Str) (t : Str) (hl : ∀ l ∈ ls, IsLine l ∧ bannerStart l = none)
    (ht : '\n' ∉ t) : removeBanner (ls.flatten ++ t) = ls.flatten ++ t := by
  have := removeBanner_clean (ls.map Seg.plain) t (by
    intro s hs; obtain ⟨l, hl', rfl⟩ := List.mem_map.1 hs; exact hl l hl') ht
  simpa only [List.flatMap_map, Seg.lines, Seg.kept, List.flatMap_singleton'] using this

end NA.Ios
