import NA.Proofs.C17
/-!
# Lemmas for C17 at the level of functions and runs

`keygen` (model of `getAPIKey`) and `prefixGet` (model of `httpPrefixGetLog`) as a whole, the request
loop of a PAN-OS run, and the SSH session trace.
-/
namespace NA.Mask

/-- The body of a successful keygen response: anything around one `<key>K</key>` element. -/
def keyBody (pre k post : Str) : Str := pre ++ (litOpen ++ (k ++ (litClose ++ post)))

theorem Safe.noNl {k : Str} (h : Safe k) : NoNl k := by
  intro c hc
  simp [notNl, (h c hc).2]

theorem safe_litPass : Safe litPass := by unfold Safe litPass; decide

theorem keygenUri_shape (addr user pass : Str) :
    keygenUri addr user pass =
      (addr ++ "/api?".toList) ++ (litPass ++ (queryEscape pass ++ '&' :: kgTail user)) := by
  unfold keygenUri
  rw [keygen_query, List.append_assoc]

theorem maskPass_keygenUri (addr user p1 p2 : Str) :
    maskPass (keygenUri addr user p1) = maskPass (keygenUri addr user p2) := by
  rw [keygenUri_shape, keygenUri_shape]
  exact maskLazy_independent litPass true safe_litPass (queryEscape_safe p1) (queryEscape_safe p2) _ _

theorem goQuote_litPass : goQuote litPass = litPass := by decide

theorem maskPass_urlError (op addr user p1 p2 msg : Str) :
    maskPass (urlError op (keygenUri addr user p1) msg) = maskPass (urlError op (keygenUri addr user p2) msg) := by
  have shape : ∀ p : Str, urlError op (keygenUri addr user p) msg =
      (op ++ ' ' :: '"' :: goQuote (addr ++ "/api?".toList)) ++
        (litPass ++ (queryEscape p ++ '&' :: (goQuote (kgTail user) ++ '"' :: ':' :: ' ' :: msg))) := by
    intro p
    unfold urlError
    rw [keygenUri_shape]
    simp only [goQuote_append, goQuote_litPass, goQuote_queryEscape, goQuote_cons_amp, List.append_assoc,
      List.cons_append]
  rw [shape p1, shape p2]
  exact maskLazy_independent litPass true safe_litPass (queryEscape_safe p1) (queryEscape_safe p2) _ _

theorem keygen_pass_independent (addr user p1 p2 : Str) (r : Reply) :
    keygen addr user p1 r = keygen addr user p2 r := by
  unfold keygen
  simp only [maskPass_keygenUri addr user p1 p2]
  cases r with
  | terr m => simp only [maskPass_urlError sGet addr user p1 p2 m]
  | _ => rfl

theorem keygen_key_independent (addr user pass pre post k1 k2 : Str) :
    keygen addr user pass (.ok (keyBody pre k1 post)) = keygen addr user pass (.ok (keyBody pre k2 post)) := by
  unfold keygen keyBody
  simp only [Reply.body, maskKey_independent k1 k2 pre post]

theorem prefixGet_log (addr uri k1 k2 : Str) (r : Reply) :
    (prefixGet (logPrefix addr) (urlPrefix addr k1) uri r).1 = (prefixGet (logPrefix addr) (urlPrefix addr k2) uri r).1 := rfl

def Reply.isTerr : Reply → Bool
  | .terr _ => true
  | _ => false

theorem prefixGet_err (addr uri : Str) (k1 k2 : Str) (r : Reply) (hr : r.isTerr = false) :
    (prefixGet (logPrefix addr) (urlPrefix addr k1) uri r).2 = (prefixGet (logPrefix addr) (urlPrefix addr k2) uri r).2 := by
  cases r <;> simp_all [prefixGet, Reply.isTerr]

theorem prefixGet_eq (addr uri k1 k2 : Str) (r : Reply) (hr : r.isTerr = false) :
    prefixGet (logPrefix addr) (urlPrefix addr k1) uri r = prefixGet (logPrefix addr) (urlPrefix addr k2) uri r :=
  Prod.ext (prefixGet_log addr uri k1 k2 r) (prefixGet_err addr uri k1 k2 r hr)

/-- The request loop reaches a transport error (before any other failure). -/
def hitsTerr : List Req → List Reply → Bool
  | [], _ => false
  | _ :: _, [] => false
  | _ :: qs, r :: rs =>
    match r with
    | .terr _ => true
    | .ok _ => hitsTerr qs rs
    | _ => false

/-- **The path of finding F-C17**: login and HA check succeeded and a later request ends in a
transport error. -/
def leakPath (kg : Reply) (reqs : List Req) (reps : List Reply) : Bool :=
  match kg, reps with
  | .ok _, .ok _ :: rest => hitsTerr reqs rest
  | _, _ => false

theorem panosReqs_independent (addr k1 k2 : Str) :
    ∀ (reqs : List Req) (reps : List Reply) (s : Sinks), hitsTerr reqs reps = false →
      panosReqs (logPrefix addr) (urlPrefix addr k1) reqs reps s = panosReqs (logPrefix addr) (urlPrefix addr k2) reqs reps s := by
  intro reqs
  induction reqs with
  | nil => intro reps s _; simp [panosReqs]
  | cons q qs ih =>
    intro reps s hh
    cases reps with
    | nil => simp [panosReqs]
    | cons r rs =>
      have hr : r.isTerr = false := by
        cases r <;> simp_all [hitsTerr, Reply.isTerr]
      simp only [panosReqs, prefixGet_eq addr q.uri k1 k2 r hr]
      cases r with
      | terr m => simp [Reply.isTerr] at hr
      | ok b =>
        have : hitsTerr qs rs = false := by simpa [hitsTerr] using hh
        simp only [prefixGet, ih rs _ this]
      | _ => simp [prefixGet]

/-- Forget what was sent. -/
def Op.erase : Op → Op
  | .send _ => .send []
  | o => o

theorem sshStep_erase (st : SshState) (o : Op) : sshStep st o.erase = sshStep st o := by
  cases o <;> rfl

theorem sshRun_erase (ops : List Op) : sshRun (ops.map Op.erase) = sshRun ops := by
  unfold sshRun
  simp only [List.foldl_map, sshStep_erase]

def expects : List Op → List Str
  | [] => []
  | .expect o :: r => o :: expects r
  | _ :: r => expects r

def noSetLog : List Op → Bool
  | [] => true
  | .setLog _ :: _ => false
  | _ :: r => noSetLog r

theorem sshRun_login_aux (ops : List Op) (h : noSetLog ops = true) (st : SshState) (hc : st.cur = some .login) :
    (ops.foldl sshStep st).sinks.login = st.sinks.login ++ (expects ops).map crlf2lf ∧
    (ops.foldl sshStep st).sinks.config = st.sinks.config ∧
    (ops.foldl sshStep st).sinks.change = st.sinks.change := by
  induction ops generalizing st with
  | nil => simp [expects]
  | cons o os ih =>
    cases o with
    | send c =>
      exact ih h st hc
    | expect out =>
      have := ih h (sshStep st (.expect out)) (by simp [sshStep, hc])
      simp only [List.foldl_cons, expects, List.map_cons]
      rw [this.1, this.2.1, this.2.2]
      simp [sshStep, hc, Sinks.add]
    | setLog l => simp [noSetLog] at h
    | abort m =>
      have := ih h (sshStep st (.abort m)) hc
      simp only [List.foldl_cons, expects]
      rw [this.1, this.2.1, this.2.2]
      simp [sshStep, Sinks.err]

end NA.Mask
