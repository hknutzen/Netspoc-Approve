import NA.Proofs.C03Lists
/-
C03 / C07 / C08: `markObjects`.  `markAddresses` and `markServices` treat a name that is not a group alike, on the
tables of addresses resp. of services (`markObj`): what that does to the flags is proved once, on two tables.
Everything marking does to the planner state is within the relation `Marking`; what the loops keep comes from one
induction each (`markAddrs_rel`, `markSrvs_rel`), what they establish for a name of the list from `foldl_reach`; where
the flags come from (`markAddrs_prov` ff., which need the names of the list) is a walk of its own.  Core Lean only.
-/
namespace NA.PanOs

/-- What the loops of `markAddresses` and of `markServices` do with a name that is not a group, on the
device's table `as` and the target's table `bs` of addresses resp. services. -/
def markObj (as : List AObj) (bs : List BObj) (name : String) : List AObj × List BObj :=
  match lastIdx (bs.map (·.o.name)) name with
  | none => (as, bs)
  | some bi =>
    match lastIdx (as.map (·.o.name)) name with
    | some ai =>
      let as' := modAt as ai (fun o => { o with needed := true })
      let va := (as'[ai]?.map (·.o.val)).getD ""
      let vb := (bs[bi]?.map (·.o.val)).getD ""
      (as', if va != vb then modAt bs bi (fun o => { o with edit := true }) else bs)
    | none => (as, modAt bs bi (fun o => { o with needed := true }))

inductive MarkObjCase (as : List AObj) (bs : List BObj) (x : String) : List AObj × List BObj → Prop
  | absent (hb : lastIdx (bs.map (·.o.name)) x = none) : MarkObjCase as bs x (as, bs)
  | fresh {bi : Nat} {ob : BObj} (hb : lastIdx (bs.map (·.o.name)) x = some bi) (hob : bs[bi]? = some ob)
      (hnb : ob.o.name = x) (ha : lastIdx (as.map (·.o.name)) x = none) :
      MarkObjCase as bs x (as, modAt bs bi (fun o => { o with needed := true }))
  | same {bi ai : Nat} {ob : BObj} {oa : AObj} (hb : lastIdx (bs.map (·.o.name)) x = some bi)
      (hob : bs[bi]? = some ob) (ha : lastIdx (as.map (·.o.name)) x = some ai) (hoa : as[ai]? = some oa)
      (hna : oa.o.name = x) (hv : oa.o.val = ob.o.val) : MarkObjCase as bs x (modAt as ai (fun o => { o with needed := true }), bs)
  | differ {bi ai : Nat} {ob : BObj} {oa : AObj} (hb : lastIdx (bs.map (·.o.name)) x = some bi)
      (hob : bs[bi]? = some ob) (hnb : ob.o.name = x) (ha : lastIdx (as.map (·.o.name)) x = some ai)
      (hoa : as[ai]? = some oa) (hna : oa.o.name = x) (hv : oa.o.val ≠ ob.o.val) :
      MarkObjCase as bs x
        (modAt as ai (fun o => { o with needed := true }), modAt bs bi (fun o => { o with edit := true }))

theorem markObj_spec (as : List AObj) (bs : List BObj) (x : String) : MarkObjCase as bs x (markObj as bs x) := by
  unfold markObj
  cases hb : lastIdx (bs.map (·.o.name)) x with
  | none => exact .absent hb
  | some bi =>
    obtain ⟨ob, hob, hnb⟩ := lastIdx_map_get hb
    cases ha : lastIdx (as.map (·.o.name)) x with
    | none => exact .fresh hb hob hnb ha
    | some ai =>
      obtain ⟨oa, hoa, hna⟩ := lastIdx_map_get ha
      simp only [modAt_getElem?_self _ hoa, hob, Option.map_some, Option.getD_some]
      by_cases hv : oa.o.val = ob.o.val
      · rw [if_neg (by simpa using hv)]; exact .same hb hob ha hoa hna hv
      · rw [if_pos (by simpa using hv)]; exact .differ hb hob hnb ha hoa hna hv

def AObj.Le (o o' : AObj) : Prop := o'.o = o.o ∧ (o.needed = true → o'.needed = true)

def BObj.Le (o o' : BObj) : Prop :=
  o'.o = o.o ∧ (o.needed = true → o'.needed = true) ∧ (o.edit = true → o'.edit = true)

theorem AObj.Le.refl (o : AObj) : o.Le o := ⟨rfl, id⟩

theorem AObj.Le.trans {x y z : AObj} (h₁ : x.Le y) (h₂ : y.Le z) : x.Le z := ⟨h₂.1.trans h₁.1, h₂.2 ∘ h₁.2⟩

theorem BObj.Le.refl (o : BObj) : o.Le o := ⟨rfl, id, id⟩

theorem BObj.Le.trans {x y z : BObj} (h₁ : x.Le y) (h₂ : y.Le z) : x.Le z :=
  ⟨h₂.1.trans h₁.1, h₂.2.1 ∘ h₁.2.1, h₂.2.2 ∘ h₁.2.2⟩

structure ObjUp (as : List AObj) (bs : List BObj) (as' : List AObj) (bs' : List BObj) : Prop where
  a : as'.map (·.o) = as.map (·.o)
  b : bs'.map (·.o) = bs.map (·.o)
  aUp : Pointwise AObj.Le as as'
  bUp : Pointwise BObj.Le bs bs'

theorem ObjUp.refl (as : List AObj) (bs : List BObj) : ObjUp as bs as bs :=
  ⟨rfl, rfl, .refl AObj.Le.refl as, .refl BObj.Le.refl bs⟩

theorem ObjUp.trans {as as' as'' : List AObj} {bs bs' bs'' : List BObj} (h₁ : ObjUp as bs as' bs')
    (h₂ : ObjUp as' bs' as'' bs'') : ObjUp as bs as'' bs'' :=
  ⟨h₂.a.trans h₁.a, h₂.b.trans h₁.b, h₁.aUp.trans @AObj.Le.trans h₂.aUp, h₁.bUp.trans @BObj.Le.trans h₂.bUp⟩

theorem ObjUp.modA (as : List AObj) (bs : List BObj) (ai : Nat) :
    ObjUp as bs (modAt as ai (fun o => { o with needed := true })) bs :=
  ⟨modAt_map _ _ _ _ (fun _ => rfl), rfl, .modAt AObj.Le.refl as ai _ (fun _ => ⟨rfl, fun _ => rfl⟩),
    .refl BObj.Le.refl bs⟩

theorem ObjUp.modB (as : List AObj) (bs : List BObj) (bi : Nat) {f : BObj → BObj} (hf : ∀ x : BObj, x.Le (f x)) :
    ObjUp as bs as (modAt bs bi f) :=
  ⟨rfl, modAt_map _ _ _ _ (fun x => (hf x).1), .refl AObj.Le.refl as, .modAt BObj.Le.refl bs bi f hf⟩

theorem ObjUp.aNames {as as' : List AObj} {bs bs' : List BObj} (h : ObjUp as bs as' bs') :
    as'.map (·.o.name) = as.map (·.o.name) := map_comp_of_map_eq Obj.name h.a

theorem ObjUp.bNames {as as' : List AObj} {bs bs' : List BObj} (h : ObjUp as bs as' bs') :
    bs'.map (·.o.name) = bs.map (·.o.name) := map_comp_of_map_eq Obj.name h.b

theorem markObj_up (as : List AObj) (bs : List BObj) (x : String) :
    ObjUp as bs (markObj as bs x).1 (markObj as bs x).2 := by
  have hc := markObj_spec as bs x
  generalize markObj as bs x = p at hc ⊢
  cases hc with
  | absent => exact ObjUp.refl as bs
  | @fresh bi => exact ObjUp.modB as bs bi (fun _ => ⟨rfl, fun _ => rfl, id⟩)
  | @same _ ai => exact ObjUp.modA as bs ai
  | @differ bi ai =>
    exact (ObjUp.modA as bs ai).trans (ObjUp.modB _ bs bi (fun _ => ⟨rfl, id, fun _ => rfl⟩))

def EntrySound (as : List AObj) (ob : BObj) : Prop :=
  (ob.needed = true → lastIdx (as.map (·.o.name)) ob.o.name = none) ∧
  (ob.edit = true → ∃ (ai : Nat) (oa : AObj), lastIdx (as.map (·.o.name)) ob.o.name = some ai ∧
    as[ai]? = some oa ∧ oa.o.val ≠ ob.o.val)

def ObjFlagSound (as : List AObj) (bs : List BObj) : Prop :=
  ∀ (bi : Nat) (ob : BObj), bs[bi]? = some ob → EntrySound as ob

/-- Name `x` (if the target's table defines it) is taken care of: kept as it is, edited, or transferred. -/
def ObjCovered (as : List AObj) (bs : List BObj) (x : String) : Prop :=
  ∀ bi, lastIdx (bs.map (·.o.name)) x = some bi → ∃ ob : BObj, bs[bi]? = some ob ∧
    ((∃ (ai : Nat) (oa : AObj), lastIdx (as.map (·.o.name)) x = some ai ∧ as[ai]? = some oa ∧
        (oa.o.val = ob.o.val ∨ ob.edit = true)) ∨
      (lastIdx (as.map (·.o.name)) x = none ∧ ob.needed = true))

def ObjMarked (as : List AObj) (x : String) : Prop :=
  ∀ ai, lastIdx (as.map (·.o.name)) x = some ai → ∃ o, as[ai]? = some o ∧ o.needed = true

theorem ObjMarked.mono {as as' : List AObj} {bs bs' : List BObj} {x : String} (h : ObjUp as bs as' bs')
    (hm : ObjMarked as x) : ObjMarked as' x := by
  intro ai hai
  rw [h.aNames] at hai
  obtain ⟨o, ho, hn⟩ := hm ai hai
  obtain ⟨o', ho', _, hn'⟩ := h.aUp ai o ho
  exact ⟨o', ho', hn' hn⟩

theorem ObjMarked.needed_of_nodup {as : List AObj} {x : String} (hm : ObjMarked as x)
    (hnd : (as.map (·.o.name)).Nodup) {o : AObj} (ho : o ∈ as) (hx : o.o.name = x) : o.needed = true := by
  obtain ⟨ai, hai⟩ := Option.isSome_iff_exists.mp (lastIdx_isSome_of_mem (names := as.map (·.o.name)) (List.mem_map.mpr ⟨o, ho, hx⟩))
  obtain ⟨o', ho', hn⟩ := hm ai hai
  rw [ListFacts.eq_of_nodup_map hnd ho (List.mem_of_getElem? ho')
    (hx.trans (lastIdx_map_name (f := (·.o.name)) hai ho').symm)]
  exact hn

theorem ObjCovered.mono {as as' : List AObj} {bs bs' : List BObj} {x : String} (h : ObjUp as bs as' bs')
    (hc : ObjCovered as bs x) : ObjCovered as' bs' x := by
  intro bi hbi
  rw [h.bNames] at hbi
  obtain ⟨ob, hob, hcase⟩ := hc bi hbi
  obtain ⟨ob', hob', heq, hn, he⟩ := h.bUp bi ob hob
  refine ⟨ob', hob', ?_⟩
  rw [h.aNames, heq]
  rcases hcase with ⟨ai, oa, hai, hoa, hv⟩ | ⟨hnone, hneed⟩
  · obtain ⟨oa', hoa', heqa, _⟩ := h.aUp ai oa hoa
    exact Or.inl ⟨ai, oa', hai, hoa', hv.imp (fun e => by rw [heqa]; exact e) he⟩
  · exact Or.inr ⟨hnone, hn hneed⟩

theorem EntrySound.upA {as as' : List AObj} {bs bs' : List BObj} {ob : BObj} (h : ObjUp as bs as' bs')
    (hs : EntrySound as ob) : EntrySound as' ob := by
  unfold EntrySound
  rw [h.aNames]
  refine ⟨hs.1, fun he => ?_⟩
  obtain ⟨ai, oa, q1, q2, q3⟩ := hs.2 he
  obtain ⟨oa', r1, r2, _⟩ := h.aUp ai oa q2
  exact ⟨ai, oa', q1, r1, by rw [r2]; exact q3⟩

theorem ObjFlagSound.modB {as : List AObj} {bs : List BObj} (hs : ObjFlagSound as bs) {bi : Nat} {ob : BObj}
    (hob : bs[bi]? = some ob) {f : BObj → BObj} (hf : EntrySound as (f ob)) : ObjFlagSound as (modAt bs bi f) := by
  intro j ob' h
  rcases mem_modAt_of_getElem? hob (List.mem_of_getElem? h) with hm | rfl
  · obtain ⟨k, hk⟩ := List.getElem?_of_mem hm
    exact hs k ob' hk
  · exact hf

theorem markObj_sound {as : List AObj} {bs : List BObj} (hs : ObjFlagSound as bs) (x : String) :
    ObjFlagSound (markObj as bs x).1 (markObj as bs x).2 := by
  have hc := markObj_spec as bs x
  generalize markObj as bs x = p at hc ⊢
  cases hc with
  | absent => exact hs
  | fresh hb hob hnb ha => exact hs.modB hob ⟨fun _ => by rw [hnb]; exact ha, (hs _ _ hob).2⟩
  | @same _ ai => exact fun bi ob hob => (hs bi ob hob).upA (ObjUp.modA as bs ai)
  | @differ _ ai _ oa hb hob hnb ha hoa _ hv =>
    have up := ObjUp.modA as bs ai
    have hs' : ObjFlagSound (modAt as ai (fun o => { o with needed := true })) bs :=
      fun bi ob hob => (hs bi ob hob).upA up
    exact hs'.modB hob ⟨(hs' _ _ hob).1, fun _ => ⟨ai, { oa with needed := true },
      by rw [up.aNames, hnb]; exact ha, modAt_getElem?_self _ hoa, hv⟩⟩

theorem markObj_covers (as : List AObj) (bs : List BObj) (x : String) :
    ObjCovered (markObj as bs x).1 (markObj as bs x).2 x := by
  intro bi h
  rw [(markObj_up as bs x).bNames] at h
  rw [(markObj_up as bs x).aNames]
  have hc := markObj_spec as bs x
  generalize markObj as bs x = p at hc ⊢
  cases hc with
  | absent hb => rw [hb] at h; cases h
  | @fresh _ ob hb hob _ ha =>
    rw [hb] at h; cases h
    exact ⟨{ ob with needed := true }, modAt_getElem?_self _ hob, Or.inr ⟨ha, rfl⟩⟩
  | @same _ _ ob oa hb hob ha hoa _ hv =>
    rw [hb] at h; cases h
    exact ⟨ob, hob, Or.inl ⟨_, { oa with needed := true }, ha, modAt_getElem?_self _ hoa, Or.inl hv⟩⟩
  | @differ _ _ ob oa hb hob _ ha hoa _ _ =>
    rw [hb] at h; cases h
    exact ⟨{ ob with edit := true }, modAt_getElem?_self _ hob,
      Or.inl ⟨_, { oa with needed := true }, ha, modAt_getElem?_self _ hoa, Or.inr rfl⟩⟩

theorem markObj_marks (as : List AObj) {bs : List BObj} {x : String}
    (hx : (lastIdx (bs.map (·.o.name)) x).isSome) : ObjMarked (markObj as bs x).1 x := by
  intro ai h
  rw [(markObj_up as bs x).aNames] at h
  have hc := markObj_spec as bs x
  generalize markObj as bs x = p at hc ⊢
  cases hc with
  | absent hb => rw [hb] at hx; cases hx
  | fresh _ _ _ ha => rw [ha] at h; cases h
  | @same _ _ _ oa _ _ ha hoa =>
    rw [ha] at h; cases h
    exact ⟨{ oa with needed := true }, modAt_getElem?_self _ hoa, rfl⟩
  | @differ _ _ _ oa _ _ _ ha hoa =>
    rw [ha] at h; cases h
    exact ⟨{ oa with needed := true }, modAt_getElem?_self _ hoa, rfl⟩

def ObjProv (R : String → Prop) (as : List AObj) (bs : List BObj) : Prop :=
  (∀ ob ∈ bs, (ob.needed = true ∨ ob.edit = true) → R ob.o.name) ∧ (∀ oa ∈ as, oa.needed = true → R oa.o.name)

theorem markObj_prov {R : String → Prop} {as : List AObj} {bs : List BObj} {x : String} (hx : R x)
    (hp : ObjProv R as bs) : ObjProv R (markObj as bs x).1 (markObj as bs x).2 := by
  -- a changed entry is the one named `x`
  have provA : ∀ {ai : Nat} {oa : AObj}, as[ai]? = some oa → oa.o.name = x →
      ∀ o ∈ modAt as ai (fun o => { o with needed := true }), o.needed = true → R o.o.name := by
    intro ai oa hoa hna o ho hn
    rcases mem_modAt_of_getElem? hoa ho with h | rfl
    · exact hp.2 o h hn
    · exact hna ▸ hx
  have provB : ∀ {bi : Nat} {ob : BObj} (f : BObj → BObj), (∀ o, (f o).o = o.o) → bs[bi]? = some ob → ob.o.name = x →
      ∀ o ∈ modAt bs bi f, (o.needed = true ∨ o.edit = true) → R o.o.name := by
    intro bi ob f hf hob hnb o ho hn
    rcases mem_modAt_of_getElem? hob ho with h | rfl
    · exact hp.1 o h hn
    · rw [hf, hnb]; exact hx
  have hc := markObj_spec as bs x
  generalize markObj as bs x = p at hc ⊢
  cases hc with
  | absent => exact hp
  | fresh _ hob hnb => exact ⟨provB _ (fun _ => rfl) hob hnb, hp.2⟩
  | same _ _ _ hoa hna => exact ⟨hp.1, provA hoa hna⟩
  | differ _ hob hnb _ hoa hna => exact ⟨provB _ (fun _ => rfl) hob hnb, provA hoa hna⟩

/-! ### What the flags of the planner state mean

`St.aAddrIdx st x` is `lastIdx (st.aAddr.map (·.o.name)) x`, and so on: the three predicates on
addresses unfold to `ObjFlagSound st.aAddr st.bAddr`, `ObjCovered st.aAddr st.bAddr x`,
`ObjMarked st.aAddr x`, those on services to the same on `st.aSvc`, `st.bSvc`.  The proofs below
use this without further words. -/

def FlagSound (st : St) : Prop :=
  ∀ (bi : Nat) (ob : BObj), st.bAddr[bi]? = some ob →
    (ob.needed = true → st.aAddrIdx ob.o.name = none) ∧
    (ob.edit = true → ∃ (ai : Nat) (oa : AObj), st.aAddrIdx ob.o.name = some ai ∧ st.aAddr[ai]? = some oa ∧
      oa.o.val ≠ ob.o.val)

def Covered (st : St) (x : String) : Prop :=
  ∀ bi, st.bAddrIdx x = some bi → ∃ ob : BObj, st.bAddr[bi]? = some ob ∧
    ((∃ (ai : Nat) (oa : AObj), st.aAddrIdx x = some ai ∧ st.aAddr[ai]? = some oa ∧
        (oa.o.val = ob.o.val ∨ ob.edit = true)) ∨
      (st.aAddrIdx x = none ∧ ob.needed = true))

def Marked (st : St) (x : String) : Prop :=
  ∀ ai, st.aAddrIdx x = some ai → ∃ o, st.aAddr[ai]? = some o ∧ o.needed = true

def SFlagSound (st : St) : Prop :=
  ∀ (bi : Nat) (ob : BObj), st.bSvc[bi]? = some ob →
    (ob.needed = true → st.aSvcIdx ob.o.name = none) ∧
    (ob.edit = true → ∃ (ai : Nat) (oa : AObj), st.aSvcIdx ob.o.name = some ai ∧ st.aSvc[ai]? = some oa ∧
      oa.o.val ≠ ob.o.val)

def SCovered (st : St) (x : String) : Prop :=
  ∀ bi, st.bSvcIdx x = some bi → ∃ ob : BObj, st.bSvc[bi]? = some ob ∧
    ((∃ (ai : Nat) (oa : AObj), st.aSvcIdx x = some ai ∧ st.aSvc[ai]? = some oa ∧
        (oa.o.val = ob.o.val ∨ ob.edit = true)) ∨
      (st.aSvcIdx x = none ∧ ob.needed = true))

def SMarked (st : St) (x : String) : Prop :=
  ∀ ai, st.aSvcIdx x = some ai → ∃ o, st.aSvc[ai]? = some o ∧ o.needed = true

theorem FlagSound.mono {st st' : St} (hs : FlagSound st') : FlagSound st' := hs

theorem SFlagSound.mono {st st' : St} (hs : SFlagSound st') : SFlagSound st' := hs

structure GMark (st st' : St) : Prop where
  ag : st'.aGrp = st.aGrp
  bg : st'.bGrp.map (fun g => (g.g, g.newName, g.onDev)) = st.bGrp.map (fun g => (g.g, g.newName, g.onDev))
  up : ∀ (i : Nat) (gb gb' : BGrp), st.bGrp[i]? = some gb → st'.bGrp[i]? = some gb' → gb.needed = true → gb'.needed = true

theorem GMark.get {st st' : St} (h : GMark st st') {i : Nat} {gb : BGrp} (hi : st.bGrp[i]? = some gb) :
    ∃ gb', st'.bGrp[i]? = some gb' ∧ gb'.g = gb.g ∧ gb'.newName = gb.newName ∧ gb'.onDev = gb.onDev := by
  obtain ⟨gb', hgb', e⟩ := getElem?_of_map_eq h.bg hi
  simp only [Prod.mk.injEq] at e
  exact ⟨gb', hgb', e⟩

theorem GMark.get' {st st' : St} (h : GMark st st') {i : Nat} {gb' : BGrp} (hi : st'.bGrp[i]? = some gb') :
    ∃ gb, st.bGrp[i]? = some gb ∧ gb'.g = gb.g ∧ gb'.newName = gb.newName ∧ gb'.onDev = gb.onDev := by
  obtain ⟨gb, hgb, e⟩ := getElem?_of_map_eq h.bg.symm hi
  simp only [Prod.mk.injEq] at e
  exact ⟨gb, hgb, e.1.symm, e.2.1.symm, e.2.2.symm⟩

theorem GMark.of_eq {st st' : St} (h1 : st'.aGrp = st.aGrp) (h2 : st'.bGrp = st.bGrp) : GMark st st' :=
  ⟨h1, by rw [h2], fun _ _ _ h h' hn => by rw [h2, h] at h'; cases h'; exact hn⟩

theorem GMark.refl (st : St) : GMark st st := GMark.of_eq rfl rfl

theorem GMark.trans {a b c : St} (h₁ : GMark a b) (h₂ : GMark b c) : GMark a c := by
  refine ⟨h₂.ag.trans h₁.ag, h₂.bg.trans h₁.bg, ?_⟩
  intro i gb gb'' hi hi'' hn
  obtain ⟨gb', hi', _⟩ := h₁.get hi
  exact h₂.up i gb' gb'' hi' hi'' (h₁.up i gb gb' hi hi' hn)

theorem GMark.setNeeded (st : St) (gi : Nat) :
    GMark st { st with bGrp := modAt st.bGrp gi (fun g => { g with needed := true }) } := by
  refine ⟨rfl, modAt_map st.bGrp gi _ (fun g => (g.g, g.newName, g.onDev)) (fun _ => rfl), ?_⟩
  intro i gb gb' hi hi' hn
  rcases modAt_getElem?_cases hi hi' with ⟨_, e⟩ | e
  · rw [e]
  · rw [e]; exact hn

theorem GMark.bNames {st st' : St} (h : GMark st st') : st'.bGrp.map (·.g) = st.bGrp.map (·.g) :=
  map_comp_of_map_eq (fun p : Grp × String × String => p.1) h.bg

theorem GMark.bIdx {st st' : St} (h : GMark st st') (x : String) : st'.bGrpIdx x = st.bGrpIdx x :=
  congrArg (lastIdx · x) (map_comp_of_map_eq Grp.name h.bNames)

structure Marking (st st' : St) : Prop where
  addr : ObjUp st.aAddr st.bAddr st'.aAddr st'.bAddr
  svc : ObjUp st.aSvc st.bSvc st'.aSvc st'.bSvc
  grp : GMark st st'
  aSG : st'.aSG.map (·.g) = st.aSG.map (·.g)
  bSG : st'.bSG.map (·.g) = st.bSG.map (·.g)
  out : st'.out = st.out

theorem Marking.refl (st : St) : Marking st st :=
  ⟨ObjUp.refl _ _, ObjUp.refl _ _, GMark.refl st, rfl, rfl, rfl⟩

theorem Marking.setNeeded (st : St) (gi : Nat) :
    Marking st { st with bGrp := modAt st.bGrp gi (fun g => { g with needed := true }) } :=
  ⟨ObjUp.refl _ _, ObjUp.refl _ _, GMark.setNeeded st gi, rfl, rfl, rfl⟩

theorem Marking.trans {a b c : St} (h₁ : Marking a b) (h₂ : Marking b c) : Marking a c :=
  ⟨h₁.addr.trans h₂.addr, h₁.svc.trans h₂.svc, h₁.grp.trans h₂.grp, h₂.aSG.trans h₁.aSG, h₂.bSG.trans h₁.bSG,
    h₂.out.trans h₁.out⟩

theorem Marking.bAddrIdx {st st' : St} (h : Marking st st') (x : String) : st'.bAddrIdx x = st.bAddrIdx x :=
  congrArg (lastIdx · x) h.addr.bNames

theorem Marking.bSvcIdx {st st' : St} (h : Marking st st') (x : String) : st'.bSvcIdx x = st.bSvcIdx x :=
  congrArg (lastIdx · x) h.svc.bNames

theorem Marking.bGrpIdx {st st' : St} (h : Marking st st') (x : String) : st'.bGrpIdx x = st.bGrpIdx x :=
  h.grp.bIdx x

theorem Marking.bSGIdx {st st' : St} (h : Marking st st') (x : String) : st'.bSGIdx x = st.bSGIdx x :=
  congrArg (lastIdx · x) (map_comp_of_map_eq Grp.name h.bSG)

theorem Covered.mono {st st' : St} {x : String} (h : Marking st st') (hc : Covered st x) : Covered st' x :=
  ObjCovered.mono h.addr hc

theorem Marked.mono {st st' : St} {x : String} (h : Marking st st') (hm : Marked st x) : Marked st' x :=
  ObjMarked.mono h.addr hm

theorem SCovered.mono {st st' : St} {x : String} (h : Marking st st') (hc : SCovered st x) : SCovered st' x :=
  ObjCovered.mono h.svc hc

theorem SMarked.mono {st st' : St} {x : String} (h : Marking st st') (hm : SMarked st x) : SMarked st' x :=
  ObjMarked.mono h.svc hm

def markAddrStep (fuel : Nat) (st : St) (name : String) : St :=
  match st.bGrpIdx name with
  | some gi =>
    let st := { st with bGrp := modAt st.bGrp gi (fun g => { g with needed := true }) }
    markAddrs fuel st ((st.bGrp[gi]?.map (·.g.members)).getD [])
  | none => { st with aAddr := (markObj st.aAddr st.bAddr name).1, bAddr := (markObj st.aAddr st.bAddr name).2 }

theorem markAddrs_succ (fuel : Nat) (st : St) (l : List String) :
    markAddrs (fuel + 1) st l = l.foldl (markAddrStep fuel) st := by
  rw [markAddrs]
  congr 1
  funext s name
  unfold markAddrStep markObj St.bAddrIdx St.aAddrIdx
  cases s.bGrpIdx name with
  | some gi => rfl
  | none =>
    cases lastIdx (s.bAddr.map (·.o.name)) name with
    | none => rfl
    | some bi =>
      cases lastIdx (s.aAddr.map (·.o.name)) name with
      | none => rfl
      | some ai => dsimp only; split <;> rfl

theorem markAddrStep_none {st : St} {x : String} (fuel : Nat) (h : st.bGrpIdx x = none) :
    markAddrStep fuel st x =
      { st with aAddr := (markObj st.aAddr st.bAddr x).1, bAddr := (markObj st.aAddr st.bAddr x).2 } := by
  unfold markAddrStep; rw [h]

def markSrvStep (fuel : Nat) (st : St) (name : String) : St :=
  match st.bSGIdx name with
  | some gi =>
    let st := { st with bSG := modAt st.bSG gi (fun g => { g with needed := true }) }
    let ms := (st.bSG[gi]?.map (·.g.members)).getD []
    let st := markSrvs fuel st ms
    match st.aSGIdx name with
    | some ai =>
      let st := { st with aSG := modAt st.aSG ai (fun g => { g with needed := true }) }
      let msA := (st.aSG[ai]?.map (·.g.members)).getD []
      if servicesEq (st.aSvc.map (·.o)) (st.bSvc.map (·.o)) ms msA then
        { st with bSG := modAt st.bSG gi (fun g => { g with needed := false }) }
      else st
    | none => st
  | none => { st with aSvc := (markObj st.aSvc st.bSvc name).1, bSvc := (markObj st.aSvc st.bSvc name).2 }

theorem markSrvs_succ (fuel : Nat) (st : St) (l : List String) :
    markSrvs (fuel + 1) st l = l.foldl (markSrvStep fuel) st := by
  rw [markSrvs]
  congr 1
  funext s name
  unfold markSrvStep markObj St.bSvcIdx St.aSvcIdx
  cases s.bSGIdx name with
  | some gi => rfl
  | none =>
    cases lastIdx (s.bSvc.map (·.o.name)) name with
    | none => rfl
    | some bi =>
      cases lastIdx (s.aSvc.map (·.o.name)) name with
      | none => rfl
      | some ai => dsimp only; split <;> rfl

theorem markSrvStep_none {st : St} {x : String} (fuel : Nat) (h : st.bSGIdx x = none) :
    markSrvStep fuel st x =
      { st with aSvc := (markObj st.aSvc st.bSvc x).1, bSvc := (markObj st.aSvc st.bSvc x).2 } := by
  unfold markSrvStep; rw [h]

theorem foldl_rel {β : Type} {R : St → St → Prop} (refl : ∀ s, R s s) (trans : ∀ {a b c}, R a b → R b c → R a c)
    {f : St → β → St} (hf : ∀ s x, R s (f s x)) (l : List β) (s : St) : R s (l.foldl f s) :=
  (ListFacts.foldl_inv_rel (P := fun _ => True) refl (fun _ _ _ => trans) (fun x _ s _ => ⟨trivial, hf s x⟩) trivial).2

/-- Induction principle: a preorder that holds across the step for a group and across `markObj` on the address tables
holds across `markAddresses`. -/
theorem markAddrs_rel {R : St → St → Prop} (refl : ∀ s, R s s) (trans : ∀ {a b c}, R a b → R b c → R a c)
    (grp : ∀ s gi, R s { s with bGrp := modAt s.bGrp gi (fun g => { g with needed := true }) })
    (obj : ∀ s x, s.bGrpIdx x = none →
      R s { s with aAddr := (markObj s.aAddr s.bAddr x).1, bAddr := (markObj s.aAddr s.bAddr x).2 }) :
    ∀ (fuel : Nat) (st : St) (l : List String), R st (markAddrs fuel st l) := by
  intro fuel
  induction fuel with
  | zero => intro st _; exact refl st
  | succ fuel ih =>
    intro st l
    rw [markAddrs_succ]
    refine foldl_rel refl trans (fun s x => ?_) l st
    cases hg : s.bGrpIdx x with
    | none => rw [markAddrStep_none fuel hg]; exact obj s x hg
    | some gi => unfold markAddrStep; rw [hg]; exact trans (grp s gi) (ih _ _)

/-- The same for `markServices`: the relation has to allow any change of the `needed` flag of a
service-group, and `markObj` on the service tables. -/
theorem markSrvs_rel {R : St → St → Prop} (refl : ∀ s, R s s) (trans : ∀ {a b c}, R a b → R b c → R a c)
    (bsg : ∀ s gi v, R s { s with bSG := modAt s.bSG gi (fun g => { g with needed := v }) })
    (asg : ∀ s ai, R s { s with aSG := modAt s.aSG ai (fun g => { g with needed := true }) })
    (obj : ∀ s x, s.bSGIdx x = none →
      R s { s with aSvc := (markObj s.aSvc s.bSvc x).1, bSvc := (markObj s.aSvc s.bSvc x).2 }) :
    ∀ (fuel : Nat) (st : St) (l : List String), R st (markSrvs fuel st l) := by
  intro fuel
  induction fuel with
  | zero => intro st _; exact refl st
  | succ fuel ih =>
    intro st l
    rw [markSrvs_succ]
    refine foldl_rel refl trans (fun s x => ?_) l st
    cases hg : s.bSGIdx x with
    | none => rw [markSrvStep_none fuel hg]; exact obj s x hg
    | some gi =>
      unfold markSrvStep
      rw [hg]
      dsimp only
      split
      · split
        · exact trans (trans (trans (bsg s gi true) (ih _ _)) (asg _ _)) (bsg _ gi false)
        · exact trans (trans (bsg s gi true) (ih _ _)) (asg _ _)
      · exact trans (bsg s gi true) (ih _ _)

theorem markObjects_rel {R : St → St → Prop} (refl : ∀ s, R s s) (trans : ∀ {a b c}, R a b → R b c → R a c)
    (addrs : ∀ fuel st l, R st (markAddrs fuel st l)) (srvs : ∀ fuel st l, R st (markSrvs fuel st l))
    (fuel : Nat) (st : St) (rules : List Rule) : R st (markObjects fuel st rules) :=
  foldl_rel refl trans (fun _ _ => trans (trans (addrs ..) (addrs ..)) (srvs ..)) rules st

theorem markAddrs_frame : ∀ (fuel : Nat) (st : St) (l : List String),
    ∃ as bs gs, markAddrs fuel st l = { st with aAddr := as, bAddr := bs, bGrp := gs } :=
  markAddrs_rel (R := fun s s' => ∃ as bs gs, s' = { s with aAddr := as, bAddr := bs, bGrp := gs })
    (fun _ => ⟨_, _, _, rfl⟩) (fun ⟨_, _, _, h₁⟩ ⟨_, _, _, h₂⟩ => by subst h₁; exact ⟨_, _, _, h₂⟩)
    (fun _ _ => ⟨_, _, _, rfl⟩) (fun _ _ _ => ⟨_, _, _, rfl⟩)

theorem markSrvs_frame : ∀ (fuel : Nat) (st : St) (l : List String),
    ∃ as bs ag bg, markSrvs fuel st l = { st with aSvc := as, bSvc := bs, aSG := ag, bSG := bg } :=
  markSrvs_rel (R := fun s s' => ∃ as bs ag bg, s' = { s with aSvc := as, bSvc := bs, aSG := ag, bSG := bg })
    (fun _ => ⟨_, _, _, _, rfl⟩) (fun ⟨_, _, _, _, h₁⟩ ⟨_, _, _, _, h₂⟩ => by subst h₁; exact ⟨_, _, _, _, h₂⟩)
    (fun _ _ _ => ⟨_, _, _, _, rfl⟩) (fun _ _ => ⟨_, _, _, _, rfl⟩) (fun _ _ _ => ⟨_, _, _, _, rfl⟩)

theorem markAddrs_marking : ∀ (fuel : Nat) (st : St) (l : List String), Marking st (markAddrs fuel st l) :=
  markAddrs_rel Marking.refl Marking.trans Marking.setNeeded
    (fun s x _ => ⟨markObj_up s.aAddr s.bAddr x, ObjUp.refl _ _, .of_eq rfl rfl, rfl, rfl, rfl⟩)

theorem markSrvs_marking : ∀ (fuel : Nat) (st : St) (l : List String), Marking st (markSrvs fuel st l) :=
  markSrvs_rel Marking.refl Marking.trans
    (fun _ _ _ =>
      ⟨ObjUp.refl _ _, ObjUp.refl _ _, .of_eq rfl rfl, rfl, modAt_map _ _ _ _ (fun _ => rfl), rfl⟩)
    (fun _ _ =>
      ⟨ObjUp.refl _ _, ObjUp.refl _ _, .of_eq rfl rfl, modAt_map _ _ _ _ (fun _ => rfl), rfl, rfl⟩)
    (fun s x _ => ⟨ObjUp.refl _ _, markObj_up s.aSvc s.bSvc x, .of_eq rfl rfl, rfl, rfl, rfl⟩)

theorem markObjects_marking :
    ∀ (fuel : Nat) (st : St) (rules : List Rule), Marking st (markObjects fuel st rules) :=
  markObjects_rel Marking.refl Marking.trans markAddrs_marking markSrvs_marking

theorem markObjects_out (fuel : Nat) (st : St) (rules : List Rule) : (markObjects fuel st rules).out = st.out :=
  (markObjects_marking fuel st rules).out

def KeepsSound (st st' : St) : Prop := (FlagSound st → FlagSound st') ∧ (SFlagSound st → SFlagSound st')

theorem KeepsSound.refl (st : St) : KeepsSound st st := ⟨id, id⟩

theorem KeepsSound.trans {a b c : St} (h₁ : KeepsSound a b) (h₂ : KeepsSound b c) : KeepsSound a c :=
  ⟨h₂.1 ∘ h₁.1, h₂.2 ∘ h₁.2⟩

theorem markAddrs_sound : ∀ (fuel : Nat) (st : St) (l : List String), KeepsSound st (markAddrs fuel st l) :=
  markAddrs_rel KeepsSound.refl KeepsSound.trans (fun _ _ => ⟨id, id⟩) (fun _ x _ => ⟨fun h => markObj_sound h x, id⟩)

theorem markSrvs_sound : ∀ (fuel : Nat) (st : St) (l : List String), KeepsSound st (markSrvs fuel st l) :=
  markSrvs_rel KeepsSound.refl KeepsSound.trans (fun _ _ _ => ⟨id, id⟩) (fun _ _ => ⟨id, id⟩)
    (fun _ x _ => ⟨id, fun h => markObj_sound h x⟩)

theorem markObjects_sound :
    ∀ (fuel : Nat) (st : St) (rules : List Rule), KeepsSound st (markObjects fuel st rules) :=
  markObjects_rel KeepsSound.refl KeepsSound.trans markAddrs_sound markSrvs_sound

/-- In a fold whose steps are all in `Marking`: what the step for `x` establishes (`Q`, provided `G`
holds before it) holds at the end, if `Marking` keeps `G` and `Q`. -/
theorem foldl_reach {β : Type} {f : St → β → St} (hf : ∀ s y, Marking s (f s y)) {G Q : St → Prop}
    (hG : ∀ {s s'}, Marking s s' → G s → G s') (hQ : ∀ {s s'}, Marking s s' → Q s → Q s') {x : β}
    (hx : ∀ s, G s → Q (f s x)) : ∀ {l : List β} {s : St}, x ∈ l → G s → Q (l.foldl f s) := by
  intro l
  induction l with
  | nil => intro _ h; cases h
  | cons y ys ih =>
    intro s h hg
    rcases List.mem_cons.mp h with rfl | h
    · exact hQ (foldl_rel Marking.refl Marking.trans hf ys _) (hx s hg)
    · exact ih h (hG (hf s y) hg)

theorem markAddrStep_marking (fuel : Nat) (s : St) (x : String) : Marking s (markAddrStep fuel s x) := by
  have := markAddrs_marking (fuel + 1) s [x]
  rwa [markAddrs_succ] at this

theorem markSrvStep_marking (fuel : Nat) (s : St) (x : String) : Marking s (markSrvStep fuel s x) := by
  have := markSrvs_marking (fuel + 1) s [x]
  rwa [markSrvs_succ] at this

theorem markAddrs_covers (fuel : Nat) {l : List String} {st : St} {x : String} (hx : x ∈ l)
    (hg : st.bGrpIdx x = none) : Covered (markAddrs (fuel + 1) st l) x := by
  rw [markAddrs_succ]
  refine foldl_reach (markAddrStep_marking fuel) (G := fun s => s.bGrpIdx x = none) (Q := (Covered · x))
    (fun h hg => by rw [h.bGrpIdx]; exact hg) Covered.mono (fun s hg => ?_) hx hg
  rw [markAddrStep_none fuel hg]
  exact markObj_covers s.aAddr s.bAddr x

theorem markAddrs_marks (fuel : Nat) {l : List String} {st : St} {x : String} (hx : x ∈ l)
    (hg : st.bGrpIdx x = none) (hb : (st.bAddrIdx x).isSome) : Marked (markAddrs (fuel + 1) st l) x := by
  rw [markAddrs_succ]
  refine foldl_reach (markAddrStep_marking fuel) (G := fun s => s.bGrpIdx x = none ∧ (s.bAddrIdx x).isSome)
    (Q := (Marked · x)) (fun h hg => by rw [h.bGrpIdx, h.bAddrIdx]; exact hg) Marked.mono (fun s hg => ?_) hx ⟨hg, hb⟩
  rw [markAddrStep_none fuel hg.1]
  exact markObj_marks s.aAddr hg.2

theorem markSrvs_covers (fuel : Nat) {l : List String} {st : St} {x : String} (hx : x ∈ l)
    (hg : st.bSGIdx x = none) : SCovered (markSrvs (fuel + 1) st l) x := by
  rw [markSrvs_succ]
  refine foldl_reach (markSrvStep_marking fuel) (G := fun s => s.bSGIdx x = none) (Q := (SCovered · x))
    (fun h hg => by rw [h.bSGIdx]; exact hg) SCovered.mono (fun s hg => ?_) hx hg
  rw [markSrvStep_none fuel hg]
  exact markObj_covers s.aSvc s.bSvc x

theorem markSrvs_marks (fuel : Nat) {l : List String} {st : St} {x : String} (hx : x ∈ l)
    (hg : st.bSGIdx x = none) (hb : (st.bSvcIdx x).isSome) : SMarked (markSrvs (fuel + 1) st l) x := by
  rw [markSrvs_succ]
  refine foldl_reach (markSrvStep_marking fuel) (G := fun s => s.bSGIdx x = none ∧ (s.bSvcIdx x).isSome)
    (Q := (SMarked · x)) (fun h hg => by rw [h.bSGIdx, h.bSvcIdx]; exact hg) SMarked.mono (fun s hg => ?_) hx ⟨hg, hb⟩
  rw [markSrvStep_none fuel hg.1]
  exact markObj_marks s.aSvc hg.2

def markRule (fuel : Nat) (st : St) (r : Rule) : St :=
  markSrvs fuel (markAddrs fuel (markAddrs fuel st r.src) r.dst) r.srv

theorem markRule_marking (fuel : Nat) (s : St) (r : Rule) : Marking s (markRule fuel s r) :=
  ((markAddrs_marking ..).trans (markAddrs_marking ..)).trans (markSrvs_marking ..)

/-- What `markAddresses` establishes (`Q`) for a list `l` with `G l` holds after `markObjects` if
`G` holds for the sources or the destinations of a rule, provided `Marking` keeps `G` and `Q`. -/
theorem markObjects_addr {fuel : Nat} {G : List String → St → Prop} {Q : St → Prop}
    (hG : ∀ {l s s'}, Marking s s' → G l s → G l s') (hQ : ∀ {s s'}, Marking s s' → Q s → Q s')
    (base : ∀ {l s}, G l s → Q (markAddrs fuel s l)) {rules : List Rule} {st : St} {r : Rule} (hr : r ∈ rules)
    (hg : G r.src st ∨ G r.dst st) : Q (markObjects fuel st rules) := by
  rcases hg with hg | hg
  · exact foldl_reach (markRule_marking _) hG hQ
      (fun s hg => hQ ((markAddrs_marking ..).trans (markSrvs_marking ..)) (base hg)) hr hg
  · exact foldl_reach (markRule_marking _) hG hQ
      (fun s hg => hQ (markSrvs_marking ..) (base (hG (markAddrs_marking ..) hg))) hr hg

theorem markObjects_srv {fuel : Nat} {G Q : St → Prop} (hG : ∀ {s s'}, Marking s s' → G s → G s')
    (hQ : ∀ {s s'}, Marking s s' → Q s → Q s') {rules : List Rule} {st : St} {r : Rule} (hr : r ∈ rules)
    (base : ∀ {s}, G s → Q (markSrvs fuel s r.srv)) (hg : G st) : Q (markObjects fuel st rules) :=
  foldl_reach (markRule_marking _) hG hQ
    (fun _ hg => base (hG ((markAddrs_marking ..).trans (markAddrs_marking ..)) hg)) hr hg

theorem markObjects_covers (fuel : Nat) {rules : List Rule} {st : St} {r : Rule} {x : String} (hr : r ∈ rules)
    (hx : x ∈ r.src ∨ x ∈ r.dst) (hg : st.bGrpIdx x = none) : Covered (markObjects (fuel + 1) st rules) x :=
  markObjects_addr (G := fun l s => x ∈ l ∧ s.bGrpIdx x = none)
    (fun h hg => ⟨hg.1, (h.bGrpIdx x).trans hg.2⟩) Covered.mono (fun hg => markAddrs_covers fuel hg.1 hg.2) hr
    (hx.imp (⟨·, hg⟩) (⟨·, hg⟩))

theorem markObjects_marks (fuel : Nat) {rules : List Rule} {st : St} {r : Rule} {x : String} (hr : r ∈ rules)
    (hx : x ∈ r.src ∨ x ∈ r.dst) (hg : st.bGrpIdx x = none) (hb : (st.bAddrIdx x).isSome) :
    Marked (markObjects (fuel + 1) st rules) x :=
  markObjects_addr (G := fun l s => x ∈ l ∧ s.bGrpIdx x = none ∧ (s.bAddrIdx x).isSome)
    (fun h hg => ⟨hg.1, by rw [h.bGrpIdx, h.bAddrIdx]; exact hg.2⟩) Marked.mono
    (fun hg => markAddrs_marks fuel hg.1 hg.2.1 hg.2.2) hr (hx.imp (⟨·, hg, hb⟩) (⟨·, hg, hb⟩))

theorem markObjects_scovers (fuel : Nat) {rules : List Rule} {st : St} {r : Rule} {x : String} (hr : r ∈ rules)
    (hx : x ∈ r.srv) (hg : st.bSGIdx x = none) : SCovered (markObjects (fuel + 1) st rules) x :=
  markObjects_srv (G := fun s => s.bSGIdx x = none) (fun h hg => (h.bSGIdx x).trans hg) SCovered.mono hr
    (fun hg => markSrvs_covers fuel hx hg) hg

theorem markObjects_smarks (fuel : Nat) {rules : List Rule} {st : St} {r : Rule} {x : String} (hr : r ∈ rules)
    (hx : x ∈ r.srv) (hg : st.bSGIdx x = none) (hb : (st.bSvcIdx x).isSome) :
    SMarked (markObjects (fuel + 1) st rules) x :=
  markObjects_srv (G := fun s => s.bSGIdx x = none ∧ (s.bSvcIdx x).isSome)
    (fun h hg => by rw [h.bSGIdx, h.bSvcIdx]; exact hg) SMarked.mono hr
    (fun hg => markSrvs_marks fuel hx hg.1 hg.2) ⟨hg, hb⟩

theorem Marking.bGrp_nil {st st' : St} (h : Marking st st') (h0 : st.bGrp = []) : st'.bGrp = [] :=
  eq_nil_of_map_eq h.grp.bNames h0

theorem Marking.aSG_nil {st st' : St} (h : Marking st st') (h0 : st.aSG = []) : st'.aSG = [] :=
  eq_nil_of_map_eq h.aSG h0

theorem Marking.bSG_nil {st st' : St} (h : Marking st st') (h0 : st.bSG = []) : st'.bSG = [] :=
  eq_nil_of_map_eq h.bSG h0

def ProvA (R : String → Prop) (st : St) : Prop := ObjProv R st.aAddr st.bAddr

def ProvS (R : String → Prop) (st : St) : Prop := ObjProv R st.aSvc st.bSvc

theorem markAddrs_prov {R : String → Prop} {fuel : Nat} {st : St} {l : List String} (hg : st.bGrp = [])
    (hl : ∀ x ∈ l, R x) (hp : ProvA R st) : ProvA R (markAddrs fuel st l) := by
  cases fuel with
  | zero => exact hp
  | succ fuel =>
    rw [markAddrs_succ]
    refine (ListFacts.foldl_inv (P := fun s => s.bGrp = [] ∧ ProvA R s) (fun x hx s ⟨hg, hp⟩ => ?_) ⟨hg, hp⟩).2
    rw [markAddrStep_none fuel (by rw [St.bGrpIdx, hg]; rfl)]
    exact ⟨hg, markObj_prov (hl x hx) hp⟩

theorem markSrvs_prov {R : String → Prop} {fuel : Nat} {st : St} {l : List String} (hg : st.bSG = [])
    (hl : ∀ x ∈ l, R x) (hp : ProvS R st) : ProvS R (markSrvs fuel st l) := by
  cases fuel with
  | zero => exact hp
  | succ fuel =>
    rw [markSrvs_succ]
    refine (ListFacts.foldl_inv (P := fun s => s.bSG = [] ∧ ProvS R s) (fun x hx s ⟨hg, hp⟩ => ?_) ⟨hg, hp⟩).2
    rw [markSrvStep_none fuel (by rw [St.bSGIdx, hg]; rfl)]
    exact ⟨hg, markObj_prov (hl x hx) hp⟩

theorem markObjects_prov (RA RS : String → Prop) (fuel : Nat) (rules : List Rule) (st : St)
    (hg : st.bGrp = []) (hsg : st.bSG = [])
    (hr : ∀ r ∈ rules, (∀ x, (x ∈ r.src ∨ x ∈ r.dst) → RA x) ∧ (∀ x ∈ r.srv, RS x))
    (hA : ProvA RA st) (hS : ProvS RS st) :
    ProvA RA (markObjects fuel st rules) ∧ ProvS RS (markObjects fuel st rules) := by
  refine (ListFacts.foldl_inv (P := fun s => (s.bGrp = [] ∧ s.bSG = []) ∧ ProvA RA s ∧ ProvS RS s)
    (fun r hr' s ⟨⟨hg, hsg⟩, hA, hS⟩ => ?_) ⟨⟨hg, hsg⟩, hA, hS⟩).2
  obtain ⟨ra, rs⟩ := hr r hr'
  have m1 := markAddrs_marking fuel s r.src
  have m2 := m1.trans (markAddrs_marking fuel _ r.dst)
  have m3 := m2.trans (markSrvs_marking fuel _ r.srv)
  have hA2 : ProvA RA (markAddrs fuel (markAddrs fuel s r.src) r.dst) :=
    markAddrs_prov (m1.bGrp_nil hg) (fun x hx => ra x (.inr hx)) (markAddrs_prov hg (fun x hx => ra x (.inl hx)) hA)
  have hS2 : ProvS RS (markAddrs fuel (markAddrs fuel s r.src) r.dst) := by
    obtain ⟨_, _, _, e1⟩ := markAddrs_frame fuel s r.src
    obtain ⟨_, _, _, e2⟩ := markAddrs_frame fuel (markAddrs fuel s r.src) r.dst
    rw [e2, e1]
    exact hS
  have hS3 : ProvS RS (markSrvs fuel (markAddrs fuel (markAddrs fuel s r.src) r.dst) r.srv) :=
    markSrvs_prov (m2.bSG_nil hsg) rs hS2
  refine ⟨⟨m3.bGrp_nil hg, m3.bSG_nil hsg⟩, ?_, hS3⟩
  obtain ⟨_, _, _, _, e3⟩ := markSrvs_frame fuel (markAddrs fuel (markAddrs fuel s r.src) r.dst) r.srv
  rw [e3]
  exact hA2

end NA.PanOs
