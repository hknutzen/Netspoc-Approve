import NA.Proofs.C20
import NA.Model.CursorStatus
/-!
What garbage in the status file amounts to: bytes that are not a JSON object yield the ZERO status, for which
`missing-approve` lists the device; the only panic of the status package is the explicit `panic(err)` of `write`.
-/
namespace NA.C20.Status
open NA.C20 NA.C20.Res

theorem decode_nonObject (t : Top) (h : ∀ kvs, t ≠ .obj kvs) : decode t = {} := by
  cases t <;> first | rfl | exact absurd rfl (h _)

theorem stepTop_unknown (s : St) (k : Str) (f : Field) (h1 : keyIs k "approve" = false) (h2 : keyIs k "compare" = false) :
    stepTop s (k, f) = s := by
  simp [stepTop, h1, h2]

theorem decodeAction_nonObject (a : Action) (f : Field) (h : ∀ kvs, f ≠ .obj kvs) : decodeAction a f = a := by
  cases f <;> first | rfl | exact absurd rfl (h _)

theorem stepAction_time_bad (a : Action) (k : Str) (l : Str) (hk : keyIs k "time" = true)
    (h1 : keyIs k "result" = false) (h2 : keyIs k "policy" = false) (h : int64Of l = none) :
    stepAction a (k, .num l) = a := by
  simp [stepAction, hk, h1, h2, h]

theorem check_zero (current : Str) : check {} current = .listed := by
  simp [check]

theorem garbage_is_listed (readable : Bool) (t : Top) (h : readable = false ∨ ∀ kvs, t ≠ .obj kvs) (current : Str) :
    check (read readable t) current = .listed := by
  cases readable
  · exact check_zero current
  · rw [read, if_pos rfl, decode_nonObject t (h.resolve_left nofun)]; exact check_zero current

theorem check_not_listed (v : St) (current : Str) (h : check v current ≠ .listed) :
    ((v.approve.result = lit "OK" ∨ v.approve.result = lit "WARNINGS") ∧ v.approve.policy ≠ []) ∨
    (v.compare.result = lit "UPTODATE" ∧ v.compare.policy ≠ []) := by
  refine Classical.byContradiction fun hn => h ?_
  have ha : v.approve.result = lit "OK" ∨ v.approve.result = lit "WARNINGS" → v.approve.policy = [] :=
    fun ha => Classical.byContradiction fun hp => hn (Or.inl ⟨ha, hp⟩)
  have hu : v.compare.result = lit "UPTODATE" → v.compare.policy = [] :=
    fun hu => Classical.byContradiction fun hp => hn (Or.inr ⟨hu, hp⟩)
  -- the policy of the approve is empty or not looked at, that of the compare is empty where it is taken:
  -- whichever way `check` goes, the policy it ends with is the empty one
  unfold check
  by_cases hA : v.approve.result = lit "OK" ∨ v.approve.result = lit "WARNINGS" <;>
    by_cases hU : v.compare.result = lit "UPTODATE" <;> simp [hA, hU, ha, hu]

/-- the `panic(err)` of `status.write`, which `SetCompare` shares (`setCompare_writable_noPanic`). -/
theorem setApprove_panic_iff (v : St) (policy : Str) (failed : Bool) (now : Int) (writable : Bool) :
    (setApprove v policy failed now writable).isPanic = !writable := by
  unfold setApprove
  cases writable <;> simp [Res.isPanic]

theorem setCompare_writable_noPanic (v : St) (policy : Str) (changed : Bool) (now : Int) :
    NoPanic (setCompare v policy changed now true) := by
  unfold setCompare
  split
  · exact noPanic_ok
  · split
    · exact noPanic_ok
    · exact noPanic_ok

end NA.C20.Status
