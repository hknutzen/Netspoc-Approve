import NA.Core.ListFacts
import NA.Spec.AclDev
/-
`masked M μ` is the device list when exactly the cells marked in `μ` are present; `cnt μ i` is the
0-based line index of cell `i` in that list: switching one cell on is an `insertIdx` at `cnt μ j`,
switching one off an `eraseIdx` at `cnt μ i`.  `countOld M` (the planners' index of a device line) is
`cnt` of the old mask; what is known of it is read off that.
-/
namespace NA.Acl

theorem mem_of_getElem? {α : Type} {l : List α} {i : Nat} {a : α} (h : l[i]? = some a) : a ∈ l :=
  List.mem_of_getElem? h

@[simp] theorem cnt_zero (μ : List Bool) : cnt μ 0 = 0 := by
  cases μ <;> rfl

@[simp] theorem cnt_nil (i : Nat) : cnt [] i = 0 := by
  cases i <;> rfl

@[simp] theorem cnt_cons_succ (b : Bool) (μ : List Bool) (i : Nat) :
    cnt (b :: μ) (i + 1) = (if b then 1 else 0) + cnt μ i := rfl

theorem cnt_cons_false (μ : List Bool) (i : Nat) : cnt (false :: μ) (i + 1) = cnt μ i :=
  Nat.zero_add _

theorem cnt_cons_true (μ : List Bool) (i : Nat) : cnt (true :: μ) (i + 1) = cnt μ i + 1 :=
  Nat.add_comm 1 _

theorem cnt_mono (μ : List Bool) (x y : Nat) (h : x ≤ y) : cnt μ x ≤ cnt μ y := by
  induction μ generalizing x y with
  | nil => rw [cnt_nil, cnt_nil]; exact Nat.le_refl _
  | cons b μ ih =>
    cases x with
    | zero => rw [cnt_zero]; exact Nat.zero_le _
    | succ x =>
      cases y with
      | zero => exact absurd h (Nat.not_succ_le_zero x)
      | succ y => exact Nat.add_le_add_left (ih x y (Nat.le_of_succ_le_succ h)) _

theorem cnt_lt (μ : List Bool) (x y : Nat) (h : x < y) (hx : μ.getD x false = true) :
    cnt μ x < cnt μ y := by
  induction μ generalizing x y with
  | nil => exact Bool.noConfusion hx
  | cons b μ ih =>
    cases y with
    | zero => exact absurd h (Nat.not_lt_zero x)
    | succ y =>
      cases x with
      | zero =>
        have hb : b = true := hx
        subst hb
        exact Nat.lt_of_lt_of_le Nat.zero_lt_one (Nat.le_add_right 1 (cnt μ y))
      | succ x => exact Nat.add_lt_add_left (ih x y (Nat.lt_of_succ_lt_succ h) hx) _

theorem cnt_set_true (μ : List Bool) (j x : Nat) (hj : μ.getD j false = false) (hl : j < μ.length) :
    cnt (μ.set j true) x = cnt μ x + (if j < x then 1 else 0) := by
  induction μ generalizing j x with
  | nil => exact absurd hl (Nat.not_lt_zero j)
  | cons b μ ih =>
    cases x with
    | zero => rw [cnt_zero, cnt_zero, if_neg (Nat.not_lt_zero j)]
    | succ x =>
      cases j with
      | zero =>
        have hb : b = false := hj
        subst hb
        rw [if_pos (Nat.succ_pos x), cnt_cons_false]
        exact cnt_cons_true μ x
      | succ j =>
        simp only [List.set_cons_succ, cnt_cons_succ, ih j x hj (Nat.lt_of_succ_lt_succ hl),
          Nat.add_lt_add_iff_right, Nat.add_assoc]

theorem cnt_set_false (μ : List Bool) (i x : Nat) (hi : μ.getD i false = true) :
    cnt (μ.set i false) x + (if i < x then 1 else 0) = cnt μ x := by
  induction μ generalizing i x with
  | nil => exact Bool.noConfusion hi
  | cons b μ ih =>
    cases x with
    | zero => rw [cnt_zero, cnt_zero, if_neg (Nat.not_lt_zero i)]
    | succ x =>
      cases i with
      | zero =>
        have hb : b = true := hi
        subst hb
        rw [if_pos (Nat.succ_pos x), cnt_cons_true]
        exact congrArg (· + 1) (cnt_cons_false μ x)
      | succ i =>
        simp only [List.set_cons_succ, cnt_cons_succ, ← ih i x hi,
          Nat.add_lt_add_iff_right, Nat.add_assoc]

theorem countOld_eq_cnt (M : List Cell) (x : Nat) : countOld M x = cnt (oldMask M) x := by
  induction M generalizing x with
  | nil => simp [countOld, oldMask]
  | cons c M ih =>
    cases x with
    | zero => simp [countOld]
    | succ x =>
      have := ih x
      unfold countOld oldMask at *
      cases h : c.old <;> simp [h, this] <;> omega

@[simp] theorem masked_nil_left (μ : List Bool) : masked [] μ = [] := rfl
@[simp] theorem masked_nil_right (M : List Cell) : masked M [] = [] := by
  cases M <;> rfl
@[simp] theorem masked_cons_true (c : Cell) (M : List Cell) (μ : List Bool) :
    masked (c :: M) (true :: μ) = c.line :: masked M μ := rfl
@[simp] theorem masked_cons_false (c : Cell) (M : List Cell) (μ : List Bool) :
    masked (c :: M) (false :: μ) = masked M μ := rfl

theorem cnt_le_length (M : List Cell) (μ : List Bool) (j : Nat) (hj : j ≤ M.length) :
    cnt μ j ≤ (masked M μ).length := by
  induction M generalizing μ j with
  | nil => rw [Nat.le_zero.1 hj, cnt_zero]; exact Nat.zero_le _
  | cons c M ih =>
    cases μ with
    | nil => rw [cnt_nil]; exact Nat.zero_le _
    | cons b μ =>
      cases j with
      | zero => rw [cnt_zero]; exact Nat.zero_le _
      | succ j =>
        have := ih μ j (Nat.le_of_succ_le_succ hj)
        cases b
        · rw [cnt_cons_false]; exact this
        · rw [cnt_cons_true]; exact Nat.succ_le_succ this

theorem masked_insert (M : List Cell) (μ : List Bool) (j : Nat) (hj : j < M.length)
    (hμ : μ.getD j false = false) (hl : j < μ.length) :
    (masked M μ).insertIdx (cnt μ j) (M.getD j default).line = masked M (μ.set j true) := by
  induction M generalizing μ j with
  | nil => exact absurd hj (Nat.not_lt_zero j)
  | cons c M ih =>
    cases μ with
    | nil => exact absurd hl (Nat.not_lt_zero j)
    | cons b μ =>
      cases j with
      | zero =>
        have hb : b = false := hμ
        subst hb
        rfl
      | succ j =>
        have := ih μ j (Nat.lt_of_succ_lt_succ hj) hμ (Nat.lt_of_succ_lt_succ hl)
        cases b
        · rw [cnt_cons_false]; exact this
        · rw [cnt_cons_true, masked_cons_true, List.insertIdx_succ_cons]
          exact congrArg (c.line :: ·) this

theorem masked_get (M : List Cell) (μ : List Bool) (i : Nat) (hi : i < M.length)
    (hμ : μ.getD i false = true) :
    (masked M μ)[cnt μ i]? = some (M.getD i default).line := by
  induction M generalizing μ i with
  | nil => exact absurd hi (Nat.not_lt_zero i)
  | cons c M ih =>
    cases μ with
    | nil => exact Bool.noConfusion hμ
    | cons b μ =>
      cases i with
      | zero =>
        have hb : b = true := hμ
        subst hb
        rfl
      | succ i =>
        have := ih μ i (Nat.lt_of_succ_lt_succ hi) hμ
        cases b
        · rw [cnt_cons_false]; exact this
        · rw [cnt_cons_true, masked_cons_true, List.getElem?_cons_succ]; exact this

theorem masked_erase (M : List Cell) (μ : List Bool) (i : Nat) (hi : i < M.length)
    (hμ : μ.getD i false = true) :
    (masked M μ).eraseIdx (cnt μ i) = masked M (μ.set i false) := by
  induction M generalizing μ i with
  | nil => exact absurd hi (Nat.not_lt_zero i)
  | cons c M ih =>
    cases μ with
    | nil => exact Bool.noConfusion hμ
    | cons b μ =>
      cases i with
      | zero =>
        have hb : b = true := hμ
        subst hb
        rfl
      | succ i =>
        have := ih μ i (Nat.lt_of_succ_lt_succ hi) hμ
        cases b
        · rw [cnt_cons_false]; exact this
        · rw [cnt_cons_true, masked_cons_true, List.eraseIdx_cons_succ]
          exact congrArg (c.line :: ·) this

theorem masked_mem (M : List Cell) (μ : List Bool) (l : Line) (h : l ∈ masked M μ) :
    ∃ x, x < M.length ∧ μ.getD x false = true ∧ (M.getD x default).line = l := by
  induction M generalizing μ with
  | nil => rw [masked_nil_left] at h; exact absurd h List.not_mem_nil
  | cons c M ih =>
    cases μ with
    | nil => exact absurd h List.not_mem_nil
    | cons b μ =>
      have tail : l ∈ masked M μ → ∃ x, x < (c :: M).length ∧ (b :: μ).getD x false = true ∧
          ((c :: M).getD x default).line = l := fun h =>
        let ⟨x, hx, hm, hl⟩ := ih μ h
        ⟨x + 1, Nat.succ_lt_succ hx, hm, hl⟩
      cases b
      · exact tail h
      · rcases List.mem_cons.1 h with h | h
        · exact ⟨0, Nat.succ_pos _, rfl, h.symm⟩
        · exact tail h

theorem oldMask_getD (M : List Cell) (x : Nat) (hx : x < M.length) :
    (oldMask M).getD x false = (M.getD x default).old := by
  unfold oldMask
  exact ListFacts.getD_map (·.old) false default hx

theorem newMask_getD (M : List Cell) (x : Nat) (hx : x < M.length) :
    (newMask M).getD x false = (M.getD x default).new := by
  unfold newMask
  exact ListFacts.getD_map (·.new) false default hx

theorem countOld_succ (M : List Cell) (i : Nat) (hi : i < M.length) :
    countOld M (i + 1) = countOld M i + if (M.getD i default).old then 1 else 0 := by
  unfold countOld
  rw [List.take_succ_eq_append_getElem hi, List.filter_append, List.length_append]
  rw [ListFacts.getD_of_lt default hi]
  cases h : M[i].old <;> simp [h]

theorem countOld_mono (M : List Cell) {i j : Nat} (h : i ≤ j) : countOld M i ≤ countOld M j := by
  rw [countOld_eq_cnt, countOld_eq_cnt]
  exact cnt_mono _ i j h

theorem countOld_lt (M : List Cell) {i i' : Nat} (h : i < i') (hi : i < M.length)
    (ho : (M.getD i default).old = true) : countOld M i < countOld M i' := by
  rw [countOld_eq_cnt, countOld_eq_cnt]
  exact cnt_lt _ i i' h ((oldMask_getD M i hi).trans ho)

theorem countOld_inj (M : List Cell) {i i' : Nat} (hi : i < M.length) (hi' : i' < M.length)
    (ho : (M.getD i default).old = true) (ho' : (M.getD i' default).old = true)
    (h : countOld M i = countOld M i') : i = i' := by
  rcases Nat.lt_trichotomy i i' with hlt | heq | hgt
  · have := countOld_lt M hlt hi ho; omega
  · exact heq
  · have := countOld_lt M hgt hi' ho'; omega

theorem countOld_le_olds (M : List Cell) (k : Nat) (hk : k ≤ M.length) :
    countOld M k ≤ (olds M).length := by
  rw [countOld_eq_cnt, ← masked_old]
  exact cnt_le_length M _ k hk

theorem olds_getD (M : List Cell) (k : Nat) (hk : k < M.length) (ho : (M.getD k default).old = true) :
    countOld M k < (olds M).length ∧ (olds M).getD (countOld M k) default = (M.getD k default).line := by
  have h : (olds M)[countOld M k]? = some (M.getD k default).line := by
    rw [countOld_eq_cnt, ← masked_old]
    exact masked_get M _ k hk ((oldMask_getD M k hk).trans ho)
  exact ⟨(List.getElem?_eq_some_iff.1 h).1, by rw [List.getD_eq_getElem?_getD, h]; rfl⟩

end NA.Acl
