import NA.Proofs.C03Sim
/-
C03, pairs with address-groups: requests that change the members of an
existing address-group commute with requests on rules.  Hence if all group-member requests of a rule phase run
and then all its rule requests, the phase with both kinds interleaved runs to the same state (`runs_of_split`).
Core Lean only.
-/
namespace NA.PanOs

def Cmd.isGrpMem : Cmd → Bool
  | .delGMem .. | .setGrp .. => true
  | _ => false

def Cmd.grpTarget : Cmd → String
  | .delGMem g _ => g
  | .setGrp g _ => g
  | _ => ""

theorem any_name_congr {gs gs' : List Grp} (h : gs'.map (·.name) = gs.map (·.name)) (m : String) :
    gs'.any (·.name == m) = gs.any (·.name == m) := by
  have e : ∀ (l : List Grp), l.any (·.name == m) = (l.map (·.name)).any (· == m) := by
    intro l; simp [List.any_map, Function.comp_def]
  rw [e, e, h]

theorem modifyGrp_names (gs : List Grp) (n : String) (f : List String → List String) :
    (modifyGrp gs n f).map (·.name) = gs.map (·.name) := by
  unfold modifyGrp
  rw [List.map_map]
  apply List.map_congr_left
  intro g _
  simp only [Function.comp]
  split <;> rfl

theorem exec_grpMem_shape {sh : Shared} {v vg : Vsys} {g : Cmd} (hg : g.isGrpMem = true)
    (hex : v.groups.any (·.name == g.grpTarget) = true) (h : exec sh v g = .ok vg) :
    vg = { v with groups := vg.groups } ∧ vg.groups.map (·.name) = v.groups.map (·.name) := by
  cases g with
  | setGrp n ms =>
    obtain ⟨_, rfl⟩ := exec_setGrp_iff.mp h
    refine ⟨rfl, ?_⟩
    show (if v.groups.any (·.name == n) then _ else _ : List Grp).map (·.name) = _
    rw [if_pos (show v.groups.any (·.name == n) = true from hex)]
    exact modifyGrp_names _ _ _
  | delGMem n m =>
    obtain ⟨_, _, _, rfl⟩ := exec_delGMem_iff.mp h
    exact ⟨rfl, modifyGrp_names _ _ _⟩
  | _ => cases hg

theorem addrRefOk_rules (sh : Shared) (v : Vsys) (R : List Rule) :
    addrRefOk sh { v with rules := R } = addrRefOk sh v := rfl

theorem exec_grpMem_rules {sh : Shared} {v : Vsys} {g : Cmd} (hg : g.isGrpMem = true) (R : List Rule) :
    exec sh { v with rules := R } g = (exec sh v g).map (fun w => { w with rules := R }) := by
  cases g <;> simp only [Cmd.isGrpMem] at hg <;> try (cases hg)
  · rename_i n ms
    simp only [exec, addrRefOk_rules]
    cases hb : ms.all (addrRefOk sh v) <;> cases hc : v.groups.any (·.name == n) <;> simp [Except.map]
  · rename_i n m
    simp only [exec]
    cases hf : v.groups.find? (·.name == n) with
    | none => simp [Except.map]
    | some gr =>
      by_cases hm : m ∈ gr.members <;> simp [Except.map, hm]

theorem refOk_groups_congr (sh : Shared) (v : Vsys) (gs' : List Grp)
    (h : gs'.map (·.name) = v.groups.map (·.name)) (f : Fld) (m : String) :
    refOk sh { v with groups := gs' } f m = refOk sh v f m := by
  cases f <;> simp [refOk, addrRefOk, srvRefOk, any_name_congr h]

/-- A rule request looks at the group table only for its names. -/
theorem exec_onRules_groups {sh : Shared} {v w : Vsys} {c : Cmd} (hc : c.onRules = true) (gs' : List Grp)
    (h : gs'.map (·.name) = v.groups.map (·.name)) (hx : exec sh { v with groups := gs' } c = .ok w) :
    exec sh v c = .ok { w with groups := v.groups } := by
  have hall : ∀ f (l : List String), l.all (refOk sh { v with groups := gs' } f) = l.all (refOk sh v f) :=
    fun f l => congrArg l.all (funext (refOk_groups_congr sh v gs' h f))
  cases c with
  | delRule n =>
    obtain ⟨h1, rfl⟩ := exec_delRule_iff.mp hx
    exact exec_delRule_iff.mpr ⟨h1, rfl⟩
  | setRule r =>
    obtain ⟨h1, h2, h3, rfl⟩ := exec_setRule_iff.mp hx
    rw [show addrRefOk sh { v with groups := gs' } = refOk sh { v with groups := gs' } .src from rfl,
      hall, hall] at h2
    rw [show srvRefOk sh { v with groups := gs' } = refOk sh { v with groups := gs' } .srv from rfl, hall] at h3
    exact exec_setRule_iff.mpr ⟨h1, h2, h3, rfl⟩
  | move n d =>
    obtain ⟨r, h1, h2, h3, rfl⟩ := exec_move_iff.mp hx
    exact exec_move_iff.mpr ⟨r, h1, h2, h3, rfl⟩
  | delMem n f m =>
    obtain ⟨r, h1, h2, rfl⟩ := exec_delMem_iff.mp hx
    exact exec_delMem_iff.mpr ⟨r, h1, h2, rfl⟩
  | addMem n f ms =>
    obtain ⟨h1, h2, rfl⟩ := exec_addMem_iff.mp hx
    exact exec_addMem_iff.mpr ⟨h1, hall f ms ▸ h2, rfl⟩
  | editList n f ms =>
    obtain ⟨h1, h2, rfl⟩ := exec_editList_iff.mp hx
    exact exec_editList_iff.mpr ⟨h1, hall f ms ▸ h2, rfl⟩
  | _ => cases hc

theorem exec_comm {sh : Shared} {v vg vg1 : Vsys} {g c : Cmd} (hg : g.isGrpMem = true)
    (hex : v.groups.any (·.name == g.grpTarget) = true) (hc : c.onRules = true)
    (h1 : exec sh v g = .ok vg) (h2 : exec sh vg c = .ok vg1) :
    ∃ v1, exec sh v c = .ok v1 ∧ exec sh v1 g = .ok vg1 ∧
      v1.groups = v.groups := by
  obtain ⟨hshape, hnames⟩ := exec_grpMem_shape hg hex h1
  generalize vg.groups = gs at hshape hnames
  subst hshape
  obtain ⟨s1, s2, s3, s4, s5⟩ := exec_onRules_static h2 hc
  refine ⟨_, exec_onRules_groups hc gs hnames h2, ?_, rfl⟩
  -- the rule request alone leads to `v` with the new rules; the group request does not look at them
  cases vg1
  simp only at s1 s2 s3 s4 s5
  subst s1 s2 s3 s4 s5
  exact (exec_grpMem_rules hg _).trans (by rw [h1])

def GrpMemOn (names : List String) (gs : List Cmd) : Prop :=
  ∀ g ∈ gs, g.isGrpMem = true ∧ g.grpTarget ∈ names

theorem any_name_of_mem {gs : List Grp} {n : String} (h : n ∈ gs.map (·.name)) :
    gs.any (·.name == n) = true := by
  obtain ⟨g, hg, rfl⟩ := List.mem_map.mp h
  simp only [List.any_eq_true, beq_iff_eq]
  exact ⟨g, hg, rfl⟩

theorem runs_comm (sh : Shared) : ∀ (gs : List Cmd) (v u u1 : Vsys) (c : Cmd),
    GrpMemOn (v.groups.map (·.name)) gs → c.onRules = true → Runs sh v gs u → exec sh u c = .ok u1 →
    ∃ v1, exec sh v c = .ok v1 ∧ Runs sh v1 gs u1 ∧ v1.groups = v.groups := by
  intro gs
  induction gs with
  | nil =>
    intro v u u1 c _ hc hr hx
    rw [runs_nil_eq hr] at hx
    exact ⟨u1, hx, Runs.nil sh u1, (exec_onRules_static hx hc).groups⟩
  | cons g gs ih =>
    intro v u u1 c hon hc hr hx
    obtain ⟨vg, hvg, hr'⟩ := hr.cons_inv
    obtain ⟨hg, htgt⟩ := hon g (by simp)
    have hex := any_name_of_mem htgt
    obtain ⟨_, hnames⟩ := exec_grpMem_shape hg hex hvg
    obtain ⟨vg1, h1, h2, h3⟩ := ih vg u u1 c
      (fun g' hg' => by rw [hnames]; exact hon g' (List.mem_cons_of_mem _ hg')) hc hr' hx
    obtain ⟨v1, e1, e2, e3⟩ := exec_comm hg hex hc hvg h1
    exact ⟨v1, e1, Runs.cons e2 h2, e3⟩

theorem onRules_not_grpMem {c : Cmd} (h : c.onRules = true) : c.isGrpMem = false := by
  cases c <;> first | rfl | cases h

theorem runs_of_split (sh : Shared) : ∀ (cs : List Cmd) (v u w : Vsys),
    (∀ c ∈ cs, (c.isGrpMem = true ∧ c.grpTarget ∈ v.groups.map (·.name)) ∨ c.onRules = true) →
    Runs sh v (cs.filter Cmd.isGrpMem) u → Runs sh u (cs.filter (fun c => !c.isGrpMem)) w →
    Runs sh v cs w := by
  intro cs
  induction cs with
  | nil =>
    intro v u w _ h1 h2
    simp only [List.filter_nil] at h1 h2
    rw [← runs_nil_eq h1]; exact h2
  | cons c cs ih =>
    intro v u w hcs h1 h2
    have hgrpOn : GrpMemOn (v.groups.map (·.name)) (cs.filter Cmd.isGrpMem) := by
      intro g hg
      obtain ⟨hgm, hgi⟩ := List.mem_filter.mp hg
      rcases hcs g (List.mem_cons_of_mem _ hgm) with h | h
      · exact h
      · rw [onRules_not_grpMem h] at hgi; cases hgi
    rcases hcs c (by simp) with ⟨hg, htgt⟩ | hc
    · simp only [List.filter_cons, hg, if_true, Bool.not_true, Bool.false_eq_true, if_false] at h1 h2
      obtain ⟨vg, hvg, hr'⟩ := h1.cons_inv
      obtain ⟨_, hnames⟩ := exec_grpMem_shape hg (any_name_of_mem htgt) hvg
      exact Runs.cons hvg (ih vg u w
        (fun c' hc' => by rw [hnames]; exact hcs c' (List.mem_cons_of_mem _ hc')) hr' h2)
    · have hng := onRules_not_grpMem hc
      simp only [List.filter_cons, hng, Bool.false_eq_true, if_false, Bool.not_false, if_true] at h1 h2
      obtain ⟨u1, hu1, hr'⟩ := h2.cons_inv
      obtain ⟨v1, e1, e2, e3⟩ := runs_comm sh _ v u u1 c hgrpOn hc h1 hu1
      exact Runs.cons e1 (ih v1 u1 w
        (fun c' hc' => by rw [e3]; exact hcs c' (List.mem_cons_of_mem _ hc')) e2 hr')

end NA.PanOs
