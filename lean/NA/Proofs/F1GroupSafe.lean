import NA.Proofs.F1Groups
/-!
# F1: what the in-place edit of an UNSHARED object-group keeps (C14)

Every state between two member commands holds a member set between `old ∩ new` and `old ∪ new`.  If the group is
used by ONE access-list line, no line of that access list is touched in the run, and the packet's address is covered
by at most one member text (members do not overlap), the verdict of every such state is the old or the new one.
-/
namespace NA.F1

theorem memOps_prefix_sandwich (la lb cur : List String) (rs : List NA.Acl.Range) (hv : scriptOK la lb rs 0 0 = true)
    (hna : la.Nodup) (hnb : lb.Nodup) (hcur : cur.Perm la) (hdisj : ∀ m ∈ inssOf lb rs, m ∉ delsOf la rs)
    (pre suf : List (Bool × String)) (hs : memOps la lb rs = pre ++ suf) :
    ∃ M, applyMem cur pre = some M ∧ (∀ x, x ∈ la → x ∈ lb → x ∈ M) ∧ (∀ x ∈ M, x ∈ la ∨ x ∈ lb) := by
  obtain ⟨hM, dsub, isub⟩ := memOps_prefix la lb cur rs hv hna hnb hcur hdisj pre suf hs
  obtain ⟨pa, pb⟩ := scriptOK_split la lb rs 0 0 hv
  obtain ⟨_, _, hKD⟩ := List.nodup_append.mp (pa.nodup_iff.mp hna)
  refine ⟨_, hM, fun x hxa hxb => ?_, fun x hx => ?_⟩
  · -- a member of both lists is kept: it is neither deleted nor inserted
    refine List.mem_append_left _ (List.mem_filter.mpr ⟨hcur.mem_iff.mpr hxa, ?_⟩)
    simp only [Bool.not_eq_true', List.contains_eq_mem, decide_eq_false_iff_not]
    intro hd
    rcases List.mem_append.mp (pb.mem_iff.mp hxb) with hk | hi
    · exact hKD x hk x (dsub x hd) rfl
    · exact hdisj x hi (dsub x hd)
  · rcases List.mem_append.mp hx with h1 | h1
    · exact Or.inl (hcur.mem_iff.mp (List.mem_filter.mp h1).1)
    · exact Or.inr (pb.mem_iff.mpr (List.mem_append_right _ (isub x h1)))

/-- A line as the packet sees it: (matches, permits). -/
abbrev PLine := Bool × Bool

def firstMatch : List PLine → Option Bool
  | [] => none
  | (true, a) :: _ => some a
  | (false, _) :: ls => firstMatch ls

/-- Does the line with the group match?  `cov`: the one member text that covers the packet's address (members of
the old and the new group do not overlap), if any. -/
def groupLineHit (cov : Option String) (M : List String) : Bool :=
  match cov with
  | some m => M.contains m
  | none => false

/-- First match over `pre ++ [group line] ++ post` with implicit deny. -/
def evalG (pre : List PLine) (act : Bool) (cov : Option String) (post : List PLine) (M : List String) : Bool :=
  match firstMatch pre with
  | some a => a
  | none => if groupLineHit cov M then act else (firstMatch post).getD false

theorem evalG_old_or_new (pre post : List PLine) (act : Bool) (cov : Option String) (old new M : List String)
    (h1 : ∀ x, x ∈ old → x ∈ new → x ∈ M) (h2 : ∀ x ∈ M, x ∈ old ∨ x ∈ new) :
    evalG pre act cov post M = evalG pre act cov post old ∨ evalG pre act cov post M = evalG pre act cov post new := by
  unfold evalG
  cases firstMatch pre with
  | some a => exact Or.inl rfl
  | none =>
    cases cov with
    | none => exact Or.inl rfl
    | some m =>
      simp only [groupLineHit]
      by_cases hM : m ∈ M
      · rcases h2 m hM with h | h
        · left; simp [hM, h]
        · right; simp [hM, h]
      · by_cases ho : m ∈ old
        · have hn : m ∉ new := fun hn => hM (h1 m ho hn)
          right; simp [hM, hn]
        · left; simp [hM, ho]

end NA.F1
