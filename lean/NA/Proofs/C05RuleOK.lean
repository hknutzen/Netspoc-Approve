import NA.Proofs.C05Rule
/-!
C05: the rule-level round trip.  For a rule of the grammar inside `RuleOK` (option keys distinct in both spellings is the
hypothesis that matters: the option map keeps the last value of a key) the normal forms of the kernel's and of the user's
spelling hold exactly the canonical entries `(nk a, nv cfg a)` of the rule's options (`Canon`).  Round trip, soundness and
stability are said of every such map.
-/
namespace NA.C05
open NA.Linux NA.Linux.Spec

/-- The hypotheses of the round trip (all decidable). -/
structure RuleOK (cfg : KCfg) (r : ARule) : Prop where
  wf : ∀ a ∈ r, a.wf = true
  nodupU : ((userOpts r).map fun o => (pkv o).1).Nodup
  nodupK : ((kernelOpts cfg r).map fun o => (pkv o).1).Nodup
  /-- every `-m` names the state match or the rule's own protocol -/
  mOK : ∀ n, AOpt.mExplicit n ∈ r → n = s "state" ∨ some (lower n) = protoOf cfg r
  /-- the mark is not set by `--set-mark` and a convertible `--set-xmark` at once -/
  markOnce : xConv (pairsOf (userOpts r) []) = none ∨ getA kMark (pairsOf (userOpts r) []) = none

def mOKb (cfg : KCfg) (r : ARule) : AOpt → Bool
  | .mExplicit n => decide (n = s "state" ∨ some (lower n) = protoOf cfg r)
  | _ => true

instance (cfg : KCfg) (r : ARule) : Decidable (RuleOK cfg r) :=
  decidable_of_iff ((∀ a ∈ r, a.wf = true) ∧ ((userOpts r).map fun o => (pkv o).1).Nodup ∧
      ((kernelOpts cfg r).map fun o => (pkv o).1).Nodup ∧ (∀ a ∈ r, mOKb cfg r a = true) ∧
      (xConv (pairsOf (userOpts r) []) = none ∨ getA kMark (pairsOf (userOpts r) []) = none))
    ⟨fun ⟨h1, h2, h3, h4, h5⟩ => ⟨h1, h2, h3, fun n hn => by simpa [mOKb] using h4 _ hn, h5⟩,
     fun h => ⟨h.wf, h.nodupU, h.nodupK, fun a ha => by
       cases a with
       | mExplicit n => simpa [mOKb] using h.mOK n ha
       | _ => rfl, h.markOnce⟩⟩

theorem key_of_plain (n : Neg) (k : Str) (args : List Str) (h : k ≠ s "--tcp-flags") :
    (pkv ⟨n, k, args⟩).1 = k := by rw [pkv_plain n k args h]

theorem pkv_m_user (n : Str) : pkv (AOpt.mExplicit n).user = (kM, n) := pkv_m n

theorem pkv_m_kernel_state (cfg : KCfg) : pkv ((AOpt.mExplicit (s "state")).kernel cfg) = (kM, s "state") :=
  (pkv_m _).trans (by decide)

theorem pkv_p_user (n : Neg) (P : Proto) (u m : Bool) :
    pkv (AOpt.proto n P u m).user = (kP, negPre n.isNeg ++ P.uname u m) := by
  simp only [AOpt.user]; rw [pkv_plain _ _ _ (by decide_lit [s_ofList]), value_neg]; rfl

theorem pkv_p_kernel (cfg : KCfg) (n : Neg) (P : Proto) (u m : Bool) :
    pkv ((AOpt.proto n P u m).kernel cfg) = (kP, negPre n.isNeg ++ P.kname cfg.protoNames) := by
  simp only [AOpt.kernel]; rw [pkv_plain _ _ _ (by decide_lit [s_ofList]), value_negPre]; rfl

theorem nEntry_key {d : Bool} {e : Str × Str} {k v : Str} (h : nEntry d e = some (k, v)) :
    e.1 = k ∨ (e.1 = kXmark ∧ k = kMark) := by
  obtain ⟨-, he⟩ := nEntry_eq_some.mp h
  split at he
  · next hx => exact Or.inr ⟨hx.1, (Prod.mk.inj he).1.symm⟩
  · exact Or.inl (Prod.mk.inj he).1

/-- The parser enters an option under the key of its normalised entry; only `--set-xmark` is renamed
afterwards. -/
theorem kernel_key (cfg : KCfg) (a : AOpt) (hwf : a.wf = true) :
    (pkv (a.kernel cfg)).1 = nk a ∨ ((pkv (a.kernel cfg)).1 = kXmark ∧ nk a = kMark) :=
  nEntry_key ((kentry_eq cfg a hwf false).trans (if_neg (by simp)))

theorem user_key (a : AOpt) (hwf : a.wf = true) :
    (pkv a.user).1 = nk a ∨ ((pkv a.user).1 = kXmark ∧ nk a = kMark) := by
  by_cases hm : ∃ n, a = .mExplicit n
  · obtain ⟨n, rfl⟩ := hm
    exact Or.inl (congrArg Prod.fst (pkv_m_user n))
  · exact nEntry_key (uentry_eq {} a hwf (fun n e => hm ⟨n, e⟩) false)

theorem proto_of_key {a : AOpt} {k : Str} (hk : k = nk a ∨ (k = kXmark ∧ nk a = kMark)) (h : k = kP) :
    ∃ n P u m, a = .proto n P u m := by
  rcases hk with e | ⟨e, _⟩
  · exact nk_cases.1 (e.symm.trans h)
  · exact absurd (e.symm.trans h) (by decide_lit [s_ofList])

theorem kernel_key_ne_mark (cfg : KCfg) (a : AOpt) (hwf : a.wf = true) : (pkv (a.kernel cfg)).1 ≠ kMark := by
  intro h
  rcases kernel_key cfg a hwf with e | ⟨e, _⟩
  · obtain ⟨hex, mask, x, v, rfl⟩ := nk_cases.2.2.1 (e.symm.trans h)
    exact kMark_ne_kX ((key_of_plain _ _ _ (by decide_lit [s_ofList])).symm.trans h).symm
  · exact kMark_ne_kX (e.symm.trans h).symm

/-- A protocol whose kernel name is the (lower case) name of an explicit match is spelled by the
user with that name in some case. -/
theorem pm_fold (cfg : KCfg) (P : Proto) (u num : Bool) (c : Str)
    (hc : c = s "state" ∨ c = s "tcp" ∨ c = s "udp" ∨ c = s "icmp")
    (hwf : (AOpt.proto .no P u num).wf = true) (hk : P.kname cfg.protoNames = c) :
    lower (P.uname u num) = c := by
  cases P with
  | num d =>
    have hcan := (wf_num hwf).1
    have : d = c := hk
    subst this
    exfalso
    rcases hc with e | e | e | e <;> rw [e] at hcan <;> exact absurd hcan (by decide_lit [s_ofList])
  | tcp | udp | icmp =>
    subst hk
    obtain ⟨names⟩ := cfg
    cases u <;> cases num <;> cases names <;> decide
  | vrrp | ipv6icmp =>
    -- the names of these two are no match names
    exfalso
    obtain ⟨names⟩ := cfg
    subst hk
    revert hc
    cases names <;> decide

/-- `e` is a canonical entry of the rule: the `(nk a, nv cfg a)` of one of its options that is not a `-m` naming
the rule's own protocol. -/
def Centry (cfg : KCfg) (r : ARule) (e : Str × Str) : Prop :=
  ∃ a ∈ r, isPM (protoOf cfg r) a = false ∧ e = (nk a, nv cfg a)

/-- `p` holds exactly the canonical entries of `r`. -/
def Canon (cfg : KCfg) (r : ARule) (p : Pairs) : Prop := ∀ k v, getA k p = some v ↔ Centry cfg r (k, v)

section facts
variable (cfg : KCfg) (r : ARule) (H : RuleOK cfg r)
include H

theorem getA_userPairs (k v : Str) :
    getA k (pairsOf (userOpts r) []) = some v ↔ ∃ a ∈ r, pkv a.user = (k, v) := by
  rw [getA_pairsOf_iff _ H.nodupU]
  simp only [userOpts, List.mem_map]
  constructor
  · rintro ⟨_, ⟨a, ha, rfl⟩, h⟩; exact ⟨a, ha, h⟩
  · rintro ⟨a, ha, h⟩; exact ⟨a.user, ⟨a, ha, rfl⟩, h⟩

theorem getA_kernelPairs (k v : Str) : getA k (pairsOf (kernelOpts cfg r) []) = some v ↔
    (∃ a ∈ r, isPM (protoOf cfg r) a = false ∧ pkv (a.kernel cfg) = (k, v)) ∨
    (∃ p, protoOf cfg r = some p ∧ r.any (inPG (protoOf cfg r)) = true ∧ (kM, p) = (k, v)) := by
  rw [getA_pairsOf_iff _ H.nodupK]
  constructor
  · rintro ⟨o, ho, h⟩
    rcases (mem_kernelOpts cfg r o).mp ho with ⟨a, ha, hp, rfl⟩ | ⟨p, hp, hany, rfl⟩
    · exact Or.inl ⟨a, ha, hp, h⟩
    · exact Or.inr ⟨p, hp, hany, (pkv_m p).symm.trans h⟩
  · rintro (⟨a, ha, hp, h⟩ | ⟨p, hp, hany, h⟩)
    · exact ⟨a.kernel cfg, (mem_kernelOpts cfg r _).mpr (Or.inl ⟨a, ha, hp, rfl⟩), h⟩
    · exact ⟨_, (mem_kernelOpts cfg r _).mpr (Or.inr ⟨p, hp, hany, rfl⟩), (pkv_m p).trans h⟩

theorem kernel_no_mark : getA kMark (pairsOf (kernelOpts cfg r) []) = none := by
  refine Option.eq_none_iff_forall_ne_some.mpr fun v hg => ?_
  rcases (getA_kernelPairs cfg r H kMark v).mp hg with ⟨a, ha, _, h⟩ | ⟨p, _, _, h⟩
  · exact kernel_key_ne_mark cfg a (H.wf a ha) (congrArg Prod.fst h)
  · exact kMark_ne_kM (congrArg Prod.fst h).symm

theorem user_p_not_state : equalFold (s "state") ((getA kP (pairsOf (userOpts r) [])).getD []) = false := by
  cases hg : getA kP (pairsOf (userOpts r) []) with
  | none => decide
  | some v =>
    obtain ⟨a, ha, h⟩ := (getA_userPairs cfg r H kP v).mp hg
    obtain ⟨n, P, u, num, rfl⟩ := proto_of_key (user_key a (H.wf a ha)) (congrArg Prod.fst h)
    rw [pkv_p_user] at h
    rw [Option.getD_some, ← (Prod.mk.inj h).2]
    exact (proto_not_state cfg n P u num (H.wf _ ha)).1

theorem kernel_p_not_state : equalFold (s "state") ((getA kP (pairsOf (kernelOpts cfg r) [])).getD []) = false := by
  cases hg : getA kP (pairsOf (kernelOpts cfg r) []) with
  | none => decide
  | some v =>
    rcases (getA_kernelPairs cfg r H kP v).mp hg with ⟨a, ha, _, h⟩ | ⟨p, _, _, h⟩
    · obtain ⟨n, P, u, num, rfl⟩ := proto_of_key (kernel_key cfg a (H.wf a ha)) (congrArg Prod.fst h)
      rw [pkv_p_kernel] at h
      rw [Option.getD_some, ← (Prod.mk.inj h).2]
      exact (proto_not_state cfg n P u num (H.wf _ ha)).2
    · exact absurd (congrArg Prod.fst h).symm kP_ne_kM

theorem getA_user_m (n : Str) (hn : AOpt.mExplicit n ∈ r) : getA kM (pairsOf (userOpts r) []) = some n :=
  (getA_userPairs cfg r H kM n).mpr ⟨_, hn, pkv_m_user n⟩

theorem dropU (n : Str) (hn : AOpt.mExplicit n ∈ r) (hpm : isPM (protoOf cfg r) (.mExplicit n) = true) :
    mDrop (pairsOf (userOpts r) []) = true := by
  have hpn : protoOf cfg r = some (lower n) := by
    simp only [isPM, beq_iff_eq] at hpm; exact hpm.symm
  obtain ⟨P, u, num, hP, hkn⟩ := protoOf_mem cfg r _ hpn
  have hp : getA kP (pairsOf (userOpts r) []) = some (P.uname u num) := (getA_userPairs cfg r H kP _).mpr ⟨_, hP, pkv_p_user _ P u num⟩
  unfold mDrop
  rw [getA_user_m cfg r H n hn, hp]
  simp only [Option.getD_some, equalFold, beq_iff_eq]
  exact (pm_fold cfg P u num (lower n) (mname_cases (H.wf _ hn)) (H.wf _ hP) hkn).symm

theorem keepS (n : Str) (hn : AOpt.mExplicit n ∈ r) (hpm : isPM (protoOf cfg r) (.mExplicit n) = false) :
    n = s "state" ∧ mDrop (pairsOf (userOpts r) []) = false ∧ mDrop (pairsOf (kernelOpts cfg r) []) = false := by
  obtain rfl : n = s "state" := (H.mOK n hn).resolve_right fun h => by simp [isPM, h] at hpm
  have hmK : getA kM (pairsOf (kernelOpts cfg r) []) = some (s "state") :=
    (getA_kernelPairs cfg r H kM _).mpr (Or.inl ⟨_, hn, hpm, pkv_m_kernel_state cfg⟩)
  refine ⟨rfl, ?_, ?_⟩
  · unfold mDrop; rw [getA_user_m cfg r H _ hn]; exact user_p_not_state cfg r H
  · unfold mDrop; rw [hmK]; exact kernel_p_not_state cfg r H

theorem dropK (p : Str) (hp : protoOf cfg r = some p) (hany : r.any (inPG (protoOf cfg r)) = true) :
    mDrop (pairsOf (kernelOpts cfg r) []) = true := by
  obtain ⟨P, u, num, hP, hkn⟩ := protoOf_mem cfg r p hp
  have hm : getA kM (pairsOf (kernelOpts cfg r) []) = some p :=
    (getA_kernelPairs cfg r H kM p).mpr (Or.inr ⟨p, hp, hany, rfl⟩)
  have hpp : getA kP (pairsOf (kernelOpts cfg r) []) = some p := (getA_kernelPairs cfg r H kP p).mpr (Or.inl ⟨_, hP, rfl, by
    rw [pkv_p_kernel, hkn]; rfl⟩)
  unfold mDrop
  rw [hm, hpp]
  exact equalFold_self p

theorem kernel_centries : Canon cfg r (normalize (pairsOf (kernelOpts cfg r) [])) := by
  intro k v
  rw [normalize_entries _ (Or.inr (kernel_no_mark cfg r H))]
  -- the normalised entry of an option that is printed
  have hn : ∀ a ∈ r, isPM (protoOf cfg r) a = false →
      nEntry (mDrop (pairsOf (kernelOpts cfg r) [])) (pkv (a.kernel cfg)) = some (nk a, nv cfg a) := by
    intro a ha hpm
    rw [kentry_eq cfg a (H.wf a ha), if_neg]
    rintro ⟨hm, hd⟩
    cases a with
    | mExplicit n => rw [(keepS cfg r H n ha hpm).2.2] at hd; cases hd
    | _ => cases hm
  constructor
  · rintro ⟨k0, v0, hg, h⟩
    rcases (getA_kernelPairs cfg r H k0 v0).mp hg with ⟨a, ha, hpm, e⟩ | ⟨p, hp, hany, e⟩
    · rw [← e, hn a ha hpm] at h
      exact ⟨a, ha, hpm, (Option.some.inj h).symm⟩
    · -- the `-m <proto>` the kernel adds is dropped
      rw [← e, dropK cfg r H p hp hany, nEntry_m] at h
      cases h
  · rintro ⟨a, ha, hpm, e⟩
    exact ⟨_, _, (getA_kernelPairs cfg r H _ _).mpr (Or.inl ⟨a, ha, hpm, rfl⟩), e ▸ hn a ha hpm⟩

theorem user_centries : Canon cfg r (normalize (pairsOf (userOpts r) [])) := by
  intro k v
  rw [normalize_entries _ H.markOnce]
  -- the normalised entry of an option, if it has one
  have hn : ∀ a ∈ r, nEntry (mDrop (pairsOf (userOpts r) [])) (pkv a.user) =
      if isPM (protoOf cfg r) a = true then none else some (nk a, nv cfg a) := by
    intro a ha
    by_cases hx : ∃ n, a = .mExplicit n
    · -- an explicit `-m`: dropped if it names the protocol, else it is the state match, kept as written
      obtain ⟨n, rfl⟩ := hx
      cases hpm : isPM (protoOf cfg r) (.mExplicit n) with
      | true => rw [dropU cfg r H n ha hpm, pkv_m_user, nEntry_m]; rfl
      | false =>
        obtain ⟨rfl, hU, -⟩ := keepS cfg r H n ha hpm
        rw [hU, pkv_m_user, nEntry_m]; rfl
    · rw [uentry_eq cfg a (H.wf a ha) (fun n e => hx ⟨n, e⟩), if_neg]
      cases a <;> first | exact Bool.false_ne_true | exact absurd ⟨_, rfl⟩ hx
  constructor
  · rintro ⟨k0, v0, hg, h⟩
    obtain ⟨a, ha, e⟩ := (getA_userPairs cfg r H k0 v0).mp hg
    rw [← e, hn a ha] at h
    split at h
    · cases h
    · exact ⟨a, ha, Bool.eq_false_iff.mpr ‹_›, (Option.some.inj h).symm⟩
  · rintro ⟨a, ha, hpm, e⟩
    exact ⟨_, _, (getA_userPairs cfg r H _ _).mpr ⟨a, ha, rfl⟩, (hn a ha).trans (by rw [if_neg (by simp [hpm]), e])⟩

end facts

theorem mem_semEntries (cfg : KCfg) (r : ARule) (e : Str × Str) :
    e ∈ semEntries cfg r ↔ ∃ a ∈ r, isPM (protoOf cfg r) a = false ∧ semEntry cfg a = e := by
  simp only [semEntries, List.mem_map, List.mem_filter, Bool.not_eq_eq_eq_not, Bool.not_true, and_assoc]

section canon
variable {cfg : KCfg} {r r1 r2 : ARule} {p q : Pairs}

theorem Canon.eq (hp : Canon cfg r p) (hq : Canon cfg r q) : PairsEq p q :=
  fun k => Option.ext fun v => (hp k v).trans (hq k v).symm

theorem Canon.ne (hp : Canon cfg r p) : NEPairs p := fun hm => by
  obtain ⟨v, hv⟩ := (mem_keysA_iff [] p).mp hm
  obtain ⟨a, -, -, e⟩ := (hp [] v).mp hv
  exact nk_ne_nil a (Prod.mk.inj e).1.symm

theorem Canon.sem_sub (w1 : ∀ a ∈ r1, a.wf = true) (w2 : ∀ a ∈ r2, a.wf = true) (hp : Canon cfg r1 p)
    (hq : Canon cfg r2 q) (h : PairsEq p q) : ∀ e ∈ semEntries cfg r1, e ∈ semEntries cfg r2 := by
  intro e he
  obtain ⟨a1, ha1, hpm1, rfl⟩ := (mem_semEntries cfg r1 e).mp he
  -- the canonical entry of `a1` is in the first map, hence in the second
  obtain ⟨a2, ha2, hpm2, e2⟩ := (hq _ _).mp (h _ ▸ (hp _ _).mpr ⟨a1, ha1, hpm1, rfl⟩)
  have hkv := Prod.mk.inj e2
  exact (mem_semEntries cfg r2 _).mpr
    ⟨a2, ha2, hpm2, kentry_inj cfg a2 a1 (w2 a2 ha2) (w1 a1 ha1) hkv.1.symm hkv.2.symm⟩

/-- **Rule-level soundness of the normal form.**  Equal canonical maps, equal meaning: the same set of option meanings (match
set and target). -/
theorem Canon.sound (w1 : ∀ a ∈ r1, a.wf = true) (w2 : ∀ a ∈ r2, a.wf = true) (hp : Canon cfg r1 p) (hq : Canon cfg r2 q)
    (h : PairsEq p q) : semEqRule cfg r1 r2 = true := by
  unfold semEqRule
  rw [Bool.and_eq_true, List.all_eq_true, List.all_eq_true]
  exact ⟨fun e he => by simpa using hp.sem_sub w1 w2 hq h e he,
         fun e he => by simpa using hq.sem_sub w2 w1 hp (fun k => (h k).symm) e he⟩

/-- **A canonical map is stable**: `RuleOK` gives the hypothesis of `normalize_idempotent_partial`, for the normal
form of the kernel's spelling and of the target's alike. -/
theorem Canon.stable (H : RuleOK cfg r) (hp : Canon cfg r p) : Stable p := by
  -- every entry is the canonical entry of an option of the rule
  have ent := fun k v => (hp k v).mp
  rw [stable_iff]
  refine ⟨?_, ?_, ?_⟩
  · intro k v hg
    obtain ⟨a, ha, _, e⟩ := ent k v hg
    obtain ⟨rfl, rfl⟩ := Prod.mk.inj e
    exact nv_fixed cfg a (H.wf a ha)
  · refine Option.eq_none_iff_forall_ne_some.mpr fun v hv => ?_
    obtain ⟨a, _, _, e⟩ := ent kXmark v (xConv_eq_some.mp hv).1
    exact nk_cases.2.2.2 (Prod.mk.inj e).1.symm
  · unfold mDrop
    cases hg : getA kM p with
    | none => rfl
    | some v =>
      obtain ⟨a, ha, hpm, e⟩ := ent kM v hg
      obtain ⟨n, rfl⟩ := nk_cases.2.1 (Prod.mk.inj e).1.symm
      obtain ⟨hs, _⟩ := keepS cfg r H n ha hpm
      subst hs
      have hv' : v = s "state" := by rw [(Prod.mk.inj e).2]; show lower (s "state") = s "state"; decide
      subst hv'
      cases hgp : getA kP p with
      | none => decide
      | some w =>
        obtain ⟨a', ha', _, e'⟩ := ent kP w hgp
        obtain ⟨n', P, u, m, rfl⟩ := nk_cases.1 (Prod.mk.inj e').1.symm
        rw [Option.getD_some, (Prod.mk.inj e').2]
        exact normProto_not_state cfg n' P u m (H.wf _ ha')

end canon

theorem rule_roundtrip (cfg : KCfg) (r : ARule) (H : RuleOK cfg r) :
    PairsEq (normalize (pairsOf (kernelOpts cfg r) [])) (normalize (pairsOf (userOpts r) [])) :=
  (kernel_centries cfg r H).eq (user_centries cfg r H)

theorem normalize_sound_rule (cfg : KCfg) (r1 r2 : ARule) (H1 : RuleOK cfg r1) (H2 : RuleOK cfg r2)
    (h : PairsEq (normalize (pairsOf (userOpts r1) [])) (normalize (pairsOf (userOpts r2) []))) :
    semEqRule cfg r1 r2 = true :=
  (user_centries cfg r1 H1).sound H1.wf H2.wf (user_centries cfg r2 H2) h

theorem ruleOK_stable (cfg : KCfg) (r : ARule) (H : RuleOK cfg r) :
    Stable (normalize (pairsOf (kernelOpts cfg r) [])) :=
  (kernel_centries cfg r H).stable H

end NA.C05
