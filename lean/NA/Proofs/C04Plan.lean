import NA.Proofs.C04Policy
/-!
The phases of `diffConfig` on the strict store — services, device policies, new policies, removal of services, removal
of groups — and `plan` as their sequence (`plan_eq`).
-/
namespace NA.Nsx

/-- Policy `pid` on the manager realises the target rules `tr`: up to the order of listing and up
to rule ids, one rule per target rule. -/
def Realised (ctx : Ctx) (nod : List (String × String)) (S : Store) (pid : String) (tr : List Rule) : Prop :=
  ∃ p' L B bR, findPolicy S.policies pid = some p' ∧ p'.rules.Perm L ∧ Forall2 (RuleReal ctx nod) L B ∧
    B.Perm bR ∧ Forall2 SameButId bR tr

theorem Realised.transport {ctx : Ctx} {st st' : PSt} {S S' : Store} {pid : String} {tr : List Rule}
    (h : Realised ctx st.nod S pid tr) (hm : Mono st st')
    (hf : findPolicy S'.policies pid = findPolicy S.policies pid) : Realised ctx st'.nod S' pid tr := by
  obtain ⟨p', L, B, bR, h1, h2, h3, h4, h5⟩ := h
  exact ⟨p', L, B, bR, by rw [hf]; exact h1, h2, h3.imp fun _ _ hr => hr.mono hm, h4, h5⟩

theorem Forall2_SameButId_refl (l : List Rule) : Forall2 SameButId l l := by
  induction l with
  | nil => exact .nil
  | cons r rest ih => exact .cons rfl ih

theorem Ran.apol {ctx : Ctx} {G0 : List Group} {U : String → Prop} {S S' : Store} {st st' : PSt} {cs : List Call}
    (h : Ran ctx G0 U S st cs S' st') {pa : Policy} (ha : APolOK ctx S pa)
    (hf : findPolicy S'.policies pa.id = findPolicy S.policies pa.id) : APolOK ctx S' pa :=
  let ⟨p0, h1, h2, h3, h4⟩ := ha
  ⟨p0, hf.trans h1, h2, h3, fun ra hra => ⟨h.refsOk (h4 ra hra).1, (h4 ra hra).2⟩⟩

theorem Ran.bpol {ctx : Ctx} {G0 : List Group} {U : String → Prop} {S S' : Store} {st st' : PSt} {cs : List Call}
    (h : Ran ctx G0 U S st cs S' st') {pb : Policy} (hb : BPolOK ctx U S pb) : BPolOK ctx U S' pb :=
  ⟨hb.1, fun rb hrb => h.brefs (hb.2.1 rb hrb), hb.2.2⟩

/-- Policy `id` is as the target wants it. -/
def Done (ctx : Ctx) (T : Config) (nod : List (String × String)) (S : Store) (id : String) : Prop :=
  match findPolicyLast T.policies id with
  | none => findPolicy S.policies id = none
  | some pb => Realised ctx nod S id pb.rules

theorem Done.transport {ctx : Ctx} {T : Config} {st st' : PSt} {S S' : Store} {id : String}
    (h : Done ctx T st.nod S id) (hm : Mono st st')
    (hf : findPolicy S'.policies id = findPolicy S.policies id) : Done ctx T st'.nod S' id := by
  unfold Done at h ⊢
  split at h
  · exact hf.trans h
  · exact h.transport hm hf

theorem findPolicyLast_mem {ps : List Policy} {id : String} {p : Policy} (h : findPolicyLast ps id = some p) :
    p ∈ ps ∧ p.id = id :=
  ⟨List.mem_reverse.mp (findPolicy_some h).1, (findPolicy_some h).2⟩

theorem findPolicyLast_of_mem {ps : List Policy} {p : Policy} (hn : (pids ps).Nodup) (hp : p ∈ ps) :
    findPolicyLast ps p.id = some p :=
  (find?_key_reverse hn p.id).trans (findPolicy_mem_nodup hn hp)

theorem findPolicyLast_none {ps : List Policy} {id : String} (h : id ∉ pids ps) : findPolicyLast ps id = none := by
  rw [findPolicyLast, findPolicy, List.find?_eq_none]
  intro p hp e
  exact h (by rw [← beq_iff_eq.mp e]; exact List.mem_map_of_mem (f := (·.id)) (List.mem_reverse.mp hp))

theorem nodup_cons_pids {p : Policy} {rest : List Policy} (h : (pids (p :: rest)).Nodup) :
    p.id ∉ pids rest ∧ (pids rest).Nodup ∧ ∀ p' ∈ rest, p'.id ≠ p.id :=
  have h' := List.nodup_cons.mp (show (p.id :: pids rest).Nodup from h)
  ⟨h'.1, h'.2, fun _ hp' e => h'.1 (e ▸ List.mem_map_of_mem (f := (·.id)) hp')⟩

theorem not_mem_pids_cons {id : String} {p : Policy} {rest : List Policy} (h : id ∉ pids (p :: rest)) :
    id ≠ p.id ∧ id ∉ pids rest :=
  ⟨fun e => h (e ▸ List.mem_cons_self), fun hm => h (List.mem_cons_of_mem _ hm)⟩

theorem overA_ran {ctx : Ctx} {G0 : List Group} {U : String → Prop} (hc : CtxOK ctx G0)
    (hdiff : ∀ n m eq, validScript n m eq (ctx.diff n m eq) = true) (T : Config) :
    ∀ (ps : List Policy) (S : Store) (st : PSt), (pids ps).Nodup → GInv ctx G0 S.groups st →
      (∀ pa ∈ ps, APolOK ctx S pa) → (∀ pb ∈ T.policies, BPolOK ctx U S pb) →
      (overA ctx T ps st).1.abort = none →
      ∃ S', Ran ctx G0 U S st (overA ctx T ps st).2 S' (overA ctx T ps st).1 ∧
        (∀ id, id ∉ pids ps → findPolicy S'.policies id = findPolicy S.policies id) ∧
        ∀ pa ∈ ps, Done ctx T (overA ctx T ps st).1.nod S' pa.id := by
  intro ps
  induction ps with
  | nil => exact fun S st _ hinv _ _ _ => ⟨S, .nil hinv, fun _ _ => rfl, fun _ h => nomatch h⟩
  | cons pa rest ih =>
    intro S st hnd hinv hA hB habort
    obtain ⟨hpa_notin, hnd', hne_rest⟩ := nodup_cons_pids hnd
    -- the first policy: one DELETE, or the calls of `diffRules`
    have hhead : ∃ st1 c1 S1, overA ctx T (pa :: rest) st = ((overA ctx T rest st1).1, c1 ++ (overA ctx T rest st1).2) ∧
        Ran ctx G0 U S st c1 S1 st1 ∧ (∀ id, id ≠ pa.id → findPolicy S1.policies id = findPolicy S.policies id) ∧
        Done ctx T st1.nod S1 pa.id := by
      obtain ⟨p0, hp0, _⟩ := hA pa List.mem_cons_self
      rw [overA] at habort ⊢
      cases hT : findPolicyLast T.policies pa.id with
      | none =>
        refine ⟨st, [.deletePolicy pa.id], _, rfl,
          .call hinv (exec_of_step (.deletePolicy (hasPolicy_iff_find.mpr ⟨p0, hp0⟩))) rfl rfl,
          fun id h => findPolicy_filter_ne S.policies pa.id id h, ?_⟩
        rw [Done, hT]; exact findPolicy_filter_self _ _
      | some pb =>
        simp only [hT] at habort
        obtain ⟨S1, L, B, bR, r1, hfr1, ⟨p1, hp1, hperm⟩, hreal1, hperm1, hsame1⟩ :=
          diffRules_spec hc hdiff S st pa pb hinv (hA pa List.mem_cons_self) (hB pb (findPolicyLast_mem hT).1)
            (overA_abort ctx T rest _ habort)
        refine ⟨_, _, S1, rfl, r1, fun id h => stepFrame_findPolicy_ne hfr1 h, ?_⟩
        rw [Done, hT]; exact ⟨p1, L, B, bR, hp1, hperm, hreal1, hperm1, hsame1⟩
    obtain ⟨st1, c1, S1, e, r1, hf1, hdone1⟩ := hhead
    rw [e] at habort ⊢
    obtain ⟨S', r, hframe, hres⟩ := ih S1 st1 hnd' r1.ginv
      (fun p' hp' => r1.apol (hA p' (List.mem_cons_of_mem _ hp')) (hf1 _ (hne_rest p' hp')))
      (fun pb hpb => r1.bpol (hB pb hpb)) habort
    refine ⟨S', r1.append r, fun id hid => ?_, fun p' hp' => ?_⟩
    · rw [hframe id (not_mem_pids_cons hid).2, hf1 id (not_mem_pids_cons hid).1]
    · rcases List.mem_cons.mp hp' with rfl | e
      · exact hdone1.transport r.mono (hframe _ hpa_notin)
      · exact hres p' e

theorem overB_ran {ctx : Ctx} {G0 : List Group} {U : String → Prop} (hc : CtxOK ctx G0) (A : Config) :
    ∀ (ps : List Policy) (S : Store) (st : PSt), (pids ps).Nodup → GInv ctx G0 S.groups st →
      (∀ pb ∈ ps, BPolOK ctx U S pb) →
      (∀ pb ∈ ps, A.policies.any (·.id == pb.id) = false → findPolicy S.policies pb.id = none) →
      ∃ S', Ran ctx G0 U S st (overB ctx A ps st).2 S' (overB ctx A ps st).1 ∧
        (∀ id, id ∉ pids ps ∨ A.policies.any (·.id == id) = true →
          findPolicy S'.policies id = findPolicy S.policies id) ∧
        ∀ pb ∈ ps, A.policies.any (·.id == pb.id) = false →
          Realised ctx (overB ctx A ps st).1.nod S' pb.id pb.rules := by
  intro ps
  induction ps with
  | nil => exact fun S st _ hinv _ _ => ⟨S, .nil hinv, fun _ _ => rfl, fun _ h => nomatch h⟩
  | cons pb rest ih =>
    intro S st hnd hinv hB hnew
    obtain ⟨hpb_notin, hnd', hne_rest⟩ := nodup_cons_pids hnd
    have hBr := fun p' hp' => hB p' (List.mem_cons_of_mem _ hp')
    have hnewr := fun p' hp' => hnew p' (List.mem_cons_of_mem _ hp')
    rw [overB]
    cases hA : A.policies.any (·.id == pb.id) with
    | true =>
      obtain ⟨S', r, hframe, hres⟩ := ih S st hnd' hinv hBr hnewr
      refine ⟨S', r, fun id hid => hframe id (hid.imp_left fun h hm => h (List.mem_cons_of_mem _ hm)),
        fun p' hp' hA' => ?_⟩
      rcases List.mem_cons.mp hp' with rfl | e
      · rw [hA] at hA'; cases hA'
      · exact hres p' e hA'
    | false =>
      have hnone := hnew pb List.mem_cons_self hA
      obtain ⟨S1, L, r1, hpol1, hreal1⟩ := createPolicy_spec hc S st pb hinv (hasPolicy_false_iff.mpr hnone)
        (hB pb List.mem_cons_self)
      have hf1 : ∀ id, findPolicy S1.policies id = if id = pb.id then some ⟨pb.id, L⟩ else findPolicy S.policies id := by
        intro id
        rw [hpol1, findPolicy_append_single]
        by_cases e : id = pb.id
        · subst e; simp [hnone]
        · have : (pb.id == id) = false := by simpa using fun e' => e e'.symm
          simp [this, e]
      obtain ⟨S', r, hframe, hres⟩ := ih S1 _ hnd' r1.ginv (fun p' hp' => r1.bpol (hBr p' hp'))
        (fun p' hp' h => by rw [hf1, if_neg (hne_rest p' hp')]; exact hnewr p' hp' h)
      refine ⟨S', r1.append r, fun id hid => ?_, fun p' hp' hA' => ?_⟩
      · have h1 : id ≠ pb.id := hid.elim (fun h e => h (e ▸ List.mem_cons_self)) fun h e => by rw [e, hA] at h; cases h
        rw [hframe id (hid.imp_left fun h hm => h (List.mem_cons_of_mem _ hm)), hf1, if_neg h1]
      · rcases List.mem_cons.mp hp' with rfl | e
        · exact Realised.transport (st := (createPolicy ctx st p').1) ⟨_, L, p'.rules, p'.rules,
            (hf1 _).trans (if_pos rfl), List.Perm.refl _, hreal1, List.Perm.refl _, Forall2_SameButId_refl _⟩ r.mono
            (hframe p'.id (Or.inl hpb_notin))
        · exact hres p' e hA'

/-- The loop over the device policies, with everything it guarantees written out (`overA_ran` packs the first five
clauses into `Ran` and the last into `Done`). -/
theorem overA_spec {ctx : Ctx} {G0 : List Group} {U : String → Prop} (hc : CtxOK ctx G0)
    (hdiff : ∀ n m eq, validScript n m eq (ctx.diff n m eq) = true) (T : Config) :
    ∀ (ps : List Policy) (S : Store) (st : PSt), (pids ps).Nodup → GInv ctx G0 S.groups st →
      (∀ pa ∈ ps, APolOK ctx S pa) → (∀ pb ∈ T.policies, BPolOK ctx U S pb) →
      (overA ctx T ps st).1.abort = none →
      ∃ S', run S (overA ctx T ps st).2 = some S' ∧ GInv ctx G0 S'.groups (overA ctx T ps st).1 ∧
        Mono st (overA ctx T ps st).1 ∧ S'.services = S.services ∧ GroupsLE S S' ∧
        (∀ id, id ∉ pids ps → findPolicy S'.policies id = findPolicy S.policies id) ∧
        (∀ id, hasPolicy S' id = true → hasPolicy S id = true) ∧
        ((pids S.policies).Nodup → (pids S'.policies).Nodup) ∧
        (∀ pa ∈ ps, match findPolicyLast T.policies pa.id with
          | none => findPolicy S'.policies pa.id = none
          | some pb => Realised ctx (overA ctx T ps st).1.nod S' pa.id pb.rules) := by
  intro ps S st hnd hinv hA hB habort
  obtain ⟨S', r, hframe, hdone⟩ := overA_ran hc hdiff T ps S st hnd hinv hA hB habort
  refine ⟨S', r.run, r.ginv, r.mono, r.services, r.groups, hframe, fun id hid => ?_,
    fun h => run_pids_nodup _ S S' h r.run, hdone⟩
  -- a policy the loop worked on was on the manager (`APolOK`); any other is found as before
  by_cases hm : id ∈ pids ps
  · obtain ⟨pa, hpa, rfl⟩ := List.mem_map.mp hm
    obtain ⟨p0, hp0, _⟩ := hA pa hpa
    exact hasPolicy_iff_find.mpr ⟨p0, hp0⟩
  · rw [hasPolicy_iff_find, hframe id hm] at hid
    exact hasPolicy_iff_find.mpr hid

/-- The loop over the target policies the device does not have, with everything it guarantees written out. -/
theorem overB_spec {ctx : Ctx} {G0 : List Group} {U : String → Prop} (hc : CtxOK ctx G0) (A : Config) :
    ∀ (ps : List Policy) (S : Store) (st : PSt), (pids ps).Nodup → GInv ctx G0 S.groups st →
      (∀ pb ∈ ps, BPolOK ctx U S pb) →
      (∀ pb ∈ ps, A.policies.any (·.id == pb.id) = false → hasPolicy S pb.id = false) →
      ∃ S', run S (overB ctx A ps st).2 = some S' ∧ GInv ctx G0 S'.groups (overB ctx A ps st).1 ∧
        Mono st (overB ctx A ps st).1 ∧ S'.services = S.services ∧ GroupsLE S S' ∧
        (∀ id, id ∉ pids ps ∨ A.policies.any (·.id == id) = true →
          findPolicy S'.policies id = findPolicy S.policies id) ∧
        (∀ id, hasPolicy S' id = true → hasPolicy S id = true ∨ id ∈ pids ps) ∧
        ((pids S.policies).Nodup → (pids S'.policies).Nodup) ∧
        (∀ pb ∈ ps, A.policies.any (·.id == pb.id) = false →
          Realised ctx (overB ctx A ps st).1.nod S' pb.id pb.rules) := by
  intro ps S st hnd hinv hB hnew
  obtain ⟨S', r, hframe, hreal⟩ := overB_ran hc A ps S st hnd hinv hB
    fun pb hpb h => hasPolicy_false_iff.mp (hnew pb hpb h)
  refine ⟨S', r.run, r.ginv, r.mono, r.services, r.groups, hframe, fun id hid => ?_,
    fun h => run_pids_nodup _ S S' h r.run, hreal⟩
  by_cases hm : id ∈ pids ps
  · exact Or.inr hm
  · rw [hasPolicy_iff_find, hframe id (Or.inl hm)] at hid
    exact Or.inl (hasPolicy_iff_find.mpr hid)

/-- The call `planSvc` emits for a target service it meets for the first time. -/
def svcCalls (aS : List Service) (sb : Service) : List Call :=
  match findService aS.reverse sb.id with
  | some sa => if sa.defn == sb.defn then [] else [.patchService sb.id sb.defn]
  | none => [.putService sb.id sb.defn]

theorem svcCalls_new {aS : List Service} {sb : Service} (h : findService aS.reverse sb.id = none) :
    svcCalls aS sb = [.putService sb.id sb.defn] := by rw [svcCalls, h]

theorem svcCalls_same {aS : List Service} {sb sa : Service} (h : findService aS.reverse sb.id = some sa)
    (hd : sa.defn = sb.defn) : svcCalls aS sb = [] := by rw [svcCalls, h]; exact if_pos (beq_iff_eq.mpr hd)

theorem svcCalls_changed {aS : List Service} {sb sa : Service} (h : findService aS.reverse sb.id = some sa)
    (hd : sa.defn ≠ sb.defn) : svcCalls aS sb = [.patchService sb.id sb.defn] := by
  rw [svcCalls, h]; exact if_neg fun e => hd (beq_iff_eq.mp e)

theorem svcCalls_spec {aS : List Service} {sb : Service} {S : Store}
    (hA : (findService S.services sb.id).map (·.defn) = (findService aS.reverse sb.id).map (·.defn)) :
    ∃ S1, run S (svcCalls aS sb) = some S1 ∧ S1.groups = S.groups ∧ S1.policies = S.policies ∧
      (∀ id, hasService S1 id = true ↔ hasService S id = true ∨ id = sb.id) ∧
      (∀ id, id ≠ sb.id → findService S1.services id = findService S.services id) ∧
      (findService S1.services sb.id).map (·.defn) = some sb.defn := by
  cases hfa : findService aS.reverse sb.id with
  | some sa =>
    rw [hfa] at hA
    obtain ⟨s0, hs0, hd0⟩ := Option.map_eq_some_iff.mp hA
    have hon : hasService S sb.id = true :=
      hasService_iff.mpr ((findService_some hs0).2 ▸ List.mem_map_of_mem (f := (·.id)) (findService_some hs0).1)
    by_cases hd : sa.defn = sb.defn
    · rw [svcCalls_same hfa hd]
      exact ⟨S, rfl, rfl, rfl, fun _ => ⟨Or.inl, fun h => h.elim (fun h => h) (· ▸ hon)⟩, fun _ _ => rfl, by rw [hs0]; exact congrArg some (hd0.trans hd)⟩
    · rw [svcCalls_changed hfa hd]
      refine ⟨_, run_single (exec_of_step (.patchService hon)), rfl, rfl, ?_, ?_, ?_⟩
      · intro id
        rw [hasService_iff, hasService_iff, sids_patch]
        exact ⟨Or.inl, fun h => h.elim (fun h => h) (· ▸ hasService_iff.mp hon)⟩
      · intro id hne
        rw [findService_map_set, if_neg hne]
      · show (findService (S.services.map _) sb.id).map _ = _
        rw [findService_map_set, if_pos rfl, hs0]; rfl
  | none =>
    have hoff : sb.id ∉ sids S.services := findService_none.mp (Option.map_eq_none_iff.mp (hfa ▸ hA))
    rw [svcCalls_new hfa]
    refine ⟨_, run_single (exec_of_step (.putService (Bool.eq_false_iff.mpr fun h => hoff (hasService_iff.mp h)))),
      rfl, rfl, ?_, ?_, ?_⟩
    · intro id
      simp only [hasService_iff, sids, List.map_append, List.mem_append, List.map_cons, List.map_nil,
        List.mem_singleton]
    · intro id hne
      rw [findService_append_single]
      have : (sb.id == id) = false := by simpa using fun e => hne e.symm
      simp [this]
    · show (findService (S.services ++ [_]) sb.id).map _ = _
      rw [findService_append_single, findService_none.mpr hoff]
      simp

/-- The target services `addNewServices` acts on: of each id not in `seen`, the first one. -/
def firsts : List Service → List String → List Service
  | [], _ => []
  | sb :: rest, seen => if seen.contains sb.id then firsts rest seen else sb :: firsts rest (sb.id :: seen)

theorem mem_firsts : ∀ {bS : List Service} {seen : List String} {sb : Service},
    sb ∈ firsts bS seen ↔ findService bS sb.id = some sb ∧ sb.id ∉ seen
  | [], _, _ => by simp [firsts, findService]
  | b :: rest, seen, sb => by
    rw [firsts, findService_cons]
    by_cases hseen : seen.contains b.id = true
    · have hb : b.id ∈ seen := by simpa using hseen
      rw [if_pos hseen, mem_firsts]
      refine and_congr_left fun hs => ?_
      rw [if_neg fun (e : b.id = sb.id) => hs (e ▸ hb)]
    · have hb : b.id ∉ seen := by simpa using hseen
      rw [if_neg hseen, List.mem_cons, mem_firsts, List.mem_cons, not_or]
      by_cases e : b.id = sb.id
      · rw [if_pos e]
        exact ⟨fun h => h.elim (fun h => ⟨congrArg some h.symm, h ▸ hb⟩) fun h => absurd e.symm h.2.1,
          fun h => Or.inl (Option.some.inj h.1).symm⟩
      · rw [if_neg e]
        exact ⟨fun h => h.elim (fun h => absurd (h ▸ rfl) e) fun h => ⟨h.1, h.2.2⟩,
          fun h => Or.inr ⟨h.1, fun e' => e e'.symm, h.2⟩⟩

theorem firsts_nodup : ∀ (bS : List Service) (seen : List String), (sids (firsts bS seen)).Nodup
  | [], _ => List.nodup_nil
  | b :: rest, seen => by
    rw [firsts]
    split
    · exact firsts_nodup rest seen
    · refine List.nodup_cons.mpr ⟨fun h => ?_, firsts_nodup rest _⟩
      obtain ⟨s, hs, e⟩ := List.mem_map.mp h
      exact (mem_firsts.mp hs).2 (e ▸ List.mem_cons_self)

theorem planSvc_eq (aS : List Service) : ∀ (bS : List Service) (seen : List String),
    planSvc aS bS seen = ((firsts bS seen).flatMap (svcCalls aS),
      sids ((firsts bS seen).filter fun sb => (findService aS.reverse sb.id).isSome))
  | [], _ => rfl
  | sb :: rest, seen => by
    rw [planSvc, firsts]
    split
    · exact planSvc_eq aS rest seen
    · rw [planSvc_eq aS rest (sb.id :: seen), List.flatMap_cons, List.filter_cons, svcCalls]
      cases hfa : findService aS.reverse sb.id with
      | none => rfl
      | some sa => by_cases hd : (sa.defn == sb.defn) = true <;> simp [hd, sids]

theorem sids_firsts {bS : List Service} {seen : List String} {id : String} :
    id ∈ sids (firsts bS seen) ↔ id ∈ sids bS ∧ id ∉ seen := by
  constructor
  · rintro h
    obtain ⟨s, hs, rfl⟩ := List.mem_map.mp h
    exact ⟨List.mem_map_of_mem (findService_some (mem_firsts.mp hs).1).1, (mem_firsts.mp hs).2⟩
  · rintro ⟨h, hn⟩
    obtain ⟨sb, hsb⟩ := exists_find?_key.mpr h
    obtain rfl := (findService_some hsb).2
    exact List.mem_map_of_mem (mem_firsts.mpr ⟨hsb, hn⟩)

theorem planSvc_needed (aS bS : List Service) (x : String) :
    x ∈ (planServices aS bS).2 ↔ x ∈ sids bS ∧ (findService aS.reverse x).isSome = true := by
  rw [planServices, planSvc_eq]
  refine (mem_map_key_filter (key := Service.id) (p := fun i => (findService aS.reverse i).isSome)).trans ?_
  exact and_congr_left fun _ => sids_firsts.trans (and_iff_left fun h => nomatch h)

theorem svcCalls_all (aS : List Service) : ∀ (l : List Service) (S : Store), (sids l).Nodup →
    (∀ sb ∈ l, (findService S.services sb.id).map (·.defn) = (findService aS.reverse sb.id).map (·.defn)) →
    ∃ S', run S (l.flatMap (svcCalls aS)) = some S' ∧ S'.groups = S.groups ∧ S'.policies = S.policies ∧
      (∀ id, hasService S' id = true ↔ hasService S id = true ∨ id ∈ sids l) ∧
      (∀ id, id ∉ sids l → findService S'.services id = findService S.services id) ∧
      ∀ sb ∈ l, (findService S'.services sb.id).map (·.defn) = some sb.defn
  | [], S, _, _ => ⟨S, rfl, rfl, rfl, fun _ => by simp [sids], fun _ _ => rfl, fun _ h => nomatch h⟩
  | sb :: rest, S, hn, hA => by
    obtain ⟨hsb, hrest⟩ := List.nodup_cons.mp (show (sb.id :: sids rest).Nodup from hn)
    have hne : ∀ s ∈ rest, s.id ≠ sb.id := fun s hs e => hsb (e ▸ List.mem_map_of_mem (f := (·.id)) hs)
    obtain ⟨S1, hrun1, hg1, hp1, hhas1, hfr1, hdef1⟩ := svcCalls_spec (hA sb List.mem_cons_self)
    -- the other services are on `S1` as they were on `S`
    obtain ⟨S', hrun, hg, hp, hhas, hfr, hdef⟩ := svcCalls_all aS rest S1 hrest
      fun s hs => (congrArg _ (hfr1 s.id (hne s hs))).trans (hA s (List.mem_cons_of_mem _ hs))
    refine ⟨S', by rw [List.flatMap_cons, run_append hrun1]; exact hrun, hg.trans hg1, hp.trans hp1, fun id => ?_,
      fun id hid => ?_, fun s hs => ?_⟩
    · rw [hhas, hhas1, or_assoc]; exact or_congr_right List.mem_cons.symm
    · rw [hfr id fun h => hid (List.mem_cons_of_mem _ h), hfr1 id fun e => hid (e ▸ List.mem_cons_self)]
    · rcases List.mem_cons.mp hs with rfl | h
      · rw [hfr _ hsb]; exact hdef1
      · exact hdef s h

theorem planServices_spec (aS bS : List Service) (S : Store)
    (hA : ∀ sb ∈ bS, findService aS.reverse sb.id = findService S.services sb.id) :
    ∃ S', run S (planServices aS bS).1 = some S' ∧ S'.groups = S.groups ∧ S'.policies = S.policies ∧
      (∀ id, hasService S' id = true ↔ hasService S id = true ∨ id ∈ sids bS) ∧
      (∀ id, id ∉ sids bS → findService S'.services id = findService S.services id) ∧
      ∀ id ∈ sids bS, (findService S'.services id).map (·.defn) = (findService bS id).map (·.defn) := by
  have hin : ∀ sb ∈ firsts bS [], sb ∈ bS := fun sb h => (findService_some (mem_firsts.mp h).1).1
  have hids : ∀ id, id ∈ sids (firsts bS []) ↔ id ∈ sids bS :=
    fun id => sids_firsts.trans (and_iff_left fun h => nomatch h)
  obtain ⟨S', hrun, hg, hp, hhas, hfr, hdef⟩ := svcCalls_all aS (firsts bS []) S (firsts_nodup _ _)
    fun sb h => congrArg _ (hA sb (hin sb h)).symm
  refine ⟨S', by rw [planServices, planSvc_eq]; exact hrun, hg, hp, fun id => by rw [hhas, hids],
    fun id h => hfr id (by rwa [hids]), fun id hid => ?_⟩
  -- the first target service of that id is the one that was dealt with
  obtain ⟨sb, hsb⟩ : ∃ sb, findService bS id = some sb := exists_find?_key.mpr hid
  obtain rfl := (findService_some hsb).2
  rw [hdef sb (mem_firsts.mpr ⟨hsb, fun h => nomatch h⟩), hsb]; rfl

/-- `addNewServices` from any set `seen` of target ids already handled: all calls are accepted; every target service
not yet seen ends up with the definition of its first occurrence in the target; nothing else about services changes;
`needed` are the device services the target defines.  (`planServices_spec` is the form the plan uses: `seen = []`.) -/
theorem planSvc_spec (aS : List Service) :
    ∀ (bS : List Service) (seen : List String) (S : Store),
      (∀ sb ∈ bS, sb.id ∉ seen → findService aS.reverse sb.id = none → hasService S sb.id = false) →
      (∀ sb ∈ bS, sb.id ∉ seen → ∀ sa, findService aS.reverse sb.id = some sa →
        (findService S.services sb.id).map (·.defn) = some sa.defn) →
      ∃ S', run S (planSvc aS bS seen).1 = some S' ∧ S'.groups = S.groups ∧ S'.policies = S.policies ∧
        (∀ id, hasService S id = true → hasService S' id = true) ∧
        (∀ id, hasService S' id = true → hasService S id = true ∨ id ∈ sids bS) ∧
        (∀ id, id ∈ seen ∨ id ∉ sids bS → findService S'.services id = findService S.services id) ∧
        (∀ id, id ∉ seen → id ∈ sids bS →
          (findService S'.services id).map (·.defn) = (findService bS id).map (·.defn)) ∧
        (∀ x, x ∈ (planSvc aS bS seen).2 ↔ x ∈ sids bS ∧ x ∉ seen ∧ (findService aS.reverse x).isSome = true) := by
  intro bS seen S hnew hold
  obtain ⟨S', hrun, hg, hp, hhas, hfr, hdef⟩ := svcCalls_all aS (firsts bS seen) S (firsts_nodup _ _) fun sb h => by
    obtain ⟨hf, hns⟩ := mem_firsts.mp h
    have hin := (findService_some hf).1
    cases hfa : findService aS.reverse sb.id with
    | none =>
      have := hnew sb hin hns hfa
      rw [Bool.eq_false_iff, Ne, hasService_iff, ← findService_none] at this
      rw [this]
    | some sa => exact hold sb hin hns sa hfa
  rw [planSvc_eq]
  refine ⟨S', hrun, hg, hp, fun id h => (hhas id).mpr (Or.inl h),
    fun id h => ((hhas id).mp h).imp_right fun h' => (sids_firsts.mp h').1,
    fun id h => hfr id fun h' => h.elim (sids_firsts.mp h').2 fun hn => hn (sids_firsts.mp h').1,
    fun id hns hid => ?_, fun x => ?_⟩
  · obtain ⟨sb, hsb⟩ : ∃ sb, findService bS id = some sb := exists_find?_key.mpr hid
    obtain rfl := (findService_some hsb).2
    rw [hdef sb (mem_firsts.mpr ⟨hsb, hns⟩), hsb]; rfl
  · refine (mem_map_key_filter (key := Service.id) (p := fun i => (findService aS.reverse i).isSome)).trans ?_
    exact (and_congr_left fun _ => sids_firsts).trans and_assoc

theorem delServices_spec :
    ∀ (l : List Service) (S : Store), (∀ s ∈ l, hasService S s.id = true ∧ serviceUsed S s.id = false) →
      (sids l).Nodup →
      ∃ S', run S (l.map (Call.deleteService ·.id)) = some S' ∧ S'.groups = S.groups ∧ S'.policies = S.policies ∧
        S'.services = S.services.filter (fun x => !(sids l).contains x.id) := by
  intro l
  induction l with
  | nil => exact fun S _ _ => ⟨S, rfl, rfl, rfl, (List.filter_eq_self.mpr fun _ _ => rfl).symm⟩
  | cons d rest ih =>
    intro S h hn
    obtain ⟨hd, hrest⟩ := List.nodup_cons.mp (show (d.id :: sids rest).Nodup from hn)
    obtain ⟨h1, h2⟩ := h d List.mem_cons_self
    obtain ⟨S', hrun, ho, hp, hf⟩ := ih { S with services := S.services.filter (·.id != d.id) } (fun s hs => by
      obtain ⟨h3, h4⟩ := h s (List.mem_cons_of_mem _ hs)
      refine ⟨hasService_iff.mpr ((mem_map_key_filter (key := Service.id) (p := (· != d.id))).mpr
        ⟨hasService_iff.mp h3, ?_⟩), h4⟩
      have : s.id ≠ d.id := fun e => hd (e ▸ List.mem_map_of_mem (f := (·.id)) hs)
      simpa using this) hrest
    refine ⟨S', ?_, ho, hp, hf.trans (ListFacts.filter_key_ne_filter _ _ d.id (sids rest))⟩
    simp only [List.map_cons, run, exec_of_step (.deleteService h1 h2)]
    exact hrun

theorem delGroups_spec :
    ∀ (l : List Group) (S : Store), (∀ g ∈ l, hasGroup S g.id = true ∧ groupUsed S g.id = false) → (gids l).Nodup →
      ∃ S', run S (l.map (Call.deleteGroup ·.id)) = some S' ∧ S'.services = S.services ∧ S'.policies = S.policies ∧
        S'.groups = S.groups.filter (fun x => !(gids l).contains x.id) := by
  intro l
  induction l with
  | nil => exact fun S _ _ => ⟨S, rfl, rfl, rfl, (List.filter_eq_self.mpr fun _ _ => rfl).symm⟩
  | cons d rest ih =>
    intro S h hn
    obtain ⟨hd, hrest⟩ := List.nodup_cons.mp (show (d.id :: gids rest).Nodup from hn)
    obtain ⟨h1, h2⟩ := h d List.mem_cons_self
    obtain ⟨S', hrun, ho, hp, hf⟩ := ih { S with groups := S.groups.filter (·.id != d.id) } (fun g hg => by
      obtain ⟨h3, h4⟩ := h g (List.mem_cons_of_mem _ hg)
      refine ⟨hasGroup_iff.mpr ((mem_map_key_filter (key := Group.id) (p := (· != d.id))).mpr
        ⟨hasGroup_iff.mp h3, ?_⟩), h4⟩
      have : g.id ≠ d.id := fun e => hd (e ▸ List.mem_map_of_mem (f := (·.id)) hg)
      simpa using this) hrest
    refine ⟨S', ?_, ho, hp, hf.trans (ListFacts.filter_key_ne_filter _ _ d.id (gids rest))⟩
    simp only [List.map_cons, run, exec_of_step (.deleteGroup h1 h2)]
    exact hrun

/-- The services the plan deletes: the managed ones the target does not define. -/
theorem mem_delServices {S : Store} {T : Config} {id : String} :
    id ∈ sids ((load S).services.filter (!(planServices (load S).services T.services).2.contains ·.id)) ↔
      id ∈ sids S.services ∧ managed id = true ∧ id ∉ sids T.services := by
  rw [sids, mem_map_key_filter (key := Service.id)
    (p := fun i => !(planServices (load S).services T.services).2.contains i),
    Bool.not_eq_true', ← Bool.not_eq_true, List.contains_eq_mem, decide_eq_true_eq, planSvc_needed]
  show id ∈ sids (S.services.filter (managed ·.id)) ∧ _ ↔ _
  rw [sids_filter_managed, and_assoc]
  refine and_congr_right fun h1 => and_congr_right fun h2 => ⟨fun h hT' => h ⟨hT', ?_⟩, fun h hn => h hn.1⟩
  -- a managed service of the manager is one of the loaded ones
  cases hf : findService (load S).services.reverse id with
  | some _ => rfl
  | none => exact absurd (sids_filter_managed.mpr ⟨h1, h2⟩) (findService_reverse_none.mp hf)

theorem plan_eq {diff : Diff} {A B : Config} {ctx : Ctx} (hmk : mkCtx diff A B = some ctx) :
    plan diff A B =
      { calls := (planServices A.services B.services).1 ++ (overA ctx B A.policies {}).2 ++
          (overB ctx A B.policies (overA ctx B A.policies {}).1).2 ++
          (A.services.filter (!(planServices A.services B.services).2.contains ·.id)).map (Call.deleteService ·.id) ++
          (A.groups.filter (!(overB ctx A B.policies (overA ctx B A.policies {}).1).1.needed.contains ·.id)).map
            (Call.deleteGroup ·.id)
        abort := (overB ctx A B.policies (overA ctx B A.policies {}).1).1.abort
        needed := (overB ctx A B.policies (overA ctx B A.policies {}).1).1.needed
        nod := (overB ctx A B.policies (overA ctx B A.policies {}).1).1.nod } := by
  simp [plan, hmk]

theorem plan_abort_none_ctx {diff : Diff} {A B : Config} (h : (plan diff A B).abort = none) :
    ∃ ctx, mkCtx diff A B = some ctx := by
  cases hmk : mkCtx diff A B with
  | some ctx => exact ⟨ctx, rfl⟩
  | none => simp [plan, hmk] at h

end NA.Nsx
