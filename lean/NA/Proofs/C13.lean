import NA.Model.Status
/-! The model is the repaired `status.SetApprove` (a failed approve first saves a successful approve that is
newer than the compare record into the compare slot); hence a failed approve never changes the policy
that `check` derives, and the invariant `Inv` is preserved by EVERY event. -/
namespace NA.C13

def Status.approveGood (v : Status) : Bool :=
  v.approve.result == .ok || v.approve.result == .warnings

structure TimesOK (w : World) : Prop where
  at_le : w.st.approve.time ≤ w.clock
  ct_le : w.st.compare.time ≤ w.clock
  ne    : w.st.approve.time = w.st.compare.time → w.st.compare.time = 0
  cres  : w.st.compare.time = 0 → w.st.compare.result = .none
  ares  : w.st.approve.time = 0 → w.st.approve.result = .none
  nowarn : w.st.approve.result ≠ .warnings

def CmpOK (v : Status) : Prop :=
  v.compare.result = .uptodate ∨ v.compare.result = .diff ∨ (v.compare.result = .none ∧ v.compare.time = 0)

/-- Constants behind the fields `hz=`, `hazardAtFail=` and `safe=` that the driver `NA/Drv/C13.lean` prints:
the repaired `SetApprove` has no hazard state. -/
def hazard (_ : World) : Bool := false

def failSafeB (_ : List (Event × Nat)) (_ : World) : Bool := true

/-- Main invariant: whatever policy `check` derives from the status file is what the
latest conclusive observation says the device carries. -/
structure Inv (w : World) : Prop where
  times : TimesOK w
  cmp : CmpOK w.st
  dp_le : devicePolicy w.st ≤ w.cur
  sound : devicePolicy w.st ≠ 0 →
            w.obs = .carries (w.codeOf (devicePolicy w.st)) (devicePolicy w.st)

theorem codeAt_append (codes l : List Code) (p : Nat) (h : p ≤ codes.length) :
    codeAt (codes ++ l) p = codeAt codes p := by
  unfold codeAt
  by_cases hp : p = 0
  · simp [hp]
  · simp only [hp, if_false]
    have : p - 1 < codes.length := by omega
    simp [List.getD_eq_getElem?_getD, List.getElem?_append_left this]

theorem inv_init : Inv ({} : World) := by
  refine ⟨⟨by simp, by simp, by simp, by simp, by simp, by simp⟩, by simp [CmpOK], by simp [devicePolicy], ?_⟩
  simp [devicePolicy]

theorem devicePolicy_cases (v : Status) :
    devicePolicy v =
      (if (if v.approveGood then v.approve.time else 0) < v.compare.time then
        (match v.compare.result with
          | .uptodate => v.compare.policy
          | .diff => 0
          | _ => if v.approveGood then v.approve.policy else 0)
       else if v.approveGood then v.approve.policy else 0) := by
  unfold devicePolicy Status.approveGood
  cases h : v.approve.result <;> cases h2 : v.compare.result <;> simp

theorem setApprove_failed_keep (ar cr : Res) (ap atm cp ct p now : Nat)
    (hk : ct < atm ∧ (ar = .ok ∨ ar = .warnings)) :
    setApprove ⟨⟨ar, ap, atm⟩, ⟨cr, cp, ct⟩⟩ p true now
      = ⟨⟨.failed, p, now⟩, ⟨.uptodate, ap, atm⟩⟩ := by
  rcases hk.2 with h | h <;> simp [setApprove, hk.1, h]

theorem setApprove_failed_nokeep (ar cr : Res) (ap atm cp ct p now : Nat)
    (hk : ¬ (ct < atm ∧ (ar = .ok ∨ ar = .warnings))) :
    setApprove ⟨⟨ar, ap, atm⟩, ⟨cr, cp, ct⟩⟩ p true now
      = ⟨⟨.failed, p, now⟩, ⟨cr, cp, ct⟩⟩ := by
  simp only [setApprove, Bool.true_and]
  have : (decide (ct < atm) && (ar == Res.ok || ar == Res.warnings)) = false :=
    Bool.eq_false_iff.mpr fun hd => hk (by
      simpa only [Bool.and_eq_true, decide_eq_true_eq, Bool.or_eq_true, beq_iff_eq] using hd)
  simp [this]

theorem dp_setApprove_failed_eq (v : Status) (p now : Nat)
    (hne : v.approve.time = v.compare.time → v.compare.time = 0)
    (hares : v.approve.time = 0 → v.approve.result = .none)
    (hc : CmpOK v) :
    devicePolicy (setApprove v p true now) = devicePolicy v := by
  obtain ⟨⟨ar, ap, atm⟩, ⟨cr, cp, ct⟩⟩ := v
  unfold CmpOK at hc
  simp only at hne hares hc
  by_cases hk : ct < atm ∧ (ar = .ok ∨ ar = .warnings)
  · rw [setApprove_failed_keep _ _ _ _ _ _ _ _ hk]
    have h0 : 0 < atm := by omega
    have hn : ¬ atm < ct := by omega
    rcases hk.2 with h | h <;> subst h <;> simp [devicePolicy, h0, hn]
  · rw [setApprove_failed_nokeep _ _ _ _ _ _ _ _ hk]
    by_cases hg : ar = .ok ∨ ar = .warnings
    · have hlt : atm < ct := by
        have h1 : ¬ ct < atm := fun h => hk ⟨h, hg⟩
        have h2 : atm ≠ 0 := by
          intro h0; have := hares h0; rcases hg with h | h <;> rw [h] at this <;> cases this
        omega
      have h0 : 0 < ct := by omega
      have hcr : cr = .uptodate ∨ cr = .diff := hc.imp_right fun h => h.resolve_right fun h' => by omega
      rcases hg with h | h <;> rcases hcr with h' | h' <;> subst h <;> subst h' <;>
        simp [devicePolicy, hlt, h0]
    · cases ar <;> simp_all [devicePolicy]

theorem setApprove_facts (v : Status) (p now clock : Nat) (failed : Bool)
    (hat : v.approve.time ≤ clock) (hct : v.compare.time ≤ clock)
    (hcres : v.compare.time = 0 → v.compare.result = .none) :
    (setApprove v p failed now).approve.time = now ∧
    (setApprove v p failed now).approve.result ≠ .warnings ∧
    (setApprove v p failed now).compare.time ≤ clock ∧
    ((setApprove v p failed now).compare.time = 0 → (setApprove v p failed now).compare.result = .none) := by
  obtain ⟨⟨ar, ap, atm⟩, ⟨cr, cp, ct⟩⟩ := v
  cases failed
  · simp_all [setApprove]
  · by_cases hk : ct < atm ∧ (ar = .ok ∨ ar = .warnings)
    · rw [setApprove_failed_keep _ _ _ _ _ _ _ _ hk]
      refine ⟨rfl, by simp, by simpa using hat, ?_⟩
      intro h0; simp at h0; omega
    · rw [setApprove_failed_nokeep _ _ _ _ _ _ _ _ hk]
      exact ⟨rfl, by simp, by simpa using hct, by simpa using hcres⟩

theorem cmpOK_setApprove (v : Status) (p now : Nat) (failed : Bool) (hc : CmpOK v) :
    CmpOK (setApprove v p failed now) := by
  obtain ⟨⟨ar, ap, atm⟩, ⟨cr, cp, ct⟩⟩ := v
  unfold CmpOK at *
  cases failed
  · simpa [setApprove] using hc
  · by_cases hk : ct < atm ∧ (ar = .ok ∨ ar = .warnings)
    · rw [setApprove_failed_keep _ _ _ _ _ _ _ _ hk]; simp
    · rw [setApprove_failed_nokeep _ _ _ _ _ _ _ _ hk]; simpa using hc

theorem times_of_setApprove (w w' : World) (p now : Nat) (failed : Bool) (hnow : w.clock < now)
    (ht : TimesOK w) (hst : w'.st = setApprove w.st p failed now) (hcl : w'.clock = now) :
    TimesOK w' := by
  obtain ⟨hat, hct, _, hcres, _, _⟩ := ht
  obtain ⟨f1, f3, f4, f5⟩ := setApprove_facts w.st p now w.clock failed hat hct hcres
  rw [← hst] at f1 f3 f4 f5
  refine ⟨by rw [hcl, f1]; exact Nat.le_refl _, by rw [hcl]; omega, ?_, f5, ?_, f3⟩
  · rw [f1]; intro e; omega
  · rw [f1]; intro e; omega

theorem dp_setApprove_ok (v : Status) (p now : Nat) (h : v.compare.time < now) :
    devicePolicy (setApprove v p false now) = p := by
  rw [devicePolicy_cases]; simp [setApprove, Status.approveGood]; omega

theorem dp_setCompare_same (v : Status) (p now : Nat) (h : v.approve.time < now) :
    devicePolicy (setCompare v p false now) = p := by
  obtain ⟨⟨ar, ap, atm⟩, ⟨cr, cp, ct⟩⟩ := v
  cases ar <;> simp_all [devicePolicy, setCompare] <;> intros <;> omega

theorem dp_setCompare_changed (v : Status) (p now : Nat) (h : v.approve.time < now)
    (hne : v.approve.time = v.compare.time → v.compare.time = 0)
    (hcres : v.compare.time = 0 → v.compare.result = .none) :
    devicePolicy (setCompare v p true now) = 0 := by
  obtain ⟨⟨ar, ap, atm⟩, ⟨cr, cp, ct⟩⟩ := v
  simp only [setCompare]
  by_cases hd : cr ≠ .diff ∨ ct < atm
  · simp only [hd]
    cases ar <;> simp_all [devicePolicy] <;> intros <;> omega
  · have h1 : cr = .diff := by
      cases cr <;> simp_all
    subst h1
    simp only [hd]
    have h3 : ct ≠ 0 := by intro h0; have := hcres h0; simp at this
    cases ar <;> simp_all [devicePolicy] <;> intros <;> omega

theorem times_setCompare (v : Status) (p now clock : Nat) (ch : Bool) (hnow : clock < now)
    (hat : v.approve.time ≤ clock) (hct : v.compare.time ≤ clock)
    (hne : v.approve.time = v.compare.time → v.compare.time = 0)
    (hcres : v.compare.time = 0 → v.compare.result = .none) :
    let v' := setCompare v p ch now
    v'.approve = v.approve ∧ v'.compare.time ≤ now ∧
    (v'.approve.time = v'.compare.time → v'.compare.time = 0) ∧
    (v'.compare.time = 0 → v'.compare.result = .none) := by
  obtain ⟨⟨ar, ap, atm⟩, ⟨cr, cp, ct⟩⟩ := v
  cases ch <;> simp_all [setCompare] <;> (try split) <;> (try simp_all) <;> omega

theorem times_of_setCompare (w w' : World) (p now : Nat) (ch : Bool) (hnow : w.clock < now)
    (ht : TimesOK w) (hst : w'.st = setCompare w.st p ch now) (hcl : w'.clock = now) : TimesOK w' := by
  obtain ⟨hat, hct, hne, hcres, hares, hnw⟩ := ht
  obtain ⟨ha, hct', hne', hcres'⟩ := times_setCompare w.st p now w.clock ch hnow hat hct hne hcres
  simp only [← hst] at ha hct' hne' hcres'
  exact ⟨by rw [ha, hcl]; omega, by rw [hcl]; exact hct', hne', hcres', by rw [ha]; exact hares,
    by rw [ha]; exact hnw⟩

theorem TimesOK.mono {w w' : World} (h : TimesOK w) (hst : w'.st = w.st) (hcl : w.clock ≤ w'.clock) :
    TimesOK w' := by
  obtain ⟨hat, hct, hne, hcres, hares, hnw⟩ := h
  rw [← hst] at hat hct hne hcres hares hnw
  exact ⟨by omega, by omega, hne, hcres, hares, hnw⟩

theorem times_step (w : World) (e : Event × Nat) (h : TimesOK w) : TimesOK (step w e) := by
  obtain ⟨ev, dt⟩ := e
  have hle : w.clock ≤ w.clock + dt + 1 := by omega
  have hnow : w.clock < w.clock + dt + 1 := by omega
  cases ev with
  | newPolicy c | drift c | bzip p => exact h.mono rfl hle
  | remove p => simp only [step]; split <;> exact h.mono rfl hle
  | damage => exact ⟨by simp [step], by simp [step], by simp [step], by simp [step], by simp [step], by simp [step]⟩
  | approveOk | approveFailed =>
    simp only [step]; split
    · exact h.mono rfl hle
    · exact times_of_setApprove w _ _ (w.clock + dt + 1) _ hnow h rfl rfl
  | compare =>
    simp only [step]; split
    · exact h.mono rfl hle
    · exact times_of_setCompare w _ _ (w.clock + dt + 1) _ hnow h rfl rfl
  | compareErr =>
    simp only [step]; split
    · exact h.mono rfl hle
    · exact times_of_setCompare w _ _ (w.clock + dt + 1) true hnow h rfl rfl

theorem cmpOK_setCompare (v : Status) (p now : Nat) (ch : Bool) (h : CmpOK v) : CmpOK (setCompare v p ch now) := by
  obtain ⟨⟨ar, ap, atm⟩, ⟨cr, cp, ct⟩⟩ := v
  unfold CmpOK at *
  cases ch
  · simp [setCompare]
  · simp only [setCompare]
    by_cases hd : cr ≠ .diff ∨ ct < atm
    · simp [hd]
    · simp only [hd]; exact h

theorem cmpOK_step (w : World) (e : Event × Nat) (h : CmpOK w.st) : CmpOK (step w e).st := by
  obtain ⟨ev, dt⟩ := e
  cases ev <;> simp only [step] <;> (try split) <;> (try exact h) <;>
    first
      | exact cmpOK_setCompare _ _ _ _ h
      | exact cmpOK_setApprove _ _ _ _ h
      | (simp [CmpOK] at h ⊢; try exact h)

/-- Does the event destroy what the status file knows about the latest conclusive observation?
A failed approve does not. -/
def dirty (_ : World) (e : Event) : Bool :=
  match e with
  | .compareErr | .damage => true
  | _ => false

def conclusive (e : Event) : Bool :=
  match e with | .approveOk | .compare => true | _ => false

/-- Ghost flag: nothing has disturbed the record of the latest conclusive observation. -/
def cleanStep (w : World) (cl : Bool) (e : Event × Nat) : Bool :=
  if conclusive e.1 && w.cur != 0 then true else if dirty w e.1 then false else cl

def runC : List (Event × Nat) → World × Bool → World × Bool
  | [], s => s
  | e :: es, s => runC es (step s.1 e, cleanStep s.1 s.2 e)

theorem runC_fst (es : List (Event × Nat)) (s : World × Bool) : (runC es s).1 = es.foldl step s.1 := by
  induction es generalizing s with
  | nil => rfl
  | cons e es ih => simp [runC, ih]

def J (w : World) (cl : Bool) : Prop :=
  cl = true → ∀ c p, w.obs = .carries c p →
    devicePolicy w.st = p ∧ p ≠ 0 ∧ p ≤ w.cur ∧ c = w.codeOf p

/-- What one event does to the policy that `check` derives, to the list of policies, to the latest conclusive
observation and to the ghost flag `cl`. -/
inductive Core (w : World) (cl : Bool) (w' : World) (cl' : Bool) : Prop
  | keep (l : List Code) (hdp : devicePolicy w'.st = devicePolicy w.st) (hco : w'.codes = w.codes ++ l)
      (hob : w'.obs = w.obs) (hcl : cl' = true → cl = true)
  | zero (hdp : devicePolicy w'.st = 0) (hob : cl' = true → ∀ c p, w'.obs ≠ .carries c p)
  | fresh (h0 : w.cur ≠ 0) (hdp : devicePolicy w'.st = w.cur) (hco : w'.codes = w.codes)
      (hob : w'.obs = .carries w.curCode w.cur)

theorem step_core (w : World) (cl : Bool) (e : Event × Nat) (ht : TimesOK w) (hc : CmpOK w.st) :
    Core w cl (step w e) (cleanStep w cl e) := by
  obtain ⟨ev, dt⟩ := e
  obtain ⟨hat, hct, hne, hcres, hares, hnw⟩ := ht
  -- status, policies and observation stay
  have frame : ∀ w' cl', w'.st = w.st → w'.codes = w.codes → w'.obs = w.obs → (cl' = true → cl = true) →
      Core w cl w' cl' :=
    fun _ _ hst hco hob hcl => .keep [] (by rw [hst]) (by rw [hco, List.append_nil]) hob hcl
  -- nothing but the clock moves: without a policy (`cur = 0`) approve and compare do nothing
  have idle : ∀ cl', (cl' = true → cl = true) → Core w cl { w with clock := w.clock + dt + 1 } cl' :=
    fun _ => frame _ _ rfl rfl rfl
  -- an event that is not a conclusive observation does not make the flag clean
  have quiet : ∀ e, (conclusive e && w.cur != 0) = false → cleanStep w cl (e, dt) = true → cl = true := by
    intro e he; simp [cleanStep, he]
  cases ev with
  | drift c | bzip p => exact frame _ _ rfl rfl rfl (quiet _ rfl)
  | remove p => simp only [step]; split <;> exact frame _ _ rfl rfl rfl (quiet _ rfl)
  | damage => exact .zero (by simp [step, devicePolicy]) (by simp [cleanStep, conclusive, dirty])
  | newPolicy c => exact .keep [c] rfl rfl rfl (quiet _ rfl)
  | approveOk =>
    simp only [step]
    split
    · rename_i h0; exact idle _ (quiet _ (by simp [show w.cur = 0 from h0]))
    · rename_i h0; exact .fresh h0 (dp_setApprove_ok _ _ _ (by omega)) rfl rfl
  | approveFailed =>
    simp only [step]
    split
    · exact idle _ (quiet _ rfl)
    · exact .keep [] (dp_setApprove_failed_eq _ _ _ hne hares hc) (List.append_nil _).symm rfl (quiet _ rfl)
  | compare =>
    simp only [step]
    split
    · rename_i h0; exact idle _ (quiet _ (by simp [show w.cur = 0 from h0]))
    · rename_i h0
      simp only [World.cur, World.curCode, World.codeOf]
      by_cases hch : (w.dev != codeAt w.codes w.codes.length) = true
      · simp only [hch]
        exact .zero (dp_setCompare_changed _ _ _ (by omega) hne hcres) (by simp)
      · simp only [hch]
        exact .fresh h0 (dp_setCompare_same _ _ _ (by omega)) rfl rfl
  | compareErr =>
    simp only [step]
    split
    · exact idle _ (quiet _ rfl)
    · exact .zero (dp_setCompare_changed _ _ _ (by omega) hne hcres) (by simp [cleanStep, conclusive, dirty])

theorem inv_core_step (w : World) (e : Event × Nat) (h : Inv w) :
    devicePolicy (step w e).st ≤ (step w e).cur ∧
    (devicePolicy (step w e).st ≠ 0 →
      (step w e).obs = .carries ((step w e).codeOf (devicePolicy (step w e).st))
        (devicePolicy (step w e).st)) := by
  have hle := h.dp_le
  have hs := h.sound
  simp only [World.cur, World.codeOf] at hle hs ⊢
  cases step_core w true e h.times h.cmp with
  | keep l hdp hco hob _ =>
    rw [hdp, hco, hob, codeAt_append _ _ _ hle, List.length_append]
    exact ⟨by omega, hs⟩
  | zero hdp _ => rw [hdp]; exact ⟨Nat.zero_le _, absurd rfl⟩
  | fresh h0 hdp hco hob =>
    rw [hdp, hco, hob]
    exact ⟨Nat.le_refl _, fun _ => rfl⟩

theorem inv_step (w : World) (e : Event × Nat) (h : Inv w) : Inv (step w e) :=
  ⟨times_step w e h.times, cmpOK_step w e h.cmp, (inv_core_step w e h).1, (inv_core_step w e h).2⟩

theorem j_step (w : World) (cl : Bool) (e : Event × Nat) (ht : TimesOK w) (hc : CmpOK w.st)
    (hj : J w cl) : J (step w e) (cleanStep w cl e) := by
  intro hcl c p ho
  simp only [World.cur, World.codeOf]
  cases step_core w cl e ht hc with
  | keep l hdp hco hob hcl' =>
    obtain ⟨h1, h2, h3, h4⟩ := hj (hcl' hcl) c p (hob ▸ ho)
    simp only [World.cur, World.codeOf] at h3 h4
    rw [hdp, hco, codeAt_append _ _ _ h3, List.length_append]
    exact ⟨h1, h2, by omega, h4⟩
  | zero _ hob => exact absurd ho (hob hcl c p)
  | fresh h0 hdp hco hob =>
    rw [hob, Obs.carries.injEq] at ho
    obtain ⟨rfl, rfl⟩ := ho
    rw [hdp, hco]
    exact ⟨rfl, h0, Nat.le_refl _, rfl⟩

/-! ### every history -/

theorem inv_run (es : List (Event × Nat)) (w : World) (h : Inv w) : Inv (es.foldl step w) :=
  List.foldlRecOn es step h fun w hw e _ => inv_step w e hw

theorem run_snoc (es : List (Event × Nat)) (e : Event × Nat) : run (es ++ [e]) = step (run es) e := by
  simp [run]

theorem listed_of_current {w : World} (hdp : devicePolicy w.st = w.cur) (h0 : w.cur ≠ 0) : w.listed = false := by
  simp [World.listed, listed, hdp, h0]

theorem j_run (es : List (Event × Nat)) (w : World) (cl : Bool)
    (ht : TimesOK w) (hc : CmpOK w.st) (hj : J w cl) :
    J (runC es (w, cl)).1 (runC es (w, cl)).2 := by
  induction es generalizing w cl with
  | nil => exact hj
  | cons e es ih =>
    exact ih _ _ (times_step w e ht) (cmpOK_step w e hc) (j_step w cl e ht hc hj)

end NA.C13
