import NA.Model.PanOs
/-
C03, generated names (`genUniqRuleNames`, `genUniqGroupNames`): the search for `name-i` always
finds a free name, new names avoid the device's names and (the target's names being distinct) are pairwise distinct.
The only fact about `fmt.Sprintf("%s-%d")` that is used is that different numbers give
different strings (`suffixInj`, proved for Lean's decimal notation).  Core Lean only.
-/
namespace NA.PanOs

/-- `fmt.Sprintf("%s-%d", name, i)` is injective in `i`. -/
def SuffixInj : Prop := ∀ (name : String) (i j : Nat), s!"{name}-{i}" = s!"{name}-{j}" → i = j

/-- Decimal notation is injective, so `name-i` determines `i`. -/
theorem suffixInj : SuffixInj := by
  intro name i j h
  have h1 : toString name ++ toString "-" ++ toString i = toString name ++ toString "-" ++ toString j := h
  rw [String.append_right_inj] at h1
  have h2 : (Nat.repr i).toList = (Nat.repr j).toList := congrArg String.toList h1
  rw [Nat.toList_repr, Nat.toList_repr] at h2
  have := congrArg (fun l => Nat.ofDigitChars 10 l 0) h2
  simpa [Nat.ofDigitChars_ten_toDigits] using this

/-- Pigeonhole: among `l.length + 1` values of an injective sequence one is not in `l`. -/
theorem exists_not_mem_of_injective {α : Type} (l : List α) :
    ∀ (f : Nat → α), (∀ i j, f i = f j → i = j) → ∃ i, i ≤ l.length ∧ f i ∉ l := by
  intro f hf
  -- otherwise the distinct values `f 0, …, f l.length` would all lie in `l`
  apply Classical.byContradiction
  intro hno
  have hsub : (List.range (l.length + 1)).map f ⊆ l := by
    intro x hx
    obtain ⟨i, hi, rfl⟩ := List.mem_map.mp hx
    exact Classical.not_not.mp (fun hn => hno ⟨i, Nat.le_of_lt_succ (List.mem_range.mp hi), hn⟩)
  have hnd : ((List.range (l.length + 1)).map f).Nodup :=
    List.Pairwise.map f (fun a b hab e => hab (hf a b e)) List.nodup_range
  have hle := hnd.length_le_of_subset hsub
  rw [List.length_map, List.length_range] at hle
  exact Nat.not_succ_le_self _ hle

theorem freshName_not_mem (hinj : SuffixInj) (used : List String) (name : String) :
    freshName used name ∉ used := by
  unfold freshName
  obtain ⟨i, hi, hni⟩ := exists_not_mem_of_injective used (fun k => s!"{name}-{k + 1}") (by
    intro p q h
    have := hinj name (p + 1) (q + 1) h
    omega)
  cases hf : (List.range (used.length + 1)).find? (fun i => !used.contains s!"{name}-{i + 1}") with
  | some k =>
    have := List.find?_some hf
    simpa using this
  | none =>
    rw [List.find?_eq_none] at hf
    have := hf i (by simp; omega)
    simp at this
    exact absurd this hni

theorem uniqNamesFrom_length (taken : List String) : ∀ (names used : List String),
    (uniqNamesFrom taken used names).length = names.length := by
  intro names
  induction names with
  | nil => intro used; rfl
  | cons n ns ih =>
    intro used
    simp only [uniqNamesFrom]
    split <;> simp [ih]

theorem uniqNames_length (taken names : List String) : (uniqNames taken names).length = names.length :=
  uniqNamesFrom_length taken names _

theorem groupNamesFor_length (a b : Vsys) : (groupNamesFor a b).length = b.groups.length := by
  unfold groupNamesFor
  rw [uniqNamesFrom_length]
  simp

theorem uniqNamesFrom_cons (hinj : SuffixInj) {taken used ns : List String} {n : String}
    (ht : ∀ x ∈ taken, x ∈ used) (hn : ∀ x ∈ n :: ns, x ∈ used) (hnd : (n :: ns).Nodup) :
    ∃ n' used', uniqNamesFrom taken used (n :: ns) = n' :: uniqNamesFrom taken used' ns ∧
      n' ∉ taken ∧ n' ∈ used' ∧ n' ∉ ns ∧ (n' = n ∨ n' ∉ used) ∧ ∀ x ∈ used, x ∈ used' := by
  have hfresh := freshName_not_mem hinj used n
  rw [uniqNamesFrom]
  split
  · exact ⟨_, _ :: used, rfl, fun hm => hfresh (ht _ hm), List.mem_cons_self,
      fun hm => hfresh (hn _ (List.mem_cons_of_mem _ hm)), Or.inr hfresh, fun _ => List.mem_cons_of_mem _⟩
  · rename_i hc
    exact ⟨n, used, rfl, fun hm => hc (List.contains_iff_mem.mpr hm), hn n List.mem_cons_self,
      (List.nodup_cons.mp hnd).1, Or.inl rfl, fun _ h => h⟩

theorem uniqNamesFrom_spec (hinj : SuffixInj) (taken : List String) :
    ∀ (names used : List String), (∀ n ∈ taken, n ∈ used) → (∀ n ∈ names, n ∈ used) →
      names.Nodup →
      (∀ n ∈ uniqNamesFrom taken used names, n ∉ taken) ∧
      (uniqNamesFrom taken used names).Nodup ∧
      (∀ n ∈ uniqNamesFrom taken used names, n ∈ names ∨ n ∉ used) := by
  intro names
  induction names with
  | nil => intro used _ _ _; exact ⟨nofun, .nil, nofun⟩
  | cons n ns ih =>
    intro used ht hn hnd
    obtain ⟨n', used', e, f1, f2, f3, f4, f5⟩ := uniqNamesFrom_cons hinj ht hn hnd
    obtain ⟨h1, h2, h3⟩ := ih used' (fun x hx => f5 x (ht x hx))
      (fun x hx => f5 x (hn x (List.mem_cons_of_mem _ hx))) (List.nodup_cons.mp hnd).2
    rw [e]
    refine ⟨fun x hx => ?_, List.nodup_cons.mpr ⟨fun hm => ?_, h2⟩, fun x hx => ?_⟩
    · rcases List.mem_cons.mp hx with rfl | hx
      · exact f1
      · exact h1 x hx
    · exact (h3 _ hm).elim f3 fun h => h f2
    · rcases List.mem_cons.mp hx with rfl | hx
      · exact f4.elim (fun e => Or.inl (e ▸ List.mem_cons_self)) Or.inr
      · exact (h3 x hx).imp (List.mem_cons_of_mem _) fun h hm => h (f5 x hm)

theorem uniqNames_spec (hinj : SuffixInj) (taken names : List String) (hnd : names.Nodup) :
    (∀ n ∈ uniqNames taken names, n ∉ taken) ∧ (uniqNames taken names).Nodup ∧
      (uniqNames taken names).length = names.length := by
  obtain ⟨h1, h2, _⟩ := uniqNamesFrom_spec hinj taken names (taken ++ names)
    (fun n h => List.mem_append_left _ h) (fun n h => List.mem_append_right _ h) hnd
  exact ⟨h1, h2, uniqNames_length taken names⟩

theorem uniqNames_nodup_append (hinj : SuffixInj) (taken names : List String)
    (ht : taken.Nodup) (hnd : names.Nodup) : (taken ++ uniqNames taken names).Nodup := by
  obtain ⟨h1, h2, _⟩ := uniqNames_spec hinj taken names hnd
  rw [List.nodup_append]
  refine ⟨ht, h2, ?_⟩
  intro a ha b hb e
  subst e
  exact h1 a hb ha

/-- `genUniqGroupNames` (after the repair of F-C03g): a generated name is not the name of an address of either side. -/
theorem groupNamesFor_spec (hinj : SuffixInj) (a b : Vsys) (hnd : (b.groups.map (·.name)).Nodup) :
    (∀ n ∈ groupNamesFor a b, n ∉ a.groups.map (·.name)) ∧ (groupNamesFor a b).Nodup ∧
    (∀ n ∈ groupNamesFor a b, n ∈ b.groups.map (·.name) ∨
      (n ∉ a.addrs.map (·.name) ∧ n ∉ b.addrs.map (·.name))) := by
  obtain ⟨h1, h2, h3⟩ := uniqNamesFrom_spec hinj (a.groups.map (·.name)) (b.groups.map (·.name))
    (a.groups.map (·.name) ++ b.groups.map (·.name) ++ (a.addrs.map (·.name) ++ b.addrs.map (·.name)))
    (fun n h => by simp [h]) (fun n h => by simp [h]) hnd
  refine ⟨h1, h2, ?_⟩
  intro n hn
  rcases h3 n hn with h | h
  · exact Or.inl h
  · right
    simp only [List.mem_append, not_or] at h
    exact ⟨h.2.1, h.2.2⟩

end NA.PanOs
