import NA.Proofs.F2Sem
import NA.Proofs.DiffUnordered
/-!
# F2: the sub-commands of one interface pair (`diffBinds`) on the strict device

`sem_diffBinds`: along the three folds of `diffBinds_canon` (deleted, equalised, added sub-commands) the walk keeps `Walk`;
each step settles one direction of the interface that was untouched, so afterwards the ghost status of every direction is
what the target says about it (`TgtStatus`).
-/
namespace NA.F2
open NA.ListFacts
open NA.IosDev2
open NA.F1 (diffUnordered slice lastIdx)

def updAll (σ : String → String → Status) (x : String) (us : List (String × Status)) : String → String → Status :=
  us.foldl (fun σ u => updσ σ x u.1 u.2) σ

theorem updAll_notin (σ : String → String → Status) (x : String) (us : List (String × Status)) (y dir : String)
    (h : y = x → dir ∉ us.map (·.1)) : updAll σ x us y dir = σ y dir := by
  induction us generalizing σ with
  | nil => rfl
  | cons u us ih =>
    simp only [List.map_cons, List.mem_cons, not_or] at h
    have := ih (updσ σ x u.1 u.2) fun hy => (h hy).2
    simp only [updAll, List.foldl_cons] at this ⊢
    rw [this]
    simp only [updσ, ite_eq_right_iff, and_imp]
    exact fun hy hd => absurd hd (h hy).1

theorem updAll_append (σ : String → String → Status) (x : String) (us vs : List (String × Status)) :
    updAll σ x (us ++ vs) = updAll (updAll σ x us) x vs := by
  simp [updAll, List.foldl_append]

theorem updAll_same (σ : String → String → Status) (x : String) (us : List (String × Status)) (dir : String) (s : Status)
    (hex : ∃ u ∈ us, u.1 = dir) (hall : ∀ u ∈ us, u.1 = dir → u.2 = s) : updAll σ x us x dir = s := by
  induction us generalizing σ with
  | nil => obtain ⟨u, hu, _⟩ := hex; cases hu
  | cons v us ih =>
    simp only [updAll, List.foldl_cons]
    by_cases hlater : ∃ u ∈ us, u.1 = dir
    · exact ih (updσ σ x v.1 v.2) hlater (fun u hu => hall u (List.mem_cons_of_mem _ hu))
    · have hn : dir ∉ us.map (·.1) := by
        intro hc
        obtain ⟨u, hu, hud⟩ := List.mem_map.mp hc
        exact hlater ⟨u, hu, hud⟩
      have := updAll_notin (updσ σ x v.1 v.2) x us x dir fun _ => hn
      simp only [updAll] at this
      rw [this]
      obtain ⟨u, hu, hud⟩ := hex
      rcases List.mem_cons.mp hu with rfl | hu'
      · simp [updσ, hud, hall u (List.mem_cons_self ..) hud]
      · exact absurd ⟨u, hu', hud⟩ hlater

theorem updAll_in (σ : String → String → Status) (x : String) (us : List (String × Status))
    (hnd : (us.map (·.1)).Nodup) (u : String × Status) (hu : u ∈ us) : updAll σ x us x u.1 = u.2 :=
  updAll_same σ x us u.1 u.2 ⟨u, hu, rfl⟩ fun v hv hd => by rw [eq_of_nodup_map hnd hv hu hd]

/-- Updates each of which stands in a relation `R` (direction, status) that determines the status: so does the result,
for every updated direction. -/
theorem updAll_rel (σ : String → String → Status) (x : String) (us : List (String × Status)) (R : String → Status → Prop)
    (hR : ∀ dir s s', R dir s → R dir s' → s = s') (h : ∀ u ∈ us, R u.1 u.2) {dir : String} (hd : dir ∈ us.map (·.1)) :
    R dir (updAll σ x us x dir) := by
  obtain ⟨u, hu, rfl⟩ := List.mem_map.mp hd
  rw [updAll_same σ x us u.1 u.2 ⟨u, hu, rfl⟩ fun v hv hvd => hR _ _ _ (hvd ▸ h v hv) (h u hu)]
  exact h u hu

/-- What the target sub-commands `bl` of an interface say about one of its directions. -/
def TgtStatus (bl : List Bind) (dir : String) (s : Status) : Prop :=
  (∃ b ∈ bl, b.dir = dir ∧ s = .settled b.acl) ∨ (dir ∉ bl.map (·.dir) ∧ s = .cleared)

theorem TgtStatus.unique {bl : List Bind} (hnd : (bl.map (·.dir)).Nodup) (dir : String) (s s' : Status)
    (h : TgtStatus bl dir s) (h' : TgtStatus bl dir s') : s = s' := by
  rcases h with ⟨b, hb, hd, rfl⟩ | ⟨hn, rfl⟩ <;> rcases h' with ⟨b', hb', hd', rfl⟩ | ⟨hn', rfl⟩
  · rw [eq_of_nodup_map hnd hb hb' (hd.trans hd'.symm)]
  · exact absurd (hd ▸ List.mem_map_of_mem hb) hn'
  · exact absurd (hd' ▸ List.mem_map_of_mem hb') hn
  · rfl

/-- What is known about the sub-commands `al` of the device interface `x`: static facts, and that the start device `d0`
has the interface with these bindings. -/
structure BindsA (e : Env) (d0 : Dev) (x : String) (al : List Bind) : Prop where
  dirsNd : (al.map (·.dir)).Nodup
  dirs : ∀ bd ∈ al, isDir bd.dir = true
  closed : ∀ bd ∈ al, e.a.hasAcl bd.acl = true
  hasIntf : hasIntf d0 x = true
  slots : ∀ bd ∈ al, slotOf d0 x bd.dir = some bd.acl

structure WFI (e : Env) (d0 : Dev) : Prop extends IStatic e where
  aDev : ∀ ai ∈ e.a.intfs, hasIntf d0 ai.name = true ∧ ∀ bd ∈ ai.binds, slotOf d0 ai.name bd.dir = some bd.acl

theorem WFI.bindsA {e : Env} {d0 : Dev} (h : WFI e d0) {ai : Intf} (hai : ai ∈ e.a.intfs) : BindsA e d0 ai.name ai.binds :=
  ⟨(h.aIntf ai hai).1, (h.aIntf ai hai).2.1, (h.aIntf ai hai).2.2, (h.aDev ai hai).1, (h.aDev ai hai).2⟩

/-- A fold of steps on sub-commands of interface `x`, each of which settles one direction (`δ`) that was untouched
(deleting, `delBind1`, and equalising, `makeEqualBind`); `J` is what the steps maintain. -/
theorem proc_fold {J : St → (String → String → Status) → Prop} {α : Type} (F : St → α → St) (δ : α → String)
    (s : α → Status) (x : String) (l : List α) (hnd : (l.map δ).Nodup)
    (hstep : ∀ a ∈ l, ∀ {st σ}, J st σ → σ x (δ a) = .orig → J (F st a) (updσ σ x (δ a) (s a)))
    {st : St} {σ : String → String → Status} (h : J st σ) (hσ : ∀ a ∈ l, σ x (δ a) = .orig) :
    J (l.foldl F st) (updAll σ x (l.map fun a => (δ a, s a))) := by
  induction l generalizing st σ with
  | nil => exact h
  | cons a l ih =>
    simp only [List.map_cons, List.nodup_cons] at hnd
    refine ih hnd.2 (fun a' ha' => hstep a' (List.mem_cons_of_mem _ ha'))
      (hstep a (List.mem_cons_self ..) h (hσ a (List.mem_cons_self ..))) fun a' ha' => ?_
    have : δ a' ≠ δ a := fun hc => hnd.1 (hc ▸ List.mem_map_of_mem ha')
    simp only [updσ, this, and_false, ↓reduceIte]
    exact hσ a' (List.mem_cons_of_mem _ ha')

/-- The same for steps that ask nothing of the direction they settle (adding, `addBind1`). -/
theorem proc_all {J : St → (String → String → Status) → Prop} {α : Type} (F : St → α → St) (δ : α → String)
    (s : α → Status) (x : String) (l : List α)
    (hstep : ∀ a ∈ l, ∀ {st σ}, J st σ → J (F st a) (updσ σ x (δ a) (s a)))
    {st : St} {σ : String → String → Status} (h : J st σ) :
    J (l.foldl F st) (updAll σ x (l.map fun a => (δ a, s a))) := by
  induction l generalizing st σ with
  | nil => exact h
  | cons a l ih =>
    exact ih (fun a' ha' => hstep a' (List.mem_cons_of_mem _ ha')) (hstep a (List.mem_cons_self ..) h)

/-- `diffCmds(a.sub, b.sub)` for one interface pair: afterwards every direction of the interface is
bound as the target says (`settled`), or unbound if only the device had a binding (`cleared`). -/
theorem sem_diffBinds {e : Env} (hwf : WFE e) {P : List Name} {d0 : Dev} (i : Nat) (x : String) (al bl : List Bind)
    (hkey : ∀ k, slotKey e i k = (x, (al.getD k default).dir)) (hA : BindsA e d0 x al) (hB : BindsB e bl)
    (hC : ∀ a ∈ al, ∀ b ∈ bl, a.dir = b.dir → Cmp e a.acl b.acl) (hBd : ∀ b ∈ bl, BoundB e b.acl)
    {st : St} {σ : String → String → Status} (h : Walk e P d0 st σ) (hσ : ∀ dir, σ x dir = .orig) :
    ∃ σ', Walk e P d0 (diffBinds e st i x al bl) σ' ∧
      (∀ y, y ≠ x → ∀ dir, σ' y dir = σ y dir) ∧
      (∀ b ∈ bl, σ' x b.dir = .settled b.acl) ∧
      (∀ a ∈ al, a.dir ∉ bl.map (·.dir) → σ' x a.dir = .cleared) ∧
      (∀ dir, dir ∉ al.map (·.dir) → dir ∉ bl.map (·.dir) → σ' x dir = .orig) := by
  obtain ⟨st0, hst0, hcompEq⟩ := diffBinds_canon e i x al bl hA.dirsNd hA.dirs hA.closed hB st
  generalize hks : mDels (·.dir) (·.dir) al bl = ks at hcompEq
  generalize hps : mPairs (·.dir) (·.dir) al bl = ps at hcompEq
  generalize hbs : mInss (·.dir) (·.dir) al bl = bs at hcompEq
  have hK : ∀ k ∈ ks, k < al.length ∧ (al.getD k default).dir ∉ bl.map (·.dir) := fun k hk => mem_mDels.mp (hks ▸ hk)
  have hP : ∀ p ∈ ps, p.1 < al.length ∧ p.2 ∈ bl ∧ (al.getD p.1 default).dir = p.2.dir := fun p hp => mPairs_spec (hps ▸ hp)
  have hI : ∀ b ∈ bs, b ∈ bl ∧ b.dir ∉ al.map (·.dir) := fun b hb => mem_mInss.mp (hbs ▸ hb)
  have hmemK : ∀ k ∈ ks, al.getD k default ∈ al := fun k hk => getD_mem (hK k hk).1
  have hmemP : ∀ p ∈ ps, al.getD p.1 default ∈ al := fun p hp => getD_mem (hP p hp).1
  have inj_al : ∀ k < al.length, ∀ k' < al.length, (al.getD k default).dir = (al.getD k' default).dir → k = k' :=
    fun k hk k' hk' hc => getD_inj_of_nodup_map hA.dirsNd hk' hk hc
  have h0 : Walk e P d0 st0 σ := by
    rcases hst0 with rfl | rfl
    · exact h
    · exact h.congr rfl rfl rfl rfl rfl
  -- device sub-commands without partner, pairs of equal direction, target sub-commands without partner
  have h1 := proc_fold (J := Walk e P d0) (delBind1 e i x al) (fun k => (al.getD k default).dir) (fun _ => .cleared) x ks
    (nodup_map_of_inj_on (hks ▸ nodup_mDels) fun k hk k' hk' => inj_al k (hK k hk).1 k' (hK k' hk').1)
    (fun k hk _ _ h hs => sem_delBind1 h i x al k (hkey k) (hA.dirs _ (hmemK k hk)) hA.hasIntf hs (hA.slots _ (hmemK k hk)))
    h0 (fun k _ => hσ _)
  have hpsNd : (ps.map (·.1)).Nodup := hps ▸ nodup_mPairs
  have h2 := proc_fold (J := Walk e P d0) (fun st p => makeEqualBind e st i p.1 x (al.getD p.1 default) p.2) (·.2.dir)
    (fun p => .settled p.2.acl) x ps
    (nodup_map_of_inj_on (nodup_of_map _ hpsNd) fun p hp p' hp' hc => eq_of_nodup_map hpsNd hp hp'
      (inj_al _ (hP p hp).1 _ (hP p' hp').1 (by rw [(hP p hp).2.2, (hP p' hp').2.2]; exact hc)))
    (fun p hp _ _ h hs => by
      obtain ⟨_, hb, hdir⟩ := hP p hp
      exact sem_makeEqualBind hwf h i p.1 x _ p.2 (by rw [hkey, hdir]) (hA.closed _ (hmemP p hp)) (hB.closed _ hb)
        (hC _ (hmemP p hp) _ hb hdir) (hB.dirs _ hb) hA.hasIntf hs (hdir ▸ hA.slots _ (hmemP p hp)))
    h1 (fun p hp => by
      rw [updAll_notin _ _ _ _ _ fun _ hc => ?_]
      · exact hσ _
      · obtain ⟨u, hu, hud⟩ := List.mem_map.mp hc
        obtain ⟨k, hk, rfl⟩ := List.mem_map.mp hu
        exact (hK k hk).2 ((show (al.getD k default).dir = p.2.dir from hud) ▸ List.mem_map_of_mem (hP p hp).2.1))
  have h3 := proc_all (J := Walk e P d0) (addBind1 e x) (·.dir) (fun b => .settled b.acl) x bs
    (fun b hb _ _ h => sem_addBind1 hwf h x b (hB.closed b (hI b hb).1) (hBd b (hI b hb).1) (hB.dirs b (hI b hb).1)
      hA.hasIntf) h2
  rw [← updAll_append, ← updAll_append, ← hcompEq] at h3
  -- every update is what the target says about its direction, and is about a direction one of the two sides binds
  have hrel : ∀ u ∈ (ks.map fun k => ((al.getD k default).dir, Status.cleared)) ++
      ((ps.map fun p => (p.2.dir, Status.settled p.2.acl)) ++ bs.map fun b => (b.dir, Status.settled b.acl)),
      TgtStatus bl u.1 u.2 ∧ (u.1 ∈ al.map (·.dir) ∨ u.1 ∈ bl.map (·.dir)) := by
    intro u hu
    simp only [List.mem_append, List.mem_map] at hu
    rcases hu with ⟨k, hk, rfl⟩ | ⟨p, hp, rfl⟩ | ⟨b, hb, rfl⟩
    · exact ⟨Or.inr ⟨(hK k hk).2, rfl⟩, Or.inl (List.mem_map_of_mem (hmemK k hk))⟩
    · exact ⟨Or.inl ⟨p.2, (hP p hp).2.1, rfl, rfl⟩, Or.inr (List.mem_map_of_mem (hP p hp).2.1)⟩
    · exact ⟨Or.inl ⟨b, (hI b hb).1, rfl, rfl⟩, Or.inr (List.mem_map_of_mem (hI b hb).1)⟩
  have hval := fun dir hd => updAll_rel σ x _ (TgtStatus bl) (TgtStatus.unique hB.dirsNd) (fun u hu => (hrel u hu).1)
    (dir := dir) hd
  refine ⟨_, h3, fun y hy dir => updAll_notin σ x _ y dir fun h => absurd h hy, fun b hb => ?_, fun a ha hna => ?_,
    fun dir hna hnb => ?_⟩
  · refine TgtStatus.unique hB.dirsNd _ _ _ (hval b.dir ?_) (Or.inl ⟨b, hb, rfl, rfl⟩)
    simp only [List.map_append, List.map_map, List.mem_append, List.mem_map, Function.comp]
    by_cases hc : b.dir ∈ al.map (·.dir)
    · obtain ⟨k, h4⟩ := mPairs_covB hB.dirsNd hb hc
      exact Or.inr (Or.inl ⟨(k, b), hps ▸ h4, rfl⟩)
    · exact Or.inr (Or.inr ⟨b, hbs ▸ mem_mInss.mpr ⟨hb, hc⟩, rfl⟩)
  · obtain ⟨k, hk, hgk⟩ := exists_getD_of_mem default ha
    refine TgtStatus.unique hB.dirsNd _ _ _ (hval a.dir ?_) (Or.inr ⟨hna, rfl⟩)
    simp only [List.map_append, List.map_map, List.mem_append, List.mem_map, Function.comp]
    exact Or.inl ⟨k, hks ▸ mem_mDels.mpr ⟨hk, by rw [hgk]; exact hna⟩, by rw [hgk]⟩
  · rw [updAll_notin _ _ _ _ _ fun _ hc => ?_]
    · exact hσ dir
    · obtain ⟨u, hu, rfl⟩ := List.mem_map.mp hc
      exact (hrel u hu).2.elim hna hnb

end NA.F2
