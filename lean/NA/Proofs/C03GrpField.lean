import NA.Proofs.C03GrpStep
/-
C03, pairs with address-groups: one member list of one matched rule
(`equalizeList`) when the lists hold addresses only or exactly one group.  Core Lean only.
-/
namespace NA.PanOs

theorem pairsEq_pos {eq : Nat → Nat → Bool} {a b k : Nat} (h : pairsEq eq a b (k + 1) = true) : eq a b = true := by
  simp only [pairsEq, Bool.and_eq_true] at h
  exact h.1

theorem kind_ne_eq_of_const_false {eq : Nat → Nat → Bool} {n m x y : Nat} {r : Range} {rs : List Range}
    (hf : ∀ i j, i < n → j < m → eq i j = false) (h : validFrom eq n m x y (r :: rs) = true) :
    r.kind ≠ .eq := by
  intro hk
  obtain ⟨_, _, h3, h4, h5, h6, _⟩ := validFrom_cons h
  obtain ⟨hA, hB⟩ := Range.kind_eq_iff.mp hk
  obtain ⟨k, hk'⟩ := Nat.exists_eq_succ_of_ne_zero (Nat.sub_ne_zero_of_lt (Nat.lt_of_le_of_ne h3 hA))
  have hp := (kind_eq_len h hk).2
  rw [hk'] at hp
  have hfalse := hf r.lowA r.lowB (Nat.lt_of_lt_of_le (Nat.lt_of_le_of_ne h3 hA) h5)
    (Nat.lt_of_lt_of_le (Nat.lt_of_le_of_ne h4 hB) h6)
  rw [pairsEq_pos hp] at hfalse
  cases hfalse

theorem deletedFrom_const_false {eq : Nat → Nat → Bool} {n m : Nat}
    (hf : ∀ i j, i < n → j < m → eq i j = false) :
    ∀ (rs : List Range) (x y d : Nat), validFrom eq n m x y rs = true →
      rs.foldl (fun d r => if r.isDelete then d + (r.highA - r.lowA) else d) d = d + (n - x) := by
  intro rs
  induction rs with
  | nil =>
    intro x y d h
    simp [(validFrom_nil h).1]
  | cons r rs ih =>
    intro x y d h
    obtain ⟨h1, _, h3, _, h5, _, h7⟩ := validFrom_cons h
    subst h1
    have hstep : (if r.isDelete then d + (r.highA - r.lowA) else d) = d + (r.highA - r.lowA) := by
      cases hk : r.kind with
      | del => rw [show r.isDelete = true from beq_iff_eq.mpr (Range.kind_del_iff.mp hk), if_pos rfl]
      | ins =>
        obtain ⟨hA, hB⟩ := Range.kind_ins_iff.mp hk
        rw [show r.isDelete = false from beq_eq_false_iff_ne.mpr hB, hA, Nat.sub_self]
        rfl
      | eq => exact absurd hk (kind_ne_eq_of_const_false hf h)
    rw [List.foldl_cons, hstep, ih r.highA r.highB _ h7, Nat.add_assoc, Nat.add_comm (r.highA - r.lowA),
      Nat.sub_add_sub_cancel h5 h3]

theorem deletedCount_const_false {eq : Nat → Nat → Bool} {n m : Nat} {rs : List Range}
    (hf : ∀ i j, i < n → j < m → eq i j = false) (h : validScript eq n m rs = true) :
    deletedCount rs = n := by
  rcases validScript_cases h with h | ⟨_, _, rfl⟩
  · have := deletedFrom_const_false hf rs 0 0 0 h
    simpa [deletedCount] using this
  · simp [deletedCount, nothingCommon, Range.isDelete]

theorem replaceInstead_all {n : Nat} (h : 0 < n) : replaceInstead n n = true := by
  unfold replaceInstead
  simp only [Nat.sub_self, Nat.zero_add, decide_eq_true_eq]
  omega

theorem fieldCmds_disjoint (diff : Differ) (hd : GoodDiffer diff) (n : String) (f : Fld) (la lb : List String)
    (hne : la ≠ []) (hdis : ∀ x ∈ la, x ∉ lb) : fieldCmds diff n f la lb = [.editList n f lb] := by
  unfold fieldCmds
  have hf : ∀ i j, i < la.length → j < lb.length → nameEq la lb i j = false := by
    intro i j hi hj
    unfold nameEq
    have h1 := getD_mem (d := "") hi
    have h2 := getD_mem (d := "") hj
    have : la.getD i "" ≠ lb.getD j "" := fun e => hdis _ h1 (e ▸ h2)
    simpa using this
  rw [deletedCount_const_false hf (hd la.length lb.length (nameEq la lb)).1,
    replaceInstead_all (List.length_pos_iff.mpr hne)]
  rfl

theorem hasEqLists_disjoint (diff : Differ) (hd : GoodDiffer diff) (fuel : Nat) (st : St) (la lb : List String)
    (path : MPath) (hne : la ≠ [])
    (hf : ∀ i j, i < la.length → j < lb.length → memberEq st (la.getD i "") (lb.getD j "") = false) :
    hasEqLists diff (fuel + 1) st la lb path = (false, st) := by
  rw [hasEqLists]
  rw [deletedCount_const_false hf (hd la.length lb.length _).1, replaceInstead_all (List.length_pos_iff.mpr hne)]
  rfl

theorem getD_mem_or (l : List String) (i : Nat) : l.getD i "" ∈ l ∨ l.getD i "" = "" := by
  by_cases hi : i < l.length
  · exact Or.inl (getD_mem hi)
  · right
    simp [List.getD_eq_getElem?_getD, List.getElem?_eq_none (by omega : l.length ≤ i)]

theorem memberEq_eq_nameEq {Ref : String → Prop} {st : St} (hI : GInv Ref st) (la lb : List String)
    (hA : ∀ x ∈ la, st.aGrpIdx x = none) (hB : ∀ y ∈ lb, st.bGrpIdx y = none) :
    (fun i j => memberEq st (la.getD i "") (lb.getD j "")) = nameEq la lb := by
  have a0 : st.aGrpIdx "" = none := lastIdx_none_of_not_mem fun hm => by
    obtain ⟨ga, hga, e⟩ := List.mem_map.mp hm
    exact hI.ane ga hga e
  have b0 : st.bGrpIdx "" = none := lastIdx_none_of_not_mem fun hm => by
    obtain ⟨gb, hgb, e⟩ := List.mem_map.mp hm
    exact hI.bne gb hgb e
  funext i j
  have h1 : st.aGrpIdx (la.getD i "") = none := by
    rcases getD_mem_or la i with h | h
    · exact hA _ h
    · rw [h]; exact a0
  have h2 : st.bGrpIdx (lb.getD j "") = none := by
    rcases getD_mem_or lb j with h | h
    · exact hB _ h
    · rw [h]; exact b0
  unfold memberEq nameEq
  rw [h1, h2]
  simp

theorem adaptL_plain (st : St) (l : List String) (h : ∀ y ∈ l, st.bGrpIdx y = none) : adaptL st l = l := by
  unfold adaptL
  rw [List.map_congr_left (g := id)]
  · simp
  · intro y hy
    simp [adapt1, h y hy]

theorem hasEqLists_groups (diff : Differ) (hid : IdentityDiffer diff) (fuel : Nat) (st : St) (g1 g2 : String)
    (path : MPath) {gai gbi : Nat} (hgai : st.aGrpIdx g1 = some gai) (hgbi : st.bGrpIdx g2 = some gbi) :
    hasEqLists diff (fuel + 1) st [g1] [g2] path =
      ((eqGroups (hasEqLists diff fuel) st gai gbi).1, (eqGroups (hasEqLists diff fuel) st gai gbi).2) := by
  have hrs : diff 1 1 (fun i j => memberEq st ([g1].getD i "") ([g2].getD j "")) = [⟨0, 1, 0, 1⟩] := by
    apply hid
    intro i hi
    have : i = 0 := by omega
    subst this
    simp [memberEq, hgai, hgbi]
  rw [hasEqLists]
  simp only [List.length_cons, List.length_nil, Nat.zero_add, hrs]
  have hdc : deletedCount [⟨0, 1, 0, 1⟩] = 0 := by decide
  have hri : replaceInstead 1 0 = false := by decide
  simp only [hdc, hri, Bool.false_eq_true, if_false, List.foldl_cons, List.foldl_nil]
  have hk : (⟨0, 1, 0, 1⟩ : Range).kind = .eq := by decide
  simp only [rangeStep, Bool.not_true, Bool.false_eq_true, if_false, hk, Nat.sub_zero]
  have hr1 : List.range 1 = [0] := by decide
  simp only [hr1, List.foldl_cons, List.foldl_nil, pairStep, Bool.not_true, Bool.false_eq_true, if_false,
    Nat.add_zero, List.getD_cons_zero, hgai, hgbi]
  cases (eqGroups (hasEqLists diff fuel) st gai gbi).1 <;> simp

/-- `I` and `N` are what the lemmas up to `diffRules_sim` need ONLY where a group is involved, kept abstract so that a
planner state without groups is an instance that owes neither (`diffRules_noGrp`): `I`, owed by a list that names a
group of the device, is always `IdentityDiffer diff`; `N`, brought by a target list that names a group, asks the
device's list not to be empty — `b.groups ≠ []` for the pairs of `GenPair`, `False` without groups. -/
structure AShape (I N : Prop) (st : St) (la : List String) : Prop where
  ne : N → la ≠ []
  shape : (∀ x ∈ la, st.aGrpIdx x = none) ∨ (∃ g, la = [g] ∧ (st.aGrpIdx g).isSome = true ∧ I)
  dis : ∀ x ∈ la, st.aGrpIdx x = none → ∀ gb ∈ st.bGrp, x ≠ gb.newName

structure BShape (Ref : String → Prop) (N : Prop) (st : St) (lb : List String) : Prop where
  shape : (∀ y ∈ lb, st.bGrpIdx y = none) ∨ (∃ g, lb = [g] ∧ (st.bGrpIdx g).isSome = true ∧ Ref g ∧ N)
  dis : ∀ y ∈ lb, st.bGrpIdx y = none → ∀ ga ∈ st.aGrp, y ≠ ga.g.name

theorem AShape.mono {I N : Prop} {st st' : St} {la : List String} (hm : GMono st st') (h : AShape I N st la) :
    AShape I N st' la := by
  refine ⟨h.ne, ?_, ?_⟩
  · rcases h.shape with h1 | ⟨g, e, hg⟩
    · exact Or.inl (fun x hx => by rw [hm.aIdx]; exact h1 x hx)
    · exact Or.inr ⟨g, e, by rw [hm.aIdx]; exact hg.1, hg.2⟩
  · intro x hx hi gb' hgb'
    rw [hm.aIdx] at hi
    obtain ⟨gb, hgb, _, hn⟩ := hm.bmem hgb'
    rw [← hn]
    exact h.dis x hx hi gb hgb

theorem BShape.mono {Ref : String → Prop} {N : Prop} {st st' : St} {lb : List String} (hm : GMono st st')
    (h : BShape Ref N st lb) : BShape Ref N st' lb := by
  refine ⟨?_, ?_⟩
  · rcases h.shape with h1 | ⟨g, e, hg, hr⟩
    · exact Or.inl (fun x hx => by rw [hm.bIdx]; exact h1 x hx)
    · exact Or.inr ⟨g, e, by rw [hm.bIdx]; exact hg, hr⟩
  · intro y hy hi ga' hga'
    rw [hm.bIdx] at hi
    obtain ⟨ga, hga, e⟩ := hm.amem hga'
    rw [← e]
    exact h.dis y hy hi ga hga

theorem equalizeList_sim {sh : Shared} {Ref : String → Prop} {N : Prop} (diff : Differ) (hd : GoodDiffer diff)
    (fuel : Nat) {st : St} {vg : Vsys} (la lb : List String) (n : String) (f : Fld) (h : Fits sh Ref st vg)
    (hsA : AShape (IdentityDiffer diff) N st la) (hsB : BShape Ref N st lb) :
    ∃ st' vg', equalizeList diff (fuel + 2) st la lb n f = st' ∧
      GStep sh Ref st vg st' vg' (fieldCmds diff n f la (adaptL st' lb)) ∧ GSettled st' lb := by
  have hI := h.inv
  have hdA := hsA.dis
  have hdB := hsB.dis
  rcases hsA.shape with hA | ⟨g1, rfl, hg1, hid⟩
  · rcases hsB.shape with hB | ⟨g2, rfl, hg2, href, hn⟩
    · -- addresses on both sides
      have hfun := memberEq_eq_nameEq hI la lb hA hB
      have hbound := validScript_bounds (hd la.length lb.length (nameEq la lb)).1
      have heq : equalizeList diff (fuel + 2) st la lb n f = st.emitAll (fieldCmds diff n f la lb) := by
        unfold equalizeList fieldCmds
        rw [hasEqLists_plain diff (fuel + 1) st la lb (.rule n f) hA hB (by rw [hfun]; exact hbound)]
        rw [hfun]
        cases hrep : replaceInstead la.length (deletedCount (diff la.length lb.length (nameEq la lb)))
        · simp
        · simp only [if_true, Bool.false_eq_true, if_false, adaptGroups_plain st lb hB]
          simp [St.emit, St.emitAll]
      refine ⟨_, vg, heq, ?_, GSettled.of_plain hB⟩
      have : adaptL (st.emitAll (fieldCmds diff n f la lb)) lb = lb := adaptL_plain _ lb hB
      rw [this]
      exact .ruleCmds h _ (fieldCmds_onRules diff n f la lb)
    · -- addresses on the device, a group in the target: the list is replaced
      have hne := hsA.ne hn
      have hfalse : ∀ i j, i < la.length → j < [g2].length →
          memberEq st (la.getD i "") ([g2].getD j "") = false := by
        intro i j hi hj
        have hj0 : j = 0 := by simpa using hj
        subst hj0
        unfold memberEq
        rw [hA _ (getD_mem hi)]
        simp [hg2]
      have h1 : hasEqLists diff (fuel + 2) st la [g2] (.rule n f) = (false, st) :=
        hasEqLists_disjoint diff hd (fuel + 1) st la [g2] (.rule n f) hne hfalse
      obtain ⟨st1, e1, step1, set1⟩ := adaptGroups_sim' [g2] h
        (fun x hx _ => by simp only [List.mem_singleton] at hx; subst hx; exact href)
      have m1 := step1.mono
      have i1 := step1.fits.inv
      have heq : equalizeList diff (fuel + 2) st la [g2] n f = st1.emit (.editList n f (adaptL st1 [g2])) := by
        unfold equalizeList
        rw [h1]
        simp only [Bool.false_eq_true, if_false, e1]
      have hadapt : adaptL (st1.emit (.editList n f (adaptL st1 [g2]))) [g2] = adaptL st1 [g2] := rfl
      refine ⟨_, vg, heq, ?_, set1⟩
      rw [hadapt]
      -- the closed form: a replacement, since the group's name on the device (its new name or that of a claimed device
      -- group) is not a member of the device's list
      have hx : ∀ y ∈ la, y ∉ adaptL st1 [g2] := by
        intro y hy hmem
        simp only [adaptL, List.map_cons, List.map_nil, List.mem_singleton] at hmem
        obtain ⟨gbi, hgbi⟩ := Option.isSome_iff_exists.mp hg2
        obtain ⟨gb1, hgb1, hne1⟩ := set1 g2 (by simp) gbi (by rw [m1.bIdx]; exact hgbi)
        have hval : adapt1 st1 g2 = gb1.onDev := adapt1_of_idx ((m1.bIdx g2).trans hgbi) hgb1
        have hgb1mem : gb1 ∈ st1.bGrp := List.mem_of_getElem? hgb1
        rcases i1.c3 gb1 hgb1mem with h | h | h
        · exact hne1 h
        · obtain ⟨gb0, hgb0, _, hnn⟩ := m1.bmem hgb1mem
          exact hdA y hy (hA y hy) gb0 hgb0 (by rw [hmem, hval, h, hnn])
        · rw [m1.anames] at h
          obtain ⟨ga, hga, e⟩ := List.mem_map.mp h
          exact lastIdx_none_not_mem (hA y hy) (by rw [hmem, hval, ← e]; exact List.mem_map_of_mem hga)
      rw [fieldCmds_disjoint diff hd n f la _ hne hx]
      exact step1.trans (.ruleCmd step1.fits rfl)
  · obtain ⟨gai, hgai⟩ := Option.isSome_iff_exists.mp hg1
    obtain ⟨ga, hga, hganame⟩ := aGrp_of_idx hgai
    have hgamem : ga ∈ st.aGrp := List.mem_of_getElem? hga
    rcases hsB.shape with hB | ⟨g2, rfl, hg2, href, _⟩
    · -- a group on the device, addresses in the target: the list is replaced
      have hfalse : ∀ i j, i < [g1].length → j < lb.length →
          memberEq st ([g1].getD i "") (lb.getD j "") = false := by
        intro i j hi hj
        have hi0 : i = 0 := by simpa using hi
        subst hi0
        unfold memberEq
        simp only [List.getD_cons_zero, hg1, if_true]
        rw [hB _ (getD_mem hj)]
        rfl
      have h1 : hasEqLists diff (fuel + 2) st [g1] lb (.rule n f) = (false, st) :=
        hasEqLists_disjoint diff hd (fuel + 1) st [g1] lb (.rule n f) (by simp) hfalse
      have heq : equalizeList diff (fuel + 2) st [g1] lb n f = st.emitAll [.editList n f lb] := by
        unfold equalizeList
        rw [h1]
        simp only [Bool.false_eq_true, if_false, adaptGroups_plain st lb hB]
        rfl
      refine ⟨_, vg, heq, ?_, GSettled.of_plain hB⟩
      have : adaptL (st.emitAll [.editList n f lb]) lb = lb := adaptL_plain _ lb hB
      rw [this]
      have hx : ∀ y ∈ [g1], y ∉ lb := by
        intro y hy hmem
        simp only [List.mem_singleton] at hy
        subst hy
        exact hdB y hmem (hB y hmem) ga hgamem hganame.symm
      rw [fieldCmds_disjoint diff hd n f [g1] lb (by simp) hx]
      exact .ruleCmd h rfl
    · -- a group on both sides
      obtain ⟨gbi, hgbi⟩ := Option.isSome_iff_exists.mp hg2
      obtain ⟨gb, hgb, hgbname⟩ := bGrp_of_idx hgbi
      have hgbmem : gb ∈ st.bGrp := List.mem_of_getElem? hgb
      obtain ⟨b, st2, vg2, he, hstep, htrue, hfalse⟩ := eqGroups_sim diff hd hid fuel gai gbi
        ga gb h hga hgb (by rw [hgbname]; exact href)
      have hheq : hasEqLists diff (fuel + 2) st [g1] [g2] (.rule n f) = (b, st2) := by
        rw [hasEqLists_groups diff hid (fuel + 1) st g1 g2 _ hgai hgbi, he]
      cases b with
      | true =>
        obtain ⟨gb', hgb', hon'⟩ := htrue rfl
        have heq : equalizeList diff (fuel + 2) st [g1] [g2] n f = st2 := by
          unfold equalizeList
          rw [hheq]
          simp
        have hadapt : adaptL st2 [g2] = [g1] := by
          simp only [adaptL, List.map_cons, List.map_nil, adapt1]
          rw [hstep.mono.bIdx, hgbi]
          simp [hgb', hon', hganame]
        refine ⟨st2, vg2, heq, ?_, ?_⟩
        · rw [hadapt, fieldCmds_same diff hid]
          exact hstep
        · intro y hy gbi' hgbi'
          simp only [List.mem_singleton] at hy
          subst hy
          rw [hstep.mono.bIdx, hgbi] at hgbi'
          cases hgbi'
          exact ⟨gb', hgb', by rw [hon']; exact hI.ane ga hgamem⟩
      | false =>
        obtain ⟨rfl, rfl, hwhy⟩ := hfalse rfl
        obtain ⟨st1, e1, step1, set1, hname⟩ := adaptStep_sim [] g2 h (fun _ => href)
        have e1' : adaptGroups st2 [g2] = ([adapt1 st1 g2], st1) := by
          unfold adaptGroups
          simp only [List.foldl_cons, List.foldl_nil, e1, List.nil_append]
        have heq : equalizeList diff (fuel + 2) st2 [g1] [g2] n f = st1.emit (.editList n f [adapt1 st1 g2]) := by
          unfold equalizeList
          rw [hheq]
          simp only [Bool.false_eq_true, if_false, e1']
        have hadapt : adaptL (st1.emit (.editList n f [adapt1 st1 g2])) [g2] = [adapt1 st1 g2] := rfl
        refine ⟨_, vg2, heq, ?_, ?_⟩
        · rw [hadapt]
          have hx : ∀ y ∈ [g1], y ∉ [adapt1 st1 g2] := by
            intro y hy hmem
            simp only [List.mem_singleton] at hy hmem
            subst hy
            obtain ⟨hn1, hn2⟩ := hname gbi gb hgbi hgb
            rcases hwhy with ⟨h1, h2⟩ | ⟨h1, h2⟩
            · rw [hn1 h1] at hmem
              exact h2 (hmem.symm.trans hganame.symm)
            · rcases hn2 h1 with h | ⟨ga', hga', hnn', hmem', h⟩
              · rw [h] at hmem
                exact (hI.fresh gb hgbmem).2 (by rw [← hmem, ← hganame]; exact List.mem_map_of_mem hgamem)
              · rw [h] at hmem
                have : ga' = ga := ListFacts.eq_of_nodup_map hI.anodup hga' hgamem (hmem.symm.trans hganame.symm)
                subst this
                rcases h2 with h2 | h2
                · rw [hnn'] at h2; cases h2
                · exact h2 hmem'
          rw [fieldCmds_disjoint diff hd n f [g1] _ (by simp) hx]
          exact step1.trans (.ruleCmd step1.fits rfl)
        · intro y hy gbi' hgbi'
          simp only [List.mem_singleton] at hy
          subst hy
          exact set1 gbi' hgbi'

end NA.PanOs
