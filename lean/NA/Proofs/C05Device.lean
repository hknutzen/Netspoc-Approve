import NA.Proofs.C05Whole
import NA.Proofs.C05Routes
/-!
C05: the device path.  The whole outputs of `ip route show` and `iptables-save` through `getDeviceRoutes` and
`getDeviceIPTables`, the whole target file through `ParseConfig`; the second compare from the three raw texts.
-/
namespace NA.C05
open NA.Linux NA.Linux.Spec

def unlines (l : List Str) : Str := l.flatMap (· ++ ['\n'])

theorem unlines_join (l : List Str) : unlines l = joinWith ['\n'] (l ++ [[]]) := by
  induction l with
  | nil => rfl
  | cons x xs ih =>
    have : unlines (x :: xs) = x ++ ['\n'] ++ unlines xs := by simp [unlines]
    rw [this, ih]
    cases xs <;> simp [joinWith]

theorem split_unlines (l : List Str) (h : ∀ x ∈ l, '\n' ∉ x) : splitChar (unlines l) '\n' = l ++ [[]] := by
  rw [unlines_join]
  exact splitChar_join '\n' _ (by simp) (List.forall_mem_append.2 ⟨h, List.forall_mem_singleton.2 (by simp)⟩)

/-- A route of the kernel table as the spec prints it. -/
structure RouteEntry where
  ip : Str
  n : Nat
  hop : Str
  dev : Option Str

def RouteEntry.ok (e : RouteEntry) : Prop :=
  ipTok e.ip = true ∧ ipTok e.hop = true ∧ e.n ≤ 32 ∧ ∀ d, e.dev = some d → Tok d

def RouteEntry.key (e : RouteEntry) : Spec.RKey := (e.ip, Int.ofNat e.n, e.hop)
def RouteEntry.show (e : RouteEntry) : Str := routeShow e.key e.dev

theorem tok_nonl {w : Str} (h : Tok w) : '\n' ∉ w := by
  intro hm; have := h.2 _ hm; simp [isSpace] at this

theorem nonl_join (ws : List Str) (h : ∀ w ∈ ws, Tok w) : '\n' ∉ joinWith [' '] ws := by
  intro hm
  rcases mem_joinWith hm with h1 | ⟨w, hw, h1⟩
  · exact absurd h1 (by decide)
  · exact tok_nonl (h w hw) h1

theorem show_nonl (e : RouteEntry) (h : e.ok) : '\n' ∉ e.show := by
  obtain ⟨h1, h2, h3, h4⟩ := h
  unfold RouteEntry.show RouteEntry.key
  rw [routeShow_eq, rline_join]
  exact nonl_join _ (rtoks_tok _ _ _ (dstText_tok h1 e.n (by omega)) h2 h4)

theorem parseRoutes_show : ∀ (l : List RouteEntry), (∀ e ∈ l, e.ok) →
    ∃ rs, parseRoutes (l.map fun e => s "ip route add " ++ e.show) = .ok rs ∧ rs.map Route.key = l.map RouteEntry.key := by
  intro l
  induction l with
  | nil => intro _; exact ⟨[], rfl, rfl⟩
  | cons e es ih =>
    intro h
    obtain ⟨⟨h1, h2, h3, h4⟩, hes⟩ := List.forall_mem_cons.1 h
    obtain ⟨rs, hrs, hk⟩ := ih hes
    obtain ⟨r, hr, hrk⟩ := parseRoute_routeShow e.ip e.hop e.n e.dev h1 h2 (by omega) h4
    refine ⟨r :: rs, ?_, ?_⟩
    · have hrs' : parseRoutes (List.map (fun e => s "ip route add " ++ routeShow (e.ip, Int.ofNat e.n, e.hop) e.dev) es) =
          .ok rs := hrs
      simp only [List.map_cons, parseRoutes, RouteEntry.show, RouteEntry.key, hr, hrs', bind, Except.bind, pure, Except.pure]
    · simp only [List.map_cons, hk, hrk, RouteEntry.key]

/-- **`getDeviceRoutes` reads the kernel table back** from the whole output of `ip route show` (one line per route, each ended by
a newline; nothing for the empty table). -/
theorem deviceRoutes_show (l : List RouteEntry) (h : ∀ e ∈ l, e.ok) :
    ∃ rs, deviceRoutes (unlines (l.map RouteEntry.show)) = .ok rs ∧ rs.map Route.key = l.map RouteEntry.key := by
  obtain ⟨rs, hrs, hk⟩ := parseRoutes_show l h
  refine ⟨rs, ?_, hk⟩
  unfold deviceRoutes
  rw [split_unlines _ (List.forall_mem_map.2 fun e he => show_nonl e (h e he))]
  simp only [List.getLast?_append, List.getLast?_singleton, Option.some_or, ↓reduceIte, List.dropLast_concat,
    List.map_map]
  exact hrs

/-- A line of a target file that survives `ParseConfig`'s clean-up unchanged. -/
structure LineOK (x : Str) : Prop where
  nonl : '\n' ∉ x
  trim : trimSpace x = x
  head : ∃ c, x.head? = some c ∧ c ≠ '#'

def isRouteLine (l : Str) : Bool := hasPrefix l (s "ip route")

theorem blockLines_ok (sfx : List Str) (hsfx : ∀ x ∈ sfx, Tok x) (sp : ARule → List OptW) (tbl : ATable)
    (hT : TableOK sp tbl) : ∀ x ∈ blockLines sfx sp tbl, LineOK x ∧ isRouteLine x = false := by
  intro x hx
  have notRoute : ∀ (c : Char) (r : Str), c ≠ 'i' → isRouteLine (c :: r) = false :=
    fun c r hc => (cutPrefix_none_of_head rfl rfl hc).2
  simp only [blockLines, List.mem_append, List.mem_singleton, List.mem_map, List.mem_flatMap] at hx
  rcases hx with ((hx | ⟨c, hc, hx⟩) | ⟨c, hc, r, hr, hx⟩) | hx
  · subst hx
    refine ⟨⟨?_, trimSpace_cons_tok '*' rfl hT.name, ⟨'*', rfl, by decide⟩⟩, notRoute _ _ (by decide)⟩
    exact List.not_mem_cons_of_ne_of_not_mem (by decide) (tok_nonl hT.name)
  · subst hx
    have htoks := tok_cons2 (hT.chains c hc).1 (hT.chains c hc).2 hsfx
    refine ⟨⟨?_, trimSpace_cons_join ':' rfl _ (by simp) htoks, ⟨':', rfl, by decide⟩⟩, notRoute _ _ (by decide)⟩
    exact List.not_mem_cons_of_ne_of_not_mem (by decide) (nonl_join _ htoks)
  · subst hx
    have htoks := ruleLine_toks sp c.name r (hT.chains c hc).1 (hT.rules c hc r hr)
    have hsh := ruleText_shape c.name (wordsOf sp r)
    refine ⟨⟨by rw [ruleText]; exact nonl_join _ htoks, trimSpace_join _ (by simp) htoks, ⟨'-', by rw [hsh]; rfl, by decide⟩⟩, ?_⟩
    rw [hsh]; exact notRoute _ _ (by decide)
  · subst hx
    exact ⟨⟨by decide, trimSpace_commit, ⟨'C', rfl, by decide⟩⟩, by decide⟩

/-- **`getDeviceIPTables` on the whole output of `iptables-save`** (comment lines, counters, the
final newline) gives the explicitly known rule set. -/
theorem deviceIPTables_save (cfg : KCfg) (a : AState) (h : AStateOK cfg a) :
    deviceIPTables (unlines (saveText cfg a)) = .ok (mkTables (kernelOpts cfg) a) := by
  unfold deviceIPTables
  have hK := stateOK_of cfg a h (kernelOpts cfg) (spell_kernel cfg)
  have hnl : ∀ x ∈ saveText cfg a, '\n' ∉ x := by
    rw [saveText_eq]
    refine List.forall_mem_append.2 ⟨List.forall_mem_append.2 ⟨List.forall_mem_singleton.2 (by decide_lit [s_ofList]),
      List.forall_mem_flatMap.2 fun tbl htbl x hx => ?_⟩, List.forall_mem_singleton.2 (by decide_lit [s_ofList])⟩
    exact (blockLines_ok _ (List.forall_mem_singleton.2 (by decide)) _ tbl (hK.tables tbl htbl) x hx).1.nonl
  rw [split_unlines _ hnl]
  exact parse_saveText cfg a h [[]] (List.forall_mem_singleton.2 (Or.inr rfl))

/-- **The second compare on the device path is empty** for a device that holds the target's rule set (chains in name order)
and exactly the target's routes. -/
theorem device_compare_unchanged (cfg : KCfg) (a : AState) (h : AStateOK cfg a) (l : List RouteEntry)
    (hl : ∀ e ∈ l, e.ok) (b : List Route) (hb : ∀ k, k ∈ l.map RouteEntry.key ↔ k ∈ keys b) :
    ∃ dc, loadDevice (unlines (saveText cfg (sortS a))) (unlines (l.map RouteEntry.show)) = .ok dc ∧
      (diffConfig dc { routes := b, iptables := mkTables userOpts a }).routes = [] ∧
      (diffConfig dc { routes := b, iptables := mkTables userOpts a }).ipt = .same := by
  have hs := aStateOK_sort cfg a h
  obtain ⟨rs, hrs, hk⟩ := deviceRoutes_show l hl
  refine ⟨{ routes := rs, iptables := mkTables (kernelOpts cfg) (sortS a) }, ?_, ?_, ?_⟩
  · unfold loadDevice
    rw [deviceIPTables_save cfg (sortS a) hs, hrs]
    rfl
  · simp only [diffConfig]
    exact routes_same_no_change rs b (by intro k; rw [← hb k]; simp only [keys, hk])
  · simp only [diffConfig]
    exact diff_sorted_same cfg a h

theorem clean_lines (L : List Str) (h : ∀ x ∈ L, LineOK x) :
    (((splitChar (unlines L) '\n').map trimSpace).filter fun l => !(l.isEmpty || l.head? == some '#')) = L := by
  rw [split_unlines L (fun x hx => (h x hx).nonl), List.map_append, List.filter_append]
  have h1 : (L.map trimSpace) = L := ListFacts.map_eq_self fun x hx => (h x hx).trim
  rw [h1]
  have h2 : (L.filter fun l => !(l.isEmpty || l.head? == some '#')) = L := by
    apply List.filter_eq_self.mpr
    intro x hx
    obtain ⟨c, hc, hne⟩ := (h x hx).head
    cases x with
    | nil => cases hc
    | cons d ds => cases hc; simp [hne]
  rw [h2]
  simp [trimSpace, trimLeftSpace]

theorem parseConfig_lines (L : List Str) (h : ∀ x ∈ L, LineOK x) :
    parseConfig (unlines L) = (do
      let routes ← parseRoutes (L.filter isRouteLine)
      let tb ← parseIPTables (L.filter fun l => !isRouteLine l)
      pure { routes := routes, iptables := tb }) := by
  unfold parseConfig
  simp only [clean_lines L h]
  rfl

/-- **`ParseConfig` on the whole target file**: route lines followed by the text of a rule set inside the class. -/
theorem parseConfig_target (cfg : KCfg) (a : AState) (h : AStateOK cfg a) (rl : List Str) (b : List Route)
    (hrl : ∀ x ∈ rl, LineOK x ∧ isRouteLine x = true) (hb : parseRoutes rl = .ok b) :
    parseConfig (unlines (rl ++ userText a)) = .ok { routes := b, iptables := mkTables userOpts a } := by
  have hU := stateOK_of cfg a h userOpts (spell_user cfg)
  have hut : ∀ x ∈ userText a, LineOK x ∧ isRouteLine x = false := by
    rw [userText_eq]
    exact List.forall_mem_flatMap.2 fun tbl htbl => blockLines_ok [] nofun userOpts tbl (hU.tables tbl htbl)
  rw [parseConfig_lines _ (List.forall_mem_append.2 ⟨fun x h => (hrl x h).1, fun x h => (hut x h).1⟩)]
  have f1 : (rl ++ userText a).filter isRouteLine = rl := by
    rw [List.filter_append, List.filter_eq_self.mpr (fun x hx => (hrl x hx).2),
      List.filter_eq_nil_iff.mpr (fun x hx => by simp [(hut x hx).2]), List.append_nil]
  have f2 : ((rl ++ userText a).filter fun l => !isRouteLine l) = userText a := by
    rw [List.filter_append, List.filter_eq_nil_iff.mpr (fun x hx => by simp [(hrl x hx).2]),
      List.filter_eq_self.mpr (fun x hx => by simp [(hut x hx).2]), List.nil_append]
  simp only [f1, f2, hb, parse_userText cfg a h, bind, Except.bind, pure, Except.pure]

/-- **The second compare on the device path, from the raw texts**: the target file, the device's `iptables-save` and
`ip route show` outputs. -/
theorem compareDevice_unchanged (cfg : KCfg) (a : AState) (h : AStateOK cfg a) (l : List RouteEntry)
    (hl : ∀ e ∈ l, e.ok) (rl : List Str) (b : List Route)
    (hrl : ∀ x ∈ rl, LineOK x ∧ isRouteLine x = true) (hb : parseRoutes rl = .ok b)
    (hk : ∀ k, k ∈ l.map RouteEntry.key ↔ k ∈ keys b) :
    ∃ ch, compareDevice (unlines (saveText cfg (sortS a))) (unlines (l.map RouteEntry.show))
        (unlines (rl ++ userText a)) = .ok ch ∧ ch.routes = [] ∧ ch.ipt = .same := by
  obtain ⟨dc, hdc, h1, h2⟩ := device_compare_unchanged cfg a h l hl b hk
  refine ⟨_, ?_, h1, h2⟩
  unfold compareDevice
  rw [hdc, parseConfig_target cfg a h rl b hrl hb]
  rfl

end NA.C05
