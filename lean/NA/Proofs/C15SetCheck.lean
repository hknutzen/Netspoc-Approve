import NA.Model.IosSkelTypes
/-!
# C15: the set comparison of `NA/Model/IosSkelTypes.lean`, decided on sorted lists

`sameSetN` compares the body of the `range` loop of the two sides with `natSetEq`: every element of
either list is looked up in the other, which is quadratic in the number of paths of the body (some
hundred).  `sameSetS` is the same comparison with the two lists of codes sorted and freed of repetitions
first (`canonN`) and then compared as lists.  It implies `sameSet` (`sameSet_of_S`), and for that only
`x ∈ canonN l ↔ x ∈ l` is needed: neither that the sort sorts nor that `encPath` is injective.
-/
namespace NA.Ios

/-- merge of two sorted lists; out of fuel: plain append (the elements are the same either way) -/
def mergeF : Nat → List Nat → List Nat → List Nat
  | 0, a, b => a ++ b
  | _ + 1, [], b => b
  | _ + 1, a, [] => a
  | f + 1, x :: a, y :: b => if x ≤ y then x :: mergeF f a (y :: b) else y :: mergeF f (x :: a) b

theorem mem_mergeF (x : Nat) : ∀ f a b, x ∈ mergeF f a b ↔ x ∈ a ∨ x ∈ b
  | 0, _, _ | _ + 1, [], _ | _ + 1, _ :: _, [] => by simp [mergeF]
  | f + 1, y :: a, z :: b => by
    unfold mergeF
    split
    · simp [mem_mergeF x f a (z :: b), or_assoc]
    · simp only [List.mem_cons, mem_mergeF x f (y :: a) b]
      exact or_left_comm

/-- merge sort by halving, `f` levels deep (structural in `f`, so that the kernel can run it); out of
fuel: the list as it is -/
def sortF : Nat → List Nat → List Nat
  | 0, l => l
  | f + 1, l =>
    if l.length ≤ 1 then l
    else mergeF l.length (sortF f (l.take (l.length / 2))) (sortF f (l.drop (l.length / 2)))

theorem mem_sortF (x : Nat) : ∀ f l, x ∈ sortF f l ↔ x ∈ l
  | 0, l => by simp [sortF]
  | f + 1, l => by
    unfold sortF
    split
    · rfl
    · rw [mem_mergeF, mem_sortF x f, mem_sortF x f, ← List.mem_append, List.take_append_drop]

def dedupA : List Nat → List Nat
  | x :: y :: r => if x == y then dedupA (y :: r) else x :: dedupA (y :: r)
  | l => l

theorem mem_dedupA (x : Nat) : ∀ l, x ∈ dedupA l ↔ x ∈ l
  | [] | [_] => by simp [dedupA]
  | y :: z :: r => by
    unfold dedupA
    split
    · rename_i h
      obtain rfl : y = z := by simpa using h
      simp [mem_dedupA x (y :: r)]
    · simp [mem_dedupA x (z :: r)]

/-- sorted, without repetitions (for lists of up to 2^16 elements; longer ones keep their elements too) -/
def canonN (l : List Nat) : List Nat := dedupA (sortF 16 l)

theorem mem_canonN (x : Nat) (l : List Nat) : x ∈ canonN l ↔ x ∈ l := by
  unfold canonN; rw [mem_dedupA, mem_sortF]

theorem natSetEq_of_canon (a b : List Nat) (h : canonN a = canonN b) : natSetEq a b = true := by
  have hm : ∀ x, x ∈ a ↔ x ∈ b := fun x => by rw [← mem_canonN x a, h, mem_canonN]
  simp [natSetEq, List.all_eq_true, hm]

def bodyEqS (base : Nat) (a b : CBody) : Bool :=
  canonN (a.map (encPath base)) == canonN (b.map (encPath base))

theorem bodyEq_of_S (base : Nat) (a b : CBody) (h : bodyEqS base a b = true) : bodyEq base a b = true :=
  natSetEq_of_canon _ _ (by simpa [bodyEqS] using h)

def sameSetNS (base : Nat) (a b : List CPath) : Bool :=
  let sa := a.map stripBodies
  let sb := b.map stripBodies
  sa.all (sb.contains ·) && sb.all (sa.contains ·) &&
  match (bodiesOf a ++ bodiesOf b).eraseDups with
  | [] => true
  | r :: rest => rest.all (bodyEqS base r)

theorem sameSetN_of_S (base : Nat) (a b : List CPath) (h : sameSetNS base a b = true) :
    sameSetN base a b = true := by
  unfold sameSetNS at h; unfold sameSetN
  simp only [Bool.and_eq_true] at h ⊢
  refine ⟨h.1, ?_⟩
  have h2 := h.2
  split at h2 <;> rename_i heq <;> simp only [heq]
  exact List.all_eq_true.2 fun x hx => bodyEq_of_S _ _ _ (List.all_eq_true.1 h2 x hx)

def sameSetS (tbl : List Atom) (g : List CPath) (m : List SkelPath) : Bool :=
  tableOK tbl && indicesOK tbl.length g && sameSetNS (tbl.length + 2) g (m.map (codePath tbl))

theorem sameSet_of_S (tbl : List Atom) (g : List CPath) (m : List SkelPath) (h : sameSetS tbl g m = true) :
    sameSet tbl g m = true := by
  unfold sameSetS at h; unfold sameSet
  simp only [Bool.and_eq_true] at h ⊢
  exact ⟨h.1, sameSetN_of_S _ _ _ h.2⟩

end NA.Ios
