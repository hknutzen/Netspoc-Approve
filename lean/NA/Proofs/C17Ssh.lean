import NA.Model.MaskSsh
import NA.Proofs.C17Sinks
/-!
# Lemmas for C17: a dialogue program cannot reveal the password

The password is a symbolic command of the step language; `run` only ever puts it into `Op.send`.
By induction over programs (the continuation of an expect is quantified over all outputs) two runs
with different passwords against the same device produce traces that differ in `send` payloads only.
-/
namespace NA.Mask

theorem map_erase_cons (o : Op) (r : RunOut) : (r.cons o).ops.map Op.erase = o.erase :: r.ops.map Op.erase := rfl

def RunOut.erase (r : RunOut) : RunOut := { r with ops := r.ops.map Op.erase }

theorem RunOut.erase_cons (o : Op) (r : RunOut) : (r.cons o).erase = r.erase.cons o.erase := rfl

theorem run_erase (p1 p2 errText : Str) : ∀ (prog : Prog) (left : Str) (segs : List Seg),
    (run p1 errText prog left segs).erase = (run p2 errText prog left segs).erase := by
  intro prog
  induction prog with
  | tail => intro left segs; rfl
  | send c k ih =>
    intro left segs
    simp only [run, RunOut.erase_cons, ih left segs]
    cases c <;> rfl
  | expect w re pw ok k ih =>
    intro left segs
    cases segs with
    | nil => rfl
    | cons s r =>
      cases s with
      | full s =>
        simp only [run]
        generalize (if pw = true then cutPassword (left ++ s) else (left ++ s, [])) = cut
        by_cases hok : ok (crlf2lf cut.1) = true
        · simp only [hok, if_true, RunOut.erase_cons, ih]
        · simp only [hok]; rfl
      | part s => rfl
  | setLog l k ih =>
    intro left segs
    simp only [run, RunOut.erase_cons, ih left segs]
  | abort m => intro left segs; rfl

theorem sessionOps_erase (prog : Prog) (p1 p2 errText : Str) (segs : List Seg) (applies : Bool)
    (tl : List (Str × Option Str)) (tailAbort : Str) :
    (sessionOps prog p1 errText segs applies tl tailAbort).map Op.erase =
      (sessionOps prog p2 errText segs applies tl tailAbort).map Op.erase := by
  have h := run_erase p1 p2 errText prog [] segs
  have h1 : (run p1 errText prog [] segs).ops.map Op.erase = (run p2 errText prog [] segs).ops.map Op.erase :=
    (congrArg RunOut.ops h :)
  have h3 : (run p1 errText prog [] segs).finished = (run p2 errText prog [] segs).finished :=
    (congrArg RunOut.finished h :)
  unfold sessionOps
  simp only [h3]
  split
  · simp only [List.map_append, h1]
  · exact h1

/-- `Guarded b prog`: in every execution of `prog` (for every device) each `send pass` follows
immediately an expect whose chunk ends in `password:`; `b` says whether that is the case right now. -/
inductive Guarded : Bool → Prog → Prop where
  | tail (b : Bool) : Guarded b .tail
  | abort (b : Bool) (m : Str) : Guarded b (.abort m)
  | sendLit (b : Bool) (s : Str) (k : Prog) : Guarded false k → Guarded b (.send (.lit s) k)
  | sendPass (k : Prog) : Guarded false k → Guarded true (.send .pass k)
  | expect (b : Bool) (w re : Str) (pw : Bool) (ok : Str → Bool) (k : Str → Prog) :
      (∀ out, ok out = true → Guarded (isPwPrompt out) (k out)) → Guarded b (.expect w re pw ok k)
  | setLog (b : Bool) (l : Option Log) (k : Prog) : Guarded b k → Guarded b (.setLog l k)

theorem Guarded.mono {b : Bool} {p : Prog} (h : Guarded b p) : b = false → ∀ b', Guarded b' p := by
  induction h with
  | tail b => intro _ b'; exact .tail b'
  | abort b m => intro _ b'; exact .abort b' m
  | sendLit b s k hk _ => intro _ b'; exact .sendLit b' s k hk
  | sendPass k _ _ => intro hb; cases hb
  | expect b w re pw ok k hk _ => intro _ b'; exact .expect b' w re pw ok k hk
  | setLog b l k _ ih => intro hb b'; exact .setLog b' l k (ih hb b')

theorem Guarded.weaken {p : Prog} (h : Guarded false p) (b : Bool) : Guarded b p := h.mono rfl b

theorem guarded_issue_lit {b : Bool} {s re : Str} {pw : Bool} {ok : Str → Bool} {k : Str → Prog}
    (h : ∀ out, ok out = true → Guarded (isPwPrompt out) (k out)) : Guarded b (issue (.lit s) re k pw ok) :=
  .sendLit b s _ (.expect false _ _ _ _ _ h)

theorem guarded_issue_pass {re : Str} {pw : Bool} {ok : Str → Bool} {k : Str → Prog}
    (h : ∀ out, ok out = true → Guarded (isPwPrompt out) (k out)) : Guarded true (issue .pass re k pw ok) :=
  .sendPass _ (.expect false _ _ _ _ _ h)

theorem guarded_sendCmd {b : Bool} {re cmd : Str} {k : Prog} (h : Guarded false k) : Guarded b (sendCmd re cmd k) :=
  guarded_issue_lit fun _ _ => h.weaken _

theorem guarded_getCmd {b : Bool} {re cmd : Str} {k : Str → Prog} (h : ∀ out, Guarded false (k out)) :
    Guarded b (getCmd re cmd k) := by
  refine guarded_issue_lit fun seg _ => ?_
  dsimp only
  split
  · exact .abort _ _
  · exact (h _).weaken _

theorem guarded_ciscoPrompt (b : Bool) (k : Str → Prog) (h : ∀ re, Guarded false (k re)) : Guarded b (ciscoPrompt k) :=
  guarded_issue_lit fun _ _ => (h _).weaken _

theorem guarded_ciscoAuth (k : Str → Prog) (h : ∀ re, Guarded false (k re)) : Guarded true (ciscoAuth k) := by
  refine guarded_issue_pass fun o1 _ => ?_
  split
  · refine guarded_issue_lit fun o2 _ => ?_
    split
    · exact guarded_ciscoPrompt _ k h
    · split
      · rename_i hp
        rw [hp]
        refine guarded_issue_pass fun o3 _ => ?_
        split
        · exact guarded_ciscoPrompt _ k h
        · exact .abort _ _
      · exact .abort _ _
  · split
    · exact guarded_ciscoPrompt _ k h
    · exact .abort _ _

theorem guarded_ciscoLogin (k : Str → Prog) (h : ∀ re, Guarded false (k re)) : Guarded false (ciscoLogin k) := by
  unfold ciscoLogin ciscoLoginWith
  refine .expect _ _ _ _ _ _ fun o hok => ?_
  split
  · refine guarded_issue_lit fun out hp => ?_
    rw [hp]
    exact guarded_ciscoAuth k h
  · rename_i hq
    have : isPwPrompt o = true := by
      simp only [okCiscoLogin, Bool.or_eq_true] at hok
      exact hok.resolve_right hq
    rw [this]
    exact guarded_ciscoAuth k h

theorem guarded_asaK2 (b : Bool) (host re : Str) : Guarded b (asaK2 host re) := by
  unfold asaK2
  refine guarded_getCmd fun _ => guarded_getCmd fun o => ?_
  split
  · exact .abort _ _
  · exact .setLog _ _ _ (guarded_getCmd fun _ => .tail _)

theorem guarded_asaK1 (b : Bool) (host re : Str) : Guarded b (asaK1 host re) := by
  unfold asaK1
  refine guarded_getCmd fun o2 => ?_
  split
  · exact guarded_asaK2 _ host re
  · exact guarded_sendCmd (guarded_sendCmd (guarded_sendCmd (guarded_asaK2 _ host re)))

theorem guarded_asaLoad (host : Str) : Guarded false (asaLoad host) := by
  unfold asaLoad
  refine guarded_ciscoLogin _ fun re => guarded_getCmd fun o1 => ?_
  split
  · exact guarded_asaK1 _ host re
  · exact guarded_sendCmd (guarded_asaK1 _ host re)

theorem guarded_iosLoad (host : Str) : Guarded false (iosLoad host) := by
  unfold iosLoad
  refine guarded_ciscoLogin _ fun re => ?_
  refine guarded_sendCmd (guarded_sendCmd (guarded_getCmd fun _ => ?_))
  refine guarded_issue_lit fun o _ => ?_
  dsimp only
  split
  · exact .abort _ _
  · exact .setLog _ _ _ (guarded_getCmd fun _ => .tail _)

theorem guarded_linuxRest (b : Bool) (host banner : Str) : Guarded b (linuxRest host banner) := by
  unfold linuxRest
  refine guarded_issue_lit fun _ _ => ?_
  refine guarded_getCmd fun _ => guarded_getCmd fun _ => guarded_getCmd fun o => ?_
  split
  · exact .abort _ _
  · refine guarded_getCmd fun _ => .setLog _ _ _ ?_
    exact guarded_getCmd fun _ => guarded_getCmd fun _ => .tail _

theorem guarded_linuxAfterYes (host banner o : Str) (hok : okLinux o = true) :
    Guarded (isPwPrompt o) (linuxAfterYes host banner o) := by
  unfold linuxAfterYes
  split
  · rename_i hw
    have : isPwPrompt o = true := by
      simp only [okLinux, Bool.or_eq_true, Bool.not_eq_true'] at hok
      exact hok.resolve_right (by simp [hw])
    rw [this]
    refine guarded_issue_pass fun o2 _ => ?_
    split
    · exact .abort _ _
    · exact guarded_linuxRest _ host banner
  · exact guarded_linuxRest _ host banner

theorem guarded_linuxLoad (host banner : Str) : Guarded false (linuxLoad host banner) := by
  unfold linuxLoad
  refine .expect _ _ _ _ _ _ fun o hok => ?_
  split
  · exact guarded_issue_lit fun o' hok' => guarded_linuxAfterYes host banner o' hok'
  · exact guarded_linuxAfterYes host banner o hok

theorem prefixCI_nl (p a b : Str) (hp : ∀ d ∈ p, lowerEq d '\n' = false) (hne : p ≠ []) :
    prefixCI p (a ++ '\n' :: b) = prefixCI p a := by
  induction p generalizing a with
  | nil => exact absurd rfl hne
  | cons d ds ih =>
    cases a with
    | nil => simp [prefixCI, hp d (by simp)]
    | cons x xs =>
      simp only [List.cons_append, prefixCI]
      cases ds with
      | nil => simp [prefixCI]
      | cons d' ds' => rw [ih xs (fun e he => hp e (by simp [he])) (by simp)]

theorem isPwPrompt_echo (x t : Str) : isPwPrompt (x ++ '\n' :: t) = isPwPrompt t := by
  unfold isPwPrompt
  rw [List.reverse_append, List.reverse_cons, List.append_assoc]
  exact prefixCI_nl _ _ _ (by decide) (by decide)

def headNoEcho : EDev → Prop
  | [] => True
  | (_, _, e) :: _ => e = false

theorem noEcho_cons {pre t : Str} {e : Bool} {r : EDev} (h : noEchoAtPasswordPrompt ((pre, t, e) :: r) = true) :
    noEchoAtPasswordPrompt r = true ∧ (isPwPrompt t = true → headNoEcho r) := by
  cases r with
  | nil => exact ⟨rfl, fun _ => trivial⟩
  | cons d' r' =>
    obtain ⟨pre', t', e'⟩ := d'
    simp only [noEchoAtPasswordPrompt, Bool.and_eq_true, Bool.or_eq_true, Bool.not_eq_true'] at h
    exact ⟨h.2, fun ht => h.1.resolve_right (by simp [ht])⟩

theorem isPwPrompt_chunk (e : Bool) (x t : Str) :
    isPwPrompt ((if e then x ++ ['\n'] else []) ++ t) = isPwPrompt t := by
  cases e
  · rfl
  · simpa using isPwPrompt_echo x t

theorem runE_erase (p1 p2 : Str) {b : Bool} {prog : Prog} (hg : Guarded b prog) :
    ∀ (last1 last2 : Str) (dev : EDev), (last1 = last2 ∨ headNoEcho dev) → (b = true → headNoEcho dev) →
      noEchoAtPasswordPrompt dev = true →
      (runE p1 prog last1 dev).map Op.erase = (runE p2 prog last2 dev).map Op.erase := by
  induction hg with
  | tail b | abort b m => intros; rfl
  | sendLit b s k _ ih =>
    intro last1 last2 dev _ _ hc
    simp only [runE, Cmd.text, List.map_cons]
    rw [ih s s dev (Or.inl rfl) (fun h => by cases h) hc]
  | sendPass k _ ih =>
    intro last1 last2 dev _ hb hc
    simp only [runE, Cmd.text, List.map_cons, Op.erase]
    rw [ih p1 p2 dev (Or.inr (hb rfl)) (fun h => by cases h) hc]
  | setLog b l k _ ih =>
    intro last1 last2 dev h1 hb hc
    simp only [runE, List.map_cons]
    rw [ih last1 last2 dev h1 hb hc]
  | expect b w re pw ok k _ ih =>
    intro last1 last2 dev h1 _ hc
    cases dev with
    | nil => rfl
    | cons d r =>
      obtain ⟨pre, t, e⟩ := d
      -- both runs see the same chunk: the same line was sent last, or the device does not echo it
      have hout : (if e then pre ++ last1 ++ ['\n'] else []) ++ t = (if e then pre ++ last2 ++ ['\n'] else []) ++ t := by
        rcases h1 with h | h
        · rw [h]
        · simp only [headNoEcho] at h
          simp [h]
      simp only [runE, hout]
      by_cases hok : ok ((if e then pre ++ last2 ++ ['\n'] else []) ++ t) = true
      · simp only [hok, if_true, List.map_cons]
        obtain ⟨hr, hh⟩ := noEcho_cons hc
        rw [ih _ hok [] [] r (Or.inl rfl) (fun hp => hh (isPwPrompt_chunk e _ t ▸ hp)) hr]
      · simp only [hok]
        rfl

theorem Guarded.andThen {b : Bool} {p : Prog} (hp : Guarded b p) {q : Prog} (hq : Guarded false q) :
    Guarded b (p.andThen q) := by
  induction hp with
  | tail b => exact hq.weaken b
  | abort b m => exact .abort b m
  | sendLit b s k _ ih => exact .sendLit b s _ ih
  | sendPass k _ ih => exact .sendPass _ ih
  | expect b w re pw ok k _ ih => exact .expect b w re pw ok _ fun out h => ih out h
  | setLog b l k _ ih => exact .setLog b l _ ih

theorem guarded_scriptProg : ∀ script : List Str, Guarded false (scriptProg script)
  | [] => .tail false
  | _ :: cs => guarded_issue_lit fun _ _ => (guarded_scriptProg cs).weaken _

theorem guarded_changeProg (applies : Bool) (script : List Str) : Guarded false (changeProg applies script) := by
  unfold changeProg
  cases applies
  · exact guarded_scriptProg script
  · exact .setLog false _ _ (guarded_scriptProg script)

theorem runE_scriptProg (p1 p2 : Str) : ∀ (script : List Str) (last1 last2 : Str) (dev : EDev),
    runE p1 (scriptProg script) last1 dev = runE p2 (scriptProg script) last2 dev
  | [], _, _, _ => rfl
  | c :: cs, _, _, dev => by
    cases dev with
    | nil => rfl
    | cons d r =>
      obtain ⟨pre, t, e⟩ := d
      simp only [scriptProg, issue, runE, Cmd.text, anyOut, if_true]
      rw [runE_scriptProg p1 p2 cs [] [] r]

end NA.Mask
