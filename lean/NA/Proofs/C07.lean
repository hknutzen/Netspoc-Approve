import NA.Model.DeleteUnused
import NA.Core.ListFacts
/-!
Lemmas for C07 (Cisco clean-up): the deletion rounds, and the closure `still` — every entry
reachable from a command "not created by Netspoc" through not-needed commands is protected.
-/
namespace NA.DelUnused

theorem insertItem_eq : insertItem = ListFacts.insertBy (fun x y : Item => decide (x.key ≤ y.key)) := by
  funext x l
  induction l with
  | nil => rfl
  | cons y ys ih => simp only [insertItem, ListFacts.insertBy, ih, decide_eq_true_eq]

theorem mem_sortItems (y : Item) (l : List Item) : y ∈ sortItems l ↔ y ∈ l := by
  rw [sortItems, insertItem_eq]
  exact ListFacts.mem_isort

theorem rounds_sound {n : Nat} {d : List Item} {rs : List (List Item)} (h : rounds n d = some rs) :
    (∀ r ∈ rs, ∀ x ∈ r, x ∈ d) ∧
    (∀ x ∈ d, ∃ r ∈ rs, x ∈ r) ∧
    (∀ pre r post, rs = pre ++ r :: post → ∀ x ∈ r, ∀ y ∈ (r :: post).flatten, x.id ∉ y.refs) := by
  induction n, d using rounds.induct generalizing rs with
  | case1 n =>
    cases (show rs = [] by simpa [rounds] using h.symm)
    exact ⟨nofun, nofun, fun pre r post hp => by cases pre <;> cases hp⟩
  | case2 d hd => simp [rounds] at h
  | case3 n d hd _ _ =>
    rename_i hnow
    rw [rounds.eq_3 d n hd, if_pos hnow] at h; cases h
  | case4 n d hd _ _ hne =>
    rename_i ih
    rw [rounds.eq_3 d n hd, if_neg hne] at h
    obtain ⟨rest, hrest, rfl⟩ := Option.map_eq_some_iff.mp h
    obtain ⟨ih1, ih2, ih3⟩ := ih hrest
    have hnow : ∀ x, x ∈ sortItems (d.filter fun it => !(d.flatMap Item.refs).contains it.id) ↔
        x ∈ d ∧ x.id ∉ d.flatMap Item.refs := fun x => by
      rw [mem_sortItems, List.mem_filter]; simp
    have hlater : ∀ r ∈ rest, ∀ x ∈ r, x ∈ d := fun r hr x hx => (List.mem_filter.mp (ih1 r hr x hx)).1
    refine ⟨?_, fun x hx => ?_, fun pre r post hp x hx y hy => ?_⟩
    · rintro r (_ | ⟨_, hr⟩) x hx
      · exact ((hnow x).mp hx).1
      · exact hlater r hr x hx
    · by_cases hro : (d.flatMap Item.refs).contains x.id = true
      · obtain ⟨r, hr, hxr⟩ := ih2 x (List.mem_filter.mpr ⟨hx, hro⟩)
        exact ⟨r, List.mem_cons_of_mem _ hr, hxr⟩
      · exact ⟨_, List.mem_cons_self, (hnow x).mpr ⟨hx, by simpa using hro⟩⟩
    · cases pre with
      | cons p pre' => exact ih3 pre' r post (List.cons.inj hp).2 x hx y hy
      | nil =>
        obtain ⟨rfl, rfl⟩ := List.cons.inj hp
        have hyd : y ∈ d := by
          rcases List.mem_append.mp (List.flatten_cons ▸ hy) with hy | hy
          · exact ((hnow y).mp hy).1
          · obtain ⟨r', hr', hy⟩ := List.mem_flatten.mp hy
            exact hlater r' hr' y hy
        exact fun hxy => ((hnow x).mp hx).2 (List.mem_flatMap.mpr ⟨y, hyd, hxy⟩)

theorem mem_items0 (w : World) (it : Item) (h : it ∈ items0 w) :
    ∃ o ∈ w, it.id = o.id ∧ it.tagged = o.tagged ∧ it.clear = o.clear ∧
      it.del = (o.cmds.zipIdx.filter fun p => isDel o p.1) ∧ it.del ≠ [] ∧ o.id ∉ still w := by
  simp only [items0, List.mem_filterMap] at h
  obtain ⟨o, ho, hit⟩ := h
  split at hit
  · simp at hit
  · rename_i hc
    simp only [Option.some.injEq] at hit
    subst hit
    simp only [Bool.or_eq_true, List.isEmpty_iff, List.contains_eq_mem, decide_eq_true_eq, not_or] at hc
    exact ⟨o, ho, rfl, rfl, rfl, rfl, hc.1, hc.2⟩

def Live (w : World) (r : Nat) : Prop := ∃ t, find w r = some t ∧ t.live.isEmpty = false

def Edge (w : World) (i r : Nat) : Prop := ∃ o c, find w i = some o ∧ c ∈ o.live ∧ r ∈ c.followRefs

/-- `Walk w r x l`: `l` lists the entries of a reference walk from `r` to `x`, all of them live. -/
inductive Walk (w : World) : Nat → Nat → List Nat → Prop
  | single {r : Nat} : Live w r → Walk w r r [r]
  | cons {r s x : Nat} {l : List Nat} : Live w r → Edge w r s → Walk w s x l → Walk w r x (r :: l)

theorem Walk.head {w : World} {r x : Nat} {l : List Nat} (h : Walk w r x l) : ∃ t, l = r :: t := by
  cases h with
  | single _ => exact ⟨[], rfl⟩
  | cons _ _ _ => exact ⟨_, rfl⟩

theorem followFrom_head (w : World) (n : Nat) (refs : List Nat) (r : Nat) (hr : r ∈ refs) (hl : Live w r) :
    r ∈ followFrom w (n + 1) refs := by
  obtain ⟨t, ht, hlive⟩ := hl
  simp only [followFrom, List.mem_flatMap]
  exact ⟨r, hr, by simp [ht, hlive]⟩

theorem followFrom_step (w : World) (n : Nat) (refs : List Nat) (r x : Nat) (t : Obj) (hr : r ∈ refs)
    (ht : find w r = some t) (hlive : t.live.isEmpty = false)
    (hx : x ∈ followFrom w n (t.live.flatMap Cmd.followRefs)) : x ∈ followFrom w (n + 1) refs := by
  simp only [followFrom, List.mem_flatMap]
  exact ⟨r, hr, by simp [ht, hlive, hx]⟩

theorem walk_reaches {w : World} {r x : Nat} {l : List Nat} (h : Walk w r x l) :
    ∀ (refs : List Nat) (n : Nat), r ∈ refs → l.length ≤ n → x ∈ followFrom w n refs := by
  induction h with
  | single hl =>
    intro refs n hr hn
    cases n with
    | zero => simp at hn
    | succ n => exact followFrom_head w n refs _ hr hl
  | cons hl he _ ih =>
    intro refs n hr hn
    cases n with
    | zero => simp at hn
    | succ n =>
      obtain ⟨t, ht, hlive⟩ := hl
      obtain ⟨o, c, ho, hc, hs⟩ := he
      rw [ht] at ho
      cases ho
      exact followFrom_step w n refs _ _ t hr ht hlive
        (ih _ n (List.mem_flatMap.mpr ⟨c, hc, hs⟩) (by simp only [List.length_cons] at hn; omega))

theorem walk_suffix {w : World} {x : Nat} (a : List Nat) {r s : Nat} {b : List Nat}
    (h : Walk w r x (a ++ s :: b)) : Walk w s x (s :: b) := by
  induction a generalizing r with
  | nil => obtain ⟨t, ht⟩ := h.head; cases ht; exact h
  | cons a0 a ih =>
    generalize hl : a0 :: a ++ s :: b = l at h
    cases h with
    | single => simp at hl
    | cons _ _ h' => cases hl; exact ih h'

theorem walk_mem_live {w : World} {r x : Nat} {l : List Nat} (h : Walk w r x l) : ∀ y ∈ l, Live w y := by
  induction h with
  | single hl => intro y hy; simp at hy; subst hy; exact hl
  | cons hl _ _ ih =>
    intro y hy
    simp only [List.mem_cons] at hy
    rcases hy with rfl | hy
    · exact hl
    · exact ih y hy

theorem walk_nodup {w : World} {r x : Nat} {l : List Nat} (h : Walk w r x l) :
    ∃ l', Walk w r x l' ∧ l'.Nodup := by
  induction h with
  | single hl => exact ⟨_, Walk.single hl, by simp⟩
  | @cons r s x l hl he _ ih =>
    obtain ⟨q, hq, hnd⟩ := ih
    by_cases hr : r ∈ q
    · obtain ⟨a, b, rfl⟩ := List.append_of_mem hr
      exact ⟨r :: b, walk_suffix a hq, hnd.sublist (List.sublist_append_right a (r :: b))⟩
    · exact ⟨r :: q, Walk.cons hl he hq, List.nodup_cons.mpr ⟨hr, hnd⟩⟩

theorem live_mem_ids {w : World} {y : Nat} (h : Live w y) : y ∈ w.map (·.id) := by
  obtain ⟨t, ht, _⟩ := h
  have hp := List.find?_some ht
  simp only [beq_iff_eq] at hp
  exact List.mem_map.mpr ⟨t, List.mem_of_find?_eq_some ht, hp⟩

/-- The `|w|+1` levels the model follows are the whole closure: whatever a walk of any length
reaches from a root is in `still w`. -/
theorem still_of_walk {w : World} {r x : Nat} {l : List Nat} (hr : r ∈ roots w) (h : Walk w r x l) :
    x ∈ still w := by
  obtain ⟨q, hq, hnd⟩ := walk_nodup h
  have hlen : q.length ≤ (w.map (·.id)).length :=
    hnd.length_le_of_subset fun y hy => live_mem_ids (walk_mem_live hq y hy)
  simp only [List.length_map] at hlen
  exact walk_reaches hq (roots w) (w.length + 1) hr (by omega)

theorem mem_roots (w : World) (o : Obj) (c : Cmd) (r : Nat) (ho : o ∈ w) (hc : c ∈ o.cmds)
    (hu : isUntouched o c = true) (hr : r ∈ c.followRefs) : r ∈ roots w := by
  simp only [roots, List.mem_flatMap, List.mem_filter]
  exact ⟨o, ho, c, ⟨hc, hu⟩, hr⟩

end NA.DelUnused
