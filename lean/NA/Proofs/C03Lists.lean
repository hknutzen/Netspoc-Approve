import NA.Model.PanOs
import NA.Core.ListFacts
/-
C03: the planner's tables as lists: `modAt` writes a flag of the entry at an index; `lastIdx` is the Go map built from
a list in order (the last entry with the name).  Core Lean only.
-/
namespace NA.PanOs

theorem modAt_getElem? {α : Type} (l : List α) (i : Nat) (f : α → α) (j : Nat) :
    (modAt l i f)[j]? = if j = i then l[j]?.map f else l[j]? := by
  induction l generalizing i j with
  | nil => simp only [modAt, List.getElem?_nil, Option.map_none, ite_self]
  | cons x xs ih =>
    cases i with
    | zero =>
      cases j with
      | zero => rfl
      | succ j => simp only [modAt, List.getElem?_cons_succ, Nat.succ_ne_zero, if_false]
    | succ i =>
      cases j with
      | zero => simp only [modAt, List.getElem?_cons_zero, Nat.zero_ne_add_one, if_false]
      | succ j => simp only [modAt, List.getElem?_cons_succ, ih, Nat.add_right_cancel_iff]

theorem modAt_getElem?_self {α : Type} {l : List α} {i : Nat} {x : α} (f : α → α) (h : l[i]? = some x) :
    (modAt l i f)[i]? = some (f x) := by
  rw [modAt_getElem?, if_pos rfl, h]; rfl

theorem modAt_getElem?_cases {α : Type} {l : List α} {i j : Nat} {f : α → α} {x y : α} (hx : l[j]? = some x)
    (hy : (modAt l i f)[j]? = some y) : (j = i ∧ y = f x) ∨ y = x := by
  rw [modAt_getElem?, hx] at hy
  split at hy
  · rename_i e; exact Or.inl ⟨e, (Option.some.inj hy).symm⟩
  · exact Or.inr (Option.some.inj hy).symm

theorem modAt_map {α β : Type} (l : List α) (i : Nat) (f : α → α) (g : α → β) (h : ∀ x, g (f x) = g x) :
    (modAt l i f).map g = l.map g := by
  induction l generalizing i with
  | nil => rfl
  | cons x xs ih =>
    cases i with
    | zero => simp only [modAt, List.map_cons, h]
    | succ i => simp only [modAt, List.map_cons, ih]

theorem mem_modAt {α : Type} {l : List α} {i : Nat} {f : α → α} {x : α} (h : x ∈ modAt l i f) :
    x ∈ l ∨ ∃ y, l[i]? = some y ∧ x = f y := by
  obtain ⟨j, hj⟩ := List.getElem?_of_mem h
  rw [modAt_getElem?] at hj
  split at hj
  · rename_i hji
    subst hji
    obtain ⟨y, hy, e⟩ := Option.map_eq_some_iff.mp hj
    exact Or.inr ⟨y, hy, e.symm⟩
  · exact Or.inl (List.mem_of_getElem? hj)

theorem mem_modAt_of_getElem? {α : Type} {l : List α} {i : Nat} {f : α → α} {x y : α} (hx : l[i]? = some x)
    (hy : y ∈ modAt l i f) : y ∈ l ∨ y = f x := by
  rcases mem_modAt hy with h | ⟨z, hz, e⟩
  · exact Or.inl h
  · rw [hx] at hz; cases hz; exact Or.inr e

theorem mem_modAt_of_ne {α : Type} {l : List α} {i j : Nat} {f : α → α} {y : α} (hj : l[j]? = some y) (hne : j ≠ i) :
    y ∈ modAt l i f :=
  List.mem_of_getElem? (i := j) (by rw [modAt_getElem?, if_neg hne]; exact hj)

def Pointwise {α : Type} (r : α → α → Prop) (l l' : List α) : Prop :=
  ∀ (i : Nat) (x : α), l[i]? = some x → ∃ x', l'[i]? = some x' ∧ r x x'

theorem Pointwise.refl {α : Type} {r : α → α → Prop} (hr : ∀ x, r x x) (l : List α) : Pointwise r l l :=
  fun _ x h => ⟨x, h, hr x⟩

theorem Pointwise.trans {α : Type} {r : α → α → Prop} (hr : ∀ {x y z}, r x y → r y z → r x z) {l l' l'' : List α}
    (h₁ : Pointwise r l l') (h₂ : Pointwise r l' l'') : Pointwise r l l'' := by
  intro i x h
  obtain ⟨x', h', r₁⟩ := h₁ i x h
  obtain ⟨x'', h'', r₂⟩ := h₂ i x' h'
  exact ⟨x'', h'', hr r₁ r₂⟩

theorem Pointwise.modAt {α : Type} {r : α → α → Prop} (hr : ∀ x, r x x) (l : List α) (i : Nat) (f : α → α)
    (hf : ∀ x, r x (f x)) : Pointwise r l (modAt l i f) := by
  intro j x h
  rw [modAt_getElem?, h]
  split
  · exact ⟨f x, rfl, hf x⟩
  · exact ⟨x, rfl, hr x⟩

theorem getElem?_of_map_eq {α β : Type} {l l' : List α} {f : α → β} (h : l'.map f = l.map f) {i : Nat} {x : α}
    (hx : l[i]? = some x) : ∃ x', l'[i]? = some x' ∧ f x' = f x := by
  have := congrArg (fun m => m[i]?) h
  simp only [List.getElem?_map, hx, Option.map_some] at this
  exact Option.map_eq_some_iff.mp this

theorem mem_of_map_eq {α β : Type} {l l' : List α} {f : α → β} (h : l'.map f = l.map f) {x : α} (hx : x ∈ l') :
    ∃ y ∈ l, f y = f x := by
  have : f x ∈ l.map f := by rw [← h]; exact List.mem_map_of_mem hx
  exact List.mem_map.mp this

theorem eq_nil_of_map_eq {α β : Type} {l l' : List α} {f : α → β} (h : l'.map f = l.map f) (h0 : l = []) :
    l' = [] := by
  rw [h0] at h
  exact List.map_eq_nil_iff.mp h

theorem map_comp_of_map_eq {α β γ : Type} {l l' : List α} {f : α → β} (g : β → γ) (h : l'.map f = l.map f) :
    l'.map (fun x => g (f x)) = l.map (fun x => g (f x)) := by
  have := congrArg (List.map g) h
  rwa [List.map_map, List.map_map] at this

theorem lastIdxFrom_eq (n : String) : ∀ (l : List String) (k : Nat) (acc : Option Nat),
    lastIdxFrom n l k acc = ListFacts.lastIdxFrom n l k acc
  | [], _, _ => rfl
  | _ :: xs, k, _ => lastIdxFrom_eq n xs (k + 1) _

theorem lastIdx_spec {names : List String} {n : String} {i : Nat} (h : lastIdx names n = some i) :
    names[i]? = some n := by
  rw [lastIdx, lastIdxFrom_eq] at h
  rcases ListFacts.lastIdxFrom_some n names 0 none i h with h' | ⟨j, rfl, hj⟩
  · cases h'
  · rw [Nat.zero_add]; exact hj

theorem lastIdx_map_get {α : Type} {l : List α} {f : α → String} {x : String} {i : Nat}
    (h : lastIdx (l.map f) x = some i) : ∃ y, l[i]? = some y ∧ f y = x := by
  have := lastIdx_spec h
  rw [List.getElem?_map] at this
  exact Option.map_eq_some_iff.mp this

theorem lastIdx_map_name {α : Type} {l : List α} {f : α → String} {x : String} {i : Nat} {y : α}
    (h : lastIdx (l.map f) x = some i) (hy : l[i]? = some y) : f y = x := by
  obtain ⟨y', hy', hn⟩ := lastIdx_map_get h
  rw [hy] at hy'
  cases hy'
  exact hn

theorem lastIdx_isSome_iff {names : List String} {n : String} : (lastIdx names n).isSome ↔ n ∈ names := by
  rw [lastIdx, lastIdxFrom_eq, ListFacts.lastIdxFrom_isSome]
  simp

theorem lastIdx_isSome_of_mem {names : List String} {n : String} (h : n ∈ names) : (lastIdx names n).isSome :=
  lastIdx_isSome_iff.mpr h

theorem lastIdx_none_not_mem {names : List String} {n : String} (h : lastIdx names n = none) : n ∉ names := by
  intro hm
  have := lastIdx_isSome_of_mem hm
  rw [h] at this
  cases this

theorem lastIdx_none_of_not_mem {names : List String} {n : String} (h : n ∉ names) : lastIdx names n = none := by
  cases hi : lastIdx names n with
  | none => rfl
  | some i => exact absurd (lastIdx_isSome_iff.mp (by rw [hi]; rfl)) h

end NA.PanOs
