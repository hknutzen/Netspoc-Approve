import NA.Model.GateProgs
import NA.Spec.Gate
import NA.Core.ListFacts
import NA.Core.SimpSets
/-
Frame properties of `exec` for every program, device and state, from ONE induction on the program, `exec_all`: a
syntactic check is "every node of the program satisfies `ok`" (`Prog.all ok`), and a predicate that is closed under the
primitive effect of every node that `ok` admits (`NodeInv`) survives `exec`.
-/
namespace NA.Gate
open NA.Gate.Spec NA.ListFacts

attribute [gate_run] exec Pred.eval TExp.eval penv errRet faultStatus

theorem sendStep_nr (env : Env) (o : Out) (fm : FaultMode) (st : St)
    (h : st.status.isRunning = false) : sendStep env o fm st = st := by
  simp [sendStep, h]

theorem iter_nr (f : St → St) (again : St → Bool) (n : Nat) (st : St)
    (hf : ∀ s : St, s.status.isRunning = false → f s = s) (h : st.status.isRunning = false) :
    iter f again n st = st := by
  cases n with
  | zero => simp [iter, h]
  | succ n => simp [iter, hf st h, h]

theorem exec_nr (env : Env) (p : Prog) : ∀ st : St, st.status.isRunning = false → exec env p st = st := by
  induction p with
  | nop | defn _ _ _ | note _ _ => intro st _; rfl
  | seq p q ihp ihq => intro st h; rw [exec, ihp st h, ihq st h]
  | send _ _ o fm => exact sendStep_nr env o fm
  | sendCur _ _ pre fm => exact fun st => sendStep_nr env _ fm st
  | assign _ _ _ _ | collect _ | setName _ | setCur _ | check _ _ _ _ | record _ _ _ _ | crash _ _
  | ite _ _ _ _ _ | early _ _ _ _ | ifChanges _ _ | attempt _ _ _ _ | gate _ | warnU | loop _ _ _ _ =>
    intro st h; simp [exec, h]
  | call _ b ih | block b ih => exact ih
  | forPlan fm b ih =>
    intro st h
    exact foldl_inv (P := (· = st)) (fun c _ s hs => by rw [hs, sendStep_nr env _ fm st h]; exact ih st h) rfl
  | forIds _ keep b ih =>
    intro st h
    simp only [exec]
    split
    · exact foldl_inv (P := (· = st)) (fun id _ s hs => by rw [hs]; simp [h]) rfl
    · rfl

theorem exec_nr_status (env : Env) (p : Prog) (st : St) (h : st.status.isRunning = false) :
    (exec env p st).status.isRunning = false := by
  rw [exec_nr env p st h]; exact h

theorem running_before (env : Env) (p : Prog) (st : St)
    (h : (exec env p st).status.isRunning = true) : st.status.isRunning = true :=
  Bool.of_not_eq_false fun hs => Bool.false_ne_true ((exec_nr_status env p st hs).symm.trans h)

structure StepInv (env : Env) (P : St → Prop) : Prop where
  send : ∀ st o fm, P st → P (sendStep env o fm st)
  collect : ∀ st s, P st → st.reply = .text s → P { st with banner := st.banner ++ [s] }
  setName : ∀ st n, P st → P { st with devName := n }
  status : ∀ st s, P st → P { st with status := s }
  errU : ∀ st l, P st → P { st with errU := l }
  warn : ∀ st w, P st → P { st with warnings := w }
  retry : ∀ st w, P st → P { st with status := .running, warnings := w }
  out : ∀ st o, P st → P { st with out := o }
  lines : ∀ st o, P st → P { st with lines := o }
  cursor : ∀ st c, P st → P { st with cursor := c }

theorem iter_inv {P : St → Prop} {f : St → St} {again : St → Bool}
    (hf : ∀ s, P s → P (f s)) (hu : ∀ s : St, P s → P { s with status := .unfinished }) :
    ∀ n st, P st → P (iter f again n st) := by
  intro n
  induction n with
  | zero => intro st h; simp only [iter]; split; exact hu st h; exact h
  | succ n ih =>
    intro st h
    simp only [iter]
    split
    · exact ih _ (hf st h)
    · exact hf st h

def Prog.all (ok : Prog → Bool) : Prog → Bool
  | .seq p q => Prog.all ok p && Prog.all ok q
  | .ite _ t e => Prog.all ok t && Prog.all ok e
  | .attempt p e => Prog.all ok p && Prog.all ok e
  | .early _ _ r | .ifChanges r | .call _ r | .block r | .forIds _ _ r => Prog.all ok r
  | .forPlan fm b => ok (.forPlan fm b) && Prog.all ok b
  | .loop l b a => ok (.loop l b a) && Prog.all ok b
  | p => ok p

theorem Prog.all_true (p : Prog) : Prog.all (fun _ => true) p = true := by
  induction p <;> simp only [Prog.all, Bool.and_self, *]

/-- `P` is closed under the primitive effect of every node that `ok` admits: a request (of `send`,
`sendCur`, or one command of the plan under `forPlan`), the assignment of `record`, the panic of
`crash`, the give-up of `loop`; and under what no check restricts.  A field that `P` does not
depend on holds by its default. -/
structure NodeInv (env : Env) (ok : Prog → Bool) (P : St → Prop) : Prop where
  send : ∀ a b o fm, ok (.send a b o fm) = true → ∀ st, P st → P (sendStep env o fm st)
  sendCur : ∀ a b pre fm, ok (.sendCur a b pre fm) = true → ∀ st, P st →
    P (sendStep env (.litArg pre st.cursor) fm st)
  plan : ∀ fm b, ok (.forPlan fm b) = true → ∀ c st, P st → P (sendStep env (.plan c) fm st)
  record : ∀ p a m f, ok (.record p a m f) = true → ∀ st l, P st → P { st with errU := l } := by
    intros; assumption
  crash : ∀ l c, ok (.crash l c) = true → ∀ st, P st → P { st with status := .panicked l } := by
    intros; assumption
  unfinished : ∀ l b a, ok (.loop l b a) = true → ∀ st, P st → P { st with status := .unfinished } := by
    intros; assumption
  aborted : ∀ st m, P st → P { st with status := .aborted m } := by intros; assumption
  failed : ∀ st m, P st → P { st with status := .failed m } := by intros; assumption
  collect : ∀ st s, P st → st.reply = .text s → P { st with banner := st.banner ++ [s] } := by
    intros; assumption
  setName : ∀ st n, P st → P { st with devName := n } := by intros; assumption
  warn : ∀ st w, P st → P { st with warnings := w } := by intros; assumption
  retry : ∀ st w, P st → P { st with status := .running, warnings := w } := by intros; assumption
  out : ∀ st o, P st → P { st with out := o } := by intros; assumption
  lines : ∀ st o, P st → P { st with lines := o } := by intros; assumption
  cursor : ∀ st c, P st → P { st with cursor := c } := by intros; assumption

theorem exec_all (env : Env) (ok : Prog → Bool) (P : St → Prop) (hP : NodeInv env ok P) (p : Prog) :
    Prog.all ok p = true → ∀ st, P st → P (exec env p st) := by
  induction p with
  | nop | defn _ _ _ | note _ _ => intro _ st h; exact h
  | seq p q ihp ihq =>
    intro hs st h; simp only [Prog.all, Bool.and_eq_true] at hs; exact ihq hs.2 _ (ihp hs.1 st h)
  | send a b o fm => exact hP.send a b o fm
  | sendCur a b pre fm => exact hP.sendCur a b pre fm
  | assign x _ _ e =>
    intro _ st h; simp only [exec]
    split
    · cases x
      · exact hP.out st _ h
      · exact hP.lines st _ h
    · exact h
  | collect _ =>
    intro _ st h; simp only [exec]
    split
    · split
      · rename_i s hs; exact hP.collect st s h hs
      · exact h
    · exact h
  | setName n => intro _ st h; simp only [exec]; split; exact hP.setName st n h; exact h
  | setCur f => intro _ st h; simp only [exec]; split; exact hP.cursor st _ h; exact h
  | check _ _ _ fl =>
    intro _ st h; simp only [exec]
    split
    · cases fl
      · exact hP.aborted st _ h
      · exact hP.failed st _ h
    · exact h
  | record p a m f =>
    intro hs st h; simp only [exec]
    split
    · cases m <;> exact hP.record p a _ f hs st _ h
    · exact h
  | crash l c => intro hs st h; simp only [exec]; split; exact hP.crash l c hs st h; exact h
  | ite _ t e iht ihe =>
    intro hs st h; simp only [Prog.all, Bool.and_eq_true] at hs; simp only [exec]
    split
    · split
      · exact iht hs.1 st h
      · exact ihe hs.2 st h
    · exact h
  | early _ _ r ih | ifChanges r ih =>
    intro hs st h; simp only [exec]
    split
    · split
      · exact h
      · exact ih hs st h
    · exact h
  | call _ b ih | block b ih => exact ih
  | attempt b e ihb ihe =>
    intro hs st h; simp only [Prog.all, Bool.and_eq_true] at hs; simp only [exec]
    split
    · have h1 := ihb hs.1 st h
      split
      · exact ihe hs.2 _ (hP.retry _ _ h1)
      · exact h1
    · exact h
  | gate _ =>
    intro _ st h; simp only [exec]
    split
    · split
      · exact h
      · exact hP.failed st _ h
    · exact h
  | warnU => intro _ st h; simp only [exec]; split; exact hP.warn st _ h; exact h
  | forPlan fm b ih =>
    intro hs st h; simp only [Prog.all, Bool.and_eq_true] at hs; simp only [exec]
    exact foldl_inv (fun c _ s hs' => ih hs.2 _ (hP.plan fm b hs.1 c s hs')) h
  | loop l b a ih =>
    intro hs st h; simp only [Prog.all, Bool.and_eq_true] at hs; simp only [exec]
    split
    · exact iter_inv (ih hs.2) (hP.unfinished l b a hs.1) _ st h
    · exact h
  | forIds _ keep b ih =>
    intro hs st h; simp only [exec]
    split
    · refine foldl_inv (fun id _ s hs' => ?_) h
      split
      · exact ih hs _ (hP.cursor s id hs')
      · exact hs'
    · exact h

theorem exec_inv (env : Env) (P : St → Prop) (hP : StepInv env P) (p : Prog) :
    ∀ st, P st → P (exec env p st) :=
  exec_all env (fun _ => true) P
    { send := fun _ _ o fm _ st => hP.send st o fm, sendCur := fun _ _ _ fm _ st => hP.send st _ fm
      plan := fun fm _ _ _ st => hP.send st _ fm, record := fun _ _ _ _ _ st l => hP.errU st l
      crash := fun _ _ _ st => hP.status st _, unfinished := fun _ _ _ _ st => hP.status st _
      aborted := fun st _ => hP.status st _, failed := fun st _ => hP.status st _
      collect := hP.collect, setName := hP.setName, warn := hP.warn, retry := hP.retry, out := hP.out
      lines := hP.lines, cursor := hP.cursor } p p.all_true

/-- every request the program can put on the wire is harmless (no `forPlan`) -/
def safe (b : Backend) : Prog → Bool
  | .nop | .collect _ | .setName _ | .setCur _ | .assign _ _ _ _ | .check _ _ _ _ | .record _ _ _ _
  | .crash _ _ | .defn _ _ | .note _ _ | .gate _ | .warnU => true
  | .seq p q => safe b p && safe b q
  | .send _ _ o _ => harmless b o
  | .sendCur _ _ pre _ => harmless b (.litArg pre "")
  | .ite _ t e => safe b t && safe b e
  | .early _ _ r => safe b r
  | .ifChanges r => safe b r
  | .call _ p => safe b p
  | .block p => safe b p
  | .attempt p e => safe b p && safe b e
  | .forPlan _ _ => false
  | .loop _ p _ => safe b p
  | .forIds _ _ p => safe b p

def okSafe (b : Backend) : Prog → Bool
  | .send _ _ o _ => harmless b o
  | .sendCur _ _ pre _ => harmless b (.litArg pre "")
  | .forPlan _ _ => false
  | _ => true

theorem safe_eq_all (b : Backend) (p : Prog) : safe b p = Prog.all (okSafe b) p := by
  induction p <;> simp only [safe, Prog.all, okSafe, Bool.true_and, Bool.false_and, *]

def okNoRecord : Prog → Bool
  | .record _ _ _ _ => false
  | _ => true

/-- the program never assigns `errUnmanaged` -/
def noRecord : Prog → Bool := Prog.all okNoRecord

/-- the program contains neither a nil dereference nor an unbounded loop -/
def noCrash : Prog → Bool
  | .crash _ _ => false
  | .loop _ _ _ => false
  | .nop | .collect _ | .setName _ | .setCur _ | .assign _ _ _ _ | .check _ _ _ _ | .record _ _ _ _
  | .send _ _ _ _ | .sendCur _ _ _ _ | .defn _ _ | .note _ _ | .gate _ | .warnU => true
  | .seq p q => noCrash p && noCrash q
  | .ite _ t e => noCrash t && noCrash e
  | .early _ _ r => noCrash r
  | .ifChanges r => noCrash r
  | .call _ p => noCrash p
  | .block p => noCrash p
  | .attempt p e => noCrash p && noCrash e
  | .forPlan _ p => noCrash p
  | .forIds _ _ p => noCrash p

def okNoCrash : Prog → Bool
  | .crash _ _ | .loop _ _ _ => false
  | _ => true

theorem noCrash_eq_all (p : Prog) : noCrash p = Prog.all okNoCrash p := by
  induction p <;> simp only [noCrash, Prog.all, okNoCrash, Bool.true_and, Bool.false_and, *]

theorem noChange_append (b : Backend) (tr : List Out) (o : Out) (h : NoChange b tr)
    (ho : harmless b o = true) : NoChange b (tr ++ [o]) :=
  List.forall_mem_append.2 ⟨h, List.forall_mem_singleton.2 ho⟩

theorem sendStep_trace (env : Env) (o : Out) (fm : FaultMode) (st : St) :
    (sendStep env o fm st).trace = st.trace ∨ (sendStep env o fm st).trace = st.trace ++ [o] := by
  unfold sendStep
  split
  · right; simp only; split <;> rfl
  · left; rfl

theorem harmless_litArg (b : Backend) (p a a' : String) :
    harmless b (.litArg p a) = harmless b (.litArg p a') := rfl

theorem sendStep_noChange (env : Env) (b : Backend) (o : Out) (fm : FaultMode) (st : St)
    (ho : harmless b o = true) (h : NoChange b st.trace) : NoChange b (sendStep env o fm st).trace := by
  cases sendStep_trace env o fm st with
  | inl e => rw [e]; exact h
  | inr e => rw [e]; exact noChange_append b _ o h ho

theorem noChange_stepInv (env : Env) (b : Backend) :
    ∀ (f : St → St), (∀ s, (f s).trace = s.trace) → ∀ st, NoChange b st.trace → NoChange b (f st).trace := by
  intro f hf st h; rw [hf]; exact h

theorem exec_noChange (env : Env) (b : Backend) (p : Prog) :
    safe b p = true → ∀ st, NoChange b st.trace → NoChange b (exec env p st).trace :=
  fun hs => exec_all env (okSafe b) (fun s => NoChange b s.trace)
    { send := fun _ _ o fm ho st => sendStep_noChange env b o fm st ho
      sendCur := fun _ _ _ fm ho st => sendStep_noChange env b _ fm st ho
      plan := fun _ _ ho => nomatch ho } p (safe_eq_all b p ▸ hs)

theorem sendStep_errU (env : Env) (o : Out) (fm : FaultMode) (st : St) :
    (sendStep env o fm st).errU = st.errU := by
  unfold sendStep
  split
  · dsimp only; split <;> rfl
  · rfl


theorem exec_errU (env : Env) (p : Prog) :
    noRecord p = true → ∀ st, (exec env p st).errU = st.errU :=
  fun hs st => exec_all env okNoRecord (fun s => s.errU = st.errU)
    { send := fun _ _ o fm _ s h => (sendStep_errU env o fm s).trans h
      sendCur := fun _ _ _ fm _ s h => (sendStep_errU env _ fm s).trans h
      plan := fun fm _ _ _ s h => (sendStep_errU env _ fm s).trans h
      record := fun _ _ _ _ ho => nomatch ho } p hs st rfl

def notPanicked (st : St) : Prop := (∀ m, st.status ≠ .panicked m) ∧ st.status ≠ .unfinished

theorem notPanicked_of_status {st st' : St} (h : st'.status = st.status) (hp : notPanicked st) :
    notPanicked st' := by
  unfold notPanicked; rw [h]; exact hp

theorem sendStep_noPanic (env : Env) (o : Out) (fm : FaultMode) (st : St) (h : notPanicked st) :
    notPanicked (sendStep env o fm st) := by
  unfold sendStep
  split
  · dsimp only
    split
    · cases fm <;> exact ⟨fun m => by simp [faultStatus], by simp [faultStatus]⟩
    · exact h
  · exact h

theorem exec_noPanic (env : Env) (p : Prog) :
    noCrash p = true → ∀ st, notPanicked st → notPanicked (exec env p st) :=
  fun hs => exec_all env okNoCrash notPanicked
    { send := fun _ _ o fm _ => sendStep_noPanic env o fm
      sendCur := fun _ _ _ fm _ st => sendStep_noPanic env _ fm st
      plan := fun fm _ _ _ => sendStep_noPanic env _ fm
      crash := fun _ _ ho => nomatch ho
      unfinished := fun _ _ _ ho => nomatch ho
      aborted := fun _ _ _ => ⟨fun m => by simp, by simp⟩
      failed := fun _ _ _ => ⟨fun m => by simp, by simp⟩
      retry := fun _ _ _ => ⟨fun m => by simp, by simp⟩ } p (noCrash_eq_all p ▸ hs)

end NA.Gate
