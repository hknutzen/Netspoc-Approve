import NA.Proofs.F2Final
import NA.Proofs.F2Quiet
import NA.Proofs.F2Plan
/-!
# F2: the second compare — after a run of the class `wfB` the device is statically settled

`F2_settled_after`: the configuration read back from the final device of a `wfB` run satisfies every
conjunct of `settledB` against the same target except the one about the line planner (which depends
on the Myers scripts of the second compare).  With `F2_quiet`: idempotence.
-/
namespace NA.F2
open NA.ListFacts
open NA.IosDev2
open NA.F1 (genName lookupD addSet sortS isTagged)

/-- The second-compare relevant facts about the final device `d'` of a run: `nm` names the target
ACLs, `R` are the target ACLs that have been equalised or transferred. -/
structure After (a0 b : Config) (d' : Dev) (nm : Name → Name) (R : List Name) : Prop where
  slotB : ∀ bi ∈ b.intfs, ∀ bd ∈ bi.binds, bd.acl ∈ R ∧ slotOf d' bi.name bd.dir = some (nm bd.acl) ∧
    hasAcl d' (nm bd.acl) = true
  slotNone : ∀ bi ∈ b.intfs, ∀ dir, isDir dir = true → dir ∉ bi.binds.map (·.dir) → slotOf d' bi.name dir = none
  slotU : ∀ x, x ∉ b.intfs.map (·.name) → ∀ dir, isDir dir = true → slotOf d' x dir = slotOf (ofConfig a0) x dir
  aclU : ∀ i ∈ a0.intfs, i.name ∉ b.intfs.map (·.name) → ∀ bd ∈ i.binds, hasAcl d' bd.acl = true
  inj : ∀ b1 ∈ R, ∀ b2 ∈ R, nm b1 = nm b2 → b1 = b2
  boundR : ∀ bN ∈ R, ∃ bi ∈ b.intfs, ∃ bd ∈ bi.binds, bd.acl = bN
  notProt : ∀ bN ∈ R, ∀ i ∈ a0.intfs, i.name ∉ b.intfs.map (·.name) → ∀ bd ∈ i.binds, bd.acl ≠ nm bN
  tagged : ∀ n, hasAcl d' n = true → isTagged n = true →
    (∃ bN ∈ R, n = nm bN) ∨ ∃ i ∈ a0.intfs, i.name ∉ b.intfs.map (·.name) ∧ n ∈ i.binds.map (·.acl)
  routesNd : d'.routes.Nodup
  routes : ∀ t, t ∈ d'.routes ↔ (t ∈ a0.routes.map (·.text) ∧ ¬ DelT (aOf a0 b).routes b.routes t) ∨
    InsT (aOf a0 b).routes b.routes t
  cov : ∀ bi ∈ b.intfs, ∃ ai ∈ (aOf a0 b).intfs, ai.name = bi.name
  subI : ∀ i ∈ (aOf a0 b).intfs, i ∈ a0.intfs
  eqv : ∀ bi ∈ b.intfs, ∀ bd ∈ bi.binds, AclEqv (linesOf d' (nm bd.acl)) (b.lines bd.acl)

theorem unpaired_of_removed {a0 b : Config} (hnd : (a0.intfs.map (·.name)).Nodup)
    (hcov : ∀ bi ∈ b.intfs, ∃ ai ∈ (aOf a0 b).intfs, ai.name = bi.name)
    {i : Intf} (hi : i ∈ a0.intfs) (hni : i ∉ (aOf a0 b).intfs) : i.name ∉ b.intfs.map (·.name) := by
  intro hc
  obtain ⟨bi, hbi, hbn⟩ := List.mem_map.mp hc
  obtain ⟨ai, hai, hain⟩ := hcov bi hbi
  exact hni (eq_of_nodup_map hnd (mem_intfs_aOf hai) hi (hain.trans hbn) ▸ hai)

theorem after_of_core {a0 b : Config} {sc : Scripts} (hw : WF a0 b sc)
    (hchk : (checkInterfaces (aOf a0 b) b (alignVRFs a0 b {}).1).2 = true) {d1 : Dev} {σ1 : String → String → Status}
    {π1 : List (Nat × Nat)} {d3 : Dev} {p : List Name} {d0 : Dev} (hr : Reads d0 a0) (hc : Core a0 b sc d0 d1 σ1 π1 d3 p)
    (hs : SemN (envOf a0 b sc) (st2Of a0 b).aNeeded d0 (st3Of a0 b sc) d1 σ1) :
    After a0 b (strip d3) (st3Of a0 b sc).nameOf (st3Of a0 b sc).aReady := by
  obtain ⟨_, e2, _, e4, e5⟩ := core_e2e hw hr hc
  have hhas := hasAcl_aOf a0 b
  have hineed := iNeeded_diffIntfs (envOf a0 b sc) (nodup_intfs_aOf b hw.aIntfs) (generateNames (aOf a0 b) b (st2Of a0 b))
  -- the initial marks lie in the ACLs of interfaces without partner
  have hPunp : ∀ n ∈ (st2Of a0 b).aNeeded, ∃ i ∈ a0.intfs, i.name ∉ b.intfs.map (·.name) ∧ n ∈ i.binds.map (·.acl) := by
    intro n hn
    obtain ⟨i, hi, hcase, hnb⟩ := mem_unpairedAcls.mp (((start_marks a0 b hchk).2 n).mp hn).2
    exact ⟨i, hi, hcase.elim (unpaired_of_removed hw.aIntfs hc.cov hi) id, hnb⟩
  have hslotB : ∀ bi ∈ b.intfs, ∀ bd ∈ bi.binds, bd.acl ∈ (st3Of a0 b sc).aReady ∧
      slotOf (strip d3) bi.name bd.dir = some ((st3Of a0 b sc).nameOf bd.acl) ∧
      hasAcl (strip d3) ((st3Of a0 b sc).nameOf bd.acl) = true := fun bi hbi bd hbd =>
    ⟨(hc.bound hw hbi hbd).1, (hc.bound hw hbi hbd).2.1, (hc.bound hw hbi hbd).2.2.1⟩
  refine ⟨hslotB, e2, fun x hx dir hd => (e4 x hx dir hd).trans (hr.slot x dir), fun i hi hib bd hbd => (e5 i hi hib bd hbd).1, hs.acls.inj,
    fun bN hbN => (hs.acls.ready bN hbN).2.1, ?_, ?_, hc.routesNd, hc.routes3, hc.cov, fun _ => mem_intfs_aOf, ?_⟩
  · -- a name of a ready target ACL is not bound by an interface without partner
    intro bN hbN i hi hib bd hbd heq
    have hbdok := (hw.aBinds i hi).2 bd hbd
    have hmarked : bd.acl ∈ (st2Of a0 b).aNeeded := hc.marked i hi hib bd hbd hbdok.2
    rcases (hs.acls.ready bN hbN).2.2.2.2 with ⟨_, _, k3⟩ | k
    · exact k3 (heq ▸ hmarked)
    · have h1 : (aOf a0 b).hasAcl (genName bN ((aOf a0 b).acls.map (·.1))) = false := genName_not_hasAcl _ bN
      have h2 : (aOf a0 b).hasAcl bd.acl = true := by rw [hhas]; exact hbdok.2
      rw [heq, k] at h2
      rw [h1] at h2; cases h2
  · -- generated names on the final device
    intro n hn htag
    rw [hasAcl_strip] at hn
    have hnp : n ∉ p := fun hcc => by rw [hc.gone3 n hcc] at hn; cases hn
    have hn1 : hasAcl d1 n = true := by rw [← (hc.keep3 n hnp).2]; exact hn
    -- a device ACL that survives the clean-up
    have hdev : a0.hasAcl n = true → (∃ bN ∈ (st3Of a0 b sc).aReady, n = (st3Of a0 b sc).nameOf bN) ∨
        ∃ i ∈ a0.intfs, i.name ∉ b.intfs.map (·.name) ∧ n ∈ i.binds.map (·.acl) := by
      intro hna
      by_cases hN : n ∈ (st3Of a0 b sc).aNeeded
      · rcases hs.acls.needed n hN with k | k
        · exact Or.inr (hPunp n k)
        · exact Or.inl k
      · exfalso
        -- `n` is a candidate of `deleteUnused` that is not removed, so it is still referenced
        have hstill : StillRef (envOf a0 b sc) (st3Of a0 b sc) n := by
          apply Classical.byContradiction
          intro hcc
          apply hnp
          rw [hc.pdef, duPending_diffRoutes]
          exact mem_duPending.mpr ⟨⟨by
            show n ∈ (aOf a0 b).acls.map (·.1)
            rw [acls_aOf]; exact (hasAcl_config_iff a0 n).mp hna, hN, Or.inr htag⟩, hcc⟩
        obtain ⟨i, hilt, hi2, k, hklt, _, hacl⟩ := hstill
        have hai : (aOf a0 b).intfs.getD i default ∈ (aOf a0 b).intfs := getD_mem hilt
        have hbd : ((aOf a0 b).intfs.getD i default).binds.getD k default ∈ ((aOf a0 b).intfs.getD i default).binds :=
          getD_mem hklt
        by_cases hpair : ((aOf a0 b).intfs.getD i default).name ∈ b.intfs.map (·.name)
        · exact hi2 (hineed i hilt hpair)
        · have hm := hc.marked _ (mem_intfs_aOf hai) hpair _ hbd (by rw [hacl]; exact hna)
          rw [hacl] at hm
          exact hN (hs.acls.pNeeded n hm)
    -- an ACL of the device was there from the start or carries the name of a `ready` target ACL
    rcases hs.acls.origin n hn1 with k | k
    · exact hdev (by rw [← hhas]; exact k)
    · exact Or.inl k
  · exact fun bi hbi bd hbd => (hc.bound hw hbi hbd).2.2.2.1

/-- Bindings read back from an interface with partner: the target's, under the device names. -/
theorem bindsOf_paired {a0 b : Config} {sc : Scripts} (hw : WF a0 b sc) {d' : Dev} {nm : Name → Name} {R : List Name}
    (hA : After a0 b d' nm R) : ∀ bi ∈ b.intfs, ∀ x : String, x = bi.name → ∀ bd : Bind,
      bd ∈ bindsOf d' x ↔ ∃ bb ∈ bi.binds, bb.dir = bd.dir ∧ bd.acl = nm bb.acl := by
    intro bi hbi x hx bd
    subst hx
    constructor
    · intro hbd
      obtain ⟨hdir, hs⟩ := mem_bindsOf.mp hbd
      by_cases hd : bd.dir ∈ bi.binds.map (·.dir)
      · obtain ⟨bb, hbb, hbbd⟩ := List.mem_map.mp hd
        obtain ⟨_, j2, _⟩ := hA.slotB bi hbi bb hbb
        rw [hbbd, hs] at j2
        exact ⟨bb, hbb, hbbd, Option.some.inj j2⟩
      · rw [hA.slotNone bi hbi bd.dir hdir hd] at hs; cases hs
    · rintro ⟨bb, hbb, hbbd, hacl⟩
      obtain ⟨_, j2, _⟩ := hA.slotB bi hbi bb hbb
      refine mem_bindsOf.mpr ⟨by rw [← hbbd]; exact ((hw.bBinds bi hbi).2 bb hbb).1, ?_⟩
      rw [← hbbd, hacl]; exact j2

/-- Bindings read back from an interface without partner: the original ones. -/
theorem bindsOf_unpaired {a0 b : Config} {sc : Scripts} (hw : WF a0 b sc) {d' : Dev} {nm : Name → Name} {R : List Name}
    (hA : After a0 b d' nm R) {i : Intf} (hi : i ∈ a0.intfs) (hib : i.name ∉ b.intfs.map (·.name)) (bd : Bind) :
    bd ∈ bindsOf d' i.name ↔ bd ∈ i.binds := by
  obtain ⟨k1, k2⟩ := hw.aBinds i hi
  rw [mem_bindsOf]
  constructor
  · rintro ⟨hdir, hs⟩
    rw [hA.slotU i.name hib bd.dir hdir, slotOf_ofConfig a0 hw.aIntfs hi bd.dir hdir] at hs
    obtain ⟨bd0, h1, h2, h3⟩ := lastBind_some hs
    obtain ⟨acl0, dir0⟩ := bd0
    cases h2; cases h3; exact h1
  · intro hbd
    refine ⟨(k2 bd hbd).1, ?_⟩
    rw [hA.slotU i.name hib bd.dir (k2 bd hbd).1, slotOf_ofConfig a0 hw.aIntfs hi bd.dir (k2 bd hbd).1]
    exact lastBind_of_mem k1 hbd

/-- The pairs the second compare looks at: a target ACL that is bound, with its device name. -/
theorem cmpPairs_after {a0 b : Config} {sc : Scripts} (hw : WF a0 b sc) {d' : Dev} {nm : Name → Name} {R : List Name}
    (hA : After a0 b d' nm R) (refs : List Route) : ∀ aN bN, (aN, bN) ∈ cmpPairs (aOf (reconf a0 refs d') b) b →
      bN ∈ R ∧ aN = nm bN ∧ ∃ bi ∈ b.intfs, ∃ bd ∈ bi.binds, bd.acl = bN := by
    have hpaired := bindsOf_paired hw hA
    obtain ⟨hI2', _, _⟩ := align_reconf a0 b refs d'
    intro aN bN hp
    obtain ⟨ai2, hai2, bi, hbi, hn, ba, hba, bb, hbb, hd, h5, h6⟩ := mem_cmpPairs.mp hp
    rw [hI2'] at hai2
    obtain ⟨ai, hai, rfl⟩ := List.mem_map.mp hai2
    obtain ⟨bb', hbb', hbbd', hacl'⟩ := (hpaired bi hbi ai.name hn ba).mp hba
    -- same direction, hence the same target sub-command
    have : bb' = bb := eq_of_nodup_map (hw.bBinds bi hbi).1 hbb' hbb (hbbd'.trans hd)
    subst this
    rw [← h5, ← h6]
    exact ⟨(hA.slotB bi hbi bb' hbb').1, hacl', bi, hbi, bb', hbb', rfl⟩

theorem settled_of_after {a0 b : Config} {sc : Scripts} (hw : WF a0 b sc) (hok : (engine a0 b sc).ok = true)
    {d' : Dev} {nm : Name → Name} {R : List Name} (hA : After a0 b d' nm R) (sc2 : Scripts)
    (hq : ∀ p ∈ cmpPairs (aOf (reconf a0 (a0.routes ++ b.routes) d') b) b,
      quietLines ((reconf a0 (a0.routes ++ b.routes) d').lines p.1) (b.lines p.2) (lookupD sc2.acl p) = true) :
    settledB (reconf a0 (a0.routes ++ b.routes) d') b sc2 = true := by
  obtain ⟨refs, hrefs⟩ : ∃ refs, refs = a0.routes ++ b.routes := ⟨_, rfl⟩
  rw [← hrefs] at hq ⊢
  obtain ⟨hI2', _, hR2'⟩ := align_reconf a0 b refs d'
  have hI2 := reconf_intfs a0 refs d'
  obtain ⟨rc1, rc2, _⟩ := routes_char hw hA.routes
  have hpaired := bindsOf_paired hw hA
  have hcmp : ∀ aN bN, (aN, bN) ∈ cmpPairs (aOf (reconf a0 refs d') b) b → bN ∈ R ∧ aN = nm bN :=
    fun aN bN hp => ⟨(cmpPairs_after hw hA refs aN bN hp).1, (cmpPairs_after hw hA refs aN bN hp).2.1⟩
  have hcmpR : ∀ bN ∈ R, (nm bN, bN) ∈ cmpPairs (aOf (reconf a0 refs d') b) b := by
    intro bN hbN
    obtain ⟨bi, hbi, bd, hbd, rfl⟩ := hA.boundR bN hbN
    obtain ⟨ai, hai, hain⟩ := hA.cov bi hbi
    refine mem_cmpPairs.mpr ⟨reI d' ai, by rw [hI2']; exact List.mem_map_of_mem hai, bi, hbi, hain,
      ⟨nm bd.acl, bd.dir⟩, ?_, bd, hbd, rfl, rfl, rfl⟩
    exact (hpaired bi hbi ai.name hain _).mpr ⟨bd, hbd, rfl, rfl⟩
  -- an interface of the configuration read back that has no partner
  have hunp : ∀ i2 ∈ (reconf a0 refs d').intfs,
      (i2 ∉ (alignVRFs (reconf a0 refs d') b {}).2.intfs ∨ i2.name ∉ b.intfs.map (·.name)) →
      ∃ i ∈ a0.intfs, i2 = reI d' i ∧ i.name ∉ b.intfs.map (·.name) := by
    intro i2 hi2 hcase
    rw [hI2] at hi2
    obtain ⟨i, hi, rfl⟩ := List.mem_map.mp hi2
    refine ⟨i, hi, rfl, ?_⟩
    rcases hcase with hcase | hcase
    · apply unpaired_of_removed hw.aIntfs hA.cov hi
      intro hc
      apply hcase
      show reI d' i ∈ (aOf (reconf a0 refs d') b).intfs
      rw [hI2']; exact List.mem_map_of_mem hc
    · exact hcase
  simp only [settledB, Bool.and_eq_true, decide_eq_true_eq, List.all_eq_true, Bool.or_eq_true, bne_iff_ne, ne_eq,
    Bool.not_eq_true', List.any_eq_true, beq_iff_eq]
  refine ⟨⟨⟨⟨⟨⟨⟨⟨⟨⟨⟨⟨?_, ?_⟩, hw.bIntfs⟩, ?_⟩, ?_⟩, ?_⟩, ?_⟩, ?_⟩, hq⟩, ?_⟩, ?_⟩, ?_⟩, ?_⟩
  · rw [engine_ok_reconf a0 b sc sc2]; exact hok
  · rw [hI2, List.map_map]
    exact hw.aIntfs
  · intro x hx
    rw [hI2] at hx
    obtain ⟨i, hi, rfl⟩ := List.mem_map.mp hx
    refine ⟨bindsOf_nodup d' i.name, ?_⟩
    intro bd hbd
    have hbd' : bd ∈ bindsOf d' i.name := hbd
    refine ⟨(mem_bindsOf.mp hbd').1, ?_⟩
    rw [hasAcl_reconf]
    by_cases hib : i.name ∈ b.intfs.map (·.name)
    · obtain ⟨bi, hbi, hbn⟩ := List.mem_map.mp hib
      obtain ⟨bb, hbb, _, hacl⟩ := (hpaired bi hbi i.name hbn.symm bd).mp hbd'
      rw [hacl]; exact (hA.slotB bi hbi bb hbb).2.2
    · exact hA.aclU i hi hib bd ((bindsOf_unpaired hw hA hi hib bd).mp hbd')
  · exact hw.bBinds
  · intro x hx bi hbi
    have hx' : x ∈ (aOf (reconf a0 refs d') b).intfs := hx
    rw [hI2'] at hx'
    obtain ⟨ai, hai, rfl⟩ := List.mem_map.mp hx'
    by_cases hn : ai.name = bi.name
    · right
      refine ⟨?_, ?_⟩
      · intro ba hba
        obtain ⟨bb, hbb, hd, _⟩ := (hpaired bi hbi ai.name hn ba).mp hba
        exact ⟨bb, hbb, hd⟩
      · intro bb hbb
        exact ⟨⟨nm bb.acl, bb.dir⟩, (hpaired bi hbi ai.name hn _).mpr ⟨bb, hbb, rfl, rfl⟩, rfl⟩
    · exact Or.inl hn
  · intro x hx y hy
    obtain ⟨h1, h2⟩ := hcmp x.1 x.2 hx
    obtain ⟨h3, h4⟩ := hcmp y.1 y.2 hy
    by_cases heq : x.2 = y.2
    · have : x.1 = y.1 := by rw [h2, h4, heq]
      have e1 : (x.1 == y.1) = true := by rw [this]; exact beq_self_eq_true _
      have e2 : (x.2 == y.2) = true := by rw [heq]; exact beq_self_eq_true _
      rw [e1, e2]
    · have : x.1 ≠ y.1 := by
        intro hc
        rw [h2, h4] at hc
        exact heq (hA.inj _ h1 _ h3 hc)
      have e1 : (x.1 == y.1) = false := beq_eq_false_iff_ne.mpr this
      have e2 : (x.2 == y.2) = false := beq_eq_false_iff_ne.mpr heq
      rw [e1, e2]
  · intro x hx
    obtain ⟨h1, h2⟩ := hcmp x.1 x.2 hx
    rw [Bool.eq_false_iff]
    intro hcc
    obtain ⟨i2, hi2, hcase, hnb⟩ := mem_unpairedAcls.mp (List.contains_iff_mem.mp hcc)
    obtain ⟨i, hi, rfl, hib⟩ := hunp i2 hi2 hcase
    obtain ⟨bd, hbd, hbdacl⟩ := List.mem_map.mp hnb
    exact hA.notProt x.2 h1 i hi hib bd ((bindsOf_unpaired hw hA hi hib bd).mp hbd) (by rw [hbdacl, h2])
  · -- route lines of the configuration read back
    have : (reconf a0 refs d').routes.map (·.text) = d'.routes := routes_reconf a0 refs d'
    rw [this]; exact hA.routesNd
  · intro rb hrb
    have hrbrefs : rb ∈ refs := by rw [hrefs]; exact List.mem_append_right _ hrb
    have hvb : rb.vrf ∈ b.routes.map (·.vrf) := List.mem_map_of_mem hrb
    have hin : rb.text ∈ d'.routes := (rc1 rb (by rw [← hrefs]; exact hrbrefs) hvb).mpr (List.mem_map_of_mem hrb)
    obtain ⟨ra, hf, hramem, hrat⟩ := find_text hrbrefs
    have hra2 : ra ∈ (reconf a0 refs d').routes := List.mem_map.mpr ⟨rb.text, hin, by rw [hf]; rfl⟩
    refine ⟨ra, ?_, hrat⟩
    show ra ∈ (aOf (reconf a0 refs d') b).routes
    rw [hR2']
    split
    · exact hra2
    · refine List.mem_filter.mpr ⟨hra2, ?_⟩
      have hvr : ra.vrf ∈ b.routes.map (·.vrf) := by
        rw [hrefs] at hramem
        rcases List.mem_append.mp hramem with k | k
        · rw [hw.routeVrf ra k rb hrb hrat]; exact hvb
        · exact List.mem_map_of_mem k
      exact List.contains_iff_mem.mpr (List.mem_append_right _ hvr)
  · intro ra hra
    have hra' : ra ∈ (aOf (reconf a0 refs d') b).routes := hra
    have hra2 : ra ∈ (reconf a0 refs d').routes := by
      rw [hR2'] at hra'
      split at hra'
      · exact hra'
      · exact (List.mem_filter.mp hra').1
    obtain ⟨t, ht, hget⟩ := List.mem_map.mp hra2
    obtain ⟨r, hr, rfl⟩ : ∃ r ∈ refs, r.text = t := by
      rcases rc2 t ht with k | k
      · obtain ⟨r, hr, hrt⟩ := List.mem_map.mp k
        exact ⟨r, by rw [hrefs]; exact List.mem_append_left _ hr, hrt⟩
      · obtain ⟨r, hr, hrt⟩ := List.mem_map.mp k
        exact ⟨r, by rw [hrefs]; exact List.mem_append_right _ hr, hrt⟩
    obtain ⟨ra', hf, hramem, hrat⟩ := find_text hr
    rw [hf] at hget
    obtain rfl : ra = ra' := hget.symm
    by_cases hv : ra.vrf ∈ b.routes.map (·.vrf)
    · left
      have := (rc1 ra (by rw [← hrefs]; exact hramem) hv).mp (by rw [hrat]; exact ht)
      obtain ⟨rb, hrb, hrbt⟩ := List.mem_map.mp this
      exact ⟨rb, hrb, hrbt⟩
    · right
      rw [Bool.eq_false_iff]
      intro hc
      obtain ⟨rb, hrb, hrbv⟩ := List.any_eq_true.mp hc
      exact hv (List.mem_map.mpr ⟨rb, hrb, by simpa using hrbv⟩)
  · intro x hx
    have hxd : hasAcl d' x = true := by
      rw [← hasAcl_reconf a0 refs d' x]
      exact (hasAcl_config_iff _ x).mpr hx
    by_cases htag : isTagged x = true
    · rcases hA.tagged x hxd htag with ⟨bN, hbN, rfl⟩ | ⟨i, hi, hib, hxb⟩
      · exact Or.inr ⟨(nm bN, bN), hcmpR bN hbN, rfl⟩
      · left; right
        obtain ⟨bd0, hbd0, rfl⟩ := List.mem_map.mp hxb
        apply List.contains_iff_mem.mpr
        refine mem_unpairedAcls.mpr ⟨reI d' i, by rw [hI2]; exact List.mem_map_of_mem hi, Or.inr hib, ?_⟩
        exact List.mem_map.mpr ⟨bd0, (bindsOf_unpaired hw hA hi hib bd0).mpr hbd0, rfl⟩
    · left; left
      simpa using htag

/-- After a run of the class `WF`, started on any device that reads as `a0`, the configuration read back from the
device is statically settled against the same target as soon as the line planner is quiet on the pairs the second compare looks at. -/
theorem F2_settled_after (a0 b : Config) (sc : Scripts) (hw : WF a0 b sc) (hok : (engine a0 b sc).ok = true)
    (d0 : Dev) (hr : Reads d0 a0) :
    ∃ d' nm R, (exec d0 (engine a0 b sc).script).map strip = some d' ∧ After a0 b d' nm R ∧
      ∀ sc2, (∀ p ∈ cmpPairs (aOf (reconf a0 (a0.routes ++ b.routes) d') b) b,
          quietLines ((reconf a0 (a0.routes ++ b.routes) d').lines p.1) (b.lines p.2) (lookupD sc2.acl p) = true) →
        settledB (reconf a0 (a0.routes ++ b.routes) d') b sc2 = true := by
  obtain ⟨d1, σ1, π1, d3, p, hc, hs⟩ := F2_core a0 b sc hw hok d0 hr
  have hA := after_of_core hw ((engine_ok_eq a0 b sc).symm.trans hok) hr hc hs
  exact ⟨strip d3, _, _, hc.exec, hA, fun sc2 hq => settled_of_after hw hok hA sc2 hq⟩

/-- **Idempotence in the class of exact convergence.**  `WF` run (from any device that reads as `a0`) in which no compared pair has a
suppressed move; a differ that answers the identity script on lists that are equal line by line
(`IdentityDiffer`): the second compare prints nothing — no hypothesis on the planner's answer. -/
theorem F2_idempotent_exact (a0 b : Config) (sc : Scripts) (hw : WF a0 b sc) (hok : (engine a0 b sc).ok = true)
    (d0 : Dev) (hr : Reads d0 a0) (hns : ∀ aN bN, Cmp (envOf a0 b sc) aN bN →
      noSupprPair ((aOf a0 b).lines aN) (b.lines bN) (lookupD sc.acl (aN, bN)) = true) :
    ∃ d', (exec d0 (engine a0 b sc).script).map strip = some d' ∧
      (∀ p ∈ cmpPairs (aOf (reconf a0 (a0.routes ++ b.routes) d') b) b,
        linesEqB ((reconf a0 (a0.routes ++ b.routes) d').lines p.1) (b.lines p.2) = true) ∧
      ∀ sc2, (∀ p ∈ cmpPairs (aOf (reconf a0 (a0.routes ++ b.routes) d') b) b,
          linesEqB ((reconf a0 (a0.routes ++ b.routes) d').lines p.1) (b.lines p.2) = true →
          identityOn ((reconf a0 (a0.routes ++ b.routes) d').lines p.1) (b.lines p.2) (lookupD sc2.acl p) = true) →
        settledB (reconf a0 (a0.routes ++ b.routes) d') b sc2 = true ∧
        (engine (reconf a0 (a0.routes ++ b.routes) d') b sc2).script = [] := by
  obtain ⟨d1, σ1, π1, d3, p, hc, hs⟩ := F2_core a0 b sc hw hok d0 hr
  have hA := after_of_core hw ((engine_ok_eq a0 b sc).symm.trans hok) hr hc hs
  have heq : ∀ p ∈ cmpPairs (aOf (reconf a0 (a0.routes ++ b.routes) (strip d3)) b) b,
      linesEqB ((reconf a0 (a0.routes ++ b.routes) (strip d3)).lines p.1) (b.lines p.2) = true := by
    intro q hq
    obtain ⟨_, h2, bi, hbi, bd, hbd, h3⟩ := cmpPairs_after hw hA (a0.routes ++ b.routes) q.1 q.2 hq
    rw [lines_reconf, h2, ← h3]
    rcases (hc.bound hw hbi hbd).2.2.2.2 with k | ⟨aN, hcmp, hsup⟩
    · exact linesEq_of_exact k
    · rw [hns aN bd.acl hcmp] at hsup; cases hsup
  refine ⟨strip d3, hc.exec, heq, ?_⟩
  intro sc2 hid
  have hS := settled_of_after hw hok hA sc2 (fun q hq => identityOn_quiet _ _ _ (hid q hq (heq q hq)))
  exact ⟨hS, F2_quiet _ b sc2 hS⟩

end NA.F2
