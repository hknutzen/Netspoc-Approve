import NA.Proofs.C19Number
/-! # C19 — numbering: the transfer function is sound for every command -/
namespace NA.C19
variable {a x : F2} {g : G} {p : Proc}

theorem clone_form (hq : (exec .gitClone g p).1.trouble = false) :
    (exec .gitClone g p).1.nextHead = some g.remote ∧ (exec .gitClone g p).1.remote = g.remote ∧
    (exec .gitClone g p).2.1.base = g.remote ∧ (exec .gitClone g p).1.store = g.store := by
  revert hq
  simp only [exec]
  (repeat' split) <;> simp_all [G.nextHead]

theorem commit_form (hq : (exec .gitCommitPolicy g p).1.trouble = false) :
    ∃ h n, g.nextHead = some h ∧ p.spol = some n ∧
      (exec .gitCommitPolicy g p).1.nextHead = some (g.store.length + 1) ∧
      polOf (exec .gitCommitPolicy g p).1 (g.store.length + 1) = some n := by
  revert hq
  simp only [exec]
  split
  · next h n hh hs =>
    split
    · simp
    · intro _
      refine ⟨h, n, hh, hs, ?_, ?_⟩
      · rw [snh_head]; simp [next_isSome_of_head hh]
      · simp [polOf, commitAt_new]
  · simp

/-- `git push` without git trouble: either it succeeded, or it was rejected while HEAD carries the
same POLICY file as the remote head (nothing unpublished). -/
theorem push_form (hq : (exec .gitPush g p).1.trouble = false) :
    ∃ h, g.nextHead = some h ∧ (exec .gitPush g p).1.nextHead = some h ∧
      (∀ i, polOf (exec .gitPush g p).1 i = polOf g i) ∧
      polOf g (exec .gitPush g p).1.remote = polOf g h ∧
      ((exec .gitPush g p).2.2 = true → (exec .gitPush g p).2.1.base = (exec .gitPush g p).1.remote) ∧
      ((exec .gitPush g p).2.2 = false → (exec .gitPush g p).2.1.base = p.base ∧ (exec .gitPush g p).1.remote = g.remote) := by
  revert hq
  simp only [exec]
  split
  · next h hh =>
    split
    · intro _; exact ⟨h, hh, hh, fun _ => rfl, rfl, fun _ => rfl, fun hf => by simp at hf⟩
    · intro hq
      simp at hq
      refine ⟨h, hh, hh, fun _ => rfl, ?_, fun hf => by simp at hf, fun _ => ⟨rfl, rfl⟩⟩
      simp [polOf, hq.2]
  · simp

theorem pull_form {n : Nat}
    (h1 : ∃ h, g.nextHead = some h ∧ polOf g h = some n) (h2 : polOf g p.base = polOf g g.remote) :
    ∃ h', (exec .gitPullMerge g p).1.nextHead = some h' ∧ polOf (exec .gitPullMerge g p).1 h' = some n := by
  obtain ⟨h, hh, hp⟩ := h1
  simp only [exec, hh]
  split
  · exact ⟨h, hh, hp⟩
  · split
    · next hne hb =>
      refine ⟨g.remote, ?_, ?_⟩
      · rw [snh_head]; simp [next_isSome_of_head hh]
      · simp only [polOf, snh_store] at *
        rw [← h2, ← hb]; exact hp
    · split
      · next hc => simp [show (commitAt g.store g.remote).pol = (commitAt g.store p.base).pol from h2.symm] at hc
      · next hne hnb hnc =>
        refine ⟨g.store.length + 1, ?_, ?_⟩
        · rw [snh_head]; simp [next_isSome_of_head hh]
        · simp only [polOf, snh_store, commitAt_new]
          simp only [polOf] at hp h2
          split
          · exact hp
          · next hx =>
            simp at hx
            rw [← h2, ← hx]; exact hp

/-- `git pull --quiet` (no strategy): HEAD stays in step with the remote's POLICY (origin/master: `pullPlain_base`). -/
theorem pullPlain_form
    (h1 : ∃ h, g.nextHead = some h ∧ polOf g h = polOf g g.remote) :
    ∃ h', (exec .gitPullPlain g p).1.nextHead = some h' ∧
      polOf (exec .gitPullPlain g p).1 h' = polOf (exec .gitPullPlain g p).1 (exec .gitPullPlain g p).1.remote := by
  obtain ⟨h, hh, hp⟩ := h1
  simp only [exec, hh]
  split
  · exact ⟨h, hh, hp⟩
  · split
    · refine ⟨g.remote, ?_, ?_⟩
      · rw [snh_head]; simp [next_isSome_of_head hh]
      · simp
    · exact ⟨h, hh, hp⟩

theorem pullPlain_base (h2 : polOf g p.base = polOf g g.remote) :
    polOf (exec .gitPullPlain g p).1 (exec .gitPullPlain g p).2.1.base =
      polOf (exec .gitPullPlain g p).1 (exec .gitPullPlain g p).1.remote := by
  simp only [exec]
  (repeat' split) <;> simp_all

theorem revert_form (hq : (exec .gitRevert g p).1.edited = false) (hvg : VG g)
    (h1 : ∃ h, g.nextHead = some h ∧ polOf g h = polOf g g.remote) :
    ∃ h', (exec .gitRevert g p).1.nextHead = some h' ∧
      polOf (exec .gitRevert g p).1 h' = polOf (exec .gitRevert g p).1 (exec .gitRevert g p).1.remote := by
  obtain ⟨h, hh, hp⟩ := h1
  revert hq
  simp only [exec, hh]
  split
  · intro _; exact ⟨h, hh, hp⟩
  · next hcond =>
    intro hq
    simp at hcond
    obtain ⟨⟨_, hhash⟩, _⟩ := hcond
    simp at hq
    refine ⟨g.store.length + 1, ?_, ?_⟩
    · rw [snh_head]; simp [next_isSome_of_head hh]
    · simp only [polOf, snh_store, snh_remote, commitAt_new]
      rw [commitAt_append hvg.remote]
      simp only [polOf] at hp
      rw [← hp, hhash, hq.2]

@[simp] theorem exec_tpf_fst : (exec .testPolicyFile g p).1 = g := by simp only [exec]; split <;> rfl
@[simp] theorem exec_tpf_snd : (exec .testPolicyFile g p).2.1 = p := by simp only [exec]; split <;> rfl

theorem tpf_ok {h : Nat} (hh : g.nextHead = some h) :
    (exec .testPolicyFile g p).2.2 = (polOf g h).isSome := by
  simp [exec, nextTree_eq hh, polOf]

theorem pull_base (h2 : polOf g p.base = polOf g g.remote) :
    polOf (exec .gitPullMerge g p).1 (exec .gitPullMerge g p).2.1.base =
      polOf (exec .gitPullMerge g p).1 (exec .gitPullMerge g p).1.remote := by
  simp only [exec]
  (repeat' split) <;> simp_all [polOf]

/-- `$POLICY` is above the remote's number, so a revision that carries the remote's POLICY file does not
carry `$POLICY`: `git commit` has something to commit. -/
theorem pol_ne_of_polGt {h : Nat} (he : polOf g h = polOf g g.remote) (hgt : Rg g < p.policy) :
    ((commitAt g.store h).pol == some p.policy) = false := by
  have he' : (commitAt g.store h).pol = (commitAt g.store g.remote).pol := he
  rw [he']
  cases hp : (commitAt g.store g.remote).pol with
  | none => rfl
  | some r =>
    simp [Rg, polOf, hp] at hgt
    simp; omega

/-- A shell variable that is "a number ≥ `B`, or `B = 0`", after `[ "$VAR" ]` failed / succeeded. -/
theorem bound_zero_of_none {v : Option Nat} {B : Nat} (h : (∃ f, v = some f ∧ B ≤ f) ∨ B = 0)
    (hn : v.isSome = false) : B = 0 := by
  rcases h with ⟨f, hf, _⟩ | h
  · rw [hf] at hn; cases hn
  · exact h

theorem bound_le_of_some {v : Option Nat} {B : Nat} (h : (∃ f, v = some f ∧ B ≤ f) ∨ B = 0)
    (hs : v.isSome = true) : ∃ f, v = some f ∧ B ≤ f := by
  rcases h with h | h
  · exact h
  · obtain ⟨f, hf⟩ := Option.isSome_iff_exists.mp hs
    exact ⟨f, hf, by omega⟩

/-- Own step (numbering facts): whatever the command, the facts computed by `tf2` hold afterwards
(in states in which no git command has failed and nobody edited POLICY).  `keep_all` gives every
fact that reads nothing the command writes; each case treats only the facts the command sets:
for a concrete command the fields of `a.kept c` reduce to `a.f` or `false`, so in `{ hK with … }`
the fields that are not named are those of `hK`, up to unfolding. -/
theorem own2 {c : Cmd} (hΓ : Γ2 a g p) (hN : N g) (hvg : VG g) (hvp : VP g p) (hq : quiet (exec c g p).1)
    (htf : tf2 c a (exec c g p).2.2 = some x) : Γ2 x (exec c g p).1 (exec c g p).2.1 := by
  have hK := keep_all c hΓ hvg hvp
  cases c
  case flockNB =>
    cases hok : (exec Cmd.flockNB g p).2.2 <;> rw [hok] at htf <;> cases htf
    · exact hK
    · exact { hK with holds := fun _ => by rw [exec_pid]; exact flock_ok hok }
  case gitClone =>
    cases htf
    obtain ⟨f1, f2, f3, _⟩ := clone_form hq.1
    exact { hK with
      hEqR := fun hf => ⟨exec_lock_own (hΓ.holds hf), g.remote, f1, by rw [f2]⟩
      baseR := fun hf => ⟨exec_lock_own (hΓ.holds hf), by rw [f3, f2]⟩ }
  case testPolicyFile =>
    cases hok : (exec Cmd.testPolicyFile g p).2.2 <;> rw [hok] at htf <;> cases htf
    · refine { hK with fcOk := fun hf => ?_ }
      obtain ⟨hL, h, hh, he⟩ := hΓ.hEqR hf
      refine ⟨exec_lock_own hL, Or.inr ?_⟩
      rw [tpf_ok hh] at hok
      have : polOf g g.remote = none := by rw [← he]; simpa using hok
      simp [Rg, this]
    · refine { hK with pfP := fun hf => ?_ }
      obtain ⟨hL, h, hh, he⟩ := hΓ.hEqR hf
      rw [tpf_ok hh] at hok
      obtain ⟨r, hr⟩ := Option.isSome_iff_exists.mp hok
      exact ⟨exec_lock_own hL, h, r, by simpa using hh, by simpa using hr, by simp [Rg, ← he, hr]⟩
  case readPolicyFile =>
    cases htf
    have k : a.pfP = true → g.lock = some p.pid ∧ ∃ f, g.nextTree.bind (·.pol) = some f ∧ Rg g ≤ f := fun hf => by
      obtain ⟨hL, h, r, hh, hr, hle⟩ := hΓ.pfP hf
      exact ⟨hL, r, by simpa [nextTree_eq hh, polOf] using hr, hle⟩
    exact { hK with
      fcOk := fun hf => ⟨exec_lock_own (k hf).1, Or.inl (k hf).2⟩
      fcGe := fun hf => ⟨exec_lock_own (k hf).1, (k hf).2⟩ }
  case testReg r =>
    cases r
    case fcount =>
      cases hok : (exec (Cmd.testReg Reg.fcount) g p).2.2 <;> rw [hok] at htf <;> cases htf
      · exact { hK with rZero := fun hf => ⟨exec_lock_own (hΓ.fcOk hf).1, bound_zero_of_none (hΓ.fcOk hf).2 hok⟩ }
      · refine { hK with fcGe := fun (hf : (a.fcGe || a.fcOk) = true) => ?_ }
        simp only [Bool.or_eq_true] at hf
        rcases hf with hf | hf
        · exact hK.fcGe hf
        · exact ⟨exec_lock_own (hΓ.fcOk hf).1, bound_le_of_some (hΓ.fcOk hf).2 hok⟩
    case lcount =>
      cases hok : (exec (Cmd.testReg Reg.lcount) g p).2.2 <;> rw [hok] at htf <;> cases htf
      · exact { hK with lkZero := fun hf => ⟨exec_lock_own (hΓ.lcOk hf).1, bound_zero_of_none (hΓ.lcOk hf).2 hok⟩ }
      · refine { hK with lcGe := fun (hf : (a.lcGe || a.lcOk) = true) => ?_ }
        simp only [Bool.or_eq_true] at hf
        rcases hf with hf | hf
        · exact hK.lcGe hf
        · exact ⟨exec_lock_own (hΓ.lcOk hf).1, bound_le_of_some (hΓ.lcOk hf).2 hok⟩
    case count => cases htf; exact hK
  case setReg r n =>
    cases r
    case fcount =>
      cases htf
      exact { hK with
        fcOk := fun hf => ⟨exec_lock_own (hΓ.rZero hf).1, Or.inr (hΓ.rZero hf).2⟩
        fcGe := fun hf => ⟨exec_lock_own (hΓ.rZero hf).1, n, rfl, by have := (hΓ.rZero hf).2; show Rg g ≤ n; omega⟩ }
    case lcount =>
      cases htf
      exact { hK with
        lcOk := fun hf => ⟨exec_lock_own (hΓ.lkZero hf).1, Or.inr (hΓ.lkZero hf).2⟩
        lcGe := fun hf => ⟨exec_lock_own (hΓ.lkZero hf).1, n, rfl, by have := (hΓ.lkZero hf).2; show Lk g ≤ n; omega⟩ }
    case count => cases htf; exact hK
  case readLink =>
    cases htf
    exact { hK with prevEq := fun hf => ⟨exec_lock_own (hΓ.holds hf), rfl⟩, prevSome := fun hf => hf }
  case testPrev =>
    cases hok : (exec Cmd.testPrev g p).2.2 <;> rw [hok] at htf <;> cases htf
    · refine { hK with lcOk := fun (hf : (a.lcOk || a.prevEq) = true) => ?_ }
      simp only [Bool.or_eq_true] at hf
      rcases hf with hf | hf
      · exact hK.lcOk hf
      · obtain ⟨hL, he⟩ := hΓ.prevEq hf
        have hnone : g.current = none := by
          have : p.prev.isSome = false := hok
          rw [← he]; simpa using this
        exact ⟨exec_lock_own hL, Or.inr (by show Lk g = 0; simp [Lk, hnone])⟩
    · exact { hK with prevSome := fun _ => hok }
  case linkCount =>
    cases htf
    have k : (a.prevEq && a.prevSome) = true → g.lock = some p.pid ∧ ∃ l, p.prev = some l ∧ Lk g ≤ l := fun hf => by
      simp only [Bool.and_eq_true] at hf
      obtain ⟨hL, he⟩ := hΓ.prevEq hf.1
      obtain ⟨k, hk⟩ := Option.isSome_iff_exists.mp (hΓ.prevSome hf.2)
      exact ⟨hL, k, hk, by simp [Lk, ← he, hk]⟩
    exact { hK with
      lcOk := fun hf => ⟨exec_lock_own (k hf).1, Or.inl (k hf).2⟩
      lcGe := fun hf => ⟨exec_lock_own (k hf).1, (k hf).2⟩ }
  case countPick m =>
    cases htf
    refine { hK with cntGe := fun hf => ?_ }
    simp only [Bool.and_eq_true] at hf
    obtain ⟨⟨hm, hf1⟩, hf2⟩ := hf
    subst hm
    obtain ⟨hL, f, hfc, hfr⟩ := hΓ.fcGe hf1
    obtain ⟨_, l, hlc, hlr⟩ := hΓ.lcGe hf2
    refine ⟨exec_lock_own hL, if f > l then f else l, ?_, ?_, ?_⟩
    · simp [exec, pickCount, hfc, hlc]; split <;> rfl
    · show Rg g ≤ _; split <;> omega
    · show Lk g ≤ _; split <;> omega
  case countAdd n =>
    cases htf
    have k : a.cntGe = true → g.lock = some p.pid ∧ ∃ c, p.count.map (· + n) = some (c + n) ∧ Rg g ≤ c ∧ Lk g ≤ c :=
      fun hf => by
        obtain ⟨hL, c, hc, h1, h2⟩ := hΓ.cntGe hf
        exact ⟨hL, c, by simp [hc], h1, h2⟩
    refine { hK with cntGe := fun hf => ?_, cntGt := fun hf => ?_ }
    · obtain ⟨hL, c, hc, h1, h2⟩ := k hf
      exact ⟨exec_lock_own hL, c + n, hc, by show Rg g ≤ _; omega, by show Lk g ≤ _; omega⟩
    · simp only [Bool.and_eq_true, decide_eq_true_eq] at hf
      obtain ⟨hL, c, hc, h1, h2⟩ := k hf.1
      exact ⟨exec_lock_own hL, c + n, hc, by show Rg g < _; omega, by show Lk g < _; omega⟩
  case policyFromCount =>
    cases htf
    have k : a.cntGt = true → g.lock = some p.pid ∧ Rg g < p.count.getD 0 ∧ Lk g < p.count.getD 0 := fun hf => by
      obtain ⟨hL, c, hc, h1, h2⟩ := hΓ.cntGt hf
      rw [hc]; exact ⟨hL, h1, h2⟩
    -- the new number is above every number used so far
    have kh : a.cntGt = true → ∀ h ∈ g.hist, h < p.count.getD 0 := fun hf h hh => by
      have := hN.bound h hh
      have := (k hf).2
      omega
    exact { hK with
      polGt := fun hf => ⟨exec_lock_own (k hf).1, (k hf).2⟩
      fresh := fun hf => ⟨exec_lock_own (k hf).1, kh hf⟩
      histLe := fun hf => ⟨exec_lock_own (k hf).1, fun h hh => Nat.le_of_lt (kh hf h hh)⟩ }
  case writePolicyFile =>
    cases htf
    exact { hK with wOk := fun _ => rfl, sOk := hΓ.sOk }
  case gitAdd =>
    cases htf
    exact { hK with wOk := hΓ.wOk, sOk := hΓ.wOk }
  case gitCommitPolicy =>
    cases htf
    obtain ⟨h, n, hh, hs, f1, f2⟩ := commit_form hq.1
    refine { hK with hPol := fun hf => ?_ }
    simp only [Bool.and_eq_true] at hf
    have hn := hΓ.sOk hf.1
    rw [hs] at hn
    injection hn with hn
    refine ⟨exec_lock_own (hΓ.holds hf.2), g.store.length + 1, f1, ?_⟩
    rw [f2, hn]
    rw [(frame _ g p).policy rfl]
  case gitPullMerge =>
    cases htf
    refine { hK with baseR := fun hf => ⟨exec_lock_own (hΓ.baseR hf).1, pull_base (hΓ.baseR hf).2⟩, hPol := fun hf => ?_ }
    simp only [Bool.and_eq_true] at hf
    obtain ⟨hL, h1⟩ := hΓ.hPol hf.1
    obtain ⟨_, h2⟩ := hΓ.baseR hf.2
    obtain ⟨h', f1, f2⟩ := pull_form h1 h2
    refine ⟨exec_lock_own hL, h', f1, ?_⟩
    rw [f2]
    rw [(frame _ g p).policy rfl]
  case gitPush =>
    cases htf
    obtain ⟨h, hh, f4, hpol, f1, fok, ffail⟩ := push_form hq.1
    refine { hK with hEqR := fun hf => ?_, baseR := fun hf => ?_, pushed := fun hf => ?_ }
    · refine ⟨exec_lock_own (hΓ.holds hf), h, f4, ?_⟩
      rw [hpol, hpol, f1]
    · cases hok : (exec Cmd.gitPush g p).2.2
      · rw [hok] at hf
        obtain ⟨hL, hb⟩ := hΓ.baseR hf
        obtain ⟨e1, e2⟩ := ffail hok
        refine ⟨exec_lock_own hL, ?_⟩
        rw [hpol, hpol, e1, e2]; exact hb
      · rw [hok] at hf
        refine ⟨exec_lock_own (hΓ.holds hf), ?_⟩
        rw [fok hok]
    · obtain ⟨hL, h', hh', hp⟩ := hΓ.hPol hf
      rw [hh] at hh'
      injection hh' with hh'
      subst hh'
      refine ⟨exec_lock_own hL, ?_⟩
      rw [(frame _ g p).policy rfl]
      simp only [Rg, hpol, f1, hp]
      simp
  case rmCurrent =>
    cases htf
    exact { hK with lkZero := fun hf => ⟨exec_lock_own (hΓ.holds hf), rfl⟩ }
  case gitRevert =>
    cases htf
    exact { hK with hEqR := fun hf => ⟨exec_lock_own (hΓ.hEqR hf).1, revert_form hq.2 hvg (hΓ.hEqR hf).2⟩ }
  case gitPullPlain =>
    cases htf
    exact { hK with
      hEqR := fun hf => ⟨exec_lock_own (hΓ.hEqR hf).1, pullPlain_form (hΓ.hEqR hf).2⟩
      baseR := fun hf => ⟨exec_lock_own (hΓ.baseR hf).1, pullPlain_base (hΓ.baseR hf).2⟩ }
  case mvNextTo =>
    cases htf
    refine { hK with histLe := fun hf => ?_ }
    obtain ⟨hL, he⟩ := hΓ.fresh hf
    refine ⟨exec_lock_own hL, ?_⟩
    intro h hh
    rw [(frame _ g p).policy rfl]
    rcases (frame .mvNextTo g p).histFrom with e | e <;> rw [e] at hh
    · exact Nat.le_of_lt (he h hh)
    · rcases List.mem_cons.mp hh with rfl | hh
      · exact Nat.le_refl _
      · exact Nat.le_of_lt (he h hh)
  case mkdirNextP =>
    -- `mkdir -p` leaves an existing `next` alone; the transfer function drops its facts all the same
    cases htf
    exact { hK with hEqR := nofun, pfP := nofun, hPol := nofun }
  -- for the remaining commands the transfer function keeps no more than `keep_all` does
  all_goals (cases htf; exact hK)

end NA.C19
