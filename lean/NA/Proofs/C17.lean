import NA.Model.MaskSinks
import NA.Core.Literal
/-!
# C17: the masking functions do not depend on the secret they mask

The principle is `replaceAll_independent`: leftmost-first replacement gives the same text for two variants of the
secret if the matcher, started at the secret or anywhere before it, treats the two alike.  It is applied to the lazy
matcher of `passRE` and to the greedy matcher of the key element (`keyRE`).
-/
namespace NA.Mask

theorem stripPrefix?_eq_some {p l r : Str} : stripPrefix? p l = some r ↔ l = p ++ r := by
  induction p generalizing l with
  | nil => simp [stripPrefix?, eq_comm]
  | cons a p ih =>
    cases l with
    | nil => simp [stripPrefix?]
    | cons c cs =>
      simp only [stripPrefix?]
      by_cases h : a = c
      · subst h; simp [ih]
      · simp [h]; intro h'; exact absurd h'.symm h

theorem stripPrefix?_append (p r : Str) : stripPrefix? p (p ++ r) = some r :=
  stripPrefix?_eq_some.mpr rfl

theorem stripPrefix?_length {p l r : Str} (h : stripPrefix? p l = some r) : l.length = p.length + r.length := by
  rw [stripPrefix?_eq_some.mp h, List.length_append]

theorem stripPrefix?_append_of_le {p a : Str} (x : Str) (h : p.length ≤ a.length) :
    stripPrefix? p (a ++ x) = (stripPrefix? p a).map (· ++ x) := by
  induction p generalizing a with
  | nil => simp [stripPrefix?]
  | cons b p ih =>
    cases a with
    | nil => simp at h
    | cons c cs =>
      simp only [List.cons_append, stripPrefix?]
      by_cases hb : b = c
      · simp only [hb, if_true]; exact ih (by simpa using h)
      · simp [hb]

/-- A match takes at least one byte of the text (a step is only ever applied to a non-empty text). -/
def Decr (step : Str → Option (Str × Str)) : Prop :=
  ∀ c cs out r, step (c :: cs) = some (out, r) → r.length ≤ cs.length

theorem replaceAllF_fuel {step : Str → Option (Str × Str)} (hd : Decr step) :
    ∀ (n m : Nat) (l : Str), l.length ≤ n → l.length ≤ m → replaceAllF step n l = replaceAllF step m l := by
  intro n
  induction n with
  | zero =>
    intro m l hn _
    have : l = [] := List.eq_nil_of_length_eq_zero (by omega)
    subst this
    cases m <;> simp [replaceAllF]
  | succ n ih =>
    intro m l hn hm
    cases l with
    | nil => cases m <;> simp [replaceAllF]
    | cons c cs =>
      cases m with
      | zero => simp at hm
      | succ m =>
        simp only [replaceAllF]
        simp only [List.length_cons] at hn hm
        cases hs : step (c :: cs) with
        | none => simp only; rw [ih m cs (by omega) (by omega)]
        | some v =>
          obtain ⟨out, r⟩ := v
          have := hd c cs out r hs
          simp only; rw [ih m r (by omega) (by omega)]

theorem replaceAll_eq_fuel {step : Str → Option (Str × Str)} (hd : Decr step) (n : Nat) (l : Str)
    (h : l.length ≤ n) : replaceAll step l = replaceAllF step n l :=
  replaceAllF_fuel hd _ _ _ (Nat.le_refl _) h

/-- The defining equation of `replaceAll` without fuel. -/
theorem replaceAll_cons {step : Str → Option (Str × Str)} (hd : Decr step) (c : Char) (cs : Str) :
    replaceAll step (c :: cs) = match step (c :: cs) with
      | some (out, r) => out ++ replaceAll step r
      | none => c :: replaceAll step cs := by
  unfold replaceAll
  simp only [List.length_cons, replaceAllF]
  cases hs : step (c :: cs) with
  | none => rfl
  | some v =>
    obtain ⟨out, r⟩ := v
    simp only
    rw [replaceAllF_fuel hd cs.length r.length r (hd c cs out r hs) (Nat.le_refl _)]

/-! ## generic non-interference of leftmost-first replacement

`t1`, `t2` are the two variants of the part of the text that holds the secret (literal, secret,
terminator, and everything behind).  If the matcher (a) treats the two variants alike when it starts
exactly there, and (b) started anywhere before them either fails on both, or matches on both with
the same replacement and ends behind the secret, or ends before the variants start — then the
replaced texts are equal, whatever precedes. -/
theorem replaceAll_independent {step : Str → Option (Str × Str)} (hd : Decr step) {t1 t2 : Str}
    (hne1 : t1 ≠ []) (hne2 : t2 ≠ [])
    (h0 : ∃ out r, step t1 = some (out, r) ∧ step t2 = some (out, r))
    (h1 : ∀ p : Str, p ≠ [] →
      (step (p ++ t1) = none ∧ step (p ++ t2) = none) ∨
      (∃ out r, step (p ++ t1) = some (out, r) ∧ step (p ++ t2) = some (out, r)) ∨
      (∃ out q, q.length < p.length ∧ step (p ++ t1) = some (out, q ++ t1) ∧
        step (p ++ t2) = some (out, q ++ t2)))
    (pre : Str) : replaceAll step (pre ++ t1) = replaceAll step (pre ++ t2) := by
  have base : replaceAll step t1 = replaceAll step t2 := by
    obtain ⟨out, r, hs1, hs2⟩ := h0
    cases t1 with
    | nil => exact absurd rfl hne1
    | cons c1 cs1 =>
      cases t2 with
      | nil => exact absurd rfl hne2
      | cons c2 cs2 => rw [replaceAll_cons hd, replaceAll_cons hd, hs1, hs2]
  -- induction on the length of the prefix: case (b3) continues at a shorter prefix
  suffices H : ∀ (k : Nat) (pre : Str), pre.length ≤ k →
      replaceAll step (pre ++ t1) = replaceAll step (pre ++ t2) from H pre.length pre (Nat.le_refl _)
  intro k
  induction k with
  | zero =>
    intro pre hk
    rw [List.eq_nil_of_length_eq_zero (Nat.le_zero.mp hk)]
    exact base
  | succ k ih =>
    intro pre hk
    cases pre with
    | nil => exact base
    | cons c p =>
      simp only [List.length_cons] at hk
      have hp := h1 (c :: p) (by simp)
      simp only [List.cons_append] at hp ⊢
      rw [replaceAll_cons hd, replaceAll_cons hd]
      rcases hp with ⟨e1, e2⟩ | ⟨out, r, e1, e2⟩ | ⟨out, q, hq, e1, e2⟩
      · rw [e1, e2, ih p (by omega)]
      · rw [e1, e2]
      · simp only [List.length_cons] at hq
        rw [e1, e2]; simp only
        rw [ih q (by omega)]

/-- Bytes that neither end the lazy scan nor make it fail. -/
def Safe (e : Str) : Prop := ∀ c ∈ e, c ≠ '&' ∧ c ≠ '\n'

theorem Safe.append {a b : Str} (ha : Safe a) (hb : Safe b) : Safe (a ++ b) :=
  List.forall_mem_append.mpr ⟨ha, hb⟩

theorem Safe.of_append_right {a b : Str} (h : Safe (a ++ b)) : Safe b :=
  (List.forall_mem_append.mp h).2

theorem scanLazy_safe (ae : Bool) {e : Str} (he : Safe e) (post : Str) :
    scanLazy ae (e ++ '&' :: post) = some (true, post) := by
  induction e with
  | nil => simp [scanLazy]
  | cons c cs ih =>
    have hc := he c (by simp)
    simp only [List.cons_append, scanLazy, hc.1, hc.2, if_false]
    exact ih (fun d hd => he d (by simp [hd]))

theorem scanLazy_length (ae : Bool) : ∀ (l : Str) (amp : Bool) (r : Str),
    scanLazy ae l = some (amp, r) → (amp = true ∧ r.length < l.length) ∨ (amp = false ∧ r = []) := by
  intro l
  induction l with
  | nil =>
    intro amp r h
    cases ae <;> simp [scanLazy] at h
    obtain ⟨rfl, rfl⟩ := h
    exact Or.inr ⟨rfl, rfl⟩
  | cons c cs ih =>
    intro amp r h
    simp only [scanLazy] at h
    by_cases h1 : c = '&'
    · simp [h1] at h
      obtain ⟨rfl, rfl⟩ := h
      left; exact ⟨rfl, by simp⟩
    · by_cases h2 : c = '\n'
      · simp [h2] at h
      · simp only [h1, h2, if_false] at h
        exact (ih amp r h).imp_left fun ⟨a, b⟩ => ⟨a, by simp; omega⟩

theorem lazyStep_decr (lit : Str) (ae : Bool) : Decr (lazyStep lit ae) := by
  intro c cs out r h
  unfold lazyStep at h
  cases hs : stripPrefix? lit (c :: cs) with
  | none => simp [hs] at h
  | some body =>
    have hl := stripPrefix?_length hs
    simp only [hs] at h
    cases hb : scanLazy ae body with
    | none => simp [hb] at h
    | some v =>
      obtain ⟨amp, rest⟩ := v
      simp only [hb, Option.some.injEq, Prod.mk.injEq] at h
      obtain ⟨_, rfl⟩ := h
      simp only [List.length_cons] at hl
      rcases scanLazy_length ae body amp rest hb with ⟨_, b⟩ | ⟨_, b⟩
      · omega
      · subst b; simp

theorem scanLazy_rel (ae : Bool) {s e1 e2 : Str} (hs : Safe s) (h1 : Safe e1) (h2 : Safe e2) (post : Str) :
    ∀ q : Str,
      (scanLazy ae (q ++ (s ++ (e1 ++ '&' :: post))) = none ∧ scanLazy ae (q ++ (s ++ (e2 ++ '&' :: post))) = none) ∨
      (scanLazy ae (q ++ (s ++ (e1 ++ '&' :: post))) = some (true, post) ∧
        scanLazy ae (q ++ (s ++ (e2 ++ '&' :: post))) = some (true, post)) ∨
      (∃ q', q'.length < q.length ∧
        scanLazy ae (q ++ (s ++ (e1 ++ '&' :: post))) = some (true, q' ++ (s ++ (e1 ++ '&' :: post))) ∧
        scanLazy ae (q ++ (s ++ (e2 ++ '&' :: post))) = some (true, q' ++ (s ++ (e2 ++ '&' :: post)))) := by
  intro q
  induction q with
  | nil =>
    right; left
    simp only [List.nil_append, ← List.append_assoc]
    exact ⟨scanLazy_safe ae (hs.append h1) post, scanLazy_safe ae (hs.append h2) post⟩
  | cons c cs ih =>
    simp only [List.cons_append, scanLazy]
    by_cases ha : c = '&'
    · right; right
      exact ⟨cs, by simp, by simp [ha], by simp [ha]⟩
    · by_cases hn : c = '\n'
      · left; simp [hn]
      · simp only [ha, hn, if_false]
        rcases ih with h | h | ⟨q', hq, e1', e2'⟩
        · exact Or.inl h
        · exact Or.inr (Or.inl h)
        · exact Or.inr (Or.inr ⟨q', by simp; omega, e1', e2'⟩)

theorem maskLazy_independent (lit : Str) (ae : Bool) (hlit : Safe lit) {e1 e2 : Str}
    (h1 : Safe e1) (h2 : Safe e2) (pre post : Str) :
    maskLazy lit ae (pre ++ (lit ++ (e1 ++ '&' :: post))) = maskLazy lit ae (pre ++ (lit ++ (e2 ++ '&' :: post))) := by
  unfold maskLazy
  apply replaceAll_independent (lazyStep_decr lit ae)
  · simp
  · simp
  · refine ⟨lit ++ xxx ++ ['&'], post, ?_, ?_⟩ <;>
      simp [lazyStep, stripPrefix?_append, scanLazy_safe ae, h1, h2]
  · intro p hp
    have key : ∀ e : Str, stripPrefix? lit (p ++ (lit ++ (e ++ '&' :: post))) =
        (stripPrefix? lit (p ++ lit)).map (· ++ (e ++ '&' :: post)) := by
      intro e
      rw [← List.append_assoc]
      exact stripPrefix?_append_of_le _ (by simp)
    unfold lazyStep
    rw [key e1, key e2]
    cases hb : stripPrefix? lit (p ++ lit) with
    | none => left; simp
    | some b =>
      simp only [Option.map_some]
      -- b = q ++ s with s safe, and s = lit unless q = []
      obtain ⟨q, s, rfl, hs, hql, hqs⟩ :
          ∃ q s, b = q ++ s ∧ Safe s ∧ q.length < p.length + 1 ∧ (q ≠ [] → s = lit) := by
        rcases List.append_eq_append_iff.mp (stripPrefix?_eq_some.mp hb) with ⟨a', ha1, ha2⟩ | ⟨c', hc1, hc2⟩
        · refine ⟨[], b, by simp, ?_, by simp, by simp⟩
          rw [ha2] at hlit
          exact hlit.of_append_right
        · refine ⟨c', lit, hc2, hlit, ?_, fun _ => rfl⟩
          rw [hc1]; simp; omega
      simp only [List.append_assoc]
      rcases scanLazy_rel ae hs h1 h2 post q with ⟨a, b⟩ | ⟨a, b⟩ | ⟨q', hq', a, b⟩
      · left; simp [a, b]
      · right; left; exact ⟨lit ++ xxx ++ ['&'], post, by simp [a], by simp [b]⟩
      · right; right
        have hne : q ≠ [] := by intro h; subst h; simp at hq'
        rw [hqs hne] at a b
        rw [hqs hne]
        refine ⟨lit ++ xxx ++ ['&'], q', by omega, by simp [a], by simp [b]⟩

def NoNl (e : Str) : Prop := ∀ c ∈ e, notNl c = true

theorem splitAtGt_attrs : ∀ (a X : Str), '>' ∉ a → splitAtGt (a ++ '>' :: X) = some (a, X) := by
  intro a
  induction a with
  | nil => intro X _; simp [splitAtGt]
  | cons c cs ih =>
    intro X h
    have hc : c ≠ '>' := fun e => h (e ▸ List.mem_cons_self)
    have hcs : '>' ∉ cs := fun e => h (List.mem_cons_of_mem _ e)
    simp only [List.cons_append, splitAtGt, hc, if_false, ih X hcs]

theorem splitAtGt_eq_some {l t r : Str} : splitAtGt l = some (t, r) ↔ l = t ++ '>' :: r ∧ '>' ∉ t := by
  constructor
  · intro h
    induction l generalizing t with
    | nil => simp [splitAtGt] at h
    | cons c cs ih =>
      simp only [splitAtGt] at h
      by_cases hc : c = '>'
      · simp only [hc, if_true, Option.some.injEq, Prod.mk.injEq] at h
        obtain ⟨rfl, rfl⟩ := h
        exact ⟨by rw [hc]; rfl, by simp⟩
      · simp only [hc, if_false] at h
        cases hs : splitAtGt cs with
        | none => simp [hs] at h
        | some p =>
          obtain ⟨t', x⟩ := p
          simp only [hs, Option.some.injEq, Prod.mk.injEq] at h
          obtain ⟨rfl, rfl⟩ := h
          obtain ⟨e, hn⟩ := ih hs
          exact ⟨by rw [e]; rfl, by simp [hn, Ne.symm hc]⟩
  · rintro ⟨rfl, hn⟩; exact splitAtGt_attrs t r hn

theorem splitAtGt_length (l t r : Str) (h : splitAtGt l = some (t, r)) : r.length < l.length := by
  rw [(splitAtGt_eq_some.mp h).1]; simp; omega

theorem splitAtGt_append (s X : Str) (h : '>' ∈ s) :
    splitAtGt (s ++ X) = (splitAtGt s).map fun p => (p.1, p.2 ++ X) := by
  obtain ⟨a, r, rfl, hn⟩ := List.eq_append_cons_of_mem h
  rw [List.append_assoc, List.cons_append, splitAtGt_attrs a _ hn, splitAtGt_attrs a r hn]; rfl

theorem splitAtGt_none (s : Str) (h : '>' ∉ s) : splitAtGt s = none :=
  Option.eq_none_iff_forall_ne_some.2 fun p hs => h (by rw [(splitAtGt_eq_some.mp hs).1]; simp)

theorem tag?_eq_some {valid : Str → Bool} {l r : Str} :
    tag? valid l = some r ↔ ∃ t, splitAtGt l = some (t, r) ∧ valid t = true := by
  unfold tag?
  cases splitAtGt l with
  | none => simp
  | some p =>
    obtain ⟨t, x⟩ := p
    by_cases hv : valid t = true <;> simp [hv, and_assoc]

theorem tag?_append (valid : Str → Bool) (s X : Str) (h : '>' ∈ s) :
    tag? valid (s ++ X) = (tag? valid s).map (· ++ X) := by
  unfold tag?
  rw [splitAtGt_append s X h]
  cases splitAtGt s with
  | none => rfl
  | some p =>
    obtain ⟨t, r⟩ := p
    simp only [Option.map_some]
    cases valid t <;> simp

theorem tag?_length {valid : Str → Bool} {l r : Str} (h : tag? valid l = some r) : r.length < l.length :=
  let ⟨_, hs, _⟩ := tag?_eq_some.mp h
  splitAtGt_length _ _ _ hs

theorem lastClose_length : ∀ (l r : Str), lastClose l = some r → r.length < l.length := by
  intro l
  induction l with
  | nil => intro r h; simp [lastClose] at h
  | cons c cs ih =>
    intro r h
    simp only [lastClose] at h
    cases hc : lastClose cs with
    | some r' =>
      simp only [hc, Option.some.injEq] at h
      subst h
      have := ih r' hc
      simp; omega
    | none =>
      simp only [hc] at h
      exact tag?_length h

theorem keyStep_decr : Decr keyStep := by
  intro c cs out r h
  unfold keyStep at h
  cases hs : tag? validOpen (c :: cs) with
  | none => simp [hs] at h
  | some body =>
    have hl := tag?_length hs
    simp only [hs, Option.some.injEq, Prod.mk.injEq] at h
    obtain ⟨_, rfl⟩ := h
    cases hb : lastClose body with
    | none => simp
    | some after =>
      have h1 := lastClose_length _ _ hb
      simp at hl ⊢
      omega

/-- An opening tag of element `key` as the matcher sees it. -/
structure OpenForm (o : Str) : Prop where
  gt : '>' ∈ o
  ne : o ≠ []
  tag : ∀ X, tag? validOpen (o ++ X) = some X

/-- A closing tag of element `key` as the matcher sees it. -/
def CloseForm (cl : Str) : Prop := ∀ p1, lastClose (cl ++ p1) = some ((lastClose p1).getD p1)

theorem lastClose_append_closeForm {cl : Str} (hc : CloseForm cl) (x p1 : Str) :
    lastClose (x ++ (cl ++ p1)) = some ((lastClose p1).getD p1) := by
  induction x with
  | nil => exact hc p1
  | cons c cs ih => simp only [List.cons_append, lastClose, ih]

theorem openForm_of_tag {t : Str} (hgt : '>' ∉ t) (hv : validOpen t = true) : OpenForm (t ++ ['>']) where
  gt := by simp
  ne := by simp
  tag X := by simp [tag?, splitAtGt_attrs t X hgt, hv]

theorem tag?_validClose_of_ne {c : Char} (hc : c ≠ '<') (l : Str) : tag? validClose (c :: l) = none := by
  refine Option.eq_none_iff_forall_ne_some.2 fun r h => ?_
  obtain ⟨t, hs, hv⟩ := tag?_eq_some.mp h
  obtain ⟨e, _⟩ := splitAtGt_eq_some.mp hs
  unfold validClose at hv
  split at hv
  · exact absurd (List.cons.inj e).1 hc
  · cases hv

theorem lastClose_skip {s : Str} (hs : '<' ∉ s) (X : Str) : lastClose (s ++ X) = lastClose X := by
  induction s with
  | nil => rfl
  | cons c cs ih =>
    have hc : c ≠ '<' := fun e => hs (e ▸ List.mem_cons_self)
    simp only [List.cons_append, lastClose, ih (fun e => hs (List.mem_cons_of_mem _ e)), tag?_validClose_of_ne hc]
    cases lastClose X <;> rfl

theorem closeForm_of_tag {t : Str} (hlt : '<' ∉ t) (hgt : '>' ∉ t) (hv : validClose ('<' :: t) = true) :
    CloseForm ('<' :: (t ++ ['>'])) := by
  intro p1
  have hlt' : '<' ∉ t ++ ['>'] := by simp [hlt]
  have hs : splitAtGt ('<' :: (t ++ ['>'] ++ p1)) = some ('<' :: t, p1) := by
    simpa using splitAtGt_attrs ('<' :: t) p1 (by simp [hgt])
  show lastClose ('<' :: (t ++ ['>'] ++ p1)) = _
  rw [lastClose, lastClose_skip hlt', tag?_eq_some.mpr ⟨_, hs, hv⟩]
  cases lastClose p1 <;> rfl

theorem openForm_attrs (a : Str) (h : '>' ∉ a) : OpenForm ('<' :: 'k' :: 'e' :: 'y' :: ' ' :: (a ++ ['>'])) :=
  openForm_of_tag (t := '<' :: 'k' :: 'e' :: 'y' :: ' ' :: a) (by simpa using h) (by simp [validOpen, keyOpenTail, isWsRe])

theorem openForm_lit : OpenForm litOpen := openForm_of_tag (t := ['<', 'k', 'e', 'y']) (by decide) (by decide)

theorem openForm_ns : OpenForm ['<', 'x', ':', 'k', 'e', 'y', '>'] :=
  openForm_of_tag (t := ['<', 'x', ':', 'k', 'e', 'y']) (by decide) (by decide)

theorem closeForm_lit : CloseForm litClose :=
  closeForm_of_tag (t := ['/', 'k', 'e', 'y']) (by decide) (by decide) (by decide)

theorem closeForm_blank : CloseForm ['<', '/', 'k', 'e', 'y', ' ', '>'] :=
  closeForm_of_tag (t := ['/', 'k', 'e', 'y', ' ']) (by decide) (by decide) (by decide)

theorem closeForm_ns : CloseForm ['<', '/', 'x', ':', 'k', 'e', 'y', '>'] :=
  closeForm_of_tag (t := ['/', 'x', ':', 'k', 'e', 'y']) (by decide) (by decide) (by decide)

theorem keyStep_append {s : Str} (h : '>' ∈ s) (X : Str) :
    keyStep (s ++ X) =
      (tag? validOpen s).map fun b => (litOpen ++ xxx ++ litClose, (lastClose (b ++ X)).getD []) := by
  unfold keyStep
  rw [tag?_append _ _ _ h]
  cases tag? validOpen s <;> rfl

theorem maskKey_forms_independent {o cl : Str} (ho : OpenForm o) (hc : CloseForm cl) (k1 k2 pre post : Str) :
    maskKey (pre ++ (o ++ (k1 ++ (cl ++ post)))) = maskKey (pre ++ (o ++ (k2 ++ (cl ++ post)))) := by
  -- wherever the match starts, up to the opening tag: it ends behind the closing tag, for every key
  have hstep : ∀ (p k : Str), keyStep (p ++ (o ++ (k ++ (cl ++ post)))) =
      (tag? validOpen (p ++ o)).map fun _ => (litOpen ++ xxx ++ litClose, (lastClose post).getD post) := by
    intro p k
    rw [← List.append_assoc, keyStep_append (List.mem_append_right _ ho.gt)]
    cases tag? validOpen (p ++ o) with
    | none => rfl
    | some b => simp only [Option.map_some, ← List.append_assoc b k, lastClose_append_closeForm hc, Option.getD_some]
  have hne : ∀ k : Str, o ++ (k ++ (cl ++ post)) ≠ [] := fun k h => ho.ne (List.append_eq_nil_iff.mp h).1
  unfold maskKey
  apply replaceAll_independent keyStep_decr (hne k1) (hne k2)
  · have h0 := ho.tag []
    rw [List.append_nil] at h0
    exact ⟨_, _, by simpa [h0] using hstep [] k1, by simpa [h0] using hstep [] k2⟩
  · intro p _
    rw [hstep p k1, hstep p k2]
    cases tag? validOpen (p ++ o) with
    | none => exact Or.inl ⟨rfl, rfl⟩
    | some b => exact Or.inr (Or.inl ⟨_, _, rfl, rfl⟩)

theorem maskKey_independent (k1 k2 pre post : Str) :
    maskKey (pre ++ (litOpen ++ (k1 ++ (litClose ++ post)))) =
      maskKey (pre ++ (litOpen ++ (k2 ++ (litClose ++ post)))) :=
  maskKey_forms_independent openForm_lit closeForm_lit k1 k2 pre post

theorem keyCloseTail_noLt {r : Str} (h : keyCloseTail r = true) : '<' ∉ r := by
  unfold keyCloseTail at h
  split at h
  · rename_i w
    simp only [List.all_eq_true] at h
    intro hm
    simp only [List.mem_cons] at hm
    rcases hm with hm | hm | hm | hm
    · cases hm
    · cases hm
    · cases hm
    · exact absurd (h _ hm) (by decide)
  · cases h

theorem afterNs_noLt {r x : Str} (h : afterNs r = some x) (hx : '<' ∉ x) : '<' ∉ r := by
  unfold afterNs at h
  have hsplit := List.takeWhile_append_dropWhile (p := nameCh) (l := r)
  split at h
  · rename_i r'' heq
    by_cases he : (List.takeWhile nameCh r).isEmpty = true
    · simp [he] at h
    · simp only [he, Bool.false_eq_true, if_false, Option.some.injEq] at h
      subst h
      intro hm
      rw [← hsplit, heq] at hm
      rcases List.mem_append.mp hm with hm | hm
      · exact absurd (List.all_eq_true.mp List.all_takeWhile _ hm) (by decide)
      · simp only [List.mem_cons] at hm
        rcases hm with hm | hm
        · cases hm
        · exact hx hm
  · cases h

theorem validClose_noLt {t : Str} (h : validClose t = true) : '<' ∉ t.tail := by
  unfold validClose at h
  split at h
  · rename_i r
    simp only [Bool.or_eq_true] at h
    simp only [List.tail_cons]
    have hr : '<' ∉ r := by
      rcases h with h | h
      · cases ha : afterNs r with
        | none => simp [ha] at h
        | some x =>
          simp only [ha] at h
          exact afterNs_noLt ha (keyCloseTail_noLt h)
      · exact keyCloseTail_noLt h
    intro hm
    simp only [List.mem_cons] at hm
    rcases hm with hm | hm
    · cases hm
    · exact hr hm
  · cases h

theorem lastClose_append_open (x : Str) : lastClose (x ++ litOpen) = (lastClose x).map (· ++ litOpen) := by
  induction x with
  | nil => decide
  | cons c cs ih =>
    simp only [List.cons_append, lastClose, ih]
    cases hl : lastClose cs with
    | some r => simp
    | none =>
      simp only [Option.map_none]
      by_cases hgt : '>' ∈ c :: cs
      · simpa using tag?_append validClose (c :: cs) litOpen hgt
      · -- the only `>` is the last byte: the tag text would be `c :: cs ++ "<key"`, with a second `<`
        have hno : '>' ∉ (c :: cs) ++ ['<', 'k', 'e', 'y'] :=
          fun hm => (List.mem_append.mp hm).elim hgt (by decide)
        have e : c :: (cs ++ litOpen) = ((c :: cs) ++ ['<', 'k', 'e', 'y']) ++ ['>'] := by simp [litOpen]
        rw [show tag? validClose (c :: cs) = none by rw [tag?, splitAtGt_none _ hgt]]
        cases h : tag? validClose (c :: (cs ++ litOpen)) with
        | none => rfl
        | some r =>
          obtain ⟨t, hs, hv⟩ := tag?_eq_some.mp h
          rw [e, splitAtGt_attrs _ [] hno] at hs
          cases hs
          exact absurd (by simp) (validClose_noLt hv)

theorem lastClose_append_endsGt (k : Str) (hk : lastClose k = none) : ∀ b' : Str,
    lastClose (b' ++ '>' :: k) = (lastClose (b' ++ ['>'])).map (· ++ k) := by
  intro b'
  induction b' with
  | nil => simp [lastClose, hk, tag?, splitAtGt, validClose]
  | cons c cs ih =>
    simp only [List.cons_append, lastClose, ih]
    cases hl : lastClose (cs ++ ['>']) with
    | some r => simp
    | none =>
      simp only [Option.map_none]
      simpa using tag?_append validClose (c :: (cs ++ ['>'])) k (by simp)

theorem splitAtGt_open_rest : ∀ (p t b : Str), splitAtGt (p ++ litOpen) = some (t, b) →
    b = [] ∨ ∃ p2, b = p2 ++ litOpen ∧ p2.length < p.length := by
  intro p
  induction p with
  | nil =>
    intro t b h
    simp [litOpen, splitAtGt] at h
    exact Or.inl h.2
  | cons c cs ih =>
    intro t b h
    simp only [List.cons_append, splitAtGt] at h
    by_cases hc : c = '>'
    · simp only [hc, if_true, Option.some.injEq, Prod.mk.injEq] at h
      exact Or.inr ⟨cs, h.2.symm, by simp⟩
    · simp only [hc, if_false] at h
      cases hs : splitAtGt (cs ++ litOpen) with
      | none => simp [hs] at h
      | some q =>
        obtain ⟨t', b'⟩ := q
        simp only [hs, Option.some.injEq, Prod.mk.injEq] at h
        rcases ih t' b' hs with h0 | ⟨p2, hp2, hlen⟩
        · exact Or.inl (h.2 ▸ h0)
        · exact Or.inr ⟨p2, h.2 ▸ hp2, by simp; omega⟩

theorem maskKey_truncated_independent (k1 k2 pre : Str) (h1 : lastClose k1 = none) (h2 : lastClose k2 = none) :
    maskKey (pre ++ (litOpen ++ k1)) = maskKey (pre ++ (litOpen ++ k2)) := by
  have hstep : ∀ k : Str, lastClose k = none → keyStep (litOpen ++ k) = some (litOpen ++ xxx ++ litClose, []) := by
    intro k hk
    unfold keyStep
    rw [openForm_lit.tag]
    simp [hk]
  unfold maskKey
  have hne : ∀ k : Str, litOpen ++ k ≠ [] := fun k h => openForm_lit.ne (List.append_eq_nil_iff.mp h).1
  apply replaceAll_independent keyStep_decr (hne k1) (hne k2)
  · exact ⟨_, _, hstep k1 h1, hstep k2 h2⟩
  · intro p hp
    have hgt : '>' ∈ p ++ litOpen := List.mem_append_right _ openForm_lit.gt
    rw [← List.append_assoc p, ← List.append_assoc p, keyStep_append hgt, keyStep_append hgt]
    cases hb : tag? validOpen (p ++ litOpen) with
    | none => exact Or.inl ⟨rfl, rfl⟩
    | some b =>
      simp only [Option.map_some]
      obtain ⟨t, hs, _⟩ := tag?_eq_some.mp hb
      rcases splitAtGt_open_rest p t b hs with h0 | ⟨p2, hp2, hlen⟩
      · right; left
        subst h0
        exact ⟨litOpen ++ xxx ++ litClose, [], by simp [h1], by simp [h2]⟩
      · subst hp2
        have hrest : ∀ k : Str, lastClose k = none →
            lastClose (p2 ++ litOpen ++ k) = (lastClose p2).map (· ++ (litOpen ++ k)) := by
          intro k hk
          have e : p2 ++ litOpen ++ k = (p2 ++ ['<', 'k', 'e', 'y']) ++ '>' :: k := by simp [litOpen]
          have e2 : (p2 ++ ['<', 'k', 'e', 'y']) ++ ['>'] = p2 ++ litOpen := by simp [litOpen]
          rw [e, lastClose_append_endsGt k hk, e2, lastClose_append_open]
          cases lastClose p2 <;> simp
        rw [hrest k1 h1, hrest k2 h2]
        cases hq : lastClose p2 with
        | none => right; left; exact ⟨litOpen ++ xxx ++ litClose, [], by simp, by simp⟩
        | some q =>
          right; right
          have := lastClose_length _ _ hq
          exact ⟨litOpen ++ xxx ++ litClose, q, by omega, by simp, by simp⟩

/-- What is used of the bytes `url.QueryEscape` produces: none ends or fails the lazy scan, none is quoted by `%q`. -/
def EscOut (c : Char) : Prop := c ≠ '&' ∧ c ≠ '\n' ∧ c ≠ '"' ∧ c ≠ '\\'

theorem hexDigit_escOut (n : Nat) : EscOut (hexDigit n) := by
  have h : ∀ m, m < 16 → EscOut (hexDigit m) := by unfold EscOut; decide
  have e : hexDigit n = hexDigit (n % 16) := by unfold hexDigit; rw [Nat.mod_mod]
  rw [e]
  exact h _ (Nat.mod_lt _ (by decide))

theorem unreserved_escOut {c : Char} (h : unreserved c = true) : EscOut c := by
  unfold EscOut
  refine ⟨?_, ?_, ?_, ?_⟩ <;> (intro hc; subst hc; revert h; decide)

theorem escByte_escOut (c : Char) : ∀ d ∈ escByte c, EscOut d := by
  intro d hd
  unfold escByte at hd
  split at hd
  · rename_i hu
    simp only [List.mem_singleton] at hd
    subst hd; exact unreserved_escOut hu
  · split at hd
    · simp only [List.mem_singleton] at hd
      subst hd; unfold EscOut; decide
    · simp only [List.mem_cons, List.not_mem_nil, or_false] at hd
      rcases hd with rfl | rfl | rfl
      · unfold EscOut; decide
      · exact hexDigit_escOut _
      · exact hexDigit_escOut _

theorem queryEscape_escOut (s : Str) : ∀ d ∈ queryEscape s, EscOut d := by
  induction s with
  | nil => intro d hd; simp [queryEscape] at hd
  | cons c cs ih =>
    intro d hd
    simp only [queryEscape, List.mem_append] at hd
    rcases hd with h | h
    · exact escByte_escOut c d h
    · exact ih d h

theorem queryEscape_safe (s : Str) : Safe (queryEscape s) :=
  fun c hc => ⟨(queryEscape_escOut s c hc).1, (queryEscape_escOut s c hc).2.1⟩

theorem goQuote_append (a b : Str) : goQuote (a ++ b) = goQuote a ++ goQuote b := by
  induction a with
  | nil => rfl
  | cons c cs ih =>
    simp only [List.cons_append, goQuote]
    by_cases h1 : c = '"'
    · simp [h1, ih]
    · by_cases h2 : c = '\\'
      · simp [h2, ih]
      · simp [h1, h2, ih]

theorem goQuote_id {s : Str} (h : ∀ c ∈ s, c ≠ '"' ∧ c ≠ '\\') : goQuote s = s := by
  induction s with
  | nil => rfl
  | cons c cs ih =>
    have hc := h c (by simp)
    simp only [goQuote, hc.1, hc.2, if_false]
    rw [ih (fun d hd => h d (by simp [hd]))]

theorem goQuote_queryEscape (s : Str) : goQuote (queryEscape s) = queryEscape s :=
  goQuote_id fun c hc => ⟨(queryEscape_escOut s c hc).2.2.1, (queryEscape_escOut s c hc).2.2.2⟩

theorem goQuote_cons_amp (t : Str) : goQuote ('&' :: t) = '&' :: goQuote t := by simp [goQuote]

/-- What follows the password in the keygen query. -/
def kgTail (user : Str) : Str := "type=keygen&user=".toList ++ queryEscape user

/-- `url.Values.Encode` sorts the keys: `password` comes first and is followed by `&type=…`. -/
theorem keygen_query (user pass : Str) :
    valuesEncode [(sType, sKeygen), (sUser, user), (sPassword, pass)] =
      litPass ++ (queryEscape pass ++ '&' :: kgTail user) := by
  have h1 : strLt sUser sPassword = false := by unfold sUser sPassword; decide_lit
  have h2 : strLt sType sPassword = false := by unfold sType sPassword; decide_lit
  have h3 : strLt sType sUser = true := by unfold sType sUser; decide_lit
  have e1 : queryEscape sPassword = "password".toList := by unfold sPassword; decide_lit
  have e2 : queryEscape sType = "type".toList := by unfold sType; decide_lit
  have e3 : queryEscape sKeygen = "keygen".toList := by unfold sKeygen; decide_lit
  have e4 : queryEscape sUser = "user".toList := by unfold sUser; decide_lit
  unfold kgTail
  simp -index only [valuesEncode, sortKV, insertKV, h1, Bool.false_eq_true, ↓reduceIte, h2, h3, joinKV, e1, e2, e3, e4,
    String.toList_ofList, List.cons_append, List.nil_append, litPass]

end NA.Mask
