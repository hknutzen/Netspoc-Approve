import NA.Model.NewPolicy
/-!
# C19 — the data-flow framework

A domain gives abstract facts, a transfer function per abstract command and branch, and a requirement
per command.  `check D prog ann` decides that the annotation `ann` (one fact set per instruction, `none`
= unreachable) is inductive for the program and that every reachable instruction meets its requirement;
`NA/Props/C19.lean` evaluates it on the program `shgen` regenerated from the script, so an edit that breaks
the locking / ordering / numbering discipline makes that evaluation false.  `infer` computes an annotation
and is not verified: only its `check` matters.
-/
namespace NA.C19

structure Dom where
  F     : Type
  le    : F → F → Bool          -- `le a b`: every fact of `b` is a fact of `a`
  meet  : F → F → F
  entry : F
  tf    : Cmd → F → Bool → Option F     -- facts after the command on the ok / fail branch; none = branch impossible
  req   : Cmd → F → Bool                -- what must be known before the command runs

abbrev Ann (D : Dom) := List (Option D.F)

def Dom.at (D : Dom) (ann : Ann D) (pc : Nat) : Option D.F := ann.getD pc none

def checkEdge (D : Dom) (ann : Ann D) (x : Option D.F) (succ : Nat) : Bool :=
  match x with
  | none => true
  | some a =>
    match D.at ann succ with
    | some b => D.le a b
    | none => false

def checkAt (D : Dom) (prog : Prog) (ann : Ann D) (pc : Nat) (i : Instr) : Bool :=
  match D.at ann pc with
  | none => true
  | some a =>
    D.req i.cmd a && decide (i.ok < prog.length) && decide (i.fail < prog.length) &&
    checkEdge D ann (D.tf i.cmd a true) i.ok && checkEdge D ann (D.tf i.cmd a false) i.fail

def check (D : Dom) (prog : Prog) (ann : Ann D) : Bool :=
  decide (ann.length = prog.length) &&
  (match D.at ann 0 with
   | some a => D.le D.entry a
   | none => false) &&
  (List.range prog.length).all fun pc =>
    match prog[pc]? with
    | some i => checkAt D prog ann pc i
    | none => false

def joinInto (D : Dom) (ann : Ann D) (pc : Nat) (x : D.F) : Ann D :=
  match D.at ann pc with
  | none => ann.set pc (some x)
  | some b => ann.set pc (some (D.meet x b))

def propagate (D : Dom) (prog : Prog) (ann : Ann D) (pc : Nat) : Ann D :=
  match prog[pc]?, D.at ann pc with
  | some i, some a =>
    let ann := match D.tf i.cmd a true with
      | some x => joinInto D ann i.ok x
      | none => ann
    match D.tf i.cmd a false with
    | some x => joinInto D ann i.fail x
    | none => ann
  | _, _ => ann

def inferRound (D : Dom) (prog : Prog) (ann : Ann D) : Ann D :=
  (List.range prog.length).foldl (propagate D prog) ann

def inferLoop (D : Dom) (prog : Prog) : Nat → Ann D → Ann D
  | 0, ann => ann
  | n + 1, ann => inferLoop D prog n (inferRound D prog ann)

def infer (D : Dom) (prog : Prog) (rounds : Nat := 3) : Ann D :=
  inferLoop D prog rounds ((List.replicate prog.length none).set 0 (some D.entry))

theorem check_len {D : Dom} {prog : Prog} {ann : Ann D} (h : check D prog ann = true) :
    ann.length = prog.length := by
  simp [check] at h
  exact h.1.1

theorem check_entry {D : Dom} {prog : Prog} {ann : Ann D} (h : check D prog ann = true) :
    ∃ a, D.at ann 0 = some a ∧ D.le D.entry a = true := by
  simp [check] at h
  obtain ⟨⟨_, h2⟩, _⟩ := h
  split at h2
  · exact ⟨_, by assumption, h2⟩
  · simp at h2

theorem checkEdge_some {D : Dom} {ann : Ann D} {x : D.F} {succ : Nat} (h : checkEdge D ann (some x) succ = true) :
    ∃ b, D.at ann succ = some b ∧ D.le x b = true := by
  unfold checkEdge at h
  cases hb : D.at ann succ with
  | none => rw [hb] at h; cases h
  | some b => rw [hb] at h; exact ⟨b, rfl, h⟩

theorem check_step {D : Dom} {prog : Prog} {ann : Ann D} (h : check D prog ann = true)
    {pc : Nat} {i : Instr} {a : D.F} (hi : instrAt prog pc = some i) (ha : D.at ann pc = some a) :
    D.req i.cmd a = true ∧
    ∀ ok x, D.tf i.cmd a ok = some x → ∃ b, D.at ann (if ok then i.ok else i.fail) = some b ∧ D.le x b = true := by
  simp only [check, Bool.and_eq_true, List.all_eq_true, List.mem_range] at h
  have hc := h.2 pc (List.getElem?_eq_some_iff.mp hi).1
  rw [show prog[pc]? = some i from hi] at hc
  simp only [checkAt, ha, Bool.and_eq_true] at hc
  obtain ⟨⟨⟨⟨h1, _⟩, _⟩, h4⟩, h5⟩ := hc
  refine ⟨h1, fun ok x hx => ?_⟩
  cases ok
  · exact checkEdge_some (hx ▸ h5)
  · exact checkEdge_some (hx ▸ h4)

theorem at_some_lt {D : Dom} {ann : Ann D} {pc : Nat} {a : D.F} (h : D.at ann pc = some a) :
    pc < ann.length := by
  rcases Nat.lt_or_ge pc ann.length with h1 | h1
  · exact h1
  · simp [Dom.at, List.getD, List.getElem?_eq_none h1] at h

theorem check_lt {D : Dom} {prog : Prog} {ann : Ann D} (h : check D prog ann = true) {pc : Nat} {a : D.F}
    (ha : D.at ann pc = some a) : pc < prog.length := by
  rw [← check_len h]; exact at_some_lt ha

theorem check_instr {D : Dom} {prog : Prog} {ann : Ann D} (h : check D prog ann = true) {pc : Nat} {a : D.F}
    (ha : D.at ann pc = some a) : ∃ i, instrAt prog pc = some i :=
  ⟨prog[pc]'(check_lt h ha), List.getElem?_eq_getElem _⟩

theorem bit_of_le {x y : Bool} (h : (!y || x) = true) (hy : y = true) : x = true := by
  subst hy; exact h

end NA.C19
