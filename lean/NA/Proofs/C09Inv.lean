import NA.Spec.SessFault
import NA.Core.SimpSets
/-!
# C09: the trace predicates (`safe`, `faulted`) and the invariant

`J bad s`: no change command or save follows a bad reply in `s.tr`; a state that still runs
normally has seen no bad reply; a function returns after a bad reply only with an error.
The equations of `exec` with which a lemma runs its fragment of a program: the simp set `sess_run`.
-/
namespace NA.C09
open NA.Sess NA.Apply NA.Spec.C09

/-- A decidable statement about all backends can be checked in one evaluation; a `cases` would
evaluate five times what the five programs have in common. -/
theorem forall_backend {P : Backend → Prop} (h : ∀ b ∈ [Backend.asa, .ios, .linux, .panos, .nsx], P b)
    (b : Backend) : P b := h b (by cases b <;> decide)

variable (bad : Role → Reply → Bool)

theorem faulted_append (a b : List Ev) : faulted bad (a ++ b) = (faulted bad a || faulted bad b) := by
  simp [faulted, List.any_append]

theorem safeFrom_append (f : Bool) (a b : List Ev) :
    safeFrom bad f (a ++ b) = (safeFrom bad f a && safeFrom bad (f || faulted bad a) b) := by
  induction a generalizing f with
  | nil => simp [safeFrom, faulted]
  | cons e t ih =>
    simp only [List.cons_append, safeFrom, ih, faulted, List.any_cons, Bool.and_assoc, Bool.or_assoc]

theorem safe_append (a b : List Ev) :
    safe bad (a ++ b) = (safe bad a && safeFrom bad (faulted bad a) b) := by
  simp [safe, safeFrom_append]

theorem safeFrom_quiet (f : Bool) (l : List Ev) (h : ∀ e ∈ l, isChangeOrSave e = false) :
    safeFrom bad f l = true := by
  induction l generalizing f with
  | nil => rfl
  | cons e t ih =>
    simp only [safeFrom, h e (by simp), Bool.and_false, Bool.not_false, Bool.true_and]
    exact ih _ (fun x hx => h x (by simp [hx]))

theorem safe_append_quiet (a l : List Ev) (h : ∀ e ∈ l, isChangeOrSave e = false) :
    safe bad (a ++ l) = safe bad a := by
  rw [safe_append, safeFrom_quiet bad _ l h, Bool.and_true]

theorem safe_snoc_quiet (a : List Ev) (e : Ev) (ha : safe bad a = true) (he : isChangeOrSave e = false) :
    safe bad (a ++ [e]) = true :=
  (safe_append_quiet bad a [e] (by simpa using he)).trans ha

theorem safeFrom_false_of_not_faulted (l : List Ev) (h : faulted bad l = false) :
    safeFrom bad false l = true := by
  induction l with
  | nil => rfl
  | cons e t ih =>
    simp only [faulted, List.any_cons, Bool.or_eq_false_iff] at h
    simp only [safeFrom, Bool.false_and, Bool.not_false, Bool.true_and, Bool.false_or, h.1]
    exact ih h.2

theorem safe_append_of_not_faulted (a l : List Ev) (ha : safe bad a = true) (hf : faulted bad a = false)
    (hl : faulted bad l = false) : safe bad (a ++ l) = true := by
  rw [safe_append, ha, hf, safeFrom_false_of_not_faulted bad l hl]; rfl

theorem safe_snoc_of_not_faulted (a : List Ev) (e : Ev) (ha : safe bad a = true) (hf : faulted bad a = false) :
    safe bad (a ++ [e]) = true := by
  rw [safe_append, ha, hf]; simp [safeFrom]

theorem safeFrom_true (l : List Ev) : safeFrom bad true l = true ↔ ∀ e ∈ l, isChangeOrSave e = false := by
  induction l with
  | nil => simp [safeFrom]
  | cons y ys ih => simp [safeFrom, ih]

theorem safeFrom_true_iff (l : List Ev) :
    safeFrom bad false l = true ↔
      ∀ pre post ρ r, l = pre ++ Ev.got ρ r :: post → bad ρ r = true → ∀ e ∈ post, isChangeOrSave e = false := by
  induction l with
  | nil => simp [safeFrom]
  | cons e t ih =>
    simp only [safeFrom, Bool.false_and, Bool.not_false, Bool.true_and, Bool.false_or]
    constructor
    · intro h pre post ρ r hsplit hbad
      cases pre with
      | nil =>
        obtain ⟨rfl, rfl⟩ := List.cons.inj hsplit
        rw [isBadGot, hbad] at h
        exact (safeFrom_true bad _).mp h
      | cons p ps =>
        obtain ⟨rfl, rfl⟩ := List.cons.inj hsplit
        cases hb : isBadGot bad e with
        | false => rw [hb] at h; exact (ih.mp h) ps post ρ r rfl hbad
        | true =>
          -- an earlier bad reply: nothing at all after it changes the device
          rw [hb] at h
          exact fun x hx => (safeFrom_true bad _).mp h x (by simp [hx])
    · intro h
      cases hb : isBadGot bad e with
      | false => exact ih.mpr fun pre post ρ r hs => h (e :: pre) post ρ r (by simp [hs])
      | true =>
        cases e with
        | got ρ r => exact (safeFrom_true bad _).mpr (h [] t ρ r rfl hb)
        | _ => simp [isBadGot] at hb

theorem safe_iff_noChangeAfterFault (tr : List Ev) :
    safe bad tr = true ↔ NoChangeAfterFault bad tr := by
  unfold safe NoChangeAfterFault
  exact safeFrom_true_iff bad tr


attribute [sess_run] exec evalCond

section eqs
variable (env : Env) (s : St)
theorem exec_seq (a b : Sess) : exec (a ;; b) env s = exec b env (exec a env s) := by simp [exec]
theorem exec_skip : exec .skip env s = s := by simp [exec]
theorem exec_call (n : String) (l : List String) (body : Sess) (hm : s.mode = .run) :
    exec (.call n l body) env s =
      (if (exec body env s).mode = .ret then { exec body env s with mode := .run } else exec body env s) := by
  simp [exec, hm]
theorem exec_ite (c : Cond) (l : String) (t e : Sess) (hm : s.mode = .run) :
    exec (.ite c l t e) env s = (if evalCond c env s then exec t env s else exec e env s) := by
  simp [exec, hm]
theorem exec_ret (v : RetV) (l : List String) (hm : s.mode = .run) :
    exec (.ret v l) env s = { s with mode := .ret, errv := match v with | .none => s.errv | .nil => false | .err => true | .keep => s.errv } := by
  cases v <;> simp [exec, hm]
theorem exec_abort (l : List String) (hm : s.mode = .run) :
    exec (.abort l) env s = { s with tr := s.tr ++ [.logErr], mode := .panic } := by simp [exec, hm]
@[sess_run] theorem exec_op (n : String) (l : List String) : exec (op n l) env s = s := by
  by_cases hm : s.mode = .run
  · simp [op, exec, hm]
  · exact exec_nonrun _ _ _ hm
/-- `parseResponse`, `xml.Unmarshal`, `json.Unmarshal`: the error value says whether the last reply decodes -/
@[sess_run] theorem exec_panosParseResponse :
    exec panosParseResponse env s = if s.mode = .run then { s with errv := !s.last.parses } else s := by
  by_cases hm : s.mode = .run <;> cases hp : s.last.parses <;> simp [panosParseResponse, exec, evalCond, hm, hp]
@[sess_run] theorem exec_jsonUnmarshal :
    exec jsonUnmarshal env s = if s.mode = .run then { s with errv := !s.last.parses } else s := by
  by_cases hm : s.mode = .run <;> cases hp : s.last.parses <;> simp [jsonUnmarshal, exec, evalCond, hm, hp]
@[sess_run] theorem exec_xmlUnmarshal :
    exec xmlUnmarshal env s = if s.mode = .run then { s with errv := !decide (Flag.wellFormed ∈ s.last.flags) } else s := by
  by_cases hm : s.mode = .run <;> by_cases hw : Flag.wellFormed ∈ s.last.flags <;> simp [xmlUnmarshal, exec, evalCond, hm, hw]
theorem exec_scope (c : String) (body : Sess) : exec (.scope c body) env s = exec body env s := by simp [exec]
theorem exec_loopN (n : Nat) (b : Sess) : exec (.loopN n b) env s = iter n (exec b env) s := by simp [exec]
theorem exec_recv (ρ : Role) (p : Pat) (hm : s.mode = .run) :
    exec (.recv ρ p) env s = recvLoop env.dev ρ p (linesSent s.tr + 1 - repliesRead s.tr) s := by
  simp only [exec, hm, if_true]

theorem St.mode_eta (s : St) {m : Mode} (h : s.mode = m) : { s with mode := m } = s := by subst h; rfl

/-- a function whose body runs through to a `return` that leaves the error value alone gives back
the state `s1` in front of the `return` -/
theorem exec_call_returns (n : String) (l : List String) (body : Sess) (hm : s.mode = .run)
    (s1 : St) (h1 : s1.mode = .run) (v : RetV) (lits : List String) (hv : v = .none ∨ v = .keep)
    (hb : exec body env s = exec (.ret v lits) env s1) : exec (.call n l body) env s = s1 := by
  rw [exec_call _ _ _ _ _ hm, hb, exec_ret _ _ _ _ h1]
  rcases hv with rfl | rfl <;> exact St.mode_eta _ h1

theorem exec_call_of_ne_ret (n : String) (l : List String) (b : Sess) (hm : s.mode = .run)
    (h1 : (exec b env s).mode ≠ .ret) : exec (.call n l b) env s = exec b env s := by
  rw [exec_call _ _ _ _ _ hm, if_neg h1]

theorem exec_call_panic (n : String) (l : List String) (b rest : Sess) (hm : s.mode = .run)
    (hp : (exec b env s).mode = .panic) : exec (.call n l (b ;; rest)) env s = exec b env s := by
  have hb : exec (b ;; rest) env s = exec b env s := by rw [exec_seq, exec_nonrun _ _ _ (by rw [hp]; decide)]
  rw [exec_call_of_ne_ret _ _ _ _ _ hm (by rw [hb, hp]; decide), hb]

theorem recvLoop_mode (dev : Dev) (ρ : Role) (p : Pat) : ∀ (n : Nat) (s : St), (recvLoop dev ρ p n s).mode = s.mode := by
  intro n
  induction n with
  | zero => intro s; rfl
  | succ n ih =>
    intro s
    simp only [recvLoop]
    split
    · rfl
    · split
      · rw [ih]
      · rfl

theorem exec_recv_mode (ρ : Role) (p : Pat) (hm : s.mode = .run) : (exec (.recv ρ p) env s).mode = .run := by
  rw [exec_recv _ _ _ _ hm, recvLoop_mode, hm]

theorem exec_roundTrip_mode (ρ : Role) (t : Txt) (r : Bool) (hm : s.mode = .run) :
    (exec (.roundTrip ρ t r) env s).mode = .run := by
  simp only [sess_run, if_pos hm]; split <;> simp [recvLoop_mode, hm]
end eqs


structure J (s : St) : Prop where
  safe : safe bad s.tr = true
  run : s.mode = .run → faulted bad s.tr = false
  cont : s.mode = .cont → faulted bad s.tr = false
  ret : s.mode = .ret → faulted bad s.tr = true → s.errv = true

/-- the same, but an error value may be pending in a state that runs -/
structure Je (s : St) : Prop where
  safe : safe bad s.tr = true
  run : s.mode = .run → faulted bad s.tr = true → s.errv = true
  cont : s.mode = .cont → faulted bad s.tr = false
  ret : s.mode = .ret → faulted bad s.tr = true → s.errv = true

/-- the same, but the function never returns normally after a bad reply -/
structure Jv (s : St) : Prop where
  safe : safe bad s.tr = true
  run : s.mode = .run → faulted bad s.tr = false
  cont : s.mode = .cont → faulted bad s.tr = false
  ret : s.mode = .ret → faulted bad s.tr = false

theorem Jv.toJ {s : St} (h : Jv bad s) : J bad s :=
  ⟨h.safe, h.run, h.cont, fun hm hf => by rw [h.ret hm] at hf; exact absurd hf (by decide)⟩

theorem faulted_snoc (a : List Ev) (e : Ev) : faulted bad (a ++ [e]) = (faulted bad a || isBadGot bad e) := by
  simp [faulted, List.any_append]

theorem clean_append {tr l : List Ev} (hs : safe bad tr = true) (hf : faulted bad tr = false)
    (hl : faulted bad l = false) : safe bad (tr ++ l) = true ∧ faulted bad (tr ++ l) = false :=
  ⟨safe_append_of_not_faulted bad tr l hs hf hl, by rw [faulted_append, hf, hl]; rfl⟩

theorem clean_snoc {tr : List Ev} (e : Ev) (hs : safe bad tr = true) (hf : faulted bad tr = false)
    (he : isBadGot bad e = false) : safe bad (tr ++ [e]) = true ∧ faulted bad (tr ++ [e]) = false :=
  clean_append bad hs hf (by simp [faulted, he])

theorem jv_of_clean {s' : St} (h : safe bad s'.tr = true ∧ faulted bad s'.tr = false) : Jv bad s' :=
  ⟨h.1, fun _ => h.2, fun _ => h.2, fun _ => h.2⟩

def PresV (p : Sess) : Prop := ∀ env s, J bad s → s.mode = .run → Jv bad (exec p env s)
/-- `p` may leave an error pending -/
def PresE (p : Sess) : Prop := ∀ env s, J bad s → s.mode = .run → Je bad (exec p env s)
theorem j_clean {s : St} (hj : J bad s) (hm : s.mode = .run) : safe bad s.tr = true ∧ faulted bad s.tr = false :=
  ⟨hj.safe, hj.run hm⟩

theorem presV_of_tr {p : Sess} (h : ∀ env s, s.mode = .run → (exec p env s).tr = s.tr) : PresV bad p :=
  fun env s hj hm => jv_of_clean bad (by rw [h env s hm]; exact j_clean bad hj hm)

/-- anything may be put on the wire or into the log while no bad reply has been seen -/
theorem presV_of_snoc {p : Sess} (e : Env → Ev) (he : ∀ env, isBadGot bad (e env) = false)
    (h : ∀ env s, s.mode = .run → (exec p env s).tr = s.tr ++ [e env]) : PresV bad p :=
  fun env s hj hm => jv_of_clean bad (by
    rw [h env s hm]; exact clean_snoc bad _ hj.safe (hj.run hm) (he env))

theorem presV_skip : PresV bad .skip := presV_of_tr bad fun _ _ _ => by simp [exec]
theorem presV_ret (v : RetV) (l : List String) : PresV bad (.ret v l) := presV_of_tr bad fun _ _ hm => by simp [exec, hm]
theorem presV_send (ρ : Role) (t : Txt) : PresV bad (.send ρ t) :=
  presV_of_snoc bad (fun env => .sent ρ (t.lines env)) (fun _ => rfl) fun _ _ hm => by simp [exec, hm]
theorem presV_abort (l : List String) : PresV bad (.abort l) :=
  presV_of_snoc bad (fun _ => .logErr) (fun _ => rfl) fun _ _ hm => by simp [exec, hm]

theorem presV_seq {a b : Sess} (ha : PresV bad a) (hb : PresV bad b) : PresV bad (a ;; b) := fun env s hj hm => by
  simp only [exec]
  have h1 := ha env s hj hm
  by_cases hm1 : (exec a env s).mode = .run
  · exact hb env _ h1.toJ hm1
  · rw [exec_nonrun b env _ hm1]; exact h1

theorem presV_ite {c : Cond} {l : String} {t e : Sess} (ht : PresV bad t) (he : PresV bad e) :
    PresV bad (.ite c l t e) := fun env s hj hm => by
  simp only [exec, hm, if_true]
  split
  · exact ht env s hj hm
  · exact he env s hj hm

theorem presV_call {n : String} {l : List String} {body : Sess} (hb : PresV bad body) :
    PresV bad (.call n l body) := fun env s hj hm => by
  have h1 := hb env s hj hm
  simp only [exec, hm, if_true]
  split
  · rename_i hr
    exact ⟨h1.safe, fun _ => h1.ret hr, nofun, nofun⟩
  · exact h1

theorem presV_op (n : String) (l : List String) : PresV bad (op n l) := presV_call bad (presV_skip bad)

theorem each_nonrun (f : List String → St → St) (hf : ∀ pk s, s.mode ≠ .run → f pk s = s)
    (l : List (List String)) (s : St) (h : s.mode ≠ .run) : each f l s = s := by
  induction l generalizing s with
  | nil => rfl
  | cons pk rest ih => simp only [each]; rw [hf pk s h]; exact ih s h

end NA.C09
