import NA.Proofs.C05Map
/-!
C05, iptables: `diffIPTables` reports nothing iff the two rule sets are extensionally equal (`TablesEq`), when no table and no
chain has the empty name (`NETables`).
-/
namespace NA.C05
open NA.Linux

theorem commaJoin_nil_iff (l : List Str) (h : [] ∉ l) : (commaJoin l).isEmpty = true ↔ l = [] := by
  constructor
  · intro he
    cases l with
    | nil => rfl
    | cons x xs =>
      cases x with
      | nil => exact absurd List.mem_cons_self h
      | cons c cs => cases xs <;> simp [commaJoin, joinWith] at he
  · rintro rfl; rfl

/-- `checkExtra` finds nothing iff both maps have the same keys — provided no key is the empty
string (the code tests the comma-joined names for emptiness). -/
theorem checkExtra_none {α β : Type} (a : List (Str × α)) (b : List (Str × β))
    (hna : [] ∉ keysA a) (hnb : [] ∉ keysA b) :
    checkExtra a b = none ↔ ∀ k, hasA k a = hasA k b := by
  have hx : ∀ {γ δ : Type} (x : List (Str × γ)) (y : List (Str × δ)), [] ∉ keysA x →
      ((commaJoin (getExtra x y)).isEmpty = true ↔ ∀ k, hasA k x = true → hasA k y = true) := by
    intro γ δ x y hnx
    rw [commaJoin_nil_iff (getExtra x y) fun hm => hnx ((mem_sortStrs _ _).mp (List.mem_filter.mp hm).1)]
    simp only [getExtra, List.filter_eq_nil_iff, mem_sortStrs, mem_keysA, Bool.not_eq_true, Bool.not_eq_false']
  unfold checkExtra
  constructor
  · intro h
    have h' : (commaJoin (getExtra a b)).isEmpty = true ∧ (commaJoin (getExtra b a)).isEmpty = true := by
      simpa using h
    exact fun k => Bool.eq_iff_iff.mpr ⟨(hx a b hna).mp h'.1 k, (hx b a hnb).mp h'.2 k⟩
  · intro h
    simp [(hx a b hna).mpr fun k hk => h k ▸ hk, (hx b a hnb).mpr fun k hk => h k ▸ hk]

/-- No key is the empty string, at any level of a rule set. -/
def NEPairs (p : Pairs) : Prop := [] ∉ keysA p
def NERules (l : List Rule) : Prop := ∀ r ∈ l, NEPairs r.pairs
def NEChains (cm : Chains) : Prop := [] ∉ keysA cm ∧ ∀ c ch, getA c cm = some ch → NERules ch.rules
def NETables (tb : Tables) : Prop := [] ∉ keysA tb ∧ ∀ t cm, getA t tb = some cm → NEChains cm

def PairsEq (p q : Pairs) : Prop := ∀ k, getA k p = getA k q

def RulesEq : List Rule → List Rule → Prop
  | [], [] => True
  | a :: as, b :: bs => PairsEq a.pairs b.pairs ∧ RulesEq as bs
  | _, _ => False

def ChainEq (a b : Chain) : Prop := a.policy = b.policy ∧ RulesEq a.rules b.rules

def ChainsEq (a b : Chains) : Prop := ∀ c,
  match getA c a, getA c b with
  | none, none => True
  | some x, some y => ChainEq x y
  | _, _ => False

def TablesEq (a b : Tables) : Prop := ∀ t,
  match getA t a, getA t b with
  | none, none => True
  | some x, some y => ChainsEq x y
  | _, _ => False

theorem firstDiff_same {α : Type} (f : α → IptDiff) (l : List α) :
    firstDiff f l = .same ↔ ∀ x ∈ l, f x = .same := by
  induction l with
  | nil => simp [firstDiff]
  | cons x xs ih =>
    simp only [firstDiff, List.mem_cons, forall_eq_or_imp]
    cases h : f x <;> simp [ih]

/-- One level of the compare (the tables of a rule set, the chains of a table, the options of a rule): the key
sets are compared, then (`g`) the entries key by key.  Nothing is reported iff both maps have the same keys and,
under each key, entries on which the next level reports nothing (`P`). -/
theorem level_same {α : Type} [Inhabited α] (P : Str → α → α → Prop) (mk : List Str → List Str → IptDiff)
    (hmk : ∀ x y, mk x y ≠ .same) (a b : List (Str × α)) (hna : [] ∉ keysA a) (hnb : [] ∉ keysA b) (g : IptDiff)
    (hg : g = .same ↔ ∀ k, hasA k a = true → P k ((getA k a).getD default) ((getA k b).getD default)) :
    (match checkExtra a b with
      | some (ae, be) => mk ae be
      | none => g) = .same ↔
    ∀ k, (getA k a = none ∧ getA k b = none) ∨ ∃ x y, getA k a = some x ∧ getA k b = some y ∧ P k x y := by
  cases hce : checkExtra a b with
  | some x =>
    simp only [hmk, false_iff]
    intro heq
    have := (checkExtra_none a b hna hnb).mpr fun k => by
      rcases heq k with ⟨h1, h2⟩ | ⟨x, y, h1, h2, -⟩ <;> simp [hasA, h1, h2]
    rw [hce] at this; cases this
  | none =>
    have hk := (checkExtra_none a b hna hnb).mp hce
    simp only [hg]
    constructor
    · intro h k
      cases ha : getA k a with
      | none =>
        have : hasA k b = false := by rw [← hk k]; simp [hasA, ha]
        exact Or.inl ⟨rfl, by simpa [hasA] using this⟩
      | some x =>
        have hka := hasA_of_getA ha
        obtain ⟨y, hy⟩ := (hasA_iff k b).mp (by rw [← hk k]; exact hka)
        exact Or.inr ⟨x, y, rfl, hy, by simpa [ha, hy] using h k hka⟩
    · intro h k hc
      obtain ⟨x, hx⟩ := (hasA_iff k a).mp hc
      rcases h k with ⟨h1, -⟩ | ⟨x, y, h1, h2, hr⟩
      · rw [h1] at hx; cases hx
      · rw [h1, h2]; exact hr

theorem diffRule_same (t c : Str) (i : Nat) (a b : Pairs) (hna : NEPairs a) (hnb : NEPairs b) :
    diffRule t c i a b = .same ↔ PairsEq a b := by
  refine (level_same (fun _ v v2 => v2 = v) (.options t c i) (fun _ _ => nofun) a b hna hnb _ ?_).trans
    (forall_congr' fun k => by cases getA k a <;> cases getA k b <;> simp [eq_comm])
  -- no candidate: the values agree under every key of `a`
  simp only [← mem_keysA, ← mem_sortStrs _ (keysA a)]
  split
  · rename_i hemp
    simp only [true_iff]
    intro k hk
    have := List.filterMap_eq_nil_iff.mp (List.isEmpty_iff.mp hemp) k hk
    exact (by simpa using this : (getA k b).getD [] = (getA k a).getD [])
  · rename_i hne
    simp only [reduceCtorEq, false_iff]
    intro h
    exact hne (List.isEmpty_iff.mpr (List.filterMap_eq_nil_iff.mpr fun k hk => by
      simp [show (getA k b).getD [] = (getA k a).getD [] from h k hk]))

theorem diffRules_same (t c : Str) : ∀ (i : Nat) (as bs : List Rule), as.length = bs.length →
    NERules as → NERules bs → (diffRules t c i as bs = .same ↔ RulesEq as bs) := by
  intro i as
  induction as generalizing i with
  | nil => intro bs h _ _; cases bs <;> simp_all [diffRules, RulesEq]
  | cons a as ih =>
    intro bs h hna hnb
    cases bs with
    | nil => simp at h
    | cons b bs =>
      simp only [List.length_cons, Nat.add_right_cancel_iff] at h
      simp only [diffRules, RulesEq]
      obtain ⟨ha, has⟩ := List.forall_mem_cons.1 hna
      obtain ⟨hb, hbs⟩ := List.forall_mem_cons.1 hnb
      rw [← diffRule_same t c i a.pairs b.pairs ha hb, ← ih (i + 1) bs h has hbs]
      cases hd : diffRule t c i a.pairs b.pairs <;> simp

theorem RulesEq_length : ∀ (as bs : List Rule), RulesEq as bs → as.length = bs.length := by
  intro as
  induction as with
  | nil => intro bs h; cases bs <;> simp_all [RulesEq]
  | cons a as ih =>
    intro bs h
    cases bs with
    | nil => simp [RulesEq] at h
    | cons b bs => simp [ih bs h.2]

theorem diffChain_same (t c : Str) (a b : Chain) (hna : NERules a.rules) (hnb : NERules b.rules) :
    diffChain t c a b = .same ↔ ChainEq a b := by
  unfold diffChain ChainEq
  by_cases hp : a.policy = b.policy
  · by_cases hl : a.rules.length = b.rules.length
    · simp [hp, hl, diffRules_same t c 0 _ _ hl hna hnb]
    · simp only [hp, ne_eq, not_true_eq_false, ↓reduceIte, hl, not_false_eq_true, reduceCtorEq, true_and, false_iff]
      intro h; exact hl (RulesEq_length _ _ h)
  · simp [hp]

theorem diffTable_same (t : Str) (a b : Chains) (hna : NEChains a) (hnb : NEChains b) :
    diffTable t a b = .same ↔ ChainsEq a b :=
  (level_same (fun c x y => diffChain t c x y = .same) (.chains t) (fun _ _ => nofun) a b hna.1 hnb.1 _
    (by simp only [firstDiff_same, mem_sortStrs, mem_keysA])).trans
    (forall_congr' fun c => by
      cases ha : getA c a <;> cases hb : getA c b <;> simp
      exact diffChain_same t c _ _ (hna.2 c _ ha) (hnb.2 c _ hb))

theorem diffIPTables_same (a b : Tables) (hna : NETables a) (hnb : NETables b) :
    diffIPTables a b = .same ↔ TablesEq a b :=
  (level_same (fun t x y => diffTable t x y = .same) .tables (fun _ _ => nofun) a b hna.1 hnb.1 _
    (by simp only [firstDiff_same, mem_sortStrs, mem_keysA]; exact Iff.rfl)).trans
    (forall_congr' fun t => by
      cases ha : getA t a <;> cases hb : getA t b <;> simp
      exact diffTable_same t _ _ (hna.2 t _ ha) (hnb.2 t _ hb))

end NA.C05
