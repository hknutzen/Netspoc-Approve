import NA.Proofs.F1Full
import NA.Proofs.F1Check
/-!
# F1: transfer of a whole access list (`addCmds(bl)`) on the strict device
-/
namespace NA.F1
open NA.AsaDev
open NA.Acl (Range)

/-- The transfer of access list `X` stands behind the lines `done`: they are the lines of `X` on the device, printed with the
names of `st0`, and their groups are `ready`. -/
structure Xfer (e : Env) (st0 : St) (X : Name) (done : List Line) (s : St) (d : Dev) : Prop where
  sem : Sem e s d
  gName : s.gName = st0.gName
  lines : linesOf d X = done.map (resolveB st0)
  keys : (d.acls.map (·.1)).Nodup
  ready : ∀ l ∈ done, ∀ g ∈ l.refs, g ∈ s.gReady

theorem transferLine_step (e : Env) (hw : WF e) {st0 : St} {X : Name} {done : List Line} {s : St} {ds : Dev} (l : Line)
    (h : Xfer e st0 X done s ds) (hb : ∀ g ∈ l.refs, g ∈ BNames e)
    (hdup : (linesOf ds X).any (fun x => x.mkey == (resolveB st0 l).mkey) = false)
    {s' : St} (hs' : emitLine e s (Chg.acl X none) l = s') :
    ∃ d', StepX e s ds s' d' X ∧ Xfer e st0 X (done ++ [l]) s' d' ∧ hasAcl d' X = true ∧
      SameAclMarks s s' ∧ d'.binds = ds.binds ∧ d'.routes = ds.routes := by
  have hmarks := emitLine_aclMarks e s (Chg.acl X none) l
  subst hs'
  unfold emitLine at hmarks ⊢
  simp only [] at hmarks ⊢
  obtain ⟨d1, g1, r1, n1, m1⟩ := transferRefs_gstep e hw l.refs s ds h.sem hb
  have hm1 : SameAclMarks s (l.refs.foldl (transferGroup e) s) :=
    SameAclMarks.foldl _ _ s (fun s' g => transferGroup_aclMarks e s' g)
  generalize l.refs.foldl (transferGroup e) s = s1 at g1 r1 n1 m1 hm1 hmarks ⊢
  have hres : resolveB s1 l = resolveB st0 l := resolveB_congr (n1.trans h.gName) l
  rw [hres] at hmarks ⊢
  have hgroups : ∀ g ∈ (resolveB st0 l).names, hasGroup d1 g = true := by
    intro g hg
    rw [← hres] at hg
    simp only [resolveB, List.mem_map] at hg
    obtain ⟨r, hr, rfl⟩ := hg
    exact (g1.sem.ready r (r1 r hr)).1
  have hl1 : linesOf d1 X = linesOf ds X := g1.lines X
  have hex := exec1_aclAppend d1 X (resolveB st0 l) hgroups (by rw [hl1]; exact hdup)
  generalize hd2 : ({ d1 with acls := setAssoc d1.acls X (linesOf d1 X ++ [resolveB st0 l]), mode := none } : Dev) = d2 at hex
  have hgr2 : d2.groups = d1.groups := by rw [← hd2]
  have hsem2 : Sem e { (s1.emit (Chg.acl X none (resolveB st0 l))) with mode := "" } d2 :=
    g1.sem.transport hgr2 (by unfold ModeRel; rw [← hd2]; rfl) rfl rfl rfl
  have hlines2 : ∀ n, n ≠ X → linesOf d2 n = linesOf d1 n := fun n hn => by
    rw [← hd2]; exact linesOf_setAcl_ne d1 X n _ _ hn
  have hhas2 : ∀ n, hasAcl d2 n = (X == n || hasAcl d1 n) := fun n => by rw [← hd2]; exact hasAcl_setAcl d1 X n _ _
  refine ⟨d2, ?_, ⟨hsem2, n1.trans h.gName, ?_, ?_, ?_⟩, ?_, hmarks, ?_, ?_⟩
  · refine StepX.trans (g1.toStepX hm1.aNeeded hm1.aReady hm1.aName X) ?_
    refine ⟨⟨[_], rfl, exec_single hex⟩, ?_, fun x hx => hx, ?_, fun x hx => hx, fun bN hb' => ⟨hb', rfl⟩, by rw [← hd2]⟩
    · intro x hx _
      exact ⟨by unfold hasGroup; rw [hgr2]; exact hx, by unfold membersOf; rw [hgr2]⟩
    · intro n hn
      refine ⟨?_, hlines2 n hn⟩
      have : (X == n) = false := by rw [beq_eq_false_iff_ne]; exact fun e1 => hn e1.symm
      rw [hhas2, this, Bool.false_or]
  · rw [← hd2, linesOf_setAcl_self, hl1, h.lines, List.map_append]; rfl
  · rw [← hd2]
    exact nodup_keys_setAssoc d1.acls X _ (by rw [g1.acls]; exact h.keys)
  · intro x hx g hg
    rcases List.mem_append.mp hx with hx | hx
    · exact m1 g (h.ready x hx g hg)
    · rw [List.mem_singleton] at hx; subst hx; exact r1 g hg
  · rw [hhas2, name_beq_self, Bool.true_or]
  · rw [← hd2]; exact g1.binds
  · rw [← hd2]; exact g1.routes

theorem transferLines_step (e : Env) (hw : WF e) {st0 : St} {X : Name} : ∀ (ls : List Line) {s : St} {ds : Dev} {done : List Line},
    Xfer e st0 X done s ds → (∀ l ∈ ls, ∀ g ∈ l.refs, g ∈ BNames e) →
    ((done ++ ls).map fun l => (resolveB st0 l).mkey).Nodup →
    ∀ {s' : St}, ls.foldl (fun st l => emitLine e st (Chg.acl X none) l) s = s' →
    ∃ d', StepX e s ds s' d' X ∧ Xfer e st0 X (done ++ ls) s' d' ∧ (hasAcl ds X = true ∨ ls ≠ [] → hasAcl d' X = true) ∧
      SameAclMarks s s' ∧ d'.binds = ds.binds ∧ d'.routes = ds.routes := by
  intro ls
  induction ls with
  | nil =>
    intro s ds done h _ _ s' hs'
    subst hs'
    exact ⟨ds, StepX.refl e s ds X, by rw [List.append_nil]; exact h, fun hx => hx.elim id (fun h' => absurd rfl h'),
      SameAclMarks.refl s, rfl, rfl⟩
  | cons l ls ih =>
    intro s ds done h hb hnd s' hs'
    have hdup : (linesOf ds X).any (fun x => x.mkey == (resolveB st0 l).mkey) = false := by
      rw [h.lines, List.any_map]
      cases hh : done.any ((fun x => x.mkey == (resolveB st0 l).mkey) ∘ resolveB st0) with
      | false => rfl
      | true =>
        exfalso
        obtain ⟨x, hx, hxe⟩ := List.any_eq_true.mp hh
        simp only [Function.comp, beq_iff_eq] at hxe
        rw [List.map_append, List.nodup_append] at hnd
        exact hnd.2.2 _ (List.mem_map.mpr ⟨x, hx, rfl⟩) _ (List.mem_map.mpr ⟨l, List.mem_cons_self, rfl⟩) hxe
    obtain ⟨d1, s1, x1, a1, am1, b1, ro1⟩ := transferLine_step e hw l h (hb l List.mem_cons_self) hdup rfl
    obtain ⟨d2, s2, x2, a2, am2, b2, ro2⟩ := ih x1 (fun x hx => hb x (List.mem_cons_of_mem _ hx))
      (by rw [List.append_assoc]; exact hnd) hs'
    exact ⟨d2, s1.trans s2, by rw [List.append_assoc] at x2; exact x2, fun _ => a2 (Or.inl a1),
      am1.trans am2, b2.trans b1, ro2.trans ro1⟩

theorem transferFold_congr (e : Env) (bN X : Name) : ∀ (ls : List Line) (s : St), s.aNameOf bN = X →
    ls.foldl (fun st l => emitLine e st (Chg.acl (st.aNameOf bN) none) l) s =
      ls.foldl (fun st l => emitLine e st (Chg.acl X none) l) s := by
  intro ls
  induction ls with
  | nil => intro s _; rfl
  | cons l ls ih =>
    intro s hs
    simp only [List.foldl_cons, hs]
    apply ih
    have := (emitLine_aclMarks e s (Chg.acl X none) l).aName
    simp [St.aNameOf, this] at hs ⊢
    exact hs

theorem transferAcl_full (e : Env) (hw : WF e) (hB : RefsClosedB e) (st : St) (d : Dev) (hF : Full e st d) (bN : Name)
    (hbN : bN ∈ BAcls e) (hc : transferCheck e st bN = true) :
    ∃ d', Step e st d (transferAcl e st bN) d' ∧ Full e (transferAcl e st bN) d' ∧
      bN ∈ (transferAcl e st bN).aReady ∧ d'.binds = d.binds ∧ d'.routes = d.routes ∧
      (transferAcl e st bN).aNeeded = st.aNeeded ∧ (transferAcl e st bN).bNeeded = st.bNeeded := by
  unfold transferAcl
  by_cases hr : st.aReady.contains bN = true
  · simp only [hr, if_true]
    exact ⟨d, Step.refl e st d, hF, by simpa using hr, rfl, rfl, trivial, trivial⟩
  · have hr' : bN ∉ st.aReady := by simpa using hr
    simp only [hr, Bool.false_eq_true, if_false]
    unfold transferCheck at hc
    simp only [hr, Bool.false_or, Bool.and_eq_true, Bool.not_eq_true', decide_eq_true_eq] at hc
    obtain ⟨hne, hnd⟩ := hc
    obtain ⟨hname, hno⟩ := hF.unready bN hbN hr'
    generalize hX : genName bN (A0 e) = X at hname hno
    have hXA : X ∉ A0 e := hX ▸ genName_fresh bN (A0 e)
    -- the state after marking the ACL ready
    have s0 : StepX e st d ({ st with aReady := bN :: st.aReady }.hit "acl:transfer") d X :=
      ⟨out_refl d rfl, fun _ h _ => ⟨h, rfl⟩, fun _ hx => hx, fun _ _ => ⟨rfl, rfl⟩, fun _ hx => hx,
        fun _ hb => ⟨List.mem_cons_of_mem _ hb, rfl⟩, rfl⟩
    generalize hst0 : ({ st with aReady := bN :: st.aReady }.hit "acl:transfer" : St) = st0 at s0
    have hsem0 : Sem e st0 d := by rw [← hst0]; exact sem_marks hF.sem rfl rfl rfl rfl
    have hn0 : st0.aNameOf bN = X := by rw [← hst0]; exact hname
    rw [transferFold_congr e bN X _ st0 hn0]
    have hres0 : ∀ l, resolveB st0 l = resolveB st l := fun l => by rw [← hst0]; rfl
    generalize hst' : (e.bLines bN).foldl (fun st l => emitLine e st (Chg.acl X none) l) st0 = st'
    obtain ⟨d', sx, ⟨sem', hgn, hlines, hkeys, hready⟩, hhas, hmarks, hb', hro'⟩ :=
      transferLines_step e hw (e.bLines bN) (st0 := st0) (done := [])
        ⟨hsem0, rfl, Decidable.byContradiction fun h => absurd (hasAcl_of_lines h) (by rw [hno]; decide), hF.keysNodup,
          fun _ hl => absurd hl List.not_mem_nil⟩
        (fun l hl => hB bN l hl) (by simpa [hres0] using hnd) hst'
    simp only [List.nil_append] at hlines hready
    have hblne : e.bLines bN ≠ [] := by
      intro h0; rw [h0] at hne; simp at hne
    -- marks of the final state relative to `st`
    have haN : st'.aNeeded = st.aNeeded := by rw [hmarks.aNeeded, ← hst0]; rfl
    have haR : st'.aReady = bN :: st.aReady := by rw [hmarks.aReady, ← hst0]; rfl
    have haName : st'.aName = st.aName := by rw [hmarks.aName, ← hst0]; rfl
    -- the whole transfer as a step from `st`
    have sfull : StepX e st d st' d' X := s0.trans sx
    have hstep : Step e st d st' d' := sfull.toStep (fun hx => by rw [hno] at hx; exact absurd hx.1 (by simp))
    have hresolve : ∀ l, resolveB st' l = resolveB st0 l := fun l => resolveB_congr hgn l
    refine ⟨d', hstep, ?_, by rw [haR]; exact List.mem_cons_self, hb', hro', haN,
      by rw [hmarks.bNeeded, ← hst0]; rfl⟩
    apply Full.update hF hstep sem' X bN hkeys (fun n hn => sfull.aStable n hn)
    · refine ⟨hhas (Or.inr hblne), ⟨by rw [hlines, List.length_map], ?_⟩, Or.inr hXA, ?_⟩
      · intro p hp
        have hzz : ((e.bLines bN).map (resolveB st0)).zip (e.bLines bN) = (e.bLines bN).map (fun l => (resolveB st0 l, l)) :=
          zip_map_self _ _
        rw [hlines, hzz] at hp
        obtain ⟨l, hl, rfl⟩ := List.mem_map.mp hp
        have := (lineOK_of_ready sem' l (hready l hl)).1
        rw [hresolve] at this
        exact this
      · intro r hr2 x hx
        rw [hlines] at hr2
        obtain ⟨l, hl, rfl⟩ := List.mem_map.mp hr2
        have := (lineOK_of_ready sem' l (hready l hl)).2 x
        rw [hresolve] at this
        exact this hx
    · intro x hx; rw [haN] at hx; exact Or.inl hx
    · intro b; rw [haR]; exact List.mem_cons
    · unfold St.aNameOf; rw [haName]; exact hname
    · intro b _; unfold St.aNameOf; rw [haName]
    · intro hx; rw [hno] at hx; exact absurd hx.1 (by simp)
    · exact Or.inr hX.symm

end NA.F1
