import NA.Proofs.C04Plan
import NA.Proofs.C04Ctx
import NA.Proofs.C04StoreInv
/-!
The script as a list of calls, whatever it does: every call of the plan is a `PlanCall`, which says which object it
addresses and what body it carries.  That serves C07 for NSX (scope) and the normal form of the bodies that C10 needs;
with the invariants of `C04StoreInv`, the state after any prefix of the script is an accepted input again.
-/
namespace NA.Nsx

theorem planSvc_calls (ctx : Ctx) (Q : String → Prop) (aS bS : List Service) (hm : ∀ sb ∈ bS, managed sb.id = true) :
    ∀ c ∈ (planServices aS bS).1, PlanCall ctx Q c := by
  rw [planServices, planSvc_eq]
  intro c hc
  obtain ⟨sb, hsb, hc⟩ := List.mem_flatMap.mp hc
  have hman := hm sb (findService_some (mem_firsts.mp hsb).1).1
  unfold svcCalls at hc
  split at hc
  · split at hc
    · cases hc
    · cases List.mem_singleton.mp hc; exact .patchService hman
  · cases List.mem_singleton.mp hc; exact .putService hman

theorem plan_calls {diff : Diff} {S : Store} {T : Config} {ctx : Ctx} (hT : TargetFacts T)
    (hmk : mkCtx diff (load S) T = some ctx) :
    ∀ c ∈ (plan diff (load S) T).calls, PlanCall ctx (managed · = true) c := by
  rw [plan_eq hmk]
  simp only [List.forall_mem_append, List.forall_mem_map]
  exact ⟨⟨⟨⟨planSvc_calls ctx _ _ _ hT.svc, (overA_emits ctx T _ _ fun p hp => (List.mem_filter.mp hp).2).calls⟩,
    (overB_emits ctx (load S) _ _ hT.pol_managed).calls⟩,
    fun s hs => .deleteService (List.mem_filter.mp (List.mem_filter.mp hs).1).2⟩,
    fun g hg => .deleteGroup (List.mem_filter.mp (List.mem_filter.mp hg).1).2⟩

theorem groupCalls_scoped (diff : Diff) (ga gb : Group) (h : managed ga.id = true) :
    Scoped (groupCalls diff ga gb) := by
  unfold groupCalls
  dsimp only
  split
  · exact Scoped.single h
  · apply Scoped.append <;> split
    · exact Scoped.nil
    · exact Scoped.single h
    · exact Scoped.nil
    · exact Scoped.single h

/-- `nsx_scope` without its two hypotheses about the store: whatever the manager holds. -/
theorem plan_scope {diff : Diff} {S : Store} {T : Config} (hT : TargetFacts T) :
    Scoped (plan diff (load S) T).calls := by
  cases hmk : mkCtx diff (load S) T with
  | none => simp only [plan, hmk]; exact Scoped.nil
  | some ctx =>
    have hcf := ctxFacts_of (diff := diff) hT hmk
    intro c hc
    cases plan_calls hT hmk c hc with
    | putGroup hb =>
      obtain ⟨_, _, _, _, hm, _⟩ := hcf.b_of _ _ hb
      exact hm
    | groupCall hga hb hc =>
      refine groupCalls_scoped _ _ _ ?_ c hc
      rw [hcf.a_eq] at hga
      obtain ⟨g, hg, e⟩ := mem_sortGroups hga
      rw [e]
      exact (List.mem_filter.mp hg).2
    | putService h | patchService h | deleteService h | deleteGroup h | putPolicy h _ | deletePolicy h | putRule h
    | patchRule h | deleteRule h => exact h

theorem groupCalls_aok (diff : Diff) (hdiff : ∀ n m eq, validScript n m eq (diff n m eq) = true)
    (ga gb : Group) (hb : gb.addrs.Nodup) : AOk (groupCalls diff ga gb) := by
  obtain ⟨kept, _, pb⟩ := addrDiff_of_valid diff hdiff ga.addrs gb.addrs
  have had := (List.nodup_append.mp (pb.nodup_iff.mp hb)).2.1
  unfold groupCalls
  dsimp only
  split
  · exact AOk.single hb
  · apply AOk.append <;> split
    · exact AOk.nil
    · exact AOk.single trivial
    · exact AOk.nil
    · exact AOk.single had

theorem plan_aok {diff : Diff} (hdiff : ∀ n m eq, validScript n m eq (diff n m eq) = true)
    {S : Store} {T : Config} (hT : TargetFacts T) : AOk (plan diff (load S) T).calls := by
  cases hmk : mkCtx diff (load S) T with
  | none => simp only [plan, hmk]; exact AOk.nil
  | some ctx =>
    have hcf := ctxFacts_of (diff := diff) hT hmk
    have hbn : ∀ k gb, ctx.bmap.lookup k = some gb → gb.addrs.Nodup := fun k gb h => by
      obtain ⟨gt, hgt, _, hs, _⟩ := hcf.b_of k gb h
      exact hs ▸ (sortAddrs_perm _).nodup_iff.mpr (hT.grp gt hgt).2
    intro c hc
    cases plan_calls hT hmk c hc with
    | putGroup hb => exact hbn _ _ hb
    | groupCall _ hb hc => exact groupCalls_aok _ (hcf.diff_eq ▸ hdiff) _ _ (hbn _ _ hb) c hc
    | putPolicy _ h => exact h
    | putRule _ | patchRule _ => exact compactJSON_idem _
    | putService _ | patchService _ | deleteService _ | deleteGroup _ | deletePolicy _ | deleteRule _ => exact trivial

theorem extRefsOK_unmanagedPart (S : Store) (T : Config) : extRefsOK (unmanagedPart S) T = extRefsOK S T := by
  unfold extRefsOK
  simp only [hasGroup_unmanagedPart, hasService_unmanagedPart]

theorem unmanagedIndep_unmanagedPart (S : Store) : unmanagedIndep (unmanagedPart S) = unmanagedIndep S := by
  unfold unmanagedIndep
  show (S.policies.filter fun p => !managed p.id).all _ = _
  rw [List.all_filter]
  exact List.all_congr rfl fun p => by cases managed p.id <;> rfl

/-- Of the six side conditions two are kept by every accepted call whose body is in normal form, two speak of the target
only, and two look at the manager only outside Netspoc's scope, which a script of calls on managed ids leaves as it
was. -/
theorem prefix_accepted {diff : Diff} (hdiff : ∀ n m eq, validScript n m eq (diff n m eq) = true)
    {S : Store} {T : Config} (hacc : accepted S T = true) (k : Nat) {Sk : Store}
    (hk : run S ((plan diff (load S) T).calls.take k) = some Sk) : accepted Sk T = true := by
  unfold accepted at hacc ⊢
  simp only [Bool.and_eq_true] at hacc ⊢
  obtain ⟨⟨⟨⟨⟨h1, h2⟩, h3⟩, h4⟩, h5⟩, h6⟩ := hacc
  have hT := targetFacts_of h3 h4
  have hframe := run_frame _ S Sk (fun c hc => plan_scope hT c (List.mem_of_mem_take hc)) hk
  obtain ⟨hwf, haddr⟩ := run_wf_addrs _ S Sk (storeWF_iff.mp h1) (addrsNodup_iff.mp h2)
    (fun c hc => plan_aok hdiff hT c (List.mem_of_mem_take hc)) hk
  refine ⟨⟨⟨⟨⟨storeWF_iff.mpr hwf, addrsNodup_iff.mpr haddr⟩, h3⟩, h4⟩, ?_⟩, ?_⟩
  · rw [← extRefsOK_unmanagedPart, hframe, extRefsOK_unmanagedPart]; exact h5
  · rw [← unmanagedIndep_unmanagedPart, hframe, unmanagedIndep_unmanagedPart]; exact h6

end NA.Nsx
