import NA.Proofs.VpnMatch
/-!
The entry set: every target entry is handed to `f` exactly once (either together with the device
entry of the same peer, or alone under a fresh number); which device entry is compared with which
target entry.
-/
namespace NA.Vpn

/-- number of calls whose target part is the entry with sequence number `t` -/
def hits (bl : List Cmd) (t : Int) (calls : List Call) : Nat := (calls.filter fun c => c.b == entry bl t).length

theorem entry_inj (bl : List Cmd) (t t' : Int) (h : entry bl t = entry bl t') (hne : entry bl t ≠ []) : t = t' := by
  obtain ⟨c, hc⟩ := List.exists_mem_of_ne_nil _ hne
  exact (entry_seq bl t c hc).symm.trans (entry_seq bl t' c (h ▸ hc))

theorem hits_cons (bl : List Cmd) (t : Int) (c : Call) (cs : List Call) :
    hits bl t (c :: cs) = (if c.b == entry bl t then 1 else 0) + hits bl t cs := by
  unfold hits
  rw [List.filter_cons]
  split
  · rw [List.length_cons, Nat.add_comm]
  · rw [Nat.zero_add]

theorem nil_ne_entry (bl : List Cmd) (t : Int) (hne : entry bl t ≠ []) : (([] : List Cmd) == entry bl t) = false := by
  cases he : entry bl t with
  | nil => exact absurd he hne
  | cons c cs => rfl

theorem matchLoop_hits (al bl : List Cmd) (bKeys : List Int) (t : Int) (hne : entry bl t ≠ []) :
    ∀ (keys done : List Int),
      hits bl t (matchLoop al bl bKeys keys done).1 =
        if t ∈ done then 0 else if t ∈ (matchLoop al bl bKeys keys done).2 then 1 else 0 := by
  intro keys
  induction keys with
  | nil =>
    intro done
    by_cases hd : t ∈ done <;> simp [matchLoop, hits, hd]
  | cons s rest ih =>
    intro done
    rw [matchLoop_cons]
    cases hs : tgtOf al bl bKeys s with
    | none =>
      simp only [hits_cons, nil_ne_entry bl t hne, Bool.false_eq_true, if_false, Nat.zero_add]
      exact ih done
    | some t0 =>
      simp only [hits_cons, ih (t0 :: done)]
      by_cases h0 : t0 = t
      · -- the entry is handed over here unless it was consumed before; later it counts as consumed
        subst h0
        have hmem : t0 ∈ (matchLoop al bl bKeys rest (t0 :: done)).2 :=
          (matchLoop_done al bl bKeys rest (t0 :: done) t0).2 (Or.inl List.mem_cons_self)
        by_cases hd : t0 ∈ done
        · simp [hd, nil_ne_entry bl t0 hne]
        · simp [hd, hmem]
      · -- another entry is handed over (or nothing); `t` is consumed before iff it was
        have hb : ((if t0 ∈ done then [] else entry bl t0) == entry bl t) = false := by
          split
          · exact nil_ne_entry bl t hne
          · exact beq_eq_false_iff_ne.2 fun heq => h0 (entry_inj bl t t0 heq.symm hne).symm
        have hmem : t ∈ t0 :: done ↔ t ∈ done := by rw [List.mem_cons, or_iff_right (Ne.symm h0)]
        simp only [hb, hmem, Bool.false_eq_true, if_false, Nat.zero_add]

theorem matched_of_peer (al bl : List Cmd) (pre post : List Int) (s : Int) (p : Peer)
    (hp : getPeer (entry al s) = some p)
    (hex : ∃ t ∈ seqKeys bl, getPeer (entry bl t) = some p)
    (hfirst : ∀ s' ∈ pre, getPeer (entry al s') ≠ some p) :
    ∃ t, (matchLoop al bl (seqKeys bl) (pre ++ s :: post) []).1[pre.length]? = some ⟨entry al s, entry bl t⟩ ∧
      t ∈ seqKeys bl ∧ getPeer (entry bl t) = some p ∧
      ∀ t' ∈ seqKeys bl, getPeer (entry bl t') = some p → t ≤ t' := by
  obtain ⟨t1, ht1, hp1⟩ := hex
  obtain ⟨t, ht⟩ := peerSeq_isSome bl p (seqKeys bl) t1 ht1 hp1
  have hlow := peerSeq_lowest bl p (seqKeys bl) (seqKeys_sorted bl) t ht
  have htgt : tgtOf al bl (seqKeys bl) s = some t := (tgtOf_of_peer hp bl _).trans ht
  refine ⟨t, ?_, hlow.1, hlow.2.1, hlow.2.2⟩
  rw [matchLoop_at, htgt]
  have hnd : t ∉ (matchLoop al bl (seqKeys bl) pre []).2 := by
    intro hd
    rcases (matchLoop_done al bl (seqKeys bl) pre [] t).1 hd with h | ⟨s', hs', h⟩
    · cases h
    · -- an earlier entry that points to `t` has the peer of `t`, which is `p`
      obtain ⟨p', hp', h'⟩ := Option.bind_eq_some_iff.1 h
      have := (peerSeq_lowest bl p' (seqKeys bl) (seqKeys_sorted bl) t h').2.1
      rw [hlow.2.1] at this
      cases this
      exact hfirst s' hs' hp'
  simp [hnd]

theorem unmatched_of_peer (al bl : List Cmd) (pre post : List Int) (s : Int) (p : Peer)
    (hp : getPeer (entry al s) = some p)
    (h : (∀ t ∈ seqKeys bl, getPeer (entry bl t) ≠ some p) ∨ ∃ s' ∈ pre, getPeer (entry al s') = some p) :
    (matchLoop al bl (seqKeys bl) (pre ++ s :: post) []).1[pre.length]? = some ⟨entry al s, []⟩ := by
  rw [matchLoop_at]
  cases htgt : tgtOf al bl (seqKeys bl) s with
  | none => rfl
  | some t =>
    have ht : peerSeq bl (seqKeys bl) p = some t := (tgtOf_of_peer hp bl _).symm.trans htgt
    have hlow := peerSeq_lowest bl p (seqKeys bl) (seqKeys_sorted bl) t ht
    rcases h with h | ⟨s', hs', hp'⟩
    · exact absurd hlow.2.1 (h t hlow.1)
    · have : t ∈ (matchLoop al bl (seqKeys bl) pre []).2 :=
        (matchLoop_done al bl (seqKeys bl) pre [] t).2 (Or.inr ⟨s', hs', (tgtOf_of_peer hp' bl _).trans ht⟩)
      simp [this]

end NA.Vpn
