import NA.Proofs.C09Inv
/-!
# C09: what one wait for the device does to the state (`recvLoop_got`) and to the invariant (`recvLoop_waited`), and the
functions of `pkg/console` under roles that are inspected only for arrival; first, the parts of the console programs
that several proofs speak of
-/
namespace NA.C09
open NA.Sess NA.Apply NA.Spec.C09

/-- IOS `writeMem`: what follows once the answer to `write memory` (or to the confirmation) is there -/
def iosWriteMemTail : Sess :=
  .ite (.flag .okMark) "strings.Contains($IssueCmd, \"[OK]\")" (.ret .none []) .skip ;;
  .ite (.flag .openFailed) "strings.Contains($IssueCmd, \"startup-config file open failed\")"
    (.ite .ctrPos "$v > 0" (.decCtr ;; .cont) .skip ;;
     .abort ["write mem: startup-config open failed - giving up"]) .skip ;;
  .abort ["write mem: unexpected result: %s", "_"]

def iosWriteMemRound : Sess :=
  IssueCmd .save (.lit "write memory") (.stdOr [.confirm]) ["write memory", "#[ ]?|\\[confirm\\]"] ;;
  .ite (.flag .overwrite) "strings.Contains($IssueCmd, \"Overwrite the previous NVRAM configuration\")"
    (GetCmdOutput .save (.lit "") [""]) .skip ;;
  iosWriteMemTail

/-- Linux: `echo $?` must answer `0` -/
def linuxProbeBlock : Sess :=
  GetCmdOutput .probe (.lit "echo $?") ["echo $?"] ;;
  .ite (.not (.flag .status0)) "$r.conn.GetCmdOutput(\"echo $?\") != \"0\\n\""
    (.abort ["%s failed (exit status)", "_"]) .skip

/-- what follows the `Send` in Linux `cmd` -/
def linuxCmdRest : Sess :=
  linuxCheck .change ;; .ite .joined "$v.2 != \"\"" (linuxCheck .change) .skip ;; linuxProbeBlock

/-- ASA: `write memory` must answer `[OK]` -/
def asaSaveBlock : Sess :=
  GetCmdOutput .save (.lit "write memory") ["write memory"] ;;
  .ite (.not (.flag .okMark)) "¬strings.Contains($GetCmdOutput, \"[OK]\")"
    (.abort ["Command 'write memory' failed, missing [OK] in output:\n%s", "_"]) .skip

/-- Linux: the scp of a start-up file in `putScp` (not simulated: one exchange whose failure aborts) -/
def scpBlock (what : String) : Sess :=
  .call "Run" [] (.send .save (.lit ("scp " ++ what)) ;; .recv .save .http) ;;
  .ite .err "err != nil" (.abort ["%s failed: %v", "_", "err"]) .skip


section wait
variable (bad : Role → Reply → Bool)

/-- Running; all replies but the most recent one are good; the most recent one is `s.last`,
read under role `ρ`, and nothing has been recorded since. -/
structure Pd (ρ : Role) (s : St) : Prop where
  mode : s.mode = .run
  split : ∃ tr0, s.tr = tr0 ++ [.got ρ s.last] ∧ safe bad tr0 = true ∧ faulted bad tr0 = false

theorem Pd.safe {ρ : Role} {s : St} (h : Pd bad ρ s) : NA.Spec.C09.safe bad s.tr = true := by
  obtain ⟨tr0, he, hs, _⟩ := h.split
  rw [he]; exact safe_snoc_quiet bad _ _ hs rfl

theorem Pd.clean {ρ : Role} {s : St} (h : Pd bad ρ s) (hg : bad ρ s.last = false) :
    NA.Spec.C09.safe bad s.tr = true ∧ faulted bad s.tr = false := by
  obtain ⟨tr0, he, hs, hf⟩ := h.split
  rw [he]; exact clean_snoc bad _ hs hf hg

theorem Pd.congr {ρ : Role} {s s' : St} (h : Pd bad ρ s) (ht : s'.tr = s.tr) (hl : s'.last = s.last)
    (hm : s'.mode = .run) : Pd bad ρ s' :=
  ⟨hm, by rw [ht, hl]; exact h.split⟩

theorem jv_abort {s : St} (hs : NA.Spec.C09.safe bad s.tr = true) (e : Bool) :
    Jv bad { s with tr := s.tr ++ [Ev.logErr], mode := Mode.panic, errv := e } :=
  ⟨safe_snoc_quiet bad _ _ hs rfl, nofun, nofun, nofun⟩

theorem Pd.abort {ρ : Role} {s : St} (h : Pd bad ρ s) (l : List String) (env : Env) :
    Jv bad (exec (.abort l) env s) ∧ (exec (.abort l) env s).mode = .panic := by
  rw [exec_abort _ _ _ h.mode]
  exact ⟨jv_abort bad h.safe s.errv, rfl⟩

inductive Waited (ρ : Role) (p : Pat) (s s' : St) : Prop
  | got (h : Pd bad ρ s') (he : s'.errv = !p.matches s'.last)
  | nothing (hc : NA.Spec.C09.safe bad s'.tr = true ∧ faulted bad s'.tr = false) (he : s'.errv = true) (hm : s'.mode = .run)

end wait

/-- **What a wait does to the state**: it passes over stale replies (`l`); then nothing arrives and an error is pending, or
the reply that decides is read: it is `s'.last`, the last event of the trace, and the error value says whether it
matches.  Mode and retry counter stay. -/
theorem recvLoop_got (dev : Dev) (ρ : Role) (p : Pat) : ∀ (n : Nat) (s : St),
    (recvLoop dev ρ p n s).mode = s.mode ∧ (recvLoop dev ρ p n s).ctr = s.ctr ∧
    ∃ l, (∀ e ∈ l, ∃ r, e = Ev.skipped r) ∧
      (((recvLoop dev ρ p n s).tr = s.tr ++ l ∧ (recvLoop dev ρ p n s).errv = true) ∨
       ((recvLoop dev ρ p n s).tr = s.tr ++ l ++ [.got ρ (recvLoop dev ρ p n s).last] ∧
        (recvLoop dev ρ p n s).errv = !p.matches (recvLoop dev ρ p n s).last)) := by
  intro n
  induction n with
  | zero => intro s; exact ⟨rfl, rfl, [], by simp, .inl ⟨by simp [recvLoop], rfl⟩⟩
  | succ n ih =>
    intro s
    simp only [recvLoop]
    split
    · rename_i hmatch
      exact ⟨rfl, rfl, [], by simp, .inr ⟨by simp, by simp [hmatch]⟩⟩
    · split
      · obtain ⟨h1, h2, l, hl, h3⟩ := ih { s with tr := s.tr ++ [Ev.skipped (dev s.tr)] }
        refine ⟨h1, h2, Ev.skipped (dev s.tr) :: l, ?_, ?_⟩
        · intro e he
          rcases List.mem_cons.mp he with rfl | he
          · exact ⟨_, rfl⟩
          · exact hl e he
        · simpa [List.append_assoc] using h3
      · rename_i hmatch _
        exact ⟨rfl, rfl, [], by simp, .inr ⟨by simp, by simp [hmatch]⟩⟩

section wait
variable (bad : Role → Reply → Bool)

theorem recvLoop_waited (dev : Dev) (ρ : Role) (p : Pat) (n : Nat) (s : St) (hm : s.mode = .run)
    (hs : NA.Spec.C09.safe bad s.tr = true) (hf : faulted bad s.tr = false) :
    Waited bad ρ p s (recvLoop dev ρ p n s) := by
  obtain ⟨h1, -, l, hl, h3⟩ := recvLoop_got dev ρ p n s
  -- stale replies passed over are no failures
  have hc := clean_append bad hs hf (l := l) (by
    simp only [faulted, List.any_eq_false]
    intro e he; obtain ⟨r, rfl⟩ := hl e he; simp [isBadGot])
  rcases h3 with ⟨ht, he⟩ | ⟨ht, he⟩
  · exact .nothing (ht ▸ hc) he (h1.trans hm)
  · exact .got ⟨h1.trans hm, _, ht, hc.1, hc.2⟩ he

end wait

def Pat.okFlags : Pat → Bool
  | .special fs => fs.all specialPrompt
  | .stdOr fs => fs.all specialPrompt
  | _ => true

theorem matches_arrives (p : Pat) (hp : Pat.okFlags p = true) (r : Reply) (h : p.matches r = true) :
    promptArrives r = true := by
  cases p with
  | std | http => simp [Pat.matches] at h; simp [promptArrives, h]
  | special fs =>
    simp only [Pat.matches, Bool.and_eq_true, Bool.or_eq_true, List.any_eq_true] at h
    obtain ⟨harr, f, hf, hfl⟩ := h
    simp only [Pat.okFlags, List.all_eq_true] at hp
    simp only [promptArrives, Bool.or_eq_true, Bool.and_eq_true, List.any_eq_true]
    rcases harr with h1 | h1
    · exact Or.inl h1
    · exact Or.inr ⟨h1, f, by simpa using hfl, hp f hf⟩
  | stdOr fs =>
    simp only [Pat.matches, Bool.and_eq_true, Bool.or_eq_true, List.any_eq_true] at h
    simp only [Pat.okFlags, List.all_eq_true] at hp
    simp only [promptArrives, Bool.or_eq_true, Bool.and_eq_true, List.any_eq_true]
    rcases h with h1 | ⟨h1, f, hf, hfl⟩
    · exact Or.inl h1
    · exact Or.inr ⟨h1, f, by simpa using hfl, hp f hf⟩

/-- roles whose replies the code inspects only for arrival -/
def Role.arrivalOnly : Role → Bool
  | .login | .setup | .read | .cleanup => true
  | _ => false

theorem presV_Send (bad : Role → Reply → Bool) (ρ : Role) (t : Txt) (l : List String) : PresV bad (Send ρ t l) :=
  presV_call _ (presV_send _ ρ t)

theorem presV_StripEcho (bad : Role → Reply → Bool) : PresV bad StripEcho :=
  presV_call _ (presV_seq _ (presV_ite _ (presV_abort _ _) (presV_skip _)) (presV_ret _ _ _))

theorem presV_StripStdPrompt (bad : Role → Reply → Bool) : PresV bad StripStdPrompt :=
  presV_call _ (presV_seq _ (presV_ite _ (presV_abort _ _) (presV_skip _)) (presV_ret _ _ _))

theorem exec_expectLog (ρ : Role) (p : Pat) (env : Env) (s : St) (hm : s.mode = .run) :
    exec (expectLog ρ p) env s = recvLoop env.dev ρ p (linesSent s.tr + 1 - repliesRead s.tr) s :=
  exec_call_returns env s _ _ _ hm _ (by rw [recvLoop_mode, hm]) .keep _ (Or.inr rfl)
    (by rw [expectLogBody, if_neg (by decide), exec_seq, exec_recv _ _ _ _ hm])

section
variable (b : Backend) (hb : Backend.isConsole b = true)
include hb

theorem bad_arrivalOnly (ρ : Role) (hρ : Role.arrivalOnly ρ = true) (r : Reply) (ha : promptArrives r = true) :
    badChecked b ρ r = false := by
  cases ρ <;> simp [Role.arrivalOnly] at hρ <;> simp [badChecked, ha, hb]

/-- a wait under a role that is inspected only for arrival: the function aborts if the wait left an error, and returns
otherwise — then the reply has arrived, which is all such a role asks -/
theorem presV_waitCall (name : String) (cl lits : List String) (ρ : Role) (hρ : Role.arrivalOnly ρ = true)
    (p : Pat) (hp : Pat.okFlags p = true) :
    PresV (badChecked b)
      (.call name cl (expectLog ρ p ;; .ite .err "err != nil" (.abort lits) .skip ;; .ret .none ["_"])) := by
  intro env s hj hm
  have hw := recvLoop_waited (badChecked b) env.dev ρ p (linesSent s.tr + 1 - repliesRead s.tr) s hm hj.safe (hj.run hm)
  have hbody : exec (expectLog ρ p ;; .ite .err "err != nil" (.abort lits) .skip ;; .ret .none ["_"]) env s
      = exec (.ret .none ["_"]) env (exec (.ite .err "err != nil" (.abort lits) .skip) env
          (recvLoop env.dev ρ p (linesSent s.tr + 1 - repliesRead s.tr) s)) := by
    rw [exec_seq, exec_seq, exec_expectLog _ _ _ _ hm]
  generalize recvLoop env.dev ρ p (linesSent s.tr + 1 - repliesRead s.tr) s = s1 at hw hbody
  -- a pending error: the abort, after which nothing runs
  have aborts : s1.mode = .run → s1.errv = true → NA.Spec.C09.safe (badChecked b) s1.tr = true → Jv (badChecked b)
      (exec (.call name cl (expectLog ρ p ;; .ite .err "err != nil" (.abort lits) .skip ;; .ret .none ["_"])) env s) := by
    intro hm1 he hs
    rw [exec_ite _ _ _ _ _ _ hm1, evalCond, he, if_pos rfl, exec_abort _ _ _ hm1,
      exec_nonrun (.ret .none ["_"]) env _ (by simp)] at hbody
    rw [exec_call_of_ne_ret _ _ _ _ _ hm (by simp [hbody]), hbody]
    exact jv_abort _ hs s1.errv
  cases hw with
  | got h he =>
    cases hmt : p.matches s1.last with
    | true =>
      have he' : s1.errv = false := by rw [he, hmt]; rfl
      rw [exec_ite _ _ _ _ _ _ h.mode, evalCond, he', if_neg (by decide), exec_skip] at hbody
      rw [exec_call_returns _ _ _ _ _ hm s1 h.mode _ _ (Or.inl rfl) hbody]
      exact jv_of_clean _ (h.clean _ (bad_arrivalOnly b hb ρ hρ _ (matches_arrives p hp _ hmt)))
    | false => exact aborts h.mode (by rw [he, hmt]; rfl) h.safe
  | nothing hc he hm' => exact aborts hm' he hc.1

theorem presV_waitPrompt (ρ : Role) (hρ : Role.arrivalOnly ρ = true) (p : Pat) (hp : Pat.okFlags p = true) :
    PresV (badChecked b) (waitPrompt ρ p) := presV_waitCall b hb _ _ _ ρ hρ p hp

theorem presV_WaitLogin (ρ : Role) (hρ : Role.arrivalOnly ρ = true) (p : Pat) (hp : Pat.okFlags p = true) (l : List String) :
    PresV (badChecked b) (WaitLogin ρ p l) := presV_waitCall b hb _ _ _ ρ hρ p hp

theorem presV_GetOutput (ρ : Role) (hρ : Role.arrivalOnly ρ = true) : PresV (badChecked b) (GetOutput ρ) :=
  presV_call _ (presV_seq _ (presV_waitPrompt b hb ρ hρ .std rfl)
    (presV_seq _ (presV_StripStdPrompt _) (presV_ret _ _ _)))

theorem presV_SendCmd (ρ : Role) (hρ : Role.arrivalOnly ρ = true) (t : Txt) (l : List String) :
    PresV (badChecked b) (SendCmd ρ t l) :=
  presV_call _ (presV_seq _ (presV_Send _ ρ t _) (presV_waitPrompt b hb ρ hρ .std rfl))

theorem presV_IssueCmd (ρ : Role) (hρ : Role.arrivalOnly ρ = true) (t : Txt) (p : Pat) (hp : Pat.okFlags p = true)
    (l : List String) : PresV (badChecked b) (IssueCmd ρ t p l) :=
  presV_call _ (presV_seq _ (presV_Send _ ρ t _) (presV_seq _ (presV_waitPrompt b hb ρ hρ p hp) (presV_ret _ _ _)))

theorem presV_GetCmdOutput (ρ : Role) (hρ : Role.arrivalOnly ρ = true) (t : Txt) (l : List String) :
    PresV (badChecked b) (GetCmdOutput ρ t l) :=
  presV_call _ (presV_seq _ (presV_Send _ ρ t _) (presV_seq _ (presV_GetOutput b hb ρ hρ)
    (presV_seq _ (presV_StripEcho _) (presV_ret _ _ _))))

end

theorem exec_iosWriteMemTail (env : Env) (s : St) (hm : s.mode = .run) :
    exec iosWriteMemTail env s =
      if Flag.okMark ∈ s.last.flags then { s with mode := .ret }
      else if Flag.openFailed ∈ s.last.flags ∧ s.ctr > 0 then { s with ctr := s.ctr - 1, mode := .cont }
      else { s with tr := s.tr ++ [.logErr], mode := .panic } := by
  unfold iosWriteMemTail
  by_cases hok : Flag.okMark ∈ s.last.flags
  · simp [sess_run, hm, hok]
  · by_cases hof : Flag.openFailed ∈ s.last.flags
    · by_cases hctr : s.ctr > 0 <;> simp [sess_run, hm, hok, hof, hctr]
    · simp [sess_run, hm, hok, hof]

theorem iosWriteMemBody_eq : iosWriteMemBody = (.setCtr 2 ;; .loopN 3 iosWriteMemRound) := rfl

end NA.C09
