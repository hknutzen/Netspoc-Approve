import NA.Proofs.C20
/-!
What `matchCmd` stores in `cmd.parsed` has at least as many white-space separated words as the prefix and the template
have tokens.  This is the invariant behind every `strings.Fields(c.parsed)[k]` / `tokens[k]` in `postprocessParsed`,
`alignVRFs` and the interface checks: the index is below the number of template tokens.
-/
namespace NA.C20
open Res

theorem fields_append_space (a b : Str) : fields (a ++ ' ' :: b) = fields a ++ fields b := by
  fun_induction fields a
  case case1 => exact fields_space_cons _ _ (by decide)
  case case2 hc ih => rw [List.cons_append, fields_space_cons _ _ hc, ih]
  case case3 c hc =>
    rw [List.singleton_append, fields_word_end c ' ' b (by simpa using hc) (by decide), fields_space_cons _ _ (by decide)]
    rfl
  case case4 c hc d cs hd ih =>
    simp only [List.cons_append] at ih ⊢
    rw [fields_word_end c d _ (by simpa using hc) hd, ih]
  case case5 c hc d cs hd w ws hf ih =>
    simp only [List.cons_append] at ih ⊢
    rw [hf] at ih ⊢
    exact fields_word_cont c d _ w _ (by simpa using hc) (by simpa using hd) ih
  case case6 hd hf _ => exact absurd hf (fields_cons_ne_nil _ (by simpa using hd))

theorem fields_join : ∀ ws : List Str, fields (join ws) = ws.flatMap fields
  | [] => rfl
  | [w] => by simp [join]
  | w :: w' :: ws => by
    rw [join.eq_3 _ _ (by simp), fields_append_space, fields_join (w' :: ws)]
    simp

theorem flatMap_fields_length_ge (ws : List Str) (h : ∀ w ∈ ws, Nonblank w) :
    ws.length ≤ (ws.flatMap fields).length := by
  induction ws with
  | nil => exact Nat.le_refl _
  | cons w ws ih =>
    have ⟨hw, ht⟩ := List.forall_mem_cons.1 h
    have h1 := List.length_pos_iff.2 (fields_ne_nil_of_mem w hw)
    have h2 := ih ht
    simp only [List.flatMap_cons, List.length_append, List.length_cons]
    omega

/-- holds of the words of a right-trimmed line (`splitSp_trimRight_lastNonblank`); the `*` token needs it. -/
def LastNonblank (args : List Str) : Prop := ∀ w, args.getLast? = some w → Nonblank w

theorem lastNonblank_drop (n : Nat) (args : List Str) (h : LastNonblank args) : LastNonblank (args.drop n) := by
  intro w hw
  rw [List.getLast?_drop] at hw
  split at hw
  · cases hw
  · exact h w hw

theorem LastNonblank.tail {w : Str} {rest : List Str} (h : LastNonblank (w :: rest)) : LastNonblank rest :=
  lastNonblank_drop 1 _ h

theorem join_nonblank : ∀ (args : List Str), args ≠ [] → LastNonblank args → Nonblank (join args)
  | [], h, _ => absurd rfl h
  | [w], _, hl => by simpa [join] using hl w (by simp)
  | w :: w' :: ws, _, hl => by
    obtain ⟨c, hc, hs⟩ := join_nonblank (w' :: ws) (by simp) hl.tail
    exact ⟨c, by rw [join.eq_3 _ _ (by simp)]; simp [hc], hs⟩

def CleanTok (t : Str) : Prop := t ≠ [] ∧ ∀ c ∈ t, isSpace c = false

theorem CleanTok.nonblank {t : Str} (h : CleanTok t) : Nonblank t :=
  let ⟨c, hc⟩ := List.exists_mem_of_ne_nil t h.1
  ⟨c, hc, h.2 c hc⟩

/-- templates of a table: tokens are words, `*` only at the end (what `setupCmdDescr` enforces). -/
def CleanTemplate (tmpl : List Str) : Prop := (∀ t ∈ tmpl, CleanTok t) ∧ lit "*" ∉ tmpl.dropLast

theorem CleanTemplate.head {t : Str} {ts : List Str} (h : CleanTemplate (t :: ts)) : CleanTok t :=
  h.1 t (List.mem_cons_self ..)

theorem CleanTemplate.tail {t : Str} {ts : List Str} (h : CleanTemplate (t :: ts)) : CleanTemplate ts := by
  refine ⟨(List.forall_mem_cons.1 h.1).2, ?_⟩
  cases ts with
  | nil => simp
  | cons a as => exact fun hm => h.2 (List.mem_cons_of_mem _ hm)

def refTok : Str := lit "$REF"

def Stored (tmpl : List Str) (acc acc' : MatchAcc) : Prop :=
  (∀ s ∈ acc'.parsed, Nonblank s) ∧ acc'.parsed.length = acc.parsed.length + tmpl.length ∧
    acc'.ref.length = acc.ref.length + tmpl.count refTok

theorem Stored.cons {tok s : Str} {ts : List Str} {acc a acc' : MatchAcc}
    (ha : a.parsed = s :: acc.parsed) (hr : a.ref.length = acc.ref.length + [tok].count refTok)
    (h : Stored ts a acc') : Stored (tok :: ts) acc acc' := by
  obtain ⟨h1, h2, h3⟩ := h
  refine ⟨h1, ?_, ?_⟩
  · rw [h2, ha]; simp; omega
  · rw [h3, hr]; simp [List.count_cons]; omega

def incompleteString : Panic := .explicit "Incomplete string"

def QuotePanic (tmpl args : List Str) (p : Panic) : Prop :=
  lit "\"" ∈ tmpl ∧ ((∀ w ∈ args, w ≠ []) → p = incompleteString)

theorem QuotePanic.cons {tok : Str} {ts args rest : List Str} {p : Panic} (hsub : rest ⊆ args)
    (h : QuotePanic ts rest p) : QuotePanic (tok :: ts) args p :=
  ⟨List.mem_cons_of_mem _ h.1, fun hne => h.2 fun w hw => hne w (hsub hw)⟩

theorem matchTemplate_spec (tmpl args : List Str) (acc : MatchAcc) :
    Spec (fun o => ∀ acc' rest, o = some (acc', rest) → CleanTemplate tmpl → LastNonblank args →
        (∀ s ∈ acc.parsed, Nonblank s) → Stored tmpl acc acc')
      (fun _ => False) (QuotePanic tmpl args) (matchTemplate tmpl args acc) := by
  fun_induction matchTemplate tmpl args acc
  case case1 => intro _ _ h _ _ hp; cases h; exact ⟨hp, rfl, rfl⟩
  case case2 | case4 | case12 => intro _ _ h; cases h
  -- the `"` token: `w[0]` on an empty word; no closing quote; the loop goes on behind the closing quote
  case case7 => exact ⟨List.mem_cons_self .., fun hne => absurd rfl (hne [] (List.mem_cons_self ..))⟩
  case case8 h => rw [h]; exact ⟨List.mem_cons_self .., fun _ => rfl⟩
  case case9 rest' cs n _ _ hr hf ih =>
    rw [hf]
    refine ih.mono (fun o ho acc' r e hc hl hp => ?_) (fun _ h => h) (fun _ => QuotePanic.cons (List.drop_subset ..))
    refine Stored.cons (s := join (List.take (n + 1) (('"' :: cs) :: rest'))) rfl (by simp [refTok, hr])
      (ho acc' r e hc.tail (lastNonblank_drop _ _ hl) (List.forall_mem_cons.2 ⟨⟨'"', ?_, by decide⟩, hp⟩))
    cases htk : List.take n rest' <;> simp [htk, join]
  case case10 hr ih =>
    exact ih.mono (fun o ho acc' r e hc hl hp => Stored.cons rfl (by simp [refTok, hr])
      (ho acc' r e hc.tail hl.tail (List.forall_mem_cons.2 ⟨⟨'"', by simp, by decide⟩, hp⟩)))
      (fun _ h => h) (fun _ => QuotePanic.cons (List.subset_cons_self ..))
  -- `$NAME`, `$SEQ`, `$REF`: the token itself is stored
  case case3 ih | case5 ih | case6 ih =>
    exact ih.mono (fun o ho acc' r e hc hl hp => Stored.cons rfl (by simp -index only [refTok, lit_ofList]; simp)
      (ho acc' r e hc.tail hl.tail (List.forall_mem_cons.2 ⟨hc.head.nonblank, hp⟩)))
      (fun _ h => h) (fun _ => QuotePanic.cons (List.subset_cons_self ..))
  -- `*`: it is the last token and takes all remaining words
  case case11 ts _ _ _ _ _ hr _ =>
    intro acc' r h hc hl hp
    cases ts with
    | cons a as => exact absurd (List.mem_cons_self ..) hc.2
    | nil =>
      cases h
      exact ⟨List.forall_mem_cons.2 ⟨join_nonblank _ (by simp) hl, hp⟩, rfl, by simp [refTok, hr]⟩
  -- a literal word: it equals the token
  case case13 tok _ _ p _ _ _ hr _ _ heq ih =>
    have heq : tok = p := by simpa using heq
    subst heq
    exact ih.mono (fun o ho acc' r e hc hl hp => Stored.cons rfl (by simp [refTok, hr])
      (ho acc' r e hc.tail hl.tail (List.forall_mem_cons.2 ⟨hc.head.nonblank, hp⟩)))
      (fun _ h => h) (fun _ => QuotePanic.cons (List.subset_cons_self ..))

def CmdFrom (pre : Str) (tmpl : List Str) (c : Cmd) : Prop :=
  (fields pre).length + tmpl.length ≤ (fields c.parsed).length ∧
  c.ref.length = tmpl.count refTok ∧ c.sub = []

theorem matchCmd_spec (pre : Str) (words : List Str) (ds : List (Nat × List Str × Bool)) :
    Spec (fun o => ∀ c, o = some c → LastNonblank words → (∀ d ∈ ds, CleanTemplate d.2.1) →
        ∃ d ∈ ds, c.descr = d.1 ∧ CmdFrom pre d.2.1 c)
      (fun _ => False)
      (fun p => (∃ d ∈ ds, lit "\"" ∈ d.2.1) ∧ ((∀ w ∈ words, w ≠ []) → p = incompleteString))
      (matchCmd pre words ds) := by
  fun_induction matchCmd pre words ds
  case case1 | case6 => intro _ h; cases h
  case case2 h => have := (matchTemplate_spec ..).panic h; exact ⟨⟨_, List.mem_cons_self .., this.1⟩, this.2⟩
  case case3 h => exact (matchTemplate_spec ..).diag h
  -- the template does not match, or words are left over: the next description
  case case4 ih | case5 ih =>
    refine ih.mono (fun o ho c e hl hc => ?_) (fun _ h => h) fun p ⟨⟨d, hd, hq⟩, hp⟩ => ⟨⟨d, List.mem_cons_of_mem _ hd, hq⟩, hp⟩
    obtain ⟨d, hd, r⟩ := ho c e hl (List.forall_mem_cons.1 hc).2
    exact ⟨d, List.mem_cons_of_mem _ hd, r⟩
  -- the command is built from what the template loop stored
  case case7 i tmpl ign _ acc _ hm _ _ ws ps =>
    intro c h hl hc
    obtain ⟨hnb, hlen, hrefs⟩ := (matchTemplate_spec ..).ok hm _ _ rfl (hc _ (List.mem_cons_self ..)) hl (by simp)
    cases h
    refine ⟨(i, tmpl, ign), List.mem_cons_self .., rfl, ?_, by simpa using hrefs, rfl⟩
    simp only [List.length_nil, Nat.zero_add] at hlen
    rw [← hlen, ← List.length_reverse]
    have hge := flatMap_fields_length_ge acc.parsed.reverse fun s hs => hnb s (List.mem_reverse.1 hs)
    by_cases hp : pre = [] <;> simpa [ps, hp, fields, fields_join] using hge

theorem matchCmd_panicOnly (pre : Str) (words : List Str) (hne : ∀ w ∈ words, w ≠ [])
    (ds : List (Nat × List Str × Bool)) : PanicOnly incompleteString (matchCmd pre words ds) :=
  fun _ e => ((matchCmd_spec pre words ds).panic e).2 hne

theorem matchCmd_noPanic (pre : Str) (words : List Str) (ds : List (Nat × List Str × Bool))
    (hq : ∀ d ∈ ds, lit "\"" ∉ d.2.1) : NoPanic (matchCmd pre words ds) :=
  fun _ e => let ⟨⟨d, hd, h⟩, _⟩ := (matchCmd_spec pre words ds).panic e; hq d hd h

theorem splitSp_ne_nil (s : Str) : splitSp s ≠ [] := by
  fun_cases splitSp s
  all_goals simp

theorem splitSp_last (s : Str) (x : Char) (h : s.getLast? = some x) (hx : x ≠ ' ') :
    ∀ w, (splitSp s).getLast? = some w → x ∈ w := by
  fun_induction splitSp s
  case case1 => cases h
  case case2 cs ih =>
    intro w hw
    obtain ⟨a, as, hs⟩ := List.exists_cons_of_ne_nil (splitSp_ne_nil cs)
    rw [hs] at hw ih
    cases cs with
    | nil => exact absurd (Option.some.inj h).symm hx
    | cons d cs' => exact ih h w hw
  case case3 c cs _ a as hs ih =>
    rw [hs] at ih
    intro w hw
    cases cs with
    | nil => cases hs; cases h; obtain rfl : [c] = w := Option.some.inj hw; exact List.mem_singleton_self _
    | cons d cs' =>
      cases as with
      | nil => obtain rfl : c :: a = w := Option.some.inj hw; exact List.mem_cons_of_mem _ (ih h a rfl)
      | cons b bs => exact ih h w hw
  case case4 hs _ => exact absurd hs (splitSp_ne_nil _)

theorem splitSp_trimRight_lastNonblank (raw : Str) (hne : trimRight raw ≠ []) :
    LastNonblank (splitSp (trimRight raw)) := by
  intro w hw
  have hl := List.getLast?_eq_some_getLast hne
  have hs := trimRight_last raw _ hl
  exact ⟨_, splitSp_last _ _ hl (not_space_ne_blank hs) w hw, hs⟩

theorem join_splitSp (s : Str) : join (splitSp s) = s := by
  fun_induction splitSp s
  case case1 => rfl
  case case2 cs ih => rw [join.eq_3 _ _ (splitSp_ne_nil cs), ih]; rfl
  case case3 c cs _ w ws hs ih =>
    rw [hs] at ih
    rw [← ih]
    cases ws <;> rfl
  case case4 hs _ => exact absurd hs (splitSp_ne_nil _)

theorem fields_lastNonblank (s : Str) : LastNonblank (fields s) :=
  fun w hw => fields_mem_nonblank s w (List.mem_of_getLast? hw)

def CleanTop (ds : List Descr) : Prop := ∀ d ∈ ds, CleanTemplate d.template
def CleanSubs (ds : List Descr) : Prop := ∀ d ∈ ds, ∀ s ∈ d.sub, CleanTemplate s.1

def NoQuoteTop (ds : List Descr) : Prop := ∀ d ∈ ds, lit "\"" ∉ d.template

theorem mem_indexed {α : Type} {l : List α} {x : Nat × α} (h : x ∈ indexed l) : x.2 ∈ l :=
  (List.of_mem_zip h).2

theorem indexed_getD {α : Type} (l : List α) (dflt : α) (x : Nat × α) (h : x ∈ indexed l) :
    l.getD x.1 dflt = x.2 := by
  unfold indexed at h
  obtain ⟨i, hi, rfl⟩ := List.mem_iff_getElem.mp h
  simp at hi
  simp [hi]

theorem lookupAux_spec (ds : List (Nat × Descr)) (pre words : List Str) :
    Spec (fun o => ∀ c, o = some c → LastNonblank words → (∀ d ∈ ds, CleanTemplate d.2.template) →
        ∃ d ∈ ds, c.descr = d.1 ∧ CmdFrom d.2.pre d.2.template c)
      (fun _ => False) (fun _ => ∃ d ∈ ds, lit "\"" ∈ d.2.template) (lookupAux ds pre words) := by
  fun_induction lookupAux ds pre words
  case case1 | case2 => intro _ h; cases h
  case case4 ih => exact ih.imp fun o ho c e hl => ho c e hl.tail
  case case3 pre w rest pre' _ l _ =>
    refine (matchCmd_spec ..).mono (fun o ho c e hl hc => ?_) (fun _ h => h) fun p ⟨⟨d, hd, hq⟩, _⟩ => ?_
    · obtain ⟨d, hd, hdi, hcmd⟩ := ho c e hl.tail
        (List.forall_mem_map.2 fun e he => hc e (List.mem_filter.1 he).1)
      obtain ⟨e, he, rfl⟩ := List.mem_map.1 hd
      obtain ⟨hmem, hpre⟩ := List.mem_filter.1 he
      refine ⟨e, hmem, hdi, ?_⟩
      rwa [← of_decide_eq_true hpre, join_splitSp] at hcmd
    · obtain ⟨e, he, rfl⟩ := List.mem_map.1 hd
      exact ⟨e, (List.mem_filter.1 he).1, hq⟩

theorem lookupCmd_spec (ds : List Descr) (line : Str) :
    Spec (fun o => ∀ c, o = some c → LastNonblank (splitSp line) → CleanTop ds →
        ∃ d ∈ indexed ds, c.descr = d.1 ∧ CmdFrom d.2.pre d.2.template c)
      (fun _ => False) (fun _ => ¬ NoQuoteTop ds) (lookupCmd ds line) :=
  (lookupAux_spec ..).mono (fun _ ho c e hl hc => ho c e hl fun d hd => hc d.2 (mem_indexed hd))
    (fun _ h => h) fun _ ⟨d, hd, hq⟩ h => h d.2 (mem_indexed hd) hq

theorem lookupCmd_noPanic (ds : List Descr) (hq : NoQuoteTop ds) (line : Str) : NoPanic (lookupCmd ds line) :=
  fun _ e => (lookupCmd_spec ds line).panic e hq

/-- the words of `parsed` alone: what the index expressions into `strings.Fields(c.parsed)` rest on. -/
theorem lookupCmd_fields_ge (ds : List Descr) (hc : CleanTop ds) (raw : Str) (hne : trimRight raw ≠ [])
    (c : Cmd) (h : lookupCmd ds (trimRight raw) = .ok (some c)) :
    ∃ d ∈ indexed ds, c.descr = d.1 ∧
      (fields d.2.pre).length + d.2.template.length ≤ (fields c.parsed).length :=
  let ⟨d, hd, hdi, hlen, _⟩ := (lookupCmd_spec ds _).ok h c rfl (splitSp_trimRight_lastNonblank raw hne) hc
  ⟨d, hd, hdi, hlen⟩

end NA.C20
