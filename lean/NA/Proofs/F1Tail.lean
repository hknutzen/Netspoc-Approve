import NA.Proofs.F1DevGroups
/-!
# F1: `deleteUnused` on the strict device — the blocks of a round, and how it starts

Clearing a list of access lists and removing a list of groups are one filter of the device each.
-/
namespace NA.F1
open NA.AsaDev

theorem delAssoc_eq_filter {β : Type} (m : List (Name × β)) (k : Name) : delAssoc m k = m.filter (fun p => p.1 != k) := rfl

theorem exec1_clearAcl_ok (d : Dev) (n : Name) (h1 : hasAcl d n = true) (h2 : aclBound d n = false) :
    exec1 d (.clearAcl n) = .ok { d with acls := d.acls.filter (fun p => p.1 != n), mode := none } := by
  simp [exec1, h1, h2, delAssoc_eq_filter]

theorem exec1_noGrp_ok (d : Dev) (g : Name) (h1 : hasGroup d g = true) (h2 : groupReferenced d g = false) :
    exec1 d (.noGrp g) = .ok { d with groups := d.groups.filter (fun p => p.1 != g), mode := none } := by
  simp [exec1, h1, h2, delAssoc_eq_filter]

theorem clearAcls_exec : ∀ (ns : List Name) (d : Dev), ns.Nodup → (∀ n ∈ ns, hasAcl d n = true ∧ aclBound d n = false) →
    exec d (ns.map Chg.clearAcl) =
      some { d with acls := d.acls.filter (fun p => !ns.contains p.1), mode := if ns.isEmpty then d.mode else none } := by
  intro ns
  induction ns with
  | nil =>
    intro d _ _
    have : d.acls.filter (fun _ => true) = d.acls := List.filter_eq_self.mpr (fun _ _ => rfl)
    simp [exec_nil, this]
  | cons n ns ih =>
    intro d hnd h
    obtain ⟨hn, hnd'⟩ := List.nodup_cons.mp hnd
    obtain ⟨h1, h2⟩ := h n List.mem_cons_self
    rw [List.map_cons, exec_cons]
    simp only [step, exec1_clearAcl_ok d n h1 h2, Option.bind_some]
    rw [ih _ hnd']
    · simp only [List.filter_filter, List.isEmpty_cons, Bool.false_eq_true, if_false]
      congr 2
      · apply List.filter_congr
        intro p _
        simp only [List.contains_cons, Bool.not_or, bne, Bool.and_comm]
      · split <;> rfl
    · intro m hm
      obtain ⟨m1, m2⟩ := h m (List.mem_cons_of_mem _ hm)
      have hne : m ≠ n := fun e => hn (e ▸ hm)
      refine ⟨?_, m2⟩
      show (d.acls.filter fun p => p.1 != n).any (·.1 == m) = true
      rw [anyKey_filter_keep (· != n) m (bne_iff_ne.mpr hne)]
      exact m1

theorem noGrps_exec : ∀ (gs : List Name) (d : Dev), gs.Nodup → (∀ g ∈ gs, hasGroup d g = true ∧ groupReferenced d g = false) →
    exec d (gs.map Chg.noGrp) =
      some { d with groups := d.groups.filter (fun p => !gs.contains p.1), mode := if gs.isEmpty then d.mode else none } := by
  intro gs
  induction gs with
  | nil =>
    intro d _ _
    have : d.groups.filter (fun _ => true) = d.groups := List.filter_eq_self.mpr (fun _ _ => rfl)
    simp [exec_nil, this]
  | cons g gs ih =>
    intro d hnd h
    obtain ⟨hn, hnd'⟩ := List.nodup_cons.mp hnd
    obtain ⟨h1, h2⟩ := h g List.mem_cons_self
    rw [List.map_cons, exec_cons]
    simp only [step, exec1_noGrp_ok d g h1 h2, Option.bind_some]
    rw [ih _ hnd']
    · simp only [List.filter_filter, List.isEmpty_cons, Bool.false_eq_true, if_false]
      congr 2
      · apply List.filter_congr
        intro p _
        simp only [List.contains_cons, Bool.not_or, bne, Bool.and_comm]
      · split <;> rfl
    · intro m hm
      obtain ⟨m1, m2⟩ := h m (List.mem_cons_of_mem _ hm)
      have hne : m ≠ g := fun e => hn (e ▸ hm)
      refine ⟨?_, m2⟩
      show (d.groups.filter fun p => p.1 != g).any (·.1 == m) = true
      rw [anyKey_filter_keep (· != g) m (bne_iff_ne.mpr hne)]
      exact m1

theorem filter_nil_contains (l : List Name) : l.filter ([] : List Name).contains = [] :=
  List.filter_eq_nil_iff.mpr (fun _ _ => by simp)

theorem filter_notin_keep {β : Type} (R : List Name) (k : Name) (hk : k ∉ R) (m : List (Name × β)) :
    (m.filter fun p => !R.contains p.1).lookup k = m.lookup k ∧
    (m.filter fun p => !R.contains p.1).any (·.1 == k) = m.any (·.1 == k) :=
  have hkeep : (fun (x : Name) => !R.contains x) k = true := by simpa using hk
  ⟨lookup_filter_keep (fun x => !R.contains x) k hkeep m, anyKey_filter_keep (fun x => !R.contains x) k hkeep m⟩

theorem groupReferenced_false {d : Dev} {g : Name} (h : ∀ p ∈ d.acls, ∀ l ∈ p.2, g ∉ l.names) :
    groupReferenced d g = false := by
  unfold groupReferenced
  refine Bool.eq_false_iff.mpr fun hh => ?_
  obtain ⟨p, hp, hpl⟩ := List.any_eq_true.mp hh
  obtain ⟨l, hl, hlg⟩ := List.any_eq_true.mp hpl
  exact h p hp l hl (by simpa using hlg)

theorem filter_parts_disjoint (G : List Name) (R : Name → Bool) : ∀ g ∈ G.filter R, g ∉ G.filter fun g => !R g := by
  intro g hg hg'
  have h2 := (List.mem_filter.mp hg).2
  have h3 := (List.mem_filter.mp hg').2
  rw [h2] at h3
  exact absurd h3 (by decide)

/-- When something is pending, `deleteUnused` is the rounds after an optional `exit`, which the device accepts
and which changes only its mode. -/
theorem deleteUnused_start {e : Env} {st : St} {managed : List Nat} {p : Pending} {sr : Bool} (d : Dev) (hm : ModeRel st d)
    (hp : duPending e st managed = (p, sr)) (hE : ¬ p.isEmpty = true) :
    ∃ cs0 st2 md, deleteUnused e st managed = duRounds e (e.a.acls.length + e.a.groups.length + 2) st2 p ∧
      st2.out = st.out ++ cs0 ∧ exec d cs0 = some { d with mode := md } := by
  unfold deleteUnused
  rw [hp]
  simp only [hE, Bool.false_eq_true, if_false]
  have h1 : (if sr = true then st.hit "du:still-referenced" else st).out = st.out := by split <;> rfl
  have h1m : (if sr = true then st.hit "du:still-referenced" else st).mode = st.mode := by split <;> rfl
  generalize (if sr = true then st.hit "du:still-referenced" else st) = st1 at h1 h1m
  by_cases hmode : (st1.mode != "") = true
  · have hne : st.mode ≠ "" := by rw [← h1m]; simpa using hmode
    have hdm : d.mode = some st.mode := by unfold ModeRel at hm; rw [if_neg hne] at hm; exact hm
    refine ⟨[.exit], _, none, by rw [if_pos hmode], ?_, exec_single (exec1_exit_ok hdm)⟩
    simp only [St.emit, St.hit, h1]
  · refine ⟨[], _, d.mode, by rw [if_neg hmode], ?_, exec_nil d⟩
    rw [h1, List.append_nil]

end NA.F1
