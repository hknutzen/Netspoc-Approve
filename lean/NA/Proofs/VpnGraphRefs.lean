import NA.Proofs.VpnGraphTargets
/-!
Create-before-reference (C08), engine side: in the change list emitted before `deleteUnused` every
added sub-command that carries a reference names an object that exists at that point — it was on the
device from the start or an earlier command of the list created it — and nothing is deleted there.
-/
namespace NA.Vpn.G

/-- the objects that exist (in some form) after one more command -/
def stepDef (d : List Ref) : Chg → List Ref
  | .sec false k n _ _ => (k, n) :: d
  | .line n _ => (.acl, n) :: d
  | .pool false n _ => (.pool, n) :: d
  | .clear k n => d.filter fun x => x != (k, n)
  | .pool true n _ => d.filter fun x => x != (.pool, n)
  | _ => d

def definedAfter : List Ref → List Chg → List Ref
  | d, [] => d
  | d, c :: cs => definedAfter (stepDef d c) cs

/-- an added sub-command with a reference names an existing object -/
def refOK (d : List Ref) : Chg → Bool
  | .sub false _ (some x) _ _ => d.contains x
  | _ => true

def refsOK : List Ref → List Chg → Bool
  | _, [] => true
  | d, c :: cs => refOK d c && refsOK (stepDef d c) cs

def isDel : Chg → Bool
  | .clear _ _ => true
  | .pool true _ _ => true
  | _ => false

theorem definedAfter_snoc : ∀ (out : List Chg) (d : List Ref) (c : Chg),
    definedAfter d (out ++ [c]) = stepDef (definedAfter d out) c
  | [], _, _ => rfl
  | x :: xs, d, c => by simp only [List.cons_append, definedAfter]; exact definedAfter_snoc xs _ c

theorem refsOK_snoc : ∀ (out : List Chg) (d : List Ref) (c : Chg),
    refsOK d (out ++ [c]) = (refsOK d out && refOK (definedAfter d out) c)
  | [], d, c => by simp [refsOK, definedAfter]
  | x :: xs, d, c => by
    simp only [List.cons_append, refsOK, definedAfter, refsOK_snoc xs, Bool.and_assoc]

theorem stepDef_mono (d : List Ref) (c : Chg) (h : isDel c = false) (x : Ref) (hx : x ∈ d) : x ∈ stepDef d c := by
  cases c with
  | sec no k n hd md => cases no <;> simp [stepDef, hx]
  | sub no t r k b => exact hx
  | exit => exact hx
  | line n t => simp [stepDef, hx]
  | pool no n c => cases no <;> simp [stepDef, isDel, hx] at h ⊢
  | clear k n => simp [isDel] at h

/-- `A`: what exists on the device at the start. `pend`: the target objects whose transfer is running — an object is marked
ready before its commands are sent, so `df` speaks of it only once it has left the stack (`J.push`, `J.pop_ready`). -/
structure J (A : List Ref) (a b : List Obj) (pend : List Ref) (st : St) : Prop where
  sa : st.a = a
  sb : st.b = b
  ok : refsOK A st.out = true
  nd : ∀ c ∈ st.out, isDel c = false
  df : ∀ p ∈ st.ready, p.1 ∉ pend → (p.1.1, p.2) ∈ definedAfter A st.out

variable {A : List Ref} {a b : List Obj}

theorem J.step {pend : List Ref} {st st' : St} (h : J A a b pend st) (c : Chg)
    (ha : st'.a = st.a) (hb : st'.b = st.b) (hr : st'.ready = st.ready) (ho : st'.out = st.out ++ [c])
    (hd : isDel c = false) (hc : refOK (definedAfter A st.out) c = true) : J A a b pend st' where
  sa := by rw [ha]; exact h.sa
  sb := by rw [hb]; exact h.sb
  ok := by rw [ho, refsOK_snoc, h.ok, hc]; rfl
  nd := by rw [ho]; exact List.forall_mem_append.2 ⟨h.nd, List.forall_mem_singleton.2 hd⟩
  df := by
    intro p hp hnp
    rw [hr] at hp
    rw [ho, definedAfter_snoc]
    exact stepDef_mono _ c hd _ (h.df p hp hnp)

theorem J.same {pend : List Ref} {st st' : St} (h : J A a b pend st)
    (ha : st'.a = st.a) (hb : st'.b = st.b) (hr : st'.ready = st.ready) (ho : st'.out = st.out) : J A a b pend st' where
  sa := by rw [ha]; exact h.sa
  sb := by rw [hb]; exact h.sb
  ok := by rw [ho]; exact h.ok
  nd := by rw [ho]; exact h.nd
  df := by rw [hr, ho]; exact h.df

theorem J.setReady {pend : List Ref} {st : St} (h : J A a b pend st) (r : Ref) (n : String)
    (hn : r ∈ pend ∨ (r.1, n) ∈ definedAfter A st.out) : J A a b pend (st.setReady r n) where
  sa := h.sa
  sb := h.sb
  ok := h.ok
  nd := h.nd
  df := by
    intro p hp hnp
    rcases mem_setReady.1 hp with h1 | ⟨h1, _⟩
    · rw [h1] at hnp ⊢
      rcases hn with h2 | h2
      · exact absurd h2 hnp
      · exact h2
    · exact h.df p h1 hnp

theorem J.markNeeded {pend : List Ref} {st : St} (h : J A a b pend st) (r : Ref) : J A a b pend (st.markNeeded r) :=
  h.same (markNeeded_a st r) (markNeeded_b st r) (markNeeded_ready st r) (markNeeded_out st r)

theorem J.pop {pend : List Ref} {st : St} (r : Ref) (h : J A a b (r :: pend) st)
    (hr : ∀ n, (r, n) ∈ st.ready → (r.1, n) ∈ definedAfter A st.out) : J A a b pend st where
  sa := h.sa
  sb := h.sb
  ok := h.ok
  nd := h.nd
  df := by
    intro p hp hnp
    by_cases e : p.1 = r
    · have : p = (r, p.2) := by rw [← e]
      rw [this] at hp
      rw [e]; exact hr p.2 hp
    · exact h.df p hp (by
        intro hm
        cases hm with
        | head => exact e rfl
        | tail _ hm => exact hnp hm)

theorem J.push {pend : List Ref} {st : St} (r : Ref) (h : J A a b pend st) : J A a b (r :: pend) st :=
  ⟨h.sa, h.sb, h.ok, h.nd, fun p hp hnp => h.df p hp (fun hm => hnp (List.mem_cons_of_mem _ hm))⟩

theorem J.emit {pend : List Ref} {st : St} (h : J A a b pend st) (c : Chg) (hd : isDel c = false)
    (hc : refOK (definedAfter A st.out) c = true) : J A a b pend (st.emit c) :=
  h.step c rfl rfl rfl rfl hd hc

theorem J.withMode {pend : List Ref} {st : St} (h : J A a b pend st) (m : Option (Kind × String × String)) :
    J A a b pend { st with mode := m } := h.same rfl rfl rfl rfl

theorem J.setMode {pend : List Ref} {st : St} (h : J A a b pend st) (k : Kind) (n hd : String) :
    J A a b pend (st.setMode k n hd) := by
  unfold St.setMode
  split
  · exact h
  · split
    · exact ((h.emit .exit rfl rfl).emit (.sec false k n hd true) rfl rfl).withMode _
    · exact (h.emit (.sec false k n hd true) rfl rfl).withMode _

/-- the referenced target object is on the device under the name it is printed with -/
def Rdy (pend : List Ref) (st : St) (r : Ref) : Prop := st.isReady r = true ∧ r ∉ pend

theorem J.rdy_defined {pend : List Ref} {st : St} (h : J A a b pend st) (r : Ref) (hr : Rdy pend st r) :
    (r.1, st.cur r) ∈ definedAfter A st.out :=
  h.df (r, st.cur r) (cur_mem_ready st r hr.1) hr.2

theorem J.emitSub {pend : List Ref} {st : St} (h : J A a b pend st) (s : Sub)
    (hs : ∀ r, s.ref = some r → Rdy pend st r) :
    J A a b pend (st.emit (.sub false (st.subText s) (st.subRef s) s.key s.body)) := by
  apply h.emit _ rfl
  unfold St.subRef
  cases hr : s.ref with
  | none => rfl
  | some r =>
    simpa [refOK] using h.rdy_defined r (hs r hr)

/-- references resolve and go to kinds of strictly lower rank; new access-lists have lines, new sectioned objects have commands -/
structure WF (A : List Ref) (a b : List Obj) : Prop where
  bres : ∀ o ∈ b, ∀ x ∈ o.refs, (b.find? fun y => y.id == x).isSome = true ∧ rk x.1 < rk o.kind
  ares : ∀ o ∈ a, ∀ x ∈ o.refs, (a.find? fun y => y.id == x).isSome = true ∧ rk x.1 < rk o.kind
  bacl : ∀ o ∈ b, o.kind = .acl → o.lines ≠ []
  bsec : ∀ o ∈ b, rk o.kind ≠ 0 → o.secs ≠ []
  dev : ∀ o ∈ a, o.id ∈ A

/-- ready marks are never taken back, existing objects stay -/
def Mono (A : List Ref) (m : Nat) (st st' : St) : Prop :=
  (∀ y, st.isReady y = true → st'.isReady y = true) ∧ (∀ x ∈ definedAfter A st.out, x ∈ definedAfter A st'.out) ∧
  (∀ p ∈ st'.ready, p ∈ st.ready ∨ rk p.1.1 < m)     -- new ready marks only for objects of rank below `m`

theorem Mono.refl {m : Nat} (st : St) : Mono A m st st := ⟨fun _ h => h, fun _ h => h, fun _ h => Or.inl h⟩
theorem Mono.trans {m : Nat} {s1 s2 s3 : St} (h1 : Mono A m s1 s2) (h2 : Mono A m s2 s3) : Mono A m s1 s3 :=
  ⟨fun y h => h2.1 y (h1.1 y h), fun x h => h2.2.1 x (h1.2.1 x h), fun p hp => (h2.2.2 p hp).elim (h1.2.2 p) Or.inr⟩
theorem Mono.weaken {m m' : Nat} {st st' : St} (hm : m ≤ m') (h : Mono A m st st') : Mono A m' st st' :=
  ⟨h.1, h.2.1, fun p hp => (h.2.2 p hp).imp_right fun h' => by omega⟩
theorem Mono.of_same {m : Nat} {st st' : St} (h : st'.ready = st.ready) (ho : st'.out = st.out) : Mono A m st st' := by
  refine ⟨?_, ?_, ?_⟩
  · exact fun y hy => (isReady_congr st st' h y).trans hy
  · intro x hx; rw [ho]; exact hx
  · intro p hp; rw [h] at hp; exact Or.inl hp

theorem Mono.emit {m : Nat} (st : St) (c : Chg) (hd : isDel c = false) : Mono A m st (st.emit c) := by
  refine ⟨fun _ h => h, ?_, fun _ h => Or.inl h⟩
  intro x hx
  show x ∈ definedAfter A (st.out ++ [c])
  rw [definedAfter_snoc]; exact stepDef_mono _ c hd x hx

theorem Mono.setMode {m : Nat} (st : St) (k : Kind) (n hd : String) : Mono A m st (st.setMode k n hd) := by
  unfold St.setMode
  split
  · exact Mono.refl _
  · split
    · exact ((Mono.emit st .exit rfl).trans (Mono.emit _ (.sec false k n hd true) rfl)).trans (Mono.of_same rfl rfl)
    · exact (Mono.emit st (.sec false k n hd true) rfl).trans (Mono.of_same rfl rfl)

theorem Mono.setReady {st : St} (x : Ref) (n : String) : Mono A (rk x.1 + 1) st (st.setReady x n) := by
  refine ⟨fun y hy => isReady_setReady_mono st x y n hy, fun _ h => h, ?_⟩
  intro p hp
  rcases mem_setReady.1 hp with h | h
  · right; rw [h]; exact Nat.lt_succ_self _
  · exact Or.inl h.1

theorem Mono.markNeeded {m : Nat} (st : St) (r : Ref) : Mono A m st (st.markNeeded r) :=
  Mono.of_same (markNeeded_ready st r) (markNeeded_out st r)

theorem foldl_opt_J {α : Type} {pend : List Ref} {m : Nat} {g : St → α → Option St} {l : List α} {st st' : St}
    (hg : ∀ x ∈ l, ∀ st st', J A a b pend st → g st x = some st' → J A a b pend st' ∧ Mono A m st st')
    (he : l.foldl (fun (acc : Option St) x => acc.bind fun st => g st x) (some st) = some st') (h : J A a b pend st) :
    J A a b pend st' ∧ Mono A m st st' :=
  foldl_opt_rel Mono.refl (fun _ _ _ => Mono.trans) hg he h

theorem foldl_J {α : Type} {pend : List Ref} {m : Nat} {g : St → α → St} {l : List α} {st : St}
    (hg : ∀ x ∈ l, ∀ st, J A a b pend st → J A a b pend (g st x) ∧ Mono A m st (g st x)) (h : J A a b pend st) :
    J A a b pend (l.foldl g st) ∧ Mono A m st (l.foldl g st) :=
  foldl_inv_rel Mono.refl (fun _ _ _ => Mono.trans) hg h

theorem defined_emit (st : St) (c : Chg) (r : Ref) (h : ∀ d, r ∈ stepDef d c) : r ∈ definedAfter A (st.emit c).out := by
  show r ∈ definedAfter A (st.out ++ [c])
  rw [definedAfter_snoc]; exact h _

theorem J.addSec {pend : List Ref} {st : St} (h : J A a b pend st) (k : Kind) (n : String) (sec : Sec) (m : Nat)
    (hs : ∀ s ∈ sec.subs, ∀ r, s.ref = some r → Rdy pend st r) :
    J A a b pend (addSec st k n sec) ∧ Mono A m st (addSec st k n sec) ∧ (k, n) ∈ definedAfter A (addSec st k n sec).out := by
  unfold G.addSec
  refine foldl_inv (P := fun s => J A a b pend s ∧ Mono A m st s ∧ (k, n) ∈ definedAfter A s.out) ?_
    ⟨(h.emit _ rfl rfl).withMode _, (Mono.emit st _ rfl).trans (Mono.of_same rfl rfl),
      defined_emit st _ _ (fun _ => List.mem_cons_self)⟩
  intro s hsm st2 h2
  have me := Mono.emit (A := A) (m := m) st2 (.sub false (st2.subText s) (st2.subRef s) s.key s.body) rfl
  exact ⟨h2.1.emitSub s (fun r hr => ⟨h2.2.1.1 r (hs s hsm r hr).1, (hs s hsm r hr).2⟩), h2.2.1.trans me, me.2.1 _ h2.2.2⟩

def AddJ (A : List Ref) (a b : List Obj) (f : Nat) (add : St → Ref → Option St) : Prop :=
  ∀ pend st x st', J A a b pend st → (b.find? fun y => y.id == x).isSome = true → rk x.1 < f →
    (∀ q ∈ pend, rk x.1 < rk q.1) → add st x = some st' →
    J A a b pend st' ∧ st'.isReady x = true ∧ Mono A (rk x.1 + 1) st st'

theorem not_mem_pend {pend : List Ref} {x : Ref} (h : ∀ q ∈ pend, rk x.1 < rk q.1) : x ∉ pend := by
  intro hm
  have := h x hm
  omega

/-- a reference of the target that may be followed now: it resolves and its rank is below the bound `f`, below `m` and below
that of every pending object -/
structure RefOK (b : List Obj) (f m : Nat) (pend : List Ref) (x : Ref) : Prop where
  res : (b.find? fun y => y.id == x).isSome = true
  lt : rk x.1 < f
  ltm : rk x.1 < m
  pend : ∀ q ∈ pend, rk x.1 < rk q.1

def SubsOK (b : List Obj) (f m : Nat) (pend : List Ref) (subs : List Sub) : Prop :=
  ∀ s ∈ subs, ∀ x, s.ref = some x → RefOK b f m pend x

theorem SubsOK.sub {b : List Obj} {f m : Nat} {pend : List Ref} {l : List Sub} (h : SubsOK b f m pend l) (idx : List Nat) :
    SubsOK b f m pend (idx.filterMap fun i => l[i]?) :=
  fun s hs => h s (mem_of_filterMap_get l idx s hs)

theorem addRef_J {f : Nat} {add : St → Ref → Option St} (hadd : AddJ A a b f add) {pend : List Ref} {m : Nat} {s : Sub}
    (hok : ∀ x, s.ref = some x → RefOK b f m pend x)
    {st st' : St} (h : J A a b pend st) (he : (match s.ref with | some x => add st x | none => some st) = some st') :
    J A a b pend st' ∧ Mono A m st st' ∧ ∀ x, s.ref = some x → st'.isReady x = true := by
  cases hr : s.ref with
  | none => simp only [hr] at he; cases he; exact ⟨h, Mono.refl _, fun _ e => nomatch e⟩
  | some x =>
    simp only [hr] at he
    have hx := hok x hr
    have h1 := hadd pend st x st' h hx.res hx.lt hx.pend he
    exact ⟨h1.1, h1.2.2.weaken hx.ltm, fun y e => by cases e; exact h1.2.1⟩

theorem followSubs_J {f : Nat} {add : St → Ref → Option St} (hadd : AddJ A a b f add) (pend : List Ref) (m : Nat)
    (subs : List Sub) (st st' : St) (h : J A a b pend st) (hok : SubsOK b f m pend subs) (he : followSubs add st subs = some st') :
    J A a b pend st' ∧ (∀ s ∈ subs, ∀ x, s.ref = some x → st'.isReady x = true) ∧ Mono A m st st' := by
  -- what an earlier step made ready stays ready
  have := foldl_opt_each (P := J A a b pend) (M := Mono A m) (Q := fun (s : Sub) st => ∀ x, s.ref = some x → st.isReady x = true)
    Mono.refl (fun _ _ _ => Mono.trans) (fun _ _ _ hq hm x hx => hm.1 x (hq x hx))
    (fun s hs st st' hj e => addRef_J hadd (hok s hs) hj e) he h
  exact ⟨this.1, this.2.2, this.2.1⟩

theorem addSecs_J {f : Nat} {add : St → Ref → Option St} (hadd : AddJ A a b f add) (pend : List Ref) (m : Nat) (k : Kind) (n : String)
    (secs : List Sec) (st st' : St) (h : J A a b pend st) (hok : ∀ sec ∈ secs, SubsOK b f m pend sec.subs)
    (he : addSecs add st k n secs = some st') :
    J A a b pend st' ∧ Mono A m st st' ∧ (secs ≠ [] → (k, n) ∈ definedAfter A st'.out) := by
  -- one top-level command: its references first, then the command with its sub-commands
  have step : ∀ sec ∈ secs, ∀ s s', J A a b pend s → ((followSubs add s sec.subs).map fun s => addSec s k n sec) = some s' →
      J A a b pend s' ∧ Mono A m s s' ∧ (k, n) ∈ definedAfter A s'.out := by
    intro sec hsec s s' hs e
    obtain ⟨s1, hf, rfl⟩ := Option.map_eq_some_iff.1 e
    have h1 := followSubs_J hadd pend m sec.subs s s1 hs (hok sec hsec) hf
    have h2 := h1.1.addSec k n sec m (fun x hx r hr => ⟨h1.2.1 x hx r hr, not_mem_pend (hok sec hsec x hx r hr).pend⟩)
    exact ⟨h2.1, h1.2.2.trans h2.2.1, h2.2.2⟩
  have hj := foldl_opt_J
    (fun sec hsec s s' hs e => ⟨(step sec hsec s s' hs e).1, (step sec hsec s s' hs e).2.1⟩) he h
  refine ⟨hj.1, hj.2, ?_⟩
  -- the first command defines the object, the others keep it
  cases secs with
  | nil => exact fun hne => absurd rfl hne
  | cons sec secs =>
    intro _
    unfold addSecs at he
    rw [List.foldl_cons, Option.bind_some] at he
    obtain ⟨s1, h1, he⟩ := foldl_opt_start he
    have i1 := step sec List.mem_cons_self st s1 h h1
    exact (foldl_opt_J
      (fun sec hsec s s' hs e => ⟨(step sec (List.mem_cons_of_mem _ hsec) s s' hs e).1,
        (step sec (List.mem_cons_of_mem _ hsec) s s' hs e).2.1⟩) he i1.1).2.2.1 _ i1.2.2

def DiffJ (A : List Ref) (a b : List Obj) (f : Nat) (diff : St → Ref → Ref → Option (St × String)) : Prop :=
  ∀ pend st xa xb st' n, J A a b pend st → (a.find? fun y => y.id == xa).isSome = true →
    (b.find? fun y => y.id == xb).isSome = true → xa.1 = xb.1 → rk xb.1 < f →
    (∀ q ∈ pend, rk xb.1 < rk q.1) → diff st xa xb = some (st', n) →
    J A a b pend st' ∧ st'.isReady xb = true ∧ Mono A (rk xb.1 + 1) st st'

def MarkJ (A : List Ref) (a b : List Obj) (mark : St → Ref → St) : Prop :=
  ∀ (m : Nat) pend st x, J A a b pend st → J A a b pend (mark st x) ∧ Mono A m st (mark st x)

theorem J.setModeSub {pend : List Ref} {st : St} (h : J A a b pend st) (m : Nat) (k : Kind) (n hd : String) (s : Sub)
    (hs : ∀ r, s.ref = some r → Rdy pend st r) :
    J A a b pend ((st.setMode k n hd).emit (.sub false ((st.setMode k n hd).subText s) ((st.setMode k n hd).subRef s) s.key s.body)) ∧
      Mono A m st ((st.setMode k n hd).emit (.sub false ((st.setMode k n hd).subText s) ((st.setMode k n hd).subRef s) s.key s.body)) :=
  ⟨(h.setMode k n hd).emitSub s (fun r hr => ⟨(Mono.setMode (A := A) (m := m) st k n hd).1 r (hs r hr).1, (hs r hr).2⟩),
    (Mono.setMode st k n hd).trans (Mono.emit _ _ rfl)⟩

theorem addSubs_J {f : Nat} {add : St → Ref → Option St} (hadd : AddJ A a b f add) (pend : List Ref) (m : Nat) (k : Kind) (n hd : String)
    (l : List Sub) (st st' : St) (h : J A a b pend st) (hok : SubsOK b f m pend l) (he : addSubs add st k n hd l = some st') :
    J A a b pend st' ∧ Mono A m st st' := by
  refine foldl_opt_J ?_ he h
  intro s hs st st' hj e
  obtain ⟨st1, h1, rfl⟩ := Option.map_eq_some_iff.1 e
  have i1 := addRef_J hadd (hok s hs) hj h1
  have i2 := i1.1.setModeSub m k n hd s (fun r hr => ⟨i1.2.2 r hr, not_mem_pend (hok s hs r hr).pend⟩)
  exact ⟨i2.1, i1.2.1.trans i2.2⟩

theorem delSubs_J {mark : St → Ref → St} (hmark : MarkJ A a b mark) (pend : List Ref) (m : Nat) (k : Kind) (n hd : String)
    (l : List Sub) (st : St) (h : J A a b pend st) :
    J A a b pend (delSubs mark st k n hd l) ∧ Mono A m st (delSubs mark st k n hd l) := by
  unfold delSubs
  have h1 := foldl_J (m := m)
    (g := fun st (s : Sub) => (st.setMode k n hd).emit (.sub true s.orig s.ref s.key s.body)) (l := l)
    (fun s _ st hj => ⟨(hj.setMode k n hd).emit _ rfl rfl, (Mono.setMode st k n hd).trans (Mono.emit _ _ rfl)⟩) h
  have h2 := foldl_J (m := m)
    (l := l.filterMap (·.ref)) (fun x _ st hj => hmark m pend st x hj) h1.1
  exact ⟨h2.1, h1.2.trans h2.2⟩

theorem equalSubs_J {f : Nat} {diff : St → Ref → Ref → Option (St × String)} (hdiff : DiffJ A a b f diff) (pend : List Ref) (m : Nat)
    (k : Kind) (n hd : String) (pairs : List (Sub × Sub))
    (hp : ∀ q ∈ pairs, ∀ xa xb, q.1.ref = some xa → q.2.ref = some xb →
      (a.find? fun y => y.id == xa).isSome = true ∧ xa.1 = xb.1 ∧ RefOK b f m pend xb)
    (st st' : St) (h : J A a b pend st) (he : equalSubs diff st k n hd pairs = some st') :
    J A a b pend st' ∧ Mono A m st st' := by
  refine foldl_opt_J ?_ he h
  intro q hq st st' hj hs
  cases h1 : q.1.ref with
  | none => simp only [h1] at hs; cases hs; exact ⟨hj, Mono.refl _⟩
  | some xa =>
    cases h2 : q.2.ref with
    | none => simp only [h1, h2] at hs; cases hs; exact ⟨hj, Mono.refl _⟩
    | some xb =>
      simp only [h1, h2] at hs
      obtain ⟨r, hd', rfl⟩ := Option.map_eq_some_iff.1 hs
      have hr := hp q hq xa xb h1 h2
      have hi := hdiff pend st xa xb r.1 r.2 hj hr.1 hr.2.2.res hr.2.1 hr.2.2.lt hr.2.2.pend hd'
      have hmo : Mono A m st r.1 := hi.2.2.weaken hr.2.2.ltm
      split
      · have i2 := hi.1.setModeSub m k n hd q.2 (fun x hx => by
          rw [h2] at hx; cases hx
          exact ⟨hi.2.1, not_mem_pend hr.2.2.pend⟩)
        exact ⟨i2.1, hmo.trans i2.2⟩
      · exact ⟨hi.1, hmo⟩

theorem diffSubs_J {f : Nat} {add : St → Ref → Option St} {diff : St → Ref → Ref → Option (St × String)} {mark : St → Ref → St}
    (hadd : AddJ A a b f add) (hdiff : DiffJ A a b f diff) (hmark : MarkJ A a b mark) (pend : List Ref) (m : Nat)
    (k : Kind) (n hd : String) (sa sb : List Sub)
    (hsa : ∀ s ∈ sa, ∀ x, s.ref = some x → (a.find? fun y => y.id == x).isSome = true)
    (hsb : SubsOK b f m pend sb) (hkk : KindByKey sa sb) (st st' : St)
    (h : J A a b pend st) (he : diffSubs add diff mark st k n hd sa sb = some st') : J A a b pend st' ∧ Mono A m st st' := by
  unfold diffSubs at he
  by_cases h0 : (sa.isEmpty && sb.isEmpty) = true
  · rw [if_pos h0] at he; cases he; exact ⟨h, Mono.refl _⟩
  · rw [if_neg h0] at he
    dsimp only at he
    by_cases hv : (NA.Vpn.unorderedA (keysOf sb) (keysOf sa) 0 []).1.isEmpty = true
    · -- no sub-command in common
      rw [if_pos hv] at he
      have h1 : J A a b pend (if sa.isEmpty then st else delSubs mark st k n hd sa) ∧
          Mono A m st (if sa.isEmpty then st else delSubs mark st k n hd sa) := by
        split
        · exact ⟨h, Mono.refl _⟩
        · exact delSubs_J hmark pend m k n hd sa st h
      split at he
      · cases he; exact h1
      · have h2 := addSubs_J hadd pend m k n hd sb _ st' h1.1 hsb he
        exact ⟨h2.1, h1.2.trans h2.2⟩
    · rw [if_neg hv] at he
      obtain ⟨st2, h2, he⟩ := foldl_opt_start he
      have h1 := delSubs_J hmark pend m k n hd
        ((NA.Vpn.unorderedA (keysOf sb) (keysOf sa) 0 []).2.1.filterMap fun i => sa[i]?) st h
      have hi2 := equalSubs_J hdiff pend m k n hd _ (by
        intro q hq xa xb hxa hxb
        obtain ⟨hma, hmb, hkey⟩ := pairsOf_keys (fun (s : Sub) => s.key) sa sb q hq
        exact ⟨hsa q.1 hma xa hxa, hkk q.1 hma q.2 hmb hkey xa xb hxa hxb, hsb q.2 hmb xb hxb⟩) _ st2 h1.1 h2
      have hi3 := foldl_opt_J
        (fun (run : List Nat) _ st st' hj hs => addSubs_J hadd pend m k n hd _ st st' hj (hsb.sub run) hs) he hi2.1
      exact ⟨hi3.1, (h1.2.trans hi2.2).trans hi3.2⟩

theorem delSecs_J {mark : St → Ref → St} (hmark : MarkJ A a b mark) (pend : List Ref) (m : Nat) (k : Kind) (n : String)
    (secs : List Sec) (st : St) (h : J A a b pend st) :
    J A a b pend (delSecs mark st k n secs) ∧ Mono A m st (delSecs mark st k n secs) := by
  unfold delSecs
  refine foldl_J (m := m) ?_ h
  intro sec _ st hj
  have h2 := foldl_J (m := m)
    (l := sec.subs.filterMap (·.ref)) (fun x _ st hj => hmark m pend st x hj)
    ((hj.emit (.sec true k n sec.head sec.mode) rfl rfl).withMode none)
  exact ⟨h2.1, ((Mono.emit st _ rfl).trans (Mono.of_same rfl rfl)).trans h2.2⟩

theorem diffSecs_J {f : Nat} {add : St → Ref → Option St} {diff : St → Ref → Ref → Option (St × String)} {mark : St → Ref → St}
    (hadd : AddJ A a b f add) (hdiff : DiffJ A a b f diff) (hmark : MarkJ A a b mark) (pend : List Ref) (m : Nat)
    (k : Kind) (n : String) (sa sb : List Sec)
    (hsa : ∀ sec ∈ sa, ∀ s ∈ sec.subs, ∀ x, s.ref = some x → (a.find? fun y => y.id == x).isSome = true)
    (hsb : ∀ sec ∈ sb, SubsOK b f m pend sec.subs)
    (hkk : ∀ x ∈ sa, ∀ y ∈ sb, KindByKey x.subs y.subs)
    (u : List (Nat × Nat) × List Nat × List String) (st st' : St)
    (h : J A a b pend st) (he : diffSecs add diff mark st k n sa sb u = some st') :
    J A a b pend st' ∧ Mono A m st st' := by
  unfold diffSecs at he
  obtain ⟨st2, h2, he⟩ := Option.bind_eq_some_iff.1 he
  have h1 := delSecs_J hmark pend m k n (u.2.1.filterMap fun i => sa[i]?) st h
  have hi2 := foldl_opt_J (by
    intro p hp st st' hj hs
    have hm := pairsOf_mem hp
    exact diffSubs_J hadd hdiff hmark pend m k n p.2.head p.1.subs p.2.subs (hsa p.1 hm.1) (hsb p.2 hm.2) (hkk p.1 hm.1 p.2 hm.2)
      st st' hj hs) h2 h1.1
  have hi3 := addSecs_J hadd pend m k n _ st2 st' hi2.1 (fun sec hsec => hsb sec (mem_of_filterMap_get sb _ sec hsec)) he
  exact ⟨hi3.1, (h1.2.trans hi2.2).trans hi3.2.1⟩

theorem markDel_J (f : Nat) : MarkJ A a b (markDel f) := by
  intro m pend st x hj
  have h := markDel_quiet f st x
  exact ⟨hj.same h.a h.b h.ready h.out, Mono.of_same h.ready h.out⟩

theorem defined_init : ∀ (out : List Chg) (d : List Ref), (∀ c ∈ out, isDel c = false) → ∀ r ∈ d, r ∈ definedAfter d out
  | [], _, _, _, h => h
  | c :: cs, d, hn, r, h =>
    defined_init cs (stepDef d c) (fun x hx => hn x (List.mem_cons_of_mem _ hx)) r
      (stepDef_mono d c (hn c List.mem_cons_self) r h)

theorem J.dev_defined {pend : List Ref} {st : St} (hw : WF A a b) (h : J A a b pend st) {r : Ref} {o : Obj} (ho : st.aObj r = some o) :
    r ∈ definedAfter A st.out := by
  rw [← (aObj_mem h.sa ho).2]
  exact defined_init st.out A h.nd o.id (hw.dev o (aObj_mem h.sa ho).1)

/-- A finished object leaves the stack: it was marked ready under `n`, since then only marks of lower rank were added, and `n` now exists. -/
theorem J.pop_ready {pend : List Ref} {st s2 : St} {x : Ref} {n : String} {m : Nat} (h : J A a b (x :: pend) s2)
    (hm : Mono A m (st.setReady x n) s2) (hle : m ≤ rk x.1) (hd : (x.1, n) ∈ definedAfter A s2.out) :
    J A a b pend s2 ∧ s2.isReady x = true ∧ Mono A (rk x.1 + 1) st s2 := by
  refine ⟨h.pop x ?_, hm.1 x (isReady_setReady_self st x n), (Mono.setReady x n).trans (hm.weaken (by omega))⟩
  intro n' hn'
  rcases hm.2.2 (x, n') hn' with h3 | h3
  · rcases mem_setReady.1 h3 with e | ⟨_, hne⟩
    · cases e; exact hd
    · exact absurd rfl hne
  · exact absurd h3 (by show ¬ rk x.1 < m; omega)

theorem lines_J (pend : List Ref) (n : String) (m : Nat) (ls : List String) (st : St) (h : J A a b pend st) :
    J A a b pend (ls.foldl (fun st l => st.emit (.line n l)) st) ∧ Mono A m st (ls.foldl (fun st l => st.emit (.line n l)) st) ∧
      (ls ≠ [] → (Kind.acl, n) ∈ definedAfter A (ls.foldl (fun st l => st.emit (.line n l)) st).out) := by
  have step : ∀ (ls : List String) (st : St), J A a b pend st →
      J A a b pend (ls.foldl (fun st l => st.emit (.line n l)) st) ∧ Mono A m st (ls.foldl (fun st l => st.emit (.line n l)) st) :=
    fun ls st h => foldl_J (m := m)
      (fun l _ st hj => ⟨hj.emit (.line n l) rfl rfl, Mono.emit st _ rfl⟩) h
  refine ⟨(step ls st h).1, (step ls st h).2, ?_⟩
  cases ls with
  | nil => exact fun hne => absurd rfl hne
  | cons l ls =>
    -- the first line defines the access-list, the others keep it
    exact fun _ => (step ls _ (h.emit (.line n l) rfl rfl)).2.2.1 _ (defined_emit st _ _ (fun _ => List.mem_cons_self))

theorem addAny_J (hw : WF A a b) : ∀ f, AddJ A a b f (addAny f)
  | 0 => by intro pend st x st' _ _ hf; omega
  | f + 1 => by
    intro pend st x st' hj hres hf hp he
    obtain ⟨o, hob⟩ : ∃ o, st.bObj x = some o := by
      rw [bObj_eq hj.sb]; exact Option.isSome_iff_exists.1 hres
    have hom := bObj_mem hj.sb hob
    have hkind : o.kind = x.1 := congrArg Prod.fst hom.2
    by_cases hk : x.1 = .aaa
    · rw [addAny_aaa f st hk] at he
      split at he
      · rename_i hex
        cases he
        obtain ⟨oa, hoa⟩ := Option.isSome_iff_exists.1 hex
        have hdef : (x.1, x.2) ∈ definedAfter A (st.markNeeded x).out := by
          rw [markNeeded_out]; exact hj.dev_defined hw hoa
        exact ⟨(hj.markNeeded x).setReady x x.2 (Or.inr hdef), isReady_setReady_self _ x _,
          (Mono.markNeeded st x).trans (Mono.setReady x x.2)⟩
      · cases he
    cases hr : st.isReady x with
    | true => rw [addAny_done f hk (Or.inr hr)] at he; cases he; exact ⟨hj, hr, Mono.refl _⟩
    | false =>
    -- the object is pending while its lines are sent / what it references is transferred
    have h1 : J A a b (x :: pend) (st.setReady x (st.cur x)) := (hj.push x).setReady x _ (Or.inl List.mem_cons_self)
    rcases Kind.shape x.1 with hk' | hk' | hk' | hk'
    · exact absurd hk' hk
    · rw [addAny_acl f hk' hob hr] at he
      cases he
      have h2 := lines_J (x :: pend) (st.cur x) 0 o.lines _ h1
      refine J.pop_ready (h2.1.withMode _) (h2.2.1.trans (Mono.of_same rfl rfl)) (Nat.zero_le _) ?_
      rw [hk']; exact h2.2.2 (hw.bacl o hom.1 (by rw [hkind, hk']))
    · rw [addAny_pool f hk' hob hr] at he
      split at he
      · rename_i dn hfound
        cases he
        obtain ⟨od, hod, _⟩ := findPool_spec _ _ dn hfound
        have h2 := h1.markNeeded (.pool, dn)
        have hdef : (x.1, dn) ∈ definedAfter A ((st.setReady x (st.cur x)).markNeeded (.pool, dn)).out := by
          rw [hk', markNeeded_out]; exact h1.dev_defined hw hod
        have h3 := J.pop_ready (m := 0) (h2.setReady x dn (Or.inr hdef)) (Mono.refl _) (Nat.zero_le _) hdef
        exact ⟨h3.1, h3.2.1, ((Mono.setReady x _).trans (Mono.markNeeded _ _)).trans h3.2.2⟩
      · cases he
        refine J.pop_ready ((h1.emit (.pool false (st.cur x) (o.lines.headD "")) rfl rfl).withMode _)
          ((Mono.emit _ _ rfl).trans (Mono.of_same rfl rfl)) (Nat.zero_le _) ?_
        rw [hk']; exact defined_emit _ _ _ (fun _ => List.mem_cons_self)
    · rw [addAny_sec f hk' hob hr] at he
      have hsub : ∀ sec ∈ o.secs, SubsOK b f (rk x.1) (x :: pend) sec.subs := by
        intro sec hsec s hs y hy
        have hy' := hw.bres o hom.1 y (ref_mem_refs o sec s y hsec hs hy)
        rw [hkind] at hy'
        refine ⟨hy'.1, by omega, hy'.2, ?_⟩
        intro q hq
        cases hq with
        | head => exact hy'.2
        | tail _ hq => have := hp q hq; omega
      have h2 := addSecs_J (addAny_J hw f) (x :: pend) (rk x.1) x.1 (st.cur x) o.secs _ st' h1 hsub he
      exact h2.1.pop_ready h2.2.1 (Nat.le_refl _) (h2.2.2 (hw.bsec o hom.1 (by rw [hkind]; exact hk')))

theorem diffAny_J (hw : WF A a b)
    (hkk : ∀ x ∈ a, ∀ y ∈ b, ∀ sx ∈ x.secs, ∀ sy ∈ y.secs, KindByKey sx.subs sy.subs) : ∀ f, DiffJ A a b f (diffAny f)
  | 0 => by intro pend st xa xb st' n _ _ _ _ hf; omega
  | f + 1 => by
    intro pend st xa xb st' n hj hra hrb hkind hf hp he
    obtain ⟨oa, hoa⟩ : ∃ o, st.aObj xa = some o := by
      rw [aObj_eq hj.sa]; exact Option.isSome_iff_exists.1 hra
    obtain ⟨ob, hob⟩ : ∃ o, st.bObj xb = some o := by
      rw [bObj_eq hj.sb]; exact Option.isSome_iff_exists.1 hrb
    -- a device object `r0` (`xa`, or a pool of the same content), kept for `xb` under its name, exists from the start
    have keep : ∀ {s : St} {r0 : Ref} {o0 : Obj}, J A a b pend s → s.aObj r0 = some o0 → r0.1 = xb.1 →
        J A a b pend ((s.markNeeded r0).setReady xb r0.2) ∧ ((s.markNeeded r0).setReady xb r0.2).isReady xb = true ∧
          Mono A (rk xb.1 + 1) s ((s.markNeeded r0).setReady xb r0.2) := by
      intro s r0 o0 hs ho0 hk0
      have hdef : (xb.1, r0.2) ∈ definedAfter A (s.markNeeded r0).out := by
        rw [markNeeded_out, ← hk0]; exact hs.dev_defined hw ho0
      exact ⟨(hs.markNeeded r0).setReady xb r0.2 (Or.inr hdef), isReady_setReady_self _ xb _,
        (Mono.markNeeded s r0).trans (Mono.setReady xb r0.2)⟩
    -- the branches that end with a transfer of the target object, possibly after marking the device object
    have viaAdd : ∀ {s : St} {g : St → String}, Quiet st s → ((addAny (f + 1) s xb).map fun s' => (s', g s')) = some (st', n) →
        J A a b pend st' ∧ st'.isReady xb = true ∧ Mono A (rk xb.1 + 1) st st' := by
      intro s g hq he
      obtain ⟨s1, ha, e⟩ := Option.map_eq_some_iff.1 he
      cases e
      have := addAny_J hw (f + 1) pend s xb _ (hj.same hq.a hq.b hq.ready hq.out) hrb hf hp ha
      exact ⟨this.1, this.2.1, (Mono.of_same hq.ready hq.out).trans this.2.2⟩
    by_cases hk : xa.1 = .aaa
    · rw [diffAny_aaa f hk hoa hob] at he
      split at he
      · exact viaAdd (Quiet.refl st) he
      · cases he; exact keep hj hoa hkind
    cases hn : st.isNeeded xa with
    | true => rw [diffAny_needed f hk hoa hob hn] at he; exact viaAdd (Quiet.refl st) he
    | false =>
    cases hr : st.isReady xb with
    | true => rw [diffAny_ready f hk hoa hob hn hr] at he; cases he; exact ⟨hj, hr, Mono.refl _⟩
    | false =>
    rcases Kind.shape xa.1 with hk' | hk' | hk' | hk'
    · exact absurd hk' hk
    · by_cases hl : oa.lines = ob.lines
      · rw [diffAny_same f (Or.inl hk') hoa hob hn hr hl] at he; cases he; exact keep hj hoa hkind
      · rw [diffAny_acl f hk' hoa hob hn hr hl] at he
        exact viaAdd ((Quiet.outside st _).trans (markDel_quiet (f + 1) _ xa)) he
    · by_cases hl : oa.lines = ob.lines
      · rw [diffAny_same f (Or.inr hk') hoa hob hn hr hl] at he; cases he; exact keep hj hoa hkind
      · rw [diffAny_pool f hk' hoa hob hn hr hl] at he
        have hq := markDel_quiet (f + 1) st xa
        split at he
        · rename_i dn hfound
          obtain ⟨od, hod, _⟩ := findPool_spec _ _ dn hfound
          cases he
          have h0 := keep (hj.same hq.a hq.b hq.ready hq.out) hod (hk'.symm.trans hkind)
          exact ⟨h0.1, h0.2.1, (Mono.of_same hq.ready hq.out).trans h0.2.2⟩
        · exact viaAdd hq he
    · rw [diffAny_sec f hk' hoa hob hn hr] at he
      split at he
      · exact viaAdd (markDel_quiet (f + 1) st xa) he
      · obtain ⟨s1, hd, e⟩ := Option.map_eq_some_iff.1 he
        cases e
        have hoa' := aObj_mem hj.sa hoa
        have hob' := bObj_mem hj.sb hob
        have hkb : ob.kind = xb.1 := congrArg Prod.fst hob'.2
        have h0 := keep hj hoa hkind
        have hr := diffSecs_J (addAny_J hw f) (diffAny_J hw hkk f) (markDel_J f) pend (rk xb.1) xa.1 xa.2 oa.secs ob.secs
          (fun sec hsec s hs y hy => (hw.ares oa hoa'.1 y (ref_mem_refs oa sec s y hsec hs hy)).1)
          (by
            intro sec hsec s hs y hy
            have hy' := hw.bres ob hob'.1 y (ref_mem_refs ob sec s y hsec hs hy)
            rw [hkb] at hy'
            exact ⟨hy'.1, by omega, hy'.2, fun q hq => by have := hp q hq; omega⟩)
          (fun x hx y hy => hkk oa hoa'.1 ob hob'.1 x hx y hy) _ _ _ h0.1 hd
        exact ⟨hr.1, hr.2.1 xb h0.2.1, h0.2.2.trans (hr.2.weaken (Nat.le_succ _))⟩

theorem diffAnchors_J (hw : WF A a b)
    (hkk : ∀ x ∈ a, ∀ y ∈ b, ∀ sx ∈ x.secs, ∀ sy ∈ y.secs, KindByKey sx.subs sy.subs) (k : Kind) (st st' : St)
    (hj : J A a b [] st) (he : diffAnchors st k = some st') : J A a b [] st' := by
  unfold diffAnchors at he
  obtain ⟨st1, h1, he⟩ := foldl_opt_start he
  have hbN : ∀ n ∈ sortS ((st.b.filter fun o => o.kind == k && o.anchor).map (·.name)),
      (b.find? fun y => y.id == (k, n)).isSome = true := by
    intro n hn; rw [← hj.sb]; exact anchor_names st.b k n hn
  have haN : ∀ n ∈ sortS ((st.a.filter fun o => o.kind == k && o.anchor).map (·.name)),
      (a.find? fun y => y.id == (k, n)).isSome = true := by
    intro n hn; rw [← hj.sa]; exact anchor_names st.a k n hn
  have hrk : rk k + 1 ≤ fuel := rk_lt_fuel k
  refine (foldl_opt_J (m := fuel) ?_ he
    (foldl_opt_J (m := fuel) ?_ h1 hj).1).1
  · intro n hn st st' hp hs
    split at hs
    · cases hs; exact ⟨hp, Mono.refl _⟩
    · have := addAny_J hw fuel [] st (k, n) st' hp (hbN n hn) (rk_lt_fuel k) (fun q hq => nomatch hq) hs
      exact ⟨this.1, this.2.2.weaken hrk⟩
  · intro n hn st st' hp hs
    split at hs
    · rename_i hc
      obtain ⟨r, hd, rfl⟩ := Option.map_eq_some_iff.1 hs
      have := diffAny_J hw hkk fuel [] st (k, n) (k, n) r.1 r.2 hp (haN n hn) (hbN n (by simpa using hc)) rfl (rk_lt_fuel k)
        (fun q hq => nomatch hq) hd
      exact ⟨this.1, this.2.2.weaken hrk⟩
    · cases hs
      exact markDel_J fuel fuel [] st (k, n) hp

theorem init_J (a b : List Obj) : J A a b [] (initSt a b) where
  sa := rfl
  sb := rfl
  ok := rfl
  nd := by intro c hc; cases hc
  df := by intro p hp; cases hp

theorem body_refs_exist (a b : List Obj) (hw : WF (a.map (·.id)) a b)
    (hkk : ∀ x ∈ a, ∀ y ∈ b, ∀ sx ∈ x.secs, ∀ sy ∈ y.secs, KindByKey sx.subs sy.subs) (st : St)
    (he : ((diffAnchors (initSt a b) .tg).bind fun st => diffAnchors st .user) = some st) :
    refsOK (a.map (·.id)) st.out = true ∧ ∀ c ∈ st.out, isDel c = false := by
  obtain ⟨st1, h1, he⟩ := Option.bind_eq_some_iff.1 he
  have i1 := diffAnchors_J hw hkk .tg _ st1 (init_J a b) h1
  have i2 := diffAnchors_J hw hkk .user st1 st i1 he
  exact ⟨i2.ok, i2.nd⟩

def wfB (a b : List Obj) : Bool :=
  (b.all fun o => o.refs.all fun x => (b.find? fun y => y.id == x).isSome && decide (rk x.1 < rk o.kind)) &&
  (a.all fun o => o.refs.all fun x => (a.find? fun y => y.id == x).isSome && decide (rk x.1 < rk o.kind)) &&
  (b.all fun o => !(o.kind == .acl) || !o.lines.isEmpty) &&
  (b.all fun o => rk o.kind == 0 || !o.secs.isEmpty)

theorem wf_of_wfB (a b : List Obj) (h : wfB a b = true) : WF (a.map (·.id)) a b := by
  unfold wfB at h
  simp only [Bool.and_eq_true] at h
  obtain ⟨⟨⟨h1, h2⟩, h3⟩, h4⟩ := h
  refine ⟨?_, ?_, ?_, ?_, ?_⟩
  · intro o ho x hx
    have := (List.all_eq_true.1 ((List.all_eq_true.1 h1) o ho)) x hx
    simpa using this
  · intro o ho x hx
    have := (List.all_eq_true.1 ((List.all_eq_true.1 h2) o ho)) x hx
    simpa using this
  · intro o ho hk
    have := (List.all_eq_true.1 h3) o ho
    rw [hk] at this
    intro he
    rw [he] at this
    simp at this
  · intro o ho hk
    have := (List.all_eq_true.1 h4) o ho
    intro he
    rw [he] at this
    simp at this
    exact hk this
  · intro o ho
    exact List.mem_map.2 ⟨o, ho, rfl⟩

end NA.Vpn.G
