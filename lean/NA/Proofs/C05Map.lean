import NA.Proofs.C05Str
import NA.Core.PermFold
/-! C05: the association lists that model Go maps (`getA`, `setA`, `eraseA`, `keysA`, `hasA`). -/
namespace NA.C05
open NA.Linux

theorem mem_keysA {β : Type} (k : Str) (m : List (Str × β)) : k ∈ keysA m ↔ hasA k m = true := by
  induction m with
  | nil => simp [keysA, hasA, getA]
  | cons x xs ih =>
    obtain ⟨k', v⟩ := x
    simp only [keysA, List.map_cons, List.mem_cons, hasA, getA] at ih ⊢
    by_cases h : k' = k
    · simp [h]
    · simp [h, Ne.symm h, ih]

theorem hasA_iff {β : Type} (k : Str) (m : List (Str × β)) : hasA k m = true ↔ ∃ v, getA k m = some v := by
  simp [hasA, Option.isSome_iff_exists]

theorem mem_keysA_iff {β : Type} (k : Str) (m : List (Str × β)) : k ∈ keysA m ↔ ∃ v, getA k m = some v :=
  (mem_keysA k m).trans (hasA_iff k m)

theorem hasA_of_getA {β : Type} {k : Str} {v : β} {m : List (Str × β)} (h : getA k m = some v) : hasA k m = true :=
  (hasA_iff k m).mpr ⟨v, h⟩

theorem mem_keysA_of_getA {β : Type} {k : Str} {v : β} {m : List (Str × β)} (h : getA k m = some v) : k ∈ keysA m :=
  (mem_keysA_iff k m).mpr ⟨v, h⟩

theorem hasA_of_not_mem {β : Type} {k : Str} {m : List (Str × β)} (h : k ∉ keysA m) : hasA k m = false :=
  Bool.eq_false_iff.mpr fun h' => h ((mem_keysA k m).mpr h')

theorem not_mem_keysA_snoc {β : Type} {k k' : Str} {v : β} {m : List (Str × β)} :
    k ∉ keysA (m ++ [(k', v)]) ↔ k ∉ keysA m ∧ k ≠ k' := by
  simp only [keysA, List.map_append, List.map_cons, List.map_nil, List.mem_append, List.mem_singleton, not_or]

theorem not_mem_keys_getA {β : Type} {k : Str} {m : List (Str × β)} (h : k ∉ keysA m) : getA k m = none :=
  Option.eq_none_iff_forall_ne_some.mpr fun _ hg => h (mem_keysA_of_getA hg)

theorem getA_setA {β : Type} (k k' : Str) (v : β) (m : List (Str × β)) :
    getA k (setA k' v m) = if k' = k then some v else getA k m := by
  induction m with
  | nil => simp [setA, getA]
  | cons x xs ih =>
    obtain ⟨k0, v0⟩ := x
    by_cases h0 : k0 = k' <;> by_cases h : k' = k <;> simp_all [setA, getA]

theorem getA_eraseA {β : Type} (k k' : Str) (m : List (Str × β)) :
    getA k (eraseA k' m) = if k' = k then none else getA k m := by
  induction m with
  | nil => simp [eraseA, getA]
  | cons x xs ih =>
    obtain ⟨k0, v0⟩ := x
    by_cases h0 : k0 = k' <;> by_cases h : k' = k <;> simp_all [eraseA, getA]

theorem getA_mapVal (f : Str → Str → Str) (k : Str) (m : Pairs) :
    getA k (m.map fun (kv : Str × Str) => (kv.1, f kv.1 kv.2)) = (getA k m).map (f k) := by
  induction m with
  | nil => simp [getA]
  | cons x xs ih =>
    obtain ⟨k0, v0⟩ := x
    by_cases h : k0 = k
    · subst h; simp [getA]
    · simp [getA, h, ih]

theorem getA_mem {β : Type} {k : Str} {v : β} {m : List (Str × β)} (h : getA k m = some v) : (k, v) ∈ m := by
  induction m with
  | nil => simp [getA] at h
  | cons x xs ih =>
    obtain ⟨k0, v0⟩ := x
    by_cases h0 : k0 = k
    · simp [getA, h0] at h; simp [h0, h]
    · simp [getA, h0] at h; simp [ih h]

theorem keysA_setA {β : Type} (k : Str) (v : β) (m : List (Str × β)) :
    keysA (setA k v m) = if k ∈ keysA m then keysA m else keysA m ++ [k] := by
  induction m with
  | nil => simp [setA, keysA]
  | cons x xs ih =>
    obtain ⟨k0, v0⟩ := x
    simp only [keysA, List.map_cons] at ih ⊢
    by_cases h : k0 = k
    · subst h; simp [setA]
    · simp only [setA, h, ↓reduceIte, List.map_cons, ih, List.mem_cons, Ne.symm h, false_or]
      by_cases hk : k ∈ List.map (fun x => x.fst) xs <;> simp [hk]

theorem setA_nodup {β : Type} (k : Str) (v : β) (m : List (Str × β)) (h : (keysA m).Nodup) :
    (keysA (setA k v m)).Nodup := by
  rw [keysA_setA]
  split
  · exact h
  · rename_i hk
    exact ListFacts.nodup_snoc h hk

theorem setA_new {β : Type} (k : Str) (v : β) (m : List (Str × β)) (h : k ∉ keysA m) :
    setA k v m = m ++ [(k, v)] := by
  induction m with
  | nil => rfl
  | cons x xs ih =>
    simp only [keysA, List.map_cons, List.mem_cons, not_or] at h ih
    simp [setA, Ne.symm h.1, ih h.2]

theorem setA_last {β : Type} (k : Str) (v w : β) (m : List (Str × β)) (h : k ∉ keysA m) :
    setA k w (m ++ [(k, v)]) = m ++ [(k, w)] := by
  induction m with
  | nil => simp [setA]
  | cons x xs ih =>
    simp only [keysA, List.map_cons, List.mem_cons, not_or] at h ih
    simp [setA, Ne.symm h.1, ih h.2]

theorem getA_last {β : Type} (k : Str) (v : β) (m : List (Str × β)) (h : k ∉ keysA m) :
    getA k (m ++ [(k, v)]) = some v := by
  rw [← setA_new k v m h, getA_setA, if_pos rfl]

theorem getA_map_key {α β : Type} (key : α → Str) (f : α → β) (l : List α) (k : Str) :
    getA k (l.map fun x => (key x, f x)) = (l.find? (fun x => key x = k)).map f := by
  induction l with
  | nil => rfl
  | cons x xs ih =>
    by_cases h : key x = k
    · simp [getA, h]
    · simp [getA, h, ih]

theorem find?_key_iff {α : Type} (key : α → Str) (l : List α) (hn : (l.map key).Nodup) (k : Str) (x : α) :
    l.find? (fun y => key y = k) = some x ↔ x ∈ l ∧ key x = k := by
  constructor
  · intro h
    exact ⟨List.mem_of_find?_eq_some h, by simpa using List.find?_some h⟩
  · rintro ⟨hx, hk⟩
    cases hf : l.find? (fun y => key y = k) with
    | none =>
      have := List.find?_eq_none.mp hf x hx
      simp [hk] at this
    | some y =>
      have hyk : key y = k := by simpa using List.find?_some hf
      rw [ListFacts.eq_of_nodup_map hn (List.mem_of_find?_eq_some hf) hx (hyk.trans hk.symm)]

theorem find?_perm {α : Type} (key : α → Str) {l1 l2 : List α} (hp : l1.Perm l2) (hn : (l1.map key).Nodup)
    (k : Str) : l1.find? (fun y => key y = k) = l2.find? (fun y => key y = k) :=
  PermFold.find?_perm (PermFold.UniqueKeys.atMostOne hn fun _ => of_decide_eq_true) hp

theorem find_of_getA_map {α β : Type} (key : α → Str) (f : α → β) (l : List α) (k : Str) (v : β)
    (h : getA k (l.map fun x => (key x, f x)) = some v) :
    ∃ x, l.find? (fun y => key y = k) = some x ∧ x ∈ l ∧ key x = k ∧ v = f x := by
  rw [getA_map_key] at h
  obtain ⟨x, hf, e⟩ := Option.map_eq_some_iff.mp h
  exact ⟨x, hf, List.mem_of_find?_eq_some hf, by simpa using List.find?_some hf, e.symm⟩

theorem getA_map_of_mem {α β : Type} (key : α → Str) (f : α → β) (l : List α) (hn : (l.map key).Nodup)
    (x : α) (hx : x ∈ l) : getA (key x) (l.map fun y => (key y, f y)) = some (f x) := by
  rw [getA_map_key, (find?_key_iff key l hn (key x) x).mpr ⟨hx, rfl⟩]
  rfl

/-- Items with distinct keys, each with a list of entries: filtering the tagged entries by the key
of one item gives back that item's entries. -/
theorem filter_flatMap_key {α β : Type} (key : α → Str) (pay : α → List β) :
    ∀ (items : List α) (x0 : α), (items.map key).Nodup → x0 ∈ items →
    ((items.flatMap fun x => (pay x).map fun y => (key x, y)).filter (fun p => p.1 = key x0)).map (·.2) = pay x0 := by
  intro items
  induction items with
  | nil => intro x0 _ h; simp at h
  | cons x xs ih =>
    intro x0 hnd hx0
    simp only [List.map_cons, List.nodup_cons] at hnd
    simp only [List.flatMap_cons, List.filter_append, List.map_append]
    rcases List.mem_cons.mp hx0 with e | hm
    · subst e
      have h1 : ((pay x0).map fun y => (key x0, y)).filter (fun p => p.1 = key x0) = (pay x0).map fun y => (key x0, y) :=
        List.filter_eq_self.mpr (List.forall_mem_map.2 fun y _ => decide_eq_true rfl)
      have h2 : (xs.flatMap fun x => (pay x).map fun y => (key x, y)).filter (fun p => p.1 = key x0) = [] :=
        List.filter_eq_nil_iff.mpr (List.forall_mem_flatMap.2 fun z hz => List.forall_mem_map.2 fun y _ e =>
          hnd.1 (of_decide_eq_true e ▸ List.mem_map_of_mem hz))
      rw [h1, h2]
      simp only [List.map_map, List.map_nil, List.append_nil]
      exact List.map_id (pay x0)
    · have hne : ¬ key x = key x0 := fun e => hnd.1 (by rw [e]; exact List.mem_map_of_mem hm)
      have h1 : ((pay x).map fun y => (key x, y)).filter (fun p => p.1 = key x0) = [] :=
        List.filter_eq_nil_iff.mpr (List.forall_mem_map.2 fun y _ e => hne (of_decide_eq_true e))
      rw [h1, List.map_nil, List.nil_append]
      exact ih x0 hnd.2 hm

end NA.C05
