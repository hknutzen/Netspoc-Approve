import NA.Spec.AclDev
import NA.Core.ListFacts
/-!
What the block ids mean (`markBlocks`, `insideBlock`, `splitFrom`, `blockPass`) for ACLs without remark
lines.  `Good al blk mx R`: equal ids ⇒ one stretch of device lines of the same action, and every
insert run of `R` that lies strictly inside such a stretch consists of lines of that action only.
-/
namespace NA.Acl

attribute [-simp] List.getD_eq_getElem?_getD
attribute [local simp] List.getD_cons_zero List.getD_cons_succ

def noRemark (al : List Line) : Prop := ∀ l ∈ al, l.remark = false

theorem act_ne_remark {l : Line} (h : l.remark = false) : (l.act == Act.remark) = false := by
  unfold Line.act
  rw [h]
  cases l.permit <;> rfl

theorem default_line_remark : (default : Line).remark = false := rfl

theorem getD_remark (al : List Line) (h : noRemark al) (i : Nat) : (al.getD i default).remark = false := by
  rw [List.getD_eq_getElem?_getD]
  by_cases hi : i < al.length
  · rw [List.getElem?_eq_getElem hi]; exact h _ (List.getElem_mem _)
  · rw [List.getElem?_eq_none (by omega)]; exact default_line_remark

theorem act_eq_permit {a b : Line} (ha : a.remark = false) (hb : b.remark = false)
    (h : a.act = b.act) : a.permit = b.permit := by
  unfold Line.act at h
  rw [ha, hb] at h
  cases hp : a.permit <;> cases hq : b.permit <;> simp [hp, hq] at h ⊢

theorem markBlocks_length (al : List Line) (id : Nat) (cur : Option Act) :
    (markBlocks al id cur).length = al.length := by
  induction al generalizing id cur with
  | nil => rfl
  | cons l ls ih =>
    simp only [markBlocks]
    split <;> simp [ih]

theorem markBlocks_cons (l : Line) (ls : List Line) (id : Nat) (cur : Option Act)
    (hl : l.remark = false) :
    ∃ h, markBlocks (l :: ls) id cur = h :: markBlocks ls h (some l.act) ∧ id ≤ h ∧
      (∀ a, cur = some a → h = id → l.act = a) := by
  simp only [markBlocks, act_ne_remark hl, Bool.false_or]
  by_cases hc : (some l.act == cur) = true
  · have : cur = some l.act := by simpa using Eq.symm (by simpa using hc : some l.act = cur)
    rw [if_pos hc, this]
    exact ⟨id, rfl, Nat.le_refl _, fun a ha _ => Option.some.inj ha⟩
  · rw [if_neg hc]
    refine ⟨_, rfl, by split <;> omega, fun a ha h => ?_⟩
    subst ha
    simp at h

/-- The third part is what the induction needs for the second. -/
theorem markBlocks_spec (al : List Line) (hnr : noRemark al) (id : Nat) (cur : Option Act) :
    (∀ y, y < al.length → id ≤ (markBlocks al id cur).getD y 0) ∧
    (∀ x y, x ≤ y → y < al.length →
      (markBlocks al id cur).getD x 0 ≤ (markBlocks al id cur).getD y 0 ∧
      ((markBlocks al id cur).getD x 0 = (markBlocks al id cur).getD y 0 →
        (al.getD x default).act = (al.getD y default).act)) ∧
    (∀ a, cur = some a → ∀ y, y < al.length → (markBlocks al id cur).getD y 0 = id →
      (al.getD y default).act = a) := by
  induction al generalizing id cur with
  | nil => exact ⟨fun y hy => absurd hy (Nat.not_lt_zero y), fun x y _ hy => absurd hy (Nat.not_lt_zero y),
      fun a _ y hy => absurd hy (Nat.not_lt_zero y)⟩
  | cons l ls ih =>
    obtain ⟨h, heq, hle, hkeep⟩ := markBlocks_cons l ls id cur (hnr l List.mem_cons_self)
    obtain ⟨ge, rel, act⟩ := ih (fun l' hl' => hnr l' (List.mem_cons_of_mem _ hl')) h (some l.act)
    rw [heq]
    refine ⟨fun y hy => ?_, fun x y hxy hy => ?_, fun a ha y hy hid => ?_⟩
    · cases y with
      | zero => exact hle
      | succ y => exact Nat.le_trans hle (ge y (Nat.lt_of_succ_lt_succ hy))
    · cases y with
      | zero => rw [Nat.le_zero.1 hxy]; exact ⟨Nat.le_refl _, fun _ => rfl⟩
      | succ y =>
        have hy' := Nat.lt_of_succ_lt_succ hy
        cases x with
        | zero => exact ⟨ge y hy', fun e => (act l.act rfl y hy' e.symm).symm⟩
        | succ x => exact rel x y (Nat.le_of_succ_le_succ hxy) hy'
    · cases y with
      | zero => exact hkeep a ha hid
      | succ y =>
        have hy' := Nat.lt_of_succ_lt_succ hy
        have hid' : (markBlocks ls h (some l.act)).getD y 0 = id := hid
        have hh : h = id := Nat.le_antisymm (hid' ▸ ge y hy') hle
        exact (act l.act rfl y hy' (hid'.trans hh.symm)).trans (hkeep a ha hh)

theorem foldl_max_ge (xs : List Nat) (m : Nat) : m ≤ xs.foldl max m ∧ ∀ x ∈ xs, x ≤ xs.foldl max m := by
  induction xs generalizing m with
  | nil => simp
  | cons a xs ih =>
    simp only [List.foldl_cons]
    obtain ⟨h1, h2⟩ := ih (max m a)
    refine ⟨by omega, ?_⟩
    intro x hx
    rcases List.mem_cons.mp hx with rfl | hx
    · omega
    · exact h2 x hx

theorem splitFrom_length (xs : List Nat) (k id n : Nat) : (splitFrom xs k id n).length = xs.length := by
  induction xs generalizing k with
  | nil => simp [splitFrom]
  | cons x xs ih =>
    cases k with
    | zero =>
      simp only [splitFrom]
      split
      · simp [ih]
      · rfl
    | succ k => simp [splitFrom, ih]

/-- `z` is reached by the renaming loop. -/
def Reached (xs : List Nat) (k id z : Nat) : Prop :=
  k ≤ z ∧ z < xs.length ∧ ∀ w, k ≤ w → w ≤ z → xs.getD w 0 = id

theorem splitFrom_reached (xs : List Nat) (k id n z : Nat) (h : Reached xs k id z) :
    (splitFrom xs k id n).getD z 0 = n := by
  induction xs generalizing k z with
  | nil => exact absurd h.2.1 (Nat.not_lt_zero z)
  | cons x xs ih =>
    obtain ⟨h1, h2, h3⟩ := h
    cases k with
    | zero =>
      have hx : x = id := h3 0 (Nat.le_refl 0) (Nat.zero_le _)
      simp only [splitFrom, hx, beq_self_eq_true, if_true]
      cases z with
      | zero => rfl
      | succ z =>
        exact ih 0 z ⟨Nat.zero_le z, Nat.lt_of_succ_lt_succ h2,
          fun w _ hw => h3 (w + 1) (Nat.zero_le _) (Nat.succ_le_succ hw)⟩
    | succ k =>
      cases z with
      | zero => exact absurd h1 (Nat.not_succ_le_zero k)
      | succ z =>
        exact ih k z ⟨Nat.le_of_succ_le_succ h1, Nat.lt_of_succ_lt_succ h2,
          fun w hw1 hw2 => h3 (w + 1) (Nat.succ_le_succ hw1) (Nat.succ_le_succ hw2)⟩

theorem splitFrom_not_reached (xs : List Nat) (k id n z : Nat) (h : ¬ Reached xs k id z) :
    (splitFrom xs k id n).getD z 0 = xs.getD z 0 := by
  induction xs generalizing k z with
  | nil => simp [splitFrom]
  | cons x xs ih =>
    cases k with
    | zero =>
      by_cases hx : x = id
      · simp only [splitFrom, hx, beq_self_eq_true, if_true]
        cases z with
        | zero =>
          exact absurd ⟨Nat.le_refl 0, Nat.succ_pos _, fun w _ hw => by
            rw [Nat.le_zero.mp hw]; exact hx⟩ h
        | succ z =>
          refine ih 0 z fun ⟨_, h2, h3⟩ => h ⟨Nat.zero_le _, Nat.succ_lt_succ h2, fun w _ hw => ?_⟩
          cases w with
          | zero => exact hx
          | succ w => exact h3 w (Nat.zero_le w) (Nat.le_of_succ_le_succ hw)
      · simp [splitFrom, hx]
    | succ k =>
      cases z with
      | zero => rfl
      | succ z =>
        refine ih k z fun ⟨h1, h2, h3⟩ =>
          h ⟨Nat.succ_le_succ h1, Nat.succ_lt_succ h2, fun w hw1 hw2 => ?_⟩
        cases w with
        | zero => exact absurd hw1 (Nat.not_succ_le_zero k)
        | succ w => exact h3 w (Nat.le_of_succ_le_succ hw1) (Nat.le_of_succ_le_succ hw2)

theorem range_reverse_head (n : Nat) : (List.range n).reverse.head? = if n = 0 then none else some (n - 1) := by
  cases n with
  | zero => rfl
  | succ n => simp [List.range_succ]

theorem range_map_head (n p : Nat) :
    ((List.range n).map (· + p)).head? = if n = 0 then none else some p := by
  cases n with
  | zero => rfl
  | succ n =>
    rw [List.range_succ_eq_map]
    simp

/-- Without remark lines the two searches of `insideBlock` stop at the neighbours of `pos`. -/
theorem insideBlock_eq (al : List Line) (hnr : noRemark al) (blk : List Nat) (pos : Nat) :
    insideBlock al blk pos =
      if 0 < pos ∧ pos < al.length ∧ (al.getD (pos - 1) default).act = (al.getD pos default).act
      then some ((al.getD pos default).act, blk.getD pos 0) else none := by
  have hp : ∀ i, ((al.getD i default).act != Act.remark) = true := by
    intro i
    have := act_ne_remark (getD_remark al hnr i)
    simp only [bne, this, Bool.not_false]
  unfold insideBlock
  simp only [List.filter_eq_self.mpr fun x _ => hp x, range_reverse_head, range_map_head]
  by_cases h0 : pos = 0
  · subst h0
    by_cases hl : al.length - 0 = 0 <;> simp [hl]
  · by_cases hl : al.length - pos = 0
    · have : ¬ pos < al.length := by omega
      simp [h0, hl, this]
    · have h1 : 0 < pos ∧ pos < al.length := by omega
      by_cases hact : (al.getD (pos - 1) default).act = (al.getD pos default).act <;>
        simp [h0, hl, h1, hact]

structure Good (al : List Line) (blk : List Nat) (mx : Nat) (R : List (Nat × Nat × List Line)) :
    Prop where
  len : blk.length = al.length
  contig : ∀ x z y, x ≤ z → z ≤ y → y < al.length → blk.getD x 0 = blk.getD y 0 →
    blk.getD z 0 = blk.getD x 0
  act : ∀ x y, x ≤ y → y < al.length → blk.getD x 0 = blk.getD y 0 →
    (al.getD x default).act = (al.getD y default).act
  bound : ∀ z, z < al.length → blk.getD z 0 ≤ mx
  runs : ∀ r ∈ R, ∀ x y, x < r.1 → r.1 ≤ y → y < al.length → blk.getD x 0 = blk.getD y 0 →
    ∀ l ∈ r.2.2, l.act = (al.getD x default).act

section
variable {al : List Line} {blk : List Nat} {mx : Nat} {R : List (Nat × Nat × List Line)}

theorem Good.act_between (hg : Good al blk mx R) {a b x : Nat}
    (hab : blk.getD a 0 = blk.getD b 0) (ha : a < al.length) (hb : b < al.length)
    (hx : a ≤ x ∧ x ≤ b ∨ b ≤ x ∧ x ≤ a) : (al.getD x default).act = (al.getD b default).act := by
  rcases hx with ⟨h1, h2⟩ | ⟨h1, h2⟩
  · exact hg.act x b h2 hb ((hg.contig a x b h1 h2 hb hab).trans hab)
  · exact (hg.act b x h1 (Nat.lt_of_le_of_lt h2 ha) (hg.contig b x a h1 h2 ha hab.symm).symm).symm

theorem Good.run_between (hg : Good al blk mx R) {a b : Nat}
    (hab : blk.getD a 0 = blk.getD b 0) (ha : a < al.length) (hb : b < al.length)
    {r : Nat × Nat × List Line} (hr : r ∈ R) (hx : a < r.1 ∧ r.1 ≤ b ∨ b < r.1 ∧ r.1 ≤ a)
    {l : Line} (hl : l ∈ r.2.2) : l.act = (al.getD b default).act := by
  rcases hx with ⟨h1, h2⟩ | ⟨h1, h2⟩
  · rw [hg.runs r hr a b h1 h2 hb hab l hl]
    exact hg.act_between hab ha hb (Or.inl ⟨Nat.le_refl a, Nat.le_of_lt (Nat.lt_of_lt_of_le h1 h2)⟩)
  · exact hg.runs r hr b a h1 h2 ha hab.symm l hl

theorem good_init (al : List Line) (hnr : noRemark al) : Good al (blocksOf al) (maxBlock al) [] where
  len := markBlocks_length _ _ _
  contig := fun x z y hxz hzy hy h => by
    have h1 := ((markBlocks_spec al hnr 1 none).2.1 x z hxz (Nat.lt_of_le_of_lt hzy hy)).1
    have h2 := ((markBlocks_spec al hnr 1 none).2.1 z y hzy hy).1
    unfold blocksOf at h ⊢
    omega
  act := fun x y hxy hy h => ((markBlocks_spec al hnr 1 none).2.1 x y hxy hy).2 h
  bound := by
    intro z hz
    have hl : z < (blocksOf al).length := by unfold blocksOf; rw [markBlocks_length]; exact hz
    exact (foldl_max_ge (blocksOf al) 1).2 _ (ListFacts.getD_mem (d := 0) hl)
  runs := by simp

theorem Good.cons_run (h : Good al blk mx R) (r : Nat × Nat × List Line)
    (hr : ∀ x y, x < r.1 → r.1 ≤ y → y < al.length → blk.getD x 0 = blk.getD y 0 →
      ∀ l ∈ r.2.2, l.act = (al.getD x default).act) : Good al blk mx (r :: R) :=
  { h with runs := List.forall_mem_cons.mpr ⟨hr, h.runs⟩ }

theorem Good.straddle (h : Good al blk mx R) {x p y : Nat} (hx : x < p)
    (hy : p ≤ y) (hyl : y < al.length) (hxy : blk.getD x 0 = blk.getD y 0) :
    blk.getD p 0 = blk.getD x 0 ∧ (al.getD (p - 1) default).act = (al.getD p default).act ∧
      (al.getD x default).act = (al.getD p default).act := by
  have hpl : p < al.length := Nat.lt_of_le_of_lt hy hyl
  have e1 := h.contig x (p - 1) y (Nat.le_sub_one_of_lt hx) (Nat.le_trans (Nat.sub_le p 1) hy) hyl hxy
  have e2 := h.contig x p y (Nat.le_of_lt hx) hy hyl hxy
  exact ⟨e2, h.act (p - 1) p (Nat.sub_le p 1) hpl (e1.trans e2.symm),
    h.act x p (Nat.le_of_lt hx) hpl e2.symm⟩

/-- Because a block is contiguous, `splitFrom` renames exactly its part from `p` on. -/
theorem Good.splitFrom_getD (h : Good al blk mx R) (p n : Nat) {z : Nat}
    (hz : z < al.length) :
    (splitFrom blk p (blk.getD p 0) n).getD z 0 =
      if p ≤ z ∧ blk.getD z 0 = blk.getD p 0 then n else blk.getD z 0 := by
  split
  · rename_i hc
    refine splitFrom_reached _ _ _ _ _ ⟨hc.1, by rw [h.len]; exact hz, fun w hw1 hw2 => ?_⟩
    exact h.contig p w z hw1 hw2 hz hc.2.symm
  · rename_i hc
    refine splitFrom_not_reached _ _ _ _ _ ?_
    rintro ⟨h1, _, h3⟩
    exact hc ⟨h1, h3 z h1 (Nat.le_refl z)⟩

/-- Splitting the block at the insert position of `r`: the new ids refine the old ones, and no id
reaches across `r` any more. -/
theorem Good.split (h : Good al blk mx R) (r : Nat × Nat × List Line) :
    Good al (splitFrom blk r.1 (blk.getD r.1 0) (mx + 1)) (mx + 1) (r :: R) := by
  have hget := fun z (hz : z < al.length) => h.splitFrom_getD r.1 (mx + 1) hz
  have hlen : (splitFrom blk r.1 (blk.getD r.1 0) (mx + 1)).length = al.length := by
    rw [splitFrom_length]; exact h.len
  generalize splitFrom blk r.1 (blk.getD r.1 0) (mx + 1) = blk' at hget hlen ⊢
  have hnew : ∀ z, z < al.length → (r.1 ≤ z ∧ blk.getD z 0 = blk.getD r.1 0) →
      blk'.getD z 0 = mx + 1 := fun z hz hc => by rw [hget z hz, if_pos hc]
  have hold : ∀ z, z < al.length → ¬ (r.1 ≤ z ∧ blk.getD z 0 = blk.getD r.1 0) →
      blk'.getD z 0 = blk.getD z 0 := fun z hz hc => by rw [hget z hz, if_neg hc]
  -- a renamed and an untouched position carry different ids
  have hne : ∀ x y, x < al.length → y < al.length →
      ¬ (r.1 ≤ x ∧ blk.getD x 0 = blk.getD r.1 0) → (r.1 ≤ y ∧ blk.getD y 0 = blk.getD r.1 0) →
      blk'.getD x 0 ≠ blk'.getD y 0 := by
    intro x y hx hy hcx hcy hxy
    rw [hold x hx hcx, hnew y hy hcy] at hxy
    have := h.bound x hx
    rw [hxy] at this
    exact Nat.not_succ_le_self mx this
  have hrefine : ∀ x y, x < al.length → y < al.length → blk'.getD x 0 = blk'.getD y 0 →
      blk.getD x 0 = blk.getD y 0 := by
    intro x y hx hy hxy
    by_cases hcx : r.1 ≤ x ∧ blk.getD x 0 = blk.getD r.1 0 <;>
      by_cases hcy : r.1 ≤ y ∧ blk.getD y 0 = blk.getD r.1 0
    · exact hcx.2.trans hcy.2.symm
    · exact absurd hxy.symm (hne y x hy hx hcy hcx)
    · exact absurd hxy (hne x y hx hy hcx hcy)
    · rw [hold x hx hcx, hold y hy hcy] at hxy; exact hxy
  refine ⟨hlen, ?_, ?_, ?_, ?_⟩
  · intro x z y hxz hzy hy hxy
    have hzl : z < al.length := Nat.lt_of_le_of_lt hzy hy
    have hxl : x < al.length := Nat.lt_of_le_of_lt hxz hzl
    have hb := hrefine x y hxl hy hxy
    have hz := h.contig x z y hxz hzy hy hb
    by_cases hcx : r.1 ≤ x ∧ blk.getD x 0 = blk.getD r.1 0
    · rw [hnew x hxl hcx, hnew z hzl ⟨Nat.le_trans hcx.1 hxz, hz.trans hcx.2⟩]
    · have hcz : ¬ (r.1 ≤ z ∧ blk.getD z 0 = blk.getD r.1 0) := fun hcz =>
        hne x y hxl hy hcx ⟨Nat.le_trans hcz.1 hzy, hb.symm.trans (hz.symm.trans hcz.2)⟩ hxy
      rw [hold x hxl hcx, hold z hzl hcz]; exact hz
  · exact fun x y hxy hy hb => h.act x y hxy hy (hrefine x y (Nat.lt_of_le_of_lt hxy hy) hy hb)
  · intro z hz
    rw [hget z hz]
    split
    · exact Nat.le_refl _
    · exact Nat.le_succ_of_le (h.bound z hz)
  · intro r' hr' x y hx hy hyl hxy
    have hxl : x < al.length := Nat.lt_trans (Nat.lt_of_lt_of_le hx hy) hyl
    have hb := hrefine x y hxl hyl hxy
    rcases List.mem_cons.mp hr' with rfl | hr'
    · have e2 := h.contig x r'.1 y (Nat.le_of_lt hx) hy hyl hb
      exact absurd hxy (hne x y hxl hyl (fun hc => Nat.lt_irrefl _ (Nat.lt_of_lt_of_le hx hc.1))
        ⟨hy, hb.symm.trans e2.symm⟩)
    · exact h.runs r' hr' x y hx hy hyl hb

end

def passStep (al : List Line) (s : List Nat × Nat) (run : Nat × Nat × List Line) : List Nat × Nat :=
  match insideBlock al s.1 run.1 with
  | some (action, id) =>
    if run.2.2.any (fun c => c.act != action) then (splitFrom s.1 run.1 id (s.2 + 1), s.2 + 1) else s
  | none => s

theorem blockPass_eq (al : List Line) (runs : List (Nat × Nat × List Line)) (blk : List Nat) (mx : Nat) :
    blockPass al runs blk mx = runs.foldl (passStep al) (blk, mx) := by
  unfold blockPass
  congr 1

theorem good_step (al : List Line) (hnr : noRemark al) (blk : List Nat) (mx : Nat)
    (R : List (Nat × Nat × List Line)) (h : Good al blk mx R) (r : Nat × Nat × List Line) :
    Good al (passStep al (blk, mx) r).1 (passStep al (blk, mx) r).2 (r :: R) := by
  unfold passStep
  simp only [insideBlock_eq al hnr]
  by_cases hc : 0 < r.1 ∧ r.1 < al.length ∧
      (al.getD (r.1 - 1) default).act = (al.getD r.1 default).act
  · rw [if_pos hc]
    simp only
    by_cases hany : (r.2.2.any fun c => c.act != (al.getD r.1 default).act) = true
    · rw [if_pos hany]
      exact h.split r
    · rw [if_neg hany]
      refine h.cons_run r fun x y hx hy hyl hxy l hl => ?_
      rw [(h.straddle hx hy hyl hxy).2.2]
      have hn := List.any_eq_false.mp (Bool.eq_false_iff.mpr hany) l hl
      exact Decidable.of_not_not fun h => hn (bne_iff_ne.mpr h)
  · rw [if_neg hc]
    -- a block straddling the insert position would make `insideBlock` answer
    exact h.cons_run r fun x y hx hy hyl hxy => absurd
      ⟨Nat.lt_of_le_of_lt (Nat.zero_le x) hx, Nat.lt_of_le_of_lt hy hyl, (h.straddle hx hy hyl hxy).2.1⟩ hc

theorem good_fold (al : List Line) (hnr : noRemark al) (runs : List (Nat × Nat × List Line))
    (blk : List Nat) (mx : Nat) (R : List (Nat × Nat × List Line)) (h : Good al blk mx R) :
    Good al (runs.foldl (passStep al) (blk, mx)).1 (runs.foldl (passStep al) (blk, mx)).2
      (runs.reverse ++ R) := by
  induction runs generalizing blk mx R with
  | nil => simpa using h
  | cons r runs ih =>
    simp only [List.foldl_cons, List.reverse_cons, List.append_assoc, List.singleton_append]
    exact ih _ _ _ (good_step al hnr blk mx R h r)

theorem good_blockPass (al : List Line) (hnr : noRemark al) (runs : List (Nat × Nat × List Line)) :
    Good al (blockPass al runs (blocksOf al) (maxBlock al)).1
      (blockPass al runs (blocksOf al) (maxBlock al)).2 runs.reverse := by
  rw [blockPass_eq]
  simpa using good_fold al hnr runs _ _ [] (good_init al hnr)

end NA.Acl
