import NA.Proofs.F2Acl
import NA.Proofs.F2Routes
/-!
# F2: device lemmas for whole decisions

What one decision does to the strict device, and what it leaves alone.
-/
namespace NA.F2
open NA.ListFacts
open NA.IosDev2
open NA.Acl (Line BlockEqG LineEqv)

theorem slotOf_congr {d d' : Dev} (h : d'.intfs = d.intfs) (x dir : String) : slotOf d' x dir = slotOf d x dir := by
  simp only [slotOf, h]

theorem slotOf_setAcl (d : Dev) (n : Name) (es : Entries) (x dir : String) :
    slotOf (setAcl d n es) x dir = slotOf d x dir := rfl

theorem slotOf_putAcl (d : Dev) (n : Name) (es : Entries) (x dir : String) :
    slotOf (putAcl d n es) x dir = slotOf d x dir := rfl

theorem hasIntf_putAcl (d : Dev) (n : Name) (es : Entries) (x : String) :
    hasIntf (putAcl d n es) x = hasIntf d x := rfl

theorem intfs_putAcl (d : Dev) (n : Name) (es : Entries) : (putAcl d n es).intfs = d.intfs := rfl
theorem routes_putAcl (d : Dev) (n : Name) (es : Entries) : (putAcl d n es).routes = d.routes := rfl

theorem entriesOf_putAcl_other (d : Dev) (n x : Name) (es : Entries) (h : x ≠ n) :
    entriesOf (putAcl d n es) x = entriesOf d x := by
  simp only [putAcl, entriesOf_strip]; exact entriesOf_setAcl_other d n x es h

def slotI (dir' : String) (i : DIntf) : Option Name := if dir' == "out" then i.outB else i.inB

theorem slotI_updIntf (x dir : String) (v : Option Name) (dir' : String) (i : DIntf) :
    slotI dir' (updIntf x dir v i) =
      if i.name == x && ((dir' == "out") == (dir == "out")) then v else slotI dir' i := by
  unfold slotI updIntf
  generalize (i.name == x) = a
  generalize (dir == "out") = b
  generalize (dir' == "out") = c
  cases a <;> cases b <;> cases c <;> rfl

theorem slotOf_eq_find (d : Dev) (y dir' : String) :
    slotOf d y dir' = (d.intfs.find? (·.name == y)).bind (slotI dir') := by
  unfold slotOf
  cases d.intfs.find? (·.name == y) <;> rfl

theorem slotOf_setSlot (d : Dev) (x dir : String) (v : Option Name) (y dir' : String) :
    slotOf (setSlot d x dir v) y dir' =
      (d.intfs.find? (·.name == y)).bind fun i =>
        if i.name == x && ((dir' == "out") == (dir == "out")) then v else slotI dir' i := by
  rw [slotOf_eq_find]
  show ((d.intfs.map (updIntf x dir v)).find? _).bind _ = _
  rw [List.find?_map]
  have : ((fun i : DIntf => i.name == y) ∘ updIntf x dir v) = fun i => i.name == y :=
    funext fun i => congrArg (· == y) (updIntf_name x dir v i)
  rw [this]
  cases d.intfs.find? (·.name == y) with
  | none => rfl
  | some i => exact slotI_updIntf x dir v dir' i

theorem slotOf_setSlot_same (d : Dev) (x dir : String) (v : Option Name) (hx : hasIntf d x = true) :
    slotOf (setSlot d x dir v) x dir = v := by
  rw [slotOf_setSlot]
  cases hf : d.intfs.find? (·.name == x) with
  | none =>
    obtain ⟨i, hi, hix⟩ := List.any_eq_true.mp hx
    exact absurd hix (List.find?_eq_none.mp hf i hi)
  | some i =>
    have hix : (i.name == x) = true := List.find?_some (p := fun j : DIntf => j.name == x) hf
    simp only [Option.bind_some, hix, beq_self_eq_true, Bool.and_self, ↓reduceIte]

theorem slotOf_setSlot_otherDir (d : Dev) (x dir dir' : String) (v : Option Name)
    (hd : isDir dir = true) (hd' : isDir dir' = true) (hne : dir' ≠ dir) :
    slotOf (setSlot d x dir v) x dir' = slotOf d x dir' := by
  have hflip : ((dir' == "out") == (dir == "out")) = false := by
    simp only [isDir, Bool.or_eq_true, beq_iff_eq] at hd hd'
    rcases hd with rfl | rfl <;> rcases hd' with rfl | rfl <;> first | rfl | exact absurd rfl hne
  rw [slotOf_setSlot, slotOf_eq_find]
  simp only [hflip, Bool.and_false, Bool.false_eq_true, ↓reduceIte]

theorem slotOf_setSlot_otherIntf (d : Dev) (x y dir dir' : String) (v : Option Name) (hne : y ≠ x) :
    slotOf (setSlot d x dir v) y dir' = slotOf d y dir' := by
  rw [slotOf_setSlot, slotOf_eq_find]
  cases hf : d.intfs.find? (·.name == y) with
  | none => rfl
  | some i =>
    have hiy : (i.name == y) = true := List.find?_some (p := fun j : DIntf => j.name == y) hf
    have hix : (i.name == x) = false := by
      rw [eq_of_beq hiy]; exact beq_false_of_ne hne
    simp only [Option.bind_some, hix, Bool.false_and, Bool.false_eq_true, ↓reduceIte]

theorem entriesOf_setSlot (d : Dev) (x dir : String) (v : Option Name) (n : Name) :
    entriesOf (setSlot d x dir v) n = entriesOf d n := rfl
theorem aclNames_setSlot (d : Dev) (x dir : String) (v : Option Name) : aclNames (setSlot d x dir v) = aclNames d := rfl
theorem routes_setSlot (d : Dev) (x dir : String) (v : Option Name) : (setSlot d x dir v).routes = d.routes := rfl

theorem intfNames_setSlot (d : Dev) (x dir : String) (v : Option Name) :
    (setSlot d x dir v).intfs.map (·.name) = d.intfs.map (·.name) := by
  show (d.intfs.map (updIntf x dir v)).map _ = _
  rw [List.map_map]
  exact List.map_congr_left fun i _ => updIntf_name x dir v i

theorem hasIntf_of_names {d d0 : Dev} (h : d.intfs.map (·.name) = d0.intfs.map (·.name)) (x : String) :
    hasIntf d x = hasIntf d0 x := by
  have : ∀ dv : Dev, hasIntf dv x = (dv.intfs.map (·.name)).any (· == x) := by
    simp [hasIntf, List.any_map, Function.comp_def]
  rw [this d, this d0, h]

theorem slot_of_mem_intfs (d : Dev) (hnd : (d.intfs.map (·.name)).Nodup) {i : DIntf} (hi : i ∈ d.intfs) :
    slotOf d i.name "in" = i.inB ∧ slotOf d i.name "out" = i.outB := by
  have hf : d.intfs.find? (fun j => j.name == i.name) = some i := find?_key_of_mem hnd hi
  simp only [slotOf, hf]
  exact ⟨rfl, rfl⟩

theorem aclBound_slot (d : Dev) (hnd : (d.intfs.map (·.name)).Nodup) (n : Name) (h : aclBound d n = true) :
    ∃ x dir, isDir dir = true ∧ slotOf d x dir = some n := by
  simp only [aclBound, List.any_eq_true, Bool.or_eq_true, beq_iff_eq] at h
  obtain ⟨i, hi, h1 | h1⟩ := h
  · exact ⟨i.name, "in", rfl, by rw [(slot_of_mem_intfs d hnd hi).1]; exact h1⟩
  · exact ⟨i.name, "out", rfl, by rw [(slot_of_mem_intfs d hnd hi).2]; exact h1⟩

theorem run_bind (d : Dev) (x : String) (a : Name) (dir : String) (hx : hasIntf d x = true) (ha : hasAcl d a = true) :
    evsRun d (expand (.bind x a dir)) = some (strip (setSlot d x dir (some a))) := by
  rw [expand, evsRun_single]
  simp only [evRun, hx, ha, Bool.not_true, Bool.false_eq_true, ↓reduceIte]

theorem run_unbind (d : Dev) (x : String) (a : Name) (dir : String) (hx : hasIntf d x = true)
    (hs : slotOf d x dir = some a) :
    evsRun d (expand (.unbind x a dir)) = some (strip (setSlot d x dir none)) := by
  rw [expand, evsRun_single]
  simp only [evRun, hx, hs, beq_self_eq_true, Bool.not_true, Bool.false_eq_true, ↓reduceIte]

def addAcl (d : Dev) (g : Name) (es : Entries) : Dev := strip { d with acls := d.acls ++ [(g, es)] }

theorem hasAcl_addAcl (d : Dev) (g x : Name) (es : Entries) : hasAcl (addAcl d g es) x = (hasAcl d x || x == g) := by
  simp only [hasAcl, addAcl, strip, List.any_append, List.any_cons, List.any_nil, Bool.or_false]
  congr 1
  exact Bool.beq_comm

theorem entriesOf_addAcl (d : Dev) (g x : Name) (es : Entries) (hg : hasAcl d g = false) :
    entriesOf (addAcl d g es) x = if x == g then es else entriesOf d x := by
  show ((d.acls ++ [(g, es)]).lookup x).getD [] = _
  rw [lookup_append_single]
  split
  · next hx =>
    rw [show hasAcl d g = _ from anyKey_eq_lookup g d.acls, ← eq_of_beq hx] at hg
    rw [Option.isNone_iff_eq_none.mp (Option.isSome_eq_false_iff.mp hg)]; rfl
  · rw [Option.or_none]; rfl

theorem aclNames_addAcl (d : Dev) (g : Name) (es : Entries) : aclNames (addAcl d g es) = aclNames d ++ [g] := by
  exact List.map_append ..

theorem nodup_aclNames_addAcl (d : Dev) (g : Name) (es : Entries) (hnd : (aclNames d).Nodup) (hg : hasAcl d g = false) :
    (aclNames (addAcl d g es)).Nodup := by
  rw [aclNames_addAcl]
  refine nodup_snoc hnd fun ha => ?_
  simp only [hasAcl, List.any_eq_false] at hg
  obtain ⟨p, hp, hpa⟩ := List.mem_map.mp ha
  exact hg p hp (beq_iff_eq.mpr hpa)

theorem putAcl_addAcl (d : Dev) (g : Name) (es0 es : Entries) (hg : hasAcl d g = false) :
    putAcl (addAcl d g es0) g es = addAcl d g es := by
  obtain ⟨i, a, r, m⟩ := d
  have hg' : (a.any (·.1 == g)) = false := hg
  simp only [putAcl, addAcl, strip, setAcl, List.map_append, List.map_cons, List.map_nil, beq_self_eq_true,
    ↓reduceIte, map_set_absent a g es hg']

theorem strip_ensureAcl_new (d : Dev) (g : Name) (hg : hasAcl d g = false) :
    strip (ensureAcl d g) = addAcl d g [] := by
  simp only [ensureAcl, hg, Bool.false_eq_true, ↓reduceIte]
  rfl

theorem run_transfer (d : Dev) (g : Name) (ls : List ALine) (hg : hasAcl d g = false)
    (hnd : (aclNames d).Nodup) (happ : appendOKFrom [] ls = true) :
    ∃ es, evsRun d (expand (.transfer g ls)) = some (addAcl d g es) ∧ es.map (·.2) = ls.map typed := by
  obtain ⟨es, hr, hl⟩ := addAll_run ls [] happ
  refine ⟨es, ?_, hl⟩
  have h1 : hasAcl (addAcl d g []) g = true := by rw [hasAcl_addAcl, beq_self_eq_true, Bool.or_true]
  simp only [expand, evsRun_cons, evRun, Option.bind_some]
  rw [strip_ensureAcl_new d g hg,
    evsRun_subs_map g Chg.entry (fun _ => rfl) ls _ h1 rfl (nodup_aclNames_addAcl d g [] hnd hg),
    entriesOf_addAcl d g g [] hg, if_pos (beq_self_eq_true g), hr, Option.map_some, putAcl_addAcl d g [] es hg]

theorem slotOf_addAcl (d : Dev) (g : Name) (es : Entries) (x dir : String) : slotOf (addAcl d g es) x dir = slotOf d x dir := rfl
theorem intfs_addAcl (d : Dev) (g : Name) (es : Entries) : (addAcl d g es).intfs = d.intfs := rfl
theorem routes_addAcl (d : Dev) (g : Name) (es : Entries) : (addAcl d g es).routes = d.routes := rfl
theorem mode_addAcl (d : Dev) (g : Name) (es : Entries) : (addAcl d g es).mode = none := rfl
theorem mode_putAcl (d : Dev) (g : Name) (es : Entries) : (putAcl d g es).mode = none := rfl

def setRoutes (d : Dev) (R : List String) : Dev := strip { d with routes := R }

theorem evsRun_routeAct (d : Dev) (a : MA) (h : isRouteAct a = true) :
    evsRun d (expand a) = (rStep d.routes a).map (setRoutes d) := by
  cases a with
  | route r =>
    simp only [expand, evsRun_single, evRun, execTop, rStep]
    cases d.routes.contains r <;> rfl
  | noRoute r =>
    simp only [expand, evsRun_single, evRun, execTop, rStep]
    cases d.routes.contains r <;> rfl
  | replRoute o n =>
    simp only [expand, evsRun_single, evRun, execTop, rStep]
    cases d.routes.contains o
    · rfl
    · cases (d.routes.filter (· != o)).contains n <;> rfl
  | _ => cases h

theorem setRoutes_setRoutes (d : Dev) (R R' : List String) : setRoutes (setRoutes d R) R' = setRoutes d R' := rfl
theorem routes_setRoutes (d : Dev) (R : List String) : (setRoutes d R).routes = R := rfl

theorem setRoutes_self (d : Dev) (h : d.mode = none) : setRoutes d d.routes = d := by
  cases d; simp_all [setRoutes, strip]

theorem evsRun_routeActs (acts : List MA) (hacts : ∀ a ∈ acts, isRouteAct a = true) (d : Dev) (hm : d.mode = none) :
    evsRun d (acts.flatMap expand) = (rRun d.routes acts).map (setRoutes d) := by
  induction acts generalizing d with
  | nil => simp [evsRun, rRun, setRoutes_self d hm]
  | cons a acts ih =>
    rw [List.flatMap_cons, evsRun_append, evsRun_routeAct d a (hacts a List.mem_cons_self), rRun_cons]
    cases rStep d.routes a with
    | none => rfl
    | some R1 =>
      rw [Option.map_some, Option.bind_some, Option.bind_some,
        ih (fun a' h' => hacts a' (List.mem_cons_of_mem _ h')) (setRoutes d R1) rfl, routes_setRoutes]
      cases rRun R1 acts <;> rfl

def dropAcl (d : Dev) (n : Name) : Dev := strip { d with acls := d.acls.filter fun p => !(p.1 == n) }

theorem entriesOf_dropAcl (d : Dev) (n x : Name) (h : x ≠ n) : entriesOf (dropAcl d n) x = entriesOf d x := by
  show ((d.acls.filter fun p => !(p.1 == n)).lookup x).getD [] = _
  rw [lookup_filter_keep (fun k => !(k == n)) x (by simpa using h)]; rfl

theorem hasAcl_dropAcl (d : Dev) (n x : Name) (h : x ≠ n) : hasAcl (dropAcl d n) x = hasAcl d x :=
  anyKey_filter_keep (fun k => !(k == n)) x (by simpa using h) d.acls

theorem aclBound_dropAcl (d : Dev) (n x : Name) : aclBound (dropAcl d n) x = aclBound d x := rfl

theorem run_noAcl (d : Dev) (n : Name) (h1 : hasAcl d n = true) (h2 : aclBound d n = false) :
    evRun d (.top (.noAcl n)) = some (dropAcl d n) := by
  simp [evRun, execTop, h1, h2, toOpt, dropAcl, strip]

theorem run_cleanup (p : List Name) (hnd : p.Nodup) (d : Dev)
    (hp : ∀ n ∈ p, hasAcl d n = true ∧ aclBound d n = false) :
    ∃ d', evsRun d (expand (.cleanup p)) = some d' ∧ d'.intfs = d.intfs ∧ d'.routes = d.routes ∧
      (∀ x, x ∉ p → entriesOf d' x = entriesOf d x ∧ hasAcl d' x = hasAcl d x) ∧
      (∀ x ∈ p, hasAcl d' x = false) := by
  have hsame : evsRun d (expand (.cleanup p)) = evsRun d (p.map fun n => Ev.top (.noAcl n)) := by
    cases p with
    | nil => rfl
    | cons n ns => simp only [expand, List.map_cons, evsRun_cons]; rfl
  rw [hsame]
  clear hsame
  induction p generalizing d with
  | nil => exact ⟨d, rfl, rfl, rfl, fun _ _ => ⟨rfl, rfl⟩, by simp⟩
  | cons n ns ih =>
    simp only [List.nodup_cons] at hnd
    obtain ⟨h1, h2⟩ := hp n (List.mem_cons_self ..)
    simp only [List.map_cons, evsRun_cons, run_noAcl d n h1 h2, Option.bind_some]
    obtain ⟨d', hr, hi, hro, hkeep, hgone⟩ := ih hnd.2 (dropAcl d n) (by
      intro x hx
      have hne : x ≠ n := fun hc => hnd.1 (hc ▸ hx)
      obtain ⟨h3, h4⟩ := hp x (List.mem_cons_of_mem _ hx)
      exact ⟨by rw [hasAcl_dropAcl d n x hne]; exact h3, by rw [aclBound_dropAcl]; exact h4⟩)
    refine ⟨d', hr, hi, hro, ?_, ?_⟩
    · intro x hx
      simp only [List.mem_cons, not_or] at hx
      obtain ⟨k1, k2⟩ := hkeep x hx.2
      exact ⟨by rw [k1, entriesOf_dropAcl d n x hx.1], by rw [k2, hasAcl_dropAcl d n x hx.1]⟩
    · intro x hx
      rcases List.mem_cons.mp hx with rfl | hx'
      · by_cases hxin : x ∈ ns
        · exact hgone x hxin
        · rw [(hkeep x hxin).2]
          simp [hasAcl, dropAcl, strip, List.any_filter]
      · exact hgone x hx'

end NA.F2
