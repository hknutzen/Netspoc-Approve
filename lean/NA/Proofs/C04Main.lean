import NA.Proofs.C04Plan
import NA.Proofs.C04Ctx
import NA.Proofs.C04StoreInv
/-!
End to end: service phase and both policy loops compose (`plan_mid`), the clean-up runs, and what the planner's
invariants say about the final state is the specification's equivalence (`plan_converges`).
-/
namespace NA.Nsx

theorem brefs_of {diff : Diff} {S S1 : Store} {T : Config} {ctx : Ctx} (hcf : CtxFacts diff S T ctx)
    (hT : TargetFacts T) (hext : extRefsOK S T = true) (hg : S1.groups = S.groups)
    (hs1 : ∀ id, hasService S id = true → hasService S1 id = true)
    (hs2 : ∀ id ∈ sids T.services, hasService S1 id = true)
    {pb : Policy} (hpb : pb ∈ T.policies) {rb : Rule} (hrb : rb ∈ pb.rules) : BRefs ctx S1 rb := by
  obtain ⟨d1, d2, d3⟩ := refsDefined_ep ((hT.rules pb hpb).2 rb hrb)
  obtain ⟨e1, e2, e3⟩ := extRefs_ep hext hpb hrb
  have hep : ∀ p, (∀ x, groupRef p = some x → managed x = true → x ∈ gids T.groups) →
      (∀ x, groupRef p = some x → managed x = false → hasGroup S x = true) →
      ctx.gmb p = none → epOk S1 p = true := by
    intro p hd he hn
    rw [epOk]
    cases hr : groupRef p with
    | none => rfl
    | some x =>
      show hasGroup S1 x = true
      cases hm : managed x with
      | true =>
        exfalso
        obtain ⟨gb, hgb⟩ := hcf.b_dom x (hd x hr hm)
        rw [gmb_of_groupRef hr, hgb] at hn; cases hn
      | false =>
        have := he x hr hm
        unfold hasGroup at this ⊢
        rw [hg]; exact this
  refine ⟨?_, hep _ d1 e1, hep _ d2 e2⟩
  rw [svcOk]
  cases hr : serviceRef rb.service with
  | none => rfl
  | some x =>
    show hasService S1 x = true
    cases hm : managed x with
    | true => exact hs2 x (d3 x hr hm)
    | false => exact hs1 x (e3 x hr hm)

theorem mid_policies {ctx : Ctx} {T : Config} {S S2 S3 : Store} {st1 st2 : PSt} (hT : TargetFacts T)
    (hm : Mono st1 st2)
    (hframeA : ∀ id, id ∉ pids (load S).policies → findPolicy S2.policies id = findPolicy S.policies id)
    (hdoneA : ∀ pa ∈ (load S).policies, Done ctx T st1.nod S2 pa.id)
    (hframeB : ∀ id, id ∉ pids T.policies ∨ (load S).policies.any (·.id == id) = true →
      findPolicy S3.policies id = findPolicy S2.policies id)
    (hrealB : ∀ pb ∈ T.policies, (load S).policies.any (·.id == pb.id) = false → Realised ctx st2.nod S3 pb.id pb.rules) :
    (∀ pb ∈ T.policies, Realised ctx st2.nod S3 pb.id pb.rules) ∧
    (∀ id, hasPolicy S3 id = true → managed id = true → id ∈ pids T.policies) ∧
    (∀ id, managed id = false → findPolicy S3.policies id = findPolicy S.policies id) := by
  have hload : ∀ id, id ∈ pids (load S).policies ↔ id ∈ pids S.policies ∧ managed id = true :=
    fun id => pids_filter_managed
  refine ⟨fun pb hpb => ?_, fun id hhas hman => ?_, fun id hman => ?_⟩
  · cases hany : (load S).policies.any (·.id == pb.id) with
    | false => exact hrealB pb hpb hany
    | true =>
      -- a device policy: the first loop has dealt with it, the second has left it alone
      obtain ⟨pa, hpa, e⟩ := List.mem_map.mp (any_pid_iff.mp hany)
      have h := (hdoneA pa hpa).transport hm (e ▸ hframeB pb.id (Or.inr hany))
      rw [show pa.id = pb.id from e, Done, findPolicyLast_of_mem hT.pol_nodup hpb] at h
      exact h
  · false_or_by_contra; rename_i hnT
    have h3 := hframeB id (Or.inl hnT)
    by_cases hA : id ∈ pids (load S).policies
    · -- a device policy the target does not have was deleted
      obtain ⟨pa, hpa, e⟩ := List.mem_map.mp hA
      have h := hdoneA pa hpa
      rw [show pa.id = id from e, Done, findPolicyLast_none hnT] at h
      rw [hasPolicy_iff_find, h3, h] at hhas
      exact nomatch hhas
    · rw [hasPolicy_iff_find, h3, hframeA id hA, ← hasPolicy_iff_find, hasPolicy_iff] at hhas
      exact hA ((hload id).mpr ⟨hhas, hman⟩)
  · have h1 : id ∉ pids T.policies := fun h => by
      obtain ⟨pb, hpb, e⟩ := List.mem_map.mp h
      have := hT.pol_managed pb hpb
      rw [show pb.id = id from e, hman] at this; cases this
    have h2 : id ∉ pids (load S).policies := fun h => by
      have := ((hload id).mp h).2
      rw [hman] at this; cases this
    rw [hframeB id (Or.inl h1), hframeA id h2]

/-- What is known after the service phase and the two policy loops. -/
structure MidFacts (diff : Diff) (S : Store) (T : Config) (ctx : Ctx) (st2 : PSt) (S3 : Store) : Prop where
  ginv : GInv ctx S.groups S3.groups st2
  svc_target : ∀ id ∈ sids T.services,
    (findService S3.services id).map (·.defn) = (findService T.services id).map (·.defn)
  svc_old : ∀ id, hasService S id = true → hasService S3 id = true
  svc_new : ∀ id, hasService S3 id = true → hasService S id = true ∨ id ∈ sids T.services
  pol_nodup : (pids S3.policies).Nodup
  pol_real : ∀ pb ∈ T.policies, Realised ctx st2.nod S3 pb.id pb.rules
  pol_managed : ∀ id, hasPolicy S3 id = true → managed id = true → id ∈ pids T.policies
  pol_frame : ∀ id, managed id = false → findPolicy S3.policies id = findPolicy S.policies id
  keys : ∀ k n, st2.nod.lookup k = some n → TargetKey T k

theorem plan_mid {diff : Diff} (hdiff : ∀ n m eq, validScript n m eq (diff n m eq) = true)
    {S : Store} {T : Config} {ctx : Ctx} (hS : StoreFacts S) (hT : TargetFacts T)
    (hext : extRefsOK S T = true) (hmk : mkCtx diff (load S) T = some ctx)
    (hab : (overB ctx (load S) T.policies (overA ctx T (load S).policies {}).1).1.abort = none) :
    ∃ S3, run S ((planServices (load S).services T.services).1 ++ (overA ctx T (load S).policies {}).2 ++
          (overB ctx (load S) T.policies (overA ctx T (load S).policies {}).1).2) = some S3 ∧
      MidFacts diff S T ctx (overB ctx (load S) T.policies (overA ctx T (load S).policies {}).1).1 S3 := by
  have hcf := ctxFacts_of (diff := diff) hT hmk
  have hc := hcf.ok hS hT
  have hdiff' : ∀ n m eq, validScript n m eq (ctx.diff n m eq) = true := by rw [hcf.diff_eq]; exact hdiff
  have hloadP : (load S).policies = S.policies.filter (managed ·.id) := rfl
  obtain ⟨S1, hrunSvc, hg1, hp1, hshas, _, hsdef⟩ :=
    planServices_spec (load S).services T.services S fun sb hsb => findService_loaded hS.svc_nodup (hT.svc sb hsb)
  have hsmono : ∀ id, hasService S id = true → hasService S1 id = true := fun id h => (hshas id).mpr (Or.inl h)
  have hle1 : GroupsLE S S1 := fun id h => by rw [hg1]; exact h
  have hpidsA : (pids (load S).policies).Nodup := by
    rw [hloadP]; exact (List.Sublist.map _ List.filter_sublist).nodup hS.pol_nodup
  have hginv1 : GInv ctx S.groups S1.groups {} := by rw [hg1]; exact ginv_init hc
  have hAok : ∀ pa ∈ (load S).policies, APolOK ctx S1 pa := by
    intro pa hpa
    have hpaS : pa ∈ S.policies := (List.mem_filter.mp hpa).1
    obtain ⟨hr1, hr2⟩ := hS.rules pa hpaS
    refine ⟨pa, by rw [hp1]; exact findPolicy_mem_nodup hS.pol_nodup hpaS, rfl, hr1, ?_⟩
    intro ra hra
    have hrefs := hr2 ra hra
    obtain ⟨e1, e2, _⟩ := refsOk_iff.mp hrefs
    exact ⟨refsOk_grow hsmono hle1 hrefs, fun h => aext_ep hcf e1 h, fun h => aext_ep hcf e2 h⟩
  have hsT : ∀ id ∈ sids T.services, hasService S1 id = true := fun id hid => (hshas id).mpr (Or.inr hid)
  have hBok1 : ∀ pb ∈ T.policies, BPolOK ctx (TargetKey T) S1 pb := fun pb hpb =>
    ⟨(hT.rules pb hpb).1, fun rb hrb => brefs_of hcf hT hext hg1 hsmono hsT hpb hrb, targetKey_of pb hpb⟩
  have habA : (overA ctx T (load S).policies {}).1.abort = none := overB_abort _ _ _ _ hab
  obtain ⟨S2, r2, hframe2, hdone2⟩ := overA_ran hc hdiff' T (load S).policies S1 {} hpidsA hginv1 hAok hBok1 habA
  obtain ⟨S3, r3, hframe3, hres3⟩ :=
    overB_ran hc (load S) T.policies S2 (overA ctx T (load S).policies {}).1 hT.pol_nodup r2.ginv
      (fun pb hpb => r2.bpol (hBok1 pb hpb))
      (fun pb hpb hany => by
        have hnA : pb.id ∉ pids (load S).policies := fun h => by rw [← any_pid_iff, hany] at h; cases h
        rw [hframe2 _ hnA, hp1, ← hasPolicy_false_iff, Bool.eq_false_iff]
        exact fun h => hnA (pids_filter_managed.mpr ⟨hasPolicy_iff.mp h, hT.pol_managed pb hpb⟩))
  have r23 := r2.append r3
  have hrun3 : run S ((planServices (load S).services T.services).1 ++ (overA ctx T (load S).policies {}).2 ++
      (overB ctx (load S) T.policies (overA ctx T (load S).policies {}).1).2) = some S3 := by
    rw [List.append_assoc, run_append hrunSvc]; exact r23.run
  obtain ⟨hreal, hmanaged, hpframe⟩ := mid_policies (S := S) hT r3.mono (fun id h => (hframe2 id h).trans (by rw [hp1]))
    hdone2 hframe3 hres3
  have hhas3 : ∀ id, hasService S3 id = hasService S1 id := fun id => by unfold hasService; rw [r23.services]
  exact ⟨S3, hrun3,
    { ginv := r23.ginv
      svc_target := fun id hid => by rw [r23.services]; exact hsdef id hid
      svc_old := fun id h => by rw [hhas3]; exact hsmono id h
      svc_new := fun id h => by rw [hhas3] at h; exact (hshas id).mp h
      pol_nodup := (run_wf _ S S3 hS.wf hrun3).pol
      pol_real := hreal, pol_managed := hmanaged, pol_frame := hpframe
      keys := fun k n h => (r23.keys k n h).resolve_left fun h0 => nomatch h0 }⟩

theorem RuleReal.of_same {ctx : Ctx} {nod : List (String × String)} {r b rb : Rule} (h : RuleReal ctx nod r b)
    (hs : SameButId b rb) : RuleReal ctx nod r rb := by
  unfold SameButId at hs
  rw [hs] at h
  exact h

/-- A realised policy, rule by rule and in the order of the target. -/
theorem Realised.ordered {ctx : Ctx} {nod : List (String × String)} {S : Store} {pid : String} {tr : List Rule}
    (h : Realised ctx nod S pid tr) :
    ∃ p L, findPolicy S.policies pid = some p ∧ p.rules.Perm L ∧ Forall2 (RuleReal ctx nod) L tr := by
  obtain ⟨p, L, B, bR, h1, h2, h3, h4, h5⟩ := h
  obtain ⟨L', hL', hf⟩ := Forall2_perm_right h3 h4
  exact ⟨p, L', h1, h2.trans hL', Forall2.comp (fun _ _ _ hr hs => hr.of_same hs) hf h5⟩

/-- An entry realising a target entry never names a device group that was not claimed. -/
theorem epreal_not_unclaimed {diff : Diff} {S : Store} {T : Config} {ctx : Ctx} {st : PSt} {G : List Group}
    (hcf : CtxFacts diff S T ctx) (hinv : GInv ctx S.groups G st) {pS pB id : String}
    (h : EPreal ctx st.nod pS pB) (hps : pS = groupPath id) (hin : id ∈ gids S.groups) (hnn : id ∉ st.needed)
    (hmid : managed id = true)
    (hdef : ∀ x, groupRef pB = some x → managed x = true → x ∈ gids T.groups) : False := by
  rcases EPreal_iff.mp h with ⟨hn, e⟩ | ⟨k, gb, n, hr, hb, hn, e⟩
  · -- `pB` is the path of the managed group `id`, which the target must then define
    have hr : groupRef pB = some id := by rw [← e, hps]; exact groupRef_groupPath id
    obtain ⟨gb, hgb⟩ := hcf.b_dom id (hdef id hr hmid)
    rw [gmb_of_groupRef hr, hgb] at hn; cases hn
  · have : n = id := groupPath_inj (e.symm.trans hps)
    subst this
    obtain ⟨gb', _, hb', _, _, hor⟩ := hinv.nod k n hn
    rcases hor with ⟨h1, _⟩ | h1
    · exact hnn h1
    · exact hcf.b_fresh k gb' hb' (h1 ▸ hin)

theorem epequiv_of_epreal {diff : Diff} {S : Store} {T : Config} {ctx : Ctx} {st : PSt} {G G5 : List Group}
    (hcf : CtxFacts diff S T ctx) (hT : TargetFacts T) (hinv : GInv ctx S.groups G st)
    (hkeep : ∀ n, (n ∈ st.needed ∨ n ∉ gids S.groups) → findGroup G5 n = findGroup G n)
    {pS pB : String} (h : EPreal ctx st.nod pS pB) : EPEquiv G5 T.groups pS pB := by
  rw [EPEquiv]
  cases targetEntry hcf hT pB with
  | other hn ht _ =>
    rw [ht]
    exact (EPreal_iff.mp h).elim (·.2) fun ⟨k, gb, _, hr, hb, _⟩ => by rw [gmb_of_groupRef hr, hb] at hn; cases hn
  | @group k gb gt hr hb ht hgt hid hmk hmgb hsorted =>
    rw [ht]
    rcases EPreal_iff.mp h with ⟨hn, _⟩ | ⟨k', gb', n, hr', hb', hn, hp⟩
    · rw [gmb_of_groupRef hr, hb] at hn; cases hn
    · rw [hr] at hr'; cases hr'
      -- the name the target group is known under: a claimed device group or the new group, managed either way
      obtain ⟨gb'', g, hb'', hfg, hmem, hor⟩ := hinv.nod k n hn
      rw [hb] at hb''; cases hb''
      refine ⟨n, g, hp, ?_, ?_, fun y => by rw [hmem y, hsorted, (sortAddrs_perm _).mem_iff]⟩
      · rcases hor with ⟨_, h2⟩ | h1
        · rw [hcf.a_eq, gids_sortGroups] at h2
          exact (gids_filter_managed.mp h2).2
        · rw [h1]; exact hmgb
      · rw [hkeep n (hor.imp (·.1) fun (h1 : n = gb.id) => h1 ▸ hcf.b_fresh k gb hb)]; exact hfg

/- As for `EPreal`: keeps the elaborator from evaluating `groupRef pT` whenever `EPEquiv …` is an expected type. -/
attribute [local irreducible] EPEquiv

/-- `nsx_converges`, with a fifth conjunct: what `plan_idempotent` needs of the state reached. -/
theorem plan_converges {diff : Diff} (hdiff : ∀ n m eq, validScript n m eq (diff n m eq) = true)
    {S : Store} {T : Config} (hS : StoreFacts S) (hT : TargetFacts T) (hext : extRefsOK S T = true)
    (hind : unmanagedIndep S = true) (hab : (plan diff (load S) T).abort = none) :
    ∃ S', run S (plan diff (load S) T).calls = some S' ∧ Converged S' T ∧ ServicesConverged S' T ∧
      NoLeftoverGroup S' T ∧ (DistinctContent T.groups → DistinctContent (load S').groups) := by
  obtain ⟨ctx, hmk⟩ := plan_abort_none_ctx hab
  rw [plan_eq hmk] at hab ⊢
  have hcf := ctxFacts_of (diff := diff) hT hmk
  obtain ⟨S3, hrun3, hmid⟩ := plan_mid hdiff hS hT hext hmk hab
  generalize (overB ctx (load S) T.policies (overA ctx T (load S).policies {}).1).1 = st2 at *
  have hinv := hmid.ginv
  -- every rule on S3 realises a target rule, or sits in a policy outside Netspoc's scope that is as it was
  have hrule : ∀ p ∈ S3.policies, ∀ r ∈ p.rules,
      (∃ pb ∈ T.policies, ∃ rb ∈ pb.rules, RuleReal ctx st2.nod r rb) ∨ (managed p.id = false ∧ p ∈ S.policies) := by
    intro p hp r hr
    have hfind := findPolicy_mem_nodup hmid.pol_nodup hp
    cases hm : managed p.id with
    | true =>
      obtain ⟨pb, hpb, e⟩ := List.mem_map.mp
        (hmid.pol_managed p.id (hasPolicy_iff.mpr (List.mem_map_of_mem (f := (·.id)) hp)) hm)
      obtain ⟨p', L, h1, h2, h3⟩ := (hmid.pol_real pb hpb).ordered
      rw [show pb.id = p.id from e, hfind] at h1
      cases h1
      obtain ⟨rb, hrb, hreal⟩ := h3.exists_right (h2.mem_iff.mp hr)
      exact Or.inl ⟨pb, hpb, rb, hrb, hreal⟩
    | false => exact Or.inr ⟨rfl, (findPolicy_some ((hmid.pol_frame p.id hm).symm.trans hfind)).1⟩
  -- what is deleted: managed services the target does not define, loaded groups that were not claimed
  generalize hlS : (load S).services.filter (!(planServices (load S).services T.services).2.contains ·.id) = lS
  generalize hlG : (load S).groups.filter (!st2.needed.contains ·.id) = lG
  have hlS_mem : ∀ id, id ∈ sids lS ↔ id ∈ sids S.services ∧ managed id = true ∧ id ∉ sids T.services :=
    fun id => hlS ▸ mem_delServices
  have hlG_mem : ∀ id, id ∈ gids lG ↔ id ∈ gids S.groups ∧ managed id = true ∧ id ∉ st2.needed := by
    intro id
    rw [← hlG, gids, mem_map_key_filter (key := Group.id) (p := fun i => !st2.needed.contains i)]
    show id ∈ gids (S.groups.filter (managed ·.id)) ∧ _ ↔ _
    rw [gids_filter_managed, and_assoc, Bool.not_eq_true', ← Bool.not_eq_true, List.contains_eq_mem,
      decide_eq_true_eq]
  -- the services go: no rule names one of them
  obtain ⟨S4, hrun4, hg4, hp4, hs4⟩ := delServices_spec lS S3 (fun s hs => by
    obtain ⟨h1, h2, h3⟩ := (hlS_mem s.id).mp (List.mem_map_of_mem (f := (·.id)) hs)
    refine ⟨hmid.svc_old _ (hasService_iff.mpr h1), Bool.eq_false_iff.mpr fun hused => ?_⟩
    obtain ⟨p, hp, r, hr, he⟩ := serviceUsed_iff.mp hused
    rcases hrule p hp r hr with ⟨pb, hpb, rb, hrb, hreal⟩ | ⟨hm, hpS⟩
    · exact h3 ((refsDefined_ep ((hT.rules pb hpb).2 rb hrb)).2.2 _
        (by rw [← hreal.2.1, he, serviceRef_servicePath]) h2)
    · have := (unmanagedIndep_ep hind hpS hm hr).2.2 _ (by rw [he, serviceRef_servicePath])
      rw [h2] at this; cases this)
    (hlS ▸ (List.Sublist.map _ (List.filter_sublist.trans List.filter_sublist)).nodup hS.svc_nodup)
  -- the groups go: no rule names one of them
  obtain ⟨S5, hrun5, hs5, hp5, hg5⟩ := delGroups_spec lG S4 (fun g hg => by
    obtain ⟨h1, h2, h3⟩ := (hlG_mem g.id).mp (List.mem_map_of_mem (f := (·.id)) hg)
    refine ⟨by rw [hasGroup_iff, hg4]; exact hinv.grow _ h1, Bool.eq_false_iff.mpr fun hused => ?_⟩
    obtain ⟨p, hp, r, hr, he⟩ := groupUsed_iff.mp hused
    rw [hp4] at hp
    rcases hrule p hp r hr with ⟨pb, hpb, rb, hrb, _, _, hsrc, hdst⟩ | ⟨hm, hpS⟩
    · obtain ⟨d1, d2, _⟩ := refsDefined_ep ((hT.rules pb hpb).2 rb hrb)
      exact he.elim (fun e => epreal_not_unclaimed hcf hinv hsrc e h1 h3 h2 d1)
        fun e => epreal_not_unclaimed hcf hinv hdst e h1 h3 h2 d2
    · obtain ⟨u1, u2, _⟩ := unmanagedIndep_ep hind hpS hm hr
      have := he.elim (fun e => u1 g.id (by rw [e, groupRef_groupPath])) fun e => u2 g.id (by rw [e, groupRef_groupPath])
      rw [h2] at this; cases this)
    (hlG ▸ (List.Sublist.map _ (List.filter_sublist.trans List.filter_sublist)).nodup hS.grp_nodup)
  have hpol5 : S5.policies = S3.policies := hp5.trans hp4
  have hgrp5 : ∀ g, g ∈ S5.groups ↔ g ∈ S3.groups ∧ g.id ∉ gids lG := fun g => by
    rw [hg5, hg4, List.mem_filter, Bool.not_eq_true', ← Bool.not_eq_true, List.contains_eq_mem, decide_eq_true_eq]
  have hsvc5 : S5.services = S3.services.filter (fun s => !(sids lS).contains s.id) := by rw [hs5, hs4]
  -- a name the planner has given is not deleted
  have hkeep : ∀ n, (n ∈ st2.needed ∨ n ∉ gids S.groups) → findGroup S5.groups n = findGroup S3.groups n := by
    intro n hn
    rw [hg5, hg4]
    refine findGroup_filter_keep _ _ _ fun g _ hgid => ?_
    have : n ∉ gids lG := fun hd => hn.elim ((hlG_mem n).mp hd).2.2 fun h => h ((hlG_mem n).mp hd).1
    rw [hgid]; simpa using this
  -- a managed group that is left carries the name of a target group
  have hown : ∀ g ∈ S5.groups, managed g.id = true → g ∈ S3.groups ∧ ∃ k, st2.nod.lookup k = some g.id := by
    intro g hg hm
    obtain ⟨hg3, hnot⟩ := (hgrp5 g).mp hg
    refine ⟨hg3, ?_⟩
    rcases hinv.ids g.id (mem_gids hg3) with h0 | ⟨k, _, hk, _, _⟩
    · exact hinv.needed_owned _ (Classical.byContradiction fun hn => hnot ((hlG_mem g.id).mpr ⟨h0, hm, hn⟩))
    · exact ⟨k, hk⟩
  refine ⟨S5, ?_, ⟨?_, ?_⟩, ⟨?_, ?_⟩, ?_, ?_⟩
  · rw [List.append_assoc, run_append hrun3, run_append hrun4]; exact hrun5
  · -- every target policy is there with equivalent rules
    intro pb hpb
    obtain ⟨p, L, h1, h2, h3⟩ := (hmid.pol_real pb hpb).ordered
    refine ⟨p, L, by rw [hpol5]; exact h1, h2, h3.imp fun r rb ⟨ha, hs, hsrc, hdst⟩ => ?_⟩
    exact ⟨ha, hs, epequiv_of_epreal hcf hT hinv hkeep hsrc, epequiv_of_epreal hcf hT hinv hkeep hdst⟩
  · -- every managed policy left is a target policy
    intro p hp hm
    rw [hpol5] at hp
    exact List.mem_map.mp (hmid.pol_managed p.id (hasPolicy_iff.mpr (List.mem_map_of_mem (f := (·.id)) hp)) hm)
  · -- target services carry the target's definition
    intro t ht
    have hin : t.id ∈ sids T.services := List.mem_map_of_mem (f := (·.id)) ht
    rw [hsvc5, findService_filter_keep _ _ _ fun s _ hsid => ?_]
    · exact hmid.svc_target t.id hin
    · have : t.id ∉ sids lS := fun hd => ((hlS_mem t.id).mp hd).2.2 hin
      rw [hsid]; simpa using this
  · -- no managed service is left that the target does not define
    intro s hs hm
    rw [hsvc5] at hs
    obtain ⟨hs3, hkeepS⟩ := List.mem_filter.mp hs
    have hnot : s.id ∉ sids lS := by simpa using hkeepS
    have hinT : s.id ∈ sids T.services :=
      (hmid.svc_new s.id (hasService_iff.mpr (List.mem_map_of_mem (f := (·.id)) hs3))).elim
        (fun h => Classical.byContradiction fun hn => hnot ((hlS_mem s.id).mpr ⟨hasService_iff.mp h, hm, hn⟩)) id
    exact List.mem_map.mp hinT
  · -- no managed group is left that no target rule uses: its key comes from a target rule, which is realised
    intro g hg hm
    obtain ⟨_, k, hk⟩ := hown g hg hm
    obtain ⟨pb, hpb, rb, hrb, hrefs⟩ := hmid.keys k g.id hk
    obtain ⟨p, L, h1, h2, h3⟩ := (hmid.pol_real pb hpb).ordered
    obtain ⟨r, hrL, _, _, hsrc, hdst⟩ := h3.exists_left hrb
    obtain ⟨hpm, hpid⟩ := findPolicy_some h1
    refine ⟨p, by rw [hpol5]; exact hpm, ⟨pb, hpb, hpid.symm⟩, r, h2.mem_iff.mpr hrL, ruleUsesGroup_iff.mpr ?_⟩
    obtain ⟨gb, _, hgb, _, _, _⟩ := hinv.nod k g.id hk
    have huse : ∀ pS pB, EPreal ctx st2.nod pS pB → groupRef pB = some k → pS = groupPath g.id := by
      intro pS pB hep hr'
      rcases EPreal_iff.mp hep with ⟨hn, _⟩ | ⟨k', _, n, hr'', _, hn, hp⟩
      · rw [gmb_of_groupRef hr', hgb] at hn; cases hn
      · rw [hr'] at hr''; cases hr''
        rw [hk] at hn
        rw [hp, ← Option.some.inj hn]
    exact hrefs.imp (huse _ _ hsrc) (huse _ _ hdst)
  · -- managed groups left carry the contents of pairwise different target groups
    intro hdT g1 hg1 g2 hg2 hsame
    have hname : ∀ g ∈ (load S5).groups, ∃ k gt, st2.nod.lookup k = some g.id ∧ gt ∈ T.groups ∧ gt.id = k ∧
        ∀ x, x ∈ g.addrs ↔ x ∈ gt.addrs := by
      intro g hg
      obtain ⟨hgS5, hm⟩ := List.mem_filter.mp hg
      obtain ⟨hg3, k, hk⟩ := hown g hgS5 hm
      obtain ⟨gb, g', hgb, hfg, hmem, _⟩ := hinv.nod k g.id hk
      rw [findGroup_mem_nodup hinv.nodup hg3] at hfg
      cases hfg
      obtain ⟨gt, hgt, hid, hs, _⟩ := hcf.b_of k gb hgb
      exact ⟨k, gt, hk, hgt, hid, fun x => by rw [hmem x, hs, (sortAddrs_perm _).mem_iff]⟩
    obtain ⟨k1, gt1, hk1, hgt1, hid1, hm1⟩ := hname g1 hg1
    obtain ⟨k2, gt2, hk2, hgt2, hid2, hm2⟩ := hname g2 hg2
    have := hdT gt1 hgt1 gt2 hgt2 (fun x => by rw [← hm1 x, ← hm2 x, hsame x])
    rw [hid1, hid2] at this
    rw [this, hk2] at hk1
    exact (Option.some.inj hk1).symm

end NA.Nsx
