import NA.Proofs.C15Strings
/-!
# C15: evaluation of `check` on a buffer of known shape

Each step of `check` in closed form on an expect buffer of known shape; `check_compose` chains them.
-/
namespace NA.Ios

variable {σ : Type}

def setPend (st : St σ) (p : Str) : St σ := { st with pend := p }
def addWarns (st : St σ) (ws : List (Str × Str)) : St σ := { st with warns := st.warns ++ ws }

@[simp] theorem setPend_pend (st : St σ) (p : Str) : (setPend st p).pend = p := rfl
@[simp] theorem setPend_active (st : St σ) (p : Str) : (setPend st p).reloadActive = st.reloadActive := rfl
@[simp] theorem setPend_trace (st : St σ) (p : Str) : (setPend st p).trace = st.trace := rfl
@[simp] theorem setPend_warns (st : St σ) (p : Str) : (setPend st p).warns = st.warns := rfl
@[simp] theorem setPend_dev (st : St σ) (p : Str) : (setPend st p).dev = st.dev := rfl
@[simp] theorem addWarns_pend (st : St σ) (w) : (addWarns st w).pend = st.pend := rfl
@[simp] theorem addWarns_active (st : St σ) (w) : (addWarns st w).reloadActive = st.reloadActive := rfl
@[simp] theorem addWarns_trace (st : St σ) (w) : (addWarns st w).trace = st.trace := rfl
@[simp] theorem addWarns_warns (st : St σ) (w) : (addWarns st w).warns = st.warns ++ w := rfl
@[simp] theorem addWarns_dev (st : St σ) (w) : (addWarns st w).dev = st.dev := rfl
theorem setPend_self (st : St σ) : setPend st st.pend = st := by cases st; rfl
theorem addWarns_nil (st : St σ) : addWarns st [] = st := by cases st; simp [addWarns]
theorem addWarns_addWarns (st : St σ) (a b) : addWarns (addWarns st a) b = addWarns st (a ++ b) := by
  cases st; simp [addWarns]

theorem stripStdPrompt_eval (st : St σ) (u : Str) (hu : noPH u = true) :
    stripStdPrompt (u ++ promptHead ++ ['#']) st = (.ok (u ++ ['\n']), st) := by
  have e2 : u ++ promptHead ++ ['#'] = (u ++ ['\n']) ++ (routerName ++ ['#']) := by
    rw [promptHead_eq]; simp
  unfold stripStdPrompt
  rw [promptFind_at u [] hu rfl]
  simp only [pureM]
  rw [e2, List.take_left' (by simp)]

theorem getOutput_eval (st : St σ) (u v : Str) (hp : st.pend = u ++ promptHead ++ '#' :: v)
    (hu : noPH u = true) (hv : runNoHash v = true) :
    getOutput st = (.ok (u ++ ['\n']), setPend st v) := by
  have e1 : u ++ promptHead ++ '#' :: v = (u ++ promptHead ++ ['#']) ++ v := by simp
  have hlen : (u ++ promptHead ++ ['#']).length = u.length + 8 := by
    simp [promptHead_len]
  unfold getOutput bindM waitPrompt expectEnd
  simp only [hp, promptFind_at u v hu hv, Option.map_some]
  rw [e1, List.take_left' hlen, List.drop_left' hlen]
  exact stripStdPrompt_eval _ u hu

theorem forEach_warn (ci : Str) (ws : List Str) (st : St σ) :
    forEach (warn ci) ws st = (.ok (), addWarns st (ws.map fun l => (ci, l))) := by
  induction ws generalizing st with
  | nil => simp [forEach, pureM, addWarns_nil]
  | cons w ws ih =>
    simp only [forEach, bindM, warn]
    rw [ih]
    cases st; simp [addWarns]

theorem checkOutput_eval (ci R : Str) (st : St σ) :
    checkOutput ci R st =
      (if (validOutput (splitOnNL R)).2 then .ok () else .abort (.unexpectedOutput ci R),
       addWarns st ((validOutput (splitOnNL R)).1.map fun l => (ci, l))) := by
  unfold checkOutput
  cases hR : R.isEmpty with
  | true =>
    cases List.isEmpty_iff.1 hR
    have : validOutput (splitOnNL ([] : Str)) = ([], true) := by decide +kernel
    simp [this, pureM, addWarns_nil]
  | false =>
    simp only [Bool.false_eq_true, if_false]
    unfold bindM
    rw [forEach_warn]
    simp only
    split <;> rfl

theorem stripEcho_eval (ci R : Str) (st : St σ) :
    stripEcho ci (ci ++ '\n' :: R) st = (.ok R, st) := by
  unfold stripEcho
  have e : ci ++ '\n' :: R = (ci ++ ['\n']) ++ R := by simp
  rw [e, if_pos (isPrefixOf_self_append _ _), List.drop_left' (by simp)]
  rfl

theorem strip_none (st : St σ) (X : Str) (hf : bannerFind X = none) :
    stripReloadBanner X st = (.ok (X, false), st) := by
  unfold stripReloadBanner bindM getActive
  simp only
  cases st.reloadActive <;> simp [hf, pureM]

theorem strip_wait (st : St σ) (X pre msg post u : Str) (ha : st.reloadActive = true)
    (hf : bannerFind X = some (pre, msg, post)) (h1 : blank (pre ++ post) = true)
    (hp : st.pend = u ++ promptHead ++ ['#']) (hu : noPH u = true) :
    stripReloadBanner X st = (.ok (u ++ ['\n'], oneMinute msg), setPend st []) := by
  unfold stripReloadBanner bindM getActive
  simp only [ha, if_true, hf]
  unfold stripProbe
  simp only [h1, if_true]
  unfold bindM waitHashEnd expectEnd
  simp only [hp, endsWithHash_append, if_true, List.take_length, List.drop_length]
  rw [stripStdPrompt_eval _ u hu]
  rfl

def warnsOf (ci out : Str) : List (Str × Str) := (validOutput (splitOnNL out)).1.map fun l => (ci, l)

def checkRes (ci out R : Str) (need : Bool) : Res Bool :=
  if (validOutput (splitOnNL out)).2 then .ok need else .abort (.unexpectedOutput ci R)

theorem check_compose (st st1 st2 : St σ) (ci X R out : Str) (need : Bool)
    (h1 : getOutput st = (.ok X, st1))
    (h2 : stripReloadBanner X st1 = (.ok (ci ++ '\n' :: R, need), st2))
    (hR : neLines R = neLines out) :
    check ci st = (checkRes ci out R need, addWarns st2 (warnsOf ci out)) := by
  have hv : validOutput (splitOnNL R) = validOutput (splitOnNL out) := by
    rw [validOutput_neLines, validOutput_neLines, hR]
  unfold check bindM
  simp only [h1, h2, stripEcho_eval, checkOutput_eval, hv]
  unfold checkRes warnsOf pureM
  cases (validOutput (splitOnNL out)).2 <;> simp

end NA.Ios
