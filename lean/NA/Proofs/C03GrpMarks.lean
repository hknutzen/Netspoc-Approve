import NA.Proofs.C03Marks
/-
C03, vsys pairs with address-groups: `markObjects` on targets with (un-nested)
address-groups: the members of every group a rule names are covered and marked like the
addresses the rules name directly; every such group is `needed`, and no other.  Core Lean only.
-/
namespace NA.PanOs

def grpMembers (st : St) (g : String) : List String :=
  match st.bGrpIdx g with
  | some gi => (st.bGrp[gi]?.map (·.g.members)).getD []
  | none => []

theorem grpMembers_inv {st st' : St} (h : Marking st st') (g : String) : grpMembers st' g = grpMembers st g := by
  unfold grpMembers
  rw [h.bGrpIdx]
  cases st.bGrpIdx g with
  | none => rfl
  | some gi =>
    have e : st'.bGrp[gi]?.map (·.g) = st.bGrp[gi]?.map (·.g) := by
      simpa only [List.getElem?_map] using congrArg (·[gi]?) h.grp.bNames
    have := congrArg (fun o => (o.map Grp.members).getD []) e
    rw [Option.map_map, Option.map_map] at this
    exact this

def Deep (st : St) (l : List String) (m : String) : Prop := m ∈ l ∨ ∃ g ∈ l, m ∈ grpMembers st g

theorem Deep.inv {st st' : St} (h : Marking st st') {l : List String} {m : String} (hd : Deep st l m) :
    Deep st' l m :=
  hd.imp id (fun ⟨g, hg, hm⟩ => ⟨g, hg, by rw [grpMembers_inv h]; exact hm⟩)

theorem markAddrStep_grp (fuel : Nat) {s : St} {g : String} {gi : Nat} (hgi : s.bGrpIdx g = some gi) :
    markAddrStep fuel s g =
      markAddrs fuel { s with bGrp := modAt s.bGrp gi (fun g => { g with needed := true }) } (grpMembers s g) := by
  unfold markAddrStep grpMembers
  rw [hgi]
  simp only [modAt_getElem?, if_true]
  congr 1
  cases s.bGrp[gi]? <;> rfl

/-- What `markAddresses` establishes for the names of its list (`base`), it establishes — with one
more level of recursion — for the members of the groups of its list. -/
theorem markAddrs_deep {G Q : St → Prop} (hG : ∀ {s s'}, Marking s s' → G s → G s')
    (hQ : ∀ {s s'}, Marking s s' → Q s → Q s') {m : String}
    (base : ∀ (fuel : Nat) {l : List String} {s : St}, m ∈ l → G s → Q (markAddrs (fuel + 1) s l))
    (fuel : Nat) {l : List String} {st : St} (hd : Deep st l m) (hg : G st) : Q (markAddrs (fuel + 2) st l) := by
  rcases hd with h | ⟨g, hgl, hm⟩
  · exact base (fuel + 1) h hg
  · rw [markAddrs_succ]
    refine foldl_reach (markAddrStep_marking _) (G := fun s => m ∈ grpMembers s g ∧ G s)
      (fun h hg => ⟨by rw [grpMembers_inv h]; exact hg.1, hG h hg.2⟩) hQ (fun s ⟨hm, hg⟩ => ?_) hgl ⟨hm, hg⟩
    cases hgi : s.bGrpIdx g with
    | none => rw [grpMembers, hgi] at hm; cases hm
    | some gi =>
      rw [markAddrStep_grp (fuel + 1) hgi]
      exact base fuel hm (hG (Marking.setNeeded s gi) hg)

theorem markObjects_covers_deep (fuel : Nat) {rules : List Rule} {st : St} {r : Rule} {m : String} (hr : r ∈ rules)
    (hd : Deep st r.src m ∨ Deep st r.dst m) (hg : st.bGrpIdx m = none) :
    Covered (markObjects (fuel + 2) st rules) m :=
  have hG : ∀ {s s' : St}, Marking s s' → s.bGrpIdx m = none → s'.bGrpIdx m = none :=
    fun h hg => (h.bGrpIdx m).trans hg
  markObjects_addr (G := fun l s => Deep s l m ∧ s.bGrpIdx m = none) (fun h hg => ⟨hg.1.inv h, hG h hg.2⟩)
    Covered.mono (fun hg => markAddrs_deep hG Covered.mono (fun fuel _ _ => markAddrs_covers fuel) fuel hg.1 hg.2)
    hr (hd.imp (⟨·, hg⟩) (⟨·, hg⟩))

theorem markObjects_marks_deep (fuel : Nat) {rules : List Rule} {st : St} {r : Rule} {m : String} (hr : r ∈ rules)
    (hd : Deep st r.src m ∨ Deep st r.dst m) (hg : st.bGrpIdx m = none) (hb : (st.bAddrIdx m).isSome) :
    Marked (markObjects (fuel + 2) st rules) m :=
  have hG : ∀ {s s' : St}, Marking s s' → s.bGrpIdx m = none ∧ (s.bAddrIdx m).isSome →
      s'.bGrpIdx m = none ∧ (s'.bAddrIdx m).isSome :=
    fun h hg => by rw [h.bGrpIdx, h.bAddrIdx]; exact hg
  markObjects_addr (G := fun l s => Deep s l m ∧ s.bGrpIdx m = none ∧ (s.bAddrIdx m).isSome)
    (fun h hg => ⟨hg.1.inv h, hG h hg.2⟩) Marked.mono
    (fun hg => markAddrs_deep hG Marked.mono (fun fuel _ _ hm hg => markAddrs_marks fuel hm hg.1 hg.2) fuel hg.1 hg.2)
    hr (hd.imp (⟨·, hg, hb⟩) (⟨·, hg, hb⟩))

def NeededGrp (gi : Nat) (st : St) : Prop := ∃ gb, st.bGrp[gi]? = some gb ∧ gb.needed = true

theorem NeededGrp.mono {gi : Nat} {st st' : St} (h : Marking st st') : NeededGrp gi st → NeededGrp gi st' := by
  intro ⟨gb, hgb, hn⟩
  obtain ⟨gb', hgb', _⟩ := h.grp.get hgb
  exact ⟨gb', hgb', h.grp.up gi gb gb' hgb hgb' hn⟩

theorem markAddrs_grp_needed (fuel : Nat) {l : List String} {st : St} {g : String} {gi : Nat} (hg : g ∈ l)
    (hgi : st.bGrpIdx g = some gi) : NeededGrp gi (markAddrs (fuel + 1) st l) := by
  rw [markAddrs_succ]
  refine foldl_reach (markAddrStep_marking fuel) (G := fun s => s.bGrpIdx g = some gi)
    (fun h hg => (h.bGrpIdx g).trans hg) NeededGrp.mono (fun s hgi => ?_) hg hgi
  rw [markAddrStep_grp fuel hgi]
  obtain ⟨gb, hgb, _⟩ := lastIdx_map_get hgi
  exact NeededGrp.mono (markAddrs_marking ..) ⟨{ gb with needed := true }, modAt_getElem?_self _ hgb, rfl⟩

theorem markObjects_grp_needed (fuel : Nat) (rules : List Rule) (st : St) (r : Rule) (g : String) (gi : Nat)
    (hr : r ∈ rules) (hg : g ∈ r.src ∨ g ∈ r.dst) (hgi : st.bGrpIdx g = some gi) :
    NeededGrp gi (markObjects (fuel + 1) st rules) :=
  markObjects_addr (G := fun l s => g ∈ l ∧ s.bGrpIdx g = some gi)
    (fun h hg => ⟨hg.1, (h.bGrpIdx g).trans hg.2⟩) NeededGrp.mono (fun hg => markAddrs_grp_needed fuel hg.1 hg.2) hr
    (hg.imp (⟨·, hgi⟩) (⟨·, hgi⟩))

theorem markAddrs_plain_bGrp {fuel : Nat} {st : St} {l : List String} (h : ∀ x ∈ l, st.bGrpIdx x = none) :
    (markAddrs fuel st l).bGrp = st.bGrp := by
  cases fuel with
  | zero => rfl
  | succ fuel =>
    rw [markAddrs_succ]
    refine ListFacts.foldl_inv (P := fun s : St => s.bGrp = st.bGrp) (fun x hx s hs => ?_) rfl
    rw [markAddrStep_none fuel (by rw [St.bGrpIdx, hs]; exact h x hx)]
    exact hs

def GProv (Ref : String → Prop) (st : St) : Prop := ∀ gb ∈ st.bGrp, gb.needed = true → Ref gb.g.name

def BPlain (st : St) : Prop := ∀ gb ∈ st.bGrp, ∀ m ∈ gb.g.members, st.bGrpIdx m = none

theorem BPlain.of_bGrp {st st' : St} (h : st'.bGrp.map (·.g) = st.bGrp.map (·.g)) (hp : BPlain st) : BPlain st' := by
  intro gb' hgb' m hm
  obtain ⟨gb, hgb, e⟩ := mem_of_map_eq h hgb'
  have hidx : st'.bGrpIdx m = st.bGrpIdx m := congrArg (lastIdx · m) (map_comp_of_map_eq Grp.name h)
  rw [hidx]
  exact hp gb hgb m (by rw [e]; exact hm)

theorem markAddrs_gprov {Ref : String → Prop} {fuel : Nat} {st : St} {l : List String} (hp : BPlain st)
    (href : ∀ x ∈ l, (st.bGrpIdx x).isSome → Ref x) (hg : GProv Ref st) : GProv Ref (markAddrs fuel st l) := by
  cases fuel with
  | zero => exact hg
  | succ fuel =>
    rw [markAddrs_succ]
    refine (ListFacts.foldl_inv (P := fun s => Marking st s ∧ GProv Ref s) (fun x hx s ⟨hm, hg⟩ => ?_)
      ⟨Marking.refl st, hg⟩).2
    refine ⟨hm.trans (markAddrStep_marking fuel s x), ?_⟩
    cases hgi : s.bGrpIdx x with
    | none => rw [markAddrStep_none fuel hgi]; exact hg
    | some gi =>
      rw [markAddrStep_grp fuel hgi]
      obtain ⟨gb0, hgb0, hname0⟩ := lastIdx_map_get hgi
      -- the members of `x` are no groups, so marking them changes no group
      have hmembers : ∀ m ∈ grpMembers s x, s.bGrpIdx m = none := by
        intro m hm'
        rw [grpMembers, hgi] at hm'
        simp only [hgb0, Option.map_some, Option.getD_some] at hm'
        exact (hp.of_bGrp hm.grp.bNames) gb0 (List.mem_of_getElem? hgb0) m hm'
      rw [GProv, markAddrs_plain_bGrp (fun m hm' => ((Marking.setNeeded s gi).bGrpIdx m).trans (hmembers m hm'))]
      intro gb hgb hn
      rcases mem_modAt hgb with h1 | ⟨y, hy, rfl⟩
      · exact hg gb h1 hn
      · rw [hgb0] at hy
        cases hy
        exact hname0 ▸ href x hx (by rw [← hm.bGrpIdx, hgi]; rfl)

theorem markObjects_gprov (Ref : String → Prop) (fuel : Nat) (rules : List Rule) (st : St) (hp : BPlain st)
    (href : ∀ r ∈ rules, ∀ x, (x ∈ r.src ∨ x ∈ r.dst) → (st.bGrpIdx x).isSome → Ref x) (hg : GProv Ref st) :
    GProv Ref (markObjects fuel st rules) := by
  refine (ListFacts.foldl_inv (P := fun s => Marking st s ∧ GProv Ref s) (fun r hr s ⟨hm, hg⟩ => ?_)
    ⟨Marking.refl st, hg⟩).2
  have m1 := hm.trans (markAddrs_marking fuel s r.src)
  have g2 : GProv Ref (markAddrs fuel (markAddrs fuel s r.src) r.dst) :=
    markAddrs_gprov (hp.of_bGrp m1.grp.bNames)
      (fun x hx hs => href r hr x (.inr hx) (by rw [← m1.bGrpIdx]; exact hs))
      (markAddrs_gprov (hp.of_bGrp hm.grp.bNames)
        (fun x hx hs => href r hr x (.inl hx) (by rw [← hm.bGrpIdx]; exact hs)) hg)
  refine ⟨hm.trans (markRule_marking fuel s r), ?_⟩
  obtain ⟨_, _, _, _, e⟩ := markSrvs_frame fuel (markAddrs fuel (markAddrs fuel s r.src) r.dst) r.srv
  rw [e]
  exact g2

end NA.PanOs
