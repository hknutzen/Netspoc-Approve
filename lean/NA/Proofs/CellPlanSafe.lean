import NA.Proofs.CellPlanRun
import NA.Proofs.C14
/-
Step safety (C14) of cell plans.  For a mask of the `Shape` (every state of the cell plan has one) the
first-match verdict of `masked M μ` on every packet is the old or the new verdict (`Shape.old_or_new`),
provided every DOWNWARD move (old-only cell `i` re-added as new-only cell `j > i`) only crosses old
lines that commute with the moved line (`CrossOK`, decidable test `NoCross`) and the moved line hits the
same packets as the line it replaces (`SemOK`, test `MoveSem`).  Upward moves need no condition.
-/
namespace NA.Acl

attribute [-simp] List.getD_eq_getElem?_getD

/-- `x` and `y` commute for every packet (sufficient test on the match sets). -/
def commutesAll (x y : Line) : Bool :=
  x.remark || y.remark || x.permit == y.permit || (x.mask &&& y.mask) == 0

def sameHits (x y : Line) : Bool := x.remark == y.remark && x.mask == y.mask

/-- Every move of the cell plan `cplan M` (old-only cell `i` looked up by new-only cell `j`; these
are the moves `planASA M` emits) that goes downward (`i < j`) crosses only old lines (cells `c`
with `i < c < j` that the device holds) commuting with the moved line. -/
def NoCross (M : List Cell) : Bool :=
  (addIdx M).all fun j =>
    match delLookup M (M.getD j default).line.mkey with
    | none => true
    | some i => (List.range j).all fun c =>
        !(decide (i < c) && (M.getD c default).old) ||
          commutesAll (M.getD i default).line (M.getD c default).line

/-- For every move of the cell plan `cplan M` (emitted by `planASA M`; emitted or suppressed by
`planIOS M`) the re-added line hits the same packets as the deleted one (they have the same
`mkey`, i.e. differ at most in `log`). -/
def MoveSem (M : List Cell) : Bool :=
  (addIdx M).all fun j =>
    match delLookup M (M.getD j default).line.mkey with
    | none => true
    | some i => sameHits (M.getD i default).line (M.getD j default).line

/-- The cell plan `cplan M` has no move: no new-only cell looks up an old-only one (so neither
planner emits a move). -/
def NoMoves (M : List Cell) : Bool :=
  (addIdx M).all fun j => (delLookup M (M.getD j default).line.mkey).isNone

theorem commutesAll_spec (x y : Line) (h : commutesAll x y = true) (p : Nat) :
    commutes x y p = true := by
  simp only [commutesAll, Bool.or_eq_true, beq_iff_eq] at h
  simp only [commutes, Line.hits]
  rcases h with ((h | h) | h) | h
  · simp [h]
  · simp [h]
  · simp [h]
  · have : (x.mask &&& y.mask).testBit p = false := by rw [h]; simp
    rw [Nat.testBit_and] at this
    cases hx : x.mask.testBit p <;> cases hy : y.mask.testBit p <;> simp_all

theorem sameHits_spec (x y : Line) (h : sameHits x y = true) (p : Nat) : x.hits p = y.hits p := by
  simp only [sameHits, Bool.and_eq_true, beq_iff_eq] at h
  simp [Line.hits, h.1, h.2]

/-- Index form of `NoCross`. -/
def CrossOK (M : List Cell) : Prop :=
  ∀ i j, j ∈ addIdx M → delLookup M (M.getD j default).line.mkey = some i →
    ∀ c, i < c → c < j → (M.getD c default).old = true →
      ∀ p, commutes (M.getD i default).line (M.getD c default).line p = true

/-- Index form of `MoveSem`. -/
def SemOK (M : List Cell) : Prop :=
  ∀ i j, j ∈ addIdx M → delLookup M (M.getD j default).line.mkey = some i →
    ∀ p, (M.getD i default).line.hits p = (M.getD j default).line.hits p

theorem crossOK_of_noCross (M : List Cell) (h : NoCross M = true) : CrossOK M := by
  intro i j hj hd c hic hcj hco p
  have h1 := List.all_eq_true.1 h j hj
  simp only [hd] at h1
  have h2 := List.all_eq_true.1 h1 c (List.mem_range.2 hcj)
  simp only [hic, hco, decide_true, Bool.and_self, Bool.not_true, Bool.false_or] at h2
  exact commutesAll_spec _ _ h2 p

theorem semOK_of_moveSem (M : List Cell) (h : MoveSem M = true) : SemOK M := by
  intro i j hj hd p
  have h1 := List.all_eq_true.1 h j hj
  simp only [hd] at h1
  exact sameHits_spec _ _ h1 p

theorem noMoves_none (M : List Cell) (h : NoMoves M = true) {j : Nat} (hj : j ∈ addIdx M) :
    delLookup M (M.getD j default).line.mkey = none :=
  Option.isNone_iff_eq_none.1 (List.all_eq_true.1 h j hj)

theorem crossOK_of_noMoves (M : List Cell) (h : NoMoves M = true) : CrossOK M :=
  fun _ _ hj hd => nomatch (noMoves_none M h hj).symm.trans hd

theorem semOK_of_noMoves (M : List Cell) (h : NoMoves M = true) : SemOK M :=
  fun _ _ hj hd => nomatch (noMoves_none M h hj).symm.trans hd

theorem eval_masked_cases (M : List Cell) (μ : List Bool) (p : Nat) :
    (eval (masked M μ) p = false ∧
      ∀ x, x < M.length → μ.getD x false = true → (M.getD x default).line.hits p = false) ∨
    ∃ f, f < M.length ∧ μ.getD f false = true ∧ (M.getD f default).line.hits p = true ∧
      (∀ x, x < f → μ.getD x false = true → (M.getD x default).line.hits p = false) ∧
      eval (masked M μ) p = (M.getD f default).line.permit := by
  induction M generalizing μ with
  | nil => left; exact ⟨rfl, fun x hx => absurd hx (Nat.not_lt_zero x)⟩
  | cons c M ih =>
    cases μ with
    | nil => left; exact ⟨rfl, fun x _ hμ => Bool.noConfusion hμ⟩
    | cons b μ =>
      have shift : ∀ (hc0 : b = true → c.line.hits p = false)
          (he : eval (masked (c :: M) (b :: μ)) p = eval (masked M μ) p),
          (eval (masked (c :: M) (b :: μ)) p = false ∧
            ∀ x, x < (c :: M).length → (b :: μ).getD x false = true →
              ((c :: M).getD x default).line.hits p = false) ∨
          ∃ f, f < (c :: M).length ∧ (b :: μ).getD f false = true ∧
            ((c :: M).getD f default).line.hits p = true ∧
            (∀ x, x < f → (b :: μ).getD x false = true →
              ((c :: M).getD x default).line.hits p = false) ∧
            eval (masked (c :: M) (b :: μ)) p = ((c :: M).getD f default).line.permit := by
        intro hc0 he
        rcases ih μ with ⟨h0, hno⟩ | ⟨f, hf, hμf, hh, hfirst, hev⟩
        · left
          refine ⟨by rw [he, h0], fun x hx hμx => ?_⟩
          cases x with
          | zero => exact hc0 hμx
          | succ x => exact hno x (Nat.lt_of_succ_lt_succ hx) hμx
        · right
          refine ⟨f + 1, Nat.succ_lt_succ hf, hμf, hh, ?_, by rw [he, hev, List.getD_cons_succ]⟩
          intro x hx hμx
          cases x with
          | zero => exact hc0 hμx
          | succ x => exact hfirst x (Nat.lt_of_succ_lt_succ hx) hμx
      cases b with
      | false => exact shift (fun h => by cases h) (by simp)
      | true =>
        by_cases hc : c.line.hits p = true
        · right
          exact ⟨0, Nat.succ_pos _, rfl, hc, fun x hx => absurd hx (Nat.not_lt_zero x),
            by simp [eval, hc, List.getD_cons_zero]⟩
        · have hc' : c.line.hits p = false := by simpa using hc
          exact shift (fun _ => hc') (by simp [eval, hc'])

theorem eval_masked_none (M : List Cell) (μ : List Bool) (p : Nat)
    (h : ∀ x, x < M.length → μ.getD x false = true → (M.getD x default).line.hits p = false) :
    eval (masked M μ) p = false := by
  rcases eval_masked_cases M μ p with ⟨h0, _⟩ | ⟨f, hf, hμf, hh, _, _⟩
  · exact h0
  · rw [h f hf hμf] at hh; cases hh

theorem eval_masked_first (M : List Cell) (μ : List Bool) (p f : Nat) (hf : f < M.length)
    (hμf : μ.getD f false = true) (hh : (M.getD f default).line.hits p = true)
    (hfirst : ∀ x, x < f → μ.getD x false = true → (M.getD x default).line.hits p = false) :
    eval (masked M μ) p = (M.getD f default).line.permit := by
  rcases eval_masked_cases M μ p with ⟨_, hno⟩ | ⟨f', hf', hμf', hh', hfirst', hev⟩
  · rw [hno f hf hμf] at hh; cases hh
  · have : f' = f := by
      rcases Nat.lt_trichotomy f' f with h | h | h
      · rw [hfirst f' h hμf'] at hh'; cases hh'
      · exact h
      · rw [hfirst' f h hμf] at hh; cases hh
    rw [hev, this]

theorem Shape.old_or_new {M : List Cell} {μ : List Bool} (h : Shape M μ)
    (hcross : CrossOK M) (hsem : SemOK M) (p : Nat) :
    eval (masked M μ) p = eval (olds M) p ∨ eval (masked M μ) p = eval (news M) p := by
  -- a new cell that hits `p` before `f`, all new cells before `f` being present, is present
  have newSide : ∀ f, f ≤ M.length → NewBefore M μ f →
      ∀ x, x < f → (M.getD x default).new = true → μ.getD x false = true := by
    intro f hf hA x hx hn
    cases ho : (M.getD x default).old with
    | true => exact h.both x (Nat.lt_of_lt_of_le hx hf) ho hn
    | false => exact hA x hx ((mem_addIdx M x).2 ⟨Nat.lt_of_lt_of_le hx hf, ho, hn⟩)
  -- an old cell before `f` that is absent has a present partner with the same hits
  have oldSide : ∀ f, f ≤ M.length → OldBefore M μ f →
      ∀ x, x < f → (M.getD x default).old = true → μ.getD x false = false →
        ∃ j, j ∈ addIdx M ∧ μ.getD j false = true ∧
          delLookup M (M.getD j default).line.mkey = some x := by
    intro f hf hB x hx ho hμ
    cases hn : (M.getD x default).new with
    | true => rw [h.both x (Nat.lt_of_lt_of_le hx hf) ho hn] at hμ; cases hμ
    | false => exact hB x hx ((mem_delIdx M x).2 ⟨Nat.lt_of_lt_of_le hx hf, ho, hn⟩) hμ
  rcases eval_masked_cases M μ p with ⟨h0, hno⟩ | ⟨f, hf, hμf, hh, hfirst, hev⟩
  · -- no present line hits
    rcases h.all with hA | hB
    · right
      rw [h0, ← masked_new, eval_masked_none]
      intro x hx hn
      rw [newMask_getD M x hx] at hn
      exact hno x hx (newSide M.length (Nat.le_refl _) hA x hx hn)
    · left
      rw [h0, ← masked_old, eval_masked_none]
      intro x hx ho
      rw [oldMask_getD M x hx] at ho
      cases hμ : μ.getD x false with
      | true => exact hno x hx hμ
      | false =>
        obtain ⟨j, hj, hμj, hd⟩ := oldSide M.length (Nat.le_refl _) hB x hx ho hμ
        rw [hsem x j hj hd p]
        exact hno j ((mem_addIdx M j).1 hj).1 hμj
  · -- `f` is the first present line that hits
    rcases h.cell f hf hμf with ⟨hn, hA⟩ | ⟨ho, hB⟩
    · right
      rw [hev, ← masked_new]
      symm
      apply eval_masked_first M (newMask M) p f hf (by rw [newMask_getD M f hf]; exact hn) hh
      intro x hx hnx
      rw [newMask_getD M x (Nat.lt_trans hx hf)] at hnx
      exact hfirst x hx (newSide f (Nat.le_of_lt hf) hA x hx hnx)
    · left
      rw [hev, ← masked_old]
      rcases eval_masked_cases M (oldMask M) p with ⟨_, hno⟩ | ⟨f0, hf0, hμf0, hh0, hfirst0, hev0⟩
      · rw [hno f hf (by rw [oldMask_getD M f hf]; exact ho)] at hh; cases hh
      · rw [hev0]
        rw [oldMask_getD M f0 hf0] at hμf0
        rcases Nat.lt_trichotomy f0 f with hlt | heq | hgt
        · cases hμ : μ.getD f0 false with
          | true => rw [hfirst f0 hlt hμ] at hh0; cases hh0
          | false =>
            obtain ⟨j, hj, hμj, hd⟩ := oldSide f (Nat.le_of_lt hf) hB f0 hlt hμf0 hμ
            have hjh : (M.getD j default).line.hits p = true := by rw [← hsem f0 j hj hd p]; exact hh0
            obtain ⟨hjl, hjo, _⟩ := (mem_addIdx M j).1 hj
            rcases Nat.lt_trichotomy j f with hjf | hjf | hjf
            · rw [hfirst j hjf hμj] at hjh; cases hjh
            · subst hjf; rw [hjo] at ho; cases ho
            · have hc := hcross f0 j hj hd f hlt hjf ho p
              simp only [commutes, hh0, hh, Bool.and_self, Bool.not_true, Bool.false_or,
                beq_iff_eq] at hc
              exact hc.symm
        · rw [heq]
        · rw [hfirst0 f hgt (by rw [oldMask_getD M f hf]; exact ho)] at hh; cases hh

/-- "Old or new verdict" gives the property of C14: a packet on which the old and the new ACL agree
keeps that verdict.  `f` reads the line list off a device state. -/
theorem safe_of_old_or_new {σ : Type} (f : σ → List Line) {olds news : List Line} {tr : List σ}
    (h : ∀ s, s ∈ tr → ∀ p, eval (f s) p = eval olds p ∨ eval (f s) p = eval news p) :
    ∀ s, s ∈ tr → ∀ p, eval olds p = eval news p → eval (f s) p = eval olds p :=
  fun s hs p hp => (h s hs p).elim id fun h' => h'.trans hp.symm

end NA.Acl
