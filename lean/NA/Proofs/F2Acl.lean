import NA.Core.ListFacts
import NA.Proofs.F2Exec
import NA.Model.IosEngineHyp
import NA.Proofs.CellsSound
import NA.Props.IosAcl
/-!
# F2: one ACL pair — the emitted entry commands on the strict device

Bridge between the strict configuration-level device (`NA.IosDev2.execEntry` on entries with texts)
and the ACL-level device of `NA.Spec.AclDev` (`iosExec1` on encoded lines) on which the theorems of
`NA.Props.IosAcl` are stated.  The branch "no parts equal" runs on the entries directly.
-/
namespace NA.F2
open NA.ListFacts
open NA.IosDev2
open NA.Acl (Line Cell IOp IosAcl iosExec1 iosAdd iosDel iosInsert iosReseq iosLines)

def encE (tk mk : List String) (es : Entries) : IosAcl := es.map fun e => (e.1, encLine tk mk e.2)

@[simp] theorem encLine_typed (tk mk : List String) (l : ALine) : encLine tk mk (typed l) = encLine tk mk l := rfl

theorem encE_insertNum (tk mk : List String) (es : Entries) (n : Nat) (l : ALine) :
    encE tk mk (insertNum es n l) = iosInsert (encE tk mk es) n (encLine tk mk l) := by
  induction es with
  | nil => rfl
  | cons e es ih =>
    simp only [insertNum, encE, List.map_cons, iosInsert]
    split
    · rfl
    · simp only [List.map_cons]
      congr 1

theorem eraseFirst_eq_filter (n : Nat) (es : Entries) (hnd : (es.map (·.1)).Nodup) :
    eraseFirst (fun e => e.1 == n) es = es.filter fun e => e.1 != n := by
  induction es with
  | nil => rfl
  | cons e es ih =>
    simp only [List.map_cons, List.nodup_cons] at hnd
    simp only [eraseFirst, List.filter_cons]
    by_cases h : e.1 = n
    · simp only [h, beq_self_eq_true, ↓reduceIte, bne_self_eq_false, Bool.false_eq_true]
      symm
      apply List.filter_eq_self.mpr
      intro a ha
      have : a.1 ≠ n := by
        intro hc
        apply hnd.1
        rw [h, ← hc]
        exact List.mem_map_of_mem ha
      exact bne_iff_ne.mpr this
    · have h1 : (e.1 == n) = false := beq_false_of_ne h
      have h2 : (e.1 != n) = true := bne_iff_ne.mpr h
      simp only [h1, Bool.false_eq_true, ↓reduceIte, h2]
      rw [ih hnd.2]

theorem encE_filter (tk mk : List String) (es : Entries) (n : Nat) :
    encE tk mk (es.filter fun e => e.1 != n) = (encE tk mk es).filter fun e => e.1 != n := by
  simp only [encE, List.filter_map]
  rfl

theorem encE_any_num (tk mk : List String) (es : Entries) (n : Nat) :
    ((encE tk mk es).any fun e => e.1 == n) = es.any fun e => e.1 == n := by
  unfold encE
  rw [List.any_map]
  rfl

theorem nums_insertNum (es : Entries) (n : Nat) (l : ALine) :
    ((insertNum es n l).map (·.1)).Perm (n :: es.map (·.1)) := by
  induction es with
  | nil => exact List.Perm.refl _
  | cons e es ih =>
    obtain ⟨m, x⟩ := e
    simp only [insertNum]
    split
    · exact List.Perm.refl _
    · simp only [List.map_cons]
      exact (List.Perm.cons m ih).trans (List.Perm.swap n m _)

theorem nodup_insertNum (es : Entries) (n : Nat) (l : ALine) (hnd : (es.map (·.1)).Nodup)
    (hn : (es.any fun e => e.1 == n) = false) : ((insertNum es n l).map (·.1)).Nodup := by
  rw [(nums_insertNum es n l).nodup_iff, List.nodup_cons]
  refine ⟨?_, hnd⟩
  intro hmem
  obtain ⟨e, he, hen⟩ := List.mem_map.mp hmem
  exact List.any_eq_false.mp hn e he (beq_iff_eq.mpr hen)

def opChg (al bl : List ALine) : IOp → Chg
  | .add n l => .numEntry n (lineOfKey al bl l.key)
  | .del n => .noNum n
  | .move dn an l => .move dn an (lineOfKey al bl l.key)
  | _ => .bad

def DecOK (tk mk : List String) (al bl : List ALine) : IOp → Prop
  | .add _ l => encLine tk mk (lineOfKey al bl l.key) = l
  | .move _ _ l => encLine tk mk (lineOfKey al bl l.key) = l
  | .del _ => True
  | _ => False

theorem opEv_eq {tk mk : List String} {al bl : List ALine} {op : IOp} (h : DecOK tk mk al bl op) (aN : Name) :
    opEv aN al bl op = .sub (.acl aN) (opChg al bl op) ∧ isEntryCmd (opChg al bl op) = true := by
  cases op <;> first | exact absurd h id | exact ⟨rfl, rfl⟩

theorem collides_false_of_mkey (tk mk : List String) (es : Entries) (x : ALine)
    (h : ((encE tk mk es).any fun e => e.2.mkey == (encLine tk mk x).mkey) = false) :
    (es.any fun e => collides e.2 x) = false := by
  rw [List.any_eq_false] at h ⊢
  intro e he
  have := h (e.1, encLine tk mk e.2) (List.mem_map_of_mem (f := fun e => (e.1, encLine tk mk e.2)) he)
  simp only [encLine, beq_iff_eq] at this
  simp only [collides, Bool.and_eq_true, bne_iff_ne, ne_eq, beq_iff_eq, not_and]
  intro _ hc
  exact this (by rw [hc])

theorem sim_add (tk mk : List String) (es : Entries) (n : Nat) (x : ALine) (s' : IosAcl)
    (hnd : (es.map (·.1)).Nodup) (h : iosAdd (encE tk mk es) n (encLine tk mk x) = some s') :
    ∃ es', execEntry es (.numEntry n x) = .ok es' ∧ encE tk mk es' = s' ∧ (es'.map (·.1)).Nodup := by
  unfold iosAdd at h
  split at h
  · cases h
  · rename_i hc
    simp only [Bool.or_eq_true, not_or, Bool.not_eq_true] at hc
    cases h
    have hnum : (es.any fun e => e.1 == n) = false := by rw [← encE_any_num tk mk]; exact hc.1
    have hcol := collides_false_of_mkey tk mk es x hc.2
    refine ⟨insertNum es n (typed x), ?_, ?_, nodup_insertNum es n _ hnd hnum⟩
    · simp only [execEntry, hnum, hcol, Bool.false_eq_true, ↓reduceIte]
    · rw [encE_insertNum, encLine_typed]

theorem sim_del (tk mk : List String) (es : Entries) (n : Nat) (s' : IosAcl)
    (h : iosDel (encE tk mk es) n = some s') :
    (es.any fun e => e.1 == n) = true ∧ encE tk mk (es.filter fun e => e.1 != n) = s' := by
  unfold iosDel at h
  split at h
  · rename_i hc
    cases h
    exact ⟨encE_any_num tk mk es n ▸ hc, encE_filter tk mk es n⟩
  · cases h

theorem sim_op (tk mk : List String) (al bl : List ALine) (es : Entries) (op : IOp) (s' : IosAcl)
    (hnd : (es.map (·.1)).Nodup) (hdec : DecOK tk mk al bl op) (h : iosExec1 (encE tk mk es) op = some s') :
    ∃ es', execEntry es (opChg al bl op) = .ok es' ∧ encE tk mk es' = s' ∧ (es'.map (·.1)).Nodup := by
  cases op with
  | add n l =>
    simp only [DecOK] at hdec
    simp only [iosExec1] at h
    rw [← hdec] at h
    exact sim_add tk mk es n _ s' hnd h
  | del n =>
    obtain ⟨hany, henc⟩ := sim_del tk mk es n s' h
    refine ⟨_, ?_, henc, nodup_map_filter _ _ hnd⟩
    simp only [opChg, execEntry, hany, ↓reduceIte, eraseFirst_eq_filter n es hnd]
  | move dn an l =>
    simp only [DecOK] at hdec
    obtain ⟨s1, hd, h⟩ := Option.bind_eq_some_iff.mp h
    obtain ⟨hany, rfl⟩ := sim_del tk mk es dn s1 hd
    rw [← hdec] at h
    obtain ⟨es2, g1, g2, g3⟩ := sim_add tk mk _ an _ s' (nodup_map_filter _ _ hnd) h
    refine ⟨es2, ?_, g2, g3⟩
    -- the joined command: the delete, then the add
    simp only [execEntry, opChg, hany, ↓reduceIte, eraseFirst_eq_filter dn es hnd]
    simp only [execEntry] at g1
    exact g1
  | delText l => exact absurd hdec id
  | append l => exact absurd hdec id
  | bad => exact absurd hdec id

def entriesRun (es : Entries) (cs : List Chg) : Option Entries :=
  cs.foldlM (fun es c => toOpt (execEntry es c)) es

theorem entriesRun_cons (es : Entries) (c : Chg) (cs : List Chg) :
    entriesRun es (c :: cs) = (toOpt (execEntry es c)).bind fun es' => entriesRun es' cs := rfl

theorem sim_ops (tk mk : List String) (al bl : List ALine) (ops : List IOp) (es : Entries) (s' : IosAcl)
    (hnd : (es.map (·.1)).Nodup) (hdec : ∀ op ∈ ops, DecOK tk mk al bl op)
    (h : NA.Acl.iosExec (encE tk mk es) ops = some s') :
    ∃ es', entriesRun es (ops.map (opChg al bl)) = some es' ∧ encE tk mk es' = s' ∧ (es'.map (·.1)).Nodup := by
  induction ops generalizing es with
  | nil =>
    simp only [NA.Acl.iosExec, List.foldlM_nil] at h
    cases h
    exact ⟨es, rfl, rfl, hnd⟩
  | cons op ops ih =>
    rw [NA.Acl.iosExec_cons] at h
    obtain ⟨s1, h1, h⟩ := Option.bind_eq_some_iff.mp h
    obtain ⟨es1, g1, g2, g3⟩ := sim_op tk mk al bl es op s1 hnd (hdec op (List.mem_cons_self ..)) h1
    rw [← g2] at h
    obtain ⟨es', k1, k2, k3⟩ := ih es1 g3 (fun o ho => hdec o (List.mem_cons_of_mem _ ho)) h
    refine ⟨es', ?_, k2, k3⟩
    simp only [List.map_cons, entriesRun_cons, g1, toOpt, Option.bind_some]
    exact k1

def aclNames (d : Dev) : List Name := d.acls.map (·.1)

def putAcl (d : Dev) (n : Name) (es : Entries) : Dev := strip (setAcl d n es)

theorem names_setAcl (d : Dev) (n : Name) (es : Entries) : aclNames (setAcl d n es) = aclNames d :=
  keys_mapSet n es d.acls

theorem entriesOf_setAcl_self (d : Dev) (n : Name) (es : Entries) (h : hasAcl d n = true) :
    entriesOf (setAcl d n es) n = es := by
  show ((mapSet d.acls n es).lookup n).getD [] = es
  rw [show hasAcl d n = _ from anyKey_eq_lookup n d.acls] at h
  obtain ⟨v, hv⟩ := Option.isSome_iff_exists.mp h
  rw [lookup_mapSet, beq_self_eq_true, if_pos rfl, hv]; rfl

theorem entriesOf_setAcl_other (d : Dev) (n x : Name) (es : Entries) (h : x ≠ n) :
    entriesOf (setAcl d n es) x = entriesOf d x := by
  show ((mapSet d.acls n es).lookup x).getD [] = _
  rw [lookup_mapSet, beq_false_of_ne h]; rfl

theorem entriesOf_nil_of_not_hasAcl (d : Dev) (n : Name) (h : hasAcl d n = false) : entriesOf d n = [] := by
  rw [show hasAcl d n = _ from anyKey_eq_lookup n d.acls] at h
  show (d.acls.lookup n).getD [] = []
  rw [Option.isNone_iff_eq_none.mp (Option.isSome_eq_false_iff.mp h)]; rfl

theorem setAcl_setAcl (d : Dev) (n : Name) (es es' : Entries) : setAcl (setAcl d n es) n es' = setAcl d n es' := by
  simp only [setAcl, List.map_map]
  congr 1
  apply List.map_congr_left
  intro p _
  simp only [Function.comp]
  by_cases h : p.1 == n <;> simp [h]

theorem map_set_absent (l : List (Name × Entries)) (g : Name) (es : Entries) (hg : (l.any (·.1 == g)) = false) :
    (l.map fun p => if p.1 == g then (g, es) else p) = l :=
  map_eq_self fun p hp => if_neg (List.any_eq_false.mp hg p hp)

theorem map_set_self (l : List (Name × Entries)) (n : Name) (hnd : (l.map (·.1)).Nodup) :
    (l.map fun p => if p.1 == n then (n, (l.lookup n).getD []) else p) = l := by
  refine map_eq_self fun p hp => ?_
  split
  · next h => rw [← eq_of_beq h, (lookup_eq_some_iff_mem hnd).mpr hp]; rfl
  · rfl

theorem putAcl_self (d : Dev) (n : Name) (hmode : d.mode = none) (hnd : (aclNames d).Nodup) :
    putAcl d n (entriesOf d n) = d := by
  obtain ⟨i, a, r, m⟩ := d
  subst hmode
  simp only [putAcl, strip, setAcl, entriesOf, aclNames] at hnd ⊢
  rw [map_set_self a n hnd]

theorem hasAcl_putAcl (d : Dev) (n x : Name) (es : Entries) : hasAcl (putAcl d n es) x = hasAcl d x := by
  simp only [putAcl, hasAcl_strip, hasAcl_setAcl]

theorem names_putAcl (d : Dev) (n : Name) (es : Entries) : aclNames (putAcl d n es) = aclNames d :=
  names_setAcl d n es

theorem entriesOf_putAcl_self (d : Dev) (n : Name) (es : Entries) (h : hasAcl d n = true) :
    entriesOf (putAcl d n es) n = es := by
  simp only [putAcl, entriesOf_strip]; exact entriesOf_setAcl_self d n es h

theorem putAcl_putAcl (d : Dev) (n : Name) (es es' : Entries) : putAcl (putAcl d n es) n es' = putAcl d n es' := by
  simp only [putAcl, strip_setAcl, strip_strip]
  exact setAcl_setAcl ..

theorem evRun_sub_acl (d : Dev) (aN : Name) (c : Chg) (hc : isEntryCmd c = true) (hhas : hasAcl d aN = true) :
    evRun d (.sub (.acl aN) c) = (toOpt (execEntry (entriesOf d aN) c)).map (putAcl d aN) := by
  simp only [evRun, hc, ↓reduceIte, ensureAcl_of_has hhas]
  rfl

theorem evsRun_subs (aN : Name) (cs : List Chg) (hcs : ∀ c ∈ cs, isEntryCmd c = true) (d : Dev)
    (hhas : hasAcl d aN = true) (hmode : d.mode = none) (hnd : (aclNames d).Nodup) :
    evsRun d (cs.map (Ev.sub (.acl aN))) = (entriesRun (entriesOf d aN) cs).map (putAcl d aN) := by
  induction cs generalizing d with
  | nil => exact congrArg some (putAcl_self d aN hmode hnd).symm
  | cons c cs ih =>
    have hc := hcs c (List.mem_cons_self ..)
    simp only [List.map_cons, evsRun_cons, evRun_sub_acl d aN c hc hhas, entriesRun_cons]
    cases hx : execEntry (entriesOf d aN) c with
    | error e => rfl
    | ok es1 =>
      simp only [toOpt, Option.map_some, Option.bind_some]
      rw [ih (fun c' h => hcs c' (List.mem_cons_of_mem _ h)) _ ((hasAcl_putAcl ..).trans hhas) rfl
        ((names_putAcl ..).symm ▸ hnd), entriesOf_putAcl_self d aN es1 hhas]
      cases entriesRun es1 cs with
      | none => rfl
      | some es' => exact congrArg some (putAcl_putAcl ..)

theorem evsRun_subs_map {α : Type} (aN : Name) (f : α → Chg) (hf : ∀ x, isEntryCmd (f x) = true) (xs : List α)
    (d : Dev) (hhas : hasAcl d aN = true) (hmode : d.mode = none) (hnd : (aclNames d).Nodup) :
    evsRun d (xs.map fun x => Ev.sub (.acl aN) (f x)) = (entriesRun (entriesOf d aN) (xs.map f)).map (putAcl d aN) := by
  have h := evsRun_subs aN (xs.map f) (List.forall_mem_map.mpr fun x _ => hf x) d hhas hmode hnd
  rwa [List.map_map] at h

theorem encE_reseq (tk mk : List String) (es : Entries) (a b : Nat) :
    encE tk mk (reseq es a b) = iosReseq (encE tk mk es) a b := by
  simp only [encE, reseq, iosReseq, List.length_map, List.zip_map_right, List.map_map]
  apply List.map_congr_left
  intro p _
  rfl

theorem lines_reseq (es : Entries) (a b : Nat) : (reseq es a b).map (·.2) = es.map (·.2) := by
  simp only [reseq, List.map_map]
  have : ((fun x : Nat × ALine => x.2) ∘ fun p : Nat × Nat × ALine => (a + p.1 * b, p.2.2)) =
      (fun x : Nat × ALine => x.2) ∘ Prod.snd := rfl
  rw [this, ← List.map_map, List.map_snd_zip]
  exact Nat.le_of_eq List.length_range.symm

theorem nums_reseq (es : Entries) (a b : Nat) :
    (reseq es a b).map (·.1) = (List.range es.length).map fun i => a + i * b := by
  simp only [reseq, List.map_map]
  have : ((fun x : Nat × ALine => x.1) ∘ fun p : Nat × Nat × ALine => (a + p.1 * b, p.2.2)) =
      (fun i : Nat => a + i * b) ∘ Prod.fst := rfl
  rw [this, ← List.map_map, List.map_fst_zip]
  exact Nat.le_of_eq List.length_range

theorem nodup_nums_reseq (es : Entries) (a b : Nat) (hb : 0 < b) : ((reseq es a b).map (·.1)).Nodup := by
  rw [nums_reseq]
  exact nodup_map_of_inj_on List.nodup_range fun x _ y _ h => Nat.eq_of_mul_eq_mul_right hb (Nat.add_left_cancel h)

theorem iosExec_of_trace (s : IosAcl) (ops : List IOp) (tr : List IosAcl) (s' : IosAcl)
    (h : NA.Acl.iosTrace s ops = some tr) (hl : (s :: tr).getLast? = some s') : NA.Acl.iosExec s ops = some s' := by
  induction ops generalizing s tr with
  | nil =>
    cases h
    exact hl
  | cons op ops ih =>
    simp only [NA.Acl.iosTrace, Option.bind_eq_bind, Option.bind_eq_some_iff, Option.pure_def,
      Option.some.injEq] at h
    obtain ⟨s1, h1, rest, h2, rfl⟩ := h
    rw [NA.Acl.iosExec_cons, h1, Option.bind_some]
    exact ih s1 rest h2 (by rwa [List.getLast?_cons_cons] at hl)

open NA.Acl (olds news noJunk runsShort planIOS addIdx delIdx BlockEqG LineEqv)

def tkOf (al bl : List ALine) : List String := (al ++ bl).map (·.text)
def mkOf (al bl : List ALine) : List String := (al ++ bl).map (·.nolog)
def encP (al bl : List ALine) : ALine → Line := encLine (tkOf al bl) (mkOf al bl)

theorem pairCells_eq (al bl : List ALine) (rs : List NA.Acl.Range) :
    pairCells al bl rs = NA.Acl.cellsOf (al.map (encP al bl)) (bl.map (encP al bl)) rs := rfl

theorem textFun_of {ls : List ALine} (h : textFunB ls = true) {x y : ALine} (hx : x ∈ ls) (hy : y ∈ ls)
    (ht : x.text = y.text) : x.nolog = y.nolog ∧ x.act = y.act := by
  simp only [textFunB, List.all_eq_true] at h
  have := h x hx y hy
  simp only [Bool.or_eq_true, bne_iff_ne, ne_eq, Bool.and_eq_true, beq_iff_eq] at this
  rcases this with h1 | h1
  · exact absurd ht h1
  · exact h1

theorem nologFun_of {ls : List ALine} (h : nologFunB ls = true) {x y : ALine} (hx : x ∈ ls) (hy : y ∈ ls)
    (ht : x.nolog = y.nolog) : x.act = y.act := by
  simp only [nologFunB, List.all_eq_true] at h
  have := h x hx y hy
  simp only [Bool.or_eq_true, bne_iff_ne, ne_eq, beq_iff_eq] at this
  rcases this with h1 | h1
  · exact absurd ht h1
  · exact h1

theorem enc_lineOfKey (al bl : List ALine) (htf : textFunB (al ++ bl) = true) {x : ALine} (hx : x ∈ al ++ bl) :
    encP al bl (lineOfKey al bl (encP al bl x).key) = encP al bl x := by
  have hmem : x.text ∈ tkOf al bl := List.mem_map_of_mem hx
  have hlt : (tkOf al bl).idxOf x.text < (al ++ bl).length :=
    List.length_map (as := al ++ bl) (·.text) ▸ List.idxOf_lt_length_iff.mpr hmem
  have hy : lineOfKey al bl (encP al bl x).key = (al ++ bl)[(tkOf al bl).idxOf x.text] := by
    simp only [lineOfKey, encP, encLine]
    rw [List.getD_eq_getElem?_getD, List.getElem?_eq_getElem hlt, Option.getD_some]
  have hyt : ((al ++ bl)[(tkOf al bl).idxOf x.text]).text = x.text := by
    have h1 := List.getElem_idxOf (List.idxOf_lt_length_iff.mpr hmem)
    simp only [tkOf, List.getElem_map] at h1
    exact h1
  rw [hy]
  obtain ⟨h1, h2⟩ := textFun_of htf (List.getElem_mem hlt) hx hyt
  simp only [encP, encLine, hyt, h1, h2]

theorem mem_of_cell (M : List Cell) (hj : noJunk M = true) {c : Cell} (hc : c ∈ M) :
    c.line ∈ olds M ∨ c.line ∈ news M := by
  simp only [noJunk, List.all_eq_true, Bool.or_eq_true] at hj
  rcases hj c hc with h | h
  · left
    exact List.mem_map.mpr ⟨c, List.mem_filter.mpr ⟨hc, h⟩, rfl⟩
  · right
    exact List.mem_map.mpr ⟨c, List.mem_filter.mpr ⟨hc, h⟩, rfl⟩

theorem line_mem_news {M : List Cell} {j : Nat} (hj : j ∈ addIdx M) : (M.getD j default).line ∈ news M := by
  obtain ⟨hjl, -, hjn⟩ := (NA.Acl.mem_addIdx M j).1 hj
  exact List.mem_map.mpr ⟨_, List.mem_filter.mpr ⟨getD_mem hjl, hjn⟩, rfl⟩

theorem line_mem_olds {M : List Cell} {i : Nat} (hi : i ∈ delIdx M) : (M.getD i default).line ∈ olds M := by
  obtain ⟨hil, hio, -⟩ := (NA.Acl.mem_delIdx M i).1 hi
  exact List.mem_map.mpr ⟨_, List.mem_filter.mpr ⟨getD_mem hil, hio⟩, rfl⟩

theorem plan_decOK (al bl : List ALine) (M : List Cell) (hn : news M = bl.map (encP al bl))
    (htf : textFunB (al ++ bl) = true)
    (hboth : (M.any fun c => c.old && c.new) = true) (hnn : ((news M).map (·.mkey)).Nodup) :
    ∀ op ∈ planIOS M, DecOK (tkOf al bl) (mkOf al bl) al bl op := by
  obtain ⟨g, hg, -⟩ := NA.Acl.plan_general M hboth hnn
  intro op hop
  rw [hg] at hop
  rcases List.mem_append.mp hop with h | h
  · obtain ⟨j, hj, hopj⟩ := List.mem_flatMap.mp h
    obtain ⟨x, hx, hxe⟩ := List.mem_map.mp (hn ▸ line_mem_news hj)
    have hdec : encP al bl (lineOfKey al bl (M.getD j default).line.key) = (M.getD j default).line := by
      rw [← hxe]
      exact enc_lineOfKey al bl htf (List.mem_append_right _ hx)
    simp only [NA.Acl.cellOpsG, NA.Acl.itemOps, NA.Acl.newItem] at hopj
    split at hopj
    · simp only [List.mem_singleton] at hopj
      subst hopj
      exact hdec
    · split at hopj
      · cases hopj
      · simp only [List.mem_singleton] at hopj
        subst hopj
        exact hdec
  · simp only [NA.Acl.delsOf, List.mem_map] at h
    obtain ⟨ai, _, rfl⟩ := h
    trivial

/-- What `incrOK` gives on the cells `M` of the pair. -/
structure IncrCells (al bl : List ALine) (M : List Cell) : Prop where
  textFun : textFunB (al ++ bl) = true
  nonempty : al.isEmpty = false
  both : (M.any fun c => c.old && c.new) = true
  junk : noJunk M = true
  runs : runsShort M
  oldsNodup : ((olds M).map (·.mkey)).Nodup
  newsNodup : ((news M).map (·.mkey)).Nodup
  noRemark : ∀ c ∈ M, c.line.remark = false
  olds_eq : olds M = al.map (encP al bl)
  news_eq : news M = bl.map (encP al bl)
  /-- lines with the same `mkey` are the same modulo `log` -/
  eqv : ∀ i ∈ delIdx M, ∀ j ∈ addIdx M, (M.getD i default).line.mkey = (M.getD j default).line.mkey →
    LineEqv (M.getD i default).line (M.getD j default).line

theorem incrOK_cells {al bl : List ALine} {rs : List NA.Acl.Range} (hok : incrOK al bl rs = true) :
    ∃ M, pairCells al bl rs = some M ∧ IncrCells al bl M := by
  simp only [incrOK, Bool.and_eq_true] at hok
  obtain ⟨⟨htf, hnf⟩, hM⟩ := hok
  cases hcells : pairCells al bl rs with
  | none => rw [hcells] at hM; cases hM
  | some M =>
    rw [hcells] at hM
    simp only [Bool.and_eq_true, decide_eq_true_eq, List.all_eq_true, Bool.not_eq_true'] at hM
    obtain ⟨⟨⟨⟨⟨hboth, hjunk⟩, hruns⟩, hno⟩, hnn⟩, hnr⟩ := hM
    obtain ⟨ho, hn⟩ := NA.Acl.cellsOf_sound _ _ rs M hcells
    refine ⟨M, rfl, htf, ?_, hboth, hjunk, (NA.Acl.runsShortB_iff M).mp hruns, hno, hnn, hnr, ho, hn, ?_⟩
    · -- the device ACL is not empty (some line is kept)
      cases al with
      | nil =>
        obtain ⟨c, hc, hcb⟩ := List.any_eq_true.mp hboth
        simp only [Bool.and_eq_true] at hcb
        have : c.line ∈ olds M := List.mem_map.mpr ⟨c, List.mem_filter.mpr ⟨hc, hcb.1⟩, rfl⟩
        rw [ho] at this
        cases this
      | cons a as => rfl
    · intro i hi j hj hk
      obtain ⟨x, hx, hxe⟩ := List.mem_map.mp (ho ▸ line_mem_olds hi)
      obtain ⟨y, hy, hye⟩ := List.mem_map.mp (hn ▸ line_mem_news hj)
      rw [← hxe, ← hye] at hk ⊢
      have hxm : x ∈ al ++ bl := List.mem_append_left _ hx
      have hym : y ∈ al ++ bl := List.mem_append_right _ hy
      have hnl : x.nolog = y.nolog :=
        idxOf_inj (l := mkOf al bl) (List.mem_map_of_mem hxm) hk
      have hact := nologFun_of hnf hxm hym hnl
      simp only [LineEqv, encLine, hnl, hact, and_self]

theorem iosLines_encE (tk mk : List String) (es : Entries) :
    iosLines (encE tk mk es) = (es.map (·.2)).map (encLine tk mk) := by
  unfold iosLines encE
  rw [List.map_map, List.map_map]
  rfl

theorem evRun_top_reseq (d : Dev) (aN : Name) (a b : Nat) (hhas : hasAcl d aN = true) :
    evRun d (.top (.reseq aN a b)) = some (putAcl d aN (reseq (entriesOf d aN) a b)) := by
  simp only [evRun, execTop, hhas, ↓reduceIte, toOpt, Option.map_some, putAcl]
  rfl

theorem editEvents_cells {al bl : List ALine} {rs : List NA.Acl.Range} {M : List Cell} (aN : Name)
    (hal : al.isEmpty = false) (hcells : pairCells al bl rs = some M) :
    editEvents aN al bl rs =
      if !(M.any fun c => c.old && c.new) then
        (al.map fun l => Ev.sub (.acl aN) (.noEntry l)) ++ bl.map fun l => Ev.sub (.acl aN) (.entry l)
      else if (planIOS M).isEmpty then [.reset]
      else [.top (.reseq aN 10000 10000)] ++ (planIOS M).map (opEv aN al bl) ++ [.top (.reseq aN 10 10)] := by
  unfold editEvents
  simp only [hal, Bool.false_eq_true, ↓reduceIte, hcells]

theorem evsRun_reseq_subs (aN : Name) (cs : List Chg) (hcs : ∀ c ∈ cs, isEntryCmd c = true) (d : Dev)
    (hhas : hasAcl d aN = true) (hnd : (aclNames d).Nodup) (a b a' b' : Nat) (es' : Entries)
    (hrun : entriesRun (reseq (entriesOf d aN) a b) cs = some es') :
    evsRun d ([.top (.reseq aN a b)] ++ cs.map (Ev.sub (.acl aN)) ++ [.top (.reseq aN a' b')]) =
      some (putAcl d aN (reseq es' a' b')) := by
  rw [evsRun_append, evsRun_append, evsRun_single, evRun_top_reseq d aN _ _ hhas, Option.bind_some,
    evsRun_subs aN cs hcs _ ((hasAcl_putAcl ..).trans hhas) rfl ((names_putAcl ..).symm ▸ hnd),
    entriesOf_putAcl_self d aN _ hhas, hrun]
  simp only [Option.map_some, Option.bind_some, putAcl_putAcl, evsRun_single]
  rw [evRun_top_reseq _ aN _ _ ((hasAcl_putAcl ..).trans hhas), entriesOf_putAcl_self d aN _ hhas,
    putAcl_putAcl]

theorem opIsAddMove_eq : opIsAddMove = NA.Acl.IOp.isAddMove := by
  funext op; cases op <;> rfl

/-- `ios_acl_object_converges_partial`, the incremental branch: resequence, mode line, numbered adds / moves /
deletes, final resequence — all accepted; the ACL ends block-equivalent (modulo `log`) to the
target; nothing else changes.  Without a suppressed move (`noSupprPair`) the list ends as EXACTLY
the target's (under the numeric encoding of the pair; `ios_plan_converges_no_suppression_partial`). -/
theorem edit_incremental (aN : Name) (al bl : List ALine) (rs : List NA.Acl.Range)
    (hok : incrOK al bl rs = true) (d : Dev) (hhas : hasAcl d aN = true) (hmode : d.mode = none)
    (hnd : (aclNames d).Nodup) (hlines : (entriesOf d aN).map (·.2) = al) :
    ∃ esF, evsRun d (editEvents aN al bl rs) = some (putAcl d aN esF) ∧
      BlockEqG LineEqv ((esF.map (·.2)).map (encP al bl)) (bl.map (encP al bl)) ∧
      (noSupprPair al bl rs = true → (esF.map (·.2)).map (encP al bl) = bl.map (encP al bl)) := by
  obtain ⟨M, hcells, hM⟩ := incrOK_cells hok
  obtain ⟨es, hes⟩ : ∃ es, es = entriesOf d aN := ⟨_, rfl⟩
  rw [← hes] at hlines
  obtain ⟨dev, hdevdef⟩ : ∃ dev, dev = encE (tkOf al bl) (mkOf al bl) es := ⟨_, rfl⟩
  have hdev : iosLines dev = olds M := by
    rw [hdevdef, iosLines_encE, hlines, hM.olds_eq]; rfl
  obtain ⟨tr, s, htr, hlast, hbe, _⟩ :=
    NA.Acl.IosAclProps.ios_plan_block_equiv_partial M hM.both hM.junk hM.runs hM.oldsNodup hM.newsNodup hM.noRemark hM.eqv dev hdev
  have hexec := iosExec_of_trace _ _ tr s htr hlast
  rw [hdevdef, ← encE_reseq] at hexec
  have hdec := plan_decOK al bl M hM.news_eq hM.textFun hM.both hM.newsNodup
  obtain ⟨es', hrun, henc, _⟩ := sim_ops (tkOf al bl) (mkOf al bl) al bl (planIOS M) _ s
    (nodup_nums_reseq es 10000 10000 (by decide)) hdec hexec
  have hs : iosLines s = (es'.map (·.2)).map (encP al bl) := by rw [← henc, iosLines_encE]; rfl
  have hfin : BlockEqG LineEqv ((es'.map (·.2)).map (encP al bl)) (bl.map (encP al bl)) := hs ▸ hM.news_eq ▸ hbe
  have hfinx : noSupprPair al bl rs = true → (es'.map (·.2)).map (encP al bl) = bl.map (encP al bl) := by
    intro hns
    have hcount : ((planIOS M).filter NA.Acl.IOp.isAddMove).length = (NA.Acl.addIdx M).length := by
      unfold noSupprPair at hns
      rw [hM.nonempty, Bool.false_or, hcells] at hns
      simp only [hM.both, Bool.not_true, Bool.false_or, beq_iff_eq] at hns
      rw [← opIsAddMove_eq]; exact hns
    obtain ⟨tr2, s2, htr2, hlast2, hx⟩ :=
      NA.Acl.IosAclProps.ios_plan_converges_no_suppression_partial M hM.both hM.junk hM.runs hM.oldsNodup hM.newsNodup hcount dev hdev
    -- the same run, so the same final list
    rw [htr] at htr2
    rw [← Option.some.inj htr2, hlast] at hlast2
    rw [← Option.some.inj hlast2] at hx
    exact hs ▸ hM.news_eq ▸ hx
  rw [editEvents_cells aN hM.nonempty hcells]
  simp only [hM.both, Bool.not_true, Bool.false_eq_true, ↓reduceIte]
  by_cases hops : (planIOS M).isEmpty = true
  · -- nothing to send: the resequence line is dropped again
    rw [if_pos hops]
    rw [List.isEmpty_iff.mp hops] at hrun
    have hrun' : reseq es 10000 10000 = es' := Option.some.inj hrun
    have hsame : (es.map (·.2)).map (encP al bl) = (es'.map (·.2)).map (encP al bl) := by
      rw [← hrun', lines_reseq]
    refine ⟨es, ?_, hsame ▸ hfin, fun hns => hsame ▸ hfinx hns⟩
    rw [hes, putAcl_self d aN hmode hnd]
    exact congrArg some (show strip d = d by cases d; cases hmode; rfl)
  · rw [if_neg hops]
    have hmapev : (planIOS M).map (opEv aN al bl) = ((planIOS M).map (opChg al bl)).map (Ev.sub (.acl aN)) := by
      rw [List.map_map]
      exact List.map_congr_left fun op hop => (opEv_eq (hdec op hop) aN).1
    refine ⟨reseq es' 10 10, ?_, by rw [lines_reseq]; exact hfin, fun hns => by rw [lines_reseq]; exact hfinx hns⟩
    rw [hmapev]
    exact evsRun_reseq_subs aN _ (List.forall_mem_map.mpr fun op hop => (opEv_eq (hdec op hop) aN).2) d hhas hnd
      _ _ _ _ es' (hes ▸ hrun)

theorem delAll_run (al : List ALine) (es : Entries) (h : es.map (·.2) = al) :
    entriesRun es (al.map Chg.noEntry) = some [] := by
  subst h
  induction es with
  | nil => rfl
  | cons e es ih =>
    simp only [List.map_cons, entriesRun_cons, execEntry, List.any_cons, beq_self_eq_true, Bool.true_or,
      ↓reduceIte, eraseFirst, toOpt, Option.bind_some]
    exact ih

theorem addAll_run (bl : List ALine) (es : Entries) (h : appendOKFrom (es.map (·.2.nolog)) bl = true) :
    ∃ es', entriesRun es (bl.map Chg.entry) = some es' ∧ es'.map (·.2) = es.map (·.2) ++ bl.map typed := by
  induction bl generalizing es with
  | nil => exact ⟨es, rfl, by simp⟩
  | cons l ls ih =>
    simp only [appendOKFrom, Bool.and_eq_true, Bool.not_eq_true'] at h
    obtain ⟨h1, h2⟩ := h
    have hcol : (es.any fun e => collides e.2 l) = false := by
      refine List.any_eq_false.mpr fun e he hc => ?_
      simp only [collides, Bool.and_eq_true, bne_iff_ne, ne_eq, beq_iff_eq] at hc
      have hmem : l.nolog ∈ es.map (·.2.nolog) :=
        hc.2 ▸ List.mem_map_of_mem (f := fun e : Nat × ALine => e.2.nolog) he
      rw [bne_iff_ne.mpr hc.1, List.contains_iff_mem.mpr hmem] at h1
      cases h1
    obtain ⟨es', hr, hl⟩ := ih (es ++ [((es.getLast?.map (·.1)).getD 0 + 10, typed l)])
      (by rw [List.map_append]; exact h2)
    refine ⟨es', ?_, ?_⟩
    · simp only [List.map_cons, entriesRun_cons, execEntry, hcol, Bool.false_eq_true, ↓reduceIte, toOpt,
        Option.bind_some]
      exact hr
    · rw [hl, List.map_append, List.append_assoc]; rfl

/-- `ios_acl_object_replaced`, the branch "no parts equal" (all entries deleted top-down, the target's
appended) and device ACL without entries: accepted; the ACL ends with exactly the target's lines. -/
theorem edit_replace (aN : Name) (al bl : List ALine) (rs : List NA.Acl.Range)
    (hok : replaceOK al bl rs = true) (d : Dev) (hhas : hasAcl d aN = true) (hmode : d.mode = none)
    (hnd : (aclNames d).Nodup) (hlines : (entriesOf d aN).map (·.2) = al) :
    ∃ esF, evsRun d (editEvents aN al bl rs) = some (putAcl d aN esF) ∧ esF.map (·.2) = bl.map typed := by
  simp only [replaceOK, Bool.and_eq_true, Bool.or_eq_true] at hok
  obtain ⟨happ, hcase⟩ := hok
  obtain ⟨es', hr, hl⟩ := addAll_run bl [] happ
  refine ⟨es', ?_, hl⟩
  by_cases hal : al.isEmpty = true
  · have hnil : al = [] := List.isEmpty_iff.mp hal
    subst hnil
    have hes : entriesOf d aN = [] := List.map_eq_nil_iff.mp hlines
    show evsRun d (bl.map fun l => Ev.sub (.acl aN) (.entry l)) = _
    rw [evsRun_subs_map aN Chg.entry (fun _ => rfl) bl d hhas hmode hnd, hes, hr]
    rfl
  · rcases hcase with hc | hc
    · exact absurd hc hal
    · cases hcells : pairCells al bl rs with
      | none => rw [hcells] at hc; cases hc
      | some M =>
        rw [hcells] at hc
        rw [editEvents_cells aN (Bool.eq_false_iff.mpr hal) hcells, if_pos hc, evsRun_append,
          evsRun_subs_map aN Chg.noEntry (fun _ => rfl) al d hhas hmode hnd, delAll_run al _ hlines]
        simp only [Option.map_some, Option.bind_some]
        rw [evsRun_subs_map aN Chg.entry (fun _ => rfl) bl _ ((hasAcl_putAcl ..).trans hhas) rfl
            ((names_putAcl ..).symm ▸ hnd), entriesOf_putAcl_self d aN _ hhas, hr]
        simp only [Option.map_some, putAcl_putAcl]

end NA.F2
