import NA.Proofs.C04Rules
import NA.Proofs.C04Names
/-!
One policy on the strict store: the items of a valid script walk both sorted rule lists (`walk_of_valid`), so
`stepItems_spec` applies to `diffRules` after renaming; `createPolicy` for a policy the manager does not have.
-/
namespace NA.Nsx

theorem Walk_dels (ctx : Ctx) (its : List Item) (l a' b : List Rule) (h : Walk ctx its a' b) :
    Walk ctx (l.map .del ++ its) (l ++ a') b := by
  induction l with
  | nil => exact h
  | cons r rest ih => exact ⟨rest ++ a', rfl, ih⟩

theorem Walk_inss (ctx : Ctx) (its : List Item) (l a b' : List Rule) (h : Walk ctx its a b') :
    Walk ctx (l.map .ins ++ its) a (l ++ b') := by
  induction l with
  | nil => exact h
  | cons r rest ih => exact ⟨rest ++ b', rfl, ih⟩

theorem Walk_eqs (ctx : Ctx) (its : List Item) :
    ∀ (la lb a' b' : List Rule), la.length = lb.length →
      (∀ i (h1 : i < la.length) (h2 : i < lb.length), ruleEqual ctx.gma ctx.gmb la[i] lb[i] = true) →
      Walk ctx its a' b' →
      Walk ctx ((la.zip (lb ++ b')).map (fun (x, y) => Item.eq x y) ++ its) (la ++ a') (lb ++ b') := by
  intro la
  induction la with
  | nil =>
    intro lb a' b' hl _ hw
    cases lb with
    | nil => simpa using hw
    | cons _ _ => simp at hl
  | cons x rest ih =>
    intro lb a' b' hl heq hw
    cases lb with
    | nil => simp at hl
    | cons y lb' =>
      refine ⟨rest ++ a', lb' ++ b', rfl, rfl, heq 0 (by simp) (by simp), ?_⟩
      exact ih lb' a' b' (by simpa using hl) (fun i h1 h2 => heq (i + 1) (by simp; omega) (by simp; omega)) hw

theorem itemsOf_cons (r : Range) (rs : List Range) (a b : List Rule) :
    itemsOf (r :: rs) a b =
      (if r.isDelete then ((a.drop r.lowA).take (r.highA - r.lowA)).map .del
       else if r.isInsert then ((b.drop r.lowB).take (r.highB - r.lowB)).map .ins
       else (((a.drop r.lowA).take (r.highA - r.lowA)).zip (b.drop r.lowB)).map fun (x, y) => Item.eq x y) ++
      itemsOf rs a b := by
  simp [itemsOf]

theorem walk_of_valid (ctx : Ctx) (a b : List Rule) :
    ∀ (rs : List Range) (x y : Nat),
      validFrom (fun i j => ruleEqual ctx.gma ctx.gmb a[i]! b[j]!) a.length b.length rs x y = true →
      Walk ctx (itemsOf rs a b) (a.drop x) (b.drop y) := by
  intro rs
  induction rs with
  | nil =>
    intro x y h
    obtain ⟨rfl, rfl⟩ := validFrom_nil.mp h
    simp [itemsOf, Walk]
  | cons r rest ih =>
    intro x y h
    rw [itemsOf_cons]
    rcases validFrom_cons h with ⟨hd, h1, h2, h3⟩ | ⟨hd, hi, h1, h2, h3⟩ | ⟨hd, hi, h1, h2, h3, h4, h5, h6⟩
    · subst h1
      rw [hd, if_pos rfl]
      have hw := Walk_dels ctx _ ((a.drop r.lowA).take (r.highA - r.lowA)) _ _ (ih _ _ h3)
      rw [← ListFacts.drop_split a h2] at hw
      exact hw
    · subst h1
      rw [hd, hi, if_neg Bool.false_ne_true, if_pos rfl]
      have hw := Walk_inss ctx _ ((b.drop r.lowB).take (r.highB - r.lowB)) _ _ (ih _ _ h3)
      rw [← ListFacts.drop_split b h2] at hw
      exact hw
    · subst h1; subst h2
      rw [hd, hi, if_neg Bool.false_ne_true, if_neg Bool.false_ne_true]
      have hle := validFrom_le _ _ _ h6
      have hn : r.highB - r.lowB = r.highA - r.lowA := by rw [h4, Nat.add_sub_cancel_left]
      have hw := Walk_eqs ctx (itemsOf rest a b) ((a.drop r.lowA).take (r.highA - r.lowA))
        ((b.drop r.lowB).take (r.highB - r.lowB)) (a.drop r.highA) (b.drop r.highB)
        (by rw [length_take_drop a hle.1, length_take_drop b hle.2, hn])
        (by
          intro i h1 h2
          rw [length_take_drop a hle.1] at h1
          have := h5 i h1
          rw [getElem!_pos a _ (add_lt_of_lt_sub h1 hle.1),
            getElem!_pos b _ (add_lt_of_lt_sub (hn ▸ h1) hle.2)] at this
          simpa [List.getElem_take, List.getElem_drop] using this)
        (ih _ _ h6)
      rw [← ListFacts.drop_split b (h4 ▸ Nat.le_add_right _ _), ← ListFacts.drop_split a h3] at hw
      exact hw

/-- What `diffRules` needs to know about the device policy. -/
def APolOK (ctx : Ctx) (S : Store) (pa : Policy) : Prop :=
  ∃ p0, findPolicy S.policies pa.id = some p0 ∧ p0.rules = pa.rules ∧ (rids pa.rules).Nodup ∧
    ∀ ra ∈ pa.rules, refsOk S ra = true ∧ AExt ctx ra

/-- What `diffRules` and `createPolicy` need to know about the target policy. -/
def BPolOK (ctx : Ctx) (U : String → Prop) (S : Store) (pb : Policy) : Prop :=
  (rids pb.rules).Nodup ∧ (∀ rb ∈ pb.rules, BRefs ctx S rb) ∧ ∀ rb ∈ pb.rules, ∀ k, RefsKey rb k → U k

/-- What `diffRules` for policy `pid` does to the store. -/
structure StepFrame (pid : String) (S S' : Store) : Prop where
  services : S'.services = S.services
  policies : ∃ F, S'.policies = setRules S.policies pid F
  groups : GroupsLE S S'

theorem StepFrame.of_groups_only {pid : String} {S S' : Store} (hp : S'.policies = S.policies)
    (hs : S'.services = S.services) (hg : GroupsLE S S') : StepFrame pid S S' :=
  ⟨hs, ⟨fun rs => rs, by rw [hp]; simp [setRules]⟩, hg⟩

theorem stepFrame_findPolicy_ne {pid id : String} {S S' : Store} (h : StepFrame pid S S') (hne : id ≠ pid) :
    findPolicy S'.policies id = findPolicy S.policies id := by
  obtain ⟨F, hF⟩ := h.policies
  rw [hF, findPolicy_setRules_ne _ _ _ _ hne]

theorem diffRules_spec {ctx : Ctx} {G0 : List Group} {U : String → Prop} (hc : CtxOK ctx G0)
    (hdiff : ∀ n m eq, validScript n m eq (ctx.diff n m eq) = true)
    (S : Store) (st : PSt) (pa pb : Policy) (hinv : GInv ctx G0 S.groups st)
    (ha : APolOK ctx S pa) (hb : BPolOK ctx U S pb) (habort : (diffRules ctx st pa pb).1.abort = none) :
    ∃ S' L B bR, Ran ctx G0 U S st (diffRules ctx st pa pb).2 S' (diffRules ctx st pa pb).1 ∧
      StepFrame pa.id S S' ∧
      (∃ p', findPolicy S'.policies pa.id = some p' ∧ p'.rules.Perm L) ∧
      Forall2 (RuleReal ctx (diffRules ctx st pa pb).1.nod) L B ∧ B.Perm bR ∧ Forall2 SameButId bR pb.rules := by
  obtain ⟨p0, hpol, hp0, haids, haRefs⟩ := ha
  obtain ⟨hbids, hbRefs, hu⟩ := hb
  cases hg : genUniqRules (pa.rules.map (·.id)) pb.rules with
  | none => rw [diffRules_of_none hg] at habort; cases habort
  | some bR =>
    rw [diffRules_of_some hg] at habort ⊢
    obtain ⟨hbRn, hbRfresh, hsame⟩ := genUniqRules_spec hg hbids
    let aS := sortRules ctx.gma pa.rules
    let bS := sortRules ctx.gmb bR
    have hpa : aS.Perm pa.rules := isort_perm _ _
    have hpb : bS.Perm bR := isort_perm _ _
    let rs := ctx.diff aS.length bS.length fun i j => ruleEqual ctx.gma ctx.gmb aS[i]! bS[j]!
    have hvalid := hdiff aS.length bS.length fun i j => ruleEqual ctx.gma ctx.gmb aS[i]! bS[j]!
    have hwalk : Walk ctx (itemsOf rs aS bS) aS bS := by
      have := walk_of_valid ctx aS bS rs 0 0 hvalid
      simpa using this
    -- a target rule after renaming is the target rule under another id
    have hof : ∀ rb ∈ bS, ∃ r0 ∈ pb.rules, SameButId rb r0 := fun rb hrb => hsame.exists_right (hpb.mem_iff.mp hrb)
    have hpinv : PInv ctx pa.id G0 S st [] [] aS bS := by
      refine { ginv := hinv, pol := ⟨p0, hpol, ?_⟩, real := .nil, ids := ?_, aRefs := ?_, bRefs := ?_ }
      · rw [hp0]; exact hpa.symm
      · show (rids aS ++ rids bS).Nodup
        have hperm : (rids aS ++ rids bS).Perm (rids pa.rules ++ rids bR) :=
          (hpa.map _).append (hpb.map _)
        rw [hperm.nodup_iff, List.nodup_append]
        exact ⟨haids, hbRn, fun x hx y hy e => hbRfresh y hy (e ▸ hx)⟩
      · exact fun ra hra => haRefs ra (hpa.mem_iff.mp hra)
      · intro rb hrb
        obtain ⟨r0, hr0, hs⟩ := hof rb hrb
        rw [hs]
        exact hbRefs r0 hr0
    obtain ⟨S', D', BD', r, hinv', hperm, hF⟩ :=
      stepItems_spec hc hdiff (itemsOf rs aS bS) S st [] [] aS bS hwalk hpinv
        (fun rb hrb k hk => by
          obtain ⟨r0, hr0, hs⟩ := hof rb hrb
          rw [hs] at hk
          exact hu r0 hr0 k hk) habort
    obtain ⟨p', hp', hrules'⟩ := hinv'.pol
    exact ⟨S', D', BD', bR, r, ⟨r.services, hF, r.groups⟩, ⟨p', hp', by simpa using hrules'⟩, hinv'.real,
      hperm.trans hpb, hsame⟩

theorem adaptRules_spec {ctx : Ctx} {G0 : List Group} {U : String → Prop} (hc : CtxOK ctx G0) :
    ∀ (rules : List Rule) (S : Store) (st : PSt), GInv ctx G0 S.groups st →
      (∀ rb ∈ rules, BRefs ctx S rb) → (∀ rb ∈ rules, ∀ k, RefsKey rb k → U k) →
      ∃ S', Ran ctx G0 U S st (adaptRules ctx st rules).2.1 S' (adaptRules ctx st rules).1 ∧
        S'.policies = S.policies ∧
        Forall2 (RuleReal ctx (adaptRules ctx st rules).1.nod) (adaptRules ctx st rules).2.2 rules ∧
        (∀ r ∈ (adaptRules ctx st rules).2.2, refsOk S' r = true) ∧
        rids (adaptRules ctx st rules).2.2 = rids rules := by
  intro rules
  induction rules with
  | nil => exact fun S st hinv _ _ => ⟨S, .nil hinv, rfl, .nil, by simp [adaptRules], rfl⟩
  | cons r rest ih =>
    intro S st hinv hb hu
    have hur := hu r List.mem_cons_self
    obtain ⟨hsvc, hsrc, hdst⟩ := hb r List.mem_cons_self
    rcases hA1 : adaptGroup ctx st r.src with ⟨st1, src, c1⟩
    obtain ⟨S1, r1, hpol1, hreal1, hep1⟩ := adaptGroup_spec hc S hA1 hinv hsrc fun k h => hur k (Or.inl h)
    rcases hA2 : adaptGroup ctx st1 r.dst with ⟨st2, dst, c2⟩
    obtain ⟨S2, r2, hpol2, hreal2, hep2⟩ :=
      adaptGroup_spec hc S1 hA2 r1.ginv (fun hn => r1.epOk (hdst hn)) fun k h => hur k (Or.inr h)
    have r12 := r1.append r2
    obtain ⟨S3, r3, hpol3, hreal3, hrefs3, hids3⟩ :=
      ih S2 st2 r2.ginv (fun rb hrb => r12.brefs (hb rb (List.mem_cons_of_mem _ hrb)))
        fun rb hrb => hu rb (List.mem_cons_of_mem _ hrb)
    rw [adaptRules_cons hA1 hA2]
    refine ⟨S3, r12.append r3, by rw [hpol3, hpol2, hpol1], .cons ?_ hreal3, ?_, ?_⟩
    · exact ⟨compactAttrs_idem _, rfl, EPreal.mono (r2.mono.trans r3.mono) hreal1, EPreal.mono r3.mono hreal2⟩
    · intro x hx
      rcases List.mem_cons.mp hx with e | e
      · subst e
        exact refsOk_iff.mpr ⟨r3.epOk (r2.epOk hep1), r3.epOk hep2, ((r12.append r3).svcOk _).trans hsvc⟩
      · exact hrefs3 x e
    · simp only [rids, List.map_cons] at hids3 ⊢
      rw [hids3]; rfl

theorem createPolicy_spec {ctx : Ctx} {G0 : List Group} {U : String → Prop} (hc : CtxOK ctx G0) (S : Store) (st : PSt) (pb : Policy)
    (hinv : GInv ctx G0 S.groups st) (hnew : hasPolicy S pb.id = false) (hb : BPolOK ctx U S pb) :
    ∃ S' L, Ran ctx G0 U S st (createPolicy ctx st pb).2 S' (createPolicy ctx st pb).1 ∧
      S'.policies = S.policies ++ [⟨pb.id, L⟩] ∧ Forall2 (RuleReal ctx (createPolicy ctx st pb).1.nod) L pb.rules := by
  obtain ⟨S1, r1, hpol, hreal, hrefs, hids⟩ := adaptRules_spec hc pb.rules S st hinv hb.2.1 hb.2.2
  have hnew1 : hasPolicy S1 pb.id = false := by unfold hasPolicy; rw [hpol]; exact hnew
  have hex := exec_of_step (.putPolicy (id := pb.id) hnew1 (hids ▸ hb.1) hrefs)
  exact ⟨_, _, r1.append (.call r1.ginv hex rfl rfl), by show S1.policies ++ _ = _; rw [hpol], hreal⟩

end NA.Nsx
