import NA.Proofs.C03Plan
import NA.Proofs.C03Sort
/-
C03 / C07 / C08: the flags in the final planner state `planState diff a b`.  Nothing after `markObjects` touches the
object tables (`diffRules_quiet`), so what `markObjects` establishes holds in the final state.  Core Lean only.
-/
namespace NA.PanOs

theorem objs_fields {st st' : St} (h : st'.objs = st.objs) :
    st'.aAddr = st.aAddr ∧ st'.bAddr = st.bAddr ∧ st'.aSvc = st.aSvc ∧ st'.bSvc = st.bSvc ∧
      st'.aSG = st.aSG ∧ st'.bSG = st.bSG := by
  simp only [St.objs, Prod.mk.injEq] at h
  exact h

/-! What the flags mean only depends on the object tables. -/

theorem FlagSound.of_objs {st st' : St} (h : st'.objs = st.objs) (hs : FlagSound st) : FlagSound st' := by
  obtain ⟨h1, h2, _⟩ := objs_fields h
  show ObjFlagSound _ _
  rw [h1, h2]
  exact hs

theorem SFlagSound.of_objs {st st' : St} (h : st'.objs = st.objs) (hs : SFlagSound st) : SFlagSound st' := by
  obtain ⟨_, _, h1, h2, _⟩ := objs_fields h
  show ObjFlagSound _ _
  rw [h1, h2]
  exact hs

theorem Covered.of_objs {st st' : St} {x : String} (h : st'.objs = st.objs) (hc : Covered st x) : Covered st' x := by
  obtain ⟨h1, h2, _⟩ := objs_fields h
  show ObjCovered _ _ x
  rw [h1, h2]
  exact hc

theorem SCovered.of_objs {st st' : St} {x : String} (h : st'.objs = st.objs) (hc : SCovered st x) : SCovered st' x := by
  obtain ⟨_, _, h1, h2, _⟩ := objs_fields h
  show ObjCovered _ _ x
  rw [h1, h2]
  exact hc

theorem Marked.of_objs {st st' : St} {x : String} (h : st'.objs = st.objs) (hc : Marked st x) : Marked st' x := by
  obtain ⟨h1, _⟩ := objs_fields h
  show ObjMarked _ x
  rw [h1]
  exact hc

theorem SMarked.of_objs {st st' : St} {x : String} (h : st'.objs = st.objs) (hc : SMarked st x) : SMarked st' x := by
  obtain ⟨_, _, h1, _⟩ := objs_fields h
  show ObjMarked _ x
  rw [h1]
  exact hc

def markedState (a b : Vsys) : St :=
  markObjects (planFuel (sortVsys a) (sortVsys b))
    (initSt (sortVsys a) (sortVsys b) (groupNamesFor (sortVsys a) (sortVsys b))) (sortVsys b).rules

theorem planState_objs_marked (diff : Differ) (a b : Vsys) : (planState diff a b).objs = (markedState a b).objs :=
  (diffRules_quiet ..).2

theorem sortVsys_rule_mem {b : Vsys} {r : Rule} (hr : r ∈ b.rules) : sortRule r ∈ (sortVsys b).rules :=
  List.mem_map.mpr ⟨r, hr, rfl⟩

theorem initSt_bGrp_names (a b : Vsys) (names : List String) (x : String)
    (h : ∀ g ∈ b.groups, g.name ≠ x) : (initSt a b names).bGrpIdx x = none := by
  unfold St.bGrpIdx
  apply lastIdx_none_of_not_mem
  simp only [initSt, List.map_map, List.mem_map, Function.comp_def, not_exists, not_and]
  intro p hp hn
  exact h p.1 (List.of_mem_zip hp).1 hn

theorem initSt_aGrp_nil {a : Vsys} (b : Vsys) (names : List String) (h : a.groups = []) :
    (initSt (sortVsys a) (sortVsys b) names).aGrp = [] := by simp [initSt, sortVsys, h]

theorem initSt_bGrp_nil (a : Vsys) {b : Vsys} (names : List String) (h : b.groups = []) :
    (initSt (sortVsys a) (sortVsys b) names).bGrp = [] := by simp [initSt, sortVsys, h]

theorem initSt_aSG_nil {a : Vsys} (b : Vsys) (names : List String) (h : a.sgroups = []) :
    (initSt (sortVsys a) (sortVsys b) names).aSG = [] := by simp [initSt, sortVsys, h]

theorem initSt_bSG_nil (a : Vsys) {b : Vsys} (names : List String) (h : b.sgroups = []) :
    (initSt (sortVsys a) (sortVsys b) names).bSG = [] := by simp [initSt, sortVsys, h]

theorem initSt_bAddrIdx (a b : Vsys) (names : List String) {x : String} (h : ∃ o ∈ b.addrs, o.name = x) :
    ((initSt a b names).bAddrIdx x).isSome := by
  apply lastIdx_isSome_of_mem
  simp only [initSt, List.map_map, List.mem_map, Function.comp_def]
  exact h

theorem initSt_bSvcIdx (a b : Vsys) (names : List String) {x : String} (h : ∃ o ∈ b.svcs, o.name = x) :
    ((initSt a b names).bSvcIdx x).isSome := by
  apply lastIdx_isSome_of_mem
  simp only [initSt, List.map_map, List.mem_map, Function.comp_def]
  exact h

theorem objFlagSound_init (as bs : List Obj) :
    ObjFlagSound (as.map (fun o => { o := o })) (bs.map (fun o => { o := o })) := by
  intro bi ob hob
  obtain ⟨o, _, rfl⟩ := List.mem_map.mp (List.mem_of_getElem? hob)
  exact ⟨fun hn => (by cases hn), fun he => (by cases he)⟩

theorem objProv_init (R : String → Prop) (as bs : List Obj) :
    ObjProv R (as.map (fun o => { o := o })) (bs.map (fun o => { o := o })) := by
  constructor
  · intro ob hob hf
    obtain ⟨o, _, rfl⟩ := List.mem_map.mp hob
    rcases hf with hf | hf <;> cases hf
  · intro oa hoa hf
    obtain ⟨o, _, rfl⟩ := List.mem_map.mp hoa
    cases hf

theorem initSt_flagSound (a b : Vsys) (names : List String) : FlagSound (initSt a b names) :=
  objFlagSound_init a.addrs b.addrs

theorem initSt_sflagSound (a b : Vsys) (names : List String) : SFlagSound (initSt a b names) :=
  objFlagSound_init a.svcs b.svcs

theorem markedState_tables (a b : Vsys) :
    (markedState a b).aAddr.map (·.o) = a.addrs ∧ (markedState a b).bAddr.map (·.o) = b.addrs ∧
    (markedState a b).aSvc.map (·.o) = a.svcs ∧ (markedState a b).bSvc.map (·.o) = b.svcs := by
  have m := markObjects_marking (planFuel (sortVsys a) (sortVsys b))
    (initSt (sortVsys a) (sortVsys b) (groupNamesFor (sortVsys a) (sortVsys b))) (sortVsys b).rules
  have hA : ∀ l : List Obj, (l.map (fun o => ({ o := o } : AObj))).map (·.o) = l := fun l => by
    rw [List.map_map]; exact List.map_id l
  have hB : ∀ l : List Obj, (l.map (fun o => ({ o := o } : BObj))).map (·.o) = l := fun l => by
    rw [List.map_map]; exact List.map_id l
  exact ⟨m.addr.a.trans (hA a.addrs), m.addr.b.trans (hB b.addrs), m.svc.a.trans (hA a.svcs), m.svc.b.trans (hB b.svcs)⟩

theorem markedState_sound (a b : Vsys) : FlagSound (markedState a b) ∧ SFlagSound (markedState a b) :=
  have h := markObjects_sound (planFuel (sortVsys a) (sortVsys b))
    (initSt (sortVsys a) (sortVsys b) (groupNamesFor (sortVsys a) (sortVsys b))) (sortVsys b).rules
  ⟨h.1 (initSt_flagSound _ _ _), h.2 (initSt_sflagSound _ _ _)⟩

theorem markedState_addr (a b : Vsys) {r : Rule} {x : String} (hr : r ∈ b.rules) (hx : x ∈ r.src ∨ x ∈ r.dst)
    (hg : ∀ g ∈ b.groups, g.name ≠ x) :
    Covered (markedState a b) x ∧ ((∃ o ∈ b.addrs, o.name = x) → Marked (markedState a b) x) := by
  have hx' : x ∈ sortStrings r.src ∨ x ∈ sortStrings r.dst := by simpa [mem_sortStrings] using hx
  have hg' := initSt_bGrp_names (sortVsys a) (sortVsys b) (groupNamesFor (sortVsys a) (sortVsys b)) x (by
    intro g hg'
    obtain ⟨g0, hg0, rfl⟩ := List.mem_map.mp hg'
    exact hg g0 hg0)
  exact ⟨markObjects_covers _ (sortVsys_rule_mem hr) hx' hg',
    fun hb => markObjects_marks _ (sortVsys_rule_mem hr) hx' hg' (initSt_bAddrIdx _ _ _ hb)⟩

theorem markedState_svc (a b : Vsys) (hbs : b.sgroups = []) {r : Rule} {x : String} (hr : r ∈ b.rules)
    (hx : x ∈ r.srv) :
    SCovered (markedState a b) x ∧ ((∃ o ∈ b.svcs, o.name = x) → SMarked (markedState a b) x) := by
  have hx' : x ∈ sortStrings r.srv := (mem_sortStrings x _).mpr hx
  have hg' : (initSt (sortVsys a) (sortVsys b) (groupNamesFor (sortVsys a) (sortVsys b))).bSGIdx x = none := by
    rw [St.bSGIdx, initSt_bSG_nil _ _ hbs]; rfl
  exact ⟨markObjects_scovers _ (sortVsys_rule_mem hr) hx' hg',
    fun hb => markObjects_smarks _ (sortVsys_rule_mem hr) hx' hg' (initSt_bSvcIdx _ _ _ hb)⟩

theorem delAddr_mem_removeCmds {st : St} {x : String} (h : Cmd.delAddr x ∈ removeCmds st) :
    ∃ o ∈ st.aAddr, o.needed = false ∧ o.o.name = x := by
  simp only [removeCmds, List.mem_append, List.mem_filterMap] at h
  rcases h with ((⟨g, _, h⟩ | ⟨o, ho, h⟩) | ⟨g, _, h⟩) | ⟨o, _, h⟩
  · split at h <;> cases h
  · split at h
    · rename_i hn
      simp only [Option.some.injEq, Cmd.delAddr.injEq] at h
      exact ⟨o, ho, by simpa using hn, h⟩
    · cases h
  · split at h <;> cases h
  · split at h <;> cases h

/-- **No address of the device is removed that a rule of the target names as an address**: a name the target
defines as an address and that is no target group's name (the device's address names being distinct). -/
theorem planVsys_spares_address (diff : Differ) (a b : Vsys) (ha : (a.addrs.map (·.name)).Nodup)
    (r : Rule) (x : String) (hr : r ∈ b.rules) (hx : x ∈ r.src ∨ x ∈ r.dst)
    (hg : ∀ g ∈ b.groups, g.name ≠ x) (hb : ∃ o ∈ b.addrs, o.name = x) :
    Cmd.delAddr x ∉ planVsys diff a b := by
  intro hmem
  unfold planVsys at hmem
  simp only [List.mem_append] at hmem
  have hobjs := planState_objs_marked diff a b
  have hmark : Marked (planState diff a b) x := (((markedState_addr a b hr hx hg).2 hb)).of_objs hobjs
  have hdefs : (planState diff a b).aAddr.map (·.o) = a.addrs := by
    rw [(objs_fields hobjs).1]; exact (markedState_tables a b).1
  rcases hmem with (h | h) | h
  · have := transferCmds_kind _ _ h
    simp [Cmd.isTransfer] at this
  · have := planState_out_kind diff a b _ h
    simp [Cmd.isRuleCmd, Cmd.isMember, ordOf] at this
  · obtain ⟨o, ho, hn, hname⟩ := delAddr_mem_removeCmds h
    have hnd : ((planState diff a b).aAddr.map (·.o.name)).Nodup := by
      rw [← hdefs, List.map_map] at ha
      exact ha
    have := ObjMarked.needed_of_nodup hmark hnd ho hname
    rw [hn] at this
    cases this

/-- Everything the later proofs need to know about the final planner state of a pair whose
target has neither address-groups nor service-groups. -/
structure PlanFlags (a b : Vsys) (st : St) : Prop where
  aAddr : st.aAddr.map (·.o) = a.addrs
  bAddr : st.bAddr.map (·.o) = b.addrs
  aSvc : st.aSvc.map (·.o) = a.svcs
  bSvc : st.bSvc.map (·.o) = b.svcs
  sound : FlagSound st
  ssound : SFlagSound st
  covered : ∀ r ∈ b.rules, ∀ x, (x ∈ r.src ∨ x ∈ r.dst) → Covered st x
  scovered : ∀ r ∈ b.rules, ∀ x, x ∈ r.srv → SCovered st x
  marked : ∀ r ∈ b.rules, ∀ x, (x ∈ r.src ∨ x ∈ r.dst) → (∃ o ∈ b.addrs, o.name = x) → Marked st x
  smarked : ∀ r ∈ b.rules, ∀ x, x ∈ r.srv → (∃ o ∈ b.svcs, o.name = x) → SMarked st x

theorem planState_planFlags (diff : Differ) (a b : Vsys) (hbg : b.groups = []) (hbs : b.sgroups = []) :
    PlanFlags a b (planState diff a b) := by
  have hobjs := planState_objs_marked diff a b
  obtain ⟨e1, e2, e3, e4, _, _⟩ := objs_fields hobjs
  obtain ⟨t1, t2, t3, t4⟩ := markedState_tables a b
  have hg : ∀ x, ∀ g ∈ b.groups, g.name ≠ x := by rw [hbg]; intro _ _ h; cases h
  exact {
    aAddr := by rw [e1]; exact t1
    bAddr := by rw [e2]; exact t2
    aSvc := by rw [e3]; exact t3
    bSvc := by rw [e4]; exact t4
    sound := (markedState_sound a b).1.of_objs hobjs
    ssound := (markedState_sound a b).2.of_objs hobjs
    covered := fun r hr x hx => (markedState_addr a b hr hx (hg x)).1.of_objs hobjs
    scovered := fun r hr x hx => (markedState_svc a b hbs hr hx).1.of_objs hobjs
    marked := fun r hr x hx hb => ((markedState_addr a b hr hx (hg x)).2 hb).of_objs hobjs
    smarked := fun r hr x hx hb => ((markedState_svc a b hbs hr hx).2 hb).of_objs hobjs }

theorem planState_prov (diff : Differ) (a b : Vsys) (hbg : b.groups = []) (hbs : b.sgroups = []) :
    ProvA (fun x => ∃ r ∈ b.rules, x ∈ r.src ∨ x ∈ r.dst) (planState diff a b) ∧
    ProvS (fun x => ∃ r ∈ b.rules, x ∈ r.srv) (planState diff a b) := by
  obtain ⟨e1, e2, e3, e4, _, _⟩ := objs_fields (planState_objs_marked diff a b)
  unfold ProvA ProvS
  rw [e1, e2, e3, e4]
  refine markObjects_prov _ _ _ _ _ (initSt_bGrp_nil _ _ hbg) (initSt_bSG_nil _ _ hbs) ?_
    (objProv_init _ _ _) (objProv_init _ _ _)
  intro r hr
  obtain ⟨r0, hr0, rfl⟩ := List.mem_map.mp hr
  exact ⟨fun x hx => ⟨r0, hr0, by simpa [mem_sortStrings] using hx⟩,
    fun x hx => ⟨r0, hr0, by simpa [mem_sortStrings] using hx⟩⟩

end NA.PanOs
