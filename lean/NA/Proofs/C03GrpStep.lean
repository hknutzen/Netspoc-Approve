import NA.Proofs.C03GrpAdapt
import NA.Proofs.C03Groups
import NA.Proofs.C03GrpCommute
import NA.Proofs.C03Block
/-
C03, pairs with address-groups: the group table under group-member requests (`lookupGrp_*`, `runs_onGroup`,
`runs_grpMem_other`); one step of the planner seen from the device (`Step`): the requests it appends, split
into group-member requests (executed on the group table) and rule requests (only collected); `GStep`, the judgment
every `_sim` lemma from here on concludes; `adaptGroups` and `hasEqualizedGroups`.  Core Lean only.
-/
namespace NA.PanOs

theorem lookupGrp_modifyGrp (gs : List Grp) (g n : String) (f : List String → List String) :
    lookupGrp (modifyGrp gs g f) n = if n == g then (lookupGrp gs n).map f else lookupGrp gs n := by
  unfold lookupGrp modifyGrp
  rw [find?_key_modify Grp.name (fun x => { x with members := f x.members }) (fun _ => rfl)]
  split
  · rw [Option.map_map, Option.map_map]; rfl
  · rfl

theorem lookupGrp_some {gs : List Grp} {n : String} {l : List String} (h : lookupGrp gs n = some l) :
    ∃ gr, gs.find? (·.name == n) = some gr ∧ gr.members = l :=
  Option.map_eq_some_iff.mp h

theorem lookupGrp_some_any {gs : List Grp} {n : String} {l : List String} (h : lookupGrp gs n = some l) :
    gs.any (·.name == n) = true := by
  obtain ⟨gr, hf, _⟩ := lookupGrp_some h
  simp only [List.any_eq_true]
  exact ⟨gr, List.mem_of_find?_eq_some hf, by simpa using List.find?_some hf⟩

theorem addrRefOk_congr (sh : Shared) {v w : Vsys} (h1 : w.addrs = v.addrs)
    (h2 : w.groups.map (·.name) = v.groups.map (·.name)) (m : String) :
    addrRefOk sh w m = addrRefOk sh v m := by
  simp only [addrRefOk, h1, any_name_congr h2]

def OnGroup (g : String) (cs : List Cmd) : Prop :=
  ∀ c ∈ cs, (∃ m, c = .delGMem g m) ∨ (∃ ms, c = .setGrp g ms)

theorem runs_onGroup (sh : Shared) (g : String) :
    ∀ (cs : List Cmd) (v : Vsys) (l0 l' : List String), OnGroup g cs →
      lookupGrp v.groups g = some l0 →
      runMem l0 (cs.filterMap memOf) = some l' →
      (∀ c ∈ cs, ∀ ms, c = .setGrp g ms → ∀ m ∈ ms, addrRefOk sh v m = true) →
      ∃ gs, Runs sh v cs { v with groups := gs } ∧ lookupGrp gs g = some l' ∧
        (∀ n, n ≠ g → lookupGrp gs n = lookupGrp v.groups n) ∧ gs.map (·.name) = v.groups.map (·.name) := by
  intro cs
  induction cs with
  | nil =>
    intro v l0 l' _ hl hr _
    simp only [List.filterMap_nil, runMem, Option.some.injEq] at hr
    subst hr
    exact ⟨v.groups, Runs.nil sh v, hl, fun _ _ => rfl, rfl⟩
  | cons c cs ih =>
    intro v l0 l' hon hl hr href
    have hon' : OnGroup g cs := fun c' hc' => hon c' (List.mem_cons_of_mem _ hc')
    obtain ⟨gr, hfind, hgm⟩ := lookupGrp_some hl
    have hany := lookupGrp_some_any hl
    -- common tail
    have tail : ∀ (f : List String → List String) (op : MemOp),
        exec sh v c = .ok { v with groups := modifyGrp v.groups g f } → memOf c = some op →
        applyMem l0 op = some (f l0) →
        ∃ gs, Runs sh v (c :: cs) { v with groups := gs } ∧ lookupGrp gs g = some l' ∧
          (∀ n, n ≠ g → lookupGrp gs n = lookupGrp v.groups n) ∧ gs.map (·.name) = v.groups.map (·.name) := by
      intro f op hv1 hmem happ
      have hl1 : lookupGrp (modifyGrp v.groups g f) g = some (f l0) := by
        rw [lookupGrp_modifyGrp, hl]; simp
      have hr' : runMem (f l0) (cs.filterMap memOf) = some l' := by
        simp only [List.filterMap_cons, hmem, runMem, happ, Option.bind_some] at hr
        exact hr
      obtain ⟨gs, hw, hlw, hoth, hn⟩ := ih { v with groups := modifyGrp v.groups g f } (f l0) l'
        hon' hl1 hr' (by
          intro c' hc' ms hcs m hm
          rw [addrRefOk_congr sh (v := v) (w := { v with groups := modifyGrp v.groups g f }) rfl
            (modifyGrp_names _ _ _)]
          exact href c' (List.mem_cons_of_mem _ hc') ms hcs m hm)
      refine ⟨gs, Runs.cons hv1 hw, hlw, ?_, hn.trans (modifyGrp_names _ _ _)⟩
      intro n hn
      rw [hoth n hn, lookupGrp_modifyGrp, beq_false_of_ne hn]
      rfl
    rcases hon c (by simp) with ⟨m, rfl⟩ | ⟨ms, rfl⟩
    · have hcm : l0.contains m = true := by
        simp only [List.filterMap_cons, memOf, runMem, applyMem] at hr
        split at hr
        · assumption
        · simp at hr
      refine tail (fun old => old.filter (· != m)) (.del m) ?_ rfl (by simp only [applyMem, hcm, if_true])
      exact exec_delGMem_iff.mpr ⟨gr, hfind, by rw [hgm]; exact hcm, rfl⟩
    · refine tail (fun old => mergeMembers old ms) (.add ms) ?_ rfl rfl
      have hall : ms.all (addrRefOk sh v) = true := by
        rw [List.all_eq_true]
        exact fun m hm => href (.setGrp g ms) (by simp) ms rfl m hm
      exact exec_setGrp_iff.mpr ⟨hall, by rw [if_pos hany]⟩

theorem lookupGrp_append_single (gs : List Grp) (g : Grp) (n : String) (h : n ≠ g.name) :
    lookupGrp (gs ++ [g]) n = lookupGrp gs n := by
  unfold lookupGrp
  rw [ListFacts.find?_append_single, if_neg (by simpa using Ne.symm h), Option.or_none]

theorem lookupGrp_append_left {l1 l2 : List Grp} {n : String} (h : n ∈ l1.map (·.name)) :
    lookupGrp (l1 ++ l2) n = lookupGrp l1 n := by
  unfold lookupGrp
  rw [List.find?_append]
  cases hf : l1.find? (·.name == n) with
  | some g => rfl
  | none =>
    exfalso
    obtain ⟨g, hg, e⟩ := List.mem_map.mp h
    have := List.find?_eq_none.mp hf g hg
    simp [e] at this

theorem lookupGrp_of_mem {l : List Grp} (hnd : (l.map (·.name)).Nodup) {g : Grp} (hg : g ∈ l) :
    lookupGrp l g.name = some g.members := by
  rw [lookupGrp, ListFacts.find?_key_of_mem (key := (·.name)) hnd hg]; rfl

theorem lookupGrp_append_right {l1 l2 : List Grp} {n : String} (h : n ∉ l1.map (·.name)) :
    lookupGrp (l1 ++ l2) n = lookupGrp l2 n := by
  unfold lookupGrp
  rw [List.find?_append]
  have : l1.find? (·.name == n) = none := by
    rw [List.find?_eq_none]
    intro g hg hb
    exact h (List.mem_map.mpr ⟨g, hg, by simpa using hb⟩)
  rw [this]; rfl

theorem lookupGrp_filter (l : List Grp) (x n : String) (h : n ≠ x) :
    lookupGrp (l.filter (·.name != x)) n = lookupGrp l n := by
  unfold lookupGrp
  rw [find?_key_filter_ne Grp.name, if_neg (by simpa using h)]

theorem exec_grpMem_other {sh : Shared} {v w : Vsys} {c : Cmd} (hc : c.isGrpMem = true) (h : exec sh v c = .ok w)
    (n : String) (hn : n ≠ c.grpTarget) : lookupGrp w.groups n = lookupGrp v.groups n := by
  cases c with
  | setGrp t ms =>
    have hne : (n == t) = false := beq_false_of_ne hn
    obtain ⟨_, rfl⟩ := exec_setGrp_iff.mp h
    split
    · rw [lookupGrp_modifyGrp, hne]; rfl
    · exact lookupGrp_append_single _ _ _ hn
  | delGMem t m =>
    have hne : (n == t) = false := beq_false_of_ne hn
    obtain ⟨_, _, _, rfl⟩ := exec_delGMem_iff.mp h
    rw [lookupGrp_modifyGrp, hne]; rfl
  | _ => cases hc

theorem runs_grpMem_other (sh : Shared) (names : List String) (gs : List Cmd) (v w : Vsys)
    (hon : GrpMemOn names gs) (hr : Runs sh v gs w) (n : String) (hn : n ∉ names) :
    lookupGrp w.groups n = lookupGrp v.groups n :=
  Runs.preserves (P := fun u => lookupGrp u.groups n = lookupGrp v.groups n)
    (Q := fun c => c.isGrpMem = true ∧ c.grpTarget ∈ names)
    (fun hu hc hx => (exec_grpMem_other hc.1 hx n (fun e => hn (e ▸ hc.2))).trans hu) rfl hon hr

/-- From planner state `st` / group table `vg` to `st'` / `vg'`; `rcs`: the rule requests appended. -/
structure Step (sh : Shared) (st : St) (vg : Vsys) (st' : St) (vg' : Vsys) (rcs : List Cmd) : Prop where
  ex : ∃ cs, st'.out = st.out ++ cs ∧ cs.filter (fun c => !c.isGrpMem) = rcs ∧
    Runs sh vg (cs.filter Cmd.isGrpMem) vg' ∧
    (∀ c ∈ cs, (c.isGrpMem = true ∧ c.grpTarget ∈ st.aGrp.map (·.g.name)) ∨ c.onRules = true)
  mono : GMono st st'
  rules : vg'.rules = vg.rules
  addrs : vg'.addrs = vg.addrs
  svcs : vg'.svcs = vg.svcs
  sgroups : vg'.sgroups = vg.sgroups
  name : vg'.name = vg.name
  gnames : vg'.groups.map (·.name) = vg.groups.map (·.name)

theorem Step.of_silent {sh : Shared} {st st' : St} (vg : Vsys) (ho : st'.out = st.out) (hm : GMono st st') :
    Step sh st vg st' vg [] :=
  ⟨⟨[], by simp [ho], rfl, Runs.nil sh vg, fun _ h => by cases h⟩, hm, rfl, rfl, rfl, rfl, rfl, rfl⟩

theorem Step.trans {sh : Shared} {s1 s2 s3 : St} {v1 v2 v3 : Vsys} {r1 r2 : List Cmd}
    (h₁ : Step sh s1 v1 s2 v2 r1) (h₂ : Step sh s2 v2 s3 v3 r2) : Step sh s1 v1 s3 v3 (r1 ++ r2) := by
  obtain ⟨c1, o1, f1, g1, k1⟩ := h₁.ex
  obtain ⟨c2, o2, f2, g2, k2⟩ := h₂.ex
  refine ⟨⟨c1 ++ c2, by rw [o2, o1, List.append_assoc], by rw [List.filter_append, f1, f2],
    by rw [List.filter_append]; exact g1.append g2, ?_⟩, h₁.mono.trans h₂.mono, h₂.rules.trans h₁.rules,
    h₂.addrs.trans h₁.addrs, h₂.svcs.trans h₁.svcs, h₂.sgroups.trans h₁.sgroups, h₂.name.trans h₁.name,
    h₂.gnames.trans h₁.gnames⟩
  intro c hc
  rcases List.mem_append.mp hc with h | h
  · exact k1 c h
  · rw [← h₁.mono.anames]; exact k2 c h

theorem Step.ruleCmds (sh : Shared) (st : St) (vg : Vsys) (cs : List Cmd) (h : ∀ c ∈ cs, c.onRules = true) :
    Step sh st vg (st.emitAll cs) vg cs := by
  have hf1 : cs.filter (fun c => !c.isGrpMem) = cs := by
    rw [List.filter_eq_self]
    intro c hc
    simp [onRules_not_grpMem (h c hc)]
  have hf2 : cs.filter Cmd.isGrpMem = [] := by
    rw [List.filter_eq_nil_iff]
    intro c hc
    simp [onRules_not_grpMem (h c hc)]
  exact ⟨⟨cs, rfl, hf1, by rw [hf2]; exact Runs.nil sh vg, fun c hc => Or.inr (h c hc)⟩, GMono.of_out st cs,
    rfl, rfl, rfl, rfl, rfl, rfl⟩

/-- **What a `Step` means for the device**: the requests appended run from the group table before the step to wherever
the rule requests alone lead from the group table after it, if the device has every group the planner knows as the
device's (`hsub`); only such groups are changed. -/
theorem Step.elim {sh : Shared} {st st' : St} {vg vg' : Vsys} {rcs : List Cmd} (h : Step sh st vg st' vg' rcs)
    (hsub : ∀ x ∈ st.aGrp.map (·.g.name), x ∈ vg.groups.map (·.name)) :
    ∃ cs, st'.out = st.out ++ cs ∧
      (∀ n, n ∉ st.aGrp.map (·.g.name) → lookupGrp vg'.groups n = lookupGrp vg.groups n) ∧
      ∀ w, Runs sh vg' rcs w → Runs sh vg cs w := by
  obtain ⟨cs, ho, hf, hgrun, hkind⟩ := h.ex
  refine ⟨cs, ho, ?_, fun w hw => ?_⟩
  · refine runs_grpMem_other sh _ (cs.filter Cmd.isGrpMem) vg vg' (fun c hc => ?_) hgrun
    obtain ⟨hcm, hci⟩ := List.mem_filter.mp hc
    rcases hkind c hcm with h | h
    · exact h
    · rw [onRules_not_grpMem h] at hci; cases hci
  · exact runs_of_split sh cs vg vg' w (fun c hc => (hkind c hc).imp_left fun ⟨h1, h2⟩ => ⟨h1, hsub _ h2⟩) hgrun (hf ▸ hw)

/-- A `Step` from a fitting pair that ends in a fitting pair: the judgment of the simulation.  A `_sim` lemma takes
`Fits sh Ref st vg` and gives the state `st'` its planner function returns, a group table `vg'` and the rule
requests `rcs` with `GStep sh Ref st vg st' vg' rcs`; steps compose with `trans`. -/
structure GStep (sh : Shared) (Ref : String → Prop) (st : St) (vg : Vsys) (st' : St) (vg' : Vsys) (rcs : List Cmd) :
    Prop extends Step sh st vg st' vg' rcs where
  fits : Fits sh Ref st' vg'

namespace GStep
variable {sh : Shared} {Ref : String → Prop}

theorem refl {st : St} {vg : Vsys} (h : Fits sh Ref st vg) : GStep sh Ref st vg st vg [] :=
  ⟨Step.of_silent vg rfl (GMono.refl st), h⟩

theorem trans {s1 s2 s3 : St} {v1 v2 v3 : Vsys} {r1 r2 : List Cmd} (h₁ : GStep sh Ref s1 v1 s2 v2 r1)
    (h₂ : GStep sh Ref s2 v2 s3 v3 r2) : GStep sh Ref s1 v1 s3 v3 (r1 ++ r2) := ⟨h₁.toStep.trans h₂.toStep, h₂.fits⟩

theorem ruleCmds {st : St} {vg : Vsys} (h : Fits sh Ref st vg) (cs : List Cmd) (hc : ∀ c ∈ cs, c.onRules = true) :
    GStep sh Ref st vg (st.emitAll cs) vg cs := ⟨Step.ruleCmds sh st vg cs hc, h.emitAll cs⟩

theorem ruleCmd {st : St} {vg : Vsys} (h : Fits sh Ref st vg) {c : Cmd} (hc : c.onRules = true) :
    GStep sh Ref st vg (st.emit c) vg [c] :=
  ruleCmds h [c] fun c' hc' => by rw [List.mem_singleton.mp hc']; exact hc

theorem of_silent {st st' : St} {vg : Vsys} (ho : st'.out = st.out) (hm : GMono st st') (hi : GInv Ref st')
    (hs : SimG sh Ref st' vg) : GStep sh Ref st vg st' vg [] :=
  ⟨Step.of_silent vg ho hm, hi, hs⟩

end GStep

theorem adaptStep_sim {sh : Shared} {Ref : String → Prop} {st : St} {vg : Vsys} (res : List String) (adr : String)
    (h : Fits sh Ref st vg) (href : (st.bGrpIdx adr).isSome → Ref adr) :
    ∃ st', adaptStep (res, st) adr = (res ++ [adapt1 st' adr], st') ∧ GStep sh Ref st vg st' vg [] ∧
      (∀ gbi, st'.bGrpIdx adr = some gbi → ∃ gb, st'.bGrp[gbi]? = some gb ∧ gb.onDev ≠ "") ∧
      (∀ gbi gb, st.bGrpIdx adr = some gbi → st.bGrp[gbi]? = some gb →
        (gb.onDev ≠ "" → adapt1 st' adr = gb.onDev) ∧
        (gb.onDev = "" → adapt1 st' adr = gb.newName ∨
          ∃ ga ∈ st.aGrp, ga.needed = false ∧ ga.g.members = gb.g.members ∧ adapt1 st' adr = ga.g.name)) := by
  obtain ⟨hI, hS⟩ := h
  unfold adaptStep
  simp only
  cases hidx : st.bGrpIdx adr with
  | none =>
    refine ⟨st, ?_, .refl ⟨hI, hS⟩, ?_, ?_⟩
    · simp [adapt1, hidx]
    · intro gbi h; rw [hidx] at h; cases h
    · intro gbi gb h; cases h
  | some gbi =>
    obtain ⟨gb, hgb, hname⟩ := bGrp_of_idx hidx
    have hgbmem : gb ∈ st.bGrp := List.mem_of_getElem? hgb
    simp only [hgb, Option.getD_some]
    by_cases hon : gb.onDev = ""
    · -- no name on the device yet
      have hcond : (gb.onDev != "") = false := by simp [hon]
      simp only [hcond, Bool.false_eq_true, if_false]
      have hneeded : gb.needed = true := hI.c0 gb hgbmem hon (by rw [hname]; exact href (by rw [hidx]; rfl))
      rcases findGroupOnDevice_sound st gbi with ⟨i, ga, hi, hnn, hmem, _, hfind⟩ | ⟨_, hfind⟩
      · -- an unclaimed device group with identical members
        rw [hfind]
        have hgamem : ga ∈ st.aGrp := List.mem_of_getElem? hi
        have hne : (ga.g.name != "") = true := by simpa using hI.ane ga hgamem
        simp only [hne, if_true]
        have hmem' : ga.g.members = gb.g.members := by simpa [hgb] using hmem
        obtain ⟨ms, hms, hsame⟩ := hS.U ga hgamem hnn
        have hadapt : adapt1 (claimSt st i gbi ga.g.name) adr = ga.g.name :=
          adapt1_of_idx ((claimSt_bIdx ..).trans hidx) (modAt_getElem?_self _ hgb)
        refine ⟨claimSt st i gbi ga.g.name, ?_, .of_silent rfl
          (GMono.claim st i gbi ga.g.name hgb hon)
          (hI.claim i gbi ga gb hi hgb hon (by rw [hname]; exact href (by rw [hidx]; rfl)))
          (hS.claim hI i gbi ga gb hi hgb hnn (fun _ => rfl) (fun _ _ => rfl) ⟨ms, hms, hmem' ▸ hsame⟩), ?_, ?_⟩
        · rw [hadapt]; rfl
        · intro gbi' h'
          rw [claimSt_bIdx, hidx] at h'
          cases h'
          refine ⟨{ gb with needed := false, onDev := ga.g.name }, modAt_getElem?_self _ hgb, ?_⟩
          exact hI.ane ga hgamem
        · intro gbi' gb' h1 h2
          cases h1
          rw [hgb] at h2; cases h2
          exact ⟨fun h => absurd hon h, fun _ => Or.inr ⟨ga, hgamem, hnn, hmem', hadapt⟩⟩
      · -- none: the group keeps its new name and is transferred
        rw [hfind]
        simp only [bne_self_eq_false, Bool.false_eq_true, if_false]
        have hadapt : adapt1 (fallSt st gbi gb.newName) adr = gb.newName :=
          adapt1_of_idx ((fallSt_bIdx ..).trans hidx) (modAt_getElem?_self _ hgb)
        refine ⟨fallSt st gbi gb.newName, ?_, .of_silent rfl
          (GMono.setOnDev st gbi gb.newName hgb hon)
          (hI.fall gbi gb hgb hon hneeded (by rw [hname]; exact href (by rw [hidx]; rfl))) (hS.fall hI gbi gb hgb), ?_, ?_⟩
        · rw [hadapt]; rfl
        · intro gbi' h'
          rw [fallSt_bIdx, hidx] at h'
          cases h'
          exact ⟨{ gb with onDev := gb.newName }, modAt_getElem?_self _ hgb, (hI.fresh gb hgbmem).1⟩
        · intro gbi' gb' h1 h2
          cases h1
          rw [hgb] at h2; cases h2
          exact ⟨fun h => absurd hon h, fun _ => Or.inl hadapt⟩
    · -- it has one
      have hcond : (gb.onDev != "") = true := by simpa using hon
      simp only [hcond, if_true]
      refine ⟨st, ?_, .refl ⟨hI, hS⟩, ?_, ?_⟩
      · rw [adapt1_of_idx hidx hgb]
      · intro gbi' h'
        rw [hidx] at h'; cases h'
        exact ⟨gb, hgb, hon⟩
      · intro gbi' gb' h1 h2
        cases h1
        rw [hgb] at h2; cases h2
        exact ⟨fun _ => adapt1_of_idx hidx hgb, fun h => absurd h hon⟩

theorem adaptGroups_sim {sh : Shared} {Ref : String → Prop} {vg : Vsys} :
    ∀ (l : List String) (res : List String) {st : St}, Fits sh Ref st vg →
      (∀ x ∈ l, (st.bGrpIdx x).isSome → Ref x) →
      ∃ st', l.foldl adaptStep (res, st) = (res ++ adaptL st' l, st') ∧ GStep sh Ref st vg st' vg [] ∧ GSettled st' l := by
  intro l
  induction l with
  | nil => exact fun res st h _ => ⟨st, by simp [adaptL], .refl h, fun x hx => by cases hx⟩
  | cons x xs ih =>
    intro res st h href
    obtain ⟨st1, e1, step1, set1, _⟩ := adaptStep_sim res x h (href x (by simp))
    obtain ⟨st', e2, step2, set2⟩ := ih (res ++ [adapt1 st1 x]) step1.fits
      (fun y hy hsome => href y (List.mem_cons_of_mem _ hy) (by rw [← step1.mono.bIdx]; exact hsome))
    refine ⟨st', ?_, step1.trans step2, ?_⟩
    · simp only [List.foldl_cons]
      rw [e1, e2]
      simp only [adaptL, List.map_cons, List.append_assoc, List.singleton_append]
      rw [adapt1_mono step2.mono set1]
    · intro y hy
      rcases List.mem_cons.mp hy with rfl | hy
      · exact (GSettled.mono step2.mono (l := [y]) (fun _ hx => by cases List.mem_singleton.mp hx; exact set1)) y (by simp)
      · exact set2 y hy

theorem adaptGroups_sim' {sh : Shared} {Ref : String → Prop} {vg : Vsys} {st : St} (l : List String)
    (h : Fits sh Ref st vg) (href : ∀ x ∈ l, (st.bGrpIdx x).isSome → Ref x) :
    ∃ st', adaptGroups st l = (adaptL st' l, st') ∧ GStep sh Ref st vg st' vg [] ∧ GSettled st' l := by
  obtain ⟨st', e, r⟩ := adaptGroups_sim l [] h href
  exact ⟨st', by unfold adaptGroups; rw [e]; simp, r⟩

theorem onGroup_listCmds (g : String) (la lb : List String) (rs : List Range) :
    OnGroup g (listCmds (.group g) la lb rs) := fun _ hc =>
  (mem_listCmds hc).imp id fun e => ⟨_, e⟩

theorem identity_not_replace (diff : Differ) (hid : IdentityDiffer diff) (st : St) (l : List String)
    (hA : ∀ x ∈ l, st.aGrpIdx x = none) (hB : ∀ y ∈ l, st.bGrpIdx y = none) :
    replaceInstead l.length (deletedCount (diff l.length l.length
      (fun i j => memberEq st (l.getD i "") (l.getD j "")))) = false := by
  rw [identity_memberEq hid st l hA hB, (identity_listCmds (.group "") l).2]
  simp [replaceInstead]

theorem eqGroups_sim {sh : Shared} {Ref : String → Prop} (diff : Differ) (hd : GoodDiffer diff)
    (hid : IdentityDiffer diff) (fuel : Nat) {st : St} {vg : Vsys} (gai gbi : Nat) (ga : AGrp) (gb : BGrp)
    (h : Fits sh Ref st vg) (hga : st.aGrp[gai]? = some ga) (hgb : st.bGrp[gbi]? = some gb)
    (hrefgb : Ref gb.g.name) :
    ∃ b st' vg', eqGroups (hasEqLists diff (fuel + 1)) st gai gbi = (b, st') ∧ GStep sh Ref st vg st' vg' [] ∧
      (b = true → ∃ gb', st'.bGrp[gbi]? = some gb' ∧ gb'.onDev = ga.g.name) ∧
      (b = false → st' = st ∧ vg' = vg ∧
        ((gb.onDev ≠ "" ∧ gb.onDev ≠ ga.g.name) ∨
         (gb.onDev = "" ∧ (ga.needed = true ∨ ga.g.members ≠ gb.g.members)))) := by
  have hI := h.inv
  have hS := h.sim
  have hgamem : ga ∈ st.aGrp := List.mem_of_getElem? hga
  have hgbmem : gb ∈ st.bGrp := List.mem_of_getElem? hgb
  unfold eqGroups
  simp only [hga, hgb, Option.getD_some]
  by_cases hon : gb.onDev = ""
  · have hc1 : (gb.onDev != "") = false := by simp [hon]
    simp only [hc1, Bool.false_eq_true, if_false]
    cases hn : ga.needed with
    | true =>
      simp only [if_true]
      exact ⟨false, st, vg, rfl, .refl h, (fun h => by cases h),
        fun _ => ⟨rfl, rfl, Or.inr ⟨hon, Or.inl trivial⟩⟩⟩
    | false =>
      simp only [Bool.false_eq_true, if_false]
      have hA := hI.aplain ga hgamem
      have hB := hI.bplain gb hgbmem
      obtain ⟨hv, _⟩ := hd ga.g.members.length gb.g.members.length
        (fun i j => memberEq st (ga.g.members.getD i "") (gb.g.members.getD j ""))
      rw [hasEqLists_plain diff fuel st ga.g.members gb.g.members (.group ga.g.name) hA hB (validScript_bounds hv)]
      cases hrep : replaceInstead ga.g.members.length (deletedCount (diff ga.g.members.length gb.g.members.length
          (fun i j => memberEq st (ga.g.members.getD i "") (gb.g.members.getD j ""))))
      · -- incremental: the group is changed in place and claimed
        simp only [Bool.false_eq_true, if_false, if_true]
        have hvf := validScript_incremental hv hrep
        obtain ⟨hrun, hperm⟩ := members_incremental ga.g.members gb.g.members _
          (memberEq_plain st ga.g.members gb.g.members hA hB) _ hvf (hI.amemnd ga hgamem) (hI.bmemnd gb hgbmem)
        obtain ⟨ms, hms, hsame⟩ := hS.U ga hgamem hn
        obtain ⟨r', hr', hsm⟩ := runMem_sameMem _ ga.g.members ms _ hsame.symm hrun
        generalize hcs : listCmds (.group ga.g.name) ga.g.members gb.g.members (diff ga.g.members.length
          gb.g.members.length (fun i j => memberEq st (ga.g.members.getD i "") (gb.g.members.getD j ""))) = cs
        have hon' : OnGroup ga.g.name cs := by rw [← hcs]; exact onGroup_listCmds _ _ _ _
        obtain ⟨gs', hw, hl', hoth, t6⟩ := runs_onGroup sh ga.g.name cs vg ms r' hon' hms
          (by rw [← hcs, listCmds_memOf]; exact hr')
          (by
            intro c hc ms' he m hm
            subst he
            rcases mem_listCmds (hcs ▸ hc) with ⟨x, hx⟩ | h
            · cases hx
            · cases h
              exact hS.mems gb hgbmem hrefgb m (insertedOf_mem gb.g.members hvf hm))
        have hgrp : ∀ c ∈ cs, c.isGrpMem = true ∧ c.grpTarget = ga.g.name := by
          intro c hc
          rcases hon' c hc with ⟨m, rfl⟩ | ⟨ms', rfl⟩ <;> exact ⟨rfl, rfl⟩
        have hf1 : cs.filter (fun c => !c.isGrpMem) = [] := by
          rw [List.filter_eq_nil_iff]
          intro c hc
          simp [(hgrp c hc).1]
        have hf2 : cs.filter Cmd.isGrpMem = cs := by
          rw [List.filter_eq_self]
          intro c hc
          exact (hgrp c hc).1
        have hm1 : GMono st (st.emitAll cs) := GMono.of_out st cs
        have hm2 : GMono (st.emitAll cs) (claimSt (st.emitAll cs) gai gbi ga.g.name) :=
          GMono.claim (st.emitAll cs) gai gbi ga.g.name hgb hon
        have h1 := h.emitAll cs
        refine ⟨true, claimSt (st.emitAll cs) gai gbi ga.g.name, { vg with groups := gs' }, rfl, ⟨?_,
          h1.inv.claim gai gbi ga gb hga hgb hon hrefgb,
          h1.sim.claim h1.inv gai gbi ga gb hga hgb hn (addrRefOk_congr sh (v := vg) (w := { vg with groups := gs' }) rfl t6) hoth
            ⟨r', hl', hsm.symm.trans (SameMem.of_perm hperm)⟩⟩, ?_, (fun h => by cases h)⟩
        · refine ⟨⟨cs, rfl, hf1, by rw [hf2]; exact hw, ?_⟩, hm1.trans hm2, rfl, rfl, rfl, rfl, rfl, t6⟩
          intro c hc
          exact Or.inl ⟨(hgrp c hc).1, by rw [(hgrp c hc).2]; exact List.mem_map_of_mem hgamem⟩
        · intro _
          exact ⟨{ gb with needed := false, onDev := ga.g.name }, by simp [claimSt, St.emitAll, modAt_getElem?, hgb], rfl⟩
      · -- too different: nothing happens here
        simp only [if_true, Bool.false_eq_true, if_false]
        refine ⟨false, st, vg, rfl, .refl h, (fun h => by cases h),
          fun _ => ⟨rfl, rfl, Or.inr ⟨hon, Or.inr ?_⟩⟩⟩
        intro heq
        rw [← heq] at hrep
        rw [identity_not_replace diff hid st ga.g.members hA (by rw [heq]; exact hB)] at hrep
        cases hrep
  · have hc1 : (gb.onDev != "") = true := by simpa using hon
    simp only [hc1, if_true]
    by_cases he : gb.onDev = ga.g.name
    · exact ⟨true, st, vg, by simp [he], .refl h, fun _ => ⟨gb, hgb, he⟩, (fun h => by cases h)⟩
    · have : (gb.onDev == ga.g.name) = false := by simpa using he
      exact ⟨false, st, vg, by simp [this], .refl h, (fun h => by cases h),
        fun _ => ⟨rfl, rfl, Or.inl ⟨hon, he⟩⟩⟩

end NA.PanOs
